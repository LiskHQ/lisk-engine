/-
Data-level model of the block cache (property C20, clause "concurrent readers always obtain some
complete committed tip").

`LiskVerif.CacheModel` is a direct, line-by-line transcription of
`/repo/pkg/blockchain/block_cache.go` (Go line numbers in the comments):

    newBlockCache (17-25)   last (27-38)   get (40-45)   getByHeight (47-56)
    push (58-81)            pop (83-96)    len (98-102)  replace (106-122)

The mutex is NOT part of this model: every function below is the body of one critical section
(`c.mutex.Lock()` / `c.mutex.RLocker().Lock()` … `defer Unlock()`), i.e. a function from the cache
contents before the section to the contents after it (and the returned value). That sections on these
fields are atomic is the lock discipline proved in `Props/C20.lean` (`C20_blockcache_*_ok`,
`C20_lockset_implies_race_free`, `C20_mutual_exclusion`) and restated as
`C20_critical_sections_atomic` in `Props/C20_Data.lean`.

Representation choices (all exact, so that a differential test against the Go functions is possible):
  * `map[K]V`  ↦ association list with at most one binding per key (`mget` / `mset` / `mdel` are Go's
    `m[k]` (comma-ok form), `m[k] = v`, `delete(m, k)`);
  * `string(block.Header.ID)` ↦ `ID = List UInt8`;
  * `*Block` ↦ `Blk` (id, height, and `body` standing for everything else in the block); the pair
    `(*Block, bool)` returned by `last` / `get` / `getByHeight` ↦ `Option Blk`
    (`(nil, false)` ↦ `none`, `(b, true)` ↦ `some b`; no nil pointer is ever stored: `push(nil)` and
    `replace` with a nil element panic at `block.Header`);
  * `uint32` heights ↦ `Nat` with the wrapping operations `add32` / `sub32` written out where the Go code
    computes (`c.currentHeight+1`, `c.currentHeight - uint32(c.maxSize) + 1`, `c.currentHeight--`);
  * `size int` ↦ `Int`; `maxSize int` ↦ `Nat` (a negative `maxSize` makes `replace` panic on the slice
    expression; `uint32(c.maxSize)` ↦ `c.maxSize % 2^32`).

The model stands in this lemma module, with the lemmas about it, and not under `Model/`: `Driver/Cache.lean` imports
this file to run it against the Go cache. This file is core-only (no Mathlib).
-/
import LiskVerif.Lemmas.AList

namespace LiskVerif.CacheModel

/-! ## Data -/

/-- `string(block.Header.ID)` -/
abbrev ID := List UInt8

/-- a block as far as the cache is concerned -/
structure Blk where
  id : ID
  height : Nat
  body : Nat
  deriving DecidableEq, Repr

/-! ## Go maps -/

/-- `v, ok := m[k]` -/
def mget {κ ν} [DecidableEq κ] : List (κ × ν) → κ → Option ν
  | [], _ => none
  | e :: m, k => if e.1 = k then some e.2 else mget m k

/-- `delete(m, k)` -/
def mdel {κ ν} [DecidableEq κ] (m : List (κ × ν)) (k : κ) : List (κ × ν) :=
  m.filter (fun e => !decide (e.1 = k))

/-- `m[k] = v` -/
def mset {κ ν} [DecidableEq κ] (m : List (κ × ν)) (k : κ) (v : ν) : List (κ × ν) :=
  (k, v) :: mdel m k

theorem mget_eq_get {κ ν} [DecidableEq κ] : @mget κ ν _ = AList.get := by
  funext m k; induction m <;> simp only [mget, AList.get_cons, AList.get_nil, *]

theorem mget_mdel {κ ν} [DecidableEq κ] (m : List (κ × ν)) (k q : κ) :
    mget (mdel m k) q = if q = k then none else mget m q := by
  rw [mget_eq_get, mdel, AList.get_filter_key (fun x => !decide (x = k))]
  by_cases h : q = k <;> simp [h]

theorem mget_mset {κ ν} [DecidableEq κ] (m : List (κ × ν)) (k q : κ) (v : ν) :
    mget (mset m k v) q = if q = k then some v else mget m q := by
  rw [mset, mget, mget_mdel]; by_cases h : q = k <;> simp [h, Ne.symm]

/-! ## uint32 arithmetic -/

def u32 : Nat := 4294967296

/-- `a + b` on `uint32` -/
def add32 (a b : Nat) : Nat := (a + b) % u32

/-- `a - b` on `uint32` -/
def sub32 (a b : Nat) : Nat := (a + u32 - b % u32) % u32

/-! ## The cache: block_cache.go -/

/-- block_cache.go:8-15 (without the mutex) -/
structure Cache where
  cachedBlocks : List (ID × Blk)      -- map[string]*Block
  heightIndex : List (Nat × ID)       -- map[uint32]string
  size : Int
  maxSize : Nat
  currentHeight : Nat
  deriving DecidableEq, Repr

/-- block_cache.go:17-25 -/
def newBlockCache (maxSize : Nat) : Cache :=
  { cachedBlocks := [], heightIndex := [], size := 0, maxSize := maxSize, currentHeight := 0 }

/-- block_cache.go:27-38 `last` (body of the read section) -/
def last (c : Cache) : Option Blk :=
  match mget c.heightIndex c.currentHeight with      -- :32
  | none => none                                      -- :33-35
  | some id => mget c.cachedBlocks id                 -- :36-37

/-- block_cache.go:40-45 `get` -/
def get (c : Cache) (id : ID) : Option Blk :=
  mget c.cachedBlocks id                              -- :43-44

/-- block_cache.go:47-56 `getByHeight` -/
def getByHeight (c : Cache) (height : Nat) : Option Blk :=
  match mget c.heightIndex height with                -- :50
  | none => none                                      -- :51-53
  | some id => mget c.cachedBlocks id                 -- :54-55

/-- block_cache.go:75-79 (= 116-120): the statements that enter one block -/
def insertBlock (c : Cache) (block : Blk) : Cache :=
  { c with
    cachedBlocks := mset c.cachedBlocks block.id block,          -- :75-76
    heightIndex := mset c.heightIndex block.height block.id,     -- :77
    currentHeight := block.height,                               -- :78
    size := c.size + 1 }                                         -- :79

inductive PushErr where
  | heightMismatch     -- :62
  | oldestMissing      -- :69
  deriving DecidableEq, Repr

/-- block_cache.go:58-81 `push` (body of the write section): new contents and the returned error -/
def push (c : Cache) (block : Blk) : Cache × Option PushErr :=
  if c.size ≠ 0 ∧ block.height ≠ add32 c.currentHeight 1 then          -- :61
    (c, some .heightMismatch)                                           -- :62
  else if (c.maxSize : Int) ≤ c.size then                               -- :65
    let oldestHeight := add32 (sub32 c.currentHeight (c.maxSize % u32)) 1   -- :66
    match mget c.heightIndex oldestHeight with                          -- :67
    | none => (c, some .oldestMissing)                                  -- :68-70
    | some id =>
      (insertBlock
        { c with
          heightIndex := mdel c.heightIndex oldestHeight,               -- :71
          cachedBlocks := mdel c.cachedBlocks id,                       -- :72
          size := c.size - 1 }                                          -- :73
        block, none)                                                    -- :75-80
  else (insertBlock c block, none)                                      -- :75-80

/-- block_cache.go:83-96 `pop`: new contents and the returned `*Block` (`none` = nil) -/
def pop (c : Cache) : Cache × Option Blk :=
  if c.size = 0 then (c, none) else                                     -- :86-88
  let id := (mget c.heightIndex c.currentHeight).getD []                -- :89 (missing key: "")
  let block := mget c.cachedBlocks id                                   -- :90 (missing key: nil)
  ({ c with
     heightIndex := mdel c.heightIndex c.currentHeight,                 -- :91
     cachedBlocks := mdel c.cachedBlocks id,                            -- :92
     size := c.size - 1,                                                -- :93
     currentHeight := sub32 c.currentHeight 1 },                        -- :94
   block)                                                               -- :95

/-- block_cache.go:98-102 `len` -/
def len (c : Cache) : Int := c.size

/-- block_cache.go:106-122 `replace` -/
def replace (c : Cache) (blocks : List Blk) : Cache :=
  let blocks :=
    if blocks.length > c.maxSize then blocks.drop (blocks.length - c.maxSize) else blocks   -- :109-111
  blocks.foldl insertBlock                                                                  -- :115-121
    { c with cachedBlocks := [], heightIndex := [], size := 0 }                             -- :112-114

/-! ## Specification vocabulary -/

/-- the block at height `x` of a list of blocks -/
def byHeight (w : List Blk) (x : Nat) : Option Blk := w.find? (fun b => decide (b.height = x))

/-- the block with id `i` of a list of blocks -/
def byID (w : List Blk) (i : ID) : Option Blk := w.find? (fun b => decide (b.id = i))

/-- consecutive heights starting at `h` -/
def ContigFrom : Nat → List Blk → Prop
  | _, [] => True
  | h, b :: r => b.height = h ∧ ContigFrom (h + 1) r

/-- a well-formed (piece of a) chain: consecutive `uint32` heights starting at `g`, distinct ids -/
structure ChainOK (g : Nat) (ch : List Blk) : Prop where
  contig : ContigFrom g ch
  ids : (ch.map (·.id)).Nodup
  bound : ∀ b ∈ ch, b.height < u32

/-- the cache holds exactly the blocks `w` (its *window*), in both maps. (From here on `Repr` in this namespace is
this structure, not the class of core: the `deriving Repr` clauses above come before it.) -/
structure Repr (w : List Blk) (c : Cache) : Prop where
  size : c.size = w.length
  cur : ∀ b, w.getLast? = some b → c.currentHeight = b.height
  idx : ∀ h, mget c.heightIndex h = (byHeight w h).map (·.id)
  blk : ∀ i, mget c.cachedBlocks i = byID w i

/-- **The invariant**: the cache is a non-empty suffix `w` of the chain, ending at its tip, of length at
most `maxSize`. -/
def Good (chain : List Blk) (c : Cache) : Prop :=
  ∃ pre w, chain = pre ++ w ∧ w ≠ [] ∧ w.length ≤ c.maxSize ∧ Repr w c

/-! ## Lists of blocks -/

theorem contig_append {h : Nat} {w v : List Blk} :
    ContigFrom h (w ++ v) ↔ ContigFrom h w ∧ ContigFrom (h + w.length) v := by
  induction w generalizing h with
  | nil => simp [ContigFrom]
  | cons a w ih =>
    simp only [List.cons_append, ContigFrom, ih, List.length_cons]
    rw [show h + 1 + w.length = h + (w.length + 1) by omega]
    exact and_assoc.symm

theorem contig_mem {h : Nat} {w : List Blk} (hc : ContigFrom h w) {a : Blk} (ha : a ∈ w) :
    h ≤ a.height ∧ a.height < h + w.length := by
  induction w generalizing h with
  | nil => cases ha
  | cons b w ih =>
    obtain ⟨hb, hr⟩ := hc
    rcases List.mem_cons.mp ha with rfl | ha
    · simp only [List.length_cons]; omega
    · have := ih hr ha
      simp only [List.length_cons]; omega

theorem contig_last {h : Nat} {w : List Blk} {l : Blk} (hc : ContigFrom h (w ++ [l])) :
    l.height = h + w.length := by
  have := (contig_append.mp hc).2
  exact this.1

theorem contig_getLast {h : Nat} {w : List Blk} {l : Blk} (hc : ContigFrom h w)
    (hl : w.getLast? = some l) : l.height + 1 = h + w.length := by
  obtain ⟨ys, rfl⟩ := List.getLast?_eq_some_iff.mp hl
  have := contig_last hc
  simp only [List.length_append, List.length_singleton]
  omega

theorem contig_byHeight {h : Nat} {w : List Blk} (hc : ContigFrom h w) (x : Nat) :
    byHeight w x = if h ≤ x ∧ x < h + w.length then w[x - h]? else none := by
  induction w generalizing h with
  | nil => simp [byHeight]
  | cons b w ih =>
    obtain ⟨hb, hr⟩ := hc
    have ih' := ih hr
    unfold byHeight at ih' ⊢
    by_cases hx : b.height = x
    · have h0 : x - h = 0 := by omega
      have hc : h ≤ x ∧ x < h + (w.length + 1) := by omega
      simp [hx, h0, hc]
    · simp only [List.find?_cons, hx, decide_false, ih', List.length_cons]
      by_cases hc : h + 1 ≤ x ∧ x < h + 1 + w.length
      · have hc' : h ≤ x ∧ x < h + (w.length + 1) := by omega
        have hs : x - h = (x - (h + 1)) + 1 := by omega
        simp only [hc, hc', and_self, if_true]
        rw [hs, List.getElem?_cons_succ]
      · have hc' : ¬ (h ≤ x ∧ x < h + (w.length + 1)) := by omega
        simp [hc, hc']

theorem ChainOK.nil (g : Nat) : ChainOK g [] := ⟨trivial, by simp, by simp⟩

theorem ChainOK.right {g : Nat} {p w : List Blk} (h : ChainOK g (p ++ w)) : ChainOK (g + p.length) w :=
  ⟨(contig_append.mp h.contig).2,
   by have := h.ids; rw [List.map_append] at this; exact (List.nodup_append.mp this).2.1,
   fun b hb => h.bound b (List.mem_append_right _ hb)⟩

theorem ChainOK.left {g : Nat} {p w : List Blk} (h : ChainOK g (p ++ w)) : ChainOK g p :=
  ⟨(contig_append.mp h.contig).1,
   by have := h.ids; rw [List.map_append] at this; exact (List.nodup_append.mp this).1,
   fun b hb => h.bound b (List.mem_append_left _ hb)⟩

/-- the last block of a well-formed chain differs in height and id from all earlier ones -/
theorem ChainOK.fresh_last {g : Nat} {w : List Blk} {b : Blk} (h : ChainOK g (w ++ [b])) :
    ∀ a ∈ w, a.height ≠ b.height ∧ a.id ≠ b.id := by
  intro a ha
  constructor
  · have h1 := contig_mem (contig_append.mp h.contig).1 ha
    have h2 := contig_last h.contig
    omega
  · have := h.ids
    rw [List.map_append, List.nodup_append] at this
    intro hid
    exact this.2.2 a.id (List.mem_map.mpr ⟨a, ha, rfl⟩) b.id (by simp) hid

/-- the first block of a well-formed chain differs in height and id from all later ones -/
theorem ChainOK.fresh_first {g : Nat} {w : List Blk} {a : Blk} (h : ChainOK g (a :: w)) :
    ∀ x ∈ w, x.height ≠ a.height ∧ x.id ≠ a.id := by
  intro x hx
  constructor
  · have h1 := contig_mem h.contig.2 hx
    have h2 := h.contig.1
    omega
  · have := h.ids
    rw [List.map_cons, List.nodup_cons] at this
    intro hid
    exact this.1 (hid ▸ List.mem_map.mpr ⟨x, hx, rfl⟩)

/-! `byHeight` and `byID` are searches for the block with a given key; the facts about them are those of
`findKey f w k = w.find? (f · = k)`. -/

section findKey
variable {κ : Type} [DecidableEq κ] (f : Blk → κ)

theorem findKey_cons (a : Blk) (w : List Blk) (k : κ) :
    (a :: w).find? (fun b => decide (f b = k)) =
      if f a = k then some a else w.find? (fun b => decide (f b = k)) := by
  by_cases h : f a = k <;> simp [h]

theorem findKey_none {w : List Blk} {k : κ} (hf : ∀ a ∈ w, f a ≠ k) :
    w.find? (fun b => decide (f b = k)) = none := by
  rw [List.find?_eq_none]
  intro a ha
  simpa using hf a ha

theorem findKey_concat {w : List Blk} {b : Blk} (hf : ∀ a ∈ w, f a ≠ f b) (k : κ) :
    (w ++ [b]).find? (fun x => decide (f x = k)) =
      if k = f b then some b else w.find? (fun x => decide (f x = k)) := by
  rw [List.find?_append]
  by_cases hk : k = f b
  · subst hk; simp [findKey_none f hf]
  · have : ¬ f b = k := fun h => hk h.symm
    simp [hk, this]

theorem findKey_some {w : List Blk} {k : κ} {b : Blk} (h : w.find? (fun x => decide (f x = k)) = some b) :
    b ∈ w ∧ f b = k :=
  ⟨List.mem_of_find?_eq_some h, by simpa using List.find?_some h⟩

end findKey

theorem byHeight_concat {w : List Blk} {b : Blk} (hf : ∀ a ∈ w, a.height ≠ b.height) (x : Nat) :
    byHeight (w ++ [b]) x = if x = b.height then some b else byHeight w x :=
  findKey_concat (·.height) hf x

theorem byID_concat {w : List Blk} {b : Blk} (hf : ∀ a ∈ w, a.id ≠ b.id) (i : ID) :
    byID (w ++ [b]) i = if i = b.id then some b else byID w i :=
  findKey_concat (·.id) hf i

theorem byHeight_none_of_fresh {w : List Blk} {x : Nat} (hf : ∀ a ∈ w, a.height ≠ x) :
    byHeight w x = none :=
  findKey_none (·.height) hf

theorem byID_none_of_fresh {w : List Blk} {i : ID} (hf : ∀ a ∈ w, a.id ≠ i) : byID w i = none :=
  findKey_none (·.id) hf

theorem byHeight_cons (a : Blk) (w : List Blk) (x : Nat) :
    byHeight (a :: w) x = if a.height = x then some a else byHeight w x :=
  findKey_cons (·.height) a w x

theorem byID_cons (a : Blk) (w : List Blk) (i : ID) :
    byID (a :: w) i = if a.id = i then some a else byID w i :=
  findKey_cons (·.id) a w i

theorem byHeight_some {w : List Blk} {x : Nat} {b : Blk} (h : byHeight w x = some b) :
    b ∈ w ∧ b.height = x :=
  findKey_some (·.height) h

theorem byID_some {w : List Blk} {i : ID} {b : Blk} (h : byID w i = some b) : b ∈ w ∧ b.id = i :=
  findKey_some (·.id) h

/-- with distinct ids, looking up the id of a member returns that member -/
theorem byID_of_mem {w : List Blk} (hn : (w.map (·.id)).Nodup) {b : Blk} (hb : b ∈ w) :
    byID w b.id = some b :=
  (find?_key_of_nodup hn hb (fun _ => true) _ (by simp)).trans (if_pos rfl)

/-- with distinct heights (consecutive), looking up the height of a member returns that member -/
theorem byHeight_of_mem {g : Nat} {w : List Blk} (hc : ContigFrom g w) {b : Blk} (hb : b ∈ w) :
    byHeight w b.height = some b := by
  induction w generalizing g with
  | nil => cases hb
  | cons a w ih =>
    rw [byHeight_cons]
    rcases List.mem_cons.mp hb with rfl | hb
    · simp
    · have h1 := contig_mem hc.2 hb
      have h2 := hc.1
      have : a.height ≠ b.height := by omega
      simp [this, ih hc.2 hb]

theorem eq_nil_or_snoc {α} (w : List α) : w = [] ∨ ∃ w' l, w = w' ++ [l] := by
  simpa only [List.concat_eq_append] using List.eq_nil_or_concat w

/-! ## The window representation is maintained by the statements of push / pop / replace -/

/-- a cache with empty maps and size 0 holds the empty window -/
theorem repr_nil {c : Cache} (hb : c.cachedBlocks = []) (hi : c.heightIndex = []) (hs : c.size = 0) : Repr [] c :=
  ⟨hs, by simp, by simp [hi, mget, byHeight], by simp [hb, mget, byID]⟩

/-- block_cache.go:75-79 / 116-120 -/
theorem repr_insert {w : List Blk} {c : Cache} {b : Blk} (hr : Repr w c)
    (hf : ∀ a ∈ w, a.height ≠ b.height ∧ a.id ≠ b.id) : Repr (w ++ [b]) (insertBlock c b) := by
  refine ⟨?_, ?_, ?_, ?_⟩
  · simp only [insertBlock, hr.size, List.length_append, List.length_singleton]; omega
  · intro l hl
    simp only [List.getLast?_append, List.getLast?_singleton, Option.some_or] at hl
    cases hl; rfl
  · intro h
    simp only [insertBlock, mget_mset, hr.idx, byHeight_concat (fun a ha => (hf a ha).1)]
    by_cases hx : h = b.height <;> simp [hx]
  · intro i
    simp only [insertBlock, mget_mset, hr.blk, byID_concat (fun a ha => (hf a ha).2)]

/-- block_cache.go:71-73: the oldest block leaves -/
theorem repr_evict {a : Blk} {w : List Blk} {c : Cache} (hr : Repr (a :: w) c)
    (hf : ∀ x ∈ w, x.height ≠ a.height ∧ x.id ≠ a.id) :
    Repr w { c with heightIndex := mdel c.heightIndex a.height,
                    cachedBlocks := mdel c.cachedBlocks a.id, size := c.size - 1 } := by
  refine ⟨?_, ?_, ?_, ?_⟩
  · simp only [hr.size, List.length_cons]; omega
  · intro l hl
    apply hr.cur
    cases w with
    | nil => simp at hl
    | cons x w => simpa [List.getLast?_cons_cons] using hl
  · intro h
    simp only [mget_mdel, hr.idx, byHeight_cons]
    by_cases hx : h = a.height
    · subst hx
      simp [byHeight_none_of_fresh (fun x hx => (hf x hx).1)]
    · have : ¬ a.height = h := fun e => hx e.symm
      simp [hx, this]
  · intro i
    simp only [mget_mdel, hr.blk, byID_cons]
    by_cases hx : i = a.id
    · subst hx
      simp [byID_none_of_fresh (fun x hx => (hf x hx).2)]
    · have : ¬ a.id = i := fun e => hx e.symm
      simp [hx, this]

/-- block_cache.go:91-94: the newest block leaves -/
theorem repr_unpush {l : Blk} {w : List Blk} {c : Cache} (hr : Repr (w ++ [l]) c)
    (hf : ∀ x ∈ w, x.height ≠ l.height ∧ x.id ≠ l.id)
    (hcur : ∀ b, w.getLast? = some b → b.height = sub32 l.height 1) :
    Repr w { c with heightIndex := mdel c.heightIndex l.height,
                    cachedBlocks := mdel c.cachedBlocks l.id, size := c.size - 1,
                    currentHeight := sub32 c.currentHeight 1 } := by
  have hc : c.currentHeight = l.height := hr.cur l (by simp)
  refine ⟨?_, ?_, ?_, ?_⟩
  · simp only [hr.size, List.length_append, List.length_singleton]; omega
  · intro b hb
    simp only [hc]
    exact (hcur b hb).symm
  · intro h
    simp only [mget_mdel, hr.idx, byHeight_concat (fun a ha => (hf a ha).1)]
    by_cases hx : h = l.height
    · subst hx
      simp [byHeight_none_of_fresh (fun x hx => (hf x hx).1)]
    · simp [hx]
  · intro i
    simp only [mget_mdel, hr.blk, byID_concat (fun a ha => (hf a ha).2)]
    by_cases hx : i = l.id
    · subst hx
      simp [byID_none_of_fresh (fun x hx => (hf x hx).2)]
    · simp [hx]

/-! ## What the readers return, in terms of the window -/

theorem repr_last {g : Nat} {w : List Blk} {c : Cache} (hr : Repr w c) (hw : ChainOK g w) :
    last c = w.getLast? := by
  unfold last
  rcases eq_nil_or_snoc w with rfl | ⟨w', l, rfl⟩
  · simp [hr.idx, byHeight]
  · have hc : c.currentHeight = l.height := hr.cur l (by simp)
    have hf := hw.fresh_last
    simp only [hc, hr.idx, byHeight_concat (fun a ha => (hf a ha).1), if_true, Option.map_some,
      hr.blk, byID_concat (fun a ha => (hf a ha).2)]
    simp

theorem repr_getByHeight {g : Nat} {w : List Blk} {c : Cache} (hr : Repr w c) (hw : ChainOK g w)
    (x : Nat) : getByHeight c x = byHeight w x := by
  unfold getByHeight
  rw [hr.idx]
  cases h : byHeight w x with
  | none => simp
  | some b =>
    simp only [Option.map_some, hr.blk]
    exact byID_of_mem hw.ids (byHeight_some h).1

theorem repr_len {w : List Blk} {c : Cache} (hr : Repr w c) : len c = w.length := hr.size

/-! ## push / pop / replace on a window -/

theorem push_room {g : Nat} {w : List Blk} {c : Cache} {b : Blk} (hr : Repr w c)
    (hok : ChainOK g (w ++ [b])) (hlt : w.length < c.maxSize) :
    push c b = (insertBlock c b, none) ∧ Repr (w ++ [b]) (insertBlock c b) := by
  refine ⟨?_, repr_insert hr hok.fresh_last⟩
  unfold push
  have h1 : ¬ (c.size ≠ 0 ∧ b.height ≠ add32 c.currentHeight 1) := by
    rintro ⟨hs, hh⟩
    rcases eq_nil_or_snoc w with rfl | ⟨w', l, rfl⟩
    · exact hs (by simp [hr.size])
    · have hc : c.currentHeight = l.height := hr.cur l (by simp)
      have h2 := contig_last hok.contig
      have h3 := contig_last (contig_append.mp hok.contig).1
      have h4 := hok.bound b (by simp)
      simp only [List.length_append, List.length_singleton] at h2
      apply hh
      unfold add32 u32 at *
      omega
  have h2 : ¬ ((c.maxSize : Int) ≤ c.size) := by rw [hr.size]; omega
  simp only [h1, h2, if_false]

theorem push_full {g : Nat} {a : Blk} {w : List Blk} {c : Cache} {b : Blk} (hr : Repr (a :: w) c)
    (hok : ChainOK g (a :: w ++ [b])) (hfull : c.maxSize = (a :: w).length) :
    ∃ c', push c b = (c', none) ∧ Repr (w ++ [b]) c' ∧ c'.maxSize = c.maxSize := by
  obtain ⟨l, hl⟩ : ∃ l, (a :: w).getLast? = some l := ⟨_, List.getLast?_eq_some_getLast (List.cons_ne_nil a w)⟩
  have hc : c.currentHeight = l.height := hr.cur l hl
  have hok1 : ChainOK g (a :: w) := ChainOK.left (p := a :: w) (w := [b]) hok
  have hl1 := contig_getLast hok1.contig hl
  have hb1 := contig_last (w := a :: w) hok.contig
  have hbb := hok.bound b (by simp)
  have ha := hok.contig.1
  simp only [List.length_cons] at hl1 hb1 hfull
  have h1 : ¬ (c.size ≠ 0 ∧ b.height ≠ add32 c.currentHeight 1) := by
    rintro ⟨_, hh⟩
    apply hh
    unfold add32 u32 at *
    omega
  have h2 : (c.maxSize : Int) ≤ c.size := by rw [hr.size, hfull]; simp
  have hold : add32 (sub32 c.currentHeight (c.maxSize % u32)) 1 = a.height := by
    unfold add32 sub32 u32 at *
    omega
  have hidx : mget c.heightIndex a.height = some a.id := by
    rw [hr.idx, byHeight_cons]; simp
  have hfa : ∀ x ∈ w, x.height ≠ a.height ∧ x.id ≠ a.id := hok1.fresh_first
  have hev := repr_evict hr hfa
  have hok2 : ChainOK (g + 1) (w ++ [b]) := by
    have := ChainOK.right (p := [a]) (w := w ++ [b]) (g := g) (by simpa using hok)
    simpa using this
  refine ⟨_, ?_, repr_insert hev hok2.fresh_last, rfl⟩
  unfold push
  simp only [h1, h2, if_false, if_true, hold, hidx]

theorem pop_window {g : Nat} {w : List Blk} {l : Blk} {c : Cache} (hr : Repr (w ++ [l]) c)
    (hok : ChainOK g (w ++ [l])) :
    ∃ c', pop c = (c', some l) ∧ Repr w c' ∧ c'.maxSize = c.maxSize := by
  have hc : c.currentHeight = l.height := hr.cur l (by simp)
  have hf := hok.fresh_last
  have hs : ¬ c.size = 0 := by rw [hr.size]; simp; omega
  have hidx : mget c.heightIndex l.height = some l.id := by
    rw [hr.idx, byHeight_concat (fun a ha => (hf a ha).1)]; simp
  have hblk : mget c.cachedBlocks l.id = some l := by
    rw [hr.blk, byID_concat (fun a ha => (hf a ha).2)]; simp
  have hcur : ∀ b, w.getLast? = some b → b.height = sub32 l.height 1 := by
    intro b hb
    have hw := ChainOK.left hok
    have h1 := contig_getLast hw.contig hb
    have h2 := contig_last hok.contig
    have h3 := hok.bound l (by simp)
    unfold sub32 u32 at *
    omega
  have hrep := repr_unpush hr hf hcur
  refine ⟨{ c with heightIndex := mdel c.heightIndex l.height,
                    cachedBlocks := mdel c.cachedBlocks l.id, size := c.size - 1,
                    currentHeight := sub32 c.currentHeight 1 }, ?_, hrep, rfl⟩
  unfold pop
  simp only [hs, if_false, hc, hidx, Option.getD_some, hblk]

theorem foldl_insert_repr {g : Nat} {w : List Blk} {c : Cache} (bs : List Blk) (hr : Repr w c)
    (hok : ChainOK g (w ++ bs)) : Repr (w ++ bs) (bs.foldl insertBlock c) := by
  induction bs generalizing w c with
  | nil => simpa using hr
  | cons b bs ih =>
    have hok' : ChainOK g ((w ++ [b]) ++ bs) := by simpa using hok
    have := ih (repr_insert hr (ChainOK.left hok').fresh_last) hok'
    simpa using this

theorem foldl_insert_maxSize (bs : List Blk) (c : Cache) :
    (bs.foldl insertBlock c).maxSize = c.maxSize := by
  induction bs generalizing c with
  | nil => rfl
  | cons b bs ih => simp only [List.foldl_cons, ih]; rfl

theorem replace_maxSize (c : Cache) (bs : List Blk) : (replace c bs).maxSize = c.maxSize := by
  unfold replace
  simp only [foldl_insert_maxSize]

/-- `replace` installs the last `maxSize` of the given consecutive blocks, whatever the cache held -/
theorem replace_window {g : Nat} (c : Cache) (bs : List Blk) (hok : ChainOK g bs) :
    Repr (bs.drop (bs.length - c.maxSize)) (replace c bs) := by
  have hempty : Repr [] { c with cachedBlocks := [], heightIndex := [], size := 0 } := repr_nil rfl rfl rfl
  have hsplit : bs = bs.take (bs.length - c.maxSize) ++ bs.drop (bs.length - c.maxSize) :=
    (List.take_append_drop _ _).symm
  have hok' : ChainOK (g + (bs.take (bs.length - c.maxSize)).length) (bs.drop (bs.length - c.maxSize)) := by
    rw [hsplit] at hok
    exact ChainOK.right hok
  unfold replace
  by_cases hlen : bs.length > c.maxSize
  · simp only [hlen, if_true]
    have := foldl_insert_repr (w := []) _ hempty (by simpa using hok')
    simpa using this
  · have h0 : bs.length - c.maxSize = 0 := by omega
    simp only [hlen, if_false, h0, List.drop_zero]
    have := foldl_insert_repr (w := []) bs hempty (by simpa using hok)
    simpa using this

/-! ## The invariant `Good` under push / pop / replace, and what readers see -/

/-- first push into the empty cache -/
theorem good_first_push {g : Nat} (pre : List Blk) (b : Blk) (maxSize : Nat) (hcap : 1 ≤ maxSize)
    (hok : ChainOK g (pre ++ [b])) :
    ∃ c', push (newBlockCache maxSize) b = (c', none) ∧ Good (pre ++ [b]) c' ∧ c'.maxSize = maxSize := by
  have hb : ChainOK (g + pre.length) ([] ++ [b]) := by simpa using ChainOK.right hok
  obtain ⟨h1, h2⟩ := push_room (repr_nil (c := newBlockCache maxSize) rfl rfl rfl) hb (by simp only [newBlockCache, List.length_nil]; omega)
  exact ⟨_, h1, ⟨pre, [b], rfl, by simp, by simp only [insertBlock, newBlockCache, List.length_singleton]; omega, by simpa using h2⟩, rfl⟩

/-- **push keeps the invariant** (and cannot fail) when the block extends the chain -/
theorem good_push {g : Nat} {chain : List Blk} {c : Cache} {b : Blk} (hg : Good chain c)
    (hok : ChainOK g (chain ++ [b])) :
    ∃ c', push c b = (c', none) ∧ Good (chain ++ [b]) c' ∧ c'.maxSize = c.maxSize := by
  obtain ⟨pre, w, rfl, hne, hle, hr⟩ := hg
  have hokw : ChainOK (g + pre.length) (w ++ [b]) := by
    have : ChainOK g (pre ++ (w ++ [b])) := by simpa using hok
    exact ChainOK.right this
  by_cases hlt : w.length < c.maxSize
  · obtain ⟨h1, h2⟩ := push_room hr hokw hlt
    refine ⟨_, h1, ⟨pre, w ++ [b], by simp, by simp, ?_, h2⟩, rfl⟩
    simp only [List.length_append, List.length_singleton, insertBlock]; omega
  · cases w with
    | nil => exact absurd rfl hne
    | cons a w =>
      have hfull : c.maxSize = (a :: w).length := by omega
      obtain ⟨c', h1, h2, h3⟩ := push_full hr hokw hfull
      refine ⟨c', h1, ⟨pre ++ [a], w ++ [b], by simp, by simp, ?_, h2⟩, h3⟩
      rw [h3, hfull]; simp

/-- **pop keeps the invariant** when more than one block is cached, and returns the tip -/
theorem good_pop {g : Nat} {chain : List Blk} {c : Cache} (hg : Good chain c) (hok : ChainOK g chain)
    (h1 : len c ≠ 1) :
    ∃ c' tip, pop c = (c', some tip) ∧ chain.getLast? = some tip ∧ Good chain.dropLast c' ∧
      c'.maxSize = c.maxSize := by
  obtain ⟨pre, w, rfl, hne, hle, hr⟩ := hg
  rcases eq_nil_or_snoc w with rfl | ⟨w', l, rfl⟩
  · exact absurd rfl hne
  · have hokw : ChainOK (g + pre.length) (w' ++ [l]) := ChainOK.right hok
    obtain ⟨c', hp, hr', hm⟩ := pop_window hr hokw
    refine ⟨c', l, hp, by simp [← List.append_assoc], ⟨pre, w', ?_, ?_, ?_, hr'⟩, hm⟩
    · rw [← List.append_assoc, List.dropLast_concat]
    · rintro rfl
      apply h1
      simp [len, hr.size]
    · rw [hm]; simp only [List.length_append, List.length_singleton] at hle; omega

/-- **replace establishes the invariant**: given the consecutive blocks `bs` that end the chain -/
theorem good_replace {g : Nat} (c : Cache) (pre bs : List Blk) (hne : bs ≠ []) (hcap : 1 ≤ c.maxSize)
    (hok : ChainOK g (pre ++ bs)) :
    Good (pre ++ bs) (replace c bs) ∧ (replace c bs).maxSize = c.maxSize := by
  refine ⟨⟨pre ++ bs.take (bs.length - c.maxSize), bs.drop (bs.length - c.maxSize), ?_, ?_, ?_,
    replace_window c bs (ChainOK.right hok)⟩, replace_maxSize c bs⟩
  · rw [List.append_assoc, List.take_append_drop]
  · intro h
    have := congrArg List.length h
    simp only [List.length_drop, List.length_nil] at this
    have : bs.length ≠ 0 := fun h => hne (List.length_eq_zero_iff.mp h)
    omega
  · rw [replace_maxSize, List.length_drop]; omega

/-- the tip is always there -/
theorem good_last {g : Nat} {chain : List Blk} {c : Cache} (hg : Good chain c) (hok : ChainOK g chain) :
    last c = chain.getLast? ∧ (last c).isSome = true := by
  obtain ⟨pre, w, rfl, hne, _, hr⟩ := hg
  rw [repr_last hr (ChainOK.right hok)]
  rcases eq_nil_or_snoc w with rfl | ⟨w', l, rfl⟩
  · exact absurd rfl hne
  · simp [← List.append_assoc]

/-- a height lookup that hits returns the chain's block at that height -/
theorem good_getByHeight_hit {g : Nat} {chain : List Blk} {c : Cache} (hg : Good chain c)
    (hok : ChainOK g chain) {x : Nat} {b : Blk} (h : getByHeight c x = some b) :
    byHeight chain x = some b := by
  obtain ⟨pre, w, rfl, _, _, hr⟩ := hg
  rw [repr_getByHeight hr (ChainOK.right hok)] at h
  obtain ⟨hm, rfl⟩ := byHeight_some h
  exact byHeight_of_mem hok.contig (List.mem_append_right _ hm)

/-- an id lookup that hits returns the chain's block with that id -/
theorem good_get_hit {g : Nat} {chain : List Blk} {c : Cache} (hg : Good chain c)
    (hok : ChainOK g chain) {i : ID} {b : Blk} (h : get c i = some b) : byID chain i = some b := by
  obtain ⟨pre, w, rfl, _, _, hr⟩ := hg
  obtain ⟨hm, rfl⟩ := byID_some ((hr.blk i).symm.trans h)
  exact byID_of_mem hok.ids (List.mem_append_right _ hm)

/-- exactly the last `len c` heights hit -/
theorem good_getByHeight_window {g : Nat} {chain : List Blk} {c : Cache} (hg : Good chain c)
    (hok : ChainOK g chain) (x : Nat) :
    getByHeight c x =
      if g + chain.length ≤ x + (len c).toNat ∧ x < g + chain.length then byHeight chain x else none := by
  obtain ⟨pre, w, rfl, _, _, hr⟩ := hg
  have hw := ChainOK.right hok
  rw [repr_getByHeight hr hw, repr_len hr]
  simp only [Int.toNat_natCast, List.length_append]
  by_cases hc : g + (pre.length + w.length) ≤ x + w.length ∧ x < g + (pre.length + w.length)
  · simp only [hc, and_self, if_true]
    rw [contig_byHeight hw.contig, contig_byHeight hok.contig]
    have h1 : g + pre.length ≤ x ∧ x < g + pre.length + w.length := by omega
    have h2 : g ≤ x ∧ x < g + (pre ++ w).length := by simp only [List.length_append]; omega
    simp only [h1, h2, and_self, if_true]
    rw [List.getElem?_append_right (by omega)]
    congr 1; omega
  · simp only [hc, if_false]
    rw [contig_byHeight hw.contig]
    have h1 : ¬ (g + pre.length ≤ x ∧ x < g + pre.length + w.length) := by omega
    simp [h1]

theorem good_ne_nil {chain : List Blk} {c : Cache} (h : Good chain c) : chain ≠ [] := by
  obtain ⟨pre, w, rfl, hne, _, _⟩ := h
  simp [hne]

/-- with a single cached block the window is the tip alone -/
theorem good_len_one {chain : List Blk} {l : Blk} {c : Cache} (h : Good (chain ++ [l]) c)
    (h1 : len c = 1) : Repr [l] c := by
  obtain ⟨pre, w, heq, hne, _, hr⟩ := h
  have hl : w.length = 1 := by
    have := repr_len hr
    rw [h1] at this
    omega
  match w, hl with
  | [x], _ =>
    have := congrArg List.getLast? heq
    simp only [List.getLast?_append, List.getLast?_singleton, Option.some_or] at this
    injection this with this
    subst this
    exact hr

/-- the cache of a good state holds at least one block and at most `maxSize` -/
theorem good_len {chain : List Blk} {c : Cache} (h : Good chain c) : 1 ≤ len c ∧ len c ≤ c.maxSize := by
  obtain ⟨pre, w, _, hne, hle, hr⟩ := h
  rw [repr_len hr]
  have : w.length ≠ 0 := fun h => hne (List.length_eq_zero_iff.mp h)
  omega

theorem erase_last {old : List Blk} {l : Blk} (hn : ((old ++ [l]).map (·.id)).Nodup) :
    (old ++ [l]).erase l = old := by
  have hnot : l ∉ old := by
    intro hm
    rw [List.map_append, List.nodup_append] at hn
    exact hn.2.2 l.id (List.mem_map.mpr ⟨l, hm, rfl⟩) l.id (by simp) rfl
  rw [List.erase_append_right _ hnot]
  simp

theorem dropLast_ok {g : Nat} {chain : List Blk} (h : ChainOK g chain) : ChainOK g chain.dropLast := by
  rcases eq_nil_or_snoc chain with rfl | ⟨w, l, rfl⟩
  · simpa using h
  · rw [List.dropLast_concat]; exact ChainOK.left h

end LiskVerif.CacheModel
