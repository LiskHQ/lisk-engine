/- The invariant of the transaction-pool model (C14) and its preservation by every operation.

Every operation changes the pool at ONE sender: it replaces (or unregisters) the list of that sender and changes
`allTransactions` only in transactions of that sender.  `C14Inv.put` says once what has to be checked for such
a step — nothing about the other senders —, and `remove`, the insertion into a free slot, the replacement and
the promotion are instances. -/
import LiskVerif.Lemmas.TxPool

namespace LiskVerif.TxPool

/-- invariant of one sender list registered under sender `s` -/
structure AcctInv (cfg : Cfg) (s : Nat) (a : Acct) : Prop where
  nonempty : a.txs ≠ []
  nodup : (a.txs.map (·.nonce)).Nodup
  sender : ∀ t ∈ a.txs, t.sender = s
  bound : a.txs.length ≤ cfg.maxPerAcct
  gapfree : GapFree a.proc
  procIn : ∀ n ∈ a.proc, ∃ t ∈ a.txs, t.nonce = n

/-- the pool invariant: holds for the empty pool and is preserved by every operation -/
structure C14Inv (cfg : Cfg) (p : Pool) : Prop where
  noFault : p.fault = false
  allNodup : (p.all.map (·.id)).Nodup
  acctsNodup : (p.accts.map (·.1)).Nodup
  acctOk : ∀ e ∈ p.accts, AcctInv cfg e.1 e.2
  allInAcct : ∀ t ∈ p.all, ∃ a, (t.sender, a) ∈ p.accts ∧ t ∈ a.txs
  acctInAll : ∀ e ∈ p.accts, ∀ t ∈ e.2.txs, t ∈ p.all
  heapPerm : p.heap.Perm p.all
  bounded : p.all.length ≤ cfg.maxTx

/-- what the invariant says about the list of sender `s` — the registered one, or an empty list when `s` has
none (the list `Add` works on) -/
structure AcctFacts (cfg : Cfg) (p : Pool) (s : Nat) (a : Acct) : Prop where
  sender : ∀ t ∈ a.txs, t.sender = s
  nodup : (a.txs.map (·.nonce)).Nodup
  bound : a.txs.length ≤ cfg.maxPerAcct
  gapfree : GapFree a.proc
  procIn : ∀ n ∈ a.proc, ∃ t ∈ a.txs, t.nonce = n
  inAll : ∀ t ∈ a.txs, t ∈ p.all
  owns : ∀ x ∈ p.all, x.sender = s → x ∈ a.txs
  reg : a.txs ≠ [] → (s, a) ∈ p.accts

/-- `t` is pooled and its nonce is in the processable set of its sender list -/
def isProc (p : Pool) (t : Tx) : Prop := ∃ a, (t.sender, a) ∈ p.accts ∧ t ∈ a.txs ∧ t.nonce ∈ a.proc

/-! ### what the invariant says -/

variable {cfg : Cfg} {p : Pool} {s : Nat} {a : Acct}

theorem init_inv (cfg : Cfg) : C14Inv cfg {} :=
  ⟨rfl, List.nodup_nil, List.nodup_nil, (by intro e he; cases he), (by intro t ht; cases ht),
   (by intro e he; cases he), List.Perm.refl _, Nat.zero_le _⟩

theorem acct_facts (h : C14Inv cfg p) (s : Nat) :
    AcctFacts cfg p s ((findAcct p.accts s).getD {}) := by
  cases hf : findAcct p.accts s with
  | none =>
    refine ⟨by simp, by simp, by simp, gapFree_nil, by simp, by simp, ?_, by simp⟩
    intro x hx hs
    obtain ⟨ax, hax, _⟩ := h.allInAcct x hx
    exact absurd hs (findAcct_none hf _ hax)
  | some a =>
    have ha := findAcct_some hf
    have hai := h.acctOk _ ha
    refine ⟨hai.sender, hai.nodup, hai.bound, hai.gapfree, hai.procIn, h.acctInAll _ ha, ?_, fun _ => ha⟩
    intro x hx hs
    obtain ⟨ax, hax, hxax⟩ := h.allInAcct x hx
    have := findAcct_of_mem h.acctsNodup (hs ▸ hax)
    rw [hf] at this
    exact Option.some.inj this ▸ hxax

theorem acct_facts_of_find (h : C14Inv cfg p) 
    (ha : findAcct p.accts s = some a) : AcctFacts cfg p s a := by
  have := acct_facts h s
  rwa [ha] at this

/-- a slot that no pooled transaction holds is free in the list -/
theorem AcctFacts.free_slot (hf : AcctFacts cfg p s a) {n : Nat}
    (hslot : ∀ x ∈ p.all, x.sender = s → x.nonce ≠ n) : a.get n = none := by
  cases hg : a.get n with
  | none => rfl
  | some x =>
    have := get_some hg
    exact absurd this.2 (hslot x (hf.inAll x this.1) (hf.sender x this.1))

/-- the pooled transactions are those of the other senders and those of the list of `s` -/
theorem AcctFacts.mem_all (hf : AcctFacts cfg p s a) (t : Tx) :
    t ∈ p.all ↔ (t.sender ≠ s ∧ t ∈ p.all) ∨ t ∈ a.txs := by
  constructor
  · intro ht
    by_cases hs : t.sender = s
    · exact Or.inr (hf.owns t ht hs)
    · exact Or.inl ⟨hs, ht⟩
  · rintro (⟨_, ht⟩ | ht)
    · exact ht
    · exact hf.inAll t ht

theorem inv_unique_slot (h : C14Inv cfg p) {x y : Tx} (hx : x ∈ p.all) (hy : y ∈ p.all)
    (hs : x.sender = y.sender) (hn : x.nonce = y.nonce) : x = y := by
  have hf := acct_facts h y.sender
  exact inj_of_nodup_map _ hf.nodup (hf.owns x hx hs) (hf.owns y hy rfl) hn

theorem isProc_iff_findAcct (h : C14Inv cfg p) (t : Tx) :
    isProc p t ↔ ∃ a, findAcct p.accts t.sender = some a ∧ t ∈ a.txs ∧ t.nonce ∈ a.proc :=
  ⟨fun ⟨a, ha, h1, h2⟩ => ⟨a, findAcct_of_mem h.acctsNodup ha, h1, h2⟩,
   fun ⟨a, ha, h1, h2⟩ => ⟨a, findAcct_some ha, h1, h2⟩⟩

/-- the three indexes agree: every pooled transaction sits in the list of its sender at its nonce, every list
entry is pooled and belongs to that sender, there is one list per sender, no list is empty, and the fee queue
holds exactly the pooled transactions -/
theorem C14Inv.indexes_agree (h : C14Inv cfg p) :
    (∀ t ∈ p.all, ∃ a, findAcct p.accts t.sender = some a ∧ a.get t.nonce = some t) ∧
    (∀ e ∈ p.accts, e.2.txs ≠ [] ∧ ∀ t ∈ e.2.txs, t ∈ p.all ∧ t.sender = e.1 ∧ e.2.get t.nonce = some t) ∧
    (p.accts.map (·.1)).Nodup ∧ (p.all.map (·.id)).Nodup ∧ p.heap.Perm p.all := by
  refine ⟨?_, ?_, h.acctsNodup, h.allNodup, h.heapPerm⟩
  · intro t ht
    obtain ⟨a, ha, hta⟩ := h.allInAcct t ht
    exact ⟨a, findAcct_of_mem h.acctsNodup ha, get_of_mem (h.acctOk _ ha).nodup hta⟩
  · intro e he
    have hai := h.acctOk e he
    exact ⟨hai.nonempty, fun t ht => ⟨h.acctInAll e he t ht, hai.sender t ht, get_of_mem hai.nodup ht⟩⟩

/-- each sender's processable set is strictly ascending without gaps and held by the list -/
theorem C14Inv.processable_gapfree (h : C14Inv cfg p) :
    ∀ e ∈ p.accts,
      e.2.proc.Pairwise (· < ·) ∧
      (∀ x ∈ e.2.proc, ∀ y ∈ e.2.proc, ∀ z, x ≤ z → z ≤ y → z ∈ e.2.proc) ∧
      (∀ n ∈ e.2.proc, ∃ t, e.2.get n = some t) := by
  intro e he
  have hai := h.acctOk e he
  refine ⟨hai.gapfree.1, hai.gapfree.2, fun n hn => ?_⟩
  obtain ⟨t, ht, rfl⟩ := hai.procIn n hn
  exact get_isSome_of_mem ht

/-- sizes stay within the configured limits -/
theorem C14Inv.sizes (h : C14Inv cfg p) :
    p.all.length ≤ cfg.maxTx ∧ p.heap.length ≤ cfg.maxTx ∧ ∀ e ∈ p.accts, e.2.txs.length ≤ cfg.maxPerAcct :=
  ⟨h.bounded, h.heapPerm.length_eq ▸ h.bounded, fun e he => (h.acctOk e he).bound⟩

/-! ### a step at one sender -/

/-- The list of `s` is replaced by `a` (unregistered if `a` is empty) and the pooled transactions of `s` become
those of `a`, the others stay: the invariant survives if `a` is a valid list of `s`, the ids stay unique, the fee
queue holds the new pooled set and that set is within the limit. -/
theorem C14Inv.put (h : C14Inv cfg p) {all' heap' : List Tx}
    (hids : (all'.map (·.id)).Nodup) (hheap : heap'.Perm all') (hlen : all'.length ≤ cfg.maxTx)
    (hmem : ∀ t, t ∈ all' ↔ (t.sender ≠ s ∧ t ∈ p.all) ∨ t ∈ a.txs)
    (hai : a.txs ≠ [] → AcctInv cfg s a) :
    C14Inv cfg { all := all', accts := putAcct p.accts s a, heap := heap', fault := p.fault } := by
  refine ⟨h.noFault, hids, nodup_putAcct s a h.acctsNodup, ?_, ?_, ?_, hheap, hlen⟩
  · intro e he
    rcases mem_putAcct.1 he with ⟨rfl, hne⟩ | ⟨he, _⟩
    · exact hai hne
    · exact h.acctOk e he
  · intro t ht
    rcases (hmem t).1 ht with ⟨hs, ht⟩ | ht
    · obtain ⟨ax, hax, hx⟩ := h.allInAcct t ht
      exact ⟨ax, mem_putAcct.2 (Or.inr ⟨hax, hs⟩), hx⟩
    · have hne := List.ne_nil_of_mem ht
      exact ⟨a, (hai hne).sender t ht ▸ mem_putAcct.2 (Or.inl ⟨rfl, hne⟩), ht⟩
  · intro e he t ht
    rcases mem_putAcct.1 he with ⟨rfl, _⟩ | ⟨he, hes⟩
    · exact (hmem t).2 (Or.inr ht)
    · exact (hmem t).2 (Or.inl ⟨(h.acctOk e he).sender t ht ▸ hes, h.acctInAll e he t ht⟩)

/-- `q` satisfies the invariant and nothing is processable in `q` that is not processable in `p`: what every
operation except a promotion round makes of the pool -/
structure Quiet (cfg : Cfg) (p q : Pool) : Prop where
  inv : C14Inv cfg q
  proc : ∀ t, isProc q t → isProc p t

theorem Quiet.refl (h : C14Inv cfg p) : Quiet cfg p p := ⟨h, fun _ => id⟩

theorem Quiet.trans {q r : Pool} (h1 : Quiet cfg p q) (h2 : Quiet cfg q r) : Quiet cfg p r :=
  ⟨h2.inv, fun t ht => h1.proc t (h2.proc t ht)⟩

/-- a new list of `s` whose processable entries were processable makes nothing processable -/
theorem isProc_putAcct {q : Pool} (hq : q.accts = putAcct p.accts s a)
    (hproc : ∀ t ∈ a.txs, t.nonce ∈ a.proc → isProc p t) (t : Tx) (h : isProc q t) : isProc p t := by
  obtain ⟨ax, hax, htx, htn⟩ := h
  rw [hq] at hax
  rcases mem_putAcct.1 hax with ⟨heq, _⟩ | ⟨hax, _⟩
  · cases heq; exact hproc t htx htn
  · exact ⟨ax, hax, htx, htn⟩

theorem AcctFacts.isProc (hf : AcctFacts cfg p s a) {t : Tx} (ht : t ∈ a.txs)
    (hn : t.nonce ∈ a.proc) : isProc p t :=
  ⟨a, hf.sender t ht ▸ hf.reg (List.ne_nil_of_mem ht), ht, hn⟩

theorem AcctFacts.not_proc (hf : AcctFacts cfg p s a) {n : Nat} (hg : a.get n = none) :
    n ∉ a.proc := fun hn => by
  obtain ⟨x, hx, hxn⟩ := hf.procIn n hn
  exact get_none hg x hx hxn

theorem mem_cons_iff_of {α : Type} {x y : α} {l l' : List α} {P : Prop} (h : x ∈ l ↔ P ∨ x ∈ l') :
    x ∈ y :: l ↔ P ∨ x ∈ y :: l' := by
  rw [List.mem_cons, List.mem_cons, h]; exact or_left_comm

/-- replacing the processable set of one registered list -/
theorem setProc_inv (h : C14Inv cfg p) {a1 : Acct}
    (ha : findAcct p.accts s = some a) (hai : AcctInv cfg s a1) (htx : a1.txs = a.txs) :
    C14Inv cfg { p with accts := setAcct p.accts s a1 } := by
  rw [← putAcct_of_ne_nil _ _ hai.nonempty]
  exact h.put h.allNodup h.heapPerm h.bounded (htx ▸ (acct_facts_of_find h ha).mem_all) (fun _ => hai)

/-! ### removing from a sender list, adding to it -/

/-- what `AcctInv` and `AcctFacts` both say of a sender list whatever its length and the pool around it -/
structure ListOk (s : Nat) (a : Acct) : Prop where
  sender : ∀ t ∈ a.txs, t.sender = s
  nodup : (a.txs.map (·.nonce)).Nodup
  gapfree : GapFree a.proc
  procIn : ∀ n ∈ a.proc, ∃ t ∈ a.txs, t.nonce = n

theorem AcctFacts.ok (h : AcctFacts cfg p s a) : ListOk s a := ⟨h.sender, h.nodup, h.gapfree, h.procIn⟩

/-- what survives dropping the transaction at nonce `n`, or any other change that keeps the entries apart from
that one and cuts the processable set below `n` -/
theorem ListOk.without (h : ListOk s a) (n : Nat) : ListOk s (a.without n) := by
  refine ⟨fun t ht => h.sender t (mem_without.1 ht).1, (List.filter_sublist.map _).nodup h.nodup,
    gapFree_demote _ _ h.gapfree, ?_⟩
  intro m hm
  obtain ⟨hm, hlt⟩ := (mem_demote _ _ _).1 hm
  obtain ⟨t, ht, htn⟩ := h.procIn m hm
  exact ⟨t, mem_without.2 ⟨ht, by omega⟩, htn⟩

/-- one more transaction in a free slot of a list that has room -/
theorem ListOk.push {tx : Tx} (h : ListOk tx.sender a) (hget : a.get tx.nonce = none)
    (hal : a.txs.length + 1 ≤ cfg.maxPerAcct) : AcctInv cfg tx.sender (a.push tx) := by
  refine ⟨List.cons_ne_nil _ _, nodup_map_cons _ (get_none hget) h.nodup, ?_, hal, h.gapfree, ?_⟩
  · intro t ht
    rcases List.mem_cons.1 ht with rfl | ht
    · rfl
    · exact h.sender t ht
  · intro n hn
    obtain ⟨t, ht, htn⟩ := h.procIn n hn
    exact ⟨t, List.mem_cons_of_mem _ ht, htn⟩

/-! ### `remove` -/

theorem remove_not_mem {p : Pool} {id : Nat} (h : ∀ t ∈ p.all, t.id ≠ id) : remove p id = (p, false) := by
  have : p.all.find? (fun t => t.id == id) = none := by
    rw [List.find?_eq_none]; intro x hx; simpa using h x hx
  rw [remove, this]

theorem remove_all_subset (p : Pool) (id : Nat) : ∀ t ∈ (remove p id).1.all, t ∈ p.all := by
  intro t
  unfold remove
  cases p.all.find? (fun t => t.id == id) with
  | none => exact fun h => h
  | some t0 =>
    simp only
    cases findAcct p.accts t0.sender <;> exact fun h => (List.mem_filter.1 h).1

/-- `remove` of a pooled transaction, under the invariant, in explicit form -/
theorem remove_spec (h : C14Inv cfg p) {t : Tx} (ht : t ∈ p.all) :
    ∃ a, findAcct p.accts t.sender = some a ∧ t ∈ a.txs ∧
      remove p t.id =
        ({ all := p.all.filter (fun x => x.id != t.id), accts := putAcct p.accts t.sender (a.without t.nonce),
           heap := p.all.filter (fun x => x.id != t.id), fault := p.fault }, true) := by
  obtain ⟨a, ha, hta⟩ := h.allInAcct t ht
  have hacct := findAcct_of_mem h.acctsNodup ha
  refine ⟨a, hacct, hta, ?_⟩
  have hfind : p.all.find? (fun x => x.id == t.id) = some t := by
    cases hf : p.all.find? (fun x => x.id == t.id) with
    | none => simpa using List.find?_eq_none.1 hf t ht
    | some t' =>
      have h2 : t'.id = t.id := by simpa using List.find?_some hf
      rw [inj_of_nodup_map _ h.allNodup (List.mem_of_find?_eq_some hf) ht h2]
  rw [remove, hfind]
  simp only [hacct, acct_remove_some (get_of_mem (h.acctOk _ ha).nodup hta)]
  rfl

/-- the pooled transactions other than `t`: those of the other senders, and the list of its sender without it -/
theorem mem_filter_id (h : C14Inv cfg p) {t : Tx} (ht : t ∈ p.all)
    (hf : AcctFacts cfg p t.sender a) (x : Tx) :
    x ∈ p.all.filter (fun x => x.id != t.id) ↔ (x.sender ≠ t.sender ∧ x ∈ p.all) ∨ x ∈ (a.without t.nonce).txs := by
  have hid : ∀ x ∈ p.all, x.id = t.id → x = t := fun x hx => inj_of_nodup_map _ h.allNodup hx ht
  rw [List.mem_filter, mem_without, bne_iff_ne]
  constructor
  · rintro ⟨hx, hne⟩
    by_cases hs : x.sender = t.sender
    · exact Or.inr ⟨hf.owns x hx hs, fun hn => hne (congrArg Tx.id (inv_unique_slot h hx ht hs hn))⟩
    · exact Or.inl ⟨hs, hx⟩
  · rintro (⟨hs, hx⟩ | ⟨hx, hn⟩)
    · exact ⟨hx, fun e => hs (congrArg Tx.sender (hid x hx e))⟩
    · exact ⟨hf.inAll x hx, fun e => hn (congrArg Tx.nonce (hid x (hf.inAll x hx) e))⟩

theorem remove_quiet (h : C14Inv cfg p) (id : Nat) : Quiet cfg p (remove p id).1 := by
  by_cases hex : ∃ t ∈ p.all, t.id = id
  · obtain ⟨t, ht, rfl⟩ := hex
    obtain ⟨a, ha, _, hr⟩ := remove_spec h ht
    have hf := acct_facts_of_find h ha
    have hw := hf.ok.without t.nonce
    rw [hr]
    exact ⟨h.put (a := a.without t.nonce) ((List.filter_sublist.map _).nodup h.allNodup) (List.Perm.refl _)
        (Nat.le_trans (List.length_filter_le _ _) h.bounded) (mem_filter_id h ht hf)
        (fun hne => ⟨hne, hw.nodup, hw.sender, Nat.le_trans (List.length_filter_le _ _) hf.bound, hw.gapfree, hw.procIn⟩),
      isProc_putAcct rfl (fun x hx hn => hf.isProc (mem_without.1 hx).1 ((mem_demote _ _ _).1 hn).1)⟩
  · rw [remove_not_mem (fun t ht hid => hex ⟨t, ht, hid⟩)]; exact Quiet.refl h

theorem remove_inv (h : C14Inv cfg p) (id : Nat) : C14Inv cfg (remove p id).1 := (remove_quiet h id).inv

/-- removing several transactions (block applied; the invalid suffix of a promotion round) -/
theorem blockApplied_quiet (h : C14Inv cfg p) (ids : List Nat) : Quiet cfg p (blockApplied p ids) :=
  List.foldlRecOn (motive := Quiet cfg p) ids _ (Quiet.refl h) (fun _ hq id _ => hq.trans (remove_quiet hq.inv id))

theorem foldl_remove_inv (l : List Tx) (h : C14Inv cfg p) :
    C14Inv cfg (l.foldl (fun q t => (remove q t.id).1) p) := by
  have := (blockApplied_quiet h (l.map (·.id))).inv
  rwa [blockApplied, List.foldl_map] at this

/-! ### the capacity eviction -/

theorem evictCands_ne_nil (h : C14Inv cfg p) (hne : p.all ≠ []) : evictCands p ≠ [] := by
  by_cases hu : unprocCands p = []
  · -- nothing unprocessable: every list is processable to its end
    rw [evictCands_of_nil hu]
    obtain ⟨t, ht⟩ := List.exists_mem_of_ne_nil _ hne
    obtain ⟨a, ha, hta⟩ := h.allInAcct t ht
    have hai := h.acctOk _ ha
    have hdrop : a.sortedNonces.drop a.proc.length = [] := by
      apply Classical.byContradiction
      intro hd
      exact filterMap_get_ne_nil hd (fun n hn => mem_sortedNonces.1 (List.mem_of_mem_drop hn))
        (List.flatMap_eq_nil_iff.1 hu _ ha)
    have hlen : a.txs.length ≤ a.proc.length := by
      rw [← sortedNonces_length]; exact List.drop_eq_nil_iff.1 hdrop
    have hprocne : a.proc ≠ [] := by
      intro hp
      rw [hp] at hlen
      exact hai.nonempty (List.eq_nil_of_length_eq_zero (by simpa using hlen))
    obtain ⟨x, hx⟩ : ∃ x, a.processables.getLast? = some x := by
      cases hl : a.processables.getLast? with
      | none => exact absurd (List.getLast?_eq_none_iff.1 hl) (filterMap_get_ne_nil hprocne hai.procIn)
      | some x => exact ⟨x, rfl⟩
    exact List.ne_nil_of_mem (List.mem_filterMap.2 ⟨_, ha, hx⟩)
  · rwa [evictCands_of_ne_nil hu]

theorem evict_cases (p : Pool) (tie : Nat) :
    evict p tie = p ∨ ∃ t, pickMin (evictCands p) tie = some t ∧ evict p tie = (remove p t.id).1 := by
  unfold evict
  cases pickMin (evictCands p) tie with
  | none => exact Or.inl rfl
  | some t => exact Or.inr ⟨t, rfl, rfl⟩

/-- the capacity eviction removes exactly one pooled transaction, the one `pickMin` pops -/
theorem evict_spec (h : C14Inv cfg p) (hne : p.all ≠ []) (tie : Nat) :
    ∃ t, pickMin (evictCands p) tie = some t ∧ t ∈ p.all ∧ evict p tie = (remove p t.id).1 ∧
      (evict p tie).all = p.all.filter (fun x => x.id != t.id) ∧
      (evict p tie).heap = p.all.filter (fun x => x.id != t.id) := by
  obtain ⟨t, ht⟩ := pickMin_some tie (evictCands_ne_nil h hne)
  obtain ⟨e, he, hte⟩ := evictCands_mem (pickMin_spec ht).1
  have htall := h.acctInAll e he t hte
  obtain ⟨a, _, _, hr⟩ := remove_spec h htall
  have hev : evict p tie = (remove p t.id).1 := by rw [evict, ht]
  exact ⟨t, ht, htall, hev, by rw [hev, hr], by rw [hev, hr]⟩

theorem evict_quiet (h : C14Inv cfg p) (tie : Nat) : Quiet cfg p (evict p tie) := by
  rcases evict_cases p tie with he | ⟨t, _, he⟩ <;> rw [he]
  · exact Quiet.refl h
  · exact remove_quiet h _

theorem evict_all_subset (p : Pool) (tie : Nat) : ∀ t ∈ (evict p tie).all, t ∈ p.all := by
  rcases evict_cases p tie with he | ⟨t, _, he⟩ <;> rw [he]
  · exact fun _ => id
  · exact remove_all_subset p _

theorem isFull_ne_nil (hmax : 1 ≤ cfg.maxTx) {p : Pool} (hfull : isFull cfg p = true) : p.all ≠ [] := by
  intro h0
  simp [isFull, h0] at hfull
  omega

/-! ### the second half of `Add` -/

/-- putting a new transaction into a free slot -/
theorem insert_quiet (h : C14Inv cfg p) (tx : Tx) (hid : ∀ t ∈ p.all, t.id ≠ tx.id)
    (hlen : p.all.length + 1 ≤ cfg.maxTx) (a : Acct) (hf : AcctFacts cfg p tx.sender a)
    (hget : a.get tx.nonce = none) (hal : a.txs.length + 1 ≤ cfg.maxPerAcct) :
    Quiet cfg p { all := tx :: p.all, accts := setAcct p.accts tx.sender (a.push tx),
                  heap := tx :: p.heap, fault := p.fault } := by
  refine ⟨h.put (a := a.push tx) (nodup_map_cons _ hid h.allNodup) (List.Perm.cons _ h.heapPerm) hlen
      (fun x => mem_cons_iff_of (hf.mem_all x))
      (fun _ => hf.ok.push hget hal),
    isProc_putAcct (a := a.push tx) rfl (fun t ht hn => ?_)⟩
  rcases List.mem_cons.1 ht with rfl | ht
  · exact absurd hn (hf.not_proc hget)
  · exact hf.isProc ht hn

/-- putting a transaction in while the list drops `old` (replacement or per-sender limit) -/
theorem replace_quiet (h : C14Inv cfg p) (tx old : Tx) (hid : ∀ t ∈ p.all, t.id ≠ tx.id)
    (a : Acct) (hf : AcctFacts cfg p tx.sender a)
    (hold : a.get old.nonce = some old) (hslot : old.nonce = tx.nonce ∨ a.get tx.nonce = none) :
    Quiet cfg p { all := tx :: p.all.filter (fun x => x.id != old.id),
                  accts := setAcct p.accts tx.sender ((a.without old.nonce).push tx),
                  heap := tx :: p.all.filter (fun x => x.id != old.id), fault := p.fault } := by
  have holdA := (get_some hold).1
  have holdAll := hf.inAll old holdA
  have hs : old.sender = tx.sender := hf.sender old holdA
  have hlt := length_without_lt holdA
  have hb := hf.bound
  refine ⟨h.put (a := (a.without old.nonce).push tx)
      (nodup_map_cons _ (fun t ht => hid t (List.mem_filter.1 ht).1) ((List.filter_sublist.map _).nodup h.allNodup))
      (List.Perm.refl _)
      (by have := length_filter_lt (fun x => x.id != old.id) p.all old holdAll (by simp)
          have := h.bounded; simp only [List.length_cons]; omega)
      (fun x => mem_cons_iff_of (hs ▸ mem_filter_id h holdAll (hs ▸ hf) x))
      (fun _ => (hf.ok.without old.nonce).push (get_without hslot) (by omega)),
    isProc_putAcct (a := (a.without old.nonce).push tx) rfl (fun t ht hn => ?_)⟩
  obtain ⟨hnp, hlt⟩ := (mem_demote _ _ _).1 hn
  rcases List.mem_cons.1 ht with rfl | ht
  · rcases hslot with hsl | hsl
    · omega
    · exact absurd hnp (hf.not_proc hsl)
  · exact hf.isProc (mem_without.1 ht).1 hnp

theorem addCore_quiet (hper : 1 ≤ cfg.maxPerAcct) {p1 : Pool} (h1 : C14Inv cfg p1) (tx : Tx)
    (hid1 : ∀ t ∈ p1.all, t.id ≠ tx.id) (hlen1 : p1.all.length + 1 ≤ cfg.maxTx) (pubOk : Bool) :
    Quiet cfg p1 (addCore cfg p1 tx pubOk).1 := by
  have hf := acct_facts h1 tx.sender
  unfold addCore
  generalize (findAcct p1.accts tx.sender).getD {} = a at hf
  -- a list that rejects is not empty, hence a registered one, and stays so
  have hrej : a.txs ≠ [] → Quiet cfg p1 { p1 with accts := setAcct p1.accts tx.sender a } := fun hne =>
    ⟨setProc_inv h1 (findAcct_of_mem h1.acctsNodup (hf.reg hne)) (h1.acctOk _ (hf.reg hne)) rfl,
      isProc_putAcct (putAcct_of_ne_nil _ _ hne).symm (fun t => hf.isProc)⟩
  cases hg : a.get tx.nonce with
  | some old =>
    obtain ⟨hoa, hon⟩ := get_some hg
    simp only [acct_add_occupied cfg hg]
    by_cases hfee : tx.fee < old.fee + cfg.minFeeDiff
    · simp only [if_pos hfee, Bool.false_eq_true, if_false]
      exact hrej (List.ne_nil_of_mem hoa)
    · simp only [if_neg hfee, if_true]
      rw [← hon]
      exact replace_quiet h1 tx old hid1 a hf (hon ▸ hg) (Or.inl hon)
  | none =>
    by_cases hfull : cfg.maxPerAcct < a.txs.length + 1
    · obtain ⟨top, htop, hr⟩ := acct_add_limit cfg hper hg hfull
      obtain ⟨hta, htn⟩ := get_some htop
      simp only [hr]
      by_cases hgt : tx.nonce > a.maxNonce
      · simp only [if_pos hgt, Bool.false_eq_true, if_false]
        exact hrej (List.ne_nil_of_mem hta)
      · simp only [if_neg hgt, if_true]
        rw [← htn]
        exact replace_quiet h1 tx top hid1 a hf (htn ▸ htop) (Or.inr hg)
    · simp only [acct_add_free cfg hg (by omega), if_true]
      exact insert_quiet h1 tx hid1 hlen1 a hf hg (by omega)

theorem addCore_all_subset (cfg : Cfg) (p1 : Pool) (tx : Tx) (pubOk : Bool) :
    ∀ x ∈ (addCore cfg p1 tx pubOk).1.all, x = tx ∨ x ∈ p1.all := by
  intro x hx
  unfold addCore at hx
  simp only at hx
  generalize Acct.add cfg ((findAcct p1.accts tx.sender).getD {}) tx = r at hx
  by_cases hr : r.2.1 = true
  · rw [if_pos hr] at hx
    rcases List.mem_cons.1 hx with rfl | hx
    · exact Or.inl rfl
    · right
      cases hr2 : r.2.2 with
      | none => rw [hr2] at hx; exact hx
      | some old => rw [hr2] at hx; exact (List.mem_filter.1 hx).1
  · rw [if_neg hr] at hx
    exact Or.inr hx

/-! ### `Add` -/

/-- `Add` past its admission guards -/
theorem add_admitted {tx : Tx} {v : Verdict} (pubOk : Bool) (tie : Nat)
    (hid : ∀ t ∈ p.all, t.id ≠ tx.id) (hent : cfg.minEntrance ≤ tx.prio)
    (hcheap : (isFull cfg p && tooCheap p.heap tx) = false) (hv : v ≠ Verdict.invalid) :
    add cfg p tx v pubOk tie = addCore cfg (if isFull cfg p then evict p tie else p) tx pubOk := by
  have h1 : p.all.any (fun t => t.id == tx.id) = false := by
    rw [List.any_eq_false]; intro x hx; simpa using hid x hx
  have h4 : (v == Verdict.invalid) = false := by
    cases v <;> first | rfl | exact absurd rfl hv
  rw [add, h1, hcheap, h4]
  simp only [Bool.false_eq_true, if_false]
  rw [if_neg (by omega)]

/-- `Add` past its guards into a pool with room: no eviction -/
theorem add_of_room {tx : Tx} {v : Verdict} (pubOk : Bool) (tie : Nat)
    (hid : ∀ t ∈ p.all, t.id ≠ tx.id) (hent : cfg.minEntrance ≤ tx.prio) (hv : v ≠ Verdict.invalid)
    (hroom : p.all.length < cfg.maxTx) : add cfg p tx v pubOk tie = addCore cfg p tx pubOk := by
  have hfull : isFull cfg p = false := by simp [isFull]; omega
  rw [add_admitted pubOk tie hid hent (by rw [hfull]; rfl) hv, hfull]
  rfl

/-- `Add` either leaves the pool as it is, or passes its four guards and runs its second half, after the
capacity eviction if the pool is full -/
theorem add_cases (cfg : Cfg) (p : Pool) (tx : Tx) (v : Verdict) (pubOk : Bool) (tie : Nat) :
    add cfg p tx v pubOk tie = (p, false) ∨
    ((∀ t ∈ p.all, t.id ≠ tx.id) ∧ cfg.minEntrance ≤ tx.prio ∧
      (isFull cfg p && tooCheap p.heap tx) = false ∧ v ≠ Verdict.invalid ∧
      add cfg p tx v pubOk tie = addCore cfg (if isFull cfg p then evict p tie else p) tx pubOk) := by
  by_cases h1 : p.all.any (fun t => t.id == tx.id) = true
  · exact Or.inl (by rw [add, if_pos h1])
  by_cases h2 : tx.prio < cfg.minEntrance
  · exact Or.inl (by rw [add, if_neg h1, if_pos h2])
  by_cases h3 : (isFull cfg p && tooCheap p.heap tx) = true
  · exact Or.inl (by rw [add, if_neg h1, if_neg h2, if_pos h3])
  by_cases h4 : (v == Verdict.invalid) = true
  · exact Or.inl (by rw [add, if_neg h1, if_neg h2, if_neg h3, if_pos h4])
  have hid : ∀ t ∈ p.all, t.id ≠ tx.id :=
    fun t ht hti => h1 (List.any_eq_true.2 ⟨t, ht, by simpa using hti⟩)
  have hv : v ≠ Verdict.invalid := fun e => h4 (by rw [e]; rfl)
  exact Or.inr ⟨hid, by omega, by simpa using h3, hv, add_admitted pubOk tie hid (by omega) (by simpa using h3) hv⟩

/-- the pool `Add` inserts into, after the capacity eviction: still without the new id, and with room -/
theorem add_mid (hmax : 1 ≤ cfg.maxTx) {p : Pool} (h : C14Inv cfg p) (tie : Nat) {tx : Tx}
    (hid : ∀ t ∈ p.all, t.id ≠ tx.id) :
    Quiet cfg p (if isFull cfg p then evict p tie else p) ∧
    (∀ t ∈ (if isFull cfg p then evict p tie else p).all, t.id ≠ tx.id) ∧
    (if isFull cfg p then evict p tie else p).all.length + 1 ≤ cfg.maxTx := by
  by_cases hfull : isFull cfg p = true
  · simp only [hfull, if_true]
    obtain ⟨t, _, _, _, hall, _⟩ := evict_spec h (isFull_ne_nil hmax hfull) tie
    have := h.bounded
    refine ⟨evict_quiet h tie, fun t ht => hid t (evict_all_subset p tie t ht), ?_⟩
    have := length_filter_lt (fun x => x.id != t.id) p.all t ‹_› (by simp)
    rw [hall]; omega
  · simp only [hfull, Bool.false_eq_true, if_false]
    have : ¬ cfg.maxTx ≤ p.all.length := by simpa [isFull] using hfull
    exact ⟨Quiet.refl h, hid, by omega⟩

theorem add_quiet (hmax : 1 ≤ cfg.maxTx) (hper : 1 ≤ cfg.maxPerAcct) (h : C14Inv cfg p)
    (tx : Tx) (v : Verdict) (pubOk : Bool) (tie : Nat) : Quiet cfg p (add cfg p tx v pubOk tie).1 := by
  rcases add_cases cfg p tx v pubOk tie with hr | ⟨hid, _, _, _, hr⟩ <;> rw [hr]
  · exact Quiet.refl h
  · obtain ⟨h1, hid1, hlen1⟩ := add_mid hmax h tie hid
    exact h1.trans (addCore_quiet hper h1.inv tx hid1 hlen1 pubOk)

theorem add_inv (hmax : 1 ≤ cfg.maxTx) (hper : 1 ≤ cfg.maxPerAcct) (h : C14Inv cfg p)
    (tx : Tx) (v : Verdict) (pubOk : Bool) (tie : Nat) : C14Inv cfg (add cfg p tx v pubOk tie).1 :=
  (add_quiet hmax hper h tx v pubOk tie).inv

/-- adding several transactions (block reverted) -/
theorem blockReverted_quiet (hmax : 1 ≤ cfg.maxTx) (hper : 1 ≤ cfg.maxPerAcct) (h : C14Inv cfg p)
    (l : List AddArg) : Quiet cfg p (blockReverted cfg p l) :=
  List.foldlRecOn (motive := Quiet cfg p) l _ (Quiet.refl h)
    (fun _ hq x _ => hq.trans (add_quiet hmax hper hq.inv x.tx x.v x.pubOk x.tie))

/-! ### promotion -/

/-- `Promote` of a batch whose nonces are a run that continues the processable run (or of an empty batch)
keeps the sender-list invariant — whatever the list looked like when the batch was selected -/
theorem promote_inv_run (h : AcctInv cfg s a) (batch : List Tx) (first j : Nat)
    (hrun : batch.map (·.nonce) = List.range' first j)
    (hcont : ∀ hi, a.proc.getLast? = some hi → j = 0 ∨ first = hi + 1) :
    AcctInv cfg s (a.promote batch) ∧ (a.promote batch).txs = a.txs := by
  unfold Acct.promote
  split
  · rename_i hall
    refine ⟨⟨h.nonempty, h.nodup, h.sender, h.bound, ?_, ?_⟩, rfl⟩
    · simp only [hrun]
      exact gapFree_sortUniq_append a.proc first j h.gapfree hcont
    · intro n hn
      simp only [mem_sortUniq, List.mem_append] at hn
      rcases hn with hn | hn
      · exact h.procIn n hn
      · obtain ⟨t, ht, htn⟩ := List.mem_map.1 hn
        have hc := List.all_eq_true.1 hall t ht
        cases hg : a.get t.nonce with
        | none => rw [hg] at hc; cases hc
        | some e => exact ⟨e, (get_some hg).1, (get_some hg).2.trans htn⟩
  · exact ⟨h, rfl⟩

/-- promoting a prefix of the promotable transactions keeps the sender-list invariant -/
theorem promote_inv (h : AcctInv cfg s a) (k : Nat) :
    AcctInv cfg s (a.promote (a.promotable.take k)) ∧ (a.promote (a.promotable.take k)).txs = a.txs := by
  obtain ⟨first, m, hr, hf⟩ := promotable_take_run a k
  exact promote_inv_run h _ first m hr (fun hi hh => Or.inr (hf hi hh))

/-- the goroutine body of `reorg` for a list with something to promote, with `i` the index of the first
`invalid` answer — the number of transactions asked about if there is none: then nothing is removed -/
theorem reorgAcct_eq (v : Nat → Verdict) (ha : findAcct p.accts s = some a)
    (hne : ¬ a.promotable.isEmpty = true) {i : Nat}
    (hi : (firstInvalid v (a.processables ++ a.promotable)).getD (a.processables ++ a.promotable).length = i) :
    reorgAcct v p s =
      ((a.processables ++ a.promotable).drop i).foldl (fun q t => (remove q t.id).1)
        { p with accts := setAcct p.accts s (if i ≥ a.processables.length + 1
            then a.promote (a.promotable.take (i - a.processables.length)) else a) } := by
  subst hi
  unfold reorgAcct
  simp only [ha, if_neg hne]
  cases firstInvalid v (a.processables ++ a.promotable) with
  | some fi => rfl
  | none =>
    have hpos : 0 < a.promotable.length := List.length_pos_iff.2 (by simpa using hne)
    simp only [Option.getD_none, List.drop_length, List.foldl_nil]
    rw [List.length_append, if_pos (by omega), Nat.add_sub_cancel_left, List.take_length]

theorem reorgAcct_inv (h : C14Inv cfg p) (v : Nat → Verdict) (s : Nat) :
    C14Inv cfg (reorgAcct v p s) := by
  cases ha : findAcct p.accts s with
  | none => rw [reorgAcct, ha]; exact h
  | some a =>
    have hai : AcctInv cfg s a := h.acctOk _ (findAcct_some ha)
    by_cases hempty : a.promotable.isEmpty = true
    · rw [reorgAcct, ha]; simp only [if_pos hempty]; exact h
    · rw [reorgAcct_eq v ha hempty rfl]
      apply foldl_remove_inv
      split
      · exact setProc_inv h ha (promote_inv hai _).1 (promote_inv hai _).2
      · exact setProc_inv h ha hai rfl
theorem reorg_inv (h : C14Inv cfg p) (v : Nat → Verdict) : C14Inv cfg (reorg v p) :=
  List.foldlRecOn _ _ h (fun _ hq s _ => reorgAcct_inv hq v s)

/-! ### histories -/

theorem applyOp_inv (hmax : 1 ≤ cfg.maxTx) (hper : 1 ≤ cfg.maxPerAcct) {p : Pool} (h : C14Inv cfg p)
    (op : Op) : C14Inv cfg (applyOp cfg p op) := by
  cases op with
  | add x => exact add_inv hmax hper h x.tx x.v x.pubOk x.tie
  | remove id => exact remove_inv h id
  | reorg v => exact reorg_inv h v
  | applied ids => exact (blockApplied_quiet h ids).inv
  | reverted l => exact (blockReverted_quiet hmax hper h l).inv

theorem foldl_applyOp_inv (hmax : 1 ≤ cfg.maxTx) (hper : 1 ≤ cfg.maxPerAcct) (ops : List Op)
    {p : Pool} (h : C14Inv cfg p) : C14Inv cfg (ops.foldl (applyOp cfg) p) :=
  List.foldlRecOn ops _ h (fun _ hq op _ => applyOp_inv hmax hper hq op)

theorem run_inv (hmax : 1 ≤ cfg.maxTx) (hper : 1 ≤ cfg.maxPerAcct) (ops : List Op) :
    C14Inv cfg (run cfg ops) := foldl_applyOp_inv hmax hper ops (init_inv cfg)

end LiskVerif.TxPool
