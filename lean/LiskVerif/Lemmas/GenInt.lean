/-
Lemmas about the integer wrappers emitted by the typed translation of tools/fngen
(`LiskVerif/Gen/Fns2.lean`): `Gen.i64` (two's complement wrap of Go `int`/`int64`) is the identity on
the int64 range, and the conversions `uintN(int)` / `int(uintN)` are the identity on naturals in range.
-/
import LiskVerif.Gen.Fns2

namespace LiskVerif.Gen

theorem i64_eq {x : Int} (h1 : -9223372036854775808 ≤ x) (h2 : x < 9223372036854775808) : i64 x = x := by
  unfold i64; omega

theorem i64_ofNat {n : Nat} (h : n < 9223372036854775808) : i64 (n : Int) = (n : Int) := by
  unfold i64; omega

/-- the wrap of a value just above the range is negative -/
theorem i64_wrap {x : Int} (h1 : 9223372036854775808 ≤ x) (h2 : x < 18446744073709551616) :
    i64 x = x - 18446744073709551616 := by
  unfold i64; omega

theorem i64_range (x : Int) : -9223372036854775808 ≤ i64 x ∧ i64 x < 9223372036854775808 := by
  unfold i64; omega

/-- `(n + 7) / 8` in Go `int` arithmetic, the number of bytes that hold `n` bits (`n + 7` does not wrap below `2^63 - 8`) -/
theorem i64_byteLen {n : Nat} (h : n < 9223372036854775800) :
    i64 (Int.tdiv (i64 ((n + 7 : Nat) : Int)) 8) = (((n + 7) / 8 : Nat) : Int) := by
  rw [i64_ofNat (by omega)]
  exact i64_ofNat (n := (n + 7) / 8) (by omega)

/-- `uint64(int)` of a natural below 2^64 -/
theorem toNat_emod64 {n : Nat} (h : n < 18446744073709551616) :
    Int.toNat ((n : Int) % 18446744073709551616) = n := by omega

/-- `uint32(int)` of a natural: reduction modulo 2^32 -/
theorem toNat_emod32 (n : Nat) : Int.toNat ((n : Int) % 4294967296) = n % 4294967296 := by omega

/-- `uint32(int)` is exact modulo 2^32, whether or not the `int` is the result of a wrap -/
theorem toNat_i64_emod32 (p : Nat) : Int.toNat (i64 (p : Int) % 4294967296) = p % 4294967296 := by
  unfold i64; omega

/-- `uint64(int(x))` gives the `uint64` back -/
theorem toNat_i64_emod64 {n : Nat} (h : n < 18446744073709551616) :
    Int.toNat (i64 (n : Int) % 18446744073709551616) = n := by
  unfold i64; omega

end LiskVerif.Gen
