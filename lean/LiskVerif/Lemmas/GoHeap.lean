/-
Lemmas about the transcription of Go's `container/heap` (Model/GoHeap.lean): the sift loops only exchange
elements below a bound (so they permute the array and leave the rest in place), and the sift invariant
("heap once one position is bypassed", `Hole`) under a strict weak order `SWO`: `up` and `down` restore the heap
invariant from it.  `Fix`, `Remove` and `Pop` share one body, `sift`; `init_loop` is the loop of `Init`.
-/
import LiskVerif.Model.GoHeap

namespace LiskVerif.GoHeap

variable {α : Type} (less : α → α → Bool)

/-! ### swaps -/

/-- the transposition of `i` and `j` -/
def sw (i j k : Nat) : Nat := if k = i then j else if k = j then i else k

theorem sw_left (i j : Nat) : sw i j i = j := if_pos rfl

theorem sw_right (i j : Nat) : sw i j j = i := by
  unfold sw; split
  · omega
  · simp

theorem sw_ne {i j k : Nat} (h1 : k ≠ i) (h2 : k ≠ j) : sw i j k = k := by rw [sw, if_neg h1, if_neg h2]

theorem get_swap (a : Array α) {i j : Nat} (hi : i < a.size) (hj : j < a.size) (k : Nat) :
    (a.swapIfInBounds i j)[k]? = a[sw i j k]? := by
  simp only [Array.swapIfInBounds_def, hi, hj, dite_true, Array.getElem?_swap, sw]
  by_cases h1 : k = i
  · subst h1
    by_cases h2 : j = k
    · subst h2; simp
    · simp [h2, hj]
  · by_cases h2 : k = j
    · subst h2; simp [hi, h1]
    · have h1' : ¬ i = k := fun h => h1 h.symm
      have h2' : ¬ j = k := fun h => h2 h.symm
      simp [h1, h2, h1', h2']

theorem lessAt_swap (a : Array α) {i j : Nat} (hi : i < a.size) (hj : j < a.size)
    (p q : Nat) : lessAt less (a.swapIfInBounds i j) p q = lessAt less a (sw i j p) (sw i j q) := by
  simp only [lessAt, get_swap a hi hj]

theorem lessAt_congr (a a' : Array α) (p q : Nat) (hp : a'[p]? = a[p]?)
    (hq : a'[q]? = a[q]?) : lessAt less a' p q = lessAt less a p q := by
  unfold lessAt; rw [hp, hq]

theorem swap_perm (a : Array α) (i j : Nat) : (a.swapIfInBounds i j).toList.Perm a.toList := by
  rw [Array.swapIfInBounds_def]
  split
  · split
    · exact Array.perm_iff_toList_perm.mp (Array.swap_perm _ _)
    · exact List.Perm.refl _
  · exact List.Perm.refl _

/-- `b` holds the elements of `a`, those at the positions `≥ n` where they were: what any sequence of
swaps below `n` does to `a` -/
def Below (n : Nat) (a b : Array α) : Prop := b.toList.Perm a.toList ∧ ∀ k, n ≤ k → b[k]? = a[k]?

theorem Below.refl (n : Nat) (a : Array α) : Below n a a := ⟨List.Perm.refl _, fun _ _ => rfl⟩

theorem Below.trans {n : Nat} {a b c : Array α} (h1 : Below n a b) (h2 : Below n b c) : Below n a c :=
  ⟨h2.1.trans h1.1, fun k hk => (h2.2 k hk).trans (h1.2 k hk)⟩

theorem Below.mono {n m : Nat} {a b : Array α} (h : Below n a b) (hnm : n ≤ m) : Below m a b :=
  ⟨h.1, fun k hk => h.2 k (Nat.le_trans hnm hk)⟩

theorem Below.size {n : Nat} {a b : Array α} (h : Below n a b) : b.size = a.size := by
  simpa using h.1.length_eq

theorem swap_below (a : Array α) {i j n : Nat} (hi : i < n) (hj : j < n) : Below n a (a.swapIfInBounds i j) := by
  refine ⟨swap_perm a i j, fun k hk => ?_⟩
  rw [Array.swapIfInBounds_def]
  split
  · split
    · rw [Array.getElem?_swap, if_neg (by omega), if_neg (by omega)]
    · rfl
  · rfl

/-! ### parents and children

The children of position `i` are `2i+1` and `2i+2`.  The invariants below speak of a parent `i` and a child `c`
with `Child i c` instead of `c` and `(c-1)/2` as the Go code and `isHeapUpTo` do: the index arithmetic stays
linear. -/

abbrev Child (i c : Nat) : Prop := 2 * i + 1 ≤ c ∧ c ≤ 2 * i + 2

theorem Child.lt {i c : Nat} (h : Child i c) : i < c := by omega

theorem Child.unique {i i' c : Nat} (h : Child i c) (h' : Child i' c) : i = i' := by omega

theorem child_parent {c : Nat} (h : c ≠ 0) : Child ((c - 1) / 2) c := by omega

/-! ### the loops exchange elements inside their range -/

/-- `up` from `j` only exchanges elements at positions `≤ j` -/
theorem upF_below (f : Nat) (a : Array α) (j : Nat) :
    Below (j + 1) a (upF less f a j) := by
  induction f generalizing a j with
  | zero => exact Below.refl _ _
  | succ f ih =>
    simp only [upF]
    split
    · exact Below.refl _ _
    · have hp := child_parent ‹_›
      split
      · exact (swap_below a (by omega) (by omega)).trans ((ih _ _).mono (by omega))
      · exact Below.refl _ _

theorem upF_perm (f : Nat) (a : Array α) (j : Nat) : (upF less f a j).toList.Perm a.toList :=
  (upF_below less f a j).1

theorem upF_size (f : Nat) (a : Array α) (j : Nat) : (upF less f a j).size = a.size :=
  (upF_below less f a j).size

/-- `up` from `j` does not touch positions `> j` -/
theorem upF_frame (f : Nat) (a : Array α) (j : Nat) (_ : j < a.size)
    (k : Nat) (hk : j < k) : (upF less f a j)[k]? = a[k]? :=
  (upF_below less f a j).2 k hk

/-- the child chosen by one iteration of `down` -/
def minChild (a : Array α) (i n : Nat) : Nat :=
  if 2 * i + 1 + 1 < n && lessAt less a (2 * i + 1 + 1) (2 * i + 1) then 2 * i + 1 + 1 else 2 * i + 1

theorem downF_succ (f : Nat) (a : Array α) (i n : Nat) :
    downF less (f + 1) a i n =
      if 2 * i + 1 ≥ n then (a, i)
      else if lessAt less a (minChild less a i n) i then
        downF less f (a.swapIfInBounds i (minChild less a i n)) (minChild less a i n) n
      else (a, i) := by
  have e : minChild less a i n = (if 2 * i + 1 + 1 < n && lessAt less a (2 * i + 1 + 1) (2 * i + 1)
      then 2 * i + 1 + 1 else 2 * i + 1) := rfl
  simp only [downF, ← e]
  split
  · rfl
  · cases lessAt less a (minChild less a i n) i <;> simp

theorem minChild_range (a : Array α) {i n : Nat} (h : 2 * i + 1 < n) :
    2 * i + 1 ≤ minChild less a i n ∧ minChild less a i n ≤ 2 * i + 2 ∧ minChild less a i n < n := by
  unfold minChild
  split
  · rename_i hb; simp at hb; omega
  · omega

/-- `down` on the prefix `n` only exchanges elements at positions `< n` -/
theorem downF_below (f : Nat) (a : Array α) (i n : Nat) :
    Below n a (downF less f a i n).1 := by
  induction f generalizing a i with
  | zero => exact Below.refl _ _
  | succ f ih =>
    rw [downF_succ]
    split
    · exact Below.refl _ _
    · have hc := minChild_range less a (i := i) (n := n) (by omega)
      split
      · exact (swap_below a (by omega) hc.2.2).trans (ih _ _)
      · exact Below.refl _ _

theorem downF_perm (f : Nat) (a : Array α) (i n : Nat) : (downF less f a i n).1.toList.Perm a.toList :=
  (downF_below less f a i n).1

theorem downF_size (f : Nat) (a : Array α) (i n : Nat) : (downF less f a i n).1.size = a.size :=
  (downF_below less f a i n).size

/-- `down` on the prefix `n` does not touch positions `≥ n` -/
theorem downF_frame (f : Nat) (a : Array α) (i n : Nat) (_ : n ≤ a.size)
    (k : Nat) (hk : n ≤ k) : (downF less f a i n).1[k]? = a[k]? :=
  (downF_below less f a i n).2 k hk

/-- the position returned by `down` is `≥ i`; if it is `i` the array is unchanged -/
theorem downF_pos (f : Nat) (a : Array α) (i n : Nat) :
    i ≤ (downF less f a i n).2 ∧ ((downF less f a i n).2 = i → (downF less f a i n).1 = a) := by
  induction f generalizing a i with
  | zero => exact ⟨Nat.le_refl _, fun _ => rfl⟩
  | succ f ih =>
    rw [downF_succ]
    split
    · exact ⟨Nat.le_refl _, fun _ => rfl⟩
    · split
      · have := (ih (a.swapIfInBounds i (minChild less a i n)) (minChild less a i n)).1
        have hc := minChild_range less a (i := i) (n := n) (by omega)
        constructor
        · omega
        · intro h; omega
      · exact ⟨Nat.le_refl _, fun _ => rfl⟩

theorem foldl_down_perm (n : Nat) (l : List Nat) (a : Array α) :
    (l.foldl (fun acc i => (down less acc i n).1) a).toList.Perm a.toList := by
  induction l generalizing a with
  | nil => exact List.Perm.refl _
  | cons i l ih => exact (ih _).trans (downF_perm less n a i n)

/-- the body shared by `Fix` and `Remove`: `if !down(h, i, n) { up(h, i) }` -/
def sift (a : Array α) (i n : Nat) : Array α :=
  if (down less a i n).2 then (down less a i n).1 else up less (down less a i n).1 i

theorem sift_below (a : Array α) {i n : Nat} (hi : i < n) : Below n a (sift less a i n) := by
  unfold sift
  split
  · exact downF_below less n a i n
  · exact (downF_below less n a i n).trans ((upF_below less i _ i).mono hi)

/-! ### `Fix`, `Remove` and `Pop` through `sift` -/

theorem fix_of_lt {a : Array α} {i : Nat} (hi : i < a.size) : fix less a i = some (sift less a i a.size) := by
  simp only [fix, sift, if_neg (Nat.not_le_of_lt hi)]
  split <;> rfl

theorem fix_of_ge {a : Array α} {i : Nat} (hi : a.size ≤ i) : fix less a i = if i = 0 then some a else none := by
  rw [fix, if_pos hi]

/-- the array of `Remove(h, i)` before its last element is cut off: element `i` exchanged with the last one and
the hole repaired -/
def removeArr (a : Array α) (i : Nat) : Array α :=
  if a.size - 1 ≠ i then sift less (a.swapIfInBounds i (a.size - 1)) i (a.size - 1) else a

theorem remove_eq (a : Array α) (i : Nat) :
    remove less a i = if i ≥ a.size then none else
      match (removeArr less a i).back? with
      | some x => some ((removeArr less a i).pop, x)
      | none => none := rfl

theorem sift_zero (a : Array α) (n : Nat) : sift less a 0 n = (down less a 0 n).1 := by
  unfold sift; split <;> rfl

/-- `Pop` is `Remove(h, 0)` -/
theorem pop_eq_remove (a : Array α) : pop less a = remove less a 0 := by
  rw [remove_eq, pop, removeArr]
  by_cases h0 : a.size = 0
  · rw [if_pos h0, if_pos (by omega)]
  · rw [if_neg h0, if_neg (by omega)]
    by_cases h1 : a.size - 1 ≠ 0
    · rw [if_pos h1, sift_zero]; rfl
    · have : a.swapIfInBounds 0 0 = a := by
        rw [Array.swapIfInBounds_def]; split <;> simp [Array.swap]
      rw [if_neg h1, show a.size - 1 = 0 by omega]
      simp only [this, down, downF]
      rfl

/-- the element that was at `i` is now the last one -/
theorem removeArr_spec {a : Array α} {i : Nat} (hi : i < a.size) :
    (removeArr less a i).toList.Perm a.toList ∧ (removeArr less a i)[a.size - 1]? = a[i]? := by
  unfold removeArr
  by_cases hne : a.size - 1 ≠ i
  · have hs := sift_below less (a.swapIfInBounds i (a.size - 1)) (i := i) (n := a.size - 1) (by omega)
    rw [if_pos hne]
    exact ⟨hs.1.trans (swap_perm a _ _),
      (hs.2 _ (Nat.le_refl _)).trans (by rw [get_swap a hi (by omega), sw_right])⟩
  · rw [if_neg hne, show a.size - 1 = i by omega]
    exact ⟨List.Perm.refl _, rfl⟩

theorem removeArr_size {a : Array α} {i : Nat} (hi : i < a.size) : (removeArr less a i).size = a.size := by
  simpa using (removeArr_spec less hi).1.length_eq

theorem remove_some {a a' : Array α} {i : Nat} {x : α} (h : remove less a i = some (a', x)) :
    i < a.size ∧ (removeArr less a i).back? = some x ∧ a' = (removeArr less a i).pop := by
  rw [remove_eq] at h
  by_cases hi : i ≥ a.size
  · rw [if_pos hi] at h; cases h
  · rw [if_neg hi] at h
    cases hb : (removeArr less a i).back? with
    | none => rw [hb] at h; cases h
    | some y => rw [hb] at h; cases h; exact ⟨by omega, rfl, rfl⟩

theorem remove_eq_none {a : Array α} {i : Nat} : remove less a i = none ↔ a.size ≤ i := by
  rw [remove_eq]
  by_cases hi : i ≥ a.size
  · rw [if_pos hi]; exact ⟨fun _ => hi, fun _ => rfl⟩
  · rw [if_neg hi]
    have hs := removeArr_size less (a := a) (i := i) (by omega)
    cases hb : (removeArr less a i).back? with
    | none => rw [Array.back?_eq_none_iff.1 hb] at hs; simp at hs; omega
    | some y => simp; omega

theorem back_pop_toList (a : Array α) (x : α) (hb : a.back? = some x) : a.toList = a.pop.toList ++ [x] := by
  obtain ⟨ys, rfl⟩ := Array.back?_eq_some_iff.mp hb
  simp

/-! ### order -/

/-- the hypotheses on `less`: asymmetric and negatively transitive (a strict weak order; asymmetry follows from
irreflexivity and transitivity) -/
structure SWO (less : α → α → Bool) : Prop where
  asym : ∀ x y, less x y = true → less y x = false
  neg : ∀ x y z, less x z = true → less x y = true ∨ less y z = true

theorem asym_of_irr_trans {less : α → α → Bool} (hirr : ∀ x, less x x = false)
    (htr : ∀ x y z, less x y = true → less y z = true → less x z = true) :
    ∀ x y, less x y = true → less y x = false := by
  intro x y h
  cases h2 : less y x with
  | false => rfl
  | true => have := htr x y x h h2; rw [hirr] at this; cases this

theorem SWO.of_irr_trans {less : α → α → Bool} (hirr : ∀ x, less x x = false)
    (htr : ∀ x y z, less x y = true → less y z = true → less x z = true)
    (hneg : ∀ x y z, less x z = true → less x y = true ∨ less y z = true) : SWO less where
  asym := asym_of_irr_trans hirr htr
  neg := hneg

theorem SWO.irr {less : α → α → Bool} (h : SWO less) (x : α) : less x x = false := by
  cases h2 : less x x with
  | false => rfl
  | true => have := h.asym x x h2; rw [h2] at this; cases this

variable {less}

theorem lessAt_asym (h : SWO less) (a : Array α) (i j : Nat)
    (hl : lessAt less a j i = true) : lessAt less a i j = false := by
  unfold lessAt at *
  cases hj : a[j]? <;> cases hi : a[i]? <;> simp_all
  exact h.asym _ _ hl

theorem lessAt_irr (h : SWO less) (a : Array α) (i : Nat) :
    lessAt less a i i = false := by
  unfold lessAt
  cases hi : a[i]? <;> simp
  exact h.irr _

/-- `a[i] ≤ a[j] ≤ a[k]` gives `a[i] ≤ a[k]` (where `x ≤ y` is `¬ less y x`); the middle index must be in range -/
theorem lessAt_trans (h : SWO less) (a : Array α) {i j k : Nat} (hj : j < a.size)
    (h1 : lessAt less a j i = false) (h2 : lessAt less a k j = false) : lessAt less a k i = false := by
  unfold lessAt at *
  cases hk : a[k]? <;> cases hi : a[i]? <;> simp
  rename_i x z
  have hjs : a[j]? = some a[j] := by simp [hj]
  rw [hjs, hi] at h1
  rw [hk, hjs] at h2
  simp at h1 h2
  cases hl : less x z with
  | false => rfl
  | true => rcases h.neg x a[j] z hl with h3 | h3 <;> simp_all

/-! ### the heap invariant and the sift invariant -/

/-- the heap invariant on the prefix `n`, for the edges whose parent is `≥ m` -/
def HeapFrom (less : α → α → Bool) (a : Array α) (n m : Nat) : Prop :=
  ∀ i c, Child i c → c < n → m ≤ i → lessAt less a c i = false

/-- in the index arithmetic of the Go code: `k` against its parent `(k - 1) / 2` -/
theorem heapFrom_iff (a : Array α) (n m : Nat) :
    HeapFrom less a n m ↔ ∀ k, 0 < k → k < n → m ≤ (k - 1) / 2 → lessAt less a k ((k - 1) / 2) = false := by
  constructor
  · intro h k h1 h2 h3; exact h _ k (child_parent (by omega)) h2 h3
  · intro h i c hc h2 h3
    have e := Child.unique (child_parent (by omega)) hc
    exact e ▸ h c (by omega) h2 (e ▸ h3)

/-- the heap invariant on the prefix `n` -/
def HeapN (less : α → α → Bool) (a : Array α) (n : Nat) : Prop :=
  ∀ k, 0 < k → k < n → lessAt less a k ((k - 1) / 2) = false

theorem heapN_iff_from (less : α → α → Bool) (a : Array α) (n : Nat) : HeapN less a n ↔ HeapFrom less a n 0 :=
  ⟨fun h => (heapFrom_iff a n 0).2 fun k h1 h2 _ => h k h1 h2,
    fun h k h1 h2 => (heapFrom_iff a n 0).1 h k h1 h2 (Nat.zero_le _)⟩

theorem isHeapUpTo_iff (less : α → α → Bool) (a : Array α) (n : Nat) :
    isHeapUpTo less a n = true ↔ HeapN less a n := by
  unfold isHeapUpTo HeapN
  simp only [List.all_eq_true, List.mem_range, Bool.or_eq_true, decide_eq_true_eq, Bool.not_eq_true']
  exact ⟨fun h k h1 h2 => (h k h2).resolve_left (by omega),
    fun h k h2 => (Nat.eq_zero_or_pos k).imp_right fun h0 => h k h0 h2⟩

theorem isHeapUpTo_iff_heapFrom (a : Array α) (n : Nat) : isHeapUpTo less a n = true ↔ HeapFrom less a n 0 :=
  (isHeapUpTo_iff less a n).trans (heapN_iff_from less a n)

theorem HeapFrom.mono {a : Array α} {n n' m : Nat} (h : HeapFrom less a n m)
    (hle : n' ≤ n) : HeapFrom less a n' m := fun i c hc h2 => h i c hc (by omega)

/-- the root of a heap is a minimum -/
theorem HeapFrom.root (h : SWO less) {a : Array α} {n : Nat} (hn : n ≤ a.size)
    (hh : HeapFrom less a n 0) : ∀ k, k < n → lessAt less a k 0 = false := by
  intro k
  induction k using Nat.strongRecOn with
  | _ k ih =>
    intro hk
    by_cases h0 : k = 0
    · subst h0; exact lessAt_irr h a 0
    · have hp := child_parent h0
      have hpk := Nat.lt_trans hp.lt hk
      exact lessAt_trans h a (Nat.lt_of_lt_of_le hpk hn) (ih _ hp.lt hpk) (hh _ k hp hk (Nat.zero_le _))

theorem heapN_mono {a : Array α} {n n' : Nat} (h : HeapN less a n) (hle : n' ≤ n) : HeapN less a n' :=
  (heapN_iff_from less a n').2 (((heapN_iff_from less a n).1 h).mono hle)

theorem heapN_root (h : SWO less) (a : Array α) (n : Nat) (hn : n ≤ a.size)
    (hh : HeapN less a n) : ∀ k, k < n → lessAt less a k 0 = false :=
  ((heapN_iff_from less a n).1 hh).root h hn

/-- heap (edges with parent `≥ m`) once position `x` is bypassed: the edges that do not touch `x` are in order,
and no child of `x` is less than the parent of `x`.  Nothing is said about the element at `x`. -/
def Hole (less : α → α → Bool) (a : Array α) (n m x : Nat) : Prop :=
  (∀ i c, Child i c → c < n → m ≤ i → c ≠ x → i ≠ x → lessAt less a c i = false) ∧
  (∀ g c, Child g x → Child x c → c < n → m ≤ g → lessAt less a c g = false)

/-- a heap `a` in which element `x` was replaced by anything (`a'` agrees with `a` elsewhere on the prefix) -/
theorem HeapFrom.hole (h : SWO less) {a a' : Array α} {n x : Nat} (hx : x < a.size)
    (heq : ∀ k, k < n → k ≠ x → a'[k]? = a[k]?) (hh : HeapFrom less a n 0) : Hole less a' n 0 x := by
  constructor
  · intro i c hc h2 h3 h4 h5
    rw [lessAt_congr less a a' _ _ (heq c h2 h4) (heq i (Nat.lt_trans hc.lt h2) h5)]
    exact hh i c hc h2 h3
  · intro g c hg hc h2 h3
    have hxn := Nat.lt_trans hc.lt h2
    rw [lessAt_congr less a a' _ _ (heq c h2 (Nat.ne_of_gt hc.lt)) (heq g (Nat.lt_trans hg.lt hxn) (Nat.ne_of_lt hg.lt))]
    exact lessAt_trans h a hx (hh g x hg hxn h3) (hh x c hc h2 (Nat.zero_le _))

/-- a position in order with its parent and with its children is no hole -/
theorem Hole.heap {a : Array α} {n m x : Nat} (hole : Hole less a n m x)
    (hpar : ∀ g, Child g x → x < n → m ≤ g → lessAt less a x g = false)
    (hch : ∀ c, Child x c → c < n → lessAt less a c x = false) : HeapFrom less a n m := by
  intro i c hc h2 h3
  by_cases hcx : c = x
  · subst hcx; exact hpar i hc h2 h3
  · by_cases hix : i = x
    · subst hix; exact hch c hc h2
    · exact hole.1 i c hc h2 h3 hcx hix

/-- `up` from a position whose children are in order restores the invariant -/
theorem upF_heapFrom (h : SWO less) (f : Nat) (a : Array α) (n j : Nat)
    (hn : n ≤ a.size) (hj : j < n) (hf : j ≤ f) (hole : Hole less a n 0 j)
    (hch : ∀ c, Child j c → c < n → lessAt less a c j = false) :
    HeapFrom less (upF less f a j) n 0 := by
  induction f generalizing a j with
  | zero => exact hole.heap (fun g hg _ _ => by omega) hch
  | succ f ih =>
    simp only [upF]
    split
    · exact hole.heap (fun g hg _ _ => by omega) hch
    · split
      · rename_i hj0 hl
        have hpj := child_parent hj0
        generalize (j - 1) / 2 = p at hl hpj
        have hjs : j < a.size := Nat.lt_of_lt_of_le hj hn
        have hps : p < a.size := Nat.lt_trans hpj.lt hjs
        have hpn : p < n := Nat.lt_trans hpj.lt hj
        have hpa : lessAt less a p j = false := lessAt_asym h a _ _ hl
        apply ih _ _ (by simpa using hn) hpn (by omega)
        · constructor
          · intro i c hc h2 h3 h4 h5
            have hcj : c ≠ j := fun e => h5 (Child.unique (e ▸ hc) hpj)
            rw [lessAt_swap less a hps hjs, sw_ne h4 hcj]
            by_cases hij : i = j
            · subst hij; rw [sw_right]; exact hole.2 p c hpj hc h2 (Nat.zero_le _)
            · rw [sw_ne h5 hij]; exact hole.1 i c hc h2 h3 hcj hij
          · intro g c hg hc h2 h3
            have hgj : g ≠ j := Nat.ne_of_lt (Nat.lt_trans hg.lt hpj.lt)
            rw [lessAt_swap less a hps hjs, sw_ne (Nat.ne_of_lt hg.lt) hgj]
            have hgp := hole.1 g p hg hpn h3 (Nat.ne_of_lt hpj.lt) hgj
            by_cases hcj : c = j
            · subst hcj; rw [sw_right]; exact hgp
            · rw [sw_ne (Nat.ne_of_gt hc.lt) hcj]
              exact lessAt_trans h a hps hgp (hole.1 p c hc h2 (Nat.zero_le _) hcj (Nat.ne_of_lt hpj.lt))
        · intro c hc h2
          rw [lessAt_swap less a hps hjs, sw_left]
          by_cases hcj : c = j
          · subst hcj; rw [sw_right]; exact hpa
          · rw [sw_ne (Nat.ne_of_gt hc.lt) hcj]
            exact lessAt_trans h a hps hpa (hole.1 p c hc h2 (Nat.zero_le _) hcj (Nat.ne_of_lt hpj.lt))
      · rename_i hj0 hl
        rw [Bool.not_eq_true] at hl
        exact hole.heap (fun g hg _ _ => Child.unique (child_parent hj0) hg ▸ hl) hch

theorem upF_heap (h : SWO less) (f : Nat) (a : Array α) (n j : Nat)
    (hn : n ≤ a.size) (hj : j < n) (hf : j ≤ f) (hole : Hole less a n 0 j)
    (hch : ∀ c, Child j c → c < n → lessAt less a c j = false) :
    HeapN less (upF less f a j) n :=
  (heapN_iff_from less _ n).2 (upF_heapFrom h f a n j hn hj hf hole hch)

theorem minChild_le (h : SWO less) (a : Array α) {i n c : Nat}
    (hc : Child i c) (hcn : c < n) : lessAt less a c (minChild less a i n) = false := by
  unfold minChild
  have hc' : c = 2 * i + 1 ∨ c = 2 * i + 1 + 1 := by omega
  split
  · rename_i hb
    simp at hb
    rcases hc' with rfl | rfl
    · exact lessAt_asym h a _ _ hb.2
    · exact lessAt_irr h a _
  · rename_i hb
    rcases hc' with rfl | rfl
    · exact lessAt_irr h a _
    · simpa [hcn] using hb

/-- `down` from a position that is in order with its parent restores the invariant -/
theorem downF_heap (h : SWO less) (f : Nat) (a : Array α) (n m i : Nat)
    (hn : n ≤ a.size) (hf : n ≤ f + i) (hole : Hole less a n m i)
    (hpar : ∀ g, Child g i → i < n → m ≤ g → lessAt less a i g = false) :
    HeapFrom less (downF less f a i n).1 n m := by
  induction f generalizing a i with
  | zero => exact hole.heap hpar (fun c hc h2 => by omega)
  | succ f ih =>
    rw [downF_succ]
    split
    · exact hole.heap hpar (fun c hc h2 => by omega)
    · have hr := minChild_range less a (i := i) (n := n) (by omega)
      have hmin := fun c hc hcn => minChild_le h a (i := i) (n := n) (c := c) hc hcn
      generalize minChild less a i n = j at hr hmin
      have hij : Child i j := ⟨hr.1, hr.2.1⟩
      have hjs : j < a.size := by omega
      have his : i < a.size := by omega
      split
      · rename_i hl
        apply ih _ _ (by simpa using hn) (by omega)
        · constructor
          · intro g c hc h2 h3 h4 h5
            rw [lessAt_swap less a his hjs]
            by_cases hci : c = i
            · subst hci
              rw [sw_left, sw_ne (Nat.ne_of_lt hc.lt) h5]
              exact hole.2 g j hc hij hr.2.2 h3
            · rw [sw_ne hci h4]
              by_cases hgi : g = i
              · subst hgi; rw [sw_left]; exact hmin c hc h2
              · rw [sw_ne hgi h5]; exact hole.1 g c hc h2 h3 hci hgi
          · intro g c hg hc h2 h3
            rw [Child.unique hg hij, lessAt_swap less a his hjs, sw_left,
              sw_ne (Nat.ne_of_gt (Nat.lt_trans hij.lt hc.lt)) (Nat.ne_of_gt hc.lt)]
            exact hole.1 j c hc h2 (Nat.le_trans h3 (Child.unique hg hij ▸ Nat.le_of_lt hij.lt))
              (Nat.ne_of_gt (Nat.lt_trans hij.lt hc.lt)) (Nat.ne_of_gt hij.lt)
        · intro g hg _ h3
          rw [Child.unique hg hij, lessAt_swap less a his hjs, sw_left, sw_right]
          exact lessAt_asym h a _ _ hl
      · rename_i hl
        exact hole.heap hpar (fun c hc h2 => lessAt_trans h a hjs (by simpa using hl) (hmin c hc h2))

theorem downF_noop (f : Nat) (a : Array α) (i n : Nat)
    (hc : ∀ c, Child i c → c < n → lessAt less a c i = false) : downF less f a i n = (a, i) := by
  cases f with
  | zero => rfl
  | succ f =>
    rw [downF_succ]
    split
    · rfl
    · split
      · rename_i hl
        have hr := minChild_range less a (i := i) (n := n) (by omega)
        rw [hc _ ⟨hr.1, hr.2.1⟩ hr.2.2] at hl; cases hl
      · rfl

/-- `if !down(h, i, n) { up(h, i) }` restores the invariant after element `i` of a heap was replaced -/
theorem sift_heap (h : SWO less) (a a' : Array α) (n i : Nat) (hn : n ≤ a.size)
    (hn' : n ≤ a'.size) (hi : i < n) (heq : ∀ k, k < n → k ≠ i → a'[k]? = a[k]?) (hh : HeapFrom less a n 0) :
    HeapFrom less (sift less a' i n) n 0 := by
  have hole : Hole less a' n 0 i := hh.hole h (by omega) heq
  have hup : _ → HeapFrom less (up less a' i) n 0 := upF_heapFrom h i a' n i hn' hi (Nat.le_refl _) hole
  unfold sift
  simp only [down, decide_eq_true_eq]
  by_cases hpar : ∀ g, Child g i → lessAt less a' i g = false
  · -- in order with the parent: `down` repairs; if it did not move anything, `up` finds a heap
    have hd := downF_heap h n a' n 0 i hn' (by omega) hole (fun g hg _ _ => hpar g hg)
    split
    · exact hd
    · have he : (downF less n a' i n).1 = a' := (downF_pos less n a' i n).2 (by have := (downF_pos less n a' i n).1; omega)
      rw [he] at hd ⊢
      exact hup (fun c hc h2 => hd i c hc h2 (Nat.zero_le _))
  · -- less than the parent, hence than the children: `down` does nothing, `up` repairs
    obtain ⟨g, hg⟩ := Classical.not_forall.1 hpar
    obtain ⟨hg, hl⟩ := Classical.not_imp.1 hg
    rw [Bool.not_eq_false] at hl
    have hch : ∀ c, Child i c → c < n → lessAt less a' c i = false := fun c hc h2 =>
      lessAt_trans h a' (j := g) (by omega) (lessAt_asym h a' _ _ hl) (hole.2 g c hg hc h2 (Nat.zero_le _))
    rw [downF_noop n a' i n hch, if_neg (Nat.lt_irrefl i)]
    exact hup hch

/-- the same with the body of `Fix` / `Remove` written out -/
theorem fix_heap (h : SWO less) (a a' : Array α) (n i : Nat) (hn : n ≤ a.size)
    (hn' : n ≤ a'.size) (hi : i < n) (heq : ∀ k, k < n → k ≠ i → a'[k]? = a[k]?) (hh : HeapN less a n) :
    HeapN less (if (down less a' i n).2 = true then (down less a' i n).1 else up less (down less a' i n).1 i) n :=
  (heapN_iff_from less _ n).2 (sift_heap h a a' n i hn hn' hi heq ((heapN_iff_from less a n).1 hh))

/-! ### cutting off the last element, `Init` -/

theorem HeapFrom.pop {a : Array α} (hh : HeapFrom less a (a.size - 1) 0) :
    HeapFrom less a.pop a.pop.size 0 := by
  intro i c hc h2 h3
  simp only [Array.size_pop] at h2
  rw [lessAt_congr less a a.pop c i (by rw [Array.getElem?_pop, if_pos h2])
    (by rw [Array.getElem?_pop, if_pos (by omega)])]
  exact hh i c hc h2 h3

theorem heapN_pop (a : Array α) (hh : HeapN less a (a.size - 1)) : HeapN less a.pop a.pop.size :=
  (heapN_iff_from less _ _).2 ((heapN_iff_from less a _).1 hh).pop

theorem removeArr_heap (h : SWO less) {a : Array α} {i : Nat} (hi : i < a.size)
    (hh : HeapFrom less a a.size 0) : HeapFrom less (removeArr less a i) (a.size - 1) 0 := by
  unfold removeArr
  by_cases hne : a.size - 1 ≠ i
  · rw [if_pos hne]
    exact sift_heap h a _ (a.size - 1) i (by omega) (by simp) (by omega)
      (fun k h1 h2 => by rw [get_swap a hi (by omega), sw_ne h2 (by omega)]) (hh.mono (by omega))
  · rw [if_neg hne]; exact hh.mono (by omega)

theorem init_loop (h : SWO less) (n m : Nat) (a : Array α) (hs : a.size = n)
    (hh : HeapFrom less a n m) :
    HeapFrom less ((List.range m).reverse.foldl (fun acc i => (down less acc i n).1) a) n 0 := by
  induction m generalizing a with
  | zero => simpa using hh
  | succ m ih =>
    rw [List.range_succ, List.reverse_append]
    simp only [List.reverse_cons, List.reverse_nil, List.nil_append, List.singleton_append, List.foldl_cons, down]
    apply ih _ ((downF_size less n a m n).trans hs)
    exact downF_heap h n a n m m (by omega) (by omega)
      ⟨fun i c hc h2 h3 _ _ => hh i c hc h2 (by omega), fun g c hg _ _ h3 => by omega⟩
      (fun g hg _ h3 => by omega)

end LiskVerif.GoHeap
