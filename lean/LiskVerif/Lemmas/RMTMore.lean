/-
`Update` of a set of leaves through their proof on a tree with an exact node store: the recomputed nodes are the
proper ancestors of the changed leaves with their values in the changed list, so the new root is the root of
that list and the refreshed append path is its list of peaks.
-/
import LiskVerif.Lemmas.RMTGenerate

namespace LiskVerif.RMT

/-! ### several updates of a list -/

def setMany {α : Type} (d : List α) (ps : List (Nat × α)) : List α := ps.foldl (fun d pu => d.set pu.1 pu.2) d

theorem length_setMany {α : Type} (ps : List (Nat × α)) : ∀ d : List α, (setMany d ps).length = d.length := by
  induction ps with
  | nil => intro d; rfl
  | cons a r ih => intro d; simp only [setMany, List.foldl_cons] at ih ⊢; rw [ih]; simp

theorem getElem?_setMany_not {α : Type} (ps : List (Nat × α)) (i : Nat) : ∀ d : List α,
    (∀ e ∈ ps, e.1 ≠ i) → (setMany d ps)[i]? = d[i]? := by
  induction ps with
  | nil => intro d _; rfl
  | cons a r ih =>
    intro d h
    simp only [setMany, List.foldl_cons] at ih ⊢
    rw [ih _ (fun e he => h e (by simp [he])), List.getElem?_set_ne (h a (by simp))]

theorem getElem?_setMany_mem {α : Type} (ps : List (Nat × α)) (i : Nat) (x : α) : ∀ d : List α,
    (ps.map (·.1)).Nodup → (i, x) ∈ ps → i < d.length → (setMany d ps)[i]? = some x := by
  induction ps with
  | nil => intro d _ h; cases h
  | cons a r ih =>
    intro d hnd hm hi
    simp only [List.map_cons] at hnd
    have hnd' := List.nodup_cons.mp hnd
    simp only [setMany, List.foldl_cons] at ih ⊢
    simp only [List.mem_cons] at hm
    rcases hm with rfl | hm
    · have := getElem?_setMany_not r i (d.set i x) (by
        intro e he e1
        apply hnd'.1
        rw [← e1]; exact List.mem_map.mpr ⟨e, he, rfl⟩)
      simp only [setMany] at this
      rw [this]
      simp [hi]
    · exact ih _ hnd'.2 hm (by simpa using hi)

theorem map_setMany {α β : Type} (f : α → β) (ps : List (Nat × α)) : ∀ d : List α,
    (setMany d ps).map f = setMany (d.map f) (ps.map fun pu => (pu.1, f pu.2)) := by
  induction ps with
  | nil => intro d; rfl
  | cons a r ih =>
    intro d
    simp only [setMany, List.foldl_cons, List.map_cons] at ih ⊢
    rw [ih, List.map_set]

theorem blk_setMany_other (L : List Bytes) (ps : List (Nat × Bytes)) (l k : Nat)
    (h : ∀ e ∈ ps, e.1 / 2 ^ l ≠ k) : blkCore (setMany L ps) l k = blkCore L l k := by
  apply List.ext_getElem?
  intro j
  rw [getElem?_blk, getElem?_blk]
  split
  · rename_i hj
    apply getElem?_setMany_not
    intro e he e1
    apply h e he
    rw [e1]
    exact mul_add_div_of_lt hj
  · rfl

/-- the refresh of the append path in `Update`: an entry is replaced by the recomputed node, if there is one -/
theorem refreshPath_spec (hf : HashFns) (L L' : List Bytes)
    (calcd : List (Nat × Bytes)) (h : Nat)
    (hcal1 : ∀ layer idx v, (L.length / 2 ^ layer) % 2 = 1 →
      locIndex (layer, L.length / 2 ^ layer - 1) h = some idx → calcd.lookup idx = some v →
      v = rootH hf (blkCore L' layer (L.length / 2 ^ layer - 1)))
    (hcal2 : ∀ layer idx, (L.length / 2 ^ layer) % 2 = 1 →
      locIndex (layer, L.length / 2 ^ layer - 1) h = some idx → calcd.lookup idx = none →
      rootH hf (blkCore L layer (L.length / 2 ^ layer - 1)) = rootH hf (blkCore L' layer (L.length / 2 ^ layer - 1))) :
    ∀ (f layer : Nat) (out : List Bytes),
      refreshPath calcd L.length h f layer (apSpec hf L f layer (L.length / 2 ^ layer)) = some out →
      out = apSpec hf L' f layer (L.length / 2 ^ layer) := by
  intro f
  induction f with
  | zero =>
    intro layer out ho
    simp only [refreshPath, apSpec, Option.some.injEq] at ho
    rw [← ho]; rfl
  | succ f ih =>
    intro layer out ho
    rw [apSpec_succ, ← div_pow_succ] at ho ⊢
    by_cases hb : (L.length / 2 ^ layer) % 2 = 1
    · rw [if_pos hb] at ho ⊢
      have hb' : ((L.length / 2 ^ layer) % 2 == 0) = false := by
        rw [hb]; rfl
      simp only [refreshPath, hb', Bool.false_eq_true, if_false, Nat.shiftRight_eq_div_pow] at ho
      cases hli : locIndex (layer, L.length / 2 ^ layer - 1) h with
      | none => rw [hli] at ho; cases ho
      | some idx =>
        rw [hli] at ho
        simp only at ho
        cases hrest : refreshPath calcd L.length h f (layer + 1) (apSpec hf L f (layer + 1) (L.length / 2 ^ (layer + 1))) with
        | none => rw [hrest] at ho; cases ho
        | some rest' =>
          rw [hrest] at ho
          simp only [Option.some.injEq] at ho
          rw [← ho, ih (layer + 1) rest' hrest]
          congr 1
          cases hlk : calcd.lookup idx with
          | none => exact hcal2 layer idx hb hli hlk
          | some v => exact hcal1 layer idx v hb hli hlk
    · rw [if_neg hb] at ho ⊢
      have hb' : ((L.length / 2 ^ layer) % 2 == 0) = true := by
        simp; omega
      cases hP : apSpec hf L f (layer + 1) (L.length / 2 ^ (layer + 1)) with
      | nil =>
        rw [hP] at ho
        simp only [refreshPath, Option.some.injEq] at ho
        have := length_apSpec hf L L' f (layer + 1) (L.length / 2 ^ (layer + 1))
        rw [hP] at this
        rw [← ho]
        exact (List.eq_nil_of_length_eq_zero this).symm
      | cons p rest =>
        rw [hP] at ho
        simp only [refreshPath, Nat.shiftRight_eq_div_pow, hb', if_true] at ho
        rw [← hP] at ho
        exact ih (layer + 1) out ho

/-! ### `Update` of several leaves -/

/-- the entry of the append path for a set bit `layer` of the size, the block `(layer, n / 2^layer - 1)`: its layer and
position fit the height, it is not empty, and it is a proper node -/
theorem peak_facts {n h layer : Nat} (hnH : n ≤ 2 ^ (h - 1)) (hh : 1 ≤ h) (hb : (n / 2 ^ layer) % 2 = 1) :
    layer + 1 ≤ h ∧ n / 2 ^ layer - 1 < 2 ^ (h - 1 - layer) ∧ (n / 2 ^ layer - 1) * 2 ^ layer < n ∧
      properCore n layer (n / 2 ^ layer - 1) := by
  have hp2 := Nat.two_pow_pos layer
  have hfull : (n / 2 ^ layer - 1 + 1) * 2 ^ layer ≤ n := by
    have := Nat.div_mul_le_self n (2 ^ layer)
    generalize n / 2 ^ layer = q at hb this ⊢
    rw [show q - 1 + 1 = q by omega]; exact this
  generalize n / 2 ^ layer - 1 = k at hfull ⊢
  rw [Nat.add_mul, Nat.one_mul] at hfull
  have hk : k * 2 ^ layer < n := by omega
  have hlay : layer ≤ h - 1 := by
    have : 2 ^ layer ≤ 2 ^ (h - 1) := by omega
    exact (Nat.pow_le_pow_iff_right (by decide)).1 this
  refine ⟨by omega, pos_lt_of_nonempty hnH hlay hk, hk, ?_⟩
  cases layer with
  | zero => exact proper_zero.2 (by simpa using hk)
  | succ j =>
    rw [proper_succ]
    have : k * 2 ^ (j + 1) + 2 ^ (j + 1) = (2 * k + 1) * 2 ^ j + 2 ^ j := by
      rw [← Nat.succ_mul]; exact succ_mul_pow_succ k j
    have := Nat.two_pow_pos j
    omega

/-- `Update` of distinct leaf positions on a tree with an exact store, when it succeeds: (root, append path, size) are
those of the changed list `M`. The sibling hashes are those of the old list (`siblingHashes_spec`); none of them lies
above a changed leaf, so the specification recomputes from the new leaves exactly the proper ancestors of the changed
leaves with their values in `M` (`spec_mixed`); the root is the entry of index 2, and `refreshPath` replaces an entry of
the append path by the recomputed node where there is one (`refreshPath_spec`). -/
theorem update_multi (hf : HashFns) (t t' : Tree) (L : List Bytes) (hst : Stored hf t L)
    (hsize : t.core.size = L.length) (hpath : t.core.path = peaks hf L) (pos : List Nat) (upd : List Bytes)
    (hnd : pos.Nodup) (hlt : ∀ p ∈ pos, p < L.length) (hlen : pos.length = upd.length)
    (hu : update hf t (pos.map fun p => 2 ^ getHeight L.length + p) upd = some t') :
    t'.core = ⟨rootH hf (setMany L (pos.zip (upd.map hf.leaf))),
      peaks hf (setMany L (pos.zip (upd.map hf.leaf))), L.length⟩ := by
  obtain ⟨_hsize, _hvalid, sibs, calcd, t1, r, p', hsib, hcalc, _hsave, hroot, hrp, rfl⟩ := update_some hu
  rw [hsize] at hcalc hrp
  have hne : pos ≠ [] := by
    rintro rfl
    have : upd = [] := List.eq_nil_of_length_eq_zero (by simpa using hlen.symm)
    subst this
    simp [calcPathNodes] at hcalc
  have hn := one_le_of_pos_lt hlt hne
  have hh1 := getHeight_pos L.length
  have hnH : L.length ≤ 2 ^ (getHeight L.length - 1) := le_two_pow_clog2 L.length
  have hlenq : (upd.map hf.leaf).length = pos.length := by simp; omega
  generalize hqdef : upd.map hf.leaf = q at hlenq
  generalize hMdef : setMany L (pos.zip q) = M
  have hM : M.length = L.length := by rw [← hMdef]; exact length_setMany _ _
  have hMval : ∀ e ∈ pos.zip q, M[e.1]? = some e.2 := fun e he => by
    rw [← hMdef]
    exact getElem?_setMany_mem _ e.1 e.2 L (by rw [List.map_fst_zip (by omega)]; exact hnd) he
      (hlt e.1 (List.of_mem_zip he).1)
  have hU : ∀ l k, (∀ p ∈ pos, p / 2 ^ l ≠ k) → k * 2 ^ l < L.length →
      rootH hf (blkCore L l k) = rootH hf (blkCore M l k) := fun l k hk _ => by
    rw [← hMdef, blk_setMany_other L _ l k (fun e he => hk e.1 (List.of_mem_zip he).1)]
  have hzip : ∀ p ∈ pos, ∃ e ∈ pos.zip q, e.1 = p := fun p hp => exists_mem_zip_fst hlenq hp
  have hA0mem := mem_layer0_fst pos q hlenq
  have hval := layer0_eq_valLay hf M pos q hMval
  -- the initial result map holds the new leaves
  have hpos2 := Nat.two_pow_pos (getHeight L.length)
  obtain ⟨hi1, hi2⟩ := initResult_lookup (pos.map fun p => 2 ^ getHeight L.length + p) q []
    ((nodup_leaves _ pos).2 hnd)
    (by intro i hi; obtain ⟨p, _, rfl⟩ := List.mem_map.1 hi; omega) (by simpa using hlenq)
  have hR0 : ∀ j m, m * 2 ^ j < L.length → j + 1 ≤ getHeight L.length →
      (initResult q (pos.map fun p => 2 ^ getHeight L.length + p) []).lookup (nIdx (getHeight L.length) j m) =
        if j ≤ 0 ∧ (∃ p ∈ pos, p / 2 ^ j = m) ∧ properCore L.length j m then some (rootH hf (blkCore M j m)) else none := by
    intro j m hm hj
    by_cases hmem : nIdx (getHeight L.length) j m ∈ pos.map fun p => 2 ^ getHeight L.length + p
    · obtain ⟨p, hp, hpe⟩ := List.mem_map.1 hmem
      obtain ⟨e1, e2⟩ := nIdx_inj_nonempty hnH (l := 0) (by omega) hj (by simpa using hlt p hp) hm
        (by rw [nIdx_zero]; exact hpe)
      subst e1; subst e2
      obtain ⟨e, he, rfl⟩ := hzip p hp
      have := hi2 (2 ^ getHeight L.length + e.1, e.2) (by
        rw [List.zip_map_left]; exact List.mem_map.mpr ⟨e, he, rfl⟩)
      rw [nIdx_zero, this, if_pos ⟨Nat.le_refl _, ⟨e.1, hp, by simp⟩, proper_zero.2 (hlt _ hp)⟩,
        blk_leaf M e.1 e.2 (hMval e he), rootH_singleton]
    · rw [hi1 _ hmem, if_neg]
      · rfl
      · rintro ⟨h0, ⟨p, hp, hpe⟩, _⟩
        have : j = 0 := by omega
        subst this
        simp only [Nat.pow_zero, Nat.div_one] at hpe
        subst hpe
        exact hmem (List.mem_map.2 ⟨p, hp, (nIdx_zero _ _).symm⟩)
  obtain ⟨s1, s2⟩ := spec_mixed hf L M hM (getHeight L.length) hnH pos hU (getHeight L.length - 1) 0
    ((layer0 pos q).map (·.1)) [] (by omega)
    (layer0_fst_ne_nil pos q hlenq hne)
    (fun k hk => by simpa using hlt k ((hA0mem k).1 hk))
    (layer0_fst_asc pos q hnd hlenq)
    (fun p hp => by simpa using (hA0mem p).2 hp)
  have hlook := s2 _ (fun a ha => ⟨a, (hA0mem a).1 ha, by simp⟩) hR0
  rw [List.append_nil, ← hval] at s1 hlook
  have hsibs := siblingHashes_spec hf t L hst hsize pos q hnd hlt hlenq hne (Or.inr (by rw [hsib]; simp))
  rw [hsib, Option.some.injEq] at hsibs
  rw [← hsibs] at s1 hlook
  rw [hqdef] at hcalc
  obtain ⟨c1, c2⟩ := calcPathNodes_spec hf L.length pos q sibs hnd hlt hlenq hne (Or.inr (by rw [hcalc]; simp))
  rw [hcalc, s1, Option.map_some, Option.some.injEq] at c1
  rw [← c1] at c2 hlook
  rw [c2 _ s1, Option.some.injEq] at hroot
  rw [hsize, hroot]
  simp only
  have hlt2 := lt_two_pow_getHeight L.length
  have hP : ∀ X : List Bytes, X.length = L.length →
      peaks hf X = apSpec hf X (getHeight L.length) 0 (L.length / 2 ^ 0) := fun X hX => by
    rw [peaks_eq_apSpec hf X _ (by rw [hX]; exact hlt2), hX, Nat.pow_zero, Nat.div_one]
  rw [hpath, hP L rfl] at hrp
  rw [hP M hM]
  -- an entry of the append path: the recomputed node, if a changed leaf lies below it
  have hpeak : ∀ layer idx, (L.length / 2 ^ layer) % 2 = 1 →
      locIndex (layer, L.length / 2 ^ layer - 1) (getHeight L.length) = some idx →
      (L.length / 2 ^ layer - 1) * 2 ^ layer < L.length ∧
      calcd.lookup idx = if ∃ p ∈ pos, p / 2 ^ layer = L.length / 2 ^ layer - 1 then
        some (rootH hf (blkCore M layer (L.length / 2 ^ layer - 1))) else none := by
    intro layer idx hb hli
    obtain ⟨hlay, hk, hkn, hprop⟩ := peak_facts hnH hh1 hb
    have := locIndex_nIdx hlay hk (Or.inr (by rw [hli]; simp))
    rw [hli, Option.some.injEq] at this
    rw [this, hlook layer _ hkn hlay]
    simp only [hprop, and_true]
    exact hkn
  rw [refreshPath_spec hf L M calcd (getHeight L.length) ?_ ?_ _ 0 p' hrp]
  · intro layer idx v hb hli hlk
    rw [(hpeak layer idx hb hli).2] at hlk
    split at hlk
    · exact (Option.some.inj hlk).symm
    · cases hlk
  · intro layer idx hb hli hlk
    obtain ⟨hkn, hl⟩ := hpeak layer idx hb hli
    rw [hl] at hlk
    split at hlk
    · cases hlk
    · rename_i hno
      exact hU layer _ (fun p hp e => hno ⟨p, hp, e⟩) hkn

end LiskVerif.RMT
