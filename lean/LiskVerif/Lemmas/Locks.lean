/-
Generic theorems about the interleaving semantics of `LiskVerif/Model/Locks.lean`
(any number of threads, any schedule):

  * `mutual_exclusion`      — a mutex held exclusively by one thread is held by no other thread;
  * `deadlock_free`         — if every thread runs a path satisfying the deadlock criteria
                              (`pathOk`), every reachable state is quiescent or some thread can take a
                              step that needs no communication partner;
  * `race_free`             — if every thread runs a path satisfying the lockset criterion, no
                              reachable state has two threads about to perform conflicting accesses;
  * `atomic_of_inv`         — under the same discipline nobody touches a variable while another thread is
                              inside a write section of its guard.
  * `Alias.race_free_owned`  — the same with memory regions handed out to one thread (`Model/Alias.lean`): a thread
                              may touch what it owns without a lock. `no_race_of_inv`, the lemma on one state
                              behind `race_free`, is `Alias.no_race_of_inv_owned` with no owner.
The invariants of the single thread come from `threads_reachable`; `Hist` / `hist_reachable` say that a thread
has run a prefix of its path and holds what that prefix leaves held, of which the lockset invariant is a reading.
-/
import LiskVerif.Model.Locks
import LiskVerif.Model.Alias

namespace LiskVerif.Locks

/-! ### paths -/

theorem pathOkFrom_nil (order : List String) (h : Held) : pathOkFrom order h [] = h.isEmpty := by
  simp [pathOkFrom, trace, heldAfterPath]

theorem pathOkFrom_cons (order : List String) (h : Held) (a : Prim) (p : Path) :
    pathOkFrom order h (a :: p) = (obsDl order (h, a) && pathOkFrom order (heldAfter h a) p) := by
  simp [pathOkFrom, trace, heldAfterPath, Bool.and_assoc]

theorem pathLsFrom_cons (g : List (String × String)) (h : Held) (a : Prim) (p : Path) :
    pathLsFrom g h (a :: p) = ((obsWf (h, a) && obsLockset g (h, a)) && pathLsFrom g (heldAfter h a) p) := by
  simp [pathLsFrom, trace]

theorem trace_append (h : Held) (p q : Path) :
    trace h (p ++ q) = trace h p ++ trace (heldAfterPath h p) q := by
  induction p generalizing h with
  | nil => simp [trace, heldAfterPath]
  | cons a p ih => simp [trace, heldAfterPath, ih]

/-- the primitives observed along a path are the path -/
theorem trace_map_snd (h : Held) (p : Path) : (trace h p).map (·.2) = p := by
  induction p generalizing h with
  | nil => rfl
  | cons a p ih => simp only [trace, List.map_cons, ih]

theorem heldAfterPath_append (h : Held) (p q : Path) :
    heldAfterPath h (p ++ q) = heldAfterPath (heldAfterPath h p) q := by
  induction p generalizing h with
  | nil => simp [heldAfterPath]
  | cons a p ih => simp [heldAfterPath, ih]

theorem pathLsFrom_append (g : List (String × String)) (h : Held) (p q : Path) :
    pathLsFrom g h (p ++ q) = (pathLsFrom g h p && pathLsFrom g (heldAfterPath h p) q) := by
  simp only [pathLsFrom, trace_append, List.all_append]

theorem pathOkFrom_append (order : List String) (h : Held) (p q : Path) :
    pathOkFrom order h (p ++ q) =
      ((trace h p).all (obsDl order) && pathOkFrom order (heldAfterPath h p) q) := by
  simp only [pathOkFrom, trace_append, heldAfterPath_append, List.all_append, Bool.and_assoc]

/-- a path that passes the deadlock criteria ends holding nothing -/
theorem pathOk_ends {order : List String} {p : Path} (hp : pathOk order p = true) : heldAfterPath [] p = [] := by
  simp only [pathOk, pathOkFrom, Bool.and_eq_true] at hp
  simpa using hp.2

/-! ### reachability -/

theorem reachable_induction {P : State → Prop} {s0 : State} (h0 : P s0)
    (hstep : ∀ {s i s'}, P s → stepT s i = some s' → P s') : ∀ s, Reachable s0 s → P s := by
  intro s ⟨sched, hr⟩
  induction sched generalizing s0 with
  | nil => simp [run] at hr; subst hr; exact h0
  | cons i sched ih =>
    simp only [run] at hr
    cases hs : stepT s0 i with
    | none => simp [hs] at hr
    | some s1 =>
      simp only [hs] at hr
      exact ih (hstep h0 hs) hr

theorem stepT_some {s s' : State} {i : Nat} (h : stepT s i = some s') :
    ∃ t t', s[i]? = some t ∧ stepThread s t = some t' ∧ s' = s.set i t' := by
  unfold stepT at h
  cases hi : s[i]? with
  | none => simp [hi] at h
  | some t =>
    simp only [hi] at h
    cases ht : stepThread s t with
    | none => simp [ht] at h
    | some t' => simp [ht] at h; exact ⟨t, t', rfl, ht, h.symm⟩

/-- The four ways a thread steps: it announces a `Lock()`, obtains the announced `Lock()` once nobody
holds the mutex, obtains an `RLock()` while no writer holds or awaits the mutex, or executes any other
primitive. -/
theorem stepThread_cases {s : State} {t t' : Thread} (hs : stepThread s t = some t') :
    (∃ m rest, t.prog = .acq m :: rest ∧ t.waiting ≠ some m ∧ t' = { t with waiting := some m }) ∨
    (∃ m rest, t.prog = .acq m :: rest ∧ t.waiting = some m ∧ anyHolds s m = false ∧
      t' = ⟨(m, .W) :: t.held, none, rest⟩) ∨
    (∃ m rest, t.prog = .racq m :: rest ∧ anyHoldsW s m = false ∧ writerWaiting s m = false ∧
      t' = ⟨(m, .R) :: t.held, t.waiting, rest⟩) ∨
    (∃ a rest, t.prog = a :: rest ∧ (∀ m, a ≠ .acq m) ∧ (∀ m, a ≠ .racq m) ∧
      t' = ⟨heldAfter t.held a, t.waiting, rest⟩) := by
  unfold stepThread at hs
  split at hs
  · cases hs
  · rename_i m rest hp
    split at hs
    · split at hs
      · cases hs
      · rename_i hw hfree
        exact Or.inr (Or.inl ⟨m, rest, hp, by simpa using hw, by simpa using hfree, (Option.some.inj hs).symm⟩)
    · rename_i hw
      exact Or.inl ⟨m, rest, hp, by simpa using hw, (Option.some.inj hs).symm⟩
  · rename_i m rest hp
    split at hs
    · cases hs
    · rename_i hfree
      simp only [Bool.or_eq_true, not_or, Bool.not_eq_true] at hfree
      exact Or.inr (Or.inr (Or.inl ⟨m, rest, hp, hfree.1, hfree.2, (Option.some.inj hs).symm⟩))
  · rename_i a rest h1 h2 hp
    exact Or.inr (Or.inr (Or.inr ⟨a, rest, hp, h1, h2, (Option.some.inj hs).symm⟩))

theorem stepThread_shape {s : State} {t t' : Thread} (hs : stepThread s t = some t') :
    (t'.held = t.held ∧ t'.prog = t.prog) ∨
    (∃ a rest, t.prog = a :: rest ∧ t'.held = heldAfter t.held a ∧ t'.prog = rest) := by
  rcases stepThread_cases hs with ⟨m, rest, _, _, rfl⟩ | ⟨m, rest, hp, _, _, rfl⟩ |
      ⟨m, rest, hp, _, _, rfl⟩ | ⟨a, rest, hp, _, _, rfl⟩
  · exact Or.inl ⟨rfl, rfl⟩
  all_goals exact Or.inr ⟨_, rest, hp, rfl, rfl⟩

theorem getElem?_set_cases {s : State} {k i : Nat} {t' x : Thread} (h : (s.set k t')[i]? = some x) :
    (i = k ∧ x = t') ∨ (i ≠ k ∧ s[i]? = some x) := by
  by_cases hik : k = i
  · subst hik
    left
    rw [List.getElem?_set_self'] at h
    cases hk : s[k]? with
    | none => simp [hk] at h
    | some y => simp [hk] at h; exact ⟨rfl, h.symm⟩
  · right
    rw [List.getElem?_set_ne hik] at h
    exact ⟨fun h' => hik h'.symm, h⟩

/-! ### invariants of the single thread -/

/-- A property of a thread (and its index) that the thread's own steps preserve, whatever the others do, holds in
every reachable state of every thread started with it. -/
theorem threads_reachable {ps : List Path} {P : Nat → Thread → Prop}
    (h0 : ∀ k p, ps[k]? = some p → P k ⟨[], none, p⟩)
    (hstep : ∀ {k s t t'}, P k t → stepThread s t = some t' → P k t') :
    ∀ s, Reachable (initState ps) s → ∀ k t, s[k]? = some t → P k t := by
  refine reachable_induction (fun k t hk => ?_) fun {s i s'} h hs k x hx => ?_
  · simp only [initState, List.getElem?_map, Option.map_eq_some_iff] at hk
    obtain ⟨p, hp, rfl⟩ := hk
    exact h0 k p hp
  · obtain ⟨t, t', hi, ht, rfl⟩ := stepT_some hs
    rcases getElem?_set_cases hx with ⟨rfl, rfl⟩ | ⟨_, hx'⟩
    · exact hstep (h _ t hi) ht
    · exact h k x hx'

/-- **History of a thread**: it has executed a prefix of the path it was started with, and holds what that
prefix leaves held. -/
def Hist (ps : List Path) (s : State) : Prop :=
  ∀ (k : Nat) (t : Thread), s[k]? = some t →
    ∃ done, ps[k]? = some (done ++ t.prog) ∧ t.held = heldAfterPath [] done

theorem hist_reachable {ps : List Path} : ∀ s, Reachable (initState ps) s → Hist ps s := by
  refine threads_reachable (fun k p hp => ⟨[], hp, rfl⟩) fun {k s t t'} ⟨done, hd, hh⟩ ht => ?_
  rcases stepThread_shape ht with ⟨h1, h2⟩ | ⟨a, rest, hpr, h1, h2⟩
  · exact ⟨done, by rw [h2]; exact hd, by rw [h1]; exact hh⟩
  · refine ⟨done ++ [a], by rw [h2, hd, hpr]; simp, ?_⟩
    rw [h1, hh, heldAfterPath_append]; rfl

/-! ### per-thread invariant for deadlock freedom -/

/-- the remaining program satisfies the criteria from the current lock set, and a pending `Lock()`
request is for the mutex the thread is about to acquire -/
def ThreadOk (order : List String) (t : Thread) : Prop :=
  pathOkFrom order t.held t.prog = true ∧
  ∀ m, t.waiting = some m → ∃ rest, t.prog = Prim.acq m :: rest

theorem threadOk_step {order : List String} {s : State} {t t' : Thread}
    (hok : ThreadOk order t) (hs : stepThread s t = some t') : ThreadOk order t' := by
  obtain ⟨hp, hw⟩ := hok
  -- after a step that consumes `a`, the rest is fine from the new lock set
  have hrest : ∀ a rest, t.prog = a :: rest → pathOkFrom order (heldAfter t.held a) rest = true := by
    intro a rest hpr
    rw [hpr, pathOkFrom_cons, Bool.and_eq_true] at hp
    exact hp.2
  rcases stepThread_cases hs with ⟨m, rest, hpr, _, rfl⟩ | ⟨m, rest, hpr, _, _, rfl⟩ |
      ⟨m, rest, hpr, _, _, rfl⟩ | ⟨a, rest, hpr, hna, _, rfl⟩
  · exact ⟨hp, fun m' hm' => by cases hm'; exact ⟨rest, hpr⟩⟩
  · exact ⟨hrest _ _ hpr, fun _ h => by cases h⟩
  · refine ⟨hrest _ _ hpr, fun m' hm' => ?_⟩
    obtain ⟨r, hr⟩ := hw m' hm'
    rw [hpr] at hr
    cases hr
  · refine ⟨hrest _ _ hpr, fun m' hm' => ?_⟩
    obtain ⟨r, hr⟩ := hw m' hm'
    rw [hpr] at hr
    cases hr
    exact absurd rfl (hna m')

def AllOk (order : List String) (s : State) : Prop := ∀ t ∈ s, ThreadOk order t

theorem allOk_reachable {order : List String} {ps : List Path}
    (h : ∀ p ∈ ps, pathOk order p = true) : ∀ s, Reachable (initState ps) s → AllOk order s := by
  intro s hr t ht
  obtain ⟨k, hk⟩ := List.getElem?_of_mem ht
  exact threads_reachable (P := fun _ t => ThreadOk order t)
    (fun k p hp => ⟨h p (List.mem_of_getElem? hp), by simp⟩) threadOk_step s hr k t hk

/-! ### progress -/

theorem exists_max_nat (l : List Nat) (h : l ≠ []) : ∃ x ∈ l, ∀ y ∈ l, y ≤ x := by
  cases hm : l.max? with
  | none => exact absurd (List.max?_eq_none_iff.mp hm) h
  | some x => exact ⟨x, List.max?_eq_some_iff.mp hm⟩

/-- ranks of all locks held by some thread -/
def heldRanks (order : List String) (s : State) : List Nat :=
  s.flatMap (fun t => t.held.map (fun e => rank order e.1))

theorem mem_heldRanks {order : List String} {s : State} {x : Nat} :
    x ∈ heldRanks order s ↔ ∃ t ∈ s, ∃ e ∈ t.held, rank order e.1 = x := by
  simp [heldRanks, List.mem_flatMap, List.mem_map]

theorem holds_iff {h : Held} {m : String} : holds h m = true ↔ ∃ e ∈ h, e.1 = m := by
  simp [holds, List.any_eq_true]

theorem holdsW_iff {h : Held} {m : String} : holdsW h m = true ↔ (m, Mode.W) ∈ h := by
  simp only [holdsW, List.any_eq_true, Bool.and_eq_true, beq_iff_eq]
  constructor
  · rintro ⟨⟨a, b⟩, he, h1, h2⟩
    simp at h1 h2; subst h1; subst h2; exact he
  · intro he; exact ⟨(m, Mode.W), he, rfl, rfl⟩

theorem anyHolds_iff {s : State} {m : String} :
    anyHolds s m = true ↔ ∃ t ∈ s, ∃ e ∈ t.held, e.1 = m := by
  simp [anyHolds, List.any_eq_true, holds_iff]

theorem anyHoldsW_imp {s : State} {m : String} (h : anyHoldsW s m = true) : anyHolds s m = true := by
  simp only [anyHoldsW, List.any_eq_true] at h
  obtain ⟨t, ht, hw⟩ := h
  rw [anyHolds_iff]
  exact ⟨t, ht, (m, Mode.W), holdsW_iff.mp hw, rfl⟩

theorem acq_can_step {s : State} {i : Nat} {t : Thread} {m : String} {rest : Path}
    (hi : s[i]? = some t) (hp : t.prog = Prim.acq m :: rest) (hfree : anyHolds s m = false) :
    canStepInternal s i = true := by
  simp only [canStepInternal, hi, atBlock, hp, stepThread, hfree]
  by_cases hw : (t.waiting == some m) = true
  · simp [hw]
  · simp [hw]

theorem racq_can_step {order : List String} {s : State} {i : Nat} {t : Thread} {m : String}
    {rest : Path} (hok : AllOk order s)
    (hi : s[i]? = some t) (hp : t.prog = Prim.racq m :: rest) (hfree : anyHolds s m = false) :
    ∃ j, canStepInternal s j = true := by
  have hW : anyHoldsW s m = false := by
    cases h : anyHoldsW s m with
    | false => rfl
    | true => rw [anyHoldsW_imp h] at hfree; cases hfree
  cases hww : writerWaiting s m with
  | false =>
    refine ⟨i, ?_⟩
    simp [canStepInternal, hi, atBlock, hp, stepThread, hW, hww]
  | true =>
    simp only [writerWaiting, List.any_eq_true, beq_iff_eq] at hww
    obtain ⟨t3, ht3, hw3⟩ := hww
    obtain ⟨j, hj⟩ := List.getElem?_of_mem ht3
    obtain ⟨r3, hr3⟩ := (hok t3 ht3).2 m hw3
    exact ⟨j, acq_can_step hj hr3 hfree⟩

theorem atBlock_iff {t : Thread} : atBlock t = true ↔ ∃ w rest, t.prog = Prim.block w :: rest := by
  unfold atBlock
  split
  · rename_i w rest hp; exact ⟨fun _ => ⟨w, rest, hp⟩, fun _ => rfl⟩
  · rename_i h; exact ⟨fun h' => (nomatch h'), fun ⟨w, rest, hp⟩ => absurd hp (h w rest)⟩

/-- a thread that is not parked at a communication, whose next acquisition (if any) concerns a
mutex nobody holds, yields an internal step of some thread -/
theorem thread_progress {order : List String} {s : State} {i : Nat} {t : Thread}
    (hok : AllOk order s) (hi : s[i]? = some t) (hne : t.prog ≠ [])
    (hnb : atBlock t = false)
    (hfree : ∀ m rest, (t.prog = Prim.acq m :: rest ∨ t.prog = Prim.racq m :: rest) → anyHolds s m = false) :
    ∃ j, canStepInternal s j = true := by
  cases hp : t.prog with
  | nil => exact absurd hp hne
  | cons a rest =>
    cases a with
    | acq m => exact ⟨i, acq_can_step hi hp (hfree m rest (Or.inl hp))⟩
    | racq m => exact racq_can_step hok hi hp (hfree m rest (Or.inr hp))
    | block w => simp [atBlock, hp] at hnb
    | _ => exact ⟨i, by simp [canStepInternal, hi, atBlock, hp, stepThread]⟩

/-- progress in every state satisfying the per-thread invariant -/
theorem progress_of_allOk {order : List String} {s : State} (hok : AllOk order s) :
    quiescent s = true ∨ ∃ i, canStepInternal s i = true := by
  by_cases hr : heldRanks order s = []
  · -- nobody holds a lock
    have hempty : ∀ t ∈ s, t.held = [] := by
      intro t ht
      cases hh : t.held with
      | nil => rfl
      | cons e es =>
        have : rank order e.1 ∈ heldRanks order s := mem_heldRanks.mpr ⟨t, ht, e, by simp [hh], rfl⟩
        rw [hr] at this; cases this
    have hfreeAll : ∀ m, anyHolds s m = false := by
      intro m
      cases h : anyHolds s m with
      | false => rfl
      | true =>
        obtain ⟨t, ht, e, he, _⟩ := anyHolds_iff.mp h
        rw [hempty t ht] at he; cases he
    cases hq : quiescent s with
    | true => exact Or.inl rfl
    | false =>
      right
      obtain ⟨t, ht, hnq⟩ := List.all_eq_false.mp hq
      obtain ⟨i, hi⟩ := List.getElem?_of_mem ht
      obtain ⟨hfin, hpark⟩ := Bool.or_eq_false_iff.mp (Bool.eq_false_iff.mpr hnq)
      have hne : t.prog ≠ [] := by
        intro h; simp [finished, h] at hfin
      have hnb : atBlock t = false := by
        cases hb : atBlock t with
        | false => rfl
        | true =>
          -- parked at a communication with no lock: then a Lock() request would be pending, impossible
          simp only [hb, hempty t ht, List.isEmpty_nil, Bool.and_true, Bool.true_and] at hpark
          cases hw : t.waiting with
          | none => simp [hw] at hpark
          | some m =>
            obtain ⟨r, hr2⟩ := (hok t ht).2 m hw
            obtain ⟨w, r', hp⟩ := atBlock_iff.mp hb
            rw [hr2] at hp
            cases hp
      exact thread_progress hok hi hne hnb (fun m _ _ => hfreeAll m)
  · -- the thread holding the lock of highest rank is never blocked
    right
    obtain ⟨x, hx, hmax⟩ := exists_max_nat _ hr
    obtain ⟨t, ht, e, he, hex⟩ := mem_heldRanks.mp hx
    obtain ⟨i, hi⟩ := List.getElem?_of_mem ht
    have hpo := (hok t ht).1
    have hne : t.prog ≠ [] := by
      intro h
      rw [h, pathOkFrom_nil] at hpo
      cases hh : t.held with
      | nil => rw [hh] at he; cases he
      | cons _ _ => simp [hh] at hpo
    have hnb : atBlock t = false := by
      cases hb : atBlock t with
      | false => rfl
      | true =>
        obtain ⟨w, rest, hp⟩ := atBlock_iff.mp hb
        rw [hp, pathOkFrom_cons] at hpo
        simp only [obsDl, obsNoBlocking, Bool.and_eq_true] at hpo
        have : t.held.isEmpty = true := hpo.1.2
        cases hh : t.held with
        | nil => rw [hh] at he; cases he
        | cons _ _ => simp [hh] at this
    refine thread_progress hok hi hne hnb ?_
    intro m rest hp
    -- the next acquisition of t is above every lock t holds, hence above every held lock
    have hord : ∀ e' ∈ t.held, rank order e'.1 < rank order m := by
      rcases hp with hp | hp <;>
      · rw [hp, pathOkFrom_cons] at hpo
        simp only [obsDl, obsOrder, Bool.and_eq_true, List.all_eq_true, decide_eq_true_eq] at hpo
        exact hpo.1.1.2
    cases h : anyHolds s m with
    | false => rfl
    | true =>
      obtain ⟨t2, ht2, e2, he2, hm2⟩ := anyHolds_iff.mp h
      have h1 : rank order m ≤ x := hmax _ (mem_heldRanks.mpr ⟨t2, ht2, e2, he2, by rw [hm2]⟩)
      have h2 := hord e he
      omega

/-- **Deadlock freedom.** If every thread runs a path satisfying the criteria, every reachable state is
quiescent (all threads finished or parked at a communication outside any critical section) or some
thread can take a step that needs no communication partner. -/
theorem deadlock_free (order : List String) (ps : List Path)
    (h : ∀ p ∈ ps, pathOk order p = true) (s : State) (hr : Reachable (initState ps) s) :
    quiescent s = true ∨ ∃ i, canStepInternal s i = true :=
  progress_of_allOk (allOk_reachable h s hr)

/-! ### mutual exclusion -/

/-- a mutex held exclusively by one thread is not held (in any mode) by another thread -/
def Excl (s : State) : Prop :=
  ∀ (i j : Nat) (ti tj : Thread) (m : String) (md : Mode), i ≠ j → s[i]? = some ti → s[j]? = some tj →
    (m, Mode.W) ∈ ti.held → (m, md) ∉ tj.held

/-- what a step can do to the lock set of the stepping thread -/
theorem stepThread_held {s : State} {t t' : Thread} (hs : stepThread s t = some t') :
    ∀ e ∈ t'.held, e ∈ t.held ∨ (e.2 = Mode.W ∧ anyHolds s e.1 = false) ∨ (e.2 = Mode.R ∧ anyHoldsW s e.1 = false) := by
  rcases stepThread_cases hs with ⟨m, rest, _, _, rfl⟩ | ⟨m, rest, _, _, hfree, rfl⟩ |
      ⟨m, rest, _, hfree, _, rfl⟩ | ⟨a, rest, _, hna, hnr, rfl⟩
  · exact fun e he => Or.inl he
  · intro e he
    rcases List.mem_cons.mp he with rfl | he
    · exact Or.inr (Or.inl ⟨rfl, hfree⟩)
    · exact Or.inl he
  · intro e he
    rcases List.mem_cons.mp he with rfl | he
    · exact Or.inr (Or.inr ⟨rfl, hfree⟩)
    · exact Or.inl he
  · intro e he
    cases a with
    | acq m => exact absurd rfl (hna m)
    | racq m => exact absurd rfl (hnr m)
    | rel m => exact Or.inl (List.mem_of_mem_erase he)
    | rrel m => exact Or.inl (List.mem_of_mem_erase he)
    | _ => exact Or.inl he

theorem excl_init (ps : List Path) : Excl (initState ps) := by
  intro i j ti tj m md _ hi _ hm
  have : ti ∈ initState ps := List.mem_of_getElem? hi
  simp only [initState, List.mem_map] at this
  obtain ⟨p, _, rfl⟩ := this
  cases hm

theorem excl_step {s s' : State} {k : Nat} (hex : Excl s) (hs : stepT s k = some s') : Excl s' := by
  obtain ⟨t, t', hk, ht, rfl⟩ := stepT_some hs
  have hheld := stepThread_held ht
  intro i j ti tj m md hij hi hj hmi hmj
  rcases getElem?_set_cases hi with ⟨rfl, rfl⟩ | ⟨hik, hi'⟩
  · rcases getElem?_set_cases hj with ⟨hjk, _⟩ | ⟨hjk, hj'⟩
    · exact hij hjk.symm
    · -- the stepping thread holds (m, W)
      rcases hheld _ hmi with h | ⟨_, hfree⟩ | ⟨hR, _⟩
      · exact hex i j t tj m md hij hk hj' h hmj
      · have : anyHolds s m = true := anyHolds_iff.mpr ⟨tj, List.mem_of_getElem? hj', (m, md), hmj, rfl⟩
        simp [this] at hfree
      · cases hR
  · rcases getElem?_set_cases hj with ⟨rfl, rfl⟩ | ⟨hjk, hj'⟩
    · -- the stepping thread holds (m, md), another thread holds (m, W)
      rcases hheld _ hmj with h | ⟨_, hfree⟩ | ⟨_, hfree⟩
      · exact hex i j ti t m md hij hi' hk hmi h
      · have : anyHolds s m = true := anyHolds_iff.mpr ⟨ti, List.mem_of_getElem? hi', (m, Mode.W), hmi, rfl⟩
        simp [this] at hfree
      · have : anyHoldsW s m = true := by
          simp only [anyHoldsW, List.any_eq_true]
          exact ⟨ti, List.mem_of_getElem? hi', holdsW_iff.mpr hmi⟩
        simp [this] at hfree
    · exact hex i j ti tj m md hij hi' hj' hmi hmj

/-- **Mutual exclusion** (holds for every program): in every reachable state a mutex held exclusively
by one thread is held by no other thread, in any mode. -/
theorem mutual_exclusion (ps : List Path) (s : State) (hr : Reachable (initState ps) s) : Excl s :=
  reachable_induction (excl_init ps) excl_step s hr

/-! ### lockset discipline implies race freedom -/

def AllLs (g : List (String × String)) (s : State) : Prop :=
  ∀ t ∈ s, pathLsFrom g t.held t.prog = true

theorem allLs_reachable {g : List (String × String)} {ps : List Path}
    (h : ∀ p ∈ ps, pathLs g p = true) : ∀ s, Reachable (initState ps) s → AllLs g s := by
  intro s hr t ht
  obtain ⟨k, hk⟩ := List.getElem?_of_mem ht
  obtain ⟨done, hd, hh⟩ := hist_reachable s hr k t hk
  have := h _ (List.mem_of_getElem? hd)
  rw [pathLs, pathLsFrom_append, Bool.and_eq_true] at this
  rw [hh]; exact this.2

theorem lockset_write {g : List (String × String)} {h : Held} {x : String}
    (hl : obsLockset g (h, Prim.write x) = true) : ∃ m, g.lookup x = some m ∧ (m, Mode.W) ∈ h := by
  simp only [obsLockset] at hl
  cases hg : g.lookup x with
  | none => simp [hg] at hl
  | some m => simp only [hg] at hl; exact ⟨m, rfl, holdsW_iff.mp hl⟩

theorem lockset_read {g : List (String × String)} {h : Held} {x : String}
    (hl : obsLockset g (h, Prim.read x) = true) : ∃ m md, g.lookup x = some m ∧ (m, md) ∈ h := by
  simp only [obsLockset] at hl
  cases hg : g.lookup x with
  | none => simp [hg] at hl
  | some m =>
    simp only [hg] at hl
    obtain ⟨e, he, hm⟩ := holds_iff.mp hl
    exact ⟨m, e.2, rfl, by rw [← hm]; exact he⟩

theorem pathLsFrom_head {g : List (String × String)} {t : Thread} {a : Prim} {rest : Path}
    (h : pathLsFrom g t.held t.prog = true) (hp : t.prog = a :: rest) : obsLockset g (t.held, a) = true := by
  rw [hp, pathLsFrom_cons] at h
  simp only [Bool.and_eq_true] at h
  exact h.1.2

theorem raceAt_true {s : State} {i j : Nat} (h : raceAt s i j = true) :
    ∃ ti tj a ra b rb, s[i]? = some ti ∧ s[j]? = some tj ∧ ti.prog = a :: ra ∧ tj.prog = b :: rb ∧
      i ≠ j ∧ conflict a b = true := by
  unfold raceAt at h
  split at h
  · rename_i ti tj hi hj
    split at h
    · rename_i a ra b rb hpi hpj
      simp only [Bool.and_eq_true, bne_iff_ne, ne_eq] at h
      exact ⟨ti, tj, a, ra, b, rb, hi, hj, hpi, hpj, h.1, h.2⟩
    · cases h
  · cases h

theorem conflict_true {a b : Prim} (h : conflict a b = true) :
    ∃ x, (a = .write x ∧ (b = .read x ∨ b = .write x)) ∨ (a = .read x ∧ b = .write x) := by
  cases a <;> cases b <;> simp only [conflict, beq_iff_eq, Bool.false_eq_true] at h
  · subst h; exact ⟨_, Or.inr ⟨rfl, rfl⟩⟩
  · subst h; exact ⟨_, Or.inl ⟨rfl, Or.inl rfl⟩⟩
  · subst h; exact ⟨_, Or.inl ⟨rfl, Or.inr rfl⟩⟩

/-- conflicting accesses by distinct threads cannot both satisfy the lockset discipline: the guard would
be held exclusively by one of them and held by the other -/
theorem no_conflict_of_lockset {g : List (String × String)} {s : State} (hex : Excl s) {i j : Nat}
    {ti tj : Thread} (hij : i ≠ j) (hi : s[i]? = some ti) (hj : s[j]? = some tj) {a b : Prim}
    (ha : obsLockset g (ti.held, a) = true) (hb : obsLockset g (tj.held, b) = true) :
    conflict a b = false := by
  cases hc : conflict a b with
  | false => rfl
  | true =>
    exfalso
    obtain ⟨x, ⟨rfl, rfl | rfl⟩ | ⟨rfl, rfl⟩⟩ := conflict_true hc
    · obtain ⟨m, hl, hm⟩ := lockset_write ha
      obtain ⟨m', md, hl', hm'⟩ := lockset_read hb
      cases hl.symm.trans hl'
      exact hex i j ti tj m md hij hi hj hm hm'
    · obtain ⟨m, hl, hm⟩ := lockset_write ha
      obtain ⟨m', hl', hm'⟩ := lockset_write hb
      cases hl.symm.trans hl'
      exact hex i j ti tj m Mode.W hij hi hj hm hm'
    · obtain ⟨m, md, hl, hm⟩ := lockset_read ha
      obtain ⟨m', hl', hm'⟩ := lockset_write hb
      cases hl.symm.trans hl'
      exact hex j i tj ti m md (fun h => hij h.symm) hj hi hm' hm

end LiskVerif.Locks

/-! ### owned (handed-out) memory regions

The criterion `obsLsOwned` of `Model/Alias.lean`: a thread may touch the regions it owns without a lock. The lockset
criterion is the case of no owner. -/

namespace LiskVerif.Alias
open LiskVerif.Locks

theorem pathLsOwnedFrom_cons (g : List (String × String)) (own : Owner) (k : Nat) (h : Held) (a : Prim)
    (p : Path) : pathLsOwnedFrom g own k h (a :: p) =
      (obsLsOwned g own k (h, a) && pathLsOwnedFrom g own k (heldAfter h a) p) := by
  simp [pathLsOwnedFrom, trace]

/-- every thread's remaining program satisfies the criterion from its current lock set -/
def AllLsOwned (g : List (String × String)) (own : Owner) (s : State) : Prop :=
  ∀ (k : Nat) (t : Thread), s[k]? = some t → pathLsOwnedFrom g own k t.held t.prog = true

/-- the head access of thread `k` satisfies the criterion -/
theorem head_ok {g : List (String × String)} {own : Owner} {s : State} (hls : AllLsOwned g own s)
    {k : Nat} {t : Thread} (hk : s[k]? = some t) {a : Prim} {rest : Path} (hp : t.prog = a :: rest) :
    obsLsOwned g own k (t.held, a) = true := by
  have := hls k t hk
  rw [hp, pathLsOwnedFrom_cons] at this
  simp only [Bool.and_eq_true] at this
  exact this.1

/-- the criterion at an access of `x`: thread `k` owns the region, or the region has no owner and the
lockset discipline holds -/
theorem obsLsOwned_access {g : List (String × String)} {own : Owner} {k : Nat} {h : Held} {a : Prim}
    {x : String} (ha : a = .read x ∨ a = .write x) (hok : obsLsOwned g own k (h, a) = true) :
    own x = some k ∨ (own x = none ∧ obsLockset g (h, a) = true) := by
  rcases ha with rfl | rfl <;>
  · simp only [obsLsOwned] at hok
    cases ho : own x with
    | none => rw [ho] at hok; exact Or.inr ⟨rfl, hok⟩
    | some o => rw [ho] at hok; exact Or.inl (congrArg some (beq_iff_eq.mp hok))

theorem no_race_of_inv_owned {g : List (String × String)} {own : Owner} {s : State}
    (hls : AllLsOwned g own s) (hex : Excl s) (i j : Nat) : raceAt s i j = false := by
  cases hr : raceAt s i j with
  | false => rfl
  | true =>
    exfalso
    obtain ⟨ti, tj, a, ra, b, rb, hi, hj, hpi, hpj, hij, hc⟩ := raceAt_true hr
    obtain ⟨x, hx⟩ := conflict_true hc
    have hax : a = .read x ∨ a = .write x := by rcases hx with ⟨h, _⟩ | ⟨h, _⟩ <;> simp [h]
    have hbx : b = .read x ∨ b = .write x := by rcases hx with ⟨_, h | h⟩ | ⟨_, h⟩ <;> simp [h]
    rcases obsLsOwned_access hax (head_ok hls hi hpi) with hoi | ⟨hn, hai⟩ <;>
      rcases obsLsOwned_access hbx (head_ok hls hj hpj) with hoj | ⟨hn', hbj⟩
    · -- an owned region: both threads would have to be its owner
      rw [hoi] at hoj; exact hij (Option.some.inj hoj)
    · rw [hoi] at hn'; cases hn'
    · rw [hn] at hoj; cases hoj
    · rw [no_conflict_of_lockset hex hij hi hj hai hbj] at hc; cases hc

/-- **Race freedom with handed-out results.** Thread `k` runs `ps[k]`; every access is either to a
region owned by the accessing thread or satisfies the lockset discipline. Then no reachable state has
two distinct threads about to perform conflicting accesses. -/
theorem race_free_owned (g : List (String × String)) (own : Owner) (ps : List Path)
    (h : ∀ (k : Nat) (p : Path), ps[k]? = some p → pathLsOwned g own k p = true)
    (s : State) (hr : Reachable (initState ps) s) (i j : Nat) : raceAt s i j = false :=
  no_race_of_inv_owned (fun k t hk => by
      obtain ⟨done, hd, hh⟩ := hist_reachable s hr k t hk
      have := h k _ hd
      rw [pathLsOwned, pathLsOwnedFrom, trace_append, List.all_append, Bool.and_eq_true] at this
      rw [hh]; exact this.2)
    (mutual_exclusion ps s hr) i j

theorem obsLsOwned_none (g : List (String × String)) (k : Nat) (o : Obs) :
    obsLsOwned g (fun _ => none) k o = obsLockset g o := by
  obtain ⟨h, a⟩ := o
  cases a <;> rfl

end LiskVerif.Alias

namespace LiskVerif.Locks

theorem no_race_of_inv {g : List (String × String)} {s : State} (hls : AllLs g s) (hex : Excl s)
    (i j : Nat) : raceAt s i j = false :=
  Alias.no_race_of_inv_owned (own := fun _ => none) (fun k t hk => List.all_eq_true.mpr fun o ho => by
    rw [Alias.obsLsOwned_none]
    exact (Bool.and_eq_true_iff.mp (List.all_eq_true.mp (hls t (List.mem_of_getElem? hk)) o ho)).2) hex i j

/-- lockset discipline + mutual exclusion: nobody touches `x` while another thread is inside a write
section of its guard, nobody writes `x` while another thread is inside a read section -/
theorem atomic_of_inv {g : List (String × String)} {s : State} (hls : AllLs g s) (hex : Excl s)
    {i j : Nat} {ti tj : Thread} (hij : i ≠ j) (hi : s[i]? = some ti) (hj : s[j]? = some tj)
    {x m : String} (hg : g.lookup x = some m) (rest : Path) :
    ((m, Mode.W) ∈ ti.held → tj.prog ≠ Prim.read x :: rest ∧ tj.prog ≠ Prim.write x :: rest) ∧
    ((m, Mode.R) ∈ ti.held → tj.prog ≠ Prim.write x :: rest) := by
  have htj := hls tj (List.mem_of_getElem? hj)
  refine ⟨fun hw => ⟨fun hp => ?_, fun hp => ?_⟩, fun hrd hp => ?_⟩
  · obtain ⟨m', md, hl, hm⟩ := lockset_read (pathLsFrom_head htj hp)
    cases hg.symm.trans hl
    exact hex i j ti tj m md hij hi hj hw hm
  · obtain ⟨m', hl, hm⟩ := lockset_write (pathLsFrom_head htj hp)
    cases hg.symm.trans hl
    exact hex i j ti tj m Mode.W hij hi hj hw hm
  · obtain ⟨m', hl, hm⟩ := lockset_write (pathLsFrom_head htj hp)
    cases hg.symm.trans hl
    exact hex j i tj ti m Mode.R (fun h => hij h.symm) hj hi hm hrd

/-- **Race freedom.** If every thread runs a path satisfying the lockset criterion for the guard
assignment `g`, then in no reachable state two distinct threads are about to perform conflicting
accesses (same variable, at least one write). -/
theorem race_free (g : List (String × String)) (ps : List Path)
    (h : ∀ p ∈ ps, pathLs g p = true) (s : State) (hr : Reachable (initState ps) s) (i j : Nat) :
    raceAt s i j = false :=
  no_race_of_inv (allLs_reachable h s hr) (mutual_exclusion ps s hr) i j

end LiskVerif.Locks
