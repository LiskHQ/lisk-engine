/-
The layers of the regular Merkle tree (`LiskVerif.Model.RMT`): the number of nodes that `getLayerStructure`
gives to every layer, the sibling of a node inside its layer (`sibOf`), the aligned blocks of leaves below the nodes
with the equations of a parent block (`rootH_blk_parent*`), and the location at which `getRightSiblingInfo` finds the
node that holds the hash of a block.
-/
import LiskVerif.Lemmas.RMT

namespace LiskVerif.RMT

/-! ### powers of two -/

theorem mul_pow_succ (k l : Nat) : k * 2 ^ (l + 1) = 2 * k * 2 ^ l := by
  rw [Nat.pow_succ, Nat.mul_comm (2 ^ l) 2, ← Nat.mul_assoc, Nat.mul_comm k 2]

/-- a layer holds twice as many positions as the layer above -/
theorem two_pow_sub_layer {h l : Nat} (hl : l + 1 ≤ h) : 2 ^ (h - l) = 2 * 2 ^ (h - (l + 1)) := by
  rw [show h - l = (h - (l + 1)) + 1 by omega, Nat.pow_succ]; omega

theorem succ_mul_pow_succ (k l : Nat) : (k + 1) * 2 ^ (l + 1) = (2 * k + 1) * 2 ^ l + 2 ^ l := by
  rw [mul_pow_succ, ← Nat.succ_mul]; rfl

theorem div_pow_succ (i l : Nat) : i / 2 ^ (l + 1) = i / 2 ^ l / 2 := by
  rw [Nat.pow_succ, Nat.div_div_eq_div_mul]

theorem mul_pow_div_succ (s a b : Nat) (hab : b = a + 1) : s * 2 ^ a / 2 ^ b = s / 2 := by
  subst hab
  rw [Nat.pow_succ, ← Nat.div_div_eq_div_mul, Nat.mul_div_cancel _ (Nat.two_pow_pos a)]

theorem div_pow_lt {i h l : Nat} (hi : i < 2 ^ h) (hl : l ≤ h) : i / 2 ^ l < 2 ^ (h - l) := by
  rw [Nat.div_lt_iff_lt_mul (Nat.two_pow_pos l), Nat.pow_sub_mul_pow 2 hl]; exact hi

theorem add_div_pow {a l j : Nat} (h : l ≤ a) : (2 ^ a + j) / 2 ^ l = 2 ^ (a - l) + j / 2 ^ l := by
  rw [← Nat.pow_sub_mul_pow 2 h, Nat.add_comm, Nat.add_mul_div_right _ _ (Nat.two_pow_pos l), Nat.add_comm]

theorem mul_add_div_of_lt {a b r : Nat} (hr : r < b) : (a * b + r) / b = a := by
  rw [Nat.add_comm, Nat.add_mul_div_right _ _ (by omega), Nat.div_eq_of_lt hr, Nat.zero_add]

/-- the node above a non-empty node is not empty -/
theorem half_nonempty {n l k : Nat} (h : k * 2 ^ l < n) : k / 2 * 2 ^ (l + 1) < n := by
  have : k / 2 * 2 ^ (l + 1) ≤ k * 2 ^ l := by
    rw [Nat.pow_succ, Nat.mul_comm (2 ^ l) 2, ← Nat.mul_assoc]
    exact Nat.mul_le_mul_right _ (Nat.div_mul_le_self k 2)
  omega

/-- a non-empty node of layer `l` in a tree of at most `2^a` leaves has a position below `2^(a-l)` -/
theorem pos_lt_of_nonempty {n a l k : Nat} (hn : n ≤ 2 ^ a) (hl : l ≤ a) (hk : k * 2 ^ l < n) :
    k < 2 ^ (a - l) := by
  have : k * 2 ^ l < 2 ^ (a - l) * 2 ^ l := by rw [Nat.pow_sub_mul_pow 2 hl]; omega
  exact Nat.lt_of_mul_lt_mul_right this

/-! ### `ceil(log2 n)` and the height -/

theorem clog2_two_pow (a : Nat) : clog2 (2 ^ a) = a := by
  unfold clog2
  cases a with
  | zero => simp
  | succ a =>
    have := Nat.two_pow_pos a
    rw [if_neg (by omega), log2_eq_of (k := a) (by omega) (by omega)]

theorem clog2_ge2 {n : Nat} (h : 2 ≤ n) : clog2 n = Nat.log2 (n - 1) + 1 := by
  unfold clog2; rw [if_neg (by omega)]

/-- for `n ≥ 2`: `getHeight n = log2 (n - 1) + 2` -/
theorem getHeight_ge2 {n : Nat} (h : 2 ≤ n) : getHeight n = Nat.log2 (n - 1) + 2 := by
  unfold getHeight; rw [clog2_ge2 h]

theorem getHeight_pos (n : Nat) : 1 ≤ getHeight n := Nat.le_add_left 1 _

/-- one leaf more than a power of two needs one more layer -/
theorem getHeight_two_pow_succ (a : Nat) : getHeight (2 ^ a + 1) = a + 2 := by
  unfold getHeight clog2
  rw [if_neg (by have := Nat.two_pow_pos a; omega), Nat.add_sub_cancel, Nat.log2_two_pow]

theorem two_le_of_clog2_pos {n : Nat} (h : 1 ≤ clog2 n) : 2 ≤ n := by
  unfold clog2 at h; split at h <;> omega

theorem two_pow_clog2_lt {n : Nat} (h : 2 ≤ n) : 2 ^ (clog2 n - 1) < n := by
  have := @Nat.log2_self_le (n - 1) (by omega)
  rw [clog2_ge2 h, Nat.add_sub_cancel]
  omega

/-! ### the sibling inside a layer -/

/-- the position of the sibling: the other child of the parent `k / 2` -/
def sibOf (k : Nat) : Nat := if k % 2 = 0 then k + 1 else k - 1

theorem sib_eq (k : Nat) : (k / 2) * 2 + (k + 1) % 2 = sibOf k := by
  unfold sibOf; split <;> omega

theorem sibOf_even {k : Nat} (h : k % 2 = 0) : sibOf k = k + 1 := by unfold sibOf; rw [if_pos h]

theorem sibOf_odd {k : Nat} (h : k % 2 = 1) : sibOf k = k - 1 := by unfold sibOf; rw [if_neg (by omega)]

theorem sibOf_ne (k : Nat) : sibOf k ≠ k := by unfold sibOf; split <;> omega
theorem sibOf_div (k : Nat) : sibOf k / 2 = k / 2 := by unfold sibOf; split <;> omega

/-- a node that is not below the parent of `k` is not the sibling of `k` -/
theorem sibOf_mem_of_ne_half {k x : Nat} {S : List Nat} (h : sibOf k ∈ x :: S) (hx : x / 2 ≠ k / 2) : sibOf k ∈ S :=
  (List.mem_cons.1 h).resolve_left fun e => hx (e ▸ sibOf_div k)

theorem sibOf_not_mem {k : Nat} {S : List Nat} (h : ∀ x ∈ S, x / 2 ≠ k / 2) : sibOf k ∉ S :=
  fun hm => h _ hm (sibOf_div k)

theorem sibOf_add_even (e k : Nat) (he : e % 2 = 0) : sibOf (e + k) = e + sibOf k := by
  have h : (e + k) % 2 = k % 2 := by rw [Nat.add_mod, he, Nat.zero_add, Nat.mod_mod]
  unfold sibOf
  rw [h]
  split
  · exact Nat.add_assoc e k 1
  · exact Nat.add_sub_assoc (Nat.pos_of_ne_zero (fun h0 => by simp [h0] at *)) e

theorem sibOf_succ_le {k P : Nat} (h1 : k < P) (h2 : P % 2 = 0) : sibOf k + 1 ≤ P := by
  unfold sibOf; split <;> omega

/-- a node and its sibling: the larger of the two is the right child `2 * (k / 2) + 1` of their parent -/
theorem pair_lt_iff (k P n : Nat) : (2 * (k / 2) + 1) * P < n ↔ k * P < n ∧ sibOf k * P < n := by
  unfold sibOf
  rcases Nat.mod_two_eq_zero_or_one k with h | h
  · rw [if_pos h, show 2 * (k / 2) + 1 = k + 1 by omega]
    exact ⟨fun h' => ⟨Nat.lt_of_le_of_lt (Nat.mul_le_mul_right _ (Nat.le_succ k)) h', h'⟩, fun h' => h'.2⟩
  · rw [if_neg (by omega), show 2 * (k / 2) + 1 = k by omega]
    exact ⟨fun h' => ⟨h', Nat.lt_of_le_of_lt (Nat.mul_le_mul_right _ (Nat.sub_le k 1)) h'⟩, fun h' => h'.1⟩

/-! ### the layer structure, exactly -/

theorem ceil_half (T j : Nat) : ((T + 1) / 2 + 2 ^ j - 1) / 2 ^ j = (T + 2 ^ (j + 1) - 1) / 2 ^ (j + 1) := by
  have e : 2 ^ (j + 1) = 2 * 2 ^ j := by omega
  rw [e, ← Nat.div_div_eq_div_mul]
  congr 1
  have hp := Nat.two_pow_pos j
  omega

/-- one step of `getLayerStructure`: with `T = m + r % 2` entries at the current layer (the proper nodes and
possibly one lifted subtree) there are `ceil(T / 2)` entries one layer higher -/
theorem layerMax_step (j m r : Nat) : layerMax (j + 1) m r = layerMax j ((m + r % 2) / 2) (r + m % 2) := by
  rw [layerMax]
  rcases Nat.mod_two_eq_zero_or_one r with h | h <;> simp [h]

/-- `j + 1` layers higher there are `ceil(T / 2^j) / 2` proper nodes -/
theorem layerMax_closed (j : Nat) : ∀ m r, layerMax (j + 1) m r = ((m + r % 2 + 2 ^ j - 1) / 2 ^ j) / 2 := by
  induction j with
  | zero => intro m r; rw [layerMax_step]; simp [layerMax]
  | succ j ih =>
    intro m r
    rw [layerMax_step, ih, ← ceil_half (m + r % 2) j]
    congr 3
    omega

theorem layerStructure_getD_zero (n : Nat) : (layerStructure n).getD 0 0 = n := by
  unfold layerStructure
  have h : 0 < getHeight n := getHeight_pos n
  simp [List.getD, h, layerMax]

/-- above the leaves, a layer holds the nodes whose right half is not empty -/
theorem lt_layerStructure_succ (n l k : Nat) :
    k < (layerStructure n).getD (l + 1) 0 ↔ (2 * k + 1) * 2 ^ l < n := by
  have hp := Nat.two_pow_pos l
  have hcl : ∀ x, x < ((n + 2 ^ l - 1) / 2 ^ l) ↔ x * 2 ^ l < n := by
    intro x
    rw [Nat.lt_div_iff_mul_lt hp]
    constructor <;> intro h <;> omega
  unfold layerStructure
  by_cases hlt : l + 1 < getHeight n
  · have : ((List.range (getHeight n)).map fun layer => layerMax layer n 0).getD (l + 1) 0 = layerMax (l + 1) n 0 := by
      simp [List.getD, hlt]
    rw [this, layerMax_closed]
    simp only [Nat.zero_mod, Nat.add_zero]
    rw [← hcl]
    omega
  · have : ((List.range (getHeight n)).map fun layer => layerMax layer n 0).getD (l + 1) 0 = 0 := by
      simp only [List.getD]
      rw [List.getElem?_eq_none (by simp; omega)]; rfl
    rw [this]
    constructor
    · intro h; omega
    · intro h
      exfalso
      have h1 := le_two_pow_clog2 n
      have h2 : 2 ^ clog2 n ≤ 2 ^ l := Nat.pow_le_pow_right (by decide) (by unfold getHeight at hlt; omega)
      have : 2 ^ l ≤ (2 * k + 1) * 2 ^ l := Nat.le_mul_of_pos_left _ (by omega)
      omega

/-! ### stored nodes and the blocks of leaves below them -/

/-- a node `(layer, k)` that is stored: a leaf, or a block whose right half is not empty. The lemmas about it are named
`proper_*`: the invariant of the node store is stated with the same predicate under the name `proper` (`RMTBlocks`,
over Mathlib's power; `proper_eq`). -/
def properCore (n layer k : Nat) : Prop :=
  (layer = 0 ∧ k < n) ∨ (1 ≤ layer ∧ (2 * k + 1) * 2 ^ (layer - 1) < n)

instance (n l k : Nat) : Decidable (properCore n l k) := by unfold properCore; exact inferInstance

theorem proper_zero {n k : Nat} : properCore n 0 k ↔ k < n := by simp [properCore]

theorem proper_succ {n l k : Nat} : properCore n (l + 1) k ↔ (2 * k + 1) * 2 ^ l < n := by simp [properCore]

theorem proper_lt {n layer k : Nat} (h : properCore n layer k) : k * 2 ^ layer < n := by
  cases layer with
  | zero => simpa using proper_zero.1 h
  | succ l =>
    have := proper_succ.1 h
    have e : (2 * k + 1) * 2 ^ l = k * 2 ^ (l + 1) + 2 ^ l := by rw [Nat.add_one_mul (2 * k), mul_pow_succ]
    have hp := Nat.two_pow_pos l
    omega

/-- the parent of a non-empty node is stored exactly when the sibling is not empty -/
theorem proper_parent_iff {n l k : Nat} (hk : k * 2 ^ l < n) : properCore n (l + 1) (k / 2) ↔ sibOf k * 2 ^ l < n := by
  rw [proper_succ, pair_lt_iff]; exact and_iff_right hk

/-- the leaves below the node `(layer, k)`. The lemmas about it are named `*_blk`, `blk_*`: the invariant of the node
store is stated with the same function under the name `blk` (`RMTBlocks`, over Mathlib's power; `blk_eq`). -/
def blkCore (l : List Bytes) (layer k : Nat) : List Bytes := (l.drop (k * 2 ^ layer)).take (2 ^ layer)

theorem getElem?_blk (L : List Bytes) (l k j : Nat) :
    (blkCore L l k)[j]? = if j < 2 ^ l then L[k * 2 ^ l + j]? else none := by
  unfold blkCore
  rw [List.getElem?_take]
  split
  · rw [List.getElem?_drop]
  · rfl

theorem length_blk (L : List Bytes) (l k : Nat) : (blkCore L l k).length = min (2 ^ l) (L.length - k * 2 ^ l) := by
  simp [blkCore]

theorem blk_leaf (L : List Bytes) (k : Nat) (x : Bytes) (hk : L[k]? = some x) : blkCore L 0 k = [x] := by
  apply List.ext_getElem?
  intro j
  rw [getElem?_blk]
  cases j with
  | zero => simp [hk]
  | succ j => simp

theorem blk_top_all (L : List Bytes) (a : Nat) (h : L.length ≤ 2 ^ a) : blkCore L a 0 = L := by
  simp [blkCore, List.take_of_length_le h]

theorem blk_append_left (l x : List Bytes) (layer k : Nat) (h : (k + 1) * 2 ^ layer ≤ l.length) :
    blkCore (l ++ x) layer k = blkCore l layer k := by
  unfold blkCore
  have hp := Nat.two_pow_pos layer
  rw [Nat.add_mul, Nat.one_mul] at h
  rw [List.drop_append_of_le_length (by omega), List.take_append_of_le_length (by simp; omega)]

theorem blk_take (L : List Bytes) (m l k : Nat) (h : (k + 1) * 2 ^ l ≤ m) : blkCore (L.take m) l k = blkCore L l k := by
  apply List.ext_getElem?
  intro j
  rw [getElem?_blk, getElem?_blk]
  split
  · rw [List.getElem?_take, if_pos (by rw [Nat.add_mul, Nat.one_mul] at h; omega)]
  · rfl

theorem blk_drop (L : List Bytes) (a l k : Nat) (hl : l ≤ a) :
    blkCore (L.drop (2 ^ a)) l k = blkCore L l (2 ^ (a - l) + k) := by
  apply List.ext_getElem?
  intro j
  rw [getElem?_blk, getElem?_blk, List.getElem?_drop, Nat.add_mul, Nat.pow_sub_mul_pow 2 hl, Nat.add_assoc]

theorem blk_split (L : List Bytes) (l m : Nat) : blkCore L (l + 1) m = blkCore L l (2 * m) ++ blkCore L l (2 * m + 1) := by
  unfold blkCore
  rw [mul_pow_succ m l, show 2 ^ (l + 1) = 2 ^ l + 2 ^ l by omega, List.take_add, List.drop_drop, Nat.add_one_mul (2 * m)]

/-- a node with a non-empty right child -/
theorem rootH_blk_pair (hf : HashFns) (L : List Bytes) (l m : Nat) (h : (2 * m + 1) * 2 ^ l < L.length) :
    rootH hf (blkCore L (l + 1) m) = hf.branch (rootH hf (blkCore L l (2 * m))) (rootH hf (blkCore L l (2 * m + 1))) := by
  have hp := Nat.two_pow_pos l
  have e1 := Nat.add_one_mul (2 * m) (2 ^ l)
  rw [blk_split]
  apply rootH_split hf l <;> rw [length_blk] <;> omega

/-- a node whose right child is empty is its left child -/
theorem blk_carry (L : List Bytes) (l m : Nat) (h : L.length ≤ (2 * m + 1) * 2 ^ l) :
    blkCore L (l + 1) m = blkCore L l (2 * m) := by
  have e := (mul_pow_succ m l).symm
  have e1 := Nat.add_one_mul (2 * m) (2 ^ l)
  have hp := Nat.two_pow_pos l
  unfold blkCore
  rw [e]
  have hlen : (L.drop (m * 2 ^ (l + 1))).length ≤ 2 ^ l := by rw [List.length_drop]; omega
  rw [List.take_of_length_le (by omega), List.take_of_length_le hlen]

/-- the value of the parent of the node `(l, k)` in terms of the node and its sibling -/
theorem rootH_blk_parent (hf : HashFns) (L : List Bytes) (l k : Nat) (hk : k * 2 ^ l < L.length) :
    rootH hf (blkCore L (l + 1) (k / 2)) =
      if sibOf k * 2 ^ l < L.length then
        (if k % 2 = 0 then hf.branch (rootH hf (blkCore L l k)) (rootH hf (blkCore L l (sibOf k)))
         else hf.branch (rootH hf (blkCore L l (sibOf k))) (rootH hf (blkCore L l k)))
      else rootH hf (blkCore L l k) := by
  have hiff := (pair_lt_iff k (2 ^ l) L.length).trans (and_iff_right hk)
  by_cases hev : k % 2 = 0
  · have hk2 : 2 * (k / 2) = k := by omega
    have hs : sibOf k = 2 * (k / 2) + 1 := by rw [sibOf_even hev]; omega
    rw [if_pos hev]
    split
    · rw [rootH_blk_pair hf L l (k / 2) (hiff.2 ‹_›), ← hs, hk2]
    · rw [blk_carry L l (k / 2) (by rw [← Nat.not_lt, hiff]; assumption), hk2]
  · have hk2 : 2 * (k / 2) + 1 = k := by omega
    have hs : sibOf k = 2 * (k / 2) := by rw [sibOf_odd (by omega)]; omega
    have hlt : sibOf k * 2 ^ l < L.length :=
      Nat.lt_of_le_of_lt (Nat.mul_le_mul_right _ (by omega)) hk
    rw [if_pos hlt, if_neg hev, rootH_blk_pair hf L l (k / 2) (hiff.2 hlt), hk2, ← hs]

/-- the parent of an odd node: the left sibling is not empty -/
theorem rootH_blk_parent_odd (hf : HashFns) (L : List Bytes) (l k : Nat) (hk : k * 2 ^ l < L.length) (hod : k % 2 = 1) :
    rootH hf (blkCore L (l + 1) (k / 2)) = hf.branch (rootH hf (blkCore L l (k - 1))) (rootH hf (blkCore L l k)) := by
  have := rootH_blk_parent hf L l k hk
  rwa [sibOf_odd hod, if_pos (Nat.lt_of_le_of_lt (Nat.mul_le_mul_right _ (Nat.sub_le k 1)) hk),
    if_neg (by omega)] at this

/-- the parent of an even node that is the last of its layer: the right sibling is empty, the node is carried up -/
theorem rootH_blk_parent_last (hf : HashFns) (L : List Bytes) (l k : Nat) (hk : k * 2 ^ l < L.length) (hev : k % 2 = 0)
    (hlast : L.length ≤ (k + 1) * 2 ^ l) : rootH hf (blkCore L (l + 1) (k / 2)) = rootH hf (blkCore L l k) := by
  have := rootH_blk_parent hf L l k hk
  rwa [sibOf_even hev, if_neg (by omega)] at this

/-! ### the node that holds the hash of a block -/

/-- the location at which the hash of the block below `(l, k)` is stored: `getRightSiblingInfo` goes down
the left spine as long as the node is not proper -/
def repLoc (n l k : Nat) : Loc := descend (layerStructure n) (l + 1) k l

theorem repLoc_zero (n k : Nat) : repLoc n 0 k = (0, k) := by simp [repLoc, descend]

theorem repLoc_proper {n l k : Nat} (h : properCore n l k) : repLoc n l k = (l, k) := by
  cases l with
  | zero => exact repLoc_zero n k
  | succ l =>
    have := (lt_layerStructure_succ n l k).2 (proper_succ.1 h)
    unfold repLoc
    rw [descend, if_neg]
    simp only [Bool.and_eq_true, decide_eq_true_eq, not_and]
    omega

theorem repLoc_carry {n l m : Nat} (h : ¬ properCore n (l + 1) m) : repLoc n (l + 1) m = repLoc n l (m * 2) := by
  have : ¬ m < (layerStructure n).getD (l + 1) 0 := fun hlt => h (proper_succ.2 ((lt_layerStructure_succ n l m).1 hlt))
  unfold repLoc
  rw [descend, if_pos (by simp only [Bool.and_eq_true, decide_eq_true_eq]; omega)]
  rfl

/-- the stored node lies on the left spine below `(l, k)`; it is proper when the block is not empty, it still starts
at or beyond the end of the tree when the block is empty, and it has the same block -/
theorem repLoc_spec (n : Nat) : ∀ l k, ∃ l', l' ≤ l ∧ repLoc n l k = (l', k * 2 ^ (l - l')) ∧
    (k * 2 ^ l < n → properCore n l' (k * 2 ^ (l - l'))) ∧ (n ≤ k * 2 ^ l → n ≤ k * 2 ^ (l - l')) ∧
    ∀ L : List Bytes, L.length = n → blkCore L l' (k * 2 ^ (l - l')) = blkCore L l k := by
  intro l
  induction l with
  | zero => intro k; exact ⟨0, Nat.le_refl _, by simp [repLoc_zero], by simp [proper_zero], by simp, fun _ _ => by simp⟩
  | succ l ih =>
    intro k
    by_cases hp : properCore n (l + 1) k
    · refine ⟨l + 1, Nat.le_refl _, by simp [repLoc_proper hp], fun _ => by simpa using hp, ?_, fun _ _ => by simp⟩
      intro h; exact absurd (proper_lt hp) (by omega)
    · obtain ⟨l', h1, h2, h3, h4, h5⟩ := ih (k * 2)
      have e : k * 2 * 2 ^ (l - l') = k * 2 ^ (l + 1 - l') := by
        rw [show l + 1 - l' = (l - l') + 1 by omega, Nat.pow_succ, Nat.mul_assoc, Nat.mul_comm 2]
      have e2 : k * 2 * 2 ^ l = k * 2 ^ (l + 1) := by rw [Nat.pow_succ, Nat.mul_assoc, Nat.mul_comm 2]
      rw [e] at h2 h3 h4 h5
      rw [e2] at h3 h4
      refine ⟨l', by omega, by rw [repLoc_carry hp, h2], h3, h4, ?_⟩
      intro L hL
      rw [h5 L hL, blk_carry L l k (by rw [hL, ← Nat.not_lt, ← proper_succ]; exact hp), Nat.mul_comm]

theorem repLoc_blk (L : List Bytes) (l k : Nat) :
    blkCore L (repLoc L.length l k).1 (repLoc L.length l k).2 = blkCore L l k := by
  obtain ⟨l', _, h2, _, _, h5⟩ := repLoc_spec L.length l k
  rw [h2]; exact h5 L rfl

theorem repLoc_nonempty {n l k : Nat} (hk : k * 2 ^ l < n) : properCore n (repLoc n l k).1 (repLoc n l k).2 := by
  obtain ⟨l', _, h2, h3, _⟩ := repLoc_spec n l k
  rw [h2]; exact h3 hk

/-- `getRightSiblingInfo`: the location of the node that stands for the sibling block, if that block is not
empty -/
theorem rsi_eq_repLoc {n k l : Nat} (hlt : sibOf k * 2 ^ l < n) :
    rightSiblingInfo (layerStructure n) k l n = some (repLoc n l (sibOf k)) := by
  have h := proper_lt (repLoc_nonempty hlt)
  have : (repLoc n l (sibOf k)).2 ≤ (repLoc n l (sibOf k)).2 * 2 ^ (repLoc n l (sibOf k)).1 :=
    Nat.le_mul_of_pos_right _ (Nat.two_pow_pos _)
  unfold rightSiblingInfo
  rw [sib_eq]
  show (if (repLoc n l (sibOf k)).2 ≥ n then none else some (repLoc n l (sibOf k))) = _
  rw [if_neg (by omega)]

theorem rsi_none {n k l : Nat} (h : n ≤ sibOf k * 2 ^ l) :
    rightSiblingInfo (layerStructure n) k l n = none := by
  obtain ⟨l', _, h2, _, h4, _⟩ := repLoc_spec n l (sibOf k)
  unfold rightSiblingInfo
  rw [sib_eq]
  show (if (repLoc n l (sibOf k)).2 ≥ n then none else some (repLoc n l (sibOf k))) = _
  rw [h2, if_pos (h4 h)]

end LiskVerif.RMT
