/-
The keys under which the events of a block enter the event tree: the key index inside the bounds (`keyIndex_in_bounds`),
the length of a key, the key pairs of one event (`mem_keyPairsFrom`); that different (event, topic) pairs have different
keys is `C03_roots_event_keys_distinct` in Props/C03_Roots.lean. And: the root of a sparse Merkle tree determines the stored map when the
hash function has no collision between the finitely many inputs hashed for the two trees (`mapRoot_determines`, an
instance of `SMT.root_keys_subset`).
-/
import LiskVerif.Model.Roots
import LiskVerif.Lemmas.SMTNodes

namespace LiskVerif.Roots
open LiskVerif LiskVerif.SMT

/-! ### `be32` -/

theorem u8_ofNat_inj {a b : Nat} (ha : a < 256) (hb : b < 256) (h : UInt8.ofNat a = UInt8.ofNat b) : a = b := by
  have := congrArg UInt8.toNat h
  simp only [UInt8.toNat_ofNat'] at this
  omega

theorem be32_length (n : Nat) : (be32 n).length = 4 := rfl

/-! ### event keys -/

theorem keyIndex_lt (i t : Nat) : keyIndex i t < 4294967296 := Nat.mod_lt _ (by decide)

/-- inside the bounds the key index is the plain `4 * index + topic position` -/
theorem keyIndex_in_bounds {i t : Nat} (hi : i < 1073741824) (ht : t < 4) : keyIndex i t = 4 * i + t := by
  unfold keyIndex; omega

theorem eventKey_length (H : HashFn) {n : Nat} (hlen : ∀ x, (H x).length = n) (hn : 8 ≤ n) (i : Nat) (tp : Bytes)
    (t : Nat) : (eventKey H i tp t).length = 12 := by
  simp [eventKey, eventTopicHashLengthBytes, be32_length, List.length_take, hlen]; omega

theorem keyPairsFrom_mem {H : HashFn} {index : Nat} {value : Bytes} :
    ∀ {start : Nat} {topics : List Bytes} {kv : KV}, kv ∈ keyPairsFrom H index value start topics →
      ∃ j, j < topics.length ∧ kv = (eventKey H index (topics.getD j []) (start + j), value) := by
  intro start topics
  induction topics generalizing start with
  | nil => intro kv h; simp [keyPairsFrom] at h
  | cons tp rest ih =>
    intro kv h
    simp only [keyPairsFrom, List.mem_cons] at h
    rcases h with h | h
    · exact ⟨0, by simp, by simpa using h⟩
    · obtain ⟨j, hj, hkv⟩ := ih h
      refine ⟨j + 1, by simpa using hj, ?_⟩
      rw [hkv]
      simp only [List.getD_cons_succ, Prod.mk.injEq, and_true]
      congr 1; omega

theorem mem_keyPairsFrom {H : HashFn} {index : Nat} {value : Bytes} :
    ∀ {start : Nat} {topics : List Bytes} (j : Nat) (hj : j < topics.length),
      (eventKey H index (topics.getD j []) (start + j), value) ∈ keyPairsFrom H index value start topics := by
  intro start topics
  induction topics generalizing start with
  | nil => intro j hj; simp at hj
  | cons tp rest ih =>
    intro j hj
    cases j with
    | zero => simp [keyPairsFrom]
    | succ j =>
      simp only [keyPairsFrom, List.mem_cons, List.getD_cons_succ]
      right
      have := @ih (start + 1) j (by simpa using hj)
      have e : start + 1 + j = start + (j + 1) := by omega
      rw [e] at this
      exact this

/-! ### the root of a sparse Merkle tree determines its entries -/

/-- **the root determines the map**: two stored maps (distinct keys of `keyLen` bytes) with the same root and no
collision of `H` between the inputs hashed for the two trees hold the same pairs -/
theorem mapRoot_determines {H : HashFn} {n : Nat} (hlen : ∀ x, (H x).length = n) (keyLen : Nat) (m₁ m₂ : List KV)
    (n₁ : NoDupKeys m₁) (n₂ : NoDupKeys m₂) (l₁ : KeysLen keyLen m₁) (l₂ : KeysLen keyLen m₂)
    (hnc : NoColl H (treeInputs H (8 * keyLen) (entriesOf m₁)) (treeInputs H (8 * keyLen) (entriesOf m₂)))
    (hr : mapRoot H keyLen m₁ = mapRoot H keyLen m₂) : ∀ kv, kv ∈ m₁ ↔ kv ∈ m₂ := by
  -- one inclusion, for either order of the two maps (`SMT.root_keys_subset`; an entry of a map is its key and value)
  have sub : ∀ {m m' : List KV}, NoDupKeys m → NoDupKeys m' → KeysLen keyLen m → KeysLen keyLen m' →
      NoColl H (treeInputs H (8 * keyLen) (entriesOf m)) (treeInputs H (8 * keyLen) (entriesOf m')) →
      mapRoot H keyLen m = mapRoot H keyLen m' → ∀ kv ∈ m, kv ∈ m' := by
    intro m m' n n' l l' hnc hr kv h
    have hk : ∀ {m : List KV}, KeysLen keyLen m → ∀ e ∈ entriesOf m, e.key.length = keyLen :=
      fun l => forall_mem_entriesOf.mpr l
    obtain ⟨e', he', hk', hv'⟩ := root_keys_subset hlen (X := (· ∈ treeInputs H (8 * keyLen) (entriesOf m)))
      (Y := (· ∈ treeInputs H (8 * keyLen) (entriesOf m'))) (fun a b ha hb => hnc a ha b hb) keyLen _ _ _ _
      (wfe_entriesOf n l) (wfe_entriesOf n' l') (fun _ h => h) (fun _ h => h) (hk l) (hk l') hr
      ⟨keyBits kv.1, kv.1, kv.2⟩ (List.mem_map.mpr ⟨kv, h, rfl⟩)
    obtain ⟨kv', hkv', rfl⟩ := List.mem_map.mp he'
    exact (Prod.ext hk' hv' : kv' = kv) ▸ hkv'
  exact fun kv => ⟨sub n₁ n₂ l₁ l₂ hnc hr kv, sub n₂ n₁ l₂ l₁ (fun b hb a ha e => (hnc a ha b hb e.symm).symm) hr.symm kv⟩

end LiskVerif.Roots
