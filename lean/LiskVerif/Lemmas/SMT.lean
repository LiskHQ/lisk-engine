/-
Lemmas about the sparse Merkle tree specification (Model/SMTSpec.lean).  First half: bit strings of keys, permutation
invariance of `root`, association-list maps and what a batch does to them (`mget_applyBatch`), the children of a node
(`node_split`, `WFE.node_induction`), the canonical tree `build` and the incremental algorithm (`insert_build`,
`delete_build`).  Second half, what every soundness proof stands on: the hash assumption `NoColl` between two finite
lists of inputs (`treeInputs`, `reconInputs`; `noCollB` is a sufficient check for concrete lists), walking down (`descend`), the reconstruction of a
single-key proof (`recon_sound`: a verifying reconstruction ends at a node of the tree) and generated proofs
(`prove1_spec`).
-/
import LiskVerif.Model.SMTSpec
import LiskVerif.Lemmas.AList

namespace LiskVerif.SMT

/-! ### key bits -/

theorem byteBits_length (b : UInt8) : (byteBits b).length = 8 := by simp [byteBits]

theorem keyBits_length (k : Bytes) : (keyBits k).length = 8 * k.length := by
  induction k with
  | nil => simp [keyBits]
  | cons b r ih => simp [keyBits, byteBits_length, ih]; omega

theorem byteBits_inj {a b : UInt8} (h : byteBits a = byteBits b) : a = b := by
  have hlt : ∀ x : UInt8, x.toNat < 2 ^ 8 := fun x => x.toNat_lt
  apply UInt8.toNat_inj.mp
  apply Nat.eq_of_testBit_eq
  intro i
  simp only [byteBits, List.cons.injEq, and_true] at h
  obtain ⟨h7, h6, h5, h4, h3, h2, h1, h0⟩ := h
  by_cases hi : i < 8
  · have : i = 0 ∨ i = 1 ∨ i = 2 ∨ i = 3 ∨ i = 4 ∨ i = 5 ∨ i = 6 ∨ i = 7 := by omega
    rcases this with h | h | h | h | h | h | h | h <;> subst h <;> assumption
  · have hp : 2 ^ 8 ≤ 2 ^ i := Nat.pow_le_pow_right (by omega) (by omega)
    rw [Nat.testBit_lt_two_pow (Nat.lt_of_lt_of_le (hlt a) hp),
        Nat.testBit_lt_two_pow (Nat.lt_of_lt_of_le (hlt b) hp)]

theorem keyBits_inj : ∀ {a b : Bytes}, keyBits a = keyBits b → a = b
  | [], [], _ => rfl
  | [], b :: r, h => by
    have := congrArg List.length h
    simp [keyBits, byteBits_length] at this
    omega
  | a :: r, [], h => by
    have := congrArg List.length h
    simp [keyBits, byteBits_length] at this
  | a :: r, b :: s, h => by
    simp only [keyBits] at h
    have hl : (byteBits a).length = (byteBits b).length := by simp [byteBits_length]
    obtain ⟨h1, h2⟩ := List.append_inj h hl
    rw [byteBits_inj h1, keyBits_inj h2]

/-! ### `root` -/

@[simp] theorem root_nil (H : HashFn) (d : Nat) : root H d [] = emptyHash H := by
  cases d <;> simp [root]

@[simp] theorem root_single (H : HashFn) (d : Nat) (e : Entry) : root H d [e] = leafHash H e.key e.value := by
  cases d <;> simp [root]

theorem root_succ_two (H : HashFn) (d : Nat) (es : List Entry) (h : 2 ≤ es.length) :
    root H (d + 1) es = branchHash H (root H d (goL es)) (root H d (goR es)) := by
  match es, h with
  | _ :: _ :: _, _ => simp [root]

theorem root_zero_two (H : HashFn) (es : List Entry) (h : 2 ≤ es.length) : root H 0 es = emptyHash H := by
  match es, h with
  | _ :: _ :: _, _ => simp [root]

theorem goL_perm {a b : List Entry} (h : a.Perm b) : (goL a).Perm (goL b) := h.filterMap _
theorem goR_perm {a b : List Entry} (h : a.Perm b) : (goR a).Perm (goR b) := h.filterMap _

/-- the root does not depend on the order in which the entries are listed -/
theorem root_perm (H : HashFn) (d : Nat) {a b : List Entry} (h : a.Perm b) : root H d a = root H d b := by
  induction d, a using root.induct generalizing b with
  | case1 => rw [List.Perm.eq_nil h.symm]
  | case2 => rw [List.perm_singleton.mp h.symm]
  | case3 e₁ e₂ es => rw [root_zero_two H _ (by simp), root_zero_two H b (by rw [← h.length_eq]; simp)]
  | case4 d e₁ e₂ es ihl ihr =>
    rw [root_succ_two H d _ (by simp), root_succ_two H d b (by rw [← h.length_eq]; simp), ihl (goL_perm h),
      ihr (goR_perm h)]

theorem mapRoot_perm (H : HashFn) (keyLen : Nat) {m₁ m₂ : List KV} (h : m₁.Perm m₂) :
    mapRoot H keyLen m₁ = mapRoot H keyLen m₂ :=
  root_perm H _ (h.map _)

/-! ### association-list maps -/

def NoDupKeys (m : List KV) : Prop := (m.map Prod.fst).Nodup

theorem mget_eq_get : mget = AList.get := by
  funext m k; induction m <;> simp only [mget, AList.get_cons, AList.get_nil, *]

theorem mget_eq_some_of_mem {m : List KV} (hn : NoDupKeys m) {k v : Bytes} (h : (k, v) ∈ m) :
    mget m k = some v := by
  rw [mget_eq_get]; exact (AList.get_iff_mem hn).mpr h

theorem mem_of_mget_eq_some {m : List KV} {k v : Bytes} (h : mget m k = some v) : (k, v) ∈ m :=
  AList.mem_of_get (mget_eq_get ▸ h)

theorem mget_eq_none_iff {m : List KV} {k : Bytes} : mget m k = none ↔ k ∉ m.map Prod.fst := by
  rw [mget_eq_get]; exact AList.get_eq_none_iff

theorem nodup_of_nodupKeys {m : List KV} (h : NoDupKeys m) : m.Nodup := AList.nodup_of_nodupKeys h

/-- two maps without duplicate keys that answer every lookup alike list the same pairs -/
theorem perm_of_mget_eq {m₁ m₂ : List KV} (h₁ : NoDupKeys m₁) (h₂ : NoDupKeys m₂)
    (h : ∀ k, mget m₁ k = mget m₂ k) : m₁.Perm m₂ :=
  AList.perm_of_get_eq h₁ h₂ (mget_eq_get ▸ h)

theorem mdel_keys (m : List KV) (k : Bytes) :
    (mdel m k).map Prod.fst = (m.map Prod.fst).filter (fun x => decide (x ≠ k)) := by
  unfold mdel; rw [List.filter_map]; rfl

theorem nodupKeys_mdel {m : List KV} (h : NoDupKeys m) (k : Bytes) : NoDupKeys (mdel m k) :=
  AList.NodupKeys.filter h _

theorem nodupKeys_mset {m : List KV} (h : NoDupKeys m) (k v : Bytes) : NoDupKeys (mset m k v) :=
  AList.NodupKeys.put h k v

theorem mget_mdel (m : List KV) (k k' : Bytes) :
    mget (mdel m k) k' = if k' = k then none else mget m k' := by
  rw [mget_eq_get]; exact AList.get_erase m k k'

theorem mget_mset (m : List KV) (k v k' : Bytes) :
    mget (mset m k v) k' = if k' = k then some v else mget m k' := by
  rw [mget_eq_get]; exact AList.get_put m k v k'

theorem nodupKeys_applyOp {m : List KV} (h : NoDupKeys m) (op : Op) : NoDupKeys (applyOp m op) := by
  cases op with
  | set k v => exact nodupKeys_mset h k v
  | del k => exact nodupKeys_mdel h k

theorem nodupKeys_foldl_applyOp {m : List KV} (h : NoDupKeys m) (ops : List Op) :
    NoDupKeys (ops.foldl applyOp m) :=
  List.foldlRecOn ops applyOp h fun _ h op _ => nodupKeys_applyOp h op

theorem nodupKeys_applyBatch {m : List KV} (h : NoDupKeys m) (b : List KV) : NoDupKeys (applyBatch m b) :=
  nodupKeys_foldl_applyOp h _

theorem nodupKeys_finalMap (bs : List (List KV)) : NoDupKeys (finalMap bs) :=
  List.foldlRecOn bs applyBatch (motive := NoDupKeys) (by simp [NoDupKeys]) fun _ h b _ => nodupKeys_applyBatch h b

/-! ### batches -/

theorem dedupFirst_cons (kv : KV) (r : List KV) : dedupFirst (kv :: r) = mset (dedupFirst r) kv.1 kv.2 := rfl

theorem nodupKeys_dedupFirst (b : List KV) : NoDupKeys (dedupFirst b) := by
  induction b with
  | nil => simp [dedupFirst, NoDupKeys]
  | cons kv r ih => exact nodupKeys_mset ih kv.1 kv.2

theorem mget_dedupFirst (b : List KV) (k : Bytes) : mget (dedupFirst b) k = mget b k := by
  induction b with
  | nil => rfl
  | cons kv r ih =>
    rw [dedupFirst_cons, mget_mset, ih, mget]
    by_cases hk : kv.1 = k <;> simp [hk, Ne.symm]

theorem mget_append (a b : List KV) (k : Bytes) :
    mget (a ++ b) k = match mget a k with
      | some v => some v
      | none => mget b k := by
  induction a with
  | nil => rfl
  | cons x r ih =>
    simp only [List.cons_append, mget]
    split
    · rfl
    · exact ih

theorem mget_applyOp_opOfKV (m : List KV) (kv : KV) (k : Bytes) :
    mget (applyOp m (opOfKV kv)) k = if k = kv.1 then (if kv.2 = [] then none else some kv.2) else mget m k := by
  unfold opOfKV
  by_cases hv : kv.2 = []
  · simp [hv, applyOp, mget_mdel]
  · simp [hv, applyOp, mget_mset]

theorem mget_foldl_ops (l : List KV) (hn : NoDupKeys l) (m : List KV) (k : Bytes) :
    mget ((l.map opOfKV).foldl applyOp m) k =
      match mget l k with
      | none => mget m k
      | some v => if v = [] then none else some v := by
  induction l generalizing m with
  | nil => rfl
  | cons kv r ih =>
    obtain ⟨hkv, hr⟩ := List.nodup_cons.mp hn
    rw [List.map_cons, List.foldl_cons, ih hr, mget_applyOp_opOfKV, mget]
    by_cases hk : kv.1 = k
    · rw [mget_eq_none_iff.mpr (hk ▸ hkv), if_pos hk, if_pos hk.symm]
    · rw [if_neg hk, if_neg (Ne.symm hk)]

/-- **what a batch does**: it sets each of its keys to the value of the key's first occurrence in the batch; an
empty value deletes -/
theorem mget_applyBatch (m b : List KV) (k : Bytes) :
    mget (applyBatch m b) k =
      match mget b k with
      | none => mget m k
      | some v => if v = [] then none else some v := by
  unfold applyBatch batchOps
  rw [mget_foldl_ops _ (nodupKeys_dedupFirst b), mget_dedupFirst]

/-- a batch whose keys are functional and whose values are non-empty is stored as it is -/
theorem mem_applyBatch_of_functional {b : List KV} (hf : ∀ k v v', (k, v) ∈ b → (k, v') ∈ b → v = v')
    (hv : ∀ kv ∈ b, kv.2 ≠ []) (kv : KV) : kv ∈ applyBatch [] b ↔ kv ∈ b := by
  have hnd : NoDupKeys (applyBatch [] b) := nodupKeys_applyBatch (by simp [NoDupKeys]) b
  have hlook := mget_applyBatch [] b kv.1
  constructor
  · intro h
    rw [mget_eq_some_of_mem hnd (show (kv.1, kv.2) ∈ applyBatch [] b from h)] at hlook
    cases hb : mget b kv.1 with
    | none => rw [hb] at hlook; cases hlook
    | some v =>
      rw [hb] at hlook
      have hm := mem_of_mget_eq_some hb
      simp only [hv _ hm, if_false, Option.some.injEq] at hlook
      exact (Prod.ext rfl hlook : kv = (kv.1, v)) ▸ hm
  · intro h
    cases hb : mget b kv.1 with
    | none => exact absurd (List.mem_map_of_mem (f := Prod.fst) h) (mget_eq_none_iff.mp hb)
    | some v =>
      have hm := mem_of_mget_eq_some hb
      rw [hb, hf kv.1 v kv.2 hm h] at hlook
      simp only [hv kv h, if_false] at hlook
      exact mem_of_mget_eq_some hlook

/-! ### children of a node -/

theorem stepL_false (e : Entry) (r : Bits) (h : e.path = false :: r) : stepL e = some ⟨r, e.key, e.value⟩ := by
  simp [stepL, h]
theorem stepL_true (e : Entry) (r : Bits) (h : e.path = true :: r) : stepL e = none := by
  simp [stepL, h]
theorem stepL_nil (e : Entry) (h : e.path = []) : stepL e = none := by
  simp [stepL, h]
theorem stepR_true (e : Entry) (r : Bits) (h : e.path = true :: r) : stepR e = some ⟨r, e.key, e.value⟩ := by
  simp [stepR, h]
theorem stepR_false (e : Entry) (r : Bits) (h : e.path = false :: r) : stepR e = none := by
  simp [stepR, h]
theorem stepR_nil (e : Entry) (h : e.path = []) : stepR e = none := by
  simp [stepR, h]

theorem stepL_some {e e' : Entry} (h : stepL e = some e') :
    e.path = false :: e'.path ∧ e'.key = e.key ∧ e'.value = e.value := by
  unfold stepL at h
  split at h
  · next r hr => simp only [Option.some.injEq] at h; subst h; simp [hr]
  · simp at h

theorem stepR_some {e e' : Entry} (h : stepR e = some e') :
    e.path = true :: e'.path ∧ e'.key = e.key ∧ e'.value = e.value := by
  unfold stepR at h
  split at h
  · next r hr => simp only [Option.some.injEq] at h; subst h; simp [hr]
  · simp at h

/-- membership in the entries below a child, for a step function that strips the leading bit `b` -/
theorem mem_filterMap_step {f : Entry → Option Entry} {b : Bool}
    (hs : ∀ {e e'}, f e = some e' → e.path = b :: e'.path ∧ e'.key = e.key ∧ e'.value = e.value)
    (hf : ∀ e r, e.path = b :: r → f e = some ⟨r, e.key, e.value⟩) {es : List Entry} {e' : Entry} :
    e' ∈ es.filterMap f ↔ ∃ e ∈ es, e.path = b :: e'.path ∧ e'.key = e.key ∧ e'.value = e.value := by
  rw [List.mem_filterMap]
  constructor
  · rintro ⟨e, he, h⟩; exact ⟨e, he, hs h⟩
  · rintro ⟨e, he, hp, hk, hv⟩
    refine ⟨e, he, ?_⟩
    rw [hf e _ hp]
    cases e'; simp_all

/-- well-formed entries below a node with `d` bits left: paths have length `d` and are pairwise distinct -/
def WFE (d : Nat) (es : List Entry) : Prop :=
  (∀ e ∈ es, e.path.length = d) ∧ es.Pairwise (fun a b => a.path ≠ b.path)

theorem wfe_nil (d : Nat) : WFE d [] := ⟨by simp, List.Pairwise.nil⟩

/-- the entries whose path starts with `b`, without that bit, are well formed one level down -/
theorem wfe_filterMap {d : Nat} {es : List Entry} (h : WFE (d + 1) es) {f : Entry → Option Entry} {b : Bool}
    (hf : ∀ {e e'}, f e = some e' → e.path = b :: e'.path) : WFE d (es.filterMap f) := by
  refine ⟨?_, ?_⟩
  · intro e' he'
    obtain ⟨e, he, hs⟩ := List.mem_filterMap.mp he'
    have := h.1 e he
    rw [hf hs] at this
    simpa using this
  · rw [List.pairwise_filterMap]
    refine h.2.imp ?_
    intro a b hab a' ha' b' hb' heq
    apply hab
    rw [hf ha', hf hb', heq]

theorem wfe_goL {d : Nat} {es : List Entry} (h : WFE (d + 1) es) : WFE d (goL es) :=
  wfe_filterMap h fun hs => (stepL_some hs).1

theorem wfe_goR {d : Nat} {es : List Entry} (h : WFE (d + 1) es) : WFE d (goR es) :=
  wfe_filterMap h fun hs => (stepR_some hs).1

/-- the entries below the child in direction `b` -/
theorem mem_child {es : List Entry} {b : Bool} {e' : Entry} :
    e' ∈ (if b then goR es else goL es) ↔ ∃ e ∈ es, e.path = b :: e'.path ∧ e'.key = e.key ∧ e'.value = e.value := by
  cases b
  · exact mem_filterMap_step stepL_some stepL_false
  · exact mem_filterMap_step stepR_some stepR_true

theorem wfe_child {d : Nat} {es : List Entry} (h : WFE (d + 1) es) (b : Bool) :
    WFE d (if b then goR es else goL es) := by
  cases b
  · exact wfe_goL h
  · exact wfe_goR h

theorem wfe_zero_length {es : List Entry} (h : WFE 0 es) : es.length ≤ 1 := by
  match es, h with
  | [], _ => simp
  | [_], _ => simp
  | e₁ :: e₂ :: r, h =>
    exfalso
    have h1 := h.1 e₁ (by simp)
    have h2 := h.1 e₂ (by simp)
    have hne := (List.pairwise_cons.mp h.2).1 e₂ (by simp)
    apply hne
    rw [List.length_eq_zero_iff.mp h1, List.length_eq_zero_iff.mp h2]

theorem length_goL_add_goR (es : List Entry) (h : ∀ e ∈ es, e.path ≠ []) :
    (goL es).length + (goR es).length = es.length := by
  induction es with
  | nil => simp [goL, goR]
  | cons e r ih =>
    have ihr := ih (fun x hx => h x (List.mem_cons_of_mem _ hx))
    have he := h e (by simp)
    unfold goL goR at *
    match hp : e.path with
    | [] => exact absurd hp he
    | false :: p =>
      rw [List.filterMap_cons_some (stepL_false e p hp), List.filterMap_cons_none (stepR_false e p hp)]
      simp only [List.length_cons]; omega
    | true :: p =>
      rw [List.filterMap_cons_none (stepL_true e p hp), List.filterMap_cons_some (stepR_true e p hp)]
      simp only [List.length_cons]; omega

theorem wfe_path_ne_nil {d : Nat} {es : List Entry} (h : WFE (d + 1) es) : ∀ e ∈ es, e.path ≠ [] := by
  intro e he hp
  have := h.1 e he
  rw [hp] at this
  simp at this

/-- how the entries below a node split over its two sides: none; a single entry, on the side of its next bit; or at
least two, none of them lost -/
theorem node_split {d : Nat} {es : List Entry} (h : WFE (d + 1) es) :
    (es = [] ∧ goL es = [] ∧ goR es = []) ∨
    (∃ e p, es = [e] ∧ ((e.path = false :: p ∧ goL es = [⟨p, e.key, e.value⟩] ∧ goR es = []) ∨
      (e.path = true :: p ∧ goL es = [] ∧ goR es = [⟨p, e.key, e.value⟩]))) ∨
    (2 ≤ es.length ∧ (goL es).length + (goR es).length = es.length) := by
  match es, h with
  | [], _ => exact Or.inl ⟨rfl, rfl, rfl⟩
  | [e], h =>
    match hp : e.path with
    | [] => exact absurd hp (wfe_path_ne_nil h e (by simp))
    | false :: p =>
      exact Or.inr (Or.inl ⟨e, p, rfl, Or.inl ⟨hp, by simp [goL, stepL_false e p hp], by simp [goR, stepR_false e p hp]⟩⟩)
    | true :: p =>
      exact Or.inr (Or.inl ⟨e, p, rfl, Or.inr ⟨hp, by simp [goL, stepL_true e p hp], by simp [goR, stepR_true e p hp]⟩⟩)
  | e₁ :: e₂ :: r, h => exact Or.inr (Or.inr ⟨by simp, length_goL_add_goR _ (wfe_path_ne_nil h)⟩)

/-- induction over the nodes of the tree of well-formed entries: an empty node, a leaf, a branch over its sides -/
theorem WFE.node_induction {motive : (d : Nat) → (es : List Entry) → WFE d es → Prop}
    (nil : ∀ d h, motive d [] h) (single : ∀ d e h, motive d [e] h)
    (branch : ∀ d es (h : WFE (d + 1) es), 2 ≤ es.length →
      (∀ b : Bool, motive d (if b then goR es else goL es) (wfe_child h b)) → motive (d + 1) es h) :
    ∀ (d : Nat) (es : List Entry) (h : WFE d es), motive d es h := by
  intro d
  induction d with
  | zero =>
    intro es hw
    match es, hw with
    | [], _ => exact nil 0 _
    | [e], _ => exact single 0 e _
    | _ :: _ :: _, hw => have := wfe_zero_length hw; simp at this
  | succ d ih =>
    intro es hw
    match es, hw with
    | [], _ => exact nil _ _
    | [e], _ => exact single _ e _
    | e₁ :: e₂ :: r, hw => exact branch d _ hw (by simp) fun b => ih _ (wfe_child hw b)

/-! ### the canonical tree -/

@[simp] theorem build_nil (d : Nat) : build d [] = .empty := by cases d <;> simp [build]
@[simp] theorem build_single (d : Nat) (e : Entry) : build d [e] = .leaf e.path e.key e.value := by
  cases d <;> simp [build]

theorem build_succ_two (d : Nat) (es : List Entry) (h : 2 ≤ es.length) :
    build (d + 1) es = .branch (build d (goL es)) (build d (goR es)) := by
  match es, h with
  | _ :: _ :: _, _ => simp [build]

theorem build_zero_two (es : List Entry) (h : 2 ≤ es.length) : build 0 es = .empty := by
  match es, h with
  | _ :: _ :: _, _ => simp [build]

/-- the hash of the canonical tree is the declarative root -/
theorem hash_build (H : HashFn) (d : Nat) (es : List Entry) : (build d es).hash H = root H d es := by
  induction d, es using root.induct with
  | case1 => simp [Tree.hash]
  | case2 => simp [Tree.hash]
  | case3 => rw [build_zero_two _ (by simp), root_zero_two H _ (by simp)]; rfl
  | case4 d e₁ e₂ es ihl ihr =>
    rw [build_succ_two d _ (by simp), root_succ_two H d _ (by simp)]
    simp [Tree.hash, ihl, ihr]

/-- shape of the canonical tree of well-formed entries -/
theorem build_kind {d : Nat} {es : List Entry} (h : WFE d es) :
    (es = [] ∧ build d es = .empty) ∨ (∃ e, es = [e] ∧ build d es = .leaf e.path e.key e.value) ∨
    (2 ≤ es.length ∧ ∃ l r, build d es = .branch l r) := by
  match es, h with
  | [], _ => left; simp
  | [e], _ => right; left; exact ⟨e, rfl, by simp⟩
  | e₁ :: e₂ :: r, h =>
    right; right
    cases d with
    | zero => have := wfe_zero_length h; simp at this
    | succ d => exact ⟨by simp, _, _, build_succ_two d _ (by simp)⟩

/-- rebuilding a branch from the canonical trees of the two halves gives the canonical tree -/
theorem mkBranch_build {d : Nat} {es : List Entry} (h : WFE (d + 1) es) :
    mkBranch (build d (goL es)) (build d (goR es)) = build (d + 1) es := by
  rcases node_split h with ⟨rfl, hL, hR⟩ | ⟨e, p, rfl, ⟨hp, hL, hR⟩ | ⟨hp, hL, hR⟩⟩ | ⟨h2, hlen⟩
  · rw [hL, hR]; simp [mkBranch]
  · rw [hL, hR]; simp [mkBranch, hp]
  · rw [hL, hR]; simp [mkBranch, hp]
  · rw [build_succ_two d _ h2]
    rcases build_kind (wfe_goL h) with ⟨hl, hbl⟩ | ⟨el, hl, hbl⟩ | ⟨hl, l1, l2, hbl⟩
    · rcases build_kind (wfe_goR h) with ⟨hr, hbr⟩ | ⟨er, hr, hbr⟩ | ⟨hr, r1, r2, hbr⟩
      · rw [hl, hr] at hlen; simp at hlen; omega
      · rw [hl, hr] at hlen; simp at hlen; omega
      · rw [hbl, hbr]; rfl
    · rcases build_kind (wfe_goR h) with ⟨hr, hbr⟩ | ⟨er, hr, hbr⟩ | ⟨hr, r1, r2, hbr⟩
      · rw [hl, hr] at hlen; simp at hlen; omega
      · rw [hbl, hbr]; rfl
      · rw [hbl, hbr]; rfl
    · rw [hbl]
      cases build d (goR es) <;> rfl

/-! ### removing / replacing the entry with a given path -/

def efilter (es : List Entry) (p : Bits) : List Entry := es.filter (fun e => decide (e.path ≠ p))

@[simp] theorem efilter_nil (p : Bits) : efilter [] p = [] := rfl

theorem efilter_cons_eq (e : Entry) (es : List Entry) (p : Bits) (h : e.path = p) :
    efilter (e :: es) p = efilter es p := by
  simp [efilter, h]

theorem efilter_cons_ne (e : Entry) (es : List Entry) (p : Bits) (h : e.path ≠ p) :
    efilter (e :: es) p = e :: efilter es p := by
  simp [efilter, h]

theorem mem_efilter {es : List Entry} {p : Bits} {e : Entry} : e ∈ efilter es p ↔ e ∈ es ∧ e.path ≠ p := by
  simp [efilter]

theorem wfe_efilter {d : Nat} {es : List Entry} (h : WFE d es) (p : Bits) : WFE d (efilter es p) :=
  ⟨fun e he => h.1 e (mem_efilter.mp he).1, h.2.filter _⟩

theorem wfe_cons_efilter {d : Nat} {es : List Entry} (h : WFE d es) (p : Bits) (k v : Bytes)
    (hp : p.length = d) : WFE d (⟨p, k, v⟩ :: efilter es p) := by
  refine ⟨?_, ?_⟩
  · intro e he
    rcases List.mem_cons.mp he with he | he
    · subst he; exact hp
    · exact (wfe_efilter h p).1 e he
  · rw [List.pairwise_cons]
    refine ⟨?_, (wfe_efilter h p).2⟩
    intro e he
    exact fun heq => (mem_efilter.mp he).2 heq.symm

theorem filterMap_filter_of_agree {α β : Type} (f : α → Option β) (p : α → Bool) (q : β → Bool) (l : List α)
    (h : ∀ x ∈ l, ∀ y, f x = some y → p x = q y) :
    (l.filter p).filterMap f = (l.filterMap f).filter q := by
  induction l with
  | nil => rfl
  | cons a r ih =>
    have ih' := ih (fun x hx => h x (List.mem_cons_of_mem _ hx))
    have ha := h a List.mem_cons_self
    cases hf : f a with
    | none => by_cases hp : p a <;> simp [hp, hf, ih']
    | some y => by_cases hp : q y <;> simp [ha y hf, hp, hf, ih']

theorem goL_efilter_false (es : List Entry) (r : Bits) :
    goL (efilter es (false :: r)) = efilter (goL es) r := by
  unfold goL efilter
  exact filterMap_filter_of_agree stepL _ _ es fun x _ y hy => by simp [(stepL_some hy).1]

theorem goR_efilter_true (es : List Entry) (r : Bits) :
    goR (efilter es (true :: r)) = efilter (goR es) r := by
  unfold goR efilter
  exact filterMap_filter_of_agree stepR _ _ es fun x _ y hy => by simp [(stepR_some hy).1]

theorem goR_efilter_false (es : List Entry) (r : Bits) : goR (efilter es (false :: r)) = goR es := by
  unfold goR efilter
  rw [List.filterMap_filter]
  congr 1; funext e
  unfold stepR
  rcases e.path with _ | ⟨_ | _, q⟩ <;> simp

theorem goL_efilter_true (es : List Entry) (r : Bits) : goL (efilter es (true :: r)) = goL es := by
  unfold goL efilter
  rw [List.filterMap_filter]
  congr 1; funext e
  unfold stepL
  rcases e.path with _ | ⟨_ | _, q⟩ <;> simp

/-- deleting a key from the canonical tree (with leaf lifting) gives the canonical tree of the rest -/
theorem delete_build (d : Nat) (es : List Entry) (h : WFE d es) (p : Bits) :
    p.length = d → delete p (build d es) = build d (efilter es p) := by
  induction d, es, h using WFE.node_induction generalizing p with
  | nil d _ => intro _; simp [delete]
  | single d e _ =>
    intro _
    rw [build_single]
    by_cases he : e.path = p
    · rw [efilter_cons_eq e [] p he]; simp [delete, he]
    · rw [efilter_cons_ne e [] p he]; simp [delete, he]
  | branch d es h h2 ih =>
    intro hp
    rw [build_succ_two d _ h2]
    match p, hp with
    | false :: q, hp =>
      simp only [delete, Bool.false_eq_true, ↓reduceIte]
      rw [show delete q (build d (goL es)) = build d (efilter (goL es) q) from ih false q (by simpa using hp), ← goL_efilter_false,
        ← goR_efilter_false es q]
      exact mkBranch_build (wfe_efilter h _)
    | true :: q, hp =>
      simp only [delete, ↓reduceIte]
      rw [show delete q (build d (goR es)) = build d (efilter (goR es) q) from ih true q (by simpa using hp), ← goR_efilter_true,
        ← goL_efilter_true es q]
      exact mkBranch_build (wfe_efilter h _)

/-! ### the sides of a list that starts with a given entry -/

@[simp] theorem goL_nil : goL [] = [] := rfl
@[simp] theorem goR_nil : goR [] = [] := rfl
theorem goL_cons_false (e : Entry) (t : List Entry) (r : Bits) (h : e.path = false :: r) :
    goL (e :: t) = ⟨r, e.key, e.value⟩ :: goL t := by
  unfold goL; rw [List.filterMap_cons_some (stepL_false e r h)]
theorem goL_cons_true (e : Entry) (t : List Entry) (r : Bits) (h : e.path = true :: r) :
    goL (e :: t) = goL t := by
  unfold goL; rw [List.filterMap_cons_none (stepL_true e r h)]
theorem goR_cons_true (e : Entry) (t : List Entry) (r : Bits) (h : e.path = true :: r) :
    goR (e :: t) = ⟨r, e.key, e.value⟩ :: goR t := by
  unfold goR; rw [List.filterMap_cons_some (stepR_true e r h)]
theorem goR_cons_false (e : Entry) (t : List Entry) (r : Bits) (h : e.path = false :: r) :
    goR (e :: t) = goR t := by
  unfold goR; rw [List.filterMap_cons_none (stepR_false e r h)]

theorem one_le_efilter_of_two {d : Nat} {e₁ e₂ : Entry} {r : List Entry} (h : WFE d (e₁ :: e₂ :: r)) (p : Bits) :
    1 ≤ (efilter (e₁ :: e₂ :: r) p).length := by
  have hne : e₁.path ≠ e₂.path := (List.pairwise_cons.mp h.2).1 e₂ (by simp)
  by_cases h1 : e₁.path = p
  · have h2 : e₂.path ≠ p := fun h2 => hne (h1.trans h2.symm)
    rw [efilter_cons_eq _ _ _ h1, efilter_cons_ne _ _ _ h2]; simp
  · rw [efilter_cons_ne _ _ _ h1]; simp

/-- inserting / overwriting a key in the canonical tree gives the canonical tree of the updated entries -/
theorem insert_build (k v : Bytes) : ∀ (d : Nat) (es : List Entry), WFE d es → ∀ (p : Bits), p.length = d →
    insert k v p (build d es) = build d (⟨p, k, v⟩ :: efilter es p) := by
  -- not by `WFE.node_induction`: below a leaf in the way the hypothesis is needed for the one-entry list of that leaf
  -- with its path shortened, which is no side of the entries at hand
  intro d
  induction d with
  | zero =>
    intro es h p hp
    have h2 : p = [] := List.length_eq_zero_iff.mp hp
    subst h2
    match es, h with
    | [], _ => simp [insert]
    | [e], h =>
      have h1 : e.path = [] := List.length_eq_zero_iff.mp (h.1 e (by simp))
      rw [build_single, efilter_cons_eq e [] [] h1]
      simp [insert]
    | e₁ :: e₂ :: r, h => have := wfe_zero_length h; simp at this
  | succ d ih =>
    intro es h p hp
    match p, hp with
    | b :: q, hp =>
    have hq : q.length = d := by simpa using hp
    match es, h with
    | [], _ => simp [insert]
    | [e], h =>
      rw [build_single]
      by_cases he : e.path = b :: q
      · rw [efilter_cons_eq e [] _ he]; simp [insert, he]
      · rw [efilter_cons_ne e [] _ he, efilter_nil, build_succ_two d _ (by simp)]
        have hne := wfe_path_ne_nil h e (by simp)
        match hp' : e.path with
        | [] => exact absurd hp' hne
        | b' :: q' =>
          have hq' : q'.length = d := by
            have := h.1 e (by simp); rw [hp'] at this; simpa using this
          rw [hp'] at he
          have hwf : WFE d [⟨q', e.key, e.value⟩] := ⟨by simp [hq'], by simp⟩
          have hih := ih [⟨q', e.key, e.value⟩] hwf q hq
          rw [build_single] at hih
          cases b <;> cases b'
          · -- both go left
            have hqq : q' ≠ q := fun hh => he (by rw [hh])
            rw [efilter_cons_ne _ _ _ hqq, efilter_nil] at hih
            rw [goL_cons_false _ _ q rfl, goL_cons_false e _ q' hp', goR_cons_false _ _ q rfl,
              goR_cons_false e _ q' hp']
            simp [insert, he, hih]
          · rw [goL_cons_false _ _ q rfl, goL_cons_true e _ q' hp', goR_cons_false _ _ q rfl,
              goR_cons_true e _ q' hp']
            simp [insert, he]
          · rw [goL_cons_true _ _ q rfl, goL_cons_false e _ q' hp', goR_cons_true _ _ q rfl,
              goR_cons_false e _ q' hp']
            simp [insert, he]
          · have hqq : q' ≠ q := fun hh => he (by rw [hh])
            rw [efilter_cons_ne _ _ _ hqq, efilter_nil] at hih
            rw [goL_cons_true _ _ q rfl, goL_cons_true e _ q' hp', goR_cons_true _ _ q rfl,
              goR_cons_true e _ q' hp']
            simp [insert, he, hih]
    | e₁ :: e₂ :: r, h =>
      rw [build_succ_two d _ (by simp)]
      have hlen : 2 ≤ ((⟨b :: q, k, v⟩ : Entry) :: efilter (e₁ :: e₂ :: r) (b :: q)).length := by
        have := one_le_efilter_of_two h (b :: q)
        simp only [List.length_cons]; omega
      rw [build_succ_two d _ hlen]
      cases b
      · simp only [insert, Bool.false_eq_true, ↓reduceIte]
        rw [ih _ (wfe_goL h) q hq]
        rw [goL_cons_false ⟨false :: q, k, v⟩ _ q rfl, goL_efilter_false,
          goR_cons_false ⟨false :: q, k, v⟩ _ q rfl, goR_efilter_false]
      · simp only [insert, ↓reduceIte]
        rw [ih _ (wfe_goR h) q hq]
        rw [goL_cons_true ⟨true :: q, k, v⟩ _ q rfl, goL_efilter_true,
          goR_cons_true ⟨true :: q, k, v⟩ _ q rfl, goR_efilter_true]

/-! ### maps as entries -/

def KeysLen (keyLen : Nat) (m : List KV) : Prop := ∀ kv ∈ m, kv.1.length = keyLen

theorem entriesOf_mdel (m : List KV) (k : Bytes) : entriesOf (mdel m k) = efilter (entriesOf m) (keyBits k) := by
  unfold entriesOf mdel efilter
  rw [List.filter_map]
  exact congrArg _ (List.filter_congr fun kv _ => decide_eq_decide.mpr (not_congr ⟨congrArg _, keyBits_inj⟩))

/-- what holds of the entry of every pair of a map holds of every entry of the map -/
theorem forall_mem_entriesOf {m : List KV} {P : Entry → Prop} :
    (∀ e ∈ entriesOf m, P e) ↔ ∀ kv ∈ m, P ⟨keyBits kv.1, kv.1, kv.2⟩ := List.forall_mem_map

theorem wfe_entriesOf {keyLen : Nat} {m : List KV} (hn : NoDupKeys m) (hl : KeysLen keyLen m) :
    WFE (8 * keyLen) (entriesOf m) := by
  refine ⟨?_, ?_⟩
  · exact forall_mem_entriesOf.mpr fun kv hkv => by simp [keyBits_length, hl kv hkv]
  · unfold entriesOf
    rw [List.pairwise_map]
    have : m.Pairwise (fun a b => a.1 ≠ b.1) := by
      unfold NoDupKeys List.Nodup at hn
      rwa [List.pairwise_map] at hn
    exact this.imp (fun hab h => hab (keyBits_inj h))

/-- what holds of every pair of a map holds of every pair after a deletion … -/
theorem forall_mem_mdel {P : KV → Prop} {m : List KV} (h : ∀ kv ∈ m, P kv) (k : Bytes) : ∀ kv ∈ mdel m k, P kv :=
  fun kv hkv => h kv (List.mem_filter.mp hkv).1

/-- … and after a write of a pair of which it holds -/
theorem forall_mem_mset {P : KV → Prop} {m : List KV} (h : ∀ kv ∈ m, P kv) (k v : Bytes) (hkv : P (k, v)) :
    ∀ kv ∈ mset m k v, P kv := by
  intro kv hm
  rcases List.mem_cons.mp hm with rfl | h'
  · exact hkv
  · exact forall_mem_mdel h k kv h'

theorem keysLen_applyOp {keyLen : Nat} {m : List KV} (h : KeysLen keyLen m) (op : Op) (hk : op.key.length = keyLen) :
    KeysLen keyLen (applyOp m op) := by
  cases op with
  | set k v => exact forall_mem_mset h k v hk
  | del k => exact forall_mem_mdel h k

/-- one step of the incremental algorithm keeps the tree canonical for the updated map -/
theorem applyOpTree_build {keyLen : Nat} {m : List KV} (hn : NoDupKeys m) (hl : KeysLen keyLen m) (op : Op)
    (hk : op.key.length = keyLen) :
    applyOpTree (build (8 * keyLen) (entriesOf m)) op = build (8 * keyLen) (entriesOf (applyOp m op)) := by
  have hw := wfe_entriesOf hn hl
  have hp : (keyBits op.key).length = 8 * keyLen := by rw [keyBits_length, hk]
  cases op with
  | set k v =>
    simp only [Op.key] at hp
    simp only [applyOpTree, applyOp, mset]
    rw [insert_build k v _ _ hw _ hp]
    simp only [entriesOf, List.map_cons]
    have := entriesOf_mdel m k
    unfold entriesOf at this
    rw [this]
  | del k =>
    simp only [Op.key] at hp
    simp only [applyOpTree, applyOp]
    rw [delete_build _ _ hw _ hp, entriesOf_mdel]

theorem foldl_applyOpTree_build {keyLen : Nat} (ops : List Op) (hk : ∀ op ∈ ops, op.key.length = keyLen) :
    ∀ (m : List KV), NoDupKeys m → KeysLen keyLen m →
      ops.foldl applyOpTree (build (8 * keyLen) (entriesOf m)) =
        build (8 * keyLen) (entriesOf (ops.foldl applyOp m)) := by
  induction ops with
  | nil => intro m _ _; rfl
  | cons op r ih =>
    intro m hn hl
    have hop := hk op (by simp)
    simp only [List.foldl_cons]
    rw [applyOpTree_build hn hl op hop]
    exact ih (fun o ho => hk o (List.mem_cons_of_mem _ ho)) _ (nodupKeys_applyOp hn op) (keysLen_applyOp hl op hop)

/-! ### well-formed stored maps -/

def ValuesNonempty (m : List KV) : Prop := ∀ kv ∈ m, kv.2 ≠ []

def OpOK (keyLen : Nat) (op : Op) : Prop :=
  op.key.length = keyLen ∧ ∀ k v, op = .set k v → v ≠ []

theorem valuesNonempty_applyOp {keyLen : Nat} {m : List KV} (h : ValuesNonempty m) (op : Op) (hop : OpOK keyLen op) :
    ValuesNonempty (applyOp m op) := by
  cases op with
  | del k => exact forall_mem_mdel h k
  | set k v => exact forall_mem_mset h k v (hop.2 k v rfl)

theorem mem_dedupFirst {b : List KV} {kv : KV} (h : kv ∈ dedupFirst b) : kv ∈ b := by
  induction b with
  | nil => simp [dedupFirst] at h
  | cons x r ih =>
    simp only [dedupFirst, List.mem_cons, List.mem_filter] at h
    rcases h with h | h
    · simp [h]
    · exact List.mem_cons_of_mem _ (ih h.1)

theorem opOK_opOfKV {keyLen : Nat} (kv : KV) (h : kv.1.length = keyLen) : OpOK keyLen (opOfKV kv) := by
  unfold opOfKV
  split
  · exact ⟨h, fun k v hh => by cases hh⟩
  · next hv =>
    refine ⟨h, fun k v hh => ?_⟩
    cases hh
    exact hv

theorem batchOps_ok {keyLen : Nat} {b : List KV} (h : ∀ kv ∈ b, kv.1.length = keyLen) :
    ∀ op ∈ batchOps b, OpOK keyLen op := by
  intro op hop
  simp only [batchOps, List.mem_map] at hop
  obtain ⟨kv, hkv, rfl⟩ := hop
  exact opOK_opOfKV kv (h kv (mem_dedupFirst hkv))

theorem foldl_applyOp_inv {keyLen : Nat} (ops : List Op) (hops : ∀ op ∈ ops, OpOK keyLen op) :
    ∀ (m : List KV), KeysLen keyLen m → ValuesNonempty m →
      KeysLen keyLen (ops.foldl applyOp m) ∧ ValuesNonempty (ops.foldl applyOp m) := fun _ h1 h2 =>
  List.foldlRecOn ops applyOp (motive := fun m => KeysLen keyLen m ∧ ValuesNonempty m) ⟨h1, h2⟩
    fun _ h op hop => ⟨keysLen_applyOp h.1 op (hops op hop).1, valuesNonempty_applyOp h.2 op (hops op hop)⟩

theorem finalMap_inv {keyLen : Nat} (bs : List (List KV)) (hlen : ∀ b ∈ bs, ∀ kv ∈ b, kv.1.length = keyLen) :
    KeysLen keyLen (finalMap bs) ∧ ValuesNonempty (finalMap bs) :=
  List.foldlRecOn bs applyBatch (motive := fun m => KeysLen keyLen m ∧ ValuesNonempty m)
    ⟨by simp [KeysLen], by simp [ValuesNonempty]⟩
    fun m h b hb => foldl_applyOp_inv (batchOps b) (batchOps_ok (hlen b hb)) m h.1 h.2

/-! ### hash assumptions

A hash with outputs of one fixed length cannot be injective on all byte strings, so soundness is stated for
a hash without collisions between two FINITE, explicitly defined sets of inputs: the inputs hashed to compute
the root of the map (`treeInputs`) and the inputs the verifier hashes while checking the given proof
(`reconInputs` and the proven node). -/

/-- `H` has no collision between an input of `A` and an input of `B` -/
def NoColl (H : HashFn) (A B : List Bytes) : Prop := ∀ a ∈ A, ∀ b ∈ B, H a = H b → a = b

theorem NoColl.mono {H : HashFn} {A B A' B' : List Bytes} (h : NoColl H A B) (hA : ∀ a ∈ A', a ∈ A)
    (hB : ∀ b ∈ B', b ∈ B) : NoColl H A' B' :=
  fun a ha b hb => h a (hA a ha) b (hB b hb)

def natOf (b : Bytes) : Nat := b.foldl (fun n x => n * 256 + x.toNat) 0

/-- `NoColl` for concrete lists, for kernel evaluation.  The hashes are compared as numbers (`natOf`, computed once per
input) and two inputs are compared only when these agree: comparing byte lists through their `Decidable` instances is what
makes the plain evaluation of `NoColl` dear.  Different numbers mean different hashes, so `natOf` need not be injective. -/
def noCollB (H : HashFn) (A B : List Bytes) : Bool :=
  let PB := B.map fun b => (b, natOf (H b))
  (A.map fun a => (a, natOf (H a))).all fun p => PB.all fun q => p.2 != q.2 || p.1 == q.1

theorem noColl_of_check {H : HashFn} {A B : List Bytes} (h : noCollB H A B = true) : NoColl H A B := by
  intro a ha b hb hab
  have := List.all_eq_true.mp (List.all_eq_true.mp h (a, natOf (H a)) (List.mem_map.mpr ⟨a, ha, rfl⟩))
    (b, natOf (H b)) (List.mem_map.mpr ⟨b, hb, rfl⟩)
  simpa [hab] using this

theorem noColl_of_injective {H : HashFn} (hinj : ∀ a b, H a = H b → a = b) (A B : List Bytes) : NoColl H A B :=
  fun a _ b _ => hinj a b

/-- the inputs hashed to compute `root H d es` -/
def treeInputs (H : HashFn) : Nat → List Entry → List Bytes
  | _, [] => [[]]
  | _, [e] => [0 :: (e.key ++ e.value)]
  | 0, _ :: _ :: _ => [[]]
  | d + 1, e₁ :: e₂ :: es =>
    (1 :: (root H d (goL (e₁ :: e₂ :: es)) ++ root H d (goR (e₁ :: e₂ :: es)))) ::
      (treeInputs H d (goL (e₁ :: e₂ :: es)) ++ treeInputs H d (goR (e₁ :: e₂ :: es)))

/-- the inputs hashed by `recon` -/
def reconInputs (H : HashFn) : Bits → List Bool → List Bytes → Bytes → List Bytes
  | dir :: ds, bm :: bs, sibs, cur =>
    if bm then
      match sibs with
      | [] => []
      | s :: ss =>
        match recon H ds bs ss cur with
        | some sub => (1 :: (if dir then s ++ sub else sub ++ s)) :: reconInputs H ds bs ss cur
        | none => []
    else
      match recon H ds bs sibs cur with
      | some sub =>
        (1 :: (if dir then emptyHash H ++ sub else sub ++ emptyHash H)) :: reconInputs H ds bs sibs cur
      | none => []
  | _, _, _, _ => []

theorem root_length {H : HashFn} {n : Nat} (hlen : ∀ x, (H x).length = n) (d : Nat) (es : List Entry) :
    (root H d es).length = n := by
  match d, es with
  | _, [] => simp [emptyHash, hlen]
  | _, [e] => simp [leafHash, hlen]
  | 0, _ :: _ :: _ => simp [root, emptyHash, hlen]
  | d + 1, _ :: _ :: _ => simp [root, branchHash, hlen]

/-- shape of the root of well-formed entries, with its preimage -/
theorem root_pre (H : HashFn) {d : Nat} {es : List Entry} (h : WFE d es) :
    (es = [] ∧ root H d es = H [] ∧ [] ∈ treeInputs H d es) ∨
    (∃ e, es = [e] ∧ root H d es = H (0 :: (e.key ++ e.value)) ∧
      (0 :: (e.key ++ e.value)) ∈ treeInputs H d es) ∨
    (2 ≤ es.length ∧ ∃ d', d = d' + 1 ∧
      root H d es = H (1 :: (root H d' (goL es) ++ root H d' (goR es))) ∧
      (1 :: (root H d' (goL es) ++ root H d' (goR es))) ∈ treeInputs H d es ∧
      (∀ b ∈ treeInputs H d' (goL es), b ∈ treeInputs H d es) ∧
      (∀ b ∈ treeInputs H d' (goR es), b ∈ treeInputs H d es)) := by
  match es, h with
  | [], _ => left; cases d <;> simp [treeInputs, emptyHash]
  | [e], _ => right; left; exact ⟨e, rfl, by simp [leafHash], by cases d <;> simp [treeInputs]⟩
  | e₁ :: e₂ :: r, h =>
    right; right
    cases d with
    | zero => have := wfe_zero_length h; simp at this
    | succ d =>
      refine ⟨by simp, d, rfl, ?_, ?_, ?_, ?_⟩
      · rw [root_succ_two H d _ (by simp)]; rfl
      · simp [treeInputs]
      · intro b hb; simp only [treeInputs, List.mem_cons, List.mem_append]; exact Or.inr (Or.inl hb)
      · intro b hb; simp only [treeInputs, List.mem_cons, List.mem_append]; exact Or.inr (Or.inr hb)

theorem root_eq_empty {H : HashFn} {d : Nat} {es : List Entry} (h : WFE d es)
    (hnc : NoColl H [[]] (treeInputs H d es)) (he : root H d es = H []) : es = [] := by
  rcases root_pre H h with ⟨h1, _⟩ | ⟨e, _, h2, hm⟩ | ⟨_, d', _, h2, hm, _⟩
  · exact h1
  · rw [h2] at he; have := hnc [] (by simp) _ hm he.symm; simp at this
  · rw [h2] at he; have := hnc [] (by simp) _ hm he.symm; simp at this

theorem root_eq_leaf {H : HashFn} {d : Nat} {es : List Entry} (h : WFE d es) {k v : Bytes}
    (hnc : NoColl H [0 :: (k ++ v)] (treeInputs H d es)) (hk : ∀ e ∈ es, e.key.length = k.length)
    (he : root H d es = H (0 :: (k ++ v))) : ∃ e, es = [e] ∧ e.key = k ∧ e.value = v := by
  rcases root_pre H h with ⟨_, h2, hm⟩ | ⟨e, h1, h2, hm⟩ | ⟨_, d', _, h2, hm, _⟩
  · rw [h2] at he; have := hnc _ (by simp) _ hm he.symm; simp at this
  · rw [h2] at he
    have := hnc _ (by simp) _ hm he.symm
    simp only [List.cons.injEq, true_and] at this
    have := List.append_inj this (hk e (by simp [h1])).symm
    exact ⟨e, h1, this.1.symm, this.2.symm⟩
  · rw [h2] at he; have := hnc _ (by simp) _ hm he.symm; simp at this

theorem root_eq_branch {H : HashFn} {n : Nat} (hlen : ∀ x, (H x).length = n) {d : Nat} {es : List Entry}
    (h : WFE d es) {l r : Bytes} (hl : l.length = n ∨ r.length = n)
    (hnc : NoColl H [1 :: (l ++ r)] (treeInputs H d es)) (he : root H d es = H (1 :: (l ++ r))) :
    2 ≤ es.length ∧ ∃ d', d = d' + 1 ∧ l = root H d' (goL es) ∧ r = root H d' (goR es) ∧
      (∀ b ∈ treeInputs H d' (goL es), b ∈ treeInputs H d es) ∧
      (∀ b ∈ treeInputs H d' (goR es), b ∈ treeInputs H d es) := by
  rcases root_pre H h with ⟨_, h2, hm⟩ | ⟨e, _, h2, hm⟩ | ⟨h0, d', hd, h2, hm, hL, hR⟩
  · rw [h2] at he; have := hnc _ (by simp) _ hm he.symm; simp at this
  · rw [h2] at he; have := hnc _ (by simp) _ hm he.symm; simp at this
  · rw [h2] at he
    have := hnc _ (by simp) _ hm he.symm
    simp only [List.cons.injEq, true_and] at this
    have := hl.elim (fun hl => List.append_inj this (by rw [hl, root_length hlen]))
      (fun hr => List.append_inj' this (by rw [hr, root_length hlen]))
    exact ⟨h0, d', hd, this.1, this.2, hL, hR⟩

/-! ### walking down -/

/-- the entries below the node reached by the directions `dirs` -/
def descend : List Entry → Bits → List Entry
  | es, [] => es
  | es, b :: r => descend (if b then goR es else goL es) r

theorem wfe_descend : ∀ (dirs : Bits) {d : Nat} {es : List Entry}, WFE d es → dirs.length ≤ d →
    WFE (d - dirs.length) (descend es dirs)
  | [], _, _, h, _ => h
  | _ :: _, 0, _, _, hl => by simp at hl
  | b :: r, d + 1, es, h, hl => by
    rw [show d + 1 - (b :: r).length = d - r.length by simp]
    exact wfe_descend r (wfe_child h b) (by simpa using hl)

theorem mem_descend : ∀ (dirs : Bits) {es : List Entry} {e' : Entry},
    e' ∈ descend es dirs ↔ ∃ e ∈ es, e.path = dirs ++ e'.path ∧ e'.key = e.key ∧ e'.value = e.value
  | [], es, e' => by
    simp only [descend, List.nil_append]
    constructor
    · intro h; exact ⟨e', h, rfl, rfl, rfl⟩
    · rintro ⟨e, he, hp, hk, hv⟩
      have : e' = e := by cases e; cases e'; simp_all
      rw [this]; exact he
  | b :: r, es, e' => by
    simp only [descend]
    rw [mem_descend r]
    constructor
    · rintro ⟨e1, he1, hp, hk, hv⟩
      obtain ⟨e, he, hp2, hk2, hv2⟩ := mem_child.mp he1
      exact ⟨e, he, by rw [hp2, hp]; rfl, hk.trans hk2, hv.trans hv2⟩
    · rintro ⟨e, he, hp, hk, hv⟩
      exact ⟨⟨r ++ e'.path, e.key, e.value⟩, mem_child.mpr ⟨e, he, by simpa using hp, rfl, rfl⟩, rfl, hk, hv⟩

/-- what holds of the key and value of every entry holds of those of every entry below a path -/
theorem kv_descend {P : Bytes → Bytes → Prop} {es : List Entry} (h : ∀ e ∈ es, P e.key e.value) (x : Bits) :
    ∀ e ∈ descend es x, P e.key e.value := by
  intro e' he'
  obtain ⟨e, he, _, hk, hv⟩ := (mem_descend x).mp he'
  rw [hk, hv]; exact h e he

theorem kv_child {P : Bytes → Bytes → Prop} {es : List Entry} (h : ∀ e ∈ es, P e.key e.value) (b : Bool) :
    ∀ e ∈ (if b then goR es else goL es), P e.key e.value :=
  kv_descend h [b]

/-- in a tree whose entries carry the bits of their keys as paths, the key of an entry below `P` starts with `P` -/
theorem keyBits_mem_descend {es : List Entry} (hpath : ∀ e ∈ es, e.path = keyBits e.key) {P : Bits} {e : Entry}
    (he : e ∈ descend es P) : keyBits e.key = P ++ e.path := by
  obtain ⟨e0, he0, hp, hk, _⟩ := (mem_descend P).mp he
  rw [hk, ← hp, hpath e0 he0]

/-! ### reconstruction of the root from a single-key proof -/

/-- the sibling hash `s` of a level with bitmap bit `b`, and the part `pre` of the sibling hashes it takes: a set
bit takes the next sibling hash, a cleared bit stands for the empty hash -/
def LevelSib (H : HashFn) (b : Bool) (s : Bytes) (pre : List Bytes) : Prop :=
  (b = true ∧ pre = [s]) ∨ (b = false ∧ pre = [] ∧ s = emptyHash H)

/-- one level of `recon` -/
theorem recon_cons (H : HashFn) (dir : Bool) (ds : Bits) (bs : List Bool) (ss : List Bytes) (x : Bytes) {b : Bool}
    {s : Bytes} {pre : List Bytes} (h : LevelSib H b s pre) :
    recon H (dir :: ds) (b :: bs) (pre ++ ss) x =
      (recon H ds bs ss x).map fun sub => if dir then branchHash H s sub else branchHash H sub s := by
  rcases h with ⟨rfl, rfl⟩ | ⟨rfl, rfl, rfl⟩ <;>
    simp only [recon, Bool.false_eq_true, ↓reduceIte, List.cons_append, List.nil_append]

/-- … and the input hashed at that level -/
theorem reconInputs_cons (H : HashFn) (dir : Bool) (ds : Bits) (bs : List Bool) (ss : List Bytes) (x : Bytes)
    {b : Bool} {s : Bytes} {pre : List Bytes} (h : LevelSib H b s pre) {sub : Bytes}
    (hs : recon H ds bs ss x = some sub) :
    reconInputs H (dir :: ds) (b :: bs) (pre ++ ss) x =
      (1 :: (if dir then s ++ sub else sub ++ s)) :: reconInputs H ds bs ss x := by
  rcases h with ⟨rfl, rfl⟩ | ⟨rfl, rfl, rfl⟩ <;>
    simp only [reconInputs, Bool.false_eq_true, ↓reduceIte, List.cons_append, List.nil_append, hs]

theorem recon_cons_inv {H : HashFn} {dir b : Bool} {ds : Bits} {bs : List Bool} {sibs : List Bytes} {x y : Bytes}
    (h : recon H (dir :: ds) (b :: bs) sibs x = some y) : ∃ s pre ss, sibs = pre ++ ss ∧ LevelSib H b s pre := by
  cases b
  · exact ⟨emptyHash H, [], sibs, rfl, Or.inr ⟨rfl, rfl, rfl⟩⟩
  · cases sibs with
    | nil => simp [recon] at h
    | cons s ss => exact ⟨s, [s], ss, rfl, Or.inl ⟨rfl, rfl⟩⟩

/-- one step of `recon`, with the input hashed in that step -/
theorem recon_cons_some {H : HashFn} {dir : Bool} {ds : Bits} {bm : List Bool} {sibs : List Bytes} {x y : Bytes}
    (h : recon H (dir :: ds) bm sibs x = some y) :
    ∃ bs ss s sub, recon H ds bs ss x = some sub ∧
      y = H (1 :: (if dir then s ++ sub else sub ++ s)) ∧
      (1 :: (if dir then s ++ sub else sub ++ s)) ∈ reconInputs H (dir :: ds) bm sibs x ∧
      (∀ a ∈ reconInputs H ds bs ss x, a ∈ reconInputs H (dir :: ds) bm sibs x) := by
  match bm, h with
  | b :: bs, h =>
    obtain ⟨s, pre, ss, rfl, hl⟩ := recon_cons_inv h
    rw [recon_cons H dir ds bs ss x hl, Option.map_eq_some_iff] at h
    obtain ⟨sub, hs, rfl⟩ := h
    rw [reconInputs_cons H dir ds bs ss x hl hs]
    exact ⟨bs, ss, s, sub, hs, by cases dir <;> rfl, List.mem_cons_self, fun a ha => List.mem_cons_of_mem _ ha⟩

theorem recon_length {H : HashFn} {n : Nat} (hlen : ∀ x, (H x).length = n) :
    ∀ (dirs : Bits) (bm : List Bool) (sibs : List Bytes) (x y : Bytes), x.length = n →
      recon H dirs bm sibs x = some y → y.length = n := by
  intro dirs bm sibs x y hx h
  match dirs, h with
  | [], h =>
    match bm, sibs, h with
    | [], [], h => simp only [recon, Option.some.injEq] at h; rw [← h]; exact hx
  | dir :: ds, h =>
    obtain ⟨_, _, _, _, _, hy, _, _⟩ := recon_cons_some h
    rw [hy]; exact hlen _

/-- **soundness core**: if the reconstruction from a node hash `x` along `dirs` gives the root of the entries
`es` (and `H` has no collision between the inputs of the reconstruction and those of the tree), then `x` is
the root of the entries below the node that `dirs` leads to. -/
theorem recon_sound {H : HashFn} {n : Nat} (hlen : ∀ x, (H x).length = n) :
    ∀ (dirs : Bits) (bm : List Bool) (sibs : List Bytes) (x : Bytes), x.length = n →
      ∀ (d : Nat) (es : List Entry), WFE d es →
        NoColl H (reconInputs H dirs bm sibs x) (treeInputs H d es) →
        recon H dirs bm sibs x = some (root H d es) →
        dirs.length ≤ d ∧ x = root H (d - dirs.length) (descend es dirs) ∧
          (∀ b ∈ treeInputs H (d - dirs.length) (descend es dirs), b ∈ treeInputs H d es) := by
  intro dirs
  induction dirs with
  | nil =>
    intro bm sibs x hx d es hw hnc h
    match bm, sibs, h with
    | [], [], h =>
      simp only [recon, Option.some.injEq] at h
      simp [descend, h]
  | cons dir ds ih =>
    intro bm sibs x hx d es hw hnc h
    obtain ⟨bs, ss, s, sub, hs, hy, hmem, hsubset⟩ := recon_cons_some h
    have hsub : sub.length = n := recon_length hlen _ _ _ _ _ hx hs
    -- the part of the hashed input that stands for the child on the path is the root of that child
    obtain ⟨d', rfl, hchild⟩ : ∃ d', d = d' + 1 ∧ sub = root H d' (if dir then goR es else goL es) ∧
        ∀ b ∈ treeInputs H d' (if dir then goR es else goL es), b ∈ treeInputs H (d' + 1) es := by
      have hnc1 : NoColl H [1 :: (if dir then s ++ sub else sub ++ s)] (treeInputs H d es) :=
        hnc.mono (fun a ha => List.mem_singleton.mp ha ▸ hmem) fun _ hb => hb
      cases dir
      · obtain ⟨-, d', rfl, h1, -, hL, -⟩ := root_eq_branch hlen hw (Or.inl hsub) hnc1 hy
        exact ⟨d', rfl, h1, hL⟩
      · obtain ⟨-, d', rfl, -, h1, -, hR⟩ := root_eq_branch hlen hw (Or.inr hsub) hnc1 hy
        exact ⟨d', rfl, h1, hR⟩
    rw [hchild.1] at hs
    have := ih _ _ _ hx d' _ (wfe_child hw dir) (hnc.mono hsubset hchild.2) hs
    simp only [List.length_cons, descend]
    rw [show d' + 1 - (ds.length + 1) = d' - ds.length by omega]
    exact ⟨by omega, this.2.1, fun b hb => hchild.2 b (this.2.2 b hb)⟩

/-! ### common prefixes -/

theorem take_eq_of_le_commonPrefixLen : ∀ (h : Nat) (a b : Bits), h ≤ commonPrefixLen a b → a.take h = b.take h
  | 0, _, _, _ => by simp
  | h + 1, [], _, hl => by simp [commonPrefixLen] at hl
  | h + 1, _ :: _, [], hl => by simp [commonPrefixLen] at hl
  | h + 1, x :: as, y :: bs, hl => by
    simp only [commonPrefixLen] at hl
    split at hl
    · next hxy =>
      subst hxy
      simp only [List.take_succ_cons, List.cons.injEq, true_and]
      exact take_eq_of_le_commonPrefixLen h as bs (by omega)
    · omega

theorem commonPrefixLen_append (x s t : Bits) : x.length ≤ commonPrefixLen (x ++ s) (x ++ t) := by
  induction x with
  | nil => simp
  | cons a r ih =>
    simp only [List.length_cons, List.cons_append, commonPrefixLen, ↓reduceIte, Nat.add_le_add_iff_right]
    exact ih

/-! ### generated single-key proofs -/

theorem nodeHash_empty (H : HashFn) (k : Bytes) (bm : List Bool) (ss : List Bytes) :
    (Proof1.mk k [] bm ss).nodeHash H = emptyHash H := by simp [Proof1.nodeHash]

/-- the sibling of a node as a level of a proof: its root is listed iff it has entries -/
theorem levelSib_root (H : HashFn) (d : Nat) (sib : List Entry) :
    LevelSib H (!sib.isEmpty) (root H d sib) (if sib.isEmpty then [] else [root H d sib]) := by
  cases sib with
  | nil => exact Or.inr ⟨rfl, rfl, root_nil H d⟩
  | cons _ _ => exact Or.inl ⟨rfl, rfl⟩

theorem prove1_succ_two (H : HashFn) (qk : Bytes) (d : Nat) (es : List Entry) (h : 2 ≤ es.length) (b : Bool) (r : Bits) :
    prove1 H qk (d + 1) es (b :: r) =
      { prove1 H qk d (if b then goR es else goL es) r with
        bitmap := (!(if b then goL es else goR es).isEmpty) :: (prove1 H qk d (if b then goR es else goL es) r).bitmap,
        siblings := (if (if b then goL es else goR es).isEmpty then [] else [root H d (if b then goL es else goR es)]) ++
          (prove1 H qk d (if b then goR es else goL es) r).siblings } := by
  match es, h with
  | _ :: _ :: _, _ => rfl

/-- what `prove1` returns: the height is at most the depth, the reconstruction along the query path gives the
root, and the proven node is the node the query path leads to (empty, or the single leaf below it). -/
theorem prove1_spec (H : HashFn) (qk : Bytes) :
    ∀ (d : Nat) (es : List Entry) (q : Bits), WFE d es → q.length = d → (∀ e ∈ es, e.value ≠ []) →
      let p := prove1 H qk d es q
      p.bitmap.length ≤ d ∧
      recon H (q.take p.bitmap.length) p.bitmap p.siblings (p.nodeHash H) = some (root H d es) ∧
      ((p.value = [] ∧ p.key = qk ∧ descend es (q.take p.bitmap.length) = []) ∨
       (∃ e, descend es (q.take p.bitmap.length) = [e] ∧ p.key = e.key ∧ p.value = e.value)) := by
  intro d es q hw
  induction d, es, hw using WFE.node_induction generalizing q with
  | nil d => intro _ _; cases d <;> simp [prove1, recon, Proof1.nodeHash, descend]
  | single d e =>
    intro _ hv
    have := hv e (by simp)
    cases d <;> simp [prove1, recon, Proof1.nodeHash, descend, this]
  | branch d es hw h2 ih =>
    intro hq hv
    match q, hq with
    | b :: qr, hq =>
      obtain ⟨h1, hrec, hnode⟩ := ih b qr (by simpa using hq)
        (kv_child (P := fun _ v => v ≠ []) hv b)
      rw [prove1_succ_two H qk d es h2]
      simp only [List.length_cons, List.take_succ_cons, descend]
      refine ⟨by omega, ?_, hnode⟩
      rw [recon_cons H b _ _ _ _ (levelSib_root H d _)]
      refine (congrArg _ hrec).trans ?_
      rw [root_succ_two H d _ h2]
      cases b <;> rfl

end LiskVerif.SMT
