/-
Further lemmas about the certificate model (Model/Cert.lean) used by Props/C06_More.lean:

* entries on the current chain (`OnChain`): there, one entry per (block, signer) is one per (height, signer)
  (`distinct_height_signer`);
* `Pool.Get` after `Pool.Cleanup`; step 1 of `broadcastCertificate` is that cleanup (`broadcastCleanup_eq`);
* `Certifiable` (a height is certifiable from the pool, as the code computes it) and `GacChar`, with which the
  candidate loop of `GetAggregateCommit` is described exactly (`gacLoop_char`): it returns the aggregate for the
  LARGEST certifiable height of its window, the empty commit when there is none;
* the loop only reads `Pool.Get h` for heights of its window (`gacLoop_congr`, `getAggregateCommit_congr`);
* the weight loop of `GetAggregateCommit` computes the weight of the SET of signing validators when the
  signers are distinct (`commitsWeight_eq_signedWeight`).
-/
import LiskVerif.Lemmas.CertPool

namespace LiskVerif.Cert

/-! ## entries on the current chain -/

/-- the entry's block id is the id of the chain's block at the entry's HEIGHT FIELD -/
def OnChain (st : State) (c : Commit) : Prop := ∃ hd, st.blockAt c.height = some hd ∧ hd.id = c.block

theorem VerifiedOnChain.onChain {st : State} {c : Commit} (h : VerifiedOnChain st c) : OnChain st c := by
  obtain ⟨hd, _, _, hb, hid, _⟩ := h
  exact ⟨hd, hb, hid⟩

/-- on one chain, one entry per (block, signer) means one entry per (height, signer) -/
theorem distinct_height_signer {st : State} {l : List Commit} (hon : ∀ c ∈ l, OnChain st c) (hd : Distinct l) :
    l.Pairwise (fun a b => ¬ (a.height = b.height ∧ a.signer = b.signer)) := by
  refine List.Pairwise.imp_of_mem ?_ hd
  intro a b ha hb hab hh
  obtain ⟨ha', h1, h2⟩ := hon a ha
  obtain ⟨hb', h3, h4⟩ := hon b hb
  rw [hh.1, h3] at h1
  cases h1
  exact hab ⟨by rw [← h2, ← h4], hh.2⟩

/-! ## `Pool.Get` and `Pool.Cleanup` -/

theorem filter_keep_height (l : List Commit) (keep : Nat → Bool) (h : Nat) :
    (l.filter (fun c => keep c.height)).filter (fun c => c.height == h) =
      if keep h then l.filter (fun c => c.height == h) else [] := by
  rw [List.filter_filter]
  split
  · exact List.filter_congr fun c _ => by by_cases hc : c.height = h <;> simp_all
  · exact List.filter_eq_nil_iff.mpr fun c _ => by by_cases hc : c.height = h <;> simp_all

theorem cleanup_get (pool : Pool) (keep : Nat → Bool) (h : Nat) :
    (pool.cleanup keep).get h = if keep h then pool.get h else [] := by
  simp only [Pool.cleanup, Pool.get, filter_keep_height]
  split <;> simp

theorem cleanup_mem (pool : Pool) (keep : Nat → Bool) (c : Commit) :
    (c ∈ (pool.cleanup keep).gossiped ↔ c ∈ pool.gossiped ∧ keep c.height = true) ∧
    (c ∈ (pool.cleanup keep).nonGossiped ↔ c ∈ pool.nonGossiped ∧ keep c.height = true) := by
  simp [Pool.cleanup, List.mem_filter]

/-- step 1 of `broadcastCertificate` is `Pool.Cleanup` above the aggregate-commit height of the block at
`maxHeightPrecommited` -/
theorem broadcastCleanup_eq {st : State} {pool pool' : Pool} {fin : Header}
    (hfin : st.blockAt st.mhpc = some fin) (hb : broadcastCleanup st pool = some pool') :
    pool' = pool.cleanup (cleanupKeep st fin.acHeight) := by
  rw [broadcastCleanup, hfin] at hb
  exact (Option.some.inj hb).symm

/-! ## the candidate loop of `GetAggregateCommit` -/

/-- height `h` is certifiable from the pool, as the code computes it: the pool holds commits for the
chain's block at `h` and the summed weight of their signers reaches the threshold of `h` -/
def Certifiable (st : State) (pool : Pool) (h : Nat) : Prop :=
  ∃ hd p w, st.blockAt h = some hd ∧ forBlock (pool.get h) hd.id ≠ [] ∧ getParams st.params h = some p ∧
    commitsWeight p.validators (forBlock (pool.get h) hd.id) = some w ∧ p.threshold ≤ w

/-- what a successful run of the candidate loop over the heights `(mhc, bound]` returns -/
def GacChar (le : Validator → Validator → Bool) (st : State) (pool : Pool) (bound : Nat) (ac : AggCommit) : Prop :=
  (ac = emptyCommit st ∧ ∀ h, st.mhc < h → h ≤ bound → ¬ Certifiable st pool h) ∨
  (∃ h hd p, st.mhc < h ∧ h ≤ bound ∧ Certifiable st pool h ∧
    (∀ h', h < h' → h' ≤ bound → ¬ Certifiable st pool h') ∧
    st.blockAt h = some hd ∧ getParams st.params h = some p ∧
    aggregateOrd le (forBlock (pool.get h) hd.id) p.validators = .ok ac)

theorem GacChar.extend {le : Validator → Validator → Bool} {st : State} {pool : Pool} {b : Nat} {ac : AggCommit}
    (hn : ¬ Certifiable st pool (b + 1)) (h : GacChar le st pool b ac) : GacChar le st pool (b + 1) ac := by
  -- heights up to `b + 1`: those up to `b`, and `b + 1` itself
  have step : ∀ x, x ≤ b + 1 → (x ≤ b → ¬ Certifiable st pool x) → ¬ Certifiable st pool x :=
    fun x hx h => (Nat.lt_or_eq_of_le hx).elim (fun hlt => h (Nat.le_of_lt_succ hlt)) (fun e => e ▸ hn)
  rcases h with ⟨h1, h2⟩ | ⟨h, hd, p, h1, h2, h3, h4, h5⟩
  · exact .inl ⟨h1, fun x hx1 hx2 => step x hx2 (h2 x hx1)⟩
  · exact .inr ⟨h, hd, p, h1, Nat.le_succ_of_le h2, h3, fun x hx1 hx2 => step x hx2 (h4 x hx1), h5⟩

theorem gacLoop_char (le : Validator → Validator → Bool) (st : State) (pool : Pool) (ac : AggCommit) (d : Nat)
    (hg : gacLoop le st pool d = .ok ac) : GacChar le st pool (st.mhc + d) ac := by
  induction d with
  | zero => cases hg; exact .inl ⟨rfl, fun h h1 h2 => (Nat.not_lt.mpr h2 h1).elim⟩
  | succ d ih =>
    rw [gacLoop] at hg
    cases hb : st.blockAt (st.mhc + d + 1) with
    | none => rw [hb] at hg; cases hg
    | some hd =>
      rw [hb] at hg
      dsimp only at hg
      -- a height the loop passes over is not certifiable: no commits, or too little weight
      by_cases hem : (forBlock (pool.get (st.mhc + d + 1)) hd.id).isEmpty = true
      · rw [if_pos hem] at hg
        exact (ih hg).extend fun ⟨_, _, _, h1, h2, _⟩ => by
          cases hb.symm.trans h1
          exact h2 (List.isEmpty_iff.mp hem)
      rw [if_neg hem] at hg
      cases hp : getParams st.params (st.mhc + d + 1) with
      | none => rw [hp] at hg; cases hg
      | some p =>
        rw [hp] at hg
        dsimp only at hg
        cases hw : commitsWeight p.validators (forBlock (pool.get (st.mhc + d + 1)) hd.id) with
        | none => rw [hw] at hg; cases hg
        | some w =>
          rw [hw] at hg
          dsimp only at hg
          by_cases hlt : w < p.threshold
          · rw [if_pos hlt] at hg
            exact (ih hg).extend fun ⟨_, _, _, h1, _, h3, h4, h5⟩ => by
              cases hb.symm.trans h1
              cases hp.symm.trans h3
              cases hw.symm.trans h4
              exact Nat.not_le.mpr hlt h5
          · rw [if_neg hlt] at hg
            exact .inr ⟨_, hd, p, Nat.lt_succ_of_le (Nat.le_add_right _ _), Nat.le_refl _,
              ⟨hd, p, w, hb, fun h => hem (List.isEmpty_iff.mpr h), hp, hw, Nat.not_lt.mp hlt⟩,
              fun h' h1 h2 => (Nat.not_lt.mpr h2 h1).elim, hb, hp, hg⟩

/-- a height above `m` lies in the loop's window `(m, m + (g - m)]` exactly when it is at most `g` -/
theorem le_add_sub_iff {m g x : Nat} (h : m < x) : x ≤ m + (g - m) ↔ x ≤ g := by omega

/-- the loop reads the pool only through `Pool.Get h` for the heights of its window -/
theorem gacLoop_congr (le : Validator → Validator → Bool) (st : State) (p1 p2 : Pool) (d : Nat)
    (h : ∀ x, st.mhc < x → x ≤ st.mhc + d → p1.get x = p2.get x) :
    gacLoop le st p1 d = gacLoop le st p2 d := by
  induction d with
  | zero => rfl
  | succ d ih =>
    unfold gacLoop
    simp only
    rw [h (st.mhc + d + 1) (by omega) (by omega), ih (fun x h1 h2 => h x h1 (by omega))]

/-- `GetAggregateCommit` reads the pool only through `Pool.Get h` for the heights of its window `(mhc, gacStart]` -/
theorem getAggregateCommit_congr (st : State) {p1 p2 : Pool}
    (h : ∀ x, st.mhc < x → x ≤ gacStart st → p1.get x = p2.get x) : getAggregateCommit st p1 = getAggregateCommit st p2 :=
  gacLoop_congr keyLe st p1 p2 _ fun x h1 h2 => h x h1 ((le_add_sub_iff h1).mp h2)

/-! ## the weight loop -/

/-- the weight of the SET of validators of `p` that signed one of the commits -/
def signedWeight (p : Params) (commits : List Commit) : Nat :=
  ((p.validators.filter (fun v => commits.any (fun c => c.signer == v.addr))).map (·.weight)).sum

/-- **No double counting.**  With distinct signers that are validators of well-formed parameters, the
weight loop of `GetAggregateCommit` yields the weight of the set of signing validators. -/
theorem commitsWeight_eq_signedWeight (p : Params) (hwf : ParamsWf p) (commits : List Commit)
    (hok : ∀ c ∈ commits, ∃ v, findValidator p.validators c.signer = some v)
    (hdist : commits.Pairwise (fun a b => a.signer ≠ b.signer)) :
    commitsWeight p.validators commits = some (signedWeight p commits) := by
  obtain ⟨cv, h1, -, h2, -, h3⟩ := commits_facts p.validators (fun _ => ()) (fun _ => ()) commits
    fun c hc => (hok c hc).imp fun _ h => ⟨h, rfl⟩
  rw [h3]
  congr 1
  have hcvnd : cv.Nodup := nodup_of_nodup_map (·.addr) (h1 ▸ List.pairwise_map.mpr hdist)
  have hperm : (p.validators.filter (fun v => commits.any (fun c => c.signer == v.addr))).Perm cv :=
    filter_perm_of_mem (·.addr) hwf.2 hcvnd h2 _ fun v _ => by
      rw [h1, List.any_eq_true, List.mem_map]
      exact exists_congr fun c => and_congr_right fun _ => beq_iff_eq
  unfold signedWeight
  exact ((hperm.map (·.weight)).sum_nat).symm

end LiskVerif.Cert
