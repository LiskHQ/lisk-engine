/-
Lemmas about the transcription of `Verify` / `CalculateRoot` (Model/SMTVerify.lean) used by the single-query and
by the multi-query theorems: one more level below a reconstruction (`recon_snoc`), `CalculateRoot` on a SINGLE
query as the specification reconstruction `SMT.recon`, and the first loop of `Verify` (`checkOne_eq_none`,
`verify_ok_true`).
-/
import LiskVerif.Model.SMTVerify
import LiskVerif.Lemmas.SMT

namespace LiskVerif.SMTVerify
open LiskVerif LiskVerif.SMT

/-- one more (deepest) level below a successful reconstruction; the only new input hashed is that of the new
level -/
theorem recon_snoc (H : HashFn) (dir : Bool) {b : Bool} {s : Bytes} {pre : List Bytes} (hl : LevelSib H b s pre)
    (x : Bytes) :
    ∀ (ds : Bits) (bs : List Bool) (ss : List Bytes) (r : Bytes),
      recon H ds bs ss (if dir then branchHash H s x else branchHash H x s) = some r →
      recon H (ds ++ [dir]) (bs ++ [b]) (ss ++ pre) x = some r ∧
      ∀ a ∈ reconInputs H (ds ++ [dir]) (bs ++ [b]) (ss ++ pre) x,
        a = 1 :: (if dir then s ++ x else x ++ s) ∨
        a ∈ reconInputs H ds bs ss (if dir then branchHash H s x else branchHash H x s) := by
  intro ds
  induction ds with
  | nil =>
    intro bs ss r h
    match bs, ss, h with
    | [], [], h =>
      simp only [recon, Option.some.injEq] at h
      have hx : recon H [] [] [] x = some x := rfl
      rw [List.nil_append, List.nil_append, List.nil_append, ← List.append_nil pre, recon_cons H dir _ _ _ _ hl,
        reconInputs_cons H dir _ _ _ _ hl hx, hx]
      exact ⟨congrArg some h, fun a ha => Or.inl (by simpa [reconInputs] using ha)⟩
  | cons d ds ih =>
    intro bs ss r h
    match bs, h with
    | b' :: bs', h =>
      obtain ⟨s', pre', ss', rfl, hl'⟩ := recon_cons_inv h
      rw [recon_cons H d _ _ _ _ hl', Option.map_eq_some_iff] at h
      obtain ⟨sub, hs, hr⟩ := h
      obtain ⟨ih1, ih2⟩ := ih _ _ _ hs
      rw [List.cons_append, List.cons_append, List.append_assoc, recon_cons H d _ _ _ _ hl',
        reconInputs_cons H d _ _ _ _ hl' ih1, reconInputs_cons H d _ _ _ _ hl' hs, ih1]
      refine ⟨congrArg some hr, fun a ha => ?_⟩
      rcases List.mem_cons.mp ha with ha | ha
      · exact Or.inr (List.mem_cons.mpr (Or.inl ha))
      · exact (ih2 a ha).imp_right (List.mem_cons_of_mem _)

/-- the node hash of a single-key proof is the hash `newQueryProof` gives the query -/
theorem nodeHash_eq_mkQP (H : HashFn) (k v : Bytes) (bm : List Bool) (ss : List Bytes) (b : Bits) :
    Proof1.nodeHash H ⟨k, v, bm, ss⟩ = (mkQP H k v b).hash := by
  unfold Proof1.nodeHash mkQP
  cases v <;> simp

theorem insertAndMerge_nil (q : QP) : insertAndMerge q [] = some [q] := by
  simp [insertAndMerge, searchPos, binarySearch, bsLoop, insertAt]

/-- `CalculateRoot`'s loop on a single query computes `recon` along the key bits (lists reversed: the loop works
bottom-up and consumes the sibling hashes deepest first). -/
theorem calcLoop_single (H : HashFn) (key value : Bytes) :
    ∀ (bm : Bits) (fuel : Nat) (x : Bytes) (sibs : List Bytes) (r : Bytes),
      bm.length ≤ (toBools key).length →
      calcLoop H fuel sibs [⟨key, value, bm, x⟩] = some r →
      recon H ((toBools key).take bm.length) bm.reverse sibs.reverse x = some r := by
  intro bm
  induction bm with
  | nil =>
    intro fuel x sibs r _ h
    cases fuel with
    | zero => simp [calcLoop] at h
    | succ f =>
      simp only [calcLoop] at h
      split at h
      · next he =>
        have : sibs = [] := List.isEmpty_iff.mp he
        simp only [Option.some.injEq] at h
        simp [recon, this, h]
      · simp at h
  | cons b0 rest ih =>
    intro fuel x sibs r hlen h
    cases fuel with
    | zero => simp [calcLoop] at h
    | succ f =>
      have hlen' : rest.length < (toBools key).length := Nat.lt_of_succ_le (by simpa using hlen)
      have htake : (toBools key).take (rest.length + 1) =
          (toBools key).take rest.length ++ [(toBools key).getD rest.length false] := by
        rw [List.take_succ_eq_append_getElem hlen', List.getElem_eq_getD false]
      simp only [calcLoop, QP.height, QP.binaryKey, List.length_cons, Nat.add_sub_cancel] at h
      simp only [List.length_cons, List.reverse_cons, htake]
      generalize (toBools key).getD rest.length false = dir at h ⊢
      cases b0
      · -- empty sibling
        simp only [Bool.not_false, ↓reduceIte] at h
        split at h
        · simp at h
        · simp only [insertAndMerge_nil] at h
          have := ih f _ sibs r (by omega) h
          have hs := (recon_snoc H dir (Or.inr ⟨rfl, rfl, rfl⟩) x _ _ _ r (by cases dir <;> simpa using this)).1
          simpa using hs
      · simp only [Bool.not_true, Bool.false_eq_true, ↓reduceIte] at h
        match sibs, h with
        | [], h => simp at h
        | s :: ss, h =>
          simp only at h
          split at h
          · simp at h
          · simp only [insertAndMerge_nil] at h
            have := ih f _ ss r (by omega) h
            have hs := (recon_snoc H dir (Or.inl ⟨rfl, rfl⟩) x _ _ _ r (by cases dir <;> simpa using this)).1
            simpa using hs

/-! ### the first loop of `Verify`

`checkOne` is a chain of `if … then some verdict else …`: the two lemmas below turn "the chain returns `none`" and
"the chain returns `some v`" into propositions about its conditions in one `simp only` pass. -/

theorem ite_some_eq_none {α : Type} {c : Prop} [Decidable c] {a : α} {x : Option α} :
    (if c then some a else x) = none ↔ ¬ c ∧ x = none := by
  by_cases h : c <;> simp [h]

theorem ite_some_eq_some {α : Type} {c : Prop} [Decidable c] {a v : α} {x : Option α} :
    (if c then some a else x) = some v ↔ (c ∧ a = v) ∨ (¬ c ∧ x = some v) := by
  by_cases h : c <;> simp [h]

/-- a query passes the first loop of `Verify` iff every check of the loop holds -/
theorem checkOne_eq_none {keyLen : Nat} {key : Bytes} {query : Query} {seen : List Query} :
    checkOne keyLen key query seen = none ↔
      key.length = keyLen ∧ query.key.length = keyLen ∧
      (seen.find? (fun q => q.key = query.key)).any
        (fun d => d.bitmap != query.bitmap || d.value != query.value) = false ∧
      query.bitmap.headD 1 ≠ 0 ∧
      (stripPrefixFalse (toBools query.bitmap)).length ≤ 8 * keyLen ∧
      (key = query.key ∨ (stripPrefixFalse (toBools query.bitmap)).length ≤
        commonPrefixLen (toBools key) (toBools query.key)) := by
  simp only [checkOne, ite_some_eq_none, bne_iff_ne, ne_eq, Decidable.not_not, Bool.not_eq_true, beq_iff_eq,
    Nat.not_lt, ite_eq_left_iff, and_true, Decidable.or_iff_not_imp_left]

/-- no verdict of the first loop is an acceptance -/
theorem checkOne_ne_ok_true (keyLen : Nat) (key : Bytes) (query : Query) (seen : List Query) :
    checkOne keyLen key query seen ≠ some (.ok true) := by
  simp only [checkOne, ne_eq, ite_some_eq_some, Option.ite_none_left_eq_some, reduceCtorEq, Verdict.ok.injEq,
    Bool.false_eq_true, and_false, or_false, not_false_eq_true]

theorem checkQueries_ne_ok_true {keyLen : Nat} : ∀ (keys : List Bytes) (qs seen : List Query),
    checkQueries keyLen keys qs seen ≠ some (.ok true)
  | [], _, _ => by simp [checkQueries]
  | _ :: _, [], _ => by simp [checkQueries]
  | key :: keys, query :: qs, seen => by
    simp only [checkQueries]
    split
    · next v hv => exact fun h => checkOne_ne_ok_true keyLen key query seen (hv.trans h)
    · exact checkQueries_ne_ok_true keys qs _

/-- when the first loop passes, every pair of a key and its query passed `checkOne` -/
theorem checkQueries_getElem {keyLen : Nat} : ∀ (keys : List Bytes) (qs seen : List Query),
    checkQueries keyLen keys qs seen = none →
    ∀ i (hi : i < keys.length) (hq : i < qs.length), ∃ seen', checkOne keyLen keys[i] qs[i] seen' = none
  | [], _, _, _, i, hi, _ => by simp at hi
  | _ :: _, [], _, _, i, _, hq => by simp at hq
  | key :: keys, query :: qs, seen, h, i, hi, hq => by
    simp only [checkQueries] at h
    split at h
    · simp at h
    · next hone =>
      cases i with
      | zero => exact ⟨seen, hone⟩
      | succ i =>
        simp only [List.getElem_cons_succ]
        exact checkQueries_getElem keys qs _ h i (by simpa using hi) (by simpa using hq)

/-- the stages an accepted proof went through -/
theorem verify_ok_true {H : HashFn} {keys : List Bytes} {proof : Proof} {rt : Bytes} {keyLen : Nat}
    (h : verify H keys proof rt keyLen = .ok true) :
    keys.length = proof.queries.length ∧ checkQueries keyLen keys proof.queries [] = none ∧
      ∃ filtered, filterQueries H proof.queries [] = some filtered ∧
        calculateRoot H proof.siblings filtered = some rt := by
  unfold verify at h
  split at h
  · simp at h
  next hl =>
  split at h
  · next v hv => exact absurd (h ▸ hv) (checkQueries_ne_ok_true _ _ _)
  next hnone =>
  split at h
  · simp at h
  next filtered hfilt =>
  split at h
  · simp at h
  next r hr =>
  exact ⟨by simpa using hl, hnone, filtered, hfilt, by rw [hr]; simpa using h⟩

end LiskVerif.SMTVerify
