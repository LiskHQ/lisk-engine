/-
Lemmas for the finality-safety proof (C01) about the unbounded specification `Model/BFTSpec.lean`.
Chains are NEWEST FIRST here: `x :: p` is the block with header `x` whose parent is the block `p`;
"`b` is an ancestor-or-self of `t`" is `b <:+ t` (list suffix).

The argument is carried out once, for any vote-counting rule that has the properties collected in
`ChainRules` (what chain validity provides) and `SafetyRules` (what the counting provides on a block
tree): `ChainRules.legit`, `voteW_le_wsum`, `voters_meet`, `SafetyRules.core`, `SafetyRules.finality`.
The specification with static parameters is one instance (this file); the specification with dynamic
parameters and the rules a node enforces on chains of any length are two more (`Lemmas/BFTDyn.lean`).
-/
import LiskVerif.Model.BFTSpec
import LiskVerif.Props.C07

namespace LiskVerif.BFTSpec
open LiskVerif LiskVerif.BFT

/-! ### `maxWith` -/

theorem maxWith_bounds (f : Nat → Bool) (lo n : Nat) : lo ≤ maxWith f lo n ∧ maxWith f lo n ≤ lo + n := by
  induction n with
  | zero => simp [maxWith]
  | succ n ih => unfold maxWith; split <;> omega

theorem maxWith_spec (f : Nat → Bool) (lo n : Nat) :
    maxWith f lo n = lo ∨ f (maxWith f lo n) = true := by
  induction n with
  | zero => simp [maxWith]
  | succ n ih =>
    unfold maxWith
    split
    · right; assumption
    · exact ih

theorem maxWith_ge (f : Nat → Bool) (lo n h : Nat) (hf : f h = true) (h1 : lo < h) (h2 : h ≤ lo + n) :
    h ≤ maxWith f lo n := by
  induction n with
  | zero => omega
  | succ n ih =>
    unfold maxWith
    split
    · omega
    · rename_i hn
      by_cases he : h = lo + n + 1
      · subst he; exact absurd hf hn
      · exact ih (by omega)

/-- monotone in the predicate and the range -/
theorem maxWith_mono (f f' : Nat → Bool) (lo n n' : Nat) (hff : ∀ h, f h = true → f' h = true)
    (hn : n ≤ n') : maxWith f lo n ≤ maxWith f' lo n' := by
  by_cases heq : maxWith f lo n = lo
  · rw [heq]; exact (maxWith_bounds f' lo n').1
  · have h1 := maxWith_bounds f lo n
    exact maxWith_ge f' lo n' _ (hff _ ((maxWith_spec f lo n).resolve_left heq)) (by omega) (by omega)

/-- the largest height whose weight `W h` reaches `thr` is attained unless it is `lo` -/
theorem maxWith_thr_spec (W : Nat → Nat) (thr lo n : Nat) :
    maxWith (fun h => decide (thr ≤ W h)) lo n = lo ∨ thr ≤ W (maxWith (fun h => decide (thr ≤ W h)) lo n) :=
  (maxWith_spec _ lo n).imp id fun h => by simpa using h

/-- … and is monotone in the weights and the range -/
theorem maxWith_thr_mono {W W' : Nat → Nat} {thr lo n n' : Nat} (hW : ∀ h, W h ≤ W' h) (hn : n ≤ n') :
    maxWith (fun h => decide (thr ≤ W h)) lo n ≤ maxWith (fun h => decide (thr ≤ W' h)) lo n' :=
  maxWith_mono _ _ _ _ _ (fun h hh => by simp at hh ⊢; exact Nat.le_trans hh (hW h)) hn

/-- `maxWith` is `T` when `T` is the largest argument in range satisfying `f` (or `lo`) -/
theorem maxWith_eq_of (f : Nat → Bool) (lo n T : Nat) (hT : lo ≤ T) (hTn : T ≤ lo + n)
    (hf : lo < T → f T = true) (hub : ∀ m, f m = true → lo < m → m ≤ T) : maxWith f lo n = T := by
  have hge : T ≤ maxWith f lo n := by
    rcases Nat.lt_or_ge lo T with h | h
    · exact maxWith_ge f lo n T (hf h) h hTn
    · have := maxWith_bounds f lo n; omega
  have hle : maxWith f lo n ≤ T := by
    have h0 := maxWith_bounds f lo n
    rcases maxWith_spec f lo n with h | h
    · omega
    · rcases Nat.lt_or_ge lo (maxWith f lo n) with h1 | h1
      · exact hub _ h h1
      · omega
  omega

/-- the largest height with a property inside a sub-range -/
theorem maxWith_window (f fs : Nat → Bool) (lo lo' n n' : Nat) (hlo : lo ≤ lo') (hsum : lo + n = lo' + n')
    (heq : ∀ h, lo' < h → f h = fs h) :
    (lo' < maxWith fs lo n → maxWith f lo' n' = maxWith fs lo n) ∧
    (maxWith fs lo n ≤ lo' → maxWith f lo' n' = lo') := by
  have hM := maxWith_bounds fs lo n
  have hM' := maxWith_bounds f lo' n'
  have hup : maxWith f lo' n' = lo' ∨ maxWith f lo' n' ≤ maxWith fs lo n := by
    rcases maxWith_spec f lo' n' with h | h
    · left; exact h
    · by_cases he : maxWith f lo' n' = lo'
      · left; exact he
      · right
        have hgt : lo' < maxWith f lo' n' := by omega
        rw [heq _ hgt] at h
        exact maxWith_ge fs lo n _ h (by omega) (by omega)
  constructor
  · intro hgt
    have hfs := (maxWith_spec fs lo n).resolve_left (by omega)
    rw [← heq _ hgt] at hfs
    have := maxWith_ge f lo' n' _ hfs hgt (by omega)
    rcases hup with h | h <;> omega
  · intro hle
    rcases hup with h | h
    · exact h
    · omega


/-! ### suffixes (a chain and its ancestors) -/

/-- a property of lists inherited by tails is inherited by suffixes -/
theorem suffix_closed {α : Type} {P : List α → Prop} (h : ∀ y r, P (y :: r) → P r) {r s : List α} (hr : P r)
    (hs : s <:+ r) : P s := by
  obtain ⟨t, rfl⟩ := hs
  induction t with
  | nil => exact hr
  | cons y t ih => exact ih (h y _ hr)

/-- a quantity that does not decrease under `cons` below a given list does not decrease from a suffix to the list -/
theorem suffix_mono_on {α : Type} {f : List α → Nat} {r : List α}
    (h : ∀ x p, x :: p <:+ r → f p ≤ f (x :: p)) {s : List α} (hs : s <:+ r) : f s ≤ f r :=
  (suffix_closed (P := fun l => l <:+ r ∧ f l ≤ f r)
    (fun y l h' => ⟨(List.suffix_cons y l).trans h'.1, Nat.le_trans (h y l h'.1) h'.2⟩)
    ⟨List.suffix_refl r, Nat.le_refl _⟩ hs).2

theorem suffix_mono {α : Type} {f : List α → Nat} (h : ∀ y r, f r ≤ f (y :: r)) {s r : List α} (hs : s <:+ r) :
    f s ≤ f r :=
  suffix_mono_on (fun x p _ => h x p) hs

/-! ### weighted sums over the validator list -/

/-- total weight of the validators whose address satisfies `f` -/
def wsumB (vs : List Validator) (f : Bytes → Bool) : Nat :=
  (vs.map fun v => if f v.address then v.weight else 0).sum

theorem wsumB_nil (f : Bytes → Bool) : wsumB [] f = 0 := rfl

theorem wsumB_cons (v : Validator) (vs : List Validator) (f : Bytes → Bool) :
    wsumB (v :: vs) f = (if f v.address then v.weight else 0) + wsumB vs f := by
  simp [wsumB]

theorem wsumB_le_total (vs : List Validator) (f : Bytes → Bool) :
    wsumB vs f ≤ (vs.map (·.weight)).sum := by
  induction vs with
  | nil => simp [wsumB]
  | cons v vs ih =>
    rw [wsumB_cons]; simp only [List.map_cons, List.sum_cons]
    split <;> omega

theorem wsumB_mono (vs : List Validator) (f g : Bytes → Bool)
    (h : ∀ v ∈ vs, f v.address = true → g v.address = true) : wsumB vs f ≤ wsumB vs g := by
  induction vs with
  | nil => simp [wsumB]
  | cons v vs ih =>
    rw [wsumB_cons, wsumB_cons]
    have ih' := ih (fun u hu => h u (List.mem_cons_of_mem _ hu))
    have hv := h v List.mem_cons_self
    by_cases hf : f v.address = true
    · simp [hf, hv hf]; exact ih'
    · simp [hf]
      split <;> omega

/-- inclusion–exclusion: the sets `f` and `g` of validators overlap in weight at least `w(f) + w(g) - W`,
`W` the total weight -/
theorem wsumB_inter (vs : List Validator) (f g : Bytes → Bool) :
    wsumB vs f + wsumB vs g ≤ (vs.map (·.weight)).sum + wsumB vs (fun a => f a && g a) := by
  induction vs with
  | nil => simp [wsumB]
  | cons v vs ih =>
    simp only [wsumB_cons, List.map_cons, List.sum_cons]
    cases hf : f v.address <;> cases hg : g v.address <;> simp <;> omega

/-- weight of the first validator with address `a` -/
def weightIn (vs : List Validator) (a : Bytes) : Nat :=
  match findValidator vs a with
  | some v => v.weight
  | none => 0

theorem weightIn_cons (v : Validator) (vs : List Validator) (a : Bytes) :
    weightIn (v :: vs) a = if v.address = a then v.weight else weightIn vs a := by
  unfold weightIn findValidator
  simp only [List.find?_cons]
  by_cases h : v.address = a <;> simp [h]

/-- a set `f` of addresses weighs at least `f` without `a`, plus the weight of `a`, if `a` is in `f` -/
theorem wsumB_remove (vs : List Validator) (f : Bytes → Bool) (a : Bytes) (ha : f a = true) :
    wsumB vs (fun c => f c && !(decide (c = a))) + weightIn vs a ≤ wsumB vs f := by
  induction vs with
  | nil => simp [wsumB, weightIn, findValidator]
  | cons v vs ih =>
    rw [wsumB_cons, wsumB_cons, weightIn_cons]
    by_cases hva : v.address = a
    · have h1 : wsumB vs (fun c => f c && !(decide (c = a))) ≤ wsumB vs f :=
        wsumB_mono _ _ _ (by intro u _ hu; simp at hu; exact hu.1)
      simp [hva, ha]; omega
    · simp [hva]
      split <;> omega

/-- pairwise different addresses inside a set `f` weigh together at most `f` -/
theorem sum_weightIn_le_wsumB (vs : List Validator) : ∀ (A : List Bytes), A.Nodup → ∀ f : Bytes → Bool,
    (∀ a ∈ A, f a = true) → (A.map (weightIn vs)).sum ≤ wsumB vs f
  | [], _, _, _ => Nat.zero_le _
  | a :: A, hnd, f, hf => by
    have hnd' := List.nodup_cons.mp hnd
    have h1 := sum_weightIn_le_wsumB vs A hnd'.2 (fun c => f c && !(decide (c = a))) (fun c hc => by
      have : c ≠ a := fun e => hnd'.1 (e ▸ hc)
      simp [this, hf c (List.mem_cons_of_mem _ hc)])
    have h2 := wsumB_remove vs f a (hf a List.mem_cons_self)
    simp only [List.map_cons, List.sum_cons]
    omega

/-- if every validator in both sets is in `byz`, the intersection weighs at most `byz` -/
theorem wsumB_and_le {vs : List Validator} {f g byz : Bytes → Bool}
    (h : ∀ v ∈ vs, f v.address = true → g v.address = true → byz v.address = true) :
    wsumB vs (fun a => f a && g a) ≤ wsumB vs byz :=
  wsumB_mono _ _ _ fun v hv hfg => by simp at hfg; exact h v hv hfg.1 hfg.2

/-- two predicates of weight `≥ τ₁`, `≥ τ₂` share a validator outside `byz` when
`w(byz) + W < τ₁ + τ₂` -/
theorem quorum_honest (vs : List Validator) (f g byz : Bytes → Bool) (t1 t2 : Nat)
    (h1 : t1 ≤ wsumB vs f) (h2 : t2 ≤ wsumB vs g)
    (hthr : wsumB vs byz + (vs.map (·.weight)).sum < t1 + t2) :
    ∃ v ∈ vs, f v.address = true ∧ g v.address = true ∧ byz v.address = false := by
  apply Classical.byContradiction
  intro hne
  have hsub : wsumB vs (fun a => f a && g a) ≤ wsumB vs byz := wsumB_and_le fun v hv hf hg =>
    Decidable.byContradiction fun hb => hne ⟨v, hv, hf, hg, by simpa using hb⟩
  have := wsumB_inter vs f g
  omega

/-! ### the weight of the headers of a chain that vote -/

/-- total weight `wt` of the generators of those headers `x` (on top of `p`) of the chain with `vote p x` -/
def voteW (vote : List Header → Header → Bool) (wt : Bytes → Nat) : List Header → Nat
  | [] => 0
  | x :: p => voteW vote wt p + if vote p x then wt x.gen else 0

theorem voteW_mono (vote : List Header → Header → Bool) (wt : Bytes → Nat) {s r : List Header}
    (hs : s <:+ r) : voteW vote wt s ≤ voteW vote wt r :=
  suffix_mono (fun _ _ => Nat.le_add_right _ _) hs

/-- the weight of the votes does not depend on what headers of generators without weight do -/
theorem voteW_congr {vote vote' : List Header → Header → Bool} {wt : Bytes → Nat} {r : List Header}
    (h : ∀ x p, x :: p <:+ r → wt x.gen ≠ 0 → vote p x = vote' p x) : voteW vote wt r = voteW vote' wt r := by
  induction r with
  | nil => rfl
  | cons x p ih =>
    rw [voteW, voteW, ih fun y q hs => h y q (hs.trans (List.suffix_cons x p))]
    by_cases hw : wt x.gen = 0
    · simp [hw]
    · rw [h x p (List.suffix_refl _) hw]

/-- positive weight comes from some header of the chain that votes -/
theorem voteW_pos (vote : List Header → Header → Bool) (wt : Bytes → Nat) {r : List Header}
    (hp : 0 < voteW vote wt r) : ∃ x p, x :: p <:+ r ∧ vote p x = true := by
  induction r with
  | nil => exact absurd hp (Nat.lt_irrefl 0)
  | cons x p ih =>
    by_cases hx : vote p x = true
    · exact ⟨x, p, List.suffix_refl _, hx⟩
    · rw [voteW, if_neg hx] at hp
      obtain ⟨y, q, hs, hy⟩ := ih hp
      exact ⟨y, q, hs.trans (List.suffix_cons x p), hy⟩

/-- the generators of the voting headers of a chain, newest first -/
def voters (vote : List Header → Header → Bool) : List Header → List Bytes
  | [] => []
  | x :: p => if vote p x then x.gen :: voters vote p else voters vote p

theorem voteW_voters (vote : List Header → Header → Bool) (wt : Bytes → Nat) (r : List Header) :
    voteW vote wt r = ((voters vote r).map wt).sum := by
  induction r with
  | nil => rfl
  | cons x p ih =>
    rw [voteW, voters, ih]
    split <;> simp <;> omega

theorem mem_voters {vote : List Header → Header → Bool} {r : List Header} {a : Bytes} :
    a ∈ voters vote r ↔ ∃ x p, x :: p <:+ r ∧ x.gen = a ∧ vote p x = true := by
  induction r with
  | nil => simp [voters]
  | cons y r ih =>
    have hc : (∃ x p, x :: p <:+ y :: r ∧ x.gen = a ∧ vote p x = true) ↔
        (y.gen = a ∧ vote r y = true) ∨ ∃ x p, x :: p <:+ r ∧ x.gen = a ∧ vote p x = true := by
      constructor
      · rintro ⟨x, p, hs, hx⟩
        rcases List.suffix_cons_iff.mp hs with h | h
        · injection h with h1 h2; subst h1; subst h2; exact Or.inl hx
        · exact Or.inr ⟨x, p, h, hx⟩
      · rintro (hx | ⟨x, p, hs, hx⟩)
        · exact ⟨y, r, List.suffix_refl _, hx⟩
        · exact ⟨x, p, hs.trans (List.suffix_cons y r), hx⟩
    rw [hc, ← ih, voters]
    by_cases hv : vote r y = true <;> simp [hv, eq_comm]

/-- If no generator votes twice along the chain, the weight of the votes is carried by distinct
validators: it is bounded by the weight of any set `f` that contains the voters. -/
theorem voteW_le_wsum (vote : List Header → Header → Bool) (vs : List Validator) {r : List Header}
    (once : ∀ x p, x :: p <:+ r → vote p x = true → ∀ e pe, e :: pe <:+ p → e.gen = x.gen →
      vote pe e = true → False) :
    ∀ f : Bytes → Bool, (∀ x p, x :: p <:+ r → vote p x = true → f x.gen = true) →
      voteW vote (weightIn vs) r ≤ wsumB vs f := by
  intro f hf
  have hnd : (voters vote r).Nodup := by
    clear hf
    induction r with
    | nil => exact List.nodup_nil
    | cons x p ih =>
      have ih' := ih fun y q hs => once y q (hs.trans (List.suffix_cons x p))
      rw [voters]
      split
      · rename_i hx
        refine List.nodup_cons.mpr ⟨fun hm => ?_, ih'⟩
        obtain ⟨e, pe, hs, hg, he⟩ := mem_voters.mp hm
        exact once x p (List.suffix_refl _) hx e pe hs hg he
      · exact ih'
  rw [voteW_voters]
  exact sum_weightIn_le_wsumB vs _ hnd f fun a ha => by
    obtain ⟨x, p, hs, rfl, hx⟩ := mem_voters.mp ha; exact hf x p hs hx

/-! ### block trees and honest validators -/

/-- `b` is a block of the tree: an ancestor-or-self of one of its tips -/
def InTree (Tr : List (List Header)) (b : List Header) : Prop := ∃ t ∈ Tr, b <:+ t

theorem InTree.suffix {Tr : List (List Header)} {t s : List Header} (ht : InTree Tr t) (hs : s <:+ t) :
    InTree Tr s := by
  obtain ⟨u, hu, htu⟩ := ht
  exact ⟨u, hu, hs.trans htu⟩

theorem InTree.of_mem {Tr : List (List Header)} {t : List Header} (ht : t ∈ Tr) : InTree Tr t :=
  ⟨t, ht, List.suffix_refl _⟩

/-- validator `a` is honest in the tree: no two distinct blocks generated by `a` carry
contradicting headers -/
def HonestR (Tr : List (List Header)) (a : Bytes) : Prop :=
  ∀ (x : Header) (p : List Header) (y : Header) (q : List Header),
    InTree Tr (x :: p) → InTree Tr (y :: q) → x.gen = a → y.gen = a → x :: p ≠ y :: q →
    Gen.areDistinctHeadersContradicting (toHdr x) (toHdr y) = false

theorem toHdr_gen (x : Header) : (toHdr x).generatorAddress = x.gen := rfl

theorem HonestR.legit {Tr : List (List Header)} {a : Bytes} (hon : HonestR Tr a)
    {x : Header} {p : List Header} {y : Header} {q : List Header}
    (hx : InTree Tr (x :: p)) (hy : InTree Tr (y :: q)) (hxg : x.gen = a) (hyg : y.gen = a)
    (hne : x :: p ≠ y :: q) :
    C07LegitSucc (toHdr x) (toHdr y) ∨ C07LegitSucc (toHdr y) (toHdr x) :=
  (C07_spec (toHdr x) (toHdr y) (by rw [toHdr_gen, toHdr_gen, hxg, hyg])).mp (hon x p y q hx hy hxg hyg hne)

/-- The walk of `getHeightNotPrevoted` along the own blocks of chain `p` never drops below the height of a
voting block `e :: q` of the same honest generator that is not on the chain, as long as it starts at or
above it: an own block `b` that the walk visits at or above the height of `e` cannot have `e` as a
legitimate successor, so it is one of `e` and reports `b.mhg ≥ e.height`.
(`C01_lemmaA_earlier_offchain_below_hnp` is this for `hnp`.) -/
theorem hnpLoop_ge {Tr : List (List Header)} {a : Bytes} (hon : HonestR Tr a)
    {p : List Header} (hp : InTree Tr p) {e : Header} {q : List Header} (hE : InTree Tr (e :: q))
    (heg : e.gen = a) (hnot : ¬ (e :: q <:+ p)) (hvote : e.mhg < e.height) :
    ∀ (fuel prev : Nat), e.height ≤ prev → e.height ≤ hnpLoop p a fuel prev := by
  intro fuel
  induction fuel with
  | zero => intro prev h; simpa [hnpLoop] using h
  | succ fuel ih =>
    intro prev h
    unfold hnpLoop
    cases hb : blockAt p prev with
    | none => simpa using h
    | some b =>
      simp only
      split
      · exact h
      · rename_i hcond
        obtain ⟨hbg, hbm⟩ := not_or.mp hcond
        have hbg : b.gen = a := Decidable.not_not.mp hbg
        unfold blockAt at hb
        obtain ⟨hbh, as, bs, hpe, _⟩ := List.find?_eq_some_iff_append.mp hb
        have hbh' : b.height = prev := by simpa using hbh
        have hsb : b :: bs <:+ p := by rw [hpe]; exact List.suffix_append _ _
        have hne : b :: bs ≠ e :: q := by
          intro heq; rw [heq] at hsb; exact hnot hsb
        apply ih
        rcases hon.legit (hp.suffix hsb) hE hbg heg hne with h1 | h1
        · unfold C07LegitSucc toHdr at h1; simp only at h1; omega
        · unfold C07LegitSucc toHdr at h1; simp only at h1; omega

/-- every set of weight `≥ τ₀` in `vs₀` and every set of weight `≥ τ₁` in `vs₁` share a validator that is
honest in the tree -/
def Meet (Tr : List (List Header)) (vs0 : List Validator) (t0 : Nat) (vs1 : List Validator) (t1 : Nat) : Prop :=
  ∀ f g : Bytes → Bool, t0 ≤ wsumB vs0 f → t1 ≤ wsumB vs1 g → ∃ a, f a = true ∧ g a = true ∧ HonestR Tr a

theorem meet_of_threshold {Tr : List (List Header)} {vs : List Validator} {byz : Bytes → Bool} {t0 t1 : Nat}
    (hthr : wsumB vs byz + (vs.map (·.weight)).sum < t0 + t1)
    (hhon : ∀ v ∈ vs, byz v.address = false → HonestR Tr v.address) : Meet Tr vs t0 vs t1 := by
  intro f g hf hg
  obtain ⟨v, hv, hfv, hgv, hbv⟩ := quorum_honest vs f g byz t0 t1 hf hg hthr
  exact ⟨v.address, hfv, hgv, hhon v hv hbv⟩

/-- Two quorums of votes along two chains, neither with a generator voting twice, have a common voter
that is honest in the tree. -/
theorem voters_meet {Tr : List (List Header)} {vote0 vote1 : List Header → Header → Bool}
    {vs0 vs1 : List Validator} {c0 c1 : List Header} {t0 t1 : Nat} (hX : Meet Tr vs0 t0 vs1 t1)
    (once0 : ∀ x p, x :: p <:+ c0 → vote0 p x = true → ∀ e pe, e :: pe <:+ p → e.gen = x.gen →
      vote0 pe e = true → False)
    (once1 : ∀ x p, x :: p <:+ c1 → vote1 p x = true → ∀ e pe, e :: pe <:+ p → e.gen = x.gen →
      vote1 pe e = true → False)
    (h0 : t0 ≤ voteW vote0 (weightIn vs0) c0) (h1 : t1 ≤ voteW vote1 (weightIn vs1) c1) :
    ∃ a, HonestR Tr a ∧ (∃ x p, x :: p <:+ c0 ∧ x.gen = a ∧ vote0 p x = true) ∧
      ∃ y q, y :: q <:+ c1 ∧ y.gen = a ∧ vote1 q y = true := by
  let f : Bytes → Bool := fun a => @decide (∃ x p, x :: p <:+ c0 ∧ x.gen = a ∧ vote0 p x = true)
    (Classical.propDecidable _)
  let g : Bytes → Bool := fun a => @decide (∃ y q, y :: q <:+ c1 ∧ y.gen = a ∧ vote1 q y = true)
    (Classical.propDecidable _)
  obtain ⟨a, hfa, hga, hon⟩ := hX f g
    (Nat.le_trans h0 (voteW_le_wsum vote0 vs0 once0 f (fun x p hs hx => by
      simp only [f, decide_eq_true_eq]; exact ⟨x, p, hs, rfl, hx⟩)))
    (Nat.le_trans h1 (voteW_le_wsum vote1 vs1 once1 g (fun y q hs hy => by
      simp only [g, decide_eq_true_eq]; exact ⟨y, q, hs, rfl, hy⟩)))
  simp only [f, decide_eq_true_eq] at hfa
  simp only [g, decide_eq_true_eq] at hga
  exact ⟨a, hon, hfa, hga⟩

/-! ### what chain validity provides -/

/-- The rules every notion of chain validity used here imposes (`ok` = valid, inherited by ancestors):
heights `g + 1, g + 2, …`; the `maxHeightPrevoted` field is the value `M` of the parent chain, and `M`
never decreases along a chain; the header does not contradict the latest header of its generator
among the last `k` blocks (regenerated `AreDistinctHeadersContradicting`). -/
structure ChainRules (g k : Nat) (M : List Header → Nat) (ok : List Header → Prop) : Prop where
  suffix : ∀ {r s : List Header}, ok r → s <:+ r → ok s
  cons : ∀ {x : Header} {p : List Header}, ok (x :: p) → x.height = g + p.length + 1 ∧ x.mhp = M p ∧
    contradictingSpec Gen.areDistinctHeadersContradicting (p.take k) x = false
  mono : ∀ {r s : List Header}, ok r → s <:+ r → M s ≤ M r

/-- `ChainRules` for a validity predicate given by its `cons` equation (the static and the dynamic specification) -/
theorem ChainRules.of_valid {g k : Nat} {M : List Header → Nat} {V : List Header → Prop}
    (hcons : ∀ x p, V (x :: p) ↔ x.height = g + p.length + 1 ∧ x.mhp = M p ∧
      contradictingSpec Gen.areDistinctHeadersContradicting p x = false ∧ V p)
    (hmono : ∀ {r s : List Header}, V r → s <:+ r → M s ≤ M r) :
    ChainRules g k M (fun r => V r ∧ r.length ≤ k) where
  suffix hv hs := ⟨suffix_closed (fun y r hv => ((hcons y r).mp hv).2.2.2) hv.1 hs, Nat.le_trans hs.length_le hv.2⟩
  cons hv := by
    obtain ⟨h1, h2, h3, _⟩ := (hcons _ _).mp hv.1
    rw [List.take_of_length_le (Nat.le_trans (Nat.le_succ _) hv.2)]
    exact ⟨h1, h2, h3⟩
  mono hv hs := hmono hv.1 hs

section ChainRules
variable {g k : Nat} {M : List Header → Nat} {ok : List Header → Prop} (R : ChainRules g k M ok)
include R

theorem ChainRules.height {r p : List Header} {x : Header} (hv : ok r) (hs : x :: p <:+ r) :
    x.height = g + p.length + 1 :=
  (R.cons (R.suffix hv hs)).1

theorem ChainRules.mem_height {r : List Header} (hv : ok r) {e : Header} (he : e ∈ r) :
    ∃ s pe, r = s ++ e :: pe ∧ e.height = g + pe.length + 1 := by
  obtain ⟨s, pe, rfl⟩ := List.append_of_mem he
  exact ⟨s, pe, rfl, R.height hv (List.suffix_append _ _)⟩

/-- Along a valid chain every block is a legitimate successor (C07) of every earlier block of the same
generator that is at most `k` heights older: the chain rule `contradicting = false` against the most
recent own block, the monotonicity of `maxHeightPrevoted` along the chain and transitivity. -/
theorem ChainRules.legit {r : List Header} (hv : ok r) :
    ∀ {x : Header} {p : List Header}, x :: p <:+ r → ∀ e ∈ p, e.gen = x.gen →
      x.height ≤ e.height + k → C07LegitSucc (toHdr e) (toHdr x) := by
  induction r with
  | nil => intro x p hs; simp at hs
  | cons y r ih =>
    intro x p hs e he hg hw
    have hvr := R.suffix hv (List.suffix_cons y r)
    rcases List.suffix_cons_iff.mp hs with h | h
    · injection h with h1 h2
      subst h1; subst h2
      obtain ⟨hxh, hxm, hc⟩ := R.cons hv
      have hein : e ∈ p.take k := by
        obtain ⟨s, pe, rfl, heh⟩ := R.mem_height hvr he
        rw [List.take_append, List.take_of_length_le (by simp at hxh; omega)]
        refine List.mem_append_right _ ?_
        obtain ⟨j, hj⟩ : ∃ j, k - s.length = j + 1 := ⟨k - s.length - 1, by simp at hxh; omega⟩
        rw [hj, List.take_succ_cons]
        exact List.mem_cons_self
      unfold contradictingSpec at hc
      cases hf : (p.take k).find? (fun b => decide (b.gen = x.gen)) with
      | none =>
        rw [List.find?_eq_none] at hf
        have := hf e hein
        simp [hg] at this
      | some b =>
        rw [hf] at hc
        simp only at hc
        obtain ⟨hb, as, bs, hp, has⟩ := List.find?_eq_some_iff_append.mp ((List.take_prefix _ p).find?_eq_some hf)
        have hbg : b.gen = x.gen := by simpa using hb
        have hsb : b :: bs <:+ p := by rw [hp]; exact List.suffix_append _ _
        obtain ⟨hbh, hbm, _⟩ := R.cons (R.suffix hvr hsb)
        have hm := R.mono hvr ((List.suffix_cons b bs).trans hsb)
        have hlen : p.length = as.length + bs.length + 1 := by rw [hp]; simp; omega
        have hbx : C07LegitSucc (toHdr b) (toHdr x) := by
          rcases (C07_spec (toHdr b) (toHdr x) hbg).mp hc with h1 | h1
          · exact h1
          · exfalso
            unfold C07LegitSucc toHdr at h1
            simp only at h1
            omega
        rw [hp] at he
        rcases List.mem_append.mp he with he | he
        · have := has e he
          simp [hg] at this
        · rcases List.mem_cons.mp he with he | he
          · subst he; exact hbx
          · exact C07_legit_trans _ _ _ (ih hvr hsb e he (by rw [hg, hbg]) (by omega)) hbx
    · exact ih hvr h e he hg hw

/-- A generator's headers along one valid chain imply at most one prevote for a given height `h`
(a header prevotes the heights above its `maxHeightGenerated` up to its own): no earlier block of the
generator of `x` reaches `h`, within `k` heights. -/
theorem ChainRules.prevote_once {x : Header} {p : List Header} (hv : ok (x :: p)) {h : Nat}
    (hx : x.mhg < h) (hwin : x.height < h + k) {e : Header} (he : e ∈ p) (hg : e.gen = x.gen)
    (heh : h ≤ e.height) : False := by
  have hl := R.legit hv (List.suffix_refl _) e he hg (by omega)
  unfold C07LegitSucc toHdr at hl
  simp only at hl
  omega

end ChainRules

/-! ### the core: no conflicting prevote quorum at or above a precommit quorum -/

/-- What the safety argument uses of a vote-counting rule on the block tree `Tr`. `ok` is chain validity,
`M` the `maxHeightPrevoted` that validity compares the header field with, `PQ p h` / `CQ p h` say that
height `h` has a prevote / precommit quorum in the view of `p`, `pv q y h` / `pc p x h` that the header
`y` on top of `q` implies a prevote, `x` on top of `p` a precommit for `h`. -/
structure SafetyRules (Tr : List (List Header)) (g : Nat) (M : List Header → Nat) (ok : List Header → Prop)
    (PQ CQ : List Header → Nat → Prop) (pv pc : List Header → Header → Nat → Prop) : Prop where
  ok_tree : ∀ {t : List Header}, InTree Tr t → ok t
  cons : ∀ {x : Header} {p : List Header}, ok (x :: p) → x.height = g + p.length + 1 ∧ x.mhp = M p
  pv_imp : ∀ {q : List Header} {y : Header} {h : Nat}, pv q y h → y.mhg < y.height ∧ y.mhg < h ∧ h ≤ y.height
  pc_imp : ∀ {p : List Header} {x : Header} {h : Nat}, ok p → pc p x h → hnp p x < h ∧ PQ p h
  range : ∀ {p : List Header} {h : Nat}, ok p → PQ p h → g < h ∧ h ≤ g + p.length
  M_ge : ∀ {p : List Header} {h : Nat}, ok p → PQ p h → h ≤ M p
  M_att : ∀ {q : List Header}, ok q → M q = g ∨ ∃ q', q' <:+ q ∧ PQ q' (M q)
  /-- a precommit quorum for `b` and a prevote quorum at or above it on a chain without `b` share a
  voter that is honest in the tree -/
  meet : ∀ {t0 t1 b : List Header} {h : Nat}, InTree Tr t0 → InTree Tr t1 → b <:+ t0 → ¬ b <:+ t1 →
    CQ t0 (g + b.length) → g + b.length ≤ h → PQ t1 h →
    ∃ a, HonestR Tr a ∧ (∃ x p, x :: p <:+ t0 ∧ x.gen = a ∧ pc p x (g + b.length)) ∧
      ∃ y q, y :: q <:+ t1 ∧ y.gen = a ∧ pv q y h

section SafetyRules
variable {Tr : List (List Header)} {g : Nat} {M : List Header → Nat} {ok : List Header → Prop}
  {PQ CQ : List Header → Nat → Prop} {pv pc : List Header → Header → Nat → Prop}
  (R : SafetyRules Tr g M ok PQ CQ pv pc)
include R

/-- If block `b` (of height `g + b.length`) has precommit quorum in the view of some block `t₀` of the
tree, then every block `t₁` of the tree in whose view some height `h ≥ height b` has prevote quorum
is a descendant-or-self of `b`. -/
theorem SafetyRules.core {t0 b : List Header} (ht0 : InTree Tr t0) (hb : b <:+ t0)
    (hq : CQ t0 (g + b.length)) :
    ∀ (n : Nat) (t1 : List Header), t1.length = n → InTree Tr t1 →
      ∀ h, g + b.length ≤ h → PQ t1 h → b <:+ t1 := by
  intro n
  induction n using Nat.strongRecOn with
  | _ n ih =>
    intro t1 hlen ht1 h hh hpv
    apply Classical.byContradiction
    intro hbt
    obtain ⟨a, hon, ⟨x, p, hsX, hxg, hxpc⟩, y, q, hsY, hyg, hypv⟩ := R.meet ht0 ht1 hb hbt hq hh hpv
    have hX : InTree Tr (x :: p) := ht0.suffix hsX
    have hY : InTree Tr (y :: q) := ht1.suffix hsY
    have hpt0 : p <:+ t0 := (List.suffix_cons x p).trans hsX
    have hqt1 : q <:+ t1 := (List.suffix_cons y q).trans hsY
    have hP : InTree Tr p := ht0.suffix hpt0
    have hQ : InTree Tr q := ht1.suffix hqt1
    obtain ⟨hhnp, hpq⟩ := R.pc_imp (R.ok_tree hP) hxpc
    obtain ⟨pv1, pv2, pv3⟩ := R.pv_imp hypv
    have hpos := R.range (R.ok_tree hP) hpq
    have hbp : b <:+ p := List.suffix_of_suffix_length_le hb hpt0 (by omega)
    obtain ⟨hxh, hxm⟩ := R.cons (R.ok_tree hX)
    obtain ⟨hyh, hym⟩ := R.cons (R.ok_tree hY)
    by_cases heq : x :: p = y :: q
    · exact hbt ((hbp.trans (List.suffix_cons x p)).trans (heq ▸ hsY))
    · rcases hon.legit hX hY hxg hyg heq with hl | hl
      · -- X before Y: the maxHeightPrevoted of Y's parent view is a quorum at or above `b`
        have hmp := R.M_ge (R.ok_tree hP) hpq
        unfold C07LegitSucc toHdr at hl
        simp only at hl
        rcases R.M_att (R.ok_tree hQ) with h' | ⟨q', hq', hquo⟩
        · omega
        · have hlt : q'.length < n := by
            have h1 := hsY.length_le
            have h2 := hq'.length_le
            simp at h1
            omega
          exact hbt (((ih q'.length hlt q' rfl (hQ.suffix hq') (M q) (by omega) hquo).trans hq').trans hqt1)
      · -- Y before X
        by_cases hYX : y :: q <:+ p
        · have : b <:+ y :: q := List.suffix_of_suffix_length_le hbp hYX (by simp; omega)
          exact hbt (this.trans hsY)
        · unfold C07LegitSucc toHdr at hl
          simp only at hl
          have hA := hnpLoop_ge hon hP hY hyg hYX pv1 (p.length + 1) x.mhg hl.1
          have hA' : y.height ≤ hnp p x := by unfold hnp; rw [hxg]; exact hA
          omega

/-- Finality safety on newest-first chains, for a finalized height `N` that is the genesis height or a
height with a precommit quorum in the view of an ancestor: the finalized blocks of two tips are comparable. -/
theorem SafetyRules.finality (N : List Header → Nat)
    (N_att : ∀ {t : List Header}, InTree Tr t → N t = g ∨ ∃ t', t' <:+ t ∧ CQ t' (N t))
    (CQ_pc : ∀ {t : List Header} {h : Nat}, InTree Tr t → CQ t h → ∃ x p, x :: p <:+ t ∧ pc p x h)
    {t1 t2 b1 b2 : List Header} (ht1 : t1 ∈ Tr) (ht2 : t2 ∈ Tr)
    (hb1 : b1 <:+ t1) (hl1 : g + b1.length = N t1) (hb2 : b2 <:+ t2) (hl2 : g + b2.length = N t2) :
    b1 <:+ b2 ∨ b2 <:+ b1 := by
  -- the finalized block of `t₀` lies on every chain of the tree that finalizes at least as high
  have key : ∀ {t0 t b : List Header}, InTree Tr t0 → InTree Tr t → N t0 ≤ N t → b <:+ t0 →
      g + b.length = N t0 → b <:+ t := by
    intro t0 t b ht0 ht hle hb hbl
    cases b with
    | nil => exact List.nil_suffix
    | cons y b' =>
      have hlen : (y :: b').length = b'.length + 1 := rfl
      rcases N_att ht0 with h0 | ⟨t0', ht0', hq0⟩
      · omega
      rcases N_att ht with h1 | ⟨t', ht', hq1⟩
      · omega
      -- a precommitter for `N t` on `t'`, and one for `N t0` on `t0'`
      obtain ⟨x, p, hs, hx⟩ := CQ_pc (ht.suffix ht') hq1
      obtain ⟨x0, p0, hs0, hx0⟩ := CQ_pc (ht0.suffix ht0') hq0
      have hpt' : p <:+ t' := (List.suffix_cons x p).trans hs
      have hP : InTree Tr p := (ht.suffix ht').suffix hpt'
      have hp0 := (List.suffix_cons x0 p0).trans hs0
      have hr0 := R.range (R.ok_tree ((ht0.suffix ht0').suffix hp0)) (R.pc_imp (R.ok_tree ((ht0.suffix ht0').suffix hp0)) hx0).2
      have hb' : y :: b' <:+ t0' := List.suffix_of_suffix_length_le hb ht0' (by have := hp0.length_le; omega)
      rw [← hbl] at hq0
      have := R.core (ht0.suffix ht0') hb' hq0 p.length p rfl hP (N t) (by omega)
        (R.pc_imp (R.ok_tree hP) hx).2
      exact (this.trans hpt').trans ht'
  by_cases hle : N t1 ≤ N t2
  · exact Or.inl (List.suffix_of_suffix_length_le (key (.of_mem ht1) (.of_mem ht2) hle hb1 hl1) hb2 (by omega))
  · exact Or.inr (List.suffix_of_suffix_length_le (key (.of_mem ht2) (.of_mem ht1) (by omega) hb2 hl2) hb1 (by omega))

end SafetyRules

/-! ### chains with consecutive heights -/

/-- heights `g + length, …, g + 1` (newest first) -/
def Consec (g : Nat) : List Header → Prop
  | [] => True
  | x :: p => x.height = g + p.length + 1 ∧ Consec g p

theorem Consec.mem_height {g : Nat} {l : List Header} (h : Consec g l) {b : Header} (hb : b ∈ l) :
    g < b.height ∧ b.height ≤ g + l.length := by
  induction l with
  | nil => simp at hb
  | cons x p ih =>
    rcases List.mem_cons.mp hb with rfl | hb
    · have := h.1; simp; omega
    · have := ih h.2 hb; simp; omega

/-! ## The specification with static parameters -/

/-! ### chain validity -/

/-- chain validity with the regenerated contradiction predicate -/
def Valid (cfg : Cfg) (r : List Header) : Prop :=
  chainValid Gen.areDistinctHeadersContradicting cfg r = true

theorem valid_nil (cfg : Cfg) : Valid cfg [] := rfl

theorem valid_cons (cfg : Cfg) (x : Header) (p : List Header) :
    Valid cfg (x :: p) ↔ x.height = cfg.genesis + p.length + 1 ∧ x.mhp = mhp cfg p ∧
      contradictingSpec Gen.areDistinctHeadersContradicting p x = false ∧ Valid cfg p := by
  unfold Valid
  simp [chainValid, and_assoc]

theorem valid_suffix (cfg : Cfg) {r s : List Header} (hv : Valid cfg r) (hs : s <:+ r) : Valid cfg s :=
  suffix_closed (fun y r hv => ((valid_cons cfg y r).mp hv).2.2.2) hv hs

theorem valid_height (cfg : Cfg) {r p : List Header} {x : Header} (hv : Valid cfg r)
    (hs : x :: p <:+ r) : x.height = cfg.genesis + p.length + 1 :=
  ((valid_cons cfg x p).mp (valid_suffix cfg hv hs)).1

theorem valid_consec (cfg : Cfg) {l : List Header} (h : Valid cfg l) : Consec cfg.genesis l := by
  induction l with
  | nil => trivial
  | cons x p ih =>
    have hv := (valid_cons cfg x p).mp h
    exact ⟨hv.1, ih hv.2.2.2⟩

/-- heights of the blocks of a valid chain are bounded by the tip height -/
theorem valid_mem_height_le (cfg : Cfg) {r : List Header} (hv : Valid cfg r) {e : Header} (he : e ∈ r) :
    cfg.genesis < e.height ∧ e.height ≤ cfg.genesis + r.length :=
  (valid_consec cfg hv).mem_height he

/-! ### prevotes -/

theorem prevotes_iff (cfg : Cfg) (x : Header) (h : Nat) :
    prevotes cfg x h = true ↔ x.mhg < x.height ∧ x.mhg < h ∧ cfg.genesis < h ∧ h ≤ x.height := by
  unfold prevotes
  simp
  omega

theorem pvW_cons (cfg : Cfg) (x : Header) (p : List Header) (h : Nat) :
    pvW cfg (x :: p) h = pvW cfg p h + (if prevotes cfg x h then weightOf cfg x.gen else 0) := rfl

theorem pvW_eq (cfg : Cfg) (r : List Header) (h : Nat) :
    pvW cfg r h = voteW (fun _ x => prevotes cfg x h) (weightIn cfg.validators) r := by
  induction r with
  | nil => rfl
  | cons x p ih => rw [pvW_cons, ih]; rfl

theorem pvW_mono (cfg : Cfg) {s r : List Header} (hs : s <:+ r) (h : Nat) : pvW cfg s h ≤ pvW cfg r h := by
  rw [pvW_eq, pvW_eq]; exact voteW_mono _ _ hs

/-- only heights of a chain with consecutive heights carry prevote weight -/
theorem pvW_pos_range (cfg : Cfg) {p : List Header} (hc : Consec cfg.genesis p) {h : Nat}
    (hp : 0 < pvW cfg p h) : cfg.genesis < h ∧ h ≤ cfg.genesis + p.length := by
  rw [pvW_eq] at hp
  obtain ⟨x, q, hs, hx⟩ := voteW_pos _ _ hp
  have := (prevotes_iff cfg x h).mp hx
  have := (hc.mem_height (hs.subset List.mem_cons_self)).2
  omega

theorem pvW_pos (cfg : Cfg) {r : List Header} (hv : Valid cfg r) {h : Nat} (hp : 0 < pvW cfg r h) :
    cfg.genesis < h ∧ h ≤ cfg.genesis + r.length :=
  pvW_pos_range cfg (valid_consec cfg hv) hp

theorem prevoteThreshold_pos (cfg : Cfg) : 0 < prevoteThreshold cfg := by
  unfold prevoteThreshold; omega

/-! ### maxHeightPrevoted -/

theorem mhp_ge_genesis (cfg : Cfg) (r : List Header) : cfg.genesis ≤ mhp cfg r := (maxWith_bounds _ _ _).1

theorem mhp_le (cfg : Cfg) (r : List Header) : mhp cfg r ≤ cfg.genesis + r.length := (maxWith_bounds _ _ _).2

theorem mhp_spec (cfg : Cfg) (r : List Header) :
    mhp cfg r = cfg.genesis ∨ prevoteThreshold cfg ≤ pvW cfg r (mhp cfg r) :=
  maxWith_thr_spec _ _ _ _

theorem mhp_ge (cfg : Cfg) {r : List Header} (hv : Valid cfg r) {h : Nat}
    (hq : prevoteThreshold cfg ≤ pvW cfg r h) : h ≤ mhp cfg r := by
  have hpos := pvW_pos cfg hv (h := h) (by have := prevoteThreshold_pos cfg; omega)
  exact maxWith_ge _ _ _ _ (by simpa using hq) hpos.1 hpos.2

theorem mhp_mono (cfg : Cfg) {s r : List Header} (hs : s <:+ r) : mhp cfg s ≤ mhp cfg r :=
  maxWith_thr_mono (pvW_mono cfg hs) hs.length_le

/-! ### the blocks of one generator along a valid chain -/

/-- chain validity, for chains of at most `k` blocks, in the form of `ChainRules` -/
theorem chainRules (cfg : Cfg) (k : Nat) :
    ChainRules cfg.genesis k (mhp cfg) (fun r => Valid cfg r ∧ r.length ≤ k) :=
  .of_valid (valid_cons cfg) fun _ hs => mhp_mono cfg hs

/-- Along a valid chain every block is a legitimate successor (C07) of every earlier block of the
same generator. -/
theorem valid_legit (cfg : Cfg) {r : List Header} (hv : Valid cfg r) :
    ∀ {x : Header} {p : List Header}, x :: p <:+ r → ∀ e ∈ p, e.gen = x.gen →
      C07LegitSucc (toHdr e) (toHdr x) := by
  intro x p hs e he hg
  have h1 := valid_height cfg hv hs
  have h2 := (valid_mem_height_le cfg (valid_suffix cfg hv ((List.suffix_cons x p).trans hs)) he).1
  have h3 := hs.length_le
  simp at h3
  exact (chainRules cfg r.length).legit ⟨hv, Nat.le_refl _⟩ hs e he hg (by omega)

/-- A validator's headers along one valid chain imply at most one prevote for a given height. -/
theorem prevote_once (cfg : Cfg) {x : Header} {p : List Header} (hv : Valid cfg (x :: p)) {h : Nat}
    (hx : prevotes cfg x h = true) {e : Header} {pe : List Header} (hs : e :: pe <:+ p)
    (hg : e.gen = x.gen) (he : prevotes cfg e h = true) : False := by
  have h1 := (prevotes_iff cfg x h).mp hx
  have h2 := (prevotes_iff cfg e h).mp he
  have h3 := ((valid_cons cfg x p).mp hv).1
  exact (chainRules cfg (x :: p).length).prevote_once ⟨hv, Nat.le_refl _⟩ h1.2.1
    (by simp only [List.length_cons]; omega) (hs.subset List.mem_cons_self) hg h2.2.2.2

/-! ### largestHeightPrecommit and precommits -/

theorem lhp_cons (cfg : Cfg) (x : Header) (p : List Header) (v : Bytes) :
    lhp cfg (x :: p) v =
      if x.gen = v ∧ x.mhg < x.height then
        max (lhp cfg p v)
          (maxWith (fun h => decide (minPc cfg (hnp p x) (lhp cfg p v) ≤ h) &&
            decide (prevoteThreshold cfg ≤ pvW cfg p h)) cfg.genesis (p.length + 1))
      else lhp cfg p v := rfl

theorem lhp_mono (cfg : Cfg) {s r : List Header} (hs : s <:+ r) (v : Bytes) : lhp cfg s v ≤ lhp cfg r v :=
  suffix_mono (f := fun r => lhp cfg r v) (fun y r => by
    show _ ≤ lhp cfg (y :: r) v
    rw [lhp_cons]
    split
    · exact Nat.le_max_left _ _
    · exact Nat.le_refl _) hs

theorem minPc_le_iff (cfg : Cfg) (a b h : Nat) : minPc cfg a b ≤ h ↔ cfg.genesis < h ∧ a < h ∧ b < h := by
  unfold minPc; omega

theorem precommits_iff (cfg : Cfg) (p : List Header) (x : Header) (h : Nat) :
    precommits cfg p x h = true ↔ x.mhg < x.height ∧ cfg.genesis < h ∧ hnp p x < h ∧
      lhp cfg p x.gen < h ∧ prevoteThreshold cfg ≤ pvW cfg p h := by
  unfold precommits
  simp [minPc_le_iff, and_assoc]

theorem pcW_cons (cfg : Cfg) (x : Header) (p : List Header) (h : Nat) :
    pcW cfg (x :: p) h = pcW cfg p h + (if precommits cfg p x h then weightOf cfg x.gen else 0) := rfl

theorem pcW_eq (cfg : Cfg) (r : List Header) (h : Nat) :
    pcW cfg r h = voteW (fun p x => precommits cfg p x h) (weightIn cfg.validators) r := by
  induction r with
  | nil => rfl
  | cons x p ih => rw [pcW_cons, ih]; rfl

theorem pcW_mono (cfg : Cfg) {s r : List Header} (hs : s <:+ r) (h : Nat) : pcW cfg s h ≤ pcW cfg r h := by
  rw [pcW_eq, pcW_eq]; exact voteW_mono _ _ hs

/-- a precommit for a height of the chain raises the generator's `largestHeightPrecommit` to at least
that height -/
theorem precommit_le_lhp (cfg : Cfg) {p : List Header} {x : Header} {h : Nat}
    (hx : precommits cfg p x h = true) (hle : h ≤ cfg.genesis + p.length) : h ≤ lhp cfg (x :: p) x.gen := by
  have hp := (precommits_iff cfg p x h).mp hx
  rw [lhp_cons, if_pos ⟨rfl, hp.1⟩]
  refine Nat.le_trans (maxWith_ge _ _ _ h ?_ hp.2.1 (by omega)) (Nat.le_max_right _ _)
  simp [minPc_le_iff]
  exact ⟨⟨hp.2.1, hp.2.2.1, hp.2.2.2.1⟩, hp.2.2.2.2⟩

/-- on a valid chain only heights of the chain are precommitted -/
theorem precommit_range (cfg : Cfg) {p : List Header} (hv : Valid cfg p) {x : Header} {h : Nat}
    (hx : precommits cfg p x h = true) : h ≤ cfg.genesis + p.length :=
  (pvW_pos cfg hv (Nat.lt_of_lt_of_le (prevoteThreshold_pos cfg) ((precommits_iff cfg p x h).mp hx).2.2.2.2)).2

/-- A validator's headers along one chain imply at most one precommit for a given height (the
`largestHeightPrecommit` guard); `hle`: heights above the chain `pe` have no prevote quorum in its view. -/
theorem precommit_once (cfg : Cfg) {p : List Header} {x : Header} {h : Nat}
    (hx : precommits cfg p x h = true) {e : Header} {pe : List Header} (hs : e :: pe <:+ p)
    (hg : e.gen = x.gen) (he : precommits cfg pe e h = true) (hle : h ≤ cfg.genesis + pe.length) : False := by
  have h1 := precommit_le_lhp cfg he hle
  have h2 := lhp_mono cfg hs e.gen
  have h3 := ((precommits_iff cfg p x h).mp hx).2.2.2.1
  rw [hg] at h1 h2
  omega

/-! ### maxHeightPrecommitted -/

theorem mhpc_ge_genesis (cfg : Cfg) (r : List Header) : cfg.genesis ≤ mhpc cfg r := (maxWith_bounds _ _ _).1

theorem mhpc_le (cfg : Cfg) (r : List Header) : mhpc cfg r ≤ cfg.genesis + r.length := (maxWith_bounds _ _ _).2

theorem mhpc_spec (cfg : Cfg) (r : List Header) :
    mhpc cfg r = cfg.genesis ∨ cfg.precommitThreshold ≤ pcW cfg r (mhpc cfg r) :=
  maxWith_thr_spec _ _ _ _

theorem mhpc_mono (cfg : Cfg) {s r : List Header} (hs : s <:+ r) : mhpc cfg s ≤ mhpc cfg r :=
  maxWith_thr_mono (pcW_mono cfg hs) hs.length_le

/-! ### the safety argument for the specification -/

/-- quorum weight is carried by distinct validators -/
theorem pvW_le_wsum (cfg : Cfg) {r : List Header} (hv : Valid cfg r) (h : Nat) (f : Bytes → Bool)
    (hf : ∀ x p, x :: p <:+ r → prevotes cfg x h = true → f x.gen = true) :
    pvW cfg r h ≤ wsumB cfg.validators f := by
  rw [pvW_eq]
  exact voteW_le_wsum _ _ (fun x p hs hx e pe hse hg he =>
    prevote_once cfg (valid_suffix cfg hv hs) hx hse hg he) f hf

theorem pcW_le_wsum (cfg : Cfg) {r : List Header} (hv : Valid cfg r) (h : Nat) (f : Bytes → Bool)
    (hf : ∀ x p, x :: p <:+ r → precommits cfg p x h = true → f x.gen = true) :
    pcW cfg r h ≤ wsumB cfg.validators f := by
  rw [pcW_eq]
  refine voteW_le_wsum _ _ (fun x p hs hx e pe hse hg he => ?_) f hf
  exact precommit_once cfg hx hse hg he (precommit_range cfg (valid_suffix cfg hv
    (((List.suffix_cons e pe).trans hse).trans ((List.suffix_cons x p).trans hs))) he)

/-- the static specification on a tree of valid chains with (H-thr) and honest validators outside `byz`,
in the form of `SafetyRules` -/
theorem safetyRules (cfg : Cfg) (Tr : List (List Header)) (byz : Bytes → Bool)
    (hval : ∀ t ∈ Tr, Valid cfg t)
    (hthr : wsumB cfg.validators byz + totalWeight cfg < cfg.precommitThreshold + prevoteThreshold cfg)
    (hhon : ∀ v ∈ cfg.validators, byz v.address = false → HonestR Tr v.address) :
    SafetyRules Tr cfg.genesis (mhp cfg) (Valid cfg)
      (fun p h => prevoteThreshold cfg ≤ pvW cfg p h) (fun p h => cfg.precommitThreshold ≤ pcW cfg p h)
      (fun _ y h => prevotes cfg y h = true) (fun p x h => precommits cfg p x h = true) where
  ok_tree := fun ⟨u, hu, htu⟩ => valid_suffix cfg (hval u hu) htu
  cons hv := ⟨((valid_cons cfg _ _).mp hv).1, ((valid_cons cfg _ _).mp hv).2.1⟩
  pv_imp hy := by have := (prevotes_iff cfg _ _).mp hy; omega
  pc_imp _ hx := ⟨((precommits_iff cfg _ _ _).mp hx).2.2.1, ((precommits_iff cfg _ _ _).mp hx).2.2.2.2⟩
  range hv hq := pvW_pos cfg hv (Nat.lt_of_lt_of_le (prevoteThreshold_pos cfg) hq)
  M_ge hv hq := mhp_ge cfg hv hq
  M_att := fun {q} _ => (mhp_spec cfg q).imp id fun h => ⟨q, List.suffix_refl _, h⟩
  meet := fun {t0 t1 b h} ⟨u0, hu0, ht0⟩ ⟨u1, hu1, ht1⟩ _ _ hq _ hpv => by
    rw [pcW_eq] at hq
    rw [pvW_eq] at hpv
    have hv0 := valid_suffix cfg (hval u0 hu0) ht0
    have hv1 := valid_suffix cfg (hval u1 hu1) ht1
    refine voters_meet (meet_of_threshold hthr hhon) (fun x p hs hx e pe hse hg he => ?_)
      (fun x p hs hx e pe hse hg he => prevote_once cfg (valid_suffix cfg hv1 hs) hx hse hg he) hq hpv
    exact precommit_once cfg hx hse hg he (precommit_range cfg (valid_suffix cfg hv0
      (((List.suffix_cons e pe).trans hse).trans ((List.suffix_cons x p).trans hs))) he)

/-- finality safety on newest-first chains: the finalized blocks of two tips are comparable -/
theorem finality_safety_rev (cfg : Cfg) (Tr : List (List Header)) (byz : Bytes → Bool)
    (hval : ∀ t ∈ Tr, Valid cfg t) (hpc : 0 < cfg.precommitThreshold)
    (hthr : wsumB cfg.validators byz + totalWeight cfg < cfg.precommitThreshold + prevoteThreshold cfg)
    (hhon : ∀ v ∈ cfg.validators, byz v.address = false → HonestR Tr v.address)
    {t1 t2 b1 b2 : List Header} (ht1 : t1 ∈ Tr) (ht2 : t2 ∈ Tr)
    (hb1 : b1 <:+ t1) (hl1 : cfg.genesis + b1.length = mhpc cfg t1)
    (hb2 : b2 <:+ t2) (hl2 : cfg.genesis + b2.length = mhpc cfg t2) :
    b1 <:+ b2 ∨ b2 <:+ b1 :=
  (safetyRules cfg Tr byz hval hthr hhon).finality (mhpc cfg)
    (fun {t} _ => (mhpc_spec cfg t).imp id fun h => ⟨t, List.suffix_refl _, h⟩)
    (fun {t h} _ hq => by
      rw [pcW_eq] at hq
      exact voteW_pos _ _ (Nat.lt_of_lt_of_le hpc hq))
    ht1 ht2 hb1 hl1 hb2 hl2

end LiskVerif.BFTSpec
