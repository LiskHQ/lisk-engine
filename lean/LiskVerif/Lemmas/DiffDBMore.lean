/-
More helper lemmas for the diffdb model (Props/C12_More.lean): the prefix algebra of prefixed keys,
sorting and limits under the stripping of a prefix, databases with the same contents, and operations
that see the database only through the keys they look up.
-/
import LiskVerif.Lemmas.DiffDBScan
import LiskVerif.Lemmas.DiffDBCommit

namespace LiskVerif.DiffDB

/-! ### byte order and prefixes -/

theorem hasPrefix_nil (k : Bytes) : hasPrefix k [] = true :=
  (hasPrefix_iff_prefix k []).mpr List.nil_prefix

theorem hasPrefix_append (p k : Bytes) : hasPrefix (p ++ k) p = true :=
  (hasPrefix_iff_prefix _ p).mpr (List.prefix_append p k)

theorem hasPrefix_eq_append (k p : Bytes) (h : hasPrefix k p = true) : k = p ++ k.drop p.length := by
  obtain ⟨t, rfl⟩ := (hasPrefix_iff_prefix k p).mp h
  rw [List.drop_left]

theorem hasPrefix_append_left (p k q : Bytes) : hasPrefix (p ++ k) (p ++ q) = hasPrefix k q :=
  Bool.eq_iff_iff.mpr (by rw [hasPrefix_iff_prefix, hasPrefix_iff_prefix, List.prefix_append_right_inj])

/-- prefix of a prefix -/
theorem hasPrefix_append_iff (k p q : Bytes) :
    hasPrefix k (p ++ q) = true ↔ hasPrefix k p = true ∧ hasPrefix (k.drop p.length) q = true := by
  constructor
  · intro h
    obtain ⟨r, rfl⟩ := (hasPrefix_iff_prefix _ _).mp h
    rw [List.append_assoc]
    refine ⟨hasPrefix_append _ _, ?_⟩
    simp [hasPrefix_append]
  · rintro ⟨h1, h2⟩
    rw [hasPrefix_eq_append k p h1, hasPrefix_append_left]
    exact h2

theorem applyLimit_map {α β : Type} (f : α → β) (l : List α) (limit : Int) :
    applyLimit (l.map f) limit = (applyLimit l limit).map f := by
  unfold applyLimit
  split
  · rfl
  · exact (List.map_take ..).symm

/-- stripping a common prefix commutes with the key sort -/
theorem sortDir_strip (p : Bytes) (l : List KV) (rev : Bool)
    (h : ∀ e ∈ l, hasPrefix e.1 p = true) :
    sortDir (l.map fun kv => (kv.1.drop p.length, kv.2)) rev =
      (sortDir l rev).map fun kv => (kv.1.drop p.length, kv.2) := by
  have key : ∀ a ∈ l, ∀ b ∈ l, ble (a.1.drop p.length) (b.1.drop p.length) = ble a.1 b.1 := by
    intro a ha b hb
    conv => rhs; rw [hasPrefix_eq_append a.1 p (h a ha), hasPrefix_eq_append b.1 p (h b hb)]
    rw [ble_append_left]
  unfold sortDir
  cases rev with
  | false =>
    simp only [Bool.false_eq_true, if_false]
    apply isort_mapEmbed
    intro a ha b hb
    exact key a ha b hb
  | true =>
    simp only [if_true]
    apply isort_mapEmbed
    intro a ha b hb
    exact key b hb a ha

/-! ### databases with the same contents -/

/-- `RevertDiff` respects equality of contents -/
theorem sameMap_revertDiff {s s' : Store} (h : SameMap s s') (d : Diff) :
    SameMap (revertDiff s d) (revertDiff s' d) := by
  unfold revertDiff
  exact List.foldl_rel (r := SameMap) (List.foldl_rel (r := SameMap)
    (List.foldl_rel (r := SameMap) h fun k _ _ _ h => h.sdel k)
    fun kv _ _ _ h => h.sset kv.1 kv.2) fun kv _ _ _ h => h.sset kv.1 kv.2

theorem nodup_revertDiff {s : Store} (h : NoDupKeys s) (d : Diff) : NoDupKeys (revertDiff s d) := by
  unfold revertDiff
  exact List.foldlRecOn (motive := NoDupKeys) _ _
    (List.foldlRecOn (motive := NoDupKeys) _ _
      (List.foldlRecOn (motive := NoDupKeys) _ _ h fun s h k _ => nodup_sdel s k h)
      fun s h kv _ => nodup_sset s kv.1 kv.2 h)
    fun s h kv _ => nodup_sset s kv.1 kv.2 h

/-- stores with distinct keys and the same contents are permutations of each other -/
theorem SameMap.perm {s s' : Store} (h : SameMap s s') (hs : NoDupKeys s) (hs' : NoDupKeys s') :
    s.Perm s' :=
  AList.perm_of_get_eq hs.alist hs'.alist fun k => by rw [← slookup_eq_get]; exact h k

theorem sameMap_of_perm {s s' : Store} (hp : s.Perm s') (hs : NoDupKeys s) : SameMap s s' :=
  fun k => by rw [slookup_eq_get]; exact AList.get_perm hp hs.alist k

/-- the scan of a database depends only on the values under the selected keys -/
theorem sortDir_filter_congr {s s' : Store} (hs : NoDupKeys s) (hs' : NoDupKeys s') (p : KV → Bool)
    (h : ∀ k v, p (k, v) = true → (slookup s k = some v ↔ slookup s' k = some v)) (rev : Bool) :
    sortDir (s.filter p) rev = sortDir (s'.filter p) rev := by
  apply sortDir_eq_of_mem_iff _ _ (nodup_filter _ _ hs) (nodup_filter _ _ hs')
  intro ⟨k, v⟩
  rw [List.mem_filter, List.mem_filter, ← slookup_iff_mem s hs, ← slookup_iff_mem s' hs']
  exact ⟨fun ⟨h1, h2⟩ => ⟨(h k v h2).mp h1, h2⟩, fun ⟨h1, h2⟩ => ⟨(h k v h2).mpr h1, h2⟩⟩

/-- scans of stores with the same contents are identical -/
theorem sortDir_filter_sameMap {s s' : Store} (h : SameMap s s') (hs : NoDupKeys s) (hs' : NoDupKeys s')
    (f : KV → Bool) (rev : Bool) : sortDir (s.filter f) rev = sortDir (s'.filter f) rev :=
  sortDir_filter_congr hs hs' f (fun k _ _ => by rw [h k]) rev

/-! ### the staged store sees the database only through the keys it looks up -/

/-- the keys of the database an operation looks at -/
def Op.reads : Op → Bytes → Prop
  | .get k, k' => k' = k
  | .set k _, k' => k' = k
  | .del k, k' => k' = k
  | .range s e _ _, k' => inRange s e k' = true
  | .iterate p _ _, k' => hasPrefix k' p = true
  | _, _ => False

theorem get_store_congr (st : St) (s' : Store) (k : Bytes) (h : slookup st.store k = slookup s' k) :
    get { st with store := s' } k = ({ (get st k).1 with store := s' }, (get st k).2) := by
  simp only [get_eq, ensureCache, eff, effC, h]

theorem scan_store_congr (st : St) (s' : Store) (hs : NoDupKeys st.store) (hs' : NoDupKeys s')
    (f : Bytes → Bool) (h : ∀ k, f k = true → slookup st.store k = slookup s' k) (limit : Int)
    (rev : Bool) :
    scan { st with store := s' } f limit rev =
      ({ (scan st f limit rev).1 with store := s' }, (scan st f limit rev).2) := by
  unfold scan
  rw [sortDir_filter_congr hs hs' (fun kv => f kv.1) (fun k _ hk => by rw [h k hk]) rev]

/-- replacing the database by one that holds the same values under the keys an operation looks at
commutes with the operation -/
theorem step_store_congr (st : St) (s' : Store) (hs : NoDupKeys st.store) (hs' : NoDupKeys s') (op : Op)
    (h : ∀ k, op.reads k → slookup st.store k = slookup s' k) :
    step { st with store := s' } op = { step st op with store := s' } := by
  cases op with
  | get k => exact congrArg Prod.fst (get_store_congr st s' k (h k rfl))
  | set k v => simp only [step, set_eq, h k rfl]
  | del k => simp only [step, del_eq, h k rfl]
  | range s e l rv => exact congrArg Prod.fst (scan_store_congr st s' hs hs' _ h l rv)
  | iterate p l rv => exact congrArg Prod.fst (scan_store_congr st s' hs hs' _ h l rv)
  | restore id => simp only [step, restore]; split <;> rfl
  | _ => rfl

theorem run_store_congr (s' : Store) (hs' : NoDupKeys s') (ops : List Op) : ∀ (st : St),
    NoDupKeys st.store → (∀ op ∈ ops, ∀ k, op.reads k → slookup st.store k = slookup s' k) →
      run { st with store := s' } ops = { run st ops with store := s' } := by
  induction ops with
  | nil => exact fun _ _ _ => rfl
  | cons op r ih =>
    intro st hs h
    have h1 : (step st op).store = st.store := step_store st op
    show run (step { st with store := s' } op) r = { run (step st op) r with store := s' }
    rw [step_store_congr st s' hs hs' op (h op List.mem_cons_self)]
    exact ih (step st op) (h1 ▸ hs) (h1 ▸ fun o ho => h o (List.mem_cons_of_mem _ ho))

end LiskVerif.DiffDB
