/-
Lemmas about Model/BLSAgg.lean: the loops of BLSVerifyAggSig / BLSVerifyWeightedAggSig compute the
flagged sub-lists and the (wrapping) sum of the flagged weights; with the length guards they never
leave the bitmap or the weight slice.
For the bitmap built by BLSCreateAggSig: `Bits.write(i, true)` sets bit `i` and nothing else; the loop never
leaves the bitmap and flags exactly the first positions of the supplied public keys.
-/
import LiskVerif.Model.BLSAgg

namespace LiskVerif.BLSAgg

theorem u64_pos : 0 < u64 := by decide

/-- inside the bitmap `Bits.read` returns the bit of the specification -/
theorem bitsRead_eq (bits : Bytes) (i : Nat) (h : i / 8 < bits.length) :
    bitsRead bits i = some (bitSet bits i) := by
  unfold bitsRead bitSet
  have hx : bits[i / 8]? = some bits[i / 8] := List.getElem?_eq_getElem h
  rw [hx]
  simp only [List.getD_eq_getElem?_getD, hx, Option.getD_some, Nat.shiftRight_eq_div_pow]

/-- outside the bitmap `Bits.read` panics -/
theorem bitsRead_none (bits : Bytes) (i : Nat) (h : bits.length ≤ i / 8) : bitsRead bits i = none := by
  unfold bitsRead
  rw [List.getElem?_eq_none h]

/-- the flagged elements are a sublist, in list order -/
theorem flaggedFrom_sublist {α : Type} (bits : Bytes) :
    ∀ (l : List α) (i : Nat), (flaggedFrom bits i l).Sublist l
  | [], _ => .slnil
  | a :: r, i => by
    unfold flaggedFrom
    split
    · exact (flaggedFrom_sublist bits r (i + 1)).cons_cons a
    · exact (flaggedFrom_sublist bits r (i + 1)).cons a

theorem flaggedFrom_length_le {α : Type} (bits : Bytes) : ∀ (l : List α) (i : Nat), (flaggedFrom bits i l).length ≤ l.length :=
  fun l i => (flaggedFrom_sublist bits l i).length_le

/-- how many elements are flagged depends on the list only through its length: the flagged sub-lists of two lists
of the same length have the same length -/
theorem flaggedFrom_length_eq {α β : Type} (bits : Bytes) :
    ∀ (l : List α) (l' : List β) (i : Nat), l.length = l'.length →
      (flaggedFrom bits i l).length = (flaggedFrom bits i l').length
  | [], [], _, _ => by simp [flaggedFrom]
  | [], _ :: _, _, h => by simp at h
  | _ :: _, [], _, h => by simp at h
  | a :: r, b :: r', i, h => by
    have ih := flaggedFrom_length_eq bits r r' (i + 1) (by simpa using h)
    unfold flaggedFrom
    split <;> simp [ih]

theorem sum_le_of_sublist {l₁ l₂ : List Nat} (h : l₁.Sublist l₂) : l₁.sum ≤ l₂.sum := by
  induction h with
  | slnil => exact Nat.le_refl _
  | cons a _ ih => rw [List.sum_cons]; omega
  | cons_cons a _ ih => rw [List.sum_cons, List.sum_cons]; omega

theorem flaggedFrom_sum_le (bits : Bytes) (l : List Nat) (i : Nat) : (flaggedFrom bits i l).sum ≤ l.sum :=
  sum_le_of_sublist (flaggedFrom_sublist bits l i)

/-- weights whose total fits a `uint64`: the sum of the flagged ones does not wrap -/
theorem flagged_sum_mod (bits : Bytes) (weights : List Nat) (hsum : weights.sum < u64) :
    (flagged bits weights).sum % u64 = (flagged bits weights).sum :=
  Nat.mod_eq_of_lt (Nat.lt_of_le_of_lt (flaggedFrom_sum_le bits weights 0) hsum)

/-- the flagged sub-list depends only on the bits at the positions of the list -/
theorem flaggedFrom_congr {α : Type} (b1 b2 : Bytes) :
    ∀ (l : List α) (i : Nat), (∀ j, i ≤ j → j < i + l.length → bitSet b1 j = bitSet b2 j) →
      flaggedFrom b1 i l = flaggedFrom b2 i l
  | [], _, _ => by simp [flaggedFrom]
  | a :: r, i, h => by
    have h0 : bitSet b1 i = bitSet b2 i := h i (Nat.le_refl _) (by simp)
    have ih := flaggedFrom_congr b1 b2 r (i + 1) (fun j hj hj' => h j (by omega) (by simp only [List.length_cons]; omega))
    unfold flaggedFrom
    rw [h0, ih]

/-- **the selection loop** inside the bitmap: the accumulated keys followed by the flagged ones -/
theorem selectLoop_eq {κ : Type} (bits : Bytes) :
    ∀ (ks : List κ) (i : Nat) (acc : List κ), i + ks.length ≤ 8 * bits.length →
      selectLoop bits i ks acc = some (acc ++ flaggedFrom bits i ks)
  | [], _, acc, _ => by simp [selectLoop, flaggedFrom]
  | k :: ks, i, acc, h => by
    have hi : i / 8 < bits.length := by simp only [List.length_cons] at h; omega
    have ih := fun acc' => selectLoop_eq bits ks (i + 1) acc' (by simp only [List.length_cons] at h; omega)
    unfold selectLoop flaggedFrom
    rw [bitsRead_eq bits i hi]
    cases hb : bitSet bits i
    · simp only [ih, Bool.false_eq_true, if_false]
    · simp only [ih, if_true, List.append_assoc, List.singleton_append]

/-- **the weighted loop** inside bitmap and weight slice: the flagged keys and the wrapping sum of the
flagged weights (`ws` = the weights at the positions of `ks`) -/
theorem weightedLoop_eq {κ : Type} (bits : Bytes) (weights : List Nat) :
    ∀ (ks : List κ) (ws : List Nat) (i : Nat) (acc : List κ) (s : Nat),
      ws.length = ks.length → (∀ j, j < ks.length → weights[i + j]? = ws[j]?) →
      i + ks.length ≤ 8 * bits.length → s < u64 →
      weightedLoop bits weights i ks acc s =
        some (acc ++ flaggedFrom bits i ks, (s + (flaggedFrom bits i ws).sum) % u64)
  | [], [], _, acc, s, _, _, _, hs => by
    simp [weightedLoop, flaggedFrom, Nat.mod_eq_of_lt hs]
  | [], _ :: _, _, _, _, hl, _, _, _ => by simp at hl
  | _ :: _, [], _, _, _, hl, _, _, _ => by simp at hl
  | k :: ks, w :: ws, i, acc, s, hl, hw, h, hs => by
    have hi : i / 8 < bits.length := by simp only [List.length_cons] at h; omega
    have hwi : weights[i]? = some w := by
      have := hw 0 (by simp)
      simpa using this
    have hw' : ∀ j, j < ks.length → weights[i + 1 + j]? = ws[j]? := by
      intro j hj
      have := hw (j + 1) (by simp only [List.length_cons]; omega)
      rw [show i + (j + 1) = i + 1 + j by omega] at this
      simpa using this
    have hl' : ws.length = ks.length := by simpa using hl
    have ih := fun acc' s' hs' =>
      weightedLoop_eq bits weights ks ws (i + 1) acc' s' hl' hw' (by simp only [List.length_cons] at h; omega) hs'
    unfold weightedLoop
    rw [bitsRead_eq bits i hi]
    cases hb : bitSet bits i
    · simp only []
      rw [ih acc s hs]
      simp [flaggedFrom, hb]
    · simp only [hwi]
      rw [ih _ _ (Nat.mod_lt _ u64_pos)]
      simp only [flaggedFrom, hb, if_true, List.sum_cons, List.append_assoc, List.singleton_append]
      congr 2
      rw [Nat.add_mod, Nat.mod_mod, ← Nat.add_mod, Nat.add_assoc]

/-! ### the bitmap built by BLSCreateAggSig -/

theorem div_pow_mod_two_beq (n j : Nat) : (n / 2 ^ j % 2 == 1) = n.testBit j := by
  rw [Nat.testBit_eq_decide_div_mod_eq]; exact Bool.beq_eq_decide_eq _ _

/-- bit `j` of a byte after setting bit `k` -/
theorem byte_or (x : Nat) {k j : Nat} (hj : j < 8) :
    ((x ||| 2 ^ k) % 256 / 2 ^ j % 2 == 1) = (decide (j = k) || (x / 2 ^ j % 2 == 1)) := by
  rw [div_pow_mod_two_beq, div_pow_mod_two_beq, show 256 = 2 ^ 8 from rfl, Nat.testBit_mod_two_pow,
    Nat.testBit_or, Nat.testBit_two_pow, decide_eq_true hj, Bool.true_and, Bool.or_comm,
    decide_eq_decide.2 eq_comm]

theorem findIndex_lt {κ : Type} [DecidableEq κ] : ∀ (keys : List κ) (x : κ) (i : Nat),
    findIndex keys x = some i → i < keys.length
  | [], _, _, h => by simp [findIndex] at h
  | k :: r, x, i, h => by
    unfold findIndex at h
    split at h
    · simp only [Option.some.injEq] at h; subst h; simp
    · cases hr : findIndex r x with
      | none => simp [hr] at h
      | some j =>
        simp only [hr, Option.map_some, Option.some.injEq] at h
        have := findIndex_lt r x j hr
        simp only [List.length_cons]; omega

/-- writing `true` inside the bitmap: the length stays, bit `i` is set, every other bit keeps its value -/
theorem bitsWrite_true (b : Bytes) (i : Nat) (h : i / 8 < b.length) :
    ∃ b', bitsWrite b i true = some b' ∧ b'.length = b.length ∧
      ∀ j, bitSet b' j = (decide (j = i) || bitSet b j) := by
  unfold bitsWrite
  have hx : b[i / 8]? = some b[i / 8] := List.getElem?_eq_getElem h
  rw [hx]
  refine ⟨_, rfl, by simp, ?_⟩
  intro j
  unfold bitSet
  simp only [List.getD_eq_getElem?_getD, List.getElem?_set]
  by_cases hj : i / 8 = j / 8
  · have e : j / 8 = i / 8 := hj.symm
    rw [e]
    simp only [if_true, h, hx, Option.getD_some]
    have hb := byte_or b[i / 8].toNat (k := i % 8) (j := j % 8) (by omega)
    have ht : (UInt8.ofNat (b[i / 8].toNat ||| 2 ^ (i % 8))).toNat = (b[i / 8].toNat ||| 2 ^ (i % 8)) % 256 :=
      UInt8.toNat_ofNat'
    rw [ht, hb]
    congr 1
    by_cases hji : j = i
    · subst hji; simp
    · have : j % 8 ≠ i % 8 := by omega
      simp [hji, this]
  · have hji : j ≠ i := by intro e; subst e; exact hj rfl
    simp [hj, hji]

/-- the bitmap loop of `BLSCreateAggSig` never panics, keeps the length and flags exactly the first
positions of the supplied public keys (in addition to what was flagged before) -/
theorem createBitsLoop_spec {κ : Type} [DecidableEq κ] (keys : List κ) :
    ∀ (pks : List κ) (b : Bytes), keys.length ≤ 8 * b.length →
      ∃ b', createBitsLoop keys pks b = some b' ∧ b'.length = b.length ∧
        ∀ j, bitSet b' j = true ↔ (bitSet b j = true ∨ ∃ pk, pk ∈ pks ∧ findIndex keys pk = some j)
  | [], b, _ => ⟨b, rfl, rfl, fun j => by simp⟩
  | pk :: r, b, h => by
    unfold createBitsLoop
    cases hf : findIndex keys pk with
    | none =>
      obtain ⟨b', h1, h2, h3⟩ := createBitsLoop_spec keys r b h
      refine ⟨b', h1, h2, fun j => ?_⟩
      rw [h3 j]
      constructor
      · rintro (hb | ⟨q, hq, hqf⟩)
        · exact Or.inl hb
        · exact Or.inr ⟨q, List.mem_cons_of_mem _ hq, hqf⟩
      · rintro (hb | ⟨q, hq, hqf⟩)
        · exact Or.inl hb
        · rcases List.mem_cons.1 hq with rfl | hq
          · rw [hf] at hqf; cases hqf
          · exact Or.inr ⟨q, hq, hqf⟩
    | some i =>
      have hi : i / 8 < b.length := by have := findIndex_lt keys pk i hf; omega
      obtain ⟨b1, hw, hl1, hb1⟩ := bitsWrite_true b i hi
      simp only [hw]
      obtain ⟨b', h1, h2, h3⟩ := createBitsLoop_spec keys r b1 (by rw [hl1]; exact h)
      refine ⟨b', h1, by rw [h2, hl1], fun j => ?_⟩
      rw [h3 j, hb1 j]
      constructor
      · rintro (hb | ⟨q, hq, hqf⟩)
        · simp only [Bool.or_eq_true, decide_eq_true_eq] at hb
          rcases hb with rfl | hb
          · exact Or.inr ⟨pk, List.mem_cons_self, hf⟩
          · exact Or.inl hb
        · exact Or.inr ⟨q, List.mem_cons_of_mem _ hq, hqf⟩
      · rintro (hb | ⟨q, hq, hqf⟩)
        · exact Or.inl (by simp [hb])
        · rcases List.mem_cons.1 hq with rfl | hq
          · rw [hf] at hqf
            simp only [Option.some.injEq] at hqf
            exact Or.inl (by simp [hqf])
          · exact Or.inr ⟨q, hq, hqf⟩

theorem bitSet_zero (n j : Nat) : bitSet (List.replicate n 0) j = false := by
  unfold bitSet
  simp only [List.getD_eq_getElem?_getD, List.getElem?_replicate]
  split <;> simp

end LiskVerif.BLSAgg
