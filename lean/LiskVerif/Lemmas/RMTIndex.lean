/-
Index arithmetic of the regular Merkle tree: the binary-string index `2^(height - layer) + position` of a node
(`nIdx`) and its conversion to and from locations (`newNodeLocation`, `nodeLocation.index`: they fail beyond the
32-bit index parser, never when the height is at most 30), the check of an index list of leaf positions
(`idxsValid`), the Go maps of `calculatePathNodes` as association lists, `indexes.insert` of an index that sorts after all
others, and the sum of binary lengths that bounds the iterations of the worklist loops.
-/
import LiskVerif.Lemmas.RMTLayers
import LiskVerif.Lemmas.AList

namespace LiskVerif.RMT

/-! ### indexes of nodes -/

/-- the index of the node at position `k` of layer `l` in a tree of height `h` -/
def nIdx (h l k : Nat) : Nat := 2 ^ (h - l) + k

theorem nIdx_zero (h p : Nat) : nIdx h 0 p = 2 ^ h + p := by simp [nIdx]

theorem nIdx_top (h : Nat) (hh : 1 ≤ h) : nIdx h (h - 1) 0 = 2 := by
  unfold nIdx; rw [show h - (h - 1) = 1 by omega]

theorem nIdx_log2 {h l k : Nat} (hk : k < 2 ^ (h - l)) : Nat.log2 (nIdx h l k) = h - l :=
  log2_eq_of (by unfold nIdx; omega) (by unfold nIdx; omega)

theorem bitLen_nIdx {h l k : Nat} (hk : k < 2 ^ (h - l)) : bitLen (nIdx h l k) = h - l + 1 := by
  have hp := Nat.two_pow_pos (h - l)
  unfold bitLen
  rw [if_neg (by unfold nIdx; omega), nIdx_log2 hk]

theorem nIdx_inj {h l l' k k' : Nat} (hl : l ≤ h) (hl' : l' ≤ h) (hk : k < 2 ^ (h - l)) (hk' : k' < 2 ^ (h - l'))
    (e : nIdx h l k = nIdx h l' k') : l = l' ∧ k = k' := by
  have h1 := nIdx_log2 hk
  have h2 := nIdx_log2 hk'
  rw [e, h2] at h1
  have : l = l' := by omega
  subst this
  unfold nIdx at e
  exact ⟨rfl, by omega⟩

theorem nIdx_half {h l k : Nat} (hl : l + 1 ≤ h) : nIdx h l k / 2 = nIdx h (l + 1) (k / 2) := by
  unfold nIdx
  rw [two_pow_sub_layer hl]; omega

theorem nIdx_mod2 {h l k : Nat} (hl : l + 1 ≤ h) : nIdx h l k % 2 = k % 2 := by
  unfold nIdx
  rw [two_pow_sub_layer hl]; omega

theorem nIdx_ne_two {h l k : Nat} (hl : l + 2 ≤ h) : nIdx h l k ≠ 2 := by
  unfold nIdx
  have : 2 ^ 2 ≤ 2 ^ (h - l) := Nat.pow_le_pow_right (by decide) (by omega)
  omega

/-- a position of layer `l` in a tree of at most `2^(h-1)` leaves fits the layer's index range -/
theorem pos_lt_pow {n h l k : Nat} (hnH : n ≤ 2 ^ (h - 1)) (hl : l + 1 ≤ h) (hk : k * 2 ^ l < n) : k < 2 ^ (h - l) :=
  Nat.lt_of_lt_of_le (pos_lt_of_nonempty hnH (show l ≤ h - 1 by omega) hk) (Nat.pow_le_pow_right (by decide) (by omega))

/-- `newNodeLocation` on the index of a node -/
theorem newLoc_nIdx_eq {h l k : Nat} (hl : l + 1 ≤ h) (hk : k < 2 ^ (h - l)) :
    newLoc (nIdx h l k) h = if 2 ^ 63 ≤ nIdx h l k ∨ 2 ^ 31 ≤ k then none else some (l, k) := by
  have h2 : 2 ^ 1 ≤ 2 ^ (h - l) := Nat.pow_le_pow_right (by decide) (by omega)
  unfold newLoc
  rw [nIdx_log2 hk]
  have e : nIdx h l k - 2 ^ (h - l) = k := by unfold nIdx; omega
  have e2 : h - (h - l) = l := by omega
  simp only [e, e2]
  rw [if_neg (by unfold nIdx; omega)]
  by_cases h63 : nIdx h l k ≥ 2 ^ 63
  · rw [if_pos h63, if_pos (Or.inl h63)]
  · rw [if_neg h63]
    by_cases h31 : k ≥ 2 ^ 31
    · rw [if_pos h31, if_pos (Or.inr h31)]
    · rw [if_neg h31, if_neg (by omega), if_neg (by omega)]

/-- `nodeLocation.index` on a position of the lower half of its layer's range -/
theorem locIndex_eq {h l k : Nat} (hl : l + 1 ≤ h) (hk : k < 2 ^ (h - 1 - l)) :
    locIndex (l, k) h = if 2 ^ 31 ≤ nIdx h l k then none else some (nIdx h l k) := by
  have hb : bitLen k ≤ h - l := by
    unfold bitLen
    split
    · omega
    · have : Nat.log2 k < h - 1 - l := (Nat.log2_lt ‹_›).2 hk
      omega
  unfold locIndex
  simp only
  rw [if_neg (by omega), Nat.max_eq_left hb]
  rfl

/-- with a height of at most 30 every index is below `2^31`: the index parser does not fail -/
theorem nIdx_small {h l k : Nat} (hb : h ≤ 30) (hk : k < 2 ^ (h - l)) : nIdx h l k < 2 ^ 31 ∧ k < 2 ^ 31 := by
  have : 2 ^ (h - l) ≤ 2 ^ 30 := Nat.pow_le_pow_right (by decide) (by omega)
  unfold nIdx; omega

/-- a conversion that fails exactly under `c` does not fail when `P` excludes `c`, or when it is known not to fail -/
theorem some_of_not_fail {α : Type} {o : Option α} {c : Prop} [Decidable c] {x : α} {P : Prop}
    (ho : o = if c then none else some x) (hok : P ∨ o ≠ none) (hP : P → ¬ c) : o = some x := by
  rw [ho] at hok ⊢
  split
  · rename_i hc
    rcases hok with hb | hne
    · exact absurd hc (hP hb)
    · rw [if_pos hc] at hne; exact absurd rfl hne
  · rfl

/-- the location of an index, when the parser does not fail: the height is at most 30, or the
computation at hand succeeds -/
theorem newLoc_nIdx {h l k : Nat} (hl : l + 1 ≤ h) (hk : k < 2 ^ (h - l))
    (hok : h ≤ 30 ∨ newLoc (nIdx h l k) h ≠ none) : newLoc (nIdx h l k) h = some (l, k) :=
  some_of_not_fail (newLoc_nIdx_eq hl hk) hok fun hb => by have := nIdx_small hb hk; omega

theorem locIndex_nIdx {h l k : Nat} (hl : l + 1 ≤ h) (hk : k < 2 ^ (h - 1 - l))
    (hok : h ≤ 30 ∨ locIndex (l, k) h ≠ none) : locIndex (l, k) h = some (nIdx h l k) :=
  some_of_not_fail (locIndex_eq hl hk) hok fun hb => by
    have := nIdx_small hb (Nat.lt_of_lt_of_le hk (Nat.pow_le_pow_right (by decide) (show h - 1 - l ≤ h - l by omega)))
    omega

/-- non-empty nodes of a tree of at most `2^(h-1)` leaves have distinct indexes -/
theorem nIdx_inj_nonempty {n h l l' k k' : Nat} (hnH : n ≤ 2 ^ (h - 1)) (hl : l + 1 ≤ h) (hl' : l' + 1 ≤ h)
    (hk : k * 2 ^ l < n) (hk' : k' * 2 ^ l' < n) (e : nIdx h l k = nIdx h l' k') : l = l' ∧ k = k' :=
  nIdx_inj (by omega) (by omega) (pos_lt_pow hnH hl hk) (pos_lt_pow hnH hl' hk') e

/-! ### the check of the index list (`idxsValid`) on leaf positions -/

theorem distinctIdx_iff (l : List Nat) : distinctIdx l = true ↔ l.Nodup := by
  induction l with
  | nil => simp [distinctIdx]
  | cons a r ih => simp [distinctIdx, ih, List.nodup_cons]

theorem filter_ne_zero_leaves (h : Nat) (pos : List Nat) :
    (pos.map fun p => 2 ^ h + p).filter (· != 0) = pos.map fun p => 2 ^ h + p := by
  rw [List.filter_eq_self]
  intro a ha
  simp only [List.mem_map] at ha
  obtain ⟨p, _, rfl⟩ := ha
  have : 0 < 2 ^ h := Nat.pow_pos (by decide)
  simp only [bne_iff_ne, ne_eq]; omega

theorem nodup_leaves (h : Nat) (pos : List Nat) :
    (pos.map fun p => 2 ^ h + p).Nodup ↔ pos.Nodup := by
  simp only [List.Nodup, List.pairwise_map]
  constructor <;> intro hp <;> refine hp.imp ?_ <;> intro a b hab <;> omega

/-- a leaf position inside the tree passes the index check (height at most 30: the 32-bit index parser) -/
theorem idxInTree_leaf {n i : Nat} (hi : i < n) (hb : getHeight n ≤ 30) :
    idxInTree (layerStructure n) (getHeight n) (2 ^ getHeight n + i) = true := by
  have hk : i < 2 ^ (getHeight n - 0) := pos_lt_pow (le_two_pow_clog2 n) (getHeight_pos n) (by simpa using hi)
  have hs := nIdx_small hb hk
  unfold idxInTree
  rw [← nIdx_zero, newLoc_nIdx_eq (getHeight_pos n) hk, if_neg (by omega)]
  dsimp only
  rw [layerStructure_getD_zero]
  simpa using hi

/-- a leaf-layer index that passes the index check is a position inside the tree -/
theorem idxInTree_leaf_lt {n p : Nat}
    (h : idxInTree (layerStructure n) (getHeight n) (2 ^ getHeight n + p) = true) : p < n := by
  unfold idxInTree at h
  by_cases hp : p < 2 ^ (getHeight n - 0)
  · rw [← nIdx_zero, newLoc_nIdx_eq (getHeight_pos n) hp] at h
    by_cases hc : 2 ^ 63 ≤ nIdx (getHeight n) 0 p ∨ 2 ^ 31 ≤ p
    · rw [if_pos hc] at h; cases h
    · rw [if_neg hc] at h
      dsimp only at h
      rw [layerStructure_getD_zero] at h
      simpa using h
  · -- the index has more than `height + 1` binary digits: no location
    have hlog : getHeight n + 1 ≤ Nat.log2 (2 ^ getHeight n + p) := by
      have hpos := Nat.two_pow_pos (getHeight n)
      rw [Nat.le_log2 (by omega)]; simp at hp; omega
    have : newLoc (2 ^ getHeight n + p) (getHeight n) = none := by
      unfold newLoc
      simp only
      split
      · rfl
      · split
        · rfl
        · split
          · rfl
          · rw [if_pos (by omega)]
    rw [this] at h
    cases h

theorem idxsValid_leaves {n : Nat} (hb : getHeight n ≤ 30) (pos : List Nat)
    (hnd : pos.Nodup) (hlt : ∀ p ∈ pos, p < n) :
    idxsValid n (pos.map fun p => 2 ^ getHeight n + p) = true := by
  unfold idxsValid
  rw [filter_ne_zero_leaves, Bool.and_eq_true, distinctIdx_iff, nodup_leaves, List.all_eq_true]
  refine ⟨hnd, ?_⟩
  intro a ha
  simp only [List.mem_map] at ha
  obtain ⟨p, hp, rfl⟩ := ha
  exact idxInTree_leaf (hlt p hp) hb

/-- an index list of leaf-layer positions that passes the check: the positions are pairwise distinct and
inside the tree (no bound on the size is needed in this direction) -/
theorem idxsValid_leaves_inv {n : Nat} (pos : List Nat)
    (h : idxsValid n (pos.map fun p => 2 ^ getHeight n + p) = true) :
    pos.Nodup ∧ ∀ p ∈ pos, p < n := by
  unfold idxsValid at h
  rw [filter_ne_zero_leaves, Bool.and_eq_true, distinctIdx_iff, nodup_leaves, List.all_eq_true] at h
  refine ⟨h.1, ?_⟩
  intro p hp
  exact idxInTree_leaf_lt (h.2 _ (List.mem_map.2 ⟨p, hp, rfl⟩))

/-! ### the maps `result` and `parentCache` -/

/-- Go map as association list: lookups after `mapSet` -/
theorem lookup_mapSet_self (m : List (Nat × Bytes)) (k : Nat) (v : Bytes) : (mapSet m k v).lookup k = some v := by
  simp [mapSet]

theorem lookup_mapSet_ne (m : List (Nat × Bytes)) (k k' : Nat) (v : Bytes) (h : k' ≠ k) :
    (mapSet m k v).lookup k' = m.lookup k' := by
  have : (k' == k) = false := by simpa using h
  simp only [mapSet, List.lookup, this]
  rw [← AList.get_eq_lookup, ← AList.get_eq_lookup, AList.get_filter_key (fun a => a != k), if_pos (by simpa using h)]

theorem mapSet_idem (m : List (Nat × Bytes)) (k : Nat) (v : Bytes) : mapSet (mapSet m k v) k v = mapSet m k v := by
  simp [mapSet, List.filter_filter]

theorem look_mapSet_R_ne (R C : List (Nat × Bytes)) (p key : Nat) (x : Bytes) (h : key ≠ p) :
    look (mapSet R p x) C key = look R C key := by
  simp only [look, lookup_mapSet_ne _ _ _ _ h]

theorem look_mapSet_C_ne (R C : List (Nat × Bytes)) (p key : Nat) (x : Bytes) (h : key ≠ p) :
    look R (mapSet C p x) key = look R C key := by
  simp only [look, lookup_mapSet_ne _ _ _ _ h]

theorem look_mapSet_R_self (R C : List (Nat × Bytes)) (p : Nat) (x : Bytes) :
    look (mapSet R p x) C p = some x := by
  simp [look, lookup_mapSet_self]

theorem look_mapSet_C_self (R C : List (Nat × Bytes)) (p : Nat) (x : Bytes) (h : R.lookup p = none) :
    look R (mapSet C p x) p = some x := by
  simp [look, h, lookup_mapSet_self]

theorem initResult_lookup : ∀ (idxs : List Nat) (q : List Bytes) (m : List (Nat × Bytes)), idxs.Nodup →
    (∀ i ∈ idxs, i ≠ 0) → q.length = idxs.length →
    (∀ key, key ∉ idxs → (initResult q idxs m).lookup key = m.lookup key) ∧
    (∀ e ∈ idxs.zip q, (initResult q idxs m).lookup e.1 = some e.2) := by
  intro idxs
  induction idxs with
  | nil =>
    intro q m _ _ hl
    have : q = [] := List.eq_nil_of_length_eq_zero (by simpa using hl)
    subst this
    simp [initResult]
  | cons i is ih =>
    intro q m hnd hnz hl
    match q, hl with
    | v :: qs, hl =>
      have hi0 : (i == 0) = false := by simpa using hnz i (by simp)
      simp only [initResult, hi0, Bool.false_eq_true, if_false]
      have hnd' := List.nodup_cons.mp hnd
      obtain ⟨h1, h2⟩ := ih qs (mapSet m i v) hnd'.2 (fun j hj => hnz j (by simp [hj])) (by simpa using hl)
      constructor
      · intro key hkey
        simp only [List.mem_cons, not_or] at hkey
        rw [h1 key hkey.2, lookup_mapSet_ne _ _ _ _ hkey.1]
      · intro e he
        simp only [List.zip_cons_cons, List.mem_cons] at he
        rcases he with rfl | he
        · rw [h1 i hnd'.1, lookup_mapSet_self]
        · exact h2 e he

/-! ### `indexes.insert` when the new index sorts after all others; the iteration bound -/

theorem getD_mem {arr : List Nat} {j : Nat} (h : j < arr.length) : arr.getD j 0 ∈ arr := by
  rw [List.getD_eq_getElem?_getD, List.getElem?_eq_getElem h]; simp

/-- The binary search of `indexes.insert` for an index `x` that sorts after every other element of `arr` (`h1`) and is at
most its last element (`h2`): every probe below the end that is not `x` sends the search to the upper half, so it ends
at `x` as the last element, or at `arr.length` with `x` not in `arr`. -/
theorem findInsertIndex_last (arr : List Nat) (x : Nat)
    (h1 : ∀ e ∈ arr, e ≠ x → idxLt x e = false)
    (h2 : ∀ j, j + 1 < arr.length → arr.getD j 0 ≠ x) :
    ∀ (fuel lo : Nat), lo ≤ arr.length → arr.length - lo < fuel → (lo = arr.length → x ∉ arr) →
      (findInsertIndex arr x fuel lo arr.length < arr.length ∧
        arr.getD (findInsertIndex arr x fuel lo arr.length) 0 = x) ∨
      (findInsertIndex arr x fuel lo arr.length = arr.length ∧ x ∉ arr) := by
  intro fuel
  induction fuel with
  | zero => intro lo _ h _; omega
  | succ f ih =>
    intro lo hlo hfuel hend
    simp only [findInsertIndex]
    by_cases hlt : lo < arr.length
    · rw [if_pos hlt]
      have hmid : lo + (arr.length - lo + 1) / 2 - 1 < arr.length := by omega
      have hmid2 : lo ≤ lo + (arr.length - lo + 1) / 2 - 1 := by omega
      generalize lo + (arr.length - lo + 1) / 2 - 1 = middle at hmid hmid2
      by_cases heq : arr.getD middle 0 = x
      · left
        have : (arr.getD middle 0 == x) = true := by simpa using heq
        rw [if_pos this]
        exact ⟨hmid, heq⟩
      · have hne : ¬ ((arr.getD middle 0 == x) = true) := by simpa using heq
        rw [if_neg hne]
        have hlt' := h1 _ (getD_mem hmid) heq
        unfold idxLt at hlt'
        have hnext := ih (middle + 1) (by omega) (by omega) (by
          intro he hm
          obtain ⟨j, hj, hjx⟩ := List.getElem_of_mem hm
          have hjd : arr.getD j 0 = x := by
            rw [List.getD_eq_getElem?_getD, List.getElem?_eq_getElem hj]; simpa using hjx
          by_cases hj1 : j + 1 < arr.length
          · exact h2 j hj1 hjd
          · have : j = middle := by omega
            subst this; exact heq hjd)
        by_cases hb : (bitLen x == bitLen (arr.getD middle 0)) = true
        · rw [if_pos hb] at hlt' ⊢
          have : ¬ x < arr.getD middle 0 := by simpa using hlt'
          rw [if_neg this]; exact hnext
        · rw [if_neg hb] at hlt' ⊢
          have : ¬ x > arr.getD middle 0 := by simpa using hlt'
          rw [if_neg this]; exact hnext
    · rw [if_neg hlt]
      right
      exact ⟨rfl, hend (by omega)⟩

/-- `indexes.insert` of an index that sorts after every other element: the binary search ends at the last element or
behind it, so `x` is appended, unless it is the last element already. That `x` can only be the LAST element is said by
the split `arr = pre ++ suf` with `x ∉ pre` and at most one element in `suf` (the worklist loops insert the parent of the
head, which is at the end of the worklist if it is there at all: `WInv.insert`, `WInv.insert_last`). -/
theorem insertIdx_spec (arr pre suf : List Nat) (x : Nat) (harr : arr = pre ++ suf) (hsuf : suf.length ≤ 1)
    (h1 : ∀ e ∈ arr, e ≠ x → idxLt x e = false) (hpre : x ∉ pre) :
    insertIdx arr x = if x ∈ arr then arr else arr ++ [x] := by
  have h2 : ∀ j, j + 1 < arr.length → arr.getD j 0 ≠ x := by
    intro j hj he
    have hjp : j < pre.length := by rw [harr] at hj; simp at hj; omega
    apply hpre
    rw [← he, harr, List.getD_eq_getElem?_getD, List.getElem?_append_left hjp, List.getElem?_eq_getElem hjp]
    simp
  have := findInsertIndex_last arr x h1 h2 (arr.length + 1) 0 (by omega) (by omega) (by
    intro h0
    have : arr = [] := List.eq_nil_of_length_eq_zero h0.symm
    rw [this]; simp)
  unfold insertIdx
  simp only
  rcases this with ⟨h3, h4⟩ | ⟨h3, h4⟩
  · have hmem : x ∈ arr := by rw [← h4]; exact getD_mem h3
    rw [if_neg (by omega), if_pos hmem]
    have : ¬ ((arr.getD (findInsertIndex arr x (arr.length + 1) 0 arr.length) 0 != x) = true) := by
      rw [h4]; simp
    rw [if_neg this]
  · rw [if_pos (by omega), if_neg h4]

theorem sumBitLen_const (l : List Nat) (c : Nat) (h : ∀ x ∈ l, bitLen x = c) : sumBitLen l = l.length * c := by
  have e : l.map bitLen = List.replicate l.length c := List.eq_replicate_iff.2 ⟨List.length_map _, fun b hb => by
    obtain ⟨x, hx, rfl⟩ := List.mem_map.1 hb; exact h x hx⟩
  unfold sumBitLen
  rw [← List.sum_eq_foldl, e, List.sum_replicate_nat]

end LiskVerif.RMT
