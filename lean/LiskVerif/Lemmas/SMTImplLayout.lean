/-
Layouts: what holds of stored subtrees and of the expansion phase of `updateSubtree` (Model/SMTImpl.lean) whatever
the batch, the database and the lower levels do.  Core Lean only.

* stored subtree records (`SubTree.encode` / `newSubTree`): well-formed subtrees and the decode ∘ encode round trip;
* layout trees (Lemmas/SMTImplTree.lean) and arranged trees (Lemmas/SMTImplSem.lean `Arr`): the flattening fills its
  subtree exactly (Kraft equality), the collapsed tree has no sibling pair left to merge (`LT.Canon`, which the
  representation relation asks of stored subtrees), so `LT.collapse` is idempotent; it keeps the arrangement, and an
  arranged tree of at most 8 levels is a well-formed stored subtree;
* `updateNode` returns the flattening of a layout tree rooted at its position, and the loop `updateNodes` over a
  subtree that is the flattening of a layout tree returns the flattening of a layout tree again (every tip replaced
  by the tree `updateNode` made of it), no deeper than the subtree height.
-/
import LiskVerif.Lemmas.SMTImplCollapse
import LiskVerif.Lemmas.SMTImplSem

namespace LiskVerif.SMTImpl
open LiskVerif LiskVerif.SMT

/-- the three kinds of node a stored subtree holds, with the field lengths the record format relies on -/
def WFNode (c : Cfg) (n : Node) : Prop :=
  n = newEmptyNode c.H ∨
  (∃ k v, k.length = c.keyLen ∧ v.length = c.hashSize ∧ n = newLeafNode c.H k v) ∨
  (∃ h, h.length = c.hashSize ∧ n = newStubNode h)

/-- well-formed subtree: one depth (< 256) per node, 1 … 256 nodes, well-formed nodes, and the root is the one
`newSubtreeFromData` computes -/
structure WFSub (c : Cfg) (t : SubTree) : Prop where
  len : t.struct.length = t.nodes.length
  pos : 1 ≤ t.nodes.length
  le : t.nodes.length ≤ 256
  small : ∀ s ∈ t.struct, s < 256
  nodes : ∀ n ∈ t.nodes, WFNode c n
  root : newSubtreeFromData c.H t.struct t.nodes = .ok t

theorem decodeNodes_flat (c : Cfg) : ∀ (ns : List Node) (fuel : Nat), (∀ n ∈ ns, WFNode c n) → ns.length ≤ fuel →
    decodeNodes c.H c.keyLen c.hashSize fuel (ns.flatMap (·.data)) = .ok ns
  | [], fuel, _, _ => by cases fuel <;> rfl
  | n :: ns, 0, _, h => by simp at h
  | n :: ns, fuel + 1, hw, h => by
    have ih := decodeNodes_flat c ns fuel (fun x hx => hw x (List.mem_cons_of_mem _ hx)) (by simpa using h)
    rcases hw n (List.mem_cons_self) with rfl | ⟨k, v, hk, hv, rfl⟩ | ⟨hh, hl, rfl⟩
    · simp [newEmptyNode, decodeNodes, ih, Except.map]
    · have h1 : ¬ (k ++ v ++ ns.flatMap (·.data)).length < c.keyLen + c.hashSize := by
        simp [List.length_append]; omega
      have h2 : (k ++ v ++ ns.flatMap (·.data)).drop (c.keyLen + c.hashSize) = ns.flatMap (·.data) := by
        rw [← hk, ← hv, ← List.length_append]; exact List.drop_left
      have h3 : (k ++ v ++ ns.flatMap (·.data)).take c.keyLen = k := by
        rw [← hk, List.append_assoc]; exact List.take_left
      have h4 : ((k ++ v ++ ns.flatMap (·.data)).drop c.keyLen).take c.hashSize = v := by
        rw [← hk, List.append_assoc, List.drop_left, ← hv]; exact List.take_left
      simp only [List.flatMap_cons, newLeafNode, List.cons_append, decodeNodes, if_true]
      rw [if_neg h1, h2, h3, h4, ih]
      rfl
    · have h1 : ¬ (hh ++ ns.flatMap (·.data)).length < c.hashSize := by
        simp [List.length_append]; omega
      have h2 : (hh ++ ns.flatMap (·.data)).drop c.hashSize = ns.flatMap (·.data) := by
        rw [← hl]; exact List.drop_left
      have h3 : (hh ++ ns.flatMap (·.data)).take c.hashSize = hh := by
        rw [← hl]; exact List.take_left
      simp only [List.flatMap_cons, newStubNode, List.cons_append, decodeNodes]
      simp only [if_true, if_neg h1, h2, h3, ih]
      simp [Except.map]

theorem map_toNat_ofNat (l : List Nat) (h : ∀ s ∈ l, s < 256) : (l.map UInt8.ofNat).map (·.toNat) = l := by
  rw [List.map_map]
  exact (List.map_congr_left fun s hs => UInt8.toNat_ofNat_of_lt' (h s hs)).trans (List.map_id' l)

/-- decode ∘ encode = id on well-formed subtrees -/
theorem newSubTree_encode (c : Cfg) (t : SubTree) (h : WFSub c t) : newSubTree c t.encode = .ok t := by
  have hl : (UInt8.ofNat (t.struct.length + 255)).toNat + 1 = t.struct.length := by
    have := h.pos; have := h.le; have := h.len
    simp [UInt8.toNat_ofNat']; omega
  have hlen : (t.struct.map UInt8.ofNat).length = t.struct.length := by simp
  unfold SubTree.encode newSubTree
  simp only [hl]
  rw [if_neg (by simp [List.length_append])]
  have h1 : (t.struct.map UInt8.ofNat ++ t.nodes.flatMap (·.data)).take t.struct.length = t.struct.map UInt8.ofNat := by
    rw [← hlen]; exact List.take_left
  have h2 : (t.struct.map UInt8.ofNat ++ t.nodes.flatMap (·.data)).drop t.struct.length = t.nodes.flatMap (·.data) := by
    rw [← hlen]; exact List.drop_left
  rw [h1, h2, map_toNat_ofNat _ h.small]
  have hd := decodeNodes_flat c t.nodes ((t.nodes.flatMap (·.data)).length + 1) h.nodes (by
    have : t.nodes.length ≤ (t.nodes.flatMap (·.data)).length := by
      have hw := h.nodes
      generalize t.nodes = ns at hw
      induction ns with
      | nil => simp
      | cons n ns ih =>
        have := ih (fun x hx => hw x (List.mem_cons_of_mem _ hx))
        have hn : 1 ≤ n.data.length := by
          rcases hw n List.mem_cons_self with rfl | ⟨k, v, _, _, rfl⟩ | ⟨hh, _, rfl⟩ <;>
            simp [newEmptyNode, newLeafNode, newStubNode]
        simp only [List.flatMap_cons, List.length_append, List.length_cons]; omega
    omega)
  simp only [hd]
  exact h.root

/-- Kraft equality: the layout fills the subtree exactly -/
theorem LT.kraft (t : LT) (d s : Nat) (h : t.maxDepth d ≤ s) :
    ((t.depths d).map fun x => 2 ^ (s - x)).sum = 2 ^ (s - d) := by
  induction t generalizing d with
  | tip n => simp [LT.depths]
  | br l r ihl ihr =>
    simp only [LT.maxDepth] at h
    have h1 := l.le_maxDepth (d + 1)
    have e : s - d = (s - (d + 1)) + 1 := by omega
    simp only [LT.depths, List.map_append, List.sum_append]
    rw [ihl (d + 1) (by omega), ihr (d + 1) (by omega), e, Nat.pow_succ, Nat.mul_two]

theorem length_le_kraft_sum (s : Nat) (l : List Nat) : l.length ≤ (l.map fun x => 2 ^ (s - x)).sum := by
  induction l with
  | nil => simp
  | cons a l ih =>
    have : 1 ≤ 2 ^ (s - a) := Nat.one_le_two_pow
    simp only [List.length_cons, List.map_cons, List.sum_cons]
    omega

theorem LT.nodes_le (t : LT) (d s : Nat) (h : t.maxDepth d ≤ s) : t.nodes.length ≤ 2 ^ (s - d) := by
  rw [← t.length_nodes_depths d, ← t.kraft d s h]
  exact length_le_kraft_sum s _

theorem LT.depths_bounds (t : LT) (d : Nat) : ∀ x ∈ t.depths d, d ≤ x ∧ x ≤ t.maxDepth d := by
  induction t generalizing d with
  | tip n => intro x hx; simp [LT.depths] at hx; subst hx; simp [LT.maxDepth]
  | br l r ihl ihr =>
    intro x hx
    simp only [LT.depths, List.mem_append] at hx
    simp only [LT.maxDepth]
    rcases hx with hx | hx
    · have := ihl (d + 1) x hx; omega
    · have := ihr (d + 1) x hx; omega

theorem mergeTips_maxDepth (a b : Node) (d : Nat) : (mergeTips a b).maxDepth d ≤ d + 1 := by
  rcases mergeTips_cases a b with h | h | h <;> rw [h] <;> simp [LT.maxDepth]

theorem LT.collapse_maxDepth (t : LT) (d : Nat) : t.collapse.maxDepth d ≤ t.maxDepth d := by
  induction t generalizing d with
  | tip n => exact Nat.le_refl _
  | br l r ihl ihr =>
    have hl := ihl (d + 1)
    have hr := ihr (d + 1)
    have h1 := l.le_maxDepth (d + 1)
    rcases LT.collapse_br_cases l r with ⟨a, b, _, _, h⟩ | h <;> rw [h] <;> simp only [LT.maxDepth]
    · have := mergeTips_maxDepth a b d
      omega
    · omega

/-- no sibling pair that `calculateSubTree` would merge -/
def LT.Canon : LT → Prop
  | .tip _ => True
  | .br l r => l.Canon ∧ r.Canon ∧ ∀ a b, l = .tip a → r = .tip b → mergeTips a b = .br (.tip a) (.tip b)

theorem LT.collapse_canon (t : LT) : t.collapse.Canon := by
  induction t with
  | tip n => trivial
  | br l r ihl ihr =>
    rw [LT.collapse_br]
    split
    · exact ihl
    split
    · exact ihr
    split
    · exact ihl
    next h00 h01 h10 =>
      refine ⟨ihl, ihr, fun a b ha hb => ?_⟩
      simp only [ha, hb, LT.topKind] at h00 h01 h10
      unfold mergeTips
      rw [if_neg h00, if_neg h01, if_neg h10]

theorem LT.collapse_of_canon (t : LT) (h : t.Canon) : t.collapse = t := by
  induction t with
  | tip n => rfl
  | br l r ihl ihr =>
    obtain ⟨hl, hr, hm⟩ := h
    rcases LT.collapse_br_cases l r with ⟨a, b, ha, hb, h⟩ | h <;> rw [h]
    · rw [ihl hl] at ha
      rw [ihr hr] at hb
      rw [hm a b ha hb, ha, hb]
    · rw [ihl hl, ihr hr]

theorem LT.collapse_idem (t : LT) : t.collapse.collapse = t.collapse :=
  t.collapse.collapse_of_canon t.collapse_canon

section Arranged
variable {c : Cfg} {H : HashFn} {S : Nat → List Entry → Bytes → Prop} {rem d : Nat} {a b : Node} {t : LT}
  {es : List Entry}

theorem ArrTip.kind (h : ArrTip H S rem d a es) : a.kind = kindOfLen es.length := by
  cases h with
  | empty => rfl
  | leaf e _ => rfl
  | stub es _ h2 _ => exact (kindOfLen_stub.mpr h2).symm

/-- an empty node or a leaf (a node that is no stub) holds its entries wherever it stands -/
theorem ArrTip.lift {S' : Nat → List Entry → Bytes → Prop} {rem' d' : Nat} (h : ArrTip H S rem d a es)
    (hns : rem = 0 → es.length ≤ 1) : ArrTip H S' rem' d' a es := by
  cases h with
  | empty => exact ArrTip.empty
  | leaf e hv => exact ArrTip.leaf e hv
  | stub _ h0 h2 _ => exact absurd (hns h0) (by omega)

/-- the node of a single entry holds, wherever it stands, any entry with that key and value -/
theorem ArrTip.single {S' : Nat → List Entry → Bytes → Prop} {rem' d' : Nat} {e e' : Entry}
    (h : ArrTip H S rem d a [e']) (hk : e'.key = e.key) (hv : e'.value = e.value) : ArrTip H S' rem' d' a [e] := by
  cases h with
  | leaf _ hne => rw [hk, hv]; exact ArrTip.leaf e (hv ▸ hne)
  | stub _ _ h2 _ => simp at h2

/-- a pair of sibling tips, merged as `calculateSubTree` does, arranges the same entries -/
theorem arr_mergeTips (hw : WFE (d + 1) es)
    (ta : ArrTip H S rem d a (goL es)) (tb : ArrTip H S rem d b (goR es)) :
    Arr H S (rem + 1) (d + 1) (mergeTips a b) es := by
  unfold mergeTips
  rw [ta.kind, tb.kind]
  rcases node_split hw with ⟨rfl, hL, hR⟩ | ⟨e, p, rfl, ⟨_, hL, hR⟩ | ⟨_, hL, hR⟩⟩ | ⟨h2, hsum⟩
  · rw [hL] at ta
    rw [hL, hR, if_pos ⟨rfl, rfl⟩]
    exact Arr.tip _ _ _ _ (ta.lift fun _ => Nat.zero_le _)
  · rw [hL] at ta
    rw [hL, hR, if_neg (by simp [kindOfLen]), if_neg (by simp [kindOfLen]), if_pos ⟨rfl, rfl⟩]
    exact Arr.tip _ _ _ _ (ta.single rfl rfl)
  · rw [hR] at tb
    rw [hL, hR, if_neg (by simp [kindOfLen]), if_pos ⟨rfl, rfl⟩]
    exact Arr.tip _ _ _ _ (tb.single rfl rfl)
  · rw [kindIf_two (by omega)]
    exact Arr.br _ _ _ _ _ (Arr.tip _ _ _ _ ta) (Arr.tip _ _ _ _ tb)

theorem Arr.tip_inv (h : Arr H S rem d (.tip a) es) : ArrTip H S rem d a es := by
  cases h; assumption

/-- the collapsed tree arranges the same entries -/
theorem Arr.collapse (hw : WFE d es) (h : Arr H S rem d t es) : Arr H S rem d t.collapse es := by
  induction h with
  | tip rem d n es ht => exact Arr.tip _ _ _ _ ht
  | br rem d l r es _ _ ihl ihr =>
    have hl := ihl (wfe_goL hw)
    have hr := ihr (wfe_goR hw)
    rcases LT.collapse_br_cases l r with ⟨a, b, ha, hb, h⟩ | h <;> rw [h]
    · rw [ha] at hl
      rw [hb] at hr
      exact arr_mergeTips hw hl.tip_inv hr.tip_inv
    · exact Arr.br _ _ _ _ _ hl hr

/-- depth bound of an arranged tree: a tree rooted with `rem` levels left is at most `rem` deep -/
theorem Arr.maxDepth_le (h : Arr H S rem d t es) (dpt : Nat) : t.maxDepth dpt ≤ dpt + rem := by
  induction h generalizing dpt with
  | tip rem d n es ht => simp [LT.maxDepth]
  | br rem d l r es _ _ ihl ihr =>
    have h1 := ihl (dpt + 1)
    have h2 := ihr (dpt + 1)
    simp only [LT.maxDepth]
    omega

/-- the nodes of an arranged tree are well-formed record nodes -/
theorem Arr.wfNodes (h : Arr c.H S rem d t es) (hk : ∀ e ∈ es, e.key.length = c.keyLen ∧ e.value.length = c.hashSize)
    (hH : ∀ x, (c.H x).length = c.hashSize) : ∀ n ∈ t.nodes, WFNode c n := by
  induction h with
  | tip rem d n es ht =>
    intro m hm
    simp only [LT.nodes, List.mem_singleton] at hm
    subst hm
    cases ht with
    | empty => exact Or.inl rfl
    | leaf e hv =>
      obtain ⟨h1, h2⟩ := hk e (by simp)
      exact Or.inr (Or.inl ⟨e.key, e.value, h1, h2, rfl⟩)
    | stub es h0 h2 hS =>
      exact Or.inr (Or.inr ⟨root c.H d es, SMT.root_length hH d es, rfl⟩)
  | br rem d l r es _ _ ihl ihr =>
    intro m hm
    simp only [LT.nodes, List.mem_append] at hm
    rcases hm with hm | hm
    · exact ihl (kv_child (P := fun k v => k.length = c.keyLen ∧ v.length = c.hashSize) hk false) m hm
    · exact ihr (kv_child (P := fun k v => k.length = c.keyLen ∧ v.length = c.hashSize) hk true) m hm

/-- an arranged tree no deeper than 8 levels is a well-formed stored subtree -/
theorem Arr.wfSub (h : Arr c.H S c.sth d t es) (hs : c.sth ≤ 8)
    (hk : ∀ e ∈ es, e.key.length = c.keyLen ∧ e.value.length = c.hashSize)
    (hH : ∀ x, (c.H x).length = c.hashSize) : WFSub c ⟨t.depths 0, t.hash c.H, t.nodes⟩ := by
  have hm : t.maxDepth 0 ≤ c.sth := by simpa using h.maxDepth_le 0
  refine ⟨t.length_nodes_depths 0, t.nodes_length_pos, ?_, ?_, h.wfNodes hk hH, newSubtreeFromData_tree c.H t⟩
  · have h1 := t.nodes_le 0 c.sth hm
    have h2 : 2 ^ (c.sth - 0) ≤ 2 ^ 8 := Nat.pow_le_pow_right (by omega) (by omega)
    show t.nodes.length ≤ 256
    omega
  · intro x hx
    have := (t.depths_bounds 0 x hx).2
    omega

end Arranged

#print axioms LiskVerif.SMTImpl.Arr.collapse
#print axioms LiskVerif.SMTImpl.Arr.wfSub

/-! ### the expansion phase returns layouts -/

/-- an `if` that returns `some r` returns it in one of its branches -/
theorem some_of_ite {α : Type} {p : Prop} [Decidable p] {a b : Option α} {r : α}
    (h : (if p then a else b) = some r) : a = some r ∨ b = some r := by
  split at h
  · exact Or.inl h
  · exact Or.inr h

theorem singleResult_shape {c : Cfg} {pos : Nat} {bins : List (List KV)} {cur : Node} {r : NS}
    (h : singleResult c pos bins cur = some r) : ∃ n, r = ([n], [pos]) := by
  unfold singleResult at h
  rcases some_of_ite h with h | h
  · match firstKV bins, h with
    | some (k, v), h =>
      rcases some_of_ite h with h | h
      · rcases some_of_ite h with h | h <;> exact ⟨_, (Option.some.inj h).symm⟩
      · rcases some_of_ite h with h | h
        · rcases some_of_ite h with h | h <;> exact ⟨_, (Option.some.inj h).symm⟩
        · cases h
  · cases h

theorem updateBottom_shape {c : Cfg} {lower : DB → List KV → SubTree → Nat → St SubTree} {height pos : Nat}
    {db db' : DB} {bins : List (List KV)} {cur : Node} {r : NS}
    (h : updateBottom c lower height pos db bins cur = (db', .ok r)) : ∃ n, r = ([n], [pos]) := by
  unfold updateBottom at h
  match bins, h with
  | [bin], h =>
    simp only at h
    split at h
    · cases h
    split at h
    · cases h
    split at h <;> cases h <;> exact ⟨_, rfl⟩

/-- `updateNode` with `rem ≤ subtreeHeight` levels left returns a layout tree rooted at depth
`subtreeHeight - rem`, no deeper than the subtree height -/
theorem updateNode_tree (c : Cfg) (lower : DB → List KV → SubTree → Nat → St SubTree) (height : Nat) :
    ∀ (rem : Nat) (db : DB) (bins : List (List KV)) (cur : Node) (db' : DB) (r : NS), rem ≤ c.sth →
      updateNode c lower height rem db bins cur = (db', .ok r) →
      ∃ t : LT, t.nodes = r.1 ∧ t.depths (c.sth - rem) = r.2 ∧ t.maxDepth (c.sth - rem) ≤ c.sth := by
  intro rem
  induction rem using Nat.strongRecOn with
  | ind rem ih =>
    intro db bins cur db' r hle h
    have tip : ∀ n, ∃ t : LT, t.nodes = [n] ∧ t.depths (c.sth - rem) = [c.sth - rem] ∧
        t.maxDepth (c.sth - rem) ≤ c.sth := fun n => ⟨.tip n, rfl, rfl, Nat.sub_le _ _⟩
    unfold updateNode at h
    simp only at h
    split at h
    · cases h
    split at h
    · cases h; exact tip cur
    split at h
    · next hs =>
      cases h
      obtain ⟨n, rfl⟩ := singleResult_shape hs
      exact tip n
    cases rem with
    | zero =>
      obtain ⟨n, rfl⟩ := updateBottom_shape h
      exact tip n
    | succ rem =>
      simp only at h
      split at h
      · cases h
      split at h
      · cases h
      split at h
      · cases h
      next dbl l hl =>
      split at h
      · cases h
      next dbr rr hr =>
      cases h
      obtain ⟨tl, hl1, hl2, hl3⟩ := ih rem (Nat.lt_succ_self _) _ _ _ _ _ (by omega) hl
      obtain ⟨tr, hr1, hr2, hr3⟩ := ih rem (Nat.lt_succ_self _) _ _ _ _ _ (by omega) hr
      have hd : c.sth - rem = c.sth - (rem + 1) + 1 := by omega
      rw [hd] at hl2 hl3 hr2 hr3
      exact ⟨.br tl tr, by rw [← hl1, ← hr1]; rfl, by rw [← hl2, ← hr2]; rfl, Nat.max_le.mpr ⟨hl3, hr3⟩⟩

/-- the loop over the nodes of the current subtree, started on the flattening of a layout tree `t` (followed by
further nodes): the result starts with the flattening of a layout tree at the same depth and the loop continues
on the remaining nodes with the remaining bins -/
theorem updateNodes_tree (c : Cfg) (lower : DB → List KV → SubTree → Nat → St SubTree) (height : Nat) :
    ∀ (t : LT) (d : Nat) (ns : List Node) (hs : List Nat) (db : DB) (bins : List (List KV)) (off : Nat)
      (db' : DB) (on : List Node) (os : List Nat) (off' : Nat), t.maxDepth d ≤ c.sth →
      updateNodes c lower height (t.nodes ++ ns) (t.depths d ++ hs) db bins off = (db', .ok ((on, os), off')) →
      ∃ (t' : LT) (db1 : DB) (on' : List Node) (os' : List Nat),
        on = t'.nodes ++ on' ∧ os = t'.depths d ++ os' ∧ t'.maxDepth d ≤ c.sth ∧
        updateNodes c lower height ns hs db1 (bins.drop (2 ^ (c.sth - d))) (off + 2 ^ (c.sth - d)) =
          (db', .ok ((on', os'), off')) := by
  intro t
  induction t with
  | tip n =>
    intro d ns hs db bins off db' on os off' hd h
    simp only [LT.nodes, LT.depths, List.cons_append, List.nil_append, LT.maxDepth] at h hd
    unfold updateNodes at h
    simp only [if_neg (Nat.not_lt.mpr hd)] at h
    split at h
    · cases h
    split at h
    · cases h
    next db1 r hr =>
    split at h
    · cases h
    next db2 rs off2 hrs =>
    cases h
    obtain ⟨t', h1, h2, h3⟩ := updateNode_tree c lower height _ _ _ _ _ _ (Nat.sub_le _ _) hr
    rw [Nat.sub_sub_self hd] at h2 h3
    exact ⟨t', db1, rs.1, rs.2, by rw [h1], by rw [h2], h3, hrs⟩
  | br l r ihl ihr =>
    intro d ns hs db bins off db' on os off' hd h
    simp only [LT.nodes, LT.depths, List.append_assoc, LT.maxDepth] at h hd
    have hge := l.le_maxDepth (d + 1)
    obtain ⟨tl, db1, on1, os1, rfl, rfl, m1, h1⟩ := ihl _ _ _ _ _ _ _ _ _ _ (by omega) h
    obtain ⟨tr, db2, on2, os2, rfl, rfl, m2, h2⟩ := ihr _ _ _ _ _ _ _ _ _ _ (by omega) h1
    have hp : 2 ^ (c.sth - d) = 2 ^ (c.sth - (d + 1)) + 2 ^ (c.sth - (d + 1)) := by
      rw [show c.sth - d = (c.sth - (d + 1)) + 1 by omega, Nat.pow_succ]; omega
    rw [List.drop_drop, Nat.add_assoc, ← hp] at h2
    exact ⟨.br tl tr, db2, on2, os2, by simp [LT.nodes], by simp [LT.depths], Nat.max_le.mpr ⟨m1, m2⟩, h2⟩

end LiskVerif.SMTImpl
