/-
The two ideas behind the Lisk32 address functions (`LiskVerif.Model.Lisk32`).
One `polymod` step is XOR-linear in its input value and in the low 25 bits of its state, so six values fed after
any state change the result by their own base-32 number: the checksum is the six base-32 digits of the state after
six zeros (XOR 1), and it is the only tail that brings the state to 1.
`convertUIntArray` regroups the base-`2 ^ f` digits of ONE number into its base-`2 ^ t` digits, so converting there and
back loses nothing when the bits fill whole groups (20 bytes = 32 quintets).
-/
import LiskVerif.Model.Lisk32

namespace LiskVerif.Lisk32

/-! ### polymod: XOR-linearity of one step -/

/-- the generator feedback selected by the top five bits -/
def fb (top : Nat) (l : List Nat) (c : Nat) : Nat :=
  l.foldl (fun c i => if (top >>> i) &&& 1 ≠ 0 then c ^^^ generator.getD i 0 else c) c

theorem polymodStep_eq (chk v : Nat) :
    polymodStep chk v = fb (chk >>> 25) (List.range 5) (((chk &&& 0x1ffffff) <<< 5) ^^^ v) := rfl

theorem xor_right_comm (a b c : Nat) : a ^^^ b ^^^ c = a ^^^ c ^^^ b := by
  rw [Nat.xor_assoc, Nat.xor_comm b c, ← Nat.xor_assoc]

theorem fb_xor (top : Nat) (l : List Nat) (a v : Nat) : fb top l (a ^^^ v) = fb top l a ^^^ v := by
  induction l generalizing a with
  | nil => rfl
  | cons i l ih =>
    simp only [fb, List.foldl_cons] at ih ⊢
    split
    · rw [xor_right_comm, ih]
    · exact ih a

theorem generator_lt (i : Nat) : generator.getD i 0 < 2 ^ 30 := by
  by_cases h : i < 5
  · have : i = 0 ∨ i = 1 ∨ i = 2 ∨ i = 3 ∨ i = 4 := by omega
    rcases this with h | h | h | h | h <;> subst h <;> decide
  · have : generator.length ≤ i := by simp [generator]; omega
    simp [List.getD, List.getElem?_eq_none this]

theorem fb_lt (top : Nat) (l : List Nat) (a : Nat) (ha : a < 2 ^ 30) : fb top l a < 2 ^ 30 := by
  induction l generalizing a with
  | nil => exact ha
  | cons i l ih =>
    simp only [fb, List.foldl_cons] at ih ⊢
    split
    · exact ih _ (Nat.xor_lt_two_pow ha (generator_lt i))
    · exact ih a ha

theorem shl5_xor_eq (b c : Nat) (hc : c < 32) : (b <<< 5) ^^^ c = b * 2 ^ 5 + c := by
  apply Nat.eq_of_testBit_eq
  intro j
  rw [Nat.mul_comm, Nat.testBit_two_pow_mul_add b hc j, Nat.testBit_xor, Nat.testBit_shiftLeft]
  by_cases hj : j < 5
  · have : ¬ (j ≥ 5) := by omega
    simp [hj, this]
  · have h5 : j ≥ 5 := by omega
    have : c.testBit j = false :=
      Nat.testBit_lt_two_pow (Nat.lt_of_lt_of_le hc (Nat.pow_le_pow_right (by decide : 2 > 0) h5))
    simp [hj, h5, this]

/-- every step lands in the 30-bit state space -/
theorem polymodStep_lt (chk v : Nat) (hv : v < 32) : polymodStep chk v < 2 ^ 30 := by
  rw [polymodStep_eq]
  apply fb_lt
  rw [shl5_xor_eq _ _ hv]
  have : chk &&& 0x1ffffff < 2 ^ 25 := Nat.and_lt_two_pow _ (by decide)
  omega

theorem polymodStep_value (s v : Nat) : polymodStep s v = polymodStep s 0 ^^^ v := by
  rw [polymodStep_eq, polymodStep_eq, fb_xor, Nat.xor_zero]

theorem polymodStep_low (a b : Nat) (hb : b < 2 ^ 25) :
    polymodStep (a ^^^ b) 0 = polymodStep a 0 ^^^ (b <<< 5) := by
  rw [polymodStep_eq, polymodStep_eq]
  have h1 : (a ^^^ b) >>> 25 = a >>> 25 := by
    rw [Nat.shiftRight_xor_distrib, Nat.shiftRight_eq_div_pow b, Nat.div_eq_of_lt hb, Nat.xor_zero]
  have h2 : b &&& 0x1ffffff = b := by
    have := Nat.and_two_pow_sub_one_eq_mod b 25
    rw [show (2:Nat) ^ 25 - 1 = 0x1ffffff from rfl] at this
    rw [this, Nat.mod_eq_of_lt hb]
  rw [h1, Nat.and_xor_distrib_right, h2, Nat.shiftLeft_xor_distrib, Nat.xor_zero, Nat.xor_zero,
    fb_xor]

/-- one step on a state perturbed in its low 25 bits -/
theorem polymodStep_pert (a b c : Nat) (hb : b < 2 ^ 25) (hc : c < 32) :
    polymodStep (a ^^^ b) c = polymodStep a 0 ^^^ (b * 2 ^ 5 + c) := by
  rw [polymodStep_value, polymodStep_low a b hb, Nat.xor_assoc, shl5_xor_eq _ _ hc]

/-! ### digit strings in base `2 ^ w` -/

/-- Horner value of the digits `l` (most significant first) on top of `acc` -/
def val (w acc : Nat) : List Nat → Nat
  | [] => acc
  | c :: cs => val w (acc * 2 ^ w + c) cs

/-- the `n` low base-`2 ^ w` digits of `x`, most significant first -/
def digits (w : Nat) : Nat → Nat → List Nat
  | 0, _ => []
  | n + 1, x => x / 2 ^ (w * n) % 2 ^ w :: digits w n x

theorem digits_length (w n x : Nat) : (digits w n x).length = n := by
  induction n with
  | zero => rfl
  | succ n ih => rw [digits, List.length_cons, ih]

theorem digits_lt (w n x : Nat) : ∀ c ∈ digits w n x, c < 2 ^ w := by
  induction n with
  | zero => intro c hc; cases hc
  | succ n ih =>
    intro c hc
    rcases List.mem_cons.mp hc with rfl | hc
    · exact Nat.mod_lt _ (Nat.two_pow_pos w)
    · exact ih c hc

/-- the digits above the last `w * l.length` bits are those of `acc` -/
theorem val_div (w : Nat) (l : List Nat) (hl : ∀ c ∈ l, c < 2 ^ w) (acc : Nat) :
    val w acc l / 2 ^ (w * l.length) = acc := by
  induction l generalizing acc with
  | nil => simp [val]
  | cons c cs ih =>
    rw [val, List.length_cons, Nat.mul_succ, Nat.pow_add, ← Nat.div_div_eq_div_mul,
      ih (fun x hx => hl x (List.mem_cons_of_mem _ hx)), Nat.mul_comm,
      Nat.mul_add_div (Nat.two_pow_pos w), Nat.div_eq_of_lt (hl c List.mem_cons_self), Nat.add_zero]

theorem val_digits (w n x acc : Nat) : val w acc (digits w n x) = acc * 2 ^ (w * n) + x % 2 ^ (w * n) := by
  induction n generalizing acc with
  | zero => simp [val, digits, Nat.mod_one]
  | succ n ih =>
    rw [digits, val, ih, Nat.mul_succ, Nat.pow_add, Nat.mod_mul, Nat.add_mul, Nat.mul_assoc,
      Nat.mul_comm (2 ^ w), Nat.mul_comm (_ % _)]
    omega

theorem digits_val (w : Nat) (l : List Nat) (hl : ∀ c ∈ l, c < 2 ^ w) (acc : Nat) :
    digits w l.length (val w acc l) = l := by
  induction l generalizing acc with
  | nil => rfl
  | cons c cs ih =>
    have hcs := fun x hx => hl x (List.mem_cons_of_mem _ hx)
    rw [List.length_cons, digits, val, ih hcs, val_div w cs hcs, Nat.mul_comm, Nat.mul_add_mod,
      Nat.mod_eq_of_lt (hl c List.mem_cons_self)]

theorem digits_add (w n1 n2 x : Nat) :
    digits w (n1 + n2) x = digits w n1 (x / 2 ^ (w * n2)) ++ digits w n2 x := by
  induction n1 with
  | zero => rw [Nat.zero_add]; rfl
  | succ n1 ih =>
    rw [Nat.succ_add, digits, digits, ih, Nat.div_div_eq_div_mul, ← Nat.pow_add, ← Nat.mul_add,
      Nat.add_comm n2]
    rfl

theorem digits_mod (w n x : Nat) : digits w n (x % 2 ^ (w * n)) = digits w n x := by
  have := digits_val w (digits w n x) (digits_lt w n x) 0
  rwa [digits_length, val_digits, Nat.zero_mul, Nat.zero_add] at this

/-! ### checksum -/

/-- Feeding `cs` to a state perturbed by `b` in its low bits: the zero run from the unperturbed state, XOR the
Horner value of `b` followed by `cs`.  `j` counts the quintets already inside `b`; at most six in all keeps the
perturbation below the 25 bits that a step shifts without feedback. -/
theorem foldl_polymodStep_pert (cs : List Nat) (a b j : Nat) (hb : b < 2 ^ (5 * j))
    (hj : cs.length + j ≤ 6) (hcs : ∀ c ∈ cs, c < 32) :
    cs.foldl polymodStep (a ^^^ b)
      = (List.replicate cs.length 0).foldl polymodStep a ^^^ val 5 b cs := by
  induction cs generalizing a b j with
  | nil => rfl
  | cons c cs ih =>
    have hc : c < 32 := hcs c (by simp)
    have hb25 : b < 2 ^ 25 := by
      have : j ≤ 5 := by simp at hj; omega
      exact Nat.lt_of_lt_of_le hb (Nat.pow_le_pow_right (by decide) (by omega))
    simp only [List.foldl_cons, List.length_cons, List.replicate_succ, val]
    rw [polymodStep_pert a b c hb25 hc]
    apply ih _ _ (j + 1)
    · rw [show 5 * (j + 1) = 5 * j + 5 by omega, Nat.pow_add]
      have : (2:Nat) ^ 5 = 32 := rfl
      omega
    · simp at hj ⊢; omega
    · intro x hx; exact hcs x (by simp [hx])

theorem createChecksum_eq (u5 : List Nat) :
    createChecksum u5 = digits 5 6 (polymod (u5 ++ [0, 0, 0, 0, 0, 0]) ^^^ 1) := by
  simp [createChecksum, digits, List.range, List.range.loop, Nat.shiftRight_eq_div_pow,
    show ∀ x, x &&& 31 = x % 32 from fun x => Nat.and_two_pow_sub_one_eq_mod x 5]

theorem zeros6_lt (s : Nat) : [0, 0, 0, 0, 0, 0].foldl polymodStep s < 2 ^ 30 := by
  simp only [List.foldl_cons, List.foldl_nil]
  exact polymodStep_lt _ _ (by decide)

theorem polymod_checksum (u5 : List Nat) : polymod (u5 ++ createChecksum u5) = 1 := by
  rw [createChecksum_eq]
  simp only [polymod, List.foldl_append]
  generalize List.foldl polymodStep 1 u5 = s
  have hz := zeros6_lt s
  generalize hm : [0, 0, 0, 0, 0, 0].foldl polymodStep s = z at *
  have hm1 : z ^^^ 1 < 2 ^ 30 := Nat.xor_lt_two_pow hz (by decide)
  have h := foldl_polymodStep_pert (digits 5 6 (z ^^^ 1)) s 0 0 (by decide)
    (by rw [digits_length]; decide) (digits_lt 5 6 _)
  rw [Nat.xor_zero, val_digits, Nat.zero_mul, Nat.zero_add, Nat.mod_eq_of_lt hm1, digits_length] at h
  rw [h]
  change [0, 0, 0, 0, 0, 0].foldl polymodStep s ^^^ (z ^^^ 1) = 1
  rw [hm, ← Nat.xor_assoc, Nat.xor_self, Nat.zero_xor]

/-! ### bit regrouping -/

theorem emit_succ (t fuel acc bits : Nat) (out : List Nat) (h : bits ≥ t) (ht : t > 0) :
    emit t (fuel + 1) acc bits out
      = emit t fuel acc (bits - t) (out ++ [acc / 2 ^ (bits - t) % 2 ^ t]) := by
  simp only [emit, h, ht, and_self, if_true, Nat.shiftRight_eq_div_pow,
    Nat.and_two_pow_sub_one_eq_mod]

theorem emit_stop (t fuel acc bits : Nat) (out : List Nat) (h : bits < t) :
    emit t fuel acc bits out = (bits, out) := by
  cases fuel with
  | zero => rfl
  | succ n =>
    have : ¬ (bits ≥ t ∧ t > 0) := by omega
    simp only [emit, this, if_false]

/-- with `n` whole groups and `r` further bits pending, the inner loop emits the `n` groups above the
low `r` bits of the accumulator -/
theorem emit_eq (t : Nat) (ht : 0 < t) (acc r : Nat) (hr : r < t) (n fuel : Nat) (hn : n ≤ fuel)
    (out : List Nat) : emit t fuel acc (t * n + r) out = (r, out ++ digits t n (acc / 2 ^ r)) := by
  induction n generalizing fuel out with
  | zero => rw [Nat.mul_zero, Nat.zero_add, emit_stop _ _ _ _ _ hr, digits, List.append_nil]
  | succ n ih =>
    obtain ⟨fuel, rfl⟩ : ∃ f, fuel = f + 1 := ⟨fuel - 1, by omega⟩
    have hb : t * (n + 1) + r - t = t * n + r := by rw [Nat.mul_succ]; omega
    rw [emit_succ _ _ _ _ _ (by rw [Nat.mul_succ]; omega) ht, hb, ih fuel (by omega), digits,
      Nat.div_div_eq_div_mul, ← Nat.pow_add, Nat.add_comm r, List.append_assoc]
    rfl

theorem convertLoop_cons (f t v : Nat) (rest : List Nat) (acc bits : Nat) (out : List Nat)
    (hv : v < 2 ^ f) :
    convertLoop f t (v :: rest) acc bits out =
      convertLoop f t rest (acc * 2 ^ f + v)
        (emit t (bits + f + 1) (acc * 2 ^ f + v) (bits + f) out).1
        (emit t (bits + f + 1) (acc * 2 ^ f + v) (bits + f) out).2 := by
  simp only [convertLoop, Nat.shiftRight_eq_zero v f hv, ← Nat.shiftLeft_add_eq_or_of_lt hv, ne_eq, not_true, if_false]
  simp only [Nat.shiftLeft_eq]

/-- `convertUIntArray` regroups a bit string: started with `bits < t` pending bits in `acc`, the loop
appends the `t`-bit groups of all pending and incoming bits, from the top, and drops the incomplete
last group -/
theorem convertLoop_eq (f t : Nat) (ht : 0 < t) (l : List Nat) (hl : ∀ v ∈ l, v < 2 ^ f)
    (acc bits : Nat) (hb : bits < t) (out : List Nat) :
    convertLoop f t l acc bits out = some (out ++
      digits t ((bits + f * l.length) / t) (val f acc l / 2 ^ ((bits + f * l.length) % t))) := by
  induction l generalizing acc bits out with
  | nil => rw [List.length_nil, Nat.mul_zero, Nat.add_zero, Nat.div_eq_of_lt hb]; simp [convertLoop, digits]
  | cons v rest ih =>
    have hrest := fun x hx => hl x (List.mem_cons_of_mem _ hx)
    have hr := Nat.mod_lt (bits + f) ht
    have hsum : bits + f * (rest.length + 1) = t * ((bits + f) / t) + ((bits + f) % t + f * rest.length) := by
      rw [← Nat.add_assoc, Nat.div_add_mod, Nat.mul_succ]; omega
    -- the inner loop emits the whole groups among the `bits + f` pending bits …
    have he := emit_eq t ht (acc * 2 ^ f + v) _ hr ((bits + f) / t) (bits + f + 1)
      (Nat.le_succ_of_le (Nat.div_le_self _ _)) out
    rw [Nat.div_add_mod] at he
    -- … and these are the leading digits of the final value, whose part above the bits of `rest` is
    -- the present accumulator (`val_div`)
    rw [convertLoop_cons f t v rest acc bits out (hl v List.mem_cons_self), he, ih hrest _ _ hr,
      List.length_cons, hsum, Nat.mul_add_div ht, Nat.mul_add_mod, digits_add, List.append_assoc, val,
      Nat.div_div_eq_div_mul, ← Nat.pow_add, Nat.add_comm _ (t * _), Nat.div_add_mod, Nat.add_comm _ (f * _),
      Nat.pow_add, ← Nat.div_div_eq_div_mul, val_div f rest hrest]

/-- whole groups: when the `f * l.length` bits make `m` groups of `t`, the result is the `m` base-`2 ^ t`
digits of the number whose base-`2 ^ f` digits are `l` -/
theorem convertUIntArray_eq (f t : Nat) (ht : 0 < t) (l : List Nat) (hl : ∀ v ∈ l, v < 2 ^ f) (m : Nat)
    (hm : f * l.length = t * m) : convertUIntArray l f t = digits t m (val f 0 l) := by
  rw [convertUIntArray, convertLoop_eq f t ht l hl 0 0 ht [], Nat.zero_add, hm,
    Nat.mul_div_cancel_left m ht, Nat.mul_mod_right, Nat.pow_zero, Nat.div_one]
  rfl

/-- regrouping to another width and back loses nothing when the bits fill whole groups -/
theorem convert_convert (f t : Nat) (hf : 0 < f) (ht : 0 < t) (l : List Nat) (hl : ∀ v ∈ l, v < 2 ^ f)
    (m : Nat) (hm : f * l.length = t * m) : convertUIntArray (convertUIntArray l f t) t f = l := by
  rw [convertUIntArray_eq f t ht l hl m hm,
    convertUIntArray_eq t f hf _ (digits_lt t m _) l.length (by rw [digits_length, hm]), val_digits,
    Nat.zero_mul, Nat.zero_add, ← hm, digits_mod, digits_val f l hl]

/-! ### alphabet -/

theorem lskPrefix_eq : lskPrefix = [108, 115, 107] := by decide +kernel

theorem charset_eq : charset = [122, 120, 118, 99, 112, 109, 98, 110, 51, 52, 54, 53, 111, 57, 55, 56,
    117, 121, 114, 116, 107, 113, 101, 119, 50, 97, 100, 115, 106, 104, 102, 103] := by
  decide +kernel

theorem charset_length : charset.length = 32 := by rw [charset_eq]; rfl

/-- the character of a value -/
def charOf (v : Nat) : UInt8 := charset.getD v 0

theorem charIndex_charOf : ∀ v, v < 32 → charIndex (charOf v) = some v := by
  decide +kernel

theorem charIndex_some (c : UInt8) (i : Nat) (h : charIndex c = some i) : i < 32 ∧ charOf i = c := by
  unfold charIndex at h
  simp only at h
  split at h
  · rename_i hlt
    injection h with h
    subst h
    refine ⟨by rw [← charset_length]; exact hlt, ?_⟩
    have := List.findIdx_getElem (p := (· == c)) (xs := charset) (w := hlt)
    simp only [beq_iff_eq] at this
    simp only [charOf, List.getD, List.getElem?_eq_getElem hlt, Option.getD_some]
    exact this
  · cases h

theorem charOf_mem (v : Nat) (h : v < 32) : charOf v ∈ charset := by
  have hlt : v < charset.length := by rw [charset_length]; exact h
  rw [charOf, List.getD, List.getElem?_eq_getElem hlt]
  exact List.getElem_mem hlt

theorem mapM_cons_option {α β : Type} (f : α → Option β) (a : α) (l : List α) :
    (a :: l).mapM f = (f a).bind fun x => (l.mapM f).bind fun r => some (x :: r) := by
  simp [List.mapM_cons]

theorem mapM_charIndex_map (l : List Nat) (h : ∀ v ∈ l, v < 32) :
    (l.map charOf).mapM charIndex = some l := by
  induction l with
  | nil => rfl
  | cons a l ih =>
    rw [List.map_cons, mapM_cons_option, charIndex_charOf a (h a (by simp)),
      ih (fun v hv => h v (by simp [hv]))]
    rfl

theorem mapM_charIndex_some (s : Bytes) (r : List Nat) (h : s.mapM charIndex = some r) :
    s = r.map charOf ∧ ∀ v ∈ r, v < 32 := by
  induction s generalizing r with
  | nil =>
    simp only [List.mapM_nil] at h
    cases h
    simp
  | cons c s ih =>
    rw [mapM_cons_option] at h
    cases hc : charIndex c with
    | none => rw [hc] at h; cases h
    | some i =>
      cases hs : s.mapM charIndex with
      | none => rw [hc, hs] at h; cases h
      | some r' =>
        rw [hc, hs] at h
        simp only [Option.bind_some] at h
        cases h
        obtain ⟨e1, e2⟩ := ih r' hs
        obtain ⟨e3, e4⟩ := charIndex_some c i hc
        refine ⟨by rw [List.map_cons, e4, ← e1], ?_⟩
        intro v hv
        simp only [List.mem_cons] at hv
        rcases hv with rfl | hv
        · exact e3
        · exact e2 v hv


/-! ### the address functions on 20-byte inputs -/

theorem map_toNat_lt (b : Bytes) : ∀ v ∈ b.map (·.toNat), v < 256 := by
  intro v hv
  simp only [List.mem_map] at hv
  obtain ⟨x, _, rfl⟩ := hv
  exact x.toNat_lt

theorem map_ofNat_toNat (b : Bytes) : (b.map (·.toNat)).map UInt8.ofNat = b := by
  induction b with
  | nil => rfl
  | cons a b ih => simp only [List.map_cons, UInt8.ofNat_toNat, ih]

theorem map_toNat_ofNat (l : List Nat) (h : ∀ v ∈ l, v < 256) :
    (l.map UInt8.ofNat).map (·.toNat) = l := by
  rw [List.map_map]
  exact (List.map_congr_left fun v hv => UInt8.toNat_ofNat_of_lt' (h v hv)).trans (List.map_id' l)

/-- the quintets of a 20-byte value -/
def u5Of (b : Bytes) : List Nat := convertUIntArray (b.map (·.toNat)) 8 5

theorem u5Of_props (b : Bytes) (hb : b.length = 20) :
    (u5Of b).length = 32 ∧ (∀ v ∈ u5Of b, v < 32) ∧
      (convertUIntArray (u5Of b) 5 8).map UInt8.ofNat = b := by
  have hm : 8 * (b.map (·.toNat)).length = 5 * 32 := by rw [List.length_map, hb]
  have hlt := map_toNat_lt b
  refine ⟨?_, ?_, ?_⟩
  · rw [u5Of, convertUIntArray_eq 8 5 (by decide) _ hlt 32 hm, digits_length]
  · rw [u5Of, convertUIntArray_eq 8 5 (by decide) _ hlt 32 hm]; exact digits_lt 5 32 _
  · rw [u5Of, convert_convert 8 5 (by decide) (by decide) _ hlt 32 hm, map_ofNat_toNat]

theorem bytesToLisk32_eq (b : Bytes) (hb : b.length = 20) :
    bytesToLisk32 b = some (lskPrefix ++ (u5Of b ++ createChecksum (u5Of b)).map charOf) := by
  unfold bytesToLisk32
  rw [if_neg (by omega), if_neg (by omega)]
  rfl

theorem createChecksum_props (u : List Nat) :
    (createChecksum u).length = 6 ∧ ∀ v ∈ createChecksum u, v < 32 := by
  rw [createChecksum_eq]
  exact ⟨digits_length 5 6 _, digits_lt 5 6 _⟩

theorem validate_eq (s : Bytes) (all : List Nat) (hs : s.length = 41)
    (hm : (s.drop 3).mapM charIndex = some all) : validate s = (polymod all == 1) := by
  unfold validate
  rw [if_neg (by omega), hm]

/-- what `ValidateLisk32` accepts: 41 bytes, the last 38 of them alphabet characters whose values
bring the BCH state to 1 -/
theorem validate_true (s : Bytes) (h : validate s = true) :
    s.length = 41 ∧ ∃ all, (s.drop 3).mapM charIndex = some all ∧ polymod all = 1 := by
  unfold validate at h
  split at h
  · cases h
  · cases hm : (s.drop 3).mapM charIndex with
    | none => rw [hm] at h; cases h
    | some all => rw [hm] at h; exact ⟨by omega, all, rfl, by simpa using h⟩

theorem drop_lskPrefix (x : Bytes) : (lskPrefix ++ x).drop 3 = x :=
  List.drop_left' (by rw [lskPrefix_eq]; rfl)

/-- quintets and their checksum are all 5-bit values -/
theorem checksummed_lt (u : List Nat) (hlt : ∀ v ∈ u, v < 32) : ∀ v ∈ u ++ createChecksum u, v < 32 :=
  fun v hv => (List.mem_append.mp hv).elim (hlt v) ((createChecksum_props u).2 v)

/-- the text produced for a 20-byte value is accepted by `validate` -/
theorem validate_encoded (u : List Nat) (hu : u.length = 32) (hlt : ∀ v ∈ u, v < 32) :
    validate (lskPrefix ++ (u ++ createChecksum u).map charOf) = true := by
  rw [validate_eq _ (u ++ createChecksum u)
    (by simp [lskPrefix_eq, hu, (createChecksum_props u).1])
    (by rw [drop_lskPrefix]; exact mapM_charIndex_map _ (checksummed_lt u hlt)),
    polymod_checksum]
  rfl

theorem lisk32ToBytes_encoded (u : List Nat) (hu : u.length = 32) (hlt : ∀ v ∈ u, v < 32) :
    lisk32ToBytes (lskPrefix ++ (u ++ createChecksum u).map charOf)
      = some ((convertUIntArray u 5 8).map UInt8.ofNat) := by
  unfold lisk32ToBytes
  rw [if_neg (by simp [lskPrefix_eq]), validate_encoded u hu hlt, drop_lskPrefix, ← List.map_take,
    List.take_left' hu, mapM_charIndex_map u hlt]
  rfl

/-! ### uniqueness of the checksum -/

theorem xor_eq_one (z p : Nat) (h : z ^^^ p = 1) : p = z ^^^ 1 := by
  rw [← h, ← Nat.xor_assoc, Nat.xor_self, Nat.zero_xor]

/-- a 6-value tail that makes `polymod` equal to 1 is the checksum -/
theorem checksum_unique (u cs : List Nat) (hl : cs.length = 6) (hlt : ∀ c ∈ cs, c < 32)
    (h : polymod (u ++ cs) = 1) : createChecksum u = cs := by
  rw [createChecksum_eq]
  simp only [polymod, List.foldl_append] at h ⊢
  generalize List.foldl polymodStep 1 u = s at *
  have hp := foldl_polymodStep_pert cs s 0 0 (by decide) (by omega) hlt
  rw [Nat.xor_zero, hl] at hp
  rw [hp] at h
  have hd := digits_val 5 cs hlt 0
  rw [hl, xor_eq_one _ _ h] at hd
  exact hd

end LiskVerif.Lisk32
