/-
What it means for the store to represent a map (Model/SMTImpl.lean over Model/SMTSpec.lean): definitions.

* `descend x es` – the entries of `es` below the relative position `x`, seen from there;
* `RepSub c f db d es h` – the store `db` holds, under the key `h`, the record of a canonical subtree arranging the
  entries `es` (`d` key bits left), and recursively the records of the subtrees its stubs point to (`f` bounds the
  number of levels); `Rep` – the same for some bound;
* `Represents c db root m` – the store represents the map `m` at `root`;
* `Avoids H k d es` – the key `k` is not the record key of `es` or of any group of at least two entries below it;
* `WFMap c m` – a stored map; `GoodHash c X` – what the refinement needs of the hash (one output length, no collision
  among the inputs `X`); `InX` – the inputs hashed for a group are among `X`; `RepW` – `Rep` for a well-formed group with
  inputs in `X`; `KeepsOutside` – the frame: represented groups at diverging positions stay represented.
-/
import LiskVerif.Lemmas.SMTImplLevel
import LiskVerif.Lemmas.SMTImplLayout

namespace LiskVerif.SMTImpl
open LiskVerif LiskVerif.SMT

/-- the entries below the relative position `x` -/
def descend : Bits → List Entry → List Entry
  | [], es => es
  | false :: x, es => descend x (goL es)
  | true :: x, es => descend x (goR es)

def RepSub (c : Cfg) : Nat → DB → Nat → List Entry → Bytes → Prop
  | 0, _, _, _, _ => False
  | f + 1, db, d, es, h =>
    ∃ T : LT, Arr c.H (RepSub c f db) c.sth d T es ∧ T.Canon ∧ h = root c.H d es ∧
      dbGet db h = some (SubTree.encode ⟨T.depths 0, h, T.nodes⟩)

def Rep (c : Cfg) (db : DB) (d : Nat) (es : List Entry) (h : Bytes) : Prop := ∃ f, RepSub c f db d es h

/-- the map `m` as the trie sees it: distinct keys of the key length, values of the hash size -/
structure WFMap (c : Cfg) (m : List KV) : Prop where
  nodup : NoDupKeys m
  keys : ∀ kv ∈ m, kv.1.length = c.keyLen
  values : ∀ kv ∈ m, kv.2.length = c.hashSize

/-- **the store `db` represents the map `m` at `root`**: `root` is the LIP-0039 root of `m` and, unless `m` is empty
(no record is read for the empty root), the records of the whole tree are there (for the entries in some order) -/
def Represents (c : Cfg) (db : DB) (root : Bytes) (m : List KV) : Prop :=
  WFMap c m ∧ root = mapRoot c.H c.keyLen m ∧
    (m ≠ [] → ∃ es, es.Perm (entriesOf m) ∧ Rep c db (8 * c.keyLen) es root)

/-- `k` is not the record key of a group of at least two entries at or below the position of `es` -/
def Avoids (H : HashFn) (k : Bytes) (d : Nat) (es : List Entry) : Prop :=
  ∀ x : Bits, 2 ≤ (descend x es).length → k ≠ root H (d - x.length) (descend x es)

/-- what the refinement needs of the hash: outputs of one positive length and no collision among the inputs `X`
(a hash with outputs of one length cannot be injective on all byte strings, so `X` is the finite set of inputs
hashed for the trees involved, see `treeInputs`) -/
structure GoodHash (c : Cfg) (X : Bytes → Prop) : Prop where
  inj : ∀ a b, X a → X b → c.H a = c.H b → a = b
  len : ∀ x, (c.H x).length = c.hashSize
  pos : 0 < c.hashSize
  nil : X []

/-- all inputs hashed for the root of the group `es` are among `X` -/
def InX (c : Cfg) (X : Bytes → Prop) (d : Nat) (es : List Entry) : Prop := ∀ a ∈ treeInputs c.H d es, X a

/-- a represented group of well-formed entries whose hash inputs are among `X` -/
def RepW (c : Cfg) (X : Bytes → Prop) (db : DB) (d : Nat) (es : List Entry) (h : Bytes) : Prop :=
  WFE d es ∧ (∀ e ∈ es, e.key.length = c.keyLen) ∧ InX c X d es ∧ Rep c db d es h

/-- frame: records of subtrees at positions diverging from `pre` are kept -/
def KeepsOutside (c : Cfg) (X : Bytes → Prop) (pre : Bits) (db db' : DB) : Prop :=
  ∀ (pre' : Bits) (d : Nat) (es : List Entry) (h : Bytes), Diverge pre pre' → (∀ e ∈ es, Under pre' e) →
    2 ≤ es.length → RepW c X db d es h → RepW c X db' d es h

end LiskVerif.SMTImpl
