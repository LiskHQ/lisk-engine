/-
Lemmas about the certificate model (Model/Cert.lean), and the invariants the C06 theorems are stated with.

The certificate pool outlives changes of the chain (new blocks, deleted blocks, reorganisations),
so its invariant must not refer to "the current chain".  A block id commits to the whole history of
the block; `BlockCtx` is the (fork independent) function from block ids to the height of the block
and the BFT parameters valid at that height.  A chain state is `Consistent` with it when the
parameters it reports for its own blocks are the ones of the context.
-/
import LiskVerif.Model.Cert
import LiskVerif.Lemmas.Sort
import LiskVerif.Lemmas.AList

namespace LiskVerif.Cert

/-! ## invariants -/

/-- well-formed BFT parameters: distinct BLS keys and distinct addresses -/
def ParamsWf (p : Params) : Prop :=
  (p.validators.map (·.key)).Nodup ∧ (p.validators.map (·.addr)).Nodup

/-- every stored parameter set is well-formed -/
def StoreWf (ps : ParamStore) : Prop := ∀ e ∈ ps, ParamsWf e.2

/-- for every block id (of any fork): the height of the block and the BFT parameters valid at it -/
abbrev BlockCtx := Nat → Option (Nat × Params)

/-- the chain state agrees with the block context: the parameters the state reports for the height
of one of its blocks are the ones of that block, and they are available for every height above
`maxHeightCertified` (older parameters may have been pruned) -/
def Consistent (st : State) (ctx : BlockCtx) : Prop :=
  ∀ h hd, st.blockAt h = some hd →
    (∀ p, getParams st.params h = some p → ctx hd.id = some (h, p)) ∧
    (st.mhc < h → ∀ p, ctx hd.id = some (h, p) → getParams st.params h = some p)

/-- a commit verified against the CURRENT chain: by a validator active at its height, the signature
verifies for the certificate of the node's own block at that height -/
def VerifiedOnChain (st : State) (c : Commit) : Prop :=
  ∃ hd p v, st.blockAt c.height = some hd ∧ hd.id = c.block ∧
    getParams st.params c.height = some p ∧ findValidator p.validators c.signer = some v ∧
    c.sig = sign v.key (certMsg st hd)

/-- a pool entry is a commit for SOME block (id `c.block`, of the stated height) signed by a
validator active at that block's height, with a valid signature over its certificate -/
def EntryOk (ctx : BlockCtx) (chainId : Nat) (c : Commit) : Prop :=
  ∃ p v, ctx c.block = some (c.height, p) ∧ findValidator p.validators c.signer = some v ∧
    c.sig = sign v.key ⟨chainId, c.block⟩

/-- the pool invariant: every entry is `EntryOk`, at most one entry per (block, signer) -/
def PoolInv (ctx : BlockCtx) (chainId : Nat) (pool : Pool) : Prop :=
  (∀ c ∈ pool.all, EntryOk ctx chainId c) ∧
  pool.all.Pairwise (fun a b => ¬ (a.block = b.block ∧ a.signer = b.signer))

/-- at most one entry per (block id, signer): the second half of `PoolInv`, on a list -/
def Distinct (l : List Commit) : Prop :=
  l.Pairwise (fun a b => ¬ (a.block = b.block ∧ a.signer = b.signer))

theorem Distinct.nodup {l : List Commit} (h : Distinct l) : l.Nodup :=
  List.Pairwise.imp (fun hab he => hab ⟨by rw [he], by rw [he]⟩) h

theorem Distinct.perm {l l' : List Commit} (h : Distinct l) (hp : l.Perm l') : Distinct l' :=
  List.Pairwise.perm h hp (fun hxy hh => hxy ⟨hh.1.symm, hh.2.symm⟩)

theorem Distinct.sublist {l l' : List Commit} (h : Distinct l) (hs : l'.Sublist l) : Distinct l' :=
  List.Pairwise.sublist hs h

namespace PoolInv
variable {ctx : BlockCtx} {chainId : Nat} {pool pool' : Pool}

theorem intro (h1 : ∀ c ∈ pool.all, EntryOk ctx chainId c) (h2 : Distinct pool.all) : PoolInv ctx chainId pool := ⟨h1, h2⟩

theorem entryOk (h : PoolInv ctx chainId pool) : ∀ c ∈ pool.all, EntryOk ctx chainId c := h.1

theorem distinct (h : PoolInv ctx chainId pool) : Distinct pool.all := h.2

/-- the invariant passes to a pool holding some of the entries -/
theorem of_sublist (h : PoolInv ctx chainId pool) (hs : pool'.all.Sublist pool.all) : PoolInv ctx chainId pool' :=
  .intro (fun c hc => h.entryOk c (hs.subset hc)) (h.distinct.sublist hs)

/-- the invariant passes to a pool holding the same entries in another order -/
theorem of_perm (h : PoolInv ctx chainId pool) (hp : pool.all.Perm pool'.all) : PoolInv ctx chainId pool' :=
  .intro (fun c hc => h.entryOk c (hp.mem_iff.mpr hc)) (h.distinct.perm hp)

end PoolInv

/-- the parameters the state reports for one of its blocks are those of the block context -/
theorem Consistent.ctx_of_params {st : State} {ctx : BlockCtx} (hc : Consistent st ctx) {h : Nat} {hd : Header} {p : Params}
    (hb : st.blockAt h = some hd) (hp : getParams st.params h = some p) : ctx hd.id = some (h, p) :=
  (hc h hd hb).1 p hp

/-- above `maxHeightCertified` the parameters of the block context are stored -/
theorem Consistent.params_of_ctx {st : State} {ctx : BlockCtx} (hc : Consistent st ctx) {h : Nat} {hd : Header} {p : Params}
    (hb : st.blockAt h = some hd) (hlt : st.mhc < h) (hp : ctx hd.id = some (h, p)) : getParams st.params h = some p :=
  (hc h hd hb).2 hlt p hp

theorem VerifiedOnChain.entryOk {st : State} {ctx : BlockCtx} {c : Commit} (hc : Consistent st ctx)
    (h : VerifiedOnChain st c) : EntryOk ctx st.chainId c := by
  obtain ⟨hd, p, v, hb, hid, hp, hf, hs⟩ := h
  refine ⟨p, v, ?_, hf, ?_⟩
  · rw [← hid]; exact hc.ctx_of_params hb hp
  · rw [hs, ← hid]; rfl

/-! ## parameter store -/

theorem getParamsEntry_mem {ps : ParamStore} {h : Nat} {e : Nat × Params}
    (he : getParamsEntry ps h = some e) : e ∈ ps ∧ e.1 ≤ h := by
  induction ps generalizing e with
  | nil => simp [getParamsEntry] at he
  | cons x r ih =>
    obtain ⟨k, p⟩ := x
    unfold getParamsEntry at he
    split at he
    · rename_i k' p' hr
      have := ih hr
      split at he
      · rename_i hc
        cases he
        exact ⟨List.mem_cons_self, hc.1⟩
      · cases he
        exact ⟨List.mem_cons_of_mem _ this.1, this.2⟩
    · split at he
      · rename_i hc
        cases he
        exact ⟨List.mem_cons_self, hc⟩
      · cases he

theorem getParams_mem {ps : ParamStore} {h : Nat} {p : Params} (hp : getParams ps h = some p) :
    ∃ k, (k, p) ∈ ps ∧ k ≤ h := by
  unfold getParams at hp
  cases he : getParamsEntry ps h with
  | none => simp [he] at hp
  | some e =>
    simp [he] at hp
    obtain ⟨k, q⟩ := e
    simp at hp
    subst hp
    exact ⟨k, getParamsEntry_mem he⟩

theorem getParams_wf {ps : ParamStore} {h : Nat} {p : Params} (hwf : StoreWf ps)
    (hp : getParams ps h = some p) : ParamsWf p := by
  obtain ⟨k, hk, _⟩ := getParams_mem hp
  exact hwf (k, p) hk

/-- `NextHeightBFTParameters(x)` is the least stored height above `x` -/
theorem nextHeightParams_eq (ps : ParamStore) (x : Nat) :
    nextHeightParams ps x = ((ps.map (·.1)).filter (x < ·)).min? := by
  induction ps with
  | nil => rfl
  | cons e r ih =>
    rw [nextHeightParams, ih, List.map_cons, List.filter_cons]
    by_cases hx : x < e.1
    · rw [if_pos (decide_eq_true hx), List.min?_cons]
      cases ((r.map (·.1)).filter (x < ·)).min? with
      | none => exact if_pos hx
      | some m =>
        by_cases hk : e.1 < m
        · exact (if_pos ⟨hx, hk⟩).trans (congrArg some (Nat.min_eq_left (Nat.le_of_lt hk)).symm)
        · exact (if_neg fun h => hk h.2).trans (congrArg some (Nat.min_eq_right (Nat.not_lt.mp hk)).symm)
    · rw [if_neg (show ¬ decide (x < e.1) = true by simpa using hx)]
      cases ((r.map (·.1)).filter (x < ·)).min? with
      | none => exact if_neg hx
      | some m => exact if_neg fun h => hx h.1

theorem nextHeightParams_none {ps : ParamStore} {x : Nat} (h : nextHeightParams ps x = none) :
    ∀ e ∈ ps, ¬ x < e.1 := by
  rw [nextHeightParams_eq, List.min?_eq_none_iff, List.filter_eq_nil_iff] at h
  exact fun e he hx => h e.1 (List.mem_map_of_mem he) (decide_eq_true hx)

theorem nextHeightParams_some {ps : ParamStore} {x m : Nat} (h : nextHeightParams ps x = some m) :
    x < m ∧ (∃ p, (m, p) ∈ ps) ∧ ∀ e ∈ ps, x < e.1 → m ≤ e.1 := by
  rw [nextHeightParams_eq, List.min?_eq_some_iff] at h
  obtain ⟨hm, hx⟩ := List.mem_filter.mp h.1
  obtain ⟨⟨k, p⟩, he, rfl⟩ := List.mem_map.mp hm
  exact ⟨of_decide_eq_true hx, ⟨p, he⟩,
    fun e he hx => h.2 e.1 (List.mem_filter.mpr ⟨List.mem_map_of_mem he, decide_eq_true hx⟩)⟩

/-! ## validators -/

theorem findValidator_some {l : List Validator} {a : Nat} {v : Validator}
    (h : findValidator l a = some v) : v ∈ l ∧ v.addr = a := by
  induction l with
  | nil => simp [findValidator] at h
  | cons x r ih =>
    unfold findValidator at h
    split at h
    · rename_i hx
      cases h
      exact ⟨List.mem_cons_self, hx⟩
    · have := ih h
      exact ⟨List.mem_cons_of_mem _ this.1, this.2⟩

theorem findValidator_of_mem {l : List Validator} {v : Validator}
    (hnd : (l.map (·.addr)).Nodup) (hv : v ∈ l) : findValidator l v.addr = some v := by
  induction l with
  | nil => cases hv
  | cons x r ih =>
    simp only [List.map_cons, List.nodup_cons] at hnd
    unfold findValidator
    rcases List.mem_cons.mp hv with rfl | hv
    · simp
    · have hne : x.addr ≠ v.addr := by
        intro he
        exact hnd.1 (he ▸ List.mem_map.mpr ⟨v, hv, rfl⟩)
      simp [hne, ih hnd.2 hv]

/-- in a list with pairwise different `f`-values, the elements whose `f`-value is that of a member of `cv`
are, for duplicate-free `cv ⊆ l`, a permutation of `cv` -/
theorem filter_perm_of_mem {α β : Type} (f : α → β) {l cv : List α} (hl : (l.map f).Nodup) (hcv : cv.Nodup)
    (hsub : ∀ v ∈ cv, v ∈ l) (P : α → Bool) (hP : ∀ v ∈ l, P v = true ↔ f v ∈ cv.map f) :
    (l.filter P).Perm cv := by
  rw [List.perm_ext_iff_of_nodup (List.Pairwise.filter _ (nodup_of_nodup_map f hl)) hcv]
  intro v
  rw [List.mem_filter]
  constructor
  · rintro ⟨hv, hp⟩
    obtain ⟨u, hu, huv⟩ := List.mem_map.mp ((hP v hv).mp hp)
    exact inj_of_nodup_map f hl (hsub u hu) hv huv ▸ hu
  · exact fun hv => ⟨hsub v hv, (hP v (hsub v hv)).mpr (List.mem_map.mpr ⟨v, hv, rfl⟩)⟩

theorem sortVals_perm (vs : List Validator) : (sortVals vs).Perm vs := isort_perm _ _

theorem sortVals_wf {p : Params} (h : ParamsWf p) :
    ((sortVals p.validators).map (·.key)).Nodup ∧ ((sortVals p.validators).map (·.addr)).Nodup :=
  ⟨((sortVals_perm _).map _).nodup_iff.mpr h.1, ((sortVals_perm _).map _).nodup_iff.mpr h.2⟩

/-! ## bitmap selection -/

/-- the validators selected by a bitmap (specification view of `selectedKW`) -/
def selVals : List Validator → Bits → List Validator
  | v :: vs, b :: bs => if b then v :: selVals vs bs else selVals vs bs
  | _, _ => []

theorem selVals_sublist (vs : List Validator) (bits : Bits) : (selVals vs bits).Sublist vs := by
  induction vs generalizing bits with
  | nil => cases bits <;> exact .slnil
  | cons v r ih =>
    cases bits with
    | nil => exact List.nil_sublist _
    | cons b bs => cases b; exact (ih bs).cons v; exact (ih bs).cons_cons v

theorem selectedKW_map (vs : List Validator) (bits : Bits) :
    selectedKW (vs.map (·.key)) (vs.map (·.weight)) bits = (selVals vs bits).map (fun v => (v.key, v.weight)) := by
  induction vs generalizing bits with
  | nil => cases bits <;> rfl
  | cons v r ih =>
    cases bits with
    | nil => rfl
    | cons b bs => cases b; exact ih bs; exact congrArg (_ :: ·) (ih bs)

theorem fastAggregateVerify_iff {keys : List Nat} {m : Msg} {s : Sig} :
    fastAggregateVerify keys m s = true ↔ ∃ signers, s = .agg signers m ∧ signers.Perm keys := by
  cases s with
  | garbage => exact ⟨nofun, nofun⟩
  | agg signers m' =>
    rw [fastAggregateVerify, Bool.and_eq_true, decide_eq_true_eq, List.isPerm_iff]
    exact ⟨fun h => ⟨signers, by rw [h.1], h.2⟩, fun ⟨_, h1, h2⟩ => by cases h1; exact ⟨rfl, h2⟩⟩

/-- `BLSVerifyWeightedAggSig`, by what it checks: the two length guards, the threshold, the aggregate -/
theorem verifyWeighted_iff {keys weights : List Nat} {bits : Bits} {sig : Sig} {thr : Nat} {m : Msg} :
    verifyWeighted keys bits sig weights thr m = true ↔
    bits.length = 8 * byteLen keys.length ∧ weights.length = keys.length ∧
    thr ≤ sumWeights (selectedKW keys weights bits) ∧
    fastAggregateVerify ((selectedKW keys weights bits).map (·.1)) m sig = true := by
  rw [verifyWeighted]
  by_cases hl : bits.length ≠ 8 * byteLen keys.length ∨ weights.length ≠ keys.length
  · rw [if_pos hl]
    exact ⟨nofun, fun h => (hl.elim (· h.1) (· h.2.1)).elim⟩
  · obtain ⟨h1, h2⟩ := not_or.mp hl
    rw [if_neg hl]
    dsimp only
    by_cases ht : sumWeights (selectedKW keys weights bits) < thr
    · rw [if_pos ht]; exact ⟨nofun, fun h => absurd ht (Nat.not_lt.mpr h.2.2.1)⟩
    · rw [if_neg ht]
      exact ⟨fun h => ⟨Decidable.not_not.mp h1, Decidable.not_not.mp h2, Nat.not_lt.mp ht, h⟩, fun h => h.2.2.2⟩

/-! ## key index and the bitmap of `BLSCreateAggSig` -/

/-- `bytes.FindIndex`: the first position that holds the key -/
theorem keyIndex_eq (keys : List Nat) (k : Nat) : keyIndex keys k = keys.findIdx? (· == k) := by
  induction keys with
  | nil => rfl
  | cons x r ih => rw [keyIndex, List.findIdx?_cons, ih]; by_cases h : x = k <;> simp [h]

theorem keyIndex_some {keys : List Nat} {k i : Nat} (h : keyIndex keys k = some i) : keys[i]? = some k := by
  rw [keyIndex_eq, List.findIdx?_eq_some_iff_getElem] at h
  obtain ⟨hi, hk, -⟩ := h
  rw [List.getElem?_eq_getElem hi, beq_iff_eq.mp hk]

theorem keyIndex_getElem {keys : List Nat} (hnd : keys.Nodup) {j : Nat} (hj : j < keys.length) :
    keyIndex keys keys[j] = some j := by
  rw [keyIndex_eq, List.findIdx?_eq_some_iff_getElem]
  exact ⟨hj, beq_self_eq_true _, fun i hi he => Nat.ne_of_lt hi ((List.getElem_inj hnd).mp (beq_iff_eq.mp he))⟩

/-- one step of the bitmap loop of `BLSCreateAggSig` -/
def bitStep (keys : List Nat) (b : Bits) (k : Nat) : Bits :=
  match keyIndex keys k with
  | some i => writeBit b i
  | none => b

theorem createBits_eq (keys S : List Nat) :
    createBits keys S = S.foldl (bitStep keys) (List.replicate (8 * byteLen keys.length) false) := rfl

theorem bitStep_length (keys : List Nat) (b : Bits) (k : Nat) : (bitStep keys b k).length = b.length := by
  unfold bitStep
  split <;> simp [writeBit]

theorem foldl_bitStep_length (keys S : List Nat) (b : Bits) : (S.foldl (bitStep keys) b).length = b.length := by
  induction S generalizing b with
  | nil => rfl
  | cons k r ih => simp [List.foldl_cons, ih, bitStep_length]

theorem bitStep_getD (keys : List Nat) (b : Bits) (k j : Nat) :
    (bitStep keys b k).getD j false = (b.getD j false || (decide (j < b.length) && (keyIndex keys k == some j))) := by
  unfold bitStep
  cases hk : keyIndex keys k with
  | none => simp
  | some i =>
    simp only [writeBit, List.getD_eq_getElem?_getD, List.getElem?_set]
    by_cases hij : i = j
    · subst hij
      by_cases hl : i < b.length
      · simp [hl]
      · simp [hl]
    · have : (some i == some j) = false := by simp [hij]
      simp [hij, this]

theorem foldl_bitStep_getD (keys S : List Nat) (b : Bits) (j : Nat) :
    (S.foldl (bitStep keys) b).getD j false =
      (b.getD j false || (decide (j < b.length) && S.any (fun k => keyIndex keys k == some j))) := by
  induction S generalizing b with
  | nil => simp
  | cons k r ih =>
    rw [List.foldl_cons, ih, bitStep_getD, bitStep_length]
    simp only [List.any_cons]
    cases b.getD j false <;> cases decide (j < b.length) <;> cases (keyIndex keys k == some j) <;> simp

theorem createBits_length (keys S : List Nat) : (createBits keys S).length = 8 * byteLen keys.length := by
  rw [createBits_eq, foldl_bitStep_length, List.length_replicate]

theorem le_byteLen (n : Nat) : n ≤ 8 * byteLen n := by
  unfold byteLen
  omega

theorem createBits_getD {keys : List Nat} (hnd : keys.Nodup) (S : List Nat) {j : Nat} (hj : j < keys.length) :
    (createBits keys S).getD j false = decide (keys[j] ∈ S) := by
  rw [createBits_eq, foldl_bitStep_getD]
  have hl : j < 8 * byteLen keys.length := Nat.lt_of_lt_of_le hj (le_byteLen _)
  have h0 : (List.replicate (8 * byteLen keys.length) false).getD j false = false := by
    simp [List.getD_eq_getElem?_getD, hl]
  rw [h0]
  simp only [List.length_replicate, hl, decide_true, Bool.true_and, Bool.false_or]
  rw [Bool.eq_iff_iff]
  simp only [List.any_eq_true, beq_iff_eq, decide_eq_true_eq]
  constructor
  · rintro ⟨k, hk, hi⟩
    have := keyIndex_some hi
    rw [List.getElem?_eq_getElem hj] at this
    cases this
    exact hk
  · intro hm
    exact ⟨keys[j], hm, keyIndex_getElem hnd hj⟩

theorem selVals_eq_filter (P : Validator → Bool) : ∀ (vs : List Validator) (bits : Bits), vs.length ≤ bits.length →
    (∀ j (hj : j < vs.length), bits.getD j false = P vs[j]) → selVals vs bits = vs.filter P
  | [], bits, _, _ => by cases bits <;> rfl
  | _ :: _, [], hb, _ => by cases hb
  | v :: vs, b :: bs, hb, hP => by
    have h0 : b = P v := hP 0 (Nat.zero_lt_succ _)
    rw [selVals, List.filter_cons, ← h0,
      selVals_eq_filter P vs bs (Nat.le_of_succ_le_succ hb) fun j hj => hP (j + 1) (Nat.succ_lt_succ hj)]

/-- read back, the bitmap `BLSCreateAggSig` writes for the keys `S` selects the validators whose key is in `S` -/
theorem selVals_createBits {vs : List Validator} (hnd : (vs.map (·.key)).Nodup) (S : List Nat) :
    selVals vs (createBits (vs.map (·.key)) S) = vs.filter fun v => decide (v.key ∈ S) := by
  refine selVals_eq_filter _ vs _ ?_ fun j hj => ?_
  · rw [createBits_length, List.length_map]; exact le_byteLen _
  · rw [createBits_getD hnd S (by rwa [List.length_map]), List.getElem_map]

/-! ## bits and bytes -/

theorem ofBytes_cons (x : UInt8) (r : Bytes) : Bits.ofBytes (x :: r) = bitsOfByte x ++ Bits.ofBytes r := rfl

theorem length_ofBytes : ∀ bs : Bytes, (Bits.ofBytes bs).length = 8 * bs.length
  | [] => rfl
  | x :: r => by
    rw [ofBytes_cons, List.length_append, length_ofBytes r, List.length_cons, Nat.mul_succ, Nat.add_comm]
    rfl

/-- the number a little-endian bit list denotes -/
def bitsVal : List Bool → Nat
  | [] => 0
  | b :: l => b.toNat + 2 * bitsVal l

theorem bitSum (l : List Bool) : ∀ k,
    ((l.zipIdx k).map fun (b, j) => if b then 2 ^ j else 0).sum = 2 ^ k * bitsVal l := by
  induction l with
  | nil => intro k; rfl
  | cons b l ih =>
    intro k
    rw [List.zipIdx_cons, List.map_cons, List.sum_cons, ih, bitsVal, Nat.pow_succ, Nat.mul_add, Nat.mul_assoc]
    cases b <;> simp

theorem bitsVal_lt (l : List Bool) : bitsVal l < 2 ^ l.length := by
  induction l with
  | nil => exact Nat.one_pos
  | cons b l ih =>
    rw [bitsVal, List.length_cons, Nat.pow_succ]
    cases b <;> simp <;> omega

theorem bitsVal_bit : ∀ (l : List Bool) (j : Nat) (h : j < l.length), (bitsVal l / 2 ^ j % 2 == 1) = l[j]
  | b :: l, 0, _ => by
    rw [bitsVal, Nat.pow_zero, Nat.div_one, Nat.add_mul_mod_self_left]
    cases b <;> rfl
  | b :: l, j + 1, h => by
    have : (b.toNat + 2 * bitsVal l) / 2 = bitsVal l := by cases b <;> simp <;> omega
    rw [bitsVal, Nat.pow_succ', ← Nat.div_div_eq_div_mul, this, List.getElem_cons_succ]
    exact bitsVal_bit l j (Nat.lt_of_succ_lt_succ h)

theorem bits_of_val (l : List Bool) : (List.range l.length).map (fun j => bitsVal l / 2 ^ j % 2 == 1) = l := by
  refine List.ext_getElem (by rw [List.length_map, List.length_range]) fun j h1 h2 => ?_
  rw [List.getElem_map, List.getElem_range, bitsVal_bit l j h2]

/-- a byte is the positional value of its eight bits, and `bitsOfByte` reads the digits back -/
theorem byte_roundtrip : ∀ b0 b1 b2 b3 b4 b5 b6 b7 : Bool,
    bitsOfByte (byteOfBits [b0, b1, b2, b3, b4, b5, b6, b7]) = [b0, b1, b2, b3, b4, b5, b6, b7] := by
  intro b0 b1 b2 b3 b4 b5 b6 b7
  rw [byteOfBits, bitSum, Nat.pow_zero, Nat.one_mul, bitsOfByte, UInt8.toNat_ofNat',
    Nat.mod_eq_of_lt (show _ < 2 ^ 8 from bitsVal_lt [b0, b1, b2, b3, b4, b5, b6, b7])]
  exact bits_of_val [b0, b1, b2, b3, b4, b5, b6, b7]

theorem bits_roundtrip_aux (n : Nat) : ∀ b : Bits, b.length = 8 * n → Bits.ofBytes (Bits.toBytes b) = b := by
  induction n with
  | zero =>
    intro b hb
    have : b = [] := List.length_eq_zero_iff.mp (by omega)
    subst this
    rfl
  | succ n ih =>
    intro b hb
    rcases b with _ | ⟨b0, _ | ⟨b1, _ | ⟨b2, _ | ⟨b3, _ | ⟨b4, _ | ⟨b5, _ | ⟨b6, _ | ⟨b7, r⟩⟩⟩⟩⟩⟩⟩⟩ <;>
      simp only [List.length_cons, List.length_nil] at hb <;> try omega
    rw [Bits.toBytes, ofBytes_cons, byte_roundtrip, ih r (by omega)]
    rfl

/-! ## aggregation of verified commits -/

theorem findValidator_perm {l1 l2 : List Validator} (hp : l1.Perm l2) (hnd : (l1.map (·.addr)).Nodup) (a : Nat) :
    findValidator l1 a = findValidator l2 a := by
  have hnd2 : (l2.map (·.addr)).Nodup := (hp.map _).nodup_iff.mp hnd
  cases h1 : findValidator l1 a with
  | some v =>
    obtain ⟨hm, ha⟩ := findValidator_some h1
    rw [← ha]
    exact (findValidator_of_mem hnd2 (hp.mem_iff.mp hm)).symm
  | none =>
    cases h2 : findValidator l2 a with
    | none => rfl
    | some v =>
      obtain ⟨hm, ha⟩ := findValidator_some h2
      have := findValidator_of_mem hnd (hp.mem_iff.mpr hm)
      rw [ha, h1] at this
      cases this

/-- sorting the validators by key does not change who is found under an address -/
theorem findValidator_sortVals {p : Params} (hwf : ParamsWf p) (a : Nat) :
    findValidator (sortVals p.validators) a = findValidator p.validators a :=
  findValidator_perm (sortVals_perm _) (sortVals_wf hwf).2 a

theorem signerKeys_congr {l1 l2 : List Validator} (h : ∀ a, findValidator l1 a = findValidator l2 a)
    (commits : List Commit) : signerKeys l1 commits = signerKeys l2 commits := by
  induction commits with
  | nil => rfl
  | cons c r ih => simp only [signerKeys, h, ih]

theorem foldl_combine {α : Type} (f : α → Nat) (m : Msg) (acc : List Nat) (l : List α) :
    (l.map fun x => sign (f x) m).foldl combine (.agg acc m) = .agg (acc ++ l.map f) m := by
  induction l generalizing acc with
  | nil => simp
  | cons x r ih => simpa [sign, combine] using ih (acc ++ [f x])

/-- the aggregate of single signatures over one message is the aggregate signature by all the keys -/
theorem aggSigs_sign {α : Type} (f : α → Nat) (m : Msg) (a : α) (l : List α) :
    aggSigs (sign (f a) m) (l.map fun x => sign (f x) m) = .agg ((a :: l).map f) m :=
  foldl_combine f m [f a] l

/-- the validators behind a list of commits by known signers; `f c = g v` is whatever else is known of
each commit and its signer (a valid signature, or nothing) -/
theorem commits_facts (vals : List Validator) {γ : Type} (f : Commit → γ) (g : Validator → γ)
    (commits : List Commit) (h : ∀ c ∈ commits, ∃ v, findValidator vals c.signer = some v ∧ f c = g v) :
    ∃ cv : List Validator,
      cv.map (·.addr) = commits.map (·.signer) ∧ commits.map f = cv.map g ∧ (∀ v ∈ cv, v ∈ vals) ∧
      signerKeys vals commits = some (cv.map (·.key)) ∧
      commitsWeight vals commits = some ((cv.map (·.weight)).sum) := by
  induction commits with
  | nil => exact ⟨[], rfl, rfl, nofun, rfl, rfl⟩
  | cons c r ih =>
    obtain ⟨v, hv, hq⟩ := h c List.mem_cons_self
    obtain ⟨cv, h1, h2, h3, h4, h5⟩ := ih (fun d hd => h d (List.mem_cons_of_mem _ hd))
    refine ⟨v :: cv, ?_, ?_, ?_, ?_, ?_⟩
    · rw [List.map_cons, List.map_cons, h1, (findValidator_some hv).2]
    · rw [List.map_cons, List.map_cons, h2, hq]
    · exact List.forall_mem_cons.mpr ⟨(findValidator_some hv).1, h3⟩
    · simp only [signerKeys, hv, h4, List.map_cons]
    · simp only [commitsWeight, hv, h5, Option.map_some, List.map_cons, List.sum_cons]

/-- a successful `SingleCommits.Aggregate`: the commits are not empty, their signers have keys, and the result is
made of the first commit's height, the bitmap of those keys and the sum of the signatures -/
theorem aggregateOrd_ok {le : Validator → Validator → Bool} {commits : List Commit} {vals : List Validator}
    {ac : AggCommit} (h : aggregateOrd le commits vals = .ok ac) :
    ∃ c0 rest S, commits = c0 :: rest ∧ signerKeys (isort le vals) commits = some S ∧
      ac = ⟨c0.height, createBits ((isort le vals).map (·.key)) S, some (aggSigs c0.sig (rest.map (·.sig)))⟩ := by
  cases commits with
  | nil => cases h
  | cons c0 rest =>
    rw [aggregateOrd] at h
    cases hsk : signerKeys (isort le vals) (c0 :: rest) with
    | none => rw [hsk] at h; cases h
    | some S => rw [hsk] at h; cases h; exact ⟨c0, rest, S, rfl, rfl, rfl⟩

theorem createBits_ne_nil {keys : List Nat} (h : keys ≠ []) (S : List Nat) : createBits keys S ≠ [] := fun hb => by
  have hl := createBits_length keys S
  have := List.length_pos_iff.mpr h
  rw [hb, byteLen] at hl
  exact absurd hl (by simp; omega)

/-- the weighted verification accepts the bitmap and aggregate signature made for a duplicate-free list `cv` of the
validators `vs` whose weight reaches the threshold: the bitmap selects a permutation of `cv` -/
theorem verifyWeighted_createBits {vs cv : List Validator} (hkeys : (vs.map (·.key)).Nodup) (hcv : cv.Nodup)
    (hsub : ∀ v ∈ cv, v ∈ vs) (m : Msg) {thr : Nat} (hthr : thr ≤ (cv.map (·.weight)).sum) :
    verifyWeighted (vs.map (·.key)) (createBits (vs.map (·.key)) (cv.map (·.key))) (.agg (cv.map (·.key)) m)
      (vs.map (·.weight)) thr m = true := by
  have hperm : (vs.filter fun v => decide (v.key ∈ cv.map (·.key))).Perm cv :=
    filter_perm_of_mem (·.key) hkeys hcv hsub _ fun _ _ => decide_eq_true_iff
  refine verifyWeighted_iff.mpr ⟨createBits_length _ _, by rw [List.length_map, List.length_map], ?_, ?_⟩ <;>
    rw [selectedKW_map, selVals_createBits hkeys]
  · rw [sumWeights, List.map_map, (hperm.map _).sum_nat]; exact hthr
  · rw [List.map_map]; exact fastAggregateVerify_iff.mpr ⟨_, rfl, (hperm.map _).symm⟩

/-- Core of `C06_assembled_accepted`: the aggregate of verified commits by distinct active
validators whose weight reaches the threshold passes the weighted aggregate verification. -/
theorem aggregate_verifies (p : Params) (hwf : ParamsWf p) (m : Msg) (h : Nat) (commits : List Commit)
    (hne : commits ≠ [])
    (hh : ∀ c ∈ commits, c.height = h)
    (hok : ∀ c ∈ commits, ∃ v, findValidator p.validators c.signer = some v ∧ c.sig = sign v.key m)
    (hdist : commits.Pairwise (fun a b => a.signer ≠ b.signer))
    (w : Nat) (hw : commitsWeight p.validators commits = some w) (hthr : p.threshold ≤ w) :
    ∃ bits sig, aggregate commits p.validators = .ok ⟨h, bits, some sig⟩ ∧ bits ≠ [] ∧
      verifyWeighted ((sortVals p.validators).map (·.key)) bits sig ((sortVals p.validators).map (·.weight))
        p.threshold m = true := by
  have hkeys := (sortVals_wf hwf).1
  obtain ⟨cv, h1, h2, h3, h4, h5⟩ := commits_facts p.validators (·.sig) (fun v => sign v.key m) commits hok
  have hcv : cv.Nodup := nodup_of_nodup_map (·.addr) (h1 ▸ List.pairwise_map.mpr hdist)
  have hsub : ∀ v ∈ cv, v ∈ sortVals p.validators := fun v hv => (sortVals_perm _).mem_iff.mpr (h3 v hv)
  have hsk : signerKeys (isort keyLe p.validators) commits = some (cv.map (·.key)) :=
    (signerKeys_congr (findValidator_sortVals hwf) _).trans h4
  cases h5.symm.trans hw
  cases commits with
  | nil => exact absurd rfl hne
  | cons c0 rest =>
    cases cv with
    | nil => cases h1
    | cons v0 cvr =>
      -- at least one validator, so at least one byte
      refine ⟨_, _, ?_, createBits_ne_nil (List.ne_nil_of_mem (List.mem_map_of_mem (hsub v0 List.mem_cons_self))) _,
        verifyWeighted_createBits hkeys hcv hsub m hthr⟩
      simp only [List.map_cons, List.cons.injEq] at h2
      rw [aggregate, aggregateOrd, hsk, ← hh c0 List.mem_cons_self, ← aggSigs_sign (·.key) m v0 cvr, h2.1, h2.2]
      rfl

/-! ## `verifyAggregateCommit`, by what it checks -/

/-- `gacStart` is the largest height allowed by both upper bounds of `verifyAggregateCommit` -/
theorem gacStart_iff (st : State) (h : Nat) :
    h ≤ gacStart st ↔ (h ≤ st.mhpc ∧ ∀ e ∈ st.params, st.mhc + 1 < e.1 → h < e.1) := by
  unfold gacStart
  cases hnh : nextHeightParams st.params (st.mhc + 1) with
  | none => exact ⟨fun hle => ⟨hle, fun e he hlt => absurd hlt (nextHeightParams_none hnh e he)⟩, (·.1)⟩
  | some nh =>
    obtain ⟨h1, ⟨p, hp⟩, h3⟩ := nextHeightParams_some hnh
    refine ⟨fun hle => ⟨(Nat.le_min.mp hle).2, fun e he hlt => ?_⟩, fun ⟨h4, h5⟩ => ?_⟩
    · have := h3 e he hlt
      have := (Nat.le_min.mp hle).1
      omega
    · have := h5 (nh, p) hp h1
      exact Nat.le_min.mpr ⟨by omega, h4⟩

theorem gacStart_le_mhpc (st : State) : gacStart st ≤ st.mhpc :=
  ((gacStart_iff st (gacStart st)).mp (Nat.le_refl _)).1

/-- with both fields present `verifyAggregateCommit` is three height guards — the last two together are
`height ≤ gacStart` — in front of the certificate check -/
theorem verifyAggregateCommit_of_fields {st : State} {ac : AggCommit} {sig : Sig} (hs : ac.sig = some sig)
    (hb : ac.bits ≠ []) :
    verifyAggregateCommit st ac =
      if ac.height ≤ st.mhc then .reject .notIncreasing
      else if st.mhpc < ac.height then .reject .abovePrecommitted
      else if gacStart st < ac.height then .reject .beyondNextParams
      else verifyCertificate st ac sig := by
  have hbe := List.isEmpty_eq_false_iff.mpr hb
  rw [verifyAggregateCommit, if_neg (by rw [AggCommit.isEmpty, hbe]; exact fun h => nomatch h.1), hs]
  simp only [hbe, Bool.false_eq_true, if_false, gt_iff_lt]
  by_cases h1 : ac.height ≤ st.mhc
  · rw [if_pos h1, if_pos h1]
  rw [if_neg h1, if_neg h1]
  by_cases h2 : st.mhpc < ac.height
  · rw [if_pos h2, if_pos h2]
  rw [if_neg h2, if_neg h2, gacStart]
  cases nextHeightParams st.params (st.mhc + 1) with
  | none => exact (if_neg h2).symm
  | some nh =>
    dsimp only
    by_cases h3 : nh - 1 < ac.height
    · rw [if_pos h3, if_pos (Nat.lt_of_le_of_lt (Nat.min_le_left _ _) h3)]
    · rw [if_neg h3, if_neg (by omega)]

/-- both fields present, a height in `(maxHeightCertified, bound]` and an accepted certificate: what
`GetAggregateCommit` assembles for a certifiable height, and with `bound = gacStart st` what `verifyAggregateCommit`
accepts of a non-empty commit -/
def Assembled (st : State) (ac : AggCommit) (bound : Nat) : Prop :=
  ∃ sig, ac.sig = some sig ∧ ac.bits ≠ [] ∧ st.mhc < ac.height ∧ ac.height ≤ bound ∧
    verifyCertificate st ac sig = .accept

theorem Assembled.accepted {st : State} {ac : AggCommit} (h : Assembled st ac (gacStart st)) :
    verifyAggregateCommit st ac = .accept := by
  obtain ⟨sig, h1, h2, h3, h4, hcert⟩ := h
  have := gacStart_le_mhpc st
  rw [verifyAggregateCommit_of_fields h1 h2, if_neg (by omega), if_neg (by omega), if_neg (by omega)]
  exact hcert

/-- what acceptance means: the empty commit at `maxHeightCertified`, or an assembled one in the window -/
theorem verifyAggregateCommit_accept {st : State} {ac : AggCommit} (h : verifyAggregateCommit st ac = .accept) :
    (ac.isEmpty = true ∧ ac.height = st.mhc) ∨ Assembled st ac (gacStart st) := by
  by_cases he : ac.isEmpty = true ∧ ac.height = st.mhc
  · exact .inl he
  rw [verifyAggregateCommit, if_neg he] at h
  cases hs : ac.sig with
  | none => rw [hs] at h; cases h
  | some sig =>
    have hb : ac.bits ≠ [] := fun hb => by simp only [hs, hb, List.isEmpty_nil, if_true] at h; cases h
    have h' := verifyAggregateCommit_of_fields (st := st) hs hb
    rw [verifyAggregateCommit, if_neg he] at h'
    rw [h'] at h
    by_cases h1 : ac.height ≤ st.mhc
    · rw [if_pos h1] at h; cases h
    by_cases h2 : st.mhpc < ac.height
    · rw [if_neg h1, if_pos h2] at h; cases h
    by_cases h3 : gacStart st < ac.height
    · rw [if_neg h1, if_neg h2, if_pos h3] at h; cases h
    rw [if_neg h1, if_neg h2, if_neg h3] at h
    exact .inr ⟨sig, hs, hb, Nat.not_le.mp h1, Nat.not_lt.mp h3, h⟩

/-- what the certificate check verifies -/
theorem verifyCertificate_accept {st : State} {ac : AggCommit} {sig : Sig} :
    verifyCertificate st ac sig = .accept ↔ ∃ hd p, st.blockAt ac.height = some hd ∧
      getParams st.params ac.height = some p ∧
      verifyWeighted ((sortVals p.validators).map (·.key)) ac.bits sig ((sortVals p.validators).map (·.weight))
        p.threshold (certMsg st hd) = true := by
  rw [verifyCertificate]
  cases st.blockAt ac.height with
  | none => exact ⟨nofun, nofun⟩
  | some hd =>
    cases getParams st.params ac.height with
    | none => exact ⟨nofun, nofun⟩
    | some p =>
      dsimp only
      split
      · exact ⟨fun _ => ⟨hd, p, rfl, rfl, ‹_›⟩, fun _ => rfl⟩
      · exact ⟨nofun, fun ⟨_, _, h1, h2, h3⟩ => by cases h1; cases h2; contradiction⟩

/-! ## the candidate loop of `GetAggregateCommit` -/

theorem pool_get_eq (pool : Pool) (h : Nat) : pool.get h = pool.all.filter (fun c => c.height == h) := by
  simp [Pool.get, Pool.all, List.filter_append]

theorem mem_get {pool : Pool} {h : Nat} {c : Commit} : c ∈ pool.get h ↔ c ∈ pool.all ∧ c.height = h := by
  rw [pool_get_eq, List.mem_filter, beq_iff_eq]

theorem mem_forBlock_get {pool : Pool} {h b : Nat} {c : Commit} :
    c ∈ forBlock (pool.get h) b ↔ c ∈ pool.all ∧ c.height = h ∧ c.block = b := by
  rw [forBlock, List.mem_filter, mem_get, beq_iff_eq, and_assoc]

theorem get_sublist (pool : Pool) (h : Nat) : (pool.get h).Sublist pool.all :=
  pool_get_eq pool h ▸ List.filter_sublist

theorem forBlock_get_sublist (pool : Pool) (h b : Nat) : (forBlock (pool.get h) b).Sublist pool.all :=
  List.filter_sublist.trans (get_sublist pool h)

/-- the commits `GetAggregateCommit` reads for a height of the chain, in a pool satisfying the invariant:
all correctly signed by validators of that height, with pairwise distinct signers -/
theorem cand_facts {st : State} {ctx : BlockCtx} {pool : Pool} {h : Nat} {hd : Header} {p : Params}
    (hcons : Consistent st ctx) (hinv : PoolInv ctx st.chainId pool)
    (hb : st.blockAt h = some hd) (hp : getParams st.params h = some p) :
    (∀ c ∈ forBlock (pool.get h) hd.id,
      ∃ v, findValidator p.validators c.signer = some v ∧ c.sig = sign v.key (certMsg st hd)) ∧
    (forBlock (pool.get h) hd.id).Pairwise (fun a b => a.signer ≠ b.signer) := by
  have hctx : ctx hd.id = some (h, p) := hcons.ctx_of_params hb hp
  constructor
  · intro c hc
    obtain ⟨hca, hch, hcb⟩ := mem_forBlock_get.mp hc
    obtain ⟨p', v, hc', hf, hs⟩ := hinv.entryOk c hca
    rw [hcb, hctx] at hc'
    cases hc'
    exact ⟨v, hf, by rw [hs, hcb]; rfl⟩
  · refine (hinv.distinct.sublist (forBlock_get_sublist pool h hd.id)).imp_of_mem fun ha hb' hab he => ?_
    exact hab ⟨by rw [(mem_forBlock_get.mp ha).2.2, (mem_forBlock_get.mp hb').2.2], he⟩

/-- under the pool invariant the candidate loop over `d` heights of a window `(mhc, b]` ends in one of three ways:
the empty commit, a commit its own verification accepts, or an error because the chain has no block at a height -/
theorem gacLoop_spec (st : State) (pool : Pool) (ctx : BlockCtx) (hwf : StoreWf st.params)
    (hcons : Consistent st ctx) (hinv : PoolInv ctx st.chainId pool) (d b : Nat) (hd : d ≤ b - st.mhc) :
    gacLoop keyLe st pool d = .ok (emptyCommit st) ∨
    (∃ ac, gacLoop keyLe st pool d = .ok ac ∧ Assembled st ac b) ∨
    (gacLoop keyLe st pool d = .err ∧ ∃ h, st.mhc < h ∧ h ≤ b ∧ st.blockAt h = none) := by
  induction d with
  | zero => exact .inl rfl
  | succ d ih =>
    have ih := ih (Nat.le_of_succ_le hd)
    have hlt : st.mhc < st.mhc + d + 1 := Nat.lt_succ_of_le (Nat.le_add_right _ _)
    have hdb : st.mhc + d + 1 ≤ b := by omega
    rw [gacLoop]
    cases hb0 : st.blockAt (st.mhc + d + 1) with
    | none => exact .inr (.inr ⟨rfl, st.mhc + d + 1, hlt, hdb, hb0⟩)
    | some hd =>
      dsimp only
      cases hc : forBlock (pool.get (st.mhc + d + 1)) hd.id with
      | nil => exact ih
      | cons c0 r =>
        rw [← hc, if_neg (by rw [hc]; nofun)]
        -- the pool holds a commit for the block: the block's parameters are stored
        obtain ⟨hc0a, hc0h, hc0b⟩ := mem_forBlock_get.mp (hc ▸ List.mem_cons_self : c0 ∈ _)
        obtain ⟨p, v0, hctx0, -⟩ := hinv.entryOk c0 hc0a
        rw [hc0h, hc0b] at hctx0
        have hp0 := hcons.params_of_ctx hb0 hlt hctx0
        obtain ⟨hok, hdist⟩ := cand_facts hcons hinv hb0 hp0
        obtain ⟨cv, -, -, -, -, hcw⟩ := commits_facts p.validators _ _ _ hok
        rw [hp0]
        dsimp only
        rw [hcw]
        dsimp only
        by_cases hthr : (cv.map (·.weight)).sum < p.threshold
        · rw [if_pos hthr]; exact ih
        · rw [if_neg hthr]
          obtain ⟨bits, sig, hagg, hbits, hver⟩ := aggregate_verifies p (getParams_wf hwf hp0) (certMsg st hd)
            (st.mhc + d + 1) _ (by rw [hc]; nofun) (fun c hc => (mem_forBlock_get.mp hc).2.1) hok hdist _ hcw
            (Nat.not_lt.mp hthr)
          exact .inr (.inl ⟨_, hagg, sig, rfl, hbits, hlt, hdb,
            verifyCertificate_accept.mpr ⟨_, p, hb0, hp0, hver⟩⟩)
/-- `GetAggregateCommit` under the pool invariant: the loop over its window `(mhc, gacStart]` -/
theorem getAggregateCommit_spec (st : State) (pool : Pool) (ctx : BlockCtx) (hwf : StoreWf st.params)
    (hcons : Consistent st ctx) (hinv : PoolInv ctx st.chainId pool) :
    getAggregateCommit st pool = .ok (emptyCommit st) ∨
    (∃ ac, getAggregateCommit st pool = .ok ac ∧ Assembled st ac (gacStart st)) ∨
    (getAggregateCommit st pool = .err ∧ ∃ h, st.mhc < h ∧ h ≤ gacStart st ∧ st.blockAt h = none) :=
  gacLoop_spec st pool ctx hwf hcons hinv (gacStart st - st.mhc) (gacStart st) (Nat.le_refl _)

/-- it neither fails nor panics when the chain has a block at every height of the window -/
theorem getAggregateCommit_total {st : State} {pool : Pool} {ctx : BlockCtx} (hwf : StoreWf st.params)
    (hcons : Consistent st ctx) (hinv : PoolInv ctx st.chainId pool)
    (hblocks : ∀ x, st.mhc < x → x ≤ gacStart st → st.blockAt x ≠ none) : ∃ ac, getAggregateCommit st pool = .ok ac := by
  rcases getAggregateCommit_spec st pool ctx hwf hcons hinv with h | ⟨ac, h, -⟩ | ⟨-, x, h1, h2, h3⟩
  · exact ⟨_, h⟩
  · exact ⟨_, h⟩
  · exact absurd h3 (hblocks x h1 h2)

end LiskVerif.Cert
