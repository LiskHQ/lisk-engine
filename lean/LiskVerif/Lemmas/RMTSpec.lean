/-
The specification of a proof for a set of nodes of the regular Merkle tree, layer by layer, against the tree over a
list of leaves. `calcSpec` is what `calculatePathNodes` computes: the nodes of one layer (position, hash) in
ascending order are combined with their siblings — taken from the layer itself or from the sibling hashes of the
proof — into the nodes of the layer above, up to the root. `sibSpec` lists the sibling hashes it consumes when they
are those of the tree over `L`. Soundness: a root computed by the specification that is the root of `L` forces
every node it started from, and every sibling hash it consumed, to be that of `L`. Completeness: with the sibling
hashes of `L` the specification recomputes the root — also from new leaf values, as long as the sibling blocks hold
no changed leaf (`spec_mixed`: this is `Update`). `resSpec` is the result map that `calculatePathNodes` returns
beside the root (`addParent`: a proper parent is entered, a node carried up is not); `spec_mixed` also says that it holds
exactly the proper ancestors of the changed leaves with their new values.
-/
import LiskVerif.Lemmas.RMTIndex

namespace LiskVerif.RMT


/-! ### the positions of a layer and of the layer above -/

/-- the head `k` of a layer is the left node of a pair of siblings that are both in the layer -/
def pairHead (k : Nat) (rest : List Nat) : Prop := k % 2 = 0 ∧ rest.head? = some (k + 1)

instance (k : Nat) (rest : List Nat) : Decidable (pairHead k rest) := by unfold pairHead; exact inferInstance

/-- induction along a layer as `calculatePathNodes` consumes it: a pair of siblings, or a node alone -/
theorem pairInduction {α : Type} (key : α → Nat) {motive : List α → Prop} (nil : motive [])
    (pair : ∀ a b rest, key a % 2 = 0 → key b = key a + 1 → motive rest → motive (a :: b :: rest))
    (single : ∀ a rest, ¬ pairHead (key a) (rest.map key) → motive rest → motive (a :: rest)) :
    ∀ A, motive A := by
  intro A
  induction h : A.length using Nat.strongRecOn generalizing A with
  | _ m ih =>
    match A, h with
    | [], _ => exact nil
    | a :: rest, h =>
      by_cases hp : pairHead (key a) (rest.map key)
      · match rest, hp with
        | b :: rest', hp =>
          simp only [pairHead, List.map_cons, List.head?_cons, Option.some.injEq] at hp
          exact pair a b rest' hp.1 hp.2 (ih rest'.length (by simp at h; omega) rest' rfl)
      · exact single a rest hp (ih rest.length (by simp at h; omega) rest rfl)

/-- the nodes after a lone head lie beyond the head's sibling -/
theorem sep_of_not_pairHead {k : Nat} {rest : List Nat} (hasc : (k :: rest).Pairwise (· < ·))
    (h : ¬ pairHead k rest) : ∀ a ∈ rest, 2 * (k / 2) + 1 < a := by
  intro a ha
  have hasc' := List.pairwise_cons.mp hasc
  have h1 := hasc'.1 a ha
  cases rest with
  | nil => cases ha
  | cons b r =>
    have hb := hasc'.1 b (by simp)
    simp only [pairHead, List.head?_cons, Option.some.injEq, not_and] at h
    simp only [List.mem_cons] at ha
    rcases ha with rfl | ha
    · omega
    · have := (List.pairwise_cons.mp hasc'.2).1 a ha
      omega

/-- the positions of the parents of the nodes at the positions `A` -/
def parents : List Nat → List Nat
  | [] => []
  | k :: rest => k / 2 :: parents (if pairHead k rest then rest.tail else rest)
termination_by A => A.length
decreasing_by
  split
  · simp; omega
  · simp

theorem parents_pair (k : Nat) (rest : List Nat) (h : k % 2 = 0) :
    parents (k :: (k + 1) :: rest) = k / 2 :: parents rest := by
  rw [parents, if_pos ⟨h, rfl⟩]; rfl

theorem parents_single (k : Nat) (rest : List Nat) (h : ¬ pairHead k rest) :
    parents (k :: rest) = k / 2 :: parents rest := by
  rw [parents, if_neg h]

theorem mem_parents (A : List Nat) : ∀ m, m ∈ parents A ↔ ∃ a ∈ A, m = a / 2 := by
  induction A using pairInduction id with
  | nil => simp [parents]
  | pair a b rest ha hb ih =>
    simp only [id] at ha hb; subst hb
    intro m
    rw [parents_pair a rest ha]
    simp only [List.mem_cons, ih, exists_eq_or_imp, show (a + 1) / 2 = a / 2 by omega, or_self_left]
  | single a rest hp ih =>
    intro m
    rw [parents_single a rest (by simpa using hp)]
    simp only [List.mem_cons, ih, exists_eq_or_imp]

theorem length_parents_le (A : List Nat) : (parents A).length ≤ A.length := by
  induction A using pairInduction id with
  | nil => simp [parents]
  | pair a b rest ha hb ih =>
    simp only [id] at ha hb; subst hb
    rw [parents_pair a rest ha]; simp; omega
  | single a rest hp ih =>
    rw [parents_single a rest (by simpa using hp)]; simp; omega

theorem parents_ne_nil {A : List Nat} (h : A ≠ []) : parents A ≠ [] := by
  cases A with
  | nil => exact absurd rfl h
  | cons k rest => rw [parents]; simp

theorem parents_pairwise (A : List Nat) (hasc : A.Pairwise (· < ·)) : (parents A).Pairwise (· < ·) := by
  induction A using pairInduction id with
  | nil => simp [parents]
  | pair a b rest ha hb ih =>
    simp only [id] at ha hb; subst hb
    have h1 := List.pairwise_cons.mp hasc
    have h2 := List.pairwise_cons.mp h1.2
    rw [parents_pair a rest ha]
    refine List.pairwise_cons.mpr ⟨?_, ih h2.2⟩
    intro m hm
    obtain ⟨c, hc, rfl⟩ := (mem_parents rest m).1 hm
    have := h2.1 c hc
    omega
  | single a rest hp ih =>
    have hp' : ¬ pairHead a rest := by simpa using hp
    rw [parents_single a rest hp']
    refine List.pairwise_cons.mpr ⟨?_, ih (List.pairwise_cons.mp hasc).2⟩
    intro m hm
    obtain ⟨c, hc, rfl⟩ := (mem_parents rest m).1 hm
    have := sep_of_not_pairHead hasc hp' c hc
    omega

theorem parents_nonempty {n l : Nat} {A : List Nat} (hok : ∀ k ∈ A, k * 2 ^ l < n) :
    ∀ m ∈ parents A, m * 2 ^ (l + 1) < n := by
  intro m hm
  obtain ⟨a, ha, rfl⟩ := (mem_parents A m).1 hm
  exact half_nonempty (hok a ha)

/-- at the root layer a non-empty ascending list of non-empty nodes is the root alone -/
theorem top_singleton {α : Type} (key : α → Nat) {n l : Nat} {A : List α} (hn : n ≤ 2 ^ l) (hne : A ≠ [])
    (hok : ∀ a ∈ A, key a * 2 ^ l < n) (hasc : A.Pairwise (fun x y => key x < key y)) :
    ∃ a, A = [a] ∧ key a = 0 := by
  have hzero : ∀ a ∈ A, key a = 0 := by
    intro a ha
    have := hok a ha
    rcases Nat.eq_zero_or_pos (key a) with h | h
    · exact h
    · have : 2 ^ l ≤ key a * 2 ^ l := Nat.le_mul_of_pos_left _ h
      omega
  match A, hne with
  | [a], _ => exact ⟨a, rfl, hzero a (by simp)⟩
  | a :: b :: r, _ =>
    have := (List.pairwise_cons.mp hasc).1 b (by simp)
    rw [hzero a (by simp), hzero b (by simp)] at this
    omega

/-! ### the specification -/

/-- nodes of one layer (position, value), ascending by position -/
abbrev Lay := List (Nat × Bytes)

/-- one node without its sibling in the list: the sibling hash comes from the proof, or the node is
carried up when the sibling subtree is empty -/
def stepOne (hf : HashFns) (n l k : Nat) (v : Bytes) (sibs : List Bytes) : Option (Bytes × List Bytes) :=
  if sibOf k * 2 ^ l < n then
    match sibs with
    | [] => none
    | s :: ss => some (if k % 2 = 0 then hf.branch v s else hf.branch s v, ss)
  else some (v, sibs)

/-- the parents of the nodes of one layer -/
def layerStep (hf : HashFns) (n l : Nat) : Lay → List Bytes → Option (Lay × List Bytes)
  | [], sibs => some ([], sibs)
  | (k, v) :: rest, sibs =>
    match rest with
    | (k', w) :: rest' =>
      if k % 2 = 0 ∧ k' = k + 1 then
        match layerStep hf n l rest' sibs with
        | none => none
        | some (P, s) => some ((k / 2, hf.branch v w) :: P, s)
      else
        match stepOne hf n l k v sibs with
        | none => none
        | some (pv, ss) =>
          match layerStep hf n l ((k', w) :: rest') ss with
          | none => none
          | some (P, s) => some ((k / 2, pv) :: P, s)
    | [] =>
      match stepOne hf n l k v sibs with
      | none => none
      | some (pv, ss) => some ([(k / 2, pv)], ss)

/-- the root computed from the nodes of layer `l`, `f` layers below the root -/
def calcSpec (hf : HashFns) (n : Nat) : Nat → Nat → Lay → List Bytes → Option Bytes
  | 0, _, A, _ =>
    match A with
    | [(_, r)] => some r
    | _ => none
  | f + 1, l, A, sibs =>
    match layerStep hf n l A sibs with
    | none => none
    | some (P, s) => calcSpec hf n f (l + 1) P s

theorem layerStep_pair (hf : HashFns) (n l k : Nat) (v w : Bytes) (rest : Lay) (sibs : List Bytes) (hk : k % 2 = 0) :
    layerStep hf n l ((k, v) :: (k + 1, w) :: rest) sibs =
      (layerStep hf n l rest sibs).map fun x => ((k / 2, hf.branch v w) :: x.1, x.2) := by
  rw [layerStep]; simp only [hk, and_self, if_true]
  cases layerStep hf n l rest sibs <;> rfl

theorem layerStep_single (hf : HashFns) (n l k : Nat) (v : Bytes) (rest : Lay) (sibs : List Bytes)
    (h : ¬ pairHead k (rest.map (·.1))) :
    layerStep hf n l ((k, v) :: rest) sibs =
      (stepOne hf n l k v sibs).bind fun y =>
        (layerStep hf n l rest y.2).map fun x => ((k / 2, y.1) :: x.1, x.2) := by
  cases rest with
  | nil =>
    rw [layerStep]
    cases stepOne hf n l k v sibs <;> simp [layerStep]
  | cons a rest' =>
    obtain ⟨k', w⟩ := a
    rw [layerStep, if_neg (by simpa [pairHead] using h)]
    cases stepOne hf n l k v sibs with
    | none => rfl
    | some y => cases hr : layerStep hf n l ((k', w) :: rest') y.2 <;> simp [hr]

/-- the positions of the layer above are the parents of the positions of the layer -/
theorem layerStep_fst (hf : HashFns) (n l : Nat) (A : Lay) : ∀ (sibs : List Bytes) (P : Lay) (s : List Bytes),
    layerStep hf n l A sibs = some (P, s) → P.map (·.1) = parents (A.map (·.1)) := by
  induction A using pairInduction (Prod.fst : Nat × Bytes → Nat) with
  | nil => intro sibs P s h; cases h; simp [parents]
  | pair a b rest ha hb ih =>
    obtain ⟨k, v⟩ := a; obtain ⟨k', w⟩ := b
    simp only at ha hb; subst hb
    intro sibs P s h
    rw [layerStep_pair hf n l k v w rest sibs ha] at h
    obtain ⟨x, hx, e⟩ := Option.map_eq_some_iff.1 h
    cases e
    simp only [List.map_cons, parents_pair k _ ha, ih sibs x.1 x.2 hx]
  | single a rest hp ih =>
    obtain ⟨k, v⟩ := a
    intro sibs P s h
    rw [layerStep_single hf n l k v rest sibs hp] at h
    obtain ⟨y, _, h⟩ := Option.bind_eq_some_iff.1 h
    obtain ⟨x, hx, e⟩ := Option.map_eq_some_iff.1 h
    cases e
    simp only [List.map_cons, parents_single k _ hp, ih y.2 x.1 x.2 hx]

/-- the nodes of the layer are not empty: below each lies a leaf of the tree of `n` leaves -/
def LayOK (n l : Nat) (A : Lay) : Prop := ∀ e ∈ A, e.1 * 2 ^ l < n

theorem layerStep_ok (hf : HashFns) (n l : Nat) (A : Lay) (sibs : List Bytes) (P : Lay) (s : List Bytes)
    (hok : LayOK n l A) (hs : layerStep hf n l A sibs = some (P, s)) :
    LayOK n (l + 1) P ∧ P.length ≤ A.length ∧ (A ≠ [] → P ≠ []) := by
  have hP := layerStep_fst hf n l A sibs P s hs
  have hlen := length_parents_le (A.map (·.1))
  rw [← hP] at hlen
  refine ⟨?_, by simpa using hlen, ?_⟩
  · intro e he
    refine parents_nonempty (l := l) (A := A.map (·.1)) ?_ e.1 (by rw [← hP]; exact List.mem_map_of_mem he)
    intro k hk
    obtain ⟨a, ha, rfl⟩ := List.mem_map.1 hk
    exact hok a ha
  · intro hne e
    exact parents_ne_nil (A := A.map (·.1)) (by simpa using hne) (by rw [← hP, e]; rfl)

/-! ### the sibling hashes of a proof, layer by layer -/

/-- the sibling hash a lone node `(l, k)` takes from the proof: none when the sibling block is empty -/
def sibOne (hf : HashFns) (L : List Bytes) (l k : Nat) : List Bytes :=
  if sibOf k * 2 ^ l < L.length then [rootH hf (blkCore L l (sibOf k))] else []

/-- the sibling hashes needed at one layer: those of the nodes whose sibling is not in the layer -/
def sibLayer (hf : HashFns) (L : List Bytes) (l : Nat) : List Nat → List Bytes
  | [] => []
  | k :: rest =>
    if pairHead k rest then sibLayer hf L l rest.tail else sibOne hf L l k ++ sibLayer hf L l rest
termination_by A => A.length
decreasing_by
  · simp; omega
  · simp

def sibSpec (hf : HashFns) (L : List Bytes) : Nat → Nat → List Nat → List Bytes
  | 0, _, _ => []
  | f + 1, l, A => sibLayer hf L l A ++ sibSpec hf L f (l + 1) (parents A)

theorem sibLayer_pair (hf : HashFns) (L : List Bytes) (l k : Nat) (rest : List Nat) (hk : k % 2 = 0) :
    sibLayer hf L l (k :: (k + 1) :: rest) = sibLayer hf L l rest := by
  rw [sibLayer, if_pos ⟨hk, rfl⟩]; rfl

theorem sibLayer_single (hf : HashFns) (L : List Bytes) (l k : Nat) (rest : List Nat) (h : ¬ pairHead k rest) :
    sibLayer hf L l (k :: rest) = sibOne hf L l k ++ sibLayer hf L l rest := by
  rw [sibLayer, if_neg h]

/-! ### soundness of the specification -/

theorem stepOne_sound (hf : HashFns) (hinj : BranchInj hf) (L : List Bytes) (l k : Nat) (v pv : Bytes)
    (sibs ss : List Bytes) (hk : k * 2 ^ l < L.length) (ho : stepOne hf L.length l k v sibs = some (pv, ss))
    (hpv : pv = rootH hf (blkCore L (l + 1) (k / 2))) :
    v = rootH hf (blkCore L l k) ∧ sibs = sibOne hf L l k ++ ss := by
  have hpar := rootH_blk_parent hf L l k hk
  unfold stepOne at ho
  unfold sibOne
  by_cases hs : sibOf k * 2 ^ l < L.length
  · rw [if_pos hs] at ho hpar ⊢
    cases sibs with
    | nil => cases ho
    | cons s0 ss0 =>
      simp only [Option.some.injEq, Prod.mk.injEq] at ho
      rw [← ho.1, hpar] at hpv
      rw [← ho.2]
      by_cases hev : k % 2 = 0
      · rw [if_pos hev, if_pos hev] at hpv
        obtain ⟨e1, e2⟩ := hinj _ _ _ _ hpv
        exact ⟨e1, by rw [e2]; rfl⟩
      · rw [if_neg hev, if_neg hev] at hpv
        obtain ⟨e1, e2⟩ := hinj _ _ _ _ hpv
        exact ⟨e2, by rw [e1]; rfl⟩
  · rw [if_neg hs] at ho hpar ⊢
    simp only [Option.some.injEq, Prod.mk.injEq] at ho
    exact ⟨by rw [ho.1, hpv, hpar], by rw [ho.2]; rfl⟩

/-- one layer: from true parents, the nodes are true and the sibling hashes taken from the proof are the true ones -/
theorem layerStep_sound (hf : HashFns) (hinj : BranchInj hf) (L : List Bytes) (l : Nat) (A : Lay) :
    ∀ (sibs : List Bytes) (P : Lay) (s : List Bytes), LayOK L.length l A →
    layerStep hf L.length l A sibs = some (P, s) →
    (∀ e ∈ P, e.2 = rootH hf (blkCore L (l + 1) e.1)) →
    (∀ e ∈ A, e.2 = rootH hf (blkCore L l e.1)) ∧ sibs = sibLayer hf L l (A.map (·.1)) ++ s := by
  induction A using pairInduction (Prod.fst : Nat × Bytes → Nat) with
  | nil => intro sibs P s _ hs _; cases hs; exact ⟨fun e he => (by cases he), by simp [sibLayer]⟩
  | pair a b rest ha hb ih =>
    obtain ⟨k, v⟩ := a; obtain ⟨k', w⟩ := b
    simp only at ha hb; subst hb
    intro sibs P s hok hs hP
    rw [layerStep_pair hf _ l k v w rest sibs ha] at hs
    obtain ⟨x, hx, e'⟩ := Option.map_eq_some_iff.1 hs
    cases e'
    have hk1 : (k + 1) * 2 ^ l < L.length := hok (k + 1, w) (by simp)
    have hpv := hP (k / 2, hf.branch v w) (by simp)
    simp only at hpv
    rw [rootH_blk_pair hf L l (k / 2) (by rw [show 2 * (k / 2) + 1 = k + 1 by omega]; exact hk1),
      show 2 * (k / 2) = k by omega] at hpv
    obtain ⟨e1, e2⟩ := hinj _ _ _ _ hpv
    obtain ⟨i1, i2⟩ := ih sibs x.1 x.2 (fun e he => hok e (by simp [he])) hx (fun e he => hP e (by simp [he]))
    refine ⟨?_, by simpa [sibLayer_pair hf L l k _ ha] using i2⟩
    intro e he
    simp only [List.mem_cons] at he
    rcases he with rfl | rfl | he
    · exact e1
    · exact e2
    · exact i1 e he
  | single a rest hp ih =>
    obtain ⟨k, v⟩ := a
    intro sibs P s hok hs hP
    rw [layerStep_single hf _ l k v rest sibs hp] at hs
    obtain ⟨y, hy, hs⟩ := Option.bind_eq_some_iff.1 hs
    obtain ⟨x, hx, e'⟩ := Option.map_eq_some_iff.1 hs
    cases e'
    obtain ⟨s1, s2⟩ := stepOne_sound hf hinj L l k v y.1 sibs y.2 (hok (k, v) (by simp)) hy (hP (k / 2, y.1) (by simp))
    obtain ⟨i1, i2⟩ := ih y.2 x.1 x.2 (fun e he => hok e (by simp [he])) hx (fun e he => hP e (by simp [he]))
    refine ⟨?_, by rw [List.map_cons, sibLayer_single hf L l k _ hp, s2, i2, List.append_assoc]⟩
    intro e he
    simp only [List.mem_cons] at he
    rcases he with rfl | he
    · exact s1
    · exact i1 e he

/-- Soundness of the specification: if the computed root is the root of `L`, every node of the layer has the value it
has in the tree over `L`, and the sibling hashes consumed are those of the tree. -/
theorem calcSpec_sound (hf : HashFns) (hinj : BranchInj hf) (L : List Bytes) :
    ∀ (f l : Nat) (A : Lay) (sibs : List Bytes), L.length ≤ 2 ^ (l + f) → LayOK L.length l A →
    calcSpec hf L.length f l A sibs = some (rootH hf L) →
    (∀ e ∈ A, e.2 = rootH hf (blkCore L l e.1)) ∧ sibSpec hf L f l (A.map (·.1)) <+: sibs := by
  intro f
  induction f with
  | zero =>
    intro l A sibs hn hok hc
    refine ⟨fun e he => ?_, by simp [sibSpec]⟩
    simp only [calcSpec] at hc
    split at hc
    · rename_i k r
      simp only [List.mem_singleton] at he
      subst he
      obtain ⟨a, ha, hk0⟩ := top_singleton Prod.fst hn (List.cons_ne_nil _ _) hok (List.pairwise_singleton _ _)
      cases ha
      simp only at hk0
      subst hk0
      rw [blk_top_all L l hn]; exact (Option.some.inj hc)
    · cases hc
  | succ f ih =>
    intro l A sibs hn hok hc
    simp only [calcSpec] at hc
    cases hr : layerStep hf L.length l A sibs with
    | none => rw [hr] at hc; cases hc
    | some x =>
      rw [hr] at hc
      obtain ⟨i1, i2⟩ := ih (l + 1) x.1 x.2 (by rw [show l + 1 + f = l + (f + 1) by omega]; exact hn)
        (layerStep_ok hf L.length l A sibs x.1 x.2 hok hr).1 hc
      obtain ⟨j1, j2⟩ := layerStep_sound hf hinj L l A sibs x.1 x.2 hok hr i1
      refine ⟨j1, ?_⟩
      rw [sibSpec, j2, ← layerStep_fst hf L.length l A sibs x.1 x.2 hr]
      exact (List.prefix_append_right_inj _).2 i2


/-! ### the result map -/

/-- the result map after the parent `e` of nodes of layer `l` has been computed: a proper node is entered, a
node that is carried up is not (it goes to the cache) -/
def addParent (n h l : Nat) (R : List (Nat × Bytes)) (e : Nat × Bytes) : List (Nat × Bytes) :=
  if properCore n (l + 1) e.1 then mapSet R (nIdx h (l + 1) e.1) e.2 else R

/-- the result map of `calculatePathNodes` from layer `l` on (follows `calcSpec`) -/
def resSpec (hf : HashFns) (n h : Nat) : Nat → Nat → Lay → List (Nat × Bytes) → List Bytes → List (Nat × Bytes)
  | 0, _, _, R, _ => R
  | d + 1, l, A, R, sibs =>
    match layerStep hf n l A sibs with
    | none => R
    | some (P, s') => resSpec hf n h d (l + 1) P (P.foldl (addParent n h l) R) s'

/-- the result map after the parents `P` of a layer have been entered -/
theorem lookup_foldl_addParent (n h l : Nat) : ∀ (P : Lay) (R : List (Nat × Bytes)),
    (∀ key, (∀ e ∈ P, key ≠ nIdx h (l + 1) e.1) → (P.foldl (addParent n h l) R).lookup key = R.lookup key) ∧
    (P.Pairwise (fun x y => x.1 ≠ y.1) → ∀ e ∈ P, (P.foldl (addParent n h l) R).lookup (nIdx h (l + 1) e.1) =
      if properCore n (l + 1) e.1 then some e.2 else R.lookup (nIdx h (l + 1) e.1)) := by
  intro P
  induction P with
  | nil => intro R; exact ⟨fun _ _ => rfl, fun _ e he => by cases he⟩
  | cons e0 P ih =>
    intro R
    obtain ⟨ih1, ih2⟩ := ih (addParent n h l R e0)
    have hne : ∀ key, key ≠ nIdx h (l + 1) e0.1 → (addParent n h l R e0).lookup key = R.lookup key := by
      intro key hk
      unfold addParent
      split
      · exact lookup_mapSet_ne _ _ _ _ hk
      · rfl
    simp only [List.foldl_cons]
    refine ⟨fun key hk => ?_, fun hnd e he => ?_⟩
    · rw [ih1 key (fun e he => hk e (by simp [he])), hne key (hk e0 (by simp))]
    · have hnd' := List.pairwise_cons.mp hnd
      simp only [List.mem_cons] at he
      rcases he with rfl | he
      · rw [ih1 _ (fun e' he' => by have := hnd'.1 e' he'; unfold nIdx; omega)]
        unfold addParent
        split
        · exact lookup_mapSet_self _ _ _
        · rfl
      · rw [ih2 hnd'.2 e he, hne _ (by have := hnd'.1 e he; unfold nIdx; omega)]

/-- the nodes at the positions `A` with their values in the tree over `L` -/
def valLay (hf : HashFns) (L : List Bytes) (l : Nat) (A : List Nat) : Lay := A.map fun k => (k, rootH hf (blkCore L l k))

/-! ### recomputation from new leaf values with the sibling hashes of the old tree -/

theorem stepOne_mixed (hf : HashFns) (L M : List Bytes) (hlen : M.length = L.length) (l k : Nat)
    (extra : List Bytes) (hk : k * 2 ^ l < L.length)
    (hU : sibOf k * 2 ^ l < L.length → rootH hf (blkCore L l (sibOf k)) = rootH hf (blkCore M l (sibOf k))) :
    stepOne hf L.length l k (rootH hf (blkCore M l k)) (sibOne hf L l k ++ extra)
      = some (rootH hf (blkCore M (l + 1) (k / 2)), extra) := by
  have hpar := rootH_blk_parent hf M l k (by rw [hlen]; exact hk)
  rw [hlen] at hpar
  unfold stepOne sibOne
  by_cases hs : sibOf k * 2 ^ l < L.length
  · rw [if_pos hs] at hpar ⊢
    rw [if_pos hs, hpar, hU hs]
    simp
  · rw [if_neg hs] at hpar ⊢
    rw [if_neg hs, hpar]
    simp

/-- one layer, from the values of the new list `M` and the sibling hashes of the old list `L`: a node of the
layer without its sibling in the layer has a sibling block that is the same in both lists -/
theorem layerStep_mixed (hf : HashFns) (L M : List Bytes) (hlen : M.length = L.length) (l : Nat) (A : List Nat) :
    ∀ (extra : List Bytes), (∀ k ∈ A, k * 2 ^ l < L.length) → A.Pairwise (· < ·) →
      (∀ k ∈ A, sibOf k ∈ A ∨
        (sibOf k * 2 ^ l < L.length → rootH hf (blkCore L l (sibOf k)) = rootH hf (blkCore M l (sibOf k)))) →
      layerStep hf L.length l (valLay hf M l A) (sibLayer hf L l A ++ extra)
        = some (valLay hf M (l + 1) (parents A), extra) := by
  induction A using pairInduction id with
  | nil => intro extra _ _ _; simp [sibLayer, valLay, layerStep, parents]
  | pair a b rest ha hb ih =>
    simp only [id] at ha hb; subst hb
    intro extra hok hasc hU
    have hasc' := List.pairwise_cons.mp (List.pairwise_cons.mp hasc).2
    have hk1 : (a + 1) * 2 ^ l < L.length := hok (a + 1) (by simp)
    rw [sibLayer_pair hf L l a rest ha, parents_pair a rest ha]
    simp only [valLay, List.map_cons]
    rw [layerStep_pair hf _ l a _ _ _ _ ha]
    have := ih extra (fun k hk => hok k (by simp [hk])) hasc'.2 (fun k hk => by
      have hgt := hasc'.1 k hk
      exact (hU k (by simp [hk])).imp_left fun h =>
        sibOf_mem_of_ne_half (sibOf_mem_of_ne_half h (by omega)) (by omega))
    simp only [valLay] at this
    rw [this]
    simp only [Option.map_some]
    rw [rootH_blk_pair hf M l (a / 2) (by rw [hlen, show 2 * (a / 2) + 1 = a + 1 by omega]; exact hk1),
      show 2 * (a / 2) + 1 = a + 1 by omega, show 2 * (a / 2) = a by omega]
  | single a rest hp ih =>
    have hp' : ¬ pairHead a rest := by simpa using hp
    intro extra hok hasc hU
    have hsep := sep_of_not_pairHead hasc hp'
    have hsibU := (hU a (by simp)).resolve_left fun h =>
      sibOf_not_mem (fun x hx => by have := hsep x hx; omega) ((List.mem_cons.1 h).resolve_left (sibOf_ne a))
    rw [sibLayer_single hf L l a rest hp', parents_single a rest hp']
    simp only [valLay, List.map_cons]
    rw [layerStep_single hf _ l a _ _ _ (by simpa [Function.comp_def] using hp'), List.append_assoc,
      stepOne_mixed hf L M hlen l a _ (hok a (by simp)) hsibU]
    have := ih extra (fun k hk => hok k (by simp [hk])) (List.pairwise_cons.mp hasc).2 (fun k hk => by
      have hgt := hsep k hk
      exact (hU k (by simp [hk])).imp_left fun h => sibOf_mem_of_ne_half h (by omega))
    simp only [valLay] at this
    simp only [Option.bind_some, this, Option.map_some]

/-- Recomputation over all layers, when `A` holds the ancestors at layer `l` of all changed leaves `pos`: the root of the
new list. And when `A` is exactly the set of these ancestors and the start map `R` holds, at the index of every non-empty
node of a layer `j ≤ l`, the new value of the node if it is a proper ancestor of a changed leaf and nothing otherwise
(and nothing above `l`), then the result map holds exactly that at the index of every non-empty node of every layer. -/
theorem spec_mixed (hf : HashFns) (L M : List Bytes) (hlen : M.length = L.length) (h : Nat)
    (hnH : L.length ≤ 2 ^ (h - 1)) (pos : List Nat)
    (hU : ∀ l k, (∀ p ∈ pos, p / 2 ^ l ≠ k) → k * 2 ^ l < L.length → rootH hf (blkCore L l k) = rootH hf (blkCore M l k)) :
    ∀ (d l : Nat) (A : List Nat) (extra : List Bytes), l + d = h - 1 → A ≠ [] →
      (∀ k ∈ A, k * 2 ^ l < L.length) → A.Pairwise (· < ·) → (∀ p ∈ pos, p / 2 ^ l ∈ A) →
      calcSpec hf L.length d l (valLay hf M l A) (sibSpec hf L d l A ++ extra) = some (rootH hf M) ∧
      ∀ R : List (Nat × Bytes), (∀ a ∈ A, ∃ p ∈ pos, p / 2 ^ l = a) →
        (∀ j m, m * 2 ^ j < L.length → j + 1 ≤ h → R.lookup (nIdx h j m) =
          if j ≤ l ∧ (∃ p ∈ pos, p / 2 ^ j = m) ∧ properCore L.length j m then some (rootH hf (blkCore M j m)) else none) →
        ∀ j m, m * 2 ^ j < L.length → j + 1 ≤ h →
          (resSpec hf L.length h d l (valLay hf M l A) R (sibSpec hf L d l A ++ extra)).lookup (nIdx h j m) =
            if (∃ p ∈ pos, p / 2 ^ j = m) ∧ properCore L.length j m then some (rootH hf (blkCore M j m)) else none := by
  intro d
  induction d with
  | zero =>
    -- the root layer: `A` is the root alone, the result map is the start map
    intro l A extra hld hne hok hasc _
    have hl : l = h - 1 := by omega
    subst hl
    obtain ⟨a, rfl, ha0⟩ := top_singleton id hnH hne hok hasc
    simp only [id] at ha0; subst ha0
    refine ⟨by simp [calcSpec, valLay, blk_top_all M (h - 1) (by rw [hlen]; exact hnH)], ?_⟩
    intro R _ hR j m hm hj
    rw [resSpec, hR j m hm hj]
    simp only [show j ≤ h - 1 by omega, true_and]
  | succ d ih =>
    -- one layer by `layerStep_mixed` (a sibling outside `A` has no changed leaf below it), then the layers above by
    -- induction on the parents, from the map with the parents entered
    intro l A extra hld hne hok hasc hcov
    have hstep := layerStep_mixed hf L M hlen l A (sibSpec hf L d (l + 1) (parents A) ++ extra) hok hasc
      (fun k hk => by
        by_cases hs : sibOf k ∈ A
        · exact Or.inl hs
        · exact Or.inr (hU l _ (fun p hp e => hs (e ▸ hcov p hp))))
    obtain ⟨i1, i2⟩ := ih (l + 1) (parents A) extra (by omega) (parents_ne_nil hne) (parents_nonempty hok)
      (parents_pairwise A hasc) (fun p hp => (mem_parents A _).2 ⟨_, hcov p hp, div_pow_succ p l⟩)
    simp only [calcSpec, resSpec, sibSpec, List.append_assoc, hstep]
    refine ⟨i1, ?_⟩
    intro R hanc hR
    have hancP : ∀ m, m ∈ parents A ↔ ∃ p ∈ pos, p / 2 ^ (l + 1) = m := by
      intro m
      rw [mem_parents]
      constructor
      · rintro ⟨a, ha, rfl⟩
        obtain ⟨p, hp, rfl⟩ := hanc a ha
        exact ⟨p, hp, div_pow_succ p l⟩
      · rintro ⟨p, hp, rfl⟩
        exact ⟨_, hcov p hp, div_pow_succ p l⟩
    obtain ⟨f1, f2⟩ := lookup_foldl_addParent L.length h l (valLay hf M (l + 1) (parents A)) R
    refine i2 _ (fun a ha => (hancP a).1 ha) ?_
    -- the map with the parents entered (`lookup_foldl_addParent`): at layer `l + 1` a parent has its new value if it is
    -- proper, every other node of that layer and every node of another layer (indexes are injective) is as in `R`
    intro j m hm hj
    by_cases hjl : j = l + 1
    · subst hjl
      by_cases hmem : m ∈ parents A
      · have := f2 (by simpa [valLay, List.pairwise_map] using (parents_pairwise A hasc).imp Nat.ne_of_lt)
          (m, rootH hf (blkCore M (l + 1) m)) (List.mem_map.2 ⟨m, hmem, rfl⟩)
        rw [this, hR _ m hm hj]
        simp only
        by_cases hpr : properCore L.length (l + 1) m
        · rw [if_pos hpr, if_pos ⟨Nat.le_refl _, (hancP m).1 hmem, hpr⟩]
        · rw [if_neg hpr, if_neg (fun h => hpr h.2.2), if_neg (fun h => hpr h.2.2)]
      · rw [f1 _ (fun e he => by
          simp only [valLay, List.mem_map] at he
          obtain ⟨k, hk, rfl⟩ := he
          unfold nIdx; intro e; exact hmem (by rw [show m = k by omega]; exact hk)), hR _ m hm hj]
        rw [if_neg (fun h => absurd h.1 (Nat.not_succ_le_self l)), if_neg (fun h => hmem ((hancP m).2 h.2.1))]
    · rw [f1 _ (fun e he => by
        simp only [valLay, List.mem_map] at he
        obtain ⟨k, hk, rfl⟩ := he
        intro e
        exact hjl (nIdx_inj_nonempty hnH hj (by omega) hm (parents_nonempty hok k hk) e).1), hR j m hm hj]
      simp only [show (j ≤ l + 1) = (j ≤ l) from propext ⟨fun _ => by omega, fun _ => by omega⟩]

/-- completeness of the specification: from the values of the tree and the sibling hashes of the
specification, the root is recomputed -/
theorem calcSpec_complete (hf : HashFns) (L : List Bytes) (f l : Nat) (A : List Nat) (extra : List Bytes)
    (hn : L.length ≤ 2 ^ (l + f)) (hne : A ≠ []) (hok : ∀ k ∈ A, k * 2 ^ l < L.length) (hasc : A.Pairwise (· < ·)) :
    calcSpec hf L.length f l (valLay hf L l A) (sibSpec hf L f l A ++ extra) = some (rootH hf L) :=
  (spec_mixed hf L L rfl (l + f + 1) (by simpa using hn) [] (fun _ _ _ _ => rfl) f l A extra (by omega) hne hok hasc
    (fun _ h => by cases h)).1

end LiskVerif.RMT
