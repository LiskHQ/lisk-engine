/-
From the criteria of skeletons to the statements over the interleaving semantics, for any number of goroutines
each of which runs several invocations one after the other: progress (`deadlock_free`) excludes a deadlocked
state; an invocation that is lock-balanced — a well-formed one is — ends holding nothing
(`balanced_paths_end_unlocked`, `Lemmas/LocksSound.lean`), so the path of a
sequence of invocations is fine when each invocation's path is. At the foot: the criteria without (3),
`C20.criteriaExceptBlocking`, which the lock tables of C14, C17 and C20 are stated with, and the criteria read as
conjunctions.
-/
import LiskVerif.Lemmas.LocksSound
import LiskVerif.Lemmas.Tables

namespace LiskVerif.Locks

/-- a state in which some thread can take an internal step, or which is quiescent, is not deadlocked
(a parked communication is completed by the environment) -/
theorem deadlocked_eq_false_of_progress (st : State)
    (h : quiescent st = true ∨ ∃ i, canStepInternal st i = true) : deadlocked st = false := by
  cases hd : deadlocked st with
  | false => rfl
  | true =>
    exfalso
    simp only [deadlocked, Bool.and_eq_true, List.all_eq_true, List.mem_range, Bool.not_eq_true',
      Option.isNone_iff_eq_none] at hd
    obtain ⟨hnone, hnf⟩ := hd
    have hstuck : ∀ (i : Nat) (t : Thread), st[i]? = some t → stepThread st t = none := by
      intro i t hi
      have hlt : i < st.length := by
        rcases Nat.lt_or_ge i st.length with h | h
        · exact h
        · rw [List.getElem?_eq_none h] at hi; cases hi
      have := hnone i hlt
      simp only [stepT, hi] at this
      cases hs : stepThread st t with
      | none => rfl
      | some t' => simp [hs] at this
    rcases h with hq | ⟨i, hi⟩
    · obtain ⟨t, ht, hfin⟩ := List.all_eq_false.mp hnf
      obtain ⟨i, hi⟩ := List.getElem?_of_mem ht
      have hq' := List.all_eq_true.mp hq t ht
      have hfin' : finished t = false := Bool.eq_false_iff.mpr hfin
      simp only [hfin', Bool.false_or, Bool.and_eq_true] at hq'
      have hstep := hstuck i t hi
      have hb := hq'.1.1
      unfold atBlock at hb
      cases hp : t.prog with
      | nil => simp [hp] at hb
      | cons a rest =>
        cases a <;> simp [hp] at hb
        simp [stepThread, hp] at hstep
    · simp only [canStepInternal] at hi
      cases hti : st[i]? with
      | none => simp [hti] at hi
      | some t =>
        simp only [hti, Bool.and_eq_true] at hi
        rw [hstuck i t hti] at hi
        simp at hi

theorem pathOk_append (order : List String) {p q : Path}
    (hp : pathOk order p = true) (hq : pathOk order q = true) : pathOk order (p ++ q) = true := by
  rw [pathOk, pathOkFrom_append, pathOk_ends hp, Bool.and_eq_true]
  exact ⟨(Bool.and_eq_true_iff.mp hp).1, hq⟩

/-- what holds of the empty path, and of `p ++ q` when it holds of `p` and of `q`, holds of paths run one after the other -/
theorem flatten_closed {P : Path → Prop} (h0 : P []) (happ : ∀ {p q}, P p → P q → P (p ++ q))
    (segs : List Path) (h : ∀ q ∈ segs, P q) : P segs.flatten := by
  induction segs with
  | nil => exact h0
  | cons q segs ih => exact happ (h q List.mem_cons_self) (ih fun q' hq' => h q' (List.mem_cons_of_mem _ hq'))

theorem pathOk_flatten (order : List String) (segs : List Path)
    (h : ∀ q ∈ segs, pathOk order q = true) : pathOk order segs.flatten = true :=
  flatten_closed (P := fun p => pathOk order p = true) rfl (pathOk_append order) segs h

theorem pathLs_append (g : List (String × String)) {p q : Path} (hend : heldAfterPath [] p = [])
    (hp : pathLs g p = true) (hq : pathLs g q = true) : pathLs g (p ++ q) = true := by
  rw [pathLs, pathLsFrom_append, hend, Bool.and_eq_true]
  exact ⟨hp, hq⟩

theorem pathLs_flatten (g : List (String × String)) (segs : List Path)
    (h : ∀ q ∈ segs, heldAfterPath [] q = [] ∧ pathLs g q = true) : pathLs g segs.flatten = true :=
  (flatten_closed (P := fun q => heldAfterPath [] q = [] ∧ pathLs g q = true) ⟨rfl, rfl⟩
    (fun hp hq => ⟨by rw [heldAfterPath_append, hp.1]; exact hq.1, pathLs_append g hp.1 hp.2 hq.2⟩) segs h).2

/-! ## any number of goroutines, each running invocations one after the other -/

/-- **no deadlock.** Every goroutine runs one after the other complete paths of (threads of) skeletons that
satisfy the deadlock criteria: every reachable state lets some thread step on its own or is quiescent, and
none is deadlocked. -/
theorem invocations_deadlock_free (c : Cfg) (u : Nat) (ps : List Path)
    (hps : ∀ p ∈ ps, ∃ segs : List Path, p = segs.flatten ∧
      ∀ q ∈ segs, ∃ s, deadlockCriteria c s = true ∧ IsThreadPath c.tbl u s q)
    (st : State) (hr : Reachable (initState ps) st) :
    deadlocked st = false ∧ (quiescent st = true ∨ ∃ i, canStepInternal st i = true) :=
  have hprog := deadlock_free c.order ps (fun p hp => by
    obtain ⟨segs, rfl, hsegs⟩ := hps p hp
    exact pathOk_flatten _ _ fun q hq =>
      have ⟨s, hs, hpath⟩ := hsegs q hq
      deadlockCriteria_paths c s hs u q hpath) st hr
  ⟨deadlocked_eq_false_of_progress st hprog, hprog⟩

/-- a sequence of invocations of well-formed skeletons that satisfy the lockset criterion accesses every
variable under its guard -/
theorem invocations_pathLs (c : Cfg) (u : Nat) {p : Path}
    (hp : ∃ segs : List Path, p = segs.flatten ∧
      ∀ q ∈ segs, ∃ s, (wellFormed c s = true ∧ locksetOk c s = true) ∧ IsThreadPath c.tbl u s q) :
    pathLs c.guards p = true := by
  obtain ⟨segs, rfl, hsegs⟩ := hp
  exact pathLs_flatten _ _ fun q hq =>
    have ⟨s, hs, hpath⟩ := hsegs q hq
    ⟨balanced_paths_end_unlocked (lockBalanced_of_wellFormed hs.1) hpath, locksetOk_paths c s hs.1 hs.2 u q hpath⟩

/-- **no race.** The same for skeletons that are well-formed and satisfy the lockset criterion: no two
goroutines are ever about to perform conflicting accesses. -/
theorem invocations_race_free (c : Cfg) (u : Nat) (ps : List Path)
    (hps : ∀ p ∈ ps, ∃ segs : List Path, p = segs.flatten ∧
      ∀ q ∈ segs, ∃ s, (wellFormed c s = true ∧ locksetOk c s = true) ∧ IsThreadPath c.tbl u s q)
    (st : State) (hr : Reachable (initState ps) st) (i j : Nat) : raceAt st i j = false :=
  race_free c.guards ps (fun p hp => invocations_pathLs c u (hps p hp)) st hr i j

/-- a goroutine that runs one invocation runs a sequence of one -/
theorem single_invocation {α : Type _} {P : Path → α → Prop} {p : Path} {a : α} (h : P p a) :
    ∃ segs : List Path, p = segs.flatten ∧ ∀ q ∈ segs, ∃ a, P q a :=
  ⟨[p], (List.append_nil p).symm, fun _ hq => ⟨a, List.mem_singleton.mp hq ▸ h⟩⟩

end LiskVerif.Locks

open LiskVerif LiskVerif.Locks

namespace C20

/-- the criteria without (3) -/
def criteriaExceptBlocking (c : Cfg) (s : Skel) : Bool :=
  wellFormed c s && noReentrantAcquire c s && lockOrderOk c s && locksetOk c s

end C20

namespace LiskVerif.Locks

variable {c : Cfg} {s : Skel}

theorem criteriaExceptBlocking_iff :
    C20.criteriaExceptBlocking c s = true ↔
      wellFormed c s = true ∧ noReentrantAcquire c s = true ∧ lockOrderOk c s = true ∧ locksetOk c s = true := by
  simp only [C20.criteriaExceptBlocking, Bool.and_eq_true, and_assoc]

theorem criteria_iff :
    criteria c s = true ↔ C20.criteriaExceptBlocking c s = true ∧ noBlockingInCS c s = true := by
  simp only [criteria, deadlockCriteria, C20.criteriaExceptBlocking, Bool.and_eq_true, and_comm, and_left_comm]

/-- invocations of functions that satisfy all criteria run a path that keeps the lockset discipline -/
theorem criteria_invocations_pathLs {c : Cfg} {u : Nat} {p : Path}
    (hp : ∃ segs : List Path, p = segs.flatten ∧
      ∀ q ∈ segs, ∃ s, criteria c s = true ∧ IsThreadPath c.tbl u s q) : pathLs c.guards p = true :=
  have ⟨segs, hflat, hsegs⟩ := hp
  invocations_pathLs c u ⟨segs, hflat, fun q hq =>
    have ⟨s, hs, hpath⟩ := hsegs q hq
    have ⟨hw, _, _, hl⟩ := criteriaExceptBlocking_iff.mp (criteria_iff.mp hs).1
    ⟨s, ⟨hw, hl⟩, hpath⟩⟩

end LiskVerif.Locks
