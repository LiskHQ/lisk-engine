/-
One stored level of the trie refines the specification.

`updateNode`, on a node holding the entries `es` and bins holding the writes `ops`, returns (the flattening of) a
layout tree arranging `applyE es ops`; so does `updateNodes` over a subtree that arranges `es`; and `updateSubtree`
stores and returns the collapsed tree, whose root is the specification root of the updated entries – provided the
level below does the same (`BottomOK`).

The store enters through an abstract `World` (the full trie instantiates it in Lemmas/SMTImplFull.lean, `World.trie`), so
that this file speaks of one stored level only:
* `S db d es h`  – the store `db` holds the subtree with root `h` for the entries `es` (`d` key bits left);
* `F pre db db'` – `db'` differs from `db` only in records of subtrees below the position `pre` (frame);
* `EOK`, `OOK`, `IOK` – what is known of the key and value of every stored entry, of every write, and of every group of
  entries (kept when descending: `IOK_goL`, `IOK_goR`); `BottomOK` and `Below` carry them.
-/
import LiskVerif.Lemmas.SMTImplBins
import LiskVerif.Lemmas.SMTImplCollapse

namespace LiskVerif.SMTImpl
open LiskVerif LiskVerif.SMT

/-- two positions neither of which is above the other -/
def Diverge (p q : Bits) : Prop := ∃ (cm : Bits) (b : Bool) (r₁ r₂ : Bits), p = cm ++ b :: r₁ ∧ q = cm ++ (!b) :: r₂

theorem Diverge.symm {p q : Bits} (h : Diverge p q) : Diverge q p := by
  obtain ⟨cm, b, r₁, r₂, rfl, rfl⟩ := h
  exact ⟨cm, !b, r₂, r₁, rfl, by simp⟩

theorem Diverge.ext_right {p q : Bits} (h : Diverge p q) (x : Bits) : Diverge p (q ++ x) := by
  obtain ⟨cm, b, r₁, r₂, rfl, rfl⟩ := h
  exact ⟨cm, b, r₁, r₂ ++ x, rfl, by simp⟩

theorem Diverge.ext_left {p q : Bits} (h : Diverge p q) (x : Bits) : Diverge (p ++ x) q :=
  (h.symm.ext_right x).symm

theorem diverge_children (pre : Bits) (b : Bool) : Diverge (pre ++ [b]) (pre ++ [!b]) :=
  ⟨pre, b, [], [], rfl, rfl⟩

/-- the abstract store interface -/
structure World where
  S : DB → Nat → List Entry → Bytes → Prop
  F : Bits → DB → DB → Prop
  /-- what is known of the key / value of every stored entry, and of every write of the batch -/
  EOK : Bytes → Bytes → Prop
  OOK : Bytes → Bytes → Prop
  /-- what is known of every group of entries (before and after the writes); kept when descending -/
  IOK : Nat → List Entry → Prop
  IOK_goL : ∀ d es, WFE (d + 1) es → IOK (d + 1) es → IOK d (goL es)
  IOK_goR : ∀ d es, WFE (d + 1) es → IOK (d + 1) es → IOK d (goR es)
  F_refl : ∀ pre db, F pre db db
  F_trans : ∀ pre db db1 db2, F pre db db1 → F pre db1 db2 → F pre db db2
  F_ext : ∀ pre x db db', F (pre ++ x) db db' → F pre db db'
  S_frame : ∀ pre pre' db db' d es h, F pre db db' → Diverge pre pre' → (∀ e ∈ es, Under pre' e) → 2 ≤ es.length →
    S db d es h → S db' d es h

/-- the trivial world of a single stored level -/
def World.trivial : World where
  S := fun _ _ _ _ => True
  F := fun _ _ _ => True
  EOK := fun _ _ => True
  OOK := fun _ _ => True
  IOK := fun _ _ => True
  IOK_goL := fun _ _ _ _ => True.intro
  IOK_goR := fun _ _ _ _ => True.intro
  F_refl := fun _ _ => True.intro
  F_trans := fun _ _ _ _ _ _ => True.intro
  F_ext := fun _ _ _ _ _ => True.intro
  S_frame := fun _ _ _ _ _ _ _ _ _ _ _ _ => True.intro

theorem ArrTip.frame (W : World) {H : HashFn} {rem d : Nat} {n : Node} {es : List Entry} {pre pre' : Bits}
    {db db' : DB} (hF : W.F pre db db') (hd : Diverge pre pre') (hu : ∀ e ∈ es, Under pre' e)
    (h : ArrTip H (W.S db) rem d n es) : ArrTip H (W.S db') rem d n es :=
  h.imp fun _ h2 hs => W.S_frame pre pre' db db' d es _ hF hd hu h2 hs

/-- a tree arranged below `pre'` survives changes below a diverging position -/
theorem Arr.frame (W : World) {H : HashFn} {pre : Bits} {db db' : DB} (hF : W.F pre db db') :
    ∀ {rem d : Nat} {t : LT} {es : List Entry} {pre' : Bits}, Diverge pre pre' → (∀ e ∈ es, Under pre' e) →
      Arr H (W.S db) rem d t es → Arr H (W.S db') rem d t es := by
  intro rem d t es pre' hd hu h
  induction h generalizing pre' with
  | tip rem d n es ht => exact Arr.tip rem d n es (ArrTip.frame W hF hd hu ht)
  | br rem d l r es _ _ ihl ihr =>
    exact Arr.br rem d l r es (ihl (hd.ext_right [false]) (under_child hu false))
      (ihr (hd.ext_right [true]) (under_child hu true))

/-- the hypothesis on the bottom of a subtree (`structurePos == subtreeHeight`): when the shortcuts do not apply,
`updateBottom` returns one node holding the updated entries -/
def BottomOK (c : Cfg) (W : World) (lower : DB → List KV → SubTree → Nat → St SubTree) (height d : Nat) : Prop :=
  ∀ (pre : Bits) (db : DB) (bins : List (List KV)) (cur : Node) (es ops : List Entry),
    pre.length = height + c.sth → ArrTip c.H (W.S db) 0 d cur es → WFE d es → WFE d ops →
    (∀ e ∈ es, Under pre e) → (∀ o ∈ ops, Under pre o) →
    (∀ e ∈ es, W.EOK e.key e.value) → (∀ o ∈ ops, W.OOK o.key o.value) →
    W.IOK d es → W.IOK d (applyE es ops) →
    BinsOK 0 bins ops → ops ≠ [] → singleResult c c.sth bins cur = none →
    ∃ db' n, updateBottom c lower height c.sth db bins cur = (db', .ok ([n], [c.sth])) ∧
      ArrTip c.H (W.S db') 0 d n (applyE es ops) ∧ W.F pre db db'

/-- what the refinement carries down the tree: the entries `es` held below the position `pre` (`d` key bits left)
and the writes `ops` that go there -/
structure Below (W : World) (d : Nat) (pre : Bits) (es ops : List Entry) : Prop where
  he : WFE d es
  ho : WFE d ops
  hue : ∀ e ∈ es, Under pre e
  huo : ∀ o ∈ ops, Under pre o
  hev : ∀ e ∈ es, W.EOK e.key e.value
  hov : ∀ o ∈ ops, W.OOK o.key o.value
  hie : W.IOK d es
  hia : W.IOK d (applyE es ops)

variable (c : Cfg) {W : World} {H : HashFn} {rem d : Nat} {pre : Bits} {db : DB} {bins : List (List KV)} {cur : Node}
  {es ops : List Entry}

theorem Below.goL (h : Below W (d + 1) pre es ops) : Below W d (pre ++ [false]) (goL es) (goL ops) :=
  ⟨wfe_goL h.he, wfe_goL h.ho, under_child h.hue false, under_child h.huo false, kv_child h.hev false,
    kv_child h.hov false, W.IOK_goL d es h.he h.hie, goL_applyE es ops ▸ W.IOK_goL d _ (wfe_applyE h.he h.ho) h.hia⟩

theorem Below.goR (h : Below W (d + 1) pre es ops) : Below W d (pre ++ [true]) (goR es) (goR ops) :=
  ⟨wfe_goR h.he, wfe_goR h.ho, under_child h.hue true, under_child h.huo true, kv_child h.hev true,
    kv_child h.hov true, W.IOK_goR d es h.he h.hie, goR_applyE es ops ▸ W.IOK_goR d _ (wfe_applyE h.he h.ho) h.hia⟩

/-- the writes reach down to the bottom of the subtree -/
theorem Below.path_le (h : Below W d pre es ops) (hrd : rem ≤ d) : ∀ o ∈ ops, rem ≤ o.path.length :=
  fun o ho => by rw [h.ho.1 o ho]; exact hrd

/-- the two halves of an updated tree: the left half was made first and is kept by the changes below the right -/
theorem Arr.br_applyE {db1 db2 : DB} {tl tr : LT} (h : Below W (d + 1) pre es ops)
    (a1 : Arr H (W.S db1) rem d tl (applyE (goL es) (goL ops))) (f1 : W.F (pre ++ [false]) db db1)
    (a2 : Arr H (W.S db2) rem d tr (applyE (goR es) (goR ops))) (f2 : W.F (pre ++ [true]) db1 db2) :
    Arr H (W.S db2) (rem + 1) (d + 1) (.br tl tr) (applyE es ops) ∧ W.F pre db db2 := by
  refine ⟨Arr.br rem d tl tr _ ?_ ?_, W.F_trans _ _ _ _ (W.F_ext _ _ _ _ f1) (W.F_ext _ _ _ _ f2)⟩
  · rw [goL_applyE]
    exact Arr.frame W f2 (diverge_children pre true)
      (under_applyE (under_child h.hue false) (under_child h.huo false)) a1
  · rw [goR_applyE]; exact a2

/-- the `totalData == 1` shortcuts on a node holding `es`: they apply when the node is empty or the leaf of the key
written, and make the node of the entry written -/
theorem singleResult_single {S : Nat → List Entry → Bytes → Prop} {pos : Nat} {o : Entry}
    (hcur : ArrTip c.H S rem d cur es)
    (h1 : binTotal bins = 1) (hf : firstKV bins = some (kvOf o)) (r : NS) :
    singleResult c pos bins cur = some r ↔
      (es = [] ∨ ∃ e, es = [e] ∧ e.key = o.key) ∧
        ([if o.value = [] then newEmptyNode c.H else newLeafNode c.H o.key o.value], [pos]) = r := by
  cases hcur with
  | empty => by_cases hv : o.value = [] <;> simp [singleResult, h1, hf, kvOf, newEmptyNode, hv]
  | leaf e _ =>
    by_cases hk : e.key = o.key <;> by_cases hv : o.value = [] <;>
      simp [singleResult, h1, hf, kvOf, newLeafNode, hk, hv]
  | stub es _ h2 _ =>
    have : ¬ ∃ e, es = [e] ∧ e.key = o.key := fun ⟨e, he, _⟩ => by simp [he] at h2
    have : es ≠ [] := fun he => by simp [he] at h2
    simp [singleResult, kvOf, newStubNode, *]

/-- the `totalData == 1` shortcuts are right -/
theorem singleResult_arr {pos : Nat} {r : NS}
    (hcur : ArrTip c.H (W.S db) rem d cur es) (hB : Below W d pre es ops) (hrd : rem ≤ d)
    (hb : BinsOK rem bins ops) (h : singleResult c pos bins cur = some r) :
    ∃ n, r = ([n], [pos]) ∧ ArrTip c.H (W.S db) rem d n (applyE es ops) := by
  have hlen := hB.path_le hrd
  have h1 : binTotal bins = 1 := Decidable.byContradiction fun h1 => by simp [singleResult, h1] at h
  obtain ⟨o, rfl⟩ := List.length_eq_one_iff.mp ((hb.total hlen).symm.trans h1)
  obtain ⟨hes, rfl⟩ := (singleResult_single c hcur h1 (hb.firstKV_single (hlen o (by simp))) r).mp h
  refine ⟨_, rfl, ?_⟩
  -- the write replaces whatever `es` holds
  have happ : applyE es [o] = if o.value = [] then [] else [o] := by
    rcases hes with rfl | ⟨e, rfl, hk⟩
    · by_cases hv : o.value = [] <;> simp [applyE, hv]
    · have hp := (under_key_eq (hB.hue e (by simp)) (hB.huo o (by simp))).mpr hk
      by_cases hv : o.value = [] <;> simp [applyE, untouched, hp, hv]
  rw [happ]
  by_cases hv : o.value = []
  · rw [if_pos hv, if_pos hv]; exact ArrTip.empty
  · rw [if_neg hv, if_neg hv]; exact ArrTip.leaf o hv

/-- the two children an empty node or a leaf is pushed down to hold the entries of the two sides -/
theorem splitNode_arr {S : Nat → List Entry → Bytes → Prop} {height pos : Nat}
    (hcur : ArrTip c.H S (rem + 1) (d + 1) cur es) (he : WFE (d + 1) es)
    (hue : ∀ e ∈ es, Under pre e) (hpre : pre.length = height + pos) :
    ∃ ln rn, splitNode c height pos cur = .ok (ln, rn) ∧
      ArrTip c.H S rem d ln (goL es) ∧ ArrTip c.H S rem d rn (goR es) := by
  cases hcur with
  | empty => exact ⟨_, _, rfl, ArrTip.empty, ArrTip.empty⟩
  | leaf e hv =>
    have hu := hue e (by simp)
    rcases node_split he with ⟨h0, _⟩ | ⟨e', p, he', hs⟩ | ⟨h2, _⟩
    · cases h0
    · obtain rfl : e = e' := List.head_eq_of_cons_eq he'
      have hbit : ∀ b, e.path = b :: p → (keyBits e.key)[height + pos]? = some b := fun b hp => by
        rw [hu, hp, ← hpre]; simp
      simp only [splitNode, newLeafNode]
      rcases hs with ⟨hp, hL, hR⟩ | ⟨hp, hL, hR⟩ <;> rw [isBitSet_keyBits e.key _ _ (hbit _ hp), hL, hR]
      · exact ⟨_, _, rfl, ArrTip.leaf ⟨p, e.key, e.value⟩ hv, ArrTip.empty⟩
      · exact ⟨_, _, rfl, ArrTip.empty, ArrTip.leaf ⟨p, e.key, e.value⟩ hv⟩
    · simp at h2
  | stub es h0 _ _ => simp at h0

variable (W) (lower : DB → List KV → SubTree → Nat → St SubTree) (height dB : Nat)

/-- **`updateNode` arranges the updated entries** -/
theorem updateNode_arr (hB : BottomOK c W lower height dB) :
    ∀ (rem d : Nat) (pre : Bits) (db : DB) (bins : List (List KV)) (cur : Node) (es ops : List Entry),
      rem ≤ c.sth → pre.length = height + (c.sth - rem) → d = rem + dB →
      ArrTip c.H (W.S db) rem d cur es → Below W d pre es ops → BinsOK rem bins ops →
      ∃ db' t, updateNode c lower height rem db bins cur = (db', .ok (t.nodes, t.depths (c.sth - rem))) ∧
        Arr c.H (W.S db') rem d t (applyE es ops) ∧ W.F pre db db' := by
  intro rem
  induction rem using Nat.strongRecOn with
  | ind rem ih =>
    intro d pre db bins cur es ops hle hpre hrd hcur h hb
    have htot := hb.total (h.path_le (by omega))
    have hbl := hb.length
    have hbe : bins.isEmpty = false := List.isEmpty_eq_false_iff.mpr fun h0 =>
      Nat.ne_of_gt (Nat.two_pow_pos rem) (by rw [← hbl, h0]; rfl)
    unfold updateNode
    simp only [hbe, Bool.false_eq_true, ↓reduceIte]
    -- without writes the node stays; a single write may be settled by the shortcuts
    by_cases h0 : binTotal bins = 0
    · obtain rfl : ops = [] := List.length_eq_zero_iff.mp (by omega)
      rw [if_pos h0]
      exact ⟨db, .tip cur, rfl, by rw [applyE_nil_ops]; exact Arr.tip _ _ _ _ hcur, W.F_refl _ _⟩
    rw [if_neg h0]
    cases hs : singleResult c (c.sth - rem) bins cur with
    | some r =>
      obtain ⟨n, rfl, hn⟩ := singleResult_arr c hcur h (by omega) hb hs
      exact ⟨db, .tip n, rfl, Arr.tip _ _ _ _ hn, W.F_refl _ _⟩
    | none =>
      cases rem with
      | zero =>
        obtain rfl : d = dB := by omega
        obtain ⟨db', n, h1, h2, h3⟩ := hB pre db bins cur es ops hpre hcur h.he h.ho h.hue h.huo h.hev h.hov
          h.hie h.hia hb (fun he => h0 (by rw [htot, he]; rfl)) hs
        exact ⟨db', .tip n, h1, Arr.tip _ _ _ _ h2, h3⟩
      | succ rem =>
        obtain ⟨d, rfl⟩ : ∃ d', d = d' + 1 := ⟨rem + dB, by omega⟩
        obtain ⟨ln, rn, hk, hl, hr⟩ := splitNode_arr c hcur h.he h.hue hpre
        have hsplit : bins.length / 2 = 2 ^ rem := by rw [hbl, Nat.pow_succ]; omega
        obtain ⟨hbL, hbR⟩ := hb.take_drop
        obtain ⟨db1, tl, e1, a1, f1⟩ := ih rem (Nat.lt_succ_self _) d (pre ++ [false]) db _ ln _ _ (by omega)
          (by simp; omega) (by omega) hl h.goL hbL
        obtain ⟨db2, tr, e2, a2, f2⟩ := ih rem (Nat.lt_succ_self _) d (pre ++ [true]) db1 _ rn _ _ (by omega)
          (by simp; omega) (by omega)
          (ArrTip.frame W f1 (diverge_children pre false) (under_child h.hue true) hr) h.goR hbR
        obtain ⟨a, f⟩ := Arr.br_applyE h a1 f1 a2 f2
        refine ⟨db2, .br tl tr, ?_, a, f⟩
        have hdep : c.sth - rem = c.sth - (rem + 1) + 1 := by omega
        simp only [hk]
        rw [if_neg (by rw [hsplit]; exact Nat.ne_of_gt (Nat.two_pow_pos _))]
        simp only [e1, e2, hdep, LT.nodes, LT.depths]

/-- how the loop `updateNodes` continues after the nodes of the tree `t` were replaced by those of `t'` -/
def contNodes (x : St (NS × Nat)) (t' : LT) (dpt : Nat) : St (NS × Nat) :=
  match x with
  | (db2, .error e) => (db2, .error e)
  | (db2, .ok (rs, off)) => (db2, .ok ((t'.nodes ++ rs.1, t'.depths dpt ++ rs.2), off))

theorem contNodes_br (x : St (NS × Nat)) (tl tr : LT) (dpt : Nat) :
    contNodes (contNodes x tr (dpt + 1)) tl (dpt + 1) = contNodes x (.br tl tr) dpt := by
  obtain ⟨db2, r⟩ := x
  cases r with
  | error e => rfl
  | ok v => obtain ⟨rs, off⟩ := v; simp [contNodes, LT.nodes, LT.depths]

/-- **the loop over the nodes of a subtree arranges the updated entries** -/
theorem updateNodes_arr (hB : BottomOK c W lower height dB) :
    ∀ (T : LT) (rem d : Nat) (es : List Entry) (db : DB), Arr c.H (W.S db) rem d T es →
    ∀ (dpt : Nat) (pre : Bits) (ns : List Node) (hs : List Nat) (binsT binsRest : List (List KV)) (off : Nat)
      (ops : List Entry),
      rem = c.sth - dpt → dpt ≤ c.sth → pre.length = height + dpt → d = rem + dB → Below W d pre es ops →
      BinsOK rem binsT ops →
      ∃ db1 T', updateNodes c lower height (T.nodes ++ ns) (T.depths dpt ++ hs) db (binsT ++ binsRest) off =
          contNodes (updateNodes c lower height ns hs db1 binsRest (off + 2 ^ (c.sth - dpt))) T' dpt ∧
        Arr c.H (W.S db1) rem d T' (applyE es ops) ∧ W.F pre db db1 := by
  -- induction on the layout tree whose flattening heads the node list: a tip is one call of `updateNode` on its
  -- `2 ^ rem` bins; a branch is the left half, then the right half on the store the left half left (frame)
  intro T
  induction T with
  | tip n =>
    intro rem d es db hA dpt pre ns hs binsT binsRest off ops hrem hdpt hpre hrd h hb
    cases hA with
    | tip _ _ _ _ ht =>
      have hbl := hb.length
      obtain ⟨db1, t, e1, a1, f1⟩ := updateNode_arr c W lower height dB hB rem d pre db binsT n es ops (by omega)
        (by rw [hpre]; omega) hrd ht h hb
      refine ⟨db1, t, ?_, a1, f1⟩
      simp only [LT.nodes, LT.depths, List.cons_append, List.nil_append]
      rw [updateNodes, if_neg (by omega)]
      simp only
      rw [if_neg (by simp [hbl, hrem]), ← hrem, ← hbl, List.take_left, List.drop_left, e1, hbl]
      have : c.sth - rem = dpt := by omega
      simp only [this]
      rcases updateNodes c lower height ns hs db1 binsRest (off + 2 ^ rem) with ⟨db2, _ | ⟨rs, off'⟩⟩ <;> rfl
  | br l r ihl ihr =>
    intro rem d es db hA dpt pre ns hs binsT binsRest off ops hrem hdpt hpre hrd h hb
    cases hA with
    | br rem d _ _ _ al ar =>
      obtain ⟨bl, br, rfl, hbll, hbL, hbR⟩ := hb
      obtain ⟨db1, tl, e1, a1, f1⟩ := ihl rem d (goL es) db al (dpt + 1) (pre ++ [false]) (r.nodes ++ ns)
        (r.depths (dpt + 1) ++ hs) bl (br ++ binsRest) off (goL ops) (by omega) (by omega) (by simp; omega)
        (by omega) h.goL hbL
      obtain ⟨db2, tr, e2, a2, f2⟩ := ihr rem d (goR es) db1
        (Arr.frame W f1 (diverge_children pre false) (under_child h.hue true) ar) (dpt + 1) (pre ++ [true]) ns hs
        br binsRest (off + 2 ^ (c.sth - (dpt + 1))) (goR ops) (by omega) (by omega) (by simp; omega) (by omega)
        h.goR hbR
      obtain ⟨a, f⟩ := Arr.br_applyE h a1 f1 a2 f2
      refine ⟨db2, .br tl tr, ?_, a, f⟩
      simp only [LT.nodes, LT.depths, List.append_assoc]
      rw [e1, e2, contNodes_br, Nat.add_assoc, ← Nat.two_mul, ← Nat.pow_succ']
      congr 4
      omega

/-- **one stored level**: `updateSubtree` on a subtree arranging `es` stores and returns the collapsed layout tree of
`applyE es ops`; its root is the specification root of the updated entries. -/
theorem updateSubtree_level (c : Cfg) (W : World) (fuel height dB : Nat)
    (hB : BottomOK c W (updateSubtree c fuel) height dB)
    (hs : Aligned c height)
    (d : Nat) (T : LT) (es : List Entry) (db : DB) (rt : Bytes) (pre : Bits) (kvs : List KV) {ops : List Entry}
    (hops : kvs.map (opOf height) = ops) (hA : Arr c.H (W.S db) c.sth d T es) (hpre : pre.length = height)
    (hd : d = c.sth + dB) (h : Below W d pre es ops)
    (hk : ∀ kv ∈ kvs, height + c.sth ≤ 8 * kv.1.length) (hne : kvs ≠ []) :
    ∃ db1 T', updateSubtree c (fuel + 1) db kvs ⟨T.depths 0, rt, T.nodes⟩ height =
        (dbSet db1 (root c.H d (applyE es ops))
            (SubTree.encode ⟨T'.collapse.depths 0, root c.H d (applyE es ops), T'.collapse.nodes⟩),
          .ok ⟨T'.collapse.depths 0, root c.H d (applyE es ops), T'.collapse.nodes⟩) ∧
      Arr c.H (W.S db1) c.sth d T' (applyE es ops) ∧ W.F pre db db1 := by
  subst hops
  obtain ⟨ikvs, hbi, hbins⟩ := mkBins_ok c height kvs hs hk
  obtain ⟨db1, T', e1, a1, f1⟩ := updateNodes_arr c W (updateSubtree c fuel) height dB hB T c.sth d es db hA 0 pre [] []
    (mkBins c.maxNodes ikvs) [] 0 (kvs.map (opOf height)) (by omega) (by omega) (by simpa using hpre) hd h hbins
  refine ⟨db1, T', ?_, a1, f1⟩
  obtain ⟨hh, _⟩ := collapse_exp c.H d T' _ (wfe_applyE h.he h.ho) a1.exp
  rw [updateSubtree]
  rw [if_neg (by simpa [List.isEmpty_iff] using hne), hbi]
  simp only [List.append_nil] at e1
  simp only
  rw [e1]
  simp only [updateNodes, contNodes, List.append_nil]
  rw [if_neg (by simp [Cfg.maxNodes])]
  rw [maxStructure_depths, ok_bind, calculateSubTree_tree c.H T' a1.noTemp, newSubtreeFromData_tree, hh]

end LiskVerif.SMTImpl
