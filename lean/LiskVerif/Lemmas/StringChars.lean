/-
The characters of a string, in a form the kernel evaluates quickly.

A `String` is a UTF-8 byte array; `String.toList` decodes it position by position, which the kernel evaluates in
time quadratic in the length (every index access walks the array).  The texts of the regenerated tables are Go
source and all ASCII, where one byte is one character: `chars` reads the characters off the bytes in one pass
and falls back to `String.toList` otherwise, so `String.toList = chars` holds for every string.  Rewriting with it
before `decide +kernel` leaves the kernel the same check over the same table.
-/

namespace LiskVerif.Strings

def asciiChars (bs : List UInt8) : List Char := bs.map fun b => Char.ofNat b.toNat

def chars (s : String) : List Char :=
  if s.toByteArray.data.toList.all (· < 128) then asciiChars s.toByteArray.data.toList else s.toList

/-- an encoding without a byte ≥ 128 is the one-byte encoding, the code point itself -/
theorem asciiChars_utf8EncodeChar (c : Char) (h : (String.utf8EncodeChar c).all (· < 128) = true) :
    asciiChars (String.utf8EncodeChar c) = [c] := by
  by_cases h1 : c.val.toNat ≤ 127
  · have : String.utf8EncodeChar c = [UInt8.ofNat c.val.toNat] := by simp only [String.utf8EncodeChar, if_pos h1]
    rw [this]
    simp only [asciiChars, List.map, UInt8.toNat_ofNat']
    rw [Nat.mod_eq_of_lt (by omega)]
    simp
  · -- the first byte of a longer encoding is at least 0xc0
    simp only [String.utf8EncodeChar, if_neg h1] at h
    split at h
    · simp [UInt8.lt_iff_toNat_lt] at h
      omega
    · split at h <;> simp [UInt8.lt_iff_toNat_lt] at h <;> omega

theorem asciiChars_utf8Encode (l : List Char) (h : (l.flatMap String.utf8EncodeChar).all (· < 128) = true) :
    asciiChars (l.flatMap String.utf8EncodeChar) = l := by
  induction l with
  | nil => rfl
  | cons c l ih =>
    rw [List.flatMap_cons, List.all_append, Bool.and_eq_true] at h
    rw [List.flatMap_cons, asciiChars, List.map_append]
    show asciiChars _ ++ asciiChars _ = _
    rw [asciiChars_utf8EncodeChar c h.1, ih h.2]
    rfl

theorem toList_eq_chars : String.toList = chars := by
  funext s
  unfold chars
  split
  · rename_i h
    have hb : s.toByteArray.data.toList = s.toList.flatMap String.utf8EncodeChar := by
      rw [← String.utf8Encode_toList, List.utf8Encode, List.toList_data_toByteArray]
    rw [hb] at h ⊢
    exact (asciiChars_utf8Encode _ h).symm
  · rfl

end LiskVerif.Strings
