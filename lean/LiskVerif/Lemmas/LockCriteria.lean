/-
What follows from the lock criteria of `Model/Locks` evaluated once over a table of entry points, without
evaluating anything again: a weaker form of criterion (3) (`noBlockingHolding_of_blockingOnly`); the criteria
of the table in which some operations are calls that return (`criteria_erase`, `table_criteria_erase`, with the
entries and names of that table); deadlock and race freedom of any number of goroutines running paths of the
table's entry points (`table_deadlock_free`, `table_race_free`). One criterion, or one entry, is read off such
an evaluation by `criteria_iff` / `criteriaExceptBlocking_iff` (Lemmas/LockProgress) and `Tables.all_imp` /
`Tables.all_mem`.
-/
import LiskVerif.Lemmas.LockProgress
import LiskVerif.Lemmas.LockProv

namespace LiskVerif.Locks

open LiskVerif.Tables

variable {c : Cfg} {s : Skel}

/-! ## weaker forms of a criterion -/

/-- a function whose blocking operations happen with nothing held, or (the `allowed` ones) with mutexes among `mus`
only, has no blocking operation under a mutex `m` outside `mus` -/
theorem noBlockingHolding_of_blockingOnly {allowed mus : List String} {m : String}
    (hm : mus.contains m = false) :
    blockingOnly c allowed mus s = true → noBlockingHolding c m s = true := by
  unfold blockingOnly noBlockingHolding
  cases analyse c.tbl fuelDefault s with
  | none => exact id
  | some r =>
    refine fun h => all_imp h fun o ho => ?_
    obtain ⟨held, a⟩ := o
    cases a with
    | block w =>
      simp only [obsBlockingOnly, Bool.or_eq_true, Bool.and_eq_true, List.isEmpty_iff, List.all_eq_true] at ho
      simp only [obsNoBlockingHolding, holds, Bool.not_eq_true', List.any_eq_false, beq_iff_eq]
      intro e he hem
      rcases ho with rfl | ⟨_, hall⟩
      · cases he
      · rw [← hem, hall e he] at hm
        cases hm
    | _ => rfl

/-! ## entries of a table in which some operations are calls that return -/

/-- an entry of the table is, erased, an entry of the erased table (`200` is the fuel `Table.eraseBlockingCalls` gives
the erasure of one skeleton) -/
theorem mem_eraseBlockingCalls_filter {t : Table} {names : List String} {p : String → Bool} {f : String}
    (h : (f, s) ∈ t.filter (fun e => p e.1)) :
    (f, eraseBlockingCalls names 200 s) ∈ (t.eraseBlockingCalls names).filter (fun e => p e.1) := by
  rw [List.mem_filter] at h ⊢
  exact ⟨List.mem_map.mpr ⟨_, h.1, rfl⟩, h.2⟩

/-- erasing operations changes no name -/
theorem map_fst_eraseBlockingCalls_filter (t : Table) (names : List String) (p : String → Bool) :
    ((t.eraseBlockingCalls names).filter fun e => p e.1).map (·.1) = (t.filter fun e => p e.1).map (·.1) := by
  induction t with
  | nil => rfl
  | cons e t ih =>
    simp only [Table.eraseBlockingCalls, List.map_cons, List.filter_cons] at ih ⊢
    split <;> simp only [List.map_cons, ih]

/-! ## the criteria of a table in which some operations are calls that return

Erasing the operations only removes observations (`analyse_eraseBlockingCalls`), so the criteria of the erased
table follow from the criteria of the table as regenerated, criterion (3) up to these operations, and a look at
the erased skeletons: no possibly blocking operation of one of these names is left in them. -/

/-- no possibly blocking operation of the action is named in `names` -/
def noneNamed (names : List String) (a : Act) : Bool :=
  match primOf a with
  | some (.block w) => !names.contains w
  | _ => true

/-- A function that satisfies every criterion but (3), and (3) up to the operations `names` under the mutexes `mus`,
satisfies every criterion once these operations are erased, provided none of them is left in the erased table (a
channel of such a name, or a skeleton on which the fuel of the erasure runs out). -/
theorem criteria_erase {names mus : List String} {n d d' : Nat}
    (hT : (c.tbl.eraseBlockingCalls names).all (fun e => actsAll (noneNamed names) d e.2) = true)
    (hs : actsAll (noneNamed names) d' (eraseBlockingCalls names n s) = true)
    (h1 : C20.criteriaExceptBlocking c s = true) (h2 : blockingOnly c names mus s = true) :
    criteria ⟨c.tbl.eraseBlockingCalls names, c.guards, c.order⟩ (eraseBlockingCalls names n s) = true := by
  simp only [criteria, deadlockCriteria, C20.criteriaExceptBlocking, wellFormed, noReentrantAcquire, lockOrderOk,
    locksetOk, noBlockingInCS, blockingOnly] at h1 h2 ⊢
  cases ha : analyse c.tbl fuelDefault s with
  | none => simp [ha] at h2
  | some r =>
    obtain ⟨obs, ends⟩ := r
    obtain ⟨obs', ha', hsub⟩ := analyse_eraseBlockingCalls names c.tbl n s ha
    -- what is still observed at a blocking operation is not one of `names`, so it was admitted with nothing held
    have hok := analyse_ok (P := fun p => ∀ w, p = .block w → names.contains w = false)
      (fun _ => ⟨fun _ => nofun, fun _ => nofun, fun _ => nofun⟩)
      (fun a p ha hp w hw => by
        subst hw
        simpa only [noneNamed, hp, Bool.not_eq_true'] using ha) hT hs ha'
    simp only [ha, ha', Bool.and_eq_true, List.all_eq_true] at h1 h2 ⊢
    obtain ⟨⟨⟨⟨w1, w2⟩, w3⟩, w4⟩, w5⟩ := h1
    -- the other criteria pass on the observations that are left
    refine ⟨⟨⟨⟨⟨fun o ho => w1 o (hsub ho), w2⟩, fun o ho => w3 o (hsub ho)⟩, fun o ho => w4 o (hsub ho)⟩,
      fun o ho => ?_⟩, fun o ho => w5 o (hsub ho)⟩
    have hb := h2 o (hsub ho)
    obtain ⟨h, p⟩ := o
    cases p with
    | block w =>
      simp only [obsBlockingOnly, hok _ ho w rfl, Bool.false_and, Bool.or_false] at hb
      exact hb
    | _ => rfl

/-- the same for the entry points of a table picked out by name -/
theorem table_criteria_erase {names mus : List String} {d : Nat} {p : String → Bool}
    (hT : (c.tbl.eraseBlockingCalls names).all (fun e => actsAll (noneNamed names) d e.2) = true)
    (h1 : (c.tbl.filter fun e => p e.1).all (fun e => C20.criteriaExceptBlocking c e.2) = true)
    (h2 : (c.tbl.filter fun e => p e.1).all (fun e => blockingOnly c names mus e.2) = true) :
    ((c.tbl.eraseBlockingCalls names).filter fun e => p e.1).all
      (fun e => criteria ⟨c.tbl.eraseBlockingCalls names, c.guards, c.order⟩ e.2) = true :=
  List.all_eq_true.mpr fun e he => by
    obtain ⟨he, hp⟩ := List.mem_filter.mp he
    obtain ⟨e0, he0, rfl⟩ := List.mem_map.mp he
    have hm : e0 ∈ c.tbl.filter fun e => p e.1 := List.mem_filter.mpr ⟨he0, hp⟩
    exact criteria_erase hT (all_mem hT he) (all_mem h1 hm) (all_mem h2 hm)

/-! ## any number of goroutines running paths of a table's entry points -/

/-- each goroutine runs a path of an entry point of a table whose entries satisfy the criteria -/
theorem table_deadlock_free (c : Cfg) (t : Table) (h : t.all (fun e => criteria c e.2) = true)
    (u : Nat) (ps : List Path) (hps : ∀ p ∈ ps, ∃ e ∈ t, IsThreadPath c.tbl u e.2 p)
    (st : State) (hr : Reachable (initState ps) st) :
    deadlocked st = false ∧ (quiescent st = true ∨ ∃ i, canStepInternal st i = true) :=
  invocations_deadlock_free c u ps (fun p hp =>
    have ⟨_, he, hpath⟩ := hps p hp
    single_invocation ⟨(Bool.and_eq_true _ _ ▸ all_mem h he).1, hpath⟩) st hr

theorem table_race_free (c : Cfg) (t : Table) (h : t.all (fun e => criteria c e.2) = true)
    (u : Nat) (ps : List Path) (hps : ∀ p ∈ ps, ∃ e ∈ t, IsThreadPath c.tbl u e.2 p)
    (st : State) (hr : Reachable (initState ps) st) (i j : Nat) : raceAt st i j = false :=
  invocations_race_free c u ps (fun p hp =>
    have ⟨_, he, hpath⟩ := hps p hp
    have hc := criteriaExceptBlocking_iff.mp (criteria_iff.mp (all_mem h he)).1
    single_invocation ⟨⟨hc.1, hc.2.2.2⟩, hpath⟩) st hr i j

end LiskVerif.Locks
