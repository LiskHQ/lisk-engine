/-
The work list of `CalculateRoot` (Model/SMTVerify.lean) as an ordered list: the order of `QueryProofs.sort`
(`qpLe a b := !(qpLess b a)`) is reflexive, transitive and total, `collection.BinarySearch` on a sorted list finds the insertion point, and keys
between two keys with a common bit prefix share that prefix — hence `insertAndMergeQueries` keeps the work list
sorted with pairwise different positions (`QInv`).
-/
import LiskVerif.Model.SMTVerify
import LiskVerif.Lemmas.SMT
import LiskVerif.Lemmas.Sort
import LiskVerif.Lemmas.Order
import LiskVerif.Lemmas.Collection

namespace LiskVerif.SMTVerify
open LiskVerif LiskVerif.SMT

theorem toBools_eq (b : Bytes) : toBools b = keyBits b := rfl

theorem toBools_length (b : Bytes) : (toBools b).length = 8 * b.length := keyBits_length b

/-! ### lexicographic order on bit strings and byte strings -/

def bitsLe : Bits → Bits → Bool
  | a :: as, b :: bs => if a = b then bitsLe as bs else (!a && b)
  | _, _ => true

def bitsLt : Bits → Bits → Bool
  | a :: as, b :: bs => if a = b then bitsLt as bs else (!a && b)
  | _, _ => false

theorem bitsLe_refl : ∀ (a : Bits), bitsLe a a = true
  | [] => rfl
  | _ :: r => by simp only [bitsLe, ↓reduceIte, bitsLe_refl r]

theorem bitsLe_append_same : ∀ (p s t : Bits), bitsLe (p ++ s) (p ++ t) = bitsLe s t
  | [], _, _ => rfl
  | a :: p, s, t => by simp only [List.cons_append, bitsLe, ↓reduceIte, bitsLe_append_same p s t]

theorem bitsLe_append_of_lt : ∀ (p q s t : Bits), bitsLt p q = true → bitsLe (p ++ s) (q ++ t) = true
  | [], _, _, _, h => by simp [bitsLt] at h
  | _ :: _, [], _, _, h => by simp [bitsLt] at h
  | a :: p, b :: q, s, t, h => by
    simp only [bitsLt] at h
    simp only [List.cons_append, bitsLe]
    split
    · next hab => simp only [hab, ↓reduceIte] at h; exact bitsLe_append_of_lt p q s t h
    · next hab => simpa [hab] using h

theorem bitsLe_take : ∀ (h : Nat) (a b : Bits), bitsLe a b = true → bitsLe (a.take h) (b.take h) = true
  | 0, _, _, _ => by simp [bitsLe]
  | _ + 1, [], _, _ => by simp [bitsLe]
  | _ + 1, _ :: _, [], _ => by simp [bitsLe]
  | h + 1, x :: as, y :: bs, hab => by
    simp only [bitsLe] at hab
    simp only [List.take_succ_cons, bitsLe]
    split
    · next hxy => rw [if_pos hxy] at hab; exact bitsLe_take h as bs hab
    · next hxy => rw [if_neg hxy] at hab; exact hab

theorem bitsLe_antisymm : ∀ (a b : Bits), a.length = b.length → bitsLe a b = true → bitsLe b a = true → a = b
  | [], [], _, _, _ => rfl
  | [], _ :: _, hl, _, _ => by simp at hl
  | _ :: _, [], hl, _, _ => by simp at hl
  | x :: as, y :: bs, hl, h1, h2 => by
    simp only [bitsLe] at h1 h2
    by_cases hxy : x = y
    · subst hxy
      simp only [↓reduceIte] at h1 h2
      rw [bitsLe_antisymm as bs (by simpa using hl) h1 h2]
    · have hyx : ¬ y = x := fun h => hxy h.symm
      simp only [hxy, hyx, ↓reduceIte, Bool.and_eq_true, Bool.not_eq_eq_eq_not, Bool.not_true] at h1 h2
      exact absurd (h1.2.symm.trans h2.1) (by decide)

/-- the `k` low bits of `n`, most significant first -/
def bitsOf : Nat → Nat → Bits
  | 0, _ => []
  | k + 1, n => n.testBit k :: bitsOf k n

theorem bitsOf_mod (k n : Nat) : ∀ j, j ≤ k → bitsOf j (n % 2 ^ k) = bitsOf j n
  | 0, _ => rfl
  | j + 1, h => by
    simp only [bitsOf, Nat.testBit_mod_two_pow, show j < k from h, decide_true, Bool.true_and,
      bitsOf_mod k n j (Nat.le_of_succ_le h)]

/-- numbers below `2 ^ k` are ordered as their `k` bits -/
theorem bitsOf_lt : ∀ (k x y : Nat), y < 2 ^ k → x < y → bitsLt (bitsOf k x) (bitsOf k y) = true
  | 0, x, y, hy, hxy => by simp at hy; omega
  | k + 1, x, y, hy, hxy => by
    have top : ∀ z, z < 2 ^ (k + 1) → z.testBit k = decide (2 ^ k ≤ z) := by
      intro z hz
      by_cases h : 2 ^ k ≤ z
      · rw [Nat.testBit_eq_decide_div_mod_eq, Nat.div_eq_of_lt_le (k := 1) (by omega) (by rw [Nat.pow_succ] at hz; omega)]
        simp [h]
      · rw [Nat.testBit_lt_two_pow (by omega)]; simp [h]
    have low : ∀ z, 2 ^ k ≤ z → z < 2 ^ (k + 1) → bitsOf k z = bitsOf k (z - 2 ^ k) := by
      intro z h1 h2
      rw [← bitsOf_mod k z k (Nat.le_refl _), Nat.mod_eq_sub_mod h1, Nat.mod_eq_of_lt (by rw [Nat.pow_succ] at h2; omega)]
    rw [Nat.pow_succ] at hy
    simp only [bitsOf, bitsLt, top x (by rw [Nat.pow_succ]; omega), top y (by rw [Nat.pow_succ]; omega)]
    by_cases hx : 2 ^ k ≤ x
    · have hy' : 2 ^ k ≤ y := by omega
      simp only [hx, hy', decide_true, ↓reduceIte]
      rw [low x hx (by rw [Nat.pow_succ]; omega), low y hy' (by rw [Nat.pow_succ]; omega)]
      exact bitsOf_lt k _ _ (by omega) (by omega)
    · by_cases hy' : 2 ^ k ≤ y
      · simp [hx, hy']
      · simp only [hx, hy', decide_false, ↓reduceIte]
        exact bitsOf_lt k x y (by omega) hxy

theorem byteBits_lt {x y : UInt8} (h : x < y) : bitsLt (byteBits x) (byteBits y) = true :=
  bitsOf_lt 8 x.toNat y.toNat y.toNat_lt (UInt8.lt_iff_toNat_lt.mp h)

/-- keys of one length in `bytes.Compare` order have their bits in lexicographic order (this direction only) -/
theorem bitsLe_of_ble : ∀ (a b : Bytes), a.length = b.length → ble a b = true →
    bitsLe (keyBits a) (keyBits b) = true
  | [], _, _, _ => by simp [keyBits, bitsLe]
  | _ :: _, [], hl, _ => by simp at hl
  | x :: as, y :: bs, hl, h => by
    have hl' : as.length = bs.length := by simpa using hl
    simp only [ble, bcmp] at h
    simp only [keyBits]
    by_cases h1 : x < y
    · exact bitsLe_append_of_lt _ _ _ _ (byteBits_lt h1)
    · by_cases h2 : y < x
      · simp [h1, h2] at h
      · have hxy : x = y := u8_eq_of_not_lt h1 h2
        subst hxy
        simp only [h1, ↓reduceIte] at h
        rw [bitsLe_append_same]
        exact bitsLe_of_ble as bs hl' h

/-- **prefix squeeze**: a key between two keys (in `bytes.Compare` order, all of one length) that share their
first `h` bits shares them too -/
theorem key_squeeze (h : Nat) (a b c : Bytes) (hab : a.length = b.length) (hbc : b.length = c.length)
    (h1 : ble a b = true) (h2 : ble b c = true) (ht : (toBools a).take h = (toBools c).take h) :
    (toBools b).take h = (toBools a).take h := by
  have l1 := bitsLe_take h _ _ (bitsLe_of_ble a b hab h1)
  have l2 := bitsLe_take h _ _ (bitsLe_of_ble b c hbc h2)
  simp only [toBools_eq] at *
  rw [← ht] at l2
  exact bitsLe_antisymm _ _ (by simp [keyBits_length, hab]) l2 l1

/-! ### the order of `QueryProofs.sort` -/

def qpLe (a b : QP) : Bool := !(qpLess b a)

theorem sortQPs_eq (l : List QP) : sortQPs l = isort qpLe l := rfl

theorem blt_iff_not_ble (a b : Bytes) : blt a b = true ↔ ble b a = false := by
  rw [← not_blt_eq_ble b a]; cases blt a b <;> simp

theorem qpLess_iff (a b : QP) :
    qpLess a b = true ↔ a.height > b.height ∨ (a.height = b.height ∧ blt a.key b.key = true) := by
  unfold qpLess
  by_cases h : a.height = b.height
  · simp [h]
  · simp [h]

theorem qpLe_iff (a b : QP) :
    qpLe a b = true ↔ a.height > b.height ∨ (a.height = b.height ∧ ble a.key b.key = true) := by
  unfold qpLe
  rw [Bool.not_eq_true', ← Bool.not_eq_true, qpLess_iff, blt_iff_not_ble]
  by_cases h : a.height = b.height
  · simp [h]
  · have h' : ¬ b.height = a.height := fun e => h e.symm
    simp only [h, h', false_and, or_false, gt_iff_lt]
    omega

theorem qpLe_refl (a : QP) : qpLe a a = true := by
  rw [qpLe_iff]; right; exact ⟨rfl, by simp [ble, bcmp_self]⟩

theorem qpLe_trans (a b c : QP) (h1 : qpLe a b = true) (h2 : qpLe b c = true) : qpLe a c = true := by
  rw [qpLe_iff] at *
  rcases h1 with h1 | ⟨h1, k1⟩ <;> rcases h2 with h2 | ⟨h2, k2⟩
  · left; omega
  · left; omega
  · left; omega
  · right; exact ⟨by omega, ble_trans _ _ _ k1 k2⟩

theorem qpLe_total (a b : QP) : (qpLe a b || qpLe b a) = true := by
  rw [Bool.or_eq_true, qpLe_iff, qpLe_iff]
  by_cases h : a.height = b.height
  · have := ble_total a.key b.key
    rw [Bool.or_eq_true] at this
    rcases this with t | t
    · exact Or.inl (Or.inr ⟨h, t⟩)
    · exact Or.inr (Or.inr ⟨h.symm, t⟩)
  · by_cases h' : a.height > b.height
    · exact Or.inl (Or.inl h')
    · exact Or.inr (Or.inl (by omega))

theorem qpLess_of_less_le (a b c : QP) (h1 : qpLess a b = true) (h2 : qpLe b c = true) : qpLess a c = true := by
  rw [qpLess_iff] at *
  rw [qpLe_iff] at h2
  rcases h1 with h1 | ⟨h1, k1⟩ <;> rcases h2 with h2 | ⟨h2, k2⟩
  · left; omega
  · left; omega
  · left; omega
  · right; exact ⟨by omega, blt_of_blt_of_ble _ _ _ k1 k2⟩

theorem qpLe_of_qpLess (a b : QP) (h : qpLess a b = true) : qpLe a b = true := by
  rw [qpLess_iff] at h
  rw [qpLe_iff]
  rcases h with h | ⟨h, k⟩
  · exact Or.inl h
  · right
    refine ⟨h, ?_⟩
    have := (blt_iff_not_ble _ _).mp k
    have t := ble_total a.key b.key
    simp [this] at t
    exact t

theorem qpLe_of_not_qpLess (a b : QP) (h : qpLess a b = false) : qpLe b a = true := by
  simp [qpLe, h]

theorem sortQPs_sorted (l : List QP) : (sortQPs l).Pairwise (fun a b => qpLe a b = true) :=
  isort_pairwise qpLe qpLe_trans qpLe_total l

/-! ### `collection.BinarySearch` -/

/-- the search loop of `Model/SMTVerify` (half-open `lo`) is the loop of `collection.BinarySearch` (`low = lo - 1`) -/
theorem binarySearchLoop_eq_bsLoop {α : Type} (less : α → Bool) (l : List α) (dflt : α) :
    ∀ (fuel lo hi : Nat), lo ≤ hi → hi ≤ l.length →
      Collection.binarySearchLoop l less fuel ((lo : Int) - 1) hi = .ok ((bsLoop less l dflt fuel lo hi : Nat) : Int)
  | 0, _, _, _, _ => rfl
  | fuel + 1, lo, hi, hlo, hhi => by
    rw [Collection.binarySearchLoop, bsLoop]
    by_cases h : lo < hi
    · have hmid : (lo : Int) - 1 + ((hi : Int) - ((lo : Int) - 1)) / 2 = ((lo + (hi - lo + 1) / 2 - 1 : Nat) : Int) := by omega
      have hm : lo + (hi - lo + 1) / 2 - 1 < l.length := by omega
      simp only [if_pos h, if_pos (show 1 + ((lo : Int) - 1) < hi by omega), hmid,
        if_neg (Int.not_lt.mpr (Int.natCast_nonneg _)), Int.toNat_natCast, List.getElem?_eq_getElem hm,
        List.getD_eq_getElem?_getD, Option.getD_some]
      split
      · exact binarySearchLoop_eq_bsLoop less l dflt fuel lo _ (by omega) (by omega)
      · have := binarySearchLoop_eq_bsLoop less l dflt fuel (lo + (hi - lo + 1) / 2 - 1 + 1) hi (by omega) hhi
        rwa [Int.natCast_add, Int.natCast_one, Int.add_sub_cancel] at this
    · rw [if_neg h, if_neg (show ¬ 1 + ((lo : Int) - 1) < hi by omega)]

theorem binarySearch_eq_collection {α : Type} (less : α → Bool) (l : List α) (dflt : α) :
    Collection.binarySearch l less = .ok ((binarySearch less l dflt : Nat) : Int) := by
  have := binarySearchLoop_eq_bsLoop less l dflt (l.length + 1) 0 l.length (Nat.zero_le _) (Nat.le_refl _)
  rwa [Int.natCast_zero, Int.zero_sub] at this

/-- on a list on which `less` is monotone (false … false true … true) the binary search returns the boundary -/
theorem binarySearch_spec {α : Type} (less : α → Bool) (l : List α) (dflt : α)
    (mono : ∀ i j (hi : i < l.length) (hj : j < l.length), i < j → less l[i] = true → less l[j] = true) :
    binarySearch less l dflt ≤ l.length ∧
    (∀ x ∈ l.take (binarySearch less l dflt), less x = false) ∧
    (∀ x ∈ l.drop (binarySearch less l dflt), less x = true) := by
  obtain ⟨r, hr, hle, htrue, hfalse⟩ := Collection.binarySearch_boundary l less
  obtain rfl : r = binarySearch less l dflt := by
    have := (binarySearch_eq_collection less l dflt).symm.trans hr
    injection this with this; exact (Int.natCast_inj.mp this).symm
  refine ⟨hle, fun x hx => ?_, fun x hx => ?_⟩
  · -- an element before the boundary that passes would make the one just before the boundary pass
    obtain ⟨i, hi, rfl⟩ := List.mem_take_iff_getElem.mp hx
    have hi' : i < binarySearch less l dflt := by omega
    have hlast : binarySearch less l dflt - 1 < l.length := by omega
    cases h : less l[i] with
    | false => rfl
    | true =>
      have := hfalse _ (by omega) (List.getElem?_eq_getElem hlast)
      by_cases he : i = binarySearch less l dflt - 1
      · subst he; rw [h] at this; cases this
      · rw [mono i _ (by omega) hlast (by omega) h] at this; cases this
  · obtain ⟨i, hi, rfl⟩ := List.mem_drop_iff_getElem.mp hx
    have hb : binarySearch less l dflt < l.length := by omega
    have := htrue _ (List.getElem?_eq_getElem hb)
    cases i with
    | zero => simpa using this
    | succ i => exact mono _ _ hb (by omega) (by omega) this

/-! ### the binary search of `insertAndMergeQueries` / `insertAndFilterQueries` -/

theorem searchPos_less (q : QP) (val : QP) :
    ((q.height == val.height && blt q.key val.key) || decide (q.height > val.height)) = qpLess q val := by
  rw [Bool.eq_iff_iff, qpLess_iff]
  simp only [Bool.or_eq_true, Bool.and_eq_true, beq_iff_eq, decide_eq_true_eq]
  exact or_comm

theorem searchPos_eq (q : QP) (qs : List QP) : searchPos q qs = binarySearch (qpLess q) qs q := by
  unfold searchPos
  congr 1
  funext val
  exact searchPos_less q val

/-- in a list sorted by the order of `QueryProofs.sort` (of query proofs, or of anything that has one: `f`) the
binary search for `q` returns an index with the queries up to `q` before it and the queries from `q` on behind -/
theorem search_spec {α : Type} (f : α → QP) {l : List α} (hs : l.Pairwise (fun a b => qpLe (f a) (f b) = true))
    (q : QP) (d : α) {i : Nat} (hi : i = binarySearch (fun v => qpLess q (f v)) l d) :
    i ≤ l.length ∧ (∀ x ∈ l.take i, qpLe (f x) q = true) ∧ (∀ x ∈ l.drop i, qpLe q (f x) = true) := by
  obtain ⟨hle, hA, hB⟩ := binarySearch_spec (fun v => qpLess q (f v)) l d
    (fun i j hi hj hij h => qpLess_of_less_le _ _ _ h (List.pairwise_iff_getElem.mp hs i j hi hj hij))
  rw [← hi] at hle hA hB
  exact ⟨hle, fun x hx => qpLe_of_not_qpLess _ _ (hA x hx), fun x hx => qpLe_of_qpLess _ _ (hB x hx)⟩

theorem mem_insertAt {α : Type} (l : List α) (i : Nat) (a x : α) : x ∈ insertAt l i a ↔ x = a ∨ x ∈ l := by
  unfold insertAt
  conv => rhs; rw [← List.take_append_drop i l]
  simp only [List.mem_append, List.mem_cons]
  exact or_left_comm

theorem pairwise_insertAt {α : Type} {R : α → α → Prop} {l : List α} {i : Nat} {a : α} (hl : l.Pairwise R)
    (h1 : ∀ x ∈ l.take i, R x a) (h2 : ∀ x ∈ l.drop i, R a x) : (insertAt l i a).Pairwise R := by
  rw [← List.take_append_drop i l, List.pairwise_append] at hl
  unfold insertAt
  rw [List.pairwise_append, List.pairwise_cons]
  refine ⟨hl.1, ⟨h2, hl.2.1⟩, ?_⟩
  intro x hx y hy
  rcases List.mem_cons.mp hy with rfl | hy
  · exact h1 x hx
  · exact hl.2.2 x hx y hy

theorem insertAt_length {α : Type} (l : List α) (i : Nat) (a : α) : (insertAt l i a).length = l.length + 1 := by
  unfold insertAt
  simp only [List.length_append, List.length_cons, List.length_take, List.length_drop]
  omega

/-! ### `insertAndMergeQueries` -/

/-- the test `insertAndMerge` makes on the query at index `i` of the list: `some true` = same node, `some false` =
clash, `none` = another position -/
def mergeCheck (q : QP) (qs : List QP) (i : Nat) : Option Bool :=
  match qs[i]? with
  | none => none
  | some o => if q.binaryPath = o.binaryPath then some (q.hash = o.hash && q.bm = o.bm) else none

theorem insertAndMerge_eq (q : QP) (qs : List QP) :
    insertAndMerge q qs =
      match (if searchPos q qs = 0 then none else mergeCheck q qs (searchPos q qs - 1)) with
      | some true => some qs
      | some false => none
      | none =>
        match mergeCheck q qs (searchPos q qs) with
        | some true => some qs
        | some false => none
        | none => some (insertAt qs (searchPos q qs) q) := rfl

theorem mergeCheck_cases (q : QP) (qs : List QP) (i : Nat) :
    (mergeCheck q qs i = none ∧ ∀ e, qs[i]? = some e → e.binaryPath ≠ q.binaryPath) ∨
    ∃ e ∈ qs, e.binaryPath = q.binaryPath ∧ mergeCheck q qs i = some (decide (e.hash = q.hash ∧ e.bm = q.bm)) := by
  unfold mergeCheck
  cases h : qs[i]? with
  | none => exact Or.inl ⟨rfl, fun e he => by cases he⟩
  | some o =>
    by_cases hp : q.binaryPath = o.binaryPath
    · exact Or.inr ⟨o, List.mem_of_getElem? h, hp.symm, by simp [hp, eq_comm]⟩
    · exact Or.inl ⟨by simp [hp], fun e he => by cases he; exact fun h' => hp h'.symm⟩

/-- `insertAndMerge` either finds a query of the same position among the two neighbours of the binary-search
position — and succeeds, leaving the list as it is, iff that query has the same node hash and bitmap — or inserts
the query there -/
theorem insertAndMerge_cases (q : QP) (qs : List QP) :
    (∃ e ∈ qs, e.binaryPath = q.binaryPath ∧
      insertAndMerge q qs = if e.hash = q.hash ∧ e.bm = q.bm then some qs else none) ∨
    (insertAndMerge q qs = some (insertAt qs (searchPos q qs) q) ∧
      (searchPos q qs = 0 ∨ ∀ e, qs[searchPos q qs - 1]? = some e → e.binaryPath ≠ q.binaryPath) ∧
      (∀ e, qs[searchPos q qs]? = some e → e.binaryPath ≠ q.binaryPath)) := by
  rw [insertAndMerge_eq]
  generalize searchPos q qs = idx
  have found : ∀ {e : QP} {k : Option (List QP)},
      (match some (decide (e.hash = q.hash ∧ e.bm = q.bm)) with
        | some true => some qs | some false => none | none => k) =
      if e.hash = q.hash ∧ e.bm = q.bm then some qs else none := by
    intro e k; by_cases hc : e.hash = q.hash ∧ e.bm = q.bm <;> simp [hc]
  have first : ((if idx = 0 then none else mergeCheck q qs (idx - 1)) = none ∧
        (idx = 0 ∨ ∀ e, qs[idx - 1]? = some e → e.binaryPath ≠ q.binaryPath)) ∨
      ∃ e ∈ qs, e.binaryPath = q.binaryPath ∧
        (if idx = 0 then none else mergeCheck q qs (idx - 1)) = some (decide (e.hash = q.hash ∧ e.bm = q.bm)) := by
    by_cases h0 : idx = 0
    · exact Or.inl ⟨if_pos h0, Or.inl h0⟩
    · rw [if_neg h0]
      exact (mergeCheck_cases q qs (idx - 1)).imp (fun h => ⟨h.1, Or.inr h.2⟩) id
  rcases first with ⟨hn, h1⟩ | ⟨e, he, hp, hs⟩
  · rw [hn]
    rcases mergeCheck_cases q qs idx with ⟨hn', hne⟩ | ⟨e, he, hp, hs⟩
    · exact Or.inr ⟨by rw [hn'], h1, hne⟩
    · exact Or.inl ⟨e, he, hp, by rw [hs, found]⟩
  · exact Or.inl ⟨e, he, hp, by rw [hs, found]⟩

/-- what `insertAndMerge` returns: the list unchanged when a query of the same position, node hash and bitmap is
there, or the query inserted at the binary-search position when neither neighbour has its position -/
theorem insertAndMerge_some {q : QP} {qs res : List QP} (h : insertAndMerge q qs = some res) :
    (res = qs ∧ ∃ e ∈ qs, e.binaryPath = q.binaryPath ∧ e.hash = q.hash ∧ e.bm = q.bm) ∨
    (res = insertAt qs (searchPos q qs) q ∧
      (searchPos q qs = 0 ∨ ∀ e, qs[searchPos q qs - 1]? = some e → e.binaryPath ≠ q.binaryPath) ∧
      (∀ e, qs[searchPos q qs]? = some e → e.binaryPath ≠ q.binaryPath)) := by
  rcases insertAndMerge_cases q qs with ⟨e, he, hp, heq⟩ | ⟨heq, h12⟩
  · rw [heq] at h
    split at h
    · next hc => exact Or.inl ⟨(Option.some.inj h).symm, e, he, hp, hc⟩
    · cases h
  · exact Or.inr ⟨(Option.some.inj (heq.symm.trans h)).symm, h12⟩

/-! ### the invariant of the work list of `CalculateRoot` -/

/-- keys of the tree's key length, heights within the key, sorted as `QueryProofs.sort` sorts, pairwise different
positions -/
structure QInv (keyLen : Nat) (qs : List QP) : Prop where
  klen : ∀ q ∈ qs, q.key.length = keyLen
  hle : ∀ q ∈ qs, q.height ≤ 8 * keyLen
  sorted : qs.Pairwise (fun a b => qpLe a b = true)
  distinct : qs.Pairwise (fun a b => a.binaryPath ≠ b.binaryPath)

theorem binaryPath_length {keyLen : Nat} {q : QP} (hk : q.key.length = keyLen) (hh : q.height ≤ 8 * keyLen) :
    q.binaryPath.length = q.height := by
  unfold QP.binaryPath QP.binaryKey toBools
  rw [List.length_take, keyBits_length, hk]
  omega

theorem QInv.sublist {keyLen : Nat} {qs qs' : List QP} (h : QInv keyLen qs) (hs : qs'.Sublist qs) : QInv keyLen qs' :=
  ⟨fun q hq => h.klen q (hs.subset hq), fun q hq => h.hle q (hs.subset hq), h.sorted.sublist hs, h.distinct.sublist hs⟩

theorem QInv.tail {keyLen : Nat} {a : QP} {qs : List QP} (h : QInv keyLen (a :: qs)) : QInv keyLen qs :=
  h.sublist (List.sublist_cons_self a qs)

/-- in sort order a query that is not higher than the next has its height, and a key not above -/
theorem ble_of_qpLe {a b : QP} (h : qpLe a b = true) (hh : a.height ≤ b.height) :
    a.height = b.height ∧ ble a.key b.key = true := by
  rw [qpLe_iff] at h
  rcases h with h | h
  · omega
  · exact h

theorem height_ge_of_qpLe {a b : QP} (hle : qpLe a b = true) : b.height ≤ a.height := by
  rw [qpLe_iff] at hle
  rcases hle with h | ⟨h, _⟩ <;> omega

/-- the first query of a sorted list is not behind any query of the list -/
theorem qpLe_head {α : Type} (f : α → QP) {a : α} {l : List α}
    (hs : (a :: l).Pairwise (fun x y => qpLe (f x) (f y) = true)) {x : α} (hx : x ∈ a :: l) :
    qpLe (f a) (f x) = true := by
  rcases List.mem_cons.mp hx with rfl | h
  · exact qpLe_refl _
  · exact (List.pairwise_cons.mp hs).1 x h

theorem height_le_head {a : QP} {l : List QP} (hs : (a :: l).Pairwise (fun x y => qpLe x y = true)) {x : QP}
    (hx : x ∈ a :: l) : x.height ≤ a.height :=
  height_ge_of_qpLe (qpLe_head id hs hx)

/-- a query between (in sort order) two queries of one position has that position -/
theorem squeeze_path {keyLen : Nat} {a b c : QP} (ha : a.key.length = keyLen) (hb : b.key.length = keyLen)
    (hc : c.key.length = keyLen) (h1 : qpLe a b = true) (h2 : qpLe b c = true) (hh : a.height = c.height)
    (hp : a.binaryPath = c.binaryPath) : b.binaryPath = a.binaryPath := by
  have g1 := height_ge_of_qpLe h1
  have g2 := height_ge_of_qpLe h2
  obtain ⟨e1, k1⟩ := ble_of_qpLe h1 (by omega)
  obtain ⟨e2, k2⟩ := ble_of_qpLe h2 (by omega)
  unfold QP.binaryPath QP.binaryKey at *
  rw [← e1]
  rw [← hh] at hp
  exact key_squeeze a.height a.key b.key c.key (by rw [ha, hb]) (by rw [hb, hc]) k1 k2 hp

theorem qpLe_getElem {qs : List QP} (hs : qs.Pairwise (fun a b => qpLe a b = true)) :
    ∀ i j (hi : i < qs.length) (hj : j < qs.length), i ≤ j → qpLe qs[i] qs[j] = true := by
  intro i j hi hj hij
  by_cases he : i = j
  · subst he; exact qpLe_refl _
  · exact List.pairwise_iff_getElem.mp hs i j hi hj (by omega)

/-- when neither neighbour of the insertion point has the position of the query, no query of the list has it -/
theorem no_same_path {keyLen : Nat} {qs : List QP} (hinv : QInv keyLen qs) {q : QP} (hk : q.key.length = keyLen)
    (hh : q.height ≤ 8 * keyLen)
    (h1 : searchPos q qs = 0 ∨ ∀ e, qs[searchPos q qs - 1]? = some e → e.binaryPath ≠ q.binaryPath)
    (h2 : ∀ e, qs[searchPos q qs]? = some e → e.binaryPath ≠ q.binaryPath) :
    ∀ e ∈ qs, e.binaryPath ≠ q.binaryPath := by
  obtain ⟨hle, hA, hB⟩ := search_spec id hinv.sorted q q (searchPos_eq q qs)
  generalize searchPos q qs = idx at *
  intro e he hp
  have hhe : e.height = q.height := by
    rw [← binaryPath_length (hinv.klen e he) (hinv.hle e he), hp, binaryPath_length hk hh]
  rw [← List.take_append_drop idx qs, List.mem_append] at he
  rcases he with he | he
  · -- `e ≤ qs[idx - 1] ≤ q`
    obtain ⟨j, hj, hje⟩ := List.mem_take_iff_getElem.mp he
    have hlt : idx - 1 < qs.length := by omega
    have hle1 : qpLe e qs[idx - 1] = true := by
      rw [← hje]; exact qpLe_getElem hinv.sorted j (idx - 1) (by omega) hlt (by omega)
    have := squeeze_path (hinv.klen e (by rw [← hje]; exact List.getElem_mem _))
      (hinv.klen _ (List.getElem_mem hlt)) hk hle1
      (hA _ (List.mem_take_iff_getElem.mpr ⟨idx - 1, by omega, rfl⟩)) hhe hp
    rcases h1 with h1 | h1
    · omega
    · exact h1 _ (List.getElem?_eq_getElem hlt) (this.trans hp)
  · -- `q ≤ qs[idx] ≤ e`
    obtain ⟨i, hi, hie⟩ := List.mem_drop_iff_getElem.mp he
    have hlt : idx < qs.length := by omega
    have hle2 : qpLe qs[idx] e = true := by
      rw [← hie]; exact qpLe_getElem hinv.sorted idx (idx + i) hlt (by omega) (by omega)
    exact h2 _ (List.getElem?_eq_getElem hlt) (squeeze_path hk (hinv.klen _ (List.getElem_mem hlt))
      (hinv.klen e (by rw [← hie]; exact List.getElem_mem _))
      (hB _ (List.mem_drop_iff_getElem.mpr ⟨0, by simpa using hlt, by simp⟩)) hle2 hhe.symm hp.symm)

/-- `insertAndMerge` keeps the invariant; the result holds a query with the position and node hash of the
inserted one, and every query of the list -/
theorem insertAndMerge_inv {keyLen : Nat} {qs res : List QP} (hinv : QInv keyLen qs) {q : QP}
    (hk : q.key.length = keyLen) (hh : q.height ≤ 8 * keyLen) (h : insertAndMerge q qs = some res) :
    QInv keyLen res ∧ (∀ x ∈ qs, x ∈ res) ∧
      ∃ e ∈ res, e.binaryPath = q.binaryPath ∧ e.hash = q.hash ∧ e.height = q.height := by
  rcases insertAndMerge_some h with ⟨hres, e, he, hp, hhash, hbm⟩ | ⟨hres, h1, h2⟩
  · subst hres
    exact ⟨hinv, fun x hx => hx, e, he, hp, hhash, by unfold QP.height; rw [hbm]⟩
  · have hno := no_same_path hinv hk hh h1 h2
    obtain ⟨-, hA, hB⟩ := search_spec id hinv.sorted q q (searchPos_eq q qs)
    subst hres
    refine ⟨⟨?_, ?_, pairwise_insertAt hinv.sorted hA hB, pairwise_insertAt hinv.distinct
        (fun x hx => hno x (List.mem_of_mem_take hx)) (fun x hx e => hno x (List.mem_of_mem_drop hx) e.symm)⟩,
      fun x hx => (mem_insertAt _ _ _ _).mpr (Or.inr hx), q, (mem_insertAt _ _ _ _).mpr (Or.inl rfl), rfl, rfl, rfl⟩
    · intro x hx
      rcases (mem_insertAt _ _ _ _).mp hx with rfl | hx
      · exact hk
      · exact hinv.klen x hx
    · intro x hx
      rcases (mem_insertAt _ _ _ _).mp hx with rfl | hx
      · exact hh
      · exact hinv.hle x hx

/-! ### order of positions -/

/-- queries of one height in sort order have their positions in lexicographic order -/
theorem path_le_of_qpLe {keyLen : Nat} {a b : QP} (ha : a.key.length = keyLen) (hb : b.key.length = keyLen)
    (hh : a.height = b.height) (hle : qpLe a b = true) : bitsLe a.binaryPath b.binaryPath = true := by
  unfold QP.binaryPath QP.binaryKey toBools
  rw [hh]
  exact bitsLe_take _ _ _ (bitsLe_of_ble _ _ (by rw [ha, hb]) (ble_of_qpLe hle (by omega)).2)

end LiskVerif.SMTVerify
