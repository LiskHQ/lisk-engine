/-
The two predicates in which the invariant of the node store is stated (`Stored` in `RMTStore`, the field `stored` of
`C11.Built`): `proper n layer k` — the node `(layer, k)` of a tree of `n` leaves is stored: a leaf, or a block whose right
half is not empty — and `blk l layer k`, the leaves below it. Both are written with `2 ^ _`, and their form is the one this
notation has with Mathlib in scope (the power of `Monoid ℕ`); that is why they stand in a module that imports Mathlib.
Nothing else of Mathlib is used here or in the modules above. The theory of nodes and blocks is developed without Mathlib,
in `RMTLayers`, for the same predicates over core's `Nat` power (`properCore`, `blkCore`: every lemma `proper_*`, `blk_*`,
`*_blk` is about those), because the single-proof theorems of Props/C11 import no Mathlib. `proper_eq` and `blk_eq` say that
the two spellings agree; `Stored_iff` in `RMTStore` is the one place where a proof crosses from one to the other.
-/
import LiskVerif.Lemmas.RMTLayers
import Mathlib.Tactic.Ring
import Mathlib.Tactic.Linarith

namespace LiskVerif.RMT

/-- a node `(layer, k)` that is stored: a leaf, or a block whose right half is not empty -/
def proper (n layer k : Nat) : Prop :=
  (layer = 0 ∧ k < n) ∨ (1 ≤ layer ∧ (2 * k + 1) * 2 ^ (layer - 1) < n)

instance (n l k : Nat) : Decidable (proper n l k) := by unfold proper; exact inferInstance

/-- the leaves below the node `(layer, k)` -/
def blk (l : List Bytes) (layer k : Nat) : List Bytes := (l.drop (k * 2 ^ layer)).take (2 ^ layer)

theorem proper_eq (n layer k : Nat) : proper n layer k ↔ properCore n layer k := Iff.rfl

theorem blk_eq (l : List Bytes) (layer k : Nat) : blk l layer k = blkCore l layer k := rfl

end LiskVerif.RMT
