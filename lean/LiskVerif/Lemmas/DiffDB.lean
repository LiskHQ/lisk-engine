/-
Lemmas for the diffdb model: the lookups as `AList.get`, the database's scans, the staged-store
operations in closed form, the snapshot table after one step and tables related entry by entry
(`TabRel`), what reads do to the overlay.
-/
import LiskVerif.Model.DiffDB
import LiskVerif.Lemmas.Sort
import LiskVerif.Lemmas.AList

namespace LiskVerif.DiffDB

/-! ### the lookups of the model are `AList.get` -/

/-- the model's equations test `written key = looked-up key`, those of `AList` the converse -/
theorem ite_key_comm {κ α : Type} [DecidableEq κ] (k k' : κ) (a b : α) :
    (if k' = k then a else b) = if k = k' then a else b :=
  ite_congr (propext eq_comm) (fun _ => rfl) fun _ => rfl

theorem slookup_eq_get : slookup = AList.get := by
  funext l k; induction l <;> simp only [slookup, AList.get, *]

theorem clookup_eq_get : clookup = AList.get := by
  funext l k; induction l <;> simp only [clookup, AList.get, *]

theorem findSnap_eq_get : findSnap = AList.get := by
  funext l k; induction l <;> simp only [findSnap, AList.get, *]

@[simp] theorem slookup_sset (s : Store) (k v k' : Bytes) :
    slookup (sset s k v) k' = if k = k' then some v else slookup s k' := by
  rw [slookup_eq_get]; exact (AList.get_put s k v k').trans (ite_key_comm ..)

@[simp] theorem slookup_sdel (s : Store) (k k' : Bytes) :
    slookup (sdel s k) k' = if k = k' then none else slookup s k' := by
  rw [slookup_eq_get]; exact (AList.get_erase s k k').trans (ite_key_comm ..)

@[simp] theorem clookup_cput (c : Cache) (k : Bytes) (v : CV) (k' : Bytes) :
    clookup (cput c k v) k' = if k = k' then some v else clookup c k' := by
  rw [clookup_eq_get]; exact (AList.get_put c k v k').trans (ite_key_comm ..)

@[simp] theorem clookup_cerase (c : Cache) (k k' : Bytes) :
    clookup (cerase c k) k' = if k = k' then none else clookup c k' := by
  rw [clookup_eq_get]; exact (AList.get_erase c k k').trans (ite_key_comm ..)

def NoDupKeys {β : Type} (l : List (Bytes × β)) : Prop := (l.map (·.1)).Nodup

/-- the same notion as `AList.NodupKeys`, which the lemmas about `AList.get` ask for -/
theorem NoDupKeys.alist {β : Type} {l : List (Bytes × β)} (h : NoDupKeys l) : AList.NodupKeys l := h

theorem nodup_filter {β : Type} (l : List (Bytes × β)) (p : Bytes × β → Bool) (h : NoDupKeys l) :
    NoDupKeys (l.filter p) :=
  h.alist.filter p

theorem nodup_put {β : Type} (l : List (Bytes × β)) (k : Bytes) (v : β) (h : NoDupKeys l) :
    NoDupKeys ((k, v) :: l.filter (fun e => e.1 ≠ k)) :=
  h.alist.put k v

theorem nodup_sset (s : Store) (k v : Bytes) (h : NoDupKeys s) : NoDupKeys (sset s k v) :=
  nodup_put s k v h

theorem nodup_sdel (s : Store) (k : Bytes) (h : NoDupKeys s) : NoDupKeys (sdel s k) :=
  nodup_filter s _ h

/-- membership in an association list with distinct keys is lookup -/
theorem slookup_iff_mem (s : Store) (h : NoDupKeys s) (k v : Bytes) :
    slookup s k = some v ↔ (k, v) ∈ s := by
  rw [slookup_eq_get]; exact AList.get_iff_mem h.alist

theorem clookup_iff_mem (c : Cache) (h : NoDupKeys c) (k : Bytes) (v : CV) :
    clookup c k = some v ↔ (k, v) ∈ c := by
  rw [clookup_eq_get]; exact AList.get_iff_mem h.alist

/-- two stores holding the same value under every key -/
def SameMap (s s' : Store) : Prop := ∀ k, slookup s k = slookup s' k

theorem SameMap.sset {s s' : Store} (h : SameMap s s') (k v : Bytes) : SameMap (sset s k v) (sset s' k v) := by
  intro k'; simp [h k']

theorem SameMap.sdel {s s' : Store} (h : SameMap s s') (k : Bytes) : SameMap (sdel s k) (sdel s' k) := by
  intro k'; simp [h k']

/-! ### `filterMap` on association lists -/

section
variable {β γ : Type} (g : Bytes → β → Option γ)

theorem keys_filterMap_sublist (l : List (Bytes × β)) :
    ((l.filterMap fun e => (g e.1 e.2).map (e.1, ·)).map (·.1)).Sublist (l.map (·.1)) := by
  induction l with
  | nil => exact .slnil
  | cons e r ih =>
    rw [List.filterMap_cons]
    cases g e.1 e.2 with
    | none => exact ih.cons _
    | some x => exact ih.cons_cons _

theorem nodup_filterMap {l : List (Bytes × β)} (h : NoDupKeys l) :
    NoDupKeys (l.filterMap fun e => (g e.1 e.2).map (e.1, ·)) :=
  (keys_filterMap_sublist g l).nodup h

theorem get_filterMap {l : List (Bytes × β)} (h : NoDupKeys l) (k : Bytes) :
    AList.get (l.filterMap fun e => (g e.1 e.2).map (e.1, ·)) k = (AList.get l k).bind (g k) := by
  induction l with
  | nil => rfl
  | cons e r ih =>
    have hr := List.nodup_cons.mp h
    rw [List.filterMap_cons, AList.get_cons]
    by_cases hk : e.1 = k
    · subst hk
      rw [if_pos rfl, Option.bind_some]
      cases hg : g e.1 e.2 with
      | some x => simp [AList.get]
      | none =>
        exact AList.get_eq_none_iff.mpr fun hm =>
          hr.1 ((keys_filterMap_sublist g r).subset hm)
    · rw [if_neg hk, ← ih hr.2]
      cases g e.1 e.2 with
      | some x => simp [AList.get, hk]
      | none => rfl

theorem mem_filterMap_assoc {l : List (Bytes × β)} (h : NoDupKeys l) (k : Bytes) (v : γ) :
    (k, v) ∈ (l.filterMap fun e => (g e.1 e.2).map (e.1, ·)) ↔
      ∃ b, AList.get l k = some b ∧ g k b = some v := by
  rw [← AList.get_iff_mem (nodup_filterMap g h).alist, get_filterMap g h, Option.bind_eq_some_iff]

end

/-! ### the scans of the database -/

theorem mem_sortDir (l : List KV) (rev : Bool) (e : KV) : e ∈ sortDir l rev ↔ e ∈ l := by
  unfold sortDir; cases rev <;> simp [mem_isort]

theorem applyLimit_neg {α : Type} (l : List α) : applyLimit l (-1) = l := rfl

theorem applyLimit_nat {α : Type} (l : List α) (n : Nat) : applyLimit l n = l.take n :=
  if_neg (Int.not_lt.mpr (Int.natCast_nonneg n))

/-! ### the staged-store operations in closed form -/

theorem cput_cput (c : Cache) (k : Bytes) (a b : CV) : cput (cput c k a) k b = cput c k b := by
  simp [cput, List.filter_filter]

/-- the entry `Set k v` leaves, from the entry `o` the overlay holds under `k` and the persisted value -/
def setEntry (o : Option CV) (old : Option Bytes) (v : Bytes) : CV :=
  match o with
  | some cv => { cv with deleted := false, dirty := true, value := v }
  | none =>
    match old with
    | some v0 => { init := some v0, value := v, dirty := true, deleted := false }
    | none => { init := none, value := v, dirty := false, deleted := false }

/-- the entry `Del k` leaves, if any -/
def delEntry (o : Option CV) (old : Option Bytes) : Option CV :=
  match o with
  | some cv =>
    match cv.init with
    | none => none
    | some _ => some { cv with deleted := true }
  | none =>
    match old with
    | some v0 => some { init := some v0, value := v0, dirty := false, deleted := true }
    | none => none

theorem setEntry_spec (o : Option CV) (old : Option Bytes) (v : Bytes) :
    (setEntry o old v).value = v ∧ (setEntry o old v).deleted = false := by
  unfold setEntry; cases o with
  | some _ => exact ⟨rfl, rfl⟩
  | none => cases old <;> exact ⟨rfl, rfl⟩

/-- `Del` leaves a tombstone that keeps the dirty flag -/
theorem delEntry_spec {o : Option CV} {old : Option Bytes} {e : CV} (h : delEntry o old = some e) :
    e.deleted = true ∧ e.dirty = o.elim false (·.dirty) := by
  unfold delEntry at h
  cases o with
  | some cv =>
    obtain ⟨i, v, d, dl⟩ := cv
    cases i with
    | none => cases h
    | some i => cases h; exact ⟨rfl, rfl⟩
  | none =>
    cases old with
    | none => cases h
    | some v0 => cases h; exact ⟨rfl, rfl⟩

theorem get_eq (st : St) (k : Bytes) :
    get st k =
      ({ st with cache := match clookup st.cache k with
                          | some _ => st.cache
                          | none => (ensureCache st k).1 }, eff st k) := by
  unfold get eff effC ensureCache
  cases clookup st.cache k with
  | some cv => dsimp only; split <;> rfl
  | none => cases slookup st.store k <;> rfl

theorem set_eq (st : St) (k v : Bytes) :
    set st k v =
      { st with cache := cput st.cache k (setEntry (clookup st.cache k) (slookup st.store k) v) } := by
  unfold set ensureCache setEntry
  cases hc : clookup st.cache k with
  | some o => simp only [cset, hc]
  | none =>
    cases slookup st.store k with
    | some v0 => simp only [cset, ccache, clookup_cput, if_true, cput_cput]
    | none => rfl

theorem del_eq (st : St) (k : Bytes) :
    del st k =
      { st with cache := match delEntry (clookup st.cache k) (slookup st.store k) with
                         | some e => cput st.cache k e
                         | none => cerase st.cache k } := by
  unfold del ensureCache delEntry
  cases hc : clookup st.cache k with
  | some o => simp only [cdel, hc]; cases o.init <;> rfl
  | none =>
    cases slookup st.store k with
    | some v0 => simp only [cdel, ccache, clookup_cput, if_true, cput_cput]
    | none =>
      simp only [cdel, hc, cerase]
      rw [List.filter_eq_self.mpr fun e he => by
        simpa using fun hk => AList.get_eq_none_iff.mp (clookup_eq_get ▸ hc) (List.mem_map.mpr ⟨e, he, hk⟩)]

/-- the operations that leave the snapshot table and the counter alone: reads and point writes -/
def Op.keepsSnaps : Op → Bool
  | .snapshot | .restore _ | .deleteSnapshot _ => false
  | _ => true

/-- reads and point writes change the overlay only -/
theorem step_frame (st : St) (op : Op) (h : op.keepsSnaps = true) :
    (step st op).store = st.store ∧ (step st op).snaps = st.snaps ∧
      (step st op).snapCount = st.snapCount := by
  cases op with
  | get k => rw [step, get_eq]; exact ⟨rfl, rfl, rfl⟩
  | set k v => rw [step, set_eq]; exact ⟨rfl, rfl, rfl⟩
  | del k => rw [step, del_eq]; exact ⟨rfl, rfl, rfl⟩
  | range _ _ _ _ | iterate _ _ _ => exact ⟨rfl, rfl, rfl⟩
  | _ => cases h

theorem restore_frame (st : St) (id : Nat) :
    (restore st id).1.store = st.store ∧ (restore st id).1.snapCount = st.snapCount := by
  unfold restore; split <;> exact ⟨rfl, rfl⟩

/-- `RestoreSnapshot` by what the table holds under the id -/
theorem restore_of_some {st : St} {id : Nat} {c : Cache} (h : findSnap st.snaps id = some c) :
    restore st id = ({ st with cache := c, snaps := st.snaps.filter fun e => e.1 ≠ id }, true) := by
  simp only [restore, h]

theorem restore_of_none {st : St} {id : Nat} (h : findSnap st.snaps id = none) :
    restore st id = (st, false) := by
  simp only [restore, h]

/-- the staged store never writes to the database before `Commit` -/
theorem step_store (st : St) (op : Op) : (step st op).store = st.store := by
  cases op with
  | restore id => exact (restore_frame st id).1
  | snapshot | deleteSnapshot _ => rfl
  | _ => exact (step_frame st _ rfl).1

theorem run_store (st : St) (ops : List Op) : (run st ops).store = st.store :=
  List.foldlRecOn (motive := fun t : St => t.store = st.store) ops _ rfl fun s h op _ => (step_store s op).trans h

/-! ### the snapshot table after one step -/

theorem findSnap_filter_ne (l : List (Nat × Cache)) (id' id : Nat) :
    findSnap (l.filter (fun e => e.1 ≠ id')) id = if id' = id then none else findSnap l id := by
  rw [findSnap_eq_get]; exact (AList.get_erase l id' id).trans (ite_key_comm ..)

theorem mem_of_findSnap {l : List (Nat × Cache)} {id : Nat} {c : Cache} (h : findSnap l id = some c) :
    (id, c) ∈ l :=
  AList.mem_of_get (findSnap_eq_get ▸ h)

theorem step_snaps (st : St) (op : Op) :
    (step st op).snaps =
      match op with
      | .snapshot => (st.snapCount, st.cache) :: st.snaps
      | .restore id =>
        if (findSnap st.snaps id).isSome then st.snaps.filter (fun e => e.1 ≠ id) else st.snaps
      | .deleteSnapshot id => st.snaps.filter (fun e => e.1 ≠ id)
      | _ => st.snaps := by
  cases op with
  | restore id => simp only [step, restore]; cases findSnap st.snaps id <;> rfl
  | snapshot | deleteSnapshot _ => rfl
  | _ => exact (step_frame st _ rfl).2.1

theorem snapCount_step (st : St) (op : Op) :
    (step st op).snapCount = match op with | .snapshot => st.snapCount + 1 | _ => st.snapCount := by
  cases op with
  | restore id => exact (restore_frame st id).2
  | snapshot | deleteSnapshot _ => rfl
  | _ => exact (step_frame st _ rfl).2.2

theorem snapCount_le_run (ops : List Op) (st : St) : st.snapCount ≤ (run st ops).snapCount :=
  List.foldlRecOn (motive := fun t : St => st.snapCount ≤ t.snapCount) ops _ (Nat.le_refl _)
    fun s h op _ => Nat.le_trans h (by
      rw [snapCount_step]; cases op <;> first | exact Nat.le_refl _ | exact Nat.le_succ _)

/-- the same as a lookup: `RestoreSnapshot` and `DeleteSnapshot` remove the id, `Snapshot` adds the
counter as the new id, nothing else changes the table -/
theorem findSnap_step (st : St) (op : Op) (id : Nat) :
    findSnap (step st op).snaps id =
      match op with
      | .snapshot => if st.snapCount = id then some st.cache else findSnap st.snaps id
      | .restore i => if i = id then none else findSnap st.snaps id
      | .deleteSnapshot i => if i = id then none else findSnap st.snaps id
      | _ => findSnap st.snaps id := by
  rw [step_snaps]
  cases op with
  | restore i =>
    dsimp only
    cases hf : findSnap st.snaps i with
    | some c => exact findSnap_filter_ne _ _ _
    | none =>
      show findSnap st.snaps id = _
      by_cases hi : i = id
      · rw [if_pos hi, ← hi, hf]
      · rw [if_neg hi]
  | deleteSnapshot i => exact findSnap_filter_ne _ _ _
  | _ => rfl

/-! ### snapshot tables related entry by entry -/

/-- the two tables hold the same ids, and under each id entries related by `R` -/
def TabRel {α β : Type} (R : α → β → Prop) (l : List (Nat × α)) (l' : List (Nat × β)) : Prop :=
  ∀ id, (AList.get l id = none ∧ AList.get l' id = none) ∨
    ∃ a b, AList.get l id = some a ∧ AList.get l' id = some b ∧ R a b

namespace TabRel
variable {α β : Type} {R : α → β → Prop} {l : List (Nat × α)} {l' : List (Nat × β)}

theorem nil : TabRel R ([] : List (Nat × α)) ([] : List (Nat × β)) := fun _ => Or.inl ⟨rfl, rfl⟩

theorem cons (h : TabRel R l l') (n : Nat) {a : α} {b : β} (hab : R a b) :
    TabRel R ((n, a) :: l) ((n, b) :: l') := by
  intro id
  rw [AList.get, AList.get]
  by_cases hn : n = id
  · rw [if_pos hn, if_pos hn]; exact Or.inr ⟨a, b, rfl, rfl, hab⟩
  · rw [if_neg hn, if_neg hn]; exact h id

theorem erase (h : TabRel R l l') (n : Nat) :
    TabRel R (l.filter fun e => e.1 ≠ n) (l'.filter fun e => e.1 ≠ n) := by
  intro id
  rw [AList.get_erase, AList.get_erase]
  by_cases hn : id = n
  · rw [if_pos hn, if_pos hn]; exact Or.inl ⟨rfl, rfl⟩
  · rw [if_neg hn, if_neg hn]; exact h id

theorem isSome (h : TabRel R l l') (id : Nat) :
    (AList.get l id).isSome = (AList.get l' id).isSome := by
  rcases h id with ⟨h1, h2⟩ | ⟨a, b, h1, h2, _⟩ <;> rw [h1, h2] <;> rfl

theorem refl {R : α → α → Prop} (hR : ∀ a, R a a) (l : List (Nat × α)) : TabRel R l l := by
  intro id
  cases h : AList.get l id with
  | none => exact Or.inl ⟨rfl, rfl⟩
  | some a => exact Or.inr ⟨a, a, rfl, rfl, hR a⟩

end TabRel

/-! ### what reads do to the overlay -/

/-- `c'` holds what `c` holds and, under keys `c` does not have, entries that mirror the store `s`:
all that `Get`, `Range` and `Iterate` do to the overlay -/
def Mirrors (s : Store) (c c' : Cache) : Prop :=
  ∀ k, clookup c' k = clookup c k ∨
    clookup c k = none ∧ ∃ v, slookup s k = some v ∧ clookup c' k = some ⟨some v, v, false, false⟩

theorem Mirrors.refl (s : Store) (c : Cache) : Mirrors s c c := fun _ => Or.inl rfl

theorem Mirrors.trans {s : Store} {c c1 c2 : Cache} (h1 : Mirrors s c c1) (h2 : Mirrors s c1 c2) :
    Mirrors s c c2 := by
  intro k
  rcases h2 k with e2 | ⟨n2, v, hs, e2⟩
  · rw [e2]; exact h1 k
  · rcases h1 k with e1 | ⟨_, _, _, e1⟩
    · exact Or.inr ⟨e1 ▸ n2, v, hs, e2⟩
    · rw [e1] at n2; cases n2

theorem mirrors_ccache {s : Store} {c : Cache} {k v : Bytes} (hc : clookup c k = none)
    (hs : slookup s k = some v) : Mirrors s c (ccache c k v) := by
  intro k'
  rw [ccache, clookup_cput]
  by_cases hk : k = k'
  · subst hk; rw [if_pos rfl]; exact Or.inr ⟨hc, v, hs, rfl⟩
  · rw [if_neg hk]; exact Or.inl rfl

theorem Mirrors.present {s : Store} {c c' : Cache} (h : Mirrors s c c') {k : Bytes}
    (hk : clookup c k ≠ none) : clookup c' k ≠ none := by
  rcases h k with e | ⟨n, _⟩
  · rwa [e]
  · exact absurd n hk

/-- the effective map does not see mirror entries -/
theorem Mirrors.effC {s : Store} {c c' : Cache} (h : Mirrors s c c') (k : Bytes) :
    effC s c' k = effC s c k := by
  unfold DiffDB.effC
  rcases h k with e | ⟨n, v, hs, e⟩
  · rw [e]
  · rw [e, n, hs]; rfl

/-- `Get` adds at most a mirror entry to the overlay, and keeps its keys distinct -/
theorem get_cache (st : St) (k : Bytes) :
    Mirrors st.store st.cache (get st k).1.cache ∧ (NoDupKeys st.cache → NoDupKeys (get st k).1.cache) := by
  rw [get_eq, ensureCache]
  cases hc : clookup st.cache k with
  | some cv => exact ⟨Mirrors.refl _ _, id⟩
  | none =>
    cases hs : slookup st.store k with
    | none => exact ⟨Mirrors.refl _ _, id⟩
    | some v => exact ⟨mirrors_ccache hc hs, nodup_put _ _ _⟩

theorem absorb_cons (c : Cache) (k v : Bytes) (r : List KV) :
    absorb c ((k, v) :: r) =
      match clookup c k with
      | some cv => if cv.deleted then absorb c r else ((absorb c r).1, (k, cv.value) :: (absorb c r).2)
      | none => ((absorb (ccache c k v) r).1, (k, v) :: (absorb (ccache c k v) r).2) := by
  rw [absorb]; rfl

/-- the loop over the scanned store entries: the overlay gains only mirror entries and keeps its keys
distinct, every scanned key is in it afterwards, and every entry put out is a scanned key with its
effective value -/
theorem absorb_spec {s : Store} (l : List KV) (hl : ∀ e ∈ l, slookup s e.1 = some e.2) : ∀ c : Cache,
    Mirrors s c (absorb c l).1 ∧ (NoDupKeys c → NoDupKeys (absorb c l).1) ∧
      (∀ e ∈ l, clookup (absorb c l).1 e.1 ≠ none) ∧
      ∀ e ∈ (absorb c l).2, effC s c e.1 = some e.2 ∧ ∃ e0 ∈ l, e0.1 = e.1 := by
  induction l with
  | nil =>
    exact fun c => ⟨Mirrors.refl s c, fun h => h, fun _ h => absurd h List.not_mem_nil,
      fun _ h => absurd h List.not_mem_nil⟩
  | cons e0 r ih =>
    intro c
    have hs := hl e0 List.mem_cons_self
    have ihr := ih fun e he => hl e (List.mem_cons_of_mem _ he)
    have lift : ∀ {e : KV}, (∃ e1 ∈ r, e1.1 = e.1) → ∃ e1 ∈ e0 :: r, e1.1 = e.1 :=
      fun ⟨e1, h1, h2⟩ => ⟨e1, List.mem_cons_of_mem _ h1, h2⟩
    rw [absorb_cons]
    cases hc : clookup c e0.1 with
    | some cv =>
      obtain ⟨m, nd, cov, out⟩ := ihr c
      have cov' : ∀ e ∈ e0 :: r, clookup (absorb c r).1 e.1 ≠ none := fun e he => by
        rcases List.mem_cons.mp he with rfl | he'
        · exact m.present (by rw [hc]; exact Option.some_ne_none cv)
        · exact cov e he'
      dsimp only
      split
      · exact ⟨m, nd, cov', fun e he => (out e he).imp_right lift⟩
      · next hd =>
        refine ⟨m, nd, cov', fun e he => ?_⟩
        rcases List.mem_cons.mp he with rfl | he'
        · exact ⟨by simp [effC, hc, hd], e0, List.mem_cons_self, rfl⟩
        · exact (out e he').imp_right lift
    | none =>
      obtain ⟨m, nd, cov, out⟩ := ihr (ccache c e0.1 e0.2)
      have m0 := mirrors_ccache hc hs
      refine ⟨m0.trans m, fun h => nd (nodup_put _ _ _ h), fun e he => ?_, fun e he => ?_⟩
      · rcases List.mem_cons.mp he with rfl | he'
        · exact m.present (by rw [ccache, clookup_cput, if_pos rfl]; exact Option.some_ne_none _)
        · exact cov e he'
      · rcases List.mem_cons.mp he with rfl | he'
        · exact ⟨by simp [effC, hc, hs], e0, List.mem_cons_self, rfl⟩
        · rw [← m0.effC]; exact (out e he').imp_right lift

/-- over a database with distinct keys, a scan adds only mirror entries to the overlay and keeps the
keys of the overlay distinct -/
theorem scan_cache (st : St) (hnd : NoDupKeys st.store) (f : Bytes → Bool) (limit : Int) (rev : Bool) :
    Mirrors st.store st.cache (scan st f limit rev).1.cache ∧
      (NoDupKeys st.cache → NoDupKeys (scan st f limit rev).1.cache) :=
  have h := absorb_spec _ (fun _ he => (slookup_iff_mem _ hnd _ _).mpr
    (List.mem_filter.mp ((mem_sortDir _ _ _).mp he)).1) st.cache
  ⟨h.1, h.2.1⟩

end LiskVerif.DiffDB
