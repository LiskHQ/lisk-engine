/-
Histories of the node model, and the volatile keys:

* `Executer.process` is a (state dependent) sequence of `processValidated` / `deleteBlock` calls:
  every operation sequence has the same effect as a sequence of *primitive* operations
  (`flat`), also on the ghost chain and on the hypotheses `RunOK`;
* the *effect trace* of a history (`trace`): which blocks were applied (with which flags), which
  were removed; what one primitive operation does to a refined state (`Prim`), histories as sequences of
  such steps (`Reach`): finalized height, event log, ghost chain, temporary blocks and `Trans` are read off
  the trace by one induction each; finalized blocks stay members of the ghost chain;
* the volatile keys, exactly: what `processValidated` and `deleteBlock` do to the finalized-height
  marker, temporary blocks, old state diffs and prunable events;
* `deleteBlock ∘ processValidated` on the database, key by key (`roundTrip_lookup`, `roundTrip_exact`,
  `roundTrip_no_raise`); from a refined state `deleteBlock` of the tip always goes through (`delete_succeeds`);
* operation sequences in which every call succeeds (`Succ`);
* which keys of a new block can be in use: a base database with nothing above its tip (`BaseClean`), and the
  hypothesis `StepOK.fresh` as a statement about transaction ids (`fresh_iff_no_shared_tx`).
-/
import LiskVerif.Lemmas.NodeTrans

namespace LiskVerif.Node
open LiskVerif LiskVerif.DiffDB

/-! ### the volatile keys under `processValidated` -/

theorem inRange_events_le {m h : Nat} (hm : m < u32) (hh : h < u32)
    (hr : inRange (kEvents 0) (kEvents m) (kEvents h) = true) : h ≤ m := by
  unfold inRange at hr
  simp only [Bool.and_eq_true] at hr
  exact (ble_cons_encU32 9 hh hm).mp hr.2

/-- a key in the pruning range of a block holds nothing after the block was applied -/
theorem pruned_none (cd : Codecs) (cfg : Cfg) (db : Store) (fin : Nat) (b : Block) (x : Exec) (rt : Bool)
    (hnd : NoDupKeys x.overlay) (hs : ∀ e ∈ x.overlay, e.1.head? = some pState)
    (hb : b.hdr.height < u32) (hnf : max fin x.mhpc < b.hdr.height) (k : Bytes)
    (hp : Pruned cfg b.hdr.height (max fin x.mhpc) k) :
    slookup (applyDb cd cfg db fin b x rt) k = none := by
  have hhead := hp.head
  have hns : ¬ isStateKey k := not_state_of_head hhead
  have hbs : bval (blockSetOps b x.events) k = none := by
    apply bval_blockSet_none cd
    intro hk
    rcases (mem_removedKeys b k).mp hk with h | h | h | ⟨_, ⟨t, _, h⟩ | h⟩ | ⟨_, h⟩ | h <;>
      first
      | (rw [h] at hhead; simp [kDiff, kHeader, kHeight, kTx, kTxs, kAssets] at hhead; done)
      | skip
    -- the event key of the block itself is above the pruning bound
    have hbound : eventPruneBound cfg b.hdr.height (max fin x.mhpc) ≤ max fin x.mhpc := by
      unfold eventPruneBound; omega
    have := inRange_events_le (by omega) hb (h ▸ hp.2.2)
    omega
  rw [applyDb_lookup_all cd cfg db fin b x rt hnd k, bval_applyOps, hbs, stateVal_none_of_not_state _ hs k hns,
    if_neg (not_tempSeg hhead), if_neg (ne_of_head hhead kFin_head), if_neg (ne_of_head hhead (kDiff_head _)),
    if_neg (not_diffPruneSeg hhead)]
  by_cases hl : slookup db k = none
  · rw [if_neg fun h => h.2 hl, hl]; rfl
  · rw [if_pos ⟨hp, hl⟩]; rfl

theorem allKeys_not_vol {b : Block} {f : Nat} (hb : b.hdr.height < u32) (hf : f < b.hdr.height)
    {k : Bytes} (hk : k ∈ allKeys b) : ¬ Vol f k := by
  rcases (mem_allKeys b k).mp hk with h | h | h | h | h | h | ⟨t, _, h⟩
  · rw [h]; exact kDiff_not_vol hb (by omega)
  · rw [h]; exact kHeader_not_vol f _
  · rw [h]; exact kHeight_not_vol f _
  · rw [h]; exact kTxs_not_vol f _
  · rw [h]; exact kAssets_not_vol f _
  · rw [h]
    intro hv
    rcases hv with h1 | h1 | ⟨h1, _⟩ | ⟨m, hm, h2⟩
    · simp [kEvents, kFin] at h1
    · simp [kEvents] at h1
    · simp [kEvents] at h1
    · have := inRange_events_le (by omega) hb h2
      omega
  · rw [← h]; exact kTx_not_vol f _

/-! ### flattening an operation sequence -/

/-- the primitive operations one operation consists of -/
def primOps (cd : Codecs) (cfg : Cfg) (slot : Slot) (s : St) : Op → List Op
  | .process i => processOps cd cfg slot s i
  | .apply b v x rt => [.apply b v x rt]
  | .deleteTip st => [.deleteTip st]
  | .restart => [.restart]
  | .clearTemp => [.clearTemp]

/-- the primitive operations (`processValidated`, `deleteBlock`, `PrepareCache`,
`ClearTempBlocks`) a history consists of -/
def flat (cd : Codecs) (cfg : Cfg) (slot : Slot) : St → List Op → List Op
  | _, [] => []
  | s, op :: r => primOps cd cfg slot s op ++ flat cd cfg slot (step cd cfg slot s op) r

theorem primOps_prim (cd : Codecs) (cfg : Cfg) (slot : Slot) (s : St) (op : Op) :
    ∀ o ∈ primOps cd cfg slot s op, o.prim := by
  cases op with
  | process i => exact processOps_prim cd cfg slot s i
  | _ => intro o ho; simp only [primOps, List.mem_cons, List.not_mem_nil, or_false] at ho; subst ho; trivial

theorem flat_prim (cd : Codecs) (cfg : Cfg) (slot : Slot) : ∀ (ops : List Op) (s : St),
    ∀ o ∈ flat cd cfg slot s ops, o.prim := by
  intro ops
  induction ops with
  | nil => intro s o ho; cases ho
  | cons op r ih =>
    intro s o ho
    simp only [flat, List.mem_append] at ho
    rcases ho with ho | ho
    · exact primOps_prim cd cfg slot s op o ho
    · exact ih _ o ho

/-- an operation is the run of its primitive operations: state, ghost chain, hypotheses on the inputs -/
theorem primOps_run (cd : Codecs) (cfg : Cfg) (slot : Slot) (base : Store) (s : St) (c : Chain) (op : Op) :
    step cd cfg slot s op = run cd cfg slot s (primOps cd cfg slot s op) ∧
    stepC cd cfg slot s c op = runC cd cfg slot s c (primOps cd cfg slot s op) ∧
    (OpOK cd cfg slot base s c op → RunOK cd cfg slot base s c (primOps cd cfg slot s op)) := by
  cases op with
  | process i => exact process_run cd cfg slot base s c i
  | _ => exact ⟨rfl, rfl, fun h => ⟨h, trivial⟩⟩

/-- **Every history is the run of its primitive operations** -/
theorem flat_run (cd : Codecs) (cfg : Cfg) (slot : Slot) (base : Store) :
    ∀ (ops : List Op) (s : St) (c : Chain),
    run cd cfg slot s ops = run cd cfg slot s (flat cd cfg slot s ops) ∧
    runC cd cfg slot s c ops = runC cd cfg slot s c (flat cd cfg slot s ops) ∧
    (RunOK cd cfg slot base s c ops → RunOK cd cfg slot base s c (flat cd cfg slot s ops)) := by
  intro ops
  induction ops with
  | nil => intro s c; exact ⟨rfl, rfl, fun _ => trivial⟩
  | cons op r ih =>
    intro s c
    obtain ⟨h1, h2, h3⟩ := primOps_run cd cfg slot base s c op
    obtain ⟨i1, i2, i3⟩ := ih (step cd cfg slot s op) (stepC cd cfg slot s c op)
    simp only [flat]
    refine ⟨by rw [run_cons, run_append, ← h1, i1], by rw [runC_cons, runC_append, ← h1, ← h2, i2],
      fun h => (runOK_append cd cfg slot base _ _ s c).mpr ⟨h3 h.1, ?_⟩⟩
    rw [← h1, ← h2]
    exact i3 h.2

theorem flat_append (cd : Codecs) (cfg : Cfg) (slot : Slot) : ∀ (a b : List Op) (s : St),
    flat cd cfg slot s (a ++ b) = flat cd cfg slot s a ++ flat cd cfg slot (run cd cfg slot s a) b := by
  intro a
  induction a with
  | nil => intro b s; rfl
  | cons op r ih =>
    intro b s
    simp only [List.cons_append, flat, run_cons, ih, List.append_assoc]

/-! ### the effect trace of a history -/

/-- what a primitive operation did -/
inductive Eff where
  | applied (b : Block) (x : Exec) (removeTemp : Bool)   -- `processValidated` succeeded
  | deleted (b : Block) (saveTemp : Bool) (published : Bool)  -- `deleteBlock` removed the tip
  | cleared                                               -- `ClearTempBlocks`

/-- the effect of a PRIMITIVE operation in state `s`; `Executer.process` is answered `[]` here: `trace` first replaces it by
its primitive operations (`flat`), `tracePrim` is meant for lists without it -/
def effOf (cd : Codecs) (cfg : Cfg) (s : St) : Op → List Eff
  | .apply b v x rt => if (apply cd cfg s b v x rt).2 = .ok then [.applied b x rt] else []
  | .deleteTip st =>
    match s.cache with
    | [] => []
    | tip :: _ =>
      if (deleteTip cd cfg s st).2 = .ok then [.deleted tip st true]
      else if (deleteTip cd cfg s st).2 = .errWritten then [.deleted tip st false] else []
  | .restart => []
  | .process _ => []
  | .clearTemp => [.cleared]

def tracePrim (cd : Codecs) (cfg : Cfg) (slot : Slot) : St → List Op → List Eff
  | _, [] => []
  | s, op :: r => effOf cd cfg s op ++ tracePrim cd cfg slot (step cd cfg slot s op) r

/-- the effect trace of a history: every successful `processValidated` (also those inside
`Executer.process`: valid block, tie-break replacement, tie-break revert), every `deleteBlock` that
removed the tip, every `ClearTempBlocks`, in order -/
def trace (cd : Codecs) (cfg : Cfg) (slot : Slot) (s : St) (ops : List Op) : List Eff :=
  tracePrim cd cfg slot s (flat cd cfg slot s ops)

theorem tracePrim_append (cd : Codecs) (cfg : Cfg) (slot : Slot) : ∀ (a b : List Op) (s : St),
    tracePrim cd cfg slot s (a ++ b) =
      tracePrim cd cfg slot s a ++ tracePrim cd cfg slot (run cd cfg slot s a) b := by
  intro a
  induction a with
  | nil => intro b s; rfl
  | cons op r ih =>
    intro b s
    simp only [List.cons_append, tracePrim, run_cons, ih, List.append_assoc]

theorem trace_append (cd : Codecs) (cfg : Cfg) (slot : Slot) (a b : List Op) (s : St) :
    trace cd cfg slot s (a ++ b) =
      trace cd cfg slot s a ++ trace cd cfg slot (run cd cfg slot s a) b := by
  unfold trace
  rw [flat_append, tracePrim_append, ← (flat_run cd cfg slot [] a s []).1]

/-- the finalized height after a trace -/
def finAfter : Nat → List Eff → Nat
  | f, [] => f
  | f, .applied _ x _ :: r => finAfter (max f x.mhpc) r
  | f, .deleted _ _ _ :: r => finAfter f r
  | f, .cleared :: r => finAfter f r

/-- the events published along a trace, oldest first -/
def evsOf : Nat → List Eff → List Ev
  | _, [] => []
  | f, .applied b x _ :: r =>
    (if f < x.mhpc then [Ev.finalize f x.mhpc b.hdr.id] else [])
      ++ Ev.new b.hdr.id b.hdr.height :: evsOf (max f x.mhpc) r
  | f, .deleted b _ p :: r => (if p then [Ev.delete b.hdr.id b.hdr.height] else []) ++ evsOf f r
  | f, .cleared :: r => evsOf f r

/-- the ghost chain after a trace -/
def chainOf : Chain → List Eff → Chain
  | c, [] => c
  | c, .applied b x _ :: r => chainOf ((b, x) :: c) r
  | c, .deleted _ _ _ :: r => chainOf c.tail r
  | c, .cleared :: r => chainOf c r

theorem finAfter_append : ∀ (a b : List Eff) (f : Nat),
    finAfter f (a ++ b) = finAfter (finAfter f a) b := by
  intro a
  induction a with
  | nil => intro b f; rfl
  | cons e r ih => intro b f; cases e <;> simp only [List.cons_append, finAfter, ih]

theorem evsOf_append : ∀ (a b : List Eff) (f : Nat),
    evsOf f (a ++ b) = evsOf f a ++ evsOf (finAfter f a) b := by
  intro a
  induction a with
  | nil => intro b f; rfl
  | cons e r ih =>
    intro b f
    cases e <;> simp only [List.cons_append, evsOf, finAfter, ih, List.append_assoc]

theorem chainOf_append : ∀ (a b : List Eff) (c : Chain),
    chainOf c (a ++ b) = chainOf (chainOf c a) b := by
  intro a
  induction a with
  | nil => intro b c; rfl
  | cons e r ih => intro b c; cases e <;> simp only [List.cons_append, chainOf, ih]

theorem le_finAfter : ∀ (tr : List Eff) (f : Nat), f ≤ finAfter f tr := by
  intro tr
  induction tr with
  | nil => intro f; exact Nat.le_refl _
  | cons e r ih =>
    intro f
    cases e with
    | applied b x rt => simp only [finAfter]; have := ih (max f x.mhpc); omega
    | deleted b st p => exact ih f
    | cleared => exact ih f

/-- a history `s, c ⟶ s', c'` with trace `tr`, started at finalized height `f` -/
structure Hist (f : Nat) (s : St) (c : Chain) (tr : List Eff) (s' : St) (c' : Chain) : Prop where
  fin : finOf s'.db = some (finAfter f tr)
  log : s'.log = (evsOf f tr).reverse ++ s.log
  chain : c' = chainOf c tr

theorem hist_refl {f : Nat} {s : St} {c : Chain} (hf : finOf s.db = some f) : Hist f s c [] s c :=
  ⟨hf, rfl, rfl⟩

theorem hist_trans {f : Nat} {s1 s2 s3 : St} {c1 c2 c3 : Chain} {t1 t2 : List Eff}
    (h1 : Hist f s1 c1 t1 s2 c2) (h2 : Hist (finAfter f t1) s2 c2 t2 s3 c3) :
    Hist f s1 c1 (t1 ++ t2) s3 c3 := by
  refine ⟨?_, ?_, ?_⟩
  · rw [finAfter_append]; exact h2.fin
  · rw [h2.log, h1.log, evsOf_append, List.reverse_append, List.append_assoc]
  · rw [chainOf_append, ← h1.chain]; exact h2.chain

/-! ### the finalized height and the finalize events as functions of the applied blocks -/

/-- the blocks whose `processValidated` succeeded, in order -/
def appliedOf : List Eff → List (Block × Exec)
  | [] => []
  | .applied b x _ :: r => (b, x) :: appliedOf r
  | .deleted _ _ _ :: r => appliedOf r
  | .cleared :: r => appliedOf r

theorem finAfter_eq_foldl : ∀ (tr : List Eff) (f : Nat),
    finAfter f tr = ((appliedOf tr).map (·.2.mhpc)).foldl max f := by
  intro tr
  induction tr with
  | nil => intro f; rfl
  | cons e r ih => intro f; cases e <;> simp only [finAfter, appliedOf, List.map_cons, List.foldl_cons, ih]

/-- the finalize events a sequence of applied blocks causes when the finalized height is `f`:
one per strict raise, `Original` = the running maximum, `Next` = the block's
`maxHeightPrecommited`, `Trigger` = the block -/
def finEvsOf : Nat → List (Block × Exec) → List Ev
  | _, [] => []
  | f, (b, x) :: r =>
    if f < x.mhpc then Ev.finalize f x.mhpc b.hdr.id :: finEvsOf x.mhpc r else finEvsOf f r

def Ev.isFinalize : Ev → Bool
  | .finalize _ _ _ => true
  | _ => false

theorem evsOf_finalize : ∀ (tr : List Eff) (f : Nat),
    (evsOf f tr).filter Ev.isFinalize = finEvsOf f (appliedOf tr) := by
  intro tr
  induction tr with
  | nil => intro f; rfl
  | cons e r ih =>
    intro f
    cases e with
    | applied b x rt =>
      simp only [evsOf, appliedOf, finEvsOf]
      by_cases hlt : f < x.mhpc
      · have hm : max f x.mhpc = x.mhpc := by omega
        simp only [hlt, if_true, hm, List.cons_append, List.nil_append, List.filter_cons,
          Ev.isFinalize, if_true, Bool.false_eq_true, if_false, ih]
      · have hm : max f x.mhpc = f := by omega
        simp only [hlt, if_false, hm, List.nil_append, List.filter_cons, Ev.isFinalize,
          Bool.false_eq_true, if_false, ih]
    | deleted b st p =>
      simp only [evsOf, appliedOf]
      cases p <;>
        simp only [if_true, Bool.false_eq_true, if_false, List.nil_append, List.cons_append,
          List.filter_cons, Ev.isFinalize, ih]
    | cleared => simp only [evsOf, appliedOf, ih]

/-- a finalize event is published exactly for a successful `processValidated` whose block raises
the finalized height: `Original` is the height stored before that step, `Next` the block's
`maxHeightPrecommited`, `Trigger` the block -/
theorem evsOf_finalize_mem : ∀ (tr : List Eff) (f o n : Nat) (t : Bytes),
    Ev.finalize o n t ∈ evsOf f tr ↔
      ∃ tr1 b x rt tr2, tr = tr1 ++ Eff.applied b x rt :: tr2 ∧ o = finAfter f tr1 ∧ n = x.mhpc ∧
        o < n ∧ t = b.hdr.id := by
  intro tr f o n t
  constructor
  · -- the event is published by the first effect, or by the rest of the trace started after it
    induction tr generalizing f with
    | nil => intro hm; cases hm
    | cons e r ih =>
      intro hm
      rw [show e :: r = [e] ++ r from rfl, evsOf_append] at hm
      rcases List.mem_append.mp hm with hm | hm
      · cases e with
        | applied b x rt =>
          by_cases hlt : f < x.mhpc
          · simp only [evsOf, hlt, if_true, List.cons_append, List.nil_append, List.mem_cons,
              Ev.finalize.injEq, reduceCtorEq, List.not_mem_nil, or_false] at hm
            obtain ⟨rfl, rfl, rfl⟩ := hm
            exact ⟨[], b, x, rt, r, rfl, rfl, rfl, hlt, rfl⟩
          · simp [evsOf, hlt] at hm
        | deleted b st p => cases p <;> simp [evsOf] at hm
        | cleared => cases hm
      · obtain ⟨tr1, b', x', rt', tr2, h1, h2, h3, h4, h5⟩ := ih _ hm
        exact ⟨e :: tr1, b', x', rt', tr2, by rw [h1]; rfl,
          by rw [h2, show e :: tr1 = [e] ++ tr1 from rfl, finAfter_append], h3, h4, h5⟩
  · rintro ⟨tr1, b, x, rt, tr2, rfl, rfl, rfl, h4, rfl⟩
    rw [evsOf_append]
    apply List.mem_append_right
    simp only [evsOf, h4, if_true, List.cons_append, List.nil_append, List.mem_cons, true_or]

/-- the finalized height is at least the `maxHeightPrecommited` of every block of the chain -/
theorem chainOf_mhpc_le : ∀ (tr : List Eff) (c : Chain) (f : Nat),
    (∀ bx ∈ c, bx.2.mhpc ≤ f) → ∀ bx ∈ chainOf c tr, bx.2.mhpc ≤ finAfter f tr := by
  intro tr
  induction tr with
  | nil => intro c f h bx hm; exact h bx hm
  | cons e r ih =>
    intro c f h bx hm
    cases e with
    | applied b x rt =>
      simp only [chainOf, finAfter] at hm ⊢
      apply ih ((b, x) :: c) (max f x.mhpc) _ bx hm
      intro bx' hm'
      simp only [List.mem_cons] at hm'
      rcases hm' with rfl | hm'
      · simp only; omega
      · have := h bx' hm'; omega
    | deleted b st p =>
      simp only [chainOf, finAfter] at hm ⊢
      exact ih c.tail f (fun bx' hm' => h bx' (List.mem_of_mem_tail hm')) bx hm
    | cleared =>
      simp only [chainOf, finAfter] at hm ⊢
      exact ih c f h bx hm


/-! ### `deleteBlock ∘ processValidated` on the database, key by key, without the refinement -/

/-- the store after `processValidated(b)` followed by `deleteBlock(b)` -/
def roundTripDb (cd : Codecs) (cfg : Cfg) (db : Store) (fin : Nat) (b : Block) (x : Exec)
    (rt st : Bool) : Store :=
  deleteDb (applyDb cd cfg db fin b x rt) (diffOf x.overlay) b st

theorem bval_applyOps_state (cd : Codecs) (cfg : Cfg) (db : Store) (fin : Nat) (b : Block) (x : Exec)
    (rt : Bool) (k : Bytes) (hk : isStateKey k) : bval (applyOps cd cfg db fin b x rt) k = none := by
  have hk' : k.head? = some pState := hk
  rw [bval_applyOps, if_neg (not_tempSeg hk'), if_neg (not_prunedSeg hk'), if_neg (ne_of_head hk kFin_head (by decide)),
    bval_blockSet_head b x.events k (Or.inr (Or.inr (Or.inr hk))), if_neg (not_diffPruneSeg hk'),
    if_neg (ne_of_head hk (kDiff_head _) (by decide))]
  rfl

/-- the round trip, in terms of the two batches. The database after `processValidated` is the write batch over the
committed overlay over `db` (`applyDb_lookup_all`), and the batch touches no state key (`bval_applyOps_state`); so
`deleteDb_lookup_of_agree` applies: after `deleteBlock` an overlay key holds `cv.init` — what `db` had there
(`hinit`) —, the keys of the block are gone, and elsewhere the applied database stands. On a state key the two
batches are silent, on another key the overlay is silent. -/
theorem roundTrip_lookup (cd : Codecs) (cfg : Cfg) (db : Store) (fin : Nat) (b : Block) (x : Exec)
    (rt st : Bool) (hnd : NoDupKeys db) (hov : OverlayOK x.overlay)
    (hsk : ∀ e ∈ x.overlay, e.1.head? = some pState)
    (hinit : ∀ k cv, clookup x.overlay k = some cv → cv.init = slookup db k) (k : Bytes) :
    (isStateKey k → slookup (roundTripDb cd cfg db fin b x rt st) k = slookup db k) ∧
    (¬ isStateKey k → slookup (roundTripDb cd cfg db fin b x rt st) k =
        if st = true ∧ k = kTemp b.hdr.height then some (encBlock b)
        else if k ∈ removedKeys b then none
        else match bval (applyOps cd cfg db fin b x rt) k with
          | some v => v
          | none => slookup db k) := by
  have hX : ∀ k, slookup (applyDb cd cfg db fin b x rt) k =
      match bval (applyOps cd cfg db fin b x rt) k with
      | some v => v
      | none => match stateVal x.overlay k with
        | some v => v
        | none => slookup db k := applyDb_lookup_all cd cfg db fin b x rt hov.nodup
  have hbs : ∀ k, isStateKey k → bval (applyOps cd cfg db fin b x rt) k = none :=
    bval_applyOps_state cd cfg db fin b x rt
  unfold roundTripDb
  rw [deleteDb_lookup_of_agree b st (nodup_applyDb _ _ _ _ _ _ _ hnd) hov (fun k cv hc => by
    rw [hX k, hbs k (isStateKey_of_clookup hsk hc)]
    simp only
    cases stateVal x.overlay k with
    | some v => rfl
    | none => simp only; exact (hinit k cv hc).symm) k]
  constructor
  · intro hk
    have h0 : ¬ (st = true ∧ k = kTemp b.hdr.height) :=
      fun h => ne_of_head (kTemp_head _) hk (by decide) h.2
    rw [if_neg h0, if_neg fun h => (removedKeys_head h).2.2 hk]
    cases hc : clookup x.overlay k with
    | some cv => exact hinit k cv hc
    | none =>
      simp only
      rw [hX k, hbs k hk, stateVal_none_of_not_key _ _ hc]
  · intro hk
    have hc : clookup x.overlay k = none := clookup_none_of_not_state hsk hk
    rw [hc]
    simp only
    rw [hX k, stateVal_none_of_not_key _ _ hc]

/-- `processValidated` stores the state diff under the block's height -/
theorem applyDb_diff (cd : Codecs) (cfg : Cfg) (db : Store) (fin : Nat) (b : Block) (x : Exec)
    (rt : Bool) (hov : NoDupKeys x.overlay) (hb : b.hdr.height < u32) (hm : x.mhpc ≤ b.hdr.height) :
    slookup (applyDb cd cfg db fin b x rt) (kDiff b.hdr.height) =
      some (cd.encDiff (diffOf x.overlay)) := by
  have hd := kDiff_head b.hdr.height
  have h4 : ¬ (fin < x.mhpc ∧ ((kDiff b.hdr.height).head? = some 51 ∧
      decU32 ((kDiff b.hdr.height).drop 1) < x.mhpc) ∧ slookup db (kDiff b.hdr.height) ≠ none) := by
    rintro ⟨_, ⟨_, h⟩, _⟩
    have : decU32 (encU32 b.hdr.height) < x.mhpc := h
    rw [decU32_encU32_of_lt hb] at this
    omega
  rw [applyDb_lookup_all cd cfg db fin b x rt hov, bval_applyOps, if_neg (not_tempSeg hd), if_neg (not_prunedSeg hd),
    if_neg (ne_of_head hd kFin_head), bval_blockSet_head b x.events _ (Or.inl hd), if_neg h4, if_pos rfl]
  rfl

/-- outside the finalized-height marker, the temporary copy and the keys of the block itself, the batch of
`processValidated` is its two pruning scans -/
theorem bval_applyOps_other (cd : Codecs) (cfg : Cfg) (db : Store) (fin : Nat) (b : Block) (x : Exec)
    (rt : Bool) (k : Bytes) (h1 : k ≠ kFin) (h2 : k ≠ kTemp b.hdr.height) (h3 : k ∉ removedKeys b) :
    bval (applyOps cd cfg db fin b x rt) k =
      (if Pruned cfg b.hdr.height (max fin x.mhpc) k ∧ slookup db k ≠ none then some none else none).or
      (if fin < x.mhpc ∧ (k.head? = some 51 ∧ decU32 (k.drop 1) < x.mhpc) ∧ slookup db k ≠ none
          then some none else none) := by
  have e1 : ¬ (rt = true ∧ kTemp b.hdr.height = k) := fun h => h2 h.2.symm
  have e3 : ¬ kDiff b.hdr.height = k := fun h => h3 (h ▸ (mem_removedKeys b _).mpr (Or.inl rfl))
  rw [bval_applyOps, if_neg e1, if_neg (Ne.symm h1), bval_blockSet_none cd b x k h3, if_neg e3]
  simp only [Option.none_or, Option.or_none]

/-- **`deleteBlock ∘ processValidated`, every key of the database** (no refinement needed: any
database, any block, any overlay that was built over this database). -/
theorem roundTrip_exact (cd : Codecs) (cfg : Cfg) (db : Store) (fin : Nat) (b : Block) (x : Exec)
    (rt st : Bool) (hnd : NoDupKeys db) (hov : OverlayOK x.overlay)
    (hsk : ∀ e ∈ x.overlay, e.1.head? = some pState)
    (hinit : ∀ k cv, clookup x.overlay k = some cv → cv.init = slookup db k) :
    slookup (roundTripDb cd cfg db fin b x rt st) kFin = some (encU32 (max fin x.mhpc)) ∧
    slookup (roundTripDb cd cfg db fin b x rt st) (kTemp b.hdr.height) =
      (if st = true then some (encBlock b) else if rt = true then none
       else slookup db (kTemp b.hdr.height)) ∧
    (∀ k ∈ removedKeys b, slookup (roundTripDb cd cfg db fin b x rt st) k = none) ∧
    (∀ k, k ≠ kFin → k ≠ kTemp b.hdr.height → k ∉ removedKeys b →
      (((fin < x.mhpc ∧ k.head? = some 51 ∧ decU32 (k.drop 1) < x.mhpc) ∨
          Pruned cfg b.hdr.height (max fin x.mhpc) k) →
        slookup (roundTripDb cd cfg db fin b x rt st) k = none) ∧
      (¬ ((fin < x.mhpc ∧ k.head? = some 51 ∧ decU32 (k.drop 1) < x.mhpc) ∨
          Pruned cfg b.hdr.height (max fin x.mhpc) k) →
        slookup (roundTripDb cd cfg db fin b x rt st) k = slookup db k)) := by
  have hL := fun k => roundTrip_lookup cd cfg db fin b x rt st hnd hov hsk hinit k
  have hfin : kFin ∉ removedKeys b := fun h => (removedKeys_head h).2.1 kFin_head
  have htmp : kTemp b.hdr.height ∉ removedKeys b := fun h => (removedKeys_head h).1 (kTemp_head _)
  refine ⟨?_, ?_, ?_, ?_⟩
  · rw [(hL kFin).2 (not_state_of_head kFin_head), 
      if_neg fun h => ne_of_head kFin_head (kTemp_head _) (by decide) h.2.symm, if_neg hfin, applyOps_bval_fin]
  · rw [(hL _).2 (not_state_of_head (kTemp_head _)), if_neg htmp]
    cases st with
    | true => simp
    | false =>
      rw [bval_applyOps, if_neg (not_prunedSeg (kTemp_head _)), if_neg (ne_of_head (kTemp_head _) kFin_head),
        bval_blockSet_none cd b x _ htmp, if_neg (not_diffPruneSeg (kTemp_head _)),
        if_neg (ne_of_head (kTemp_head _) (kDiff_head _))]
      cases rt <;> simp
  · intro k hk
    have h1 : ¬ (st = true ∧ k = kTemp b.hdr.height) := fun h => (removedKeys_head hk).1 (h.2 ▸ kTemp_head _)
    rw [(hL k).2 (removedKeys_head hk).2.2, if_neg h1, if_pos hk]
  · intro k h1 h2 h3
    by_cases hst : isStateKey k
    · have hnA : ¬ ((fin < x.mhpc ∧ k.head? = some 51 ∧ decU32 (k.drop 1) < x.mhpc) ∨
          Pruned cfg b.hdr.height (max fin x.mhpc) k) := by
        rintro (⟨_, h, _⟩ | h)
        · exact absurd (hst.symm.trans h) (by decide)
        · exact absurd (hst.symm.trans h.head) (by decide)
      exact ⟨fun h => absurd h hnA, fun _ => (hL k).1 hst⟩
    · have e2 : ¬ (st = true ∧ k = kTemp b.hdr.height) := fun h => h2 h.2
      rw [(hL k).2 hst, if_neg e2, if_neg h3,
        bval_applyOps_other cd cfg db fin b x rt k h1 h2 h3]
      -- a scan deletes only what is stored: where nothing is stored both sides are `none`
      by_cases hp : Pruned cfg b.hdr.height (max fin x.mhpc) k ∧ slookup db k ≠ none
      · rw [if_pos hp]
        exact ⟨fun _ => rfl, fun hn => absurd (Or.inr hp.1) hn⟩
      · rw [if_neg hp]
        by_cases hd : fin < x.mhpc ∧ (k.head? = some 51 ∧ decU32 (k.drop 1) < x.mhpc) ∧ slookup db k ≠ none
        · rw [if_pos hd]
          exact ⟨fun _ => rfl, fun hn => absurd (Or.inl ⟨hd.1, hd.2.1⟩) hn⟩
        · rw [if_neg hd]
          refine ⟨fun hA => ?_, fun _ => rfl⟩
          by_cases hl : slookup db k = none
          · exact hl
          · rcases hA with h | h
            · exact absurd ⟨h.1, h.2, hl⟩ hd
            · exact absurd ⟨h, hl⟩ hp


/-! ### the round trip from a refined state; `deleteBlock` of its tip always goes through -/

/-- the database after `processValidated(b)` and a `deleteBlock` that removed `b` again -/
theorem roundTrip_db {cd : Codecs} {cfg : Cfg} {s s1 s2 : St} {b : Block} {valid : Bool}
    {x : Exec} {rt st : Bool} {r : Res} (hov : NoDupKeys x.overlay)
    (hrt : cd.decDiff (cd.encDiff (diffOf x.overlay)) = some (diffOf x.overlay))
    (hb : b.hdr.height < u32) (hm : x.mhpc ≤ b.hdr.height)
    (ha : apply cd cfg s b valid x rt = (s1, .ok)) (hd : deleteTip cd cfg s1 st = (s2, r))
    (hr : r.removed) :
    ∃ f, finOf s.db = some f ∧ s2.db = roundTripDb cd cfg s.db f b x rt st ∧
      max f x.mhpc < b.hdr.height := by
  obtain ⟨tip, rest, f, hc, _, _, _, hf, hs1⟩ := apply_ok_inv ha
  obtain ⟨tip1, rest1, fin1, bytes, d, hc1, hf1, hlt1, hl1, hd1, hdb2, _⟩ := deleteTip_done_inv hd hr
  have htip : tip1 = b := by
    rw [hs1] at hc1
    simp only [applyCache, List.cons.injEq] at hc1
    exact hc1.1.symm
  subst htip
  have hdb1 : s1.db = applyDb cd cfg s.db f tip1 x rt := by rw [hs1]
  have hdiff : d = diffOf x.overlay :=
    diff_of_stored hl1 (hdb1 ▸ applyDb_diff cd cfg s.db f tip1 x rt hov hb hm) hd1 hrt
  subst hdiff
  have hfin1 : fin1 = max f x.mhpc := by
    rw [hdb1, finOf_applyDb cd cfg s.db f tip1 x rt (finOf_lt hf) (by omega)] at hf1
    exact (Option.some.inj hf1).symm
  refine ⟨f, hf, ?_, by rw [← hfin1]; exact hlt1⟩
  rw [hdb2, hdb1]
  rfl

/-- After apply ∘ delete without a finality advance and without temporary copies, every key holds
what it held before — except prunable event keys, which are empty. -/
theorem roundTrip_no_raise {cd : Codecs} {cfg : Cfg} {base : Store} {baseH : Nat} {s s1 s2 : St}
    {c : Chain} {b : Block} {v : Bool} {x : Exec} {r : Res} {f : Nat}
    (hR : Ref cd base baseH s c) (hstep : StepOK cd base c b x)
    (hf : finOf s.db = some f) (hfe : slookup s.db kFin = some (encU32 f)) (hnr : x.mhpc ≤ f)
    (ha : apply cd cfg s b v x false = (s1, .ok)) (hd : deleteTip cd cfg s1 false = (s2, r))
    (hr : r.removed) (k : Bytes) :
    slookup s2.db k = slookup s.db k ∨ (slookup s2.db k = none ∧ Pruned cfg b.hdr.height f k) := by
  obtain ⟨f', hf', hdb, hlt⟩ := roundTrip_db hstep.ov.nodup hstep.diffRt hstep.block.heightLt hstep.mhpcLe ha hd hr
  obtain rfl : f' = f := Option.some.inj (hf'.symm.trans hf)
  have hnf : max f' x.mhpc = f' := Nat.max_eq_left hnr
  obtain ⟨h1, h2, h3, h4⟩ := roundTrip_exact cd cfg s.db f' b x false false hR.db.nodup hstep.ov
    hstep.stateKeys (hR.db.initOk hstep.stateKeys hstep.initOk)
  rw [← hdb] at h1 h2 h3 h4
  rw [hnf] at h1 h4
  by_cases k1 : k = kFin
  · rw [k1, h1, hfe]; exact Or.inl rfl
  by_cases k2 : k = kTemp b.hdr.height
  · rw [k2, h2]; exact Or.inl (by simp)
  by_cases k3 : k ∈ removedKeys b
  · have hak := removedKeys_allKeys b k k3
    rw [h3 k k3, hR.db.agree f' hf k (allKeys_not_vol hstep.block.heightLt (hnf ▸ hlt) hak), hstep.fresh k hak]
    exact Or.inl rfl
  by_cases hp : Pruned cfg b.hdr.height f' k
  · exact Or.inr ⟨(h4 k k1 k2 k3).1 (Or.inr hp), hp⟩
  · exact Or.inl ((h4 k k1 k2 k3).2 (fun h => h.elim (fun h => by omega) hp))

theorem hdrSpec_tip_some {cd : Codecs} {base : Store} {baseH : Nat} {c : Chain}
    (hwf : ChainWF cd base baseH c) (hb : c = [] → ∃ hd, hdrDB cd base baseH = some hd) :
    ∃ hd, hdrSpec cd base c (tipH baseH c) = some hd := by
  cases c with
  | nil =>
    obtain ⟨hd, h⟩ := hb rfl
    refine ⟨hd, ?_⟩
    rw [← h]
    exact hdrSpec_nil cd base baseH
  | cons e r =>
    obtain ⟨b, x⟩ := e
    exact ⟨b.hdr, hdrSpec_member hwf (bx := (b, x)) List.mem_cons_self⟩

/-- **Above the finalized height `deleteBlock` always goes through**: for the tip of a refined
state with a non-empty block cache (`hne`) the only reasons to refuse are the finality guard and the genesis guard —
the state diff and its decoding are always there, and so is the previous header: a block of the chain, or, for the
first block above the base, the header of the base tip, which is a hypothesis (`hb0`). -/
theorem delete_succeeds {cd : Codecs} {cfg : Cfg} {base : Store} {baseH : Nat} {s : St} {c : Chain}
    {b : Block} {x : Exec} (st : Bool) (hbase : BaseOK cd base baseH)
    (hR : Ref cd base baseH s ((b, x) :: c)) (hne : s.cache ≠ []) {f : Nat}
    (hf : finOf s.db = some f) (hlt : f < b.hdr.height) (hg : b.hdr.height ≠ cfg.genesisHeight)
    (hb0 : c = [] → ∃ hd, hdrDB cd base baseH = some hd) :
    (deleteTip cd cfg s st).2.removed := by
  obtain ⟨hstep, hheight, hwf⟩ := hR.db.wf
  cases hc : s.cache with
  | nil => exact absurd hc hne
  | cons tip rest =>
    have htip : tip.hdr.height = b.hdr.height := hR.cache.head tip (by rw [hc]; rfl)
    have hte : tip = b :=
      hR.cache.chain tip (by rw [hc]; exact List.mem_cons_self) (b, x) List.mem_cons_self htip.symm
    subst hte
    obtain ⟨hd, hhd⟩ := hdrSpec_tip_some hwf hb0
    have hprev : headerAt cd s (tip.hdr.height - 1) = some hd := by
      rw [headerAt_ref hbase hR, hheight]
      have : tipH baseH c + 1 - 1 = tipH baseH c := by omega
      rw [this, hdrSpec_cons hR.db.wf hbase (Nat.le_refl _)]
      exact hhd
    have hdiff := hR.db.tip_diff hf hlt
    unfold deleteTip
    rw [hc]
    have hnle : ¬ tip.hdr.height ≤ f := by omega
    simp only [hf, hnle, if_false, hprev, hdiff, hstep.diffRt, hg]
    cases rest with
    | cons r1 r2 => exact Or.inl rfl
    | nil =>
      simp only
      split
      · exact Or.inr rfl
      · exact Or.inl rfl

/-! ### successful operation sequences -/

/-- every `processValidated` of the sequence succeeds and every `deleteBlock` removes the tip -/
def Succ (cd : Codecs) (cfg : Cfg) (slot : Slot) : St → List Op → Prop
  | _, [] => True
  | s, op :: r =>
    (match op with
      | .apply b v x rt => (apply cd cfg s b v x rt).2 = .ok
      | .deleteTip st => (deleteTip cd cfg s st).2.removed
      | _ => True) ∧ Succ cd cfg slot (step cd cfg slot s op) r

theorem succ_append (cd : Codecs) (cfg : Cfg) (slot : Slot) : ∀ (a b : List Op) (s : St),
    Succ cd cfg slot s (a ++ b) ↔ Succ cd cfg slot s a ∧ Succ cd cfg slot (run cd cfg slot s a) b := by
  intro a
  induction a with
  | nil => intro b s; simp [Succ, run]
  | cons op r ih =>
    intro b s
    simp only [List.cons_append, Succ, run_cons, ih, and_assoc]

theorem runC_applies (cd : Codecs) (cfg : Cfg) (slot : Slot) :
    ∀ (bs : List (Block × Bool × Exec × Bool)) (s : St) (c : Chain),
    Succ cd cfg slot s (bs.map fun a => Op.apply a.1 a.2.1 a.2.2.1 a.2.2.2) →
    runC cd cfg slot s c (bs.map fun a => Op.apply a.1 a.2.1 a.2.2.1 a.2.2.2) =
      (bs.map fun a => (a.1, a.2.2.1)).reverse ++ c := by
  intro bs
  induction bs with
  | nil => intro s c _; rfl
  | cons a r ih =>
    intro s c h
    simp only [List.map_cons, Succ] at h
    simp only [List.map_cons, runC_cons, List.reverse_cons, List.append_assoc]
    rw [ih _ _ h.2]
    simp only [stepC, h.1, if_true, List.cons_append, List.nil_append]

theorem runC_deletes (cd : Codecs) (cfg : Cfg) (slot : Slot) :
    ∀ (sts : List Bool) (s : St) (c : Chain), Succ cd cfg slot s (sts.map Op.deleteTip) →
    runC cd cfg slot s c (sts.map Op.deleteTip) = c.drop sts.length := by
  intro sts
  induction sts with
  | nil => intro s c _; rfl
  | cons a r ih =>
    intro s c h
    simp only [List.map_cons, Succ] at h
    simp only [List.map_cons, runC_cons, List.length_cons]
    rw [ih _ _ h.2]
    have : (deleteTip cd cfg s a).2 = .ok ∨ (deleteTip cd cfg s a).2 = .errWritten := h.1
    simp only [stepC, this, if_true]
    cases c <;> simp

/-! ### temporary blocks -/

theorem apply_temp (cd : Codecs) (cfg : Cfg) (db : Store) (fin : Nat) (b : Block) (x : Exec) (rt : Bool)
    (hnd : NoDupKeys x.overlay) (hsk : ∀ e ∈ x.overlay, e.1.head? = some pState) (k : Bytes)
    (hk : k.head? = some 7) :
    slookup (applyDb cd cfg db fin b x rt) k =
      if rt = true ∧ k = kTemp b.hdr.height then none else slookup db k := by
  have hns : ¬ isStateKey k := not_state_of_head hk
  rw [applyDb_lookup_all cd cfg db fin b x rt hnd k, bval_applyOps, if_neg (not_prunedSeg hk),
    if_neg (ne_of_head hk kFin_head), bval_blockSet_head b x.events k (Or.inr (Or.inl hk)), if_neg (not_diffPruneSeg hk),
    if_neg (ne_of_head hk (kDiff_head _)),
    stateVal_none_of_not_state _ hsk k hns]
  by_cases h : rt = true ∧ k = kTemp b.hdr.height
  · rw [if_pos h, if_pos ⟨h.1, h.2.symm⟩]; rfl
  · rw [if_neg h, if_neg fun e => h ⟨e.1, e.2.symm⟩]; rfl

theorem delete_temp {cd : Codecs} {base : Store} {baseH : Nat} {db : Store} {c : Chain}
    {b : Block} {x : Exec} {fin : Nat} (st : Bool)
    (hR : DbRef cd base baseH db ((b, x) :: c)) (hf : finOf db = some fin) (k : Bytes)
    (hk : k.head? = some 7) :
    slookup (deleteDb db (diffOf x.overlay) b st) k =
      if st = true ∧ k = kTemp b.hdr.height then some (encBlock b) else slookup db k := by
  have hc : clookup x.overlay k = none := clookup_none_of_not_state hR.wf.step.stateKeys (not_state_of_head hk)
  rw [deleteDb_lookup st hR hf k, if_neg fun h : k ∈ removedKeys b => (removedKeys_head h).1 hk, hc]

theorem clearTemp_temp (s : St) (k : Bytes) (hk : k.head? = some 7) :
    slookup (clearTemp s).db k = none := by
  unfold clearTemp
  simp only
  rw [slookup_applyBatch, bval_clearTemp]
  by_cases hl : slookup s.db k = none
  · rw [if_neg fun h => h.2 hl]; exact hl
  · rw [if_pos ⟨hk, hl⟩]

/-- a stored temporary block is returned by `GetTempBlocks` (given the block codec round trip, C08) -/
theorem tempBlocks_mem {cd : Codecs} {s : St} (hnd : NoDupKeys s.db) {blk : Block}
    (hl : slookup s.db (kTemp blk.hdr.height) = some (encBlock blk))
    (hdec : cd.decBlock (encBlock blk) = some blk) : ∀ l, tempBlocks cd s = some l → blk ∈ l := by
  intro l hl'
  unfold tempBlocks at hl'
  have hm : (kTemp blk.hdr.height, encBlock blk) ∈ dbIterate s.db [7] (-1) true :=
    (C12_db_iterate_mem s.db [7] true _).mpr
      ⟨(slookup_iff_mem s.db hnd _ _).mp hl, by simp [kTemp, hasPrefix]⟩
  obtain ⟨b', hb', hfb⟩ := List.mem_map.mp ((mapM_eq_some_iff _ _).mp hl' ▸ List.mem_map_of_mem hm)
  rw [hdec] at hfb
  exact Option.some.inj hfb ▸ hb'

/-- the table of temporary blocks after a trace -/
def tempAfter : (Bytes → Option Bytes) → List Eff → Bytes → Option Bytes
  | t, [], k => t k
  | t, .applied b _ rt :: r, k =>
    tempAfter (fun k' => if rt = true ∧ k' = kTemp b.hdr.height then none else t k') r k
  | t, .deleted b st _ :: r, k =>
    tempAfter (fun k' => if st = true ∧ k' = kTemp b.hdr.height then some (encBlock b) else t k') r k
  | _, .cleared :: r, k => tempAfter (fun _ => none) r k

theorem tempAfter_append : ∀ (a b : List Eff) (t : Bytes → Option Bytes) (k : Bytes),
    tempAfter t (a ++ b) k = tempAfter (tempAfter t a) b k := by
  intro a
  induction a with
  | nil => intro b t k; rfl
  | cons e r ih => intro b t k; cases e <;> simp only [List.cons_append, tempAfter, ih]

theorem tempAfter_congr : ∀ (tr : List Eff) (t t' : Bytes → Option Bytes),
    (∀ k, k.head? = some 7 → t k = t' k) → ∀ k, k.head? = some 7 → tempAfter t tr k = tempAfter t' tr k := by
  intro tr
  induction tr with
  | nil => intro t t' h k hk; exact h k hk
  | cons e r ih =>
    intro t t' h k hk
    cases e with
    | applied b x rt =>
      simp only [tempAfter]
      exact ih _ _ (fun k' hk' => by simp only [h k' hk']) k hk
    | deleted b st p =>
      simp only [tempAfter]
      exact ih _ _ (fun k' hk' => by simp only [h k' hk']) k hk
    | cleared => rfl

/-! ### what a primitive operation does; histories -/

/-- What one primitive operation can do to a state `s` that refines the chain `c` at finalized height `f`:
its effect (`effOf`), the state and the ghost chain after it. Every invariant of histories below is read
off these four cases. -/
inductive Prim (cd : Codecs) (cfg : Cfg) (base : Store) (baseH f : Nat) (s : St) (c : Chain) :
    List Eff → St → Chain → Prop
  /-- a refused or failed call, `PrepareCache`: database and log stay -/
  | silent {s' : St} : s'.db = s.db → s'.log = s.log → Ref cd base baseH s' c →
      Prim cd cfg base baseH f s c [] s' c
  | applied {b : Block} {x : Exec} {rt : Bool} : StepOK cd base c b x →
      Ref cd base baseH (St.mk (applyDb cd cfg s.db f b x rt) (applyCache cfg s.cache b)
        (applyLog f b x ++ s.log)) ((b, x) :: c) →
      Prim cd cfg base baseH f s c [.applied b x rt]
        { db := applyDb cd cfg s.db f b x rt, cache := applyCache cfg s.cache b, log := applyLog f b x ++ s.log }
        ((b, x) :: c)
  | deleted {b : Block} {x : Exec} {c' : Chain} {st p : Bool} {s' : St} : c = (b, x) :: c' → f < b.hdr.height →
      s'.db = deleteDb s.db (diffOf x.overlay) b st →
      s'.log = (if p then [Ev.delete b.hdr.id b.hdr.height] else []) ++ s.log → Ref cd base baseH s' c' →
      Prim cd cfg base baseH f s c [.deleted b st p] s' c'
  | cleared : Prim cd cfg base baseH f s c [.cleared] (clearTemp s) c

/-- a primitive operation from a refined state is one `Prim` step, with `effOf` as its effect. By cases on the
operation: `apply` answers `ok` (`ref_apply`, the height marker read off `apply_ok_inv`) or changes nothing
(`apply_not_ok`); `deleteTip` removed the tip (`ref_delete`; the removed block is the head of the cache) or
changed nothing (`deleteTip_not_removed`); restart and `ClearTempBlocks` are `ref_restart` and `Prim.cleared`. -/
theorem prim_step {cd : Codecs} {cfg : Cfg} {slot : Slot} {base : Store} {baseH : Nat} {s : St}
    {c : Chain} {f : Nat} (hbase : BaseOK cd base baseH) (hR : Ref cd base baseH s c)
    (hf : finOf s.db = some f) (op : Op) (hp : op.prim) (hok : OpOK cd cfg slot base s c op) :
    Prim cd cfg base baseH f s c (effOf cd cfg s op) (step cd cfg slot s op) (stepC cd cfg slot s c op) := by
  cases op with
  | process i => exact hp.elim
  | apply b v x rt =>
    simp only [step, stepC, effOf]
    cases ha : apply cd cfg s b v x rt with
    | mk s' r =>
      by_cases hr : r = .ok
      · subst hr
        have hR' := ref_apply hR (hok (by rw [ha])) ha
        obtain ⟨_, _, fin, _, _, _, _, hf0, rfl⟩ := apply_ok_inv ha
        obtain rfl : fin = f := Option.some.inj (hf0.symm.trans hf)
        simp only [if_true]
        exact .applied (hok (by rw [ha])) hR'
      · simp only [hr, if_false]
        rw [apply_not_ok ha hr]
        exact .silent rfl rfl hR
  | deleteTip st =>
    simp only [step, stepC, effOf]
    cases hd : deleteTip cd cfg s st with
    | mk s' r =>
      by_cases hr : r.removed
      · obtain ⟨b, x, c', rfl, hR', _, hlog, hlt, hhead, hdb⟩ := ref_delete hbase hR hd hr
        cases hc : s.cache with
        | nil => rw [hc] at hhead; cases hhead
        | cons tip rest =>
          obtain rfl : tip = b := by rw [hc] at hhead; exact Option.some.inj hhead
          rcases hr with rfl | rfl
          · simp only [true_or, if_true]
            exact .deleted rfl (hlt f hf) hdb hlog hR'
          · simp only [reduceCtorEq, if_false, or_true, if_true]
            exact .deleted rfl (hlt f hf) hdb hlog hR'
      · obtain rfl : s' = s := deleteTip_not_removed hd hr
        have e2 : ¬ r = Res.ok := fun h => hr (Or.inl h)
        have e3 : ¬ r = Res.errWritten := fun h => hr (Or.inr h)
        simp only [e2, e3, if_false, or_self]
        cases s'.cache <;> exact .silent rfl rfl hR
  | restart =>
    obtain ⟨h1, h2, h3⟩ := ref_restart (cfg := cfg) hbase hR
    exact .silent h2 h3 h1
  | clearTemp => exact .cleared

section
variable {cd : Codecs} {cfg : Cfg} {base : Store} {baseH f : Nat} {s s' : St} {c c' : Chain} {e : List Eff}

theorem Prim.ref (hR : Ref cd base baseH s c) (h : Prim cd cfg base baseH f s c e s' c') :
    Ref cd base baseH s' c' := by
  cases h with
  | silent _ _ h => exact h
  | applied _ h => exact h
  | deleted _ _ _ _ h => exact h
  | cleared => exact (ref_clearTemp hR).1

theorem Prim.hist (hR : Ref cd base baseH s c) (hf : finOf s.db = some f)
    (h : Prim cd cfg base baseH f s c e s' c') : Hist f s c e s' c' := by
  cases h with
  | silent hdb hlog _ => exact ⟨by rw [hdb]; exact hf, by rw [hlog]; rfl, rfl⟩
  | applied hstep _ =>
    refine ⟨?_, ?_, rfl⟩
    · simp only [finAfter]
      exact finOf_applyDb cd cfg s.db f _ _ _ (finOf_lt hf)
        (Nat.lt_of_le_of_lt hstep.mhpcLe hstep.block.heightLt)
    · simp only [evsOf, applyLog]; split <;> simp
  | deleted hc hlt hdb hlog hR' =>
    subst hc
    refine ⟨?_, by rw [hlog]; cases ‹Bool› <;> simp [evsOf], rfl⟩
    rw [hdb, (dbRef_delete hR.db hf hlt).2]; rfl
  | cleared => exact ⟨by rw [(ref_clearTemp hR).2.1]; exact hf, rfl, rfl⟩

theorem Prim.mem (h : Prim cd cfg base baseH f s c e s' c') (bx : Block × Exec) (hm : bx ∈ c)
    (hle : bx.1.hdr.height ≤ f) : bx ∈ c' := by
  cases h with
  | silent => exact hm
  | applied => exact List.mem_cons_of_mem _ hm
  | deleted hc hlt =>
    subst hc
    rcases List.mem_cons.mp hm with rfl | hm
    · exact absurd hle (Nat.not_le.mpr hlt)
    · exact hm
  | cleared => exact hm

theorem Prim.temp (hR : Ref cd base baseH s c) (hf : finOf s.db = some f)
    (h : Prim cd cfg base baseH f s c e s' c') (k : Bytes) (hk : k.head? = some 7) :
    slookup s'.db k = tempAfter (slookup s.db) e k := by
  cases h with
  | silent hdb => rw [hdb]; rfl
  | applied hstep _ => exact apply_temp cd cfg s.db f _ _ _ hstep.ov.nodup hstep.stateKeys k hk
  | deleted hc _ hdb => subst hc; rw [hdb]; exact delete_temp _ hR.db hf k hk
  | cleared => exact clearTemp_temp s k hk

/-- the removal of the newest block of the chain publishes no finalize event and leaves the headers at or
below the finalized height alone -/
theorem trans_removed {b : Block} {x : Exec} {evs : List Ev} (hbase : BaseOK cd base baseH)
    (hR : Ref cd base baseH s ((b, x) :: c)) (hf : finOf s.db = some f) (hlt : f < b.hdr.height)
    (hR' : Ref cd base baseH s' c) (hfin : finOf s'.db = finOf s.db) (hlog : s'.log = evs ++ s.log)
    (hev : finPairs evs = []) : Trans cd base baseH s ((b, x) :: c) s' c := by
  refine ⟨hR', ⟨f, f, evs, hf, hfin ▸ hf, hlog, by rw [hev]; rfl⟩, fun f' hf' h hle => ?_⟩
  obtain rfl : f' = f := Option.some.inj (hf'.symm.trans hf)
  exact (hdrSpec_cons hR.db.wf hbase (by have := hR.db.wf.height; omega)).symm

theorem Prim.trans (hbase : BaseOK cd base baseH) (hR : Ref cd base baseH s c) (hf : finOf s.db = some f)
    (h : Prim cd cfg base baseH f s c e s' c') : Trans cd base baseH s c s' c' := by
  have hH := h.hist hR hf
  obtain ⟨f0, hf0, _, hle0⟩ := hR.db.finOk
  obtain rfl : f0 = f := Option.some.inj (hf0.symm.trans hf)
  cases h with
  | silent hdb hlog hR' => exact trans_same_fin_log hR' (by rw [hdb]) hlog
  | applied hstep hR' =>
    refine ⟨hR', ⟨f0, _, applyLog f0 _ _, hf, hH.fin, rfl, ?_⟩, ?_⟩
    · simp only [finAfter, applyLog]
      split
      · rename_i hlt
        rw [Nat.max_eq_right (Nat.le_of_lt hlt)]
        exact ⟨rfl, hlt, rfl⟩
      · rename_i hn
        rw [Nat.max_eq_left (Nat.le_of_not_lt hn)]
        rfl
    · intro f' hf' h hle
      obtain rfl : f' = f0 := Option.some.inj (hf'.symm.trans hf)
      have := hR'.db.wf.height
      exact hdrSpec_cons hR'.db.wf hbase (by omega)
  | deleted hc hlt hdb hlog hR' =>
    subst hc
    exact trans_removed hbase hR hf hlt hR' (hH.fin.trans hf.symm) hlog (by split <;> rfl)
  | cleared =>
    obtain ⟨h1, h2, h3⟩ := ref_clearTemp hR
    exact trans_same_fin_log h1 h2 h3

end

/-- a history of primitive operations from a refined state: its steps, with their effects in order -/
inductive Reach (cd : Codecs) (cfg : Cfg) (base : Store) (baseH : Nat) :
    Nat → St → Chain → List Eff → St → Chain → Prop
  | refl {f s c} : Reach cd cfg base baseH f s c [] s c
  | step {f s c e s1 c1 t s2 c2} : Ref cd base baseH s c → finOf s.db = some f →
      Prim cd cfg base baseH f s c e s1 c1 → Reach cd cfg base baseH (finAfter f e) s1 c1 t s2 c2 →
      Reach cd cfg base baseH f s c (e ++ t) s2 c2

theorem reach_runPrim {cd : Codecs} {cfg : Cfg} {slot : Slot} {base : Store} {baseH : Nat}
    (hbase : BaseOK cd base baseH) : ∀ (ops : List Op) (s : St) (c : Chain) (f : Nat),
    (∀ o ∈ ops, o.prim) → Ref cd base baseH s c → finOf s.db = some f →
    RunOK cd cfg slot base s c ops →
    Reach cd cfg base baseH f s c (tracePrim cd cfg slot s ops) (run cd cfg slot s ops)
      (runC cd cfg slot s c ops) := by
  intro ops
  induction ops with
  | nil => intro s c f _ _ _ _; exact .refl
  | cons op r ih =>
    intro s c f hp hR hf hok
    have h1 := prim_step (cfg := cfg) (slot := slot) hbase hR hf op (hp op List.mem_cons_self) hok.1
    exact .step hR hf h1 (ih _ _ _ (fun o ho => hp o (List.mem_cons_of_mem _ ho)) (h1.ref hR)
      (h1.hist hR hf).fin hok.2)

/-- every history is a history of primitive operations (`Executer.process` flattened) -/
theorem reach_run {cd : Codecs} {cfg : Cfg} {slot : Slot} {base : Store} {baseH : Nat}
    (hbase : BaseOK cd base baseH) (ops : List Op) (s : St) (c : Chain) (f : Nat)
    (hR : Ref cd base baseH s c) (hf : finOf s.db = some f) (hok : RunOK cd cfg slot base s c ops) :
    Reach cd cfg base baseH f s c (trace cd cfg slot s ops) (run cd cfg slot s ops)
      (runC cd cfg slot s c ops) := by
  obtain ⟨h1, h2, h3⟩ := flat_run cd cfg slot base ops s c
  rw [h1, h2]
  exact reach_runPrim hbase _ s c f (flat_prim cd cfg slot ops s) hR hf (h3 hok)

section
variable {cd : Codecs} {cfg : Cfg} {base : Store} {baseH f : Nat} {s s' : St} {c c' : Chain} {t : List Eff}

theorem Reach.hist (hf : finOf s.db = some f) (h : Reach cd cfg base baseH f s c t s' c') :
    Hist f s c t s' c' := by
  induction h with
  | refl => exact hist_refl hf
  | step hR hf' hp _ ih => exact hist_trans (hp.hist hR hf') (ih (hp.hist hR hf').fin)

theorem Reach.mem (h : Reach cd cfg base baseH f s c t s' c') (bx : Block × Exec) (hm : bx ∈ c)
    (hle : bx.1.hdr.height ≤ f) : bx ∈ c' := by
  induction h with
  | refl => exact hm
  | step _ _ hp _ ih => exact ih (hp.mem bx hm hle) (Nat.le_trans hle (le_finAfter _ _))

theorem Reach.temp (h : Reach cd cfg base baseH f s c t s' c') (k : Bytes) (hk : k.head? = some 7) :
    slookup s'.db k = tempAfter (slookup s.db) t k := by
  induction h with
  | refl => rfl
  | step hR hf hp _ ih =>
    rw [ih, tempAfter_append]
    exact tempAfter_congr _ _ _ (fun k' hk' => hp.temp hR hf k' hk') k hk

theorem Reach.trans (hbase : BaseOK cd base baseH) (hR : Ref cd base baseH s c)
    (h : Reach cd cfg base baseH f s c t s' c') : Trans cd base baseH s c s' c' := by
  induction h with
  | refl => exact trans_refl hR
  | step hR hf hp _ ih => exact trans_trans (hp.trans hbase hR hf) (ih (hp.ref hR))

end

/-- **Every history is determined by its effect trace**: finalized height, published events and
ghost chain. -/
theorem hist_run {cd : Codecs} {cfg : Cfg} {slot : Slot} {base : Store} {baseH : Nat}
    (hbase : BaseOK cd base baseH) (ops : List Op) (s : St) (c : Chain) (f : Nat)
    (hR : Ref cd base baseH s c) (hf : finOf s.db = some f) (hok : RunOK cd cfg slot base s c ops) :
    Hist f s c (trace cd cfg slot s ops) (run cd cfg slot s ops) (runC cd cfg slot s c ops) :=
  (reach_run hbase ops s c f hR hf hok).hist hf

/-- a block of the ghost chain at or below the finalized height is in the ghost chain after
every history -/
theorem mem_runC {cd : Codecs} {cfg : Cfg} {slot : Slot} {base : Store} {baseH : Nat}
    (hbase : BaseOK cd base baseH) (ops : List Op) (s : St) (c : Chain) (f : Nat)
    (hR : Ref cd base baseH s c) (hf : finOf s.db = some f) (hok : RunOK cd cfg slot base s c ops)
    (bx : Block × Exec) (hm : bx ∈ c) (hle : bx.1.hdr.height ≤ f) :
    bx ∈ runC cd cfg slot s c ops :=
  (reach_run hbase ops s c f hR hf hok).mem bx hm hle

/-- **The table of temporary blocks is a function of the effect trace.** -/
theorem temp_run {cd : Codecs} {cfg : Cfg} {slot : Slot} {base : Store} {baseH : Nat}
    (hbase : BaseOK cd base baseH) (ops : List Op) (s : St) (c : Chain)
    (hR : Ref cd base baseH s c) (hok : RunOK cd cfg slot base s c ops) (k : Bytes)
    (hk : k.head? = some 7) :
    slookup (run cd cfg slot s ops).db k = tempAfter (slookup s.db) (trace cd cfg slot s ops) k := by
  obtain ⟨f, hf, _, _⟩ := hR.db.finOk
  exact (reach_run hbase ops s c f hR hf hok).temp k hk

theorem trans_run {cd : Codecs} {cfg : Cfg} {slot : Slot} {base : Store} {baseH : Nat}
    (hbase : BaseOK cd base baseH) : ∀ (ops : List Op) (s : St) (c : Chain),
    Ref cd base baseH s c → RunOK cd cfg slot base s c ops →
    Trans cd base baseH s c (run cd cfg slot s ops) (runC cd cfg slot s c ops) := by
  intro ops s c hR hok
  obtain ⟨f, hf, _, _⟩ := hR.db.finOk
  exact (reach_run hbase ops s c f hR hf hok).trans hbase hR

theorem trans_step {cd : Codecs} {cfg : Cfg} {slot : Slot} {base : Store} {baseH : Nat} {s : St}
    {c : Chain} (hbase : BaseOK cd base baseH) (hR : Ref cd base baseH s c)
    (op : Op) (hok : OpOK cd cfg slot base s c op) :
    Trans cd base baseH s c (step cd cfg slot s op) (stepC cd cfg slot s c op) :=
  trans_run hbase [op] s c hR ⟨hok, trivial⟩

/-- a history `a ++ b`: the state after `a` is refined, `b` is a history from there, and the state after `a ++ b` is
refined -/
theorem run_split {cd : Codecs} {cfg : Cfg} {slot : Slot} {base : Store} {baseH : Nat}
    (hbase : BaseOK cd base baseH) (a b : List Op) (s : St) (c : Chain) (hR : Ref cd base baseH s c)
    (hok : RunOK cd cfg slot base s c (a ++ b)) :
    Ref cd base baseH (run cd cfg slot s a) (runC cd cfg slot s c a) ∧
    RunOK cd cfg slot base (run cd cfg slot s a) (runC cd cfg slot s c a) b ∧
    Ref cd base baseH (run cd cfg slot s (a ++ b)) (runC cd cfg slot s c (a ++ b)) := by
  obtain ⟨ha, hb⟩ := (runOK_append cd cfg slot base a b s c).mp hok
  exact ⟨(trans_run hbase a s c hR ha).ref, hb, (trans_run hbase (a ++ b) s c hR hok).ref⟩

/-! ### which keys of a new block can be in use -/

/-- the base database holds no state diff / events above its tip and no transaction-id list or
asset list of a block whose header it does not hold (true of the database right after the genesis
block: `C05More.baseClean`; of a database written by earlier runs it is an assumption) -/
structure BaseClean (base : Store) (baseH : Nat) : Prop where
  diff : ∀ h, baseH < h → slookup base (kDiff h) = none
  events : ∀ h, baseH < h → slookup base (kEvents h) = none
  txs : ∀ id v, slookup base (kTxs id) = some v → ∃ hb, slookup base (kHeader id) = some hb
  assets : ∀ id v, slookup base (kAssets id) = some v → ∃ hb, slookup base (kHeader id) = some hb

theorem heightKey_above_tip {cd : Codecs} {base : Store} {baseH : Nat} {c : Chain}
    (hwf : ChainWF cd base baseH c) {key : Nat → Bytes} (hkey : key = kHeight ∨ key = kDiff ∨ key = kEvents)
    {h : Nat} (hgt : tipH baseH c < h) (hlt : h < u32) : ∀ bx ∈ c, key h ∉ allKeys bx.1 := fun bx hbx hm => by
  have := (chain_heights hwf bx hbx).2
  have := (heightKey_mem_allKeys hkey _ bx.1 hlt (by omega)).mp hm
  omega

/-- no state diff is stored above the tip -/
theorem spec_diff_above_tip {cd : Codecs} {base : Store} {baseH : Nat} {c : Chain}
    (hclean : BaseClean base baseH) (hwf : ChainWF cd base baseH c) {h : Nat} (hgt : tipH baseH c < h)
    (hlt : h < u32) : spec cd base c (kDiff h) = none :=
  spec_none_of_absent hwf (not_state_of_head (kDiff_head _)) (heightKey_above_tip hwf (by simp) hgt hlt)
    (hclean.diff _ (by have := tipH_ge hwf; omega))

/-- **The freshness hypothesis is about transaction ids only**: for a block at height tip + 1
whose id is not stored, all its database keys are free iff none of its transactions is stored. -/
theorem fresh_iff_no_shared_tx {cd : Codecs} {base : Store} {baseH : Nat} {c : Chain}
    (hbase : BaseOK cd base baseH) (hclean : BaseClean base baseH) (hwf : ChainWF cd base baseH c)
    (b : Block) (hh : b.hdr.height = tipH baseH c + 1) (hb : b.hdr.height < u32)
    (hid : spec cd base c (kHeader b.hdr.id) = none) :
    (∀ k ∈ allKeys b, spec cd base c k = none) ↔ (∀ t ∈ b.txs, spec cd base c (kTx t.1) = none) := by
  constructor
  · intro h t ht
    exact h _ ((mem_allKeys b _).mpr (Or.inr (Or.inr (Or.inr (Or.inr (Or.inr (Or.inr ⟨t, ht, rfl⟩)))))))
  · intro htx k hk
    have hge := tipH_ge hwf
    -- the id of the new block is not the id of a block of the chain, nor of a header of the base
    have hidc : ∀ bx ∈ c, b.hdr.id ≠ bx.1.hdr.id := fun bx hbx he => by
      have := (stored_member hwf bx hbx).header
      rw [← he, hid] at this; cases this
    have hidb : ∀ hb0, slookup base (kHeader b.hdr.id) ≠ some hb0 := fun hb0 h => by
      rw [spec_base_present hwf (kHeader_not_state _) h] at hid; cases hid
    -- the list of transaction ids and the assets: nothing under the id in a block of the chain, nor in the base
    have idk : ∀ {key : Bytes → Bytes} (hkey : key = kHeader ∨ key = kTxs ∨ key = kAssets),
        ¬ isStateKey (key b.hdr.id) →
        (∀ v, slookup base (key b.hdr.id) = some v → ∃ hb0, slookup base (kHeader b.hdr.id) = some hb0) →
        spec cd base c (key b.hdr.id) = none := fun hkey hns hcl => by
      refine spec_none_of_absent hwf hns
        (fun bx hbx hm => hidc bx hbx ((idKey_mem_allKeys hkey _ bx.1).mp hm)) ?_
      cases hb' : slookup base (_ : Bytes) with
      | none => rfl
      | some v => obtain ⟨hb0, h⟩ := hcl _ hb'; exact absurd h (hidb hb0)
    rcases (mem_allKeys b k).mp hk with rfl | rfl | rfl | rfl | rfl | rfl | ⟨t, ht, rfl⟩
    · exact spec_diff_above_tip hclean hwf (by omega) hb
    · exact hid
    · refine spec_none_of_absent hwf (kHeight_not_state _) (heightKey_above_tip hwf (by simp) (by omega) hb) ?_
      cases hb' : slookup base (kHeight b.hdr.height) with
      | none => rfl
      | some v =>
        obtain ⟨h', hle, he⟩ := hbase.idxShape _ _ hb' (by simp [kHeight])
        simp only [kHeight, List.cons.injEq, true_and] at he
        have := encU32_inj hb (by omega) he
        omega
    · exact idk (key := kTxs) (by simp) (kTxs_not_state _) (hclean.txs _)
    · exact idk (key := kAssets) (by simp) (kAssets_not_state _) (hclean.assets _)
    · exact spec_none_of_absent hwf (not_state_of_head (p := 9) rfl)
        (heightKey_above_tip hwf (by simp) (by omega) hb) (hclean.events _ (by omega))
    · exact htx t ht


/-! ### unfolding the trace -/

theorem flat_of_prim (cd : Codecs) (cfg : Cfg) (slot : Slot) : ∀ (ops : List Op) (s : St),
    (∀ o ∈ ops, o.prim) → flat cd cfg slot s ops = ops := by
  intro ops
  induction ops with
  | nil => intro s _; rfl
  | cons op r ih =>
    intro s h
    have hp := h op List.mem_cons_self
    simp only [flat]
    rw [ih _ (fun o ho => h o (List.mem_cons_of_mem _ ho))]
    cases op with
    | process i => exact absurd hp (by simp [Op.prim])
    | apply b v x rt => rfl
    | deleteTip st => rfl
    | restart => rfl
    | clearTemp => rfl

theorem trace_cons (cd : Codecs) (cfg : Cfg) (slot : Slot) (s : St) (op : Op) (r : List Op) :
    trace cd cfg slot s (op :: r) =
      trace cd cfg slot s [op] ++ trace cd cfg slot (step cd cfg slot s op) r := by
  have h : op :: r = [op] ++ r := rfl
  rw [h, trace_append]
  rfl

theorem trace_process (cd : Codecs) (cfg : Cfg) (slot : Slot) (s : St) (i : Incoming) :
    trace cd cfg slot s [.process i] = trace cd cfg slot s (processOps cd cfg slot s i) := by
  unfold trace
  rw [flat_of_prim cd cfg slot (processOps cd cfg slot s i) s (processOps_prim cd cfg slot s i)]
  simp only [flat, primOps, List.append_nil]

theorem appliedOf_append : ∀ (a b : List Eff), appliedOf (a ++ b) = appliedOf a ++ appliedOf b := by
  intro a
  induction a with
  | nil => intro b; rfl
  | cons e r ih => intro b; cases e <;> simp only [List.cons_append, appliedOf, ih]

/-- the trace of successful `processValidated` calls lists their blocks -/
theorem trace_applies (cd : Codecs) (cfg : Cfg) (slot : Slot) :
    ∀ (bs : List (Block × Bool × Exec × Bool)) (s : St),
    Succ cd cfg slot s (bs.map fun a => Op.apply a.1 a.2.1 a.2.2.1 a.2.2.2) →
    trace cd cfg slot s (bs.map fun a => Op.apply a.1 a.2.1 a.2.2.1 a.2.2.2) =
      bs.map fun a => Eff.applied a.1 a.2.2.1 a.2.2.2 := by
  intro bs
  induction bs with
  | nil => intro s _; rfl
  | cons a r ih =>
    intro s h
    simp only [List.map_cons, Succ] at h
    rw [List.map_cons, trace_cons, ih _ h.2]
    simp only [trace, flat, primOps, List.append_nil, tracePrim, effOf, h.1, if_true, List.map_cons,
      List.cons_append, List.nil_append]

theorem appliedOf_applied (bs : List (Block × Bool × Exec × Bool)) :
    appliedOf (bs.map fun a => Eff.applied a.1 a.2.2.1 a.2.2.2) = bs.map fun a => (a.1, a.2.2.1) := by
  induction bs with
  | nil => rfl
  | cons a r ih => simp only [List.map_cons, appliedOf, ih]

/-- `deleteBlock` calls apply nothing -/
theorem appliedOf_trace_deletes (cd : Codecs) (cfg : Cfg) (slot : Slot) : ∀ (sts : List Bool) (s : St),
    appliedOf (trace cd cfg slot s (sts.map Op.deleteTip)) = [] := by
  intro sts
  induction sts with
  | nil => intro s; rfl
  | cons a r ih =>
    intro s
    rw [List.map_cons, trace_cons, appliedOf_append, ih, List.append_nil]
    simp only [trace, flat, primOps, List.append_nil, tracePrim, effOf]
    cases s.cache with
    | nil => rfl
    | cons tip rest =>
      simp only
      split
      · rfl
      · split <;> rfl

end LiskVerif.Node
