/-
The node store of the regular Merkle tree: `Append` keeps, for every proper aligned block of leaves, the hash of
the block at its location (`Stored`), never fails on such a tree, and keeps the `hash -> location` index of the
leaves (`H2L`); every node of the LIP-0031 tree (`nodeList`) is such a block.
-/
import LiskVerif.Lemmas.RMTBlocks
import LiskVerif.Lemmas.RMTEdge

namespace LiskVerif.RMT

/-- every proper block of the leaf hashes `l` is stored at its location -/
def Stored (hf : HashFns) (t : Tree) (l : List Bytes) : Prop :=
  ∀ layer k, proper l.length layer k → t.getHash (layer, k) = some (rootH hf (blk l layer k))

theorem Stored_iff {hf : HashFns} {t : Tree} {l : List Bytes} : Stored hf t l ↔
    ∀ layer k, properCore l.length layer k → t.getHash (layer, k) = some (rootH hf (blkCore l layer k)) := by
  simp only [Stored, proper_eq, blk_eq]

theorem getHash_saveNode (t : Tree) (h : Bytes) (l loc : Loc) :
    (t.saveNode h l).getHash loc = if loc = l then some h else t.getHash loc := by
  simp only [Tree.getHash, Tree.saveNode, List.lookup]
  by_cases e : loc = l
  · subst e; simp
  · have : (loc == l) = false := by simpa using e
    simp [this, e]

/-- what the first loop of `Append` writes: the nodes on the right edge of the tree over the new list `L`, above
every set bit of the old size -/
theorem storeLoop_blk (hf : HashFns) (height size : Nat) (L : List Bytes) (hL : L.length = size + 1) :
    ∀ (f h : Nat) (t0 t2 : Tree),
    storeLoop hf height size f h (apSpec hf L f h (size >>> h)) (rootH hf (blkCore L h (size >>> h))) t0 = (t2, true) →
    ∀ layer k,
      t2.getHash (layer, k) =
        if h < layer ∧ layer ≤ h + f ∧ (size >>> (layer - 1)) % 2 = 1 ∧ k = size >>> layer then
          some (rootH hf (blkCore L layer k)) else t0.getHash (layer, k) := by
  intro f
  induction f with
  | zero =>
    intro h t0 t2 hs layer k
    simp only [storeLoop] at hs
    cases hs
    rw [if_neg (by omega)]
  | succ f ih =>
    intro h t0 t2 hs layer k
    have hshift : size >>> (h + 1) = (size >>> h) / 2 := Nat.shiftRight_succ _ _
    have hd := Nat.div_add_mod size (2 ^ h)
    have hm := Nat.mod_lt size (Nat.two_pow_pos h)
    have hq1 : (size >>> h) * 2 ^ h < L.length := by
      rw [hL, Nat.shiftRight_eq_div_pow, Nat.mul_comm]; omega
    rw [apSpec_succ] at hs
    -- the conditions for `h + 1` and `f` in terms of those for `h` and `f + 1`
    have hcond : ∀ (x : Option Bytes), (layer = h + 1 → x = if (size >>> h) % 2 = 1 ∧ k = size >>> (h + 1) then
          some (rootH hf (blkCore L layer k)) else t0.getHash (layer, k)) → (layer ≠ h + 1 → x = t0.getHash (layer, k)) →
        (if h + 1 < layer ∧ layer ≤ h + 1 + f ∧ (size >>> (layer - 1)) % 2 = 1 ∧ k = size >>> layer then
          some (rootH hf (blkCore L layer k)) else x) =
        if h < layer ∧ layer ≤ h + (f + 1) ∧ (size >>> (layer - 1)) % 2 = 1 ∧ k = size >>> layer then
          some (rootH hf (blkCore L layer k)) else t0.getHash (layer, k) := by
      intro x hx1 hx2
      by_cases hl : layer = h + 1
      · subst hl
        rw [if_neg (by omega), hx1 rfl, Nat.add_sub_cancel]
        by_cases hc : (size >>> h) % 2 = 1 ∧ k = size >>> (h + 1)
        · rw [if_pos hc, if_pos ⟨by omega, by omega, hc⟩]
        · rw [if_neg hc, if_neg (fun hh => hc hh.2.2)]
      · rw [hx2 hl]
        by_cases hc : h < layer ∧ layer ≤ h + (f + 1) ∧ (size >>> (layer - 1)) % 2 = 1 ∧ k = size >>> layer
        · rw [if_pos hc, if_pos ⟨by omega, by omega, hc.2.2⟩]
        · rw [if_neg hc, if_neg (fun hh => hc ⟨by omega, by omega, hh.2.2⟩)]
    rcases Nat.mod_two_eq_zero_or_one (size >>> h) with hbit | hbit
    · -- a clear bit: the right sibling is empty, the node is carried up
      have hpar := rootH_blk_parent_last hf L h _ hq1 hbit
        (by rw [hL, Nat.shiftRight_eq_div_pow, Nat.add_mul, Nat.one_mul, Nat.mul_comm]; omega)
      rw [← hshift] at hpar
      have hb : ((size >>> h) % 2 == 1) = false := by rw [hbit]; rfl
      rw [if_neg (by omega), ← hshift, ← hpar] at hs
      simp only [storeLoop, hb, Bool.false_eq_true, if_false] at hs
      rw [ih (h + 1) t0 t2 hs layer k]
      exact hcond _ (fun _ => by rw [if_neg (fun hh => by omega)]) (fun _ => rfl)
    · -- a set bit: the entry of the append path is the left sibling
      have hpar := rootH_blk_parent_odd hf L h _ hq1 hbit
      rw [← hshift] at hpar
      have hb : ((size >>> h) % 2 == 1) = true := by rw [hbit]; rfl
      rw [if_pos hbit, ← hshift] at hs
      have hs' : storeLoop hf height size f (h + 1) (apSpec hf L f (h + 1) (size >>> (h + 1)))
          (rootH hf (blkCore L (h + 1) (size >>> (h + 1))))
          (t0.saveNode (rootH hf (blkCore L (h + 1) (size >>> (h + 1)))) (h + 1, size >>> (h + 1))) = (t2, true) := by
        simp only [storeLoop, hb, if_true, ← hpar] at hs
        split at hs
        · split at hs
          · cases hs
          · exact hs
        · exact hs
      rw [ih (h + 1) _ t2 hs' layer k]
      refine hcond _ (fun hl => ?_) (fun hl => ?_)
      · subst hl
        rw [getHash_saveNode]
        by_cases hk : k = size >>> (h + 1)
        · rw [if_pos (by rw [hk]), if_pos ⟨hbit, hk⟩, hk]
        · rw [if_neg (fun e => hk (Prod.mk.inj e).2), if_neg (fun hh => hk hh.2)]
      · rw [getHash_saveNode, if_neg (fun e => hl (Prod.mk.inj e).1)]

/-- a proper node of `n + 1` leaves is a complete block of the first `n` leaves, or the new leaf, or the block
that ends at the new leaf above a set bit of `n` -/
theorem proper_succ_cases {n layer k : Nat} (hp : properCore (n + 1) layer k) :
    ((k + 1) * 2 ^ layer ≤ n ∧ properCore n layer k) ∨ (layer = 0 ∧ k = n) ∨
    (1 ≤ layer ∧ 2 ^ (layer - 1) ≤ n ∧ (n / 2 ^ (layer - 1)) % 2 = 1 ∧ k = n / 2 ^ layer) := by
  cases layer with
  | zero =>
    have := proper_zero.1 hp
    by_cases hk : k < n
    · exact Or.inl ⟨by omega, proper_zero.2 hk⟩
    · exact Or.inr (Or.inl ⟨rfl, by omega⟩)
  | succ l =>
    have h2 := proper_succ.1 hp
    have hp2 := Nat.two_pow_pos l
    have e := succ_mul_pow_succ k l
    by_cases hfull : (k + 1) * 2 ^ (l + 1) ≤ n
    · exact Or.inl ⟨hfull, proper_succ.2 (by omega)⟩
    · have hq : n / 2 ^ l = 2 * k + 1 :=
        Nat.div_eq_of_lt_le (by omega) (by rw [Nat.succ_mul]; omega)
      have : 2 ^ l ≤ (2 * k + 1) * 2 ^ l := Nat.le_mul_of_pos_left _ (by omega)
      refine Or.inr (Or.inr ⟨by omega, by simpa using (by omega : 2 ^ l ≤ n), by simpa using (by omega : n / 2 ^ l % 2 = 1), ?_⟩)
      rw [div_pow_succ, hq]; omega

theorem getHash_saveNode_ne_none (t : Tree) (x : Bytes) (l loc : Loc) (h : t.getHash loc ≠ none) :
    (t.saveNode x l).getHash loc ≠ none := by
  rw [getHash_saveNode]
  split
  · simp
  · exact h

theorem storeLoop_ok (hf : HashFns) (height size : Nat) (L : List Bytes) : ∀ (f h : Nat) (cur : Bytes) (t0 : Tree),
    (∀ h', h' + 1 = height - 1 → (size >>> h') % 2 = 1 → t0.getHash (h' + 1, size >>> (h' + 1)) ≠ none) →
    (storeLoop hf height size f h (apSpec hf L f h (size >>> h)) cur t0).2 = true := by
  intro f
  induction f with
  | zero => intro h cur t0 _; rfl
  | succ f ih =>
    intro h cur t0 hchk
    have hshift : (size >>> h) / 2 = size >>> (h + 1) := (Nat.shiftRight_succ _ _).symm
    rw [apSpec_succ, hshift]
    rcases Nat.mod_two_eq_zero_or_one (size >>> h) with hbit | hbit
    · have hb : ((size >>> h) % 2 == 1) = false := by rw [hbit]; rfl
      rw [if_neg (by omega)]
      simp only [storeLoop, hb, Bool.false_eq_true, if_false]
      exact ih (h + 1) cur t0 hchk
    · have hb : ((size >>> h) % 2 == 1) = true := by rw [hbit]; rfl
      have hnext : ∀ (c : Bytes) (t1 : Tree), (∀ h', h' + 1 = height - 1 → (size >>> h') % 2 = 1 →
          t1.getHash (h' + 1, size >>> (h' + 1)) ≠ none) →
          (storeLoop hf height size f (h + 1) (apSpec hf L f (h + 1) (size >>> (h + 1))) c t1).2 = true :=
        fun c t1 h1 => ih (h + 1) c t1 h1
      rw [if_pos hbit]
      simp only [storeLoop, hb, if_true]
      split
      · rename_i heq
        have heq' : h + 1 = height - 1 := by simpa using heq
        have := hchk h heq' hbit
        split
        · rename_i hnone; exact absurd hnone this
        · exact hnext _ _ (fun h' e1 e2 => getHash_saveNode_ne_none _ _ _ _ (hchk h' e1 e2))
      · exact hnext _ _ (fun h' e1 e2 => getHash_saveNode_ne_none _ _ _ _ (hchk h' e1 e2))

/-- `Append` on a tree that holds (root, append path, size) of `L` and has an exact store: it succeeds, (root, path, size)
are those of the longer list, and the store stays exact -/
theorem append_stored (hf : HashFns) (t : Tree) (L : List Bytes) (v : Bytes)
    (hcore : t.core = ⟨rootH hf L, peaks hf L, L.length⟩) (hst : Stored hf t L) :
    (append hf t v).2 = true ∧
    (append hf t v).1.core = ⟨rootH hf (L ++ [hf.leaf v]), peaks hf (L ++ [hf.leaf v]), L.length + 1⟩ ∧
    Stored hf (append hf t v).1 (L ++ [hf.leaf v]) := by
  have hac := (appendCore_blk hf L v).1
  rw [← hcore] at hac
  have hsize : t.core.size = L.length := by rw [hcore]
  have hpath : t.core.path = peaks hf L := by rw [hcore]
  obtain ⟨t2, b, -, hsl, e⟩ := append_eq hf t v
  rw [e, hac]
  by_cases hz : t.core.size = 0
  · rw [if_pos hz] at hsl
    cases hsl
    refine ⟨rfl, rfl, Stored_iff.2 ?_⟩
    have hnil : L = [] := List.eq_nil_of_length_eq_zero (by omega)
    subst hnil
    intro layer k hp
    simp only [List.nil_append, List.length_cons, List.length_nil] at hp ⊢
    rcases proper_succ_cases (n := 0) hp with ⟨h, _⟩ | ⟨rfl, rfl⟩ | ⟨_, h, _⟩
    · have := Nat.two_pow_pos layer; rw [Nat.add_mul] at h; omega
    · show (t.saveNode (hf.leaf v) (0, t.core.size)).getHash (0, 0) = _
      rw [hz, getHash_saveNode, if_pos rfl, show blkCore [hf.leaf v] 0 0 = [hf.leaf v] from rfl, rootH_singleton]
    · have := Nat.two_pow_pos (layer - 1); omega
  · rw [if_neg hz] at hsl
    have hlt2 : L.length < 2 ^ getHeight t.core.size := by rw [← hsize]; exact lt_two_pow_getHeight _
    -- the loop does not fail: the one node it replaces stands at the location of the root, `(clog2 size, 0)`, and is looked up
    -- only for a size that is not a power of two; that node is proper, hence stored
    have hb : b = true := by
      have hn2 : 1 ≤ t.core.size := by omega
      have hok := storeLoop_ok hf (getHeight t.core.size) t.core.size L (getHeight t.core.size) 0 (hf.leaf v)
        (t.saveNode (hf.leaf v) (0, t.core.size)) (by
        intro h' e1 e2
        apply getHash_saveNode_ne_none
        -- `(h' + 1, size >>> (h' + 1))` is `(clog2 size, 0)`, a proper node when the size is not a power of two
        have hc1 : h' + 1 = clog2 t.core.size := by simp [getHeight] at e1; omega
        have hn3 : 2 ≤ t.core.size := two_le_of_clog2_pos (by omega)
        have hle := le_two_pow_clog2 t.core.size
        have hlt := two_pow_clog2_lt hn3
        rw [← hc1] at hle hlt
        simp only [Nat.add_sub_cancel] at hlt
        rw [Nat.shiftRight_eq_div_pow] at e2
        have hne : t.core.size ≠ 2 ^ (h' + 1) := by
          intro e
          rw [e, Nat.pow_succ, Nat.mul_div_cancel_left _ (Nat.pow_pos (by decide))] at e2
          omega
        have hz' : t.core.size >>> (h' + 1) = 0 := by
          rw [Nat.shiftRight_eq_div_pow]; exact Nat.div_eq_of_lt (by omega)
        rw [hz']
        have := Stored_iff.1 hst (h' + 1) 0 (Or.inr ⟨by omega, by simp only [Nat.add_sub_cancel]; rw [← hsize]; omega⟩)
        rw [this]; simp)
      rw [Nat.shiftRight_zero, hsize, ← peaks_eq_apSpec hf L _ (lt_two_pow_getHeight _), ← hpath, ← hsize, hsl] at hok
      exact hok
    subst hb
    -- what the loop wrote is known from `storeLoop_blk`; a proper node of the longer list is an old one, the new leaf, or
    -- one of the nodes written (`proper_succ_cases`)
    refine ⟨rfl, rfl, Stored_iff.2 ?_⟩
    have hn : (L ++ [hf.leaf v]).length = t.core.size + 1 := by simp [hsize]
    have hleaf : rootH hf (blkCore (L ++ [hf.leaf v]) 0 t.core.size) = hf.leaf v := by
      rw [hsize, blk_leaf _ _ (hf.leaf v) (by simp), rootH_singleton]
    rw [hpath, peaks_eq_apSpec_append hf L [hf.leaf v] (getHeight t.core.size) hlt2, ← hsize] at hsl
    have hall := storeLoop_blk hf (getHeight t.core.size) _ _ hn (getHeight t.core.size) 0
      (t.saveNode (hf.leaf v) (0, t.core.size)) t2 (by rw [Nat.shiftRight_zero, hleaf]; exact hsl)
    intro layer k hp
    show t2.getHash (layer, k) = _
    rw [hall layer k]
    rw [hn] at hp
    split
    · rfl
    · rename_i hcond
      rw [getHash_saveNode]
      rcases proper_succ_cases hp with ⟨hfull, hpn⟩ | ⟨rfl, rfl⟩ | ⟨h1, hle, hbit, hk⟩
      · have hne : (layer, k) ≠ (0, t.core.size) := by
          intro e; cases e; rw [Nat.pow_zero, Nat.mul_one] at hfull; omega
        rw [if_neg hne, blk_append_left _ _ _ _ (by rw [← hsize]; exact hfull)]
        exact Stored_iff.1 hst _ _ (by rw [← hsize]; exact hpn)
      · rw [if_pos rfl, hleaf]
      · refine absurd ⟨by omega, ?_, by rw [Nat.shiftRight_eq_div_pow]; exact hbit,
          by rw [Nat.shiftRight_eq_div_pow]; exact hk⟩ hcond
        have := lt_two_pow_getHeight t.core.size
        have := (Nat.pow_lt_pow_iff_right (a := 2) (by decide)).1 (show 2 ^ (layer - 1) < 2 ^ getHeight t.core.size by omega)
        omega

/-- every entry of the `hash -> location` index is a leaf at its position or a branch node, and every
leaf has its entry -/
def H2L (hf : HashFns) (t : Tree) (L : List Bytes) : Prop :=
  (∀ x loc, (x, loc) ∈ t.h2l → (∃ k, loc = (0, k) ∧ L[k]? = some x) ∨ (∃ a b, x = hf.branch a b)) ∧
  (∀ k x, L[k]? = some x → (x, (0, k)) ∈ t.h2l)

theorem append_h2l (hf : HashFns) (t : Tree) (L : List Bytes) (v : Bytes) (hh : H2L hf t L)
    (hsize : t.core.size = L.length) : H2L hf (append hf t v).1 (L ++ [hf.leaf v]) := by
  -- the index of the result: the entries of `t`, the new leaf, branch nodes
  have key : (∀ e, e ∈ (t.saveNode (hf.leaf v) (0, t.core.size)).h2l → e ∈ (append hf t v).1.h2l) ∧
      (∀ e, e ∈ (append hf t v).1.h2l →
        e ∈ (t.saveNode (hf.leaf v) (0, t.core.size)).h2l ∨ ∃ a b, e.1 = hf.branch a b) := by
    obtain ⟨t2, b, hs, -, e⟩ := append_eq hf t v
    rw [e]
    cases b <;> cases appendCore hf t.core v <;> exact ⟨hs.keeps, hs.gains⟩
  obtain ⟨k1, k2⟩ := key
  constructor
  · intro x loc hm
    rcases k2 _ hm with h | ⟨a, b, h⟩
    · simp only [Tree.saveNode, List.mem_cons] at h
      rcases h with h | h
      · left
        obtain ⟨e1, e2⟩ := Prod.mk.inj h
        exact ⟨t.core.size, e2, by rw [hsize, e1]; simp⟩
      · rcases hh.1 x loc h with ⟨k, e1, e2⟩ | h'
        · left
          refine ⟨k, e1, ?_⟩
          rw [List.getElem?_append_left (List.getElem?_eq_some_iff.1 e2).1]; exact e2
        · right; exact h'
    · right; exact ⟨a, b, h⟩
  · intro k x hk
    apply k1
    simp only [Tree.saveNode, List.mem_cons]
    by_cases hlt : k < L.length
    · right
      rw [List.getElem?_append_left hlt] at hk
      exact hh.2 k x hk
    · left
      have hk' : k = L.length := by
        have := (List.getElem?_eq_some_iff.1 hk).1
        simp at this; omega
      subst hk'
      simp at hk
      rw [hsize, hk]

/-- with distinct leaf hashes that are never branch hashes, the index finds every leaf -/
theorem getLoc_leaf (hf : HashFns) (t : Tree) (L : List Bytes) (hh : H2L hf t L) (hnd : L.Nodup)
    (hsep : ∀ a b x, x ∈ L → hf.branch a b ≠ x) (k : Nat) (x : Bytes) (hk : L[k]? = some x) :
    t.getLoc x = some (0, k) := by
  unfold Tree.getLoc
  -- the leaf has an entry, so the lookup finds some entry for its hash; by `H2L` that entry is a leaf, hence this one
  cases hloc : t.h2l.lookup x with
  | none => simpa using List.lookup_eq_none_iff.1 hloc _ (hh.2 k x hk)
  | some loc =>
  obtain ⟨l₁, l₂, hm, _⟩ := List.lookup_eq_some_iff.1 hloc
  rcases hh.1 x loc (by rw [hm]; simp) with ⟨k', rfl, e2⟩ | ⟨a, b, e⟩
  · obtain ⟨h1, e1⟩ := List.getElem?_eq_some_iff.1 hk
    obtain ⟨h2, e2⟩ := List.getElem?_eq_some_iff.1 e2
    rw [(List.getElem_inj hnd).1 (e2.trans e1.symm)]
  · exact absurd e.symm (hsep a b x (List.mem_of_getElem? hk))

theorem nodeList_ge2 (hf : HashFns) (l : List Bytes) (lo : Nat) (h : 2 ≤ l.length) :
    nodeList hf l lo = nodeList hf (l.take (splitPoint l.length)) lo
      ++ nodeList hf (l.drop (splitPoint l.length)) (lo + splitPoint l.length)
      ++ [((Nat.log2 (splitPoint l.length) + 1, lo / (2 * splitPoint l.length)), rootH hf l)] := by
  match l, h with
  | a :: b :: r, _ => rw [nodeList]; simp only [List.length_cons]

theorem nodeList_singleton (hf : HashFns) (x : Bytes) (lo : Nat) : nodeList hf [x] lo = [((0, lo), x)] := by
  rw [nodeList]

/-- the nodes below a proper block are proper blocks at their locations: the left part of a block is perfect, the
right part is stored where `getRightSiblingInfo` looks for it -/
theorem nodeList_blk (hf : HashFns) (L : List Bytes) : ∀ (c q : Nat), properCore L.length c q →
    ∀ e ∈ nodeList hf (blkCore L c q) (q * 2 ^ c), ∃ layer k, e.1 = (layer, k) ∧ properCore L.length layer k ∧
      e.2 = rootH hf (blkCore L layer k) := by
  intro c
  induction c using Nat.strongRecOn with
  | _ c ih =>
    intro q hp e he
    cases c with
    | zero =>
      obtain ⟨x, hx⟩ : ∃ x, L[q]? = some x := ⟨L[q]'(proper_zero.1 hp), List.getElem?_eq_getElem _⟩
      rw [blk_leaf L q x hx, nodeList_singleton, List.mem_singleton] at he
      subst he
      exact ⟨0, q, by simp, hp, by rw [blk_leaf L q x hx, rootH_singleton]⟩
    | succ a =>
      have hpa := Nat.two_pow_pos a
      have h2 := proper_succ.1 hp
      have e1 := Nat.add_one_mul (2 * q) (2 ^ a)
      have e2 := mul_pow_succ q a
      have hlen : (blkCore L (a + 1) q).length = min (2 ^ (a + 1)) (L.length - q * 2 ^ (a + 1)) := length_blk L (a + 1) q
      have hsp : splitPoint (blkCore L (a + 1) q).length = 2 ^ a := by
        unfold splitPoint
        rw [log2_eq_of (k := a) (by omega) (by omega)]
      have hl : (blkCore L a (2 * q)).length = 2 ^ a := by rw [length_blk]; omega
      rw [nodeList_ge2 hf _ _ (by omega), hsp, blk_split, ← hl, List.take_left, List.drop_left, hl, ← blk_split] at he
      simp only [List.mem_append, List.mem_singleton] at he
      rcases he with (he | he) | he
      · rw [e2] at he
        refine ih a (Nat.lt_succ_self a) (2 * q) ?_ e he
        cases a with
        | zero => exact proper_zero.2 (by omega)
        | succ a' => rw [proper_succ]; have := Nat.add_one_mul (2 * (2 * q)) (2 ^ a'); have := mul_pow_succ (2 * q) a'; omega
      · obtain ⟨l', hl', _, h3, _, h5⟩ := repLoc_spec L.length a (2 * q + 1)
        rw [← h5 L rfl, show q * 2 ^ (a + 1) + 2 ^ a = (2 * q + 1) * 2 ^ (a - l') * 2 ^ l' by
          rw [Nat.mul_assoc, Nat.pow_sub_mul_pow 2 hl']; omega] at he
        exact ih l' (by omega) _ (h3 h2) e he
      · subst he
        refine ⟨a + 1, q, ?_, hp, rfl⟩
        rw [Nat.log2_two_pow, show 2 * 2 ^ a = 2 ^ (a + 1) by omega, Nat.mul_div_cancel _ (Nat.two_pow_pos _)]

theorem nodeList_proper (hf : HashFns) (L : List Bytes) (hne : L ≠ []) :
    ∀ e ∈ nodeList hf L 0, ∃ layer k, e.1 = (layer, k) ∧ properCore L.length layer k ∧ e.2 = rootH hf (blkCore L layer k) := by
  have hn : 0 < L.length := List.length_pos_iff.mpr hne
  obtain ⟨l', _, _, h3, _, h5⟩ := repLoc_spec L.length L.length 0
  have := nodeList_blk hf L l' _ (h3 (by omega))
  rw [h5 L rfl, blk_top_all L _ (Nat.le_of_lt Nat.lt_two_pow_self), Nat.zero_mul, Nat.zero_mul] at this
  exact this

end LiskVerif.RMT
