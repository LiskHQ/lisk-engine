/-
Varint lemmas: `readUint (putUvarint n ++ rest) = (n, size)` for every `n < 2^64`, and conversely
whatever `readUint` accepts is the encoding of the value it returns.
-/
import LiskVerif.Model.Codec
-- Mathlib is in scope for the modules that build on this one (their statements are elaborated under it);
-- here only `norm_num` closes three numeral goals.
import Mathlib.Tactic.Ring
import Mathlib.Tactic.Linarith
import Mathlib.Tactic.NormNum

namespace LiskVerif.Codec

theorem putUvarint_lt (n : Nat) (h : n < 128) : putUvarint n = [UInt8.ofNat n] := by
  rw [putUvarint]; simp [h]

theorem putUvarint_ge (n : Nat) (h : ¬ n < 128) :
    putUvarint n = UInt8.ofNat (n % 128 + 128) :: putUvarint (n / 128) := by
  rw [putUvarint]; simp [h]

theorem putUvarint_length_pos (n : Nat) : 0 < (putUvarint n).length := by
  by_cases h : n < 128
  · rw [putUvarint_lt n h]; simp
  · rw [putUvarint_ge n h]; simp

/-- `varintShortestSize n` is the number of 7-bit groups of `n`, at least 1 and capped at 10. -/
theorem shortest_spec {n j : Nat} (h : varintShortestSize n = j) :
    1 ≤ j ∧ j ≤ 10 ∧ (j = 1 ∨ 2 ^ (7 * (j - 1)) ≤ n) ∧ (j = 10 ∨ n < 2 ^ (7 * j)) := by
  unfold varintShortestSize at h
  simp only [ite_eq_iff] at h
  rcases h with ⟨_, rfl⟩ | ⟨_, ⟨_, rfl⟩ | ⟨_, ⟨_, rfl⟩ | ⟨_, ⟨_, rfl⟩ | ⟨_, ⟨_, rfl⟩ | ⟨_, ⟨_, rfl⟩ |
    ⟨_, ⟨_, rfl⟩ | ⟨_, ⟨_, rfl⟩ | ⟨_, ⟨_, rfl⟩ | ⟨_, rfl⟩⟩⟩⟩⟩⟩⟩⟩⟩ <;> omega

/-- Two sizes `i < j` cannot both satisfy the bounds of `shortest_spec`:
`n < 2 ^ (7 * i) ≤ 2 ^ (7 * (j - 1)) ≤ n`. -/
theorem shortest_bounds_lt {n i j : Nat} (hij : i < j) (hi1 : 1 ≤ i) (hj : j ≤ 10)
    (hhi : i = 10 ∨ n < 2 ^ (7 * i)) (hlo : j = 1 ∨ 2 ^ (7 * (j - 1)) ≤ n) : False := by
  have := Nat.pow_le_pow_right (n := 2) (by decide) (by omega : 7 * i ≤ 7 * (j - 1))
  omega

theorem shortest_of_bounds {n j : Nat} (hj1 : 1 ≤ j) (hj : j ≤ 10)
    (hlo : j = 1 ∨ 2 ^ (7 * (j - 1)) ≤ n) (hhi : j = 10 ∨ n < 2 ^ (7 * j)) :
    varintShortestSize n = j := by
  obtain ⟨hi1, hi, hlo', hhi'⟩ := shortest_spec (rfl : varintShortestSize n = _)
  rcases Nat.lt_trichotomy (varintShortestSize n) j with h | h | h
  · exact (shortest_bounds_lt h hi1 hj hhi' hlo).elim
  · exact h
  · exact (shortest_bounds_lt h hj1 hi hhi hlo').elim

theorem pow7_succ (k : Nat) : 2 ^ (7 * (k + 1)) = 128 * 2 ^ (7 * k) := by
  rw [Nat.mul_succ, Nat.pow_add, Nat.mul_comm]

/-- a digit `d` of `e` bits placed above the `k` bits of `acc` gives a number of `e + k` bits -/
theorem digit_lt {acc d e k : Nat} (ha : acc < 2 ^ k) (hd : d < 2 ^ e) :
    acc + d * 2 ^ k < 2 ^ e * 2 ^ k := by
  have := Nat.mul_le_mul_right (2 ^ k) (Nat.succ_le_of_lt hd)
  rw [Nat.succ_mul] at this
  omega

theorem digit_lt_pow {acc d e k n : Nat} (ha : acc < 2 ^ k) (hd : d < 2 ^ e) (h : e + k ≤ n) :
    acc + d * 2 ^ k < 2 ^ n :=
  Nat.lt_of_lt_of_le (digit_lt ha hd)
    (by rw [← Nat.pow_add]; exact Nat.pow_le_pow_right (by decide) h)

theorem digit_split (m P : Nat) : m % 128 * P + m / 128 * (128 * P) = m * P := by
  rw [← Nat.mul_assoc, ← Nat.add_mul, Nat.mod_add_div']

/-- the reading loop on the encoding of `m`, started after `k` bytes with accumulator `acc` -/
theorem readUintLoop_put (m : Nat) : ∀ (fuel k acc : Nat) (rest : Bytes),
    acc < 2 ^ (7 * k) → acc + m * 2 ^ (7 * k) < 2 ^ 64 → (k = 0 ∨ 0 < m) →
    (putUvarint m).length ≤ fuel → k + (putUvarint m).length ≤ 10 →
    readUintLoop (putUvarint m ++ rest) fuel k acc =
      .ok (acc + m * 2 ^ (7 * k), k + (putUvarint m).length) := by
  induction m using Nat.strongRecOn with
  | _ m ih =>
    intro fuel k acc rest hacc htot hk hfuel hlen
    by_cases hm : m < 128
    · rw [putUvarint_lt m hm] at hfuel hlen ⊢
      obtain ⟨fuel, rfl⟩ : ∃ f, fuel = f + 1 := ⟨fuel - 1, by simp at hfuel; omega⟩
      have hk9 : ¬ (k + 1 = 10 ∧ m > 1) := by
        rintro ⟨h9, h1⟩
        have := Nat.mul_le_mul_right (2 ^ (7 * k)) h1
        obtain rfl : k = 9 := by omega
        omega
      have hs : varintShortestSize (acc + m * 2 ^ (7 * k)) = k + 1 := by
        refine shortest_of_bounds (by omega) (by simpa using hlen) (hk.imp (by omega) fun hpos => ?_)
          (Or.inr ?_)
        · exact Nat.le_add_left_of_le (Nat.le_mul_of_pos_left _ hpos)
        · rw [pow7_succ]; exact digit_lt (e := 7) hacc hm
      simp only [List.singleton_append, readUintLoop, UInt8.toNat_ofNat_of_lt' (show m < 256 by omega), hk9, if_false,
        Nat.mod_eq_of_lt hm, Nat.mod_eq_of_lt htot, hm, if_true, hs, ne_eq, not_true_eq_false,
        List.length_singleton]
    · rw [putUvarint_ge m hm] at hfuel hlen ⊢
      obtain ⟨fuel, rfl⟩ : ∃ f, fuel = f + 1 := ⟨fuel - 1, by simp at hfuel; omega⟩
      have hk9 : ¬ (k + 1 = 10 ∧ m % 128 + 128 > 1) := by
        have := putUvarint_length_pos (m / 128)
        simp at hlen; omega
      have hlt : acc + m % 128 * 2 ^ (7 * k) < 2 ^ 64 := by
        have := Nat.mul_le_mul_right (2 ^ (7 * k)) (Nat.mod_le m 128)
        omega
      simp only [List.cons_append, readUintLoop, UInt8.toNat_ofNat_of_lt' (show m % 128 + 128 < 256 by omega),
        hk9, if_false, (by omega : (m % 128 + 128) % 128 = m % 128), Nat.mod_eq_of_lt hlt]
      rw [if_neg (by omega), ih (m / 128) (by omega) fuel (k + 1) _ rest
        (by rw [pow7_succ]; exact digit_lt (e := 7) hacc (Nat.mod_lt m (by decide)))
        (by rw [pow7_succ, Nat.add_assoc, digit_split]; exact htot)
        (Or.inr (by omega)) (by simpa using hfuel) (by simp at hlen ⊢; omega),
        pow7_succ, Nat.add_assoc, digit_split, List.length_cons, Nat.add_right_comm, Nat.add_assoc]

/-- a value of at most `7 * k` bits (`k ≥ 1`) is encoded in at most `k` bytes -/
theorem putUvarint_length_le (n : Nat) : ∀ k, n < 2 ^ (7 * k) → 1 ≤ k → (putUvarint n).length ≤ k := by
  induction n using Nat.strongRecOn with
  | _ n ih =>
    intro k hk h1
    by_cases hm : n < 128
    · rw [putUvarint_lt n hm]; exact h1
    · rw [putUvarint_ge n hm]
      obtain ⟨k, rfl⟩ : ∃ k', k = k' + 1 := ⟨k - 1, by omega⟩
      rw [pow7_succ] at hk
      exact Nat.succ_le_succ (ih (n / 128) (by omega) k (by omega)
        (Nat.pos_of_ne_zero (by rintro rfl; omega)))

/-- the encoding of a 64-bit value has at most 10 bytes -/
theorem putUvarint_length_le_10 (n : Nat) (hn : n < 2 ^ 64) : (putUvarint n).length ≤ 10 :=
  putUvarint_length_le n 10 (Nat.lt_of_lt_of_le hn (Nat.pow_le_pow_right (by decide) (by decide))) (by decide)

/-- Round trip of varints: reading the encoding of any `n < 2^64` returns `n` and its length. -/
theorem readUint_putUvarint (n : Nat) (hn : n < 2 ^ 64) (rest : Bytes) :
    readUint (putUvarint n ++ rest) = .ok (n, (putUvarint n).length) := by
  unfold readUint
  have hlen := putUvarint_length_le_10 n hn
  have := readUintLoop_put n 10 0 0 rest (by norm_num) (by simpa using hn) (Or.inl rfl) hlen (by omega)
  simpa using this

/-- Canonical form: whatever `readUintLoop` accepts is the encoding of the value it returns. -/
theorem readUintLoop_canonical : ∀ (fuel : Nat) (b : Bytes) (k acc v size : Nat),
    readUintLoop b fuel k acc = .ok (v, size) → acc < 2 ^ (7 * k) → k + fuel ≤ 10 →
    ∃ m, v = acc + m * 2 ^ (7 * k) ∧ size = k + (putUvarint m).length ∧
      b.take (size - k) = putUvarint m ∧ (k = 0 ∨ 0 < m) ∧ v < 2 ^ 64 := by
  intro fuel
  induction fuel with
  | zero => intro b k acc v size h; simp [readUintLoop] at h
  | succ fuel ih =>
    intro b k acc v size h hacc hfuel
    cases b with
    | nil => simp [readUintLoop] at h
    | cons x rest =>
      rw [readUintLoop] at h
      by_cases hoor : k + 1 = 10 ∧ x.toNat > 1
      · simp [hoor] at h
      rw [if_neg hoor] at h
      have hd : x.toNat % 128 < 2 ^ 7 := Nat.mod_lt _ (by decide)
      -- the accumulator does not wrap: the tenth byte carries one bit, the others seven
      have hnowrap : acc + x.toNat % 128 * 2 ^ (7 * k) < 2 ^ 64 := by
        by_cases hk9 : k = 9
        · exact digit_lt_pow (e := 1) hacc (by omega) (by omega)
        · exact digit_lt_pow hacc hd (by omega)
      simp only [Nat.mod_eq_of_lt hnowrap] at h
      by_cases hx : x.toNat < 128
      · rw [if_pos hx, Nat.mod_eq_of_lt hx] at h
        rw [Nat.mod_eq_of_lt hx] at hnowrap
        by_cases hs : varintShortestSize (acc + x.toNat * 2 ^ (7 * k)) = k + 1
        · rw [if_neg (not_not.2 hs)] at h
          obtain ⟨rfl, rfl⟩ := Prod.mk.inj (Except.ok.inj h)
          refine ⟨x.toNat, rfl, ?_, ?_, ?_, hnowrap⟩
          · rw [putUvarint_lt _ hx]; rfl
          · rw [putUvarint_lt _ hx, UInt8.ofNat_toNat, Nat.add_sub_cancel_left]; rfl
          · obtain ⟨_, _, hlo, _⟩ := shortest_spec hs
            refine hlo.imp (by omega) fun h1 => Nat.pos_of_ne_zero ?_
            rintro h0
            rw [h0, Nat.add_sub_cancel] at h1
            omega
        · rw [if_pos hs] at h; cases h
      · rw [if_neg hx] at h
        obtain ⟨m, rfl, rfl, htake, hpos, hv64⟩ := ih rest (k + 1) _ v size h
          (by rw [pow7_succ]; exact digit_lt hacc hd) (by omega)
        have hge : ¬ (x.toNat % 128 + 128 * m < 128) := by omega
        have h1 : (x.toNat % 128 + 128 * m) / 128 = m := by omega
        have h2 : (x.toNat % 128 + 128 * m) % 128 + 128 = x.toNat := by have := x.toNat_lt; omega
        refine ⟨x.toNat % 128 + 128 * m, ?_, ?_, ?_, Or.inr (by omega), hv64⟩
        · rw [pow7_succ, Nat.add_mul, Nat.add_assoc, Nat.mul_assoc, Nat.mul_left_comm]
        · rw [putUvarint_ge _ hge, h1, List.length_cons]; omega
        · rw [putUvarint_ge _ hge, h1, h2, UInt8.ofNat_toNat,
            show k + 1 + (putUvarint m).length - k = (k + 1 + (putUvarint m).length - (k + 1)) + 1 by omega,
            List.take_succ_cons, htake]

/-- Canonical varints: if `readUint` accepts a prefix of `b` as value `n` of `size` bytes, that
prefix is exactly `putUvarint n` (shortest form, no overflow), and `n < 2^64`. -/
theorem readUint_canonical (b : Bytes) (n size : Nat) (h : readUint b = .ok (n, size)) :
    b.take size = putUvarint n ∧ size = (putUvarint n).length ∧ n < 2 ^ 64 := by
  unfold readUint at h
  obtain ⟨m, hv, hsize, htake, _, hv64⟩ := readUintLoop_canonical 10 b 0 0 n size h (by norm_num) (by norm_num)
  have : n = m := by simpa using hv
  subst this
  exact ⟨by simpa using htake, by simpa using hsize, hv64⟩

/-- `readUint` accepts exactly the canonical encodings of the 64-bit values -/
theorem readUint_ok_iff (b : Bytes) (n size : Nat) :
    readUint b = .ok (n, size) ↔ n < 2 ^ 64 ∧ size = (putUvarint n).length ∧ b.take size = putUvarint n := by
  constructor
  · intro h
    obtain ⟨h1, h2, h3⟩ := readUint_canonical b n size h
    exact ⟨h3, h2, h1⟩
  · rintro ⟨hn, rfl, ht⟩
    rw [← List.take_append_drop (putUvarint n).length b, ht]
    exact readUint_putUvarint n hn _

/-- zig-zag integers survive the round trip -/
theorem unzigzag_zigzag (i : Int) : unzigzag (zigzag i) = i := by
  unfold unzigzag zigzag
  split <;> split <;> omega

end LiskVerif.Codec
