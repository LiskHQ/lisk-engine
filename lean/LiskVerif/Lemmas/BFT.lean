/-
Facts about the transcription `LiskVerif.Model.BFT` of liskbft for ARBITRARY states and parameter stores (the
refinement to the specification under static parameters is prepared in `Lemmas/BFTRefine.lean` and proved in
`Lemmas/BFTDyn.lean`): what a successful
`process`, `updateVotes`, `setParams` consists of (`process_ok`, `process_facts`, `updateVotes_ok`, `setParams_ok`),
stated through a pointwise relation `All2` between the window before and after; consecutive descending heights
(`DescN`, `SortedDesc`); the parameter lookups (`lookupLE` returns an entry with the largest key `≤ h`; `prune`,
`nextHeightParams`); `firstWith` on a strictly
descending window, and the list-level invariant `HInvL` behind the monotonicity of the two heights.
-/
import LiskVerif.Model.BFT

namespace LiskVerif.BFT

/-! ### pointwise relation on lists -/

def All2 {α β : Type} (R : α → β → Prop) : List α → List β → Prop
  | [], [] => True
  | a :: l, b :: l' => R a b ∧ All2 R l l'
  | [], _ :: _ => False
  | _ :: _, [] => False

@[simp] theorem All2_nil {α β : Type} (R : α → β → Prop) : All2 R [] [] := trivial
@[simp] theorem All2_cons {α β : Type} (R : α → β → Prop) (a : α) (b : β) (l : List α) (l' : List β) :
    All2 R (a :: l) (b :: l') ↔ R a b ∧ All2 R l l' := Iff.rfl
@[simp] theorem All2_nil_cons {α β : Type} (R : α → β → Prop) (b : β) (l' : List β) :
    All2 R [] (b :: l') ↔ False := Iff.rfl
@[simp] theorem All2_cons_nil {α β : Type} (R : α → β → Prop) (a : α) (l : List α) :
    All2 R (a :: l) ([] : List β) ↔ False := Iff.rfl

theorem All2.refl {α : Type} {R : α → α → Prop} (hR : ∀ a, R a a) : ∀ l : List α, All2 R l l
  | [] => trivial
  | a :: l => ⟨hR a, All2.refl hR l⟩

theorem All2.imp {α β : Type} {R S : α → β → Prop} (h : ∀ a b, R a b → S a b) :
    ∀ {l : List α} {l' : List β}, All2 R l l' → All2 S l l'
  | [], [], _ => trivial
  | _ :: _, _ :: _, ⟨h1, h2⟩ => ⟨h _ _ h1, All2.imp h h2⟩
  | [], _ :: _, h => h.elim
  | _ :: _, [], h => h.elim

theorem All2.comp {α β γ : Type} {R : α → β → Prop} {S : β → γ → Prop} {T : α → γ → Prop}
    (h : ∀ a b c, R a b → S b c → T a c) :
    ∀ {l : List α} {l' : List β} {l'' : List γ}, All2 R l l' → All2 S l' l'' → All2 T l l''
  | [], [], [], _, _ => trivial
  | _ :: _, _ :: _, _ :: _, ⟨h1, h2⟩, ⟨h3, h4⟩ => ⟨h _ _ _ h1 h3, All2.comp h h2 h4⟩
  | [], _ :: _, _, h, _ => h.elim
  | _ :: _, [], _, h, _ => h.elim
  | [], [], _ :: _, _, h => h.elim
  | _ :: _, _ :: _, [], _, h => h.elim

theorem All2.length_eq {α β : Type} {R : α → β → Prop} :
    ∀ {l : List α} {l' : List β}, All2 R l l' → l.length = l'.length
  | [], [], _ => rfl
  | _ :: _, _ :: _, ⟨_, h2⟩ => by simp [All2.length_eq h2]
  | [], _ :: _, h => h.elim
  | _ :: _, [], h => h.elim

theorem All2.mem_right {α β : Type} {R : α → β → Prop} :
    ∀ {l : List α} {l' : List β}, All2 R l l' → ∀ b ∈ l', ∃ a ∈ l, R a b
  | [], [], _, b, hb => by cases hb
  | a :: l, b' :: l', ⟨h1, h2⟩, b, hb => by
    rcases List.mem_cons.1 hb with rfl | hb
    · exact ⟨a, List.mem_cons_self, h1⟩
    · obtain ⟨x, hx, hr⟩ := All2.mem_right h2 b hb
      exact ⟨x, List.mem_cons_of_mem _ hx, hr⟩
  | [], _ :: _, h, _, _ => h.elim
  | _ :: _, [], h, _, _ => h.elim

theorem All2.flip {α β : Type} {R : α → β → Prop} :
    ∀ {l : List α} {l' : List β}, All2 R l l' → All2 (fun b a => R a b) l' l
  | [], [], _ => trivial
  | _ :: _, _ :: _, ⟨h1, h2⟩ => ⟨h1, All2.flip h2⟩
  | [], _ :: _, h => h.elim
  | _ :: _, [], h => h.elim

theorem All2.mem_left {α β : Type} {R : α → β → Prop} {l : List α} {l' : List β} (h : All2 R l l') :
    ∀ a ∈ l, ∃ b ∈ l', R a b :=
  All2.mem_right h.flip

theorem All2.map_eq {α β γ : Type} {R : α → β → Prop} {f : α → γ} {g : β → γ}
    (h : ∀ a b, R a b → f a = g b) :
    ∀ {l : List α} {l' : List β}, All2 R l l' → l.map f = l'.map g
  | [], [], _ => rfl
  | _ :: _, _ :: _, ⟨h1, h2⟩ => by simp [h _ _ h1, All2.map_eq h h2]
  | [], _ :: _, h => h.elim
  | _ :: _, [], h => h.elim

theorem All2.getLast? {α β : Type} {R : α → β → Prop} :
    ∀ {l : List α} {l' : List β}, All2 R l l' → ∀ b, l'.getLast? = some b → ∃ a, l.getLast? = some a ∧ R a b
  | [], [], _, b, hb => by cases hb
  | [a], [b'], ⟨h1, _⟩, b, hb => by
    simp at hb; subst hb; exact ⟨a, by simp, h1⟩
  | a :: a2 :: l, b' :: b2 :: l', ⟨_, h2⟩, b, hb => by
    rw [List.getLast?_cons_cons] at hb ⊢
    exact All2.getLast? h2 b hb
  | [_], _ :: _ :: _, ⟨_, h⟩, _, _ => h.elim
  | _ :: _ :: _, [_], ⟨_, h⟩, _, _ => h.elim
  | [], _ :: _, h, _, _ => h.elim
  | _ :: _, [], h, _, _ => h.elim

/-! ### consecutive descending heights -/

/-- `l = [t, t-1, t-2, …]` without truncation -/
def DescN : List Nat → Prop
  | [] => True
  | [_] => True
  | a :: b :: l => a = b + 1 ∧ DescN (b :: l)

def decDescN : (l : List Nat) → Decidable (DescN l)
  | [] => isTrue trivial
  | [_] => isTrue trivial
  | a :: b :: l =>
    match (inferInstance : Decidable (a = b + 1)), decDescN (b :: l) with
    | isTrue h1, isTrue h2 => isTrue ⟨h1, h2⟩
    | isFalse h1, _ => isFalse fun h => h1 h.1
    | _, isFalse h2 => isFalse fun h => h2 h.2

instance (l : List Nat) : Decidable (DescN l) := decDescN l

theorem DescN.tail : ∀ {a : Nat} {l : List Nat}, DescN (a :: l) → DescN l
  | _, [], _ => trivial
  | _, _ :: _, h => h.2

theorem DescN.cons {a : Nat} : ∀ {l : List Nat}, DescN l → (∀ t, l.head? = some t → a = t + 1) → DescN (a :: l)
  | [], _, _ => trivial
  | b :: _, h, ht => ⟨ht b rfl, h⟩

theorem DescN.take : ∀ {l : List Nat} (k : Nat), DescN l → DescN (l.take k)
  | [], k, _ => by simp [DescN]
  | [_], k, _ => by cases k <;> simp [DescN]
  | _ :: _ :: _, 0, _ => by simp [DescN]
  | a :: b :: l, 1, _ => by simp [DescN]
  | a :: b :: l, k + 2, h => by
    have ih := DescN.take (k + 1) h.2
    rw [List.take_succ_cons] at ih ⊢
    rw [List.take_succ_cons]
    exact ⟨h.1, ih⟩

theorem DescN.lt_head : ∀ {a : Nat} {l : List Nat}, DescN (a :: l) → ∀ x ∈ l, x < a
  | _, [], _, x, hx => by cases hx
  | a, b :: l, h, x, hx => by
    rcases List.mem_cons.1 hx with rfl | hx
    · have := h.1; omega
    · have := DescN.lt_head h.2 x hx
      have := h.1; omega

theorem DescN.pairwise : ∀ {l : List Nat}, DescN l → l.Pairwise (fun a b => b < a)
  | [], _ => List.Pairwise.nil
  | _ :: _, h => List.pairwise_cons.2 ⟨DescN.lt_head h, DescN.pairwise (DescN.tail h)⟩

/-- index form: the `i`-th entry is `top - i` (stated additively, so without truncation) -/
theorem DescN.index : ∀ {l : List Nat}, DescN l → ∀ (i x t : Nat), l[i]? = some x → l.head? = some t → x + i = t
  | [], _, i, x, t, hx, _ => by simp at hx
  | [a], _, i, x, t, hx, ht => by
    cases i with
    | zero => simp at hx ht; omega
    | succ i => simp at hx
  | a :: b :: l, h, i, x, t, hx, ht => by
    cases i with
    | zero => simp at hx ht; omega
    | succ i =>
      simp only [List.getElem?_cons_succ] at hx
      have := DescN.index h.2 i x b hx rfl
      simp at ht
      have := h.1; omega

/-- window lists: strictly descending heights -/
abbrev SortedDesc (l : List BlockInfo) : Prop := l.Pairwise (fun a b => b.height < a.height)

theorem sortedDesc_of_descN {l : List BlockInfo} (h : DescN (l.map (·.height))) : SortedDesc l := by
  have := DescN.pairwise h
  rwa [List.pairwise_map] at this

theorem SortedDesc.getLast_le : ∀ {l : List BlockInfo}, SortedDesc l → ∀ o, l.getLast? = some o →
    ∀ b ∈ l, o.height ≤ b.height
  | [], _, o, ho, _, _ => by cases ho
  | [a], _, o, ho, b, hb => by
    simp at ho hb; subst ho; subst hb; exact Nat.le_refl _
  | a :: a2 :: l, h, o, ho, b, hb => by
    rw [List.getLast?_cons_cons] at ho
    have h' := List.pairwise_cons.1 h
    rcases List.mem_cons.1 hb with rfl | hb
    · exact Nat.le_of_lt (h'.1 o (List.mem_of_getLast? ho))
    · exact SortedDesc.getLast_le h'.2 o ho b hb

/-! ### `lookupLE`, `prune` -/

def lkStep {α : Type} (h : Nat) (best : Option (Nat × α)) (e : Nat × α) : Option (Nat × α) :=
  if e.1 ≤ h then
    match best with
    | none => some e
    | some b => if b.1 < e.1 then some e else some b
  else best

theorem lookupLE_eq_foldl {α : Type} (l : List (Nat × α)) (h : Nat) :
    lookupLE l h = l.foldl (lkStep h) none := rfl

/-- entries with a key above the queried height are irrelevant -/
theorem foldl_lkStep_filter {α : Type} (k : Nat) (q : Nat × α → Bool) :
    ∀ (l : List (Nat × α)) (best : Option (Nat × α)), (∀ e ∈ l, q e = false → ¬ e.1 ≤ k) →
      (l.filter q).foldl (lkStep k) best = l.foldl (lkStep k) best
  | [], _, _ => rfl
  | e :: l, best, h => by
    have ih := fun b => foldl_lkStep_filter k q l b (fun e he => h e (List.mem_cons_of_mem _ he))
    cases hq : q e with
    | true => simp [hq, ih]
    | false =>
      have : ¬ e.1 ≤ k := h e List.mem_cons_self hq
      simp [hq, ih, lkStep, this]

/-- one step of `lookupLE`: the entry becomes the candidate (its key is `≤ h` and above the old
candidate's), or the candidate stays (and has a key at least the entry's, if that is `≤ h`) -/
theorem lkStep_cases {α : Type} (h : Nat) (best : Option (Nat × α)) (x : Nat × α) :
    (lkStep h best x = some x ∧ x.1 ≤ h ∧ ∀ b, best = some b → b.1 < x.1) ∨
      (lkStep h best x = best ∧ (x.1 ≤ h → ∃ b, best = some b ∧ x.1 ≤ b.1)) := by
  unfold lkStep
  by_cases hx : x.1 ≤ h
  · rw [if_pos hx]
    cases best with
    | none => exact Or.inl ⟨rfl, hx, fun b hb => by cases hb⟩
    | some b =>
      by_cases hlt : b.1 < x.1
      · exact Or.inl ⟨by simp [hlt], hx, fun b' hb' => by cases hb'; exact hlt⟩
      · exact Or.inr ⟨by simp [hlt], fun _ => ⟨b, rfl, Nat.le_of_not_lt hlt⟩⟩
  · exact Or.inr ⟨if_neg hx, fun h' => absurd h' hx⟩

theorem foldl_lkStep_some {α : Type} (h : Nat) :
    ∀ (l : List (Nat × α)) (best : Option (Nat × α)) (e : Nat × α),
      l.foldl (lkStep h) best = some e → (∀ b, best = some b → b.1 ≤ h) →
      e.1 ≤ h ∧ (e ∈ l ∨ best = some e) ∧ (∀ x ∈ l, x.1 ≤ h → x.1 ≤ e.1) ∧ (∀ b, best = some b → b.1 ≤ e.1)
  | [], best, e, he, hb => by
    simp at he; subst he
    exact ⟨hb e rfl, Or.inr rfl, by simp, by intro b hb'; cases hb'; exact Nat.le_refl _⟩
  | x :: l, best, e, he, hb => by
    rw [List.foldl_cons] at he
    rcases lkStep_cases h best x with ⟨hs, hx, hlt⟩ | ⟨hs, hle⟩
    · rw [hs] at he
      obtain ⟨h1, h2, h3, h4⟩ := foldl_lkStep_some h l (some x) e he (by intro b hb'; cases hb'; exact hx)
      refine ⟨h1, ?_, ?_, fun b hb' => Nat.le_trans (Nat.le_of_lt (hlt b hb')) (h4 x rfl)⟩
      · rcases h2 with h2 | h2
        · exact Or.inl (List.mem_cons_of_mem _ h2)
        · cases h2; exact Or.inl List.mem_cons_self
      · exact List.forall_mem_cons.2 ⟨fun _ => h4 _ rfl, h3⟩
    · rw [hs] at he
      obtain ⟨h1, h2, h3, h4⟩ := foldl_lkStep_some h l best e he hb
      exact ⟨h1, h2.imp (List.mem_cons_of_mem _) id, List.forall_mem_cons.2
        ⟨fun hyh => let ⟨b, hb', hle'⟩ := hle hyh; Nat.le_trans hle' (h4 b hb'), h3⟩, h4⟩

/-- the result of `lookupLE` is an entry of the list with the largest key `≤ h` -/
theorem lookupLE_some {α : Type} {l : List (Nat × α)} {h : Nat} {e : Nat × α} (he : lookupLE l h = some e) :
    e.1 ≤ h ∧ e ∈ l ∧ ∀ x ∈ l, x.1 ≤ h → x.1 ≤ e.1 := by
  obtain ⟨h1, h2, h3, _⟩ := foldl_lkStep_some h l none e he (by simp)
  refine ⟨h1, ?_, h3⟩
  rcases h2 with h2 | h2
  · exact h2
  · cases h2

/-- `m` is the key `prune l h` keeps (the largest `≤ h`), `k ≥ h` the queried height; once the fold has a candidate
with a key `≥ m`, dropping the entries below `m` changes nothing -/
private theorem prune_aux_some {α : Type} (h k m : Nat) (hmh : m ≤ h) (hhk : h ≤ k) :
    ∀ (l : List (Nat × α)) (b : Nat × α), m ≤ b.1 → (∀ x ∈ l, x.1 ≤ h → x.1 ≤ m) →
      (l.filter fun e => decide (e.1 > h ∨ e.1 = m)).foldl (lkStep k) (some b) = l.foldl (lkStep k) (some b)
  | [], _, _, _ => rfl
  | e :: l, b, hb, hmax => by
    have hmax' : ∀ x ∈ l, x.1 ≤ h → x.1 ≤ m := fun x hx => hmax x (List.mem_cons_of_mem _ hx)
    by_cases hp : e.1 > h ∨ e.1 = m
    · simp only [List.filter_cons, hp, decide_true, if_true, List.foldl_cons]
      rcases lkStep_cases k (some b) e with ⟨hs, _, _⟩ | ⟨hs, _⟩
      · rw [hs]; exact prune_aux_some h k m hmh hhk l e (by omega) hmax'
      · rw [hs]; exact prune_aux_some h k m hmh hhk l b hb hmax'
    · have he2 := hmax e List.mem_cons_self (by omega)
      simp only [List.filter_cons, hp, decide_false, List.foldl_cons]
      rcases lkStep_cases k (some b) e with ⟨_, _, hlt⟩ | ⟨hs, _⟩
      · have := hlt b rfl; omega
      · rw [hs]; exact prune_aux_some h k m hmh hhk l b hb hmax'

/-- … and before that (the candidate `bo` of the unfiltered fold, if any, is below `m`, and an entry with key `m` is
still to come) the filtered fold has no candidate yet and both meet at that entry -/
private theorem prune_aux_none {α : Type} (h k m : Nat) (hmh : m ≤ h) (hhk : h ≤ k) :
    ∀ (l : List (Nat × α)) (bo : Option (Nat × α)), (∀ b, bo = some b → b.1 < m) →
      (∃ x ∈ l, x.1 = m) → (∀ x ∈ l, x.1 ≤ h → x.1 ≤ m) →
      (l.filter fun e => decide (e.1 > h ∨ e.1 = m)).foldl (lkStep k) none = l.foldl (lkStep k) bo
  | [], _, _, hex, _ => by obtain ⟨x, hx, _⟩ := hex; cases hx
  | e :: l, bo, hbo, hex, hmax => by
    have hmax' : ∀ x ∈ l, x.1 ≤ h → x.1 ≤ m := fun x hx => hmax x (List.mem_cons_of_mem _ hx)
    by_cases hp : e.1 > h ∨ e.1 = m
    · have hme : m ≤ e.1 := by omega
      simp only [List.filter_cons, hp, decide_true, if_true, List.foldl_cons]
      by_cases hek : e.1 ≤ k
      · have hs1 : lkStep k none e = some e := by simp [lkStep, hek]
        have hs2 : lkStep k bo e = some e := by
          cases bo with
          | none => simp [lkStep, hek]
          | some b =>
            have : b.1 < e.1 := by have := hbo b rfl; omega
            simp [lkStep, hek, this]
        rw [hs1, hs2]
        exact prune_aux_some h k m hmh hhk l e hme hmax'
      · have hs1 : lkStep k none e = none := by simp [lkStep, hek]
        have hs2 : lkStep k bo e = bo := by simp [lkStep, hek]
        rw [hs1, hs2]
        refine prune_aux_none h k m hmh hhk l bo hbo ?_ hmax'
        obtain ⟨x, hx, hxm⟩ := hex
        rcases List.mem_cons.1 hx with rfl | hx
        · omega
        · exact ⟨x, hx, hxm⟩
    · have he1 : e.1 ≤ h := by omega
      have he2 : e.1 < m := by
        have := hmax e List.mem_cons_self he1
        omega
      simp only [List.filter_cons, hp, decide_false, List.foldl_cons]
      refine prune_aux_none h k m hmh hhk l (lkStep k bo e) ?_ ?_ hmax'
      · rcases lkStep_cases k bo e with ⟨hs, _, _⟩ | ⟨hs, _⟩
        · rw [hs]; intro b hb; cases hb; exact he2
        · rw [hs]; exact hbo
      · obtain ⟨x, hx, hxm⟩ := hex
        rcases List.mem_cons.1 hx with rfl | hx
        · omega
        · exact ⟨x, hx, hxm⟩

/-- `prune l h` (= `deleteBFTParams`) does not change lookups at heights `≥ h` -/
theorem lookupLE_prune {α : Type} (l : List (Nat × α)) {h k : Nat} (hk : h ≤ k) :
    lookupLE (prune l h) k = lookupLE l k := by
  unfold prune
  cases hl : lookupLE l h with
  | none => rfl
  | some keep =>
    obtain ⟨h1, h2, h3⟩ := lookupLE_some hl
    simp only [lookupLE_eq_foldl]
    exact prune_aux_none h k keep.1 h1 hk l none (by simp) ⟨keep, h2, rfl⟩ h3

theorem prune_subset {α : Type} (l : List (Nat × α)) (h : Nat) : ∀ e ∈ prune l h, e ∈ l := by
  intro e he
  unfold prune at he
  split at he
  · exact he
  · exact (List.mem_filter.1 he).1

/-- replacing / adding the entry with key `next` does not change lookups below `next` -/
theorem lookupLE_cons_filter {α : Type} (l : List (Nat × α)) (next : Nat) (v : α) {k : Nat} (hk : k < next) :
    lookupLE ((next, v) :: l.filter (·.1 ≠ next)) k = lookupLE l k := by
  simp only [lookupLE_eq_foldl, List.foldl_cons]
  have hs : lkStep k none (next, v) = none := by
    have : ¬ next ≤ k := by omega
    simp [lkStep, this]
  rw [hs]
  apply foldl_lkStep_filter
  intro e _ hq
  have : e.1 = next := by simpa using hq
  omega

/-- `getBFTParams` / `getGeneratorKeys` find an entry as soon as one with a key `≤ h` exists -/
theorem lookupLE_isSome {α : Type} (l : List (Nat × α)) (h : Nat) (e : Nat × α) (he : e ∈ l)
    (hle : e.1 ≤ h) : (lookupLE l h).isSome = true := by
  rw [lookupLE_eq_foldl]
  have key : ∀ (l : List (Nat × α)) (best : Option (Nat × α)),
      (best.isSome = true ∨ ∃ e ∈ l, e.1 ≤ h) → (l.foldl (lkStep h) best).isSome = true := by
    intro l
    induction l with
    | nil =>
      rintro best (hb | ⟨e, he, _⟩)
      · exact hb
      · cases he
    | cons a r ih =>
      intro best hb
      refine ih _ ?_
      -- a step makes `a` the candidate, or keeps a candidate that is there whenever `a` qualifies
      rcases lkStep_cases h best a with ⟨hs, _⟩ | ⟨hs, hkeep⟩
      · exact Or.inl (hs ▸ rfl)
      · rw [hs]
        rcases hb with hb | ⟨e, he, hle⟩
        · exact Or.inl hb
        · rcases List.mem_cons.mp he with rfl | he
          · obtain ⟨b, hb, _⟩ := hkeep hle
            exact Or.inl (hb ▸ rfl)
          · exact Or.inr ⟨e, he, hle⟩
  exact key l none (Or.inr ⟨e, he, hle⟩)

/-! ### `nextHeightParams` -/

/-- `NextHeightBFTParameters(x)` is the least stored height above `x` -/
theorem nextHeightParams_eq (s : State) (x : Nat) :
    nextHeightParams s x = ((s.params.map (·.1)).filter (x < ·)).min? := by
  unfold nextHeightParams
  generalize s.params.map (·.1) = l
  suffices key : ∀ (l : List Nat) (best : Option Nat),
      l.foldl (fun best k =>
        if k > x then match best with
          | none => some k
          | some b => if k < b then some k else some b
        else best) best =
      match best with
      | none => (l.filter (x < ·)).min?
      | some b => some ((l.filter (x < ·)).foldl min b) from key l none
  intro l
  induction l with
  | nil => intro best; cases best <;> rfl
  | cons a r ih =>
    intro best
    rw [List.foldl_cons, ih, List.filter_cons]
    by_cases ha : a > x
    · rw [if_pos ha, if_pos (decide_eq_true ha)]
      cases best with
      | none => rw [List.min?_cons']
      | some b =>
        simp only [List.foldl_cons]
        by_cases hab : a < b
        · simp only [if_pos hab, Nat.min_eq_right (Nat.le_of_lt hab)]
        · simp only [if_neg hab, Nat.min_eq_left (Nat.not_lt.mp hab)]
    · rw [if_neg ha, if_neg (by simpa using ha)]

/-- … in particular a key of the store above the queried height -/
theorem nextHeightParams_mem {s : State} {x k : Nat} (h : nextHeightParams s x = some k) :
    x < k ∧ k ∈ s.params.map (·.1) := by
  rw [nextHeightParams_eq] at h
  have := List.mem_filter.mp (List.min?_mem h)
  exact ⟨of_decide_eq_true this.2, this.1⟩

/-! ### the vote loops only change weights -/

def newInfo (h : Header) : BlockInfo := { height := h.height, gen := h.gen, mhg := h.mhg, mhp := h.mhp }

/-- same block: height, generator, maxHeightGenerated, maxHeightPrevoted agree -/
def SameMeta (a b : BlockInfo) : Prop := a.height = b.height ∧ a.gen = b.gen ∧ a.mhg = b.mhg ∧ a.mhp = b.mhp

/-- same block, weights did not decrease -/
def InfoLE (a b : BlockInfo) : Prop :=
  SameMeta a b ∧ a.prevoteWeight ≤ b.prevoteWeight ∧ a.precommitWeight ≤ b.precommitWeight

/-- block `b` reaches the threshold of its height under the parameter lookup `g` -/
def Quorum (g : Nat → Option Params) (w : BlockInfo → Nat) (thr : Params → Nat) (b : BlockInfo) : Prop :=
  ∃ p, g b.height = some p ∧ thr p ≤ w b

abbrev PvQ (g : Nat → Option Params) (b : BlockInfo) : Prop := Quorum g (·.prevoteWeight) (·.prevoteThreshold) b
abbrev PcQ (g : Nat → Option Params) (b : BlockInfo) : Prop := Quorum g (·.precommitWeight) (·.precommitThreshold) b

/-- relation between a window entry before and after the precommit loop: only the precommit weight may grow, and
only on an entry with prevote quorum -/
def Rpc (g : Nat → Option Params) (a b : BlockInfo) : Prop :=
  SameMeta a b ∧ a.prevoteWeight = b.prevoteWeight ∧ a.precommitWeight ≤ b.precommitWeight ∧
    (a.precommitWeight < b.precommitWeight → PvQ g a)

/-- … before and after the prevote loop: only the prevote weight may grow -/
def Rpv (a b : BlockInfo) : Prop :=
  SameMeta a b ∧ a.prevoteWeight ≤ b.prevoteWeight ∧ a.precommitWeight = b.precommitWeight

/-- relation between a window entry before and after `updateVotes` -/
def Ruv (g : Nat → Option Params) (a b : BlockInfo) : Prop :=
  InfoLE a b ∧ (a.precommitWeight < b.precommitWeight → PvQ g a)

theorem SameMeta.refl (a : BlockInfo) : SameMeta a a := ⟨rfl, rfl, rfl, rfl⟩
theorem SameMeta.trans {a b c : BlockInfo} (h1 : SameMeta a b) (h2 : SameMeta b c) : SameMeta a c :=
  ⟨h1.1.trans h2.1, h1.2.1.trans h2.2.1, h1.2.2.1.trans h2.2.2.1, h1.2.2.2.trans h2.2.2.2⟩
theorem Rpc.refl (g : Nat → Option Params) (a : BlockInfo) : Rpc g a a :=
  ⟨SameMeta.refl a, rfl, Nat.le_refl _, fun h => absurd h (Nat.lt_irrefl _)⟩
theorem Rpv.refl (a : BlockInfo) : Rpv a a := ⟨SameMeta.refl a, Nat.le_refl _, rfl⟩
theorem Ruv.refl (g : Nat → Option Params) (a : BlockInfo) : Ruv g a a :=
  ⟨⟨SameMeta.refl a, Nat.le_refl _, Nat.le_refl _⟩, fun h => absurd h (Nat.lt_irrefl _)⟩

theorem Ruv.height {g : Nat → Option Params} {a b : BlockInfo} (h : Ruv g a b) : a.height = b.height := h.1.1.1
theorem Ruv.pv_le {g : Nat → Option Params} {a b : BlockInfo} (h : Ruv g a b) : a.prevoteWeight ≤ b.prevoteWeight :=
  h.1.2.1
theorem Ruv.pc_le {g : Nat → Option Params} {a b : BlockInfo} (h : Ruv g a b) :
    a.precommitWeight ≤ b.precommitWeight := h.1.2.2

theorem Ruv_of_Rpc_Rpv (g : Nat → Option Params) (a b c : BlockInfo) (h1 : Rpc g a b) (h2 : Rpv b c) : Ruv g a c := by
  obtain ⟨a1, a5, a6, a7⟩ := h1
  obtain ⟨b1, b5, b6⟩ := h2
  exact ⟨⟨a1.trans b1, by omega, by omega⟩, fun h => a7 (by omega)⟩

/-- the precommit loop relates every entry to its image by `R`, for any reflexive `R` that holds between
an entry with prevote quorum and the entry with the generator's weight added -/
theorem precommitLoop_all2 {R : BlockInfo → BlockInfo → Prop} (s : State) (gen : Bytes) (minH : Nat)
    (hrefl : ∀ b, R b b)
    (hstep : ∀ b p v, getParams s b.height = some p → p.prevoteThreshold ≤ b.prevoteWeight →
      findValidator p.validators gen = some v → R b { b with precommitWeight := b.precommitWeight + v.weight }) :
    ∀ (l : List BlockInfo) (done : Bool) (l' : List BlockInfo) (first : Option Nat),
      precommitLoop s gen minH l done = .ok (l', first) → All2 R l l'
  | [], done, l', first, h => by
    simp only [precommitLoop] at h
    cases h; trivial
  | b :: rest, done, l', first, h => by
    simp only [precommitLoop] at h
    split at h
    · cases h; exact All2.refl hrefl _
    · split at h
      · cases h
      · rename_i p hp
        split at h
        · rename_i hq
          split at h
          · cases h
          · rename_i v hv
            split at h
            · cases h
            · rename_i rest' first' hrec
              injection h with h; injection h with h1 h2
              subst h1
              exact ⟨hstep b p v hp hq hv, precommitLoop_all2 s gen minH hrefl hstep rest true rest' first' hrec⟩
        · split at h
          · cases h
          · rename_i rest' first' hrec
            injection h with h; injection h with h1 h2
            subst h1
            exact ⟨hrefl b, precommitLoop_all2 s gen minH hrefl hstep rest done rest' first' hrec⟩

theorem prevoteLoop_all2 {R : BlockInfo → BlockInfo → Prop} (s : State) (gen : Bytes) (minH : Nat)
    (hrefl : ∀ b, R b b)
    (hstep : ∀ b p v, minH ≤ b.height → getParams s b.height = some p →
      findValidator p.validators gen = some v → R b { b with prevoteWeight := b.prevoteWeight + v.weight }) :
    ∀ (l l' : List BlockInfo), prevoteLoop s gen minH l = .ok l' → All2 R l l'
  | [], l', h => by
    simp only [prevoteLoop] at h
    cases h; trivial
  | b :: rest, l', h => by
    simp only [prevoteLoop] at h
    split at h
    · cases h; exact All2.refl hrefl _
    · rename_i hge
      split at h
      · cases h
      · rename_i p hp
        split at h
        · cases h
        · rename_i v hv
          split at h
          · cases h
          · rename_i rest' hrec
            injection h with h
            subst h
            exact ⟨hstep b p v (Nat.le_of_not_lt hge) hp hv, prevoteLoop_all2 s gen minH hrefl hstep rest rest' hrec⟩

theorem precommitLoop_rel (s : State) (gen : Bytes) (minH : Nat) (l : List BlockInfo) (done : Bool)
    (l' : List BlockInfo) (first : Option Nat) (h : precommitLoop s gen minH l done = .ok (l', first)) :
    All2 (Rpc (getParams s)) l l' :=
  precommitLoop_all2 s gen minH (Rpc.refl _)
    (fun b p _ hp hq _ => ⟨SameMeta.refl b, rfl, Nat.le_add_right _ _, fun _ => ⟨p, hp, hq⟩⟩) l done l' first h

theorem prevoteLoop_rel (s : State) (gen : Bytes) (minH : Nat) (l l' : List BlockInfo)
    (h : prevoteLoop s gen minH l = .ok l') : All2 Rpv l l' :=
  prevoteLoop_all2 s gen minH Rpv.refl (fun b _ _ _ _ _ => ⟨SameMeta.refl b, Nat.le_add_right _ _, rfl⟩) l l' h

/-- a successful `updatePrevotesPrecommits`: nothing changes (the window is empty, the header implies no votes or
its generator is not an active validator), or `maxHeightGenerated < height` and the window is the result of the
precommit loop followed by the prevote loop (from `max (maxHeightGenerated+1) minActiveHeight` on) -/
theorem updateVotes_ok {s s' : State} (h : updateVotes s = .ok s') :
    s' = s ∨ ∃ n rest vi minH infos1 first infos2 act, s.infos = n :: rest ∧ n.mhg < n.height ∧
      precommitLoop s n.gen minH s.infos false = .ok (infos1, first) ∧
      prevoteLoop s n.gen (max ((n.mhg + 1) % u32) vi) infos1 = .ok infos2 ∧
      s' = { s with infos := infos2, active := act } := by
  unfold updateVotes at h
  split at h
  · cases h; exact Or.inl rfl
  · rename_i n rest hs
    split at h
    · cases h; exact Or.inl rfl
    · rename_i hg
      split at h
      · cases h; exact Or.inl rfl
      · rename_i vi _
        simp only [] at h
        split at h
        · cases h
        · rename_i infos1 first h1
          split at h
          · cases h
          · rename_i infos2 h2
            cases h
            exact Or.inr ⟨n, rest, vi.minActiveHeight, _, infos1, first, infos2, _, hs, Nat.lt_of_not_le hg,
              h1, h2, rfl⟩

/-- `updatePrevotesPrecommits` only changes weights (and the vote info of the generator) -/
theorem updateVotes_rel {s s' : State} (h : updateVotes s = .ok s') :
    All2 (Ruv (getParams s)) s.infos s'.infos ∧ s'.params = s.params ∧ s'.batchSize = s.batchSize ∧
      s'.mhp = s.mhp ∧ s'.mhpc = s.mhpc ∧ s'.mhc = s.mhc ∧ s'.keys = s.keys := by
  rcases updateVotes_ok h with rfl | ⟨n, _, _, _, _, _, _, _, hs, _, h1, h2, rfl⟩
  · exact ⟨All2.refl (Ruv.refl _) _, rfl, rfl, rfl, rfl, rfl, rfl⟩
  · exact ⟨All2.comp (Ruv_of_Rpc_Rpv _) (precommitLoop_rel _ _ _ _ _ _ _ h1) (prevoteLoop_rel _ _ _ _ _ h2),
      rfl, rfl, rfl, rfl, rfl, rfl⟩

/-! ### decomposition of `process` -/

theorem getParams_congr {s t : State} (h : s.params = t.params) : getParams s = getParams t := by
  funext k; simp [getParams, h]

theorem firstWith_congr {s t : State} (h : s.params = t.params) (w : BlockInfo → Nat) (thr : Params → Nat) :
    ∀ l, firstWith s w thr l = firstWith t w thr l
  | [] => rfl
  | b :: l => by simp only [firstWith, getParams_congr h, firstWith_congr h w thr l]

/-- a successful `BeforeTransactionsExecute`: the window is not empty, the votes of the new header are
counted on the window with the new entry in front (`s1`), the two heights are read off `s1`, and the
stores are pruned -/
theorem process_ok {s : State} {h : Header} {s' : State} (hp : process s h = .ok s') :
    ∃ k s1 p pc, 3 * s.batchSize = k + 1 ∧
      updateVotes { s with infos := newInfo h :: s.infos.take k } = .ok s1 ∧
      firstWith s1 (·.prevoteWeight) (·.prevoteThreshold) s1.infos = .ok p ∧
      firstWith { s1 with mhp := p.getD s1.mhp } (·.precommitWeight) (·.precommitThreshold) s1.infos = .ok pc ∧
      s' = { s1 with
        mhp := p.getD s1.mhp, mhpc := pc.getD s1.mhpc, mhc := h.commitHeight.getD s1.mhc,
        params := prune s1.params
          (min ((s1.infos.getLast?.map (·.height)).getD 0) (h.commitHeight.getD s1.mhc + 1)),
        keys := prune s1.keys
          (min ((s1.infos.getLast?.map (·.height)).getD 0) (h.commitHeight.getD s1.mhc + 1)) } := by
  rw [process] at hp
  dsimp only at hp
  cases hk : 3 * s.batchSize with
  | zero => rw [insertInfo, hk] at hp; cases hp
  | succ k =>
    have hins : insertInfo s h = newInfo h :: s.infos.take k := by
      rw [insertInfo, hk, List.take_succ_cons]; rfl
    rw [hins, List.isEmpty_cons, if_neg Bool.false_ne_true] at hp
    split at hp
    · cases hp
    cases hu : updateVotes { s with infos := newInfo h :: s.infos.take k } with
    | error e => rw [hu] at hp; cases hp
    | ok s1 =>
      rw [hu] at hp
      dsimp only at hp
      cases h1 : firstWith s1 (·.prevoteWeight) (·.prevoteThreshold) s1.infos with
      | error e => rw [h1] at hp; cases hp
      | ok p =>
        rw [h1] at hp
        dsimp only at hp
        cases h2 : firstWith { s1 with mhp := p.getD s1.mhp } (·.precommitWeight) (·.precommitThreshold)
            s1.infos with
        | error e => rw [h2] at hp; cases hp
        | ok pc =>
          rw [h2] at hp
          exact ⟨k, s1, p, pc, rfl, hu, h1, h2, (Except.ok.inj hp).symm⟩

/-- what a successful `BeforeTransactionsExecute` did, in terms of the state before (`k + 1 = 3·batchSize`) -/
structure Processed (s : State) (h : Header) (s' : State) (k : Nat) : Prop where
  window : 3 * s.batchSize = k + 1
  rel : All2 (Ruv (getParams s)) (newInfo h :: s.infos.take k) s'.infos
  batch : s'.batchSize = s.batchSize
  pv : ∃ p, firstWith s (·.prevoteWeight) (·.prevoteThreshold) s'.infos = .ok p ∧ s'.mhp = p.getD s.mhp
  pc : ∃ pc, firstWith s (·.precommitWeight) (·.precommitThreshold) s'.infos = .ok pc ∧ s'.mhpc = pc.getD s.mhpc
  mhc : s'.mhc = h.commitHeight.getD s.mhc
  params : s'.params = prune s.params (min ((s'.infos.getLast?.map (·.height)).getD 0) (s'.mhc + 1))
  keys : s'.keys = prune s.keys (min ((s'.infos.getLast?.map (·.height)).getD 0) (s'.mhc + 1))

theorem process_facts {s : State} {h : Header} {s' : State} (hp : process s h = .ok s') :
    ∃ k, Processed s h s' k := by
  obtain ⟨k, s1, p, pc, hk, hu, hpv, hpc, rfl⟩ := process_ok hp
  obtain ⟨hrel, hpar, hbs, hmhp, hmhpc, hmhc, hkeys⟩ := updateVotes_rel hu
  simp only [] at hpar hbs hmhp hmhpc hmhc hkeys
  refine ⟨k, hk, hrel, hbs, ⟨p, ?_, by rw [hmhp]⟩, ⟨pc, ?_, by rw [hmhpc]⟩, by rw [hmhc],
    by rw [hpar, hmhc], by rw [hkeys, hmhc]⟩
  · rw [← hpv]; exact firstWith_congr hpar.symm _ _ _
  · rw [← hpc]; exact firstWith_congr (t := { s1 with mhp := p.getD s1.mhp }) hpar.symm _ _ _

theorem process_mhc {s : State} {h : Header} {s' : State} (hp : process s h = .ok s') :
    s'.mhc = h.commitHeight.getD s.mhc :=
  let ⟨_, F⟩ := process_facts hp; F.mhc

/-! ### `firstWith` on a strictly descending window -/

/-- what `firstWith` computes: the height of the highest block with quorum, if any -/
def FirstSpec (g : Nat → Option Params) (w : BlockInfo → Nat) (thr : Params → Nat) (l : List BlockInfo)
    (r : Option Nat) : Prop :=
  (r = none → ∀ b ∈ l, ¬ Quorum g w thr b) ∧
  (∀ hq, r = some hq → (∃ b ∈ l, b.height = hq ∧ Quorum g w thr b) ∧ ∀ b ∈ l, Quorum g w thr b → b.height ≤ hq)

theorem firstWith_spec (s : State) (w : BlockInfo → Nat) (thr : Params → Nat) :
    ∀ (l : List BlockInfo) (r : Option Nat), firstWith s w thr l = .ok r → SortedDesc l →
      FirstSpec (getParams s) w thr l r
  | [], r, h, _ => by
    simp only [firstWith] at h; cases h; simp [FirstSpec]
  | b :: l, r, h, hs => by
    simp only [firstWith] at h
    split at h
    · cases h
    · rename_i p hp
      have hs' := List.pairwise_cons.1 hs
      split at h
      · rename_i hq
        cases h
        refine ⟨fun h => (by cases h), ?_⟩
        intro hq' he; cases he
        exact ⟨⟨b, List.mem_cons_self, rfl, p, hp, hq⟩, List.forall_mem_cons.2
          ⟨fun _ => Nat.le_refl _, fun x hx _ => Nat.le_of_lt (hs'.1 x hx)⟩⟩
      · rename_i hq
        have hnb : ¬ Quorum (getParams s) w thr b := by
          rintro ⟨p', hp', hq'⟩; rw [hp] at hp'; cases hp'; exact hq hq'
        obtain ⟨ih1, ih2⟩ := firstWith_spec s w thr l r h hs'.2
        refine ⟨fun hr => List.forall_mem_cons.2 ⟨hnb, ih1 hr⟩, fun hq' hr => ?_⟩
        obtain ⟨⟨x, hx, hxh, hxq⟩, hall⟩ := ih2 hq' hr
        exact ⟨⟨x, List.mem_cons_of_mem _ hx, hxh, hxq⟩, List.forall_mem_cons.2 ⟨fun hyq => absurd hyq hnb, hall⟩⟩

/-- list-level invariant tying a finality height `m` to the window: `m` is at least the height of
every block with quorum, and it is either below the whole window or the height of a window block
with quorum -/
def HInvL (g : Nat → Option Params) (w : BlockInfo → Nat) (thr : Params → Nat) (L : List BlockInfo) (m : Nat) : Prop :=
  (∀ b ∈ L, Quorum g w thr b → b.height ≤ m) ∧
  ((∀ b ∈ L, m < b.height) ∨ ∃ b ∈ L, b.height = m ∧ Quorum g w thr b)

theorem Quorum.congr {g g' : Nat → Option Params} {w : BlockInfo → Nat} {thr : Params → Nat} {b : BlockInfo}
    (h : g' b.height = g b.height) : Quorum g' w thr b ↔ Quorum g w thr b := by
  unfold Quorum; rw [h]

theorem Quorum.mono {g : Nat → Option Params} {w : BlockInfo → Nat} {thr : Params → Nat} {a b : BlockInfo}
    (hh : a.height = b.height) (hw : w a ≤ w b) (hq : Quorum g w thr a) : Quorum g w thr b := by
  obtain ⟨p, hp, hq⟩ := hq
  exact ⟨p, by rw [← hh]; exact hp, Nat.le_trans hq hw⟩

theorem HInvL.congr {g g' : Nat → Option Params} {w : BlockInfo → Nat} {thr : Params → Nat} {L : List BlockInfo}
    {m : Nat} (hg : ∀ b ∈ L, g' b.height = g b.height) (h : HInvL g w thr L m) : HInvL g' w thr L m := by
  refine ⟨fun b hb hq => h.1 b hb ((Quorum.congr (hg b hb)).1 hq), ?_⟩
  rcases h.2 with h2 | ⟨b, hb, hbm, hq⟩
  · exact Or.inl h2
  · exact Or.inr ⟨b, hb, hbm, (Quorum.congr (hg b hb)).2 hq⟩

theorem HInvL_step {g g' : Nat → Option Params} {w : BlockInfo → Nat} {thr : Params → Nat}
    {L I' : List BlockInfo} {new : BlockInfo} {k m : Nat} {r : Option Nat}
    (hs : SortedDesc L) (hinv : HInvL g w thr L m)
    (hm : m < new.height)
    (hrel : All2 (fun a b => a.height = b.height ∧ w a ≤ w b) (new :: L.take k) I')
    (hfirst : FirstSpec g w thr I' r)
    (hg : ∀ b ∈ I', g' b.height = g b.height) :
    HInvL g' w thr I' (r.getD m) ∧ m ≤ r.getD m := by
  -- either the whole new window is above `m`, or the block at height `m` survived with its quorum
  have hB : (∀ x ∈ I', m < x.height) ∨ ∃ b' ∈ I', b'.height = m ∧ Quorum g w thr b' := by
    -- the new window is above `m` as soon as the part of the old one that stays is
    have hup : (∀ a ∈ L.take k, m < a.height) → ∀ x ∈ I', m < x.height := by
      intro hL x hx
      obtain ⟨a, ha, hah, _⟩ := All2.mem_right hrel x hx
      rcases List.mem_cons.1 ha with rfl | ha
      · omega
      · have := hL a ha; omega
    rcases hinv.2 with hall | ⟨b, hb, hbm, hbq⟩
    · exact Or.inl (hup fun a ha => hall a (List.mem_of_mem_take ha))
    · have hsplit : b ∈ L.take k ∨ b ∈ L.drop k := by
        have : b ∈ L.take k ++ L.drop k := by rw [List.take_append_drop]; exact hb
        exact List.mem_append.1 this
      rcases hsplit with hbt | hbd
      · right
        obtain ⟨b', hb', hbh, hbw⟩ := All2.mem_left hrel b (List.mem_cons_of_mem _ hbt)
        exact ⟨b', hb', by omega, Quorum.mono hbh hbw hbq⟩
      · refine Or.inl (hup fun a ha => ?_)
        have hs2 : SortedDesc (L.take k ++ L.drop k) := by rw [List.take_append_drop]; exact hs
        have := (List.pairwise_append.1 hs2).2.2 a ha b hbd
        omega
  have hQ : ∀ b ∈ I', Quorum g' w thr b ↔ Quorum g w thr b := fun b hb => Quorum.congr (hg b hb)
  cases r with
  | none =>
    simp only [Option.getD_none]
    refine ⟨⟨?_, ?_⟩, Nat.le_refl _⟩
    · intro b hb hq
      exact absurd ((hQ b hb).1 hq) (hfirst.1 rfl b hb)
    · rcases hB with h1 | ⟨b', hb', hbm, hbq⟩
      · exact Or.inl h1
      · exact Or.inr ⟨b', hb', hbm, (hQ b' hb').2 hbq⟩
  | some hq =>
    simp only [Option.getD_some]
    obtain ⟨⟨bq, hbq, hh, hqq⟩, hall⟩ := hfirst.2 hq rfl
    refine ⟨⟨?_, ?_⟩, ?_⟩
    · intro b hb hqb
      exact hall b hb ((hQ b hb).1 hqb)
    · exact Or.inr ⟨bq, hbq, hh, (hQ bq hbq).2 hqq⟩
    · rcases hB with h1 | ⟨b', hb', hbm, hbq'⟩
      · have := h1 bq hbq; omega
      · have := hall b' hb' hbq'; omega

/-! ### `setParams` -/

/-- the height `SetBFTParameters` considers current -/
def curHeight (s : State) : Nat :=
  match s.infos with
  | [] => s.mhp
  | n :: _ => n.height

/-! A chain `if (a check fails) then .error e else …`, one link at a time (for `simp only [setParams_eq, …]`). -/

theorem ite_error_eq_ok {ε α : Type} {c : Prop} [Decidable c] {e : ε} {x : Except ε α} {a : α} :
    (if c then .error e else x) = .ok a ↔ ¬ c ∧ x = .ok a := by
  split <;> simp [*]

theorem ite_error_eq_error {ε α : Type} {c : Prop} [Decidable c] {e e' : ε} {x : Except ε α} :
    (if c then .error e else x) = .error e' ↔ c ∧ e = e' ∨ ¬ c ∧ x = .error e' := by
  split <;> simp [*]

/-- the state `SetBFTParameters` returns once every guard has passed: `s` itself when the parameters in force at the
current height are the requested ones, otherwise `s` with the parameter entry for the next height and the vote infos
of the new validator list -/
def setParamsDone (s : State) (pc ct : Nat) (vs : List Validator) : State :=
  let sorted := isort (fun a b => addrGE a.address b.address) vs
  let same := match getParams s (curHeight s) with
    | none => false
    | some p => (p.validators == sorted) && p.precommitThreshold == pc && p.certificateThreshold == ct
  if same then s
  else { s with
    params := (curHeight s + 1, ⟨(vs.map (·.weight)).sum * 2 / 3 + 1, pc, ct, sorted⟩) ::
      s.params.filter (·.1 ≠ curHeight s + 1),
    active := isort (fun a b => addrGE a.address b.address) (sorted.map fun v =>
      match findActive s.active v.address with
      | some a => a
      | none => ⟨v.address, curHeight s + 1, curHeight s + 1 - 1⟩) }

/-- `SetBFTParameters` as its chain of guards: the error of the first guard that fails, or `setParamsDone` -/
theorem setParams_eq (s : State) (pc ct : Nat) (vs : List Validator) :
    setParams s pc ct vs =
      if vs.length > s.batchSize then .error .batchSize
      else if vs.any (·.weight = 0) = true then .error .weight
      else if (vs.map (·.weight)).sum ≥ u64 then .error .weightOverflow
      else if (vs.map (·.weight)).sum / 3 + 1 > pc ∨ pc > (vs.map (·.weight)).sum then .error .precommitThreshold
      else if (vs.map (·.weight)).sum / 3 + 1 > ct ∨ ct > (vs.map (·.weight)).sum then .error .certThreshold
      else .ok (setParamsDone s pc ct vs) := by
  rw [setParams]
  refine ite_congr rfl (fun _ => rfl) fun _ => ite_congr rfl (fun _ => rfl) fun _ => ite_congr rfl (fun _ => rfl) fun _ =>
    ite_congr rfl (fun _ => rfl) fun _ => ite_congr rfl (fun _ => rfl) fun _ => ?_
  exact (apply_ite Except.ok _ _ _).symm

/-- a successful `SetBFTParameters`: three of the guards that were passed (the size of the list, the two bounds on
the precommit threshold), and the resulting state — unchanged
when the parameters in force are the requested ones, otherwise with the new parameter entry for the
next height and the vote infos of the new validator list -/
theorem setParams_ok {s s' : State} {pc ct : Nat} {vs : List Validator} (h : setParams s pc ct vs = .ok s') :
    vs.length ≤ s.batchSize ∧ (vs.map (·.weight)).sum / 3 + 1 ≤ pc ∧ pc ≤ (vs.map (·.weight)).sum ∧
    ((getParams s (curHeight s)).isSome ∧ s' = s ∨
      s' = { s with
        params := (curHeight s + 1, ⟨(vs.map (·.weight)).sum * 2 / 3 + 1, pc, ct,
          isort (fun a b => addrGE a.address b.address) vs⟩) :: s.params.filter (·.1 ≠ curHeight s + 1),
        active := isort (fun a b => addrGE a.address b.address)
          ((isort (fun a b => addrGE a.address b.address) vs).map fun v =>
            match findActive s.active v.address with
            | some a => a
            | none => ⟨v.address, curHeight s + 1, curHeight s + 1 - 1⟩) }) := by
  simp only [setParams_eq, ite_error_eq_ok, Except.ok.injEq] at h
  obtain ⟨h1, -, -, h4, -, rfl⟩ := h
  refine ⟨by omega, by omega, by omega, ?_⟩
  unfold setParamsDone
  cases hg : getParams s (curHeight s) with
  | none => exact Or.inr (if_neg Bool.false_ne_true)
  | some p =>
    dsimp only
    split
    · exact Or.inl ⟨rfl, rfl⟩
    · exact Or.inr rfl

/-- what a successful `SetBFTParameters` leaves alone, and what it does to the parameter store -/
structure ParamsSet (s s' : State) : Prop where
  infos : s'.infos = s.infos
  batch : s'.batchSize = s.batchSize
  mhp : s'.mhp = s.mhp
  mhpc : s'.mhpc = s.mhpc
  mhc : s'.mhc = s.mhc
  keys : s'.keys = s.keys
  params : s'.params = s.params ∨
    ∃ p : Params, s'.params = (curHeight s + 1, p) :: s.params.filter (·.1 ≠ curHeight s + 1) ∧
      1 ≤ p.precommitThreshold

theorem setParams_facts {s s' : State} {pc ct : Nat} {vs : List Validator} (h : setParams s pc ct vs = .ok s') :
    ParamsSet s s' := by
  obtain ⟨_, hpc, _, ⟨_, rfl⟩ | rfl⟩ := setParams_ok h
  · exact ⟨rfl, rfl, rfl, rfl, rfl, rfl, Or.inl rfl⟩
  · exact ⟨rfl, rfl, rfl, rfl, rfl, rfl, Or.inr ⟨_, rfl, Nat.le_trans (Nat.le_add_left 1 _) hpc⟩⟩

theorem setParams_getParams {s s' : State} {pc ct : Nat} {vs : List Validator} (h : setParams s pc ct vs = .ok s')
    {k : Nat} (hk : k ≤ curHeight s) : getParams s' k = getParams s k := by
  rcases (setParams_facts h).params with hpar | ⟨p, hpar, _⟩
  · simp [getParams, hpar]
  · simp only [getParams, hpar]
    rw [lookupLE_cons_filter _ _ _ (by omega)]

theorem SortedDesc.le_curHeight {s : State} (hs : SortedDesc s.infos) : ∀ b ∈ s.infos, b.height ≤ curHeight s := by
  intro b hb
  unfold curHeight
  split
  · rename_i h0; rw [h0] at hb; cases hb
  · rename_i n rest h0
    rw [h0] at hb hs
    rcases List.mem_cons.1 hb with rfl | hb
    · exact Nat.le_refl _
    · exact Nat.le_of_lt ((List.pairwise_cons.1 hs).1 b hb)

/-- `SetBFTParameters` installs parameters for the next height only: lookups at the heights of the window stay -/
theorem setParams_getParams_window {s s' : State} {pc ct : Nat} {vs : List Validator}
    (h : setParams s pc ct vs = .ok s') (hs : SortedDesc s.infos) :
    ∀ b ∈ s.infos, getParams s' b.height = getParams s b.height :=
  fun b hb => setParams_getParams h (hs.le_curHeight b hb)

end LiskVerif.BFT
