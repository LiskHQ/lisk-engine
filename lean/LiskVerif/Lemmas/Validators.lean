/-
The functions of `LiskVerif.Model.Validators` in the form their users reason with: `decodeNamed` /
`encodeNamed` of a name found in the table are the decoders / the encoder of that struct; `mapDecode`
and `newBlock` are `bind` compositions of `decodeNamed`, so an accepting run is taken apart with
`bind_eq_ok` and a property of every outcome follows from the same property of `decodeNamed`;
`Bits.read` / `Bits.write` / the signer-selection loop are in range exactly under the stated index
conditions.
-/
import LiskVerif.Model.Validators
import LiskVerif.Lemmas.CodecTotal

namespace LiskVerif.Validators
open LiskVerif LiskVerif.Codec

section
variable (t : Table) (nfc : NFC)

theorem mapDecode_cons (st : Bool) (name : String) (b : Bytes) (rest : List Bytes) :
    mapDecode t nfc st name (b :: rest) =
      (decodeNamed t nfc st name b).bind fun v =>
        (mapDecode t nfc st name rest).bind fun vs => .ok (v :: vs) := by
  rw [mapDecode]
  cases decodeNamed t nfc st name b with
  | error e => rfl
  | ok v =>
    dsimp only [Except.bind]
    cases mapDecode t nfc st name rest <;> rfl

theorem newBlock_eq (data : Bytes) :
    newBlock t nfc data =
      (decodeNamed t nfc true "blockchain.RawBlock" data).bind fun raw =>
      (decodeNamed t nfc false "blockchain.BlockHeader" (fBytes raw 0)).bind fun header =>
      (mapDecode t nfc true "blockchain.BlockAsset" (fBytesArr raw 2)).bind fun assets =>
      (mapDecode t nfc true "blockchain.Transaction" (fBytesArr raw 1)).bind fun txs =>
      .ok { header := header, txs := txs, assets := assets } := by
  unfold newBlock
  cases decodeNamed t nfc true "blockchain.RawBlock" data with
  | error e => rfl
  | ok raw =>
    dsimp only [Except.bind]
    cases decodeNamed t nfc false "blockchain.BlockHeader" (fBytes raw 0) with
    | error e => rfl
    | ok header =>
      dsimp only
      cases mapDecode t nfc true "blockchain.BlockAsset" (fBytesArr raw 2) with
      | error e => rfl
      | ok assets =>
        dsimp only
        cases mapDecode t nfc true "blockchain.Transaction" (fBytesArr raw 1) <;> rfl

end

section
variable {t : Table} {nfc : NFC} {name : String} {s : Schema}

/-- a name found in the table: `decodeNamed` is `DecodeStrict` / `Decode` of that struct -/
theorem decodeNamed_of_find (hs : t.find name = some s) (strict : Bool) (b : Bytes) :
    decodeNamed t nfc strict name b =
      if strict then decodeStrict t nfc s b else decode t nfc s b := by
  simp only [decodeNamed, hs]

theorem encodeNamed_of_find (hs : t.find name = some s) (vals : List Value) :
    encodeNamed t nfc name vals = encode t nfc s vals := by
  simp only [encodeNamed, hs]

/-- what `decodeNamed` accepted was accepted by the decoder of a struct of the table -/
theorem decodeNamed_ok {strict : Bool} {data : Bytes} {vals : List Value}
    (h : decodeNamed t nfc strict name data = .ok vals) :
    ∃ s, t.find name = some s ∧
      (if strict then decodeStrict t nfc s data else decode t nfc s data) = .ok vals := by
  cases hf : t.find name with
  | none => simp only [decodeNamed, hf] at h; cases h
  | some s => exact ⟨s, rfl, by rwa [decodeNamed_of_find hf] at h⟩

/-- a struct whose strict decoder is canonical is canonical under its name -/
theorem decodeNamed_canonical (hs : t.find name = some s)
    (hc : ∀ b vals, decodeStrict t nfc s b = .ok vals → encode t nfc s vals = b) (b : Bytes)
    (vals : List Value) (h : decodeNamed t nfc true name b = .ok vals) :
    encodeNamed t nfc name vals = b := by
  rw [decodeNamed_of_find hs] at h
  rw [encodeNamed_of_find hs]
  exact hc b vals h

end

section
variable {t : Table} {nfc : NFC} {st : Bool} {name : String}

/-- the loop accepted every element -/
theorem mapDecode_ok_mem : ∀ {l : List Bytes} {vs : List (List Value)},
    mapDecode t nfc st name l = .ok vs → ∀ b ∈ l, ∃ v, decodeNamed t nfc st name b = .ok v
  | [], _, _, _, hb => nomatch hb
  | x :: rest, _, h, b, hb => by
    rw [mapDecode_cons] at h
    obtain ⟨v, hv, h⟩ := bind_eq_ok h
    obtain ⟨vs', hvs, _⟩ := bind_eq_ok h
    rcases List.mem_cons.mp hb with rfl | hb
    · exact ⟨v, hv⟩
    · exact mapDecode_ok_mem hvs b hb

/-- if `f` recovers every accepted element from its value, it recovers the list -/
theorem mapDecode_ok_map {f : List Value → Bytes}
    (hf : ∀ b v, decodeNamed t nfc st name b = .ok v → f v = b) :
    ∀ {l : List Bytes} {vs : List (List Value)}, mapDecode t nfc st name l = .ok vs → vs.map f = l
  | [], _, h => by cases h; rfl
  | b :: rest, _, h => by
    rw [mapDecode_cons] at h
    obtain ⟨v, hv, h⟩ := bind_eq_ok h
    obtain ⟨vs', hvs, h⟩ := bind_eq_ok h
    cases h
    rw [List.map_cons, hf b v hv, mapDecode_ok_map hf hvs]

/-- the steps of an accepting run of `NewBlock` -/
theorem newBlock_ok {data : Bytes} {blk : Block} (h : newBlock t nfc data = .ok blk) :
    ∃ raw : List Value,
      decodeNamed t nfc true "blockchain.RawBlock" data = .ok raw ∧
      decodeNamed t nfc false "blockchain.BlockHeader" (fBytes raw 0) = .ok blk.header ∧
      mapDecode t nfc true "blockchain.BlockAsset" (fBytesArr raw 2) = .ok blk.assets ∧
      mapDecode t nfc true "blockchain.Transaction" (fBytesArr raw 1) = .ok blk.txs := by
  rw [newBlock_eq] at h
  obtain ⟨raw, hraw, h⟩ := bind_eq_ok h
  obtain ⟨header, hh, h⟩ := bind_eq_ok h
  obtain ⟨assets, ha, h⟩ := bind_eq_ok h
  obtain ⟨txs, ht, h⟩ := bind_eq_ok h
  cases h
  exact ⟨raw, hraw, hh, ha, ht⟩

end

/-! ### aggregation bitmaps: the exact index conditions -/

/-- bit `i` lies in byte `i / 8`: that byte exists iff `i < 8 · len(bits)` -/
theorem byteOfBit_isSome_iff (bits : Bytes) (i : Nat) :
    (bits[i / 8]?).isSome = true ↔ i < 8 * bits.length := by
  rw [isSome_getElem?]
  omega

/-- `Bits.read(i)` is in range iff `i < 8 · len(bits)` -/
theorem bitsRead_isSome_iff (bits : Bytes) (i : Nat) :
    (bitsRead bits i).isSome = true ↔ i < 8 * bits.length := by
  rw [← byteOfBit_isSome_iff]
  unfold bitsRead
  cases bits[i / 8]? <;> rfl

/-- `Bits.write(i, v)` is in range iff `i < 8 · len(bits)`, and then keeps the length -/
theorem bitsWrite_spec (bits : Bytes) (i : Nat) (v : Bool) :
    ((bitsWrite bits i v).isSome = true ↔ i < 8 * bits.length) ∧
    (∀ b', bitsWrite bits i v = some b' → b'.length = bits.length) := by
  unfold bitsWrite
  refine ⟨?_, ?_⟩
  · rw [← byteOfBit_isSome_iff]
    cases bits[i / 8]? <;> rfl
  · intro b' h
    split at h
    · cases h
    · cases h; simp

/-- the signer-selection loop over the first `n` keys runs without an index panic iff every index
below `n` is inside the bitmap and every index whose bit is set has a key and a weight -/
theorem selectSigners_isSome_iff (keys : List Bytes) (bits : Bytes) (weights : List Nat) (n : Nat) :
    (selectSigners keys bits weights n).isSome = true ↔
      ∀ i, i < n → i < 8 * bits.length ∧
        (bitsRead bits i = some true → i < keys.length ∧ i < weights.length) := by
  induction n with
  | zero => simp [selectSigners]
  | succ k ih =>
    unfold selectSigners
    constructor
    · intro h i hi
      cases hs : selectSigners keys bits weights k with
      | none => rw [hs] at h; cases h
      | some p =>
        obtain ⟨ks, w⟩ := p
        rw [hs] at h
        simp only at h
        by_cases hik : i < k
        · exact (ih.mp (by rw [hs]; rfl)) i hik
        · have : i = k := by omega
          subst this
          cases hb : bitsRead bits i with
          | none => rw [hb] at h; cases h
          | some bit =>
            refine ⟨(bitsRead_isSome_iff bits i).mp (by rw [hb]; rfl), ?_⟩
            intro hbit
            cases hbit
            rw [hb] at h
            simp only at h
            cases hk : keys[i]? with
            | none => rw [hk] at h; cases h
            | some key =>
              cases hw : weights[i]? with
              | none => rw [hk, hw] at h; cases h
              | some wi =>
                exact ⟨(List.getElem?_eq_some_iff.mp hk).1, (List.getElem?_eq_some_iff.mp hw).1⟩
    · intro h
      have hprev := ih.mpr (fun i hi => h i (by omega))
      cases hs : selectSigners keys bits weights k with
      | none => rw [hs] at hprev; cases hprev
      | some p =>
        obtain ⟨ks, w⟩ := p
        simp only
        obtain ⟨hin, hset⟩ := h k (by omega)
        have hr := (bitsRead_isSome_iff bits k).mpr hin
        cases hb : bitsRead bits k with
        | none => rw [hb] at hr; cases hr
        | some bit =>
          cases bit with
          | false => rfl
          | true =>
            obtain ⟨hk, hw⟩ := hset hb
            simp only [List.getElem?_eq_getElem hk, List.getElem?_eq_getElem hw]
            rfl

end LiskVerif.Validators
