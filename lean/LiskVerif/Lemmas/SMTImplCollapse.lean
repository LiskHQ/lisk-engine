/-
The two bottom-up loops over a flattened subtree (Model/SMTImpl.lean) compute recursive functions of the layout tree
(Lemmas/SMTImplTree.lean) whose flattening they are given.  Core Lean only.

`treeHasher` (hasher.go, level by level) computes the recursive Merkle hash `LT.hash`; `maxStructure` of the
flattening is the depth of the tree, and `newSubtreeFromData` on a flattening returns the subtree with the Merkle root.

`calculateSubTree` (utils.go, level by level with its temp-holder queue) computes the recursive `LT.collapse`.
The state before the pass at height `h` is described by `st h 0 t`: the original layout tree `t` in which every
subtree rooted at depth ≥ `h` has been replaced by its collapse – a node when the collapse is a tip, a temp node
(`PT.done c`) whose holder entry is the flattening of the collapsed tree `c` otherwise.  The temp holder is a queue:
new entries are prepended, consumed entries are popped from the end, so the holder is the reverse of the
left-to-right list of entries.
-/
import LiskVerif.Lemmas.SMTImplTree

namespace LiskVerif.SMTImpl
open LiskVerif LiskVerif.SMT

/-- one pass of the hasher on the tree: every branch at depth `h - 1` (children at `h`) becomes a tip carrying
its hash -/
def cut (H : HashFn) (h : Nat) : Nat → LT → LT
  | _, .tip n => .tip n
  | d, .br l r =>
    if d + 1 = h then .tip (newStubNode ((LT.br l r).hash H))
    else .br (cut H h (d + 1) l) (cut H h (d + 1) r)

theorem ok_bind {α β : Type} (x : α) (f : α → Res β) : ((Except.ok x : Res α) >>= f) = f x := rfl

theorem LT.le_maxDepth (t : LT) (d : Nat) : d ≤ t.maxDepth d := by
  induction t generalizing d with
  | tip n => exact Nat.le_refl d
  | br l r ihl ihr => exact Nat.le_trans (Nat.le_succ d) (Nat.le_trans (ihl (d + 1)) (Nat.le_max_left _ _))

theorem LT.nodes_length_pos (t : LT) : 1 ≤ t.nodes.length := by
  induction t with
  | tip n => simp [LT.nodes]
  | br l r ihl ihr => simp only [LT.nodes, List.length_append]; omega

theorem LT.length_nodes_depths (t : LT) (d : Nat) : (t.depths d).length = t.nodes.length := by
  induction t generalizing d with
  | tip n => rfl
  | br l r ihl ihr => simp [LT.depths, LT.nodes, ihl, ihr]

theorem cut_hash (H : HashFn) (h : Nat) (t : LT) (d : Nat) : (cut H h d t).hash H = t.hash H := by
  induction t generalizing d with
  | tip n => simp [cut]
  | br l r ihl ihr =>
    simp only [cut]
    split
    · simp [LT.hash, newStubNode]
    · simp [LT.hash, ihl, ihr]

theorem cut_maxDepth (H : HashFn) (h : Nat) (t : LT) (d : Nat) (hd : d < h) (hm : t.maxDepth d ≤ h) :
    (cut H h d t).maxDepth d ≤ h - 1 := by
  induction t generalizing d with
  | tip n => exact Nat.le_sub_one_of_lt hd
  | br l r ihl ihr =>
    simp only [cut]
    split
    · exact Nat.le_sub_one_of_lt hd
    · next hne =>
      have hlt : d + 1 < h := Nat.lt_of_le_of_ne hd hne
      obtain ⟨hl, hr⟩ := Nat.max_le.mp hm
      exact Nat.max_le.mpr ⟨ihl (d + 1) hlt hl, ihr (d + 1) hlt hr⟩

theorem Except.map_map' {ε α β γ : Type} (x : Except ε α) (f : α → β) (g : β → γ) :
    (x.map f).map g = x.map (fun a => g (f a)) := by
  cases x <;> rfl

theorem LT.tip_of_maxDepth_le (t : LT) (d : Nat) (hm : t.maxDepth d ≤ d) : ∃ n, t = .tip n := by
  cases t with
  | tip n => exact ⟨n, rfl⟩
  | br l r =>
    exfalso
    have h1 := l.le_maxDepth (d + 1)
    simp only [LT.maxDepth] at hm
    omega

/-- one pass of the hasher at the deepest level is `cut` -/
theorem hashPass_tree (H : HashFn) (h : Nat) (t : LT) : ∀ (d : Nat) (hs : List Bytes) (ss : List Nat),
    d < h → t.maxDepth d ≤ h →
    hashPass H h (t.nodes.map (·.hash) ++ hs) (t.depths d ++ ss) =
      (hashPass H h hs ss).map (fun r =>
        ((cut H h d t).nodes.map (·.hash) ++ r.1, (cut H h d t).depths d ++ r.2)) := by
  induction t with
  | tip n =>
    intro d hs ss hd hm
    have hne : d ≠ h := Nat.ne_of_lt hd
    simp only [LT.nodes, LT.depths, cut, List.map, List.cons_append, List.nil_append]
    cases hs <;> simp [hashPass, hne]
  | br l r ihl ihr =>
    intro d hs ss hd hm
    simp only [LT.maxDepth] at hm
    by_cases hdh : d + 1 = h
    · obtain ⟨a, rfl⟩ := l.tip_of_maxDepth_le (d + 1) (by omega)
      obtain ⟨b, rfl⟩ := r.tip_of_maxDepth_le (d + 1) (by omega)
      subst hdh
      simp [LT.nodes, LT.depths, cut, hashPass, wrapPred, LT.hash, newStubNode]
    · simp only [LT.nodes, LT.depths, cut, hdh, if_false, List.map_append, List.append_assoc]
      rw [ihl (d + 1) _ _ (by omega) (by omega), ihr (d + 1) hs ss (by omega) (by omega), Except.map_map']

theorem treeHasherUp_succ (H : HashFn) (h : Nat) (hashes : List Bytes) (struct : List Nat)
    (hne : hashes.length ≠ 1) :
    treeHasherUp H (h + 1) hashes struct =
      (hashPass H (h + 1) hashes struct).bind fun p =>
        if h + 1 = 1 then
          match p.1 with
          | x :: _ => .ok x
          | [] => .error .panic
        else treeHasherUp H h p.1 p.2 := by
  match hashes, hne with
  | [], _ => simp [treeHasherUp]; rfl
  | [x], hne => simp at hne
  | x :: y :: rest, _ => simp [treeHasherUp]; rfl

theorem treeHasherUp_tree (H : HashFn) (h : Nat) : ∀ (t : LT), t.maxDepth 0 ≤ h →
    treeHasherUp H h (t.nodes.map (·.hash)) (t.depths 0) = .ok (t.hash H) := by
  induction h with
  | zero =>
    intro t hm
    obtain ⟨n, rfl⟩ := t.tip_of_maxDepth_le 0 hm
    simp [LT.nodes, LT.depths, LT.hash, treeHasherUp]
  | succ h ih =>
    intro t hm
    cases t with
    | tip n => simp [LT.nodes, LT.depths, LT.hash, treeHasherUp]
    | br l r =>
      have hlen : ((LT.br l r).nodes.map (·.hash)).length ≠ 1 := by
        have h1 := l.nodes_length_pos
        have h2 := r.nodes_length_pos
        simp only [LT.nodes, List.length_map, List.length_append]
        omega
      rw [treeHasherUp_succ H h _ _ hlen]
      have key := hashPass_tree H (h + 1) (LT.br l r) 0 [] [] (by omega) hm
      simp only [List.append_nil] at key
      rw [key]
      have hcm := cut_maxDepth H (h + 1) (LT.br l r) 0 (by omega) hm
      have hch := cut_hash H (h + 1) (LT.br l r) 0
      generalize cut H (h + 1) 0 (LT.br l r) = c at hcm hch
      simp only [hashPass, Except.map, Except.bind, List.append_nil]
      by_cases h0 : h + 1 = 1
      · have : h = 0 := by omega
        subst this
        obtain ⟨n, rfl⟩ := c.tip_of_maxDepth_le 0 (by omega)
        simp [LT.nodes, LT.hash] at hch ⊢
        exact hch
      · simp only [h0, if_false]
        rw [ih c (by omega), hch]

/-- the bottom-up hasher on the flattening of a layout tree is the recursive Merkle hash -/
theorem treeHasher_tree (H : HashFn) (t : LT) :
    treeHasher H (t.maxDepth 0) (t.nodes.map (·.hash)) (t.depths 0) = .ok (t.hash H) := by
  cases t with
  | tip n => simp [LT.nodes, LT.hash, treeHasher]
  | br l r =>
    have h1 := l.le_maxDepth (0 + 1)
    have hne : (LT.br l r).maxDepth 0 ≠ 0 := by
      simp only [LT.maxDepth]; omega
    rw [← treeHasherUp_tree H _ _ (Nat.le_refl _)]
    unfold treeHasher
    split
    · next heq => rw [heq, treeHasherUp]
    · simp [hne]

theorem foldl_max_depths (t : LT) (d s0 : Nat) : (t.depths d).foldl max s0 = max s0 (t.maxDepth d) := by
  induction t generalizing d s0 with
  | tip n => rfl
  | br l r ihl ihr => simp only [LT.depths, LT.maxDepth, List.foldl_append, ihl, ihr, Nat.max_assoc]

theorem maxStructure_depths (t : LT) (d : Nat) : maxStructure (t.depths d) = .ok (t.maxDepth d) := by
  have hf := foldl_max_depths t d 0
  have hl := t.length_nodes_depths d ▸ t.nodes_length_pos
  match hd : t.depths d, hl with
  | s :: ss, _ =>
    rw [hd] at hf
    simp only [List.foldl_cons, Nat.zero_max] at hf
    simp [maxStructure, hf]

theorem newSubtreeFromData_tree (H : HashFn) (t : LT) :
    newSubtreeFromData H (t.depths 0) t.nodes = .ok ⟨t.depths 0, t.hash H, t.nodes⟩ := by
  unfold newSubtreeFromData
  rw [maxStructure_depths, ok_bind, treeHasher_tree, ok_bind]

#print axioms LiskVerif.SMTImpl.newSubtreeFromData_tree

/-! ### the statement of `calculateSubTree_tree` evaluated on concrete trees -/

section Sanity
private def hid : HashFn := fun b => b
private def nE : Node := ⟨.empty, [], [2], [9]⟩
private def nL (k : UInt8) : Node := ⟨.leaf, [k], [0, k], [k]⟩
private def nS (k : UInt8) : Node := ⟨.stub, [], [1, k], [k]⟩

private def chk (t : LT) : Bool :=
  match calculateSubTree hid (t.maxDepth 0) t.nodes (t.depths 0) [],
    newSubtreeFromData hid (t.collapse.depths 0) t.collapse.nodes with
  | .ok a, .ok b => decide (a = b)
  | .error a, .error b => decide (a = b)
  | _, _ => false

-- a single tip
#guard chk (.tip (nL 1))
-- (leaf, leaf): not mergeable
#guard chk (.br (.tip (nL 1)) (.tip (nL 2)))
-- (stub, empty): not mergeable
#guard chk (.br (.tip (nS 1)) (.tip nE))
-- (empty, leaf) lifted, then paired with a stub
#guard chk (.br (.br (.tip nE) (.tip (nL 1))) (.tip (nS 2)))
-- a leaf at depth 3 lifted to the root
#guard chk (.br (.br (.tip nE) (.br (.tip (nL 1)) (.tip nE))) (.tip nE))
-- depth 4, temp on both sides, lifted leaf inside
#guard chk (.br (.br (.br (.tip (nL 1)) (.tip (nL 2))) (.br (.tip nE) (.tip (nL 3))))
    (.br (.tip (nS 4)) (.br (.br (.tip nE) (.tip nE)) (.tip (nL 5)))))
-- depth 3, temp (left) with a non temp (right) and the other way round
#guard chk (.br (.br (.tip (nL 1)) (.br (.tip (nL 2)) (.tip (nS 3))))
    (.br (.br (.tip (nS 4)) (.tip (nS 5))) (.tip nE)))
end Sanity

theorem popLast_snoc (l : List NS) (x : NS) : popLast (l ++ [x]) = .ok (x, l) := by
  cases l with
  | nil => simp [popLast]
  | cons a l =>
    show (match ((a :: l) ++ [x]).getLast? with
      | some y => Except.ok (y, ((a :: l) ++ [x]).dropLast)
      | none => Except.error Err.panic) = _
    rw [List.getLast?_concat, List.dropLast_concat]

/-- a merged pair of sibling tips is one of the two tips or the branch over them -/
theorem mergeTips_cases (a b : Node) :
    mergeTips a b = .tip a ∨ mergeTips a b = .tip b ∨ mergeTips a b = .br (.tip a) (.tip b) := by
  unfold mergeTips
  split
  · exact Or.inl rfl
  split
  · exact Or.inr (Or.inl rfl)
  split
  · exact Or.inl rfl
  · exact Or.inr (Or.inr rfl)

theorem mergeTips_noTemp (a b : Node) (ha : a.kind ≠ .temp) (hb : b.kind ≠ .temp) : (mergeTips a b).noTemp := by
  rcases mergeTips_cases a b with h | h | h <;> rw [h]
  · exact ha
  · exact hb
  · exact ⟨ha, hb⟩

/-- a branch whose sides both collapse to tips collapses to their merge; any other branch stays a branch -/
theorem LT.collapse_br_cases (l r : LT) :
    (∃ a b, l.collapse = .tip a ∧ r.collapse = .tip b ∧ (LT.br l r).collapse = mergeTips a b) ∨
      (LT.br l r).collapse = .br l.collapse r.collapse := by
  simp only [LT.collapse]
  cases l.collapse with
  | br x y => exact Or.inr rfl
  | tip a =>
    cases r.collapse with
    | br x y => exact Or.inr rfl
    | tip b => exact Or.inl ⟨a, b, rfl, rfl, rfl⟩

theorem LT.collapse_noTemp (t : LT) (ht : t.noTemp) : t.collapse.noTemp := by
  induction t with
  | tip n => exact ht
  | br l r ihl ihr =>
    rcases LT.collapse_br_cases l r with ⟨a, b, hl, hr, h⟩ | h <;> rw [h]
    · exact mergeTips_noTemp a b (show (LT.tip a).noTemp from hl ▸ ihl ht.1) (show (LT.tip b).noTemp from hr ▸ ihr ht.2)
    · exact ⟨ihl ht.1, ihr ht.2⟩

/-! ### partial trees: the state between two passes -/

/-- a layout tree some of whose subtrees are already collapsed: `done c` is a temp node whose holder entry is the
flattening of `c` -/
inductive PT where
  | tip (n : Node)
  | done (c : LT)
  | br (l r : PT)

def PT.nodes : PT → List Node
  | .tip n => [n]
  | .done _ => [newTempNode]
  | .br l r => l.nodes ++ r.nodes

def PT.depths (d : Nat) : PT → List Nat
  | .tip _ => [d]
  | .done _ => [d]
  | .br l r => l.depths (d + 1) ++ r.depths (d + 1)

/-- the holder entries of the temp nodes, left to right -/
def PT.holder (d : Nat) : PT → List NS
  | .tip _ => []
  | .done c => [(c.nodes, c.depths d)]
  | .br l r => l.holder (d + 1) ++ r.holder (d + 1)

/-- a collapsed tree as a single node of the next level -/
def PT.ofLT : LT → PT
  | .tip n => .tip n
  | .br l r => .done (.br l r)

/-- `t` with every subtree rooted at depth ≥ `h` collapsed (`d` = depth of the root of `t`) -/
def st (h : Nat) : Nat → LT → PT
  | _, .tip n => .tip n
  | d, .br l r => if h ≤ d then PT.ofLT (LT.br l r).collapse else .br (st h (d + 1) l) (st h (d + 1) r)

theorem st_le (h d : Nat) (t : LT) (hd : h ≤ d) : st h d t = PT.ofLT t.collapse := by
  cases t with
  | tip n => rfl
  | br l r => simp [st, hd]

theorem st_lt_br (h d : Nat) (l r : LT) (hd : d < h) :
    st h d (.br l r) = .br (st h (d + 1) l) (st h (d + 1) r) := by
  have : ¬ h ≤ d := by omega
  simp [st, this]

/-- nothing is collapsed above the maximal depth -/
theorem st_full (h : Nat) (t : LT) : ∀ d, t.maxDepth d ≤ h →
    (st h d t).nodes = t.nodes ∧ (st h d t).depths d = t.depths d ∧ (st h d t).holder d = [] := by
  induction t with
  | tip n => exact fun d _ => ⟨rfl, rfl, rfl⟩
  | br l r ihl ihr =>
    intro d hm
    obtain ⟨hl, hr⟩ := Nat.max_le.mp hm
    obtain ⟨l1, l2, l3⟩ := ihl (d + 1) hl
    obtain ⟨r1, r2, r3⟩ := ihr (d + 1) hr
    rw [st_lt_br h d l r (Nat.lt_of_lt_of_le (Nat.lt_succ_self d) (Nat.le_trans (l.le_maxDepth (d + 1)) hl))]
    simp only [PT.nodes, PT.depths, PT.holder, LT.nodes, LT.depths, l1, l2, l3, r1, r2, r3, List.append_nil,
      and_self]

/-- a pair of non temp nodes at the height of the pass -/
theorem calcPass_tips (H : HashFn) (h : Nat) (a b : Node) (ns : List Node) (ss : List Nat) (th : List NS)
    (ha : a.kind ≠ .temp) (hb : b.kind ≠ .temp) :
    calcPass H (h + 1) (a :: b :: ns) ((h + 1) :: (h + 1) :: ss) th =
      (calcPass H (h + 1) ns ss (((PT.ofLT (mergeTips a b)).holder h).reverse ++ th)).map fun r =>
        ((PT.ofLT (mergeTips a b)).nodes ++ r.1, (PT.ofLT (mergeTips a b)).depths h ++ r.2.1, r.2.2) := by
  unfold mergeTips
  by_cases h1 : a.kind = .empty ∧ b.kind = .empty
  · simp [calcPass, h1, PT.ofLT, PT.nodes, PT.depths, PT.holder]
  · by_cases h2 : a.kind = .empty ∧ b.kind = .leaf
    · simp [calcPass, h2, PT.ofLT, PT.nodes, PT.depths, PT.holder]
    · by_cases h3 : a.kind = .leaf ∧ b.kind = .empty
      · simp [calcPass, h3, PT.ofLT, PT.nodes, PT.depths, PT.holder]
      · simp [calcPass, h1, h2, h3, ha, hb, PT.ofLT, PT.nodes, PT.depths, PT.holder, LT.nodes, LT.depths]
        rfl

/-! ### one pass: from `st (h + 1)` to `st h` -/

theorem calcPass_st (H : HashFn) (h : Nat) (t : LT) : ∀ d, d ≤ h → t.noTemp →
    ∀ (rn : List Node) (rs : List Nat) (X : List NS),
    calcPass H (h + 1) ((st (h + 1) d t).nodes ++ rn) ((st (h + 1) d t).depths d ++ rs)
        (X ++ ((st (h + 1) d t).holder d).reverse) =
      (calcPass H (h + 1) rn rs (((st h d t).holder d).reverse ++ X)).map fun r =>
        ((st h d t).nodes ++ r.1, (st h d t).depths d ++ r.2.1, r.2.2) := by
  induction t with
  | tip n =>
    intro d hd ht rn rs X
    simp only [st, PT.nodes, PT.depths, PT.holder, List.reverse_nil, List.append_nil, List.nil_append,
      List.cons_append]
    have hne : d ≠ h + 1 := by omega
    cases rn <;> simp [calcPass, hne]
  | br l r ihl ihr =>
    intro d hd ht rn rs X
    by_cases hlt : d < h
    · rw [st_lt_br (h + 1) d l r (by omega), st_lt_br h d l r hlt]
      simp only [PT.nodes, PT.depths, PT.holder, List.reverse_append, List.append_assoc]
      rw [← List.append_assoc X, ihl (d + 1) (by omega) ht.1, ← List.append_assoc _ X,
        ihr (d + 1) (by omega) ht.2, Except.map_map']
    · have hdh : d = h := by omega
      subst hdh
      rw [st_lt_br (d + 1) d l r (by omega), st_le d d _ (Nat.le_refl _), st_le (d + 1) (d + 1) l (Nat.le_refl _),
        st_le (d + 1) (d + 1) r (Nat.le_refl _)]
      have hl := l.collapse_noTemp ht.1
      have hr := r.collapse_noTemp ht.2
      simp only [LT.collapse]
      generalize l.collapse = lc at hl ⊢
      generalize r.collapse = rc at hr ⊢
      rcases lc with a | ⟨x, y⟩ <;> rcases rc with b | ⟨u, v⟩ <;>
        simp only [PT.ofLT, PT.nodes, PT.depths, PT.holder, List.reverse_nil, List.append_nil, List.nil_append,
          List.cons_append, List.reverse_cons]
      · rw [calcPass_tips _ _ _ _ _ _ _ hl hr]
        rfl
      -- a side that is a branch is a temp node: its entry is popped from the end of the holder
      · simp [calcPass, newTempNode, show a.kind ≠ .temp from hl, ok_bind, popLast_snoc, LT.nodes, LT.depths]
      · simp [calcPass, newTempNode, show b.kind ≠ .temp from hr, ok_bind, popLast_snoc, LT.nodes, LT.depths]
      · rw [List.append_cons]
        simp only [calcPass, newTempNode, ok_bind, popLast_snoc]
        simp [LT.nodes, LT.depths]

/-- the whole pass, started with the holder of the state -/
theorem calcPass_st_top (H : HashFn) (h : Nat) (t : LT) (ht : t.noTemp) :
    calcPass H (h + 1) (st (h + 1) 0 t).nodes ((st (h + 1) 0 t).depths 0) ((st (h + 1) 0 t).holder 0).reverse =
      .ok ((st h 0 t).nodes, (st h 0 t).depths 0, ((st h 0 t).holder 0).reverse) := by
  have := calcPass_st H h t 0 (Nat.zero_le _) ht [] [] []
  simpa [calcPass, Except.map] using this

theorem calculateSubTree_st (H : HashFn) (t : LT) (ht : t.noTemp) : ∀ h,
    calculateSubTree H (h + 1) (st (h + 1) 0 t).nodes ((st (h + 1) 0 t).depths 0)
        ((st (h + 1) 0 t).holder 0).reverse =
      newSubtreeFromData H (t.collapse.depths 0) t.collapse.nodes := by
  intro h
  induction h with
  | zero =>
    rw [calculateSubTree, calcPass_st_top H 0 t ht, st_le 0 0 t (Nat.le_refl _)]
    have hc := t.collapse_noTemp ht
    cases hcc : t.collapse with
    | tip n =>
      rw [hcc] at hc
      have hk : n.kind ≠ .temp := hc
      simp [ok_bind, PT.ofLT, PT.nodes, PT.depths, PT.holder, LT.nodes, LT.depths, hk]
    | br x y =>
      simp [ok_bind, PT.ofLT, PT.nodes, PT.depths, PT.holder, newTempNode]
  | succ h ih =>
    rw [calculateSubTree, calcPass_st_top H (h + 1) t ht]
    simpa [ok_bind] using ih

/-- `calculateSubTree` on the flattening of a layout tree (no temp tips) returns the subtree made from the
flattening of the recursively collapsed tree -/
theorem calculateSubTree_tree (H : HashFn) (t : LT) (ht : t.noTemp) :
    calculateSubTree H (t.maxDepth 0) t.nodes (t.depths 0) [] =
      newSubtreeFromData H (t.collapse.depths 0) t.collapse.nodes := by
  generalize hm : t.maxDepth 0 = m
  cases m with
  | zero =>
    cases t with
    | tip n => simp [calculateSubTree, LT.collapse, LT.nodes, LT.depths]
    | br l r =>
      have := l.le_maxDepth (0 + 1)
      simp only [LT.maxDepth] at hm
      omega
  | succ k =>
    obtain ⟨h1, h2, h3⟩ := st_full (k + 1) t 0 (by omega)
    have := calculateSubTree_st H t ht k
    rw [h1, h2, h3] at this
    exact this

#print axioms LiskVerif.SMTImpl.calculateSubTree_tree

end LiskVerif.SMTImpl
