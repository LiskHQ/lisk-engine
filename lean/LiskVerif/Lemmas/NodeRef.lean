/-
The node model against the chain of blocks it has applied.

* write batches as updates of the key-value map (`bval`, composed by `Option.or`), commit and revert of the
  consensus store key by key (`stateVal`); the batch of `processValidated` in closed form (`bval_applyOps`);
* the database as a function of the chain (`spec`), the volatile keys (`Vol`), the keys
  `saveBlock` writes and `removeBlock` deletes for a block;
* the hypotheses on the inputs: what the codecs guarantee for a block (`BlockOK`), what makes `(b, x)` applicable on
  top of a chain (`StepOK`), well-formed chains (`ChainWF`);
* the refinement `Ref`: every reachable node state is determined, outside the volatile keys, by the
  chain of blocks applied on top of a base state; what `processValidated` does, by cases (`apply_cases`,
  `apply_ok_inv`, `apply_not_ok`), and that it preserves the refinement (`ref_apply`).
-/
import LiskVerif.Lemmas.NodeBytes
import LiskVerif.Lemmas.DiffDBMore
import LiskVerif.Props.C12

namespace LiskVerif.Node
open LiskVerif LiskVerif.DiffDB

/-! ### batches -/

/-- the effect of a batch on one key: the last operation on it (`some none` = deleted) -/
def bval : List BOp → Bytes → Option (Option Bytes)
  | [], _ => none
  | op :: r, k =>
    match bval r k with
    | some v => some v
    | none => if op.key = k then some op.val else none

theorem slookup_applyOp (s : Store) (op : BOp) (k : Bytes) :
    slookup (applyOp s op) k = if op.key = k then op.val else slookup s k := by
  cases op with
  | set a v => simp only [applyOp, BOp.key, BOp.val, slookup_sset]; by_cases h : a = k <;> simp [h]
  | del a => simp only [applyOp, BOp.key, BOp.val, slookup_sdel]; by_cases h : a = k <;> simp [h]

theorem slookup_applyBatch (ops : List BOp) : ∀ (s : Store) (k : Bytes),
    slookup (applyBatch s ops) k = match bval ops k with | some v => v | none => slookup s k := by
  induction ops with
  | nil => intro s k; rfl
  | cons op r ih =>
    intro s k
    show slookup (applyBatch (applyOp s op) r) k = _
    rw [ih, slookup_applyOp]
    simp only [bval]
    cases bval r k <;> simp
    split <;> simp_all

/-- a batch is an update of the key-value map: later operations win -/
theorem bval_append (a b : List BOp) (k : Bytes) : bval (a ++ b) k = (bval b k).or (bval a k) := by
  induction a with
  | nil => simp [bval]
  | cons op r ih =>
    simp only [List.cons_append, bval, ih]
    cases bval b k <;> cases bval r k <;> rfl

theorem bval_one (op : BOp) (k : Bytes) : bval [op] k = if op.key = k then some op.val else none := rfl

theorem bval_cons (op : BOp) (r : List BOp) (k : Bytes) :
    bval (op :: r) k = (bval r k).or (if op.key = k then some op.val else none) :=
  bval_append [op] r k

theorem bval_ite (c : Prop) [Decidable c] (l : List BOp) (k : Bytes) :
    bval (if c then l else []) k = if c then bval l k else none := by
  split <;> rfl

theorem bval_none (ops : List BOp) (k : Bytes) (h : ∀ op ∈ ops, op.key ≠ k) : bval ops k = none := by
  induction ops with
  | nil => rfl
  | cons op r ih =>
    simp only [bval, ih (fun o ho => h o (List.mem_cons_of_mem _ ho))]
    simp [h op List.mem_cons_self]

theorem bval_some_mem (ops : List BOp) (k : Bytes) (v : Option Bytes) (h : bval ops k = some v) :
    ∃ op ∈ ops, op.key = k ∧ op.val = v := by
  induction ops with
  | nil => simp [bval] at h
  | cons op r ih =>
    simp only [bval] at h
    cases hr : bval r k with
    | some w =>
      rw [hr] at h
      obtain ⟨o, ho, h1, h2⟩ := ih (by rw [hr]; exact h)
      exact ⟨o, List.mem_cons_of_mem _ ho, h1, h2⟩
    | none =>
      rw [hr] at h
      by_cases hk : op.key = k
      · simp [hk] at h; exact ⟨op, List.mem_cons_self, hk, h⟩
      · simp [hk] at h

/-- a batch of deletions: every listed key is gone, the others are untouched -/
theorem bval_dels (ks : List Bytes) (k : Bytes) :
    bval (ks.map BOp.del) k = if k ∈ ks then some none else none := by
  induction ks with
  | nil => rfl
  | cons a r ih =>
    simp only [List.map_cons, bval, ih, BOp.key, BOp.val, List.mem_cons]
    by_cases h1 : k ∈ r
    · simp [h1]
    · by_cases h2 : a = k
      · simp [h1, h2]
      · simp [h1, h2, Ne.symm h2]

theorem bval_ne_none (ops : List BOp) (op : BOp) (h : op ∈ ops) : bval ops op.key ≠ none := by
  induction ops with
  | nil => cases h
  | cons o r ih =>
    simp only [bval]
    rcases List.mem_cons.mp h with rfl | h
    · cases bval r op.key <;> simp
    · cases hb : bval r op.key with
      | none => exact absurd hb (ih h)
      | some v => simp

/-- a key on which all operations of the batch agree -/
theorem bval_consistent (ops : List BOp) (k : Bytes) (w : Option Bytes)
    (hex : ∃ op ∈ ops, op.key = k) (hall : ∀ op ∈ ops, op.key = k → op.val = w) :
    bval ops k = some w := by
  obtain ⟨op, hop, hk⟩ := hex
  cases hb : bval ops k with
  | none => exact absurd (hk ▸ hb) (bval_ne_none ops op hop)
  | some v =>
    obtain ⟨op', hop', hk', hv'⟩ := bval_some_mem ops k v hb
    rw [← hv', hall op' hop' hk']

theorem mem_keys_iff (s : Store) (k : Bytes) : k ∈ s.map (·.1) ↔ slookup s k ≠ none := by
  rw [slookup_eq_get, ne_eq, AList.get_eq_none_iff, Decidable.not_not]

/-- deleting what a scan returned: every returned key is gone, the others are untouched -/
theorem bval_delScan (l : List KV) (k : Bytes) :
    bval (l.map fun kv => BOp.del kv.1) k = if k ∈ l.map (·.1) then some none else none := by
  rw [← bval_dels, List.map_map]; rfl

/-- the keys of a selection of the store's entries by a condition on the key -/
theorem mem_keys_of_sel {db : Store} {l : List KV} {P : Bytes → Prop} (hl : ∀ kv, kv ∈ l ↔ kv ∈ db ∧ P kv.1)
    (k : Bytes) : k ∈ l.map (·.1) ↔ P k ∧ slookup db k ≠ none := by
  simp only [← mem_keys_iff, List.mem_map, hl]
  constructor
  · rintro ⟨kv, ⟨hm, hp⟩, rfl⟩; exact ⟨hp, kv, hm, rfl⟩
  · rintro ⟨hp, kv, hm, rfl⟩; exact ⟨kv, ⟨hm, hp⟩, rfl⟩

theorem mem_keys_iterate (db : Store) (p : UInt8) (rev : Bool) (k : Bytes) :
    k ∈ (dbIterate db [p] (-1) rev).map (·.1) ↔ k.head? = some p ∧ slookup db k ≠ none :=
  mem_keys_of_sel (db := db) (P := fun k => k.head? = some p) (fun kv => by rw [C12_db_iterate_mem, hasPrefix_one]) k

theorem mem_keys_range (db : Store) (lo hi : Bytes) (rev : Bool) (k : Bytes) :
    k ∈ (dbRange db lo hi (-1) rev).map (·.1) ↔ inRange lo hi k = true ∧ slookup db k ≠ none :=
  mem_keys_of_sel (db := db) (P := fun k => inRange lo hi k = true)
    (fun kv => by rw [C12_db_range_mem, inRange, Bool.and_eq_true]) k

/-! ### distinct keys are preserved -/

theorem nodup_applyBatch (ops : List BOp) (s : Store) (h : NoDupKeys s) : NoDupKeys (applyBatch s ops) :=
  List.foldlRecOn (motive := NoDupKeys) ops _ h fun s hs op _ => by
    cases op with
    | set k v => exact nodup_sset s k v hs
    | del k => exact nodup_sdel s k hs

/-! ### commit -/

/-- what `cacheDB.commit` does to one key (`none`: the key is not written) -/
def stateVal (ov : Cache) (k : Bytes) : Option (Option Bytes) :=
  match clookup ov k with
  | none => none
  | some cv =>
    match cv.init with
    | none => some (some cv.value)
    | some _ => if cv.deleted then some none else if cv.dirty then some (some cv.value) else none

theorem commitCache_lookup (c : Cache) : ∀ (s : Store) (d : Diff), NoDupKeys c → ∀ k,
    slookup (commitCache c s d).1 k =
      match stateVal c k with
      | some v => v
      | none => slookup s k := by
  intro s d hnd k
  rw [slookup_commitCache c s d hnd k]
  unfold stateVal
  cases clookup c k with
  | none => rfl
  | some cv =>
    cases hi : cv.init <;> cases hd : cv.deleted <;> cases hdi : cv.dirty <;> simp [writtenBy, hi, hd, hdi]

/-- the diff a commit returns does not depend on the store (`commitCache_diff`) -/
theorem diffOf_eq (c : Cache) (s : Store) : (commitCache c s {}).2 = diffOf c := by
  rw [diffOf, commitCache_diff, commitCache_diff]

theorem stateVal_none_of_not_key (ov : Cache) (k : Bytes) (h : clookup ov k = none) :
    stateVal ov k = none := by
  simp [stateVal, h]

/-- the store that holds, for every key of the overlay, the value the overlay read (`init`), and
agrees with `s` elsewhere -/
def preStore (ov : Cache) (s : Store) : Store :=
  ov.foldl (fun st e => match e.2.init with | some i => sset st e.1 i | none => sdel st e.1) s

theorem nodup_preStore (ov : Cache) (s : Store) (h : NoDupKeys s) : NoDupKeys (preStore ov s) :=
  List.foldlRecOn (motive := NoDupKeys) ov _ h fun st hst e _ => by
    cases e.2.init with
    | none => exact nodup_sdel st _ hst
    | some i => exact nodup_sset st _ _ hst

theorem slookup_preStore (ov : Cache) : ∀ (s : Store), NoDupKeys ov → ∀ k,
    slookup (preStore ov s) k =
      match clookup ov k with
      | some cv => cv.init
      | none => slookup s k := by
  induction ov with
  | nil => intro s _ k; rfl
  | cons e r ih =>
    intro s hnd k
    obtain ⟨k0, cv⟩ := e
    unfold NoDupKeys at hnd
    simp only [List.map_cons, List.nodup_cons] at hnd
    have step : preStore ((k0, cv) :: r) s =
        preStore r (match cv.init with | some i => sset s k0 i | none => sdel s k0) := by
      unfold preStore; simp only [List.foldl_cons]
    rw [step, ih _ hnd.2 k]
    simp only [clookup]
    by_cases hk : k0 = k
    · subst hk
      rw [show clookup r k0 = none from clookup_eq_get ▸ AList.get_eq_none_iff.mpr hnd.1]
      cases hi : cv.init <;> simp [hi]
    · simp only [hk, if_false]
      cases clookup r k with
      | some cv' => rfl
      | none => cases hi : cv.init <;> simp [hk]

/-- intrinsic well-formedness of an overlay (the store-independent part of `C12CacheInv`) -/
structure OverlayOK (ov : Cache) : Prop where
  nodup : NoDupKeys ov
  delOk : ∀ k cv, clookup ov k = some cv → cv.deleted = true → cv.init ≠ none
  cleanOk : ∀ k cv, clookup ov k = some cv → cv.dirty = false → cv.deleted = false →
    cv.init = none ∨ cv.init = some cv.value

theorem overlayOK_of_inv {s : Store} {ov : Cache} (h : C12CacheInv s ov) : OverlayOK ov :=
  ⟨h.nodupC, h.delOk, h.cleanOk⟩

theorem preStore_inv (ov : Cache) (s : Store) (hs : NoDupKeys s) (h : OverlayOK ov) :
    C12Inv ({ store := preStore ov s, cache := ov } : DiffDB.St) := by
  refine ⟨nodup_preStore ov s hs, ⟨h.nodup, ?_, h.delOk, h.cleanOk⟩, by simp⟩
  intro k cv hl
  simp only
  rw [slookup_preStore ov s h.nodup k, hl]

/-- **Revert after commit, pointwise** (from `C12_revert_exact`; what the commit wrote is read off
`commitCache_lookup`): if the
database `X` holds, for every key, what committing the overlay `ov` over `preStore ov X` wrote,
then reverting the committed diff gives every overlay key the value the overlay had read and
leaves the other keys alone. -/
theorem revert_after_commit (X : Store) (ov : Cache) (hX : NoDupKeys X) (h : OverlayOK ov)
    (hagree : ∀ k cv, clookup ov k = some cv → slookup X k =
      match stateVal ov k with
      | some v => v
      | none => cv.init) (k : Bytes) :
    slookup (revertDiff X (diffOf ov)) k =
      match clookup ov k with
      | some cv => cv.init
      | none => slookup X k := by
  let st : DiffDB.St := { store := preStore ov X, cache := ov }
  have hinv : C12Inv st := preStore_inv ov X hX h
  have hrev := C12_revert_exact st hinv k
  have hdiff : (commit st).2 = diffOf ov := by
    simp only [commit, st]; exact diffOf_eq ov _
  have hstore : ∀ k, slookup (commit st).1.store k = slookup X k := by
    intro k
    simp only [commit, st]
    rw [commitCache_lookup ov _ _ h.nodup k, slookup_preStore ov X h.nodup k]
    cases hc : clookup ov k with
    | none => simp [stateVal, hc]
    | some cv => exact (hagree k cv hc).symm
  rw [hdiff] at hrev
  rw [sameMap_revertDiff (fun k => (hstore k).symm) (diffOf ov) k, hrev]
  exact slookup_preStore ov X h.nodup k

/-! ### chains, the keys of a block, the volatile keys -/

abbrev Chain := List (Block × Exec)

/-- every database key that belongs to block `b` -/
def allKeys (b : Block) : List Bytes :=
  [kDiff b.hdr.height, kHeader b.hdr.id, kHeight b.hdr.height, kTxs b.hdr.id, kAssets b.hdr.id,
   kEvents b.hdr.height] ++ b.txs.map (fun t => kTx t.1)

def isStateKey (k : Bytes) : Prop := k.head? = some pState

/-- Keys on which `delete (apply B)` may differ from the state before: the finalized-height
marker, temporary blocks, state diffs of heights below the finalized height `fin` and the event
keys that the pruning scan of `saveBlock` returns for a bound `m ≤ fin` (the scan of the block at height `h` uses
`eventPruneBound = min (new finalized height) (h - keepEvents)`: `Pruned.vol`). -/
def Vol (fin : Nat) (k : Bytes) : Prop :=
  k = kFin ∨ k.head? = some 7 ∨ (k.head? = some 51 ∧ decU32 (k.drop 1) < fin) ∨
  (∃ m, m ≤ fin ∧ inRange (kEvents 0) (kEvents m) k = true)

theorem Vol_mono {f f' : Nat} (h : f ≤ f') {k : Bytes} (hv : Vol f k) : Vol f' k := by
  rcases hv with h1 | h1 | ⟨h1, h2⟩ | ⟨m, h1, h2⟩
  · exact Or.inl h1
  · exact Or.inr (Or.inl h1)
  · exact Or.inr (Or.inr (Or.inl ⟨h1, by omega⟩))
  · exact Or.inr (Or.inr (Or.inr ⟨m, by omega, h2⟩))

theorem inRange_events_head {a b : Nat} {k : Bytes} (h : inRange (kEvents a) (kEvents b) k = true) :
    k.head? = some 9 := by
  unfold inRange at h
  simp only [Bool.and_eq_true] at h
  exact head_of_between 9 _ _ k h.1 h.2

theorem kTemp_head (h : Nat) : (kTemp h).head? = some 7 := rfl
theorem kDiff_head (h : Nat) : (kDiff h).head? = some 51 := rfl
theorem kFin_head : kFin.head? = some 27 := rfl

/-- a key of another table is not a key of the consensus store -/
theorem not_state_of_head {k : Bytes} {p : UInt8} (h : k.head? = some p) (hp : p ≠ pState := by decide) :
    ¬ isStateKey k :=
  fun hs => hp (Option.some.inj (h.symm.trans hs))

theorem Vol_not_state {f : Nat} {k : Bytes} (hv : Vol f k) : ¬ isStateKey k := by
  rcases hv with rfl | h1 | ⟨h1, _⟩ | ⟨m, _, h2⟩
  · exact not_state_of_head kFin_head
  · exact not_state_of_head h1
  · exact not_state_of_head h1
  · exact not_state_of_head (inRange_events_head h2)

theorem allKeys_head {b : Block} {k : Bytes} (h : k ∈ allKeys b) :
    k.head? = some 51 ∨ k.head? = some 3 ∨ k.head? = some 4 ∨ k.head? = some 5 ∨ k.head? = some 8 ∨
      k.head? = some 9 ∨ k.head? = some 6 := by
  unfold allKeys at h
  simp only [List.cons_append, List.nil_append, List.mem_cons, List.mem_map] at h
  rcases h with h | h | h | h | h | h | ⟨t, _, h⟩ <;> (subst h; simp [kDiff, kHeader, kHeight, kTxs, kAssets, kEvents, kTx])

theorem allKeys_not_state {b : Block} {k : Bytes} (h : k ∈ allKeys b) : ¬ isStateKey k := by
  rcases allKeys_head h with h | h | h | h | h | h | h <;> exact not_state_of_head h

/-- keys of different tables differ -/
theorem ne_of_head {k k' : Bytes} {p q : UInt8} (h : k.head? = some p) (h' : k'.head? = some q)
    (hpq : p ≠ q := by decide) : k' ≠ k :=
  fun e => hpq (Option.some.inj (h.symm.trans (e ▸ h')))

theorem clookup_some_mem (c : Cache) (k : Bytes) (cv : CV) (h : clookup c k = some cv) : (k, cv) ∈ c :=
  AList.mem_of_get (clookup_eq_get ▸ h)

/-- an overlay of the consensus store has state keys only -/
theorem isStateKey_of_clookup {ov : Cache} (hs : ∀ e ∈ ov, e.1.head? = some pState) {k : Bytes} {cv : CV}
    (h : clookup ov k = some cv) : isStateKey k :=
  hs _ (clookup_some_mem ov k cv h)

theorem clookup_none_of_not_state {ov : Cache} (hs : ∀ e ∈ ov, e.1.head? = some pState) {k : Bytes}
    (hk : ¬ isStateKey k) : clookup ov k = none := by
  cases hc : clookup ov k with
  | none => rfl
  | some cv => exact absurd (isStateKey_of_clookup hs hc) hk

theorem stateVal_none_of_not_state (ov : Cache) (hs : ∀ e ∈ ov, e.1.head? = some pState) (k : Bytes)
    (hk : ¬ isStateKey k) : stateVal ov k = none :=
  stateVal_none_of_not_key _ _ (clookup_none_of_not_state hs hk)

/-! ### the database as a function of the chain -/

/-- the writes of `processValidated` that are not volatile -/
def persistOps (cd : Codecs) (b : Block) (x : Exec) : List BOp :=
  .set (kDiff b.hdr.height) (cd.encDiff (diffOf x.overlay)) :: blockSetOps b x.events

/-- the persistent content of the database after the blocks of `c` (newest first) were applied
on top of the database `base` -/
def spec (cd : Codecs) (base : Store) : Chain → Bytes → Option Bytes
  | [], k => slookup base k
  | (b, x) :: c, k =>
    match bval (persistOps cd b x) k with
    | some v => v
    | none =>
      match stateVal x.overlay k with
      | some v => v
      | none => spec cd base c k

/-! ### the keys written and deleted for a block -/

theorem mem_ite_isEmpty {α β : Type} (l : List α) (L : List β) (op : β) :
    op ∈ (if l.isEmpty = true then [] else L) ↔ l ≠ [] ∧ op ∈ L := by
  cases l <;> simp

theorem mem_allKeys (b : Block) (k : Bytes) :
    k ∈ allKeys b ↔
      k = kDiff b.hdr.height ∨ k = kHeader b.hdr.id ∨ k = kHeight b.hdr.height ∨ k = kTxs b.hdr.id ∨
      k = kAssets b.hdr.id ∨ k = kEvents b.hdr.height ∨ ∃ t ∈ b.txs, kTx t.1 = k := by
  simp only [allKeys, List.mem_append, List.mem_cons, List.not_mem_nil, or_false, List.mem_map, or_assoc]

theorem mem_blockSetOps (b : Block) (events : List Bytes) (op : BOp) :
    op ∈ blockSetOps b events ↔
      op = .set (kHeader b.hdr.id) b.hdrBytes ∨
      op = .set (kHeight b.hdr.height) b.hdr.id ∨
      (b.txs ≠ [] ∧ ((∃ t ∈ b.txs, .set (kTx t.1) t.2 = op) ∨
        op = .set (kTxs b.hdr.id) (b.txs.map (·.1)).flatten)) ∨
      (events ≠ [] ∧ op = .set (kEvents b.hdr.height) (encList events)) ∨
      (b.assets ≠ [] ∧ op = .set (kAssets b.hdr.id) (encList b.assets)) := by
  simp only [blockSetOps, List.mem_cons, List.mem_append, mem_ite_isEmpty, List.mem_map,
    List.not_mem_nil, or_false, or_assoc]

theorem mem_persistOps (cd : Codecs) (b : Block) (x : Exec) (op : BOp) :
    op ∈ persistOps cd b x ↔
      op = .set (kDiff b.hdr.height) (cd.encDiff (diffOf x.overlay)) ∨
      op = .set (kHeader b.hdr.id) b.hdrBytes ∨
      op = .set (kHeight b.hdr.height) b.hdr.id ∨
      (b.txs ≠ [] ∧ ((∃ t ∈ b.txs, .set (kTx t.1) t.2 = op) ∨
        op = .set (kTxs b.hdr.id) (b.txs.map (·.1)).flatten)) ∨
      (x.events ≠ [] ∧ op = .set (kEvents b.hdr.height) (encList x.events)) ∨
      (b.assets ≠ [] ∧ op = .set (kAssets b.hdr.id) (encList b.assets)) := by
  rw [persistOps, List.mem_cons, mem_blockSetOps]

theorem mem_persistKeys (cd : Codecs) (b : Block) (x : Exec) (k : Bytes) :
    k ∈ (persistOps cd b x).map BOp.key ↔
      k = kDiff b.hdr.height ∨ k = kHeader b.hdr.id ∨ k = kHeight b.hdr.height ∨
      (b.txs ≠ [] ∧ ((∃ t ∈ b.txs, kTx t.1 = k) ∨ k = kTxs b.hdr.id)) ∨
      (x.events ≠ [] ∧ k = kEvents b.hdr.height) ∨ (b.assets ≠ [] ∧ k = kAssets b.hdr.id) := by
  simp only [persistOps, blockSetOps, List.map_cons, List.map_append, apply_ite (List.map BOp.key),
    List.map_map, List.map_nil, List.mem_cons, List.mem_append, mem_ite_isEmpty, List.mem_map,
    Function.comp_def, BOp.key, List.not_mem_nil, or_false, or_assoc]

theorem mem_removeKeys (b : Block) (st : Bool) (k : Bytes) :
    k ∈ (BOp.del (kDiff b.hdr.height) :: removeBlockOps b st).map BOp.key ↔
      k = kDiff b.hdr.height ∨ k = kHeader b.hdr.id ∨ k = kHeight b.hdr.height ∨
      (b.txs ≠ [] ∧ ((∃ t ∈ b.txs, kTx t.1 = k) ∨ k = kTxs b.hdr.id)) ∨
      (b.assets ≠ [] ∧ k = kAssets b.hdr.id) ∨ k = kEvents b.hdr.height ∨
      (st = true ∧ k = kTemp b.hdr.height) := by
  simp only [removeBlockOps, List.map_cons, List.map_append, apply_ite (List.map BOp.key),
    List.map_map, List.map_nil, List.mem_cons, List.mem_append, mem_ite_isEmpty, List.mem_map,
    Function.comp_def, BOp.key, List.not_mem_nil, or_false, or_assoc, List.mem_ite_nil_right]

theorem persistOps_keys (cd : Codecs) (b : Block) (x : Exec) :
    ∀ op ∈ persistOps cd b x, op.key ∈ allKeys b := by
  intro op hop
  have := (mem_persistKeys cd b x op.key).mp (List.mem_map_of_mem hop)
  rw [mem_allKeys]
  grind

/-- **Key-set symmetry**: every key `saveBlock` (and the state-diff write of `processValidated`)
sets for a block is deleted by `deleteBlock` / `removeBlock` of that block. -/
theorem persist_keys_removed (cd : Codecs) (b : Block) (x : Exec) (st : Bool) :
    ∀ k ∈ (persistOps cd b x).map BOp.key,
      k ∈ (BOp.del (kDiff b.hdr.height) :: removeBlockOps b st).map BOp.key := by
  intro k
  rw [mem_persistKeys, mem_removeKeys]
  grind

/-- the only key `deleteBlock` deletes without `processValidated` having set it is the event key
of a block that emitted no events -/
theorem removed_keys_persist (cd : Codecs) (b : Block) (x : Exec) :
    ∀ k ∈ (BOp.del (kDiff b.hdr.height) :: removeBlockOps b false).map BOp.key,
      k ∈ (persistOps cd b x).map BOp.key ∨ (x.events = [] ∧ k = kEvents b.hdr.height) := by
  intro k
  rw [mem_persistKeys, mem_removeKeys]
  grind

/-- the keys `deleteBlock` deletes for a block -/
def removedKeys (b : Block) : List Bytes :=
  (BOp.del (kDiff b.hdr.height) :: removeBlockOps b false).map BOp.key

theorem mem_removedKeys (b : Block) (k : Bytes) :
    k ∈ removedKeys b ↔
      k = kDiff b.hdr.height ∨ k = kHeader b.hdr.id ∨ k = kHeight b.hdr.height ∨
      (b.txs ≠ [] ∧ ((∃ t ∈ b.txs, k = kTx t.1) ∨ k = kTxs b.hdr.id)) ∨
      (b.assets ≠ [] ∧ k = kAssets b.hdr.id) ∨ k = kEvents b.hdr.height := by
  simp only [removedKeys, mem_removeKeys, Bool.false_eq_true, false_and, or_false, eq_comm (a := kTx _)]

theorem removedKeys_allKeys (b : Block) : ∀ k ∈ removedKeys b, k ∈ allKeys b := by
  intro k hk
  rw [removedKeys, mem_removeKeys] at hk
  rw [mem_allKeys]
  grind

theorem removedKeys_head {b : Block} {k : Bytes} (h : k ∈ removedKeys b) :
    k.head? ≠ some 7 ∧ k.head? ≠ some 27 ∧ ¬ isStateKey k := by
  have hak := removedKeys_allKeys b k h
  refine ⟨?_, ?_, allKeys_not_state hak⟩ <;>
    (rcases allKeys_head hak with h | h | h | h | h | h | h <;> (rw [h]; simp))

theorem persistOps_key_removed (cd : Codecs) (b : Block) (x : Exec) :
    ∀ op ∈ persistOps cd b x, op.key ∈ removedKeys b :=
  fun op hop => persist_keys_removed cd b x false op.key (List.mem_map_of_mem hop)

theorem bval_blockSet_none (cd : Codecs) (b : Block) (x : Exec) (k : Bytes) (h : k ∉ removedKeys b) :
    bval (blockSetOps b x.events) k = none :=
  bval_none _ _ fun op hop he => h (he ▸ persistOps_key_removed cd b x op (List.mem_cons_of_mem _ hop))

/-- the block's own entries live in the tables 3, 4, 5, 6, 8, 9 -/
theorem bval_blockSet_head (b : Block) (events : List Bytes) (k : Bytes)
    (h : k.head? = some 51 ∨ k.head? = some 7 ∨ k.head? = some 27 ∨ k.head? = some pState) :
    bval (blockSetOps b events) k = none := by
  apply bval_none
  intro op hop he
  subst he
  rcases (mem_blockSetOps b events op).mp hop with e | e | ⟨_, ⟨t, _, e⟩ | e⟩ | ⟨_, e⟩ | ⟨_, e⟩ <;> subst e <;>
    simp [BOp.key, kHeader, kHeight, kTx, kTxs, kEvents, kAssets, pState] at h

theorem spec_cons_other (cd : Codecs) (base : Store) (b : Block) (x : Exec) (c : Chain) (k : Bytes)
    (hs : ∀ e ∈ x.overlay, e.1.head? = some pState)
    (hk : k ∉ allKeys b) (hst : ¬ isStateKey k) :
    spec cd base ((b, x) :: c) k = spec cd base c k := by
  simp only [spec]
  have h1 : bval (persistOps cd b x) k = none :=
    bval_none _ _ (fun op hop he => hk (by rw [← he]; exact persistOps_keys cd b x op hop))
  rw [h1, stateVal_none_of_not_state _ hs k hst]

/-! ### processValidated, key by key -/

/-- keys scanned by the event pruning of a block at height `h` when the finalized height is `nf` -/
def Pruned (cfg : Cfg) (h nf : Nat) (k : Bytes) : Prop :=
  cfg.keepEvents > -1 ∧ eventPruneBound cfg h nf > 0 ∧
    inRange (kEvents 0) (kEvents (eventPruneBound cfg h nf)) k = true

instance (cfg : Cfg) (h nf : Nat) (k : Bytes) : Decidable (Pruned cfg h nf k) := by
  unfold Pruned; infer_instance

theorem Pruned.head {cfg : Cfg} {h nf : Nat} {k : Bytes} (hp : Pruned cfg h nf k) : k.head? = some 9 :=
  inRange_events_head hp.2.2

theorem Pruned.vol {cfg : Cfg} {h nf : Nat} {k : Bytes} (hp : Pruned cfg h nf k) : Vol nf k :=
  Or.inr (Or.inr (Or.inr ⟨eventPruneBound cfg h nf, Nat.min_le_left _ _, hp.2.2⟩))

/-! A key of table `p` is out of reach of the segments of the batch that write other tables: the temporary copy (7), the
event pruning (9), the pruning of state diffs (51). -/

theorem not_tempSeg {k : Bytes} {p : UInt8} (hk : k.head? = some p) (hp : p ≠ 7 := by decide) {rt : Bool} {h : Nat} :
    ¬ (rt = true ∧ kTemp h = k) :=
  fun e => ne_of_head hk (kTemp_head h) hp e.2

theorem not_prunedSeg {k : Bytes} {p : UInt8} (hk : k.head? = some p) (hp : p ≠ 9 := by decide) {cfg : Cfg} {h nf : Nat}
    {db : Store} : ¬ (Pruned cfg h nf k ∧ slookup db k ≠ none) :=
  fun e => hp (Option.some.inj (hk.symm.trans e.1.head))

theorem not_diffPruneSeg {k : Bytes} {p : UInt8} (hk : k.head? = some p) (hp : p ≠ 51 := by decide) {fin mh : Nat}
    {db : Store} : ¬ (fin < mh ∧ (k.head? = some 51 ∧ decU32 (k.drop 1) < mh) ∧ slookup db k ≠ none) :=
  fun e => hp (Option.some.inj (hk.symm.trans e.2.1.1))

/-- the event pruning of `saveBlock` deletes the stored keys of its range -/
theorem bval_eventPrune (cfg : Cfg) (db : Store) (h nf : Nat) (k : Bytes) :
    bval (eventPruneOps cfg db h nf) k =
      if Pruned cfg h nf k ∧ slookup db k ≠ none then some none else none := by
  unfold eventPruneOps Pruned
  by_cases h1 : cfg.keepEvents > -1
  · by_cases h2 : eventPruneBound cfg h nf > 0
    · simp only [h1, h2, if_true, true_and, bval_delScan, mem_keys_range]
    · simp [h1, h2, bval]
  · simp [h1, bval]

/-- the pruning of finalized state diffs deletes the stored diffs below the new finalized height -/
theorem bval_diffPrune (db : Store) (mh : Nat) (k : Bytes) :
    bval (diffPruneOps db mh) k =
      if (k.head? = some 51 ∧ decU32 (k.drop 1) < mh) ∧ slookup db k ≠ none then some none else none := by
  unfold diffPruneOps
  rw [bval_delScan]
  congr 1
  exact propext (mem_keys_of_sel (db := db) (P := fun k => k.head? = some 51 ∧ decU32 (k.drop 1) < mh)
    (fun kv => by rw [List.mem_filter, C12_db_iterate_mem, hasPrefix_one, decide_eq_true_eq, and_assoc]) k)

/-- **The batch of `processValidated` as an update**, segment by segment, the last segment of the batch first (a
later segment wins): temporary copy, event pruning, finalized-height marker, the block's entries, pruning
of finalized state diffs, the state diff. It depends on the database only through the value at `k`. -/
theorem bval_applyOps (cd : Codecs) (cfg : Cfg) (db : Store) (fin : Nat) (b : Block) (x : Exec)
    (rt : Bool) (k : Bytes) :
    bval (applyOps cd cfg db fin b x rt) k =
      (if rt = true ∧ kTemp b.hdr.height = k then some none else none).or
      ((if Pruned cfg b.hdr.height (max fin x.mhpc) k ∧ slookup db k ≠ none then some none else none).or
      ((if kFin = k then some (some (encU32 (max fin x.mhpc))) else none).or
      ((bval (blockSetOps b x.events) k).or
      ((if fin < x.mhpc ∧ (k.head? = some 51 ∧ decU32 (k.drop 1) < x.mhpc) ∧ slookup db k ≠ none
          then some none else none).or
      (if kDiff b.hdr.height = k then some (some (cd.encDiff (diffOf x.overlay))) else none))))) := by
  unfold applyOps saveBlockOps
  simp only [bval_append, bval_one, bval_ite, bval_eventPrune, bval_diffPrune, BOp.key, BOp.val,
    decide_eq_true_eq]
  cases rt <;> by_cases hr : fin < x.mhpc
  all_goals first
    | (simp [hr, Option.or_assoc, Nat.max_eq_right (Nat.le_of_lt hr)] <;> rfl)
    | (simp [hr, Option.or_assoc, Nat.max_eq_left (Nat.le_of_not_lt hr)] <;> rfl)

theorem bval_applyOps_of_not_vol (cd : Codecs) (cfg : Cfg) (db : Store) (fin : Nat) (b : Block) (x : Exec)
    (rt : Bool) (k : Bytes) (hk : ¬ Vol (max fin x.mhpc) k) :
    bval (applyOps cd cfg db fin b x rt) k = bval (persistOps cd b x) k := by
  have h1 : ¬ (rt = true ∧ kTemp b.hdr.height = k) := fun h => hk (h.2 ▸ Or.inr (Or.inl rfl))
  have h2 : ¬ (Pruned cfg b.hdr.height (max fin x.mhpc) k ∧ slookup db k ≠ none) := fun h => hk h.1.vol
  have h3 : ¬ kFin = k := fun h => hk (Or.inl h.symm)
  have h4 : ¬ (fin < x.mhpc ∧ (k.head? = some 51 ∧ decU32 (k.drop 1) < x.mhpc) ∧ slookup db k ≠ none) :=
    fun h => hk (Or.inr (Or.inr (Or.inl ⟨h.2.1.1, Nat.lt_of_lt_of_le h.2.1.2 (Nat.le_max_right _ _)⟩)))
  rw [bval_applyOps, if_neg h1, if_neg h2, if_neg h3, if_neg h4, persistOps, bval_cons]
  rfl

/-! ### hypotheses on the inputs -/

/-- what the codecs guarantee for a block (C08: header / bytesList round trip, transaction id =
hash of the bytes so equal ids mean equal bytes, 32-byte ids) and the `uint32` range of its height -/
structure BlockOK (cd : Codecs) (b : Block) : Prop where
  hdrOk : cd.decHdr b.hdrBytes = some b.hdr
  heightPos : 0 < b.hdr.height
  heightLt : b.hdr.height < u32
  txIdLen : ∀ t ∈ b.txs, t.1.length = 32
  txConsistent : ∀ t ∈ b.txs, ∀ t' ∈ b.txs, t.1 = t'.1 → t.2 = t'.2
  assetsRt : b.assets ≠ [] → cd.decList (encList b.assets) = some b.assets

/-- `(b, x)` may be applied on top of the chain `c`: `x` is the result of executing `b` on the
consensus store that `c` produces, and no key of `b` is in use (fresh block id, transactions not
yet included in the chain). `initOk` is turned into a fact about the database by `DbRef.initOk`; `fresh` comes down to
"no transaction of the block is stored" (`fresh_iff_no_shared_tx`, Lemmas/NodeMore.lean). -/
structure StepOK (cd : Codecs) (base : Store) (c : Chain) (b : Block) (x : Exec) : Prop where
  block : BlockOK cd b
  ov : OverlayOK x.overlay
  stateKeys : ∀ e ∈ x.overlay, e.1.head? = some pState
  initOk : ∀ k cv, clookup x.overlay k = some cv → cv.init = spec cd base c k
  mhpcLe : x.mhpc ≤ b.hdr.height
  fresh : ∀ k ∈ allKeys b, spec cd base c k = none
  diffRt : cd.decDiff (cd.encDiff (diffOf x.overlay)) = some (diffOf x.overlay)

def tipH (baseH : Nat) : Chain → Nat
  | [] => baseH
  | (b, _) :: _ => b.hdr.height

def ChainWF (cd : Codecs) (base : Store) (baseH : Nat) : Chain → Prop
  | [] => True
  | (b, x) :: c => StepOK cd base c b x ∧ b.hdr.height = tipH baseH c + 1 ∧ ChainWF cd base baseH c

/-- the three parts of `ChainWF` at a non-empty chain, by name -/
theorem ChainWF.step {cd : Codecs} {base : Store} {baseH : Nat} {b : Block} {x : Exec} {c : Chain}
    (h : ChainWF cd base baseH ((b, x) :: c)) : StepOK cd base c b x := h.1

theorem ChainWF.height {cd : Codecs} {base : Store} {baseH : Nat} {b : Block} {x : Exec} {c : Chain}
    (h : ChainWF cd base baseH ((b, x) :: c)) : b.hdr.height = tipH baseH c + 1 := h.2.1

theorem ChainWF.tail {cd : Codecs} {base : Store} {baseH : Nat} {b : Block} {x : Exec} {c : Chain}
    (h : ChainWF cd base baseH ((b, x) :: c)) : ChainWF cd base baseH c := h.2.2

theorem chain_heights {cd : Codecs} {base : Store} {baseH : Nat} : ∀ {c : Chain},
    ChainWF cd base baseH c → ∀ bx ∈ c, baseH < bx.1.hdr.height ∧ bx.1.hdr.height ≤ tipH baseH c := by
  intro c
  induction c with
  | nil => intro _ bx h; cases h
  | cons e r ih =>
    obtain ⟨b, x⟩ := e
    intro hwf bx hm
    obtain ⟨_, hh, hr⟩ := hwf
    have hbase : baseH ≤ tipH baseH r := by
      cases r with
      | nil => exact Nat.le_refl _
      | cons e' r' => exact Nat.le_of_lt (ih hr e' List.mem_cons_self).1
    simp only [List.mem_cons] at hm
    rcases hm with rfl | hm
    · simp only [tipH]; omega
    · have := ih hr bx hm
      simp only [tipH]; omega

theorem tipH_ge {cd : Codecs} {base : Store} {baseH : Nat} {c : Chain}
    (h : ChainWF cd base baseH c) : baseH ≤ tipH baseH c := by
  cases c with
  | nil => exact Nat.le_refl _
  | cons e r => exact Nat.le_of_lt (chain_heights h e List.mem_cons_self).1

/-- cached blocks have consecutive heights, newest first -/
def Consec : List Block → Prop
  | [] => True
  | [_] => True
  | a :: b :: r => a.hdr.height = b.hdr.height + 1 ∧ Consec (b :: r)

theorem consec_tail {a : Block} {r : List Block} (h : Consec (a :: r)) : Consec r := by
  cases r with
  | nil => trivial
  | cons b r' => exact h.2

theorem consec_le {a : Block} {r : List Block} (h : Consec (a :: r)) :
    ∀ t ∈ a :: r, t.hdr.height ≤ a.hdr.height := by
  induction r generalizing a with
  | nil => intro t ht; simp at ht; subst ht; exact Nat.le_refl _
  | cons b r' ih =>
    intro t ht
    simp only [List.mem_cons] at ht
    rcases ht with rfl | ht
    · exact Nat.le_refl _
    · have := ih h.2 t (by simpa using ht)
      have := h.1
      omega

theorem consec_dropLast : ∀ (l : List Block), Consec l → Consec l.dropLast
  | [], _ => trivial
  | [_], _ => trivial
  | [_, _], _ => trivial
  | a :: b :: c :: r, h => by
    have ih := consec_dropLast (b :: c :: r) h.2
    simp only [List.dropLast_cons_cons] at ih ⊢
    exact ⟨h.1, ih⟩

/-- a list that may have lost its last element has no new member -/
theorem mem_of_mem_ite_dropLast {α : Type} {l : List α} {p : Prop} [Decidable p] {t : α}
    (ht : t ∈ (if p then l.dropLast else l)) : t ∈ l := by
  split at ht
  · exact List.dropLast_subset _ ht
  · exact ht

theorem consec_cons_sub {b t : Block} {r : List Block} {p : Prop} [Decidable p]
    (hc : Consec (t :: r)) (hb : b.hdr.height = t.hdr.height + 1) :
    Consec (b :: (if p then (t :: r).dropLast else t :: r)) := by
  have hsub : Consec (if p then (t :: r).dropLast else t :: r) := by
    split
    · exact consec_dropLast _ hc
    · exact hc
  cases hl : (if p then (t :: r).dropLast else t :: r) with
  | nil => trivial
  | cons a r' =>
    rw [hl] at hsub
    refine ⟨?_, hsub⟩
    have ha : a = t := by
      split at hl
      · cases r with
        | nil => simp at hl
        | cons r1 r2 => simp only [List.dropLast_cons_cons, List.cons.injEq] at hl; exact hl.1.symm
      · simp only [List.cons.injEq] at hl; exact hl.1.symm
    rw [ha, hb]

/-! ### the refinement relation -/

/-- `GetBlockHeaderByHeight` answered from the database alone -/
def hdrDB (cd : Codecs) (db : Store) (h : Nat) : Option Hdr :=
  match slookup db (kHeight h) with
  | none => none
  | some id => headerOf cd db id

/-- the database `db` is, outside the volatile keys, what the chain `c` on top of `base` produces -/
structure DbRef (cd : Codecs) (base : Store) (baseH : Nat) (db : Store) (c : Chain) : Prop where
  nodup : NoDupKeys db
  finOk : ∃ f, finOf db = some f ∧ baseH ≤ f ∧ f ≤ tipH baseH c
  agree : ∀ f, finOf db = some f → ∀ k, ¬ Vol f k → slookup db k = spec cd base c k
  wf : ChainWF cd base baseH c
  tipLt : tipH baseH c < u32

/-- the block cache holds the newest blocks of the chain (and below them blocks of the base) -/
structure CacheRef (cd : Codecs) (base : Store) (baseH : Nat) (cache : List Block) (c : Chain) : Prop where
  head : ∀ t, cache.head? = some t → t.hdr.height = tipH baseH c
  consec : Consec cache
  chain : ∀ t ∈ cache, ∀ bx ∈ c, bx.1.hdr.height = t.hdr.height → t = bx.1
  baseHdr : ∀ t ∈ cache, t.hdr.height ≤ baseH → hdrDB cd base t.hdr.height = some t.hdr

structure Ref (cd : Codecs) (base : Store) (baseH : Nat) (s : St) (c : Chain) : Prop where
  db : DbRef cd base baseH s.db c
  cache : CacheRef cd base baseH s.cache c

theorem cacheRef_nil (cd : Codecs) (base : Store) (baseH : Nat) (c : Chain) : CacheRef cd base baseH [] c :=
  ⟨fun _ h => (by cases h), trivial, fun _ h => (by cases h), fun _ h => (by cases h)⟩

/-- the stored finalized height lies between the base height and the tip -/
theorem DbRef.fin_le {cd : Codecs} {base : Store} {baseH : Nat} {db : Store} {c : Chain} {f : Nat}
    (hR : DbRef cd base baseH db c) (hf : finOf db = some f) : baseH ≤ f ∧ f ≤ tipH baseH c := by
  obtain ⟨f', hf', h⟩ := hR.finOk
  obtain rfl : f' = f := Option.some.inj (hf'.symm.trans hf)
  exact h

/-- a cached tip above the finalized height is the newest block of the chain -/
theorem Ref.tip_cons {cd : Codecs} {base : Store} {baseH : Nat} {s : St} {c0 : Chain} {tip : Block}
    {rest : List Block} {fin : Nat} (hR : Ref cd base baseH s c0) (hc : s.cache = tip :: rest)
    (hf : finOf s.db = some fin) (hlt : fin < tip.hdr.height) : ∃ x c, c0 = (tip, x) :: c := by
  have htip : tip.hdr.height = tipH baseH c0 := hR.cache.head tip (by rw [hc]; rfl)
  cases c0 with
  | nil =>
    have hb0 := (hR.db.fin_le hf).1
    simp only [tipH] at htip
    omega
  | cons bx c =>
    obtain ⟨b, x⟩ := bx
    obtain rfl : tip = b :=
      hR.cache.chain tip (by rw [hc]; exact List.mem_cons_self) (b, x) List.mem_cons_self htip.symm
    exact ⟨x, c, rfl⟩

/-! ### processValidated preserves the refinement -/

theorem applyOps_bval_fin (cd : Codecs) (cfg : Cfg) (db : Store) (fin : Nat) (b : Block) (x : Exec)
    (rt : Bool) :
    bval (applyOps cd cfg db fin b x rt) kFin = some (some (encU32 (max fin x.mhpc))) := by
  rw [bval_applyOps, if_neg (not_tempSeg kFin_head), if_neg (not_prunedSeg kFin_head), if_pos rfl]
  rfl

/-- the database after a successful `processValidated` -/
def applyDb (cd : Codecs) (cfg : Cfg) (db : Store) (fin : Nat) (b : Block) (x : Exec) (rt : Bool) :
    Store :=
  applyBatch (commitCache x.overlay db {}).1 (applyOps cd cfg db fin b x rt)

def applyCache (cfg : Cfg) (cache : List Block) (b : Block) : List Block :=
  b :: (if cache.length ≥ cfg.maxCache then cache.dropLast else cache)

def applyLog (fin : Nat) (b : Block) (x : Exec) : List Ev :=
  if fin < x.mhpc then [Ev.new b.hdr.id b.hdr.height, Ev.finalize fin x.mhpc b.hdr.id]
  else [Ev.new b.hdr.id b.hdr.height]

/-- **`processValidated`, all at once**: an error (or the panic on an empty block cache) with the state untouched, or
every test passed and the state afterwards is the written-out one. (`errWritten` does not arise: `push` succeeds on the
height that was just tested.) -/
theorem apply_cases (cd : Codecs) (cfg : Cfg) (s : St) (b : Block) (valid : Bool) (x : Exec) (rt : Bool) :
    (∃ r, r ≠ .ok ∧ apply cd cfg s b valid x rt = (s, r)) ∨
    ∃ tip rest fin, s.cache = tip :: rest ∧ b.hdr.height = (tip.hdr.height + 1) % u32 ∧
      b.hdr.previousBlockID = tip.hdr.id ∧ valid = true ∧ finOf s.db = some fin ∧
      apply cd cfg s b valid x rt =
        ({ db := applyDb cd cfg s.db fin b x rt, cache := applyCache cfg s.cache b,
           log := applyLog fin b x ++ s.log }, .ok) := by
  unfold apply
  cases hc : s.cache with
  | nil => exact Or.inl ⟨.panic, by simp, rfl⟩
  | cons tip rest =>
    simp only
    by_cases h1 : b.hdr.height ≠ (tip.hdr.height + 1) % u32
    · exact Or.inl ⟨.err, by simp, by simp [h1]⟩
    simp only [h1, if_false]
    by_cases h2 : b.hdr.previousBlockID ≠ tip.hdr.id
    · exact Or.inl ⟨.err, by simp, by simp [h2]⟩
    simp only [h2, if_false]
    cases hv : valid with
    | false => exact Or.inl ⟨.err, by simp, by simp⟩
    | true =>
      simp only [Bool.not_true, Bool.false_eq_true, if_false]
      cases hf : finOf s.db with
      | none => exact Or.inl ⟨.err, by simp, rfl⟩
      | some fin =>
        have hpush : push cfg (tip :: rest) b =
            some (b :: (if (tip :: rest).length ≥ cfg.maxCache then (tip :: rest).dropLast else tip :: rest)) := by
          simp only [push, h1, if_false]
        refine Or.inr ⟨tip, rest, fin, by simp, by simpa using h1, by simpa using h2, by simp, by simp, ?_⟩
        simp only [hpush, applyDb, applyCache, applyLog]

/-- inversion of a successful `apply` -/
theorem apply_ok_inv {cd : Codecs} {cfg : Cfg} {s s' : St} {b : Block} {valid : Bool} {x : Exec}
    {rt : Bool} (h : apply cd cfg s b valid x rt = (s', .ok)) :
    ∃ tip rest fin, s.cache = tip :: rest ∧ b.hdr.height = (tip.hdr.height + 1) % u32 ∧
      b.hdr.previousBlockID = tip.hdr.id ∧ valid = true ∧ finOf s.db = some fin ∧
      s' = { db := applyDb cd cfg s.db fin b x rt, cache := applyCache cfg s.cache b,
             log := applyLog fin b x ++ s.log } := by
  rcases apply_cases cd cfg s b valid x rt with ⟨r, hr, he⟩ | ⟨tip, rest, fin, h1, h2, h3, h4, h5, he⟩
  · exact absurd (Prod.mk.inj (he.symm.trans h)).2 hr
  · exact ⟨tip, rest, fin, h1, h2, h3, h4, h5, (Prod.mk.inj (he.symm.trans h)).1.symm⟩

/-- `processValidated` either succeeds or leaves the node unchanged -/
theorem apply_not_ok {cd : Codecs} {cfg : Cfg} {s s' : St} {b : Block} {valid : Bool} {x : Exec}
    {rt : Bool} {r : Res} (h : apply cd cfg s b valid x rt = (s', r)) (hr : r ≠ .ok) : s' = s := by
  rcases apply_cases cd cfg s b valid x rt with ⟨_, _, he⟩ | ⟨_, _, _, _, _, _, _, _, he⟩
  · exact (Prod.mk.inj (he.symm.trans h)).1.symm
  · exact absurd (Prod.mk.inj (he.symm.trans h)).2.symm hr

theorem finOf_applyDb (cd : Codecs) (cfg : Cfg) (db : Store) (fin : Nat) (b : Block) (x : Exec)
    (rt : Bool) (hfin : fin < u32) (hm : x.mhpc < u32) :
    finOf (applyDb cd cfg db fin b x rt) = some (max fin x.mhpc) := by
  unfold finOf applyDb
  rw [slookup_applyBatch, applyOps_bval_fin]
  simp only [Option.map_some]
  rw [decU32_encU32_of_lt]
  exact Nat.max_lt.mpr ⟨hfin, hm⟩

theorem applyDb_lookup_all (cd : Codecs) (cfg : Cfg) (db : Store) (fin : Nat) (b : Block) (x : Exec)
    (rt : Bool) (hnd : NoDupKeys x.overlay) (k : Bytes) :
    slookup (applyDb cd cfg db fin b x rt) k =
      match bval (applyOps cd cfg db fin b x rt) k with
      | some v => v
      | none =>
        match stateVal x.overlay k with
        | some v => v
        | none => slookup db k := by
  unfold applyDb
  rw [slookup_applyBatch, commitCache_lookup _ _ _ hnd]

/-- `processValidated` acts key by key: the value at `k` afterwards depends on the database only through
its value at `k` -/
theorem applyDb_congr (cd : Codecs) (cfg : Cfg) (db db' : Store) (fin : Nat) (b : Block) (x : Exec) (rt : Bool)
    (hnd : NoDupKeys x.overlay) (k : Bytes) (h : slookup db k = slookup db' k) :
    slookup (applyDb cd cfg db fin b x rt) k = slookup (applyDb cd cfg db' fin b x rt) k := by
  rw [applyDb_lookup_all cd cfg db fin b x rt hnd k, applyDb_lookup_all cd cfg db' fin b x rt hnd k,
    bval_applyOps, bval_applyOps, h]

theorem applyDb_lookup (cd : Codecs) (cfg : Cfg) (db : Store) (fin : Nat) (b : Block) (x : Exec)
    (rt : Bool) (hnd : NoDupKeys x.overlay) (k : Bytes) (hk : ¬ Vol (max fin x.mhpc) k) :
    slookup (applyDb cd cfg db fin b x rt) k =
      match bval (persistOps cd b x) k with
      | some v => v
      | none =>
        match stateVal x.overlay k with
        | some v => v
        | none => slookup db k := by
  rw [applyDb_lookup_all cd cfg db fin b x rt hnd, bval_applyOps_of_not_vol cd cfg db fin b x rt k hk]

theorem finOf_lt {db : Store} {f : Nat} (h : finOf db = some f) : f < u32 := by
  unfold finOf at h
  cases hl : slookup db kFin with
  | none => simp [hl] at h
  | some v => simp [hl] at h; rw [← h]; exact decU32_lt v

/-- a successful `processValidated` stores `max (finalized height) (maxHeightPrecommited)` -/
theorem finOf_apply_ok {cd : Codecs} {cfg : Cfg} {s s' : St} {b : Block} {valid : Bool} {x : Exec}
    {rt : Bool} {fin : Nat} (hok : apply cd cfg s b valid x rt = (s', .ok))
    (hf : finOf s.db = some fin) (hm : x.mhpc < u32) : finOf s'.db = some (max fin x.mhpc) := by
  obtain ⟨tip, rest, fin', _, _, _, _, hf', hs'⟩ := apply_ok_inv hok
  obtain rfl : fin' = fin := Option.some.inj (hf'.symm.trans hf)
  rw [hs']
  exact finOf_applyDb cd cfg s.db fin' b x rt (finOf_lt hf) hm

theorem nodup_applyDb (cd : Codecs) (cfg : Cfg) (db : Store) (fin : Nat) (b : Block) (x : Exec)
    (rt : Bool) (h : NoDupKeys db) : NoDupKeys (applyDb cd cfg db fin b x rt) :=
  nodup_applyBatch _ _ (nodup_commitCache _ _ _ h)

/-- `DbRef` is preserved by a successful `processValidated`: the chain grows by `(b, x)`. -/
theorem dbRef_apply {cd : Codecs} {cfg : Cfg} {base : Store} {baseH : Nat} {db : Store} {c : Chain}
    {b : Block} {x : Exec} {rt : Bool} {f0 : Nat}
    (hR : DbRef cd base baseH db c) (hstep : StepOK cd base c b x) (hf : finOf db = some f0)
    (hheight : b.hdr.height = tipH baseH c + 1) :
    DbRef cd base baseH (applyDb cd cfg db f0 b x rt) ((b, x) :: c) ∧
      finOf (applyDb cd cfg db f0 b x rt) = some (max f0 x.mhpc) := by
  obtain ⟨hb0, ht0⟩ := hR.fin_le hf
  have hfl : f0 < u32 := finOf_lt hf
  have hml : x.mhpc < u32 := Nat.lt_of_le_of_lt hstep.mhpcLe hstep.block.heightLt
  have hfin' : finOf (applyDb cd cfg db f0 b x rt) = some (max f0 x.mhpc) :=
    finOf_applyDb cd cfg db f0 b x rt hfl hml
  refine ⟨⟨nodup_applyDb _ _ _ _ _ _ _ hR.nodup, ⟨max f0 x.mhpc, hfin', ?_, ?_⟩, ?_, ?_, ?_⟩, hfin'⟩
  · omega
  · simp only [tipH]
    have := hstep.mhpcLe
    omega
  · intro f hf' k hk
    rw [hfin'] at hf'
    have hfe : f = max f0 x.mhpc := (Option.some.inj hf').symm
    subst hfe
    rw [applyDb_lookup cd cfg db f0 b x rt hstep.ov.nodup k hk]
    simp only [spec]
    rw [hR.agree f0 hf k (fun hv => hk (Vol_mono (Nat.le_max_left f0 x.mhpc) hv))]
  · exact ⟨hstep, hheight, hR.wf⟩
  · simp only [tipH]; exact hstep.block.heightLt

/-- the block cache after a block was applied refines the extended chain. `applyCache` puts `b` in front of `cache`,
possibly without its last element, so the members other than `b` are members of `cache` (`hsubm`) and lie at or below
the tip height of `c` (`hcl`), while `b` lies one above it: a member of `applyCache cfg cache b` and a block of
`(b, x) :: c` at the same height are both `b`, or a member of `cache` and a block of `c` — then `hC.chain` answers. -/
theorem cacheRef_push {cd : Codecs} {cfg : Cfg} {base : Store} {baseH : Nat} {cache : List Block}
    {c : Chain} {b : Block} {x : Exec} {tip : Block} {rest : List Block}
    (hC : CacheRef cd base baseH cache c) (hwf : ChainWF cd base baseH c) (hc : cache = tip :: rest)
    (hheight : b.hdr.height = tipH baseH c + 1) :
    CacheRef cd base baseH (applyCache cfg cache b) ((b, x) :: c) := by
  have htip : tip.hdr.height = tipH baseH c := hC.head tip (by rw [hc]; rfl)
  have hcl : ∀ t ∈ cache, t.hdr.height ≤ tipH baseH c := by
    intro t ht
    rw [hc] at ht
    have := consec_le (hc ▸ hC.consec) t ht
    omega
  have hsubm : ∀ t, t ∈ (if cache.length ≥ cfg.maxCache then cache.dropLast else cache) → t ∈ cache :=
    fun _ => mem_of_mem_ite_dropLast
  refine ⟨?_, ?_, ?_, ?_⟩
  · intro t ht
    simp only [applyCache, List.head?_cons, Option.some.injEq] at ht
    subst ht
    rfl
  · subst hc
    exact consec_cons_sub hC.consec (by rw [htip, hheight])
  · intro t ht bx hbx hhe
    simp only [applyCache, List.mem_cons] at ht
    simp only [List.mem_cons] at hbx
    rcases ht with rfl | ht
    · rcases hbx with rfl | hbx
      · rfl
      · have := (chain_heights hwf bx hbx).2
        omega
    · have htm : t ∈ cache := hsubm t ht
      rcases hbx with rfl | hbx
      · have := hcl t htm
        simp only at hhe
        omega
      · exact hC.chain t htm bx hbx hhe
  · intro t ht hle
    simp only [applyCache, List.mem_cons] at ht
    rcases ht with rfl | ht
    · have := tipH_ge hwf; omega
    · exact hC.baseHdr t (hsubm t ht) hle

/-- an overlay whose reads are those of the chain has read the database (overlay keys are not volatile) -/
theorem DbRef.initOk {cd : Codecs} {base : Store} {baseH : Nat} {db : Store} {c : Chain} {ov : Cache}
    (hR : DbRef cd base baseH db c) (hsk : ∀ e ∈ ov, e.1.head? = some pState)
    (hinit : ∀ k cv, clookup ov k = some cv → cv.init = spec cd base c k) :
    ∀ k cv, clookup ov k = some cv → cv.init = slookup db k := by
  intro k cv h
  obtain ⟨f, hf, _, _⟩ := hR.finOk
  rw [hR.agree f hf k fun hv => Vol_not_state hv (hsk _ (clookup_some_mem _ k cv h))]
  exact hinit k cv h

/-- a block that `processValidated` accepts stands at the height after the tip (no wrap-around: it is not 0) -/
theorem apply_ok_height {cd : Codecs} {cfg : Cfg} {base : Store} {baseH : Nat} {s s' : St} {c : Chain}
    {b : Block} {valid : Bool} {x : Exec} {rt : Bool} (hR : Ref cd base baseH s c)
    (hok : apply cd cfg s b valid x rt = (s', .ok)) (hpos : 0 < b.hdr.height) :
    b.hdr.height = tipH baseH c + 1 := by
  obtain ⟨tip, rest, _, hc, hh, _⟩ := apply_ok_inv hok
  have hl := hR.db.tipLt
  rw [hR.cache.head tip (by rw [hc]; rfl)] at hh
  by_cases hw : tipH baseH c + 1 < u32
  · rw [Nat.mod_eq_of_lt hw] at hh; exact hh
  · have : tipH baseH c + 1 = u32 := by omega
    rw [this, Nat.mod_self] at hh; omega

/-- `Ref` is preserved by a successful `processValidated`: the chain grows by `(b, x)`. -/
theorem ref_apply {cd : Codecs} {cfg : Cfg} {base : Store} {baseH : Nat} {s s' : St} {c : Chain}
    {b : Block} {valid : Bool} {x : Exec} {rt : Bool}
    (hR : Ref cd base baseH s c) (hstep : StepOK cd base c b x)
    (hok : apply cd cfg s b valid x rt = (s', .ok)) : Ref cd base baseH s' ((b, x) :: c) := by
  have hheight := apply_ok_height hR hok hstep.block.heightPos
  obtain ⟨tip, rest, fin, hc, _, _, _, hf, rfl⟩ := apply_ok_inv hok
  exact ⟨(dbRef_apply hR.db hstep hf hheight).1, cacheRef_push hR.cache hR.db.wf hc hheight⟩

end LiskVerif.Node
