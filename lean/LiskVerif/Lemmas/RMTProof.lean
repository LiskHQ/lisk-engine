/-
The LIP-0031 inclusion path of one leaf, read off the tree. The path of leaf `i` over `L` has one entry per layer where
the sibling block is not empty: its side and its hash (`blkPath`, `pathSpec_eq_blkPath`); so its hashes are the sibling
hashes `sibSpec` of the specification for the single position `i` (`pathSpec_map_snd`). With this the theorems about
`VerifyProof` for one leaf (`C11_proof_sound`, `C11_proof_complete_partial` in Props/C11.lean) are those for a set of
leaves at `[i]`.
-/
import LiskVerif.Lemmas.RMTCalc

namespace LiskVerif.RMT

/-- the inclusion path of leaf `i` read off the tree over `L`, from layer `l` on: wherever the sibling block is not
empty, its side and its hash -/
def blkPath (hf : HashFns) (L : List Bytes) (i : Nat) : Nat → Nat → List (Bool × Bytes)
  | 0, _ => []
  | f + 1, l =>
    (if sibOf (i / 2 ^ l) * 2 ^ l < L.length then
      [((i / 2 ^ l) % 2 == 0, rootH hf (blkCore L l (sibOf (i / 2 ^ l))))] else []) ++ blkPath hf L i f (l + 1)

theorem blkPath_succ (hf : HashFns) (L : List Bytes) (i f l : Nat) : blkPath hf L i (f + 1) l =
    (if sibOf (i / 2 ^ l) * 2 ^ l < L.length then
      [((i / 2 ^ l) % 2 == 0, rootH hf (blkCore L l (sibOf (i / 2 ^ l))))] else []) ++ blkPath hf L i f (l + 1) := rfl

theorem blkPath_add (hf : HashFns) (L : List Bytes) (i : Nat) : ∀ (f1 f2 l : Nat),
    blkPath hf L i (f1 + f2) l = blkPath hf L i f1 l ++ blkPath hf L i f2 (l + f1) := by
  intro f1
  induction f1 with
  | zero => intro f2 l; simp [blkPath]
  | succ f1 ih =>
    intro f2 l
    rw [show f1 + 1 + f2 = (f1 + f2) + 1 by omega]
    simp only [blkPath, ih, List.append_assoc]
    rw [show l + 1 + f1 = l + (f1 + 1) by omega]

/-- two paths agree on layers where the sibling test, the parity and the sibling block agree -/
theorem blkPath_congr (hf : HashFns) (L M : List Bytes) (i j : Nat) : ∀ (f l : Nat),
    (∀ l', l ≤ l' → l' < l + f →
      (sibOf (i / 2 ^ l') * 2 ^ l' < L.length ↔ sibOf (j / 2 ^ l') * 2 ^ l' < M.length) ∧
      (i / 2 ^ l') % 2 = (j / 2 ^ l') % 2 ∧
      (sibOf (i / 2 ^ l') * 2 ^ l' < L.length → blkCore L l' (sibOf (i / 2 ^ l')) = blkCore M l' (sibOf (j / 2 ^ l')))) →
    blkPath hf L i f l = blkPath hf M j f l := by
  intro f
  induction f with
  | zero => intro l _; rfl
  | succ f ih =>
    intro l h
    obtain ⟨h1, h2, h3⟩ := h l (Nat.le_refl _) (by omega)
    simp only [blkPath]
    rw [ih (l + 1) (fun l' a b => h l' (by omega) (by omega)), h2]
    by_cases hc : sibOf (i / 2 ^ l) * 2 ^ l < L.length
    · rw [if_pos hc, if_pos (h1.1 hc), h3 hc]
    · rw [if_neg hc, if_neg (fun x => hc (h1.2 x))]

theorem blkPath_top (hf : HashFns) (L : List Bytes) (i : Nat) : ∀ (f l : Nat), L.length ≤ 2 ^ l → i < L.length →
    blkPath hf L i f l = [] := by
  intro f
  induction f with
  | zero => intro l _ _; rfl
  | succ f ih =>
    intro l hn hi
    have h0 : i / 2 ^ l = 0 := Nat.div_eq_of_lt (by omega)
    simp only [blkPath]
    rw [h0, if_neg (by simp [sibOf]; omega), ih (l + 1) (by rw [Nat.pow_succ]; omega) hi]
    rfl

/-- in a perfect tree of `2^a` leaves every node below the root has a sibling, a complete block -/
theorem sib_lt_pow {i a l : Nat} (hi : i < 2 ^ a) (hl : l < a) : (sibOf (i / 2 ^ l) + 1) * 2 ^ l ≤ 2 ^ a := by
  have h3 := Nat.mul_le_mul_right (2 ^ l) (sibOf_succ_le (div_pow_lt hi (Nat.le_of_lt hl))
    (Nat.two_pow_mod_two_eq_zero.mpr (show 1 ≤ a - l by omega)))
  rwa [Nat.pow_sub_mul_pow 2 (Nat.le_of_lt hl)] at h3

/-- below layer `a` the siblings of leaf `2^a + j` are those of leaf `j`, shifted by `2^a` leaves -/
theorem sib_shift {a j l : Nat} (hl : l < a) :
    sibOf ((2 ^ a + j) / 2 ^ l) = 2 ^ (a - l) + sibOf (j / 2 ^ l) ∧ (2 ^ a + j) / 2 ^ l % 2 = j / 2 ^ l % 2 := by
  have hev := Nat.two_pow_mod_two_eq_zero.mpr (show 1 ≤ a - l by omega)
  rw [add_div_pow (Nat.le_of_lt hl), sibOf_add_even _ _ hev]
  exact ⟨rfl, by omega⟩

/-- below layer `a`, the path of a leaf among the first `2^a` leaves does not see the rest of the list -/
theorem blkPath_take (hf : HashFns) (L : List Bytes) (i a : Nat) (hlt : i < 2 ^ a) (hle : 2 ^ a ≤ L.length) :
    blkPath hf (L.take (2 ^ a)) i a 0 = blkPath hf L i a 0 := by
  refine blkPath_congr hf _ _ _ _ a 0 (fun l' _ hl' => ?_)
  have h3 := sib_lt_pow hlt (show l' < a by omega)
  have hp := Nat.two_pow_pos l'
  rw [List.length_take, Nat.min_eq_left hle]
  rw [Nat.add_mul, Nat.one_mul] at h3
  exact ⟨⟨fun _ => by omega, fun _ => by omega⟩, rfl,
    fun _ => blk_take L _ l' _ (by rw [Nat.add_mul, Nat.one_mul]; exact h3)⟩

/-- below layer `a`, the path of leaf `2^a + j` is the path of leaf `j` of the list without its first `2^a` leaves -/
theorem blkPath_drop (hf : HashFns) (L : List Bytes) (j a : Nat) :
    blkPath hf (L.drop (2 ^ a)) j a 0 = blkPath hf L (2 ^ a + j) a 0 := by
  refine blkPath_congr hf _ _ _ _ a 0 (fun l' _ hl' => ?_)
  have hl'a : l' < a := by omega
  obtain ⟨hs, h2⟩ := sib_shift (a := a) (j := j) (l := l') hl'a
  rw [hs, Nat.add_mul, Nat.pow_sub_mul_pow 2 (Nat.le_of_lt hl'a), List.length_drop]
  exact ⟨by omega, h2.symm, fun _ => blk_drop L a l' _ (Nat.le_of_lt hl'a)⟩

/-- the LIP-0031 inclusion path, read off the tree -/
theorem pathSpec_eq_blkPath (hf : HashFns) : ∀ (n : Nat) (L : List Bytes) (i F : Nat), L.length = n → i < n →
    n ≤ 2 ^ F → pathSpec hf L i = blkPath hf L i F 0 := by
  intro n
  induction n using Nat.strongRecOn with
  | _ n ih =>
    intro L i F hlen hi hF
    by_cases h1 : n = 1
    · subst h1
      rw [pathSpec_lt2 hf L i (by omega), blkPath_top hf L i F 0 (by omega) (by omega)]
    · have hge : 2 ≤ L.length := by omega
      have hK := @splitPoint_lt L.length hge
      rw [pathSpec_ge2 hf L i hge, hlen]
      rw [hlen] at hK
      -- `a = log2 (n - 1)`: the split point is `2^a`, the root is at layer `a + 1`
      have hKdef : splitPoint n = 2 ^ Nat.log2 (n - 1) := rfl
      have hnK : n ≤ 2 ^ (Nat.log2 (n - 1) + 1) := by have := @Nat.lt_log2_self (n - 1); omega
      generalize Nat.log2 (n - 1) = a at hKdef hnK
      rw [hKdef] at hK ⊢
      have hpa := Nat.two_pow_pos a
      obtain ⟨e, rfl⟩ : ∃ e, F = a + (1 + e) := by
        have : a < F := (Nat.pow_lt_pow_iff_right (a := 2) (by decide)).1 (by omega)
        exact ⟨F - a - 1, by omega⟩
      rw [blkPath_add hf L i a (1 + e) 0, blkPath_add hf L i 1 e (0 + a), Nat.zero_add,
        blkPath_top hf L i e (a + 1) (by omega) (by omega), List.append_nil, blkPath_succ]
      split
      · -- the leaf is in the left, perfect part: its sibling at layer `a` is the rest of the list
        rename_i hlt
        have hb : blkCore L a 1 = L.drop (2 ^ a) := by
          unfold blkCore; rw [Nat.one_mul, List.take_of_length_le (by rw [List.length_drop]; omega)]
        rw [ih (2 ^ a) hK (L.take (2 ^ a)) i a (by rw [List.length_take]; omega) hlt (Nat.le_refl _),
          blkPath_take hf L i a hlt (by omega), Nat.div_eq_of_lt hlt, show sibOf 0 = 1 from rfl,
          if_pos (by rw [Nat.one_mul, hlen]; exact hK), hb]
        rfl
      · -- the leaf is in the right part: its sibling at layer `a` is the perfect left part
        rename_i hge'
        obtain ⟨j, rfl⟩ : ∃ j, i = 2 ^ a + j := ⟨i - 2 ^ a, by omega⟩
        have h1 : (2 ^ a + j) / 2 ^ a = 1 := by
          rw [add_div_pow (Nat.le_refl a), Nat.sub_self, Nat.div_eq_of_lt (by omega)]
        rw [Nat.add_sub_cancel_left,
          ih (n - 2 ^ a) (by omega) (L.drop (2 ^ a)) j a (by rw [List.length_drop]; omega) (by omega) (by omega),
          blkPath_drop, h1, show sibOf 1 = 0 from rfl, if_pos (by rw [Nat.zero_mul, hlen]; omega),
          show blkCore L a 0 = L.take (2 ^ a) by simp [blkCore]]
        rfl

theorem blkPath_map_snd (hf : HashFns) (L : List Bytes) (i : Nat) : ∀ (f l : Nat),
    (blkPath hf L i f l).map (·.2) = sibSpec hf L f l [i / 2 ^ l] := by
  intro f
  induction f with
  | zero => intro l; rfl
  | succ f ih =>
    intro l
    have hp : ¬ pairHead (i / 2 ^ l) [] := by simp [pairHead]
    rw [blkPath, sibSpec, sibLayer_single hf L l _ [] hp, parents_single _ [] hp, List.map_append, ih (l + 1),
      ← div_pow_succ]
    simp only [sibLayer, parents, List.append_nil, sibOne]
    split <;> rfl

/-- the sibling hashes of the LIP-0031 path are those of the specification for the single leaf -/
theorem pathSpec_map_snd (hf : HashFns) (L : List Bytes) (i F : Nat) (hi : i < L.length) (hF : L.length ≤ 2 ^ F) :
    (pathSpec hf L i).map (·.2) = sibSpec hf L F 0 [i] := by
  rw [pathSpec_eq_blkPath hf L.length L i F rfl hi hF, blkPath_map_snd]; simp

end LiskVerif.RMT
