/-
Soundness of the loop of `CalculateRoot` (Model/SMTVerify.lean): every input it hashes is recorded by `calcTrace`,
and when the loop returns a root, then for EVERY query of the work list the specification reconstruction
`SMT.recon` along the path of that query, with SOME bitmap and sibling hashes (each the empty hash, a provided sibling
hash or the hash of a merged sibling query), gives the same root (`calcLoop_chain`, `Chain`). Also the position filter of `Verify`.
-/
import LiskVerif.Lemmas.SMTVerify
import LiskVerif.Lemmas.SMTMultiOrder

namespace LiskVerif.SMTVerify
open LiskVerif LiskVerif.SMT

/-! ### one iteration of `CalculateRoot` -/

/-- the choice of the sibling hash in one iteration of `calcLoop` (the same expression) -/
def pickSib (H : HashFn) (sibs : List Bytes) (query : QP) (b0 : Bool) (bmRest : Bits) (queries : List QP) :
    Option (Bytes × List Bytes × List QP) :=
  match queries with
  | sibling :: rest =>
    if isSiblingOf query sibling then
      let isSiblingEmpty := sibling.hash = emptyHash H
      if (isSiblingEmpty && b0) || (!isSiblingEmpty && !b0) then none
      else
        let isQueryEmpty := query.hash = emptyHash H
        let s0 := sibling.bm.headD false
        if (isQueryEmpty && s0) || (!isQueryEmpty && !s0) then none
        else if fromBools bmRest != fromBools sibling.bm.tail then none
        else some (sibling.hash, sibs, rest)
    else if !b0 then some (emptyHash H, sibs, queries)
    else match sibs with
      | [] => none
      | s :: ss => some (s, ss, queries)
  | [] =>
    if !b0 then some (emptyHash H, sibs, queries)
    else match sibs with
      | [] => none
      | s :: ss => some (s, ss, queries)

/-- the query one level up -/
def climb (H : HashFn) (query : QP) (bmRest : Bits) (siblingHash : Bytes) : QP :=
  { query with
    hash := if !(query.binaryKey.getD (query.height - 1) false) then branchHash H query.hash siblingHash
            else branchHash H siblingHash query.hash,
    bm := bmRest }

/-- the body of `calcLoop` (Model/SMTVerify.lean) as an equation in `pickSib` / `climb`, by `rfl`: the proofs about
work lists of any length step through it (`calcLoop_single` in Lemmas/SMTVerify.lean and `calcTrace` below repeat the match) -/
theorem calcLoop_succ_cons (H : HashFn) (f : Nat) (sibs : List Bytes) (query : QP) (queries : List QP) :
    calcLoop H (f + 1) sibs (query :: queries) =
      match query.bm with
      | [] => if sibs.isEmpty then some query.hash else none
      | b0 :: bmRest =>
        match pickSib H sibs query b0 bmRest queries with
        | none => none
        | some (siblingHash, sibs', queries') =>
          if siblingHash.isEmpty then none
          else
            match insertAndMerge (climb H query bmRest siblingHash) queries' with
            | none => none
            | some qs => calcLoop H f sibs' qs := by
  rfl

/-- the inputs hashed by `calcLoop` (every branch hash it computes), in order -/
def calcTrace (H : HashFn) : Nat → List Bytes → List QP → List Bytes
  | 0, _, _ => []
  | _ + 1, _, [] => []
  | f + 1, sibs, query :: queries =>
    match query.bm with
    | [] => []
    | b0 :: bmRest =>
      match pickSib H sibs query b0 bmRest queries with
      | none => []
      | some (siblingHash, sibs', queries') =>
        (1 :: (if !(query.binaryKey.getD (query.height - 1) false) then query.hash ++ siblingHash
               else siblingHash ++ query.hash)) ::
          match insertAndMerge (climb H query bmRest siblingHash) queries' with
          | none => []
          | some qs => calcTrace H f sibs' qs

/-- when the next query is not the sibling, the sibling hash is the empty hash or the next provided hash -/
theorem pickSib_nosib {H : HashFn} {v0 : QP} {queries : List QP}
    (hno : ∀ s rest', queries = s :: rest' → isSiblingOf v0 s = false) (sibs : List Bytes) (b0 : Bool)
    (bmRest : Bits) :
    pickSib H sibs v0 b0 bmRest queries =
      if !b0 then some (emptyHash H, sibs, queries)
      else match sibs with
        | [] => none
        | x :: ss => some (x, ss, queries) := by
  cases queries with
  | nil => rfl
  | cons s rest' =>
    unfold pickSib
    simp only [hno s rest' rfl, Bool.false_eq_true, ↓reduceIte]

theorem pickSib_some {H : HashFn} {sibs : List Bytes} {query : QP} {b0 : Bool} {bmRest : Bits} {queries : List QP}
    {sh : Bytes} {sibs' : List Bytes} {queries' : List QP}
    (h : pickSib H sibs query b0 bmRest queries = some (sh, sibs', queries')) :
    (∃ sibling, queries = sibling :: queries' ∧ isSiblingOf query sibling = true ∧ sh = sibling.hash) ∨
      queries' = queries := by
  by_cases hs : ∃ sibling rest, queries = sibling :: rest ∧ isSiblingOf query sibling = true
  · obtain ⟨sibling, rest, rfl, hsib⟩ := hs
    unfold pickSib at h
    simp only [hsib, ↓reduceIte, Option.ite_none_left_eq_some, Option.some.injEq, Prod.mk.injEq] at h
    obtain ⟨-, -, -, hsh, -, hrest⟩ := h
    exact Or.inl ⟨sibling, by rw [hrest], hsib, hsh.symm⟩
  · rw [pickSib_nosib fun s rest' hq => by
      cases h' : isSiblingOf query s
      · rfl
      · exact absurd ⟨s, rest', hq, h'⟩ hs] at h
    right
    split at h
    · exact (Prod.mk.inj (Prod.mk.inj (Option.some.inj h)).2).2.symm
    · split at h
      · cases h
      · exact (Prod.mk.inj (Prod.mk.inj (Option.some.inj h)).2).2.symm

/-! ### reconstruction chains -/

/-- the specification reconstruction along the path of query `q`, starting from its node hash, gives `r`; every
input it hashes is in `T` -/
def Chain (H : HashFn) (T : List Bytes) (q : QP) (r : Bytes) : Prop :=
  ∃ bmT ssT, bmT.length = q.height ∧ recon H q.binaryPath bmT ssT q.hash = some r ∧
    ∀ a ∈ reconInputs H q.binaryPath bmT ssT q.hash, a ∈ T

theorem Chain.mono {H : HashFn} {T T' : List Bytes} {q : QP} {r : Bytes} (h : Chain H T q r)
    (hT : ∀ a ∈ T, a ∈ T') : Chain H T' q r := by
  obtain ⟨bmT, ssT, h1, h2, h3⟩ := h
  exact ⟨bmT, ssT, h1, h2, fun a ha => hT a (h3 a ha)⟩

/-- a chain of the parent node extends to a child -/
theorem Chain.child {H : HashFn} {T T' : List Bytes} {p c : QP} {r : Bytes} (h : Chain H T p r) (dir : Bool)
    (s : Bytes) (hpath : c.binaryPath = p.binaryPath ++ [dir]) (hheight : c.height = p.height + 1)
    (hhash : p.hash = if dir then branchHash H s c.hash else branchHash H c.hash s)
    (hT : ∀ a ∈ T, a ∈ T') (hin : (1 :: (if dir then s ++ c.hash else c.hash ++ s)) ∈ T') : Chain H T' c r := by
  obtain ⟨bmT, ssT, h1, h2, h3⟩ := h
  rw [hhash] at h2 h3
  obtain ⟨k1, k2⟩ := recon_snoc H dir (Or.inl ⟨rfl, rfl⟩) c.hash _ _ _ _ h2
  refine ⟨bmT ++ [true], ssT ++ [s], by simp [h1, hheight], by rw [hpath]; exact k1, ?_⟩
  intro a ha
  rw [hpath] at ha
  rcases k2 a ha with h' | h'
  · rw [h']; exact hin
  · exact hT a (h3 a h')

theorem isSiblingOf_spec {p q : QP} (h : isSiblingOf p q = true) :
    p.height = q.height ∧ p.binaryKey.take (p.height - 1) = q.binaryKey.take (q.height - 1) ∧
    q.binaryKey.getD (p.height - 1) false = !(p.binaryKey.getD (p.height - 1) false) := by
  unfold isSiblingOf at h
  split at h
  · simp at h
  · next h1 =>
    split at h
    · simp at h
    · next h2 =>
      refine ⟨by simpa [QP.height] using h1, by simpa using h2, ?_⟩
      simp only at h
      generalize p.binaryKey.getD (p.height - 1) false = a at h ⊢
      generalize q.binaryKey.getD (p.height - 1) false = b at h ⊢
      cases a <;> cases b <;> simp_all

/-- the position of a query = the position of its parent and the last direction -/
theorem binaryPath_succ {keyLen : Nat} {q : QP} (hk : q.key.length = keyLen) (hh : q.height ≤ 8 * keyLen)
    (h1 : 1 ≤ q.height) :
    q.binaryPath = q.binaryKey.take (q.height - 1) ++ [q.binaryKey.getD (q.height - 1) false] := by
  have hlen : q.height - 1 < q.binaryKey.length := by
    rw [QP.binaryKey, toBools_length, hk]; omega
  unfold QP.binaryPath
  have : q.height = (q.height - 1) + 1 := by omega
  rw [this, List.take_succ_eq_append_getElem hlen, List.getElem_eq_getD false, Nat.add_sub_cancel]

theorem calcTrace_cons_nil (H : HashFn) (f : Nat) (sibs : List Bytes) (query : QP) (queries : List QP)
    (h : query.bm = []) : calcTrace H (f + 1) sibs (query :: queries) = [] := by
  simp only [calcTrace, h]

theorem calcTrace_cons_step (H : HashFn) (f : Nat) (sibs : List Bytes) (query : QP) (queries : List QP)
    {b0 : Bool} {bmRest : Bits} {sh : Bytes} {sibs' : List Bytes} {queries' qs : List QP}
    (h1 : query.bm = b0 :: bmRest) (h2 : pickSib H sibs query b0 bmRest queries = some (sh, sibs', queries'))
    (h3 : insertAndMerge (climb H query bmRest sh) queries' = some qs) :
    calcTrace H (f + 1) sibs (query :: queries) =
      (1 :: (if !(query.binaryKey.getD (query.height - 1) false) then query.hash ++ sh else sh ++ query.hash)) ::
        calcTrace H f sibs' qs := by
  simp only [calcTrace, h1, h2, h3]

/-- **Every query of the work list is verified**: when the loop of `CalculateRoot` returns `r` from a work list
satisfying the invariant, the reconstruction along the path of each query of the list gives `r`, hashing only
inputs recorded in `calcTrace`. -/
theorem calcLoop_chain (H : HashFn) (keyLen : Nat) :
    ∀ (f : Nat) (sibs : List Bytes) (qs : List QP) (r : Bytes), QInv keyLen qs →
      calcLoop H f sibs qs = some r → ∀ q ∈ qs, Chain H (calcTrace H f sibs qs) q r := by
  intro f
  induction f with
  | zero => intro sibs qs r _ h; simp [calcLoop] at h
  | succ f ih =>
    intro sibs qs r hinv h
    match qs, hinv, h with
    | [], _, h => simp [calcLoop] at h
    | query :: queries, hinv, h =>
      rw [calcLoop_succ_cons] at h
      have hqk : query.key.length = keyLen := hinv.klen query (by simp)
      have hqh : query.height ≤ 8 * keyLen := hinv.hle query (by simp)
      split at h
      · next hbm =>
        -- the root is reached: nothing else is left in the work list
        have hh0 : query.height = 0 := by simp [QP.height, hbm]
        have hnil : queries = [] := by
          cases queries with
          | nil => rfl
          | cons x rest =>
            have hx0 : x.height = 0 := by
              have := height_le_head hinv.sorted (show x ∈ query :: x :: rest by simp)
              omega
            refine absurd ?_ ((List.pairwise_cons.mp hinv.distinct).1 x (by simp))
            unfold QP.binaryPath
            rw [hh0, hx0]; simp
        subst hnil
        intro q hq
        rw [List.mem_singleton] at hq
        subst hq
        split at h
        · simp only [Option.some.injEq] at h
          refine ⟨[], [], by simp [hh0], ?_, ?_⟩
          · unfold QP.binaryPath; rw [hh0]; simp [recon, h]
          · unfold QP.binaryPath; rw [hh0]; simp [reconInputs]
        · simp at h
      · next b0 bmRest hbm =>
        have hheight : query.height = bmRest.length + 1 := by simp [QP.height, hbm]
        split at h
        · simp at h
        · next sh sibs' queries' hpick =>
          split at h
          · simp at h
          · split at h
            · simp at h
            · next qs' hins =>
              rw [calcTrace_cons_step H f sibs query queries hbm hpick hins]
              have hck : (climb H query bmRest sh).key.length = keyLen := hqk
              have hch : (climb H query bmRest sh).height = bmRest.length := rfl
              have hinv' : QInv keyLen queries' := by
                rcases pickSib_some hpick with ⟨sibling, hqs, _, _⟩ | hqs
                · rw [hqs] at hinv; exact hinv.tail.tail
                · rw [hqs]; exact hinv.tail
              obtain ⟨hinv2, hsub, e, he, hep, heh, ehh⟩ :=
                insertAndMerge_inv hinv' hck (by rw [hch]; omega) hins
              have hIH := ih sibs' qs' r hinv2 h
              have hce := hIH e he
              generalize hdir : query.binaryKey.getD (query.height - 1) false = dir at *
              have hparent : e.binaryPath = query.binaryKey.take (query.height - 1) := by
                rw [hep]; unfold QP.binaryPath; rw [hch, hheight]; rfl
              have hquery : Chain H ((1 :: (if !dir then query.hash ++ sh else sh ++ query.hash)) ::
                  calcTrace H f sibs' qs') query r := by
                refine Chain.child hce dir sh ?_ (by rw [ehh, hch, hheight]) ?_
                  (fun a ha => List.mem_cons_of_mem _ ha) ?_
                · rw [binaryPath_succ hqk hqh (by omega), hdir, hparent]
                · rw [heh]; simp only [climb, hdir]; cases dir <;> rfl
                · cases dir <;> simp
              intro q hq
              rcases List.mem_cons.mp hq with rfl | hq
              · exact hquery
              · rcases pickSib_some hpick with ⟨sibling, hqs, hsib, hsh⟩ | hqs
                · rw [hqs] at hq
                  rcases List.mem_cons.mp hq with rfl | hq
                  · -- the merged sibling query
                    obtain ⟨s1, s2, s3⟩ := isSiblingOf_spec hsib
                    have hsk : q.key.length = keyLen := hinv.klen q (by rw [hqs]; simp)
                    have hsh' : q.height ≤ 8 * keyLen := hinv.hle q (by rw [hqs]; simp)
                    rw [hdir] at s3
                    refine Chain.child hce (!dir) query.hash ?_ (by rw [ehh, hch, ← s1, hheight]) ?_
                      (fun a ha => List.mem_cons_of_mem _ ha) ?_
                    · rw [binaryPath_succ hsk hsh' (by omega), hparent, ← s2, ← s1, s3]
                    · rw [heh, hsh]; simp only [climb, hdir]
                    · rw [hsh]; simp
                  · exact (hIH q (hsub q hq)).mono (fun a ha => List.mem_cons_of_mem _ ha)
                · rw [hqs] at hsub
                  exact (hIH q (hsub q hq)).mono (fun a ha => List.mem_cons_of_mem _ ha)

/-! ### the position filter of `Verify` (its second loop; the first is in Lemmas/SMTVerify.lean, `checkOne_eq_none`) -/

/-- the query proof `Verify` builds for a query of the wire format -/
def qpOf (H : HashFn) (q : Query) : QP := mkQP H q.key q.value (stripPrefixFalse (toBools q.bitmap))

/-- sorting a list of query proofs with pairwise different positions gives a work list with the invariant -/
theorem QInv.of_sort {keyLen : Nat} {l : List QP} (hk : ∀ x ∈ l, x.key.length = keyLen)
    (hh : ∀ x ∈ l, x.height ≤ 8 * keyLen) (hd : l.Pairwise (fun a b => a.binaryPath ≠ b.binaryPath)) :
    QInv keyLen (sortQPs l) :=
  ⟨fun x hx => hk x ((mem_isort _ _ _).mp hx), fun x hx => hh x ((mem_isort _ _ _).mp hx), sortQPs_sorted _,
    ((isort_perm qpLe l).pairwise_iff (fun h e => h e.symm)).mpr hd⟩

theorem filterQueries_cons (H : HashFn) (query : Query) (qs : List Query) (acc : List QP) :
    filterQueries H (query :: qs) acc =
      match acc.find? (fun e => e.binaryPath = (qpOf H query).binaryPath) with
      | none => filterQueries H qs (qpOf H query :: acc)
      | some existing =>
        if existing.hash = (qpOf H query).hash && existing.bm = (qpOf H query).bm then filterQueries H qs acc
        else none := rfl

/-- the position filter, started with the kept queries `acc` (pairwise different positions): the kept queries `out` have
pairwise different positions, each is in `acc` or the query proof of a query of `qs`, all of `acc` is kept, and every query
of `qs` is represented by a kept query of its position, node hash and bitmap -/
theorem filterQueries_spec (H : HashFn) : ∀ (qs : List Query) (acc out : List QP),
    filterQueries H qs acc = some out →
    acc.Pairwise (fun a b => a.binaryPath ≠ b.binaryPath) →
    out.Pairwise (fun a b => a.binaryPath ≠ b.binaryPath) ∧
    (∀ e ∈ out, e ∈ acc ∨ ∃ q ∈ qs, e = qpOf H q) ∧
    (∀ e ∈ acc, e ∈ out) ∧
    (∀ q ∈ qs, ∃ e ∈ out, e.binaryPath = (qpOf H q).binaryPath ∧ e.hash = (qpOf H q).hash ∧
      e.bm = (qpOf H q).bm) := by
  intro qs
  induction qs with
  | nil =>
    intro acc out h hacc
    simp only [filterQueries, Option.some.injEq] at h
    subst h
    refine ⟨?_, ?_, ?_, ?_⟩
    · rw [List.pairwise_reverse]
      exact hacc.imp (fun h e => h e.symm)
    · intro e he; exact Or.inl (List.mem_reverse.mp he)
    · intro e he; exact List.mem_reverse.mpr he
    · intro q hq; simp at hq
  | cons query qs ih =>
    intro acc out h hacc
    rw [filterQueries_cons] at h
    split at h
    · next hfind =>
      have hno : ∀ e ∈ acc, e.binaryPath ≠ (qpOf H query).binaryPath := by
        intro e he
        have := List.find?_eq_none.mp hfind e he
        simpa using this
      obtain ⟨h1, h2, h3, h4⟩ := ih _ _ h (List.pairwise_cons.mpr ⟨fun e he hh => hno e he hh.symm, hacc⟩)
      refine ⟨h1, ?_, fun e he => h3 e (List.mem_cons_of_mem _ he), ?_⟩
      · intro e he
        rcases h2 e he with h' | ⟨q, hq, h'⟩
        · rcases List.mem_cons.mp h' with h'' | h''
          · exact Or.inr ⟨query, by simp, h''⟩
          · exact Or.inl h''
        · exact Or.inr ⟨q, List.mem_cons_of_mem _ hq, h'⟩
      · intro q hq
        rcases List.mem_cons.mp hq with rfl | hq
        · exact ⟨qpOf H q, h3 _ (by simp), rfl, rfl, rfl⟩
        · exact h4 q hq
    · next existing hfind =>
      split at h
      · next hsame =>
        obtain ⟨h1, h2, h3, h4⟩ := ih _ _ h hacc
        refine ⟨h1, ?_, h3, ?_⟩
        · intro e he
          rcases h2 e he with h' | ⟨q, hq, h'⟩
          · exact Or.inl h'
          · exact Or.inr ⟨q, List.mem_cons_of_mem _ hq, h'⟩
        · intro q hq
          rcases List.mem_cons.mp hq with rfl | hq
          · have hp := List.find?_some hfind
            simp only [Bool.and_eq_true, decide_eq_true_eq] at hsame hp
            exact ⟨existing, h3 _ (List.mem_of_find?_eq_some hfind), hp, hsame.1, hsame.2⟩
          · exact h4 q hq
      · simp at h

end LiskVerif.SMTVerify
