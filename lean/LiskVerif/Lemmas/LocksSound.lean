/-
Soundness of the abstract interpreter `an` (on which the decidable criteria are computed) with
respect to the path semantics `den` of skeletons: every observation `(held locks, action)` made along
any run — with calls inlined to any depth, loops iterated any number of times — is among the
observations the analysis records, and the lock state after the run is among the states it computes.

Before the soundness relation stand the lemmas on the analysis that the neighbouring files share: the folds
`foldCall` / `foldChoice` as folds that stop at the first failure (`foldl_some_rel`, `_inv`, `_mono`, `_upper`),
`anFirst` at a spawn and at a loop, and `an_induct`, the induction over a successful analysis. After it: the
goroutines a run spawns (`SpawnFor`, `Spawned`, `IsThreadPath`: every thread of a function has been analysed),
and from the decidable criteria to the path properties of the interleaving theorems
(`lockBalanced_of_wellFormed`, `balanced_paths_end_unlocked`, `deadlockCriteria_paths`, `locksetOk_paths`).
-/
import LiskVerif.Lemmas.Locks
import LiskVerif.Lemmas.Tables

namespace LiskVerif.Locks

/-! ### small list lemmas -/

theorem mem_insertD {α} [DecidableEq α] {x y : α} {l : List α} : x ∈ insertD y l ↔ x = y ∨ x ∈ l := by
  unfold insertD
  split
  · rename_i h
    exact ⟨Or.inr, fun h' => h'.elim (fun e => e ▸ List.contains_iff_mem.mp h) id⟩
  · simp [or_comm]

theorem isEmpty_insertD {α} [DecidableEq α] (x : α) (l : List α) : (insertD x l).isEmpty = false :=
  match h : insertD x l, mem_insertD.mpr (Or.inl rfl) with
  | _ :: _, _ => rfl

theorem mem_foldl_insertD {α β} [DecidableEq β] {f : α → β} {l : List α} {init : List β} {y : β} :
    y ∈ l.foldl (fun acc a => insertD (f a) acc) init ↔ y ∈ init ∨ ∃ a ∈ l, f a = y := by
  induction l generalizing init with
  | nil => simp
  | cons a l ih =>
    simp only [List.foldl_cons, ih, mem_insertD, List.mem_cons, exists_eq_or_imp, @eq_comm _ y (f a)]
    exact or_assoc.trans or_left_comm

theorem mem_unionD {α} [DecidableEq α] {x : α} {a b : List α} : x ∈ unionD a b ↔ x ∈ a ∨ x ∈ b := by
  simp [unionD, mem_foldl_insertD (f := fun y : α => y)]

theorem subsetD_iff {α} [DecidableEq α] {a b : List α} : subsetD a b = true ↔ ∀ x ∈ a, x ∈ b := by
  simp [subsetD, List.all_eq_true]

theorem foldl_none {α β} {f : Option β → α → Option β} (hf : ∀ a, f none a = none) (l : List α) :
    l.foldl f none = none := by
  induction l with
  | nil => rfl
  | cons a l ih => rw [List.foldl_cons, hf, ih]

/-! ### traces -/

theorem rundown_eq (h : Held) (d : Path) : rundown h d = (trace h d, heldAfterPath h d) := by
  induction d generalizing h with
  | nil => simp [rundown, trace, heldAfterPath]
  | cons a d ih => simp [rundown, trace, heldAfterPath, ih]

/-- the exits of a set of states: the traces of the deferred releases, and the lock sets they leave -/
theorem exits_eq (sts : List ASt) :
    exits sts = (sts.flatMap fun st => trace st.1 st.2,
      sts.foldl (fun acc st => insertD (heldAfterPath st.1 st.2) acc) []) := by
  suffices ∀ acc : List Obs × List Held,
      sts.foldl (fun acc st => let r := rundown st.1 st.2; (acc.1 ++ r.1, insertD r.2 acc.2)) acc =
        (acc.1 ++ sts.flatMap fun st => trace st.1 st.2,
          sts.foldl (fun acc st => insertD (heldAfterPath st.1 st.2) acc) acc.2) from
    (this ([], [])).trans (by rw [List.nil_append])
  induction sts with
  | nil => intro acc; simp
  | cons st sts ih =>
    intro acc
    rw [List.foldl_cons, ih]
    simp only [rundown_eq, List.flatMap_cons, List.append_assoc, List.foldl_cons]

theorem exits_spec {sts : List ASt} :
    ∀ st ∈ sts, (∀ o ∈ trace st.1 st.2, o ∈ (exits sts).1) ∧ heldAfterPath st.1 st.2 ∈ (exits sts).2 := by
  intro st hst
  rw [exits_eq]
  exact ⟨fun o ho => List.mem_flatMap.mpr ⟨st, hst, ho⟩, mem_foldl_insertD.mpr (Or.inr ⟨st, hst, rfl⟩)⟩

/-- a run of a sequence: a run of the first part that returned, or one that did not followed by a run of
the second part -/
theorem mem_seqRuns {rs1 rs2 : List Run} {run : Run} (h : run ∈ seqRuns rs1 rs2) :
    ∃ r1 ∈ rs1, (r1.returned = true ∧ run = r1) ∨ (r1.returned = false ∧ ∃ r2 ∈ rs2,
      run = ⟨r1.path ++ r2.path, r2.defers ++ r1.defers, r2.returned, r1.spawns ++ r2.spawns⟩) := by
  simp only [seqRuns, List.mem_flatMap] at h
  obtain ⟨r1, hr1, h⟩ := h
  refine ⟨r1, hr1, ?_⟩
  cases hret : r1.returned with
  | true => simp only [hret, if_true, List.mem_singleton] at h; exact Or.inl ⟨rfl, h⟩
  | false =>
    simp only [hret, Bool.false_eq_true, if_false, List.mem_map] at h
    obtain ⟨r2, hr2, rfl⟩ := h
    exact Or.inr ⟨rfl, r2, hr2, rfl⟩

/-! ### soundness relation -/

/-- the runs `rs` started in any of the states `sts` only make observations in `obs` and end in `fall`
(control falls through) or `rets` (a `return` was executed) -/
def SoundFor (sts : List ASt) (rs : List Run) (obs : List Obs) (fall rets : List ASt) : Prop :=
  ∀ st ∈ sts, ∀ run ∈ rs,
    (∀ o ∈ trace st.1 run.path, o ∈ obs) ∧
    (run.returned = false → (heldAfterPath st.1 run.path, run.defers ++ st.2) ∈ fall) ∧
    (run.returned = true → (heldAfterPath st.1 run.path, run.defers ++ st.2) ∈ rets)

theorem SoundFor.mono {sts : List ASt} {rs : List Run} {o o' : List Obs} {f f' t t' : List ASt}
    (h : SoundFor sts rs o f t) (ho : ∀ x ∈ o, x ∈ o') (hf : ∀ x ∈ f, x ∈ f') (ht : ∀ x ∈ t, x ∈ t') :
    SoundFor sts rs o' f' t' := by
  intro st hst run hrun
  obtain ⟨h1, h2, h3⟩ := h st hst run hrun
  exact ⟨fun x hx => ho x (h1 x hx), fun hr => hf _ (h2 hr), fun hr => ht _ (h3 hr)⟩

theorem SoundFor.seq {sts : List ASt} {rs1 rs2 : List Run} {o1 o2 o : List Obs} {f1 f2 f t1 t2 t : List ASt}
    (h1 : SoundFor sts rs1 o1 f1 t1) (h2 : SoundFor f1 rs2 o2 f2 t2)
    (ho1 : ∀ x ∈ o1, x ∈ o) (ho2 : ∀ x ∈ o2, x ∈ o) (hf : ∀ x ∈ f2, x ∈ f)
    (ht1 : ∀ x ∈ t1, x ∈ t) (ht2 : ∀ x ∈ t2, x ∈ t) :
    SoundFor sts (seqRuns rs1 rs2) o f t := by
  intro st hst run hrun
  obtain ⟨r1, hr1, hcase⟩ := mem_seqRuns hrun
  obtain ⟨a1, b1, c1⟩ := h1 st hst r1 hr1
  rcases hcase with ⟨hret, rfl⟩ | ⟨hret', r2, hr2, rfl⟩
  · exact ⟨fun x hx => ho1 x (a1 x hx), fun h => (by rw [hret] at h; cases h), fun _ => ht1 _ (c1 hret)⟩
  · have hst1 := b1 hret'
    obtain ⟨a2, b2, c2⟩ := h2 _ hst1 r2 hr2
    refine ⟨?_, ?_, ?_⟩
    · rw [trace_append]
      exact List.forall_mem_append.2 ⟨fun x hx => ho1 x (a1 x hx), fun x hx => ho2 x (a2 x hx)⟩
    · intro h
      have := b2 h
      simp only [heldAfterPath_append, List.append_assoc] at this ⊢
      exact hf _ this
    · intro h
      have := c2 h
      simp only [heldAfterPath_append, List.append_assoc] at this ⊢
      exact ht2 _ this

/-- a run of a body entered holding `h`: what it observes is recorded, and so is what its deferred releases
observe and leave held when the body is left -/
theorem SoundFor.body {h : Held} {rs : List Run} {obs : List Obs} {fall rets : List ASt}
    (hs : SoundFor [(h, [])] rs obs fall rets) {run : Run} (hrun : run ∈ rs) :
    (∀ o ∈ trace h run.path, o ∈ obs) ∧
    (∀ o ∈ trace (heldAfterPath h run.path) run.defers, o ∈ (exits (unionD fall rets)).1) ∧
    heldAfterPath (heldAfterPath h run.path) run.defers ∈ (exits (unionD fall rets)).2 := by
  obtain ⟨a1, b1, c1⟩ := hs (h, []) (by simp) run hrun
  have hstate : (heldAfterPath h run.path, run.defers) ∈ unionD fall rets := by
    apply mem_unionD.mpr
    cases hr : run.returned with
    | false => left; simpa using b1 hr
    | true => right; simpa using c1 hr
  exact ⟨a1, exits_spec _ hstate⟩

/-- one run: its observations are recorded, and the state it ends in is among those it falls through to, or
returns in -/
theorem soundFor_single {sts : List ASt} {run : Run} {obs : List Obs} {fall rets : List ASt}
    (hobs : ∀ st ∈ sts, ∀ o ∈ trace st.1 run.path, o ∈ obs)
    (hend : ∀ st ∈ sts, (heldAfterPath st.1 run.path, run.defers ++ st.2) ∈ if run.returned then rets else fall) :
    SoundFor sts [run] obs fall rets := by
  intro st hst r hr
  rw [List.mem_singleton.mp hr]
  have := hend st hst
  exact ⟨hobs st hst, fun h => by rwa [h] at this, fun h => by rwa [h] at this⟩

theorem soundFor_prim (sts : List ASt) (a : Prim) :
    SoundFor sts [⟨[a], [], false, []⟩] (stepAll sts a).obs (stepAll sts a).fall (stepAll sts a).rets :=
  soundFor_single (fun st hst _ ho => List.mem_singleton.mp ho ▸ List.mem_map.mpr ⟨st, hst, rfl⟩)
    fun st hst => mem_foldl_insertD.mpr (Or.inr ⟨st, hst, rfl⟩)

theorem soundFor_skip (sts : List ASt) (sp : List (List Act)) : SoundFor sts [⟨[], [], false, sp⟩] [] sts [] :=
  soundFor_single (fun _ _ _ ho => nomatch ho) fun _ hst => hst

theorem soundFor_defer (sts : List ASt) (a : Prim) :
    SoundFor sts [⟨[], [a], false, []⟩] [] (sts.foldl (fun acc st => insertD (st.1, a :: st.2) acc) []) [] :=
  soundFor_single (fun _ _ _ ho => nomatch ho) fun st hst => mem_foldl_insertD.mpr (Or.inr ⟨st, hst, rfl⟩)

theorem soundFor_ret (sts : List ASt) : SoundFor sts [⟨[], [], true, []⟩] [] [] sts :=
  soundFor_single (fun _ _ _ ho => nomatch ho) fun _ hst => hst

/-! ### the folds of the analysis -/

theorem foldCall_eq (f : ASt → Option Res) (sts : List ASt) :
    foldCall f sts =
      sts.foldl (fun acc st => acc.bind fun r => (f st).map (callCombine r st)) (some ⟨[], [], []⟩) := by
  unfold foldCall
  congr 1
  funext acc st
  cases acc <;> cases f st <;> rfl

theorem foldChoice_eq (f : List Act → Option Res) (alts : List (List Act)) :
    foldChoice f alts = alts.foldl (fun acc alt => acc.bind fun r => (f alt).map fun ra =>
      ⟨r.obs ++ ra.obs, unionD r.fall ra.fall, unionD r.rets ra.rets⟩) (some ⟨[], [], []⟩) := by
  unfold foldChoice
  congr 1
  funext acc alt
  cases acc <;> cases f alt <;> rfl

def badEnd : Obs := ([], Prim.bad "goroutine ends holding a lock")

/-- what `anFirst` answers at a spawn and at a loop, read off a successful result -/
theorem anFirst_go {tbl : Table} {rec : List ASt → List Act → Option Res} {sts : List ASt} {b : List Act} {r : Res} :
    anFirst tbl rec sts (.go b) = some r ↔ ∃ rb, rec [([], [])] b = some rb ∧
      r = ⟨rb.obs ++ (exits (unionD rb.fall rb.rets)).1 ++
        (if (exits (unionD rb.fall rb.rets)).2.all (·.isEmpty) then [] else [badEnd]), sts, []⟩ := by
  simp only [anFirst]
  cases rec [([], [])] b with
  | none => exact ⟨nofun, fun ⟨_, h, _⟩ => nomatch h⟩
  | some rb => exact ⟨fun h => ⟨rb, rfl, (Option.some.inj h).symm⟩, fun ⟨_, h, hr⟩ => Option.some.inj h ▸ hr ▸ rfl⟩

theorem anFirst_loop {tbl : Table} {rec : List ASt → List Act → Option Res} {sts : List ASt} {b : List Act} {r : Res} :
    anFirst tbl rec sts (.loop b) = some r ↔
      ∃ rb, rec sts b = some rb ∧ subsetD rb.fall sts = true ∧ r = ⟨rb.obs, sts, rb.rets⟩ := by
  simp only [anFirst]
  cases rec sts b with
  | none => exact ⟨nofun, fun ⟨_, h, _⟩ => nomatch h⟩
  | some rb =>
    by_cases hs : subsetD rb.fall sts = true
    · simp only [hs, if_true]
      exact ⟨fun h => ⟨rb, rfl, hs, (Option.some.inj h).symm⟩, fun ⟨_, h, _, hr⟩ => Option.some.inj h ▸ hr ▸ rfl⟩
    · simp only [hs]
      exact ⟨nofun, fun ⟨_, h, hs', _⟩ => absurd (Option.some.inj h ▸ hs') hs⟩

/-- Two such folds run side by side: where the first succeeds so does the second, and a relation between the
accumulators that every step preserves holds of the results. -/
theorem foldl_some_rel {α α' β β' ρ ρ' : Type _} {f : α → Option β} {f' : α' → Option β'}
    {c : ρ → α → β → ρ} {c' : ρ' → α' → β' → ρ'} (R : ρ → ρ' → Prop) (g : α → α') (l : List α)
    (hstep : ∀ x ∈ l, ∀ y, f x = some y →
      ∃ y', f' (g x) = some y' ∧ ∀ r r', R r r' → R (c r x y) (c' r' (g x) y'))
    {r0 r : ρ} {r0' : ρ'} (h0 : R r0 r0')
    (h : l.foldl (fun acc x => acc.bind fun r => (f x).map (c r x)) (some r0) = some r) :
    ∃ r', (l.map g).foldl (fun acc x => acc.bind fun r => (f' x).map (c' r x)) (some r0') = some r' ∧ R r r' := by
  induction l generalizing r0 r0' with
  | nil => cases h; exact ⟨r0', rfl, h0⟩
  | cons x l ih =>
    rw [List.foldl_cons] at h
    cases hx : f x with
    | none =>
      rw [hx, Option.bind_some, Option.map_none, foldl_none (fun _ => rfl)] at h
      cases h
    | some y =>
      obtain ⟨y', hy', hR⟩ := hstep x List.mem_cons_self y hx
      rw [hx] at h
      rw [List.map_cons, List.foldl_cons, hy']
      exact ih (fun z hz => hstep z (List.mem_cons_of_mem _ hz)) (hR _ _ h0) h

/-- one such fold: a property of the accumulator that every step preserves holds of the result -/
theorem foldl_some_inv {α β ρ : Type _} {f : α → Option β} {c : ρ → α → β → ρ} (I : ρ → Prop) (l : List α)
    (hstep : ∀ x ∈ l, ∀ y r, f x = some y → I r → I (c r x y)) {r0 r : ρ} (h0 : I r0)
    (h : l.foldl (fun acc x => acc.bind fun r => (f x).map (c r x)) (some r0) = some r) : I r :=
  (foldl_some_rel (f' := f) (c' := c) (fun r _ => I r) id l
    (fun x hx y hy => ⟨y, hy, fun r _ hr => hstep x hx y r hy hr⟩) (r0' := r0) h0 h).elim fun _ h => h.2

/-- where `g` answers as `f` does wherever `f` answers, the fold over `g` gives what the fold over `f` gives -/
theorem foldl_some_mono {α β ρ : Type _} {f g : α → Option β} {c : ρ → α → β → ρ} {l : List α} {r0 r : ρ}
    (hfg : ∀ x y, f x = some y → g x = some y)
    (h : l.foldl (fun acc x => acc.bind fun r => (f x).map (c r x)) (some r0) = some r) :
    l.foldl (fun acc x => acc.bind fun r => (g x).map (c r x)) (some r0) = some r := by
  obtain ⟨r', h', rfl⟩ := foldl_some_rel (f' := g) (c' := c) Eq id l
    (fun x _ y hy => ⟨y, hfg x y hy, fun _ _ e => e ▸ rfl⟩) rfl h
  rwa [List.map_id] at h'

/-- a fold whose steps only add: the result is above the start and above what every element brings (`G`) -/
theorem foldl_some_upper {α β ρ : Type _} {f : α → Option β} {c : ρ → α → β → ρ} (le : ρ → ρ → Prop)
    (G : α → β → ρ → Prop) (le_refl : ∀ r, le r r) (le_trans : ∀ {a b d}, le a b → le b d → le a d)
    (hG : ∀ {x y r r'}, G x y r → le r r' → G x y r')
    (hc : ∀ r x y, le r (c r x y) ∧ G x y (c r x y)) (l : List α) {r0 r : ρ}
    (h : l.foldl (fun acc x => acc.bind fun r => (f x).map (c r x)) (some r0) = some r) :
    le r0 r ∧ ∀ x ∈ l, ∃ y, f x = some y ∧ G x y r := by
  induction l generalizing r0 with
  | nil => cases h; exact ⟨le_refl _, fun _ hx => nomatch hx⟩
  | cons x l ih =>
    rw [List.foldl_cons] at h
    cases hx : f x with
    | none =>
      rw [hx, Option.bind_some, Option.map_none, foldl_none (fun _ => rfl)] at h
      cases h
    | some y =>
      rw [hx] at h
      obtain ⟨h1, h2⟩ := ih h
      refine ⟨le_trans (hc r0 x y).1 h1, fun z hz => ?_⟩
      rcases List.mem_cons.mp hz with rfl | hz
      · exact ⟨y, hx, hG (hc r0 z y).2 h1⟩
      · exact h2 z hz

theorem foldCall_spec {f : ASt → Option Res} {sts : List ASt} {r : Res} (h : foldCall f sts = some r) :
    ∀ st ∈ sts, ∃ rb, f st = some rb ∧ (∀ o ∈ rb.obs, o ∈ r.obs) ∧
      (∀ o ∈ (exits (unionD rb.fall rb.rets)).1, o ∈ r.obs) ∧
      (∀ hd ∈ (exits (unionD rb.fall rb.rets)).2, (hd, st.2) ∈ r.fall) := by
  rw [foldCall_eq] at h
  refine (foldl_some_upper (fun a b : Res => (∀ o ∈ a.obs, o ∈ b.obs) ∧ ∀ x ∈ a.fall, x ∈ b.fall)
    (fun (st : ASt) (rb r : Res) => (∀ o ∈ rb.obs, o ∈ r.obs) ∧
      (∀ o ∈ (exits (unionD rb.fall rb.rets)).1, o ∈ r.obs) ∧
      ∀ hd ∈ (exits (unionD rb.fall rb.rets)).2, (hd, st.2) ∈ r.fall)
    (fun _ => ⟨fun _ h => h, fun _ h => h⟩)
    (fun h1 h2 => ⟨fun o ho => h2.1 o (h1.1 o ho), fun x hx => h2.2 x (h1.2 x hx)⟩)
    (fun {_ _ _ _} hg hl => ⟨fun o ho => hl.1 o (hg.1 o ho), fun o ho => hl.1 o (hg.2.1 o ho),
      fun hd hhd => hl.2 _ (hg.2.2 hd hhd)⟩)
    (fun r st rb => ?_) sts h).2
  have hobs : ∀ o, (o ∈ r.obs ∨ o ∈ rb.obs) ∨ o ∈ (exits (unionD rb.fall rb.rets)).1 →
      o ∈ (callCombine r st rb).obs := fun o ho => by simpa only [callCombine, List.mem_append] using ho
  have hfall : ∀ x, (x ∈ r.fall ∨ ∃ hd ∈ (exits (unionD rb.fall rb.rets)).2, (hd, st.2) = x) →
      x ∈ (callCombine r st rb).fall := fun x hx => mem_foldl_insertD (f := fun hd => (hd, st.2)).mpr hx
  exact ⟨⟨fun o ho => hobs o (.inl (.inl ho)), fun x hx => hfall x (.inl hx)⟩,
    fun o ho => hobs o (.inl (.inr ho)), fun o ho => hobs o (.inr ho), fun hd hhd => hfall _ (.inr ⟨hd, hhd, rfl⟩)⟩

theorem foldChoice_spec {f : List Act → Option Res} {alts : List (List Act)} {r : Res}
    (h : foldChoice f alts = some r) :
    ∀ alt ∈ alts, ∃ ra, f alt = some ra ∧ (∀ o ∈ ra.obs, o ∈ r.obs) ∧
      (∀ x ∈ ra.fall, x ∈ r.fall) ∧ (∀ x ∈ ra.rets, x ∈ r.rets) := by
  rw [foldChoice_eq] at h
  let le := fun a b : Res => (∀ o ∈ a.obs, o ∈ b.obs) ∧ (∀ x ∈ a.fall, x ∈ b.fall) ∧ ∀ x ∈ a.rets, x ∈ b.rets
  have le_trans : ∀ {a b d : Res}, le a b → le b d → le a d := fun h1 h2 =>
    ⟨fun o ho => h2.1 o (h1.1 o ho), fun x hx => h2.2.1 x (h1.2.1 x hx), fun x hx => h2.2.2 x (h1.2.2 x hx)⟩
  exact (foldl_some_upper le (fun _ ra r => le ra r) (fun _ => ⟨fun _ h => h, fun _ h => h, fun _ h => h⟩) le_trans
    le_trans (fun r _ ra =>
      ⟨⟨fun o ho => List.mem_append_left _ ho, fun x hx => mem_unionD.mpr (.inl hx), fun x hx => mem_unionD.mpr (.inl hx)⟩,
        fun o ho => List.mem_append_right _ ho, fun x hx => mem_unionD.mpr (.inr hx),
        fun x hx => mem_unionD.mpr (.inr hx)⟩) alts h).2

/-- **Induction over a successful analysis**, on the fuel: the empty skeleton, the empty set of states, and an
action analysed to `r1` followed by the rest analysed from `r1.fall`. -/
theorem an_induct {tbl : Table} {motive : Nat → List ASt → List Act → Res → Prop}
    (nil : ∀ n sts, motive (n + 1) sts [] ⟨[], sts, []⟩)
    (empty : ∀ n a k, motive (n + 1) [] (a :: k) ⟨[], [], []⟩)
    (cons : ∀ n st sts a k r1 r2, (∀ sts k r, an tbl n sts k = some r → motive n sts k r) →
      anFirst tbl (an tbl n) (st :: sts) a = some r1 → an tbl n r1.fall k = some r2 →
      motive (n + 1) (st :: sts) (a :: k) ⟨r1.obs ++ r2.obs, r2.fall, unionD r1.rets r2.rets⟩) :
    ∀ n sts k r, an tbl n sts k = some r → motive n sts k r := by
  intro n
  induction n with
  | zero => intro sts k r h; cases h
  | succ n ih =>
    intro sts k r h
    cases k with
    | nil => cases h; exact nil n sts
    | cons a k =>
      cases sts with
      | nil => cases h; exact empty n a k
      | cons st sts =>
        rw [an] at h
        simp only [List.isEmpty_cons, Bool.false_eq_true, if_false] at h
        cases h1 : anFirst tbl (an tbl n) (st :: sts) a with
        | none => simp only [h1] at h; cases h
        | some r1 =>
          simp only [h1] at h
          cases h2 : an tbl n r1.fall k with
          | none => simp only [h2] at h; cases h
          | some r2 =>
            simp only [h2, Option.some.injEq] at h
            subst h
            exact cons n st sts a k r1 r2 ih h1 h2

/-! ### soundness of one action -/

theorem soundFor_iter {sts : List ASt} {body : List Run} {o : List Obs} {f t : List ASt}
    (hb : SoundFor sts body o f t) (hsub : ∀ x ∈ f, x ∈ sts) (i : Nat) :
    SoundFor sts (iterRuns body i) o sts t := by
  induction i with
  | zero =>
    exact (soundFor_skip sts []).mono (by intro x hx; cases hx) (fun _ h => h) (by intro x hx; cases hx)
  | succ i ih =>
    exact SoundFor.seq ih hb (fun _ h => h) (fun _ h => h) hsub (fun _ h => h) (fun _ h => h)

/-! ### spawned goroutines -/

/-- the body `b` of a spawned goroutine has been analysed (from the empty lock set) and its
observations are included in `obs` -/
def GoodBody (tbl : Table) (obs : List Obs) (b : List Act) : Prop :=
  ∃ fa rb, an tbl fa [([], [])] b = some rb ∧ (∀ o ∈ rb.obs, o ∈ obs) ∧
    (∀ o ∈ (exits (unionD rb.fall rb.rets)).1, o ∈ obs) ∧
    ((exits (unionD rb.fall rb.rets)).2.all (·.isEmpty) = true ∨ badEnd ∈ obs)

theorem GoodBody.mono {tbl : Table} {obs obs' : List Obs} {b : List Act} (h : GoodBody tbl obs b)
    (ho : ∀ o ∈ obs, o ∈ obs') : GoodBody tbl obs' b := by
  obtain ⟨fa, rb, h1, h2, h3, h4⟩ := h
  exact ⟨fa, rb, h1, fun o h => ho o (h2 o h), fun o h => ho o (h3 o h), h4.imp id (ho _)⟩

/-- every goroutine spawned along a run of `rs` has been analysed, its observations among `obs`. Only where there
is a state to start from: from no states `an` answers with the empty result without looking at the skeleton. -/
def SpawnFor (tbl : Table) (sts : List ASt) (rs : List Run) (obs : List Obs) : Prop :=
  sts ≠ [] → ∀ run ∈ rs, ∀ b ∈ run.spawns, GoodBody tbl obs b

theorem SpawnFor.mono {tbl : Table} {sts : List ASt} {rs : List Run} {o o' : List Obs}
    (h : SpawnFor tbl sts rs o) (ho : ∀ x ∈ o, x ∈ o') : SpawnFor tbl sts rs o' :=
  fun hne run hrun b hb => (h hne run hrun b hb).mono ho

theorem SpawnFor.seq {tbl : Table} {sts : List ASt} {rs1 rs2 : List Run} {o1 o2 o : List Obs}
    {f1 t1 : List ASt}
    (h1 : SpawnFor tbl sts rs1 o1) (hs : SoundFor sts rs1 o1 f1 t1) (h2 : SpawnFor tbl f1 rs2 o2)
    (ho1 : ∀ x ∈ o1, x ∈ o) (ho2 : ∀ x ∈ o2, x ∈ o) :
    SpawnFor tbl sts (seqRuns rs1 rs2) o := by
  intro hne run hrun b hb
  obtain ⟨r1, hr1, ⟨_, rfl⟩ | ⟨hret', r2, hr2, rfl⟩⟩ := mem_seqRuns hrun
  · exact (h1 hne _ hr1 b hb).mono ho1
  · simp only [List.mem_append] at hb
    rcases hb with hb | hb
    · exact (h1 hne _ hr1 b hb).mono ho1
    · cases sts with
      | nil => exact absurd rfl hne
      | cons st sts =>
        have := (hs st (by simp) r1 hr1).2.1 hret'
        have hne1 : f1 ≠ [] := by intro h; rw [h] at this; cases this
        exact (h2 hne1 _ hr2 b hb).mono ho2

theorem spawnFor_nospawn {tbl : Table} {sts : List ASt} {p d : Path} {r : Bool} {obs : List Obs} :
    SpawnFor tbl sts [⟨p, d, r, []⟩] obs := by
  intro _ run hrun b hb
  simp only [List.mem_singleton] at hrun
  subst hrun
  cases hb

theorem spawnFor_iter {tbl : Table} {sts : List ASt} {body : List Run} {o : List Obs} {f t : List ASt}
    (hb : SoundFor sts body o f t) (hsub : ∀ x ∈ f, x ∈ sts) (hsp : SpawnFor tbl sts body o) (i : Nat) :
    SpawnFor tbl sts (iterRuns body i) o := by
  induction i with
  | zero => exact spawnFor_nospawn
  | succ i ih =>
    exact SpawnFor.seq ih (soundFor_iter hb hsub i) hsp (fun _ h => h) (fun _ h => h)

/-- one action, given both facts for the nested action lists -/
theorem anFirst_sound_spawn (tbl : Table) (u fa n : Nat)
    (H : ∀ {sts k r}, an tbl fa sts k = some r →
      SoundFor sts (den tbl u n k) r.obs r.fall r.rets ∧ SpawnFor tbl sts (den tbl u n k) r.obs)
    (sts : List ASt) (a : Act) (r1 : Res) (h : anFirst tbl (an tbl fa) sts a = some r1) :
    SoundFor sts (denFirst tbl u (den tbl u n) a) r1.obs r1.fall r1.rets ∧
      SpawnFor tbl sts (denFirst tbl u (den tbl u n) a) r1.obs := by
  cases a with
  | go b =>
    obtain ⟨rb, hb, rfl⟩ := anFirst_go.mp h
    refine ⟨(soundFor_skip sts [b]).mono (by intro x hx; cases hx) (fun _ h => h) (fun _ h => h), ?_⟩
    intro _ run hrun b' hb'
    simp only [denFirst, List.mem_singleton] at hrun
    subst hrun
    cases List.mem_singleton.mp hb'
    refine ⟨fa, rb, hb, fun o ho => by simp [ho], fun o ho => by simp [ho], ?_⟩
    by_cases hall : (exits (unionD rb.fall rb.rets)).2.all (·.isEmpty) = true
    · exact Or.inl hall
    · right; simp [hall, badEnd]
  | call f =>
    simp only [anFirst, denFirst] at h ⊢
    cases hf : tbl.find f with
    | none =>
      simp only [hf, Option.some.injEq] at h ⊢
      subst h; exact ⟨soundFor_prim sts _, spawnFor_nospawn⟩
    | some body =>
      simp only [hf] at h ⊢
      constructor
      · intro st hst run hrun
        simp only [List.mem_map] at hrun
        obtain ⟨rbody, hrb, rfl⟩ := hrun
        obtain ⟨rb, hrec, ho1, ho2, hfall⟩ := foldCall_spec h st hst
        obtain ⟨a1, e1, e2⟩ := (H hrec).1.body hrb
        refine ⟨?_, ?_, ?_⟩
        · rw [trace_append]
          exact List.forall_mem_append.2 ⟨fun o ho => ho1 o (a1 o ho), fun o ho => ho2 o (e1 o ho)⟩
        · intro _
          simp only [heldAfterPath_append, List.nil_append]
          exact hfall _ e2
        · intro hc; cases hc
      · intro hne run hrun b hb
        simp only [List.mem_map] at hrun
        obtain ⟨rbody, hrb, rfl⟩ := hrun
        cases sts with
        | nil => exact absurd rfl hne
        | cons st sts =>
          obtain ⟨rb, hrec, ho1, _, _⟩ := foldCall_spec h st (by simp)
          exact ((H hrec).2 (by simp) rbody hrb b hb).mono ho1
  | choice alts =>
    simp only [anFirst, denFirst] at h ⊢
    constructor
    · intro st hst run hrun
      simp only [List.mem_flatMap] at hrun
      obtain ⟨alt, halt, hrun⟩ := hrun
      obtain ⟨ra, hrec, ho, hf, ht⟩ := foldChoice_spec h alt halt
      exact ((H hrec).1.mono ho hf ht) st hst run hrun
    · intro hne run hrun b hb
      simp only [List.mem_flatMap] at hrun
      obtain ⟨alt, halt, hrun⟩ := hrun
      obtain ⟨ra, hrec, ho, _, _⟩ := foldChoice_spec h alt halt
      exact ((H hrec).2 hne run hrun b hb).mono ho
  | loop b =>
    obtain ⟨rb, hb, hsub, rfl⟩ := anFirst_loop.mp h
    simp only [denFirst]
    obtain ⟨hs, hp⟩ := H hb
    constructor
    · intro st hst run hrun
      simp only [List.mem_flatMap] at hrun
      obtain ⟨i, _, hrun⟩ := hrun
      exact soundFor_iter hs (subsetD_iff.mp hsub) i st hst run hrun
    · intro hne run hrun b' hb'
      simp only [List.mem_flatMap] at hrun
      obtain ⟨i, _, hrun⟩ := hrun
      exact spawnFor_iter hs (subsetD_iff.mp hsub) hp i hne run hrun b' hb'
  | deferUnlock m | deferRUnlock m =>
    simp only [anFirst, Option.some.injEq] at h; subst h
    exact ⟨soundFor_defer sts _, spawnFor_nospawn⟩
  | slot m | trySend m | tryRecv m | makeChan m n =>
    simp only [anFirst, Option.some.injEq] at h; subst h
    exact ⟨soundFor_skip sts [], spawnFor_nospawn⟩
  | ret =>
    simp only [anFirst, Option.some.injEq] at h; subst h
    exact ⟨soundFor_ret sts, spawnFor_nospawn⟩
  -- the remaining actions are one primitive each
  | _ =>
    simp only [anFirst, Option.some.injEq] at h; subst h
    exact ⟨soundFor_prim sts _, spawnFor_nospawn⟩

/-- **Soundness of the abstract interpreter**, for every fuel of the analysis and of the path semantics and
every loop bound `u`: the runs only make recorded observations and end in recorded states, and every
goroutine spawned along a run has been analysed, its observations being recorded as well. -/
theorem an_sound_spawn (tbl : Table) (u : Nat) : ∀ (n fa : Nat) (sts : List ASt) (k : List Act) (r : Res),
    an tbl fa sts k = some r →
      SoundFor sts (den tbl u n k) r.obs r.fall r.rets ∧ SpawnFor tbl sts (den tbl u n k) r.obs := by
  suffices ∀ fa sts k r, an tbl fa sts k = some r → ∀ n,
      SoundFor sts (den tbl u n k) r.obs r.fall r.rets ∧ SpawnFor tbl sts (den tbl u n k) r.obs from
    fun n fa sts k r h => this fa sts k r h n
  -- without fuel the path semantics has no run
  have zero : ∀ sts k (r : Res),
      SoundFor sts (den tbl u 0 k) r.obs r.fall r.rets ∧ SpawnFor tbl sts (den tbl u 0 k) r.obs :=
    fun _ _ _ => ⟨fun _ _ _ hrun => (nomatch hrun), fun _ _ hrun => (nomatch hrun)⟩
  refine an_induct (fun _ sts n => ?_) (fun _ _ _ _ => ⟨fun _ hst => (nomatch hst), fun hne => absurd rfl hne⟩) ?_
  · cases n with
    | zero => exact zero _ _ _
    | succ n => exact ⟨soundFor_skip sts [], spawnFor_nospawn⟩
  · intro fa st sts a k r1 r2 ih h1 h2 n
    cases n with
    | zero => exact zero _ _ _
    | succ n =>
      simp only [den]
      obtain ⟨s1, p1⟩ := anFirst_sound_spawn tbl u fa n (fun h => ih _ _ _ h n) _ a r1 h1
      obtain ⟨s2, p2⟩ := ih r1.fall k r2 h2 n
      exact ⟨SoundFor.seq s1 s2 (fun x hx => by simp [hx]) (fun x hx => by simp [hx]) (fun _ h => h)
          (fun x hx => mem_unionD.mpr (Or.inl hx)) (fun x hx => mem_unionD.mpr (Or.inr hx)),
        SpawnFor.seq p1 s1 p2 (fun x hx => by simp [hx]) (fun x hx => by simp [hx])⟩

/-! ### from the analysis of a function to its threads -/

/-- `b` is the body of a goroutine spawned, directly or transitively, by some run of `root` -/
inductive Spawned (tbl : Table) (u : Nat) (root : List Act) : List Act → Prop
  | direct {n : Nat} {run : Run} {b : List Act} :
      run ∈ den tbl u n root → b ∈ run.spawns → Spawned tbl u root b
  | trans {n : Nat} {run : Run} {b b' : List Act} :
      Spawned tbl u root b → run ∈ den tbl u n b → b' ∈ run.spawns → Spawned tbl u root b'

/-- `analyse`, read off a successful result -/
theorem analyse_eq_some {tbl : Table} {fuel : Nat} {s : Skel} {obs : List Obs} {ends : List Held} :
    analyse tbl fuel s = some (obs, ends) ↔ ∃ r, an tbl fuel [([], [])] s = some r ∧
      obs = r.obs ++ (exits (unionD r.fall r.rets)).1 ∧ ends = (exits (unionD r.fall r.rets)).2 := by
  unfold analyse
  cases an tbl fuel [([], [])] s with
  | none => exact ⟨nofun, fun ⟨_, h, _⟩ => nomatch h⟩
  | some r =>
    simp only [Option.some.injEq, Prod.mk.injEq]
    exact ⟨fun ⟨h1, h2⟩ => ⟨r, rfl, h1.symm, h2.symm⟩, fun ⟨_, h, h1, h2⟩ => h ▸ ⟨h1.symm, h2.symm⟩⟩

theorem spawned_good {tbl : Table} {u fuel : Nat} {root : List Act} {obs : List Obs} {ends : List Held}
    (ha : analyse tbl fuel root = some (obs, ends)) :
    ∀ b, Spawned tbl u root b → GoodBody tbl obs b := by
  obtain ⟨r, hr, rfl, _⟩ := analyse_eq_some.mp ha
  intro b hb
  induction hb with
  | direct hrun hb =>
    exact ((an_sound_spawn tbl u _ fuel _ root r hr).2 (by simp) _ hrun _ hb).mono
      (fun o ho => List.mem_append_left _ ho)
  | trans _ hrun hb' ih =>
    obtain ⟨fa, rb, hrb, h1, _, _⟩ := ih
    exact ((an_sound_spawn tbl u _ fa _ _ rb hrb).2 (by simp) _ hrun _ hb').mono h1

/-- paths of an analysed body: every dynamic observation is recorded and the final lock set is among
the computed ends -/
theorem body_paths_sound {tbl : Table} {u fa n : Nat} {b : List Act} {rb : Res}
    (h : an tbl fa [([], [])] b = some rb) :
    ∀ p ∈ bodyPaths tbl u n b,
      (∀ o ∈ trace [] p, o ∈ rb.obs ∨ o ∈ (exits (unionD rb.fall rb.rets)).1) ∧
      heldAfterPath [] p ∈ (exits (unionD rb.fall rb.rets)).2 := by
  intro p hp
  simp only [bodyPaths, List.mem_map] at hp
  obtain ⟨run, hrun, rfl⟩ := hp
  obtain ⟨a1, e1, e2⟩ := (an_sound_spawn tbl u n fa _ b rb h).1.body hrun
  constructor
  · rw [trace_append]
    exact List.forall_mem_append.2 ⟨fun o ho => Or.inl (a1 o ho), fun o ho => Or.inr (e1 o ho)⟩
  · rw [heldAfterPath_append]; exact e2

/-- The threads of one invocation of `root`: the invoking goroutine and every goroutine spawned
(transitively) along some run. `IsThreadPath tbl u root p`: `p` is a complete path of one of them. -/
def IsThreadPath (tbl : Table) (u : Nat) (root : List Act) (p : Path) : Prop :=
  (∃ n, p ∈ bodyPaths tbl u n root) ∨ ∃ b n, Spawned tbl u root b ∧ p ∈ bodyPaths tbl u n b

/-- every dynamic observation of every thread of `root` is among the analysed observations, and every
thread ends with one of the computed lock sets, or with none held (a spawned goroutine that passed the check), or
the "ends holding a lock" marker is recorded -/
theorem thread_paths_sound {tbl : Table} {u fuel : Nat} {root : List Act} {obs : List Obs} {ends : List Held}
    (ha : analyse tbl fuel root = some (obs, ends)) (p : Path) (hp : IsThreadPath tbl u root p) :
    (∀ o ∈ trace [] p, o ∈ obs) ∧ (heldAfterPath [] p ∈ ends ∨ heldAfterPath [] p = [] ∨ badEnd ∈ obs) := by
  rcases hp with ⟨n, hp⟩ | ⟨b, n, hsp, hp⟩
  · obtain ⟨r, hr, rfl, rfl⟩ := analyse_eq_some.mp ha
    obtain ⟨h1, h2⟩ := body_paths_sound (u := u) (n := n) hr p hp
    exact ⟨fun o ho => List.mem_append.mpr (h1 o ho), Or.inl h2⟩
  · obtain ⟨fa, rb, hrb, g1, g2, g3⟩ := spawned_good (u := u) ha b hsp
    obtain ⟨h1, h2⟩ := body_paths_sound (u := u) (n := n) hrb p hp
    refine ⟨?_, ?_⟩
    · intro o ho
      rcases h1 o ho with h | h
      · exact g1 o h
      · exact g2 o h
    · rcases g3 with g3 | g3
      · right; left
        have := List.all_eq_true.mp g3 _ h2
        simpa using this
      · exact Or.inr (Or.inr g3)

/-! ### from the decidable criteria to the path properties used by the interleaving theorems -/

/-- a well-formed function is lock-balanced (`obsWf` rejects every `bad` observation, `obsBalanced` one) -/
theorem lockBalanced_of_wellFormed {c : Cfg} {s : Skel} : wellFormed c s = true → lockBalanced c s = true := by
  unfold wellFormed lockBalanced
  cases analyse c.tbl fuelDefault s with
  | none => exact id
  | some r =>
    simp only [Bool.and_eq_true]
    refine fun h => ⟨Tables.all_imp h.1 fun o ho => ?_, h.2⟩
    obtain ⟨held, a⟩ := o
    cases a with
    | bad _ => cases ho
    | _ => exact ho

/-- every complete path of a lock-balanced function — calls inlined to any depth, loops iterated up to any
bound — and every path of a goroutine it spawns ends holding no lock -/
theorem balanced_paths_end_unlocked {c : Cfg} {s : Skel} (h : lockBalanced c s = true) {u : Nat} {p : Path}
    (hp : IsThreadPath c.tbl u s p) : heldAfterPath [] p = [] := by
  unfold lockBalanced at h
  cases ha : analyse c.tbl fuelDefault s with
  | none => simp [ha] at h
  | some r =>
    obtain ⟨obs, ends⟩ := r
    simp only [ha, Bool.and_eq_true, List.all_eq_true] at h
    rcases (thread_paths_sound ha p hp).2 with hin | hnil | hbad
    · simpa using h.2 _ hin
    · exact hnil
    · have := h.1 _ hbad
      simp [badEnd, obsBalanced] at this

/-- the deadlock criteria of a skeleton hold for every path of every thread of it -/
theorem deadlockCriteria_paths (c : Cfg) (s : Skel) (h : deadlockCriteria c s = true) (u : Nat)
    (p : Path) (hp : IsThreadPath c.tbl u s p) : pathOk c.order p = true := by
  have hend := balanced_paths_end_unlocked (lockBalanced_of_wellFormed (by
    simp only [deadlockCriteria, Bool.and_eq_true] at h; exact h.1.1.1)) hp
  simp only [deadlockCriteria, wellFormed, noReentrantAcquire, lockOrderOk, noBlockingInCS, Bool.and_eq_true] at h
  cases ha : analyse c.tbl fuelDefault s with
  | none => simp [ha] at h
  | some r =>
    obtain ⟨obs, ends⟩ := r
    simp only [ha, Bool.and_eq_true, List.all_eq_true] at h
    obtain ⟨⟨⟨⟨hwf, _⟩, hre⟩, hord⟩, hblk⟩ := h
    have h1 := (thread_paths_sound (u := u) ha p hp).1
    simp only [pathOk, pathOkFrom, Bool.and_eq_true, List.all_eq_true, hend, List.isEmpty_nil, and_true]
    intro o ho
    have := h1 o ho
    simp only [obsDl, Bool.and_eq_true]
    exact ⟨⟨⟨hwf o this, hre o this⟩, hord o this⟩, hblk o this⟩

/-- the lockset criterion of a skeleton holds for every path of every thread of it -/
theorem locksetOk_paths (c : Cfg) (s : Skel) (hw : wellFormed c s = true) (h : locksetOk c s = true)
    (u : Nat) (p : Path) (hp : IsThreadPath c.tbl u s p) : pathLs c.guards p = true := by
  simp only [wellFormed, locksetOk] at hw h
  cases ha : analyse c.tbl fuelDefault s with
  | none => simp [ha] at h
  | some r =>
    obtain ⟨obs, ends⟩ := r
    simp only [ha, Bool.and_eq_true, List.all_eq_true] at hw h
    obtain ⟨h1, _⟩ := thread_paths_sound (u := u) ha p hp
    simp only [pathLs, pathLsFrom, List.all_eq_true, Bool.and_eq_true]
    intro o ho
    exact ⟨hw.1 o (h1 o ho), h o (h1 o ho)⟩

end LiskVerif.Locks
