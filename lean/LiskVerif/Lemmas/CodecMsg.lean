/-
Message-level lemmas for the codec model: readers positioned before an encoded body, one lemma per
primitive read ("reading what was written"), field lists reading back with an explicit fuel bound
(`FieldRT`, `FieldsRT`), from there the round trip of flat structs and of one level of nesting
(`decodeNested_put`, `fieldRT_msg`), the converse ("what was read had been written": `Canon`, canonical
strict decoding of flat structs), and absent fields read as their defaults.
-/
import LiskVerif.Lemmas.Varint
import LiskVerif.Lemmas.CodecTotal

namespace LiskVerif.Codec

/-! ### readers and suffixes -/

/-- advance the reader by `k` bytes -/
def Reader.adv (r : Reader) (k : Nat) : Reader := { r with index := r.index + k }

@[simp] theorem Reader.adv_data (r : Reader) (k : Nat) : (r.adv k).data = r.data := rfl
@[simp] theorem Reader.adv_stop (r : Reader) (k : Nat) : (r.adv k).stop = r.stop := rfl
@[simp] theorem Reader.adv_index (r : Reader) (k : Nat) : (r.adv k).index = r.index + k := rfl

theorem Reader.adv_adv (r : Reader) (a b : Nat) : (r.adv a).adv b = r.adv (a + b) := by
  simp [Reader.adv, Nat.add_assoc]

theorem Reader.adv_zero (r : Reader) : r.adv 0 = r := rfl

/-- the reader is positioned before `body`, and `body` is exactly what lies before `stop` -/
def Reader.Holds (r : Reader) (body : Bytes) : Prop :=
  ∃ junk, r.suffix = body ++ junk ∧ r.stop = (r.index : Int) + body.length

theorem Reader.Holds.adv {r : Reader} {X tail : Bytes} (h : r.Holds (X ++ tail)) :
    (r.adv X.length).Holds tail := by
  obtain ⟨junk, hs, hst⟩ := h
  refine ⟨junk, ?_, ?_⟩
  · unfold Reader.suffix at *
    simp only [Reader.adv_data, Reader.adv_index]
    rw [← List.drop_drop, hs]
    simp [List.append_assoc]
  · simp only [Reader.adv_stop, Reader.adv_index, hst, List.length_append]
    push_cast
    omega

theorem Reader.Holds.new (data : Bytes) : (Reader.new data).Holds data :=
  ⟨[], by simp [Reader.new, Reader.suffix], by simp [Reader.new]⟩

theorem Reader.Holds.lt_stop {r : Reader} {body : Bytes} (h : r.Holds body) (hne : body ≠ []) :
    (r.index : Int) < r.stop := by
  obtain ⟨junk, _, hst⟩ := h
  have : 0 < body.length := List.length_pos_iff.mpr hne
  omega

theorem Reader.Holds.ge_stop {r : Reader} (h : r.Holds []) : (r.index : Int) ≥ r.stop := by
  obtain ⟨junk, _, hst⟩ := h
  simp at hst
  omega

theorem Reader.Holds.length_le {r : Reader} {body : Bytes} (h : r.Holds body) :
    body.length ≤ r.data.length := by
  obtain ⟨junk, hs, _⟩ := h
  have := congrArg List.length hs
  simp [Reader.suffix] at this
  omega

theorem Reader.Holds.index_le {r : Reader} {body : Bytes} (h : r.Holds body) (hne : body ≠ []) :
    r.index + body.length ≤ r.data.length := by
  obtain ⟨junk, hs, _⟩ := h
  have := congrArg List.length hs
  have hp : 0 < body.length := List.length_pos_iff.mpr hne
  simp [Reader.suffix] at this
  omega

theorem Reader.Holds.index_le_put {r : Reader} {n : Nat} {rest : Bytes}
    (h : r.Holds (putUvarint n ++ rest)) :
    r.index + (putUvarint n).length + rest.length ≤ r.data.length := by
  have hp := putUvarint_length_pos n
  have := h.index_le fun hc => by
    have := congrArg List.length hc
    simp only [List.length_append, List.length_nil] at this
    omega
  simp only [List.length_append] at this
  omega

/-! ### reading what was written: primitives -/

theorem Reader.readUInt_put {r : Reader} {n : Nat} {tail : Bytes} (hn : n < 2 ^ 64)
    (h : r.Holds (putUvarint n ++ tail)) :
    r.readUInt = .ok (n, r.adv (putUvarint n).length) := by
  obtain ⟨junk, hs, _⟩ := h
  unfold Reader.readUInt
  rw [hs, List.append_assoc, readUint_putUvarint n hn _]
  rfl

theorem readKey_mk {num wt : Nat} (hwt : wt = 0 ∨ wt = 2) : readKey (num * 8 + wt) = .ok (num, wt) := by
  unfold readKey
  have h1 : (num * 8 + wt) % 8 = wt := by omega
  have h2 : (num * 8 + wt) / 8 = num := by omega
  simp only [h1, h2]
  rcases hwt with rfl | rfl <;> simp

theorem writeKey_ne_nil (wt num : Nat) : writeKey wt num ≠ [] := by
  intro h
  have := putUvarint_length_pos (num * 8 + wt)
  unfold writeKey at h
  rw [h] at this
  simp at this

/-- the expected key is there -/
theorem Reader.check_key {r : Reader} {num wt : Nat} {tail : Bytes} (hwt : wt = 0 ∨ wt = 2)
    (hk : num * 8 + wt < 2 ^ 64) (h : r.Holds (writeKey wt num ++ tail)) :
    r.check num wt = .ok (r.adv (writeKey wt num).length) := by
  have hlt := h.lt_stop (by simp [writeKey_ne_nil])
  rw [Reader.check_eq, if_neg (by omega), writeKey, Reader.readUInt_put hk h]
  simp [Except.bind, readKey_mk hwt]

/-- another field's key is there -/
theorem Reader.check_other {r : Reader} {num wt num' wt' : Nat} {tail : Bytes} (hwt : wt' = 0 ∨ wt' = 2)
    (hk : num' * 8 + wt' < 2 ^ 64) (hne : num' ≠ num) (h : r.Holds (writeKey wt' num' ++ tail)) :
    r.check num wt = .error .unexpectedFieldNumber := by
  have hlt := h.lt_stop (by simp [writeKey_ne_nil])
  rw [Reader.check_eq, if_neg (by omega), Reader.readUInt_put hk h]
  simp [Except.bind, readKey_mk hwt, hne]

theorem Reader.check_end {r : Reader} {num wt : Nat} (h : r.Holds []) :
    r.check num wt = .error .fieldNumberNotFound := by
  have := h.ge_stop
  unfold Reader.check
  simp [this]

/-- what follows an array field `num`: the end, or the key of a later field -/
def TailOK (num : Nat) (tail : Bytes) : Prop :=
  tail = [] ∨ ∃ num' wt rest, num < num' ∧ num' * 8 + wt < 2 ^ 64 ∧ (wt = 0 ∨ wt = 2) ∧
    tail = writeKey wt num' ++ rest

theorem TailOK.mono {a b : Nat} {tail : Bytes} (h : TailOK b tail) (hab : a ≤ b) : TailOK a tail := by
  rcases h with h | ⟨n, wt, rest, h1, h2, h3, h4⟩
  · exact Or.inl h
  · exact Or.inr ⟨n, wt, rest, by omega, h2, h3, h4⟩

/-- before such a tail the check fails with one of the two errors that mean "field absent" -/
theorem Reader.check_tail {r : Reader} {num wt : Nat} {tail : Bytes} (ht : TailOK num tail)
    (h : r.Holds tail) : ∃ e, r.check num wt = .error e ∧ strictErr e = true := by
  rcases ht with rfl | ⟨n, wt', rest, h1, h2, h3, rfl⟩
  · exact ⟨_, Reader.check_end h, rfl⟩
  · exact ⟨_, Reader.check_other h3 h2 (by omega) h, rfl⟩

theorem Reader.enter_key {r : Reader} {num wt : Nat} {tail : Bytes} (st : Bool) (hwt : wt = 0 ∨ wt = 2)
    (hk : num * 8 + wt < 2 ^ 64) (h : r.Holds (writeKey wt num ++ tail)) :
    r.enter num wt st = .ok (some (r.adv (writeKey wt num).length)) := by
  unfold Reader.enter
  rw [Reader.check_key hwt hk h]

theorem Reader.enter_tail {r : Reader} {num wt : Nat} {tail : Bytes} (ht : TailOK num tail)
    (h : r.Holds tail) : r.enter num wt false = .ok none := by
  obtain ⟨e, he, hs⟩ := Reader.check_tail (wt := wt) ht h
  simp [Reader.enter, he, hs]

theorem Reader.enterArr_key {r : Reader} {num wt : Nat} {tail : Bytes} (hwt : wt = 0 ∨ wt = 2)
    (hk : num * 8 + wt < 2 ^ 64) (h : r.Holds (writeKey wt num ++ tail)) :
    r.enterArr num wt = .ok (some (r.adv (writeKey wt num).length)) :=
  (r.enterArr_eq_enter num wt).trans (Reader.enter_key false hwt hk h)

theorem Reader.enterArr_tail {r : Reader} {num wt : Nat} {tail : Bytes} (ht : TailOK num tail)
    (h : r.Holds tail) : r.enterArr num wt = .ok none :=
  (r.enterArr_eq_enter num wt).trans (Reader.enter_tail ht h)

theorem Reader.readBool_put {r : Reader} {b : Bool} {tail : Bytes}
    (h : r.Holds ((if b then (1 : UInt8) else 0) :: tail)) :
    r.readBool = .ok (b, r.adv 1) := by
  obtain ⟨junk, hs, _⟩ := h
  unfold Reader.readBool
  have hx := congrArg (·[0]?) hs
  simp only [Reader.suffix, List.getElem?_drop, Nat.add_zero, List.cons_append,
    List.getElem?_cons_zero] at hx
  rw [hx]
  cases b <;> simp [Reader.adv]

theorem Reader.readBytes_put {r : Reader} {b tail : Bytes} (hb : b.length < 2 ^ 64)
    (h : r.Holds (writeBytes b ++ tail)) :
    r.readBytes = .ok (b, r.adv (writeBytes b).length) := by
  unfold writeBytes at h ⊢
  rw [List.append_assoc] at h
  unfold Reader.readBytes
  rw [Reader.readUInt_put hb h]
  obtain ⟨junk, hs, _⟩ := h.adv
  simp only [Reader.suffix, Reader.adv_data, Reader.adv_index] at hs
  have hl := congrArg List.length hs
  simp only [List.length_drop, List.length_append] at hl
  have hsz : ¬ (b.length > r.data.length - (r.index + (putUvarint b.length).length)) := by omega
  simp only [Reader.adv_data, Reader.adv_index, hsz, if_false, hs]
  simp [Reader.adv, Nat.add_assoc]

theorem Reader.readString_put {r : Reader} {nfc : NFC} {b tail : Bytes} (hb : b.length < 2 ^ 64)
    (hu : utf8Valid b = true) (hn : nfc.normal b = true)
    (h : r.Holds (writeBytes b ++ tail)) :
    r.readString nfc = .ok (b, r.adv (writeBytes b).length) := by
  unfold Reader.readString
  rw [Reader.readBytes_put hb h]
  simp [hu, hn]

/-! ### arrays -/

def encBytesArr (num : Nat) (l : List Bytes) : Bytes :=
  (l.map fun b => writeKey 2 num ++ writeBytes b).flatten

def encPacked (l : List Nat) : Bytes := (l.map putUvarint).flatten

theorem encBytesArr_length_ge (num : Nat) (l : List Bytes) : l.length ≤ (encBytesArr num l).length :=
  length_le_of_weights (size := fun l => (encBytesArr num l).length)
    (w := fun b => (writeKey 2 num ++ writeBytes b).length) (fun _ _ => by simp [encBytesArr, Nat.add_assoc])
    (fun _ => by have := putUvarint_length_pos (num * 8 + 2); simp only [writeKey, List.length_append]; omega) l

theorem encPacked_length_ge (l : List Nat) : l.length ≤ (encPacked l).length :=
  length_le_of_weights (size := fun l => (encPacked l).length) (w := fun n => (putUvarint n).length)
    (fun _ _ => by simp [encPacked]) putUvarint_length_pos l

theorem readBytesArray_put (num : Nat) (hk : num * 8 + 2 < 2 ^ 64) :
    ∀ (l : List Bytes) (fuel : Nat) (r : Reader) (acc : List Bytes) (tail : Bytes),
    (∀ b ∈ l, b.length < 2 ^ 64) → l.length < fuel → TailOK num tail →
    r.Holds (encBytesArr num l ++ tail) →
    readBytesArray fuel r num acc = .ok (acc ++ l, r.adv (encBytesArr num l).length) := by
  intro l
  induction l with
  | nil =>
    intro fuel r acc tail _ hf ht h
    obtain ⟨fuel, rfl⟩ : ∃ f, fuel = f + 1 := ⟨fuel - 1, by simp at hf; omega⟩
    simp only [encBytesArr, List.map_nil, List.flatten_nil, List.nil_append, List.length_nil] at h ⊢
    unfold readBytesArray
    rw [Reader.enterArr_tail ht h]
    simp [Reader.adv_zero]
  | cons b l ih =>
    intro fuel r acc tail hb hf ht h
    obtain ⟨fuel, rfl⟩ : ∃ f, fuel = f + 1 := ⟨fuel - 1, by simp at hf; omega⟩
    have hbl : b.length < 2 ^ 64 := hb b (by simp)
    have e : encBytesArr num (b :: l) = writeKey 2 num ++ (writeBytes b ++ encBytesArr num l) := by
      simp [encBytesArr]
    rw [e] at h ⊢
    simp only [List.append_assoc] at h
    have hlt := h.lt_stop (by simp [writeKey_ne_nil])
    unfold readBytesArray
    simp only [hlt, if_true]
    rw [Reader.enterArr_key (Or.inr rfl) hk h]
    simp only
    rw [Reader.readBytes_put hbl h.adv]
    simp only
    rw [ih fuel _ (acc ++ [b]) tail (fun x hx => hb x (by simp [hx])) (by simp at hf; omega) ht h.adv.adv]
    simp [Reader.adv_adv, Nat.add_assoc]

theorem readPackedUInts_put :
    ∀ (l : List Nat) (fuel : Nat) (r : Reader) (stop : Int) (acc : List Nat) (tail : Bytes),
    (∀ n ∈ l, n < 2 ^ 64) → l.length < fuel →
    r.Holds (encPacked l ++ tail) → stop = (r.index : Int) + (encPacked l).length →
    readPackedUInts fuel r stop acc = .ok (acc ++ l, r.adv (encPacked l).length) := by
  intro l
  induction l with
  | nil =>
    intro fuel r stop acc tail _ hf h hs
    obtain ⟨fuel, rfl⟩ : ∃ f, fuel = f + 1 := ⟨fuel - 1, by simp at hf; omega⟩
    simp only [encPacked, List.map_nil, List.flatten_nil, List.length_nil] at hs ⊢
    unfold readPackedUInts
    have : ¬ ((r.index : Int) < stop) := by omega
    simp [this, Reader.adv_zero]
  | cons n l ih =>
    intro fuel r stop acc tail hn hf h hs
    obtain ⟨fuel, rfl⟩ : ∃ f, fuel = f + 1 := ⟨fuel - 1, by simp at hf; omega⟩
    have e : encPacked (n :: l) = putUvarint n ++ encPacked l := by simp [encPacked]
    rw [e] at h hs ⊢
    simp only [List.append_assoc] at h
    have hpos := putUvarint_length_pos n
    have hlt : (r.index : Int) < stop := by
      rw [hs]; simp only [List.length_append]; push_cast; omega
    unfold readPackedUInts
    simp only [hlt, if_true]
    rw [Reader.readUInt_put (hn n (by simp)) h]
    simp only
    rw [ih fuel _ stop (acc ++ [n]) tail (fun x hx => hn x (by simp [hx])) (by simp at hf; omega) h.adv
      (by rw [hs]; simp only [List.length_append, Reader.adv_index]; push_cast; omega)]
    simp [Reader.adv_adv]

/-! ### one field -/

/-- the value has the Go type of the field (and is something the node itself would encode) -/
def typedVal (nfc : NFC) : Kind → Value → Bool
  | .uint, .uint n => decide (n < 2 ^ 64)
  | .uint32, .uint n => decide (n < 2 ^ 32)
  | .int32, .int i => decide (-2 ^ 31 ≤ i ∧ i < 2 ^ 31)
  | .bool, .bool _ => true
  | .bytes, .bytes b => decide (b.length < 2 ^ 63)
  | .string, .bytes b =>
    decide (b.length < 2 ^ 63) && utf8Valid b && nfc.normal b && decide (nfc.normalize b = b)
  | .bytesArr, .bytesArr l => l.all fun b => decide (b.length < 2 ^ 63)
  | .uints, .uints l => l.all (fun n => decide (n < 2 ^ 64)) && decide ((encPacked l).length < 2 ^ 63)
  | _, _ => false

/-- the bytes `encodeFields` writes for one field (the `here` of the model) -/
def encField (t : Table) (nfc : NFC) (fuel : Nat) (f : Field) (v : Value) : Bytes :=
  match f.kind, v with
  | .uint, .uint n => writeKey 0 f.num ++ putUvarint n
  | .uint32, .uint n => writeKey 0 f.num ++ putUvarint n
  | .int32, .int i => writeKey 0 f.num ++ putUvarint (zigzag i)
  | .bool, .bool b => writeKey 0 f.num ++ [if b then 1 else 0]
  | .bytes, .bytes b => writeKey 2 f.num ++ writeBytes b
  | .string, .bytes b => writeKey 2 f.num ++ writeBytes (nfc.normalize b)
  | .bytesArr, .bytesArr l => encBytesArr f.num l
  | .uints, .uints l => if l.isEmpty then [] else writeKey 2 f.num ++ writeBytes (encPacked l)
  | .msg name, .msg present vals =>
    if !present then [] else
    match fuel, t.find name with
    | fuel' + 1, some s => writeKey 2 f.num ++ writeBytes (encodeFields t nfc fuel' s.enc vals)
    | _, _ => []
  | .msgArr name, .msgArr l =>
    match fuel, t.find name with
    | fuel' + 1, some s =>
      (l.map fun vals => writeKey 2 f.num ++ writeBytes (encodeFields t nfc fuel' s.enc vals)).flatten
    | _, _ => []
  | _, _ => []

theorem encodeFields_cons (t : Table) (nfc : NFC) (ef : Nat) (f : Field) (fs : List Field) (v : Value)
    (vs : List Value) :
    encodeFields t nfc ef (f :: fs) (v :: vs) =
      encField t nfc ef f v ++ encodeFields t nfc ef fs vs := by
  conv => lhs; unfold encodeFields
  rfl

theorem zigzag_lt (i : Int) (h1 : -2 ^ 31 ≤ i) (h2 : i < 2 ^ 31) : zigzag i < 2 ^ 64 := by
  unfold zigzag; split <;> omega

theorem toInt32_zigzag (i : Int) (h1 : -2 ^ 31 ≤ i) (h2 : i < 2 ^ 31) : toInt32 (zigzag i) = i := by
  unfold toInt32
  rw [unzigzag_zigzag]
  simp only
  split <;> omega

theorem wrapInt64_id (i : Int) (h1 : -2 ^ 63 ≤ i) (h2 : i < 2 ^ 63) : wrapInt64 i = i := by
  unfold wrapInt64; omega

/-- the bytes of a scalar value after its key -/
def encScalar (nfc : NFC) : Kind → Value → Bytes
  | .uint, .uint n => putUvarint n
  | .uint32, .uint n => putUvarint n
  | .int32, .int i => putUvarint (zigzag i)
  | .bool, .bool b => [if b then 1 else 0]
  | .bytes, .bytes b => writeBytes b
  | .string, .bytes b => writeBytes (nfc.normalize b)
  | _, _ => []

theorem encField_scalar (t : Table) (nfc : NFC) (ef : Nat) {f : Field} {v : Value}
    (hs : scalarKind f.kind = true) (hty : typedVal nfc f.kind v = true) :
    encField t nfc ef f v = writeKey (wireType f.kind) f.num ++ encScalar nfc f.kind v := by
  obtain ⟨num, kind, st⟩ := f
  cases kind <;> cases v <;> first | rfl | (cases hs; done) | cases hty

theorem encField_bytesArr (t : Table) (nfc : NFC) (ef : Nat) {f : Field} (hk : f.kind = .bytesArr)
    (l : List Bytes) : encField t nfc ef f (.bytesArr l) = encBytesArr f.num l := by
  unfold encField; rw [hk]

/-- a well-typed scalar value is read back from its bytes -/
theorem readScalar_put {nfc : NFC} {k : Kind} {v : Value} {r : Reader} {tail : Bytes}
    (hs : scalarKind k = true) (hty : typedVal nfc k v = true)
    (h : r.Holds (encScalar nfc k v ++ tail)) :
    readScalar nfc k r = .ok (v, r.adv (encScalar nfc k v).length) := by
  cases k <;> cases v <;> first | (cases hs; done) | (cases hty; done) | skip
  all_goals simp only [typedVal, Bool.and_eq_true, decide_eq_true_eq] at hty
  all_goals simp only [encScalar] at h ⊢
  all_goals simp only [readScalar]
  · rw [Reader.readUInt_put hty h]; rfl
  · rw [Reader.readUInt_put (by omega) h, valueOf, Nat.mod_eq_of_lt hty]
  · rw [Reader.readUInt_put (zigzag_lt _ hty.1 hty.2) h, valueOf, toInt32_zigzag _ hty.1 hty.2]
  · rw [Reader.readBool_put h]; rfl
  · rw [Reader.readBytes_put (by omega) h]; rfl
  · obtain ⟨⟨⟨hb, hu⟩, hn⟩, he⟩ := hty
    rw [he] at h ⊢
    rw [Reader.readString_put (by omega) hu hn h]; rfl

/-- A reader placed before the bytes of one flat field (followed by the end or a later field) reads the
well-typed value back and stops behind them. By shape of field; the packed array is the long case: its
`end` is computed in Go `int` arithmetic, which is exact only because the buffer is shorter than 2^63. -/
theorem decodeField_put (t : Table) (nfc : NFC) (ef fuel : Nat) (f : Field) (v : Value) (r : Reader)
    (tail : Bytes) (hk : flatKind f.kind = true) (hnum : f.num * 8 + 2 < 2 ^ 64)
    (hty : typedVal nfc f.kind v = true) (hd : f.kind = .uints → r.data.length < 2 ^ 63)
    (ht : TailOK f.num tail)
    (h : r.Holds (encField t nfc ef f v ++ tail)) :
    decodeField t nfc (fuel + 1) f r = .ok (v, r.adv (encField t nfc ef f v).length) := by
  cases hk' : f.kind with
  | bytesArr =>
    rw [hk'] at hty
    cases v <;> first | cases hty | skip
    rename_i l
    rw [encField_bytesArr t nfc ef hk'] at h ⊢
    simp only [typedVal, List.all_eq_true, decide_eq_true_eq] at hty
    rw [decodeField_bytesArr t nfc fuel r hk', readBytesArray_put f.num hnum l _ r [] tail
      (fun b hb => by have := hty b hb; omega)
      (by have h1 := encBytesArr_length_ge f.num l
          have h2 := h.length_le
          rw [List.length_append] at h2
          omega) ht h]
    rfl
  | uints =>
    rw [hk'] at hty
    cases v <;> first | cases hty | skip
    rename_i l
    simp only [typedVal, Bool.and_eq_true, List.all_eq_true, decide_eq_true_eq] at hty
    obtain ⟨hl, hlen⟩ := hty
    rw [decodeField_uints t nfc fuel r hk']
    cases l with
    | nil =>
      have e : encField t nfc ef f (.uints []) = [] := by unfold encField; rw [hk']; rfl
      rw [e] at h ⊢
      rw [Reader.enterArr_tail ht h]
      rfl
    | cons n l =>
      have e : encField t nfc ef f (.uints (n :: l)) =
          writeKey 2 f.num ++ (putUvarint (encPacked (n :: l)).length ++ encPacked (n :: l)) := by
        unfold encField; rw [hk']; rfl
      rw [e] at h ⊢
      rw [List.append_assoc] at h
      rw [Reader.enterArr_key (Or.inr rfl) hnum h]
      have h1 := h.adv
      rw [List.append_assoc] at h1
      simp only [Except.bind]
      rw [Reader.readUInt_put (by omega) h1]
      have h2 := h1.adv
      have hpl := encPacked_length_ge (n :: l)
      have hidx := h1.index_le_put
      have hdl := h.length_le
      have hd := hd hk'
      simp only [Reader.adv_data, Reader.adv_index, List.length_append] at hidx hdl
      have hnl : ¬ ((encPacked (n :: l)).length ≥ 2 ^ 63) := by omega
      simp only [packedStop, hnl, if_false, Reader.adv_index]
      rw [wrapInt64_id _ (by omega) (by push_cast; omega),
        readPackedUInts_put (n :: l) _ _ _ [] tail hl (by omega) h2 (by simp)]
      simp [Reader.adv_adv, Nat.add_assoc]
  | msg _ => rw [hk'] at hk; cases hk
  | msgArr _ => rw [hk'] at hk; cases hk
  | unknown _ => rw [hk'] at hk; cases hk
  | _ =>
    have hs : scalarKind f.kind = true := by rw [hk']; rfl
    have hwt : wireType f.kind = 0 ∨ wireType f.kind = 2 := by rw [hk']; first | exact Or.inl rfl | exact Or.inr rfl
    rw [encField_scalar t nfc ef hs hty] at h ⊢
    rw [List.append_assoc] at h
    rw [decodeField_scalar t nfc fuel r hs,
      Reader.enter_key f.strict hwt (by rcases hwt with e | e <;> rw [e] <;> omega) h]
    simp only [Except.bind]
    rw [readScalar_put hs hty h.adv, Reader.adv_adv, List.length_append]

/-! ### a list of fields -/

/-- one field's bytes are empty or start with that field's key -/
theorem encField_shape (t : Table) (nfc : NFC) (ef : Nat) (f : Field) (v : Value) :
    encField t nfc ef f v = [] ∨
      ∃ wt rest, (wt = 0 ∨ wt = 2) ∧ encField t nfc ef f v = writeKey wt f.num ++ rest := by
  obtain ⟨num, kind, st⟩ := f
  cases kind <;> cases v <;>
    first
    | exact Or.inl rfl
    | exact Or.inr ⟨0, _, Or.inl rfl, rfl⟩
    | exact Or.inr ⟨2, _, Or.inr rfl, rfl⟩
    | skip
  all_goals unfold encField
  all_goals simp only
  · rename_i l
    cases l with
    | nil => exact Or.inl rfl
    | cons b l => exact Or.inr ⟨2, _, Or.inr rfl, by simp [encBytesArr]; rfl⟩
  · rename_i l
    cases l with
    | nil => exact Or.inl rfl
    | cons b l => exact Or.inr ⟨2, _, Or.inr rfl, by simp; rfl⟩
  · split
    · exact Or.inl rfl
    · split
      · exact Or.inr ⟨2, _, Or.inr rfl, rfl⟩
      · exact Or.inl rfl
  · rename_i l
    split
    · cases l with
      | nil => exact Or.inl rfl
      | cons b l => exact Or.inr ⟨2, _, Or.inr rfl, by simp; rfl⟩
    · exact Or.inl rfl

/-- field numbers strictly increase and exceed `lo` -/
def fieldsAbove : Nat → List Field → Bool
  | _, [] => true
  | lo, f :: fs => decide (lo < f.num) && fieldsAbove f.num fs

theorem fieldsAbove_mono {a b : Nat} (hab : a ≤ b) : ∀ {fs : List Field}, fieldsAbove b fs = true →
    fieldsAbove a fs = true := by
  intro fs h
  cases fs with
  | nil => rfl
  | cons f fs =>
    simp only [fieldsAbove, Bool.and_eq_true, decide_eq_true_eq] at h ⊢
    exact ⟨by omega, h.2⟩

theorem encodeFields_nil_left (t : Table) (nfc : NFC) (ef : Nat) (vs : List Value) :
    encodeFields t nfc ef [] vs = [] := by
  unfold encodeFields; rfl

theorem encodeFields_nil_right (t : Table) (nfc : NFC) (ef : Nat) (fs : List Field) :
    encodeFields t nfc ef fs [] = [] := by
  cases fs <;> (unfold encodeFields; rfl)

theorem tailOK_encodeFields (t : Table) (nfc : NFC) (ef : Nat) :
    ∀ (fs : List Field) (vs : List Value) (lo : Nat), fieldsAbove lo fs = true →
    (∀ f ∈ fs, f.num * 8 + 2 < 2 ^ 64) → TailOK lo (encodeFields t nfc ef fs vs) := by
  intro fs
  induction fs with
  | nil => intro vs lo _ _; left; exact encodeFields_nil_left t nfc ef vs
  | cons f fs ih =>
    intro vs lo hs hb
    cases vs with
    | nil => left; exact encodeFields_nil_right t nfc ef _
    | cons v vs =>
      simp only [fieldsAbove, Bool.and_eq_true, decide_eq_true_eq] at hs
      rw [encodeFields_cons]
      rcases encField_shape t nfc ef f v with e | ⟨wt, rest, hwt, e⟩
      · rw [e, List.nil_append]
        exact (ih vs f.num hs.2 (fun g hg => hb g (by simp [hg]))).mono (by omega)
      · rw [e, List.append_assoc]
        have := hb f (by simp)
        exact Or.inr ⟨f.num, wt, _, hs.1, by omega, hwt, rfl⟩

/-! ### reading back what was written, with an explicit fuel bound -/

section roundtrip
variable (t : Table) (nfc : NFC) (ef : Nat) (D : Bytes → Prop)

/-- With fuel at least `F`, a reader over a buffer satisfying `D` that is placed before
`encField f v ++ tail` (`tail` empty or starting with the key of a later field) reads `v` and stops
before `tail`. -/
def FieldRT (F : Nat) (f : Field) (v : Value) : Prop :=
  ∀ (fuel : Nat) (r : Reader) (tail : Bytes), F ≤ fuel → D r.data → TailOK f.num tail →
    r.Holds (encField t nfc ef f v ++ tail) →
    decodeField t nfc fuel f r = .ok (v, r.adv (encField t nfc ef f v).length)

/-- … and a reader holding exactly `encodeFields fs vs` reads `vs` and reaches its end -/
def FieldsRT (F : Nat) (fs : List Field) (vs : List Value) : Prop :=
  ∀ (fuel : Nat) (r : Reader), F ≤ fuel → D r.data → r.Holds (encodeFields t nfc ef fs vs) →
    decodeFields t nfc fuel fs r = .ok (vs, r.adv (encodeFields t nfc ef fs vs).length)

variable {t nfc ef D}

theorem FieldRT.mono {F F' : Nat} {f : Field} {v : Value} (h : FieldRT t nfc ef D F f v)
    (hle : F ≤ F') : FieldRT t nfc ef D F' f v :=
  fun fuel r tail hf => h fuel r tail (Nat.le_trans hle hf)

theorem FieldsRT.mono {F F' : Nat} {fs : List Field} {vs : List Value}
    (h : FieldsRT t nfc ef D F fs vs) (hle : F ≤ F') : FieldsRT t nfc ef D F' fs vs :=
  fun fuel r hf => h fuel r (Nat.le_trans hle hf)

/-- field by field: one unit of fuel per field on top of what a single field needs -/
theorem fieldsRT_of_forall₂ {k : Nat} : ∀ (fs : List Field) (vs : List Value) (lo : Nat),
    fieldsAbove lo fs = true → (∀ f ∈ fs, f.num * 8 + 2 < 2 ^ 64) →
    List.Forall₂ (FieldRT t nfc ef D k) fs vs → FieldsRT t nfc ef D (fs.length + k) fs vs := by
  intro fs
  induction fs with
  | nil =>
    intro vs lo _ _ hv fuel r _ _ _
    cases hv
    rw [encodeFields_nil_left]
    cases fuel <;> rfl
  | cons f fs ih =>
    intro vs lo hs hb hv fuel r hf hd h
    cases hv with
    | cons hfv hrest =>
      rename_i v vs
      simp only [fieldsAbove, Bool.and_eq_true, decide_eq_true_eq] at hs
      simp only [List.length_cons] at hf
      obtain ⟨fuel, rfl⟩ : ∃ x, fuel = x + 1 := ⟨fuel - 1, by omega⟩
      rw [encodeFields_cons] at h ⊢
      have hb' : ∀ g ∈ fs, g.num * 8 + 2 < 2 ^ 64 := fun g hg => hb g (List.mem_cons_of_mem _ hg)
      rw [decodeFields, hfv fuel r _ (by omega) hd (tailOK_encodeFields t nfc ef fs vs f.num hs.2 hb') h]
      simp only
      rw [ih vs f.num hs.2 hb' hrest fuel (r.adv (encField t nfc ef f v).length) (by omega) hd h.adv,
        Reader.adv_adv, List.length_append]

/-- flat kinds: `decodeField_put` -/
theorem fieldRT_flat {f : Field} {v : Value} (hk : flatKind f.kind = true)
    (hnum : f.num * 8 + 2 < 2 ^ 64) (hty : typedVal nfc f.kind v = true)
    (hD : ∀ data, D data → f.kind = .uints → data.length < 2 ^ 63) : FieldRT t nfc ef D 1 f v := by
  intro fuel r tail hf hd ht h
  obtain ⟨fuel, rfl⟩ : ∃ x, fuel = x + 1 := ⟨fuel - 1, by omega⟩
  exact decodeField_put t nfc ef fuel f v r tail hk hnum hty (hD _ hd) ht h

end roundtrip

/-! ### flat schemas: round trip -/

def flatField (f : Field) : Bool := flatKind f.kind && decide (f.num * 8 + 2 < 2 ^ 64)

def typedVals (nfc : NFC) : List Field → List Value → Bool
  | [], [] => true
  | f :: fs, v :: vs => typedVal nfc f.kind v && typedVals nfc fs vs
  | _, _ => false

/-- what Encode / Decode / DecodeStrict must agree on -/
def fieldShape (f : Field) : Nat × Kind := (f.num, f.kind)

/-- induction over two field lists of the same shape -/
theorem shape_induct {P : List Field → List Field → Prop} (nil : P [] [])
    (cons : ∀ {f g fs gs}, f.num = g.num → f.kind = g.kind → P fs gs → P (f :: fs) (g :: gs)) :
    ∀ {fs gs : List Field}, fs.map fieldShape = gs.map fieldShape → P fs gs := by
  intro fs
  induction fs with
  | nil => intro gs h; cases gs with
    | nil => exact nil
    | cons g gs => cases h
  | cons f fs ih =>
    intro gs h
    cases gs with
    | nil => cases h
    | cons g gs =>
      simp only [List.map_cons, List.cons.injEq, fieldShape, Prod.mk.injEq] at h
      exact cons h.1.1 h.1.2 (ih h.2)

/-- a value list against a field list, `p` typing the single values (same length required) -/
def typedWith (p : Kind → Value → Bool) : List Field → List Value → Bool
  | [], [] => true
  | f :: fs, v :: vs => p f.kind v && typedWith p fs vs
  | _, _ => false

theorem typedVals_eq (nfc : NFC) : ∀ fs vs, typedVals nfc fs vs = typedWith (typedVal nfc) fs vs
  | [], [] => rfl
  | [], _ :: _ => rfl
  | _ :: _, [] => rfl
  | f :: fs, v :: vs => by rw [typedVals, typedWith, typedVals_eq nfc fs vs]

theorem typedWith_congr (p : Kind → Value → Bool) (fs fs' : List Field) (vs : List Value)
    (h : fs.map fieldShape = fs'.map fieldShape) : typedWith p fs vs = typedWith p fs' vs :=
  shape_induct (P := fun fs gs => ∀ vs, typedWith p fs vs = typedWith p gs vs) (fun _ => rfl)
    (fun _ hk ih vs => by
      cases vs with
      | nil => rfl
      | cons v vs => simp only [typedWith, hk, ih]) h vs

theorem forall₂_of_typedWith (p : Kind → Value → Bool) (Q : Field → Prop) :
    ∀ (fs : List Field) (vs : List Value), (∀ f ∈ fs, Q f) → typedWith p fs vs = true →
    List.Forall₂ (fun f v => Q f ∧ p f.kind v = true) fs vs := by
  intro fs
  induction fs with
  | nil => intro vs _ h; cases vs with
    | nil => exact .nil
    | cons v vs => simp [typedWith] at h
  | cons f fs ih =>
    intro vs hf h
    cases vs with
    | nil => simp [typedWith] at h
    | cons v vs =>
      simp only [typedWith, Bool.and_eq_true] at h
      exact .cons ⟨hf f (by simp), h.1⟩ (ih vs (fun g hg => hf g (by simp [hg])) h.2)

theorem forall₂_imp {α β : Type} {P Q : α → β → Prop} (hPQ : ∀ a b, P a b → Q a b) :
    ∀ {l : List α} {l' : List β}, List.Forall₂ P l l' → List.Forall₂ Q l l' := by
  intro l l' h
  induction h with
  | nil => exact .nil
  | cons h1 _ ih => exact .cons (hPQ _ _ h1) ih

theorem fieldsAbove_congr (fs fs' : List Field) (lo : Nat) (h : fs.map fieldShape = fs'.map fieldShape) :
    fieldsAbove lo fs = fieldsAbove lo fs' :=
  shape_induct (P := fun fs gs => ∀ lo, fieldsAbove lo fs = fieldsAbove lo gs) (fun _ => rfl)
    (fun hn _ ih lo => by simp only [fieldsAbove, hn, ih]) h lo

/-- a check of every field that looks at number and kind only -/
theorem all_congr_shape {P : Field → Bool}
    (hP : ∀ {f g : Field}, f.num = g.num → f.kind = g.kind → P f = P g) {fs fs' : List Field}
    (h : fs.map fieldShape = fs'.map fieldShape) : fs.all P = fs'.all P :=
  shape_induct (P := fun fs gs => fs.all P = gs.all P) rfl
    (fun hn hk ih => by simp only [List.all_cons, hP hn hk, ih]) h

theorem flatField_congr (fs fs' : List Field) (h : fs.map fieldShape = fs'.map fieldShape) :
    fs.all flatField = fs'.all flatField :=
  all_congr_shape (fun hn hk => by simp only [flatField, hn, hk]) h

theorem encField_congr (t : Table) (nfc : NFC) (ef : Nat) {f g : Field} (hn : f.num = g.num)
    (hk : f.kind = g.kind) (v : Value) : encField t nfc ef f v = encField t nfc ef g v := by
  obtain ⟨n, k, s⟩ := f
  obtain ⟨n', k', s'⟩ := g
  cases hn
  cases hk
  rfl

theorem encodeFields_congr (t : Table) (nfc : NFC) (ef : Nat) (fs fs' : List Field) (vs : List Value)
    (h : fs.map fieldShape = fs'.map fieldShape) :
    encodeFields t nfc ef fs vs = encodeFields t nfc ef fs' vs :=
  shape_induct (P := fun fs gs => ∀ vs, encodeFields t nfc ef fs vs = encodeFields t nfc ef gs vs)
    (fun _ => rfl)
    (fun hn hk ih vs => by
      cases vs with
      | nil => rw [encodeFields_nil_right, encodeFields_nil_right]
      | cons v vs => rw [encodeFields_cons, encodeFields_cons, ih, encField_congr t nfc ef hn hk]) h vs

def noUints (fs : List Field) : Bool := fs.all fun f => decide (f.kind ≠ .uints)

/-- the field list of a flat struct reads back, one unit of fuel per field. The length bound is
only needed when there is a packed `uints` field (Go `int` index arithmetic). -/
theorem fieldsRT_flat (t : Table) (nfc : NFC) (ef : Nat) {D : Bytes → Prop} {fs : List Field}
    {vs : List Value} (hs : fieldsAbove 0 fs = true) (hf : fs.all flatField = true)
    (hv : typedWith (typedVal nfc) fs vs = true)
    (hD : ∀ data, D data → noUints fs = true ∨ data.length < 2 ^ 63) :
    FieldsRT t nfc ef D (fs.length + 1) fs vs := by
  have hff : ∀ f ∈ fs, flatKind f.kind = true ∧ f.num * 8 + 2 < 2 ^ 64 := fun f hfm => by
    simpa [flatField] using List.all_eq_true.mp hf f hfm
  exact fieldsRT_of_forall₂ fs vs 0 hs (fun f hfm => (hff f hfm).2)
    (forall₂_imp (fun f v ⟨hfm, hty⟩ =>
      fieldRT_flat (hff f hfm).1 (hff f hfm).2 hty fun data hd hk =>
        (hD data hd).resolve_left fun hn => by
          have := List.all_eq_true.mp hn f hfm
          simp [hk] at this)
      (forall₂_of_typedWith _ (· ∈ fs) fs vs (fun _ h => h) hv))

theorem noUints_congr (fs fs' : List Field) (h : fs.map fieldShape = fs'.map fieldShape) :
    noUints fs = noUints fs' :=
  all_congr_shape (fun _ hk => by simp only [hk]) h

/-! ### what was read had been written: primitives -/

/-- reading moved `r` to `r'` over exactly the bytes `X` -/
def Canon (r r' : Reader) (X : Bytes) : Prop := r' = r.adv X.length ∧ r.suffix = X ++ r'.suffix

theorem Canon.refl (r : Reader) : Canon r r [] := ⟨rfl, by simp⟩

theorem Canon.trans {r r1 r2 : Reader} {X Y : Bytes} (h1 : Canon r r1 X) (h2 : Canon r1 r2 Y) :
    Canon r r2 (X ++ Y) := by
  obtain ⟨e1, s1⟩ := h1
  obtain ⟨e2, s2⟩ := h2
  refine ⟨?_, ?_⟩
  · rw [e2, e1, Reader.adv_adv, List.length_append]
  · rw [s1, s2, List.append_assoc]

theorem canon_of_take {r : Reader} {size : Nat} {X : Bytes} (h : r.suffix.take size = X)
    (hs : size = X.length) : Canon r { r with index := r.index + size } X := by
  subst hs
  refine ⟨rfl, ?_⟩
  have := (List.take_append_drop X.length r.suffix).symm
  rw [h] at this
  rw [this]
  congr 1
  simp [Reader.suffix, List.drop_drop]

theorem Reader.readUInt_canon {r r' : Reader} {n : Nat} (h : r.readUInt = .ok (n, r')) :
    Canon r r' (putUvarint n) ∧ n < 2 ^ 64 := by
  unfold Reader.readUInt at h
  split at h
  · rename_i v size heq
    injection h with h
    injection h with hv hr
    subst hv hr
    obtain ⟨h1, h2, h3⟩ := readUint_canonical _ _ _ heq
    exact ⟨canon_of_take h1 h2, h3⟩
  · exact absurd h (by simp)

theorem readKey_ok {key fn w : Nat} (h : readKey key = .ok (fn, w)) : key = fn * 8 + w := by
  unfold readKey at h
  simp only at h
  split at h
  · cases h
  · injection h with h
    injection h with a b
    omega

theorem Reader.check_canon {r r' : Reader} {num wt : Nat} (h : r.check num wt = .ok r') :
    Canon r r' (writeKey wt num) := by
  rw [Reader.check_eq] at h
  split at h
  · cases h
  · obtain ⟨⟨key, r1⟩, hu, h⟩ := bind_eq_ok h
    obtain ⟨⟨fn, w⟩, hk, h⟩ := bind_eq_ok h
    dsimp only at h
    split at h
    · cases h
    · rename_i hfn
      split at h
      · cases h
      · rename_i hw
        cases h
        rw [writeKey, ← Decidable.not_not.mp hw, ← Decidable.not_not.mp hfn, ← readKey_ok hk]
        exact (Reader.readUInt_canon hu).1

theorem Reader.readBool_canon {r r' : Reader} {b : Bool} (h : r.readBool = .ok (b, r')) :
    Canon r r' [if b then 1 else 0] := by
  unfold Reader.readBool at h
  split at h
  · exact absurd h (by simp)
  · rename_i x hx
    split at h
    · exact absurd h (by simp)
    · rename_i hb
      injection h with h
      injection h with hv hr
      subst hr
      have hx01 : x = 0 ∨ x = 1 := Decidable.or_iff_not_not_and_not.mpr hb
      have hval : (if b then (1 : UInt8) else 0) = x := by
        rcases hx01 with rfl | rfl <;> simp [← hv]
      rw [hval]
      obtain ⟨hlt, hget⟩ := List.getElem?_eq_some_iff.mp hx
      refine ⟨rfl, ?_⟩
      simp only [Reader.suffix]
      rw [List.drop_eq_getElem_cons hlt, hget]
      rfl

theorem Reader.readBytes_canon {r r' : Reader} {b : Bytes} (h : r.readBytes = .ok (b, r')) :
    Canon r r' (writeBytes b) ∧ b.length < 2 ^ 64 := by
  rw [Reader.readBytes_eq] at h
  obtain ⟨⟨size, r1⟩, heq, h⟩ := bind_eq_ok h
  obtain ⟨hc, hsz⟩ := Reader.readUInt_canon heq
  dsimp only at h
  split at h
  · cases h
  · rename_i hle
    injection h with h
    injection h with hv hr
    have hlen : b.length = size := by
      rw [← hv]; simp only [List.length_take, List.length_drop]; omega
    unfold writeBytes
    rw [hlen]
    refine ⟨hc.trans ?_, by omega⟩
    rw [← hr]
    exact canon_of_take hv hlen.symm

/-- what the single-value prologue consumed is the key; only a lenient one reports absence -/
theorem Reader.enter_canon {r : Reader} {num wt : Nat} {st : Bool} {o : Option Reader}
    (h : r.enter num wt st = .ok o) :
    (∀ r1, o = some r1 → Canon r r1 (writeKey wt num)) ∧ (o = none → st = false) := by
  unfold Reader.enter at h
  split at h
  · rename_i r1 heq
    cases h
    exact ⟨fun _ e => Option.some.inj e ▸ Reader.check_canon heq, nofun⟩
  · split at h
    · cases h
    · split at h
      · cases h
      · cases h
        exact ⟨nofun, fun _ => by simpa using ‹¬st = true›⟩

theorem Reader.enter_strict_canon {r : Reader} {num wt : Nat} {o : Option Reader}
    (h : r.enter num wt true = .ok o) : ∃ r1, o = some r1 ∧ Canon r r1 (writeKey wt num) := by
  cases o with
  | none => exact nomatch (Reader.enter_canon h).2 rfl
  | some r1 => exact ⟨r1, rfl, (Reader.enter_canon h).1 r1 rfl⟩

theorem readBytesArray_canon (num : Nat) (fuel : Nat) (r r' : Reader) (acc l : List Bytes)
    (h : readBytesArray fuel r num acc = .ok (l, r')) :
    ∃ l', l = acc ++ l' ∧ Canon r r' (encBytesArr num l') :=
  readBytesArray_ok_induct (P := fun r l r' => Canon r r' (encBytesArr num l)) Canon.refl
    (fun he hb ih => by
      have := (((Reader.enter_canon (Reader.enterArr_eq_enter .. ▸ he)).1 _ rfl).trans
        (Reader.readBytes_canon hb).1).trans ih
      simpa [encBytesArr, List.append_assoc] using this) h

theorem Canon.length_le {r r' : Reader} {X : Bytes} (h : Canon r r' X) :
    X.length ≤ r.data.length := by
  have := congrArg List.length h.2
  rw [Reader.suffix_length, List.length_append] at this
  omega

theorem Reader.readBytes_len {r r' : Reader} {b : Bytes} (h : r.readBytes = .ok (b, r')) :
    b.length ≤ r.data.length := by
  have := (Reader.readBytes_canon h).1.length_le
  simp only [writeBytes, List.length_append] at this
  omega

theorem Reader.enter_data {r r1 : Reader} {fn wt : Nat} {st : Bool}
    (h : r.enter fn wt st = .ok (some r1)) : r1.data.length = r.data.length :=
  (Safe.of_ok (r.enter_safe fn wt st) h r1 rfl).1

theorem Reader.enterArr_data {r r1 : Reader} {fn wt : Nat}
    (h : r.enterArr fn wt = .ok (some r1)) : r1.data.length = r.data.length :=
  Reader.enter_data (r.enterArr_eq_enter fn wt ▸ h)

theorem Reader.readUInt_data {r r' : Reader} {v : Nat} (h : r.readUInt = .ok (v, r')) :
    r'.data.length = r.data.length :=
  (Safe.of_ok r.readUInt_safe h).1

/-- a strict `enter` never reports "absent" -/
theorem Reader.enter_none_lenient {r : Reader} {fn wt : Nat} {st : Bool}
    (h : r.enter fn wt st = .ok none) : st = false :=
  (Reader.enter_canon h).2 rfl

theorem readPackedUInts_canon (fuel : Nat) (r r' : Reader) (stop : Int) (acc l : List Nat)
    (h : readPackedUInts fuel r stop acc = .ok (l, r')) :
    ∃ l', l = acc ++ l' ∧ Canon r r' (encPacked l') ∧ ∀ n ∈ l', n < 2 ^ 64 :=
  readPackedUInts_ok_induct
    (P := fun r l r' => Canon r r' (encPacked l) ∧ ∀ n ∈ l, n < 2 ^ 64)
    (fun r => ⟨Canon.refl r, fun _ hn => nomatch hn⟩)
    (fun hr ih => ⟨(Reader.readUInt_canon hr).1.trans ih.1, fun n hn => by
      rcases List.mem_cons.mp hn with rfl | hn
      · exact (Reader.readUInt_canon hr).2
      · exact ih.2 n hn⟩) h

theorem mem_encBytesArr_length (num : Nat) (l : List Bytes) (b : Bytes) (hb : b ∈ l) :
    b.length ≤ (encBytesArr num l).length := by
  have := weight_le_of_mem (size := fun l => (encBytesArr num l).length)
    (w := fun b => (writeKey 2 num ++ writeBytes b).length) (fun _ _ => by simp [encBytesArr, Nat.add_assoc]) hb
  simp only [List.length_append, writeBytes] at this
  omega

/-! ### canonical strict decoding of flat structs -/

def canonKind : Kind → Bool
  | .uint | .bool | .bytes | .string | .bytesArr => true
  | _ => false

def singleValued : Kind → Bool
  | .bytesArr | .uints | .msgArr _ => false
  | _ => true

def canonField (f : Field) : Bool := canonKind f.kind && (f.strict == singleValued f.kind)

/-- a scalar of canonical kind was read from exactly the bytes the writer puts after the key -/
theorem readScalar_canon (t : Table) {nfc : NFC} (ef : Nat)
    (hlaw : ∀ b, nfc.normal b = true → nfc.normalize b = b) {f : Field} {r r' : Reader} {v : Value}
    (hs : scalarKind f.kind = true) (hk : canonKind f.kind = true)
    (h : readScalar nfc f.kind r = .ok (v, r')) :
    ∃ X, Canon r r' X ∧ encField t nfc ef f v = writeKey (wireType f.kind) f.num ++ X := by
  obtain ⟨num, kind, st⟩ := f
  cases kind <;> first | (cases hk; done) | (cases hs; done) | skip
  all_goals obtain ⟨a, ha, rfl⟩ := valueOf_ok h
  · exact ⟨_, (Reader.readUInt_canon ha).1, rfl⟩
  · exact ⟨_, Reader.readBool_canon ha, rfl⟩
  · exact ⟨_, (Reader.readBytes_canon ha).1, rfl⟩
  · obtain ⟨hb, _, hn⟩ := Reader.readString_ok ha
    refine ⟨_, (Reader.readBytes_canon hb).1, ?_⟩
    show _ ++ writeBytes (nfc.normalize a) = _
    rw [hlaw _ hn]
    rfl

theorem decodeField_canon (t : Table) (nfc : NFC) (ef : Nat)
    (hlaw : ∀ b, nfc.normal b = true → nfc.normalize b = b)
    {fuel : Nat} {f : Field} {r r' : Reader} {v : Value} (hf : canonField f = true)
    (h : decodeField t nfc fuel f r = .ok (v, r')) : Canon r r' (encField t nfc ef f v) := by
  simp only [canonField, Bool.and_eq_true, beq_iff_eq] at hf
  obtain ⟨hck, hst⟩ := hf
  have hfl : flatKind f.kind = true := by cases hk : f.kind <;> first | rfl | (rw [hk] at hck; cases hck)
  rcases decodeField_flat_ok hfl h with ⟨hs, ⟨he, _⟩ | ⟨r1, he, hr⟩⟩ | ⟨hk, l, hl, rfl⟩ |
    ⟨hk, _⟩
  · rw [hst, show singleValued f.kind = true by cases hk : f.kind <;> first | rfl | (rw [hk] at hs; cases hs)] at he
    obtain ⟨r1, e, _⟩ := Reader.enter_strict_canon he
    cases e
  · rw [hst, show singleValued f.kind = true by cases hk : f.kind <;> first | rfl | (rw [hk] at hs; cases hs)] at he
    obtain ⟨r1', e, hc⟩ := Reader.enter_strict_canon he
    cases e
    obtain ⟨X, hX, e⟩ := readScalar_canon t ef hlaw hs hck hr
    rw [e]
    exact hc.trans hX
  · obtain ⟨l', e, hc⟩ := readBytesArray_canon f.num _ _ _ _ _ hl
    rw [List.nil_append] at e
    rw [e, encField_bytesArr t nfc ef hk]
    exact hc
  · rw [hk] at hck; cases hck

theorem decodeFields_canon (t : Table) (nfc : NFC) (ef : Nat)
    (hlaw : ∀ b, nfc.normal b = true → nfc.normalize b = b) {fs : List Field} {fuel : Nat}
    {r r' : Reader} {vs : List Value} (hf : fs.all canonField = true)
    (h : decodeFields t nfc fuel fs r = .ok (vs, r')) : Canon r r' (encodeFields t nfc ef fs vs) :=
  (decode_ok_induct t nfc
    (PF := fun fs r vs r' => fs.all canonField = true → Canon r r' (encodeFields t nfc ef fs vs))
    (Pf := fun f r v r' => canonField f = true → Canon r r' (encField t nfc ef f v))
    (PN := fun _ _ _ _ => True) (PA := fun _ _ _ _ _ => True)
    (nil := fun r _ => by rw [encodeFields_nil_left]; exact Canon.refl r)
    (cons := fun h1 h2 hf => by
      simp only [List.all_cons, Bool.and_eq_true] at hf
      rw [encodeFields_cons]
      exact (h1 hf.1).trans (h2 hf.2))
    (flat := fun _ h hf => decodeField_canon t nfc ef hlaw hf h)
    (absent := fun hk _ hf => by simp [canonField, canonKind, hk] at hf)
    (present := fun hk _ _ hf => by simp [canonField, canonKind, hk] at hf)
    (array := fun hk _ hf => by simp [canonField, canonKind, hk] at hf)
    (nested := fun _ _ _ => trivial) (done := fun _ _ _ => trivial) (step := fun _ _ _ => trivial) fuel).1 _ _ _ _ h hf

/-- Strict decoding of a flat canonical-kind field list from a fresh reader that ends exactly at the
end of the buffer: the buffer is the encoding of the decoded values. -/
theorem decodeFields_canon_whole (t : Table) (nfc : NFC) (ef : Nat)
    (hlaw : ∀ b, nfc.normal b = true → nfc.normalize b = b)
    (fs : List Field) (fuel : Nat) (data : Bytes) (r' : Reader) (vs : List Value)
    (hf : fs.all canonField = true)
    (h : decodeFields t nfc fuel fs (Reader.new data) = .ok (vs, r'))
    (hend : (r'.index : Int) = r'.stop) : encodeFields t nfc ef fs vs = data := by
  obtain ⟨e, hs⟩ := decodeFields_canon t nfc ef hlaw hf h
  have h1 : r'.suffix = [] := by
    rw [e] at hend ⊢
    simp only [Reader.adv_index, Reader.adv_stop, Reader.new] at hend
    simp only [Reader.suffix, Reader.adv_data, Reader.adv_index, Reader.new]
    apply List.drop_eq_nil_of_le
    omega
  rw [h1, List.append_nil] at hs
  rw [← hs]
  simp [Reader.suffix, Reader.new]

/-! ### one level of nesting -/

section nesting
variable {t : Table} {nfc : NFC} {ef : Nat} {D : Bytes → Prop}

/-- the tail of `ReadDecodable`: size prefix, then the nested struct read by a reader that holds
exactly the body -/
theorem decodeNested_put {F : Nat} {name : String} {s : Schema} {vals : List Value}
    {tail : Bytes} {r1 : Reader} (hD : ∀ data, D data → data.length < 2 ^ 63)
    (hfind : t.find name = some s) (hrt : FieldsRT t nfc ef D F s.dec vals) (hd : D r1.data)
    (h : r1.Holds (writeBytes (encodeFields t nfc ef s.dec vals) ++ tail)) {fuel : Nat}
    (hf : F + 1 ≤ fuel) :
    decodeNested t nfc fuel name r1 =
      .ok (.msg true vals, r1.adv (writeBytes (encodeFields t nfc ef s.dec vals)).length) := by
  generalize hbody : encodeFields t nfc ef s.dec vals = body at h ⊢
  unfold writeBytes at h ⊢
  rw [List.append_assoc] at h
  have hlen := hD _ hd
  have hbl : body.length < 2 ^ 63 := by
    have := h.length_le
    simp only [List.length_append] at this
    omega
  have h2 := h.adv
  have hidx := h.index_le_put
  simp only [List.length_append] at hidx
  obtain ⟨fuel, rfl⟩ : ∃ x, fuel = x + 1 := ⟨fuel - 1, by omega⟩
  have hn : Reader.Holds
      { data := r1.data, index := r1.index + (putUvarint body.length).length,
        stop := ((r1.index + (putUvarint body.length).length : Nat) : Int) + (body.length : Int) }
      body := by
    obtain ⟨junk, hsuf, _⟩ := h2
    exact ⟨tail ++ junk, by simpa [Reader.suffix, List.append_assoc] using hsuf, rfl⟩
  have hdec := hrt fuel
    { data := r1.data, index := r1.index + (putUvarint body.length).length,
      stop := ((r1.index + (putUvarint body.length).length : Nat) : Int) + (body.length : Int) }
    (by omega) hd (hbody ▸ hn)
  rw [hbody] at hdec
  rw [decodeNested, Reader.readUInt_put (by omega) h]
  simp only [hfind]
  have hnl : ¬ (body.length ≥ 2 ^ 63) := by omega
  simp only [hnl, if_false, Reader.adv_index]
  rw [wrapInt64_id _ (by omega) (by push_cast; omega)]
  simp only [Reader.adv] at hdec ⊢
  push_cast at hdec ⊢
  rw [hdec]
  simp [Nat.add_assoc]

theorem encField_msg (t : Table) (nfc : NFC) (ef : Nat) (num : Nat) (name : String) (st : Bool) (s : Schema) (vals : List Value)
    (hfind : t.find name = some s) :
    encField t nfc (ef + 1) ⟨num, .msg name, st⟩ (.msg true vals) =
      writeKey 2 num ++ writeBytes (encodeFields t nfc ef s.enc vals) := by
  unfold encField
  simp only [hfind, Bool.not_true, Bool.false_eq_true, if_false]

/-- a present nested struct (`ReadDecodable`): two more units of fuel than its fields need -/
theorem fieldRT_msg {F : Nat} {f : Field} {name : String} {s : Schema} {vals : List Value}
    (hD : ∀ data, D data → data.length < 2 ^ 63) (hk : f.kind = .msg name)
    (hfind : t.find name = some s) (hnum : f.num * 8 + 2 < 2 ^ 64)
    (hshape : s.enc.map fieldShape = s.dec.map fieldShape)
    (hrt : FieldsRT t nfc ef D F s.dec vals) :
    FieldRT t nfc (ef + 1) D (F + 2) f (.msg true vals) := by
  obtain ⟨num, kind, st⟩ := f
  simp only at hk hnum
  subst hk
  intro fuel r tail hf hd ht h
  rw [encField_msg t nfc ef num name st s vals hfind,
    encodeFields_congr t nfc ef s.enc s.dec vals hshape] at h ⊢
  rw [List.append_assoc] at h
  obtain ⟨fuel, rfl⟩ : ∃ x, fuel = x + 1 := ⟨fuel - 1, by omega⟩
  rw [decodeField_succ, Reader.enter_key st (Or.inr rfl) hnum h]
  simp only [Except.bind]
  rw [decodeNested_put (r1 := r.adv (writeKey 2 num).length) hD hfind hrt hd h.adv (by omega),
    Reader.adv_adv, List.length_append]

end nesting

/-! ### absent fields: defaults -/

theorem decodeField_absent (t : Table) (nfc : NFC) (fuel : Nat) (f : Field) (r : Reader)
    (hk : flatKind f.kind = true) (hst : f.strict = false) (h : r.Holds []) :
    decodeField t nfc (fuel + 1) f r = .ok (zeroValue f.kind, r) := by
  obtain ⟨num, kind, st⟩ := f
  simp only at hk hst
  subst hst
  have hte : ∀ wt, r.enter num wt false = .ok none := fun wt => Reader.enter_tail (Or.inl rfl) h
  have hta : ∀ wt, r.enterArr num wt = .ok none := fun wt => Reader.enterArr_tail (Or.inl rfl) h
  cases kind <;> simp only [flatKind] at hk <;> first | (exact absurd hk (by decide)) | skip
  all_goals simp only [decodeField, hte, hta, zeroValue]
  have hge := h.ge_stop
  have hnlt : ¬ ((r.index : Int) < r.stop) := by omega
  simp only [readBytesArray, hnlt, if_false]

theorem decodeFields_absent (t : Table) (nfc : NFC) : ∀ (fs : List Field) (fuel : Nat) (r : Reader),
    fs.all (fun f => flatKind f.kind && !f.strict) = true → fs.length < fuel → r.Holds [] →
    decodeFields t nfc fuel fs r = .ok (fs.map fun f => zeroValue f.kind, r) := by
  intro fs
  induction fs with
  | nil => intro fuel r _ _ _; unfold decodeFields; rfl
  | cons f fs ih =>
    intro fuel r hf hfuel h
    simp only [List.all_cons, Bool.and_eq_true, Bool.not_eq_true'] at hf
    simp only [List.length_cons] at hfuel
    obtain ⟨fuel, rfl⟩ : ∃ x, fuel = x + 2 := ⟨fuel - 2, by omega⟩
    simp only [decodeFields]
    rw [decodeField_absent t nfc fuel f r hf.1.1 hf.1.2 h]
    simp only
    rw [ih (fuel + 1) r (by simpa using hf.2) (by omega) h]
    rfl

end LiskVerif.Codec
