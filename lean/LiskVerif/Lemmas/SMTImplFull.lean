/-
The whole trie: the recursion of `updateSubtree` through the stored levels refines the specification
(for a hash without collisions and with outputs of one length); what `trie.Update` needs of it at the top level
(Props/C10_Impl.lean `C10_impl_update_root_eq_spec`).

First the frame lemmas for the representation relation (Lemmas/SMTImplRep.lean): the association-list database,
monotonicity of `Arr` in the store relation, fuel, and: a change of the store that keeps the reads at every key but `k`
keeps `es` represented when `k` is not the record key of any group at or below `es` (`Rep.frame_of_get`).
-/
import LiskVerif.Lemmas.SMTImplDistinct

namespace LiskVerif.SMTImpl
open LiskVerif LiskVerif.SMT

/-! the database is the association list of the specification maps (`dbGet`, `dbDel`, `dbSet` are `mget`, `mdel`, `mset`
under other names) -/

theorem dbGet_eq_mget : dbGet = mget := by
  funext db k; induction db <;> simp only [dbGet, mget, *]

theorem dbGet_dbDel_ne (db : DB) {k h : Bytes} (hne : k ≠ h) : dbGet (dbDel db k) h = dbGet db h := by
  rw [dbGet_eq_mget]; exact (mget_mdel db k h).trans (if_neg (Ne.symm hne))

theorem dbGet_dbDel_self (db : DB) (k : Bytes) : dbGet (dbDel db k) k = none := by
  rw [dbGet_eq_mget]; exact (mget_mdel db k k).trans (if_pos rfl)

theorem dbGet_dbSet_ne (db : DB) {k h : Bytes} (v : Bytes) (hne : k ≠ h) :
    dbGet (dbSet db k v) h = dbGet db h := by
  rw [dbGet_eq_mget]; exact (mget_mset db k v h).trans (if_neg (Ne.symm hne))

theorem dbGet_dbSet_self (db : DB) (k v : Bytes) : dbGet (dbSet db k v) k = some v := by
  rw [dbGet_eq_mget]; exact (mget_mset db k v k).trans (if_pos rfl)

/-! monotonicity of `Arr` in the store relation -/

theorem ArrTip.mono {H : HashFn} {S S' : Nat → List Entry → Bytes → Prop} {rem d : Nat} {n : Node} {es : List Entry}
    (hS : ∀ h, 2 ≤ es.length → S d es h → S' d es h) (h : ArrTip H S rem d n es) : ArrTip H S' rem d n es :=
  h.imp fun _ h2 hs => hS _ h2 hs

section Mono
variable {H : HashFn} {S S' : Nat → List Entry → Bytes → Prop} {rem rem' d d' : Nat} {n : Node} {t : LT}
  {es : List Entry}

/-- the stubs of a tree rooted with `rem` levels left sit at the relative positions `y` of length `rem` and hold the
groups `descend y es` (at least two entries), with `d - rem` key bits left -/
theorem Arr.mono_stubs (h : Arr H S rem d t es)
    (hS : ∀ (y : Bits) (hh : Bytes), y.length = rem → 2 ≤ (descend y es).length →
      S (d - rem) (descend y es) hh → S' (d - rem) (descend y es) hh) : Arr H S' rem d t es := by
  induction h with
  | tip rem d n es ht =>
    exact Arr.tip _ _ _ _ (ht.imp fun h0 h2 hs => by subst h0; exact hS [] _ rfl h2 hs)
  | br rem d l r es _ _ ihl ihr =>
    refine Arr.br rem d l r es (ihl ?_) (ihr ?_)
    · intro y hh hy h2 hs
      have := hS (false :: y) hh (by simp [hy]) h2
      rw [Nat.add_sub_add_right] at this
      exact this hs
    · intro y hh hy h2 hs
      have := hS (true :: y) hh (by simp [hy]) h2
      rw [Nat.add_sub_add_right] at this
      exact this hs

theorem Arr.mono (hS : ∀ d es h, S d es h → S' d es h) (h : Arr H S rem d t es) : Arr H S' rem d t es :=
  Arr.mono_stubs h fun _ _ _ _ hs => hS _ _ _ hs

end Mono

theorem RepSub.mono_fuel (c : Cfg) : ∀ (f f' : Nat) (db : DB) (d : Nat) (es : List Entry) (h : Bytes), f ≤ f' →
    RepSub c f db d es h → RepSub c f' db d es h := by
  intro f
  induction f with
  | zero => intro f' db d es h _ hr; exact hr.elim
  | succ f ih =>
    intro f' db d es h hle hr
    cases f' with
    | zero => omega
    | succ f' =>
      obtain ⟨T, hA, hC, hh, hg⟩ := hr
      exact ⟨T, Arr.mono (fun d es h hs => ih f' db d es h (by omega) hs) hA, hC, hh, hg⟩

/-- a tree whose stubs are represented (each with some bound on the number of levels) is one whose stubs are represented
with one common bound, the largest of them; no store changes here -/
theorem frame_arr_fuel (c : Cfg) (db : DB) {rem d : Nat} {T : LT} {es : List Entry}
    (h : Arr c.H (Rep c db) rem d T es) : ∃ f, Arr c.H (RepSub c f db) rem d T es := by
  induction h with
  | tip rem d n es ht =>
    cases ht with
    | empty => exact ⟨0, Arr.tip _ _ _ _ ArrTip.empty⟩
    | leaf e hv => exact ⟨0, Arr.tip _ _ _ _ (ArrTip.leaf e hv)⟩
    | stub es h0 h2 hs =>
      obtain ⟨f, hf⟩ := hs
      exact ⟨f, Arr.tip _ _ _ _ (ArrTip.stub es h0 h2 hf)⟩
  | br rem d l r es _ _ ihl ihr =>
    obtain ⟨fl, hl⟩ := ihl
    obtain ⟨fr, hr⟩ := ihr
    refine ⟨max fl fr, Arr.br rem d l r es ?_ ?_⟩
    · exact Arr.mono (fun d es h hs => RepSub.mono_fuel c fl _ db d es h (Nat.le_max_left _ _) hs) hl
    · exact Arr.mono (fun d es h hs => RepSub.mono_fuel c fr _ db d es h (Nat.le_max_right _ _) hs) hr

theorem Rep.intro (c : Cfg) {db : DB} {d : Nat} {es : List Entry} {h : Bytes} (T : LT)
    (hA : Arr c.H (Rep c db) c.sth d T es) (hC : T.Canon) (hh : h = root c.H d es)
    (hg : dbGet db h = some (SubTree.encode ⟨T.depths 0, h, T.nodes⟩)) : Rep c db d es h := by
  obtain ⟨f, hf⟩ := frame_arr_fuel c db hA
  exact ⟨f + 1, T, hf, hC, hh, hg⟩

theorem Rep.elim (c : Cfg) {db : DB} {d : Nat} {es : List Entry} {h : Bytes} (hr : Rep c db d es h) :
    ∃ T : LT, Arr c.H (Rep c db) c.sth d T es ∧ T.Canon ∧ h = root c.H d es ∧
      dbGet db h = some (SubTree.encode ⟨T.depths 0, h, T.nodes⟩) := by
  obtain ⟨f, hf⟩ := hr
  cases f with
  | zero => exact hf.elim
  | succ f =>
    obtain ⟨T, hA, hC, hh, hg⟩ := hf
    exact ⟨T, Arr.mono (fun d es h hs => ⟨f, hs⟩) hA, hC, hh, hg⟩

/-! frame: a change of the store at one key that is not the key of any group at or below `es` keeps `es` represented -/

theorem Avoids.descend {H : HashFn} {k : Bytes} {d : Nat} {es : List Entry} (h : Avoids H k d es) (y : Bits) :
    Avoids H k (d - y.length) (descend y es) := by
  intro x h2
  have := h (y ++ x)
  rw [descend_append, List.length_append, ← Nat.sub_sub] at this
  exact this h2

/-- the frame argument for any change of the store that keeps the reads at all keys different from `k` -/
theorem Rep.frame_of_get (c : Cfg) {k : Bytes} {db db' : DB} {d : Nat} {es : List Entry} {h : Bytes}
    (hget : ∀ h : Bytes, k ≠ h → dbGet db' h = dbGet db h) (h2 : 2 ≤ es.length) (ha : Avoids c.H k d es)
    (hr : Rep c db d es h) : Rep c db' d es h := by
  obtain ⟨f, hf⟩ := hr
  refine ⟨f, ?_⟩
  induction f generalizing d es h with
  | zero => exact hf.elim
  | succ f ih =>
    obtain ⟨T, hA, hC, hh, hg⟩ := hf
    refine ⟨T, Arr.mono_stubs hA ?_, hC, hh, ?_⟩
    · intro y hh' hy hy2 hs
      have hav := ha.descend y
      rw [hy] at hav
      exact ih hy2 hav hs
    · have hne : k ≠ h := by
        have := ha [] h2
        simpa [SMTImpl.descend, hh] using this
      rw [hget h hne]; exact hg

theorem Rep.frame_set (c : Cfg) {k v : Bytes} {db : DB} {d : Nat} {es : List Entry} {h : Bytes}
    (h2 : 2 ≤ es.length) (ha : Avoids c.H k d es) (hr : Rep c db d es h) : Rep c (dbSet db k v) d es h :=
  Rep.frame_of_get c (fun _ hne => dbGet_dbSet_ne db v hne) h2 ha hr

#print axioms Rep.frame_set
#print axioms Rep.intro

variable {X : Bytes → Prop}

theorem RepW.rep {c : Cfg} {db : DB} {d : Nat} {es : List Entry} {h : Bytes} (hr : RepW c X db d es h) :
    Rep c db d es h := hr.2.2.2

/-- the world of the full trie: stubs commit to represented groups of well-formed entries whose hash inputs are
among `X`; the frame keeps such groups at diverging positions -/
def World.trie (c : Cfg) (g : GoodHash c X) : World where
  S := RepW c X
  F := KeepsOutside c X
  EOK := fun k v => k.length = c.keyLen ∧ v.length = c.hashSize
  OOK := fun k v => k.length = c.keyLen ∧ (v = [] ∨ v.length = c.hashSize)
  IOK := InX c X
  IOK_goL := fun _ _ hw hx => inX_goL c g hw hx
  IOK_goR := fun _ _ hw hx => inX_goR c g hw hx
  F_refl := fun _ _ _ _ _ _ _ _ _ h => h
  F_trans := fun _ _ _ _ h1 h2 pre' d es h hd hu hn hr => h2 pre' d es h hd hu hn (h1 pre' d es h hd hu hn hr)
  F_ext := fun _ x _ _ h pre' d es hh hd hu hn hr => h pre' d es hh (hd.ext_left x) hu hn hr
  S_frame := fun _ pre' _ _ d es h hF hd hu hn hs => hF pre' d es h hd hu hn hs

theorem Aligned.next {c : Cfg} {h : Nat} (ha : Aligned c h) : Aligned c (h + c.sth) := by
  rcases ha with ⟨h8, hm⟩ | ⟨h4, hm⟩
  · exact Or.inl ⟨h8, by rw [h8, Nat.add_mod_right]; exact hm⟩
  · refine Or.inr ⟨h4, ?_⟩
    rw [h4, Nat.add_mod]
    rcases hm with hm | hm <;> rw [hm] <;> decide

theorem map_opOf_kvOf {pre : Bits} {ops : List Entry} (hu : ∀ o ∈ ops, Under pre o) :
    (ops.map kvOf).map (opOf pre.length) = ops := by
  rw [List.map_map]
  conv => rhs; rw [← List.map_id ops]
  apply List.map_congr_left
  intro o ho
  have := hu o ho
  cases o
  simp only [Function.comp, opOf, kvOf, Under, id] at *
  rw [this]; simp

theorem eok_applyE (c : Cfg) (g : GoodHash c X) {es ops : List Entry}
    (he : ∀ e ∈ es, (World.trie c g).EOK e.key e.value) (ho : ∀ o ∈ ops, (World.trie c g).OOK o.key o.value) :
    ∀ e ∈ applyE es ops, (World.trie c g).EOK e.key e.value := by
  intro e hm
  rcases mem_applyE.mp hm with ⟨h1, _⟩ | ⟨h1, h2⟩
  · exact he e h1
  · obtain ⟨hk, hv⟩ := ho e h1
    exact ⟨hk, hv.resolve_left h2⟩

theorem eok_value_ne (c : Cfg) (g : GoodHash c X) {k v : Bytes} (h : (World.trie c g).EOK k v) : v ≠ [] := by
  intro hv; have := h.2; rw [hv] at this; have := g.pos; simp at *; omega

/-- the stubs of a tree over `Rep` are groups of well-formed entries as soon as the entries of the tree are -/
theorem Arr.toW (c : Cfg) (g : GoodHash c X) {db : DB} {rem d : Nat} {T : LT} {es : List Entry}
    (hA : Arr c.H (Rep c db) rem d T es) (he : WFE d es) (hk : ∀ e ∈ es, e.key.length = c.keyLen)
    (hx : InX c X d es) (hrd : rem ≤ d) : Arr c.H (RepW c X db) rem d T es := by
  refine Arr.mono_stubs hA ?_
  intro y hh hy _ hrep
  have hw := wfe_descend he y (by omega)
  have hxd := inX_descend c g he hx y (by omega)
  rw [hy] at hw hxd
  exact ⟨hw, kv_descend (P := fun k _ => k.length = c.keyLen) hk y, hxd, hrep⟩

/-! a change of the store at the record key of `es` only: nothing else that matters is kept under that key -/

/-- what the stubs of a subtree arranging `es` point to is kept -/
theorem Arr.frame_root (c : Cfg) (g : GoodHash c X) {db db' : DB} {d : Nat} {T : LT} {es : List Entry}
    (hget : ∀ h : Bytes, root c.H d es ≠ h → dbGet db' h = dbGet db h) (hs : 0 < c.sth)
    (he : WFE d es) (hx : InX c X d es) (hA : Arr c.H (Rep c db) c.sth d T es) :
    Arr c.H (Rep c db') c.sth d T es := by
  refine Arr.mono_stubs hA ?_
  intro y hh hy h2y hrep
  have hav := avoids_below c g he hx y (by intro h; rw [h] at hy; exact absurd hy (Nat.ne_of_lt hs))
  rw [hy] at hav
  exact Rep.frame_of_get c hget h2y hav hrep

/-- the groups at diverging positions are kept -/
theorem keepsOutside_root (c : Cfg) (g : GoodHash c X) {pre : Bits} {db db' : DB} {d : Nat} {es : List Entry}
    (hget : ∀ h : Bytes, root c.H d es ≠ h → dbGet db' h = dbGet db h) (hue : ∀ e ∈ es, Under pre e)
    (he : WFE d es) (hx : InX c X d es) (hk : ∀ e ∈ es, e.key.length = c.keyLen) :
    KeepsOutside c X pre db db' := by
  intro pre' dO eo ho hdv huo h2o ⟨hwo, hko, hxo, hrep⟩
  exact ⟨hwo, hko, hxo, Rep.frame_of_get c hget h2o
    (avoids_outside c g c.keyLen hdv hue huo he hwo hx hxo hk hko) hrep⟩

/-- the record of a represented group can be read back -/
theorem getSubtree_rep (c : Cfg) (hs : c.sth = 8 ∨ c.sth = 4) (g : GoodHash c X) {db : DB} {d : Nat} {es : List Entry}
    {h : Bytes} (hr : Rep c db d es h) (he : WFE d es) (hne : es ≠ [])
    (hkl : ∀ e ∈ es, e.key.length = c.keyLen ∧ e.value.length = c.hashSize) (hx : InX c X d es) :
    ∃ T0, getSubtree c db h = .ok ⟨T0.depths 0, h, T0.nodes⟩ ∧ Arr c.H (Rep c db) c.sth d T0 es := by
  obtain ⟨T0, hA, hC, hh, hget⟩ := Rep.elim c hr
  have hwf := Arr.wfSub hA (by omega) hkl g.len
  have hhash : T0.hash c.H = root c.H d es := by
    have := (collapse_exp c.H d T0 es he hA.exp).1
    rwa [LT.collapse_of_canon T0 hC] at this
  rw [hhash, ← hh] at hwf
  have hlen : h.length ≠ 0 := by rw [hh, SMT.root_length g.len]; exact Nat.ne_of_gt g.pos
  have hne' : h ≠ emptyHash c.H := by
    intro h0
    have := root_kind_sep c g he (wfe_nil 0) hx (inX_nil c g 0) (by rw [← hh, h0, root_nil])
    exact hne (List.length_eq_zero_iff.mp (kindOfLen_empty.mp this))
  refine ⟨T0, ?_, hA⟩
  simp only [getSubtree, if_neg (not_or.mpr ⟨hlen, hne'⟩), hget, newSubTree_encode c _ hwf]

/-- reading the subtree below a bottom node -/
theorem readBottom_ok (c : Cfg) (hs : c.sth = 8 ∨ c.sth = 4) (g : GoodHash c X) {pre : Bits} {db : DB} {cur : Node}
    {es : List Entry} {d : Nat} (hd : c.sth ≤ d) (hcur : ArrTip c.H (RepW c X db) 0 d cur es) (he : WFE d es)
    (hue : ∀ e ∈ es, Under pre e) (hev : ∀ e ∈ es, (World.trie c g).EOK e.key e.value) (hx : InX c X d es) :
    ∃ db1 T0 rt0, readBottom c db cur = (db1, .ok ⟨T0.depths 0, rt0, T0.nodes⟩) ∧
      Arr c.H (RepW c X db1) c.sth d T0 es ∧ KeepsOutside c X pre db db1 := by
  cases hcur with
  | empty =>
    refine ⟨db, .tip (newEmptyNode c.H), emptyHash c.H, ?_, Arr.tip _ _ _ _ ArrTip.empty, (World.trie c g).F_refl _ _⟩
    simp [readBottom, newEmptyNode, getSubtree, newEmptySubTree, LT.depths, LT.nodes]
  | leaf e hv =>
    exact ⟨db, .tip (newLeafNode c.H e.key e.value), _, congrArg (Prod.mk db) (newSubtreeFromData_tree c.H (.tip _)),
      Arr.tip _ _ _ _ (ArrTip.leaf e hv), (World.trie c g).F_refl _ _⟩
  | stub es _ h2 hr =>
    have hk : ∀ e ∈ es, e.key.length = c.keyLen := fun e hm => (hev e hm).1
    have hdel : ∀ h : Bytes, root c.H d es ≠ h → dbGet (dbDel db (root c.H d es)) h = dbGet db h :=
      fun _ hne => dbGet_dbDel_ne db hne
    obtain ⟨T0, hget, hA⟩ := getSubtree_rep c hs g hr.rep he (by intro h; simp [h] at h2) hev hx
    refine ⟨dbDel db (root c.H d es), T0, root c.H d es, ?_,
      Arr.toW c g (Arr.frame_root c g hdel (by omega) he hx hA) he hk hx hd,
      keepsOutside_root c g hdel hue he hx hk⟩
    simp only [readBottom, newStubNode, hget]

/-- storing the collapsed tree makes the updated group represented -/
theorem store_rep (c : Cfg) (hs : c.sth = 8 ∨ c.sth = 4) (g : GoodHash c X) {db2 : DB} {d : Nat} {T' : LT}
    {es' : List Entry} (hA' : Arr c.H (RepW c X db2) c.sth d T' es') (hwf' : WFE d es')
    (hx' : InX c X d es') :
    Rep c (dbSet db2 (root c.H d es') (SubTree.encode ⟨T'.collapse.depths 0, root c.H d es', T'.collapse.nodes⟩))
      d es' (root c.H d es') :=
  Rep.intro c T'.collapse
    (Arr.frame_root c g (fun _ hne => dbGet_dbSet_ne db2 _ hne) (by omega) hwf' hx'
      (Arr.mono (fun _ _ _ h => h.rep) (Arr.collapse hwf' hA')))
    (LT.collapse_canon T') rfl (dbGet_dbSet_self _ _ _)

/-- one more stored level: if the level below refines the specification, so does the bottom of this level -/
theorem bottom_step (c : Cfg) (hs : c.sth = 8 ∨ c.sth = 4) (g : GoodHash c X) (n height dB' : Nat)
    (ha : Aligned c (height + c.sth))
    (hlow : BottomOK c (World.trie c g) (updateSubtree c n) (height + c.sth) dB') :
    BottomOK c (World.trie c g) (updateSubtree c (n + 1)) height (c.sth + dB') := by
  -- read the subtree below the bottom node (`readBottom_ok`), update it one level down (`updateSubtree_level` with the
  -- hypothesis on the levels below), store the collapsed tree (`store_rep`); every change of the store is at the record key
  -- of this group, so the groups at diverging positions are kept
  intro pre db bins cur es ops hpre hcur he ho hue huo hev hov hie hia hb hne hsr
  obtain rfl : bins = [ops.map kvOf] := hb
  obtain ⟨db1, T0, rt0, hread, hA0, hF0⟩ := readBottom_ok c hs g (pre := pre) (by omega) hcur he hue hev hie
  have hops : (ops.map kvOf).map (opOf (height + c.sth)) = ops := by rw [← hpre]; exact map_opOf_kvOf huo
  have hk : ∀ kv ∈ ops.map kvOf, height + c.sth + c.sth ≤ 8 * kv.1.length := by
    intro kv hkv
    obtain ⟨o, ho', rfl⟩ := List.mem_map.mp hkv
    have hlen := congrArg List.length (huo o ho' : keyBits o.key = pre ++ o.path)
    rw [keyBits_length, List.length_append, ho.1 o ho'] at hlen
    simp only [kvOf]
    omega
  obtain ⟨db2, T', hupd, hA', hF'⟩ := updateSubtree_level c (World.trie c g) n (height + c.sth) dB' hlow ha
    (c.sth + dB') T0 es db1 rt0 pre (ops.map kvOf) hops hA0 hpre rfl ⟨he, ho, hue, huo, hev, hov, hie, hia⟩ hk
    (by simpa using hne)
  have hwf' : WFE (c.sth + dB') (applyE es ops) := wfe_applyE he ho
  have hkl' : ∀ e ∈ applyE es ops, e.key.length = c.keyLen := fun e hm => (eok_applyE c g hev hov e hm).1
  have hkind := (collapse_exp c.H (c.sth + dB') T' _ hwf' hA'.exp).2
  have hAc := Arr.collapse hwf' hA'
  have hstore := store_rep c hs g hA' hwf' hia
  have hFall : ∀ v, KeepsOutside c X pre db (dbSet db2 (root c.H (c.sth + dB') (applyE es ops)) v) := fun v =>
    (World.trie c g).F_trans _ _ _ _ ((World.trie c g).F_trans _ _ _ _ hF0 hF')
      (keepsOutside_root c g (fun _ hne => dbGet_dbSet_ne db2 v hne) (under_applyE hue huo) hwf' hia hkl')
  unfold updateBottom
  simp only [hread, hupd]
  cases hTc : T'.collapse with
  | tip nd =>
    rw [hTc] at hAc
    exact ⟨_, nd, rfl, hAc.tip_inv.lift (by omega), hFall _⟩
  | br l r =>
    rw [hTc] at hkind hstore
    have h2 : 2 ≤ (applyE es ops).length := kindOfLen_stub.mp hkind.symm
    split
    · next hn =>
      have := congrArg List.length hn
      have := l.nodes_length_pos
      have := r.nodes_length_pos
      simp only [LT.nodes, List.length_append, List.length_singleton] at *
      omega
    · exact ⟨_, _, rfl, ArrTip.stub _ rfl h2 ⟨hwf', hkl', hia, hstore⟩, hFall _⟩

/-- with no key bits left below the subtree there is nothing below its bottom -/
theorem bottom_zero (c : Cfg) (g : GoodHash c X) (lower : DB → List KV → SubTree → Nat → St SubTree) (height : Nat) :
    BottomOK c (World.trie c g) lower height 0 := by
  intro pre db bins cur es ops hpre hcur he ho hue huo hev hov _ _ hb hne hsr
  exfalso
  -- the single write goes to the key of the only entry there can be: a shortcut applies
  obtain ⟨o, rfl⟩ := List.length_eq_one_iff.mp
    (Nat.le_antisymm (wfe_zero_length ho) (List.length_pos_iff.mpr hne))
  have hes : es = [] ∨ ∃ e, es = [e] ∧ e.key = o.key := by
    match es, wfe_zero_length he with
    | [], _ => exact Or.inl rfl
    | [e], _ =>
      refine Or.inr ⟨e, rfl, (under_key_eq (hue e List.mem_cons_self) (huo o List.mem_cons_self)).mp ?_⟩
      rw [List.length_eq_zero_iff.mp (he.1 e List.mem_cons_self),
        List.length_eq_zero_iff.mp (ho.1 o List.mem_cons_self)]
  have := (singleResult_single c (pos := c.sth) hcur (hb.total fun _ _ => Nat.zero_le _)
    (hb.firstKV_single (Nat.zero_le _)) _).mpr ⟨hes, rfl⟩
  rw [hsr] at this
  cases this

/-- **every level below refines the specification** (`L` levels below, fuel at least `L`) -/
theorem bottomOK_trie (c : Cfg) (hs : c.sth = 8 ∨ c.sth = 4) (g : GoodHash c X) :
    ∀ (L n height : Nat), L ≤ n → Aligned c height →
      BottomOK c (World.trie c g) (updateSubtree c n) height (c.sth * L)
  | 0, n, height, _, _ => by rw [Nat.mul_zero]; exact bottom_zero c g _ height
  | L + 1, 0, _, hle, _ => by omega
  | L + 1, n + 1, height, hle, ha => by
    have := bottom_step c hs g n height (c.sth * L) ha.next
      (bottomOK_trie c hs g L n (height + c.sth) (by omega) ha.next)
    rw [Nat.mul_succ, Nat.add_comm (c.sth * L) c.sth]
    exact this

/-! ### what `update` needs at the top level (Props/C10_Impl.lean): the fuel, entries up to order, the de-duplicated batch -/

theorem foldl_max_ge (l : List Bytes) (n : Nat) : n ≤ l.foldl (fun m k => max m k.length) n := by
  induction l generalizing n with
  | nil => exact Nat.le_refl _
  | cons k r ih => exact Nat.le_trans (Nat.le_max_left _ _) (ih _)

theorem wfe_perm {d : Nat} {es es' : List Entry} (h : es.Perm es') (hw : WFE d es') : WFE d es := by
  refine ⟨fun e he => hw.1 e (h.mem_iff.mp he), ?_⟩
  exact (h.pairwise_iff (fun {a b} (hab : a.path ≠ b.path) => fun hba => hab hba.symm)).mpr hw.2

theorem mem_uniqueFirst {b : List KV} {kv : KV} (h : kv ∈ uniqueFirst b) : kv ∈ b := by
  rw [uniqueFirst_eq_dedupFirst] at h; exact mem_dedupFirst h

end LiskVerif.SMTImpl
