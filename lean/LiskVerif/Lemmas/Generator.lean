/- Lemmas about `LiskVerif.Model.Generator`. Selection: the sender map is a finite map (Lemmas/AList.lean),
`(AList.get g s).getD []` is the list of sender `s`, and per sender the result of a run is a prefix of that list
(`Run.filter_prefix`), from which membership, "once only" and the sender facts follow; the deterministic loop
and the validator `checkLoop` are runs for every pool (`selectByFee_run`, `checkLoop_run`, `run_checkLoop`).
Generator database: `setInfo` is an upsert, and an operation either leaves the database and the ghost lists
alone or writes the record of its signer (`Op.signer`, `applyOp_db_none`, `applyOp_db_some`). -/
import LiskVerif.Model.GenStatus
import LiskVerif.Lemmas.Sort
import LiskVerif.Lemmas.AList

namespace LiskVerif.Generator

/-- well-formed sender lists: distinct senders; every list is non-empty, duplicate free and holds
only transactions of its sender -/
def GroupsWF (g : Groups) : Prop :=
  (g.map (·.1)).Nodup ∧ ∀ p ∈ g, p.2 ≠ [] ∧ p.2.Nodup ∧ ∀ t ∈ p.2, t.sender = p.1

namespace GroupsWF
variable {g : Groups} (h : GroupsWF g)
include h

theorem keys : (g.map (·.1)).Nodup := h.1

theorem ne_nil {p : Nat × List Tx} (hp : p ∈ g) : p.2 ≠ [] := (h.2 p hp).1

theorem nodup {s : Nat} {l : List Tx} (hm : (s, l) ∈ g) : l.Nodup := (h.2 _ hm).2.1

theorem sender {s : Nat} {l : List Tx} (hm : (s, l) ∈ g) {t : Tx} (ht : t ∈ l) : t.sender = s :=
  (h.2 _ hm).2.2 t ht

end GroupsWF

/-- what the loop itself relies on (it terminates, and it is `done` only on the empty map): distinct
senders and no empty list. `initGroups` of every pool has it, duplicates in the pool or not. -/
structure GroupsOK (g : Groups) : Prop where
  keys : (g.map (·.1)).Nodup
  ne_nil : ∀ {p}, p ∈ g → p.2 ≠ []

theorem GroupsWF.ok {g : Groups} (h : GroupsWF g) : GroupsOK g := ⟨h.keys, h.ne_nil⟩

/-! ### erase / replace / advance

The sender map is a finite map in the sense of Lemmas/AList.lean. With distinct senders `erase` is the
filter on keys, and `replace` of a sender that is there is `AList.upsert`. -/

theorem mem_keys {g : Groups} {k : Nat} {l : List Tx} (h : (k, l) ∈ g) : k ∈ g.map (·.1) :=
  List.mem_map_of_mem h

theorem erase_sublist (s : Nat) (g : Groups) : (erase s g).Sublist g := by
  induction g with
  | nil => exact List.Sublist.refl _
  | cons p r ih =>
    obtain ⟨k, l⟩ := p
    simp only [erase]
    split
    · exact List.sublist_cons_self _ _
    · exact ih.cons_cons _

theorem mem_of_mem_erase {s : Nat} {g : Groups} {p : Nat × List Tx} (h : p ∈ erase s g) : p ∈ g :=
  (erase_sublist s g).subset h

theorem keys_erase_nodup {g : Groups} (hnd : (g.map (·.1)).Nodup) (s : Nat) :
    ((erase s g).map (·.1)).Nodup :=
  hnd.sublist ((erase_sublist s g).map _)

theorem erase_eq_filter {g : Groups} (hnd : (g.map (·.1)).Nodup) (s : Nat) :
    erase s g = g.filter (fun e => e.1 ≠ s) := by
  induction g with
  | nil => rfl
  | cons p r ih =>
    obtain ⟨k, l⟩ := p
    simp only [List.map_cons, List.nodup_cons] at hnd
    rw [erase, List.filter_cons]
    by_cases hk : k = s
    · subst hk
      rw [if_pos rfl, if_neg (by simp)]
      refine (List.filter_eq_self.mpr fun e he => ?_).symm
      have : e.1 ≠ k := fun h => hnd.1 (h ▸ List.mem_map.mpr ⟨e, he, rfl⟩)
      simpa using this
    · rw [if_neg hk, if_pos (by simpa using hk), ih hnd.2]

theorem mem_erase_iff {g : Groups} (hnd : (g.map (·.1)).Nodup) (s k : Nat) (l : List Tx) :
    (k, l) ∈ erase s g ↔ (k, l) ∈ g ∧ k ≠ s := by
  rw [erase_eq_filter hnd, List.mem_filter]; simp

theorem not_mem_keys_erase {g : Groups} (hnd : (g.map (·.1)).Nodup) (s : Nat) :
    s ∉ (erase s g).map (·.1) := by
  intro h
  obtain ⟨⟨k, l⟩, hp, hk⟩ := List.mem_map.mp h
  simp only at hk
  subst hk
  exact ((mem_erase_iff hnd k k l).mp hp).2 rfl

theorem replace_eq_upsert {g : Groups} {s : Nat} (hs : s ∈ g.map (·.1)) (l' : List Tx) :
    replace s l' g = AList.upsert g s l' := by
  induction g with
  | nil => cases hs
  | cons p r ih =>
    obtain ⟨k, l⟩ := p
    rw [replace, AList.upsert]
    by_cases hk : k = s
    · rw [if_pos hk, if_pos hk]
    · rw [if_neg hk, if_neg hk, ih ((List.mem_cons.mp hs).resolve_left (Ne.symm hk))]

theorem mem_replace_iff {g : Groups} (hnd : (g.map (·.1)).Nodup) {s : Nat} (hs : s ∈ g.map (·.1))
    (k : Nat) (l l' : List Tx) :
    (k, l) ∈ replace s l' g ↔ (k ≠ s ∧ (k, l) ∈ g) ∨ (k = s ∧ l = l') := by
  rw [replace_eq_upsert hs, ← AList.get_iff_mem (AList.NodupKeys.upsert hnd s l'), AList.get_upsert,
    ← AList.get_iff_mem hnd]
  by_cases hk : k = s <;> simp [hk, eq_comm]

theorem mem_replace {s : Nat} {l' : List Tx} {g : Groups} {p : Nat × List Tx} (h : p ∈ replace s l' g) :
    p ∈ g ∨ p = (s, l') := by
  induction g with
  | nil => cases h
  | cons q r ih =>
    obtain ⟨k, l⟩ := q
    unfold replace at h
    split at h
    · rename_i hk
      rcases List.mem_cons.mp h with h1 | h1
      · right; rw [h1, hk]
      · left; exact List.mem_cons_of_mem _ h1
    · rcases List.mem_cons.mp h with h1 | h1
      · left; rw [h1]; exact List.mem_cons_self
      · rcases ih h1 with h2 | h2
        · left; exact List.mem_cons_of_mem _ h2
        · right; exact h2

/-- what holds of every list holds of the lists after a pick, if it holds of the rest of the list
picked from -/
theorem forall_mem_advance {P : Nat × List Tx → Prop} {g : Groups} {s : Nat} {rest : List Tx}
    (hP : ∀ p ∈ g, P p) (hrest : rest ≠ [] → P (s, rest)) : ∀ p ∈ advance s rest g, P p := by
  cases rest with
  | nil => exact fun p hp => hP p (mem_of_mem_erase hp)
  | cons a r =>
    intro p hp
    rcases mem_replace hp with hp' | rfl
    · exact hP _ hp'
    · exact hrest (List.cons_ne_nil _ _)

theorem keys_advance_nodup {g : Groups} (hnd : (g.map (·.1)).Nodup) {s : Nat} {t : Tx} {rest : List Tx}
    (hm : (s, t :: rest) ∈ g) : ((advance s rest g).map (·.1)).Nodup := by
  cases rest with
  | nil => exact keys_erase_nodup hnd s
  | cons a r =>
    rw [Generator.advance, replace_eq_upsert (mem_keys hm), AList.keys_upsert, if_pos (mem_keys hm)]
    exact hnd

theorem GroupsWF.erase {g : Groups} (h : GroupsWF g) (s : Nat) : GroupsWF (erase s g) :=
  ⟨keys_erase_nodup h.keys s, fun p hp => h.2 p (mem_of_mem_erase hp)⟩

theorem GroupsWF.advance {g : Groups} (h : GroupsWF g) {s : Nat} {t : Tx} {rest : List Tx}
    (hm : (s, t :: rest) ∈ g) : GroupsWF (advance s rest g) :=
  ⟨keys_advance_nodup h.keys hm, forall_mem_advance h.2 fun hr =>
    ⟨hr, (List.nodup_cons.mp (h.nodup hm)).2, fun _ hx => h.sender hm (List.mem_cons_of_mem _ hx)⟩⟩

theorem GroupsOK.erase {g : Groups} (h : GroupsOK g) (s : Nat) : GroupsOK (erase s g) :=
  ⟨keys_erase_nodup h.keys s, fun hp => h.ne_nil (mem_of_mem_erase hp)⟩

theorem GroupsOK.advance {g : Groups} (h : GroupsOK g) {s : Nat} {t : Tx} {rest : List Tx}
    (hm : (s, t :: rest) ∈ g) : GroupsOK (advance s rest g) :=
  ⟨keys_advance_nodup h.keys hm, fun {p} hp =>
    forall_mem_advance (P := fun p => p.2 ≠ []) (fun _ => h.ne_nil) id p hp⟩

theorem mem_advance_of_ne {g : Groups} (hnd : (g.map (·.1)).Nodup) {s : Nat} {t : Tx} {rest : List Tx}
    (hm : (s, t :: rest) ∈ g) {k : Nat} {l : List Tx} (hk : k ≠ s) (h : (k, l) ∈ g) :
    (k, l) ∈ advance s rest g := by
  cases rest with
  | nil => exact (mem_erase_iff hnd s k l).mpr ⟨h, hk⟩
  | cons a rest' => exact (mem_replace_iff hnd (mem_keys hm) k l _).mpr (Or.inl ⟨hk, h⟩)

theorem mem_advance_self {g : Groups} (hnd : (g.map (·.1)).Nodup) {s : Nat} {t a : Tx}
    {rest : List Tx} (hm : (s, t :: a :: rest) ∈ g) : (s, a :: rest) ∈ advance s (a :: rest) g :=
  (mem_replace_iff hnd (mem_keys hm) s _ _).mpr (Or.inr ⟨rfl, rfl⟩)

/-! The list of sender `s` is `(AList.get g s).getD []`: the first entry with that key, `[]` when there is none. -/

theorem getD_of_mem {g : Groups} (hnd : (g.map (·.1)).Nodup) {s : Nat} {l : List Tx}
    (h : (s, l) ∈ g) : (AList.get g s).getD [] = l := by
  rw [(AList.get_iff_mem hnd).mpr h]; rfl

theorem mem_keys_of_mem_getD {g : Groups} {s : Nat} {x : Tx} (h : x ∈ (AList.get g s).getD []) :
    s ∈ g.map (·.1) := by
  refine Classical.not_not.mp fun hn => ?_
  rw [AList.get_eq_none_iff.mpr hn] at h
  exact List.not_mem_nil h

/-- `erase` empties the list of the sender and leaves the others -/
theorem getD_erase {g : Groups} (hnd : (g.map (·.1)).Nodup) (s k : Nat) :
    (AList.get (erase s g) k).getD [] = if k = s then [] else (AList.get g k).getD [] := by
  rw [erase_eq_filter hnd, AList.get_erase]
  split <;> rfl

/-- after a pick the sender's list is the rest, the other lists are as they were -/
theorem getD_advance {g : Groups} (hnd : (g.map (·.1)).Nodup) {s : Nat} {t : Tx} {rest : List Tx}
    (hm : (s, t :: rest) ∈ g) (k : Nat) :
    (AList.get (advance s rest g) k).getD [] = if k = s then rest else (AList.get g k).getD [] := by
  cases rest with
  | nil => exact getD_erase hnd s k
  | cons a r =>
    rw [Generator.advance, replace_eq_upsert (mem_keys hm), AList.get_upsert]
    split <;> rfl

/-! ### heads -/

theorem mem_heads {g : Groups} {t : Tx} : t ∈ heads g ↔ ∃ s rest, (s, t :: rest) ∈ g := by
  simp only [heads, List.mem_filterMap]
  constructor
  · rintro ⟨⟨s, l⟩, hp, hh⟩
    cases l with
    | nil => simp at hh
    | cons a r =>
      simp only [List.head?_cons, Option.some.injEq] at hh
      subst hh
      exact ⟨s, r, hp⟩
  · rintro ⟨s, rest, hp⟩
    exact ⟨(s, t :: rest), hp, rfl⟩

/-! ### runs -/

/-- per sender, the selected transactions are a prefix of the sender's list -/
theorem Run.filter_prefix {ok : List Tx → Tx → Bool} {maxSize : Nat} {g : Groups} {total : Nat}
    {acc R : List Tx} {evs : List Ev} (h : Run ok maxSize g total acc R evs) (hwf : GroupsWF g) (s : Nat) :
    R.filter (fun t => t.sender == s) <+: (AList.get g s).getD [] := by
  induction h with
  | done total acc => exact List.nil_prefix
  | cut hmax hsz => exact List.nil_prefix
  | @skip g total acc s0 t0 rest0 R evs hmax hsz hok hrun ih =>
    have := ih (hwf.erase _)
    rw [getD_erase hwf.keys] at this
    split at this
    · exact this.trans List.nil_prefix
    · exact this
  | @take g total acc s0 t0 rest0 R evs hmax hsz hok hrun ih =>
    have ht0 : t0.sender = s0 := hwf.sender hmax.1 List.mem_cons_self
    have := ih (hwf.advance hmax.1)
    rw [getD_advance hwf.keys hmax.1] at this
    rw [List.filter_cons, ht0]
    by_cases hs : s = s0
    · subst hs
      rw [if_pos rfl] at this
      rw [if_pos (beq_self_eq_true s), getD_of_mem hwf.keys hmax.1]
      exact (List.prefix_cons_inj t0).mpr this
    · rw [if_neg hs] at this
      rwa [if_neg (by simpa using Ne.symm hs)]

/-- every selected transaction is in the list of its sender -/
theorem Run.mem_getD {ok : List Tx → Tx → Bool} {maxSize : Nat} {g : Groups} {total : Nat}
    {acc R : List Tx} {evs : List Ev} (h : Run ok maxSize g total acc R evs) (hwf : GroupsWF g)
    {x : Tx} (hx : x ∈ R) : x ∈ (AList.get g x.sender).getD [] :=
  (h.filter_prefix hwf x.sender).subset (List.mem_filter.mpr ⟨hx, beq_self_eq_true _⟩)

/-- a sender without a group gets nothing selected -/
theorem Run.sender_mem_keys {ok : List Tx → Tx → Bool} {maxSize : Nat} {g : Groups} {total : Nat}
    {acc R : List Tx} {evs : List Ev} (h : Run ok maxSize g total acc R evs) (hwf : GroupsWF g)
    {x : Tx} (hx : x ∈ R) : x.sender ∈ g.map (·.1) :=
  mem_keys_of_mem_getD (h.mem_getD hwf hx)

/-- after popping `t` from its group, `t` is never selected again -/
theorem Run.head_not_mem {ok : List Tx → Tx → Bool} {maxSize : Nat} {g : Groups} {total : Nat}
    {acc R : List Tx} {evs : List Ev} {s : Nat} {t : Tx} {rest : List Tx} (hwf : GroupsWF g)
    (hm : (s, t :: rest) ∈ g) (h : Run ok maxSize (advance s rest g) total acc R evs) : t ∉ R := by
  intro ht
  have := h.mem_getD (hwf.advance hm) ht
  rw [getD_advance hwf.keys hm, if_pos (hwf.sender hm List.mem_cons_self)] at this
  exact (List.nodup_cons.mp (hwf.nodup hm)).1 this

theorem Run.nodup {ok : List Tx → Tx → Bool} {maxSize : Nat} {g : Groups} {total : Nat}
    {acc R : List Tx} {evs : List Ev} (h : Run ok maxSize g total acc R evs) (hwf : GroupsWF g) :
    R.Nodup := by
  induction h with
  | done total acc => exact List.nodup_nil
  | cut hmax hsz => exact List.nodup_nil
  | skip hmax hsz hok hrun ih => exact ih (hwf.erase _)
  | take hmax hsz hok hrun ih =>
    exact List.nodup_cons.mpr ⟨Run.head_not_mem hwf hmax.1 hrun, ih (hwf.advance hmax.1)⟩

/-- every selected transaction was accepted by `ok` (state-independent verdicts) -/
theorem Run.ok_of_mem {okb : Tx → Bool} {maxSize : Nat} {g : Groups} {total : Nat}
    {acc R : List Tx} {evs : List Ev} (h : Run (fun _ t => okb t) maxSize g total acc R evs) :
    ∀ x ∈ R, okb x = true := by
  induction h with
  | done total acc => intro x hx; cases hx
  | cut hmax hsz => intro x hx; cases hx
  | skip hmax hsz hok hrun ih => exact ih
  | take hmax hsz hok hrun ih => exact List.forall_mem_cons.mpr ⟨hok, ih⟩

theorem Run.size_bound {ok : List Tx → Tx → Bool} {maxSize : Nat} {g : Groups} {total : Nat}
    {acc R : List Tx} {evs : List Ev} (h : Run ok maxSize g total acc R evs) (ht : total ≤ maxSize) :
    total + (R.map (·.size)).sum ≤ maxSize := by
  induction h with
  | done total acc => simpa using ht
  | cut hmax hsz => simpa using ht
  | skip hmax hsz hok hrun ih => exact ih ht
  | take hmax hsz hok hrun ih =>
    have := ih (by omega)
    simp only [List.map_cons, List.sum_cons]
    omega

/-- a result of the loop already fits the limit: `limitTransactionsWithSize` keeps all of it -/
theorem Run.limit_id {ok : List Tx → Tx → Bool} {maxSize : Nat} {g : Groups} {total : Nat}
    {acc R : List Tx} {evs : List Ev} (h : Run ok maxSize g total acc R evs) :
    limitBySize maxSize total R = R := by
  induction h with
  | done total acc => rfl
  | cut hmax hsz => rfl
  | skip hmax hsz hok hrun ih => exact ih
  | take hmax hsz hok hrun ih =>
    simp only [limitBySize]
    rw [if_neg (by omega), ih]

/-- a prefix of `l1 ++ u :: l2` not containing `u` consists of elements of `l1` -/
theorem prefix_mem_left {α : Type} {p l1 l2 : List α} {u : α} (h : p <+: l1 ++ u :: l2)
    (hu : u ∉ p) : ∀ w ∈ p, w ∈ l1 := by
  -- `p` and `l1 ++ [u]` are prefixes of one list: one is a prefix of the other
  have h' : l1 ++ [u] <+: l1 ++ u :: l2 := ⟨l2, by simp⟩
  rcases List.prefix_or_prefix_of_prefix h h' with h1 | h1
  · intro w hw
    rcases List.mem_append.mp (h1.subset hw) with hw1 | hw1
    · exact hw1
    · exact absurd (List.mem_singleton.mp hw1 ▸ hw) hu
  · exact absurd (h1.subset (by simp)) hu
/-! ### initGroups -/

/-- `addTx` appends to the sender's list, creating it if need be -/
theorem addTx_eq_upsert (t : Tx) (g : Groups) :
    addTx t g = AList.upsert g t.sender ((AList.get g t.sender).getD [] ++ [t]) := by
  induction g with
  | nil => rfl
  | cons p r ih =>
    obtain ⟨k, l⟩ := p
    rw [addTx, AList.upsert, AList.get_cons]
    by_cases hk : k = t.sender
    · rw [if_pos hk, if_pos hk, if_pos hk]; rfl
    · rw [if_neg hk, if_neg hk, if_neg hk, ih]

theorem getD_addTx (s : Nat) (t : Tx) (g : Groups) :
    (AList.get (addTx t g) s).getD [] =
      if t.sender = s then (AList.get g s).getD [] ++ [t] else (AList.get g s).getD [] := by
  rw [addTx_eq_upsert, AList.get_upsert]
  by_cases h : s = t.sender
  · subst h; rw [if_pos rfl, if_pos rfl]; rfl
  · rw [if_neg h, if_neg (Ne.symm h)]

theorem getD_groupBySender (s : Nat) (txs : List Tx) (g : Groups) :
    (AList.get (groupBySender txs g) s).getD [] =
      (AList.get g s).getD [] ++ txs.filter (fun t => t.sender == s) := by
  induction txs generalizing g with
  | nil => simp [groupBySender]
  | cons t r ih =>
    simp only [groupBySender]
    rw [ih, getD_addTx, List.filter_cons]
    by_cases h : t.sender = s
    · simp [h]
    · simp [h]

theorem mem_keys_addTx (t : Tx) (g : Groups) (k : Nat) :
    k ∈ (addTx t g).map (·.1) ↔ k ∈ g.map (·.1) ∨ k = t.sender := by
  rw [addTx_eq_upsert, AList.mem_keys_upsert]; exact or_comm

theorem keys_addTx_nodup (t : Tx) {g : Groups} (hnd : (g.map (·.1)).Nodup) :
    ((addTx t g).map (·.1)).Nodup := by
  rw [addTx_eq_upsert]; exact AList.NodupKeys.upsert hnd _ _

theorem keys_groupBySender_nodup (txs : List Tx) {g : Groups} (hnd : (g.map (·.1)).Nodup) :
    ((groupBySender txs g).map (·.1)).Nodup := by
  induction txs generalizing g with
  | nil => exact hnd
  | cons t r ih => exact ih (keys_addTx_nodup t hnd)

/-- a sender has a list only if it was there before or the pool holds one of its transactions -/
theorem mem_keys_groupBySender (txs : List Tx) (g : Groups) (k : Nat) :
    k ∈ (groupBySender txs g).map (·.1) → k ∈ g.map (·.1) ∨ ∃ t ∈ txs, t.sender = k := by
  induction txs generalizing g with
  | nil => exact Or.inl
  | cons t r ih =>
    intro h
    rcases ih _ h with h | ⟨x, hx, e⟩
    · exact ((mem_keys_addTx t g k).mp h).imp_right fun e => ⟨t, List.mem_cons_self, e.symm⟩
    · exact Or.inr ⟨x, List.mem_cons_of_mem _ hx, e⟩

theorem keys_initGroups (txs : List Tx) :
    (initGroups txs).map (·.1) = (groupBySender txs []).map (·.1) := by
  simp only [initGroups, List.map_map]
  rfl

/-- the list of every sender is the nonce-sorted list of its transactions in the pool -/
theorem getD_initGroups (s : Nat) (txs : List Tx) :
    (AList.get (initGroups txs) s).getD [] = isort nonceLe (txs.filter fun t => t.sender == s) := by
  have hmap : ∀ g : Groups, (AList.get (g.map fun p => (p.1, isort nonceLe p.2)) s).getD [] =
      isort nonceLe ((AList.get g s).getD []) := by
    intro g
    induction g with
    | nil => rfl
    | cons p r ih =>
      obtain ⟨k, l⟩ := p
      rw [List.map_cons, AList.get_cons, AList.get_cons]
      split
      · rfl
      · exact ih
  rw [initGroups, hmap, getD_groupBySender]
  rfl

theorem initGroups_mem {txs : List Tx} {s : Nat} {l : List Tx} (h : (s, l) ∈ initGroups txs) :
    l = isort nonceLe (txs.filter fun t => t.sender == s) ∧ (txs.filter fun t => t.sender == s) ≠ [] := by
  have hnd : ((groupBySender txs []).map (·.1)).Nodup := keys_groupBySender_nodup txs (by simp)
  refine ⟨(getD_of_mem (keys_initGroups txs ▸ hnd) h).symm.trans (getD_initGroups s txs), ?_⟩
  rcases mem_keys_groupBySender txs [] s (keys_initGroups txs ▸ mem_keys h) with h | ⟨t, ht, e⟩
  · cases h
  · exact List.ne_nil_of_mem (List.mem_filter.mpr ⟨ht, by simp [e]⟩)

theorem initGroups_ok (txs : List Tx) : GroupsOK (initGroups txs) := by
  refine ⟨by rw [keys_initGroups]; exact keys_groupBySender_nodup txs (by simp), ?_⟩
  rintro ⟨s, l⟩ hp hl
  obtain ⟨e, hne⟩ := initGroups_mem hp
  have := (isort_perm nonceLe (txs.filter fun t => t.sender == s)).length_eq
  simp only at hl
  rw [← e, hl] at this
  exact hne (List.length_eq_zero_iff.mp this.symm)

theorem initGroups_wf {txs : List Tx} (hnd : txs.Nodup) : GroupsWF (initGroups txs) := by
  refine ⟨(initGroups_ok txs).keys, ?_⟩
  rintro ⟨s, l⟩ hp
  refine ⟨(initGroups_ok txs).ne_nil hp, ?_, ?_⟩
  all_goals
    obtain ⟨hl, _⟩ := initGroups_mem hp
    subst hl
  · exact (isort_perm nonceLe _).nodup_iff.mpr (hnd.filter _)
  · intro t ht
    have := (List.mem_filter.mp ((mem_isort _ _ _).mp ht)).2
    simpa using this

theorem isort_nonce_sorted (l : List Tx) :
    (isort nonceLe l).Pairwise (fun a b => a.nonce ≤ b.nonce) :=
  isort_key_pairwise Tx.nonce l

/-! ### txCount -/

theorem txCount_cons (k : Nat) (l : List Tx) (r : Groups) :
    txCount ((k, l) :: r) = l.length + txCount r := by
  simp [txCount]

/-- overwriting or adding the list of a sender changes the count by the difference of the lengths -/
theorem txCount_upsert (g : Groups) (s : Nat) (l' : List Tx) :
    txCount (AList.upsert g s l') + ((AList.get g s).getD []).length = txCount g + l'.length := by
  induction g with
  | nil => simp [AList.upsert, txCount]
  | cons p r ih =>
    obtain ⟨k, l⟩ := p
    rw [AList.upsert, AList.get_cons]
    by_cases hk : k = s
    · rw [if_pos hk, if_pos hk, txCount_cons, txCount_cons]; simp only [Option.getD_some]; omega
    · rw [if_neg hk, if_neg hk, txCount_cons, txCount_cons]; omega

theorem txCount_addTx (t : Tx) (g : Groups) : txCount (addTx t g) = txCount g + 1 := by
  have := txCount_upsert g t.sender ((AList.get g t.sender).getD [] ++ [t])
  rw [← addTx_eq_upsert, List.length_append, List.length_singleton] at this
  omega

theorem txCount_groupBySender (txs : List Tx) (g : Groups) :
    txCount (groupBySender txs g) = txCount g + txs.length := by
  induction txs generalizing g with
  | nil => simp [groupBySender]
  | cons t r ih => simp only [groupBySender, ih, txCount_addTx, List.length_cons]; omega

theorem txCount_initGroups (txs : List Tx) : txCount (initGroups txs) = txs.length := by
  have : ∀ g : Groups, txCount (g.map fun p => (p.1, isort nonceLe p.2)) = txCount g := by
    intro g
    induction g with
    | nil => rfl
    | cons p r ih =>
      obtain ⟨k, l⟩ := p
      simp only [List.map_cons, txCount_cons, ih, (isort_perm nonceLe l).length_eq]
  rw [initGroups, this, txCount_groupBySender]
  simp [txCount]

theorem txCount_erase {g : Groups} (hnd : (g.map (·.1)).Nodup) {s : Nat} {l : List Tx}
    (h : (s, l) ∈ g) : txCount (erase s g) + l.length = txCount g := by
  induction g with
  | nil => cases h
  | cons p r ih =>
    obtain ⟨k0, l0⟩ := p
    simp only [List.map_cons, List.nodup_cons] at hnd
    simp only [erase]
    rcases List.mem_cons.mp h with h1 | h1
    · cases h1
      rw [if_pos rfl, txCount_cons, Nat.add_comm]
    · have : k0 ≠ s := fun hk => hnd.1 (hk ▸ mem_keys h1)
      rw [if_neg this, txCount_cons, txCount_cons, Nat.add_assoc, ih hnd.2 h1]

theorem txCount_replace {g : Groups} (hnd : (g.map (·.1)).Nodup) {s : Nat} {l l' : List Tx}
    (h : (s, l) ∈ g) : txCount (replace s l' g) + l.length = txCount g + l'.length := by
  have := txCount_upsert g s l'
  rwa [← replace_eq_upsert (mem_keys h), getD_of_mem hnd h] at this

theorem txCount_erase_lt {g : Groups} (hnd : (g.map (·.1)).Nodup) {s : Nat} {t : Tx}
    {rest : List Tx} (h : (s, t :: rest) ∈ g) : txCount (erase s g) < txCount g := by
  have := txCount_erase hnd h
  simp only [List.length_cons] at this
  omega

theorem txCount_advance_lt {g : Groups} (hnd : (g.map (·.1)).Nodup) {s : Nat} {t : Tx}
    {rest : List Tx} (h : (s, t :: rest) ∈ g) : txCount (advance s rest g) < txCount g := by
  cases rest with
  | nil => exact txCount_erase_lt hnd h
  | cons a r =>
    have := txCount_replace (l' := a :: r) hnd h
    simp only [advance, List.length_cons] at *
    omega

theorem txCount_pos {g : Groups} (h : GroupsOK g) (hne : g ≠ []) : 0 < txCount g := by
  cases g with
  | nil => exact absurd rfl hne
  | cons p r =>
    obtain ⟨k, l⟩ := p
    rw [txCount_cons]
    exact Nat.add_pos_left (List.length_pos_iff.mpr (h.ne_nil List.mem_cons_self)) _

/-! ### pickMax -/

theorem pickMax_none {g : Groups} (h : pickMax g = none) : ∀ p ∈ g, p.2 = [] := by
  induction g with
  | nil => intro p hp; cases hp
  | cons q r ih =>
    obtain ⟨k, l⟩ := q
    cases l with
    | nil =>
      simp only [pickMax] at h
      exact List.forall_mem_cons.mpr ⟨rfl, ih h⟩
    | cons a l' =>
      simp only [pickMax] at h
      split at h
      · cases h
      · split at h <;> cases h

theorem pickMax_some {g : Groups} {s : Nat} {t : Tx} {rest : List Tx}
    (h : pickMax g = some (s, t, rest)) : IsMaxHead g s t rest := by
  induction g generalizing s t rest with
  | nil => cases h
  | cons p r ih =>
    obtain ⟨k, l⟩ := p
    cases l with
    | nil => exact ⟨List.mem_cons_of_mem _ (ih h).1, (ih h).2⟩
    | cons a l' =>
      -- the heads are `a` and the heads of `r`
      have hh : ∀ {b : Tx}, (∀ x ∈ heads r, x.prio ≤ b.prio) → a.prio ≤ b.prio →
          ∀ x ∈ heads ((k, a :: l') :: r), x.prio ≤ b.prio :=
        fun h1 h2 => List.forall_mem_cons.mpr ⟨h2, h1⟩
      rw [pickMax] at h
      cases hp : pickMax r with
      | none =>
        rw [hp] at h
        cases h
        refine ⟨List.mem_cons_self, hh (fun x hx => ?_) (Nat.le_refl _)⟩
        obtain ⟨s', rest', hm⟩ := mem_heads.mp hx
        cases pickMax_none hp _ hm
      | some q =>
        obtain ⟨s', t', rest'⟩ := q
        have ihr := ih hp
        rw [hp] at h
        dsimp only at h
        split at h <;> cases h
        · exact ⟨List.mem_cons_of_mem _ ihr.1, hh ihr.2 (Nat.le_of_lt ‹_›)⟩
        · exact ⟨List.mem_cons_self,
            hh (fun x hx => Nat.le_trans (ihr.2 x hx) (Nat.le_of_not_lt ‹_›)) (Nat.le_refl _)⟩

/-- the deterministic loop is one of the possible runs -/
theorem selectLoop_run (ok : List Tx → Tx → Bool) (maxSize : Nat) (fuel : Nat) :
    ∀ (g : Groups) (total : Nat) (acc : List Tx), GroupsOK g → txCount g ≤ fuel →
      ∃ evs, Run ok maxSize g total acc (selectLoop ok maxSize fuel g total acc) evs := by
  induction fuel with
  | zero =>
    intro g total acc hwf hc
    cases g with
    | nil => exact ⟨[], Run.done total acc⟩
    | cons p r => exact absurd (txCount_pos hwf (List.cons_ne_nil _ _)) (by omega)
  | succ fuel ih =>
    intro g total acc hwf hc
    simp only [selectLoop]
    split
    · rename_i hnone
      have hall := pickMax_none hnone
      have : g = [] := by
        cases g with
        | nil => rfl
        | cons p r => exact absurd (hall p List.mem_cons_self) (hwf.ne_nil List.mem_cons_self)
      subst this
      exact ⟨[], Run.done total acc⟩
    · rename_i s t rest hsome
      have hmax := pickMax_some hsome
      split
      · rename_i hsz
        exact ⟨_, Run.cut hmax hsz⟩
      · rename_i hsz
        split
        · rename_i hok
          have hlt := txCount_advance_lt hwf.keys hmax.1
          obtain ⟨evs, hr⟩ := ih (advance s rest g) (total + t.size) (acc ++ [t])
            (hwf.advance hmax.1) (Nat.le_of_lt_succ (Nat.lt_of_lt_of_le hlt hc))
          exact ⟨_, Run.take hmax (Nat.le_of_not_lt hsz) hok hr⟩
        · rename_i hok
          have hlt := txCount_erase_lt hwf.keys hmax.1
          obtain ⟨evs, hr⟩ := ih (erase s g) total acc (hwf.erase s)
            (Nat.le_of_lt_succ (Nat.lt_of_lt_of_le hlt hc))
          exact ⟨_, Run.skip hmax (Nat.le_of_not_lt hsz) (Bool.eq_false_iff.mpr hok) hr⟩

/-- `selectTransactionsByFee` with the first-maximal-head tie-break is a run of the loop, for every
pool: `initGroups` has distinct senders and no empty list whatever the pool holds -/
theorem selectByFee_run (ok : List Tx → Tx → Bool) (maxSize : Nat) (txs : List Tx) :
    ∃ evs, Run ok maxSize (initGroups txs) 0 [] (selectByFee ok maxSize txs) evs :=
  selectLoop_run ok maxSize txs.length (initGroups txs) 0 [] (initGroups_ok txs)
    (by rw [txCount_initGroups]; exact Nat.le_refl _)

/-- … and so is what `forge` puts into the block -/
theorem select_run (ok : List Tx → Tx → Bool) (maxSize : Nat) (txs : List Tx) :
    ∃ evs, Run ok maxSize (initGroups txs) 0 [] (select ok maxSize txs) evs := by
  obtain ⟨evs, h⟩ := selectByFee_run ok maxSize txs
  exact ⟨evs, by rw [select, h.limit_id]; exact h⟩

/-! ### validator -/

/-- a running maximum is below a bound iff its start and every element are -/
theorem foldl_max_le_iff {α : Type} (f : α → Nat) (l : List α) (m b : Nat) :
    l.foldl (fun m x => max m (f x)) m ≤ b ↔ m ≤ b ∧ ∀ x ∈ l, f x ≤ b := by
  induction l generalizing m with
  | nil => simp
  | cons a r ih => simp [ih, Nat.max_le, and_assoc]

theorem le_maxPrio {g : Groups} {t : Tx} (h : t ∈ heads g) : t.prio ≤ maxPrio g :=
  ((foldl_max_le_iff Tx.prio (heads g) 0 _).mp (Nat.le_refl _)).2 t h

theorem maxPrio_le {g : Groups} {b : Nat} (h : ∀ x ∈ heads g, x.prio ≤ b) : maxPrio g ≤ b :=
  (foldl_max_le_iff Tx.prio (heads g) 0 b).mpr ⟨Nat.zero_le _, h⟩

/-- a head has maximal priority among the heads iff its priority is `maxPrio` -/
theorem isMaxHead_iff {g : Groups} {s : Nat} {t : Tx} {rest : List Tx} (hm : (s, t :: rest) ∈ g) :
    IsMaxHead g s t rest ↔ t.prio = maxPrio g := by
  have hh : t ∈ heads g := mem_heads.mpr ⟨s, rest, hm⟩
  constructor
  · intro h
    exact Nat.le_antisymm (le_maxPrio hh) (maxPrio_le h.2)
  · intro h
    refine ⟨hm, ?_⟩
    intro x hx
    rw [h]
    exact le_maxPrio hx

/-- soundness of the validator: every accepted result is a run -/
theorem checkLoop_run (okb : Tx → Bool) (maxSize : Nat) (fuel : Nat) :
    ∀ (g : Groups) (total : Nat) (R acc : List Tx), checkLoop okb maxSize fuel g total R = true →
      ∃ evs, Run (fun _ t => okb t) maxSize g total acc R evs := by
  induction fuel with
  | zero =>
    intro g total R acc h
    simp only [checkLoop, Bool.and_eq_true, List.isEmpty_iff] at h
    obtain ⟨rfl, rfl⟩ := h
    exact ⟨[], Run.done _ _⟩
  | succ fuel ih =>
    intro g total R acc h
    cases g with
    | nil =>
      simp only [checkLoop, List.isEmpty_iff] at h
      subst h
      exact ⟨[], Run.done _ _⟩
    | cons q r =>
      simp only [checkLoop] at h
      generalize q :: r = g at h ⊢
      obtain ⟨p, hp, hf⟩ := List.any_eq_true.mp h
      obtain ⟨s, l⟩ := p
      cases l with
      | nil => simp at hf
      | cons t rest =>
        simp only [Bool.and_eq_true, decide_eq_true_eq] at hf
        obtain ⟨hprio, hf⟩ := hf
        have hm : IsMaxHead g s t rest := (isMaxHead_iff hp).mpr hprio
        by_cases hsz : t.size + total > maxSize
        · simp only [hsz, ↓reduceIte, List.isEmpty_iff] at hf
          subst hf
          exact ⟨_, Run.cut hm hsz⟩
        · simp only [hsz, ↓reduceIte] at hf
          by_cases hok : okb t = true
          · simp only [hok, ↓reduceIte] at hf
            cases R with
            | nil => simp at hf
            | cons x R' =>
              simp only [Bool.and_eq_true, decide_eq_true_eq] at hf
              obtain ⟨rfl, hf⟩ := hf
              obtain ⟨evs, hr⟩ := ih _ _ _ (acc ++ [x]) hf
              exact ⟨_, Run.take hm (Nat.le_of_not_lt hsz) hok hr⟩
          · simp only [hok, Bool.false_eq_true, ↓reduceIte] at hf
            obtain ⟨evs, hr⟩ := ih _ _ _ acc hf
            exact ⟨_, Run.skip hm (Nat.le_of_not_lt hsz) (Bool.eq_false_iff.mpr hok) hr⟩

/-- the validator accepts when popping some head of maximal priority agrees with the claim -/
theorem checkLoop_of_head {okb : Tx → Bool} {maxSize fuel : Nat} {g : Groups} {total : Nat} {R : List Tx}
    {s : Nat} {t : Tx} {rest : List Tx} (hm : IsMaxHead g s t rest)
    (h : (if t.size + total > maxSize then R.isEmpty
      else if okb t then
        (match R with
          | [] => false
          | r :: R' => decide (r = t) && checkLoop okb maxSize fuel (advance s rest g) (total + t.size) R')
      else checkLoop okb maxSize fuel (erase s g) total R) = true) :
    checkLoop okb maxSize (fuel + 1) g total R = true := by
  cases g with
  | nil => cases hm.1
  | cons q r =>
    rw [checkLoop]
    refine List.any_eq_true.mpr ⟨(s, t :: rest), hm.1, ?_⟩
    simp only [Bool.and_eq_true, decide_eq_true_eq]
    exact ⟨(isMaxHead_iff hm.1).mp hm, h⟩

/-- completeness of the validator: every run is accepted (enough fuel) -/
theorem run_checkLoop (okb : Tx → Bool) (maxSize : Nat) {g : Groups} {total : Nat} {acc R : List Tx}
    {evs : List Ev} (h : Run (fun _ t => okb t) maxSize g total acc R evs) :
    ∀ fuel, GroupsOK g → txCount g < fuel → checkLoop okb maxSize fuel g total R = true := by
  induction h with
  | done total acc =>
    intro fuel _ _
    cases fuel <;> rfl
  | cut hm hsz =>
    intro fuel _ hf
    cases fuel with
    | zero => exact absurd hf (Nat.not_lt_zero _)
    | succ fuel => exact checkLoop_of_head hm (by rw [if_pos hsz]; rfl)
  | skip hm hsz hok _ ih =>
    intro fuel hwf hf
    cases fuel with
    | zero => exact absurd hf (Nat.not_lt_zero _)
    | succ fuel =>
      have hlt := txCount_erase_lt hwf.keys hm.1
      refine checkLoop_of_head hm ?_
      rw [if_neg (Nat.not_lt.mpr hsz), if_neg (by simp [hok])]
      exact ih fuel (hwf.erase _) (Nat.lt_of_lt_of_le hlt (Nat.le_of_lt_succ hf))
  | take hm hsz hok _ ih =>
    intro fuel hwf hf
    cases fuel with
    | zero => exact absurd hf (Nat.not_lt_zero _)
    | succ fuel =>
      have hlt := txCount_advance_lt hwf.keys hm.1
      refine checkLoop_of_head hm ?_
      rw [if_neg (Nat.not_lt.mpr hsz), if_pos hok]
      simp [ih fuel (hwf.advance hm.1) (Nat.lt_of_lt_of_le hlt (Nat.le_of_lt_succ hf))]

/-! ### the generator database -/

open GenStatus in
/-- the generator database is a finite map (Lemmas/AList.lean): `lookupInfo` reads it … -/
theorem lookupInfo_eq_get (infos : List (Nat × Info)) (v : Nat) : lookupInfo infos v = AList.get infos v := by
  rw [AList.get_eq_find?, lookupInfo]
  cases infos.find? (fun p => p.1 == v) <;> rfl

/-- … and `setInfo` overwrites the record of an address where it stands, or appends one -/
theorem setInfo_eq_upsert (infos : List (Nat × Info)) (v : Nat) (i : Info) :
    setInfo infos v i = AList.upsert infos v i := by
  induction infos with
  | nil => rfl
  | cons p r ih =>
    obtain ⟨k, x⟩ := p
    rw [setInfo, AList.upsert, ih]
    by_cases hk : k = v <;> simp [hk]

open GenStatus in
/-- `setInfo` stores `i` for `v` and changes the record of no other address -/
theorem lookupInfo_setInfo (infos : List (Nat × Info)) (v w : Nat) (i : Info) :
    lookupInfo (setInfo infos v i) w = if w = v then some i else lookupInfo infos w := by
  rw [lookupInfo_eq_get, setInfo_eq_upsert, AList.get_upsert, lookupInfo_eq_get]

open GenStatus in
/-- an absent record reads as the all-zero one -/
theorem getInfo_eq_lookup (infos : List (Nat × Info)) (v : Nat) :
    getInfo infos v = (lookupInfo infos v).getD {} := by
  unfold getInfo lookupInfo
  cases infos.find? (fun p => p.1 == v) <;> rfl

theorem getInfo_setInfo (infos : List (Nat × Info)) (v w : Nat) (i : Info) :
    getInfo (setInfo infos v i) w = if w = v then i else getInfo infos w := by
  rw [getInfo_eq_lookup, lookupInfo_setInfo, getInfo_eq_lookup]
  split <;> rfl

theorem mem_headersOf {v : Nat} {h : Hdr} {l : List (Nat × Hdr)} (hm : (v, h) ∈ l) : h ∈ headersOf v l :=
  List.mem_map.mpr ⟨(v, h), List.mem_filter.mpr ⟨hm, beq_self_eq_true v⟩, rfl⟩

/-- the validator whose signed header the operation brings into the generator database: a forge
that did not die before the write -/
def Op.signer : Op → Option Nat
  | .forge v .applied _ | .forge v .dropped _ => some v
  | _ => none

/-- an operation without signer leaves the generator database and the ghost lists alone -/
theorem applyOp_db_none (rule : Rule) (addr : Nat → Bytes) (st : GState) {op : Op} (h : op.signer = none) :
    (applyOp rule addr st op).infos = st.infos ∧ (applyOp rule addr st op).persisted = st.persisted ∧
      (applyOp rule addr st op).handedOn = st.handedOn := by
  cases op with
  | forge v o m =>
    cases o with
    | crashedBeforeWrite => exact ⟨rfl, rfl, rfl⟩
    | _ => cases h
  | _ => exact ⟨rfl, rfl, rfl⟩

/-- an operation with signer `v` stores the record of the header signed on the current tip and
appends that header to both ghost lists -/
theorem applyOp_db_some (rule : Rule) (addr : Nat → Bytes) (st : GState) {op : Op} {v : Nat}
    (h : op.signer = some v) :
    (applyOp rule addr st op).infos = setInfo st.infos v (nextInfo rule (mkHeader addr st v)) ∧
      (applyOp rule addr st op).persisted = st.persisted ++ [(v, mkHeader addr st v)] ∧
      (applyOp rule addr st op).handedOn = st.handedOn ++ [(v, mkHeader addr st v)] := by
  cases op with
  | forge w o m =>
    cases o with
    | crashedBeforeWrite => cases h
    | _ => cases h; exact ⟨rfl, rfl, rfl⟩
  | _ => cases h

/-- what a reader of the generator database sees after an operation: the record of the signer is the
one of the header signed on the current tip, every other record is as it was -/
theorem getInfo_applyOp (rule : Rule) (addr : Nat → Bytes) (st : GState) (op : Op) (w : Nat) :
    getInfo (applyOp rule addr st op).infos w =
      if op.signer = some w then nextInfo rule (mkHeader addr st w) else getInfo st.infos w := by
  cases hs : op.signer with
  | none => rw [(applyOp_db_none rule addr st hs).1, if_neg nofun]
  | some v =>
    rw [(applyOp_db_some rule addr st hs).1, getInfo_setInfo]
    by_cases hw : w = v
    · subst hw; rw [if_pos rfl, if_pos rfl]
    · rw [if_neg hw, if_neg (fun e => hw (Option.some.inj e).symm)]

end LiskVerif.Generator
