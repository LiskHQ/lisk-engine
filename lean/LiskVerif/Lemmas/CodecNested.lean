/-
Round trip of nested messages of arbitrary depth for the codec model.

* `typedValDeep`: the typing of a value tree against a field list (`typedWith` of `CodecMsg`), following
  the schema table through nested structs (`.msg`) and arrays of structs (`.msgArr`) down to a depth `d`;
* `TableWF`: the decidable well-formedness of a table (ranked as in `CodecTotal`, field numbers
  strictly increasing, Encode / Decode / DecodeStrict agreeing on numbers and kinds);
* `fieldsRT_deep`: every well-typed value tree over a well-formed table reads back (`FieldsRT` of
  `CodecMsg`, for some fuel bound), and from there `decode` / `decodeStrict` with their own fuel
  (`decode_roundtrip_deep`), using the no-panic and fuel-monotonicity results of `CodecTotal`;
* `Value.eqb`: a Boolean equality on values whose soundness lets the kernel establish
  `decode … = .ok vals` on concrete inputs;
* `decodeFields_typed`: conversely, whatever is decoded is a well-typed value tree, hence re-encoding
  it and decoding again returns it (`reencode_stable`);
* `encode_norm`, `decode_roundtrip_nfc`: normalising the strings of a value tree does not change its
  encoding, so with arbitrary strings the round trip returns the normalised tree.
-/
import LiskVerif.Lemmas.CodecMsg

namespace LiskVerif.Codec

/-! ### typing of value trees -/

/-- One value has the Go type of a field of kind `k`, following the table to depth `d`:
scalars / byte strings / arrays of those as in `typedVal`; a nested struct must be a non-nil pointer
(`present = true`) whose fields are typed (depth `d - 1`) for the named struct of the table; an array
of structs likewise for every element. -/
def typedValDeep (t : Table) (nfc : NFC) : Nat → Kind → Value → Bool
  | 0, k, v => typedVal nfc k v
  | d + 1, .msg name, .msg true vals =>
    (match t.find name with
     | some s => typedWith (typedValDeep t nfc d) s.enc vals
     | none => false)
  | d + 1, .msgArr name, .msgArr l =>
    (match t.find name with
     | some s => l.all (typedWith (typedValDeep t nfc d) s.enc)
     | none => false)
  | _ + 1, k, v => typedVal nfc k v

/-- at every depth, a flat kind is typed as in `typedVal` -/
theorem typedValDeep_flat (t : Table) (nfc : NFC) (d : Nat) (k : Kind) (v : Value)
    (hk : flatKind k = true) : typedValDeep t nfc d k v = typedVal nfc k v := by
  cases d with
  | zero => rfl
  | succ d => cases k <;> first | rfl | simp [flatKind] at hk

theorem typedVal_flat {nfc : NFC} {k : Kind} {v : Value} (h : typedVal nfc k v = true) :
    flatKind k = true := by
  cases k <;> cases v <;> first | rfl | simp [typedVal] at h

/-- what a deep-typed value looks like -/
theorem typedValDeep_cases (t : Table) (nfc : NFC) (d : Nat) (k : Kind) (v : Value)
    (h : typedValDeep t nfc d k v = true) :
    (flatKind k = true ∧ typedVal nfc k v = true) ∨
    (∃ d' name s vals, d = d' + 1 ∧ k = .msg name ∧ v = .msg true vals ∧ t.find name = some s ∧
      typedWith (typedValDeep t nfc d') s.enc vals = true) ∨
    (∃ d' name s l, d = d' + 1 ∧ k = .msgArr name ∧ v = .msgArr l ∧ t.find name = some s ∧
      ∀ vals ∈ l, typedWith (typedValDeep t nfc d') s.enc vals = true) := by
  cases d with
  | zero => exact Or.inl ⟨typedVal_flat h, h⟩
  | succ d =>
    cases k with
    | msg name =>
      cases v with
      | msg present vals =>
        cases present with
        | false => simp [typedValDeep, typedVal] at h
        | true =>
          simp only [typedValDeep] at h
          cases hf : t.find name with
          | none => rw [hf] at h; simp at h
          | some s =>
            rw [hf] at h
            exact Or.inr (Or.inl ⟨d, name, s, vals, rfl, rfl, rfl, hf, h⟩)
      | _ => simp [typedValDeep, typedVal] at h
    | msgArr name =>
      cases v with
      | msgArr l =>
        simp only [typedValDeep] at h
        cases hf : t.find name with
        | none => rw [hf] at h; simp at h
        | some s =>
          rw [hf] at h
          exact Or.inr (Or.inr ⟨d, name, s, l, rfl, rfl, rfl, hf,
            fun vals hv => List.all_eq_true.mp h vals hv⟩)
      | _ => simp [typedValDeep, typedVal] at h
    | unknown src => cases v <;> simp [typedValDeep, typedVal] at h
    | _ =>
      refine Or.inl ⟨rfl, ?_⟩
      simpa [typedValDeep] using h

/-! ### well-formed tables -/

/-- field numbers strictly increasing from 1 and small enough for a 64-bit key; Encode, Decode and
DecodeStrict agree on numbers and kinds -/
def schemaShapeOK (s : Schema) : Bool :=
  fieldsAbove 0 s.enc && s.enc.all (fun f => decide (f.num * 8 + 2 < 2 ^ 64)) &&
  decide (s.enc.map fieldShape = s.dec.map fieldShape) &&
  decide (s.enc.map fieldShape = s.decStrict.map fieldShape)

/-- the table is ranked (`Ranked` of `CodecTotal`: no recursion between structs, nesting depth ≤ 8,
≤ 40 fields, no dangling names, no unknown kinds) and every struct has the shape `schemaShapeOK` -/
def TableWF (t : Table) (rank : String → Nat) : Bool := Ranked t rank && t.all schemaShapeOK

/-- what `schemaShapeOK` says, and what follows for the two decoder lists -/
structure SchemaShape (s : Schema) : Prop where
  enc_above : fieldsAbove 0 s.enc = true
  enc_nums : ∀ f ∈ s.enc, f.num * 8 + 2 < 2 ^ 64
  dec_shape : s.enc.map fieldShape = s.dec.map fieldShape
  strict_shape : s.enc.map fieldShape = s.decStrict.map fieldShape
  dec_above : fieldsAbove 0 s.dec = true
  dec_nums : ∀ f ∈ s.dec, f.num * 8 + 2 < 2 ^ 64
  strict_above : fieldsAbove 0 s.decStrict = true
  strict_nums : ∀ f ∈ s.decStrict, f.num * 8 + 2 < 2 ^ 64

theorem schemaShapeOK_unpack {s : Schema} (h : schemaShapeOK s = true) : SchemaShape s := by
  simp only [schemaShapeOK, Bool.and_eq_true, decide_eq_true_eq] at h
  obtain ⟨⟨⟨h1, h2⟩, h3⟩, h4⟩ := h
  have nums : ∀ {fs : List Field}, s.enc.map fieldShape = fs.map fieldShape →
      ∀ f ∈ fs, f.num * 8 + 2 < 2 ^ 64 := fun hsh => by
    rw [all_congr_shape (fun hn _ => by simp only [hn]) hsh] at h2
    simpa [List.all_eq_true] using h2
  refine ⟨h1, nums rfl, h3, h4, ?_, nums h3, ?_, nums h4⟩
  · rw [← fieldsAbove_congr _ _ 0 h3]; exact h1
  · rw [← fieldsAbove_congr _ _ 0 h4]; exact h1

theorem tableWF_ranked {t : Table} {rank : String → Nat} (h : TableWF t rank = true) :
    Ranked t rank = true := by
  simp only [TableWF, Bool.and_eq_true] at h; exact h.1

theorem tableWF_mem {t : Table} {rank : String → Nat} (h : TableWF t rank = true) {s : Schema}
    (hs : s ∈ t) : schemaShapeOK s = true := by
  simp only [TableWF, Bool.and_eq_true] at h
  exact List.all_eq_true.mp h.2 s hs

/-! ### nested structs and arrays of structs read back what was written

`FieldRT` / `FieldsRT` of `CodecMsg`, with the buffer condition "shorter than 2^63". The fuel a value
tree needs depends on the lengths of its arrays of structs (one call per element); all that matters
below is that SOME bound exists. -/

/-- buffers whose indices fit Go's `int` -/
def Short (data : Bytes) : Prop := data.length < 2 ^ 63

/-- finitely many fields with a bound each have a common bound -/
theorem forall₂_fieldRT_bound {t : Table} {nfc : NFC} {ef : Nat} {D : Bytes → Prop} :
    ∀ {fs : List Field} {vs : List Value},
    List.Forall₂ (fun f v => ∃ F, FieldRT t nfc ef D F f v) fs vs →
    ∃ k, List.Forall₂ (FieldRT t nfc ef D k) fs vs := by
  intro fs vs h
  induction h with
  | nil => exact ⟨0, .nil⟩
  | cons h1 _ ih =>
    obtain ⟨F, hF⟩ := h1
    obtain ⟨k, hk⟩ := ih
    exact ⟨max F k, .cons (hF.mono (Nat.le_max_left _ _))
      (forall₂_imp (fun _ _ h => h.mono (Nat.le_max_right _ _)) hk)⟩

/-- an array of structs is written as the array of its elements' encodings -/
theorem encField_msgArr (t : Table) (nfc : NFC) (ef : Nat) (num : Nat) (name : String) (st : Bool)
    (s : Schema) (l : List (List Value)) (hfind : t.find name = some s)
    (hshape : s.enc.map fieldShape = s.dec.map fieldShape) :
    encField t nfc (ef + 1) ⟨num, .msgArr name, st⟩ (.msgArr l) =
      encBytesArr num (l.map (encodeFields t nfc ef s.dec)) := by
  unfold encField
  simp only [hfind, encBytesArr, List.map_map]
  congr 1
  apply List.map_congr_left
  intro vals _
  simp only [Function.comp, encodeFields_congr t nfc ef s.enc s.dec vals hshape]

/-- `ReadDecodables`: every element is read back, the loop stops before `tail`; one call per
element on top of what an element needs -/
theorem decodeMsgArr_put (t : Table) (nfc : NFC) (ef F : Nat) (name : String) (s : Schema) (num : Nat)
    (hfind : t.find name = some s) (hnum : num * 8 + 2 < 2 ^ 64) :
    ∀ (l : List (List Value)) (fuel : Nat) (r : Reader) (acc : List (List Value)) (tail : Bytes),
    (∀ vals ∈ l, FieldsRT t nfc ef Short F s.dec vals) → l.length + F + 2 ≤ fuel → Short r.data →
    TailOK num tail → r.Holds (encBytesArr num (l.map (encodeFields t nfc ef s.dec)) ++ tail) →
    decodeMsgArr t nfc fuel name num r acc =
      .ok (acc ++ l, r.adv (encBytesArr num (l.map (encodeFields t nfc ef s.dec))).length) := by
  intro l
  induction l with
  | nil =>
    intro fuel r acc tail _ hf _ ht h
    obtain ⟨fuel, rfl⟩ : ∃ x, fuel = x + 1 := ⟨fuel - 1, by omega⟩
    simp only [encBytesArr, List.map_nil, List.flatten_nil, List.nil_append, List.length_nil] at h ⊢
    rw [decodeMsgArr, Reader.enterArr_tail ht h]
    simp [Reader.adv_zero]
  | cons vals l ih =>
    intro fuel r acc tail hrt hf hd ht h
    have e : encBytesArr num ((vals :: l).map (encodeFields t nfc ef s.dec)) =
        writeKey 2 num ++ (writeBytes (encodeFields t nfc ef s.dec vals) ++
          encBytesArr num (l.map (encodeFields t nfc ef s.dec))) := by
      simp [encBytesArr]
    rw [e] at h ⊢
    simp only [List.append_assoc] at h
    simp only [List.length_cons] at hf
    obtain ⟨fuel, rfl⟩ : ∃ x, fuel = x + 1 := ⟨fuel - 1, by omega⟩
    rw [decodeMsgArr, if_pos (h.lt_stop (by simp [writeKey_ne_nil])),
      Reader.enterArr_key (Or.inr rfl) hnum h]
    simp only
    rw [decodeNested_put (D := Short) (r1 := r.adv (writeKey 2 num).length) (fun _ h => h) hfind
      (hrt vals List.mem_cons_self) hd h.adv (by omega)]
    simp only
    rw [ih fuel ((r.adv (writeKey 2 num).length).adv
        (writeBytes (encodeFields t nfc ef s.dec vals)).length) (acc ++ [vals]) tail
      (fun x hx => hrt x (List.mem_cons_of_mem _ hx)) (by omega) hd ht h.adv.adv]
    simp [Reader.adv_adv, Nat.add_assoc]

/-- an array of structs -/
theorem fieldRT_msgArr (t : Table) (nfc : NFC) (ef F : Nat) (f : Field) (name : String) (s : Schema)
    (l : List (List Value)) (hk : f.kind = .msgArr name) (hfind : t.find name = some s)
    (hnum : f.num * 8 + 2 < 2 ^ 64) (hshape : s.enc.map fieldShape = s.dec.map fieldShape)
    (hrt : ∀ vals ∈ l, FieldsRT t nfc ef Short F s.dec vals) :
    FieldRT t nfc (ef + 1) Short (l.length + F + 3) f (.msgArr l) := by
  obtain ⟨num, kind, st⟩ := f
  simp only at hk hnum
  subst hk
  intro fuel r tail hf hd ht h
  rw [encField_msgArr t nfc ef num name st s l hfind hshape] at h ⊢
  obtain ⟨fuel, rfl⟩ : ∃ x, fuel = x + 1 := ⟨fuel - 1, by omega⟩
  rw [decodeField_succ]
  simp only
  rw [decodeMsgArr_put t nfc ef F name s num hfind hnum l fuel r [] tail hrt (by omega) hd ht h]
  rfl

/-- finitely many elements with a bound each have a common bound -/
theorem forall_fieldsRT_bound {t : Table} {nfc : NFC} {ef : Nat} {fs : List Field} :
    ∀ {l : List (List Value)}, (∀ vals ∈ l, ∃ F, FieldsRT t nfc ef Short F fs vals) →
    ∃ F, ∀ vals ∈ l, FieldsRT t nfc ef Short F fs vals := by
  intro l
  induction l with
  | nil => exact fun _ => ⟨0, fun _ h => nomatch h⟩
  | cons a l ih =>
    intro h
    obtain ⟨F1, h1⟩ := h a List.mem_cons_self
    obtain ⟨F2, h2⟩ := ih fun x hx => h x (List.mem_cons_of_mem _ hx)
    refine ⟨max F1 F2, fun x hx => ?_⟩
    rcases List.mem_cons.mp hx with rfl | hx
    · exact h1.mono (Nat.le_max_left _ _)
    · exact (h2 x hx).mono (Nat.le_max_right _ _)

/-! ### every well-typed value tree over a well-formed table -/

/-- Every value tree that is well-typed to depth `d` reads back, with SOME fuel bound. Induction on `d`;
per field the flat case is `fieldRT_flat`, and a nested struct or array of structs of rank below `k`
gets its bound from the induction hypothesis one level down (`hsub`), with one unit less of the
encoder's nesting budget `ef`, which is why `k ≤ ef` is carried along. -/
theorem fieldsRT_deep (t : Table) (rank : String → Nat) (nfc : NFC) (hwf : TableWF t rank = true) :
    ∀ (d k ef : Nat) (fs : List Field) (vs : List Value), fieldsOK t rank k fs = true → k ≤ ef →
    fieldsAbove 0 fs = true → (∀ f ∈ fs, f.num * 8 + 2 < 2 ^ 64) →
    typedWith (typedValDeep t nfc d) fs vs = true → ∃ F, FieldsRT t nfc ef Short F fs vs := by
  have hR := tableWF_ranked hwf
  have hflat : ∀ {ef : Nat} {f : Field} {v : Value}, flatKind f.kind = true →
      f.num * 8 + 2 < 2 ^ 64 → typedVal nfc f.kind v = true → ∃ F, FieldRT t nfc ef Short F f v :=
    fun hk hnum hty => ⟨1, fieldRT_flat hk hnum hty fun _ hd _ => hd⟩
  have hlist : ∀ {ef : Nat} {fs : List Field} {vs : List Value}, fieldsAbove 0 fs = true →
      (∀ f ∈ fs, f.num * 8 + 2 < 2 ^ 64) →
      List.Forall₂ (fun f v => ∃ F, FieldRT t nfc ef Short F f v) fs vs →
      ∃ F, FieldsRT t nfc ef Short F fs vs := fun hs hb hall =>
    (forall₂_fieldRT_bound hall).elim fun k hk => ⟨_, fieldsRT_of_forall₂ _ _ 0 hs hb hk⟩
  intro d
  induction d with
  | zero =>
    intro k ef fs vs _ _ hs hb hv
    refine hlist hs hb (forall₂_imp ?_
      (forall₂_of_typedWith _ (fun f => f.num * 8 + 2 < 2 ^ 64) fs vs hb hv))
    intro f v ⟨hnum, hty⟩
    exact hflat (typedVal_flat hty) hnum hty
  | succ d ih =>
    intro k ef fs vs hok hk hs hb hv
    have hall := forall₂_of_typedWith (typedValDeep t nfc (d + 1))
      (fun f => f.num * 8 + 2 < 2 ^ 64 ∧ kindOK t rank k f.kind = true) fs vs
      (fun f hf => ⟨hb f hf, List.all_eq_true.mp hok f hf⟩) hv
    refine hlist hs hb (forall₂_imp ?_ hall)
    intro f v ⟨⟨hnum, hkind⟩, hty⟩
    -- a nested struct of the table, one level down
    have hsub : ∀ {name : String} {s : Schema}, t.find name = some s → rank name < k →
        s.enc.map fieldShape = s.dec.map fieldShape ∧ ∃ ef', ef = ef' + 1 ∧ ∀ vals,
          typedWith (typedValDeep t nfc d) s.enc vals = true →
          ∃ F, FieldsRT t nfc ef' Short F s.dec vals := by
      intro name s hfind hlt
      obtain ⟨ef', rfl⟩ : ∃ x, ef = x + 1 := ⟨ef - 1, by omega⟩
      obtain ⟨hsok, hname⟩ := ranked_find hR hfind
      have hdecok := (schemaOK_dec hsok).dec_ok
      have hsh := schemaShapeOK_unpack (tableWF_mem hwf (find_mem hfind))
      rw [hname] at hdecok
      exact ⟨hsh.dec_shape, ef', rfl, fun vals hvals => ih (rank name) ef' s.dec vals hdecok (by omega)
        hsh.dec_above hsh.dec_nums (by rw [← typedWith_congr _ _ _ vals hsh.dec_shape]; exact hvals)⟩
    rcases typedValDeep_cases t nfc (d + 1) f.kind v hty with ⟨hfl, htv⟩ |
      ⟨d', name, s, vals, hd', hkd, rfl, hfind, hvals⟩ | ⟨d', name, s, l, hd', hkd, rfl, hfind, hvals⟩
    · exact hflat hfl hnum htv
    · cases Nat.succ.inj hd'
      rw [hkd] at hkind
      simp only [kindOK, Bool.and_eq_true, decide_eq_true_eq] at hkind
      obtain ⟨h3, ef', rfl, hrt⟩ := hsub hfind hkind.2
      obtain ⟨F, hF⟩ := hrt vals hvals
      exact ⟨_, fieldRT_msg (fun _ h => h) hkd hfind hnum h3 hF⟩
    · cases Nat.succ.inj hd'
      rw [hkd] at hkind
      simp only [kindOK, Bool.and_eq_true, decide_eq_true_eq] at hkind
      obtain ⟨h3, ef', rfl, hrt⟩ := hsub hfind hkind.2
      obtain ⟨F, hF⟩ := forall_fieldsRT_bound fun vals hm => hrt vals (hvals vals hm)
      exact ⟨_, fieldRT_msgArr t nfc ef' F f name s l hkd hfind hnum h3 hF⟩

/-! ### `decode` / `decodeStrict` with their own fuel -/

/-- a result that holds for all large fuels holds for any fuel at which the decoder does not panic -/
theorem decodeFields_ok_of_eventually (t : Table) (nfc : NFC) (fs : List Field) (r : Reader)
    (x : List Value × Reader) (fuel : Nat) (hnp : decodeFields t nfc fuel fs r ≠ .error .panic)
    (hev : ∃ F, ∀ fuel', F ≤ fuel' → decodeFields t nfc fuel' fs r = .ok x) :
    decodeFields t nfc fuel fs r = .ok x := by
  obtain ⟨F, hF⟩ := hev
  rw [← decodeFields_fuel_mono t nfc fs r (Nat.le_max_right F fuel) hnp]
  exact hF _ (Nat.le_max_left F fuel)

/-- **Round trip, any nesting depth**: on a well-formed table, for every struct of the table and every
value tree that is well-typed to some depth `d`, `decode` and `decodeStrict` return the encoded
values. -/
theorem decode_roundtrip_deep (t : Table) (rank : String → Nat) (nfc : NFC)
    (hwf : TableWF t rank = true) (s : Schema) (hs : s ∈ t) (d : Nat) (vals : List Value)
    (hv : typedWith (typedValDeep t nfc d) s.enc vals = true)
    (hlen : (encode t nfc s vals).length < 2 ^ 63) :
    decode t nfc s (encode t nfc s vals) = .ok vals ∧
    decodeStrict t nfc s (encode t nfc s vals) = .ok vals := by
  have hR := tableWF_ranked hwf
  obtain ⟨hk, hdl, hsl, hdec, hstr⟩ := schemaOK_dec (ranked_mem hR hs)
  obtain ⟨_, _, h3, h4, h5, h6, h7, h8⟩ := schemaShapeOK_unpack (tableWF_mem hwf hs)
  -- one field list of the struct, read from the start of the buffer
  have hone : ∀ fs : List Field, s.enc.map fieldShape = fs.map fieldShape →
      fieldsOK t rank (rank s.name) fs = true → fs.length ≤ 40 → fieldsAbove 0 fs = true →
      (∀ f ∈ fs, f.num * 8 + 2 < 2 ^ 64) →
      decodeFields t nfc (fuelFor (encodeFields t nfc 8 s.enc vals)) fs
        (Reader.new (encodeFields t nfc 8 s.enc vals)) =
        .ok (vals, (Reader.new (encodeFields t nfc 8 s.enc vals)).adv
          (encodeFields t nfc 8 s.enc vals).length) := by
    intro fs hsh hok hl ha hb
    unfold encode at hlen
    rw [encodeFields_congr t nfc 8 s.enc fs vals hsh] at hlen ⊢
    obtain ⟨F, hF⟩ := fieldsRT_deep t rank nfc hwf d (rank s.name) 8 fs vals hok hk ha hb
      (by rw [← typedWith_congr _ _ _ vals hsh]; exact hv)
    exact decodeFields_ok_of_eventually t nfc _ _ _ _
      (decodeFields_safe t nfc rank hR (rank s.name) fs _ hok _ (need_le_fuelFor _ hk hl)).ne_panic
      ⟨F, fun fuel hf => hF fuel _ hf hlen (Reader.Holds.new _)⟩
  exact ⟨decode_of_fields (hone s.dec h3 hdec hdl h5 h6),
    decodeStrict_of_fields (hone s.decStrict h4 hstr hsl h7 h8) (by simp [Reader.new])⟩

/-! ### a decidable equality test for values (for concrete evaluations by the kernel)

`Value` is a nested inductive type without derived `DecidableEq`; `Value.eqb` is a structurally
recursive Boolean equality whose soundness lets `decide +kernel` establish `decode … = .ok vals` for
concrete inputs. -/

mutual
def Value.eqb : Value → Value → Bool
  | .uint a, .uint b => decide (a = b)
  | .int a, .int b => decide (a = b)
  | .bool a, .bool b => decide (a = b)
  | .bytes a, .bytes b => decide (a = b)
  | .bytesArr a, .bytesArr b => decide (a = b)
  | .uints a, .uints b => decide (a = b)
  | .msg p l, .msg q l' => decide (p = q) && Value.eqbList l l'
  | .msgArr l, .msgArr l' => Value.eqbListList l l'
  | _, _ => false
def Value.eqbList : List Value → List Value → Bool
  | [], [] => true
  | a :: as, b :: bs => Value.eqb a b && Value.eqbList as bs
  | _, _ => false
def Value.eqbListList : List (List Value) → List (List Value) → Bool
  | [], [] => true
  | a :: as, b :: bs => Value.eqbList a b && Value.eqbListList as bs
  | _, _ => false
end

mutual
theorem Value.eqb_sound : ∀ (a b : Value), Value.eqb a b = true → a = b
  | .uint a, .uint b, h => congrArg Value.uint (of_decide_eq_true h)
  | .int a, .int b, h => congrArg Value.int (of_decide_eq_true h)
  | .bool a, .bool b, h => congrArg Value.bool (of_decide_eq_true h)
  | .bytes a, .bytes b, h => congrArg Value.bytes (of_decide_eq_true h)
  | .bytesArr a, .bytesArr b, h => congrArg Value.bytesArr (of_decide_eq_true h)
  | .uints a, .uints b, h => congrArg Value.uints (of_decide_eq_true h)
  | .msg p l, .msg q l', h => by
    simp only [Value.eqb, Bool.and_eq_true, decide_eq_true_eq] at h
    rw [h.1, Value.eqbList_sound l l' h.2]
  | .msgArr l, .msgArr l', h => by
    simp only [Value.eqb] at h
    rw [Value.eqbListList_sound l l' h]
  -- on two different constructors `Value.eqb` reduces to `false`; those cases close by themselves
theorem Value.eqbList_sound : ∀ (a b : List Value), Value.eqbList a b = true → a = b
  | [], [], _ => rfl
  | a :: as, b :: bs, h => by
    simp only [Value.eqbList, Bool.and_eq_true] at h
    rw [Value.eqb_sound a b h.1, Value.eqbList_sound as bs h.2]
  | [], _ :: _, h => by simp [Value.eqbList] at h
  | _ :: _, [], h => by simp [Value.eqbList] at h
theorem Value.eqbListList_sound : ∀ (a b : List (List Value)), Value.eqbListList a b = true → a = b
  | [], [], _ => rfl
  | a :: as, b :: bs, h => by
    simp only [Value.eqbListList, Bool.and_eq_true] at h
    rw [Value.eqbList_sound a b h.1, Value.eqbListList_sound as bs h.2]
  | [], _ :: _, h => by simp [Value.eqbListList] at h
  | _ :: _, [], h => by simp [Value.eqbListList] at h
end

mutual
theorem Value.eqb_refl : ∀ a : Value, Value.eqb a a = true
  | .uint _ | .int _ | .bool _ | .bytes _ | .bytesArr _ | .uints _ => decide_eq_true rfl
  | .msg _ l => by simp only [Value.eqb, Value.eqbList_refl l, decide_true, Bool.and_self]
  | .msgArr l => Value.eqbListList_refl l
theorem Value.eqbList_refl : ∀ l : List Value, Value.eqbList l l = true
  | [] => rfl
  | a :: l => by
    simp only [Value.eqbList, Value.eqb_refl a, Value.eqbList_refl l, Bool.and_self]
theorem Value.eqbListList_refl : ∀ l : List (List Value), Value.eqbListList l l = true
  | [] => rfl
  | a :: l => by
    simp only [Value.eqbListList, Value.eqbList_refl a, Value.eqbListList_refl l, Bool.and_self]
end

/-- "the outcome is `.ok w`" is decidable: a local instance where test vectors are evaluated -/
@[instance_reducible] def decEqOk (x : Except Err (List Value)) (w : List Value) : Decidable (x = .ok w) :=
  match x with
  | .error _ => isFalse fun h => nomatch h
  | .ok v => decidable_of_iff (Value.eqbList v w = true)
      ⟨fun h => congrArg _ (Value.eqbList_sound v w h),
       fun h => by cases h; exact Value.eqbList_refl _⟩

/-- "the outcome is the error `e`" is decidable, whatever the result type -/
@[instance_reducible] def decEqError {α : Type} (x : Except Err α) (e : Err) : Decidable (x = .error e) :=
  match x with
  | .ok _ => isFalse fun h => nomatch h
  | .error e' => decidable_of_iff (e' = e) ⟨fun h => congrArg _ h, fun h => Except.error.inj h⟩

/-! ### every decoded value is well-typed

The converse direction: whatever `decodeFields` returns (from ANY byte string shorter than 2^63) is a
well-typed value tree — provided no nil pointer can arise, i.e. no absent lenient `.msg` field whose
all-default struct itself contains a nested pointer (`nilFree`). Together with the round trip this
gives: re-encoding and re-decoding a decoded value returns the same value. -/

/-- what the model needs to know about `norm.NFC`: normal strings are fixed by normalisation and the
empty string is normal -/
structure NFCLaw (nfc : NFC) : Prop where
  fix : ∀ b, nfc.normal b = true → nfc.normalize b = b
  nil : nfc.normal [] = true

theorem asciiNFC_law : NFCLaw asciiNFC := ⟨fun _ _ => rfl, rfl⟩

/-- the all-default struct `name` (what `ReadDecodable` creates for an absent field) contains no
nested struct pointer — such a pointer would be nil -/
def defaultNoNil (t : Table) (name : String) : Bool :=
  match t.find name with
  | some s => s.dec.all fun g => match g.kind with | .msg _ => false | _ => true
  | none => false

def nilFreeField (t : Table) (rec : List Field → Bool) (f : Field) : Bool :=
  match f.kind with
  | .msg n =>
    (f.strict || defaultNoNil t n) &&
      (match t.find n with | some s => rec s.dec | none => false)
  | .msgArr n => (match t.find n with | some s => rec s.dec | none => false)
  | .unknown _ => false
  | _ => true

/-- no decode of this field list (followed to depth `d`) can produce a nil pointer: every `.msg`
field is strict (cannot be absent) or has an all-default struct without nested pointers, and the same
holds inside every nested struct (whose fields are always read leniently) -/
def nilFree (t : Table) : Nat → List Field → Bool
  | 0, fs => fs.all fun f => flatKind f.kind
  | d + 1, fs => fs.all (nilFreeField t (nilFree t d))

/-- one field of a `nilFree` list -/
def nilFreeAt (t : Table) : Nat → Field → Bool
  | 0, f => flatKind f.kind
  | d + 1, f => nilFreeField t (nilFree t d) f

theorem nilFree_eq_all (t : Table) (d : Nat) (fs : List Field) :
    nilFree t d fs = fs.all (nilFreeAt t d) := by
  cases d <;> rfl

theorem nilFreeAt_nested {t : Table} {d : Nat} {f : Field} {n : String}
    (hk : f.kind = .msg n ∨ f.kind = .msgArr n) (hq : nilFreeAt t d f = true) :
    ∃ d' s, d = d' + 1 ∧ t.find n = some s ∧ nilFree t d' s.dec = true ∧
      (f.kind = .msg n → f.strict = true ∨ defaultNoNil t n = true) := by
  cases d <;> cases hf : t.find n <;> rcases hk with hk | hk <;>
    simp [nilFreeAt, nilFreeField, flatKind, hk, hf] at hq
  · exact ⟨_, _, rfl, rfl, hq.2, fun _ => hq.1⟩
  · exact ⟨_, _, rfl, rfl, hq, hk ▸ nofun⟩

/-- a scalar read from a buffer shorter than 2^63 has the Go type of its kind -/
theorem readScalar_typed {nfc : NFC} (hlaw : NFCLaw nfc) {k : Kind} {r r' : Reader} {v : Value}
    (hd : r.data.length < 2 ^ 63) (h : readScalar nfc k r = .ok (v, r')) :
    typedVal nfc k v = true := by
  cases k <;> first | (cases h; done) | skip
  all_goals obtain ⟨a, ha, rfl⟩ := valueOf_ok h
  · exact decide_eq_true (Reader.readUInt_canon ha).2
  · exact decide_eq_true (Nat.mod_lt _ (by decide))
  · refine decide_eq_true ?_
    unfold toInt32
    simp only
    split <;> omega
  · rfl
  · exact decide_eq_true (Nat.lt_of_le_of_lt (Reader.readBytes_len ha) hd)
  · obtain ⟨hb, hu, hn⟩ := Reader.readString_ok ha
    simp only [typedVal, Bool.and_eq_true, decide_eq_true_eq]
    exact ⟨⟨⟨Nat.lt_of_le_of_lt (Reader.readBytes_len hb) hd, hu⟩, hn⟩, hlaw.fix a hn⟩

/-- the zero value of a flat kind is well-typed -/
theorem zeroValue_typed_flat (nfc : NFC) (hlaw : NFCLaw nfc) (k : Kind) (hk : flatKind k = true) :
    typedVal nfc k (zeroValue k) = true := by
  cases k <;> first | (cases hk; done) | skip
  all_goals simp [zeroValue, typedVal, encPacked, utf8Valid, hlaw.nil, hlaw.fix [] hlaw.nil]

/-- a flat field: whatever is read has the Go type of the field -/
theorem decodeField_typed_flat (t : Table) (nfc : NFC) (hlaw : NFCLaw nfc) {fuel : Nat} {f : Field}
    {r r' : Reader} {v : Value} (hk : flatKind f.kind = true) (hd : r.data.length < 2 ^ 63)
    (h : decodeField t nfc fuel f r = .ok (v, r')) : typedVal nfc f.kind v = true := by
  rcases decodeField_flat_ok hk h with ⟨hs, ⟨_, rfl, _⟩ | ⟨r1, he, hr⟩⟩ | ⟨hk', l, hl, rfl⟩ |
    ⟨hk', ⟨_, rfl, _⟩ | ⟨r1, len, r2, l, he, hu, hp, rfl⟩⟩
  · exact zeroValue_typed_flat nfc hlaw _ hk
  · exact readScalar_typed hlaw (by rw [Reader.enter_data he]; exact hd) hr
  · obtain ⟨l', hl', hc⟩ := readBytesArray_canon f.num _ _ _ _ _ hl
    rw [List.nil_append] at hl'
    rw [hk', hl']
    simp only [typedVal, List.all_eq_true, decide_eq_true_eq]
    intro b hb
    have h1 := mem_encBytesArr_length f.num l' b hb
    have h2 := hc.length_le
    omega
  · rw [hk']; rfl
  · obtain ⟨l', hl', hc, hb⟩ := readPackedUInts_canon _ _ _ _ _ _ hp
    rw [List.nil_append] at hl'
    have h1 := hc.length_le
    have h2 := Reader.readUInt_data hu
    have h3 := Reader.enterArr_data he
    rw [hk', hl']
    simp only [typedVal, Bool.and_eq_true, List.all_eq_true, decide_eq_true_eq]
    exact ⟨hb, by omega⟩

/-- the all-default struct is well-typed when it holds no nested pointer -/
theorem zeros_typed (t : Table) (nfc : NFC) (hlaw : NFCLaw nfc) (d : Nat) :
    ∀ (fs : List Field), (fs.all fun g => match g.kind with | .msg _ => false | _ => true) = true →
    nilFree t d fs = true →
    typedWith (typedValDeep t nfc d) fs (fs.map fun f => zeroValue f.kind) = true := by
  intro fs
  induction fs with
  | nil => intro _ _; rfl
  | cons f fs ih =>
    intro hno hnf
    rw [nilFree_eq_all] at hnf
    simp only [List.all_cons, Bool.and_eq_true] at hno hnf
    simp only [List.map_cons, typedWith, Bool.and_eq_true]
    refine ⟨?_, ih hno.2 (by rw [nilFree_eq_all]; exact hnf.2)⟩
    have h1 := hnf.1
    cases hk : f.kind with
    | msg n => rw [hk] at hno; cases hno.1
    | msgArr n =>
      obtain ⟨d, s, rfl, hf, -⟩ := nilFreeAt_nested (.inr hk) h1
      simp [zeroValue, typedValDeep, hf]
    | unknown src =>
      cases d with
      | zero => simp only [nilFreeAt, hk] at h1; cases h1
      | succ d => simp only [nilFreeAt, nilFreeField, hk] at h1; cases h1
    | _ =>
      rw [typedValDeep_flat t nfc d _ _ rfl]
      exact zeroValue_typed_flat nfc hlaw _ rfl

/-- **Every decoded value tree is well-typed** (at the depth `d` to which `nilFree` was checked),
from any reader state over a buffer shorter than 2^63. The bound on the buffer is needed at every flat
read, and `decode_ok_induct` hands its steps no fact about the readers: so each motive carries
`r'.data.length = r.data.length` next to the typing. -/
theorem decodeFields_typed (t : Table) (rank : String → Nat) (nfc : NFC) (hwf : TableWF t rank = true)
    (hlaw : NFCLaw nfc) {d : Nat} {fs : List Field} {fuel : Nat} {r r' : Reader} {vs : List Value}
    (hnf : nilFree t d fs = true) (hd : r.data.length < 2 ^ 63)
    (h : decodeFields t nfc fuel fs r = .ok (vs, r')) :
    typedWith (typedValDeep t nfc d) fs vs = true := by
  have henc : ∀ {n : String} {s : Schema}, t.find n = some s →
      s.enc.map fieldShape = s.dec.map fieldShape := fun hf =>
    (schemaShapeOK_unpack (tableWF_mem hwf (find_mem hf))).dec_shape
  refine ((decode_ok_induct t nfc
    (PF := fun fs r vs r' => r'.data.length = r.data.length ∧ ∀ d, nilFree t d fs = true →
      r.data.length < 2 ^ 63 → typedWith (typedValDeep t nfc d) fs vs = true)
    (Pf := fun f r v r' => r'.data.length = r.data.length ∧ ∀ d, nilFreeAt t d f = true →
      r.data.length < 2 ^ 63 → typedValDeep t nfc d f.kind v = true)
    (PN := fun n r vals r' => r'.data.length = r.data.length ∧ ∀ d s, t.find n = some s →
      nilFree t d s.dec = true → r.data.length < 2 ^ 63 →
      typedWith (typedValDeep t nfc d) s.enc vals = true)
    (PA := fun n _ r l r' => r'.data.length = r.data.length ∧ ∀ d s, t.find n = some s →
      nilFree t d s.dec = true → r.data.length < 2 ^ 63 →
      ∀ vals ∈ l, typedWith (typedValDeep t nfc d) s.enc vals = true)
    (nil := fun _ => ⟨rfl, fun _ _ _ => rfl⟩)
    (cons := fun h1 h2 => ⟨h2.1.trans h1.1, fun d hnf hd => by
      rw [nilFree_eq_all] at hnf
      simp only [List.all_cons, Bool.and_eq_true] at hnf
      simp only [typedWith, Bool.and_eq_true]
      exact ⟨h1.2 d hnf.1 hd, h2.2 d (by rw [nilFree_eq_all]; exact hnf.2) (by rw [h1.1]; exact hd)⟩⟩)
    (flat := fun {_ f _ v _} hk h => ⟨(decodeField_adv h).1, fun d _ hd => by
      rw [typedValDeep_flat t nfc d f.kind v hk]
      exact decodeField_typed_flat t nfc hlaw hk hd h⟩)
    (absent := fun {f n _} hk he => ⟨rfl, fun d hq _ => by
      obtain ⟨d, s, rfl, hf, hnf, hor⟩ := nilFreeAt_nested (.inl hk) hq
      rcases hor hk with hst | hdn
      · rw [Reader.enter_none_lenient he] at hst; cases hst
      · rw [hk]
        simp only [defaultMsg, hf, typedValDeep]
        rw [typedWith_congr _ _ _ _ (henc hf)]
        simp only [defaultNoNil, hf] at hdn
        exact zeros_typed t nfc hlaw d s.dec hdn hnf⟩)
    (present := fun {f n _ _ _ _} hk he hN => ⟨hN.1.trans (Reader.enter_data he), fun d hq hd => by
      obtain ⟨d, s, rfl, hf, hnf, -⟩ := nilFreeAt_nested (.inl hk) hq
      rw [hk]
      simp only [typedValDeep, hf]
      exact hN.2 d s hf hnf (by rw [Reader.enter_data he]; exact hd)⟩)
    (array := fun {f n _ _ _} hk hA => ⟨hA.1, fun d hq hd => by
      obtain ⟨d, s, rfl, hf, hnf, -⟩ := nilFreeAt_nested (.inr hk) hq
      rw [hk]
      simp only [typedValDeep, hf, List.all_eq_true]
      exact hA.2 d s hf hnf hd⟩)
    (nested := fun {_ s' _ _ r2 _ _ _} hf hu hF => ⟨Reader.readUInt_data (r' := r2) hu, fun d s hf' hnf hd => by
      rw [hf] at hf'
      cases hf'
      rw [typedWith_congr _ _ _ _ (henc hf)]
      exact hF.2 d hnf (by simp only; rw [Reader.readUInt_data hu]; exact hd)⟩)
    (done := fun _ _ _ => ⟨rfl, fun _ _ _ _ _ _ hm => nomatch hm⟩)
    (step := fun {_ _ r r1 _ _ _ _} he hN hA =>
      ⟨hA.1.trans (hN.1.trans (Reader.enterArr_data he)), fun d s hf hnf hd vals hm => by
        have hd1 : r1.data.length < 2 ^ 63 := by rw [Reader.enterArr_data he]; exact hd
        rcases List.mem_cons.mp hm with rfl | hm
        · exact hN.2 d s hf hnf hd1
        · exact hA.2 d s hf hnf (by rw [hN.1]; exact hd1) vals hm⟩) fuel).1 _ _ _ _ h).2 d hnf hd

/-- **Re-encoding is stable for every accepted input**: if `decode` (`st = false`) or `decodeStrict`
(`st = true`) accepts ANY byte string `b` for a struct whose field list for that decoder is `nilFree`,
the decoded value is well-typed, hence both decoders return exactly that value again from its
re-encoding. (The top-level `.msg` fields of `decodeStrict` are strict, so they need no
`defaultNoNil`.) -/
theorem reencode_stable (t : Table) (rank : String → Nat) (nfc : NFC)
    (hwf : TableWF t rank = true) (hlaw : NFCLaw nfc) (s : Schema) (hs : s ∈ t) (d : Nat) (st : Bool)
    (hnf : nilFree t d (if st then s.decStrict else s.dec) = true) (b : Bytes)
    (hb : b.length < 2 ^ 63) (vals : List Value)
    (h : (if st then decodeStrict t nfc s b else decode t nfc s b) = .ok vals) :
    typedWith (typedValDeep t nfc d) s.enc vals = true ∧
    ((encode t nfc s vals).length < 2 ^ 63 →
      decode t nfc s (encode t nfc s vals) = .ok vals ∧
      decodeStrict t nfc s (encode t nfc s vals) = .ok vals) := by
  have hsh := schemaShapeOK_unpack (tableWF_mem hwf hs)
  have hty : typedWith (typedValDeep t nfc d) s.enc vals = true := by
    cases st
    · obtain ⟨r', hd⟩ := decode_ok h
      rw [typedWith_congr _ _ _ _ hsh.dec_shape]
      exact decodeFields_typed t rank nfc hwf hlaw hnf (by simpa [Reader.new] using hb) hd
    · obtain ⟨r', hd, _⟩ := decodeStrict_ok h
      rw [typedWith_congr _ _ _ _ hsh.strict_shape]
      exact decodeFields_typed t rank nfc hwf hlaw hnf (by simpa [Reader.new] using hb) hd
  exact ⟨hty, fun hlen => decode_roundtrip_deep t rank nfc hwf s hs d vals hty hlen⟩

/-! ### strings compared in NFC form

`WriteString` normalises, so a value tree whose strings are not yet normalised is decoded as its
normalised form. `normValDeep` normalises every string of a value tree (following the table); it does
not change the encoding when normalisation is idempotent. -/

def normWith (q : Kind → Value → Value) : List Field → List Value → List Value
  | f :: fs, v :: vs => q f.kind v :: normWith q fs vs
  | _, _ => []

/-- normalise every string field of a value, following the table to depth `d` -/
def normValDeep (t : Table) (nfc : NFC) : Nat → Kind → Value → Value
  | 0, .string, .bytes b => .bytes (nfc.normalize b)
  | 0, _, v => v
  | _ + 1, .string, .bytes b => .bytes (nfc.normalize b)
  | d + 1, .msg name, .msg true vals =>
    (match t.find name with
     | some s => .msg true (normWith (normValDeep t nfc d) s.enc vals)
     | none => .msg true vals)
  | d + 1, .msgArr name, .msgArr l =>
    (match t.find name with
     | some s => .msgArr (l.map (normWith (normValDeep t nfc d) s.enc))
     | none => .msgArr l)
  | _ + 1, _, v => v

theorem encodeFields_normWith (t : Table) (nfc : NFC) (ef : Nat) (q : Kind → Value → Value)
    (hq : ∀ (f : Field) (v : Value), encField t nfc ef f (q f.kind v) = encField t nfc ef f v) :
    ∀ (fs : List Field) (vs : List Value),
    encodeFields t nfc ef fs (normWith q fs vs) = encodeFields t nfc ef fs vs := by
  intro fs
  induction fs with
  | nil => intro vs; rw [encodeFields_nil_left, encodeFields_nil_left]
  | cons f fs ih =>
    intro vs
    cases vs with
    | nil => rfl
    | cons v vs =>
      simp only [normWith]
      rw [encodeFields_cons, encodeFields_cons, hq, ih]

/-- one field: normalising the strings of its value to depth `d` does not change what is written, when
normalisation is idempotent (`WriteString` normalises anyway). Induction on `d`: a string by `hidem`,
a nested struct or an array of structs by `encodeFields_normWith` with the induction hypothesis for
its fields; every other kind is left alone by `normValDeep`. -/
theorem encField_norm (t : Table) (nfc : NFC)
    (hidem : ∀ b, nfc.normalize (nfc.normalize b) = nfc.normalize b) :
    ∀ (d ef : Nat) (f : Field) (v : Value),
    encField t nfc ef f (normValDeep t nfc d f.kind v) = encField t nfc ef f v := by
  have hstr : ∀ (num : Nat) (st : Bool) (ef : Nat) (b : Bytes),
      encField t nfc ef ⟨num, .string, st⟩ (.bytes (nfc.normalize b)) =
        encField t nfc ef ⟨num, .string, st⟩ (.bytes b) := fun num st ef b =>
    congrArg (fun x => writeKey 2 num ++ writeBytes x) (hidem b)
  intro d
  induction d with
  | zero =>
    intro ef f v
    obtain ⟨num, kind, st⟩ := f
    cases kind <;> cases v <;> first | rfl | exact hstr _ _ _ _
  | succ d ih =>
    intro ef f v
    obtain ⟨num, kind, st⟩ := f
    cases kind with
    | msg name =>
      cases v with
      | msg present vals =>
        cases present with
        | false => rfl
        | true =>
          simp only [normValDeep]
          cases hf : t.find name with
          | none => rfl
          | some s =>
            simp only [encField, hf]
            cases ef with
            | zero => rfl
            | succ ef' =>
              simp only
              rw [encodeFields_normWith t nfc ef' _ (fun f v => ih ef' f v)]
      | _ => rfl
    | msgArr name =>
      cases v with
      | msgArr l =>
        simp only [normValDeep]
        cases hf : t.find name with
        | none => rfl
        | some s =>
          simp only [encField, hf]
          cases ef with
          | zero => rfl
          | succ ef' =>
            simp only [List.map_map]
            congr 1
            apply List.map_congr_left
            intro vals _
            simp only [Function.comp]
            rw [encodeFields_normWith t nfc ef' _ (fun f v => ih ef' f v)]
      | _ => rfl
    | _ => cases v <;> first | rfl | exact hstr _ _ _ _

/-- normalising the strings of a value tree does not change its encoding -/
theorem encode_norm (t : Table) (nfc : NFC)
    (hidem : ∀ b, nfc.normalize (nfc.normalize b) = nfc.normalize b) (s : Schema) (d : Nat)
    (vals : List Value) :
    encode t nfc s (normWith (normValDeep t nfc d) s.enc vals) = encode t nfc s vals := by
  unfold encode
  exact encodeFields_normWith t nfc 8 _ (fun f v => encField_norm t nfc hidem d 8 f v) s.enc vals

/-- **Round trip up to NFC**: if the normalised value tree is well-typed, decoding the encoding of
the original tree returns the normalised tree. -/
theorem decode_roundtrip_nfc (t : Table) (rank : String → Nat) (nfc : NFC)
    (hwf : TableWF t rank = true)
    (hidem : ∀ b, nfc.normalize (nfc.normalize b) = nfc.normalize b) (s : Schema) (hs : s ∈ t)
    (d : Nat) (vals : List Value)
    (hv : typedWith (typedValDeep t nfc d) s.enc (normWith (normValDeep t nfc d) s.enc vals) = true)
    (hlen : (encode t nfc s vals).length < 2 ^ 63) :
    decode t nfc s (encode t nfc s vals) = .ok (normWith (normValDeep t nfc d) s.enc vals) ∧
    decodeStrict t nfc s (encode t nfc s vals) = .ok (normWith (normValDeep t nfc d) s.enc vals) := by
  have e := encode_norm t nfc hidem s d vals
  have := decode_roundtrip_deep t rank nfc hwf s hs d _ hv (by rw [e]; exact hlen)
  rw [e] at this
  exact this

end LiskVerif.Codec
