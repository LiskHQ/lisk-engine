/-
Erasing actions that leave the lock state alone (an operation taken as a call that returns, an access to a
variable set aside): the analysis of the erased skeleton over the erased table passes through the same sets of
lock states and makes a PART of the observations of the analysis of the skeleton as regenerated. So whatever a
criterion says of all observations carries over to the erased table without a second evaluation.

The observations are compared by inclusion, not as "those left by a filter": inclusion also holds where the
erasure runs out of fuel before it reaches an action, so no hypothesis on its fuel is needed. That an erased action
is really gone is a fact about where observations come from (`Lemmas/LockProv.lean`). The erased skeleton is
shorter, so its analysis needs no more fuel: `an_mono` supplies what the dropped actions spent. State sets are
kept without repetition: that is what makes a dropped action, one primitive from every state, return the set it
started from.
-/
import LiskVerif.Lemmas.LocksFuel

namespace LiskVerif.Locks

/-! ## lists without repetition built by `insertD` -/

section
variable {α β : Type _} [DecidableEq α]

theorem nodup_insertD {x : α} {l : List α} (h : l.Nodup) : (insertD x l).Nodup := by
  unfold insertD
  split
  · exact h
  · next hc =>
    exact List.nodup_append.mpr ⟨h, List.pairwise_singleton _ _, fun a ha b hb => by
      rw [List.mem_singleton.mp hb]; exact fun hab => hc (List.contains_iff_mem.mpr (hab ▸ ha))⟩

theorem nodup_foldl_insertD (f : β → α) (l : List β) {init : List α} (h : init.Nodup) :
    (l.foldl (fun acc a => insertD (f a) acc) init).Nodup := by
  induction l generalizing init with
  | nil => exact h
  | cons a l ih => exact ih (nodup_insertD h)

theorem nodup_unionD {a b : List α} (h : a.Nodup) : (unionD a b).Nodup :=
  nodup_foldl_insertD id b h

/-- inserting the elements of a list without repetition one by one gives the list back -/
theorem foldl_insertD_eq (l init : List α) (h : (init ++ l).Nodup) :
    l.foldl (fun acc x => insertD x acc) init = init ++ l := by
  induction l generalizing init with
  | nil => simp
  | cons x l ih =>
    have hx : init.contains x = false := Bool.eq_false_iff.mpr fun hc =>
      (List.nodup_append.mp h).2.2 x (List.contains_iff_mem.mp hc) x List.mem_cons_self rfl
    have hi : insertD x init = init ++ [x] := by simp only [insertD, hx, Bool.false_eq_true, if_false]
    rw [List.foldl_cons, hi, ih _ (by simpa using h)]; simp

theorem unionD_nil_left {l : List α} (h : l.Nodup) : unionD [] l = l := by
  simpa [unionD] using foldl_insertD_eq l [] (by simpa using h)

end

theorem append_subset_append {α} {a a' b b' : List α} (ha : a ⊆ a') (hb : b ⊆ b') : a ++ b ⊆ a' ++ b' :=
  fun _ hx => (List.mem_append.mp hx).elim (fun h => List.mem_append_left _ (ha h))
    fun h => List.mem_append_right _ (hb h)

/-! ## erasure -/

/-- the primitive a leaf action is executed as -/
def primOf : Act → Option Prim
  | .lock m => some (.acq m)
  | .rlock m => some (.racq m)
  | .unlock m => some (.rel m)
  | .runlock m => some (.rrel m)
  | .send w => some (.block w)
  | .recv w => some (.block w)
  | .wait w => some (.block w)
  | .blockingCall w => some (.block w)
  | .read x => some (.read x)
  | .write x => some (.write x)
  | .del x => some (.write x)
  | .unknown pos => some (.bad pos)
  | _ => none

theorem anFirst_primOf {a : Act} {p : Prim} (h : primOf a = some p) (tbl : Table)
    (rec : List ASt → List Act → Option Res) (sts : List ASt) : anFirst tbl rec sts a = some (stepAll sts p) := by
  cases a <;> cases h <;> rfl

/-- `g` applied to the bodies nested in one action -/
def eraseAct (g : List Act → List Act) : Act → Act
  | .go b => .go (g b)
  | .loop b => .loop (g b)
  | .choice alts => .choice (alts.map g)
  | a => a

/-- the skeleton without the actions `drop` selects, with fuel `n` (one unit per action and per nesting level; what
is left when it runs out stays as it is) -/
def eraseActs (drop : Act → Bool) : Nat → List Act → List Act
  | 0, k => k
  | _ + 1, [] => []
  | n + 1, a :: k =>
    if drop a then eraseActs drop n k else eraseAct (eraseActs drop n) a :: eraseActs drop n k

/-- a function with the equations of `eraseActs drop` is `eraseActs drop` -/
theorem eq_eraseActs {drop : Act → Bool} {f : Nat → List Act → List Act} (h0 : ∀ k, f 0 k = k)
    (hnil : ∀ n, f (n + 1) [] = [])
    (hcons : ∀ n a k, f (n + 1) (a :: k) = if drop a then f n k else eraseAct (f n) a :: f n k) :
    ∀ n k, f n k = eraseActs drop n k := by
  intro n
  induction n with
  | zero => exact h0
  | succ n ih =>
    intro k
    cases k with
    | nil => exact hnil n
    | cons a k => rw [hcons, eraseActs, funext ih]

/-- `drop` selects only leaf actions whose primitive changes no lock state -/
def Neutral (drop : Act → Bool) : Prop :=
  ∀ a, drop a = true → ∃ p, primOf a = some p ∧ ∀ h, heldAfter h p = h

/-- what `eraseActs` does to a non-empty skeleton, whatever the fuel left -/
theorem eraseActs_cons (drop : Act → Bool) (n : Nat) (a : Act) (k : List Act) :
    eraseActs drop n (a :: k) =
      if n ≠ 0 ∧ drop a = true then eraseActs drop (n - 1) k
      else eraseAct (eraseActs drop (n - 1)) a :: eraseActs drop (n - 1) k := by
  cases n with
  | zero =>
    have : eraseActs drop 0 = fun k => k := rfl
    cases a <;> simp [this, eraseAct]
  | succ n => simp only [eraseActs, Nat.add_sub_cancel, ne_eq, Nat.add_one_ne_zero, not_false_eq_true, true_and]

/-- `r'` passes through the states of `r` and observes a part of what `r` observes -/
def Res.PartOf (r' r : Res) : Prop := r'.fall = r.fall ∧ r'.rets = r.rets ∧ r'.obs ⊆ r.obs

theorem Res.PartOf.refl (r : Res) : r.PartOf r := ⟨rfl, rfl, List.Subset.refl _⟩

/-- `r` keeps its states without repetition and `r'` is a part of it: what the simulation gives, and what the
folds of the analysis preserve -/
def EraseRel (r r' : Res) : Prop := r.fall.Nodup ∧ r.rets.Nodup ∧ r'.PartOf r

/-- from states without repetition `rec'` on the image under `g` does what `rec` does, observing less -/
def EraseSim (rec rec' : List ASt → List Act → Option Res) (g : List Act → List Act) : Prop :=
  ∀ sts k r, sts.Nodup → rec sts k = some r → ∃ r', rec' sts (g k) = some r' ∧ EraseRel r r'

variable {drop : Act → Bool} {tbl tblE : Table} {e : Nat}

/-- one action: the table bodies are erased with fuel `e`, the bodies nested in the action by `g` -/
theorem anFirst_sim (hT : ∀ f, tblE.find f = (tbl.find f).map (eraseActs drop e))
    {rec rec' : List ASt → List Act → Option Res} {g : List Act → List Act}
    (hg : EraseSim rec rec' g) (he : EraseSim rec rec' (eraseActs drop e))
    (sts : List ASt) (hnd : sts.Nodup) (a : Act) (r : Res) (h : anFirst tbl rec sts a = some r) :
    ∃ r', anFirst tblE rec' sts (eraseAct g a) = some r' ∧ EraseRel r r' := by
  have leaf : ∀ r0 : Res, r0.fall.Nodup → r0.rets.Nodup → some r0 = some r →
      ∃ r', some r0 = some r' ∧ EraseRel r r' := by
    intro r0 h1 h2 h3
    cases h3
    exact ⟨_, rfl, h1, h2, .refl _⟩
  have stepAll_nodup : ∀ p, (stepAll sts p).fall.Nodup := fun p =>
    nodup_foldl_insertD (fun st : ASt => (heldAfter st.1 p, st.2)) sts List.nodup_nil
  have single : ∀ x : ASt, [x].Nodup := List.pairwise_singleton _
  have start : EraseRel ⟨[], [], []⟩ ⟨[], [], []⟩ := ⟨List.nodup_nil, List.nodup_nil, .refl _⟩
  cases a with
  | call f =>
    simp only [anFirst, eraseAct, hT f] at h ⊢
    cases hf : tbl.find f with
    | none =>
      simp only [hf, Option.map_none] at h ⊢
      exact leaf _ (stepAll_nodup _) List.nodup_nil h
    | some body =>
      simp only [hf, Option.map_some, foldCall_eq] at h ⊢
      obtain ⟨r', h', hrel⟩ := foldl_some_rel (f' := fun st => rec' [(st.1, [])] (eraseActs drop e body))
        (c' := callCombine) EraseRel id sts (fun st _ rb hrb => by
          obtain ⟨rb', hrb', _, _, b1, b2, b3⟩ := he _ _ rb (single _) hrb
          refine ⟨rb', hrb', fun r r' ⟨n1, _, p1, _, p3⟩ =>
            ⟨nodup_foldl_insertD (fun h : Held => (h, st.2)) _ n1, List.nodup_nil, ?_, rfl, ?_⟩⟩
          · simp only [callCombine, b1, b2, p1, id]
          · simp only [callCombine, b1, b2, id]
            exact append_subset_append (append_subset_append p3 b3) (List.Subset.refl _)) start h
      rw [List.map_id] at h'
      exact ⟨r', h', hrel⟩
  | go b =>
    obtain ⟨rb, hb, rfl⟩ := anFirst_go.mp h
    obtain ⟨rb', hb', _, _, h1, h2, h3⟩ := hg _ _ rb (single _) hb
    refine ⟨_, anFirst_go.mpr ⟨rb', hb', rfl⟩, hnd, List.nodup_nil, rfl, rfl, ?_⟩
    simp only [h1, h2]
    exact append_subset_append (append_subset_append h3 (List.Subset.refl _)) (List.Subset.refl _)
  | loop b =>
    obtain ⟨rb, hb, hs, rfl⟩ := anFirst_loop.mp h
    obtain ⟨rb', hb', _, hr, h1, h2, h3⟩ := hg _ _ rb hnd hb
    exact ⟨_, anFirst_loop.mpr ⟨rb', hb', h1 ▸ hs, rfl⟩, hnd, hr, rfl, h2, h3⟩
  | choice alts =>
    simp only [anFirst, eraseAct, foldChoice_eq] at h ⊢
    exact foldl_some_rel (f' := fun alt => rec' sts alt)
      (c' := fun r _ ra => ⟨r.obs ++ ra.obs, unionD r.fall ra.fall, unionD r.rets ra.rets⟩) EraseRel g alts
      (fun alt _ ra hra => by
        obtain ⟨ra', hra', _, _, b1, b2, b3⟩ := hg _ _ ra hnd hra
        exact ⟨ra', hra', fun r r' ⟨n1, n2, p1, p2, p3⟩ => ⟨nodup_unionD n1, nodup_unionD n2,
          by simp only [p1, b1], by simp only [p2, b2], append_subset_append p3 b3⟩⟩) start h
  | deferUnlock m =>
    exact leaf _ (nodup_foldl_insertD (fun st : ASt => (st.1, Prim.rel m :: st.2)) sts List.nodup_nil) List.nodup_nil h
  | deferRUnlock m =>
    exact leaf _ (nodup_foldl_insertD (fun st : ASt => (st.1, Prim.rrel m :: st.2)) sts List.nodup_nil) List.nodup_nil h
  | ret => exact leaf _ List.nodup_nil hnd h
  | trySend _ | tryRecv _ | makeChan _ _ | slot _ => exact leaf _ hnd List.nodup_nil h
  | _ => exact leaf _ (stepAll_nodup _) List.nodup_nil h

/-- **The simulation**: same fall-through and return states, a part of the observations. -/
theorem an_eraseActs (hd : Neutral drop) (hT : ∀ f, tblE.find f = (tbl.find f).map (eraseActs drop e)) :
    ∀ m n, EraseSim (an tbl m) (an tblE m) (eraseActs drop n) := by
  suffices ∀ m sts k r, an tbl m sts k = some r → ∀ n, sts.Nodup →
      ∃ r', an tblE m sts (eraseActs drop n k) = some r' ∧ EraseRel r r' from
    fun m n sts k r hnd h => this m sts k r h n hnd
  refine an_induct (fun m sts n hnd => ?_) (fun m a k n _ => ?_) ?_
  · rw [show eraseActs drop n [] = [] by cases n <;> rfl]
    exact ⟨_, rfl, hnd, List.nodup_nil, .refl _⟩
  · exact ⟨_, by cases eraseActs drop n (a :: k) <;> rfl, List.nodup_nil, List.nodup_nil, .refl _⟩
  · intro m st sts a k r1 r2 ih h1 h2 n hnd
    rw [eraseActs_cons]
    split
    · next hdrop =>
      -- a dropped action: one primitive from every state, and the states as they were; what is left is shorter
      obtain ⟨p, hp, hheld⟩ := hd a hdrop.2
      rw [anFirst_primOf hp] at h1
      cases h1
      have hfall : (stepAll (st :: sts) p).fall = st :: sts := by
        simp only [stepAll, hheld]
        exact foldl_insertD_eq _ [] (by simpa using hnd)
      rw [hfall] at h2
      obtain ⟨r2', h2', hf2, hr2, g1, g2, g3⟩ := ih _ k r2 h2 (n - 1) hnd
      refine ⟨r2', an_mono tblE m (m + 1) (Nat.le_succ m) _ _ _ h2', hf2, ?_, g1, ?_, ?_⟩
      · simp only [stepAll]; exact nodup_unionD List.nodup_nil
      · simp only [stepAll, unionD_nil_left hr2, g2]
      · exact fun o ho => List.mem_append_right _ (g3 ho)
    · obtain ⟨r1', h1', hf1, hr1, f1, f2, f3⟩ :=
        anFirst_sim hT (fun sts k r hnd h => ih sts k r h (n - 1) hnd) (fun sts k r hnd h => ih sts k r h e hnd)
          _ hnd a r1 h1
      obtain ⟨r2', h2', hf2, hr2, g1, g2, g3⟩ := ih _ k r2 h2 (n - 1) hf1
      refine ⟨⟨r1'.obs ++ r2'.obs, r2'.fall, unionD r1'.rets r2'.rets⟩, ?_, hf2, nodup_unionD hr1, g1, ?_, ?_⟩
      · rw [an]
        simp only [List.isEmpty_cons, Bool.false_eq_true, if_false, h1', f1, h2']
      · simp only [f2, g2]
      · exact append_subset_append f3 g3

theorem find_map_snd (t : Table) (g : Skel → Skel) (f : String) :
    Table.find (t.map fun e => (e.1, g e.2)) f = (t.find f).map g := by
  induction t with
  | nil => rfl
  | cons e t ih =>
    simp only [List.map_cons, Table.find]
    split
    · rfl
    · exact ih

/-- the analysis of an erased function over the erased table ends with the same lock sets and observes a part -/
theorem analyse_eraseActs (hd : Neutral drop) (tbl : Table) (e n fuel : Nat) (s : Skel)
    {obs : List Obs} {ends : List Held} (h : analyse tbl fuel s = some (obs, ends)) :
    ∃ obs', analyse (tbl.map fun x => (x.1, eraseActs drop e x.2)) fuel (eraseActs drop n s) = some (obs', ends) ∧
      obs' ⊆ obs := by
  obtain ⟨r, hr, rfl, rfl⟩ := analyse_eq_some.mp h
  obtain ⟨r', hr', _, _, h1, h2, h3⟩ :=
    an_eraseActs hd (find_map_snd tbl (eraseActs drop e)) fuel n _ s r (List.pairwise_singleton _ _) hr
  exact ⟨_, analyse_eq_some.mpr ⟨r', hr', rfl, by rw [h1, h2]⟩, h1 ▸ h2 ▸ append_subset_append h3 (List.Subset.refl _)⟩

/-! ## operations taken as calls that return -/

def dropBlockingCalls (names : List String) : Act → Bool
  | .blockingCall f => names.contains f
  | _ => false

theorem neutral_dropBlockingCalls (names : List String) : Neutral (dropBlockingCalls names) := by
  intro a ha
  cases a <;> try cases ha
  exact ⟨_, rfl, fun _ => rfl⟩

theorem eraseBlockingCalls_eq (names : List String) (n : Nat) (k : List Act) :
    eraseBlockingCalls names n k = eraseActs (dropBlockingCalls names) n k :=
  eq_eraseActs (fun _ => rfl) (fun _ => rfl) (fun n a k => by
    cases a <;> simp only [eraseBlockingCalls, eraseAct, dropBlockingCalls, Bool.false_eq_true, if_false] <;> rfl) n k

theorem analyse_eraseBlockingCalls (names : List String) (tbl : Table) (n : Nat) (s : Skel)
    {obs : List Obs} {ends : List Held} (h : analyse tbl fuelDefault s = some (obs, ends)) :
    ∃ obs', analyse (tbl.eraseBlockingCalls names) fuelDefault (eraseBlockingCalls names n s) = some (obs', ends) ∧
      obs' ⊆ obs := by
  simp only [Table.eraseBlockingCalls, eraseBlockingCalls_eq]
  -- 200: the fuel with which `Table.eraseBlockingCalls` (Model/Locks) erases the table bodies
  exact analyse_eraseActs (neutral_dropBlockingCalls names) tbl 200 n fuelDefault s h

end LiskVerif.Locks
