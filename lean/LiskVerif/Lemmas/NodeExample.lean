/-
A concrete instance of the hypotheses of the C04 / C05 theorems (non-vacuity): the state after a
genesis block, one block with a transaction and a consensus-store write on top of it.
-/
import LiskVerif.Lemmas.NodeTrans

namespace LiskVerif.Node.Example
open LiskVerif LiskVerif.Node
open LiskVerif.DiffDB (Store KV CV Cache Diff slookup clookup NoDupKeys)

def gid : Bytes := [9]
def hdr0 : Hdr := { version := 0, height := 0, generatorAddress := [], maxHeightGenerated := 0,
                    maxHeightPrevoted := 0, id := gid, previousBlockID := [], timestamp := 0 }
def g : Block := { hdr := hdr0, hdrBytes := [0], txs := [], assets := [] }

def txid : Bytes := List.replicate 32 7
def hdr1 : Hdr := { height := 1, generatorAddress := [1], maxHeightGenerated := 0,
                    maxHeightPrevoted := 0, id := [7], previousBlockID := gid, timestamp := 10 }
def b1 : Block := { hdr := hdr1, hdrBytes := [1], txs := [(txid, [42])], assets := [] }
def ov1 : Cache := [([10, 1], { init := none, value := [5], dirty := false, deleted := false })]
def x1 : Exec := { overlay := ov1, mhpc := 0, events := [] }

def cd : Codecs :=
  { encDiff := fun _ => [], decDiff := fun _ => some (diffOf ov1),
    decHdr := fun hb => if hb = [0] then some hdr0 else if hb = [1] then some hdr1 else none,
    decList := fun _ => none, decBlock := fun b => if b = encBlock b1 then some b1 else none }

def cfg : Cfg := { maxCache := 515, keepEvents := 0, genesisHeight := 0 }
def slot : Slot := { getSlotNumber := fun ts => (ts / 10 : Nat) }

def base : Store := [(kFin, encU32 0), (kHeight 0, gid), (kHeader gid, [0])]
def s0 : St := { db := base, cache := [g], log := [] }

theorem baseOK : BaseOK cd base 0 := by
  refine ⟨?_, ?_, ?_, ⟨gid, by decide⟩⟩
  · intro k v h hh
    refine ⟨0, Nat.le_refl _, ?_⟩
    simp only [base, slookup] at h
    split at h
    · rename_i he; subst he; simp [kFin] at hh
    · split at h
      · rename_i he; exact he.symm
      · split at h
        · rename_i he; subst he; simp [kHeader] at hh
        · cases h
  · intro h id hle hi
    have : h = 0 := by omega
    subst this
    have : id = gid := by
      have h2 : slookup base (kHeight 0) = some gid := by decide
      rw [h2] at hi; exact (Option.some.inj hi).symm
    subst this
    exact ⟨[0], by decide⟩
  · intro h id hb hd hle hi hhb hdec
    have : h = 0 := by omega
    subst this
    have h2 : slookup base (kHeight 0) = some gid := by decide
    rw [h2] at hi
    have : id = gid := (Option.some.inj hi).symm
    subst this
    have h3 : slookup base (kHeader gid) = some [0] := by decide
    rw [h3] at hhb
    have : hb = [0] := (Option.some.inj hhb).symm
    subst this
    simp only [cd, if_true] at hdec
    rw [← Option.some.inj hdec]
    rfl

theorem ref0 : Ref cd base 0 s0 [] := by
  refine {
    db := { nodup := by unfold NoDupKeys; decide, finOk := ⟨0, by decide, Nat.le_refl _, Nat.le_refl _⟩, agree := ?_,
            wf := trivial, tipLt := by simp [tipH, u32] }
    cache := { head := ?_, consec := trivial, chain := ?_, baseHdr := ?_ } }
  · intro f _ k _; rfl
  · intro t ht
    simp only [s0, List.head?_cons, Option.some.injEq] at ht
    subst ht; rfl
  · intro t _ bx hbx; cases hbx
  · intro t ht _
    simp only [s0, List.mem_cons, List.not_mem_nil, or_false] at ht
    subst ht
    decide

theorem step1 : StepOK cd base [] b1 x1 := by
  refine {
    block := { hdrOk := by decide, heightPos := by decide, heightLt := by decide, txIdLen := ?_, txConsistent := ?_,
               assetsRt := fun h => absurd rfl h }
    ov := { nodup := by unfold NoDupKeys; decide, delOk := ?_, cleanOk := ?_ }
    stateKeys := by decide, initOk := ?_, mhpcLe := by decide, fresh := by decide, diffRt := rfl }
  · intro t ht
    simp only [b1, List.mem_cons, List.not_mem_nil, or_false] at ht
    subst ht; decide
  · intro t ht t' ht' _
    simp only [b1, List.mem_cons, List.not_mem_nil, or_false] at ht ht'
    subst ht; subst ht'; rfl
  · intro k cv h hd
    simp only [x1, ov1, clookup] at h
    split at h
    · simp only [Option.some.injEq] at h; subst h; simp at hd
    · cases h
  · intro k cv h _ _
    simp only [x1, ov1, clookup] at h
    split at h
    · simp only [Option.some.injEq] at h; subst h; left; rfl
    · cases h
  · intro k cv h
    simp only [x1, ov1, clookup] at h
    split at h
    · rename_i he
      simp only [Option.some.injEq] at h
      subst h; subst he
      decide
    · cases h

def ops1 : List Op := [.apply b1 true x1 false, .restart, .deleteTip true, .restart]

theorem runOK1 : RunOK cd cfg slot base s0 [] ops1 :=
  ⟨fun _ => step1, trivial, trivial, trivial, trivial⟩

end LiskVerif.Node.Example
