/-
C17 — what one action of the fixed request/response protocol (Model/ReqResp.lean) does.

`step_cases` lists the statements of the protocol, each with the record of the executing thread and
the post-state written out; `step_shape`, `req_effect`, `hdl_effect` say what an
arbitrary action does to the lists of requester / handler records.  Then: induction over successful runs of a
partial step function (`foldlM_induct`, of which `run_induct` is the instance for `run`), which statements are
enabled (`req_can_step`, `hdl_can_step`), and the rank of a requester, which its own statements decrease.
-/
import LiskVerif.Model.ReqResp

namespace LiskVerif.ReqResp

/-- One case per statement of the protocol: to show `motive a s'` for a step `step P s a = some s'`
it suffices to show it for each statement, given the record of the thread that executes it — written
`{ r with pc := … }`, so that its pc is a literal — and the post-state written out. -/
@[elab_as_elim]
theorem step_cases {P : Nat → Nat} {s s' : State} {a : Action} {motive : Action → State → Prop}
    (hs : step P s a = some s')
    (start : ∀ (i : Nat) (r : Req), s.reqs[i]? = some { r with pc := .start } →
      motive (.rStep i) { s with nextId := s.nextId + 1,
                                 reqs := s.reqs.set i { r with pc := .regLock, id := s.nextId, buf := none,
                                                               out := none, arrived := false } })
    (regLock : ∀ (i : Nat) (r : Req), s.reqs[i]? = some { r with pc := .regLock } → s.lock = none →
      motive (.rStep i) { s with lock := some (.req i), reqs := s.reqs.set i { r with pc := .regStore } })
    (regStore : ∀ (i : Nat) (r : Req), s.reqs[i]? = some { r with pc := .regStore } →
      motive (.rStep i) { s with resCh := storeId s.resCh r.id i,
                                 reqs := s.reqs.set i { r with pc := .regUnlock } })
    (regUnlock : ∀ (i : Nat) (r : Req), s.reqs[i]? = some { r with pc := .regUnlock } →
      motive (.rStep i) { s with lock := none, reqs := s.reqs.set i { r with pc := .send } })
    (unLock : ∀ (i : Nat) (r : Req), s.reqs[i]? = some { r with pc := .unLock } → s.lock = none →
      motive (.rStep i) { s with lock := some (.req i), reqs := s.reqs.set i { r with pc := .unDelete } })
    (unDelete : ∀ (i : Nat) (r : Req), s.reqs[i]? = some { r with pc := .unDelete } →
      motive (.rStep i) { s with resCh := eraseId s.resCh r.id,
                                 reqs := s.reqs.set i { r with pc := .unUnlock } })
    (retry : ∀ (i : Nat) (r : Req) (rt : Nat),
      s.reqs[i]? = some { r with pc := .unUnlock, out := some .timeout, retries := rt + 1 } →
      motive (.rStep i) { s with lock := none,
                                 reqs := s.reqs.set i { r with pc := .start, out := some .timeout, retries := rt } })
    (ret : ∀ (i : Nat) (r : Req), s.reqs[i]? = some { r with pc := .unUnlock } →
      ¬ (r.out = some .timeout ∧ 0 < r.retries) →
      motive (.rStep i) { s with lock := none, reqs := s.reqs.set i { r with pc := .done } })
    (sendOk : ∀ (i : Nat) (r : Req), s.reqs[i]? = some { r with pc := .send } →
      motive (.rSendOk i) { s with sent := r.id :: s.sent, reqs := s.reqs.set i { r with pc := .wait } })
    (sendErr : ∀ (i : Nat) (r : Req), s.reqs[i]? = some { r with pc := .send } →
      motive (.rSendErr i) { s with reqs := s.reqs.set i { r with pc := .unLock, out := some .sendErr } })
    (recv : ∀ (i : Nat) (r : Req) (m : Resp), s.reqs[i]? = some { r with pc := .wait, buf := some m } →
      motive (.rRecv i)
        { s with reqs := s.reqs.set i { r with pc := .unLock, out := some (.got m), buf := none } })
    -- `step` leaves `buf` alone here; the channel is empty by the guard, so the post-state may say so
    (timeout : ∀ (i : Nat) (r : Req), s.reqs[i]? = some { r with pc := .wait, buf := none } →
      motive (.rTimeout i)
        { s with reqs := s.reqs.set i { r with pc := .unLock, out := some .timeout, buf := none } })
    (cancel : ∀ (i : Nat) (r : Req), s.reqs[i]? = some { r with pc := .wait } →
      motive (.rCancel i) { s with reqs := s.reqs.set i { r with pc := .unLock, out := some .cancelled } })
    (hLock : ∀ (j : Nat) m, s.hdls[j]? = some ⟨.lock, m⟩ → s.lock = none →
      motive (.hStep j) { s with lock := some (.hdl j), hdls := s.hdls.set j ⟨.lookup, m⟩ })
    (found : ∀ (j : Nat) m ch, s.hdls[j]? = some ⟨.lookup, m⟩ → s.resCh.lookup m.rid = some ch →
      motive (.hStep j) { s with hdls := s.hdls.set j ⟨.deliver ch, m⟩ })
    (unknown : ∀ (j : Nat) m, s.hdls[j]? = some ⟨.lookup, m⟩ → s.resCh.lookup m.rid = none →
      motive (.hStep j) { s with unknown := m.rid :: s.unknown, hdls := s.hdls.set j ⟨.unlock, m⟩ })
    (deliver : ∀ (j : Nat) m ch r, s.hdls[j]? = some ⟨.deliver ch, m⟩ → s.reqs[ch]? = some r →
      motive (.hStep j) { s with hdls := s.hdls.set j ⟨.unlock, m⟩,
                                 reqs := s.reqs.set ch { r with buf := if r.buf = none then some m else r.buf,
                                                                arrived := r.arrived || r.pc == .wait } })
    (gone : ∀ (j : Nat) m ch, s.hdls[j]? = some ⟨.deliver ch, m⟩ → s.reqs[ch]? = none →
      motive (.hStep j) { s with hdls := s.hdls.set j ⟨.unlock, m⟩ })
    (hUnlock : ∀ (j : Nat) m, s.hdls[j]? = some ⟨.unlock, m⟩ →
      motive (.hStep j) { s with lock := none, hdls := s.hdls.set j ⟨.done, m⟩ })
    (respond : ∀ id, id ∈ s.sent → motive (.nRespond id) { s with net := ⟨id, P id⟩ :: s.net })
    (dup : ∀ (k : Nat) m, s.net[k]? = some m → motive (.nDup k) { s with net := m :: s.net })
    (drop : ∀ (k : Nat), k < s.net.length → motive (.nDrop k) { s with net := s.net.eraseIdx k })
    (arrive : ∀ (k : Nat) m, s.net[k]? = some m →
      motive (.nDeliver k) { s with net := s.net.eraseIdx k, hdls := s.hdls ++ [⟨.lock, m⟩] })
    (spawn : ∀ b, motive (.spawn b) { s with reqs := s.reqs ++ [newReq b] }) :
    motive a s' := by
  cases a with
  | rStep i =>
    simp only [step] at hs
    split at hs
    · next r hr =>
      obtain ⟨pc, id, buf, out, rt, arr⟩ := r
      cases pc <;> simp only [stepReq] at hs
      case start => cases hs; exact start i ⟨.start, id, buf, out, rt, arr⟩ hr
      case regLock =>
        split at hs
        · next hl => cases hs; exact regLock i ⟨.regLock, id, buf, out, rt, arr⟩ hr hl
        · cases hs
      case regStore => cases hs; exact regStore i ⟨.regStore, id, buf, out, rt, arr⟩ hr
      case regUnlock => cases hs; exact regUnlock i ⟨.regUnlock, id, buf, out, rt, arr⟩ hr
      case unLock =>
        split at hs
        · next hl => cases hs; exact unLock i ⟨.unLock, id, buf, out, rt, arr⟩ hr hl
        · cases hs
      case unDelete => cases hs; exact unDelete i ⟨.unDelete, id, buf, out, rt, arr⟩ hr
      case unUnlock =>
        cases hs
        unfold afterAttempt
        split
        · next h =>
          obtain ⟨rfl, h0⟩ := h
          obtain ⟨rt, rfl⟩ := Nat.exists_eq_succ_of_ne_zero (Nat.ne_of_gt h0)
          exact retry i ⟨.unUnlock, id, buf, some .timeout, rt + 1, arr⟩ rt hr
        · next h => exact ret i ⟨.unUnlock, id, buf, out, rt, arr⟩ hr h
      all_goals cases hs
    · cases hs
  | rSendOk i =>
    simp only [step] at hs
    split at hs
    · next r hr =>
      obtain ⟨pc, id, buf, out, rt, arr⟩ := r
      split at hs
      · next hpc => cases hpc; cases hs; exact sendOk i ⟨.send, id, buf, out, rt, arr⟩ hr
      · cases hs
    · cases hs
  | rSendErr i =>
    simp only [step] at hs
    split at hs
    · next r hr =>
      obtain ⟨pc, id, buf, out, rt, arr⟩ := r
      split at hs
      · next hpc => cases hpc; cases hs; exact sendErr i ⟨.send, id, buf, out, rt, arr⟩ hr
      · cases hs
    · cases hs
  | rRecv i =>
    simp only [step] at hs
    split at hs
    · next r hr =>
      obtain ⟨pc, id, buf, out, rt, arr⟩ := r
      split at hs
      · next hpc =>
        cases hpc
        cases buf with
        | none => cases hs
        | some m => cases hs; exact recv i ⟨.wait, id, some m, out, rt, arr⟩ m hr
      · cases hs
    · cases hs
  | rTimeout i =>
    simp only [step] at hs
    split at hs
    · next r hr =>
      obtain ⟨pc, id, buf, out, rt, arr⟩ := r
      split at hs
      · next hpc =>
        obtain ⟨h1, h2⟩ := hpc
        cases h1; cases h2; cases hs
        exact timeout i ⟨.wait, id, none, out, rt, arr⟩ hr
      · cases hs
    · cases hs
  | rCancel i =>
    simp only [step] at hs
    split at hs
    · next r hr =>
      obtain ⟨pc, id, buf, out, rt, arr⟩ := r
      split at hs
      · next hpc => cases hpc; cases hs; exact cancel i ⟨.wait, id, buf, out, rt, arr⟩ hr
      · cases hs
    · cases hs
  | hStep j =>
    simp only [step] at hs
    split at hs
    · next h hh =>
      obtain ⟨pc, m⟩ := h
      cases pc <;> simp only [stepHdl] at hs
      case lock =>
        split at hs
        · next hl => cases hs; exact hLock j m hh hl
        · cases hs
      case lookup =>
        split at hs
        · next ch hl => cases hs; exact found j m ch hh hl
        · next hl => cases hs; exact unknown j m hh hl
      case deliver ch =>
        split at hs
        · next r hr => cases hs; exact deliver j m ch r hh hr
        · next hr => cases hs; exact gone j m ch hh hr
      case unlock => cases hs; exact hUnlock j m hh
      case done => cases hs
    · cases hs
  | nRespond id =>
    simp only [step, stepEnv] at hs
    split at hs
    · next h => cases hs; exact respond id h
    · cases hs
  | nDup k =>
    simp only [step, stepEnv] at hs
    split at hs
    · next m h => cases hs; exact dup k m h
    · cases hs
  | nDrop k =>
    simp only [step, stepEnv] at hs
    split at hs
    · next h => cases hs; exact drop k h
    · cases hs
  | nDeliver k =>
    simp only [step, stepEnv] at hs
    split at hs
    · next m h => cases hs; exact arrive k m h
    · cases hs
  | spawn b => simp only [step, stepEnv] at hs; cases hs; exact spawn b

/-! ### what one action does to the thread records -/

/-- the thread that executes an action (`none` for the environment) -/
def actor : Action → Option Tid
  | .rStep i | .rSendOk i | .rSendErr i | .rRecv i | .rTimeout i | .rCancel i => some (.req i)
  | .hStep j => some (.hdl j)
  | _ => none

/-- the possible effects of a requester's own statement on its record -/
def ownNext (s : State) (r r' : Req) : Prop :=
  (r.pc = .start ∧ r' = { r with pc := .regLock, id := s.nextId, buf := none, out := none, arrived := false }) ∨
  (r.pc = .regLock ∧ s.lock = none ∧ r' = { r with pc := .regStore }) ∨
  (r.pc = .regStore ∧ r' = { r with pc := .regUnlock }) ∨
  (r.pc = .regUnlock ∧ r' = { r with pc := .send }) ∨
  (r.pc = .send ∧ r' = { r with pc := .wait }) ∨
  (r.pc = .send ∧ r' = { r with pc := .unLock, out := some .sendErr }) ∨
  (r.pc = .wait ∧ ∃ m, r.buf = some m ∧ r' = { r with pc := .unLock, out := some (.got m), buf := none }) ∨
  (r.pc = .wait ∧ r.buf = none ∧ r' = { r with pc := .unLock, out := some .timeout }) ∨
  (r.pc = .wait ∧ r' = { r with pc := .unLock, out := some .cancelled }) ∨
  (r.pc = .unLock ∧ s.lock = none ∧ r' = { r with pc := .unDelete }) ∨
  (r.pc = .unDelete ∧ r' = { r with pc := .unUnlock }) ∨
  (r.pc = .unUnlock ∧ r' = afterAttempt r)

theorem afterAttempt_spec (r : Req) :
    (afterAttempt r).id = r.id ∧ (afterAttempt r).buf = r.buf ∧ (afterAttempt r).out = r.out ∧
    (afterAttempt r).arrived = r.arrived ∧
    (((afterAttempt r).pc = .start ∧ r.out = some .timeout ∧ 0 < r.retries ∧
        (afterAttempt r).retries = r.retries - 1) ∨
     ((afterAttempt r).pc = .done ∧ (afterAttempt r).retries = r.retries ∧
        (r.out = some .timeout → r.retries = 0))) := by
  unfold afterAttempt
  split
  · next h => exact ⟨rfl, rfl, rfl, rfl, Or.inl ⟨rfl, h.1, h.2, rfl⟩⟩
  · next h => exact ⟨rfl, rfl, rfl, rfl, Or.inr ⟨rfl, rfl, fun ho => by
      rcases Nat.eq_zero_or_pos r.retries with h0 | h0
      · exact h0
      · exact absurd ⟨ho, h0⟩ h⟩⟩

set_option hygiene false in
/-- split a hypothesis `ownNext s r r'` into its twelve cases (`hp : r.pc = …`, `r'` substituted) -/
macro "own_cases " h:ident : tactic => `(tactic| (
  unfold ownNext at $h:ident
  rcases $h:ident with ⟨hp, rfl⟩ | ⟨hp, hl, rfl⟩ | ⟨hp, rfl⟩ | ⟨hp, rfl⟩ | ⟨hp, rfl⟩ | ⟨hp, rfl⟩ |
    ⟨hp, m, hb, rfl⟩ | ⟨hp, hb, rfl⟩ | ⟨hp, rfl⟩ | ⟨hp, hl, rfl⟩ | ⟨hp, rfl⟩ | ⟨hp, rfl⟩))

/-- the effect of a handler's channel send on the record of the channel's owner -/
def dlvNext (r r' : Req) : Prop :=
  ∃ m, r' = { r with buf := if r.buf = none then some m else r.buf, arrived := r.arrived || r.pc == .wait }

/-- the possible effects of a handler's own statement on its record -/
def hdlNext (s : State) (h h' : Hdl) : Prop :=
  h'.msg = h.msg ∧
  ((h.pc = .lock ∧ s.lock = none ∧ h'.pc = .lookup) ∨
   (h.pc = .lookup ∧ ((∃ ch, h'.pc = .deliver ch) ∨ h'.pc = .unlock)) ∨
   ((∃ ch, h.pc = .deliver ch) ∧ h'.pc = .unlock) ∨
   (h.pc = .unlock ∧ h'.pc = .done))

theorem step_shape (P : Nat → Nat) (s s' : State) (a : Action) (hs : step P s a = some s') :
    (∃ i r r', actor a = some (.req i) ∧ s.reqs[i]? = some r ∧ s'.reqs = s.reqs.set i r' ∧
        s'.hdls = s.hdls ∧ ownNext s r r') ∨
    (∃ j h h', a = .hStep j ∧ s.hdls[j]? = some h ∧ s'.hdls = s.hdls.set j h' ∧ hdlNext s h h' ∧
        (s'.reqs = s.reqs ∨
         ∃ ch r r', h.pc = .deliver ch ∧ s.reqs[ch]? = some r ∧ s'.reqs = s.reqs.set ch r' ∧ dlvNext r r')) ∨
    (actor a = none ∧ s'.lock = s.lock ∧ s'.resCh = s.resCh ∧
        ((s'.reqs = s.reqs ∧ (((∃ x, a = .nRespond x ∨ a = .nDup x ∨ a = .nDrop x) ∧ s'.hdls = s.hdls) ∨
            ∃ m, a = .nDeliver m ∧ ∃ x, s'.hdls = s.hdls ++ [⟨.lock, x⟩])) ∨
         (∃ b, a = .spawn b ∧ s'.reqs = s.reqs ++ [newReq b] ∧ s'.hdls = s.hdls))) :=
  step_cases hs
    (start := fun i r hr => .inl ⟨i, _, _, rfl, hr, rfl, rfl, .inl ⟨rfl, rfl⟩⟩)
    (regLock := fun i r hr hl => .inl ⟨i, _, _, rfl, hr, rfl, rfl, .inr <| .inl ⟨rfl, hl, rfl⟩⟩)
    (regStore := fun i r hr => .inl ⟨i, _, _, rfl, hr, rfl, rfl, .inr <| .inr <| .inl ⟨rfl, rfl⟩⟩)
    (regUnlock := fun i r hr => .inl ⟨i, _, _, rfl, hr, rfl, rfl, .inr <| .inr <| .inr <| .inl ⟨rfl, rfl⟩⟩)
    (unLock := fun i r hr hl => .inl ⟨i, _, _, rfl, hr, rfl, rfl, by simp [ownNext, hl]⟩)
    (unDelete := fun i r hr => .inl ⟨i, _, _, rfl, hr, rfl, rfl, by simp [ownNext]⟩)
    (retry := fun i r rt hr => .inl ⟨i, _, _, rfl, hr, rfl, rfl, by simp [ownNext, afterAttempt]⟩)
    (ret := fun i r hr h => .inl ⟨i, _, _, rfl, hr, rfl, rfl, by simp [ownNext, afterAttempt, h]⟩)
    (sendOk := fun i r hr => .inl ⟨i, _, _, rfl, hr, rfl, rfl, by simp [ownNext]⟩)
    (sendErr := fun i r hr => .inl ⟨i, _, _, rfl, hr, rfl, rfl, by simp [ownNext]⟩)
    (recv := fun i r m hr => .inl ⟨i, _, _, rfl, hr, rfl, rfl, by simp [ownNext]⟩)
    (timeout := fun i r hr => .inl ⟨i, _, _, rfl, hr, rfl, rfl, by simp [ownNext]⟩)
    (cancel := fun i r hr => .inl ⟨i, _, _, rfl, hr, rfl, rfl, by simp [ownNext]⟩)
    (hLock := fun j m hj hl => .inr <| .inl ⟨j, _, _, rfl, hj, rfl, ⟨rfl, .inl ⟨rfl, hl, rfl⟩⟩, .inl rfl⟩)
    (found := fun j m ch hj _ =>
      .inr <| .inl ⟨j, _, _, rfl, hj, rfl, ⟨rfl, .inr <| .inl ⟨rfl, .inl ⟨ch, rfl⟩⟩⟩, .inl rfl⟩)
    (unknown := fun j m hj _ => .inr <| .inl ⟨j, _, _, rfl, hj, rfl, ⟨rfl, .inr <| .inl ⟨rfl, .inr rfl⟩⟩, .inl rfl⟩)
    (deliver := fun j m ch r hj hr =>
      .inr <| .inl ⟨j, _, _, rfl, hj, rfl, ⟨rfl, .inr <| .inr <| .inl ⟨⟨ch, rfl⟩, rfl⟩⟩,
        .inr ⟨ch, r, _, rfl, hr, rfl, m, rfl⟩⟩)
    (gone := fun j m ch hj _ =>
      .inr <| .inl ⟨j, _, _, rfl, hj, rfl, ⟨rfl, .inr <| .inr <| .inl ⟨⟨ch, rfl⟩, rfl⟩⟩, .inl rfl⟩)
    (hUnlock := fun j m hj => .inr <| .inl ⟨j, _, _, rfl, hj, rfl, ⟨rfl, .inr <| .inr <| .inr ⟨rfl, rfl⟩⟩, .inl rfl⟩)
    (respond := fun n _ => .inr <| .inr ⟨rfl, rfl, rfl, .inl ⟨rfl, .inl ⟨⟨n, .inl rfl⟩, rfl⟩⟩⟩)
    (dup := fun k m _ => .inr <| .inr ⟨rfl, rfl, rfl, .inl ⟨rfl, .inl ⟨⟨k, .inr (.inl rfl)⟩, rfl⟩⟩⟩)
    (drop := fun k _ => .inr <| .inr ⟨rfl, rfl, rfl, .inl ⟨rfl, .inl ⟨⟨k, .inr (.inr rfl)⟩, rfl⟩⟩⟩)
    (arrive := fun k m _ => .inr <| .inr ⟨rfl, rfl, rfl, .inl ⟨rfl, .inr ⟨k, rfl, m, rfl⟩⟩⟩)
    (spawn := fun b => .inr <| .inr ⟨rfl, rfl, rfl, .inr ⟨b, rfl, rfl, rfl⟩⟩)

theorem req_effect (P : Nat → Nat) (s s' : State) (a : Action) (hstep : step P s a = some s')
    (i : Nat) (r : Req) (hr : s.reqs[i]? = some r) :
    ∃ r', s'.reqs[i]? = some r' ∧
      ((actor a = some (.req i) ∧ ownNext s r r') ∨
       (actor a ≠ some (.req i) ∧ (r' = r ∨ dlvNext r r'))) := by
  have hlt : i < s.reqs.length := (List.getElem?_eq_some_iff.mp hr).1
  rcases step_shape P s s' a hstep with ⟨k, rk, rk', hact, hk, hreqs, _, hown⟩ |
      ⟨j, h, h', rfl, _, _, _, hq⟩ | ⟨hact, _, _, hq⟩
  · by_cases hki : k = i
    · subst hki
      rw [hr] at hk; cases hk
      exact ⟨rk', by rw [hreqs]; exact List.getElem?_set_self hlt, Or.inl ⟨hact, hown⟩⟩
    · refine ⟨r, by rw [hreqs, List.getElem?_set_ne hki]; exact hr, Or.inr ⟨?_, Or.inl rfl⟩⟩
      rw [hact]; intro h; cases h; exact hki rfl
  · rcases hq with hq | ⟨ch, r0, r0', _, hr0, hreqs, hd⟩
    · exact ⟨r, by rw [hq]; exact hr, Or.inr ⟨by simp [actor], Or.inl rfl⟩⟩
    · by_cases hci : ch = i
      · subst hci
        rw [hr] at hr0; cases hr0
        exact ⟨r0', by rw [hreqs]; exact List.getElem?_set_self hlt, Or.inr ⟨by simp [actor], Or.inr hd⟩⟩
      · exact ⟨r, by rw [hreqs, List.getElem?_set_ne hci]; exact hr, Or.inr ⟨by simp [actor], Or.inl rfl⟩⟩
  · rcases hq with ⟨hq, _⟩ | ⟨b, _, hq, _⟩
    · exact ⟨r, by rw [hq]; exact hr, Or.inr ⟨by simp [hact], Or.inl rfl⟩⟩
    · exact ⟨r, by rw [hq, List.getElem?_append_left hlt]; exact hr, Or.inr ⟨by simp [hact], Or.inl rfl⟩⟩

theorem hdl_effect (P : Nat → Nat) (s s' : State) (a : Action) (hstep : step P s a = some s')
    (j : Nat) (h : Hdl) (hh : s.hdls[j]? = some h) :
    ∃ h', s'.hdls[j]? = some h' ∧ ((a = .hStep j ∧ hdlNext s h h') ∨ (a ≠ .hStep j ∧ h' = h)) := by
  have hlt : j < s.hdls.length := (List.getElem?_eq_some_iff.mp hh).1
  rcases step_shape P s s' a hstep with ⟨k, rk, rk', hact, _, _, hhd, _⟩ |
      ⟨k, h0, h0', rfl, hk, hhd, hn, _⟩ | ⟨hact, _, _, hq⟩
  · refine ⟨h, by rw [hhd]; exact hh, Or.inr ⟨?_, rfl⟩⟩
    rintro rfl; simp [actor] at hact
  · by_cases hkj : k = j
    · subst hkj
      rw [hh] at hk; cases hk
      exact ⟨h0', by rw [hhd]; exact List.getElem?_set_self hlt, Or.inl ⟨rfl, hn⟩⟩
    · refine ⟨h, by rw [hhd, List.getElem?_set_ne hkj]; exact hh, Or.inr ⟨?_, rfl⟩⟩
      intro he; cases he; exact hkj rfl
  · have hne : a ≠ .hStep j := by rintro rfl; simp [actor] at hact
    rcases hq with ⟨_, ⟨_, hq⟩ | ⟨_, _, x, hq⟩⟩ | ⟨b, _, _, hq⟩
    · exact ⟨h, by rw [hq]; exact hh, Or.inr ⟨hne, rfl⟩⟩
    · exact ⟨h, by rw [hq, List.getElem?_append_left hlt]; exact hh, Or.inr ⟨hne, rfl⟩⟩
    · exact ⟨h, by rw [hq]; exact hh, Or.inr ⟨hne, rfl⟩⟩

/-! ### runs -/

/-- induction over the successful runs of a partial step function -/
theorem foldlM_induct {σ α : Type} {f : σ → α → Option σ} {motive : σ → List α → σ → Prop}
    (nil : ∀ s, motive s [] s)
    (cons : ∀ s a s1 l s', f s a = some s1 → l.foldlM f s1 = some s' → motive s1 l s' → motive s (a :: l) s') :
    ∀ l s s', l.foldlM f s = some s' → motive s l s'
  | [], s, s', h => by cases h; exact nil s
  | a :: l, s, s', h => by
    rw [List.foldlM_cons] at h
    cases hs : f s a with
    | none => rw [hs] at h; cases h
    | some s1 => rw [hs] at h; exact cons s a s1 l s' hs h (foldlM_induct nil cons l s1 s' h)

/-- a property kept by every action of a schedule is kept by the run -/
theorem foldlM_invariant {σ α : Type} {f : σ → α → Option σ} {Q : σ → Prop} (l : List α)
    (hQ : ∀ a ∈ l, ∀ s s', Q s → f s a = some s' → Q s') (s s' : σ) (h : Q s) (hr : l.foldlM f s = some s') :
    Q s' :=
  foldlM_induct (motive := fun s l s' => (∀ a ∈ l, ∀ s s', Q s → f s a = some s' → Q s') → Q s → Q s')
    (fun _ _ h => h)
    (fun s a s1 _ _ hs _ ih hQ h =>
      ih (fun b hb => hQ b (List.mem_cons_of_mem _ hb)) (hQ a List.mem_cons_self s s1 h hs))
    l s s' hr hQ h

/-- a function that follows a schedule with a partial step function, written out by recursion, is `List.foldlM`: so are
`run`, `runO` (Model/ReqResp), `runW` (Lemmas/ReqRespMore) and `runL` (Model/ReqRespLives; used in Props/C17_Id) -/
theorem eq_foldlM {σ α : Type} {f : σ → α → Option σ} {r : σ → List α → Option σ} (hnil : ∀ s, r s [] = some s)
    (hcons : ∀ s a l, r s (a :: l) = (f s a).bind fun s' => r s' l) :
    ∀ l s, r s l = l.foldlM f s
  | [], s => hnil s
  | a :: l, s => by
    rw [hcons, List.foldlM_cons]
    cases f s a
    · rfl
    · exact eq_foldlM hnil hcons l _

theorem run_eq_foldlM (P : Nat → Nat) (l : List Action) : ∀ s, run P s l = l.foldlM (step P) s :=
  eq_foldlM (fun _ => rfl) (fun s a l => by rw [run]; cases step P s a <;> rfl) l

theorem runO_eq_foldlM (P : Nat → Nat) (l : List Action) : ∀ s, runO P s l = l.foldlM (stepO P) s :=
  eq_foldlM (fun _ => rfl) (fun s a l => by rw [runO]; cases stepO P s a <;> rfl) l

theorem run_induct {P : Nat → Nat} {motive : State → List Action → State → Prop} (nil : ∀ s, motive s [] s)
    (cons : ∀ s a s1 l s', step P s a = some s1 → run P s1 l = some s' → motive s1 l s' → motive s (a :: l) s')
    {l : List Action} {s s' : State} (h : run P s l = some s') : motive s l s' :=
  foldlM_induct nil (fun s a s1 l s' hs hr => cons s a s1 l s' hs (run_eq_foldlM P l s1 ▸ hr)) l s s'
    (run_eq_foldlM P l s ▸ h)

theorem run_invariant {P : Nat → Nat} {Q : State → Prop} (l : List Action)
    (hQ : ∀ a ∈ l, ∀ s s', Q s → step P s a = some s' → Q s') (s s' : State) (h : Q s)
    (hr : run P s l = some s') : Q s' :=
  foldlM_invariant l hQ s s' h (run_eq_foldlM P l s ▸ hr)

theorem reachable_run (P : Nat → Nat) (l : List Action) :
    ∀ s s', Reachable P s → run P s l = some s' → Reachable P s' :=
  run_invariant l fun a _ _ _ h hs => .step a h hs

/-- a state reached by a schedule from the initial state, as a witness of reachability -/
theorem reachable_ex {P : Nat → Nat} {Q : State → Prop} (l : List Action)
    (h : ∃ s, run P init l = some s ∧ Q s) : ∃ s, Reachable P s ∧ Q s :=
  have ⟨s, hr, hq⟩ := h; ⟨s, reachable_run P l init s .init hr, hq⟩

/-! ### which statements are enabled -/

/-- thread actions that do not depend on the remote peer / the network: everything except the
return of `mp.send` (which may block for as long as the peer pleases) -/
def Action.isLocal : Action → Bool
  | .rStep _ | .rRecv _ | .rTimeout _ | .rCancel _ | .hStep _ => true
  | _ => false

theorem isThread_of_actor {a : Action} {t : Tid} (h : actor a = some t) : a.isThread = true := by
  cases a <;> first | rfl | cases h

theorem isThread_of_isLocal {a : Action} (h : a.isLocal = true) : a.isThread = true := by
  cases a <;> first | rfl | cases h

/-- A requester that is not done can execute a statement unless it is about to `Lock` while `resMu`
is taken: its next deterministic statement (the only possibility while it holds the lock), the
return of `mp.send`, or a branch of the `select`. -/
theorem req_can_step (P : Nat → Nat) (s : State) (i : Nat) (r : Req) (hr : s.reqs[i]? = some r)
    (hnd : r.pc ≠ .done) (hl : r.pc = .regLock ∨ r.pc = .unLock → s.lock = none) :
    ∃ a, actor a = some (.req i) ∧ (r.pc ≠ .send → a.isLocal = true) ∧
      (r.pc.holds = true → a = .rStep i) ∧ (step P s a).isSome = true := by
  cases hpc : r.pc with
  | send => exact ⟨.rSendOk i, rfl, fun h => absurd rfl h, nofun, by simp [step, hr, hpc]⟩
  | wait =>
    cases hb : r.buf with
    | none => exact ⟨.rTimeout i, rfl, fun _ => rfl, nofun, by simp [step, hr, hpc, hb]⟩
    | some m => exact ⟨.rRecv i, rfl, fun _ => rfl, nofun, by simp [step, hr, hpc, hb]⟩
  | done => exact absurd hpc hnd
  | regLock => exact ⟨.rStep i, rfl, fun _ => rfl, fun _ => rfl, by simp [step, hr, stepReq, hpc, hl (.inl hpc)]⟩
  | unLock => exact ⟨.rStep i, rfl, fun _ => rfl, fun _ => rfl, by simp [step, hr, stepReq, hpc, hl (.inr hpc)]⟩
  | _ => exact ⟨.rStep i, rfl, fun _ => rfl, fun _ => rfl, by simp [step, hr, stepReq, hpc]⟩

/-- a handler that is not done can execute its next statement unless it is about to `Lock` while
`resMu` is taken -/
theorem hdl_can_step (P : Nat → Nat) (s : State) (j : Nat) (h : Hdl) (hh : s.hdls[j]? = some h)
    (hnd : h.pc ≠ .done) (hl : h.pc = .lock → s.lock = none) : (step P s (.hStep j)).isSome = true := by
  cases hpc : h.pc with
  | lock => simp [step, hh, stepHdl, hpc, hl hpc]
  | lookup => simp only [step, hh, stepHdl, hpc]; cases s.resCh.lookup h.msg.rid <;> rfl
  | deliver ch => simp only [step, hh, stepHdl, hpc]; cases s.reqs[ch]? <;> rfl
  | unlock => simp [step, hh, stepHdl, hpc]
  | done => exact absurd hpc hnd

end LiskVerif.ReqResp

/-! ### the rank of a requester

`C17pcRank`, `C17rank` are the measure in the statement of `C17_within_retry_budget` (Props/C17.lean), hence their
names outside the namespace; they stand here because the liveness lemmas of Lemmas/ReqRespMore.lean rest on them. -/

open LiskVerif LiskVerif.ReqResp

def C17pcRank : RPc → Nat
  | .start => 9 | .regLock => 8 | .regStore => 7 | .regUnlock => 6 | .send => 5 | .wait => 4
  | .unLock => 3 | .unDelete => 2 | .unUnlock => 1 | .done => 0

/-- statements a requester may still execute: at most 10 per attempt, `retries + 1` attempts -/
def C17rank (r : Req) : Nat := r.retries * 10 + C17pcRank r.pc

theorem ownNext_rank (s : State) (r r' : Req) (h : ownNext s r r') : C17rank r' < C17rank r := by
  obtain ⟨_, _, _, _, h2⟩ := afterAttempt_spec r
  own_cases h <;> simp only [C17rank, C17pcRank, hp] <;> try omega
  rcases h2 with ⟨h3, _, h4, h5⟩ | ⟨h3, h4, _⟩
  · rw [h3, h5]; simp only []; omega
  · rw [h3, h4]; simp only []; omega

theorem dlvNext_rank (r r' : Req) (h : dlvNext r r') : C17rank r' = C17rank r := by
  obtain ⟨m, rfl⟩ := h; rfl

/-- every action leaves the rank of requester `i` unchanged or smaller; its own statements make it
strictly smaller -/
theorem rank_step (P : Nat → Nat) (s s' : State) (a : Action) (hstep : step P s a = some s')
    (i : Nat) (r : Req) (hr : s.reqs[i]? = some r) :
    ∃ r', s'.reqs[i]? = some r' ∧ C17rank r' ≤ C17rank r ∧
      (actor a = some (.req i) → C17rank r' < C17rank r) := by
  obtain ⟨r', hr', hc⟩ := req_effect P s s' a hstep i r hr
  refine ⟨r', hr', ?_⟩
  rcases hc with ⟨_, hown⟩ | ⟨hne, rfl | hd⟩
  · exact ⟨Nat.le_of_lt (ownNext_rank s r r' hown), fun _ => ownNext_rank s r r' hown⟩
  · exact ⟨Nat.le_refl _, fun h => absurd h hne⟩
  · exact ⟨Nat.le_of_eq (dlvNext_rank r r' hd), fun h => absurd h hne⟩
