/-
The functions of the sync model, each identified with what it computes: `largestBy` filters by `List.max?` of the keys,
the `range frequency` loop picks an id of maximal count, the height helpers are arithmetic progressions (no `uint32`
wrap below 2^32), `applyAll` / `streamApply` are `reapply` (stop at the first refused block), `sortAsc` undoes any
reordering of blocks with different heights, `heightOf` is `List.findIdx?`, the blocks-from-id handler returns the 103
blocks after the first block with the id; and the downloader against an honest responder delivers exactly the
responder's blocks up to the end block.
-/
import LiskVerif.Model.Sync
import LiskVerif.Lemmas.Sort
import LiskVerif.Lemmas.AList

namespace LiskVerif.Sync

/-! ### `largestBy` is "filter by the maximum" -/

section Largest
variable {α : Type}

/-- the running maximum of the loop is its start value or one of the keys, and dominates them all -/
theorem foldl_max_spec (xs : List Nat) (m : Nat) :
    xs.foldl max m ∈ m :: xs ∧ ∀ b ∈ m :: xs, b ≤ xs.foldl max m :=
  List.max?_eq_some_iff.mp List.max?_cons'

theorem largestByLoop_eq (key : α → Nat) (l : List α) (m : Nat) (res : List α)
    (hres : ∀ x ∈ res, key x = m) :
    largestByLoop key l m res = (res ++ l).filter (fun x => key x == (l.map key).foldl max m) := by
  induction l generalizing m res with
  | nil =>
    rw [largestByLoop, List.append_nil, List.map_nil, List.foldl_nil,
      List.filter_eq_self.mpr (fun x hx => beq_iff_eq.mpr (hres x hx))]
  | cons v r ih =>
    have hge := (foldl_max_spec (r.map key) (max m (key v))).2 _ List.mem_cons_self
    rw [largestByLoop, List.map_cons, List.foldl_cons]
    by_cases h1 : key v > m
    · rw [Nat.max_eq_right (Nat.le_of_lt h1)] at hge ⊢
      have hnil : res.filter (fun x => key x == (r.map key).foldl max (key v)) = [] :=
        List.filter_eq_nil_iff.mpr fun x hx => by rw [hres x hx, beq_iff_eq]; omega
      rw [if_pos h1, ih _ _ (fun x hx => by rw [List.mem_singleton.mp hx]), List.filter_append res, hnil]
      rfl
    · rw [if_neg h1, Nat.max_eq_left (Nat.le_of_not_lt h1)] at *
      by_cases h2 : key v = m
      · rw [if_pos h2, ih m _ (fun x hx => (List.mem_append.mp hx).elim (hres x) fun h => by
          rw [List.mem_singleton.mp h, h2]), List.append_assoc]
        rfl
      · rw [if_neg h2, ih m res hres, List.filter_append, List.filter_append,
          List.filter_cons_of_neg (by rw [beq_iff_eq]; omega)]

theorem largestBy_eq (key : α → Nat) (l : List α) :
    largestBy key l = l.filter (fun x => key x == (l.map key).max?.getD 0) := by
  cases l with
  | nil => rfl
  | cons v r =>
    rw [largestBy, largestByLoop_eq key (v :: r) (key v) [] nofun, List.map_cons, List.foldl_cons, Nat.max_self,
      List.max?_cons']
    rfl

theorem mem_largestBy (key : α → Nat) (l : List α) (t : α) :
    t ∈ largestBy key l ↔ t ∈ l ∧ ∀ u ∈ l, key u ≤ key t := by
  rw [largestBy_eq, List.mem_filter, beq_iff_eq]
  refine and_congr_right fun ht => ?_
  obtain ⟨M, hM⟩ : ∃ M, (l.map key).max? = some M := by
    cases l with
    | nil => cases ht
    | cons v r => exact ⟨_, List.max?_cons'⟩
  obtain ⟨hmem, hle⟩ := List.max?_eq_some_iff.mp hM
  rw [hM, Option.getD_some]
  constructor
  · rintro rfl u hu
    exact hle _ (List.mem_map_of_mem hu)
  · intro h
    obtain ⟨x, hx, rfl⟩ := List.mem_map.mp hmem
    exact Nat.le_antisymm (hle _ (List.mem_map_of_mem ht)) (h x hx)

/-- all members of the result have the key of any one of them -/
theorem largestBy_eq_of_mem (key : α → Nat) (l : List α) (t : α) (ht : t ∈ largestBy key l) :
    largestBy key l = l.filter (fun x => key x == key t) := by
  rw [largestBy_eq] at ht ⊢
  rw [beq_iff_eq.mp (List.mem_filter.mp ht).2]

theorem largestBy_ne_nil (key : α → Nat) (l : List α) (hl : l ≠ []) : largestBy key l ≠ [] := by
  cases l with
  | nil => exact absurd rfl hl
  | cons v r =>
    obtain ⟨hmem, hle⟩ := List.max?_eq_some_iff.mp (List.max?_cons' (x := key v) (xs := r.map key))
    obtain ⟨x, hx, hxk⟩ := List.mem_map.mp (List.map_cons ▸ hmem)
    exact List.ne_nil_of_mem ((mem_largestBy key _ x).mpr
      ⟨hx, fun u hu => hxk ▸ hle _ (List.map_cons ▸ List.mem_map_of_mem hu)⟩)

end Largest

/-! ### the `range frequency` loop -/

section Pick
variable {ι : Type}

/-- the loop keeps `blockID` when no visited id beats `max`; otherwise it ends on a visited id that beats `max` and that no
visited id beats -/
theorem pickLoop_eq (cnt : ι → Nat) (order : List ι) (m : Nat) (cur : Option ι) :
    ((∀ j ∈ order, cnt j ≤ m) ∧ pickLoop cnt order m cur = cur) ∨
    ∃ i ∈ order, pickLoop cnt order m cur = some i ∧ m < cnt i ∧ ∀ j ∈ order, cnt j ≤ cnt i := by
  induction order generalizing m cur with
  | nil => exact Or.inl ⟨nofun, rfl⟩
  | cons j r ih =>
    rw [pickLoop]
    by_cases hj : cnt j > m
    · rw [if_pos hj]
      refine Or.inr ?_
      rcases ih (cnt j) (some j) with ⟨hall, heq⟩ | ⟨i, hi, heq, hlt, hall⟩
      · exact ⟨j, List.mem_cons_self, heq, hj, fun k hk =>
          (List.mem_cons.mp hk).elim (fun e => e ▸ Nat.le_refl _) (hall k)⟩
      · exact ⟨i, List.mem_cons_of_mem _ hi, heq, Nat.lt_trans hj hlt, fun k hk =>
          (List.mem_cons.mp hk).elim (fun e => e ▸ Nat.le_of_lt hlt) (hall k)⟩
    · rw [if_neg hj]
      rcases ih m cur with ⟨hall, heq⟩ | ⟨i, hi, heq, hlt, hall⟩
      · exact Or.inl ⟨fun k hk => (List.mem_cons.mp hk).elim (fun e => e ▸ Nat.le_of_not_lt hj) (hall k), heq⟩
      · exact Or.inr ⟨i, List.mem_cons_of_mem _ hi, heq, hlt, fun k hk =>
          (List.mem_cons.mp hk).elim (fun e => e ▸ Nat.le_trans (Nat.le_of_not_lt hj) (Nat.le_of_lt hlt)) (hall k)⟩

theorem countId_pos_of_mem [DecidableEq ι] (l : List (Tip ι)) (t : Tip ι) (ht : t ∈ l) : countId l t.id > 0 := by
  unfold countId
  apply List.length_pos_of_mem (a := t)
  simp [ht]

end Pick

/-! ### height helpers -/

theorem u32_of_lt {n : Nat} (h : n < two32) : u32 n = n := Nat.mod_eq_of_lt h

theorem u32sub_of_le {a b : Nat} (hb : b ≤ a) (ha : a < two32) : u32sub a b = a - b := by
  rw [u32sub, Nat.mod_eq_of_lt ha, Nat.mod_eq_of_lt (Nat.lt_of_le_of_lt hb ha), Nat.add_comm a,
    Nat.add_sub_assoc hb, Nat.add_mod_left, Nat.mod_eq_of_lt (by omega)]

theorem gapLoop_spec (start minimum gap : Nat) (hs : start < two32) (fuel i : Nat)
    (hno : minimum + (i + fuel) * gap < two32) :
    ∃ k, k ≤ fuel ∧
      gapLoop start minimum gap fuel i = (List.range k).map (fun j => start - (i + j) * gap) ∧
      (∀ j, j < k → minimum + (i + j) * gap ≤ start) ∧
      (k < fuel → start < minimum + (i + k) * gap) := by
  induction fuel generalizing i with
  | zero => exact ⟨0, Nat.le_refl _, rfl, fun j hj => absurd hj (Nat.not_lt_zero j), fun h => absurd h (Nat.lt_irrefl 0)⟩
  | succ f ih =>
    have hmono : i * gap ≤ (i + (f + 1)) * gap := Nat.mul_le_mul_right gap (Nat.le_add_right _ _)
    rw [gapLoop, u32_of_lt (n := i * gap) (by omega), u32_of_lt (n := minimum + i * gap) (by omega)]
    by_cases hlt : start < minimum + i * gap
    · rw [if_pos hlt]
      exact ⟨0, Nat.zero_le _, rfl, fun j hj => absurd hj (Nat.not_lt_zero j), fun _ => hlt⟩
    · rw [if_neg hlt]
      obtain ⟨k, hk, hlist, hall, hstop⟩ := ih (i + 1) (by rw [Nat.add_right_comm]; exact hno)
      refine ⟨k + 1, Nat.succ_le_succ hk, ?_, fun j hj => ?_, fun hkf => ?_⟩
      · rw [hlist, u32sub_of_le (by omega) hs, List.range_succ_eq_map, List.map_cons, List.map_map]
        exact congrArg _ (List.map_congr_left fun j _ => by rw [Nat.add_right_comm]; rfl)
      · cases j with
        | zero => exact Nat.le_of_not_lt hlt
        | succ j' => exact Nat.add_right_comm i 1 j' ▸ hall j' (Nat.lt_of_succ_lt_succ hj)
      · exact Nat.add_right_comm i 1 k ▸ hstop (Nat.lt_of_succ_lt_succ hkf)

theorem lastLoop_eq_gapLoop (start fuel i : Nat) : lastLoop start fuel i = gapLoop start 0 1 fuel i := by
  induction fuel generalizing i with
  | zero => rfl
  | succ f ih =>
    simp only [lastLoop, gapLoop, Nat.mul_one, Nat.zero_add, ih]
    have : u32 (u32 i) = u32 i := by unfold u32; exact Nat.mod_mod _ _
    rw [this]

theorem getHeightWithGap_of_le {start minimum : Nat} (gap num : Nat) (h : start ≤ minimum) :
    getHeightWithGap start minimum gap num = [minimum] := by
  rw [getHeightWithGap, if_pos h]

/-- above `minimum` (no `uint32` overflow) the heights are `start, start - gap, …`: at most `num - 1`, none below
`minimum`, and the list stops early only where the next height would be below `minimum` -/
theorem getHeightWithGap_of_lt {start minimum gap num : Nat} (hs : start < two32)
    (hno : minimum + num * gap < two32) (hlt : minimum < start) :
    ∃ k, k ≤ num - 1 ∧
      getHeightWithGap start minimum gap num = (List.range k).map (fun j => start - j * gap) ∧
      (∀ j, j < k → minimum + j * gap ≤ start) ∧ (k < num - 1 → start < minimum + k * gap) := by
  have hno' : minimum + (0 + (num - 1)) * gap < two32 :=
    Nat.lt_of_le_of_lt (Nat.add_le_add_left (Nat.mul_le_mul_right gap (by omega)) _) hno
  obtain ⟨k, hk, hlist, hall, hstop⟩ := gapLoop_spec start minimum gap hs (num - 1) 0 hno'
  simp only [Nat.zero_add] at hlist hall hstop
  exact ⟨k, hk, by rw [getHeightWithGap, if_neg (by omega), hlist], hall, hstop⟩

theorem getHeightWithGap_bounds {start minimum gap num : Nat} (hs : start < two32)
    (hno : minimum + num * gap < two32) :
    ∀ e ∈ getHeightWithGap start minimum gap num, minimum ≤ e ∧ e ≤ max start minimum := by
  intro e he
  by_cases hle : start ≤ minimum
  · rw [getHeightWithGap_of_le gap num hle, List.mem_singleton] at he
    omega
  · obtain ⟨k, _, hlist, hall, _⟩ := getHeightWithGap_of_lt hs hno (by omega)
    rw [hlist] at he
    obtain ⟨j, hj, rfl⟩ := List.mem_map.mp he
    have := hall j (List.mem_range.mp hj)
    omega

/-- `getLastHeights start num` is `start, start - 1, …`: `min (num - 1) (start + 1)` heights -/
theorem getLastHeights_eq {start num : Nat} (hs : start < two32) (hn : num ≤ two32) :
    getLastHeights start num = (List.range (min (num - 1) (start + 1))).map (fun j => start - j) := by
  obtain ⟨k, hk, hlist, hall, hstop⟩ := gapLoop_spec start 0 1 hs (num - 1) 0 (by omega)
  have hk' : k = min (num - 1) (start + 1) := by
    have h1 : k ≤ start + 1 := by
      cases k with
      | zero => omega
      | succ k' => have := hall k' (by omega); omega
    refine Nat.le_antisymm (Nat.le_min.mpr ⟨hk, h1⟩) ?_
    by_cases hlt : k < num - 1
    · exact Nat.le_trans (Nat.min_le_right _ _) (by have := hstop hlt; omega)
    · exact Nat.le_trans (Nat.min_le_left _ _) (Nat.le_of_not_lt hlt)
  rw [getLastHeights, lastLoop_eq_gapLoop, hlist, hk']
  simp only [Nat.zero_add, Nat.mul_one]

/-- `getCommonBlockStartSearchHeight h r` is the largest multiple of `r` strictly below `h` (`0` for `h = 0`) -/
theorem startSearch_spec (h : Nat) {r : Nat} (hr : 0 < r) :
    getCommonBlockStartSearchHeight h r ≤ h ∧ getCommonBlockStartSearchHeight h r % r = 0 ∧
    h - getCommonBlockStartSearchHeight h r ≤ r ∧ (0 < h → getCommonBlockStartSearchHeight h r < h) := by
  unfold getCommonBlockStartSearchHeight
  dsimp only
  have hdm := Nat.div_add_mod (h + r - 1) r
  have hml := Nat.mod_lt (h + r - 1) hr
  cases hk : (h + r - 1) / r with
  | zero =>
    rw [hk, Nat.mul_zero, Nat.zero_add] at hdm
    rw [if_pos rfl]
    exact ⟨Nat.zero_le _, Nat.zero_mod _, by omega, id⟩
  | succ k =>
    rw [hk, Nat.mul_succ, Nat.mul_comm] at hdm
    rw [if_neg (Nat.succ_ne_zero k), Nat.add_sub_cancel]
    exact ⟨by omega, Nat.mul_mod_left k r, by omega, fun _ => by omega⟩

theorem startSearch_le (h r : Nat) : getCommonBlockStartSearchHeight h r ≤ h := by
  rcases Nat.eq_zero_or_pos r with rfl | hr
  · simp [getCommonBlockStartSearchHeight]
  · exact (startSearch_spec h hr).1

/-- the search starts on the own chain, whose heights are `uint32` values -/
theorem startSearch_lt_two32 {len : Nat} (n : Nat) (h : len ≤ two32) :
    getCommonBlockStartSearchHeight (len - 1) n < two32 := by
  have := startSearch_le (len - 1) n
  have : 0 < two32 := by decide
  omega

/-! ### applying blocks -/

section Apply
variable {ι : Type}

/-- every block of the chain (except the first) is accepted on top of the blocks below it -/
def ValidChain (applies : List (Blk ι) → Blk ι → Bool) (q : List (Blk ι)) : Prop :=
  ∀ pre b post, q = pre ++ b :: post → pre ≠ [] → applies pre b = true

/-- every block of `app` is accepted by the processor on top of `c` and the blocks before it -/
def Accepted (applies : List (Blk ι) → Blk ι → Bool) (c app : List (Blk ι)) : Prop :=
  ∀ pre b post, app = pre ++ b :: post → applies (c ++ pre) b = true

theorem accepted_nil (applies : List (Blk ι) → Blk ι → Bool) (c : List (Blk ι)) : Accepted applies c [] := by
  intro pre b post h
  cases pre <;> cases h

theorem accepted_cons (applies : List (Blk ι) → Blk ι → Bool) (c : List (Blk ι)) (b : Blk ι) (app : List (Blk ι)) :
    Accepted applies c (b :: app) ↔ applies c b = true ∧ Accepted applies (c ++ [b]) app := by
  constructor
  · intro h
    refine ⟨by simpa using h [] b app rfl, fun pre x post hx => ?_⟩
    simpa using h (b :: pre) x post (by rw [hx]; rfl)
  · rintro ⟨hb, h⟩ pre x post hx
    cases pre with
    | nil => cases hx; simpa using hb
    | cons y pre' => cases hx; simpa using h pre' x post rfl

theorem accepted_of_validChain (applies : List (Blk ι) → Blk ι → Bool) (q c rest : List (Blk ι))
    (hv : ValidChain applies q) (hq : q = c ++ rest) (hc : c ≠ []) : Accepted applies c rest :=
  fun pre b post h => hv (c ++ pre) b post (by rw [hq, h, List.append_assoc]) (by simp [hc])

/-! `reapply` stops at the first block the processor refuses; `applyAll` and `streamApply` are instances of it. -/

theorem reapply_spec (applies : List (Blk ι) → Blk ι → Bool) (c ts c'' rem : List (Blk ι))
    (h : reapply applies c ts = (c'', rem)) :
    ∃ app, ts = app ++ rem ∧ c'' = c ++ app ∧ Accepted applies c app ∧
      (∀ b t, rem = b :: t → applies c'' b = false) := by
  induction ts generalizing c with
  | nil =>
    cases h
    exact ⟨[], rfl, (List.append_nil _).symm, accepted_nil _ _, nofun⟩
  | cons b r ih =>
    rw [reapply] at h
    by_cases hb : applies c b = true
    · rw [if_pos hb] at h
      obtain ⟨app, h1, h2, h3, h4⟩ := ih (c ++ [b]) h
      exact ⟨b :: app, by rw [h1]; rfl, by rw [h2, List.append_assoc]; rfl, (accepted_cons _ _ _ _).mpr ⟨hb, h3⟩, h4⟩
    · rw [if_neg hb] at h
      cases h
      refine ⟨[], rfl, (List.append_nil _).symm, accepted_nil _ _, fun x t hr => ?_⟩
      cases hr
      simpa using hb

theorem reapply_prefix (applies : List (Blk ι) → Blk ι → Bool) (c rest c'' rem : List (Blk ι))
    (h : reapply applies c rest = (c'', rem)) : ∃ app, c'' = c ++ app :=
  let ⟨app, _, h2, _⟩ := reapply_spec applies c rest c'' rem h
  ⟨app, h2⟩

theorem reapply_append (applies : List (Blk ι) → Blk ι → Bool) (c rest c'' rem : List (Blk ι))
    (h : reapply applies c rest = (c'', rem)) : c'' ++ rem = c ++ rest := by
  obtain ⟨app, h1, h2, _⟩ := reapply_spec applies c rest c'' rem h
  rw [h1, h2, List.append_assoc]

/-- conversely, accepted blocks are all applied -/
theorem reapply_of_accepted (applies : List (Blk ι) → Blk ι → Bool) (c ts : List (Blk ι))
    (h : Accepted applies c ts) : reapply applies c ts = (c ++ ts, []) := by
  induction ts generalizing c with
  | nil => rw [reapply, List.append_nil]
  | cons b r ih =>
    obtain ⟨hb, hr⟩ := (accepted_cons _ _ _ _).mp h
    rw [reapply, if_pos hb, ih _ hr, List.append_assoc]
    rfl

theorem reapply_valid (applies : List (Blk ι) → Blk ι → Bool) (q c rest : List (Blk ι))
    (hv : ValidChain applies q) (hq : q = c ++ rest) (hc : c ≠ []) :
    reapply applies c rest = (q, []) :=
  hq ▸ reapply_of_accepted applies c rest (accepted_of_validChain applies q c rest hv hq hc)

/-- `applyAll` is `reapply` that only tells whether a block was left over -/
theorem applyAll_eq_reapply (applies : List (Blk ι) → Blk ι → Bool) (c bs : List (Blk ι)) :
    applyAll applies c bs = ((reapply applies c bs).1, (reapply applies c bs).2.isEmpty) := by
  induction bs generalizing c with
  | nil => rfl
  | cons b r ih =>
    rw [applyAll, reapply]
    by_cases hb : applies c b = true
    · rw [if_pos hb, if_pos hb, ih]
    · rw [if_neg hb, if_neg hb]; rfl

theorem applyAll_spec (applies : List (Blk ι) → Blk ι → Bool) (c bs c' : List (Blk ι)) (ok : Bool)
    (h : applyAll applies c bs = (c', ok)) :
    ∃ app rest, bs = app ++ rest ∧ c' = c ++ app ∧ Accepted applies c app ∧
      (ok = true → rest = []) ∧ (ok = false → ∃ b t, rest = b :: t ∧ applies c' b = false) := by
  rw [applyAll_eq_reapply] at h
  obtain ⟨app, h1, h2, h3, h4⟩ := reapply_spec applies c bs _ _ rfl
  cases h
  refine ⟨app, _, h1, h2, h3, List.isEmpty_iff.mp, fun hf => ?_⟩
  cases hr : (reapply applies c bs).2 with
  | nil => rw [hr] at hf; cases hf
  | cons b t => exact ⟨b, t, rfl, h4 b t hr⟩

theorem applyAll_prefix (applies : List (Blk ι) → Blk ι → Bool) (c bs c' : List (Blk ι)) (ok : Bool)
    (h : applyAll applies c bs = (c', ok)) : ∃ app, c' = c ++ app ∧ (ok = true → app = bs) := by
  obtain ⟨app, rest, h1, h2, _, h4, _⟩ := applyAll_spec applies c bs c' ok h
  exact ⟨app, h2, fun hk => by rw [h1, h4 hk, List.append_nil]⟩

theorem applyAll_valid (applies : List (Blk ι) → Blk ι → Bool) (p c rest : List (Blk ι))
    (hv : ValidChain applies p) (hp : p = c ++ rest) (hc : c ≠ []) :
    applyAll applies c rest = (p, true) := by
  rw [applyAll_eq_reapply, reapply_valid applies p c rest hv hp hc]
  rfl

/-- `streamApply` is `reapply` for the processor that runs `Validate()` first; the error tells which of the two
refused the first block left over -/
theorem streamApply_eq_reapply (applies : List (Blk ι) → Blk ι → Bool) (c bs : List (Blk ι)) :
    streamApply applies c bs =
      ((reapply (fun c b => b.ok && applies c b) c bs).1,
        match (reapply (fun c b => b.ok && applies c b) c bs).2 with
        | [] => none
        | b :: _ => some (if b.ok then .applyFailed else .invalidBlock)) := by
  induction bs generalizing c with
  | nil => rfl
  | cons b r ih =>
    rw [streamApply, reapply]
    by_cases hok : b.ok = true
    · by_cases hb : applies c b = true
      · simp only [hok, hb, Bool.not_true, Bool.false_eq_true, if_false, if_true, Bool.and_self, ih]
      · simp only [hok, hb, Bool.not_true, Bool.false_eq_true, if_false, Bool.and_false, if_true]
    · simp only [hok, Bool.not_false, if_true, Bool.false_and, Bool.false_eq_true, if_false]

theorem accepted_ok (applies : List (Blk ι) → Blk ι → Bool) (c app : List (Blk ι)) :
    Accepted (fun c b => b.ok && applies c b) c app ↔ (∀ b ∈ app, b.ok = true) ∧ Accepted applies c app := by
  constructor
  · intro h
    refine ⟨fun b hb => ?_, fun pre b post hs => (Bool.and_eq_true_iff.mp (h pre b post hs)).2⟩
    obtain ⟨pre, post, rfl⟩ := List.append_of_mem hb
    exact (Bool.and_eq_true_iff.mp (h pre b post rfl)).1
  · rintro ⟨h1, h2⟩ pre b post hs
    exact Bool.and_eq_true_iff.mpr ⟨h1 b (by rw [hs]; simp), h2 pre b post hs⟩

theorem streamApply_spec (applies : List (Blk ι) → Blk ι → Bool) (c bs c' : List (Blk ι)) (r : Option SyncErr)
    (h : streamApply applies c bs = (c', r)) :
    ∃ app rest, bs = app ++ rest ∧ c' = c ++ app ∧ Accepted applies c app ∧ (∀ b ∈ app, b.ok = true) ∧
      (r = none → rest = []) ∧
      (∀ e, r = some e → ∃ b t, rest = b :: t ∧
          ((e = .invalidBlock ∧ b.ok = false) ∨ (e = .applyFailed ∧ b.ok = true ∧ applies c' b = false))) := by
  rw [streamApply_eq_reapply] at h
  obtain ⟨app, h1, h2, h3, h4⟩ := reapply_spec _ c bs _ _ rfl
  obtain ⟨hok, hacc⟩ := (accepted_ok applies c app).mp h3
  cases h
  refine ⟨app, _, h1, h2, hacc, hok, ?_, ?_⟩
  · cases (reapply (fun c b => b.ok && applies c b) c bs).2 with
    | nil => exact fun _ => rfl
    | cons b t => exact nofun
  · cases hr : (reapply (fun c b => b.ok && applies c b) c bs).2 with
    | nil => exact fun _ => nofun
    | cons b t =>
      have hb := h4 b t hr
      intro e he
      cases he
      refine ⟨b, t, rfl, ?_⟩
      cases hbo : b.ok with
      | false => exact Or.inl ⟨rfl, rfl⟩
      | true => exact Or.inr ⟨rfl, rfl, by simpa [hbo] using hb⟩

theorem streamApply_err (applies : List (Blk ι) → Blk ι → Bool) (c bs c' : List (Blk ι)) (e : SyncErr)
    (h : streamApply applies c bs = (c', some e)) : e = .invalidBlock ∨ e = .applyFailed := by
  obtain ⟨_, _, _, _, _, _, _, h6⟩ := streamApply_spec applies _ _ _ _ h
  obtain ⟨_, _, _, h | h⟩ := h6 e rfl
  · exact Or.inl h.1
  · exact Or.inr h.1

theorem streamApply_prefix (applies : List (Blk ι) → Blk ι → Bool) (c bs c' : List (Blk ι)) (r : Option SyncErr)
    (h : streamApply applies c bs = (c', r)) : ∃ app, c' = c ++ app :=
  let ⟨app, _, _, h2, _⟩ := streamApply_spec applies c bs c' r h
  ⟨app, h2⟩

theorem streamApply_valid (applies : List (Blk ι) → Blk ι → Bool) (p c rest : List (Blk ι))
    (hv : ValidChain applies p) (hp : p = c ++ rest) (hc : c ≠ []) (hok : ∀ b ∈ rest, b.ok = true) :
    streamApply applies c rest = (p, none) := by
  rw [streamApply_eq_reapply, reapply_of_accepted _ c rest
    ((accepted_ok applies c rest).mpr ⟨hok, accepted_of_validChain applies p c rest hv hp hc⟩), hp]

theorem take_take_append {α : Type} (q app : List α) (k f : Nat) (hk : f + 1 ≤ k) (hq : f + 1 ≤ q.length) :
    (q.take k ++ app).take (f + 1) = q.take (f + 1) := by
  rw [List.take_append_of_le_length (by rw [List.length_take]; omega), List.take_take]
  congr 1
  omega

end Apply

/-! ### sorting a permuted segment -/

section SortPerm
variable {ι : Type}

theorem sortAsc_pairwise (t : List (Blk ι)) : (sortAsc t).Pairwise (fun a b => a.height ≤ b.height) :=
  isort_key_pairwise (·.height) t

theorem sortAsc_perm (t : List (Blk ι)) : (sortAsc t).Perm t := isort_perm _ t

theorem pairwise_lt_height_inj (s : List (Blk ι)) (hs : s.Pairwise (fun a b => a.height < b.height)) :
    ∀ a ∈ s, ∀ b ∈ s, a.height = b.height → a = b :=
  fun _ ha _ hb e => inj_of_nodup_map (·.height) (List.pairwise_map.mpr (hs.imp Nat.ne_of_lt)) ha hb e

/-- two lists ascending in height with the same blocks are equal when heights identify the blocks -/
theorem ascending_perm_eq (l l' : List (Blk ι)) (h1 : l.Pairwise (fun a b => a.height ≤ b.height))
    (h2 : l'.Pairwise (fun a b => a.height ≤ b.height)) (hp : l.Perm l')
    (hinj : ∀ a ∈ l', ∀ b ∈ l', a.height = b.height → a = b) : l = l' :=
  List.Perm.eq_of_pairwise (le := fun a b : Blk ι => a.height ≤ b.height)
    (fun a b ha hb h1 h2 => hinj a (hp.mem_iff.mp ha) b hb (Nat.le_antisymm h1 h2)) h1 h2 hp

/-- **sorting undoes any reordering** of blocks with pairwise different heights that are listed in
ascending order in `s` -/
theorem sortAsc_eq_of_perm (t s : List (Blk ι)) (hp : t.Perm s)
    (hs : s.Pairwise (fun a b => a.height < b.height)) : sortAsc t = s :=
  ascending_perm_eq _ _ (sortAsc_pairwise t) (hs.imp Nat.le_of_lt) ((sortAsc_perm t).trans hp)
    (pairwise_lt_height_inj s hs)

end SortPerm

/-! ### honest responder: lookups, segments, the downloader -/

section Honest
variable {ι : Type} [DecidableEq ι]

/-- the blocks follow a block with id `lid` at height `lh`: consecutive heights, `prev` links -/
def Linked : ι → Nat → List (Blk ι) → Prop
  | _, _, [] => True
  | lid, lh, b :: r => b.height = lh + 1 ∧ b.prev = lid ∧ Linked b.id b.height r

/-- id and height of the last block of `bs`, or the given ones when `bs` is empty -/
def lastOf : List (Blk ι) → ι → Nat → ι × Nat
  | [], lid, lh => (lid, lh)
  | b :: r, _, _ => lastOf r b.id b.height

/-- `heightOf` is the index of the first block with the id -/
theorem heightOf_eq_findIdx? (c : List (Blk ι)) (i : ι) :
    heightOf c i = c.findIdx? (fun b => decide (b.id = i)) := by
  induction c with
  | nil => rfl
  | cons b r ih =>
    rw [heightOf, List.findIdx?_cons, ih]
    by_cases hb : b.id = i
    · rw [if_pos hb, if_pos (decide_eq_true hb)]
    · rw [if_neg hb, if_neg (by simpa using hb)]

/-- `heightOf c i = some h` exactly when `h` is the FIRST position of `c` holding a block with id `i` -/
theorem heightOf_eq_some_iff (c : List (Blk ι)) (i : ι) (h : Nat) :
    heightOf c i = some h ↔
      (∃ b, c[h]? = some b ∧ b.id = i) ∧ ∀ k b, k < h → c[k]? = some b → b.id ≠ i := by
  rw [heightOf_eq_findIdx?, List.findIdx?_eq_some_iff_getElem]
  simp only [decide_eq_true_eq]
  constructor
  · rintro ⟨hlt, hi, hfirst⟩
    refine ⟨⟨c[h], List.getElem?_eq_getElem hlt, hi⟩, fun k b hk hb => ?_⟩
    obtain ⟨hk', rfl⟩ := List.getElem?_eq_some_iff.mp hb
    exact hfirst k hk
  · rintro ⟨⟨b, hb, hi⟩, hfirst⟩
    obtain ⟨hlt, rfl⟩ := List.getElem?_eq_some_iff.mp hb
    exact ⟨hlt, hi, fun j hj => hfirst j _ hj (List.getElem?_eq_getElem _)⟩

theorem heightOf_eq_none_iff (c : List (Blk ι)) (i : ι) : heightOf c i = none ↔ ∀ b ∈ c, b.id ≠ i := by
  rw [heightOf_eq_findIdx?, List.findIdx?_eq_none_iff]
  simp only [decide_eq_false_iff_not, ne_eq]

theorem heightOf_lt_length (c : List (Blk ι)) (i : ι) (h : Nat) (hh : heightOf c i = some h) :
    h < c.length :=
  let ⟨⟨_, hb, _⟩, _⟩ := (heightOf_eq_some_iff c i h).mp hh
  (List.getElem?_eq_some_iff.mp hb).1

/-- on a chain without duplicate ids the height of the block at position `k` is `k` -/
theorem heightOf_getElem_nodup (c : List (Blk ι)) (hnd : (c.map (·.id)).Nodup) (k : Nat) (b : Blk ι)
    (hb : c[k]? = some b) : heightOf c b.id = some k := by
  refine (heightOf_eq_some_iff c b.id k).mpr ⟨⟨b, hb, rfl⟩, fun j x hj hx hid => ?_⟩
  have hjl : j < (c.map (·.id)).length := by
    rw [List.length_map]; exact Nat.lt_trans hj (List.getElem?_eq_some_iff.mp hb).1
  have := (List.getElem?_inj (j := k) hjl hnd).mp (by rw [List.getElem?_map, List.getElem?_map, hx, hb, Option.map_some, hid]; rfl)
  omega

theorem heightOf_split (pre : List (Blk ι)) (b : Blk ι) (post : List (Blk ι))
    (hpre : ∀ x ∈ pre, x.id ≠ b.id) : heightOf (pre ++ b :: post) b.id = some pre.length :=
  (heightOf_eq_some_iff _ b.id pre.length).mpr
    ⟨⟨b, by rw [List.getElem?_append_right (Nat.le_refl _), Nat.sub_self]; rfl, rfl⟩,
      fun _ x hk hx => hpre x (List.mem_of_getElem? (List.getElem?_append_left hk ▸ hx))⟩

theorem heightOf_lt_of_mem (pre post : List (Blk ι)) (x : Blk ι) (hx : x ∈ pre) (k : Nat)
    (hk : heightOf (pre ++ post) x.id = some k) : k < pre.length := by
  obtain ⟨j, hj, rfl⟩ := List.getElem_of_mem hx
  refine Nat.lt_of_not_le fun hle => ?_
  exact ((heightOf_eq_some_iff _ _ k).mp hk).2 j pre[j] (Nat.lt_of_lt_of_le hj hle)
    (by rw [List.getElem?_append_left hj, List.getElem?_eq_getElem hj]) rfl

theorem take_append_drop_take {α : Type} (l : List α) (k : Nat) : l.take k ++ l.drop (l.take k).length = l := by
  rw [List.length_take, List.take_eq_take_min, List.take_append_drop]

/-- the handler on a request that decodes: `GetBlocksBetweenHeight(h + 1, min (h + 103) tip)` is the part of the
chain after position `h`, cut to 103 blocks -/
theorem handleBlocksFromID_some (okLen : ι → Bool) (c : List (Blk ι)) (i : ι) :
    handleBlocksFromID okLen c (some i) =
      if okLen i then
        match heightOf c i with
        | none => .err
        | some h => .blocks ((c.drop (h + 1)).take maxBlocksPerResponse)
      else .ban := by
  unfold handleBlocksFromID
  dsimp only
  cases hh : heightOf c i with
  | none => rfl
  | some h =>
    have hlt := heightOf_lt_length c i h hh
    dsimp only
    rw [Nat.add_sub_add_right, show c.length - 1 = h + (c.drop (h + 1)).length by rw [List.length_drop]; omega,
      Nat.add_min_add_left, Nat.add_sub_cancel_left, ← List.take_eq_take_min]

theorem handleBlocksFromID_split (pre : List (Blk ι)) (b : Blk ι) (post : List (Blk ι))
    (hpre : ∀ x ∈ pre, x.id ≠ b.id) :
    handleBlocksFromID (fun _ => true) (pre ++ b :: post) (some b.id) = .blocks (post.take maxBlocksPerResponse) := by
  rw [handleBlocksFromID_some, heightOf_split pre b post hpre, if_pos rfl]
  dsimp only
  rw [show pre ++ b :: post = (pre ++ [b]) ++ post by simp, List.drop_left' (by simp)]

theorem linked_heights (lid : ι) (lh : Nat) (s : List (Blk ι)) (h : Linked lid lh s) (k : Nat) (b : Blk ι)
    (hb : s[k]? = some b) : b.height = lh + 1 + k := by
  induction s generalizing lid lh k with
  | nil => cases hb
  | cons a r ih =>
    obtain ⟨h1, _, hr⟩ := h
    cases k with
    | zero =>
      simp only [List.getElem?_cons_zero, Option.some.injEq] at hb
      subst hb; omega
    | succ k' =>
      simp only [List.getElem?_cons_succ] at hb
      have := ih a.id a.height hr k' hb
      omega

theorem linked_pairwise_lt (lid : ι) (lh : Nat) (s : List (Blk ι)) (h : Linked lid lh s) :
    s.Pairwise (fun a b => a.height < b.height) :=
  List.pairwise_iff_getElem.mpr fun i j hi hj hij => by
    rw [linked_heights lid lh s h i _ (List.getElem?_eq_getElem hi),
      linked_heights lid lh s h j _ (List.getElem?_eq_getElem hj)]
    omega

theorem sortAsc_linked (lid : ι) (lh : Nat) (bs : List (Blk ι)) (h : Linked lid lh bs) : sortAsc bs = bs :=
  sortAsc_eq_of_perm bs bs (List.Perm.refl _) (linked_pairwise_lt lid lh bs h)

theorem linked_append (lid : ι) (lh : Nat) (s r : List (Blk ι)) :
    Linked lid lh (s ++ r) ↔ Linked lid lh s ∧ Linked (lastOf s lid lh).1 (lastOf s lid lh).2 r := by
  induction s generalizing lid lh with
  | nil => simp [Linked, lastOf]
  | cons a s' ih =>
    simp only [List.cons_append, Linked, lastOf, ih a.id a.height]
    constructor
    · rintro ⟨h1, h2, h3, h4⟩; exact ⟨⟨h1, h2, h3⟩, h4⟩
    · rintro ⟨⟨h1, h2, h3⟩, h4⟩; exact ⟨h1, h2, h3, h4⟩

theorem linked_prefix (lid : ι) (lh : Nat) (a b : List (Blk ι)) (h : Linked lid lh (a ++ b)) :
    Linked lid lh a := ((linked_append lid lh _ _).mp h).1

theorem linked_take (lid : ι) (lh : Nat) (s : List (Blk ι)) (k : Nat) (h : Linked lid lh s) :
    Linked lid lh (s.take k) :=
  linked_prefix lid lh _ (s.drop k) (by rwa [List.take_append_drop])

theorem lastOf_height (lid : ι) (lh : Nat) (s : List (Blk ι)) (h : Linked lid lh s) :
    (lastOf s lid lh).2 = lh + s.length ∧ ∀ x ∈ s, lh < x.height ∧ x.height ≤ lh + s.length := by
  induction s generalizing lid lh with
  | nil => simp [lastOf]
  | cons a s' ih =>
    obtain ⟨ha, _, hr⟩ := h
    obtain ⟨h1, h2⟩ := ih a.id a.height hr
    simp only [lastOf, List.length_cons]
    refine ⟨by omega, ?_⟩
    intro x hx
    rcases List.mem_cons.mp hx with rfl | hx
    · omega
    · have := h2 x hx; omega

theorem lastOf_append_singleton (lid : ι) (lh : Nat) (s : List (Blk ι)) (e : Blk ι) :
    lastOf (s ++ [e]) lid lh = (e.id, e.height) := by
  induction s generalizing lid lh with
  | nil => rfl
  | cons a s' ih => simp only [List.cons_append, lastOf, ih]

/-- a block that continues the segment and does not pass the end height under another id is delivered -/
theorem scanSeg_cons (endId : ι) (endH : Nat) (b : Blk ι) (r : List (Blk ι)) (lid : ι) (lh : Nat)
    (h1 : b.height = lh + 1) (h2 : b.prev = lid) (h3 : b.height < endH ∨ b.id = endId) :
    scanSeg endId endH (b :: r) lid lh =
      if b.id = endId then ([b], .fin)
      else (b :: (scanSeg endId endH r b.id b.height).1, (scanSeg endId endH r b.id b.height).2) := by
  rw [scanSeg, if_neg]
  rintro (h | h | ⟨h4, h5⟩)
  · exact h h1
  · exact h h2
  · exact h3.elim (fun h => absurd h4 (Nat.not_le.mpr h)) h5

/-- scanning passes over a linked stretch `s` below the end block: it is delivered, and the scan goes on behind its last
block -/
theorem scanSeg_append (endId : ι) (endH : Nat) (s t : List (Blk ι)) (lid : ι) (lh : Nat)
    (hl : Linked lid lh s) (hid : ∀ b ∈ s, b.id ≠ endId) (hh : ∀ b ∈ s, b.height < endH) :
    scanSeg endId endH (s ++ t) lid lh =
      (s ++ (scanSeg endId endH t (lastOf s lid lh).1 (lastOf s lid lh).2).1,
        (scanSeg endId endH t (lastOf s lid lh).1 (lastOf s lid lh).2).2) := by
  induction s generalizing lid lh with
  | nil => rfl
  | cons a r ih =>
    obtain ⟨h1, h2, hr⟩ := hl
    rw [List.cons_append, scanSeg_cons _ _ _ _ _ _ h1 h2 (Or.inl (hh a List.mem_cons_self)),
      if_neg (hid a List.mem_cons_self),
      ih a.id a.height hr (fun b hb => hid b (List.mem_cons_of_mem _ hb)) (fun b hb => hh b (List.mem_cons_of_mem _ hb))]
    rfl

/-- a linked response that does not contain the end block: everything is delivered and the download continues after
its last block -/
theorem scanSeg_cont (endId : ι) (endH : Nat) (bs : List (Blk ι)) (lid : ι) (lh : Nat)
    (hl : Linked lid lh bs) (hid : ∀ b ∈ bs, b.id ≠ endId) (hh : ∀ b ∈ bs, b.height < endH) :
    scanSeg endId endH bs lid lh = (bs, .cont (lastOf bs lid lh).1 (lastOf bs lid lh).2) := by
  have := scanSeg_append endId endH bs [] lid lh hl hid hh
  rwa [List.append_nil, scanSeg, List.append_nil] at this

/-- a linked response that contains the end block: the blocks up to the end block are delivered, what follows it in
the response is ignored -/
theorem scanSeg_fin (endId : ι) (endH : Nat) (s : List (Blk ι)) (e : Blk ι) (r : List (Blk ι))
    (lid : ι) (lh : Nat) (hl : Linked lid lh (s ++ [e])) (he : e.id = endId)
    (hid : ∀ b ∈ s, b.id ≠ endId) (hh : ∀ b ∈ s, b.height < endH) :
    scanSeg endId endH (s ++ e :: r) lid lh = (s ++ [e], .fin) := by
  obtain ⟨hls, h1, h2, _⟩ := (linked_append lid lh s [e]).mp hl
  rw [scanSeg_append endId endH s (e :: r) lid lh hls hid hh, scanSeg_cons _ _ _ _ _ _ h1 h2 (Or.inr he), if_pos he]

theorem nodup_split_ne (l1 l2 : List (Blk ι)) (hnd : ((l1 ++ l2).map (·.id)).Nodup) :
    ∀ x ∈ l1, ∀ y ∈ l2, x.id ≠ y.id := by
  rw [List.map_append, List.nodup_append] at hnd
  intro x hx y hy
  exact hnd.2.2 x.id (List.mem_map_of_mem hx) y.id (List.mem_map_of_mem hy)

theorem dlLoop_step (seg : ι → Option (List (Blk ι))) (endId : ι) (endH f : Nat) (lid : ι) (lh : Nat)
    (L : List (Blk ι)) (hseg : seg lid = some L) (hne : L ≠ []) :
    dlLoop seg endId endH (f + 1) lid lh =
      match scanSeg endId endH (sortAsc L) lid lh with
      | (em, .fin) => (em, true)
      | (em, .bad) => (em, false)
      | (em, .cont lid' lh') => (em ++ (dlLoop seg endId endH f lid' lh').1, (dlLoop seg endId endH f lid' lh').2) := by
  cases L with
  | nil => exact absurd rfl hne
  | cons x xs =>
    simp only [dlLoop, hseg]
    generalize scanSeg endId endH (sortAsc (x :: xs)) lid lh = r
    rcases r with ⟨em, sc⟩
    cases sc <;> rfl

theorem honest_segment_split (mhp : Nat) (pre : List (Blk ι)) (b : Blk ι) (post : List (Blk ι))
    (hnd : ((pre ++ b :: post).map (·.id)).Nodup) :
    (honest (pre ++ b :: post) mhp).segment b.id = some (post.take maxBlocksPerResponse) := by
  have hpre : ∀ x ∈ pre, x.id ≠ b.id :=
    fun x hx => nodup_split_ne pre (b :: post) hnd x hx b List.mem_cons_self
  simp only [honest, handleBlocksFromID_split pre b post hpre]

/-- the request loop against an honest responder delivers exactly the responder's blocks after the start block
up to the end block `e`, whatever the responder's chain continues with (`rest`) -/
theorem dlLoop_honest (p : List (Blk ι)) (mhp : Nat) (hnd : (p.map (·.id)).Nodup) (e : Blk ι)
    (rest : List (Blk ι)) (fuel : Nat) (pre : List (Blk ι)) (b : Blk ι) (s : List (Blk ι))
    (hp : p = pre ++ b :: (s ++ e :: rest)) (hl : Linked b.id b.height (s ++ e :: rest))
    (hf : s.length + 1 ≤ fuel) :
    dlLoop (honest p mhp).segment e.id e.height fuel b.id b.height = (s ++ [e], true) := by
  induction fuel generalizing pre b s with
  | zero => omega
  | succ f ih =>
    have hK : 1 ≤ maxBlocksPerResponse := by unfold maxBlocksPerResponse; omega
    have hids : ∀ y ∈ s, y.id ≠ e.id := by
      have : p = (pre ++ [b] ++ s) ++ (e :: rest) := by rw [hp]; simp
      rw [this] at hnd
      intro y hy
      exact nodup_split_ne _ _ hnd y (List.mem_append_right _ hy) e List.mem_cons_self
    have hlse := linked_prefix b.id b.height (s ++ [e]) rest (by rw [List.append_assoc]; exact hl)
    obtain ⟨hls, hle⟩ := (linked_append b.id b.height s [e]).mp hlse
    obtain ⟨hlast, hhs⟩ := lastOf_height b.id b.height s hls
    have heh : e.height = b.height + s.length + 1 := by
      have := hle.1; rw [hlast] at this; exact this
    have hhts : ∀ y ∈ s, y.height < e.height := by
      intro y hy; have := (hhs y hy).2; omega
    have hseg : (honest p mhp).segment b.id = some ((s ++ e :: rest).take maxBlocksPerResponse) := by
      rw [hp]; exact honest_segment_split mhp pre b (s ++ e :: rest) (by rw [← hp]; exact hnd)
    by_cases hcase : s.length + 1 ≤ maxBlocksPerResponse
    · -- the end block is in this response, possibly followed by more blocks of the peer's chain
      have htake : (s ++ e :: rest).take maxBlocksPerResponse
          = s ++ e :: rest.take (maxBlocksPerResponse - (s.length + 1)) := by
        have h1 : s ++ e :: rest = (s ++ [e]) ++ rest := by simp
        rw [h1, List.take_append, List.take_of_length_le (by simp; omega)]
        simp
      have hlt : Linked b.id b.height (s ++ e :: rest.take (maxBlocksPerResponse - (s.length + 1))) := by
        rw [← htake]; exact linked_take b.id b.height _ _ hl
      rw [htake] at hseg
      rw [dlLoop_step _ _ _ _ _ _ _ hseg (by simp)]
      rw [sortAsc_linked b.id b.height _ hlt,
        scanSeg_fin e.id e.height s e _ b.id b.height hlse rfl hids hhts]
    · -- a full response `s1' ++ [x]` below the end block, the download continues after its last block `x`
      obtain ⟨k, hk⟩ : ∃ k, maxBlocksPerResponse = k + 1 := ⟨maxBlocksPerResponse - 1, rfl⟩
      have hks : k < s.length := by omega
      obtain ⟨s1', x, s2, rfl, hlen⟩ : ∃ s1' x s2, s = s1' ++ x :: s2 ∧ s1'.length + 1 = maxBlocksPerResponse :=
        ⟨s.take k, s[k], s.drop (k + 1), by rw [← List.drop_eq_getElem_cons, List.take_append_drop],
          by rw [List.length_take, hk, Nat.min_eq_left (Nat.le_of_lt hks)]⟩
      have hcat : s1' ++ x :: s2 ++ e :: rest = (s1' ++ [x]) ++ (s2 ++ e :: rest) := by simp
      rw [hcat] at hl hseg
      obtain ⟨hl1, hl'⟩ := (linked_append b.id b.height (s1' ++ [x]) _).mp hl
      rw [lastOf_append_singleton] at hl'
      rw [List.take_left' (by rw [List.length_append, List.length_singleton, hlen])] at hseg
      have hmem1 : ∀ y ∈ s1' ++ [x], y ∈ s1' ++ x :: s2 := fun y hy => by
        rw [show s1' ++ x :: s2 = (s1' ++ [x]) ++ s2 by simp]; exact List.mem_append_left _ hy
      rw [dlLoop_step _ _ _ _ _ _ _ hseg (by simp), sortAsc_linked b.id b.height _ hl1,
        scanSeg_cont e.id e.height (s1' ++ [x]) b.id b.height hl1
          (fun y hy => hids y (hmem1 y hy)) (fun y hy => hhts y (hmem1 y hy))]
      simp only [lastOf_append_singleton]
      rw [ih (pre ++ b :: s1') x s2 (by rw [hp]; simp) hl' (by rw [List.length_append, List.length_cons] at hf; omega)]
      simp

end Honest

end LiskVerif.Sync
