/-
Helper lemmas for `Model/Lisk32Text.lean`: the rune-level reading of a text (what Go's `range` / `string(c)` /
`strings.Index` do) and the byte-level alphabet lookup of `Model/Lisk32.lean` agree on every byte string.
-/
import LiskVerif.Model.Lisk32Text
import LiskVerif.Lemmas.Lisk32

namespace LiskVerif.Lisk32Text
open LiskVerif LiskVerif.Lisk32

/-! ### the alphabet is ASCII; lookups of single ASCII characters -/

theorem charset_ascii : ∀ c ∈ charset, c.toNat < 0x80 := by
  rw [charset_eq]; decide

/-- `strings.Index(hay, string(c))` for a one-byte `string(c)`: the position of the first `c` -/
theorem indexFrom_singleton (c : UInt8) (hay : Bytes) (i : Nat) :
    indexFrom [c] hay i =
      if hay.findIdx (· == c) < hay.length then ((i + hay.findIdx (· == c) : Nat) : Int) else -1 := by
  induction hay generalizing i with
  | nil => rfl
  | cons a t ih =>
    rw [indexFrom, List.findIdx_cons, hasPrefix, hasPrefix, Bool.and_true, ih]
    cases a == c
    · simp only [Bool.false_eq_true, if_false, cond_false, List.length_cons, Nat.add_lt_add_iff_right,
        Nat.add_assoc, Nat.add_comm 1]
    · simp

theorem encodeRune_ascii (c : UInt8) (h : c.toNat < 0x80) : encodeRune c.toNat = [c] := by
  rw [encodeRune, if_pos h, UInt8.ofNat_toNat]

/-- on ASCII runes `strings.Index(charset, string(c))` is the byte-level `charIndex` -/
theorem charIdx_ascii (c : UInt8) (h : c.toNat < 0x80) :
    charIdx c.toNat = (match charIndex c with | some k => (k : Int) | none => -1) := by
  rw [charIdx, index, encodeRune_ascii c h, indexFrom_singleton, charIndex, Nat.zero_add]
  split <;> rfl

theorem charIndex_high (c : UInt8) (h : 0x80 ≤ c.toNat) : charIndex c = none := by
  cases hc : charIndex c with
  | none => rfl
  | some i =>
    obtain ⟨hi, e⟩ := charIndex_some c i hc
    have := charset_ascii c (e ▸ charOf_mem i hi)
    omega

theorem charOf_ascii (a : Nat) (ha : a < 32) :
    (charOf a).toNat < 128 ∧ charIdx (charOf a).toNat = (a : Int) := by
  have h := charset_ascii _ (charOf_mem a ha)
  exact ⟨h, by rw [charIdx_ascii _ h, charIndex_charOf a ha]⟩

theorem tableGet_charset (a : Nat) (ha : a < 32) : tableGet charset a = .ok (charOf a) := by
  have hlt : a < charset.length := by rw [charset_length]; exact ha
  rw [tableGet, charOf, List.getD, List.getElem?_eq_getElem hlt]
  rfl

/-! ### non-ASCII runes are never found in the alphabet -/

theorem indexFrom_head_absent (n0 : UInt8) (ns hay : Bytes) (i : Nat) (h : ∀ c ∈ hay, c ≠ n0) :
    indexFrom (n0 :: ns) hay i = -1 := by
  induction hay generalizing i with
  | nil => simp [indexFrom]
  | cons a t ih =>
    have ha : a ≠ n0 := h a (by simp)
    have hp : hasPrefix (a :: t) (n0 :: ns) = false := by
      simp [hasPrefix, ha]
    simp only [indexFrom, hp, Bool.false_eq_true, if_false]
    exact ih (i + 1) (fun c hc => h c (by simp [hc]))

theorem toNat_ofNat_lt (n : Nat) (h : n < 256) : (UInt8.ofNat n).toNat = n :=
  UInt8.toNat_ofNat_of_lt' h

theorem encodeRune_head_high (r : Nat) (h : 0x80 ≤ r) :
    ∃ c cs, encodeRune r = c :: cs ∧ 0x80 ≤ c.toNat := by
  unfold encodeRune
  rw [if_neg (by omega)]
  split
  · refine ⟨_, _, rfl, ?_⟩
    rw [toNat_ofNat_lt _ (by omega)]; omega
  · split
    · exact ⟨_, _, rfl, by decide⟩
    · split
      · refine ⟨_, _, rfl, ?_⟩
        rw [toNat_ofNat_lt _ (by omega)]; omega
      · refine ⟨_, _, rfl, ?_⟩
        rename_i h1 h2 h3
        have : r ≤ 0x10FFFF := by omega
        rw [toNat_ofNat_lt _ (by omega)]; omega

theorem charIdx_of_ge (r : Nat) (h : 0x80 ≤ r) : charIdx r = -1 := by
  obtain ⟨c, cs, he, hc⟩ := encodeRune_head_high r h
  unfold charIdx index
  rw [he]
  apply indexFrom_head_absent
  intro x hx hxc
  have := charset_ascii x hx
  rw [hxc] at this
  omega

/-- **the guard**: whatever rune is looked up, the result is -1 or a position inside the 32-entry alphabet
(a valid 5-bit value), and only ASCII runes are ever found -/
theorem charIdx_guard (r : Nat) : charIdx r = -1 ∨ (0 ≤ charIdx r ∧ charIdx r < 32 ∧ r < 0x80) := by
  rcases Nat.lt_or_ge r 0x80 with h | h
  · have hr : (UInt8.ofNat r).toNat = r := toNat_ofNat_lt r (by omega)
    have hi := charIdx_ascii (UInt8.ofNat r) (by omega)
    rw [hr] at hi
    rw [hi]
    cases hc : charIndex (UInt8.ofNat r) with
    | none => exact Or.inl rfl
    | some k =>
      have := (charIndex_some _ _ hc).1
      exact Or.inr ⟨Int.natCast_nonneg k, by show (k : Int) < 32; omega, h⟩
  · exact Or.inl (charIdx_of_ge r h)

/-! ### decoding the first rune -/

theorem decodeRune_ascii (c : UInt8) (rest : Bytes) (h : c.toNat < 0x80) :
    decodeRune (c :: rest) = (c.toNat, 1) := by
  simp [decodeRune, h]

theorem runeError_ge : 0x80 ≤ runeError := by decide

/-- a decoding branch `if ok then (v, k) else (RuneError, 1)` yields at least 0x80 if `v` does -/
theorem fst_ite_ge {ok : Prop} [Decidable ok] (v k : Nat) (h : ok → 0x80 ≤ v) :
    0x80 ≤ (if ok then (v, k) else (runeError, 1)).1 := by
  split
  · exact h ‹ok›
  · exact runeError_ge

/-- the term `(b - base) * m` of a decoded rune is at least `k * m` when `b` is `k` above `base` -/
theorem le_lead_term {n b base k m r : Nat} (h : base + k ≤ b) (hm : n ≤ k * m) : n ≤ (b - base) * m + r :=
  Nat.le_trans hm (Nat.le_trans (Nat.mul_le_mul_right m (Nat.le_sub_of_add_le' h)) (Nat.le_add_right _ _))

theorem decodeRune_high (c : UInt8) (rest : Bytes) (h : 0x80 ≤ c.toNat) :
    0x80 ≤ (decodeRune (c :: rest)).1 := by
  unfold decodeRune
  simp only
  rw [if_neg (by omega)]
  -- the branches are taken one at a time with `by_cases`: `split` on the whole body is slow to check
  by_cases h1 : c.toNat < 0xC2
  · rw [if_pos h1]; exact runeError_ge
  rw [if_neg h1]
  by_cases h2 : c.toNat < 0xE0
  · rw [if_pos h2]
    rcases rest with _ | ⟨c1, _⟩
    · exact runeError_ge
    · exact fst_ite_ge _ _ (fun _ => le_lead_term (k := 2) (by omega) (by decide))
  rw [if_neg h2]
  by_cases h3 : c.toNat < 0xF0
  · rw [if_pos h3]
    rcases rest with _ | ⟨c1, _ | ⟨c2, _⟩⟩
    · exact runeError_ge
    · exact runeError_ge
    · apply fst_ite_ge
      simp only [Bool.and_eq_true, decide_eq_true_eq]
      intro ⟨⟨hlo, _⟩, _⟩
      apply Nat.le_add_right_of_le
      by_cases he : c.toNat = 0xE0
      · rw [if_pos he] at hlo; exact Nat.le_add_left_of_le (le_lead_term (k := 0x20) hlo (by decide))
      · exact le_lead_term (k := 1) (by omega) (by decide)
  rw [if_neg h3]
  by_cases h4 : c.toNat < 0xF5
  · rw [if_pos h4]
    rcases rest with _ | ⟨c1, _ | ⟨c2, _ | ⟨c3, _⟩⟩⟩
    · exact runeError_ge
    · exact runeError_ge
    · exact runeError_ge
    · apply fst_ite_ge
      simp only [Bool.and_eq_true, decide_eq_true_eq]
      intro ⟨⟨⟨hlo, _⟩, _⟩, _⟩
      apply Nat.le_add_right_of_le
      apply Nat.le_add_right_of_le
      by_cases he : c.toNat = 0xF0
      · rw [if_pos he] at hlo; exact Nat.le_add_left_of_le (le_lead_term (k := 0x10) hlo (by decide))
      · exact le_lead_term (k := 1) (by omega) (by decide)
  · rw [if_neg h4]; exact runeError_ge

theorem runesFuel_nil (fuel : Nat) : runesFuel fuel [] = [] := by
  cases fuel <;> rfl

theorem runesFuel_ascii (fuel : Nat) (c : UInt8) (rest : Bytes) (h : c.toNat < 0x80) :
    runesFuel (fuel + 1) (c :: rest) = c.toNat :: runesFuel fuel rest := by
  simp [runesFuel, decodeRune_ascii c rest h]

/-- the `ValidateLisk32` loop over the runes of `w` computes the byte-level `mapM charIndex` -/
theorem lookupAll_runes (fuel : Nat) (w : Bytes) (hf : w.length ≤ fuel) :
    lookupAll (runesFuel fuel w) = (w.mapM charIndex).map (·.map Int.ofNat) := by
  induction fuel generalizing w with
  | zero =>
    have : w = [] := List.length_eq_zero_iff.mp (by omega)
    subst this; rfl
  | succ fuel ih =>
    cases w with
    | nil => rfl
    | cons c rest =>
      have hrest : rest.length ≤ fuel := by simpa using hf
      rw [mapM_cons_option]
      rcases Nat.lt_or_ge c.toNat 0x80 with h | h
      · rw [runesFuel_ascii fuel c rest h]
        simp only [lookupAll]
        rw [charIdx_ascii c h, ih rest hrest]
        cases hc : charIndex c with
        | none => simp
        | some k =>
          have : ¬ ((k : Int) < 0) := by omega
          simp only [this, if_false, Option.bind_some]
          cases rest.mapM charIndex <;> simp
      · rw [charIndex_high c h]
        simp [runesFuel, lookupAll, charIdx_of_ge _ (decodeRune_high c rest h)]

/-- on a text made of alphabet characters the unchecked loop of `Lisk32ToBytes` reads the same values -/
theorem map_charIdx_runes (fuel : Nat) (u : List Nat) (hu : ∀ v ∈ u, v < 32) (hf : u.length ≤ fuel) :
    (runesFuel fuel (u.map charOf)).map charIdx = u.map Int.ofNat := by
  induction fuel generalizing u with
  | zero =>
    have : u = [] := List.length_eq_zero_iff.mp (by omega)
    subst this; rfl
  | succ fuel ih =>
    cases u with
    | nil => rfl
    | cons a rest =>
      obtain ⟨h1, h2⟩ := charOf_ascii a (hu a (by simp))
      rw [List.map_cons, runesFuel_ascii fuel _ _ h1, List.map_cons, h2,
        ih rest (fun v hv => hu v (by simp [hv])) (by simpa using hf)]
      rfl

theorem map_toNat_ofNat_int (u : List Nat) : (u.map Int.ofNat).map Int.toNat = u := by
  induction u with
  | nil => rfl
  | cons a r ih => simp [ih]

theorem any_neg_ofNat (u : List Nat) : (u.map Int.ofNat).any (· < 0) = false := by
  induction u with
  | nil => rfl
  | cons a r ih =>
    simp only [List.map_cons, List.any_cons, ih, Bool.or_false]
    have : ¬ ((a : Int) < 0) := by omega
    simp

theorem convertInts_ofNat (u : List Nat) (f t : Nat) :
    convertInts (u.map Int.ofNat) f t = convertUIntArray u f t := by
  unfold convertInts
  rw [any_neg_ofNat, map_toNat_ofNat_int]
  simp

theorem lookupTable_ok (l : List Nat) (h : ∀ v ∈ l, v < 32) : lookupTable l = .ok (l.map charOf) := by
  induction l with
  | nil => rfl
  | cons a r ih =>
    simp only [lookupTable, tableGet_charset a (h a (by simp)), ih (fun v hv => h v (by simp [hv])),
      List.map_cons]

end LiskVerif.Lisk32Text
