/-
The inlining analysis `an` with a constant fuel per function body, and fuel monotonicity of `an`.

`an` spends one unit of fuel per action and per nesting level, so it analyses the body of a callee with a fuel that
depends on where the call stands. `anU tbl F l` gives every body the fuel `F` and bounds the depth of calls by `l`.
With a constant fuel, and the caller's held set rebuilt from constructors (`withHeld`), the analysis of a callee is
the same closed term at every call site, and the kernel, which remembers within one declaration what a term it has
met evaluates to, analyses each (callee, held set, depth) once.

`anFirst` is monotone in the function that analyses nested lists and callees (`anFirstM_le`). This gives at once
that `an` keeps a result when it gets more fuel (`an_mono`) and that a result of `anU` is the result of `an`
(`anU_sound`); `analyse_eq_analyseV` then rewrites `analyse` in any criterion before it is evaluated.
-/
import LiskVerif.Lemmas.LocksSound

namespace LiskVerif.Locks

/-- `k h`. The kernel passes arguments unevaluated and recognises a term it has evaluated by its syntax: the held
set of a caller reaches a call as an expression that differs from site to site, even where its value is `[]`.
Here `k` receives the value itself, built from constructors. -/
def withHeld {α} : Held → (Held → α) → α
  | [], k => k []
  | (m, .R) :: t, k => withHeld t fun t' => k ((m, .R) :: t')
  | (m, .W) :: t, k => withHeld t fun t' => k ((m, .W) :: t')

theorem withHeld_eq {α} (h : Held) (k : Held → α) : withHeld h k = k h := by
  induction h generalizing k with
  | nil => rfl
  | cons e t ih => obtain ⟨m, _ | _⟩ := e <;> exact ih _

/-- `anFirst` with the analysis of callees handed in: `callee h body` analyses `body` entered holding `h` -/
def anFirstM (tbl : Table) (callee : Held → Skel → Option Res)
    (rec : List ASt → List Act → Option Res) (sts : List ASt) (a : Act) : Option Res :=
  match a with
  | .call f =>
    match tbl.find f with
    | none => some (stepAll sts (.bad ("call " ++ f)))
    | some body => foldCall (fun st => withHeld st.1 fun h => callee h body) sts
  | a => anFirst [] rec sts a   -- `anFirst` consults the table at a call only: any table will do here

def anM (tbl : Table) (callee : Held → Skel → Option Res) : Nat → List ASt → List Act → Option Res
  | 0, _, _ => none
  | _ + 1, sts, [] => some ⟨[], sts, []⟩
  | n + 1, sts, a :: k =>
    if sts.isEmpty then some ⟨[], [], []⟩ else
    match anFirstM tbl callee (anM tbl callee n) sts a with
    | none => none
    | some r1 =>
      match anM tbl callee n r1.fall k with
      | none => none
      | some r2 => some ⟨r1.obs ++ r2.obs, r2.fall, unionD r1.rets r2.rets⟩

/-- the analysis of a body entered holding `h`, with fuel `F` for every function body and calls at most `l` deep -/
def anU (tbl : Table) (F : Nat) : Nat → Held → Skel → Option Res
  | 0 => fun _ _ => none
  | l + 1 => fun h body => anM tbl (anU tbl F l) F [(h, [])] body

/-- `analyse` through `anU` -/
def analyseU (tbl : Table) (F L : Nat) (s : Skel) : Option (List Obs × List Held) :=
  match anU tbl F L [] s with
  | none => none
  | some r => let ex := exits (unionD r.fall r.rets); some (r.obs ++ ex.1, ex.2)

/-- `analyse`, through `anU` where that succeeds -/
def analyseV (tbl : Table) (F L : Nat) (s : Skel) : Option (List Obs × List Held) :=
  match analyseU tbl F L s with
  | some o => some o
  | none => analyse tbl fuelDefault s

/-! ### `anFirst` is monotone in its recursor -/

/-- one action: where `rec'` extends both `callee` and `rec`, it gives the same result -/
theorem anFirstM_le (tbl : Table) {callee : Held → Skel → Option Res} {rec rec' : List ASt → List Act → Option Res}
    (hc : ∀ h b r, callee h b = some r → rec' [(h, [])] b = some r)
    (hr : ∀ sts k r, rec sts k = some r → rec' sts k = some r)
    {sts : List ASt} {a : Act} {r : Res} (h : anFirstM tbl callee rec sts a = some r) :
    anFirst tbl rec' sts a = some r := by
  cases a with
  | call f =>
    simp only [anFirstM, anFirst] at h ⊢
    cases hf : tbl.find f with
    | none => simpa only [hf] using h
    | some body =>
      simp only [hf, foldCall_eq] at h ⊢
      exact foldl_some_mono (fun st r hst => hc _ _ _ (by rwa [withHeld_eq] at hst)) h
  | go b =>
    obtain ⟨rb, hb, rfl⟩ := (anFirst_go (tbl := [])).mp h
    exact anFirst_go.mpr ⟨rb, hr _ _ _ hb, rfl⟩
  | choice alts =>
    simp only [anFirstM, anFirst, foldChoice_eq] at h ⊢
    exact foldl_some_mono (fun alt r => hr _ _ _) h
  | loop b =>
    obtain ⟨rb, hb, hs, rfl⟩ := (anFirst_loop (tbl := [])).mp h
    exact anFirst_loop.mpr ⟨rb, hr _ _ _ hb, hs, rfl⟩
  | _ => exact h

theorem anFirst_eq_anFirstM (tbl : Table) (rec : List ASt → List Act → Option Res) (sts : List ASt) (a : Act) :
    anFirst tbl rec sts a = anFirstM tbl (fun h b => rec [(h, [])] b) rec sts a := by
  cases a <;> first | rfl | (simp only [anFirstM, anFirst, withHeld_eq]; rfl)

/-- what succeeds keeps its result with more fuel -/
theorem an_mono (tbl : Table) : ∀ (n m : Nat), n ≤ m → ∀ (sts : List ASt) (k : List Act) (r : Res),
    an tbl n sts k = some r → an tbl m sts k = some r := by
  suffices ∀ n sts k r, an tbl n sts k = some r → ∀ d, an tbl (n + d) sts k = some r from
    fun n m hm sts k r h => Nat.add_sub_cancel' hm ▸ this n sts k r h (m - n)
  refine an_induct (fun n sts d => ?_) (fun n a k d => ?_) ?_
  · rw [Nat.succ_add]; rfl
  · rw [Nat.succ_add]; rfl
  · intro n st sts a k r1 r2 ih h1 h2 d
    have ih' := fun sts k r h => ih sts k r h d
    rw [anFirst_eq_anFirstM] at h1
    rw [Nat.succ_add, an]
    simp only [List.isEmpty_cons, Bool.false_eq_true, if_false, anFirstM_le tbl (fun h b r => ih' _ _ r) ih' h1,
      ih' _ _ _ h2]

/-! ### `anU` computes what `an` computes -/

theorem anM_le (tbl : Table) {callee : Held → Skel → Option Res} {N : Nat}
    (hc : ∀ n, N ≤ n → ∀ h b r, callee h b = some r → an tbl n [(h, [])] b = some r) :
    ∀ (n : Nat) (sts : List ASt) (k : List Act) (r : Res), anM tbl callee n sts k = some r →
      an tbl (n + N) sts k = some r := by
  intro n
  induction n with
  | zero => intro sts k r h; cases h
  | succ n ih =>
    intro sts k r h
    rw [Nat.succ_add]
    cases k with
    | nil => exact h
    | cons a k =>
      simp only [anM, an] at h ⊢
      split at h
      · rename_i he; rw [if_pos he]; exact h
      · rename_i he
        rw [if_neg he]
        cases h1 : anFirstM tbl callee (anM tbl callee n) sts a with
        | none => simp only [h1] at h; cases h
        | some r1 =>
          simp only [h1, anFirstM_le tbl (hc (n + N) (Nat.le_add_left _ _)) ih h1] at h ⊢
          cases h2 : anM tbl callee n r1.fall k with
          | none => simp only [h2] at h; cases h
          | some r2 => simp only [h2, ih _ _ _ h2] at h ⊢; exact h

theorem anU_sound (tbl : Table) (F : Nat) : ∀ (l : Nat) (h : Held) (b : Skel) (r : Res),
    anU tbl F l h b = some r → an tbl (l * F) [(h, [])] b = some r := by
  intro l
  induction l with
  | zero => intro h b r hr; cases hr
  | succ l ih =>
    intro h b r hr
    rw [Nat.succ_mul, Nat.add_comm]
    exact anM_le tbl (fun n hn h b r hc => an_mono tbl _ n hn _ _ _ (ih h b r hc)) F _ _ _ hr

theorem analyse_eq_of_analyseU {tbl : Table} {F L : Nat} (hF : L * F ≤ fuelDefault) {s : Skel}
    {o : List Obs × List Held} (h : analyseU tbl F L s = some o) : analyse tbl fuelDefault s = some o := by
  unfold analyseU at h
  unfold analyse
  cases hr : anU tbl F L [] s with
  | none => simp only [hr] at h; cases h
  | some r =>
    rw [an_mono tbl _ _ hF _ _ _ (anU_sound tbl F L [] s r hr)]
    simpa only [hr] using h

/-- `analyse` may be replaced by `analyseV` in whatever is computed from it: unfold the criterion, rewrite, evaluate -/
theorem analyse_eq_analyseV {F L : Nat} (hF : L * F ≤ fuelDefault) (tbl : Table) (s : Skel) :
    analyse tbl fuelDefault s = analyseV tbl F L s := by
  unfold analyseV
  cases ho : analyseU tbl F L s with
  | none => rfl
  | some o => exact analyse_eq_of_analyseU hF ho

end LiskVerif.Locks
