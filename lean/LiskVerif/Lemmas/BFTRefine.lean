/-
The windowed transcription `Model/BFT.lean` of the Go code evaluated on a window that is given as a
function of the chain (`mkInfos`: the block infos of the last blocks with weights per height): the two vote
loops, `firstWith` and `updatePrevotesPrecommits` (`updateVotes_mkInfos`) in terms
of the chain, and the invariant `Inv` saying that the state IS the view of the unbounded specification
`Model/BFTSpec.lean` (static parameters, all validators active from genesis), established by
`SetBFTParameters` on the genesis state (`setParams_init_inv`). That it is preserved while the chain fits
into the window, and what holds beyond, is in `Lemmas/BFTDyn.lean`. Chains are newest first.
-/
import LiskVerif.Lemmas.BFTSafety
import LiskVerif.Lemmas.BFT
import LiskVerif.Lemmas.Sort

namespace LiskVerif.BFTSpec
open LiskVerif LiskVerif.BFT

/-! ### the parameter store with a single entry -/

theorem lookupLE_single {α : Type} (k : Nat) (a : α) (h : Nat) :
    lookupLE [(k, a)] h = if k ≤ h then some (k, a) else none := by
  unfold lookupLE
  simp only [List.foldl_cons, List.foldl_nil]

theorem getParams_single (s : State) (k : Nat) (P : Params) (hs : s.params = [(k, P)]) {h : Nat}
    (hk : k ≤ h) : getParams s h = some P := by
  unfold getParams
  rw [hs, lookupLE_single, if_pos hk]
  rfl

theorem prune_single {α : Type} (k : Nat) (a : α) (h : Nat) : prune [(k, a)] h = [(k, a)] := by
  unfold prune
  rw [lookupLE_single]
  by_cases hk : k ≤ h
  · simp [hk]
  · simp [hk]

/-! ### the window as a function of the chain -/

/-- the block info of the header `x` with weights given per height -/
def mkInfo (pv pc : Nat → Nat) (x : Header) : BlockInfo :=
  ⟨x.height, x.gen, x.mhg, x.mhp, pv x.height, pc x.height⟩

/-- block infos of the chain `l` (newest first) with weights given per height -/
def mkInfos (pv pc : Nat → Nat) (l : List Header) : List BlockInfo := l.map (mkInfo pv pc)

theorem mkInfos_cons (pv pc : Nat → Nat) (x : Header) (l : List Header) :
    mkInfos pv pc (x :: l) = ⟨x.height, x.gen, x.mhg, x.mhp, pv x.height, pc x.height⟩ :: mkInfos pv pc l := rfl

theorem mkInfos_congr {pv pc pv' pc' : Nat → Nat} {l : List Header}
    (h : ∀ x ∈ l, pv x.height = pv' x.height ∧ pc x.height = pc' x.height) :
    mkInfos pv pc l = mkInfos pv' pc' l := by
  unfold mkInfos
  apply List.map_congr_left
  intro x hx
  unfold mkInfo
  rw [(h x hx).1, (h x hx).2]

theorem mkInfos_length (pv pc : Nat → Nat) (l : List Header) : (mkInfos pv pc l).length = l.length := by
  simp [mkInfos]

theorem Consec.of_append {g : Nat} {a b : List Header} (h : Consec g (a ++ b)) : Consec g b := by
  induction a with
  | nil => exact h
  | cons x a ih => exact ih h.2

theorem Consec.suffix {g : Nat} {r s : List Header} (hc : Consec g r) (hs : s <:+ r) : Consec g s := by
  obtain ⟨t, rfl⟩ := hs
  exact hc.of_append

/-- below the lower bound of a vote loop: once an entry is below `minH`, so are all older ones -/
theorem Consec.below {g minH : Nat} {x : Header} {l : List Header} (hd : Consec g (x :: l)) (hlt : x.height < minH) :
    ∀ b ∈ x :: l, ¬ (minH ≤ b.height) := by
  intro b hb
  have := (hd.mem_height hb).2
  have := hd.1
  simp only [List.length_cons] at *
  omega

/-! ### the two vote loops -/

/-- the precommit loop on a window with consecutive heights, one parameter entry `P` and the generator's weight `v`:
every height `≥ minH` with prevote quorum gains `v.weight`; the reported height is the highest such, unless `done` -/
theorem precommitLoop_spec (s : State) (P : Params) (g : Nat) (gen : Bytes) (v : Validator) (minH : Nat)
    (hgp : ∀ h, g < h → getParams s h = some P) (hv : findValidator P.validators gen = some v)
    (pv pc : Nat → Nat) {g' : Nat} (hg : g ≤ g') :
    ∀ (l : List Header) (done : Bool), Consec g' l →
      precommitLoop s gen minH (mkInfos pv pc l) done =
        .ok (mkInfos pv (fun h => pc h + if minH ≤ h ∧ P.prevoteThreshold ≤ pv h then v.weight else 0) l,
             if done then none
             else (l.find? fun b => decide (minH ≤ b.height ∧ P.prevoteThreshold ≤ pv b.height)).map (·.height)) := by
  intro l
  induction l with
  | nil => intro done _; cases done <;> simp [mkInfos, precommitLoop]
  | cons x l ih =>
    intro done hd
    have hx : g < x.height := by have := hd.1; omega
    rw [mkInfos_cons]
    unfold precommitLoop
    simp only
    by_cases hlt : x.height < minH
    · rw [if_pos hlt]
      have hall := hd.below hlt
      have e1 : mkInfos pv (fun h => pc h + if minH ≤ h ∧ P.prevoteThreshold ≤ pv h then v.weight else 0) (x :: l)
          = mkInfos pv pc (x :: l) := by
        apply mkInfos_congr
        intro b hb
        simp [hall b hb]
      have e2 : ((x :: l).find? fun b => decide (minH ≤ b.height ∧ P.prevoteThreshold ≤ pv b.height)) = none := by
        rw [List.find?_eq_none]
        intro b hb
        simp [hall b hb]
      rw [e1, e2, mkInfos_cons]
      cases done <;> rfl
    · rw [if_neg hlt, hgp x.height hx]
      simp only
      by_cases hq : P.prevoteThreshold ≤ pv x.height
      · rw [if_pos (by exact hq), hv]
        simp only
        rw [ih true hd.2]
        simp only [mkInfos_cons]
        have hc : minH ≤ x.height ∧ P.prevoteThreshold ≤ pv x.height := ⟨by omega, hq⟩
        simp only [if_pos hc, List.find?_cons, decide_eq_true hc]
        cases done <;> simp
      · rw [if_neg (by exact hq)]
        rw [ih done hd.2]
        simp only [mkInfos_cons]
        have hc : ¬ (minH ≤ x.height ∧ P.prevoteThreshold ≤ pv x.height) := fun h => hq h.2
        simp only [if_neg hc, List.find?_cons, decide_eq_false hc, Nat.add_zero]

/-- the prevote loop on such a window: every height `≥ minH` gains `v.weight` -/
theorem prevoteLoop_spec (s : State) (P : Params) (g : Nat) (gen : Bytes) (v : Validator) (minH : Nat)
    (hgp : ∀ h, g < h → getParams s h = some P) (hv : findValidator P.validators gen = some v)
    (pv pc : Nat → Nat) {g' : Nat} (hg : g ≤ g') :
    ∀ (l : List Header), Consec g' l →
      prevoteLoop s gen minH (mkInfos pv pc l) =
        .ok (mkInfos (fun h => pv h + if minH ≤ h then v.weight else 0) pc l) := by
  intro l
  induction l with
  | nil => intro _; simp [mkInfos, prevoteLoop]
  | cons x l ih =>
    intro hd
    have hx : g < x.height := by have := hd.1; omega
    rw [mkInfos_cons]
    unfold prevoteLoop
    simp only
    by_cases hlt : x.height < minH
    · rw [if_pos hlt]
      have hall := hd.below hlt
      have e1 : mkInfos (fun h => pv h + if minH ≤ h then v.weight else 0) pc (x :: l)
          = mkInfos pv pc (x :: l) := by
        apply mkInfos_congr
        intro b hb
        simp [hall b hb]
      rw [e1, mkInfos_cons]
    · rw [if_neg hlt, hgp x.height hx]
      simp only
      rw [hv]
      simp only
      rw [ih hd.2]
      simp only [mkInfos_cons]
      rw [if_pos (by omega)]

/-- `firstWith` finds the highest block whose weight reaches the threshold -/
theorem firstWith_mkInfos (s : State) (P : Params) (g : Nat)
    (hgp : ∀ h, g < h → getParams s h = some P) (w : BlockInfo → Nat) (thr : Params → Nat)
    (pv pc : Nat → Nat) (f : Nat → Nat)
    (hw : ∀ x : Header, w ⟨x.height, x.gen, x.mhg, x.mhp, pv x.height, pc x.height⟩ = f x.height)
    {g' : Nat} (hg : g ≤ g') :
    ∀ (l : List Header), Consec g' l →
      firstWith s w thr (mkInfos pv pc l) =
        .ok ((l.find? fun b => decide (thr P ≤ f b.height)).map (·.height)) := by
  intro l
  induction l with
  | nil => intro _; simp [mkInfos, firstWith]
  | cons x l ih =>
    intro hd
    have hx : g < x.height := by have := hd.1; omega
    rw [mkInfos_cons]
    unfold firstWith
    simp only
    rw [hgp x.height hx]
    simp only
    rw [hw x]
    by_cases hq : thr P ≤ f x.height
    · rw [if_pos (by exact hq)]
      simp [hq]
    · rw [if_neg (by exact hq), ih hd.2]
      simp [hq]

/-! ### block lookup on chains with consecutive heights -/

/-- on a chain with consecutive heights, the first block satisfying a predicate on heights is the
one found by `maxWith` -/
theorem find_maxWith {g : Nat} (f : Nat → Bool) {l : List Header} (h : Consec g l) :
    (l.find? fun b => f b.height).map (·.height) =
      if maxWith f g l.length = g then none else some (maxWith f g l.length) := by
  induction l with
  | nil => simp [maxWith]
  | cons x p ih =>
    have hx := h.1
    simp only [List.find?_cons, List.length_cons]
    unfold maxWith
    rw [hx]
    by_cases hf : f (g + p.length + 1) = true
    · simp [hf]; exact ⟨by omega, hx⟩
    · simp only [hf]
      rw [← hx]
      simp only [Bool.false_eq_true, ↓reduceIte]
      exact ih h.2

/-- block lookup by height = indexing from the tip -/
theorem Consec.index {g : Nat} {l : List Header} (h : Consec g l) {k : Nat} (h1 : g < k)
    (h2 : k ≤ g + l.length) :
    ∃ b, l[g + l.length - k]? = some b ∧ blockAt l k = some b ∧ b.height = k := by
  induction l with
  | nil => simp at h2; omega
  | cons x p ih =>
    by_cases hk : k = g + p.length + 1
    · refine ⟨x, ?_, ?_, by rw [h.1, hk]⟩
      · have : g + (x :: p).length - k = 0 := by simp; omega
        rw [this]; rfl
      · unfold blockAt
        simp [h.1, hk]
    · have hk2 : k ≤ g + p.length := by simp at h2; omega
      obtain ⟨b, hb1, hb2, hb3⟩ := ih h.2 hk2
      refine ⟨b, ?_, ?_, hb3⟩
      · have : g + (x :: p).length - k = (g + p.length - k) + 1 := by simp; omega
        rw [this, List.getElem?_cons_succ]; exact hb1
      · unfold blockAt at hb2 ⊢
        have : ¬ (x.height = k) := by rw [h.1]; omega
        simp [this]
        simpa using hb2

theorem Consec.blockAt_none {g : Nat} {l : List Header} (h : Consec g l) {k : Nat}
    (hk : k ≤ g ∨ g + l.length < k) : blockAt l k = none := by
  unfold blockAt
  rw [List.find?_eq_none]
  intro b hb
  have := h.mem_height hb
  simp
  omega

theorem Consec.getLast {g : Nat} {l : List Header} (h : Consec g l) (hne : l ≠ []) :
    ∃ o, l.getLast? = some o ∧ o.height = g + 1 := by
  induction l with
  | nil => exact absurd rfl hne
  | cons x p ih =>
    cases p with
    | nil => exact ⟨x, rfl, by have := h.1; simpa using this⟩
    | cons y q =>
      obtain ⟨o, ho, hh⟩ := ih h.2 (by simp)
      exact ⟨o, by rw [List.getLast?_cons_cons]; exact ho, hh⟩

/-- the oldest entry of a window with consecutive heights above `g` has height `g + 1` -/
theorem Consec.getLast_mkInfos {g : Nat} {l : List Header} (h : Consec g l) (hne : l ≠ []) (pv pc : Nat → Nat) :
    ∃ o, (mkInfos pv pc l).getLast? = some (mkInfo pv pc o) ∧ o.height = g + 1 := by
  obtain ⟨o, ho, hoh⟩ := h.getLast hne
  exact ⟨o, by unfold mkInfos; rw [List.getLast?_map, ho]; rfl, hoh⟩

/-! ### heightNotPrevoted -/

theorem hnpLoop_le (p : List Header) (gen : Bytes) : ∀ (fuel prev : Nat), hnpLoop p gen fuel prev ≤ prev := by
  intro fuel
  induction fuel with
  | zero => intro prev; simp [hnpLoop]
  | succ f ih =>
    intro prev
    unfold hnpLoop
    split
    · exact Nat.le_refl _
    · split
      · exact Nat.le_refl _
      · rename_i hc
        have := ih (by assumption : Header).mhg
        omega

/-! ### small facts about the specification -/

theorem pvW_zero_above (cfg : Cfg) {p : List Header} (hc : Consec cfg.genesis p) {h : Nat}
    (hh : cfg.genesis + p.length < h) : pvW cfg p h = 0 :=
  Nat.eq_zero_of_not_pos fun hp => absurd (pvW_pos_range cfg hc hp).2 (Nat.not_le.mpr hh)

/-- a prevote quorum in the view of a chain with consecutive heights is at a height of the chain -/
theorem quorum_range (cfg : Cfg) {p : List Header} (hc : Consec cfg.genesis p) {h : Nat}
    (hq : prevoteThreshold cfg ≤ pvW cfg p h) : cfg.genesis < h ∧ h ≤ cfg.genesis + p.length :=
  pvW_pos_range cfg hc (Nat.lt_of_lt_of_le (prevoteThreshold_pos cfg) hq)

/-- a precommit presupposes a prevote quorum in the parent view, so it is for a height of the chain too -/
theorem pcW_zero_above (cfg : Cfg) {p : List Header} (hc : Consec cfg.genesis p) {h : Nat}
    (hh : cfg.genesis + p.length < h) : pcW cfg p h = 0 := by
  refine Nat.eq_zero_of_not_pos fun hp => ?_
  rw [pcW_eq] at hp
  obtain ⟨x, q, hs, hx⟩ := voteW_pos _ _ hp
  have hq := (List.suffix_cons x q).trans hs
  have := (quorum_range cfg (hc.suffix hq) ((precommits_iff cfg q x h).mp hx).2.2.2.2).2
  have := hq.length_le
  omega

theorem lhp_le (cfg : Cfg) (r : List Header) (v : Bytes) : lhp cfg r v ≤ cfg.genesis + r.length := by
  induction r with
  | nil => exact Nat.le_refl _
  | cons x p ih =>
    rw [lhp_cons]
    split
    · have := maxWith_bounds (fun h => decide (minPc cfg (hnp p x) (lhp cfg p v) ≤ h) &&
          decide (prevoteThreshold cfg ≤ pvW cfg p h)) cfg.genesis (p.length + 1)
      simp only [List.length_cons]
      omega
    · simp only [List.length_cons]; omega

theorem findActive_map (addrs : List Bytes) (m : Nat) (f : Bytes → Nat) (gen : Bytes) :
    findActive (addrs.map fun a => ⟨a, m, f a⟩) gen =
      if gen ∈ addrs then some ⟨gen, m, f gen⟩ else none := by
  induction addrs with
  | nil => simp [findActive]
  | cons a as ih =>
    unfold findActive at ih ⊢
    simp only [List.map_cons, List.find?_cons]
    by_cases h : a = gen
    · subst h; simp
    · have : ¬ (gen = a) := fun e => h e.symm
      simp only [h, decide_false, List.mem_cons, this, false_or]
      exact ih

/-- what the static configuration and the parameter entry of the window model have in common -/
structure Static (cfg : Cfg) (P : Params) (addrs : List Bytes) : Prop where
  vals : P.validators = cfg.validators
  pv : P.prevoteThreshold = prevoteThreshold cfg
  pc : P.precommitThreshold = cfg.precommitThreshold
  act : ∀ a, a ∈ addrs ↔ (findValidator cfg.validators a).isSome = true

/-! ### `updatePrevotesPrecommits` -/

theorem prevotes_eq (cfg : Cfg) {x : Header} {h : Nat} (hlt : x.mhg < x.height) (hh : h ≤ x.height) :
    prevotes cfg x h = decide (max (x.mhg + 1) (cfg.genesis + 1) ≤ h) := by
  simp [prevotes, hlt, hh]

theorem precommits_eq (cfg : Cfg) (p : List Header) {x : Header} (h : Nat) (hlt : x.mhg < x.height) :
    precommits cfg p x h = (decide (minPc cfg (hnp p x) (lhp cfg p x.gen) ≤ h) &&
      decide (prevoteThreshold cfg ≤ pvW cfg p h)) := by
  simp [precommits, hlt]

/-- a header that implies no votes, or whose generator has no weight, changes no weight -/
theorem weights_cons_novote (cfg : Cfg) (x : Header) (p : List Header) (h : Nat)
    (hno : x.height ≤ x.mhg ∨ weightOf cfg x.gen = 0) :
    pvW cfg (x :: p) h = pvW cfg p h ∧ pcW cfg (x :: p) h = pcW cfg p h := by
  rw [pvW_cons, pcW_cons]
  rcases hno with hno | hno
  · have h1 : prevotes cfg x h = false := by simp [prevotes]; omega
    have h2 : precommits cfg p x h = false := by simp [precommits]; omega
    simp [h1, h2]
  · simp [hno]

/-- `updatePrevotesPrecommits` for a header that votes, on a window `mkInfos pv pc (x :: w)` with
consecutive heights above `g'`, one parameter entry and all validators active from `g + 1`: the weight
of the generator is added to the prevote weights from `max (mhg + 1) (g + 1)` on and to the precommit
weights of the heights `≥ minH` with prevote quorum, and the generator's `largestHeightPrecommit`
becomes the largest such height `mm` of the window, if there is one. -/
theorem updateVotes_mkInfos (P : Params) (g g' : Nat) (hg : g ≤ g') (pv pc : Nat → Nat) (x : Header)
    (w : List Header) (hcw : Consec g' (x :: w)) (addrs : List Bytes) (L : Bytes → Nat) (v : Validator)
    (s0 : State) (hinfos : s0.infos = mkInfos pv pc (x :: w))
    (hact : s0.active = addrs.map fun a => ⟨a, g + 1, L a⟩) (hpar : s0.params = [(g + 1, P)])
    (hlt : x.mhg < x.height) (hmem : x.gen ∈ addrs) (hv : findValidator P.validators x.gen = some v)
    (minH mm : Nat)
    (hminH : minH = max (g + 1) (max
      ((BFT.hnpLoop (mkInfos pv pc (x :: w)) x.gen x.height ((x :: w).length + 1) x.mhg + 1) % u32)
      ((L x.gen + 1) % u32)))
    (hmm : mm = maxWith (fun h => decide (minH ≤ h ∧ P.prevoteThreshold ≤ pv h)) g' (x :: w).length) :
    updateVotes s0 = .ok { s0 with
      infos := mkInfos (fun h => pv h + if max ((x.mhg + 1) % u32) (g + 1) ≤ h then v.weight else 0)
        (fun h => pc h + if minH ≤ h ∧ P.prevoteThreshold ≤ pv h then v.weight else 0) (x :: w),
      active := addrs.map fun a => ⟨a, g + 1, if a = x.gen ∧ mm ≠ g' then mm else L a⟩ } := by
  have hgp : ∀ h, g < h → getParams s0 h = some P := fun h hh => getParams_single s0 _ P hpar hh
  unfold updateVotes
  rw [hinfos, mkInfos_cons]
  simp only
  rw [if_neg (Nat.not_le.mpr hlt), hact, findActive_map, if_pos hmem]
  simp only
  have hM : heightNotPrevoted (⟨x.height, x.gen, x.mhg, x.mhp, pv x.height, pc x.height⟩ :: mkInfos pv pc w)
      = BFT.hnpLoop (mkInfos pv pc (x :: w)) x.gen x.height ((x :: w).length + 1) x.mhg := by
    unfold heightNotPrevoted
    simp only [← mkInfos_cons, mkInfos_length]
  rw [hM, ← hminH, ← mkInfos_cons pv pc x w,
    precommitLoop_spec s0 P g x.gen v _ hgp hv pv pc hg (x :: w) false hcw]
  simp only
  rw [prevoteLoop_spec s0 P g x.gen v _ hgp hv _ _ hg (x :: w) hcw]
  simp only [Bool.false_eq_true, ↓reduceIte]
  rw [find_maxWith (fun h => decide (minH ≤ h ∧ P.prevoteThreshold ≤ pv h)) hcw, ← hmm]
  by_cases hm0 : mm = g'
  · rw [if_pos hm0]
    simp only [hm0, ne_eq, not_true_eq_false, and_false, if_false]
  · rw [if_neg hm0]
    simp only [List.map_map]
    congr 2
    apply List.map_congr_left
    intro a _
    simp only [Function.comp, ne_eq, hm0, not_false_eq_true, and_true]
    by_cases ha : a = x.gen
    · rw [if_pos ha, if_pos ha]
    · rw [if_neg ha, if_neg ha]

/-! ### the exact invariant (the state is the specification's view of the chain) -/

/-- the windowed state after chain `r` (newest first) is the specification's view of `r` -/
structure Inv (cfg : Cfg) (bs : Nat) (P : Params) (addrs : List Bytes) (r : List Header) (s : State) : Prop where
  batch : s.batchSize = bs
  infos : s.infos = mkInfos (pvW cfg r) (pcW cfg r) r
  active : s.active = addrs.map fun a => ⟨a, cfg.genesis + 1, lhp cfg r a⟩
  mhp : s.mhp = mhp cfg r
  mhpc : s.mhpc = mhpc cfg r
  params : s.params = [(cfg.genesis + 1, P)]

/-- `BFTVotes.contradicting` on a window that holds the whole chain is the specification's check -/
theorem contradicting_mkInfos (contra : Hdr → Hdr → Bool) (s : State) (pv pc : Nat → Nat)
    (r : List Header) (x : Header) (h : s.infos = mkInfos pv pc r) :
    contradicting contra s x = contradictingSpec contra r x := by
  unfold contradicting contradictingSpec
  rw [h]
  unfold mkInfos
  rw [List.find?_map]
  have : ((fun b : BlockInfo => decide (b.gen = x.gen)) ∘ mkInfo pv pc) = fun b : Header => decide (b.gen = x.gen) := rfl
  rw [this]
  cases r.find? (fun b => decide (b.gen = x.gen)) with
  | none => rfl
  | some b => rfl

/-! ### a whole chain, and the initial state produced by `SetBFTParameters` -/

/-- heights `k, k+1, …` along an oldest-first chain -/
def HeightsFrom : Nat → List Header → Prop
  | _, [] => True
  | k, h :: t => h.height = k ∧ HeightsFrom (k + 1) t

/-- an oldest-first chain `l` on top of the newest-first chain `p`: consecutive heights, said both ways -/
theorem consec_reverse_append {g : Nat} : ∀ (l p : List Header),
    Consec g (l.reverse ++ p) ↔ Consec g p ∧ HeightsFrom (g + p.length + 1) l
  | [], p => by simp [HeightsFrom]
  | h :: t, p => by
    have e : (h :: t).reverse ++ p = t.reverse ++ (h :: p) := by simp
    rw [e, consec_reverse_append t (h :: p)]
    simp only [Consec, HeightsFrom, List.length_cons, Nat.add_assoc]
    constructor
    · rintro ⟨⟨h1, h2⟩, h3⟩; exact ⟨h2, h1, h3⟩
    · rintro ⟨h2, h1, h3⟩; exact ⟨⟨h1, h2⟩, h3⟩

/-- the state produced by `SetBFTParameters` on the genesis state is the specification's view of the
empty chain, for the configuration with the validators in the (sorted) order the module stores; it succeeds
only for a positive batch size -/
theorem setParams_init_inv (bs g pcThr certThr : Nat) (vs : List Validator) (s0 : State)
    (h : setParams (initGenesis bs g) pcThr certThr vs = .ok s0) :
    0 < bs ∧ ∃ P addrs,
      Static ⟨g, isort (fun a b => addrGE a.address b.address) vs, pcThr⟩ P addrs ∧
      Inv ⟨g, isort (fun a b => addrGE a.address b.address) vs, pcThr⟩ bs P addrs [] s0 := by
  obtain ⟨hlen, hlo, hhi, ⟨hsome, _⟩ | rfl⟩ := setParams_ok h
  · cases hsome
  -- an empty validator list has total weight 0 and no admissible precommit threshold
  have hbs : 0 < bs := Nat.pos_of_ne_zero fun e => by
    subst e
    cases List.length_eq_zero_iff.mp (Nat.le_zero.mp hlen)
    exact absurd (Nat.le_trans hlo hhi) (by decide)
  refine ⟨hbs, ⟨(vs.map (·.weight)).sum * 2 / 3 + 1, pcThr, certThr, isort (fun a b => addrGE a.address b.address) vs⟩,
    (isort (fun a b => addrGE a.address b.address)
    ((isort (fun a b => addrGE a.address b.address) vs).map fun v =>
      (⟨v.address, g + 1, g + 1 - 1⟩ : ActiveVal))).map (·.address), ?_, ?_⟩
  · constructor
    · rfl
    · show (vs.map (·.weight)).sum * 2 / 3 + 1 = _
      unfold prevoteThreshold totalWeight
      simp only
      rw [((isort_perm _ vs).map (·.weight)).sum_nat]
    · rfl
    · intro a
      simp only [List.mem_map, mem_isort]
      unfold findValidator
      rw [List.find?_isSome]
      constructor
      · rintro ⟨av, ⟨v, hv, rfl⟩, rfl⟩
        exact ⟨v, (mem_isort _ _ _).mpr hv, by simp⟩
      · rintro ⟨v, hv, hva⟩
        exact ⟨_, ⟨v, (mem_isort _ _ _).mp hv, rfl⟩, by simpa using hva⟩
  · constructor
    · rfl
    · rfl
    · show isort _ (List.map _ _) = _
      simp only [List.map_map]
      symm
      have : ∀ a ∈ isort (fun a b => addrGE a.address b.address)
          ((isort (fun a b => addrGE a.address b.address) vs).map fun v =>
            (⟨v.address, g + 1, g + 1 - 1⟩ : ActiveVal)),
          ((fun a => (⟨a, g + 1, lhp ⟨g, isort (fun a b => addrGE a.address b.address) vs, pcThr⟩ [] a⟩ : ActiveVal)) ∘
            (·.address)) a = a := by
        intro a ha
        rw [mem_isort, List.mem_map] at ha
        obtain ⟨v, _, rfl⟩ := ha
        simp [lhp]
      rw [List.map_congr_left this, List.map_id']
      rfl
    · rfl
    · rfl
    · rfl

end LiskVerif.BFTSpec
