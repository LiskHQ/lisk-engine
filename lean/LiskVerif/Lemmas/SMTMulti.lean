/-
Completeness of `Prove` / `Verify` (Model/SMTVerify.lean) for any non-empty list of keys: what `Prove` generates
for a key (`PQSpec`), the wire format of its bitmap, the first two loops of `Verify` on generated queries, and
**`prove_verify`**, by the simulation of Lemmas/SMTMultiSim.lean.
-/
import LiskVerif.Lemmas.SMTMultiSim

namespace LiskVerif.SMTVerify
open LiskVerif LiskVerif.SMT

/-! ### the wire format of bitmaps (`bytes.FromBools` / `bytes.ToBools` / `stripPrefixFalse`)

A bitmap that does not start with `false` survives packing and unpacking, and its packing has no leading zero byte. -/

theorem byteBits_pack : ∀ (b7 b6 b5 b4 b3 b2 b1 b0 : Bool),
    byteBits (UInt8.ofNat (bit b7 128 + bit b6 64 + bit b5 32 + bit b4 16 + bit b3 8 + bit b2 4 + bit b1 2 + bit b0 1))
      = [b7, b6, b5, b4, b3, b2, b1, b0] := by
  decide +kernel

theorem keyBits_packBits : ∀ (k : Nat) (l : Bits), l.length = 8 * k → keyBits (packBits l) = l
  | 0, l, h => by
    have : l = [] := List.length_eq_zero_iff.mp (by omega)
    subst this; rfl
  | k + 1, l, h => by
    match l, h with
    | b7 :: b6 :: b5 :: b4 :: b3 :: b2 :: b1 :: b0 :: r, h =>
      have hr : r.length = 8 * k := by simp at h; omega
      simp only [packBits, keyBits, byteBits_pack, keyBits_packBits k r hr]
      rfl

theorem stripPrefixFalse_replicate (k : Nat) (l : Bits) :
    stripPrefixFalse (List.replicate k false ++ l) = stripPrefixFalse l := by
  induction k with
  | zero => rfl
  | succ k ih => simp only [List.replicate_succ, List.cons_append, stripPrefixFalse, ih]

theorem stripPrefixFalse_of_head (l : Bits) (h : l = [] ∨ ∃ r, l = true :: r) : stripPrefixFalse l = l := by
  rcases h with rfl | ⟨r, rfl⟩ <;> rfl

theorem fromBools_pad_length (l : Bits) : ∃ k, (List.replicate ((8 - l.length % 8) % 8) false ++ l).length = 8 * k := by
  refine ⟨((8 - l.length % 8) % 8 + l.length) / 8, ?_⟩
  simp only [List.length_append, List.length_replicate]
  omega

/-- decoding the packed bitmap gives the bitmap back (a bitmap never starts with a `false`) -/
theorem strip_toBools_fromBools (l : Bits) (h : l = [] ∨ ∃ r, l = true :: r) :
    stripPrefixFalse (toBools (fromBools l)) = l := by
  obtain ⟨k, hk⟩ := fromBools_pad_length l
  unfold toBools fromBools
  rw [keyBits_packBits k _ hk, stripPrefixFalse_replicate, stripPrefixFalse_of_head l h]

theorem byteBits_zero : byteBits 0 = List.replicate 8 false := by decide

/-- the packed bitmap has no leading zero byte: the first `true` of the bitmap is among the first 8 bits of the
padded list -/
theorem fromBools_head_ne_zero (l : Bits) (h : l = [] ∨ ∃ r, l = true :: r) : ((fromBools l).headD 1 == 0) = false := by
  rcases h with rfl | ⟨r, rfl⟩
  · decide
  · obtain ⟨k, hk⟩ := fromBools_pad_length (true :: r)
    unfold fromBools
    generalize hp : (8 - (true :: r).length % 8) % 8 = pad at hk ⊢
    have hpad : pad < 8 := by omega
    have hkb := keyBits_packBits k _ hk
    cases hpk : packBits (List.replicate pad false ++ true :: r) with
    | nil =>
      rw [hpk] at hkb
      have hlen := congrArg List.length hkb
      simp [keyBits] at hlen
    | cons x xs =>
      rw [List.headD_cons, beq_eq_false_iff_ne]
      rintro rfl
      rw [hpk, keyBits, byteBits_zero] at hkb
      have hget : (List.replicate 8 false ++ keyBits xs)[pad]? = (List.replicate pad false ++ true :: r)[pad]? := by
        rw [hkb]
      rw [List.getElem?_append_left (by simpa using hpad), List.getElem?_replicate,
        List.getElem?_append_right (by simp)] at hget
      simp [hpad] at hget

/-! ### the queries `Prove` generates -/

/-- what `generateQueryProof` returns for the key `k` -/
structure PQSpec (H : HashFn) (keyLen : Nat) (es : List Entry) (k : Bytes) (pq : PQ) : Prop where
  honest : HonestP H keyLen es pq
  path : pq.binaryPath = (keyBits k).take pq.height
  term : (pq.value = [] ∧ pq.key = k ∧ descend es pq.binaryPath = []) ∨
    (∃ e, descend es pq.binaryPath = [e] ∧ pq.key = e.key ∧ pq.value = e.value)
  anc : ∀ a, a ∈ pq.anc ↔ ∃ j, j ≤ pq.height ∧ descend es ((keyBits k).take j) ≠ [] ∧
    a = nh H (8 * keyLen) es ((keyBits k).take j)

/-- the key of an entry below position `P` starts with `P`, has the key length of the tree, and its value is not empty -/
theorem keyBits_of_mem_descend {H : HashFn} {n keyLen : Nat} {es : List Entry} (c : TreeCtx H n keyLen es) {P : Bits}
    {e : Entry} (he : e ∈ descend es P) : keyBits e.key = P ++ e.path ∧ e.key.length = keyLen ∧ e.value ≠ [] := by
  exact ⟨keyBits_mem_descend c.path he,
    kv_descend (P := fun k v => k.length = keyLen ∧ v ≠ []) (fun e h => ⟨c.klen e h, c.vals e h⟩) P e he⟩

theorem queryInfo_pqspec {H : HashFn} {n keyLen : Nat} {es : List Entry} (c : TreeCtx H n keyLen es) (k : Bytes)
    (hk : k.length = keyLen) :
    PQSpec H keyLen es k (queryInfo H k (buildH H (8 * keyLen) es) (toBools k)) := by
  have hql : (toBools k).length = 8 * keyLen := by rw [toBools_length, hk]
  generalize hpq : queryInfo H k (buildH H (8 * keyLen) es) (toBools k) = pq
  obtain ⟨i1, i2, i3, i4, i5, i6⟩ := queryInfo_spec H k (8 * keyLen) es (toBools k) c.wfe hql c.vals pq hpq
  have hPl : ((toBools k).take pq.bm.length).length = pq.bm.length := by
    rw [List.length_take, hql]; omega
  have hkey : pq.key.length = keyLen ∧ (toBools pq.key).take pq.bm.length = (toBools k).take pq.bm.length := by
    rcases i5 with ⟨_, hkk, _⟩ | ⟨e, hd, hkk, _⟩
    · rw [hkk]; exact ⟨hk, rfl⟩
    · have he : e ∈ descend es ((toBools k).take pq.bm.length) := by rw [hd]; simp
      obtain ⟨hb, hl, _⟩ := keyBits_of_mem_descend c he
      rw [hkk]
      refine ⟨hl, ?_⟩
      simp only [toBools_eq] at *
      rw [hb, List.take_append_of_le_length (by omega), List.take_of_length_le (by omega)]
  have hpath : pq.binaryPath = (toBools k).take pq.bm.length := hkey.2
  exact ⟨⟨hkey.1, i1, by rw [hpath]; exact i2, by rw [hpath]; exact i3, by rw [hpath]; exact i4⟩, hpath,
    by rw [hpath]; exact i5, i6⟩

/-- the query of the wire format made from a prover query -/
def wireQ (pq : PQ) : Query := ⟨pq.key, pq.value, fromBools pq.bm⟩

theorem PQSpec.terminal {H : HashFn} {keyLen : Nat} {es : List Entry} {k : Bytes} {pq : PQ}
    (s : PQSpec H keyLen es k pq) : (descend es pq.binaryPath).length ≤ 1 := by
  rcases s.term with ⟨_, _, h⟩ | ⟨e, h, _⟩ <;> rw [h] <;> simp

/-- a position with at most one entry below it is not strictly above a node position -/
theorem terminal_prefix_eq {es : List Entry} {p q : Bits} (hq : Proper es q) (hp : (descend es p).length ≤ 1)
    (hpre : p <+: q) : p = q := by
  obtain ⟨t, rfl⟩ := hpre
  cases t with
  | nil => simp
  | cons b r => have := (proper_prefix_branch hq rfl).2; omega

/-- the bitmap of a generated query does not start with `false`: the sibling of a proven node is not empty -/
theorem PQSpec.bm_head {H : HashFn} {n keyLen : Nat} {es : List Entry} (c : TreeCtx H n keyLen es) {k : Bytes}
    {pq : PQ} (s : PQSpec H keyLen es k pq) : pq.bm = [] ∨ ∃ r, pq.bm = true :: r := by
  by_cases h0 : pq.height = 0
  · exact Or.inl (List.length_eq_zero_iff.mp h0)
  · have h1 : 1 ≤ pq.toQP.height := Nat.pos_of_ne_zero h0
    obtain ⟨hX, h2⟩ := s.honest.atNode.parent_branch h1
    refine Or.inr ⟨bmOf es pq.toQP.parent, ?_⟩
    rw [show pq.bm = _ from s.honest.atNode.bm_cons h1]
    congr 1
    -- the parent is a branch and the proven node holds at most one of its entries
    have hXl := proper_length c.wfe hX
    have hlt := branch_depth c.wfe hXl h2
    have hwd : WFE ((8 * keyLen - pq.toQP.parent.length - 1) + 1) (descend es pq.toQP.parent) := by
      have := wfe_descend _ c.wfe hXl
      rwa [show 8 * keyLen - pq.toQP.parent.length - 1 + 1 = 8 * keyLen - pq.toQP.parent.length by omega]
    have hsum := length_goB_add (descend es pq.toQP.parent) (wfe_path_ne_nil hwd) pq.toQP.dir
    have hterm := s.terminal
    rw [show pq.binaryPath = _ from s.honest.atNode.path_eq h1, descend_snoc] at hterm
    rw [descend_snoc]
    cases hd : goB (!pq.toQP.dir) (descend es pq.toQP.parent) with
    | nil => rw [hd] at hsum; simp at hsum; omega
    | cons _ _ => rfl

theorem PQSpec.qpOf_wire {H : HashFn} {n keyLen : Nat} {es : List Entry} (c : TreeCtx H n keyLen es) {k : Bytes}
    {pq : PQ} (s : PQSpec H keyLen es k pq) : qpOf H (wireQ pq) = mkQP H pq.key pq.value pq.bm := by
  unfold qpOf wireQ
  simp only [strip_toBools_fromBools _ (s.bm_head c)]

/-- the verifier's query proof of a generated query is honest -/
theorem PQSpec.honestQ {H : HashFn} {n keyLen : Nat} {es : List Entry} (c : TreeCtx H n keyLen es) {k : Bytes}
    {pq : PQ} (s : PQSpec H keyLen es k pq) :
    HonestQ H keyLen es (qpOf H (wireQ pq)) ∧ (qpOf H (wireQ pq)).binaryPath = pq.binaryPath := by
  rw [s.qpOf_wire c]
  refine ⟨⟨⟨s.honest.klen, s.honest.hle, s.honest.proper, s.honest.bm⟩, ?_⟩, rfl⟩
  show (if pq.value.isEmpty then emptyHash H else leafHash H pq.key pq.value) = root H _ (descend es pq.binaryPath)
  rcases s.term with ⟨hv, _, hd⟩ | ⟨e, hd, hk, hv⟩
  · rw [hv, hd]; simp
  · have hne := (keyBits_of_mem_descend c (show e ∈ descend es pq.binaryPath by rw [hd]; simp)).2.2
    rw [hd, hv, hk, List.isEmpty_eq_false_iff.mpr hne]
    simp

/-- two generated queries with the same proven key are the same query: their positions are prefixes of the bits
of that key, and neither is strictly above the other -/
theorem PQSpec.det {H : HashFn} {keyLen : Nat} {es : List Entry} {k₁ k₂ : Bytes} {pq₁ pq₂ : PQ}
    (s₁ : PQSpec H keyLen es k₁ pq₁) (s₂ : PQSpec H keyLen es k₂ pq₂) (hkey : pq₁.key = pq₂.key) :
    pq₁.bm = pq₂.bm ∧ pq₁.value = pq₂.value := by
  have hp : pq₁.binaryPath = pq₂.binaryPath := by
    have h1 : pq₁.binaryPath <+: toBools pq₂.key := hkey ▸ List.take_prefix _ _
    rcases List.prefix_or_prefix_of_prefix h1 (List.take_prefix pq₂.height _) with h | h
    · exact terminal_prefix_eq s₂.honest.proper s₁.terminal h
    · exact (terminal_prefix_eq s₁.honest.proper s₂.terminal h).symm
  refine ⟨by rw [s₁.honest.bm, s₂.honest.bm, hp], ?_⟩
  rcases s₁.term with ⟨hv1, _, hd1⟩ | ⟨e1, hd1, _, hv1⟩ <;>
    rcases s₂.term with ⟨hv2, _, hd2⟩ | ⟨e2, hd2, _, hv2⟩ <;> rw [hp, hd2] at hd1
  · rw [hv1, hv2]
  · cases hd1
  · cases hd1
  · cases hd1; rw [hv1, hv2]

/-- the proven node lies on the path of the queried key -/
theorem PQSpec.prefix_ok {H : HashFn} {keyLen : Nat} {es : List Entry} {k : Bytes}
    {pq : PQ} (s : PQSpec H keyLen es k pq) :
    pq.height ≤ commonPrefixLen (toBools k) (toBools pq.key) := by
  have hl : pq.binaryPath.length = pq.height := s.honest.atNode.path_length
  have h1 : toBools k = pq.binaryPath ++ (keyBits k).drop pq.height := by
    rw [s.path]; unfold toBools; simp
  have h2 : toBools pq.key = pq.binaryPath ++ (toBools pq.key).drop pq.height := by
    unfold PQ.binaryPath; simp
  have := commonPrefixLen_append pq.binaryPath ((keyBits k).drop pq.height) ((toBools pq.key).drop pq.height)
  rwa [← h1, ← h2, hl] at this

/-! ### the first two loops of `Verify` pass generated queries -/

theorem checkOne_honest {H : HashFn} {n keyLen : Nat} {es : List Entry} (c : TreeCtx H n keyLen es) {k : Bytes}
    {pq : PQ} {seen : List Query} (s : PQSpec H keyLen es k pq) (hk : k.length = keyLen)
    (hseen : ∀ d ∈ seen, ∃ k' pq', PQSpec H keyLen es k' pq' ∧ d = wireQ pq') :
    checkOne keyLen k (wireQ pq) seen = none := by
  have hstrip : stripPrefixFalse (toBools (wireQ pq).bitmap) = pq.bm := strip_toBools_fromBools _ (s.bm_head c)
  refine checkOne_eq_none.mpr ⟨hk, s.honest.klen, ?_, by simpa [wireQ] using fromBools_head_ne_zero _ (s.bm_head c),
    by rw [hstrip]; exact s.honest.hle, Or.inr (by rw [hstrip]; exact s.prefix_ok)⟩
  -- an earlier query with the same proven key is the same query
  cases hf : seen.find? (fun q => q.key = (wireQ pq).key) with
  | none => rfl
  | some d =>
    obtain ⟨k', pq', s', rfl⟩ := hseen d (List.mem_of_find?_eq_some hf)
    have hkey := List.find?_some hf
    simp only [decide_eq_true_eq] at hkey
    obtain ⟨e1, e2⟩ := s'.det s hkey
    simp [wireQ, e1, e2]

theorem checkQueries_honest {H : HashFn} {n keyLen : Nat} {es : List Entry} (c : TreeCtx H n keyLen es)
    (f : Bytes → PQ) (hf : ∀ k, k.length = keyLen → PQSpec H keyLen es k (f k)) :
    ∀ (keys : List Bytes) (seen : List Query), (∀ k ∈ keys, k.length = keyLen) →
      (∀ d ∈ seen, ∃ k' pq', PQSpec H keyLen es k' pq' ∧ d = wireQ pq') →
      checkQueries keyLen keys (keys.map fun k => wireQ (f k)) seen = none
  | [], _, _, _ => rfl
  | k :: keys, seen, hks, hseen => by
    have hk := hks k (by simp)
    simp only [List.map_cons, checkQueries]
    rw [checkOne_honest c (hf k hk) hk hseen]
    simp only
    apply checkQueries_honest c f hf keys _ (fun k' hk' => hks k' (List.mem_cons_of_mem _ hk'))
    intro d hd
    rcases List.mem_cons.mp hd with rfl | hd
    · exact ⟨k, f k, hf k hk, rfl⟩
    · exact hseen d hd

/-- among honest queries the position filter finds no clash -/
theorem filterQueries_honest {H : HashFn} {keyLen : Nat} {es : List Entry} :
    ∀ (qs : List Query) (acc : List QP), (∀ q ∈ qs, HonestQ H keyLen es (qpOf H q)) →
      (∀ e ∈ acc, HonestQ H keyLen es e) → ∃ out, filterQueries H qs acc = some out
  | [], acc, _, _ => ⟨acc.reverse, rfl⟩
  | query :: qs, acc, hqs, hacc => by
    have hq := hqs query (by simp)
    have hrest : ∀ q ∈ qs, HonestQ H keyLen es (qpOf H q) := fun q hq' => hqs q (List.mem_cons_of_mem _ hq')
    rw [filterQueries_cons]
    split
    · exact filterQueries_honest qs _ hrest (List.forall_mem_cons.mpr ⟨hq, hacc⟩)
    · next existing hfind =>
      have he := hacc existing (List.mem_of_find?_eq_some hfind)
      have hp := List.find?_some hfind
      simp only [decide_eq_true_eq] at hp
      have h1 : existing.hash = (qpOf H query).hash := by rw [he.hash, hq.hash, hp]
      have h2 : existing.bm = (qpOf H query).bm := by rw [he.bm, hq.bm, hp]
      simp only [h1, h2, decide_true, Bool.and_self, ↓reduceIte]
      exact filterQueries_honest qs acc hrest hacc

/-! ### `Verify (Prove keys)` -/

theorem prove_eq (H : HashFn) (keyLen : Nat) (t : HT) (keys : List Bytes) (hkeys : ∀ k ∈ keys, k.length = keyLen) :
    prove H keyLen t keys = some
      { siblings := sibLoop ((keys.map fun k => queryInfo H k t (toBools k)).flatMap (·.anc))
          (mP (isort pqLe (keys.map fun k => queryInfo H k t (toBools k))) + 1)
          (isort pqLe (keys.map fun k => queryInfo H k t (toBools k))) [],
        queries := (keys.map fun k => queryInfo H k t (toBools k)).map wireQ } := by
  unfold prove
  have : keys.any (fun k => k.length != keyLen) = false := by
    rw [List.any_eq_false]
    intro k hk
    simp [hkeys k hk]
  rw [this]
  rfl

/-- **Completeness of `Prove` / `Verify` for any non-empty list of keys**, in terms of the entries of the tree -/
theorem prove_verify {H : HashFn} {n keyLen : Nat} {es : List Entry} (c : TreeCtx H n keyLen es) (keys : List Bytes)
    (hne : keys ≠ []) (hkeys : ∀ k ∈ keys, k.length = keyLen) :
    ∃ proof, prove H keyLen (buildH H (8 * keyLen) es) keys = some proof ∧
      verify H keys proof (root H (8 * keyLen) es) keyLen = .ok true ∧
      proof.queries = keys.map (fun k => wireQ (queryInfo H k (buildH H (8 * keyLen) es) (toBools k))) ∧
      ∀ k, k.length = keyLen →
        PQSpec H keyLen es k (queryInfo H k (buildH H (8 * keyLen) es) (toBools k)) := by
  refine ⟨_, prove_eq H keyLen _ keys hkeys, ?_, by simp [List.map_map, Function.comp_def],
    fun k hk => queryInfo_pqspec c k hk⟩
  generalize hqi : (fun k => queryInfo H k (buildH H (8 * keyLen) es) (toBools k)) = qi
  have hspec : ∀ k, k.length = keyLen → PQSpec H keyLen es k (qi k) := by
    intro k hk; rw [← hqi]; exact queryInfo_pqspec c k hk
  have S : ∀ k ∈ keys, PQSpec H keyLen es k (qi k) := fun k hk => hspec k (hkeys k hk)
  have A : AncCtx H keyLen es ((keys.map qi).map PQ.binaryPath) ((keys.map qi).flatMap (·.anc)) := by
    refine ⟨?_, ?_, ?_, by cases keys <;> simp_all⟩
    · simp only [List.forall_mem_map]
      exact fun k hk => (S k hk).honest.proper
    · simp only [List.forall_mem_map]
      intro k hk z hz
      have s := S k hk
      refine (Classical.em (descend es z = [])).imp_right fun hze => ?_
      rw [List.mem_flatMap]
      refine ⟨qi k, List.mem_map.mpr ⟨k, hk, rfl⟩, (s.anc _).mpr ?_⟩
      have hzl := hz.length_le
      rw [show (qi k).binaryPath.length = _ from s.honest.atNode.path_length] at hzl
      have hzt : z = (keyBits k).take z.length :=
        List.prefix_iff_eq_take.mp ((s.path ▸ hz).trans (List.take_prefix _ _))
      exact ⟨z.length, hzl, by rw [← hzt]; exact hze, by rw [← hzt]⟩
    · intro a ha
      obtain ⟨pq, hpq, hapq⟩ := List.mem_flatMap.mp ha
      obtain ⟨k, hk, rfl⟩ := List.mem_map.mp hpq
      have s := S k hk
      obtain ⟨j, hj, hne', hnh⟩ := (s.anc a).mp hapq
      refine ⟨_, List.mem_map.mpr ⟨_, hpq, rfl⟩, (keyBits k).take j, ?_, hne', hnh⟩
      rw [s.path]
      exact List.take_prefix_take_left (by omega)
  obtain ⟨filtered, hfilt⟩ := filterQueries_honest ((keys.map qi).map wireQ) []
    (by simp only [List.forall_mem_map]; exact fun k hk => ((S k hk).honestQ c).1) (by simp)
  obtain ⟨hdist, hfrom, -, hrep⟩ := filterQueries_spec H _ _ _ hfilt List.Pairwise.nil
  have hfmem : ∀ x ∈ sortQPs filtered, ∃ k ∈ keys, x = qpOf H (wireQ (qi k)) := by
    intro x hx
    rw [sortQPs_eq, mem_isort] at hx
    rcases hfrom x hx with h' | ⟨q, hq, rfl⟩
    · simp at h'
    · obtain ⟨pq, hpq, rfl⟩ := List.mem_map.mp hq
      obtain ⟨k, hk, rfl⟩ := List.mem_map.mp hpq
      exact ⟨k, hk, rfl⟩
  have hrep' : ∀ k ∈ keys, ∃ e ∈ sortQPs filtered, e.binaryPath = (qi k).binaryPath := by
    intro k hk
    obtain ⟨e, he, hep, _, _⟩ := hrep (wireQ (qi k)) (List.mem_map.mpr ⟨_, List.mem_map.mpr ⟨k, hk, rfl⟩, rfl⟩)
    exact ⟨e, by rw [sortQPs_eq, mem_isort]; exact he, by rw [hep, ((S k hk).honestQ c).2]⟩
  have hVhon : ∀ x ∈ sortQPs filtered, HonestQ H keyLen es x := by
    intro x hx
    obtain ⟨k, hk, rfl⟩ := hfmem x hx
    exact ((S k hk).honestQ c).1
  have inv : SimInv H keyLen es ((keys.map qi).map PQ.binaryPath) ((keys.map qi).flatMap (·.anc))
      (isort pqLe (keys.map qi)) (sortQPs filtered) [] := by
    have hV := fun x hx => hVhon x ((mem_isort qpLe filtered x).mpr hx)
    refine ⟨isort_pq_sorted _, ?_, ⟨QInv.of_sort (fun x hx => (hV x hx).klen) (fun x hx => (hV x hx).hle) hdist,
      hVhon, ?_, ?_, ?_⟩, ?_, ?_, by simp⟩
    · simp only [mem_isort, List.forall_mem_map]
      exact fun k hk => (S k hk).honest
    · -- proven nodes are empty nodes or leaves: none lies above another
      intro v hv w hw hpre
      obtain ⟨k1, hk1, rfl⟩ := hfmem v hv
      obtain ⟨k2, hk2, rfl⟩ := hfmem w hw
      rw [((S k1 hk1).honestQ c).2, ((S k2 hk2).honestQ c).2] at hpre ⊢
      exact terminal_prefix_eq (S k2 hk2).honest.proper (S k1 hk1).terminal hpre
    · intro v hv
      obtain ⟨k, hk, rfl⟩ := hfmem v hv
      exact ⟨_, List.mem_map.mpr ⟨_, List.mem_map.mpr ⟨k, hk, rfl⟩, rfl⟩,
        by rw [((S k hk).honestQ c).2]; exact List.prefix_refl _⟩
    · simp only [List.forall_mem_map]
      intro k hk
      obtain ⟨e, he, hep⟩ := hrep' k hk
      exact ⟨e, he, by rw [hep]; exact List.prefix_refl _⟩
    · intro v hv
      obtain ⟨k, hk, rfl⟩ := hfmem v hv
      exact ⟨qi k, by rw [mem_isort]; exact List.mem_map.mpr ⟨k, hk, rfl⟩, ((S k hk).honestQ c).2.symm⟩
    · simp only [mem_isort, List.forall_mem_map]
      exact fun k hk => Or.inl (hrep' k hk)
  obtain ⟨Y, hY1, hY2⟩ := sim c A (mP (isort pqLe (keys.map qi)) + 1) _ _ [] (calcFuel (sortQPs filtered)) inv
    (by omega) (by rw [calcFuel_eq]; omega)
  simp only [List.nil_append] at hY1
  unfold verify
  simp only [List.length_map, bne_self_eq_false, Bool.false_eq_true, ↓reduceIte]
  have hcq : checkQueries keyLen keys ((keys.map qi).map wireQ) [] = none := by
    have := checkQueries_honest c qi hspec keys [] hkeys (by simp)
    rwa [List.map_map]
  rw [hcq]
  simp only [hfilt]
  unfold calculateRoot
  simp only [hY1, hY2]
  simp [nh, descend]

end LiskVerif.SMTVerify
