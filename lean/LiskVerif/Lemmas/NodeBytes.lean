/-
Byte-level lemmas for the node model: big-endian heights, key shapes.
-/
import LiskVerif.Model.Node
import LiskVerif.Lemmas.Collection

namespace LiskVerif.Node
open LiskVerif Collection

theorem u8_ofNat_mod (x : Nat) : UInt8.ofNat (x % 256) = UInt8.ofNat x :=
  UInt8.ofNat_mod_size

/-- `bytes.FromUint32` writes the four low-order bytes -/
theorem encU32_eq_beBytes (n : Nat) : encU32 n = beBytes 4 n := by
  simp [encU32, beBytes, u8_ofNat_mod, Nat.shiftRight_eq_div_pow]

/-- `decU32` reads the big-endian value of the first four bytes -/
theorem decU32_eq_beVal (a b c d : UInt8) (r : Bytes) :
    decU32 (a :: b :: c :: d :: r) = beVal [a, b, c, d] := by
  simp only [decU32, beVal, List.length_cons, List.length_nil]
  omega

theorem beVal_encU32 (n : Nat) : beVal (encU32 n) = n % u32 := by
  rw [encU32_eq_beBytes, beVal_beBytes]; rfl

theorem decU32_encU32 (n : Nat) : decU32 (encU32 n) = n % u32 :=
  (decU32_eq_beVal _ _ _ _ []).trans (beVal_encU32 n)

theorem decU32_encU32_of_lt {n : Nat} (h : n < u32) : decU32 (encU32 n) = n := by
  rw [decU32_encU32, Nat.mod_eq_of_lt h]

theorem encU32_inj {a b : Nat} (ha : a < u32) (hb : b < u32) (h : encU32 a = encU32 b) : a = b := by
  rw [← decU32_encU32_of_lt ha, h, decU32_encU32_of_lt hb]

theorem decU32_lt (b : Bytes) : decU32 b < u32 := by
  unfold decU32
  split
  · rename_i a b c d r
    rw [← decU32, decU32_eq_beVal a b c d r]
    exact Nat.lt_of_lt_of_eq (beVal_lt [a, b, c, d]) (rfl : 256 ^ 4 = u32)
  · decide

/-- big-endian encoding preserves the order: byte order of the keys is numeric order of heights -/
theorem ble_encU32 {a b : Nat} (ha : a < u32) (hb : b < u32) :
    ble (encU32 a) (encU32 b) = true ↔ a ≤ b := by
  rw [ble, bcmp_eq_compare_beVal (encU32 a) (encU32 b) rfl, beVal_encU32, beVal_encU32,
    Nat.mod_eq_of_lt ha, Nat.mod_eq_of_lt hb, bne_iff_ne, Nat.compare_ne_gt]

theorem ble_cons_same (p : UInt8) (a b : Bytes) : ble (p :: a) (p :: b) = ble a b :=
  ble_append_left [p] a b

/-- the keys of one table that are indexed by a height are ordered as the heights -/
theorem ble_cons_encU32 (p : UInt8) {a b : Nat} (ha : a < u32) (hb : b < u32) :
    ble (p :: encU32 a) (p :: encU32 b) = true ↔ a ≤ b := by
  rw [ble_cons_same]
  exact ble_encU32 ha hb

theorem hasPrefix_one (k : Bytes) (p : UInt8) : hasPrefix k [p] = true ↔ k.head? = some p := by
  cases k with
  | nil => simp [hasPrefix]
  | cons x r =>
    simp only [hasPrefix, Bool.and_true, List.head?_cons, Option.some.injEq]
    exact beq_iff_eq

/-- a key between two keys that start with the byte `p` starts with `p` -/
theorem head_of_between (p : UInt8) (a b k : Bytes)
    (h1 : ble (p :: a) k = true) (h2 : ble k (p :: b) = true) : k.head? = some p :=
  (hasPrefix_one k p).mp (hasPrefix_of_between [p] a b k h1 h2)

end LiskVerif.Node
