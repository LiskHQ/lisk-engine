/-
The certificate pool (Model/Cert.lean) and the gossip validator that fills it. The pool invariant is "every entry is `EntryOk`" and "one entry per
(block id, signer)" (`Distinct`). The operations that fill the pool return it after `Pool.add` of commits they
describe (`Adds`): what entered, that the entries stay distinct, what `Pool.has` finds and the invariant all
follow from that one description, whatever the chain state. `Cleanup`, `Select`, `Upgrade` only drop or reorder
entries.
-/
import LiskVerif.Lemmas.Cert

namespace LiskVerif.Cert

/-- `PoolInv` as a predicate of the list of all entries -/
def ListInv (ctx : BlockCtx) (chainId : Nat) (l : List Commit) : Prop :=
  (∀ c ∈ l, EntryOk ctx chainId c) ∧ l.Pairwise (fun a b => ¬ (a.block = b.block ∧ a.signer = b.signer))

theorem poolInv_iff (ctx : BlockCtx) (chainId : Nat) (pool : Pool) :
    PoolInv ctx chainId pool ↔ ListInv ctx chainId pool.all := Iff.rfl

/-! ## `hasCommit`, `Pool.has`, `Pool.add` -/

theorem hasCommit_iff {l : List Commit} {c : Commit} :
    hasCommit l c = true ↔ ∃ d ∈ l, d.block = c.block ∧ d.signer = c.signer := by
  simp only [hasCommit, List.any_eq_true, Bool.and_eq_true, beq_iff_eq]

theorem pool_has_iff {pool : Pool} {c : Commit} :
    pool.has c = true ↔ ∃ d ∈ pool.all, d.block = c.block ∧ d.signer = c.signer := by
  simp only [Pool.has, Pool.all, Bool.or_eq_true, hasCommit_iff, List.mem_append, or_and_right, exists_or]

theorem pool_add_all {pool : Pool} {c : Commit} (hn : pool.has c = false) : (pool.add c).all = pool.all ++ [c] := by
  simp only [Pool.add, hn, Bool.false_eq_true, if_false, Pool.all, List.append_assoc]

/-- a commit that is already pooled is not added again (`Pool.Add` checks and inserts in one step) -/
theorem pool_add_of_has {pool : Pool} {c : Commit} (h : pool.has c = true) : pool.add c = pool := by
  simp only [Pool.add, h, if_true]

theorem mem_add {pool : Pool} {c d : Commit} (h : d ∈ (pool.add c).all) : d ∈ pool.all ∨ d = c := by
  cases hn : pool.has c with
  | true => exact .inl (pool_add_of_has hn ▸ h)
  | false => rwa [pool_add_all hn, List.mem_append, List.mem_singleton] at h

/-- `Pool.add` keeps the entries distinct: it adds nothing `Pool.has` finds -/
theorem Distinct.add {pool : Pool} (h : Distinct pool.all) (c : Commit) : Distinct (pool.add c).all := by
  cases hn : pool.has c with
  | true => exact (pool_add_of_has hn).symm ▸ h
  | false =>
    rw [pool_add_all hn]
    exact List.pairwise_append.mpr ⟨h, List.pairwise_singleton _ _,
      fun a ha b hb hh => Bool.false_ne_true (hn.symm.trans (pool_has_iff.mpr ⟨a, ha, List.mem_singleton.mp hb ▸ hh⟩))⟩

theorem has_add {pool : Pool} {c : Commit} (d : Commit) (h : pool.has c = true) : (pool.add d).has c = true := by
  cases hd : pool.has d with
  | true => rwa [pool_add_of_has hd]
  | false =>
    obtain ⟨x, hx, hxc⟩ := pool_has_iff.mp h
    exact pool_has_iff.mpr ⟨x, by rw [pool_add_all hd]; exact List.mem_append_left _ hx, hxc⟩

/-! ## pools that grew by `Pool.add` -/

/-- `q` is `p` after `Pool.add` of commits that satisfy `P` -/
inductive Adds (P : Commit → Prop) (p : Pool) : Pool → Prop
  | refl : Adds P p p
  | add {q : Pool} {c : Commit} : Adds P p q → P c → Adds P p (q.add c)

namespace Adds
variable {P : Commit → Prop} {p q r : Pool}

theorem trans (h1 : Adds P p q) (h2 : Adds P q r) : Adds P p r := by
  induction h2 with
  | refl => exact h1
  | add _ hc ih => exact .add ih hc

theorem mem (h : Adds P p q) : ∀ c ∈ q.all, c ∈ p.all ∨ P c := by
  induction h with
  | refl => exact fun c hc => .inl hc
  | add _ hc ih => exact fun d hd => (mem_add hd).elim (ih d) fun e => .inr (e ▸ hc)

theorem distinct (h : Adds P p q) (hd : Distinct p.all) : Distinct q.all := by
  induction h with
  | refl => exact hd
  | add _ _ ih => exact ih.add _

theorem has (h : Adds P p q) {c : Commit} (hc : p.has c = true) : q.has c = true := by
  induction h with
  | refl => exact hc
  | add _ _ ih => exact has_add _ ih

theorem poolInv {ctx : BlockCtx} {chainId : Nat} (h : Adds (EntryOk ctx chainId) p q)
    (hi : PoolInv ctx chainId p) : PoolInv ctx chainId q :=
  .intro (fun c hc => (h.mem c hc).elim (hi.entryOk c) id) (h.distinct hi.distinct)

end Adds

/-! ## `singleCommitValidator` -/

/-- steps 5–7 of one iteration: the parameters of the commit's own height, its signer among them, its
signature -/
def scvCheck (st : State) (pool : Pool) (m : Incoming) (hd : Header) : Pool × Option VRes :=
  match getParams st.params m.height with
  | none => (pool, some .ignore)
  | some p =>
    match findValidator p.validators m.signer with
    | none => (pool, some .reject)
    | some v =>
      if !verifySingle v.key (certMsg st hd) m.sig then (pool, some .reject) else (pool.add m.commit, none)

/-- steps 1–4 of one iteration let the commit through: it is well-formed, not pooled, above the removal
height `fin.acHeight`, inside the stored range or authenticating a change of parameters, and names the
chain's block `hd` at its height -/
structure PassesGuards (st : State) (pool : Pool) (m : Incoming) (fin hd : Header) : Prop where
  wf : m.wf = true
  fresh : pool.has m.commit = false
  final : st.blockAt st.mhpc = some fin
  above : fin.acHeight < m.height
  stored : ((decide (m.height < minStoredHeight st.mhpc) || decide (m.height > st.mhpc)) &&
    !existParams st.params (m.height + 1)) = false
  block : st.blockAt m.height = some hd
  id : hd.id = m.block

/-- the range test of step 3 of the validator, read as a proposition -/
theorem stored_iff (st : State) (h : Nat) :
    ((decide (h < minStoredHeight st.mhpc) || decide (h > st.mhpc)) && !existParams st.params (h + 1)) = false ↔
    (minStoredHeight st.mhpc ≤ h ∧ h ≤ st.mhpc) ∨ existParams st.params (h + 1) = true := by
  cases existParams st.params (h + 1) <;>
    simp only [Bool.and_true, Bool.and_false, Bool.not_false, Bool.not_true, Bool.or_eq_false_iff,
      decide_eq_false_iff_not, Nat.not_lt, gt_iff_lt, or_false, or_true, Bool.false_eq_true]

/-- the cleanup of `broadcastCertificate` keeps a height exactly when it is above the removal height and
passes the validator's range test -/
theorem cleanupKeep_iff (st : State) (removal h : Nat) :
    cleanupKeep st removal h = true ↔ removal < h ∧
      ((decide (h < minStoredHeight st.mhpc) || decide (h > st.mhpc)) && !existParams st.params (h + 1)) = false := by
  rw [cleanupKeep]
  by_cases h1 : h ≤ removal
  · rw [if_pos h1]; exact ⟨nofun, fun h2 => absurd h2.1 (Nat.not_lt.mpr h1)⟩
  · rw [if_neg h1, Bool.not_and, ← decide_not, ← decide_not]
    simp only [Nat.not_le, ge_iff_le, gt_iff_lt]
    cases ((decide (h < minStoredHeight st.mhpc) || decide (st.mhpc < h)) && !existParams st.params (h + 1))
    · exact ⟨fun _ => ⟨Nat.not_le.mp h1, rfl⟩, fun _ => rfl⟩
    · exact ⟨nofun, fun h2 => nomatch h2.2⟩

/-- when steps 1–4 let the commit through, steps 5–7 decide -/
theorem scvOne_checks {st : State} {pool : Pool} {m : Incoming} {fin hd : Header}
    (h : PassesGuards st pool m fin hd) : scvOne st pool m = scvCheck st pool m hd := by
  rw [scvOne, h.wf, h.fresh, h.final, h.stored, h.block]
  simp only [Bool.not_true, Bool.false_eq_true, if_false, if_neg (Nat.not_le.mpr h.above), h.id, ne_eq,
    not_true_eq_false]
  rfl

/-- steps 1–4 end the iteration without touching the pool — rejecting only a malformed message, never
accepting — or let the commit through to steps 5–7 -/
theorem scvOne_stops_or_checks (st : State) (pool : Pool) (m : Incoming) :
    (∃ r, scvOne st pool m = (pool, r) ∧ r ≠ some .accept ∧ (r = some .reject → m.wf = false)) ∨
    ∃ fin hd, PassesGuards st pool m fin hd := by
  generalize hr : scvOne st pool m = r
  rw [scvOne] at hr
  cases hwf : m.wf with
  | false => rw [hwf] at hr; exact .inl ⟨_, hr.symm, nofun, fun _ => rfl⟩
  | true =>
    cases hhas : pool.has m.commit with
    | true => rw [hwf, hhas] at hr; exact .inl ⟨_, hr.symm, nofun, nofun⟩
    | false =>
      rw [hwf, hhas] at hr
      cases hfin : st.blockAt st.mhpc with
      | none => rw [hfin] at hr; exact .inl ⟨_, hr.symm, nofun, nofun⟩
      | some fin =>
        simp only [hfin, Bool.not_true, Bool.false_eq_true, if_false] at hr
        by_cases hrem : m.height ≤ fin.acHeight
        · exact .inl ⟨_, ((if_pos hrem).symm.trans hr).symm, nofun, nofun⟩
        rw [if_neg hrem] at hr
        cases hrange : ((decide (m.height < minStoredHeight st.mhpc) || decide (m.height > st.mhpc)) &&
            !existParams st.params (m.height + 1)) with
        | true => rw [hrange] at hr; exact .inl ⟨_, hr.symm, nofun, nofun⟩
        | false =>
          simp only [hrange, Bool.false_eq_true, if_false] at hr
          cases hblk : st.blockAt m.height with
          | none => rw [hblk] at hr; exact .inl ⟨_, hr.symm, nofun, nofun⟩
          | some hd =>
            by_cases hid : hd.id = m.block
            · exact .inr ⟨fin, hd, hwf, hhas, hfin, Nat.not_le.mp hrem, hrange, hblk, hid⟩
            · rw [hblk] at hr; exact .inl ⟨_, ((if_pos hid).symm.trans hr).symm, nofun, nofun⟩

/-- what one iteration does: the pool is unchanged, or the verified commit of a well-formed message
was added; the result is never `accept` -/
theorem scvOne_spec (st : State) (pool : Pool) (m : Incoming) :
    ((scvOne st pool m).1 = pool ∨
      ((scvOne st pool m).1 = pool.add m.commit ∧ VerifiedOnChain st m.commit ∧ m.wf = true)) ∧
    (scvOne st pool m).2 ≠ some .accept := by
  rcases scvOne_stops_or_checks st pool m with ⟨r, h, hr, -⟩ | ⟨fin, hd, hg⟩
  · rw [h]; exact ⟨.inl rfl, hr⟩
  · rw [scvOne_checks hg, scvCheck]
    cases hp : getParams st.params m.height with
    | none => exact ⟨.inl rfl, nofun⟩
    | some p =>
      dsimp only
      cases hv : findValidator p.validators m.signer with
      | none => exact ⟨.inl rfl, nofun⟩
      | some v =>
        dsimp only
        cases hsig : verifySingle v.key (certMsg st hd) m.sig with
        | false => exact ⟨.inl rfl, nofun⟩
        | true => exact ⟨.inr ⟨rfl, ⟨hd, p, v, hg.block, hg.id, hp, hv, eq_of_beq hsig⟩, hg.wf⟩, nofun⟩

theorem scvOne_adds {P : Commit → Prop} {st : State} {m : Incoming}
    (hP : VerifiedOnChain st m.commit → m.wf = true → P m.commit) (pool : Pool) : Adds P pool (scvOne st pool m).1 := by
  rcases (scvOne_spec st pool m).1 with h | ⟨h, hv, hwf⟩ <;> rw [h]
  · exact .refl
  · exact .add .refl (hP hv hwf)

theorem scv_step (st : State) (pool : Pool) (m : Incoming) (r : List Incoming) :
    singleCommitValidator st pool (m :: r) =
      match (scvOne st pool m).2 with
      | none => singleCommitValidator st (scvOne st pool m).1 r
      | some v => ((scvOne st pool m).1, v) := by
  rw [singleCommitValidator]
  rcases hs : scvOne st pool m with ⟨p, _ | v⟩ <;> rfl

theorem scv_adds {P : Commit → Prop} {st : State} {msgs : List Incoming}
    (hP : ∀ m ∈ msgs, VerifiedOnChain st m.commit → m.wf = true → P m.commit) :
    ∀ pool, Adds P pool (singleCommitValidator st pool msgs).1 := by
  induction msgs with
  | nil => exact fun _ => .refl
  | cons m r ih =>
    intro pool
    have h1 := scvOne_adds (hP m List.mem_cons_self) pool
    rw [scv_step]
    split
    · exact h1.trans (ih (fun m' hm' => hP m' (List.mem_cons_of_mem _ hm')) _)
    · exact h1

/-! ## `Certify` -/

/-- the description of an entry created by `Certify` for `addr` with key `sk` -/
def CertEntry (st : State) (addr sk : Nat) (c : Commit) : Prop :=
  c.signer = addr ∧ c.internal = true ∧
  ∃ hd p v, st.blockAt c.height = some hd ∧ hd.id = c.block ∧
    getParams st.params c.height = some p ∧ findValidator p.validators addr = some v ∧
    c.sig = sign sk (certMsg st hd)

theorem CertEntry.verified {st : State} {addr sk : Nat} {c : Commit}
    (hkey : ∀ h p v, getParams st.params h = some p → findValidator p.validators addr = some v → v.key = sk)
    (h : CertEntry st addr sk c) : VerifiedOnChain st c := by
  obtain ⟨hs, _, hd, p, v, h1, h2, h3, h4, h5⟩ := h
  refine ⟨hd, p, v, h1, h2, h3, ?_, ?_⟩
  · rw [hs]; exact h4
  · rw [hkey _ p v h3 h4]; exact h5

/-- `certifyAt` leaves the pool as it is or adds one `CertEntry` of height `h` -/
theorem certifyAt_adds {P : Commit → Prop} {st : State} {h addr sk : Nat}
    (hP : ∀ c, CertEntry st addr sk c → c.height = h → P c) (pool : Pool) :
    Adds P pool (certifyAt st pool h addr sk).1 := by
  unfold certifyAt
  split
  · exact .refl
  rename_i p hp
  split
  · exact .refl
  rename_i v hv
  split
  · exact .refl
  rename_i hd hblk
  simp only
  split
  · exact .refl
  · exact .add .refl (hP _ ⟨rfl, rfl, hd, p, v, hblk, rfl, hp, hv, rfl⟩ rfl)

theorem certifyLoop_cons (st : State) (addr sk : Nat) (pool : Pool) (i : Nat) (r : List Nat) :
    (certifyLoop st addr sk pool (i :: r)).1 =
      (certifyLoop st addr sk
        (if existParams st.params (i + 1) then certifyAt st pool i addr sk else (pool, true)).1 r).1 := by
  rw [certifyLoop]

theorem certifyLoop_adds {P : Commit → Prop} {st : State} {addr sk : Nat} {hs : List Nat}
    (hP : ∀ c, CertEntry st addr sk c → c.height ∈ hs → existParams st.params (c.height + 1) = true → P c) :
    ∀ pool, Adds P pool (certifyLoop st addr sk pool hs).1 := by
  induction hs with
  | nil => exact fun _ => .refl
  | cons i r ih =>
    intro pool
    rw [certifyLoop_cons]
    refine Adds.trans ?_ (ih (fun c h1 h2 => hP c h1 (List.mem_cons_of_mem _ h2)) _)
    split
    · rename_i hex
      exact certifyAt_adds (fun c h1 h2 => hP c h1 (h2 ▸ List.mem_cons_self) (h2 ▸ hex)) pool
    · exact .refl

/-- `Certify` adds entries for heights of `(frm, to]` whose successor starts new parameters, and for `to` -/
theorem certify_adds {P : Commit → Prop} {st : State} {frm to addr sk : Nat}
    (hP : ∀ c, CertEntry st addr sk c → frm ≤ to →
      (frm < c.height ∧ c.height ≤ to ∧ existParams st.params (c.height + 1) = true) ∨ c.height = to → P c)
    (pool : Pool) : Adds P pool (certify st pool frm to addr sk).1 := by
  have hloop : Adds P pool (certifyLoop st addr sk pool (List.range' (frm + 1) (to - frm))).1 :=
    certifyLoop_adds (fun c h1 h2 h3 => by
      have : frm < c.height ∧ c.height ≤ to := by have := List.mem_range'_1.mp h2; omega
      exact hP c h1 (Nat.le_of_lt (Nat.lt_of_lt_of_le this.1 this.2)) (.inl ⟨this.1, this.2, h3⟩)) pool
  unfold certify
  split
  · exact .refl
  rename_i hle
  simp only
  split
  · exact hloop
  split
  · exact hloop
  · exact hloop.trans (certifyAt_adds (fun c h1 h2 => hP c h1 (Nat.not_lt.mp hle) (.inr h2)) _)

/-! ## pool operations -/

theorem cleanup_sublist (pool : Pool) (keep : Nat → Bool) : (pool.cleanup keep).all.Sublist pool.all := by
  simp only [Pool.cleanup, Pool.all]
  exact List.Sublist.append List.filter_sublist List.filter_sublist

/-- what holds of the first component in both branches holds of it for the conditional -/
theorem fst_ite {α β : Type} {c : Prop} [Decidable c] {a b : α × β} {P : α → Prop} (ha : P a.1) (hb : P b.1) :
    P (if c then a else b).1 := by
  split <;> assumption

/-- every exit of `Pool.Select` returns the pool with one or both lists sorted -/
theorem select_perm (pool : Pool) (mhpc limit : Nat) : pool.all.Perm (pool.select mhpc limit).1.all := by
  have h1 : pool.all.Perm (⟨isort heightLe pool.nonGossiped, pool.gossiped⟩ : Pool).all :=
    (List.Perm.refl _).append (isort_perm _ _).symm
  have h2 : pool.all.Perm (⟨isort heightLe pool.nonGossiped, isort heightLe pool.gossiped⟩ : Pool).all :=
    (isort_perm _ _).symm.append (isort_perm _ _).symm
  let P := fun p : Pool => pool.all.Perm p.all
  exact fst_ite (P := P) h1 (fst_ite (P := P) h2 (fst_ite (P := P) h2 (fst_ite (P := P) h2 h2)))

theorem upgrade_perm (pool : Pool) (sel : List Commit) : pool.all.Perm (pool.upgrade sel).all := by
  simp only [Pool.upgrade, Pool.all, List.append_assoc]
  exact List.Perm.append (List.Perm.refl _) (List.filter_append_perm _ _).symm

end LiskVerif.Cert
