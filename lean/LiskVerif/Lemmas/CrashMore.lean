/-
  C13 beyond one step on the history machine (Model/Crash.lean); the definitions here are specification-level:
  what is assumed of pebble, stated as a `Prop`, and what follows from it.

  * `StepOK` / `delta`: runs the monitor accepts and their durable effect, whatever a former step left in process
    memory; crash points inside a sequence of steps.
  * `Storage` / `PebbleAssumption`: a durable store as the engine sees pebble, with the ONE assumption the property
    rests on: `Apply(batch, Sync)` of a batch of ANY size is all-or-nothing at a crash, and a crash while no `Apply`
    is in flight (also while the store is being re-opened) loses nothing. `SMach` runs the model's events on such a
    store; `CrashAt` are the states a restart can find (the process died between two events, inside a `Write`, or
    inside a direct `Set` / `Del`).
    `walStorage` (a write-ahead log whose torn tail recovery discards) and `walStorageStrict` (no torn tail) satisfy
    the assumption; `opwiseStorage` applies a batch key by key (it does not: `C13_assumption_necessary`).
  * `Reach`: executions with any number of steps, crashes and restarts; invariants of complete steps hold in them.
  * `Stmt.sites` and the predicates on actions the per-site obligations of Props/C13_More and Props/C16_Write are
    stated with; `splitAtWrite` cuts a run at its first `Write` (the crash point of the non-vacuity examples).
  * batches by the keys they name; the restart decision of `Executer.Init` on the abstract node database.
-/
import LiskVerif.Lemmas.Crash

namespace LiskVerif.Crash

/-! ## Accepted runs and sequences of steps -/

section Steps
variable {κ ν : Type}

/-- a run the single-write monitor accepts from its initial state: what `singleWrite s` gives for
    every path of `s` -/
def StepOK (evs : List (Ev κ ν)) : Prop := ∃ st', runMon St.init (evs.map Ev.abs) = some st'

theorem stepOK_of_singleWrite {s : Stmt} (hs : singleWrite s = true) {evs : List (Ev κ ν)} {o : Out}
    (hex : Exec s (evs.map Ev.abs) o) : StepOK evs := by
  obtain ⟨st', h, _⟩ := accept_of_singleWriteFrom hs hex
  exact ⟨st', h⟩

/-- the durable effect of a run: the batches it appends to an empty history -/
def delta (evs : List (Ev κ ν)) : List (List (Op κ ν)) := ((⟨[], []⟩ : Mach κ ν).run evs).hist

/-- an accepted run appends nothing to the durable history, or ONE batch with everything it staged — whatever
    machine it starts from (what former steps left in process memory does not matter) -/
theorem run_hist_cases {evs : List (Ev κ ν)} (hok : StepOK evs) :
    (∀ m : Mach κ ν, (m.run evs).hist = m.hist) ∨ (∀ m : Mach κ ν, (m.run evs).hist = m.hist ++ [stagedOps evs]) := by
  obtain ⟨st', h⟩ := hok
  cases hw : st'.written with
  | false => exact .inl fun m => (final_of_accept evs none st' h m nofun).2 hw
  | true => exact .inr fun m => (final_of_accept evs none st' h m nofun).1 hw

theorem run_hist_delta {evs : List (Ev κ ν)} (hok : StepOK evs) (m : Mach κ ν) :
    (m.run evs).hist = m.hist ++ delta evs := by
  rcases run_hist_cases hok with h | h <;> rw [delta, h, h] <;> simp

/-- the effect of an accepted run is nothing or ONE batch with everything it staged -/
theorem delta_cases {evs : List (Ev κ ν)} (hok : StepOK evs) :
    delta evs = [] ∨ delta evs = [stagedOps evs] :=
  (run_hist_cases hok).imp (· _) (· _)

/-- **before or after**: at any crash point of an accepted run, from any machine state, the durable
    history is the one before the run or the one after the complete run -/
theorem prefix_hist_cases {cur p : List (Ev κ ν)} (hok : StepOK cur) (hp : p <+: cur) (m : Mach κ ν) :
    (m.run p).hist = m.hist ∨ (m.run p).hist = (m.run cur).hist := by
  obtain ⟨st', h⟩ := hok
  exact (atomic_of_accept cur none st' h m nofun p hp).imp_right fun ⟨a, b⟩ => a.trans b.symm

theorem stepOK_prefix {cur p : List (Ev κ ν)} (hok : StepOK cur) (hp : p <+: cur) : StepOK p := by
  obtain ⟨q, rfl⟩ := hp
  obtain ⟨st', h⟩ := hok
  rw [List.map_append] at h
  obtain ⟨st1, h1, _⟩ := runMon_append_iff.mp h
  exact ⟨st1, h1⟩

/-- a prefix of `a ++ b` is a prefix of `a` or `a` followed by a prefix of `b` -/
theorem prefix_append_cases {α : Type} (a b p : List α) (h : p <+: a ++ b) :
    p <+: a ∨ ∃ t, p = a ++ t ∧ t <+: b :=
  (List.prefix_or_prefix_of_prefix h (List.prefix_append a b)).imp_right fun ⟨t, e⟩ =>
    ⟨t, e.symm, (List.prefix_append_right_inj a).mp (e ▸ h)⟩

/-- a crash point inside a non-empty sequence of steps lies in one of them: the steps before it
    are complete -/
theorem prefix_flatten_split {α : Type} : ∀ (steps : List (List α)) (p : List α), steps ≠ [] →
    p <+: steps.flatten →
    ∃ pre cur post p', steps = pre ++ cur :: post ∧ p = pre.flatten ++ p' ∧ p' <+: cur
  | [], _, h, _ => absurd rfl h
  | c :: r, p, _, hp => by
    rw [List.flatten_cons] at hp
    cases prefix_append_cases c r.flatten p hp with
    | inl h => exact ⟨[], c, r, p, rfl, by simp, h⟩
    | inr h =>
      obtain ⟨t, rfl, ht⟩ := h
      by_cases hr : r = []
      · subst hr
        simp only [List.flatten_nil, List.prefix_nil] at ht
        subst ht
        exact ⟨[], c, [], c, rfl, by simp, List.prefix_refl _⟩
      · obtain ⟨pre, cur, post, p', e1, e2, e3⟩ := prefix_flatten_split r t hr ht
        refine ⟨c :: pre, cur, post, p', by rw [e1]; rfl, by rw [e2]; simp, e3⟩

/-- the durable history after a sequence of accepted steps -/
theorem runs_hist : ∀ (steps : List (List (Ev κ ν))), (∀ evs, evs ∈ steps → StepOK evs) →
    ∀ m : Mach κ ν, (m.run steps.flatten).hist = m.hist ++ steps.flatMap delta
  | [], _, m => by simp [Mach.run]
  | c :: r, h, m => by
    rw [List.flatten_cons, run_append, runs_hist r (fun e he => h e (List.mem_cons_of_mem _ he)),
      run_hist_delta (h c List.mem_cons_self)]
    simp [List.flatMap_cons]

end Steps

/-! ## Abstract durable store; the assumption on pebble -/

/-- a durable store as the engine sees pebble through `pkg/db` -/
structure Storage (σ κ ν : Type) where
  /-- the database content a process that opens the store sees -/
  content : σ → DBOf κ ν
  /-- `DB.Write(batch)` = `pebble.Apply(batch, Sync)` has returned -/
  apply : σ → List (Op κ ν) → σ
  /-- what a restart may find if the process died while no `Apply` was in flight (in particular:
      while a former crash was being recovered) -/
  crashIdle : σ → σ → Prop
  /-- what a restart may find if the process died inside `Apply(batch, Sync)` -/
  crashApply : σ → List (Op κ ν) → σ → Prop

/-- **The assumption on pebble** (trusted, not proved about pebble): a synced `Apply` of a batch —
    of ANY size, `b` is an arbitrary list — is durable once it returned and all-or-nothing if the
    process dies inside it; dying while idle / while recovering loses nothing. -/
structure PebbleAssumption {σ κ ν : Type} [DecidableEq κ] (S : Storage σ κ ν) : Prop where
  apply_content : ∀ s b, S.content (S.apply s b) = applyBatch (S.content s) b
  crash_idle : ∀ s s', S.crashIdle s s' → S.content s' = S.content s
  crash_apply : ∀ s b s', S.crashApply s b s' →
    S.content s' = S.content s ∨ S.content s' = applyBatch (S.content s) b

/-- the process: a store and the batches in process memory -/
structure SMach (σ κ ν : Type) where
  store : σ
  pend : List (String × List (Op κ ν))

section StorageMachine
variable {σ κ ν : Type}

def SMach.pendOf (m : SMach σ κ ν) (b : String) : List (Op κ ν) := (m.pend.lookup b).getD []

/-- the model's events on a store (same as `Mach.step`, the history replaced by the store) -/
def SMach.step (S : Storage σ κ ν) (m : SMach σ κ ν) : Ev κ ν → SMach σ κ ν
  | .newBatch b => { m with pend := (b, []) :: m.pend }
  | .batchOp b op => { m with pend := (b, m.pendOf b ++ [op]) :: m.pend }
  | .write b => { m with store := S.apply m.store (m.pendOf b) }
  | .direct op => { m with store := S.apply m.store [op] }
  | .other _ => m

def SMach.run (S : Storage σ κ ν) (m : SMach σ κ ν) (evs : List (Ev κ ν)) : SMach σ κ ν :=
  evs.foldl (SMach.step S) m

theorem srun_append (S : Storage σ κ ν) (m : SMach σ κ ν) (p q : List (Ev κ ν)) :
    SMach.run S m (p ++ q) = SMach.run S (SMach.run S m p) q := by
  simp [SMach.run, List.foldl_append]

/-- the store states a restart can find when the process dies somewhere in the run `evs`:
    between two events, inside a `Write`, or inside a direct `Set`/`Del` -/
inductive CrashAt (S : Storage σ κ ν) (m0 : SMach σ κ ν) (evs : List (Ev κ ν)) : σ → Prop where
  | idle (p : List (Ev κ ν)) (s' : σ) : p <+: evs → S.crashIdle (SMach.run S m0 p).store s' →
      CrashAt S m0 evs s'
  | inWrite (p : List (Ev κ ν)) (b : String) (s' : σ) : p ++ [Ev.write b] <+: evs →
      S.crashApply (SMach.run S m0 p).store ((SMach.run S m0 p).pendOf b) s' → CrashAt S m0 evs s'
  | inDirect (p : List (Ev κ ν)) (op : Op κ ν) (s' : σ) : p ++ [Ev.direct op] <+: evs →
      S.crashApply (SMach.run S m0 p).store [op] s' → CrashAt S m0 evs s'

variable [DecidableEq κ]

/-- simulation by the model's history machine -/
def Sim (S : Storage σ κ ν) (c0 : DBOf κ ν) (m : SMach σ κ ν) (mm : Mach κ ν) : Prop :=
  m.pend = mm.pend ∧ S.content m.store = dbOf c0 mm.hist

theorem sim_step {S : Storage σ κ ν} (hS : PebbleAssumption S) {c0 : DBOf κ ν} {m : SMach σ κ ν}
    {mm : Mach κ ν} (h : Sim S c0 m mm) (e : Ev κ ν) : Sim S c0 (SMach.step S m e) (mm.step e) := by
  obtain ⟨hp, hc⟩ := h
  have hpo : ∀ b, m.pendOf b = mm.pendOf b := fun b => by simp [SMach.pendOf, Mach.pendOf, hp]
  cases e with
  | newBatch b => exact ⟨by simp [SMach.step, Mach.step, hp], hc⟩
  | batchOp b op => exact ⟨by simp [SMach.step, Mach.step, hp, hpo], hc⟩
  | write b =>
    refine ⟨hp, ?_⟩
    simp only [SMach.step, Mach.step]
    rw [hS.apply_content, dbOf_append_one, hc, hpo]
  | direct op =>
    refine ⟨hp, ?_⟩
    simp only [SMach.step, Mach.step]
    rw [hS.apply_content, dbOf_append_one, hc]
  | other a => exact ⟨hp, hc⟩

theorem sim_run {S : Storage σ κ ν} (hS : PebbleAssumption S) {c0 : DBOf κ ν} :
    ∀ (evs : List (Ev κ ν)) {m : SMach σ κ ν} {mm : Mach κ ν}, Sim S c0 m mm →
      Sim S c0 (SMach.run S m evs) (mm.run evs)
  | _, _, _, h => List.foldl_rel h fun e _ _ _ h' => sim_step hS h' e

/-- the content of the store after a run is the model's database after the same run -/
theorem srun_content {S : Storage σ κ ν} (hS : PebbleAssumption S) (m : SMach σ κ ν)
    (evs : List (Ev κ ν)) :
    S.content (SMach.run S m evs).store =
      dbOf (S.content m.store) ((⟨[], m.pend⟩ : Mach κ ν).run evs).hist :=
  (sim_run hS evs (c0 := S.content m.store) (m := m) (mm := ⟨[], m.pend⟩) ⟨rfl, rfl⟩).2

/-- **Refinement of the crash semantics.** Whatever a restart finds after the process died anywhere
    in a run — also inside a `Write` — has the content of the store at some event boundary of the
    run: the model's "a crash leaves the history at a prefix of the run" loses no behaviour. No
    hypothesis on the run. -/
theorem crashAt_refines {S : Storage σ κ ν} (hS : PebbleAssumption S) {m0 : SMach σ κ ν}
    {evs : List (Ev κ ν)} {s' : σ} (h : CrashAt S m0 evs s') :
    ∃ q, q <+: evs ∧ S.content s' = S.content (SMach.run S m0 q).store := by
  -- dying inside the `Apply` of event `e` (a `Write` or a direct `Set`/`Del`) leaves the content before or after `e`
  have inApply : ∀ (p : List (Ev κ ν)) (e : Ev κ ν) (B : List (Op κ ν)), p ++ [e] <+: evs →
      (SMach.run S m0 (p ++ [e])).store = S.apply (SMach.run S m0 p).store B →
      S.crashApply (SMach.run S m0 p).store B s' → ∃ q, q <+: evs ∧ S.content s' = S.content (SMach.run S m0 q).store := by
    intro p e B hp he hc
    cases hS.crash_apply _ _ _ hc with
    | inl h => exact ⟨p, List.IsPrefix.trans (List.prefix_append _ _) hp, h⟩
    | inr h => exact ⟨p ++ [e], hp, by rw [h, he, hS.apply_content]⟩
  cases h with
  | idle p s' hp hc => exact ⟨p, hp, hS.crash_idle _ _ hc⟩
  | inWrite p b s' hp hc => exact inApply p _ _ hp (by rw [srun_append]; rfl) hc
  | inDirect p op s' hp hc => exact inApply p _ _ hp (by rw [srun_append]; rfl) hc

/-- the content after an accepted step: the old content with the step's effect applied -/
theorem srun_step_content {S : Storage σ κ ν} (hS : PebbleAssumption S) (m : SMach σ κ ν)
    {evs : List (Ev κ ν)} (hok : StepOK evs) :
    S.content (SMach.run S m evs).store = dbOf (S.content m.store) (delta evs) := by
  rw [srun_content hS, run_hist_delta hok]; rfl

/-- at an event boundary inside an accepted step the store has the content before the step or the
    content after the complete step -/
theorem srun_prefix_cases {S : Storage σ κ ν} (hS : PebbleAssumption S) (m : SMach σ κ ν)
    {evs q : List (Ev κ ν)} (hok : StepOK evs) (hq : q <+: evs) :
    S.content (SMach.run S m q).store = S.content m.store ∨
    S.content (SMach.run S m q).store = S.content (SMach.run S m evs).store := by
  rw [srun_content hS, srun_content hS]
  cases prefix_hist_cases hok hq (⟨[], m.pend⟩ : Mach κ ν) with
  | inl h1 => left; rw [h1]; rfl
  | inr h1 => right; rw [h1]

/-- **before or after, on the store**: a restart after a crash anywhere in an accepted step (from
    any process state) finds the content before the step or the content after the complete step -/
theorem crashAt_before_or_after {S : Storage σ κ ν} (hS : PebbleAssumption S) (m : SMach σ κ ν)
    {evs : List (Ev κ ν)} (hok : StepOK evs) {s' : σ} (h : CrashAt S m evs s') :
    S.content s' = S.content m.store ∨ S.content s' = S.content (SMach.run S m evs).store := by
  obtain ⟨q, hq, hc⟩ := crashAt_refines hS h
  rw [hc]
  exact srun_prefix_cases hS m hok hq

/-- the store after an accepted step: nothing happened, or the whole staged batch was applied -/
theorem srun_step_cases {S : Storage σ κ ν} (hS : PebbleAssumption S) (m : SMach σ κ ν)
    {evs : List (Ev κ ν)} (hok : StepOK evs) :
    S.content (SMach.run S m evs).store = S.content m.store ∨
    S.content (SMach.run S m evs).store = applyBatch (S.content m.store) (stagedOps evs) := by
  rw [srun_step_content hS m hok]
  rcases delta_cases hok with h | h <;> rw [h]
  · exact .inl rfl
  · exact .inr rfl

/-- **none or all, on the store**: a restart after a crash anywhere in an accepted step finds the content
before the step or that content with the whole staged batch -/
theorem crashAt_none_or_all {S : Storage σ κ ν} (hS : PebbleAssumption S) (m : SMach σ κ ν)
    {evs : List (Ev κ ν)} (hok : StepOK evs) {s' : σ} (h : CrashAt S m evs s') :
    S.content s' = S.content m.store ∨ S.content s' = applyBatch (S.content m.store) (stagedOps evs) :=
  (crashAt_before_or_after hS m hok h).elim .inl fun e => e ▸ srun_step_cases hS m hok

end StorageMachine

/-! ## A write-ahead-log store (satisfies the assumption) and a key-by-key store -/

section Wal
variable {κ ν : Type}

/-- a WAL record: a complete batch record (checksum good) or a torn one (a partial write) -/
inductive Rec (κ ν : Type) where
  | full (b : List (Op κ ν))
  | torn

/-- log replay: complete records in order; the first torn record and everything behind it is
    discarded -/
def recoverWal : List (Rec κ ν) → List (List (Op κ ν))
  | .full b :: r => b :: recoverWal r
  | _ => []

/-- the log as recovery leaves it (torn tail truncated) -/
def cleanWal (w : List (Rec κ ν)) : List (Rec κ ν) := (recoverWal w).map Rec.full

theorem recoverWal_full_append (l : List (List (Op κ ν))) (r : List (Rec κ ν)) :
    recoverWal (l.map Rec.full ++ r) = l ++ recoverWal r := by
  induction l with
  | nil => rfl
  | cons b l ih => simp [recoverWal, ih]

/-- a torn record and whatever follows it is invisible -/
theorem recoverWal_append_torn : ∀ (w junk : List (Rec κ ν)),
    recoverWal (w ++ Rec.torn :: junk) = recoverWal w
  | [], _ => rfl
  | .full b :: r, junk => by simp [recoverWal, recoverWal_append_torn r junk]
  | .torn :: r, junk => rfl

/-- recovery is idempotent: recovering a recovered log changes nothing -/
theorem recoverWal_clean (w : List (Rec κ ν)) : recoverWal (cleanWal w) = recoverWal w :=
  (List.append_nil _ ▸ recoverWal_full_append (recoverWal w) []).trans (List.append_nil _)

/-- dying inside `Apply(b, Sync)`: the record did not reach the disk; or it reached it completely
    (synced, or unsynced but it survived); or a part of it did (torn), possibly followed by stale
    bytes of a recycled log file -/
inductive WalCrashApply (w : List (Rec κ ν)) (b : List (Op κ ν)) : List (Rec κ ν) → Prop where
  | lost : WalCrashApply w b (cleanWal w)
  | durable : WalCrashApply w b (cleanWal w ++ [Rec.full b])
  | tornTail (junk : List (Rec κ ν)) : WalCrashApply w b (cleanWal w ++ Rec.torn :: junk)

/-- the variant of the property text, "unsynced data lost": no torn tail -/
inductive WalCrashApplyStrict (w : List (Rec κ ν)) (b : List (Op κ ν)) : List (Rec κ ν) → Prop where
  | lost : WalCrashApplyStrict w b (cleanWal w)
  | durable : WalCrashApplyStrict w b (cleanWal w ++ [Rec.full b])

/-- dying while idle or while recovering: the log as it was, the log already truncated by the
    interrupted recovery, or with unreadable bytes behind it -/
inductive WalCrashIdle (w : List (Rec κ ν)) : List (Rec κ ν) → Prop where
  | same : WalCrashIdle w w
  | cleaned : WalCrashIdle w (cleanWal w)
  | junk (j : List (Rec κ ν)) : WalCrashIdle w (w ++ Rec.torn :: j)

variable [DecidableEq κ]

/-- write-ahead-log store over a base database: `Apply` appends ONE record per batch, whatever
    its size -/
def walStorage (base : DBOf κ ν) : Storage (List (Rec κ ν)) κ ν where
  content w := dbOf base (recoverWal w)
  apply w b := cleanWal w ++ [Rec.full b]
  crashIdle := WalCrashIdle
  crashApply := WalCrashApply

def walStorageStrict (base : DBOf κ ν) : Storage (List (Rec κ ν)) κ ν where
  content w := dbOf base (recoverWal w)
  apply w b := cleanWal w ++ [Rec.full b]
  crashIdle w w' := w' = w
  crashApply := WalCrashApplyStrict

theorem wal_assumption (base : DBOf κ ν) : PebbleAssumption (walStorage base) where
  apply_content w b := by
    simp only [walStorage, cleanWal]
    rw [recoverWal_full_append]
    simp [recoverWal, dbOf_append_one]
  crash_idle w w' h := by
    cases h with
    | same => rfl
    | cleaned => simp only [walStorage]; rw [recoverWal_clean]
    | junk j => simp only [walStorage]; rw [recoverWal_append_torn]
  crash_apply w b w' h := by
    cases h with
    | lost => left; simp only [walStorage]; rw [recoverWal_clean]
    | durable =>
      right
      simp only [walStorage, cleanWal]
      rw [recoverWal_full_append]
      simp [recoverWal, dbOf_append_one]
    | tornTail junk =>
      left
      simp only [walStorage]
      rw [recoverWal_append_torn, recoverWal_clean]

theorem wal_assumption_strict (base : DBOf κ ν) : PebbleAssumption (walStorageStrict base) where
  apply_content := (wal_assumption base).apply_content
  crash_idle w w' h := by cases h; rfl
  crash_apply w b w' h := by
    cases h with
    | lost => exact (wal_assumption base).crash_apply w b _ .lost
    | durable => exact (wal_assumption base).crash_apply w b _ .durable

/-- a store that applies a batch key by key (no batch atomicity): dying inside `Apply` leaves any
    prefix of the batch applied -/
def opwiseStorage : Storage (DBOf κ ν) κ ν where
  content db := db
  apply db b := applyBatch db b
  crashIdle db db' := db' = db
  crashApply db b db' := ∃ k, k ≤ b.length ∧ db' = applyBatch db (b.take k)

end Wal

/-! ## Executions with crashes and restarts -/

section Reach
variable {σ κ ν : Type} [DecidableEq κ]

/-- process states reachable from a store `s0` by complete steps, by dying anywhere inside a step
    (or idle) and restarting with empty process memory, and by dying again while restarting.
    `Step c evs`: the runs the node may perform as one step on a database with content `c`. -/
inductive Reach (S : Storage σ κ ν) (Step : DBOf κ ν → List (Ev κ ν) → Prop) (s0 : σ) :
    SMach σ κ ν → Prop where
  | init : Reach S Step s0 ⟨s0, []⟩
  | step {m : SMach σ κ ν} {evs : List (Ev κ ν)} : Reach S Step s0 m → Step (S.content m.store) evs →
      Reach S Step s0 (SMach.run S m evs)
  | crash {m : SMach σ κ ν} {evs : List (Ev κ ν)} {s' : σ} : Reach S Step s0 m →
      Step (S.content m.store) evs → CrashAt S m evs s' → Reach S Step s0 ⟨s', []⟩
  | recrash {m : SMach σ κ ν} {s' : σ} : Reach S Step s0 m → S.crashIdle m.store s' →
      Reach S Step s0 ⟨s', []⟩

/-- **Crash-free invariants are crash invariants.** An invariant of the database content that
    every complete step preserves holds in every state reachable with any number of crashes
    (between any two events, inside a `Write` or inside a direct `Set` / `Del`) and restarts. -/
theorem reach_invariant {S : Storage σ κ ν} (hS : PebbleAssumption S)
    {Step : DBOf κ ν → List (Ev κ ν) → Prop} (hok : ∀ c evs, Step c evs → StepOK evs)
    (I : DBOf κ ν → Prop) (hI : ∀ c evs, I c → Step c evs → I (dbOf c (delta evs)))
    {s0 : σ} (h0 : I (S.content s0)) {m : SMach σ κ ν} (h : Reach S Step s0 m) :
    I (S.content m.store) := by
  induction h with
  | init => exact h0
  | step _ hs ih =>
    rw [srun_step_content hS _ (hok _ _ hs)]
    exact hI _ _ ih hs
  | crash _ hs hc ih =>
    cases crashAt_before_or_after hS _ (hok _ _ hs) hc with
    | inl e => simp only; rw [e]; exact ih
    | inr e =>
      simp only
      rw [e, srun_step_content hS _ (hok _ _ hs)]
      exact hI _ _ ih hs
  | recrash _ hc ih => simp only; rw [hS.crash_idle _ _ hc]; exact ih

end Reach

/-! ## Action sites of a skeleton -/

/-- every action site of a skeleton (a call that was not inlined shows up as `unknown`) -/
def Stmt.sites : Stmt → List Act
  | .act a => [a]
  | .seq s t => sites s ++ sites t
  | .choice s t => sites s ++ sites t
  | .loop s => sites s
  | .scope s => sites s
  | .tryCall c a b => sites c ++ sites a ++ sites b
  | .call f _ => [.unknown ("call " ++ f)]
  | _ => []

/-- every action on every path of a skeleton is one of its sites -/
theorem exec_sub_sites {s : Stmt} {tr : List Act} {o : Out} (h : Exec s tr o) :
    ∀ a, a ∈ tr → a ∈ s.sites := by
  induction h with
  | skip | ret | retErr | brk | cont | loopDone => exact fun _ h => nomatch h
  | act a => exact fun _ h => h
  | seqFall _ _ ih1 ih2 =>
    exact fun a ha => List.mem_append.mpr ((List.mem_append.mp ha).imp (ih1 a) (ih2 a))
  | seqStop _ _ ih | choiceL _ ih => exact fun a ha => List.mem_append_left _ (ih a ha)
  | choiceR _ ih => exact fun a ha => List.mem_append_right _ (ih a ha)
  | loopIter _ _ _ ih1 ih2 => exact fun a ha => (List.mem_append.mp ha).elim (ih1 a) (ih2 a)
  | loopBrk _ ih | loopStop _ _ ih | scope _ ih => exact ih
  | tryErr _ _ ih1 ih2 =>
    exact fun a ha => List.mem_append_left _ (List.mem_append.mpr ((List.mem_append.mp ha).imp (ih1 a) (ih2 a)))
  | tryOk _ _ _ ih1 ih2 =>
    exact fun a ha => (List.mem_append.mp ha).elim
      (fun h => List.mem_append_left _ (List.mem_append_left _ (ih1 a h))) (fun h => List.mem_append_right _ (ih2 a h))
/-! predicates on actions, for the obligations on the sites of a skeleton (Props/C13_More, Props/C16_Write) -/

def Act.isStaging : Act → Bool
  | .batchSet _ | .batchDel _ => true
  | _ => false

def Act.isDirect : Act → Bool
  | .directSet | .directDel => true
  | _ => false

def Act.isWrite : Act → Bool
  | .write _ => true
  | _ => false

/-- the batch a mutating action goes to -/
def Act.target : Act → Option String
  | .batchSet b | .batchDel b | .write b | .newBatch b => some b
  | _ => none

/-- the first `Write` of a run -/
def splitAtWrite {κ ν : Type} : List (Ev κ ν) → Option (List (Ev κ ν) × String × List (Ev κ ν))
  | [] => none
  | e :: l => match e with
    | .write b => some ([], b, l)
    | e => (splitAtWrite l).map fun r => (e :: r.1, r.2.1, r.2.2)

theorem splitAtWrite_sound {κ ν : Type} : ∀ (evs p : List (Ev κ ν)) (b : String) (q : List (Ev κ ν)),
    splitAtWrite evs = some (p, b, q) → evs = p ++ Ev.write b :: q := by
  intro evs p b q h
  fun_induction splitAtWrite evs generalizing p
  case case1 => cases h
  case case2 => cases h; rfl
  case case3 l e _ ih =>
    cases hr : splitAtWrite l with
    | none => rw [hr] at h; cases h
    | some r =>
      rw [hr] at h
      cases h
      rw [ih _ hr]
      rfl

/-! ## Batches by the keys they name -/

def Op.key {κ ν : Type} : Op κ ν → κ
  | .set k _ => k
  | .del k => k

/-- a key no operation of the batch names keeps its value -/
theorem applyBatch_untouched {κ ν : Type} [DecidableEq κ] :
    ∀ (L : List (Op κ ν)) (db : DBOf κ ν) (k : κ), (∀ op, op ∈ L → op.key ≠ k) → applyBatch db L k = db k
  | [], _, _, _ => rfl
  | op :: L, db, k, h => by
    have h1 : applyBatch db (op :: L) k = applyBatch (applyOp db op) L k := rfl
    rw [h1, applyBatch_untouched L _ k (fun o ho => h o (List.mem_cons_of_mem _ ho))]
    have hk := h op List.mem_cons_self
    cases op with
    | set k' v => simp only [applyOp]; rw [if_neg (fun e => hk e.symm)]
    | del k' => simp only [applyOp]; rw [if_neg (fun e => hk e.symm)]

/-- batches that index no height above `t` leave the height index above `t` as it was -/
theorem dbOf_index_above (db0 : NodeDB) (t : Nat) {h : Nat} (hh : t < h) : ∀ (hist : List (List (Op Key Val))),
    (hist.all fun B => B.all fun op => match op.key with | .index i => decide (i ≤ t) | _ => true) = true →
    dbOf db0 hist (.index h) = db0 (.index h)
  | [], _ => rfl
  | B :: r, hL => by
    rw [List.all_cons, Bool.and_eq_true] at hL
    have hB : dbOf db0 (B :: r) (.index h) = dbOf (applyBatch db0 B) r (.index h) := rfl
    rw [hB, dbOf_index_above (applyBatch db0 B) t hh r hL.2, applyBatch_untouched B db0 (.index h)]
    intro op hop e
    have := List.all_eq_true.mp hL.1 op hop
    rw [e, decide_eq_true_eq] at this
    exact Nat.not_lt.mpr this hh

/-- two batches have the same effect on a database if they agree on the keys they name -/
theorem effect_eq_of_keys {κ ν : Type} [DecidableEq κ] (db : DBOf κ ν) (L B : List (Op κ ν))
    (h : ∀ k, k ∈ L.map Op.key ++ B.map Op.key → applyBatch db L k = applyBatch db B k) :
    applyBatch db L = applyBatch db B := by
  funext k
  by_cases hk : k ∈ L.map Op.key ++ B.map Op.key
  · exact h k hk
  · rw [List.mem_append, not_or] at hk
    rw [applyBatch_untouched L db k (fun op ho e => hk.1 (List.mem_map.mpr ⟨op, ho, e⟩)),
      applyBatch_untouched B db k (fun op ho e => hk.2 (List.mem_map.mpr ⟨op, ho, e⟩))]

/-! ## Restart (`Executer.Init`) on the abstract node database -/

/-- what `Executer.Init` stages at start for a node configured with genesis block id `gid`:
    `GenesisBlockExist` looks up the height index at the genesis height; absent → the genesis block
    is processed (`processGenesisBlock`); present with the same id → nothing is written; present
    with another id → `Init` fails (nothing is written). `PrepareCache` only reads. -/
def restartBatch (gid : Nat) (db : NodeDB) : Option (List (Op Key Val)) :=
  match db (.index 0) with
  | none => some (genesisBatch gid)
  | some (.id i) => if i = gid then some [] else none
  | some _ => none

/-- the database after a complete restart -/
def restartDB (gid : Nat) (db : NodeDB) : Option NodeDB := (restartBatch gid db).map (applyBatch db)

/-- the databases a node with genesis id `gid` can be started on: a fresh one, or one that satisfies
    the restart invariant and has this genesis block at the bottom of the height index -/
def Recoverable (gid : Nat) (db : NodeDB) : Prop :=
  db = emptyDB ∨ ∃ tip f, NodeInv db tip f ∧ db (.index 0) = some (.id gid)

theorem genesis_index0 (gid : Nat) : applyBatch emptyDB (genesisBatch gid) (.index 0) = some (.id gid) := rfl

theorem Recoverable.empty (gid : Nat) : Recoverable gid emptyDB := .inl rfl

theorem Recoverable.of_inv {gid : Nat} {db : NodeDB} {tip f : Nat} (h : NodeInv db tip f)
    (hi : db (.index 0) = some (.id gid)) : Recoverable gid db :=
  .inr ⟨tip, f, h, hi⟩

/-- a startable database that satisfies the restart invariant has its genesis block (the fresh one satisfies none) -/
theorem Recoverable.index0 {gid : Nat} {db : NodeDB} {tip f : Nat} (h : Recoverable gid db) (hinv : NodeInv db tip f) :
    db (.index 0) = some (.id gid) := by
  rcases h with rfl | ⟨_, _, _, hi⟩
  · exact nomatch hinv.bft
  · exact hi

/-- the genesis state can be started on -/
theorem genesis_recoverable (gid : Nat) : Recoverable gid (applyBatch emptyDB (genesisBatch gid)) :=
  .of_inv (genesis_inv gid) (genesis_index0 gid)

/-- a startable database without genesis block is the fresh one -/
theorem Recoverable.fresh {gid : Nat} {db : NodeDB} (h : Recoverable gid db) (h0 : db (.index 0) = none) :
    db = emptyDB :=
  h.resolve_right fun ⟨_, _, _, hi⟩ => nomatch h0.symm.trans hi

/-- a block step leaves the genesis entry of the height index as it is -/
theorem blockStep_keeps_genesis {db : NodeDB} {tip f tip' f' gid : Nat} {B : List (Op Key Val)}
    (hB : BlockStep db tip f B tip' f') (h : db (.index 0) = some (.id gid)) :
    applyBatch db B (.index 0) = some (.id gid) := by
  cases hB with
  | add id newFin pruned => rw [add_lookup]; simp [h]
  | remove id hf => rw [remove_lookup]; simp [show (0 : Nat) ≠ tip by omega, h]

/-- the restart invariant determines tip and finalized height -/
theorem nodeInv_unique {db : NodeDB} {t1 f1 t2 f2 : Nat} (h1 : NodeInv db t1 f1) (h2 : NodeInv db t2 f2) :
    t1 = t2 ∧ f1 = f2 := by
  have a := h1.bft; rw [h2.bft] at a
  have b := h1.fin; rw [h2.fin] at b
  simp only [Option.some.injEq, Val.num.injEq] at a b
  exact ⟨a.symm, b.symm⟩

end LiskVerif.Crash
