/- Facts about the parts of the transaction-pool model (C14) that need no pool invariant: lists, the sender
lists of txlist.go, the sender map, the choice of the eviction victim. -/
import LiskVerif.Model.TxPool
import LiskVerif.Lemmas.Sort
import LiskVerif.Lemmas.AList

namespace LiskVerif.TxPool

/-! ### generic list facts -/

theorem nodup_map_cons {α β : Type} (f : α → β) {x : α} {l : List α} (hx : ∀ y ∈ l, f y ≠ f x)
    (h : (l.map f).Nodup) : ((x :: l).map f).Nodup := by
  rw [List.map_cons, List.nodup_cons]
  exact ⟨fun hm => by obtain ⟨y, hy, e⟩ := List.mem_map.1 hm; exact hx y hy e, h⟩

theorem length_filter_lt {α : Type} (q : α → Bool) (l : List α) (x : α) (hx : x ∈ l) (hq : q x = false) :
    (l.filter q).length < l.length :=
  List.length_filter_lt_length_iff_exists.2 ⟨x, hx, by simp [hq]⟩

theorem take_range' (k s m : Nat) : (List.range' s m).take k = List.range' s (min k m) := by
  rcases Nat.le_total m k with h | h
  · rw [List.take_range'_of_length_le h, Nat.min_eq_right h]
  · rw [List.take_range'_of_length_ge h, Nat.min_eq_left h]

theorem le_getLast_of_pairwise (l : List Nat) (hi : Nat) (hp : l.Pairwise (· < ·)) (hl : l.getLast? = some hi) :
    hi ∈ l ∧ ∀ x ∈ l, x ≤ hi := by
  obtain ⟨ys, rfl⟩ := List.getLast?_eq_some_iff.1 hl
  refine ⟨by simp, ?_⟩
  intro x hx
  rw [List.pairwise_append] at hp
  rcases List.mem_append.1 hx with h | h
  · exact Nat.le_of_lt (hp.2.2 x h hi (by simp))
  · simp at h; omega

/-! ### processable sets: runs of nonces -/

/-- a strictly ascending list of naturals whose members form an interval -/
def GapFree (l : List Nat) : Prop :=
  l.Pairwise (· < ·) ∧ ∀ x ∈ l, ∀ y ∈ l, ∀ z, x ≤ z → z ≤ y → z ∈ l

theorem gapFree_nil : GapFree [] := ⟨List.Pairwise.nil, by intro x hx; cases hx⟩

theorem mem_demote (proc : List Nat) (t x : Nat) : x ∈ demote proc t ↔ x ∈ proc ∧ x < t := by
  unfold demote
  rw [mem_isort, List.mem_filter]
  simp

theorem demote_eq_filter (proc : List Nat) (t : Nat) (h : proc.Pairwise (· < ·)) :
    demote proc t = proc.filter (fun n => decide (n < t)) := by
  unfold demote
  apply isort_eq_self
  apply List.Pairwise.filter
  exact h.imp (fun hab => by simp [natLe]; omega)

theorem gapFree_demote (proc : List Nat) (t : Nat) (h : GapFree proc) : GapFree (demote proc t) := by
  refine ⟨?_, ?_⟩
  · rw [demote_eq_filter proc t h.1]; exact List.Pairwise.filter _ h.1
  · intro x hx y hy z hxz hzy
    rw [mem_demote] at hx hy ⊢
    exact ⟨h.2 x hx.1 y hy.1 z hxz hzy, by omega⟩

theorem mem_insertNat (x y : Nat) (l : List Nat) : y ∈ insertNat x l ↔ y = x ∨ y ∈ l := by
  induction l with
  | nil => simp [insertNat]
  | cons a r ih => grind [insertNat]  -- the three branches of `insertNat`: before `a`, equal to `a`, further down (`ih`)

theorem mem_sortUniq (l : List Nat) (y : Nat) : y ∈ sortUniq l ↔ y ∈ l := by
  induction l with
  | nil => simp [sortUniq]
  | cons a r ih =>
    show y ∈ insertNat a (sortUniq r) ↔ _
    rw [mem_insertNat, ih]; simp

theorem insertNat_pairwise (x : Nat) (l : List Nat) (h : l.Pairwise (· < ·)) :
    (insertNat x l).Pairwise (· < ·) := by
  induction l with
  | nil => simp [insertNat]
  -- the same three branches; further down, `mem_insertNat` says that `a` is below whatever the new tail holds
  | cons a r ih => grind [insertNat, List.pairwise_cons, mem_insertNat]

theorem sortUniq_pairwise (l : List Nat) : (sortUniq l).Pairwise (· < ·) := by
  induction l with
  | nil => exact List.Pairwise.nil
  | cons a r ih => exact insertNat_pairwise a _ ih

theorem sortUniq_eq_self : ∀ (l : List Nat), l.Pairwise (· < ·) → sortUniq l = l := by
  intro l
  induction l with
  | nil => intro _; rfl
  | cons a r ih =>
    intro h
    rw [List.pairwise_cons] at h
    show insertNat a (sortUniq r) = a :: r
    rw [ih h.2]
    cases r with
    | nil => rfl
    | cons b r' =>
      unfold insertNat
      rw [if_pos (h.1 b List.mem_cons_self)]

theorem takeRun_range (more : List Nat) :
    ∀ first, first :: takeRun first more = List.range' first (1 + (takeRun first more).length) := by
  induction more with
  | nil => intro first; simp [takeRun]
  -- `takeRun` goes on iff `n = first + 1`; then `range'_succ` peels `first` off and `ih` is taken at `n`
  | cons n r ih => grind [takeRun, List.range'_succ]

theorem takeRun_subset : ∀ (more : List Nat) (last x : Nat), x ∈ takeRun last more → x ∈ more := by
  intro more
  induction more with
  | nil => intro last x h; simp [takeRun] at h
  | cons n r ih => grind [takeRun]  -- it stops, or keeps `n` and goes on in `r` (`ih`)

/-- appending the run `first, first+1, …` right after the highest element (or an empty run) keeps a run -/
theorem gapFree_sortUniq_append (proc : List Nat) (first j : Nat) (h : GapFree proc)
    (hfirst : ∀ hi, proc.getLast? = some hi → j = 0 ∨ first = hi + 1) :
    GapFree (sortUniq (proc ++ List.range' first j)) := by
  refine ⟨sortUniq_pairwise _, ?_⟩
  intro x hx y hy z hxz hzy
  simp only [mem_sortUniq, List.mem_append, List.mem_range'_1] at hx hy ⊢
  -- a member of `proc` lies below the run, which starts right after the highest one
  have hlow : ∀ w ∈ proc, ∃ hi ∈ proc, w ≤ hi ∧ (j = 0 ∨ first = hi + 1) := by
    intro w hw
    cases hlast : proc.getLast? with
    | none => rw [List.getLast?_eq_none_iff.1 hlast] at hw; cases hw
    | some hi =>
      obtain ⟨hmem, hmax⟩ := le_getLast_of_pairwise proc hi h.1 hlast
      exact ⟨hi, hmem, hmax w hw, hfirst hi hlast⟩
  rcases hx with hx | hx
  · obtain ⟨hi, hmem, hle, hf⟩ := hlow x hx
    rcases hy with hy | hy
    · exact Or.inl (h.2 x hx y hy z hxz hzy)
    · by_cases hz : z ≤ hi
      · exact Or.inl (h.2 x hx hi hmem z hxz hz)
      · right; omega
  · rcases hy with hy | hy
    · obtain ⟨hi, _, hle, hf⟩ := hlow y hy
      omega
    · right; omega

/-! ### sender lists: lookup -/

section senderList
variable {a : Acct}

theorem get_some {n : Nat} {t : Tx} (h : a.get n = some t) : t ∈ a.txs ∧ t.nonce = n := by
  unfold Acct.get at h
  exact ⟨List.mem_of_find?_eq_some h, by simpa using List.find?_some h⟩

theorem get_none {n : Nat} (h : a.get n = none) : ∀ t ∈ a.txs, t.nonce ≠ n := by
  unfold Acct.get at h
  intro t ht
  simpa using List.find?_eq_none.1 h t ht

theorem get_isSome_of_mem {t : Tx} (h : t ∈ a.txs) : ∃ t', a.get t.nonce = some t' := by
  cases hg : a.get t.nonce with
  | some t' => exact ⟨t', rfl⟩
  | none => exact absurd rfl (get_none hg t h)

theorem get_of_mem (hn : (a.txs.map (·.nonce)).Nodup) {t : Tx} (h : t ∈ a.txs) :
    a.get t.nonce = some t := by
  obtain ⟨t', ht'⟩ := get_isSome_of_mem h
  have := get_some ht'
  rw [ht', inj_of_nodup_map _ hn this.1 h this.2]

/-- a list of nonces that are all present selects transactions with exactly these nonces -/
theorem map_nonce_filterMap_get (a : Acct) : ∀ (l : List Nat), (∀ n ∈ l, ∃ t ∈ a.txs, t.nonce = n) →
    (l.filterMap a.get).map (·.nonce) = l := by
  intro l
  induction l with
  | nil => intro _; rfl
  | cons n r ih =>
    intro h
    obtain ⟨t, ht, htn⟩ := h n List.mem_cons_self
    obtain ⟨t', ht'⟩ := get_isSome_of_mem ht
    rw [htn] at ht'
    rw [List.filterMap_cons, ht', List.map_cons, (get_some ht').2,
      ih (fun m hm => h m (List.mem_cons_of_mem _ hm))]

theorem mem_of_mem_filterMap_get {l : List Nat} {t : Tx} (h : t ∈ l.filterMap a.get) : t ∈ a.txs := by
  obtain ⟨n, _, hg⟩ := List.mem_filterMap.1 h
  exact (get_some hg).1

theorem mem_sortedNonces {n : Nat} : n ∈ a.sortedNonces ↔ ∃ t ∈ a.txs, t.nonce = n := by
  unfold Acct.sortedNonces
  rw [mem_isort, List.mem_map]

theorem sortedNonces_length (a : Acct) : a.sortedNonces.length = a.txs.length := by
  unfold Acct.sortedNonces
  rw [(isort_perm _ _).length_eq, List.length_map]

/-! ### sender lists: `maxNonce`, `remove`, `Add` -/

/-- the fold of `maxNonce` started at `m`: it bounds every nonce of the list, it is `m` or a nonce of the list, and
it is at least `m` -/
theorem maxNonce_aux (l : List Tx) : ∀ m : Nat,
    (∀ t ∈ l, t.nonce ≤ l.foldl (fun m t => if t.nonce > m then t.nonce else m) m) ∧
    (l.foldl (fun m t => if t.nonce > m then t.nonce else m) m = m ∨
      ∃ t ∈ l, t.nonce = l.foldl (fun m t => if t.nonce > m then t.nonce else m) m) ∧
    m ≤ l.foldl (fun m t => if t.nonce > m then t.nonce else m) m := by
  induction l with
  | nil => intro m; simp
  | cons a r ih => grind  -- one `if` on `a.nonce > m`, then `ih` at the start value it yields

theorem maxNonce_ge (a : Acct) : ∀ t ∈ a.txs, t.nonce ≤ a.maxNonce := (maxNonce_aux a.txs 0).1

theorem maxNonce_mem (a : Acct) (h : a.txs ≠ []) : ∃ t ∈ a.txs, t.nonce = a.maxNonce := by
  rcases (maxNonce_aux a.txs 0).2.1 with h3 | h3
  · obtain ⟨t, ht⟩ := List.exists_mem_of_ne_nil _ h
    exact ⟨t, ht, Nat.le_antisymm (maxNonce_ge a t ht) (by rw [Acct.maxNonce, h3]; exact Nat.zero_le _)⟩
  · exact h3

/-- the list without the transaction at nonce `n`, the processable set cut below `n`: what `remove` leaves,
and what `Add` builds on when it drops a transaction -/
def Acct.without (a : Acct) (n : Nat) : Acct :=
  { txs := a.txs.filter (fun x => x.nonce != n), proc := demote a.proc n }

def Acct.push (a : Acct) (tx : Tx) : Acct := { a with txs := tx :: a.txs }

theorem mem_without {n : Nat} {t : Tx} : t ∈ (a.without n).txs ↔ t ∈ a.txs ∧ t.nonce ≠ n := by
  simp [Acct.without]

theorem acct_remove_some {n : Nat} {t : Tx} (h : a.get n = some t) :
    a.remove n = (a.without n, some t) := by
  rw [Acct.remove, h]; rfl

theorem acct_remove_none {n : Nat} (h : a.get n = none) : a.remove n = (a, none) := by
  rw [Acct.remove, h]

theorem get_without {n m : Nat} (h : n = m ∨ a.get m = none) : (a.without n).get m = none := by
  show List.find? _ (a.txs.filter _) = none
  rw [List.find?_eq_none]
  intro x hx
  obtain ⟨hxa, hxn⟩ := List.mem_filter.1 hx
  rcases h with rfl | h
  · simpa using hxn
  · simpa using get_none h x hxa

theorem length_without_lt {t : Tx} (h : t ∈ a.txs) : (a.without t.nonce).txs.length < a.txs.length :=
  length_filter_lt _ _ t h (by simp)

/-- occupied nonce: the fee rule alone decides -/
theorem acct_add_occupied (cfg : Cfg) {tx old : Tx} (hg : a.get tx.nonce = some old) :
    a.add cfg tx = if tx.fee < old.fee + cfg.minFeeDiff then (a, false, none)
      else ((a.without tx.nonce).push tx, true, some old) := by
  rw [Acct.add, hg]; rfl

/-- free nonce, list below its limit -/
theorem acct_add_free (cfg : Cfg) {tx : Tx} (hg : a.get tx.nonce = none)
    (hl : a.txs.length + 1 ≤ cfg.maxPerAcct) : a.add cfg tx = (a.push tx, true, none) := by
  rw [Acct.add, hg]
  exact if_neg (by omega)

/-- free nonce, list at its limit: the decision only reads the *current* nonces of the list -/
theorem acct_add_limit (cfg : Cfg) (hper : 1 ≤ cfg.maxPerAcct) {tx : Tx} (hg : a.get tx.nonce = none)
    (hfull : cfg.maxPerAcct < a.txs.length + 1) :
    ∃ top, a.get a.maxNonce = some top ∧
      a.add cfg tx = if tx.nonce > a.maxNonce then (a, false, none)
        else ((a.without a.maxNonce).push tx, true, some top) := by
  have hne : a.txs ≠ [] := by intro h0; rw [h0] at hfull; simp at hfull; omega
  obtain ⟨t, ht, htm⟩ := maxNonce_mem a hne
  obtain ⟨top, htop⟩ := get_isSome_of_mem ht
  rw [htm] at htop
  refine ⟨top, htop, ?_⟩
  rw [Acct.add, hg]
  simp only [if_pos hfull, acct_remove_some htop]
  rfl

theorem promote_cases (a : Acct) (txs : List Tx) :
    a.promote txs = a ∨ a.promote txs = { a with proc := sortUniq (a.proc ++ txs.map (·.nonce)) } := by
  unfold Acct.promote
  split
  · right; rfl
  · left; rfl

/-! ### sender lists: the promotable run -/

/-- `GetPromotable` unfolded: nothing, or the first non-processable nonce — which must follow the highest
processable one — and the run behind it -/
theorem promotableNonces_cases (a : Acct) :
    a.promotableNonces = [] ∨ ∃ first more, a.sortedNonces.drop a.proc.length = first :: more ∧
      a.promotableNonces = first :: takeRun first more ∧ ∀ hi, a.proc.getLast? = some hi → first = hi + 1 := by
  unfold Acct.promotableNonces
  cases hd : a.sortedNonces.drop a.proc.length with
  | nil => exact Or.inl rfl
  | cons first more =>
    cases hl : a.proc.getLast? with
    | none => exact Or.inr ⟨first, more, rfl, rfl, by simp⟩
    | some hi =>
      simp only
      by_cases hc : (first != hi + 1) = true
      · rw [if_pos hc]; exact Or.inl rfl
      · rw [if_neg hc]; exact Or.inr ⟨first, more, rfl, rfl, by simpa using hc⟩

/-- the promotable nonces are a run that starts right after the highest processable nonce -/
theorem promotableNonces_spec (a : Acct) :
    ∃ first m, a.promotableNonces = List.range' first m ∧
      (∀ hi, a.proc.getLast? = some hi → first = hi + 1) ∧
      ∀ n ∈ a.promotableNonces, ∃ t ∈ a.txs, t.nonce = n := by
  rcases promotableNonces_cases a with h0 | ⟨first, more, hd, hr, hfirst⟩
  · -- the empty run, placed where a run would start
    rw [h0]
    cases hl : a.proc.getLast? with
    | none => exact ⟨0, 0, by simp, by simp⟩
    | some hi => exact ⟨hi + 1, 0, by simp, by simp⟩
  · rw [hr]
    refine ⟨first, _, takeRun_range more first, hfirst, fun n hn => ?_⟩
    apply mem_sortedNonces.1
    apply List.mem_of_mem_drop (i := a.proc.length)
    rw [hd]
    rcases List.mem_cons.1 hn with rfl | hn
    · exact List.mem_cons_self
    · exact List.mem_cons_of_mem _ (takeRun_subset more first n hn)

theorem promotable_map_nonce (a : Acct) : a.promotable.map (·.nonce) = a.promotableNonces := by
  obtain ⟨_, _, _, _, hin⟩ := promotableNonces_spec a
  exact map_nonce_filterMap_get a _ hin

/-- the nonces of a prefix of the promotable transactions are a run starting right after the processable ones -/
theorem promotable_take_run (a : Acct) (k : Nat) :
    ∃ first m, (a.promotable.take k).map (·.nonce) = List.range' first m ∧
      ∀ hi, a.proc.getLast? = some hi → first = hi + 1 := by
  obtain ⟨first, m, hr, hfirst, _⟩ := promotableNonces_spec a
  exact ⟨first, min k m, by rw [List.map_take, promotable_map_nonce, hr, take_range'], hfirst⟩

end senderList

/-! ### the sender map -/

section senderMap
variable {accts : List (Nat × Acct)} {s : Nat}

theorem findAcct_eq_get (accts : List (Nat × Acct)) (s : Nat) : findAcct accts s = AList.get accts s :=
  (AList.get_eq_find? accts s).symm

theorem findAcct_some {a : Acct} (h : findAcct accts s = some a) :
    (s, a) ∈ accts :=
  AList.mem_of_get (findAcct_eq_get .. ▸ h)

theorem findAcct_none (h : findAcct accts s = none) :
    ∀ e ∈ accts, e.1 ≠ s := fun e he hs =>
  AList.get_eq_none_iff.mp (findAcct_eq_get .. ▸ h) (hs ▸ List.mem_map_of_mem he)

theorem findAcct_of_mem (hn : (accts.map (·.1)).Nodup) {a : Acct}
    (h : (s, a) ∈ accts) : findAcct accts s = some a := by
  rw [findAcct_eq_get]; exact (AList.get_iff_mem hn).mpr h

theorem mem_delAcct {e : Nat × Acct} :
    e ∈ delAcct accts s ↔ e ∈ accts ∧ e.1 ≠ s := by
  unfold delAcct; rw [List.mem_filter]; simp

theorem mem_setAcct {a : Acct} {e : Nat × Acct} :
    e ∈ setAcct accts s a ↔ e = (s, a) ∨ (e ∈ accts ∧ e.1 ≠ s) := by
  unfold setAcct; rw [List.mem_cons, mem_delAcct]

theorem nodup_delAcct (s : Nat) (hn : (accts.map (·.1)).Nodup) :
    ((delAcct accts s).map (·.1)).Nodup := AList.NodupKeys.filter hn _

theorem nodup_setAcct (s : Nat) (a : Acct) (hn : (accts.map (·.1)).Nodup) :
    ((setAcct accts s a).map (·.1)).Nodup :=
  AList.NodupKeys.put_bne hn s a

theorem findAcct_delAcct (accts : List (Nat × Acct)) (s s' : Nat) :
    findAcct (delAcct accts s) s' = if s' = s then none else findAcct accts s' := by
  rw [findAcct_eq_get, findAcct_eq_get]; exact AList.get_erase_bne accts s s'

theorem findAcct_setAcct (accts : List (Nat × Acct)) (s s' : Nat) (a : Acct) :
    findAcct (setAcct accts s a) s' = if s' = s then some a else findAcct accts s' := by
  rw [findAcct_eq_get, findAcct_eq_get]; exact AList.get_put_bne accts s a s'

/-- register the list `a` under `s` — or unregister `s` when `a` is empty, as `removeLocked` does -/
def putAcct (accts : List (Nat × Acct)) (s : Nat) (a : Acct) : List (Nat × Acct) :=
  if a.txs.isEmpty then delAcct accts s else setAcct accts s a

theorem putAcct_of_ne_nil (accts : List (Nat × Acct)) (s : Nat) {a : Acct} (h : a.txs ≠ []) :
    putAcct accts s a = setAcct accts s a := by
  rw [putAcct, List.isEmpty_eq_false_iff.2 h]; rfl

theorem mem_putAcct {a : Acct} {e : Nat × Acct} :
    e ∈ putAcct accts s a ↔ (e = (s, a) ∧ a.txs ≠ []) ∨ (e ∈ accts ∧ e.1 ≠ s) := by
  unfold putAcct
  by_cases h : a.txs = []
  · rw [h, List.isEmpty_nil, if_pos rfl, mem_delAcct]; simp
  · rw [List.isEmpty_eq_false_iff.2 h, if_neg Bool.false_ne_true, mem_setAcct]; simp [h]

theorem nodup_putAcct (s : Nat) (a : Acct) (hn : (accts.map (·.1)).Nodup) :
    ((putAcct accts s a).map (·.1)).Nodup := by
  unfold putAcct
  split
  · exact nodup_delAcct s hn
  · exact nodup_setAcct s a hn

theorem findAcct_putAcct (accts : List (Nat × Acct)) (s s' : Nat) (a : Acct) :
    findAcct (putAcct accts s a) s' =
      if s' = s then (if a.txs.isEmpty then none else some a) else findAcct accts s' := by
  unfold putAcct
  by_cases h : a.txs.isEmpty = true
  · rw [if_pos h, if_pos h, findAcct_delAcct]
  · rw [if_neg h, if_neg h, findAcct_setAcct]

end senderMap

/-! ### choosing the eviction victim -/

theorem minPrio_eq_none {l : List Tx} : minPrio l = none ↔ l = [] := by
  cases l with
  | nil => simp [minPrio]
  | cons a r => cases hr : minPrio r <;> simp [minPrio, hr]

/-- `minPrio` is the least fee priority in the list -/
theorem minPrio_spec : ∀ (l : List Tx) (m : Nat), minPrio l = some m →
    (∃ t ∈ l, t.prio = m) ∧ ∀ u ∈ l, m ≤ u.prio := by
  intro l
  induction l with
  | nil => intro m h; cases h
  -- `minPrio (a :: r)` is `a.prio` when `r` is empty (`minPrio_eq_none`), else the smaller of `a.prio` and `minPrio r` (`ih`)
  | cons a r ih => grind [minPrio, minPrio_eq_none]

theorem minPrio_of_min {l : List Tx} {x : Tx} (hx : x ∈ l) (hmin : ∀ y ∈ l, x.prio ≤ y.prio) :
    minPrio l = some x.prio := by
  cases hm : minPrio l with
  | none => rw [minPrio_eq_none.1 hm] at hx; cases hx
  | some m =>
    obtain ⟨⟨t, ht, htm⟩, hle⟩ := minPrio_spec l m hm
    have := hmin t ht
    have := hle x hx
    rw [show m = x.prio by omega]

theorem mem_minCands {l : List Tx} {t : Tx} : t ∈ minCands l ↔ t ∈ l ∧ minPrio l = some t.prio := by
  unfold minCands
  cases minPrio l with
  | none => simp
  | some m => simp only [List.mem_filter, beq_iff_eq, Option.some.injEq]; exact and_congr_right (fun _ => eq_comm)

/-- the popped element is a member with minimal fee priority (`tie` chooses among the minimal ones) -/
theorem pickMin_spec {l : List Tx} {tie : Nat} {t : Tx} (h : pickMin l tie = some t) :
    t ∈ l ∧ ∀ u ∈ l, t.prio ≤ u.prio := by
  obtain ⟨hl, hm⟩ := mem_minCands.1 (List.mem_of_getElem? h)
  exact ⟨hl, (minPrio_spec l _ hm).2⟩

theorem pickMin_some {l : List Tx} (tie : Nat) (h : l ≠ []) : ∃ t, pickMin l tie = some t := by
  cases hm : minPrio l with
  | none => exact absurd (minPrio_eq_none.1 hm) h
  | some m =>
    obtain ⟨⟨t, ht, rfl⟩, _⟩ := minPrio_spec l m hm
    exact ⟨_, List.getElem?_eq_getElem (Nat.mod_lt _ (List.length_pos_of_mem (mem_minCands.2 ⟨ht, hm⟩)))⟩

theorem pickMin_none {l : List Tx} {tie : Nat} (h : pickMin l tie = none) : l = [] := by
  apply Classical.byContradiction
  intro hne
  obtain ⟨t, ht⟩ := pickMin_some tie hne
  rw [ht] at h; cases h

theorem filterMap_get_ne_nil {a : Acct} {l : List Nat} (hl : l ≠ [])
    (h : ∀ n ∈ l, ∃ t ∈ a.txs, t.nonce = n) : l.filterMap a.get ≠ [] := by
  have := congrArg List.length (map_nonce_filterMap_get a l h)
  intro h0
  rw [h0] at this
  exact hl (List.eq_nil_of_length_eq_zero this.symm)

theorem evictCands_of_nil {p : Pool} (h : unprocCands p = []) : evictCands p = procCands p := by
  rw [evictCands, h]; rfl

theorem evictCands_of_ne_nil {p : Pool} (h : unprocCands p ≠ []) : evictCands p = unprocCands p := by
  rw [evictCands, List.isEmpty_eq_false_iff.2 h]; rfl

theorem evictCands_mem {p : Pool} {t : Tx} (h : t ∈ evictCands p) : ∃ e ∈ p.accts, t ∈ e.2.txs := by
  by_cases hu : unprocCands p = []
  · rw [evictCands_of_nil hu] at h
    obtain ⟨e, he, hl⟩ := List.mem_filterMap.1 h
    exact ⟨e, he, mem_of_mem_filterMap_get (List.mem_of_getLast? hl)⟩
  · rw [evictCands_of_ne_nil hu] at h
    obtain ⟨e, he, hl⟩ := List.mem_flatMap.1 h
    exact ⟨e, he, mem_of_mem_filterMap_get hl⟩

end LiskVerif.TxPool
