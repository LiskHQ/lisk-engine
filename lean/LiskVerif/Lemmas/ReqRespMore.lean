/-
C17 — what the request/response protocol (Model/ReqResp.lean) does over time.  Every statement lowers the rank of its
thread and nothing raises it (`tRank_step`, summed up in `gMeasure`), so in an infinite execution a thread moves
finitely often, and under strong fairness of the threads alone it ends at `done` or inside `mp.send` (`Exec.settles`,
`Exec.hdl_terminates`, `Exec.req_terminates`).  A response that reached the channel of a waiting requester is what
that requester returns (`Served`, kept by every step).  `Inv2` adds the bookkeeping of outcomes and the uniqueness
of keys in `resCh` to the invariant of Lemmas/ReqResp.lean; `ReachableA` lets the network forge responses.  The
variant `stepW`, which keeps `resMu` across `mp.send`, is defined here with the configuration `StuckW` in which it
stalls, since only that counterexample uses it.  The last section turns a finite run, continued by stuttering, into an
execution (`stateAt`, `Exec.ofRun`), fair when nothing local is enabled at its end (`Exec.ofRun_fair`).
-/
import LiskVerif.Lemmas.ReqResp

namespace LiskVerif.ReqResp

/-! ### the lock -/

/-- the lock only changes hands through `none` -/
theorem lock_some_step (P : Nat → Nat) (s s' : State) (a : Action) (hstep : step P s a = some s')
    (u : Tid) (hl : s.lock = some u) : s'.lock = some u ∨ s'.lock = none :=
  step_cases hstep
    (start := fun _ _ _ => .inl hl)
    (regLock := fun _ _ _ h => nomatch hl.symm.trans h)
    (regStore := fun _ _ _ => .inl hl)
    (regUnlock := fun _ _ _ => .inr rfl)
    (unLock := fun _ _ _ h => nomatch hl.symm.trans h)
    (unDelete := fun _ _ _ => .inl hl)
    (retry := fun _ _ _ _ => .inr rfl)
    (ret := fun _ _ _ _ => .inr rfl)
    (sendOk := fun _ _ _ => .inl hl)
    (sendErr := fun _ _ _ => .inl hl)
    (recv := fun _ _ _ _ => .inl hl)
    (timeout := fun _ _ _ => .inl hl)
    (cancel := fun _ _ _ => .inl hl)
    (hLock := fun _ _ _ h => nomatch hl.symm.trans h)
    (found := fun _ _ _ _ _ => .inl hl)
    (unknown := fun _ _ _ _ => .inl hl)
    (deliver := fun _ _ _ _ _ _ => .inl hl)
    (gone := fun _ _ _ _ _ => .inl hl)
    (hUnlock := fun _ _ _ => .inr rfl)
    (respond := fun _ _ => .inl hl)
    (dup := fun _ _ _ => .inl hl)
    (drop := fun _ _ => .inl hl)
    (arrive := fun _ _ _ => .inl hl)
    (spawn := fun _ => .inl hl)

/-! ### outcomes and the keys of the pending map: `Inv2` -/

/-- pcs after the `select` / failed send of an attempt -/
def RPc.post : RPc → Bool
  | .unLock | .unDelete | .unUnlock | .done => true
  | _ => false

/-- outcome bookkeeping of one requester record -/
structure OutOk (r : Req) : Prop where
  /-- a requester at the top of its retry loop is new or comes from a timed-out attempt -/
  startOut : r.pc = .start → r.out = none ∨ r.out = some .timeout
  /-- once the `select` / `send` was left the attempt has an outcome -/
  postOut : r.pc.post = true → r.out ≠ none
  /-- `request` only returns a timeout when the retry budget is used up -/
  doneBudget : r.pc = .done → r.out = some .timeout → r.retries = 0

/-- Second invariant (bookkeeping of outcomes and of the keys of `resCh`). -/
structure Inv2 (s : State) : Prop where
  out : ∀ (i : Nat) (r : Req), s.reqs[i]? = some r → OutOk r
  /-- the map has one entry per key -/
  keysNodup : (s.resCh.map Prod.fst).Nodup

theorem keysNodup_store (m : List (Nat × Nat)) (id ch : Nat) (h : (m.map Prod.fst).Nodup) :
    ((storeId m id ch).map Prod.fst).Nodup :=
  AList.NodupKeys.put_bne h id ch

theorem inv2_init : Inv2 init := by
  constructor <;> simp [init]

theorem inv2_step (P : Nat → Nat) (s s' : State) (a : Action) (hI : Inv2 s)
    (hstep : step P s a = some s') : Inv2 s' :=
  step_cases hstep
    (start := fun _ _ hr =>
      ⟨forall_set hI.out hr fun _ => ⟨nofun, nofun, nofun⟩, hI.keysNodup⟩)
    (regLock := fun _ _ hr _ =>
      ⟨forall_set hI.out hr fun _ => ⟨nofun, nofun, nofun⟩, hI.keysNodup⟩)
    (regStore := fun _ _ hr =>
      ⟨forall_set hI.out hr fun _ => ⟨nofun, nofun, nofun⟩, keysNodup_store _ _ _ hI.keysNodup⟩)
    (regUnlock := fun _ _ hr =>
      ⟨forall_set hI.out hr fun _ => ⟨nofun, nofun, nofun⟩, hI.keysNodup⟩)
    (unLock := fun _ _ hr _ =>
      ⟨forall_set hI.out hr fun h => ⟨nofun, fun _ => h.postOut rfl, nofun⟩, hI.keysNodup⟩)
    (unDelete := fun _ _ hr =>
      ⟨forall_set hI.out hr fun h => ⟨nofun, fun _ => h.postOut rfl, nofun⟩,
        AList.NodupKeys.filter hI.keysNodup _⟩)
    (retry := fun _ _ _ hr =>
      ⟨forall_set hI.out hr fun _ => ⟨fun _ => .inr rfl, nofun, nofun⟩, hI.keysNodup⟩)
    (ret := fun _ _ hr hne =>
      ⟨forall_set hI.out hr fun h => ⟨nofun, fun _ => h.postOut rfl,
        fun _ ho => Nat.eq_zero_of_not_pos fun hp => hne ⟨ho, hp⟩⟩, hI.keysNodup⟩)
    (sendOk := fun _ _ hr =>
      ⟨forall_set hI.out hr fun _ => ⟨nofun, nofun, nofun⟩, hI.keysNodup⟩)
    (sendErr := fun _ _ hr =>
      ⟨forall_set hI.out hr fun _ => ⟨nofun, fun _ => nofun, nofun⟩, hI.keysNodup⟩)
    (recv := fun _ _ _ hr =>
      ⟨forall_set hI.out hr fun _ => ⟨nofun, fun _ => nofun, nofun⟩, hI.keysNodup⟩)
    (timeout := fun _ _ hr =>
      ⟨forall_set hI.out hr fun _ => ⟨nofun, fun _ => nofun, nofun⟩, hI.keysNodup⟩)
    (cancel := fun _ _ hr =>
      ⟨forall_set hI.out hr fun _ => ⟨nofun, fun _ => nofun, nofun⟩, hI.keysNodup⟩)
    (hLock := fun _ _ _ _ => ⟨hI.out, hI.keysNodup⟩)
    (found := fun _ _ _ _ _ => ⟨hI.out, hI.keysNodup⟩)
    (unknown := fun _ _ _ _ => ⟨hI.out, hI.keysNodup⟩)
    (deliver := fun _ _ _ _ _ hr =>
      ⟨forall_set hI.out hr fun h => ⟨h.startOut, h.postOut, h.doneBudget⟩, hI.keysNodup⟩)
    (gone := fun _ _ _ _ _ => ⟨hI.out, hI.keysNodup⟩)
    (hUnlock := fun _ _ _ => ⟨hI.out, hI.keysNodup⟩)
    (respond := fun _ _ => ⟨hI.out, hI.keysNodup⟩)
    (dup := fun _ _ _ => ⟨hI.out, hI.keysNodup⟩)
    (drop := fun _ _ => ⟨hI.out, hI.keysNodup⟩)
    (arrive := fun _ _ _ => ⟨hI.out, hI.keysNodup⟩)
    (spawn := fun _ => ⟨forall_push hI.out ⟨fun _ => .inl rfl, nofun, nofun⟩, hI.keysNodup⟩)

theorem inv2_reachable (P : Nat → Nat) (s : State) (h : Reachable P s) : Inv2 s := by
  induction h with
  | init => exact inv2_init
  | step a _ hs ih => exact inv2_step P _ _ a ih hs

/-! ### ranks and the global measure -/

/-- statements a response handler may still execute -/
def hRank : HPc → Nat
  | .lock => 4 | .lookup => 3 | .deliver _ => 2 | .unlock => 1 | .done => 0

/-- rank of a thread (`none`: no such thread) -/
def tRank (s : State) : Tid → Option Nat
  | .req i => s.reqs[i]?.map C17rank
  | .hdl j => s.hdls[j]?.map (fun h => hRank h.pc)

theorem hdlNext_rank (s : State) (h h' : Hdl) (hn : hdlNext s h h') : hRank h'.pc < hRank h.pc := by
  obtain ⟨_, hc⟩ := hn
  rcases hc with ⟨h1, _, h2⟩ | ⟨h1, ⟨ch, h2⟩ | h2⟩ | ⟨⟨ch, h1⟩, h2⟩ | ⟨h1, h2⟩ <;> simp [h1, h2, hRank]

/-- every action leaves the rank of every thread unchanged or smaller; the thread that executes the
action gets a strictly smaller rank -/
theorem tRank_step (P : Nat → Nat) (s s' : State) (a : Action) (hstep : step P s a = some s')
    (t : Tid) (k : Nat) (hk : tRank s t = some k) :
    ∃ k', tRank s' t = some k' ∧ k' ≤ k ∧ (actor a = some t → k' < k) := by
  cases t with
  | req i =>
    simp only [tRank, Option.map_eq_some_iff] at hk
    obtain ⟨r, hr, rfl⟩ := hk
    obtain ⟨r', hr', h⟩ := rank_step P s s' a hstep i r hr
    exact ⟨C17rank r', by simp [tRank, hr'], h⟩
  | hdl j =>
    simp only [tRank, Option.map_eq_some_iff] at hk
    obtain ⟨h, hh, rfl⟩ := hk
    obtain ⟨h', hh', hc⟩ := hdl_effect P s s' a hstep j h hh
    refine ⟨hRank h'.pc, by simp [tRank, hh'], ?_⟩
    rcases hc with ⟨_, hn⟩ | ⟨hne, rfl⟩
    · have := hdlNext_rank s h h' hn
      exact ⟨Nat.le_of_lt this, fun _ => this⟩
    · refine ⟨Nat.le_refl _, fun h => ?_⟩
      cases a <;> simp [actor] at h
      subst h; exact absurd rfl hne

/-- total number of statements all threads present may still execute -/
def gMeasure (s : State) : Nat :=
  (s.reqs.map C17rank).sum + (s.hdls.map (fun h => hRank h.pc)).sum

/-- what an environment action adds to the measure: a delivered response starts a handler thread
(4 statements), a new call of `request` with budget `b` may execute `10 * b + 9` statements -/
def envCost : Action → Nat
  | .nDeliver _ => 4
  | .spawn b => 10 * b + 9
  | _ => 0

theorem envCost_of_isThread {a : Action} (h : a.isThread = true) : envCost a = 0 := by
  cases a <;> first | rfl | cases h

theorem sum_envCost_of_isThread : ∀ {l : List Action}, (∀ a ∈ l, a.isThread = true) → (l.map envCost).sum = 0
  | [], _ => rfl
  | a :: l, hl => by
    rw [List.map_cons, List.sum_cons, envCost_of_isThread (hl a List.mem_cons_self),
      sum_envCost_of_isThread fun b hb => hl b (List.mem_cons_of_mem _ hb)]

theorem sum_map_set {α : Type} (f : α → Nat) (l : List α) (i : Nat) (x y : α) (h : l[i]? = some y) :
    ((l.set i x).map f).sum + f y = (l.map f).sum + f x := by
  induction l generalizing i with
  | nil => simp at h
  | cons z l ih =>
    cases i with
    | zero => simp at h; subst h; simp; omega
    | succ i =>
      simp at h
      have := ih i h
      simp only [List.set_cons_succ, List.map_cons, List.sum_cons]
      omega

theorem gMeasure_step (P : Nat → Nat) (s s' : State) (a : Action) (hstep : step P s a = some s') :
    (a.isThread = true → gMeasure s' < gMeasure s) ∧
    (a.isThread = false → gMeasure s' = gMeasure s + envCost a) := by
  rcases step_shape P s s' a hstep with ⟨i, r, r', hact, hr, hreqs, hhd, hown⟩ |
      ⟨j, h, h', rfl, hh, hhd, hn, hq⟩ | ⟨hact, _, _, hq⟩
  · have h1 := sum_map_set C17rank s.reqs i r' r hr
    have h2 := ownNext_rank s r r' hown
    constructor
    · intro _; simp only [gMeasure, hreqs, hhd]; omega
    · intro hf; cases a <;> simp [actor, Action.isThread] at hact hf
  · have h1 := sum_map_set (fun h => hRank h.pc) s.hdls j h' h hh
    have h2 := hdlNext_rank s h h' hn
    constructor
    · intro _
      rcases hq with hq | ⟨ch, r, r', _, hr, hreqs, hd⟩
      · simp only [gMeasure, hq, hhd]; omega
      · have h3 := sum_map_set C17rank s.reqs ch r' r hr
        have h4 := dlvNext_rank r r' hd
        simp only [gMeasure, hreqs, hhd]; omega
    · intro hf; simp [Action.isThread] at hf
  · constructor
    · intro ht; cases a <;> simp [actor, Action.isThread] at hact ht
    · intro _
      rcases hq with ⟨hq, ⟨⟨x, he⟩, hq2⟩ | ⟨k, rfl, x, hq2⟩⟩ | ⟨b, rfl, hq, hq2⟩
      · have : envCost a = 0 := by rcases he with rfl | rfl | rfl <;> rfl
        simp only [gMeasure, hq, hq2, this]; omega
      · simp [gMeasure, hq, hq2, envCost, hRank]; omega
      · simp [gMeasure, hq, hq2, envCost, C17rank, C17pcRank, newReq]; omega

/-- number of thread statements in a schedule -/
def threadSteps (l : List Action) : Nat := (l.filter Action.isThread).length

theorem gMeasure_run (P : Nat → Nat) (l : List Action) (s s' : State) (h : run P s l = some s') :
    threadSteps l + gMeasure s' ≤ gMeasure s + (l.map envCost).sum := by
  refine run_induct (motive := fun s l s' => threadSteps l + gMeasure s' ≤ gMeasure s + (l.map envCost).sum)
    (fun s => by simp [threadSteps]) (fun s a s1 l s' hs _ ih => ?_) h
  have h2 := gMeasure_step P s s1 a hs
  unfold threadSteps at ih ⊢
  rw [List.filter_cons, List.map_cons, List.sum_cons]
  cases ht : a.isThread with
  | true => have := h2.1 ht; simp only [if_true, List.length_cons]; omega
  | false => have := h2.2 ht; simp only [Bool.false_eq_true, if_false]; omega

/-! ### infinite executions and fairness -/

/-- An infinite execution of the fixed protocol from a reachable state; `α n = none` is a stuttering
step (so finite runs are included). -/
structure Exec (P : Nat → Nat) where
  σ : Nat → State
  α : Nat → Option Action
  start : Reachable P (σ 0)
  next : ∀ n, (∃ a, α n = some a ∧ step P (σ n) a = some (σ (n + 1))) ∨ (α n = none ∧ σ (n + 1) = σ n)

/-- thread `t` can execute a statement that does not depend on the remote peer -/
def localEnabled (P : Nat → Nat) (s : State) (t : Tid) : Prop :=
  ∃ a, actor a = some t ∧ a.isLocal = true ∧ (step P s a).isSome = true

/-- thread `t` executes a statement at position `n` -/
def Exec.takes {P : Nat → Nat} (e : Exec P) (n : Nat) (t : Tid) : Prop :=
  ∃ a, e.α n = some a ∧ actor a = some t

/-- strong fairness for thread `t`: if `t` is again and again able to execute a local statement, it
executes statements again and again.  Nothing is required of the environment, and nothing about the
return of `mp.send` (a requester whose only enabled actions are `rSendOk` / `rSendErr` may stay there
forever). -/
def Exec.Fair {P : Nat → Nat} (e : Exec P) (t : Tid) : Prop :=
  (∀ n, ∃ m, n ≤ m ∧ localEnabled P (e.σ m) t) → (∀ n, ∃ m, n ≤ m ∧ e.takes m t)

/-- what every action taken from position `N` on preserves holds from `N` on if it holds at `N` -/
theorem Exec.always {P : Nat → Nat} (e : Exec P) {Q : State → Prop} {N : Nat} (h0 : Q (e.σ N))
    (hQ : ∀ m a, N ≤ m → e.α m = some a → step P (e.σ m) a = some (e.σ (m + 1)) → Q (e.σ m) →
      Q (e.σ (m + 1))) : ∀ m, N ≤ m → Q (e.σ m) := by
  intro m hm
  obtain ⟨d, rfl⟩ := Nat.exists_eq_add_of_le hm
  clear hm
  induction d with
  | zero => exact h0
  | succ d ih =>
    rcases e.next (N + d) with ⟨a, ha, hs⟩ | ⟨_, hs⟩
    · exact hQ _ a (Nat.le_add_right ..) ha hs ih
    · exact (show e.σ (N + d + 1) = _ from hs) ▸ ih

theorem Exec.reachable {P : Nat → Nat} (e : Exec P) : ∀ n, Reachable P (e.σ n) :=
  fun n => e.always e.start (fun _ a _ _ hs ih => .step a ih hs) n (Nat.zero_le n)

theorem Exec.rank_one {P : Nat → Nat} (e : Exec P) (t : Tid) (n k : Nat) (hk : tRank (e.σ n) t = some k) :
    ∃ k', tRank (e.σ (n + 1)) t = some k' ∧ k' ≤ k ∧ (e.takes n t → k' < k) := by
  rcases e.next n with ⟨a, ha, h⟩ | ⟨ha, h⟩
  · obtain ⟨k', h1, h2, h3⟩ := tRank_step P _ _ a h t k hk
    refine ⟨k', h1, h2, ?_⟩
    rintro ⟨a', ha', hact⟩
    rw [ha] at ha'; cases ha'
    exact h3 hact
  · refine ⟨k, by rw [h]; exact hk, Nat.le_refl _, ?_⟩
    rintro ⟨a', ha', _⟩
    rw [ha] at ha'; cases ha'

theorem Exec.rank_mono {P : Nat → Nat} (e : Exec P) (t : Tid) (n k : Nat) (hk : tRank (e.σ n) t = some k) :
    ∀ m, n ≤ m → ∃ k', tRank (e.σ m) t = some k' ∧ k' ≤ k :=
  e.always (Q := fun s => ∃ k', tRank s t = some k' ∧ k' ≤ k) ⟨k, hk, Nat.le_refl _⟩
    fun _ a _ _ hs ⟨k1, h1, h2⟩ =>
    have ⟨k2, h3, h4, _⟩ := tRank_step P _ _ a hs t k1 h1
    ⟨k2, h3, Nat.le_trans h4 h2⟩

/-- a thread executes only finitely many statements -/
theorem Exec.finite_steps {P : Nat → Nat} (e : Exec P) (t : Tid) :
    ∀ k n, tRank (e.σ n) t = some k → ∃ N, n ≤ N ∧ ∀ m, N ≤ m → ¬ e.takes m t := by
  intro k
  induction k using Nat.strongRecOn with
  | _ k ih =>
    intro n hk
    by_cases h : ∃ m, n ≤ m ∧ e.takes m t
    · obtain ⟨m, hnm, htk⟩ := h
      obtain ⟨k1, h1, h2⟩ := e.rank_mono t n k hk m hnm
      obtain ⟨k2, h3, _, h5⟩ := e.rank_one t m k1 h1
      obtain ⟨N, hN, hno⟩ := ih k2 (Nat.lt_of_lt_of_le (h5 htk) h2) (m + 1) h3
      exact ⟨N, by omega, hno⟩
    · exact ⟨n, Nat.le_refl _, fun m hm htk => h ⟨m, hm, htk⟩⟩

/-- in an execution fair to `t`, from some position on `t` neither executes a statement nor could execute a
local one -/
theorem Exec.settles {P : Nat → Nat} (e : Exec P) {t : Tid} (hf : e.Fair t) {n k : Nat}
    (hk : tRank (e.σ n) t = some k) :
    ∃ N, n ≤ N ∧ ∀ m, N ≤ m → ¬ e.takes m t ∧ ¬ localEnabled P (e.σ m) t := by
  obtain ⟨N, hnN, hno⟩ := e.finite_steps t k n hk
  have hnot : ¬ ∀ n', ∃ m, n' ≤ m ∧ localEnabled P (e.σ m) t := fun hen =>
    have ⟨m, hm, htk⟩ := hf hen N
    hno m hm htk
  obtain ⟨n0, h0⟩ := Classical.not_forall.1 hnot
  exact ⟨max N n0, by omega, fun m hm => ⟨hno m (by omega), fun hl => h0 ⟨m, by omega, hl⟩⟩⟩

/-- the program counter of a requester that executes no statement does not change -/
theorem Exec.req_const {P : Nat → Nat} (e : Exec P) (i N : Nat) (r : Req)
    (hr : (e.σ N).reqs[i]? = some r) (hno : ∀ m, N ≤ m → ¬ e.takes m (.req i)) :
    ∀ m, N ≤ m → ∃ r', (e.σ m).reqs[i]? = some r' ∧ r'.pc = r.pc :=
  e.always (Q := fun s => ∃ r', s.reqs[i]? = some r' ∧ r'.pc = r.pc) ⟨r, hr, rfl⟩
    fun m a hm ha hs ⟨r1, hr1, hp1⟩ => by
    obtain ⟨r', hr', hc⟩ := req_effect P _ _ a hs i r1 hr1
    rcases hc with ⟨hact, _⟩ | ⟨_, rfl | ⟨m, rfl⟩⟩
    · exact absurd ⟨_, ha, hact⟩ (hno m hm)
    · exact ⟨_, hr', hp1⟩
    · exact ⟨_, hr', hp1⟩

theorem holder_localEnabled (P : Nat → Nat) (s : State) (hs : Reachable P s) (u : Tid)
    (hl : s.lock = some u) : localEnabled P s u ∧ ∃ k, tRank s u = some k := by
  have hI := inv_reachable P s hs
  refine ⟨hI.holder_enabled hl, ?_⟩
  cases u with
  | req i => exact ⟨_, by rw [tRank, List.getElem?_eq_getElem (hI.lockExR i hl)]; rfl⟩
  | hdl j => exact ⟨_, by rw [tRank, List.getElem?_eq_getElem (hI.lockExH j hl)]; rfl⟩

/-- with the lock free, every handler that is not done can execute its next statement -/
theorem hdl_localEnabled (P : Nat → Nat) (s : State) (j : Nat) (h : Hdl) (hh : s.hdls[j]? = some h)
    (hl : s.lock = none) (hnd : h.pc ≠ .done) : localEnabled P s (.hdl j) :=
  ⟨.hStep j, rfl, rfl, hdl_can_step P s j h hh hnd fun _ => hl⟩

/-- with the lock free, every requester that is neither done nor inside `mp.send` can execute a
local statement -/
theorem req_localEnabled (P : Nat → Nat) (s : State) (i : Nat) (r : Req) (hr : s.reqs[i]? = some r)
    (hl : s.lock = none) (hnd : r.pc ≠ .done) (hns : r.pc ≠ .send) : localEnabled P s (.req i) :=
  have ⟨a, ha, hloc, _, h⟩ := req_can_step P s i r hr hnd fun _ => hl
  ⟨a, ha, hloc hns, h⟩

/-- in an execution that is fair to every thread, `resMu` is free again and again -/
theorem Exec.lock_eventually_free {P : Nat → Nat} (e : Exec P) (hf : ∀ t, e.Fair t) (n : Nat) :
    ∃ m, n ≤ m ∧ (e.σ m).lock = none := by
  apply Classical.byContradiction
  intro hno
  have hno' : ∀ m, n ≤ m → (e.σ m).lock ≠ none := fun m hm hl => hno ⟨m, hm, hl⟩
  cases hl : (e.σ n).lock with
  | none => exact hno' n (Nat.le_refl _) hl
  | some u =>
    have hpers : ∀ m, n ≤ m → (e.σ m).lock = some u :=
      e.always (Q := fun s => s.lock = some u) hl fun m a hm _ hs ih => (lock_some_step P _ _ a hs u ih).resolve_right
        (hno' (m + 1) (Nat.le_succ_of_le hm))
    obtain ⟨_, k, hk⟩ := holder_localEnabled P _ (e.reachable n) u hl
    obtain ⟨N, hnN, hN⟩ := e.settles (hf u) hk
    exact (hN N (Nat.le_refl _)).2 (holder_localEnabled P _ (e.reachable _) u (hpers _ hnN)).1

/-- Liveness of the response handlers: in an execution that is fair to every thread, every
invocation of `onResponse` returns — whatever the environment does and however many requesters
hang inside `mp.send`. -/
theorem Exec.hdl_terminates {P : Nat → Nat} (e : Exec P) (hf : ∀ t, e.Fair t) (n j : Nat) (h : Hdl)
    (hh : (e.σ n).hdls[j]? = some h) :
    ∃ m h', n ≤ m ∧ (e.σ m).hdls[j]? = some h' ∧ h'.pc = .done ∧ h'.msg = h.msg := by
  obtain ⟨N, hnN, hN⟩ := e.settles (hf (.hdl j)) (n := n) (k := hRank h.pc) (by simp [tRank, hh])
  -- a later position at which `resMu` is free: there the handler cannot be short of `done`
  obtain ⟨m, hm, hl⟩ := e.lock_eventually_free hf N
  -- the message of a handler never changes
  obtain ⟨h', hh', hmsg⟩ : ∃ h', (e.σ m).hdls[j]? = some h' ∧ h'.msg = h.msg :=
    e.always (Q := fun s => ∃ h', s.hdls[j]? = some h' ∧ h'.msg = h.msg) ⟨h, hh, rfl⟩
      (fun m a _ _ hs ⟨h1, hh1, hm1⟩ => by
      obtain ⟨h', hh', hc⟩ := hdl_effect P _ _ a hs j h1 hh1
      rcases hc with ⟨_, hn, _⟩ | ⟨_, rfl⟩
      · exact ⟨h', hh', hn.trans hm1⟩
      · exact ⟨_, hh', hm1⟩) m (by omega)
  exact ⟨m, h', by omega, hh', Classical.byContradiction fun hd =>
    (hN m hm).2 (hdl_localEnabled P _ j h' hh' hl hd), hmsg⟩

/-- Liveness of the requesters: in an execution that is fair to every thread, every call of
`request` returns, unless it stays inside `mp.send` forever. -/
theorem Exec.req_terminates {P : Nat → Nat} (e : Exec P) (hf : ∀ t, e.Fair t) (n i : Nat) (r : Req)
    (hr : (e.σ n).reqs[i]? = some r) :
    (∃ m r', n ≤ m ∧ (e.σ m).reqs[i]? = some r' ∧ r'.pc = .done) ∨
    (∃ m, n ≤ m ∧ ∀ k, m ≤ k → ∃ r', (e.σ k).reqs[i]? = some r' ∧ r'.pc = .send) := by
  have hk : tRank (e.σ n) (.req i) = some (C17rank r) := by simp [tRank, hr]
  obtain ⟨N, hnN, hN⟩ := e.settles (hf (.req i)) hk
  obtain ⟨kN, hkN, _⟩ := e.rank_mono (.req i) n _ hk N hnN
  simp only [tRank, Option.map_eq_some_iff] at hkN
  obtain ⟨rN, hrN, _⟩ := hkN
  have hconst := e.req_const i N rN hrN fun m hm => (hN m hm).1
  by_cases hd : rN.pc = .done
  · exact Or.inl ⟨N, rN, hnN, hrN, hd⟩
  · by_cases hsnd : rN.pc = .send
    · exact Or.inr ⟨N, hnN, fun k hk => (hconst k hk).imp fun r' h => ⟨h.1, h.2.trans hsnd⟩⟩
    · -- at a later position with `resMu` free it could execute a local statement
      exfalso
      obtain ⟨m, hm, hl⟩ := e.lock_eventually_free hf N
      obtain ⟨r', h1, h2⟩ := hconst m hm
      exact (hN m hm).2 (req_localEnabled P _ i r' h1 hl (h2 ▸ hd) (h2 ▸ hsnd))

/-! ### adversarial network: forged responses -/

/-- Reachable states when the network, in addition to answering, duplicating, delaying and dropping,
may inject ANY response from the set `F` (forged responses: any id — registered, finished, not yet
issued — and any payload). -/
inductive ReachableA (P : Nat → Nat) (F : Resp → Prop) : State → Prop
  | init : ReachableA P F init
  | step {s s' : State} (a : Action) : ReachableA P F s → step P s a = some s' → ReachableA P F s'
  | forge {s : State} (m : Resp) : F m → ReachableA P F s → ReachableA P F { s with net := m :: s.net }

theorem invA_reachable (P : Nat → Nat) (F : Resp → Prop) (s : State) (h : ReachableA P F s) :
    InvA P F s := by
  induction h with
  | init => exact invA_init P F
  | step a _ hs ih => exact invA_step ih hs
  | forge m hm _ ih =>
    exact { ih with netA := fun m' hm' => (List.mem_cons.mp hm').elim (· ▸ .inr hm) (ih.netA m') }

/-! ### a response that is in the channel is returned -/

theorem cancel_at_wait (P : Nat → Nat) (s s' : State) (a : Action) (hstep : step P s a = some s')
    (i : Nat) (r r' : Req) (hr : s.reqs[i]? = some r) (hw : r.pc = .wait)
    (hact : actor a = some (.req i)) (hr' : s'.reqs[i]? = some r')
    (hc : r'.out = some .cancelled) : a = .rCancel i := by
  have hlt := (List.getElem?_eq_some_iff.mp hr).1
  cases a <;> simp only [actor, Option.some.injEq, Tid.req.injEq, reduceCtorEq] at hact <;> subst hact
  case rCancel => rfl
  -- at `wait` only the three branches of the `select` are enabled
  all_goals simp [step, hr, hw, stepReq] at hstep
  · cases hb : r.buf <;> simp [hb] at hstep
    subst hstep; simp [hlt] at hr'; subst hr'; cases hc
  · obtain ⟨_, rfl⟩ := hstep; simp [hlt] at hr'; subst hr'; cases hc

/-- the attempt with id `x` of a requester with `b` retries left has its response: it is in the
channel while the requester waits, and afterwards it is the outcome (or, if `c`, the caller's own
cancellation is) -/
def Served (P : Nat → Nat) (x b : Nat) (c : Bool) (r : Req) : Prop :=
  r.id = x ∧ r.retries = b ∧
  ((r.pc = .wait ∧ r.buf = some ⟨x, P x⟩) ∨
   (r.pc.post = true ∧ (r.out = some (.got ⟨x, P x⟩) ∨ (c = true ∧ r.out = some .cancelled))))

theorem served_step (P : Nat → Nat) (s s' : State) (a : Action) (hstep : step P s a = some s')
    (i x b : Nat) (c : Bool) (r : Req) (hr : s.reqs[i]? = some r) (hS : Served P x b c r)
    (hc : a = .rCancel i → c = true) :
    ∃ r', s'.reqs[i]? = some r' ∧ Served P x b c r' := by
  obtain ⟨r', hr', h2⟩ := req_effect P s s' a hstep i r hr
  refine ⟨r', hr', ?_⟩
  obtain ⟨hid, hret, hS⟩ := hS
  have h3 := afterAttempt_spec r
  rcases h2 with ⟨hact, hown⟩ | ⟨_, rfl | ⟨m, rfl⟩⟩
  · have hcan := fun hw => cancel_at_wait P s s' a hstep i r r' hr hw hact hr'
    own_cases hown <;> simp only [Served]
    -- the eleven statements inside an attempt: those before `wait` contradict `hS` by their pc; at `wait` the
    -- channel holds the response (so the timeout branch is off, `recv` yields it, and `hcan` makes a `cancelled`
    -- outcome an `rCancel i`, hence `c = true` by `hc`); after it only the pc moves within `post`
    iterate 11 simp_all [RPc.post]
    grind [RPc.post]  -- the return of the attempt: `h3` (`afterAttempt_spec`) keeps id and outcome, and the pc stays in `post`
                      -- or, on a retry, the outcome was a timeout, which `hS` excludes
  · exact ⟨hid, hret, hS⟩
  · refine ⟨hid, hret, ?_⟩
    rcases hS with ⟨hw, hb⟩ | hp
    · left; simp [hw, hb]
    · right; exact hp

theorem served_run (P : Nat → Nat) (l : List Action) :
    ∀ (s s' : State), run P s l = some s' → ∀ (i x b : Nat) (c : Bool) (r : Req),
      s.reqs[i]? = some r → Served P x b c r → (Action.rCancel i ∈ l → c = true) →
      ∃ r', s'.reqs[i]? = some r' ∧ Served P x b c r' := by
  intro s s' h i x b c r hr hS hc
  exact run_invariant (Q := fun s => ∃ r', s.reqs[i]? = some r' ∧ Served P x b c r') l
    (fun a ha s s1 ⟨r, hr, hS⟩ hs => served_step P s s1 a hs i x b c r hr hS fun e => hc (e ▸ ha))
    s s' ⟨r, hr, hS⟩ h

/-! ### the widened-lock variant -/

/-- requester statements when the registration critical section is extended over `mp.send`:
`Lock; resCh[id] = ch; send; (on error: delete(resCh, id);) Unlock` -/
def stepReqW (s : State) (i : Nat) (r : Req) : Option State :=
  match r.pc with
  | .regStore =>   -- `resCh[id] = ch`, then straight into `mp.send` with `resMu` still held
    some { s with resCh := storeId s.resCh r.id i, reqs := s.reqs.set i { r with pc := .send } }
  | .regUnlock =>  -- the `Unlock` after the send: return the send error, or enter the select
    if r.out = some .sendErr then some { s with lock := none, reqs := s.reqs.set i (afterAttempt r) }
    else some { s with lock := none, reqs := s.reqs.set i { r with pc := .wait } }
  | _ => stepReq s i r

def stepW (P : Nat → Nat) (s : State) (a : Action) : Option State :=
  match a with
  | .rStep i => match s.reqs[i]? with
    | some r => stepReqW s i r
    | none => none
  | .rSendOk i => match s.reqs[i]? with
    | some r => if r.pc = .send then some { s with sent := r.id :: s.sent, reqs := s.reqs.set i { r with pc := .regUnlock } } else none
    | none => none
  | .rSendErr i => match s.reqs[i]? with
    | some r =>
      if r.pc = .send then
        some { s with resCh := eraseId s.resCh r.id, reqs := s.reqs.set i { r with pc := .regUnlock, out := some .sendErr } }
      else none
    | none => none
  | a => step P s a

def runW (P : Nat → Nat) (s : State) : List Action → Option State
  | [] => some s
  | a :: as => match stepW P s a with
    | some s' => runW P s' as
    | none => none

/-- the layer is stalled behind requester 1, which sits in `mp.send` holding `resMu` -/
structure StuckW (s : State) : Prop where
  lock : s.lock = some (.req 1)
  r1 : ∃ r, s.reqs[1]? = some r ∧ r.pc = .send
  r0 : ∃ r, s.reqs[0]? = some r ∧ r.buf = none ∧
    ((r.pc = .wait ∧ r.out = none) ∨ (r.pc = .unLock ∧ (r.out = some .timeout ∨ r.out = some .cancelled)))
  hs : ∀ (j : Nat) (h : Hdl), s.hdls[j]? = some h → h.pc = .lock
  rs : ∀ (i : Nat) (r : Req), s.reqs[i]? = some r → i ≠ 0 → i ≠ 1 → r.pc = .start ∨ r.pc = .regLock

/-- Behind the stalled send the only statements that are enabled are: a further requester creates its
message, the first requester's timer or context fires, and the environment. -/
theorem stuckW_step (P : Nat → Nat) (s s' : State) (a : Action) (hS : StuckW s)
    (hne : a ≠ .rSendOk 1 ∧ a ≠ .rSendErr 1) (h : stepW P s a = some s') : StuckW s' := by
  have hl := hS.lock
  obtain ⟨r1, hr1, hp1⟩ := hS.r1
  obtain ⟨r0, hr0, hb0, hq0⟩ := hS.r0
  have hH := hS.hs
  have hR := hS.rs
  have pcs : ∀ i r, s.reqs[i]? = some r → (i = 0 ∧ r = r0) ∨ (i = 1 ∧ r.pc = .send) ∨
      (i ≠ 0 ∧ i ≠ 1 ∧ (r.pc = .start ∨ r.pc = .regLock)) := fun i r hr => by
    by_cases h0 : i = 0
    · subst h0; exact .inl ⟨rfl, Option.some.inj (hr.symm.trans hr0)⟩
    · by_cases h1 : i = 1
      · subst h1; cases hr1.symm.trans hr; exact .inr (.inl ⟨rfl, hp1⟩)
      · exact .inr (.inr ⟨h0, h1, hR i r hr h0 h1⟩)
  have lt0 := (List.getElem?_eq_some_iff.mp hr0).1
  have lt1 := (List.getElem?_eq_some_iff.mp hr1).1
  -- the first requester leaves its `select` by timeout or cancellation
  have leave : ∀ (r' : Req), r'.buf = none → r'.pc = .unLock → (r'.out = some .timeout ∨ r'.out = some .cancelled) →
      StuckW { s with reqs := s.reqs.set 0 r' } := fun r' hb hp ho =>
    ⟨hl, ⟨r1, (List.getElem?_set_ne (by decide)).trans hr1, hp1⟩, ⟨r', List.getElem?_set_self lt0, hb, .inr ⟨hp, ho⟩⟩,
      hH, forall_set hR hr0 fun _ h0 => absurd rfl h0⟩
  -- only requester 1 is inside `send`, only requester 0 can be in its `select`
  have atSend : ∀ i r, s.reqs[i]? = some r → r.pc = .send → i = 1 := fun i r hr hp => by
    rcases pcs i r hr with ⟨_, rfl⟩ | ⟨e, _⟩ | ⟨_, _, h | h⟩
    · rcases hq0 with ⟨h, _⟩ | ⟨h, _⟩ <;> cases h.symm.trans hp
    · exact e
    all_goals cases h.symm.trans hp
  have atWait : ∀ i r, s.reqs[i]? = some r → r.pc = .wait → i = 0 ∧ r.buf = none := fun i r hr hp => by
    rcases pcs i r hr with ⟨e, rfl⟩ | ⟨_, h⟩ | ⟨_, _, h | h⟩
    · exact ⟨e, hb0⟩
    all_goals cases h.symm.trans hp
  have frame : ∀ n, StuckW { s with net := n } := fun _ => ⟨hl, ⟨r1, hr1, hp1⟩, ⟨r0, hr0, hb0, hq0⟩, hH, hR⟩
  cases a with
  | rStep i =>
    simp only [stepW] at h; split at h <;> try cases h
    next r hr =>
    rcases pcs i r hr with ⟨_, rfl⟩ | ⟨_, hp⟩ | ⟨h0, h1, hp | hp⟩
    · rcases hq0 with ⟨hp, _⟩ | ⟨hp, _⟩ <;> simp [stepReqW, stepReq, hp, hl] at h
    · simp [stepReqW, stepReq, hp] at h
    · simp only [stepReqW, stepReq, hp] at h; cases h
      exact ⟨hl, ⟨r1, (List.getElem?_set_ne h1).trans hr1, hp1⟩,
        ⟨r0, (List.getElem?_set_ne h0).trans hr0, hb0, hq0⟩, hH,
        forall_set hR hr fun _ _ _ => .inr rfl⟩
    · simp [stepReqW, stepReq, hp, hl] at h
  | rSendOk i =>
    simp only [stepW] at h; split at h <;> try cases h
    next r hr =>
    split at h <;> cases h
    next hp => exact absurd (atSend i r hr hp ▸ rfl) hne.1
  | rSendErr i =>
    simp only [stepW] at h; split at h <;> try cases h
    next r hr =>
    split at h <;> cases h
    next hp => exact absurd (atSend i r hr hp ▸ rfl) hne.2
  | rRecv i =>
    simp only [stepW, step] at h; split at h <;> try cases h
    next r hr =>
    split at h <;> try cases h
    next hw => rw [(atWait i r hr hw).2] at h; cases h
  | rTimeout i =>
    simp only [stepW, step] at h; split at h <;> try cases h
    next r hr =>
    split at h <;> cases h
    next hc => obtain ⟨rfl, _⟩ := atWait i r hr hc.1; exact leave _ hc.2 rfl (.inl rfl)
  | rCancel i =>
    simp only [stepW, step] at h; split at h <;> try cases h
    next r hr =>
    split at h <;> cases h
    next hw => obtain ⟨rfl, hb⟩ := atWait i r hr hw; exact leave _ hb rfl (.inr rfl)
  | hStep j =>
    simp only [stepW, step] at h; split at h <;> try cases h
    next x hx => simp [stepHdl, hH j x hx, hl] at h
  | nRespond id => simp only [stepW, step, stepEnv] at h; split at h <;> cases h; exact frame _
  | nDup k => simp only [stepW, step, stepEnv] at h; split at h <;> cases h; exact frame _
  | nDrop k => simp only [stepW, step, stepEnv] at h; split at h <;> cases h; exact frame _
  | nDeliver k =>
    simp only [stepW, step, stepEnv] at h; split at h <;> cases h
    exact ⟨hl, ⟨r1, hr1, hp1⟩, ⟨r0, hr0, hb0, hq0⟩, forall_push hH rfl, hR⟩
  | spawn b =>
    simp only [stepW, step, stepEnv] at h; cases h
    exact ⟨hl, ⟨r1, (List.getElem?_append_left lt1).trans hr1, hp1⟩,
      ⟨r0, (List.getElem?_append_left lt0).trans hr0, hb0, hq0⟩, hH, forall_push hR fun _ _ => .inl rfl⟩

theorem runW_eq_foldlM (P : Nat → Nat) (l : List Action) : ∀ s, runW P s l = l.foldlM (stepW P) s :=
  eq_foldlM (fun _ => rfl) (fun s a l => by rw [runW]; cases stepW P s a <;> rfl) l

theorem stuckW_run (P : Nat → Nat) (l : List Action) (s s' : State) (hS : StuckW s)
    (hne : ∀ a ∈ l, a ≠ .rSendOk 1 ∧ a ≠ .rSendErr 1) (h : runW P s l = some s') : StuckW s' :=
  foldlM_invariant l (fun a ha s s1 hS hs => stuckW_step P s s1 a hS (hne a ha) hs) s s' hS
    (runW_eq_foldlM P l s ▸ h)

/-! ### a finite run, continued by stuttering, as an execution -/

/-- the state after the first `n` actions of a schedule (the last state once the schedule is used up) -/
def stateAt (P : Nat → Nat) (s : State) : List Action → Nat → State
  | [], _ => s
  | _ :: _, 0 => s
  | a :: as, n + 1 => match step P s a with
    | some s' => stateAt P s' as n
    | none => s

theorem stateAt_next (P : Nat → Nat) (l : List Action) (s s' : State) (h : run P s l = some s') (n : Nat) :
    (∃ a, l[n]? = some a ∧ step P (stateAt P s l n) a = some (stateAt P s l (n + 1))) ∨
    (l[n]? = none ∧ stateAt P s l (n + 1) = stateAt P s l n) := by
  revert n
  refine run_induct (motive := fun s l _ => ∀ n,
      (∃ a, l[n]? = some a ∧ step P (stateAt P s l n) a = some (stateAt P s l (n + 1))) ∨
      (l[n]? = none ∧ stateAt P s l (n + 1) = stateAt P s l n))
    (fun s n => .inr ⟨rfl, rfl⟩) (fun s a s1 l s' hs _ ih n => ?_) h
  cases n with
  | zero => exact .inl ⟨a, rfl, by cases l <;> simp [stateAt, hs]⟩
  | succ n => simpa [stateAt, hs] using ih n

theorem stateAt_end (P : Nat → Nat) (l : List Action) (s s' : State) (h : run P s l = some s') :
    ∀ n, l.length ≤ n → stateAt P s l n = s' := by
  refine run_induct (motive := fun s l s' => ∀ n, l.length ≤ n → stateAt P s l n = s')
    (fun s n _ => rfl) (fun s a s1 l s' hs _ ih n hn => ?_) h
  cases n with
  | zero => cases hn
  | succ n => simp only [stateAt, hs]; exact ih n (Nat.le_of_succ_le_succ hn)

/-- the execution that follows the schedule `l` from the initial state and then stutters -/
def Exec.ofRun (P : Nat → Nat) (l : List Action) (s' : State) (h : run P init l = some s') : Exec P where
  σ := stateAt P init l
  α := fun n => l[n]?
  start := by cases l <;> exact .init
  next := stateAt_next P l init s' h

/-- an execution that ends (by stuttering) in a state where no local statement is enabled is fair to
every thread -/
theorem Exec.ofRun_fair (P : Nat → Nat) (l : List Action) (s' : State) (h : run P init l = some s')
    (hq : ∀ a, a.isLocal = true → step P s' a = none) (t : Tid) : (Exec.ofRun P l s' h).Fair t := by
  intro hen
  exfalso
  obtain ⟨m, hm, a, _, hloc, hsome⟩ := hen l.length
  have : (Exec.ofRun P l s' h).σ m = s' := stateAt_end P l init s' h m hm
  rw [this, hq a hloc] at hsome
  simp at hsome

end LiskVerif.ReqResp
