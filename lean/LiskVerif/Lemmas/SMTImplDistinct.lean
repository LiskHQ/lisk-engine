/-
LIP-0039 roots of different groups of entries differ (for a collision-free hash with outputs of one length,
`GoodHash`): the facts the frame reasoning of the store refinement needs.

* `descend` is `SMT.descend` with the arguments swapped (`descend_eq`), its lemmas are those of Lemmas/SMT.lean and Lemmas/SMTNodes.lean carried over;
  `descend [b] es` is the child of `es` on side `b`, which lets one argument serve both sides;
* the inputs hashed for a root (`treeInputs`) and their closure under descending and reordering (`InX`: `inX_child`,
  `inX_descend`, `inX_perm`, `treeInputs_perm`), which `World.trie` needs;
* the three kinds of root (`H []`, `H (0 :: _)`, `H (1 :: _)`) are separated (`root_kind_sep`, by `SMT.root_eq_rec`:
  two groups with equal roots are taken apart in step);
* a group of at least two entries and the same group seen from a strictly lower position have different roots: the
  tree below a branch is lower, and equal roots have equal heights;
* `avoids_outside` (no key lies below two diverging positions, `diverge_key_ne`), `avoids_below`: the form used by the
  frame reasoning (`Avoids`).
-/
import LiskVerif.Lemmas.SMTImplRep
import LiskVerif.Lemmas.SMTNodes

namespace LiskVerif.SMTImpl
open LiskVerif LiskVerif.SMT

theorem descend_eq (x : Bits) (es : List Entry) : descend x es = SMT.descend es x := by
  induction x generalizing es with
  | nil => rfl
  | cons b x ih => cases b <;> exact ih _

theorem descend_append (x y : Bits) (es : List Entry) : descend (x ++ y) es = descend y (descend x es) := by
  rw [descend_eq, descend_eq, descend_eq, SMT.descend_append]

theorem descend_length_le (x : Bits) (es : List Entry) : (descend x es).length ≤ es.length :=
  descend_eq x es ▸ SMT.length_descend_le es x

theorem wfe_descend {d : Nat} {es : List Entry} (h : WFE d es) (x : Bits) (hx : x.length ≤ d) :
    WFE (d - x.length) (descend x es) :=
  descend_eq x es ▸ SMT.wfe_descend x h hx

theorem mem_descend {x : Bits} {es : List Entry} {e' : Entry} :
    e' ∈ descend x es ↔ ∃ e ∈ es, e.path = x ++ e'.path ∧ e'.key = e.key ∧ e'.value = e.value :=
  descend_eq x es ▸ SMT.mem_descend x

theorem wfe_child {d : Nat} {es : List Entry} (h : WFE (d + 1) es) (b : Bool) : WFE d (descend [b] es) :=
  wfe_descend h [b] (Nat.le_add_left 1 d)

theorem kv_descend {P : Bytes → Bytes → Prop} {es : List Entry} (h : ∀ e ∈ es, P e.key e.value) (x : Bits) :
    ∀ e ∈ descend x es, P e.key e.value :=
  descend_eq x es ▸ SMT.kv_descend h x

theorem under_descend {pre : Bits} {es : List Entry} (h : ∀ e ∈ es, Under pre e) (x : Bits) :
    ∀ e ∈ descend x es, Under (pre ++ x) e := by
  intro e' he'
  obtain ⟨e, he, hp, hk, _⟩ := mem_descend.mp he'
  have := h e he
  unfold Under at *
  rw [hk, this, hp, List.append_assoc]

theorem descend_nil_of_gt {d : Nat} {es : List Entry} (h : WFE d es) (x : Bits) (hx : d < x.length) :
    descend x es = [] :=
  descend_eq x es ▸ SMT.descend_nil_of_gt h x hx

/-! ### the inputs hashed for a root (`treeInputs`) and their closure (`InX`) -/

variable {X : Bytes → Prop} (c : Cfg) {d d' : Nat} {es es' : List Entry}

theorem treeInputs_nil (H : HashFn) (d : Nat) : treeInputs H d [] = [[]] := by
  cases d <;> rfl

theorem treeInputs_single (H : HashFn) (d : Nat) (e : Entry) :
    treeInputs H d [e] = [0 :: (e.key ++ e.value)] := by
  cases d <;> rfl

theorem inX_nil (g : GoodHash c X) (d : Nat) : InX c X d [] := by
  intro a ha
  rw [treeInputs_nil] at ha
  obtain rfl : a = [] := by simpa using ha
  exact g.nil

theorem inX_single {e : Entry} (hx : InX c X d [e]) :
    X (0 :: (e.key ++ e.value)) :=
  hx _ (by rw [treeInputs_single]; simp)

/-- closure of `InX`: the inputs of a child are among those of the group, or `[]`, or (below a single entry) the
input of that entry -/
theorem inX_child (g : GoodHash c X) (hw : WFE (d + 1) es)
    (hx : InX c X (d + 1) es) (b : Bool) : InX c X d (descend [b] es) := by
  rcases root_pre c.H hw with ⟨rfl, _, _⟩ | ⟨e, rfl, _, _⟩ | ⟨_, d', hd, _, _, hl, hr⟩
  · cases b <;> exact inX_nil c g d
  · have hlen := descend_length_le [b] [e]
    match hl : descend [b] [e], hlen with
    | [], _ => exact inX_nil c g d
    | [e'], _ =>
      obtain ⟨e₀, he₀, _, hk, hv⟩ := mem_descend.mp (hl ▸ List.mem_singleton_self e' : e' ∈ descend [b] [e])
      obtain rfl : e₀ = e := by simpa using he₀
      intro a ha
      rw [treeInputs_single] at ha
      obtain rfl : a = 0 :: (e'.key ++ e'.value) := by simpa using ha
      rw [hk, hv]
      exact inX_single c hx
  · obtain rfl : d = d' := by omega
    intro a ha
    cases b
    · exact hx a (hl a ha)
    · exact hx a (hr a ha)

theorem inX_goL (c : Cfg) (g : GoodHash c X) {d : Nat} {es : List Entry} (hw : WFE (d + 1) es)
    (hx : InX c X (d + 1) es) : InX c X d (goL es) :=
  inX_child c g hw hx false

theorem inX_goR (c : Cfg) (g : GoodHash c X) {d : Nat} {es : List Entry} (hw : WFE (d + 1) es)
    (hx : InX c X (d + 1) es) : InX c X d (goR es) :=
  inX_child c g hw hx true

theorem inX_descend (g : GoodHash c X) (hw : WFE d es)
    (hx : InX c X d es) (x : Bits) (hxl : x.length ≤ d) : InX c X (d - x.length) (descend x es) := by
  induction x generalizing d es with
  | nil => exact hx
  | cons b x ih =>
    match d, hxl, hw, hx with
    | d + 1, hxl, hw, hx =>
      rw [List.length_cons, Nat.add_sub_add_right]
      exact descend_append [b] x es ▸ ih (wfe_child hw b) (inX_child c g hw hx b) (Nat.le_of_succ_le_succ hxl)

/-- `treeInputs` does not depend on the order of the entries (as a set) -/
theorem treeInputs_perm (H : HashFn) (d : Nat) {a b : List Entry} (h : a.Perm b) (x : Bytes) :
    x ∈ treeInputs H d a ↔ x ∈ treeInputs H d b := by
  induction d, a using root.induct generalizing b with
  | case1 => rw [List.Perm.eq_nil h.symm]
  | case2 => rw [List.perm_singleton.mp h.symm]
  | case3 e₁ e₂ es =>
    match b, h.length_eq with
    | f₁ :: f₂ :: fs, _ => simp [treeInputs]
  | case4 d e₁ e₂ es ihl ihr =>
    match b, h.length_eq, h with
    | f₁ :: f₂ :: fs, _, h =>
      simp only [treeInputs, List.mem_cons, List.mem_append]
      rw [root_perm H d (goL_perm h), root_perm H d (goR_perm h), ihl (goL_perm h), ihr (goR_perm h)]

theorem inX_perm (h : es.Perm es') (hx : InX c X d es') :
    InX c X d es :=
  fun a ha => hx a ((treeInputs_perm c.H d h a).mp ha)

/-! ### the three kinds of root are separated -/

theorem root_kind_sep (g : GoodHash c X) (hw : WFE d es)
    (hw' : WFE d' es') (hx : InX c X d es) (hx' : InX c X d' es')
    (h : root c.H d es = root c.H d' es') : kindOfLen es.length = kindOfLen es'.length :=
  SMT.root_eq_rec g.len g.inj (P := fun _ _ es es' => kindOfLen es.length = kindOfLen es'.length) (fun _ _ => rfl)
    (fun _ _ _ _ _ => rfl) (fun _ _ _ _ _ _ n2 n2' _ _ => by rw [kindOfLen_stub.mpr n2, kindOfLen_stub.mpr n2'])
    d d' es es' hw hw' hx hx' h

/-- a group of at least two entries and the same group seen from a strictly lower position have different
roots: equal roots have equal tree heights, and the tree below a branch is lower -/
theorem root_ne_descend (g : GoodHash c X) (d'' d : Nat) (es : List Entry) (x : Bits) (hx : x ≠ [])
    (hd : d = d'' + x.length) (hw : WFE d es) (hX : InX c X d es) (h2 : 2 ≤ es.length) :
    root c.H d es ≠ root c.H d'' (descend x es) := by
  intro heq
  have e : d - x.length = d'' := by omega
  have hht := root_eq_ht g.len g.inj d d'' es _ hw (e ▸ wfe_descend hw x (by omega)) hX
    (e ▸ inX_descend c g hw hX x (by omega)) heq
  obtain ⟨b, r, rfl⟩ := List.exists_cons_of_ne_nil hx
  have hlt : ht (d - (b :: r).length) (SMT.descend es (b :: r)) < ht d es :=
    ht_descend_lt (D := d) (es := es) [] b r (by simp at hd ⊢; omega) h2
  rw [descend_eq] at hht
  rw [e] at hlt
  omega

/-! ### consequences in the form the frame reasoning needs -/

/-- no key lies below two diverging positions -/
theorem diverge_key_ne {pre pre' : Bits} (hd : Diverge pre pre') {e e₀ : Entry} (hu : Under pre e)
    (hu₀ : Under pre' e₀) (hk : e₀.key = e.key) : False := by
  obtain ⟨cm, b, r₁, r₂, rfl, rfl⟩ := hd
  unfold Under at hu hu₀
  rw [hk, hu, List.append_assoc, List.append_assoc] at hu₀
  have h := List.append_cancel_left hu₀
  simp only [List.cons_append, List.cons.injEq] at h
  cases b <;> simp at h

/-- the root of any group `es` below `pre` is not the record key of any group (≥ 2 entries) below a diverging
position -/
theorem avoids_outside (g : GoodHash c X) (keyLen : Nat) {pre pre' : Bits} {dO : Nat} {eo : List Entry}
    (hd : Diverge pre pre') (hu : ∀ e ∈ es, Under pre e) (huo : ∀ e ∈ eo, Under pre' e)
    (hw : WFE d es) (hwo : WFE dO eo) (hx : InX c X d es) (hxo : InX c X dO eo)
    (hk : ∀ e ∈ es, e.key.length = keyLen)
    (hko : ∀ e ∈ eo, e.key.length = keyLen) : Avoids c.H (root c.H d es) dO eo := by
  intro x h2 heq
  have hxl : x.length ≤ dO := by
    apply Nat.le_of_not_lt
    intro hlt
    rw [descend_nil_of_gt hwo x hlt] at h2
    simp at h2
  have hwx := wfe_descend hwo x hxl
  have hxx := inX_descend c g hwo hxo x hxl
  have hkind := root_kind_sep c g hw hwx hx hxx heq
  have h2e : 2 ≤ es.length := kindOfLen_stub.mp (by rw [hkind]; exact kindOfLen_stub.mpr h2)
  match es, h2e with
  | e :: _ :: _, _ =>
    obtain ⟨e', he', hke, _⟩ := SMT.root_keys_subset g.len g.inj keyLen d _ _ _ hw hwx hx hxx hk
      (kv_descend (P := fun k _ => k.length = keyLen) hko x) heq e (by simp)
    obtain ⟨e₀, he₀, _, hk₀, _⟩ := mem_descend.mp he'
    exact diverge_key_ne hd (hu e (by simp)) (huo e₀ he₀) (by rw [← hk₀, hke])

/-- the root of a group is not the record key of any group (≥ 2 entries) strictly below it -/
theorem avoids_below (g : GoodHash c X) (hw : WFE d es)
    (hx : InX c X d es) (y : Bits) (hy : y ≠ []) : Avoids c.H (root c.H d es) (d - y.length) (descend y es) := by
  intro x h2 heq
  rw [← descend_append] at h2 heq
  have hxl : (y ++ x).length ≤ d := by
    apply Nat.le_of_not_lt
    intro hlt
    rw [descend_nil_of_gt hw (y ++ x) hlt] at h2
    simp at h2
  have hdd : d - y.length - x.length = d - (y ++ x).length := by
    rw [List.length_append]; omega
  rw [hdd] at heq
  have hwx := wfe_descend hw (y ++ x) hxl
  have hxx := inX_descend c g hw hx (y ++ x) hxl
  have hne : y ++ x ≠ [] := by
    intro h; exact hy (List.append_eq_nil_iff.mp h).1
  exact root_ne_descend c g (d - (y ++ x).length) d es (y ++ x) hne (by omega) hw hx
    (Nat.le_trans h2 (descend_length_le _ _)) heq

#print axioms inX_goL
#print axioms inX_goR
#print axioms inX_descend
#print axioms treeInputs_perm
#print axioms inX_perm
#print axioms root_length
#print axioms root_kind_sep
#print axioms avoids_outside
#print axioms avoids_below
#print axioms root_keys_subset
#print axioms root_ne_descend

end LiskVerif.SMTImpl
