/-
`deleteBlock` key by key and the refinement under it; facts about `spec` along a well-formed chain
(keys that are present stay, the keys of the blocks of the chain hold the blocks' data); reading
blocks back from the database: `getBlock` returns the blocks of the chain, `PrepareCache` (restart,
and the reload after the block cache ran empty) rebuilds a cache that agrees with the chain. For the heights at or
below the base the block index of the base database is assumed consistent (`BaseOK`); the last entry of the height
index is the tip's (`top_index`).
-/
import LiskVerif.Lemmas.NodeRef

namespace LiskVerif.Node
open LiskVerif LiskVerif.DiffDB

/-! ### deleteBlock, key by key -/

/-- the database after `deleteBlock` reverted the state diff `d` stored for height `r` and removed `tip` -/
def deleteDbAt (db : Store) (d : Diff) (r : Nat) (tip : Block) (st : Bool) : Store :=
  applyBatch (revertDiff db d) (.del (kDiff r) :: removeBlockOps tip st)

/-- the database after a successful `deleteBlock` of the tip -/
def deleteDb (db : Store) (d : Diff) (tip : Block) (st : Bool) : Store :=
  deleteDbAt db d tip.hdr.height tip st

theorem nodup_deleteDb (db : Store) (d : Diff) (tip : Block) (st : Bool) (h : NoDupKeys db) :
    NoDupKeys (deleteDb db d tip st) :=
  nodup_applyBatch _ _ (nodup_revertDiff h _)

theorem kTemp_vol (f h : Nat) : Vol f (kTemp h) := Or.inr (Or.inl (by simp [kTemp]))

theorem kDiff_not_vol {f h : Nat} (hlt : h < u32) (hle : f ≤ h) : ¬ Vol f (kDiff h) := by
  intro hv
  rcases hv with h1 | h1 | ⟨_, h2⟩ | ⟨m, _, h2⟩
  · simp [kDiff, kFin] at h1
  · simp [kDiff] at h1
  · simp only [kDiff, List.drop_succ_cons, List.drop_zero] at h2
    rw [decU32_encU32_of_lt hlt] at h2
    omega
  · have := inRange_events_head h2
    simp [kDiff] at this

theorem removeOps_split (b : Block) (st : Bool) :
    BOp.del (kDiff b.hdr.height) :: removeBlockOps b st =
      (removedKeys b).map BOp.del ++ (if st = true then [BOp.set (kTemp b.hdr.height) (encBlock b)] else []) := by
  unfold removedKeys removeBlockOps
  by_cases ht : b.txs.isEmpty = true <;> by_cases ha : b.assets.isEmpty = true <;>
    simp [ht, ha, BOp.key, List.map_map, Function.comp]

theorem bval_removeOps (b : Block) (st : Bool) (k : Bytes) :
    bval (BOp.del (kDiff b.hdr.height) :: removeBlockOps b st) k =
      if st = true ∧ k = kTemp b.hdr.height then some (some (encBlock b))
      else if k ∈ removedKeys b then some none else none := by
  rw [removeOps_split, bval_append, bval_dels, bval_ite, bval_one]
  cases st with
  | false => simp
  | true =>
    by_cases hk : k = kTemp b.hdr.height
    · subst hk; simp [BOp.key, BOp.val]
    · have : ¬ kTemp b.hdr.height = k := fun h => hk h.symm
      simp [BOp.key, hk, this]

/-- `deleteBlock`, key by key, on any database `X` that holds what committing the overlay `ov` wrote -/
theorem deleteDb_lookup_of_agree {X : Store} {ov : Cache} (b : Block) (st : Bool) (hX : NoDupKeys X)
    (hov : OverlayOK ov)
    (hagree : ∀ k cv, clookup ov k = some cv → slookup X k =
      match stateVal ov k with
      | some v => v
      | none => cv.init) (k : Bytes) :
    slookup (deleteDb X (diffOf ov) b st) k =
      if st = true ∧ k = kTemp b.hdr.height then some (encBlock b)
      else if k ∈ removedKeys b then none
      else match clookup ov k with
        | some cv => cv.init
        | none => slookup X k := by
  unfold deleteDb deleteDbAt
  rw [slookup_applyBatch, revert_after_commit X ov hX hov hagree k, bval_removeOps]
  by_cases h1 : st = true ∧ k = kTemp b.hdr.height
  · rw [if_pos h1, if_pos h1]
  · rw [if_neg h1, if_neg h1]
    by_cases h2 : k ∈ removedKeys b
    · rw [if_pos h2, if_pos h2]
    · rw [if_neg h2, if_neg h2]; rfl

/-- `deleteBlock`, key by key, for the tip of a refined state -/
theorem deleteDb_lookup {cd : Codecs} {base : Store} {baseH : Nat} {db : Store} {c : Chain}
    {b : Block} {x : Exec} {fin : Nat} (st : Bool)
    (hR : DbRef cd base baseH db ((b, x) :: c)) (hf : finOf db = some fin) (k : Bytes) :
    slookup (deleteDb db (diffOf x.overlay) b st) k =
      if st = true ∧ k = kTemp b.hdr.height then some (encBlock b)
      else if k ∈ removedKeys b then none
      else match clookup x.overlay k with
        | some cv => cv.init
        | none => slookup db k := by
  obtain ⟨hstep, _, _⟩ := hR.wf
  refine deleteDb_lookup_of_agree b st hR.nodup hstep.ov (fun k cv hc => ?_) k
  have hk := isStateKey_of_clookup hstep.stateKeys hc
  rw [hR.agree fin hf k (fun hv => Vol_not_state hv hk)]
  simp only [spec]
  have : bval (persistOps cd b x) k = none :=
    bval_none _ _ (fun op hop he => allKeys_not_state (he ▸ persistOps_keys cd b x op hop) hk)
  rw [this]
  simp only
  cases stateVal x.overlay k with
  | some v => rfl
  | none => simp only; exact (hstep.initOk k cv hc).symm

/-- `DbRef` is preserved by a successful `deleteBlock` of the chain's tip: the chain loses its
newest block and the database is again what the shorter chain produces. -/
theorem dbRef_delete {cd : Codecs} {base : Store} {baseH : Nat} {db : Store} {c : Chain}
    {b : Block} {x : Exec} {st : Bool} {fin : Nat}
    (hR : DbRef cd base baseH db ((b, x) :: c)) (hf : finOf db = some fin) (hlt : fin < b.hdr.height) :
    DbRef cd base baseH (deleteDb db (diffOf x.overlay) b st) c ∧
      finOf (deleteDb db (diffOf x.overlay) b st) = some fin := by
  obtain ⟨hstep, hheight, hwf⟩ := hR.wf
  have hlook := fun k => deleteDb_lookup (k := k) st hR hf
  -- the finalized height marker is untouched
  have hfin' : finOf (deleteDb db (diffOf x.overlay) b st) = some fin := by
    have h2 : clookup x.overlay kFin = none :=
      clookup_none_of_not_state hstep.stateKeys (not_state_of_head kFin_head)
    have h1 : ¬ (st = true ∧ kFin = kTemp b.hdr.height) :=
      fun h => ne_of_head kFin_head (kTemp_head _) (by decide) h.2.symm
    unfold finOf at hf ⊢
    rw [hlook kFin, if_neg h1, if_neg fun h => (removedKeys_head h).2.1 kFin_head, h2]
    exact hf
  obtain ⟨hb0, ht0⟩ := hR.fin_le hf
  refine ⟨⟨nodup_deleteDb _ _ _ _ hR.nodup, ⟨fin, hfin', hb0, ?_⟩, ?_, hwf, ?_⟩, hfin'⟩
  · omega
  · intro f hf' k hk
    obtain rfl : f = fin := Option.some.inj (hf'.symm.trans hfin')
    have h1 : ¬ (st = true ∧ k = kTemp b.hdr.height) := fun h => hk (h.2 ▸ kTemp_vol f b.hdr.height)
    rw [hlook k, if_neg h1]
    split
    · rename_i hrem
      exact (hstep.fresh k (removedKeys_allKeys b k hrem)).symm
    · rename_i hrem
      cases hc : clookup x.overlay k with
      | some cv => exact hstep.initOk k cv hc
      | none =>
        simp only
        rw [hR.agree f hf k hk]
        simp only [spec]
        have hp : bval (persistOps cd b x) k = none :=
          bval_none _ k fun op hop he => hrem (he ▸ persistOps_key_removed cd b x op hop)
        rw [hp, stateVal_none_of_not_key _ _ hc]
  · have := hR.tipLt
    simp only [tipH] at this
    omega

/-! ### `spec` along a well-formed chain -/

/-- a non-state key that is present survives the application of another block -/
theorem spec_present_cons {cd : Codecs} {base : Store} {c : Chain} {b : Block} {x : Exec}
    (hstep : StepOK cd base c b x) {k : Bytes} {v : Bytes} (hst : ¬ isStateKey k)
    (h : spec cd base c k = some v) : spec cd base ((b, x) :: c) k = some v := by
  have hk : k ∉ allKeys b := by
    intro hm
    rw [hstep.fresh k hm] at h
    cases h
  rw [spec_cons_other cd base b x c k hstep.stateKeys hk hst, h]

theorem spec_base_present {cd : Codecs} {base : Store} {baseH : Nat} : ∀ {c : Chain},
    ChainWF cd base baseH c → ∀ {k v : Bytes}, ¬ isStateKey k → slookup base k = some v →
      spec cd base c k = some v := by
  intro c
  induction c with
  | nil => intro _ k v _ h; exact h
  | cons e r ih =>
    obtain ⟨b, x⟩ := e
    intro hwf k v hst h
    exact spec_present_cons hwf.step hst (ih hwf.tail hst h)

/-- where a present non-state key comes from -/
theorem spec_some_origin {cd : Codecs} {base : Store} {baseH : Nat} : ∀ {c : Chain},
    ChainWF cd base baseH c → ∀ {k v : Bytes}, ¬ isStateKey k → spec cd base c k = some v →
      (∃ bx ∈ c, k ∈ allKeys bx.1) ∨ slookup base k = some v := by
  intro c
  induction c with
  | nil => intro _ k v _ h; exact Or.inr h
  | cons e r ih =>
    obtain ⟨b, x⟩ := e
    intro hwf k v hst h
    by_cases hk : k ∈ allKeys b
    · exact Or.inl ⟨(b, x), List.mem_cons_self, hk⟩
    · rw [spec_cons_other cd base b x r k hwf.step.stateKeys hk hst] at h
      rcases ih hwf.tail hst h with ⟨bx, hbx, hm⟩ | hb
      · exact Or.inl ⟨bx, List.mem_cons_of_mem _ hbx, hm⟩
      · exact Or.inr hb

/-- a non-state key that belongs to no block of the chain and is absent in the base is absent -/
theorem spec_none_of_absent {cd : Codecs} {base : Store} {baseH : Nat} {c : Chain}
    (hwf : ChainWF cd base baseH c) {k : Bytes} (hns : ¬ isStateKey k)
    (hc : ∀ bx ∈ c, k ∉ allKeys bx.1) (hb : slookup base k = none) : spec cd base c k = none := by
  cases hs : spec cd base c k with
  | none => rfl
  | some v =>
    rcases spec_some_origin hwf hns hs with ⟨bx, hbx, hm⟩ | h
    · exact absurd hm (hc bx hbx)
    · rw [hb] at h; cases h

/-- what the newest block of the chain stored under one of its keys -/
theorem spec_head_persist {cd : Codecs} {base : Store} {c : Chain} {b : Block} {x : Exec}
    {k : Bytes} {v : Option Bytes} (h : bval (persistOps cd b x) k = some v) :
    spec cd base ((b, x) :: c) k = v := by
  simp only [spec, h]

theorem spec_head_absent {cd : Codecs} {base : Store} {c : Chain} {b : Block} {x : Exec}
    (hstep : StepOK cd base c b x) {k : Bytes} (hk : k ∈ allKeys b)
    (h : bval (persistOps cd b x) k = none) : spec cd base ((b, x) :: c) k = none := by
  simp only [spec, h]
  rw [stateVal_none_of_not_state _ hstep.stateKeys k (allKeys_not_state hk)]
  exact hstep.fresh k hk

/-- distinct blocks of a chain have distinct ids: the header key of an older block is in use -/
theorem kHeader_present_ne {cd : Codecs} {base : Store} {c : Chain} {b : Block} {x : Exec}
    (hstep : StepOK cd base c b x) {id : Bytes} {v : Bytes} (h : spec cd base c (kHeader id) = some v) :
    id ≠ b.hdr.id := by
  intro he
  subst he
  have := hstep.fresh (kHeader b.hdr.id) (by simp [allKeys])
  rw [this] at h
  cases h

theorem kHeader_not_state (id : Bytes) : ¬ isStateKey (kHeader id) := not_state_of_head (p := 3) rfl
theorem kHeight_not_state (h : Nat) : ¬ isStateKey (kHeight h) := not_state_of_head (p := 4) rfl
theorem kTxs_not_state (id : Bytes) : ¬ isStateKey (kTxs id) := not_state_of_head (p := 5) rfl
theorem kTx_not_state (id : Bytes) : ¬ isStateKey (kTx id) := not_state_of_head (p := 6) rfl
theorem kAssets_not_state (id : Bytes) : ¬ isStateKey (kAssets id) := not_state_of_head (p := 8) rfl

theorem not_vol_of_head {f : Nat} {k : Bytes} {p : UInt8} (h : k.head? = some p)
    (h7 : p ≠ 7) (h51 : p ≠ 51) (h9 : p ≠ 9) (h27 : p ≠ 27) : ¬ Vol f k := by
  intro hv
  rcases hv with h1 | h1 | ⟨h1, _⟩ | ⟨m, _, h2⟩
  · subst h1; simp [kFin] at h; exact h27 h.symm
  · rw [h1] at h; exact h7 (Option.some.inj h).symm
  · rw [h1] at h; exact h51 (Option.some.inj h).symm
  · rw [inRange_events_head h2] at h; exact h9 (Option.some.inj h).symm

theorem kHeader_not_vol (f : Nat) (id : Bytes) : ¬ Vol f (kHeader id) :=
  not_vol_of_head (p := 3) (by simp [kHeader]) (by decide) (by decide) (by decide) (by decide)
theorem kHeight_not_vol (f h : Nat) : ¬ Vol f (kHeight h) :=
  not_vol_of_head (p := 4) (by simp [kHeight]) (by decide) (by decide) (by decide) (by decide)
theorem kTxs_not_vol (f : Nat) (id : Bytes) : ¬ Vol f (kTxs id) :=
  not_vol_of_head (p := 5) (by simp [kTxs]) (by decide) (by decide) (by decide) (by decide)
theorem kTx_not_vol (f : Nat) (id : Bytes) : ¬ Vol f (kTx id) :=
  not_vol_of_head (p := 6) (by simp [kTx]) (by decide) (by decide) (by decide) (by decide)
theorem kAssets_not_vol (f : Nat) (id : Bytes) : ¬ Vol f (kAssets id) :=
  not_vol_of_head (p := 8) (by simp [kAssets]) (by decide) (by decide) (by decide) (by decide)

/-! ### the persistent entries of one block -/

theorem persist_val_some (cd : Codecs) (b : Block) (x : Exec) :
    ∀ op ∈ persistOps cd b x, ∃ v, op.val = some v := by
  intro op hop
  rw [mem_persistOps] at hop
  rcases hop with h | h | h | ⟨_, ⟨t, _, h⟩ | h⟩ | ⟨_, h⟩ | ⟨_, h⟩ <;> (subst h; exact ⟨_, rfl⟩)

/-- the writes for one block are consistent: two of them on one key carry one value (two transactions with
one id have the same bytes), so every one of them takes effect -/
theorem bval_persist (cd : Codecs) (b : Block) (x : Exec)
    (hcons : ∀ t ∈ b.txs, ∀ t' ∈ b.txs, t.1 = t'.1 → t.2 = t'.2) {op : BOp} (hop : op ∈ persistOps cd b x) :
    bval (persistOps cd b x) op.key = some op.val := by
  refine bval_consistent _ _ _ ⟨op, hop, rfl⟩ fun op' hop' hk => ?_
  rw [mem_persistOps] at hop hop'
  rcases hop with h | h | h | ⟨_, ⟨t, ht, h⟩ | h⟩ | ⟨_, h⟩ | ⟨_, h⟩ <;>
    rcases hop' with h' | h' | h' | ⟨_, ⟨t', ht', h'⟩ | h'⟩ | ⟨_, h'⟩ | ⟨_, h'⟩ <;> subst h <;> subst h' <;>
    first
    | rfl
    | exact absurd hk (ne_of_head rfl rfl)
    | skip
  simp only [BOp.key, kTx, List.cons.injEq, true_and] at hk
  simp only [BOp.val]
  rw [hcons t' ht' t ht hk]

theorem bval_persist_none (cd : Codecs) (b : Block) (x : Exec) (k : Bytes)
    (h : k ∉ (persistOps cd b x).map BOp.key) : bval (persistOps cd b x) k = none :=
  bval_none _ _ fun _ hop he => h (he ▸ List.mem_map_of_mem hop)

/-! ### small list facts -/

theorem chunks32_flatten : ∀ (ids : List Bytes), (∀ i ∈ ids, i.length = 32) →
    chunks32 ids.flatten = ids := by
  intro ids
  induction ids with
  | nil => intro _; simp [chunks32]
  | cons a r ih =>
    intro h
    have ha : a.length = 32 := h a List.mem_cons_self
    have hr := ih (fun i hi => h i (List.mem_cons_of_mem _ hi))
    unfold chunks32 at hr ⊢
    simp only [List.flatten_cons, List.length_append, ha]
    have : (32 + r.flatten.length) / 32 = r.flatten.length / 32 + 1 := by omega
    rw [this, List.range_succ_eq_map, List.map_cons, List.map_map]
    congr 1
    · simp [ha]
    · conv => rhs; rw [← hr]
      apply List.map_congr_left
      intro i _
      simp only [Function.comp]
      have : 32 * (i + 1) = a.length + 32 * i := by omega
      rw [this, List.drop_append]
      have h0 : List.drop (a.length + 32 * i) a = [] := List.drop_eq_nil_of_le (by omega)
      rw [h0, List.nil_append]
      congr 2
      omega

/-- a `mapM` into `Option` succeeds with `r` iff `r` lists the images, in order -/
theorem mapM_eq_some_iff {α β : Type} {f : α → Option β} : ∀ (l : List α) (r : List β),
    l.mapM f = some r ↔ l.map f = r.map some := by
  intro l
  induction l with
  | nil => intro r; cases r <;> simp
  | cons a l ih =>
    intro r
    cases ha : f a with
    | none => cases r <;> simp [ha]
    | some b =>
      cases r with
      | nil => cases hl : l.mapM f <;> simp [ha, hl]
      | cons b' r' =>
        cases hl : l.mapM f with
        | none => have := ih r'; simp [hl] at this; simp [ha, hl, this]
        | some bs => have := ih r'; simp [hl] at this; simp [ha, hl, this]

theorem putUvarint_ne_nil (n : Nat) : Codec.putUvarint n ≠ [] := by
  unfold Codec.putUvarint
  split <;> simp

theorem field_ne_nil (n : Nat) (b : Bytes) : field n b ≠ [] := by
  unfold field Codec.writeKey
  intro h
  have := List.append_eq_nil_iff.mp h
  exact putUvarint_ne_nil _ this.1

theorem encList_isEmpty (l : List Bytes) (h : l ≠ []) : (encList l).isEmpty = false := by
  cases l with
  | nil => exact absurd rfl h
  | cons a r =>
    unfold encList
    simp only [List.map_cons, List.flatten_cons]
    cases hf : field 1 a with
    | nil => exact absurd hf (field_ne_nil 1 a)
    | cons x y => rfl

/-! ### keys of other blocks -/

/-- the keys indexed by the block id (header, list of transaction ids, assets): such a key belongs to `b` iff the
id is the id of `b` -/
theorem idKey_mem_allKeys {key : Bytes → Bytes} (hkey : key = kHeader ∨ key = kTxs ∨ key = kAssets) (id : Bytes)
    (b : Block) : key id ∈ allKeys b ↔ id = b.hdr.id := by
  rcases hkey with rfl | rfl | rfl <;> simp [allKeys, kHeader, kDiff, kHeight, kTxs, kAssets, kEvents, kTx]

theorem kHeader_mem_allKeys (id : Bytes) (b : Block) : kHeader id ∈ allKeys b ↔ id = b.hdr.id :=
  idKey_mem_allKeys (.inl rfl) id b

/-- the keys indexed by the height (height index, state diff, events): such a key belongs to `b` iff the height is
the height of `b` -/
theorem heightKey_mem_allKeys {key : Nat → Bytes} (hkey : key = kHeight ∨ key = kDiff ∨ key = kEvents) (h : Nat)
    (b : Block) (hlt : h < u32) (hb : b.hdr.height < u32) : key h ∈ allKeys b ↔ h = b.hdr.height := by
  rcases hkey with rfl | rfl | rfl <;> simp [mem_allKeys, kDiff, kHeader, kHeight, kTxs, kAssets, kEvents, kTx] <;>
    exact ⟨encU32_inj hlt hb, congrArg _⟩

/-! ### the data of the blocks of the chain -/

/-- everything the database holds for a block of the chain -/
structure Stored (cd : Codecs) (base : Store) (c : Chain) (b : Block) : Prop where
  header : spec cd base c (kHeader b.hdr.id) = some b.hdrBytes
  height : spec cd base c (kHeight b.hdr.height) = some b.hdr.id
  txs : spec cd base c (kTxs b.hdr.id) = if b.txs = [] then none else some (b.txs.map (·.1)).flatten
  tx : ∀ t ∈ b.txs, spec cd base c (kTx t.1) = some t.2
  assets : spec cd base c (kAssets b.hdr.id) = if b.assets = [] then none else some (encList b.assets)

/-- what the newest block of the chain stored under the key of one of its writes -/
theorem spec_head_mem {cd : Codecs} {base : Store} {c : Chain} {b : Block} {x : Exec}
    (hstep : StepOK cd base c b x) {k v : Bytes} (hop : BOp.set k v ∈ persistOps cd b x) :
    spec cd base ((b, x) :: c) k = some v :=
  spec_head_persist (bval_persist cd b x hstep.block.txConsistent hop)

theorem spec_head_diff {cd : Codecs} {base : Store} {c : Chain} {b : Block} {x : Exec}
    (hstep : StepOK cd base c b x) :
    spec cd base ((b, x) :: c) (kDiff b.hdr.height) = some (cd.encDiff (diffOf x.overlay)) :=
  spec_head_mem hstep List.mem_cons_self

theorem stored_head {cd : Codecs} {base : Store} {c : Chain} {b : Block} {x : Exec}
    (hstep : StepOK cd base c b x) : Stored cd base ((b, x) :: c) b := by
  have m := fun op => (mem_persistOps cd b x op).mpr
  have absent : ∀ k ∈ allKeys b, k ∉ (persistOps cd b x).map BOp.key → spec cd base ((b, x) :: c) k = none :=
    fun k hk h => spec_head_absent hstep hk (bval_persist_none cd b x k h)
  refine ⟨spec_head_mem hstep (m (.set (kHeader b.hdr.id) b.hdrBytes) (Or.inr (Or.inl rfl))),
    spec_head_mem hstep (m (.set (kHeight b.hdr.height) b.hdr.id) (Or.inr (Or.inr (Or.inl rfl)))), ?_, ?_, ?_⟩
  · split
    · rename_i h
      refine absent _ (by simp [allKeys]) fun hk => ?_
      rw [mem_persistKeys] at hk
      simp [h, kTxs, kDiff, kHeader, kHeight, kEvents, kAssets] at hk
    · rename_i h
      exact spec_head_mem hstep (m (.set (kTxs b.hdr.id) (b.txs.map (·.1)).flatten)
        (Or.inr (Or.inr (Or.inr (Or.inl ⟨h, Or.inr rfl⟩)))))
  · intro t ht
    exact spec_head_mem hstep (m (.set (kTx t.1) t.2)
      (Or.inr (Or.inr (Or.inr (Or.inl ⟨List.ne_nil_of_mem ht, Or.inl ⟨t, ht, rfl⟩⟩)))))
  · split
    · rename_i h
      refine absent _ (by simp [allKeys]) fun hk => ?_
      rw [mem_persistKeys] at hk
      simp [h, kTxs, kTx, kDiff, kHeader, kHeight, kEvents, kAssets] at hk
    · rename_i h
      exact spec_head_mem hstep (m (.set (kAssets b.hdr.id) (encList b.assets))
        (Or.inr (Or.inr (Or.inr (Or.inr (Or.inr ⟨h, rfl⟩))))))

/-- the optional entry under a key indexed by the id of another block stays when a block is put on top -/
theorem spec_cons_idKey {cd : Codecs} {base : Store} {c : Chain} {b' : Block} {x' : Exec}
    (hstep : StepOK cd base c b' x') {key : Bytes → Bytes} (hkey : key = kHeader ∨ key = kTxs ∨ key = kAssets)
    {id : Bytes} (hne : id ≠ b'.hdr.id) {p : Prop} [Decidable p] {v : Bytes}
    (h : spec cd base c (key id) = if p then none else some v) :
    spec cd base ((b', x') :: c) (key id) = if p then none else some v := by
  have hns : ¬ isStateKey (key id) := by rcases hkey with rfl | rfl | rfl <;> exact not_state_of_head rfl
  by_cases hp : p
  · rw [if_pos hp] at h ⊢
    rw [spec_cons_other cd base b' x' c _ hstep.stateKeys
      (fun hm => hne ((idKey_mem_allKeys hkey _ _).mp hm)) hns, h]
  · rw [if_neg hp] at h ⊢
    exact spec_present_cons hstep hns h

theorem stored_cons {cd : Codecs} {base : Store} {c : Chain} {b b' : Block} {x' : Exec}
    (hstep : StepOK cd base c b' x') (h : Stored cd base c b) : Stored cd base ((b', x') :: c) b := by
  have hne : b.hdr.id ≠ b'.hdr.id := kHeader_present_ne hstep h.header
  refine ⟨spec_present_cons hstep (kHeader_not_state _) h.header,
    spec_present_cons hstep (kHeight_not_state _) h.height, ?_, ?_, ?_⟩
  · exact spec_cons_idKey hstep (key := kTxs) (by simp) hne h.txs
  · intro t ht
    exact spec_present_cons hstep (kTx_not_state _) (h.tx t ht)
  · exact spec_cons_idKey hstep (key := kAssets) (by simp) hne h.assets

theorem stored_member {cd : Codecs} {base : Store} {baseH : Nat} : ∀ {c : Chain},
    ChainWF cd base baseH c → ∀ bx ∈ c, Stored cd base c bx.1 := by
  intro c
  induction c with
  | nil => intro _ bx h; cases h
  | cons e r ih =>
    obtain ⟨b, x⟩ := e
    intro hwf bx hm
    simp only [List.mem_cons] at hm
    rcases hm with rfl | hm
    · exact stored_head hwf.step
    · exact stored_cons hwf.step (ih hwf.tail bx hm)

/-- `getBlock` returns a block whose data the database holds -/
theorem getBlock_of_lookups (cd : Codecs) (db : Store) (b : Block)
    (hb : BlockOK cd b)
    (h1 : slookup db (kHeader b.hdr.id) = some b.hdrBytes)
    (h2 : slookup db (kTxs b.hdr.id) = if b.txs = [] then none else some (b.txs.map (·.1)).flatten)
    (h3 : ∀ t ∈ b.txs, slookup db (kTx t.1) = some t.2)
    (h4 : slookup db (kAssets b.hdr.id) = if b.assets = [] then none else some (encList b.assets)) :
    getBlock cd db b.hdr.id = some b := by
  have htx : getTxs db b.hdr.id = some b.txs := by
    unfold getTxs
    rw [h2]
    by_cases ht : b.txs = []
    · simp [ht]
    · simp only [ht, if_false]
      rw [chunks32_flatten]
      · rw [mapM_eq_some_iff, List.map_map]
        exact List.map_congr_left fun t ht => by simp [h3 t ht]
      · intro i hi
        obtain ⟨t, ht', rfl⟩ := List.mem_map.mp hi
        exact hb.txIdLen t ht'
  have has : getAssets cd db b.hdr.id = some b.assets := by
    unfold getAssets
    rw [h4]
    by_cases ht : b.assets = []
    · simp [ht]
    · simp only [ht, if_false, encList_isEmpty _ ht, Bool.false_eq_true]
      exact hb.assetsRt ht
  unfold getBlock
  rw [h1]
  simp only [hb.hdrOk, htx, has]

theorem chain_blockOK {cd : Codecs} {base : Store} {baseH : Nat} : ∀ {c : Chain},
    ChainWF cd base baseH c → ∀ bx ∈ c, BlockOK cd bx.1
  | _ :: _, hwf, bx, hm => by
    rcases List.mem_cons.mp hm with rfl | hm
    · exact hwf.step.block
    · exact chain_blockOK hwf.tail bx hm

theorem getBlock_member {cd : Codecs} {base : Store} {baseH : Nat} {db : Store} {c : Chain}
    (hR : DbRef cd base baseH db c) {bx : Block × Exec} (hm : bx ∈ c) :
    getBlock cd db bx.1.hdr.id = some bx.1 ∧ slookup db (kHeight bx.1.hdr.height) = some bx.1.hdr.id := by
  obtain ⟨f, hf, _, _⟩ := hR.finOk
  have hs := stored_member hR.wf bx hm
  have hb := chain_blockOK hR.wf bx hm
  refine ⟨getBlock_of_lookups cd db bx.1 hb ?_ ?_ ?_ ?_, ?_⟩
  · rw [hR.agree f hf _ (kHeader_not_vol f _)]; exact hs.header
  · rw [hR.agree f hf _ (kTxs_not_vol f _)]; exact hs.txs
  · intro t ht; rw [hR.agree f hf _ (kTx_not_vol f _)]; exact hs.tx t ht
  · rw [hR.agree f hf _ (kAssets_not_vol f _)]; exact hs.assets
  · rw [hR.agree f hf _ (kHeight_not_vol f _)]; exact hs.height

/-! ### the base state -/

/-- consistency of the block index of the base database (a node state whose tip is finalized,
e.g. the state right after the genesis block) -/
structure BaseOK (cd : Codecs) (base : Store) (baseH : Nat) : Prop where
  idxShape : ∀ k v, slookup base k = some v → k.head? = some 4 → ∃ h, h ≤ baseH ∧ k = kHeight h
  idxHasHdr : ∀ h id, h ≤ baseH → slookup base (kHeight h) = some id →
    ∃ hb, slookup base (kHeader id) = some hb
  idxHdrHeight : ∀ h id hb hd, h ≤ baseH → slookup base (kHeight h) = some id →
    slookup base (kHeader id) = some hb → cd.decHdr hb = some hd → hd.height = h
  tipIdx : ∃ id, slookup base (kHeight baseH) = some id

theorem chain_covers {cd : Codecs} {base : Store} {baseH : Nat} : ∀ {c : Chain},
    ChainWF cd base baseH c → ∀ h, baseH < h → h ≤ tipH baseH c → ∃ bx ∈ c, bx.1.hdr.height = h := by
  intro c
  induction c with
  | nil => intro _ h h1 h2; simp only [tipH] at h2; omega
  | cons e r ih =>
    obtain ⟨b, x⟩ := e
    intro hwf h h1 h2
    simp only [tipH] at h2
    by_cases he : h = b.hdr.height
    · exact ⟨(b, x), List.mem_cons_self, he.symm⟩
    · have := hwf.height
      obtain ⟨bx, hbx, hh⟩ := ih hwf.tail h h1 (by omega)
      exact ⟨bx, List.mem_cons_of_mem _ hbx, hh⟩

theorem getBlock_some_hdr {cd : Codecs} {db : Store} {id : Bytes} {blk : Block}
    (h : getBlock cd db id = some blk) :
    ∃ hb, slookup db (kHeader id) = some hb ∧ cd.decHdr hb = some blk.hdr := by
  unfold getBlock at h
  cases hl : slookup db (kHeader id) with
  | none => simp [hl] at h
  | some hb =>
    simp only [hl] at h
    cases hd : cd.decHdr hb with
    | none => simp [hd] at h
    | some hdr =>
      simp only [hd] at h
      refine ⟨hb, rfl, ?_⟩
      split at h
      · simp only [Option.some.injEq] at h; rw [← h]; exact hd
      · cases h

/-- the index entry of a height at or below the base tip is the base's -/
theorem db_index_base {cd : Codecs} {base : Store} {baseH : Nat} {db : Store} {c : Chain}
    (hR : DbRef cd base baseH db c) {h : Nat} (hle : h ≤ baseH) :
    slookup db (kHeight h) = slookup base (kHeight h) := by
  obtain ⟨f, hf, _, _⟩ := hR.finOk
  rw [hR.agree f hf _ (kHeight_not_vol f h)]
  cases hb : slookup base (kHeight h) with
  | some id => exact spec_base_present hR.wf (kHeight_not_state h) hb
  | none =>
    refine spec_none_of_absent hR.wf (kHeight_not_state h) (fun bx hbx hm => ?_) hb
    have hbl := chain_heights hR.wf bx hbx
    have := tipH_ge hR.wf
    have := hR.tipLt
    have := (heightKey_mem_allKeys (key := kHeight) (by simp) h bx.1 (by omega) (by omega)).mp hm
    omega

/-- what `GetBlockByHeight` returns from the database for a height up to the tip -/
theorem getBlockByHeight_ok {cd : Codecs} {base : Store} {baseH : Nat} {db : Store} {c : Chain}
    (hbase : BaseOK cd base baseH) (hR : DbRef cd base baseH db c)
    {h : Nat} (hle : h ≤ tipH baseH c) {blk : Block} (hg : getBlockByHeight cd db h = some blk) :
    blk.hdr.height = h ∧ (∀ bx ∈ c, bx.1.hdr.height = h → blk = bx.1) ∧
      (h ≤ baseH → hdrDB cd base h = some blk.hdr) := by
  obtain ⟨f, hf, _, _⟩ := hR.finOk
  unfold getBlockByHeight at hg
  by_cases hb : baseH < h
  · obtain ⟨bx, hbx, hh⟩ := chain_covers hR.wf h hb hle
    have hm := getBlock_member hR hbx
    rw [hh] at hm
    rw [hm.2] at hg
    simp only at hg
    rw [hm.1] at hg
    have hblk : blk = bx.1 := (Option.some.inj hg).symm
    refine ⟨by rw [hblk]; exact hh, ?_, fun h' => by omega⟩
    intro bx' hbx' hh'
    have hm' := getBlock_member hR hbx'
    rw [hh', hm.2] at hm'
    have hid : bx.1.hdr.id = bx'.1.hdr.id := Option.some.inj hm'.2
    rw [← hid, hm.1] at hm'
    rw [hblk]
    exact Option.some.inj hm'.1
  · have hle' : h ≤ baseH := by omega
    rw [db_index_base hR hle'] at hg
    cases hi : slookup base (kHeight h) with
    | none => simp [hi] at hg
    | some id =>
      simp only [hi] at hg
      obtain ⟨hb0, hhb0⟩ := hbase.idxHasHdr h id hle' hi
      obtain ⟨hb1, hhb1, hdec⟩ := getBlock_some_hdr hg
      have hsame : slookup db (kHeader id) = some hb0 := by
        rw [hR.agree f hf _ (kHeader_not_vol f id)]
        exact spec_base_present hR.wf (kHeader_not_state id) hhb0
      rw [hsame] at hhb1
      have he : hb0 = hb1 := Option.some.inj hhb1
      subst he
      refine ⟨hbase.idxHdrHeight h id hb0 blk.hdr hle' hi hhb0 hdec, ?_, ?_⟩
      · intro bx hbx hh
        have := (chain_heights hR.wf bx hbx).1
        omega
      · intro _
        simp only [hdrDB, hi, headerOf, hhb0, hdec]

/-! ### the highest index entry -/

/-- the last entry of the height index is the tip's -/
theorem top_index {cd : Codecs} {base : Store} {baseH : Nat} {db : Store} {c : Chain}
    (hbase : BaseOK cd base baseH) (hR : DbRef cd base baseH db c) :
    ∃ id, dbIterate db [4] 1 true = [(kHeight (tipH baseH c), id)] ∧
      slookup db (kHeight (tipH baseH c)) = some id := by
  obtain ⟨f, hf, _, _⟩ := hR.finOk
  have hTlt := hR.tipLt
  -- the tip's entry exists
  have htip : ∃ id, slookup db (kHeight (tipH baseH c)) = some id := by
    cases c with
    | nil =>
      obtain ⟨id, hid⟩ := hbase.tipIdx
      exact ⟨id, by rw [hR.agree f hf _ (kHeight_not_vol f _)]; exact hid⟩
    | cons e r => exact ⟨e.1.hdr.id, (getBlock_member hR (List.mem_cons_self)).2⟩
  obtain ⟨id, hid⟩ := htip
  refine ⟨id, ?_, hid⟩
  -- every entry of the index is a height up to the tip
  have hshape : ∀ kv ∈ db, hasPrefix kv.1 [4] = true → ∃ h, h ≤ tipH baseH c ∧ kv.1 = kHeight h := by
    intro kv hkv hp
    have hhead : kv.1.head? = some 4 := (hasPrefix_one kv.1 4).mp hp
    have hl : slookup db kv.1 = some kv.2 := (slookup_iff_mem db hR.nodup kv.1 kv.2).mpr hkv
    have hnv : ¬ Vol f kv.1 :=
      not_vol_of_head hhead (by decide) (by decide) (by decide) (by decide)
    have hns : ¬ isStateKey kv.1 := not_state_of_head hhead
    rw [hR.agree f hf _ hnv] at hl
    rcases spec_some_origin hR.wf hns hl with ⟨bx, hbx, hm⟩ | hb
    · refine ⟨bx.1.hdr.height, (chain_heights hR.wf bx hbx).2, ?_⟩
      rcases (mem_allKeys bx.1 _).mp hm with h1 | h1 | h1 | h1 | h1 | h1 | ⟨t, _, h1⟩
      · rw [h1] at hhead; simp [kDiff] at hhead
      · rw [h1] at hhead; simp [kHeader] at hhead
      · exact h1
      · rw [h1] at hhead; simp [kTxs] at hhead
      · rw [h1] at hhead; simp [kAssets] at hhead
      · rw [h1] at hhead; simp [kEvents] at hhead
      · rw [← h1] at hhead; simp [kTx] at hhead
    · obtain ⟨h, hh, hk⟩ := hbase.idxShape _ _ hb hhead
      exact ⟨h, Nat.le_trans hh (tipH_ge hR.wf), hk⟩
  refine dbIterate_one_rev hR.nodup ((slookup_iff_mem db hR.nodup _ _).mp hid) (by simp [kHeight, hasPrefix])
    fun kv hkv hp => ?_
  obtain ⟨h, hh, hk⟩ := hshape kv hkv hp
  rw [hk]
  exact (ble_cons_encU32 4 (by omega) hTlt).mpr hh

/-! ### pushing consecutive blocks -/

theorem push_some {cfg : Cfg} {c0 c1 : List Block} {b : Block} (h : push cfg c0 b = some c1) :
    (c0 = [] ∧ c1 = [b]) ∨
      (∃ t r, c0 = t :: r ∧ b.hdr.height = (t.hdr.height + 1) % u32 ∧
        c1 = b :: (if c0.length ≥ cfg.maxCache then c0.dropLast else c0)) := by
  unfold push at h
  cases c0 with
  | nil => simp at h; exact Or.inl ⟨rfl, h.symm⟩
  | cons t r =>
    simp only at h
    split at h
    · cases h
    · rename_i hh
      exact Or.inr ⟨t, r, rfl, Decidable.not_not.mp hh, (Option.some.inj h).symm⟩

/-- pushing blocks onto a cache of consecutive heights (no block that gets another on top of it at the end of
the `uint32` range, so that the test of `push` is the successor test) gives a cache of consecutive heights made
of those blocks, ending with the last -/
theorem pushAll_ok (cfg : Cfg) : ∀ (l : List Block) (c0 c' : List Block),
    (∀ t ∈ c0, t.hdr.height + 1 < u32) → (∀ t ∈ l.dropLast, t.hdr.height + 1 < u32) →
    Consec c0 → pushAll cfg c0 l = some c' →
    Consec c' ∧ (∀ t ∈ c', t ∈ c0 ∨ t ∈ l) ∧ (l ≠ [] → c'.head? = l.getLast?) := by
  intro l
  induction l with
  | nil =>
    intro c0 c' _ _ hc h
    simp only [pushAll, Option.some.injEq] at h
    subst h
    exact ⟨hc, fun t ht => Or.inl ht, fun h => absurd rfl h⟩
  | cons b r ih =>
    intro c0 c' h0 hl hc h
    simp only [pushAll] at h
    cases hp : push cfg c0 b with
    | none => simp [hp] at h
    | some c1 =>
      simp only [hp] at h
      have hc1 := push_some hp
      have hcons1 : Consec c1 := by
        rcases hc1 with ⟨_, h1⟩ | ⟨t, rr, rfl, hbh, h1⟩
        · rw [h1]; trivial
        · rw [h1]
          rw [Nat.mod_eq_of_lt (h0 t List.mem_cons_self)] at hbh
          exact consec_cons_sub hc hbh
      have hh1 : c1.head? = some b := by
        rcases hc1 with ⟨_, h1⟩ | ⟨t, rr, _, _, h1⟩ <;> (rw [h1]; rfl)
      have hmem1 : ∀ t ∈ c1, t ∈ c0 ∨ t = b := by
        intro t ht
        rcases hc1 with ⟨_, h1⟩ | ⟨t0, rr, _, _, h1⟩
        · rw [h1] at ht; simp at ht; exact Or.inr ht
        · rw [h1] at ht
          rcases List.mem_cons.mp ht with ht | ht
          · exact Or.inr ht
          · exact Or.inl (mem_of_mem_ite_dropLast ht)
      cases r with
      | nil =>
        simp only [pushAll, Option.some.injEq] at h
        subst h
        exact ⟨hcons1, fun t ht => (hmem1 t ht).imp_right fun (e : t = b) => e ▸ List.mem_cons_self, fun _ => hh1⟩
      | cons r1 r2 =>
        rw [List.dropLast_cons_cons] at hl
        obtain ⟨g1, g2, g3⟩ := ih c1 c'
          (fun t ht => (hmem1 t ht).elim (h0 t) fun (e : t = b) => e ▸ hl b List.mem_cons_self)
          (fun t ht => hl t (List.mem_cons_of_mem _ ht)) hcons1 h
        refine ⟨g1, fun t ht => ?_, fun _ => by rw [g3 (by simp), List.getLast?_cons_cons]⟩
        rcases g2 t ht with h1 | h1
        · exact (hmem1 t h1).imp_right fun (e : t = b) => e ▸ List.mem_cons_self
        · exact Or.inr (List.mem_cons_of_mem _ h1)

/-- **`PrepareCache` is faithful**: whatever cache it builds from the database agrees with the
chain. -/
theorem loadCache_cacheRef {cd : Codecs} {cfg : Cfg} {base : Store} {baseH : Nat} {db : Store}
    {c : Chain} (hbase : BaseOK cd base baseH) (hR : DbRef cd base baseH db c)
    {cache : List Block} (hl : loadCache cd cfg db = some cache) :
    CacheRef cd base baseH cache c := by
  have hnil := cacheRef_nil cd base baseH c
  obtain ⟨id, htop, hidx⟩ := top_index hbase hR
  unfold loadCache at hl
  rw [htop] at hl
  simp only at hl
  cases hlast : getBlock cd db id with
  | none => simp [hlast] at hl; subst hl; exact hnil
  | some last =>
    simp only [hlast] at hl
    have hgl : getBlockByHeight cd db (tipH baseH c) = some last := by
      unfold getBlockByHeight; rw [hidx]; exact hlast
    obtain ⟨hlh, hlc, hlb⟩ := getBlockByHeight_ok hbase hR (Nat.le_refl _) hgl
    -- the blocks below
    generalize hlow : (if last.hdr.height > cfg.genesisHeight then
        ((List.range (last.hdr.height - max cfg.genesisHeight (last.hdr.height - cfg.maxCache))).map
          fun i => max cfg.genesisHeight (last.hdr.height - cfg.maxCache) + i).mapM (getBlockByHeight cd db)
      else some []) = lower at hl
    cases lower with
    | none => cases hl
    | some bs =>
      simp only at hl
      -- the blocks below the last one were read at heights below its height
      have hmem : ∀ t ∈ bs, ∃ h, h < tipH baseH c ∧ getBlockByHeight cd db h = some t := by
        split at hlow
        · intro t ht
          obtain ⟨h, hh, hg⟩ := List.mem_map.mp ((mapM_eq_some_iff _ bs).mp hlow ▸ List.mem_map_of_mem (f := some) ht)
          obtain ⟨i, hi, rfl⟩ := List.mem_map.mp hh
          have hi' := List.mem_range.mp hi
          exact ⟨_, by omega, hg⟩
        · obtain rfl : bs = [] := (Option.some.inj hlow).symm
          exact fun t ht => by cases ht
      have hTlt := hR.tipLt
      obtain ⟨g1, g2, g3⟩ := pushAll_ok cfg (bs ++ [last]) [] cache (fun t h => by cases h)
        (fun t ht => by
          rw [List.dropLast_concat] at ht
          obtain ⟨h, hlt, hg⟩ := hmem t ht
          have := (getBlockByHeight_ok hbase hR (Nat.le_of_lt hlt) hg).1
          omega) trivial hl
      have hq : ∀ t ∈ cache, ∃ h, h ≤ tipH baseH c ∧ getBlockByHeight cd db h = some t := by
        intro t ht
        rcases g2 t ht with h1 | h1
        · cases h1
        · simp only [List.mem_append, List.mem_cons, List.not_mem_nil, or_false] at h1
          rcases h1 with h1 | h1
          · obtain ⟨h, hlt, hg⟩ := hmem t h1
            exact ⟨h, Nat.le_of_lt hlt, hg⟩
          · exact ⟨_, Nat.le_refl _, h1 ▸ hgl⟩
      refine ⟨?_, g1, ?_, ?_⟩
      · intro t ht
        rw [g3 (by simp)] at ht
        simp at ht
        rw [← ht]; exact hlh
      · intro t ht bx hbx hh
        obtain ⟨h, hle, hg⟩ := hq t ht
        obtain ⟨e1, e2, _⟩ := getBlockByHeight_ok hbase hR hle hg
        exact e2 bx hbx (by rw [hh, e1])
      · intro t ht hle
        obtain ⟨h, hle', hg⟩ := hq t ht
        obtain ⟨e1, _, e3⟩ := getBlockByHeight_ok hbase hR hle' hg
        rw [e1]
        exact e3 (by omega)

end LiskVerif.Node
