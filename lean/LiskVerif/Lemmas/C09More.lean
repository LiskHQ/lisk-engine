/-
What a decode can allocate, and which decoder accepts more (codec model `LiskVerif.Model.Codec`):

* `Value.dyn` … : the number of dynamically allocated units of a decoded value tree (bytes of byte
  strings, one unit + its bytes per `[][]byte` element, one unit per packed integer, one unit + its
  content per element of an array of structs); `decodeFields_dyn`: whatever the decoder returns, at any
  nesting depth and for ANY table / fuel, has at most as many units as the decoder consumed bytes —
  a length prefix cannot make the decoder allocate more than the input it has actually read;
* `Value.nodes` …: the number of nodes of the whole decoded tree, `staticFields` / `staticOK`: the
  static size of a struct (its fields and the default structs behind absent pointers);
  `decodeFields_nodes`: the tree has at most the static size plus 40 nodes per consumed byte;
* `decodeFields_lax`: a field list that differs from another one only by weaker `strict` flags accepts
  everything the stricter list accepts, with the same result (`DecodeStrict` ok ⇒ `Decode` ok).
-/
import LiskVerif.Lemmas.CodecTotal

namespace LiskVerif.Codec

/-! ### allocation units of a decoded value -/

/-- `[][]byte`: one unit per element (the slice header) plus its bytes -/
def baSize : List Bytes → Nat
  | [] => 0
  | b :: r => b.length + 1 + baSize r

mutual
/-- dynamically allocated units of a decoded value. Scalars and the struct a `.msg` field points to
are of static size (determined by the schema, not by the input) and count 0. -/
def Value.dyn : Value → Nat
  | .uint _ => 0
  | .int _ => 0
  | .bool _ => 0
  | .bytes b => b.length
  | .bytesArr l => baSize l
  | .uints l => l.length
  | .msg _ fields => Value.dynList fields
  | .msgArr l => Value.dynLL l
def Value.dynList : List Value → Nat
  | [] => 0
  | v :: vs => Value.dyn v + Value.dynList vs
/-- array of structs: one unit per element (the struct `creator()` allocates) plus its content -/
def Value.dynLL : List (List Value) → Nat
  | [] => 0
  | vs :: r => Value.dynList vs + 1 + Value.dynLL r
end

theorem baSize_append (l l' : List Bytes) : baSize (l ++ l') = baSize l + baSize l' := by
  induction l with
  | nil => simp [baSize]
  | cons a r ih => simp only [List.cons_append, baSize, ih]; omega

theorem baSize_length_le (l : List Bytes) : l.length ≤ baSize l :=
  length_le_of_weights (w := fun b => b.length + 1) (fun _ _ => rfl) (fun _ => Nat.le_add_left _ _) l

theorem baSize_mem {l : List Bytes} {b : Bytes} (h : b ∈ l) : b.length + 1 ≤ baSize l :=
  weight_le_of_mem (size := baSize) (w := fun b => b.length + 1) (fun _ _ => rfl) h

/-- sum of the element lengths plus the number of elements -/
theorem baSize_eq (l : List Bytes) : baSize l = (l.map List.length).sum + l.length := by
  induction l with
  | nil => rfl
  | cons a r ih => simp only [baSize, List.map_cons, List.sum_cons, List.length_cons, ih]; omega

theorem Value.dynLL_length_le (l : List (List Value)) : l.length ≤ Value.dynLL l :=
  length_le_of_weights (w := fun vs => Value.dynList vs + 1) (fun _ _ => by rw [Value.dynLL])
    (fun _ => Nat.le_add_left _ _) l

theorem Value.dynLL_mem {l : List (List Value)} {vs : List Value} (h : vs ∈ l) :
    Value.dynList vs + 1 ≤ Value.dynLL l :=
  weight_le_of_mem (size := Value.dynLL) (w := fun vs => Value.dynList vs + 1)
    (fun _ _ => by rw [Value.dynLL]) h

theorem Value.dynList_mem {vs : List Value} {v : Value} (h : v ∈ vs) :
    Value.dyn v ≤ Value.dynList vs :=
  weight_le_of_mem (size := Value.dynList) (w := Value.dyn) (fun _ _ => by rw [Value.dynList]) h

theorem Value.dyn_zeroValue (k : Kind) : Value.dyn (zeroValue k) = 0 := by
  cases k <;> simp [zeroValue, Value.dyn, Value.dynList, Value.dynLL, baSize]

theorem Value.dynList_zeros (fs : List Field) :
    Value.dynList (fs.map fun f => zeroValue f.kind) = 0 := by
  induction fs with
  | nil => rfl
  | cons f r ih => simp only [List.map_cons, Value.dynList, Value.dyn_zeroValue, ih]

theorem Value.dyn_defaultMsg (t : Table) (name : String) : Value.dyn (defaultMsg t name) = 0 := by
  unfold defaultMsg
  split
  · simp only [Value.dyn, Value.dynList_zeros]
  · simp [Value.dyn, Value.dynList]

/-! ### size of the whole decoded tree (static part included) -/

mutual
/-- number of nodes of a decoded value: every scalar, every struct (also the default structs
`creator()` returns for absent fields), every array, every element, every byte -/
def Value.nodes : Value → Nat
  | .uint _ => 1
  | .int _ => 1
  | .bool _ => 1
  | .bytes b => 1 + b.length
  | .bytesArr l => 1 + baSize l
  | .uints l => 1 + l.length
  | .msg _ fields => 1 + Value.nodesList fields
  | .msgArr l => 1 + Value.nodesLL l
def Value.nodesList : List Value → Nat
  | [] => 0
  | v :: vs => Value.nodes v + Value.nodesList vs
def Value.nodesLL : List (List Value) → Nat
  | [] => 0
  | vs :: r => 1 + Value.nodesList vs + Value.nodesLL r
end

/-- static size of one field given the static sizes `σ` of the structs: the field itself, plus the
struct behind a `.msg` pointer (present or default) -/
def staticField (σ : String → Nat) (f : Field) : Nat :=
  match f.kind with
  | .msg n => 1 + σ n
  | _ => 1

def staticFields (σ : String → Nat) : List Field → Nat
  | [] => 0
  | f :: fs => staticField σ f + staticFields σ fs

/-- `σ` bounds the static size of every struct of the table (closed under nesting) by less than 40 -/
def staticOK (t : Table) (σ : String → Nat) : Bool :=
  t.all fun s => decide (staticFields σ s.dec ≤ σ s.name) && decide (σ s.name < 40)

theorem staticOK_mem {t : Table} {σ : String → Nat} (h : staticOK t σ = true) {s : Schema}
    (hs : s ∈ t) : staticFields σ s.dec ≤ σ s.name ∧ σ s.name < 40 := by
  have := List.all_eq_true.mp h s hs
  simp only [Bool.and_eq_true, decide_eq_true_eq] at this
  exact this

theorem staticOK_find {t : Table} {σ : String → Nat} (h : staticOK t σ = true) {name : String}
    {s : Schema} (hf : t.find name = some s) : staticFields σ s.dec ≤ σ name ∧ σ name < 40 := by
  have hn : s.name = name := by simpa [Table.find] using List.find?_some hf
  exact hn ▸ staticOK_mem h (find_mem hf)

theorem staticField_pos (σ : String → Nat) (f : Field) : 1 ≤ staticField σ f := by
  unfold staticField; split <;> omega

theorem Value.nodes_zeroValue (k : Kind) : Value.nodes (zeroValue k) = 1 := by
  cases k <;> simp [zeroValue, Value.nodes, Value.nodesList, Value.nodesLL, baSize]

theorem Value.nodesList_zeros (σ : String → Nat) (fs : List Field) :
    Value.nodesList (fs.map fun f => zeroValue f.kind) ≤ staticFields σ fs := by
  induction fs with
  | nil => simp [Value.nodesList, staticFields]
  | cons f r ih =>
    have := staticField_pos σ f
    simp only [List.map_cons, Value.nodesList, Value.nodes_zeroValue, staticFields]
    omega

theorem Value.nodes_defaultMsg {t : Table} {σ : String → Nat} (h : staticOK t σ = true)
    (name : String) : Value.nodes (defaultMsg t name) ≤ 1 + σ name := by
  unfold defaultMsg
  split
  · rename_i s hf
    have h1 := (staticOK_find h hf).1
    have h2 := Value.nodesList_zeros σ s.dec
    simp only [Value.nodes]
    omega
  · simp [Value.nodes, Value.nodesList]

/-! ### primitive reads: what they return is paid for by the bytes they consume -/

theorem Reader.readBytes_dyn {r r' : Reader} {b : Bytes} (h : r.readBytes = .ok (b, r')) :
    b.length + r.index + 1 ≤ r'.index ∧ r'.index ≤ r.data.length := by
  rw [Reader.readBytes_eq] at h
  obtain ⟨p, hu, h⟩ := bind_eq_ok h
  have h1 := r.readUInt_safe.of_ok hu
  split at h
  · cases h
  · cases h
    simp only [AdvS] at h1
    simp only [List.length_take, List.length_drop]
    omega

theorem readBytesArray_dyn (fuel : Nat) (r r' : Reader) (fn : Nat) (acc l : List Bytes)
    (h : readBytesArray fuel r fn acc = .ok (l, r')) : baSize l + r.index ≤ baSize acc + r'.index := by
  obtain ⟨l', rfl, hP⟩ := readBytesArray_ok_induct
    (P := fun r l r' => baSize l + r.index ≤ r'.index) (fun _ => Nat.le_of_eq (Nat.zero_add _))
    (fun {r r1 b r2 l r'} he hb ih => by
      have h1 := (r.enterArr_safe fn 2).of_ok he r1 rfl
      have h2 := Reader.readBytes_dyn hb
      simp only [AdvS] at h1
      simp only [baSize]
      omega) h
  rw [baSize_append]
  omega

theorem readPackedUInts_dyn (fuel : Nat) (r r' : Reader) (stop : Int) (acc l : List Nat)
    (h : readPackedUInts fuel r stop acc = .ok (l, r')) :
    l.length + r.index ≤ acc.length + r'.index := by
  obtain ⟨l', rfl, hP⟩ := readPackedUInts_ok_induct
    (P := fun r l r' => l.length + r.index ≤ r'.index) (fun _ => Nat.le_of_eq (Nat.zero_add _))
    (fun {r v r1 l r'} hr ih => by
      have h1 := r.readUInt_safe.of_ok hr
      simp only [AdvS] at h1
      simp only [List.length_cons]
      omega) h
  rw [List.length_append]
  omega

/-- a scalar value: its dynamic size is paid for by the read, and it is a single node plus that -/
theorem readScalar_dyn {nfc : NFC} {k : Kind} {r r' : Reader} {v : Value}
    (h : readScalar nfc k r = .ok (v, r')) :
    Value.dyn v + r.index < r'.index ∧ Value.nodes v = 1 + Value.dyn v := by
  cases k with
  | uint =>
    obtain ⟨a, ha, rfl⟩ := valueOf_ok h
    exact ⟨by simpa [Value.dyn] using (r.readUInt_safe.of_ok ha).2.1, rfl⟩
  | uint32 =>
    obtain ⟨a, ha, rfl⟩ := valueOf_ok h
    exact ⟨by simpa [Value.dyn] using (r.readUInt_safe.of_ok ha).2.1, rfl⟩
  | int32 =>
    obtain ⟨a, ha, rfl⟩ := valueOf_ok h
    exact ⟨by simpa [Value.dyn] using (r.readUInt_safe.of_ok ha).2.1, rfl⟩
  | bool =>
    obtain ⟨a, ha, rfl⟩ := valueOf_ok h
    exact ⟨by simpa [Value.dyn] using (r.readBool_safe.of_ok ha).2.1, rfl⟩
  | bytes =>
    obtain ⟨a, ha, rfl⟩ := valueOf_ok h
    exact ⟨by have := Reader.readBytes_dyn ha; simp only [Value.dyn]; omega, rfl⟩
  | string =>
    obtain ⟨a, ha, rfl⟩ := valueOf_ok h
    exact ⟨by have := Reader.readBytes_dyn (Reader.readString_ok ha).1; simp only [Value.dyn]; omega, rfl⟩
  | _ => cases h

/-- a flat field: the dynamic size of what was read is at most the bytes consumed, and the value is
a single node plus its dynamic size -/
theorem decodeField_flat_dyn {t : Table} {nfc : NFC} {fuel : Nat} {f : Field} {r r' : Reader}
    {v : Value} (hk : flatKind f.kind = true) (h : decodeField t nfc fuel f r = .ok (v, r')) :
    Value.dyn v + r.index ≤ r'.index ∧ Value.nodes v = 1 + Value.dyn v := by
  rcases decodeField_flat_ok hk h with ⟨hs, ⟨_, rfl, rfl⟩ | ⟨r1, he, hr⟩⟩ | ⟨_, l, hl, rfl⟩ |
    ⟨_, ⟨_, rfl, rfl⟩ | ⟨r1, len, r2, l, he, hu, hp, rfl⟩⟩
  · rw [Value.dyn_zeroValue, Value.nodes_zeroValue]
    exact ⟨Nat.le_of_eq (Nat.zero_add _), rfl⟩
  · have h1 := (r.enter_safe _ _ _).of_ok he r1 rfl
    have h2 := readScalar_dyn hr
    simp only [AdvS] at h1
    exact ⟨by omega, h2.2⟩
  · have := readBytesArray_dyn _ _ _ _ _ _ hl
    simp only [baSize, Value.dyn] at this ⊢
    exact ⟨by omega, rfl⟩
  · exact ⟨Nat.le_of_eq (Nat.zero_add _), rfl⟩
  · have h1 := (r.enterArr_safe _ _).of_ok he r1 rfl
    have h2 := r1.readUInt_safe.of_ok hu
    have h3 := readPackedUInts_dyn _ _ _ _ _ _ hp
    simp only [AdvS] at h1 h2
    simp only [List.length_nil] at h3
    simp only [Value.dyn]
    exact ⟨by omega, rfl⟩

/-! ### allocation and tree size of whatever is decoded -/

set_option hygiene false in
/-- a tactic for the allocation of a single-value field spelled as the model's `match` on a
hypothesis `h` (`enter`, then the primitive read `rd`). No proof calls it: `decodeFields_dyn` takes its
flat case from `decodeField_flat_dyn`. -/
local macro "dyn_scalar" rd:term : tactic => `(tactic| (
  split at h
  · cases h
  · cases h; simp [Value.dyn]
  · rename_i r1 he
    have h1 := Safe.of_ok (Reader.enter_safe _ _ _ _) he r1 rfl
    split at h
    · cases h
    · rename_i v r2 hr
      have h2 := Safe.of_ok ($rd r1) hr
      cases h
      simp only [AdvS] at h1 h2
      simp only [Value.dyn]
      omega))

set_option hygiene false in
/-- the same for the number of nodes. No proof calls it: `decodeFields_nodes` also goes through
`decodeField_flat_dyn`. -/
local macro "nodes_scalar" rd:term : tactic => `(tactic| (
  split at h
  · cases h
  · cases h; simp [Value.nodes, staticField]
  · rename_i r1 he
    have h1 := Safe.of_ok (Reader.enter_safe _ _ _ _) he r1 rfl
    split at h
    · cases h
    · rename_i v r2 hr
      have h2 := Safe.of_ok ($rd r1) hr
      cases h
      simp only [AdvS] at h1 h2
      simp only [Value.nodes, staticField]
      omega))

/-- **Allocation is paid for by consumed input**, for every table (ranked or not), every NFC
implementation, every fuel and every reader state: a successful `decodeFields` returns values whose
dynamic size is at most the number of bytes by which it advanced the index. -/
theorem decodeFields_dyn (t : Table) (nfc : NFC) {fuel : Nat} {fs : List Field} {r r' : Reader}
    {vs : List Value} (h : decodeFields t nfc fuel fs r = .ok (vs, r')) :
    Value.dynList vs + r.index ≤ r'.index :=
  (decode_ok_induct t nfc
    (PF := fun _ r vs r' => Value.dynList vs + r.index ≤ r'.index)
    (Pf := fun _ r v r' => Value.dyn v + r.index ≤ r'.index)
    (PN := fun _ r vals r' => Value.dynList vals + r.index + 1 ≤ r'.index)
    (PA := fun _ _ r l r' => Value.dynLL l + r.index ≤ r'.index)
    (nil := fun _ => Nat.le_of_eq (Nat.zero_add _))
    (cons := fun h1 h2 => by simp only [Value.dynList]; omega)
    (flat := fun hk h => (decodeField_flat_dyn hk h).1)
    (absent := fun _ _ => by rw [Value.dyn_defaultMsg]; exact Nat.le_of_eq (Nat.zero_add _))
    (present := fun _ he hN => by
      have := (Reader.enter_safe _ _ _ _).of_ok he _ rfl
      simp only [AdvS] at this
      simp only [Value.dyn]
      omega)
    (array := fun _ hA => hA)
    (nested := fun {_ _ r1 _ r2 _ _ _} _ hu hF => by
      have := r1.readUInt_safe.of_ok hu
      simp only [AdvS] at this
      simp only at hF ⊢
      omega)
    (done := fun _ _ _ => Nat.le_of_eq (Nat.zero_add _))
    (step := fun he hN hA => by
      have := (Reader.enterArr_safe _ _ _).of_ok he _ rfl
      simp only [AdvS] at this
      simp only [Value.dynLL]
      omega) fuel).1 _ _ _ _ h

/-- **The whole decoded tree is paid for by the static size of the struct plus 40 nodes per consumed
byte**, for every table with a static-size bound `σ`, every NFC implementation, fuel and reader state. -/
theorem decodeFields_nodes (t : Table) (nfc : NFC) (σ : String → Nat) (hσ : staticOK t σ = true)
    {fuel : Nat} {fs : List Field} {r r' : Reader} {vs : List Value}
    (h : decodeFields t nfc fuel fs r = .ok (vs, r')) :
    Value.nodesList vs + 40 * r.index ≤ staticFields σ fs + 40 * r'.index :=
  (decode_ok_induct t nfc
    (PF := fun fs r vs r' => Value.nodesList vs + 40 * r.index ≤ staticFields σ fs + 40 * r'.index)
    (Pf := fun f r v r' => Value.nodes v + 40 * r.index ≤ staticField σ f + 40 * r'.index)
    (PN := fun name r vals r' =>
      Value.nodesList vals + 40 * r.index + 40 ≤ σ name + 40 * r'.index ∧ σ name < 40)
    (PA := fun _ _ r l r' => Value.nodesLL l + 40 * r.index ≤ 40 * r'.index)
    (nil := fun _ => Nat.le_refl _)
    (cons := fun h1 h2 => by simp only [Value.nodesList, staticFields]; omega)
    (flat := fun {_ f _ _ _} hk h => by
      have := decodeField_flat_dyn hk h
      have h1 := staticField_pos σ f
      omega)
    (absent := fun {f name _} hk _ => by
      have := Value.nodes_defaultMsg hσ name
      simp only [staticField, hk]
      omega)
    (present := fun hk he hN => by
      have := (Reader.enter_safe _ _ _ _).of_ok he _ rfl
      simp only [AdvS] at this
      simp only [Value.nodes, staticField, hk]
      omega)
    (array := fun hk hA => by simp only [Value.nodes, staticField, hk]; omega)
    (nested := fun {_ _ r1 _ r2 _ _ _} hf hu hF => by
      have := r1.readUInt_safe.of_ok hu
      obtain ⟨hs1, hs2⟩ := staticOK_find hσ hf
      simp only [AdvS] at this
      simp only at hF ⊢
      exact ⟨by omega, hs2⟩)
    (done := fun _ _ _ => Nat.le_of_eq (Nat.zero_add _))
    (step := fun he hN hA => by
      have := (Reader.enterArr_safe _ _ _).of_ok he _ rfl
      simp only [AdvS] at this
      simp only [Value.nodesLL]
      omega) fuel).1 _ _ _ _ h

/-! ### weaker `strict` flags accept more, with the same result -/

/-- `f` is `g` with a possibly weaker `strict` flag -/
def laxerField (f g : Field) : Bool :=
  decide (f.num = g.num) && decide (f.kind = g.kind) && (!f.strict || g.strict)

def laxerFields : List Field → List Field → Bool
  | [], [] => true
  | f :: fs, g :: gs => laxerField f g && laxerFields fs gs
  | _, _ => false

theorem staticFields_lax (σ : String → Nat) : ∀ (fs gs : List Field), laxerFields fs gs = true →
    staticFields σ fs = staticFields σ gs := by
  intro fs
  induction fs with
  | nil =>
    intro gs h
    cases gs with
    | nil => rfl
    | cons g gs => simp [laxerFields] at h
  | cons f fs ih =>
    intro gs h
    cases gs with
    | nil => simp [laxerFields] at h
    | cons g gs =>
      simp only [laxerFields, laxerField, Bool.and_eq_true, decide_eq_true_eq] at h
      simp only [staticFields, staticField, h.1.1.2, ih gs h.2]

theorem Reader.enter_lax {r : Reader} {n wt : Nat} {sf sg : Bool} {o : Option Reader}
    (h : r.enter n wt sg = .ok o) (hs : (!sf || sg) = true) : r.enter n wt sf = .ok o := by
  cases sg with
  | false =>
    cases sf with
    | false => exact h
    | true => simp at hs
  | true =>
    unfold Reader.enter at h ⊢
    cases hc : r.check n wt with
    | ok r1 => rw [hc] at h; exact h
    | error e =>
      rw [hc] at h
      simp only at h
      split at h
      · cases h
      · simp at h

theorem decodeField_lax (t : Table) (nfc : NFC) {fuel : Nat} {f g : Field} {r : Reader}
    {x : Value × Reader} (hl : laxerField f g = true) (h : decodeField t nfc fuel g r = .ok x) :
    decodeField t nfc fuel f r = .ok x := by
  simp only [laxerField, Bool.and_eq_true, decide_eq_true_eq] at hl
  obtain ⟨⟨hn, hk⟩, hs⟩ := hl
  cases fuel with
  | zero => rw [decodeField] at h; cases h
  | succ fuel =>
    cases hg : g.kind with
    | msg name =>
      rw [decodeField_succ, hg] at h
      rw [decodeField_succ, hk, hg, hn]
      cases he : r.enter g.num 2 g.strict with
      | error e => rw [he] at h; cases h
      | ok o => rw [he] at h; rw [Reader.enter_lax he hs]; exact h
    | msgArr name =>
      rw [decodeField_succ, hg] at h
      rw [decodeField_succ, hk, hg, hn]; exact h
    | unknown src => rw [decodeField_unknown t nfc _ r hg] at h; cases h
    | bytesArr =>
      rw [decodeField_bytesArr t nfc fuel r hg] at h
      rw [decodeField_bytesArr t nfc fuel r (hk.trans hg), hn]; exact h
    | uints =>
      rw [decodeField_uints t nfc fuel r hg] at h
      rw [decodeField_uints t nfc fuel r (hk.trans hg), hn]; exact h
    | _ =>
      have hs' : scalarKind g.kind = true := by rw [hg]; rfl
      rw [decodeField_scalar t nfc fuel r hs'] at h
      rw [decodeField_scalar t nfc fuel r (hk ▸ hs'), hn, hk]
      cases he : r.enter g.num (wireType g.kind) g.strict with
      | error e => rw [he] at h; cases h
      | ok o => rw [he] at h; rw [Reader.enter_lax he hs]; exact h

theorem decodeFields_lax (t : Table) (nfc : NFC) : ∀ (fuel : Nat) (fs gs : List Field) (r : Reader)
    (x : List Value × Reader), laxerFields fs gs = true →
    decodeFields t nfc fuel gs r = .ok x → decodeFields t nfc fuel fs r = .ok x := by
  intro fuel
  induction fuel with
  | zero =>
    intro fs gs r x hl h
    cases fs <;> cases gs <;> first | exact h | cases hl | (rw [decodeFields] at h; cases h)
  | succ fuel ih =>
    intro fs gs r x hl h
    cases fs <;> cases gs <;> first | exact h | (cases hl; done) | skip
    simp only [laxerFields, Bool.and_eq_true] at hl
    rw [decodeFields_cons] at h ⊢
    obtain ⟨p, hd, h⟩ := bind_eq_ok h
    obtain ⟨q, hd2, h⟩ := bind_eq_ok h
    rw [decodeField_lax t nfc hl.1 hd]
    dsimp only [Except.bind]
    rw [ih _ _ p.2 q hl.2 hd2]
    exact h

/-- `DecodeStrict` ok ⇒ `Decode` ok with the same value, for a struct whose lenient field list is
the strict one with weaker flags (true of every generated struct) -/
theorem decodeStrict_ok_decode_ok (t : Table) (nfc : NFC) (s : Schema) (data : Bytes)
    (vals : List Value) (hl : laxerFields s.dec s.decStrict = true)
    (h : decodeStrict t nfc s data = .ok vals) : decode t nfc s data = .ok vals := by
  obtain ⟨r', hd, _⟩ := decodeStrict_ok h
  exact decode_of_fields (decodeFields_lax t nfc _ _ _ _ _ hl hd)

end LiskVerif.Codec
