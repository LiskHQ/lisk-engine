/-
Where the observations of the analysis come from: every observed primitive is the primitive of a leaf action of
the skeleton or of a table body it reaches (`primOf`), a deferred release, or a marker of the analysis. So a
property of the primitives that can be read off the actions holds of all observations.
-/
import LiskVerif.Lemmas.LockErase
import LiskVerif.Lemmas.Tables
import LiskVerif.Lemmas.AList

namespace LiskVerif.Locks

/-- every action of the skeleton, nested ones included, passes `q` (`false` when the fuel `n` does not suffice) -/
def actsAll (q : Act → Bool) : Nat → List Act → Bool
  | 0, _ => false
  | _ + 1, [] => true
  | n + 1, a :: k =>
    q a && (match a with
      | .go b => actsAll q n b
      | .loop b => actsAll q n b
      | .choice alts => alts.all (actsAll q n)
      | _ => true) && actsAll q n k

theorem Table.find_eq_get (t : Table) (f : String) : t.find f = AList.get t f := by
  induction t with
  | nil => rfl
  | cons e t ih => obtain ⟨g, b⟩ := e; simp only [Table.find, AList.get, ih]

theorem find_mem {t : Table} {f : String} {b : Skel} (h : t.find f = some b) : (f, b) ∈ t :=
  AList.mem_of_get (Table.find_eq_get t f ▸ h)

section
variable (P : Prim → Prop)

abbrev DefersOk (sts : List ASt) : Prop := ∀ st ∈ sts, ∀ a ∈ st.2, P a

/-- all observed primitives and all registered deferred releases have the property -/
abbrev Res.Ok (r : Res) : Prop := (∀ o ∈ r.obs, P o.2) ∧ DefersOk P r.fall ∧ DefersOk P r.rets

variable {P}

theorem defersOk_single (h : Held) : DefersOk P [(h, [])] := fun st hst a ha => by
  rw [List.mem_singleton.mp hst] at ha; cases ha

theorem defersOk_unionD {a b : List ASt} (ha : DefersOk P a) (hb : DefersOk P b) : DefersOk P (unionD a b) :=
  fun st hst => (mem_unionD.mp hst).elim (ha st) (hb st)

/-- the observations made when a body is left: its deferred releases -/
theorem Res.Ok.exits {rb : Res} (hb : rb.Ok P) : ∀ o ∈ (exits (unionD rb.fall rb.rets)).1, P o.2 := by
  intro o ho
  rw [exits_eq] at ho
  obtain ⟨st, hst, ho⟩ := List.mem_flatMap.mp ho
  exact defersOk_unionD hb.2.1 hb.2.2 st hst _ (trace_map_snd st.1 st.2 ▸ List.mem_map_of_mem ho)

theorem stepAll_ok {sts : List ASt} (hs : DefersOk P sts) {p : Prim} (hp : P p) : (stepAll sts p).Ok P := by
  refine ⟨fun o ho => ?_, fun st hst => ?_, List.forall_mem_nil _⟩
  · obtain ⟨st, _, rfl⟩ := List.mem_map.mp ho
    exact hp
  · rcases mem_foldl_insertD.mp hst with h | ⟨x, hx, rfl⟩
    · cases h
    · exact hs x hx

theorem skip_ok {sts : List ASt} (hs : DefersOk P sts) : Res.Ok P ⟨[], sts, []⟩ :=
  ⟨List.forall_mem_nil _, hs, List.forall_mem_nil _⟩

theorem defer_ok {sts : List ASt} (hs : DefersOk P sts) {p : Prim} (hp : P p) :
    Res.Ok P ⟨[], sts.foldl (fun acc st => insertD (st.1, p :: st.2) acc) [], []⟩ := by
  refine ⟨List.forall_mem_nil _, fun st hst => ?_, List.forall_mem_nil _⟩
  rcases mem_foldl_insertD.mp hst with h | ⟨x, hx, rfl⟩
  · cases h
  · intro a ha
    rcases List.mem_cons.mp ha with rfl | ha
    · exact hp
    · exact hs x hx a ha

variable {q : Act → Bool} {tbl : Table}

/-- the property passes from the actions (`hq`, `hT`, the fuel `n`) to the result; the deferred releases carry it
from a body to the observations made when the body is left -/
theorem an_ok (hP : ∀ m, P (.rel m) ∧ P (.rrel m) ∧ P (.bad m))
    (hq : ∀ a p, q a = true → primOf a = some p → P p)
    (hT : ∀ f b, tbl.find f = some b → ∃ n, actsAll q n b = true) :
    ∀ (m : Nat) (sts : List ASt) (k : List Act) (r : Res), an tbl m sts k = some r →
      ∀ n, DefersOk P sts → actsAll q n k = true → r.Ok P := by
  refine an_induct (motive := fun _ sts k r => ∀ n, DefersOk P sts → actsAll q n k = true → r.Ok P)
    (fun _ _ _ hs _ => skip_ok hs) (fun _ _ _ _ _ _ => skip_ok (List.forall_mem_nil _)) ?_
  intro m st sts a k r1 r2 ih h1 h2 n hs hk
  cases n with
  | zero => cases hk
  | succ n =>
    simp only [actsAll, Bool.and_eq_true] at hk
    obtain ⟨⟨ha, hn⟩, hk0⟩ := hk
    have hr1 : r1.Ok P := by
      cases a with
      | call f =>
        simp only [anFirst] at h1
        cases hf : tbl.find f with
        | none => rw [hf] at h1; cases h1; exact stepAll_ok hs (hP _).2.2
        | some body =>
          simp only [hf, foldCall_eq] at h1
          obtain ⟨nb, hbody⟩ := hT f body hf
          refine foldl_some_inv (Res.Ok P) _ (fun x hx rb r hrb hr => ?_) (skip_ok (List.forall_mem_nil _)) h1
          have hb := ih _ _ rb hrb nb (defersOk_single _) hbody
          refine ⟨fun o ho => ?_, fun y hy => ?_, List.forall_mem_nil _⟩
          · rcases List.mem_append.mp ho with ho | ho
            · exact (List.mem_append.mp ho).elim (hr.1 o) (hb.1 o)
            · exact hb.exits o ho
          · rcases mem_foldl_insertD.mp hy with hy | ⟨z, _, rfl⟩
            · exact hr.2.1 y hy
            · exact hs x hx
      | go b =>
        obtain ⟨rb, hb, rfl⟩ := anFirst_go.mp h1
        have hrb := ih _ _ rb hb n (defersOk_single _) hn
        refine ⟨fun o ho => ?_, hs, List.forall_mem_nil _⟩
        rcases List.mem_append.mp ho with ho | ho
        · exact (List.mem_append.mp ho).elim (hrb.1 o) (hrb.exits o)
        · split at ho
          · cases ho
          · rw [List.mem_singleton.mp ho]; exact (hP _).2.2
      | loop b =>
        obtain ⟨rb, hb, _, rfl⟩ := anFirst_loop.mp h1
        exact have hrb := ih _ _ rb hb n hs hn; ⟨hrb.1, hs, hrb.2.2⟩
      | choice alts =>
        simp only [anFirst, foldChoice_eq] at h1
        refine foldl_some_inv (Res.Ok P) _ (fun alt halt ra r hra hr => ?_) (skip_ok (List.forall_mem_nil _)) h1
        have hb := ih _ _ ra hra n hs (List.all_eq_true.mp hn alt halt)
        exact ⟨fun o ho => (List.mem_append.mp ho).elim (hr.1 o) (hb.1 o), defersOk_unionD hr.2.1 hb.2.1,
          defersOk_unionD hr.2.2 hb.2.2⟩
      | deferUnlock _ => cases h1; exact defer_ok hs (hP _).1
      | deferRUnlock _ => cases h1; exact defer_ok hs (hP _).2.1
      | ret => cases h1; exact ⟨List.forall_mem_nil _, List.forall_mem_nil _, hs⟩
      | trySend _ | tryRecv _ | makeChan _ _ | slot _ => cases h1; exact skip_ok hs
      | _ => cases h1; exact stepAll_ok hs (hq _ _ ha rfl)
    have hr2 := ih _ _ r2 h2 n hr1.2.1 hk0
    exact ⟨fun o ho => (List.mem_append.mp ho).elim (hr1.1 o) (hr2.1 o), hr2.2.1, defersOk_unionD hr1.2.2 hr2.2.2⟩

end

/-- **Provenance.** `P` holds of the releases and the markers, and of the primitive of every leaf action that
passes `q`; every action of the function and of the table passes `q`: then `P` holds of every observation. -/
theorem analyse_ok {P : Prim → Prop} {q : Act → Bool} {tbl : Table}
    (hP : ∀ m, P (.rel m) ∧ P (.rrel m) ∧ P (.bad m)) (hq : ∀ a p, q a = true → primOf a = some p → P p)
    {d : Nat} (hT : tbl.all (fun e => actsAll q d e.2) = true) {fuel n : Nat} {s : Skel} (hs : actsAll q n s = true)
    {obs : List Obs} {ends : List Held} (h : analyse tbl fuel s = some (obs, ends)) : ∀ o ∈ obs, P o.2 := by
  obtain ⟨r, hr, rfl, _⟩ := analyse_eq_some.mp h
  have hok := an_ok hP hq (fun f b hf => ⟨d, Tables.all_mem hT (find_mem hf)⟩) fuel _ s r hr n
    (defersOk_single _) hs
  exact fun o ho => (List.mem_append.mp ho).elim (hok.1 o) (hok.exits o)

end LiskVerif.Locks
