/-
Lemmas about Model/Verify.lean: the sequential functions (`validate`, `verifyAC`, `verifyBlock`,
`execTxs`, the staged machine of `processValidated`) report the first failing entry of the
declarative rule lists, and the fallible steps never touch the committed node (`RunSpec`).
-/
import LiskVerif.Model.Verify

namespace LiskVerif.Verify
open LiskVerif LiskVerif.BFT

/-! ### firstFailure -/

theorem firstFailure_cons (e : Err) (ok : Bool) (rest : List (Err × Bool)) :
    firstFailure ((e, ok) :: rest) = if ok then firstFailure rest else some e := rfl

theorem firstFailure_eq_find (l : List (Err × Bool)) :
    firstFailure l = (l.find? (fun p => !p.2)).map (·.1) := by
  induction l with
  | nil => rfl
  | cons p r ih => obtain ⟨e, ok⟩ := p; cases ok <;> simp [firstFailure, ih]

theorem firstFailure_append (a b : List (Err × Bool)) :
    firstFailure (a ++ b) = match firstFailure a with
      | some e => some e
      | none => firstFailure b := by
  simp only [firstFailure_eq_find, List.find?_append]
  cases List.find? _ a <;> rfl

theorem firstFailure_none_iff (l : List (Err × Bool)) :
    firstFailure l = none ↔ ∀ p ∈ l, p.2 = true := by
  simp [firstFailure_eq_find]

/-- the reported error belongs to a failing check, and every check before it passes -/
theorem firstFailure_some_iff (l : List (Err × Bool)) (e : Err) :
    firstFailure l = some e ↔
      ∃ pre post, l = pre ++ (e, false) :: post ∧ ∀ p ∈ pre, p.2 = true := by
  simp only [firstFailure_eq_find, Option.map_eq_some_iff, List.find?_eq_some_iff_append, Prod.exists,
    Bool.not_eq_eq_eq_not]
  constructor
  · rintro ⟨e', ok, ⟨rfl, pre, post, rfl, h⟩, rfl⟩
    exact ⟨pre, post, rfl, h⟩
  · rintro ⟨pre, post, rfl, h⟩
    exact ⟨e, false, ⟨rfl, pre, post, rfl, h⟩, rfl⟩

/-! ### one polarity for every test

The sequential functions test the negation of what the rule lists state (`if size > max then error`
against the rule `size ≤ max`). Written with every test in one polarity the two sides of the
equations below are the same chain of tests. -/

theorem ite_lt_flip {α : Type} (a b : Nat) (x y : α) : (if a < b then x else y) = if b ≤ a then y else x := by
  by_cases h : a < b
  · rw [if_pos h, if_neg (by omega)]
  · rw [if_neg h, if_pos (by omega)]

theorem ite_false_flip {α : Type} (c : Bool) (x y : α) : (if c = false then x else y) = if c = true then y else x := by
  cases c <;> rfl

theorem firstFailure_nil : firstFailure [] = none := rfl

/-! ### Block.Validate -/

theorem validateTxs_eq (l : List Bool) :
    validateTxs l = firstFailure (l.map fun v => (Err.txStatic, v)) := by
  induction l with
  | nil => rfl
  | cons v rest ih => cases v <;> simp [validateTxs, firstFailure, ih]

theorem validate_eq (b : Cand) : validate b = firstFailure (validateChecks b) := by
  unfold validate validateChecks
  simp only [List.cons_append, List.nil_append, firstFailure_cons, firstFailure_append, ← validateTxs_eq, ne_eq, ite_not,
     decide_eq_true_eq, Bool.not_eq_true', ite_false_flip, firstFailure_nil, decide_not]
  cases validateTxs b.txStatic with
  | some e => rfl
  | none => cases b.assets <;> simp

/-! ### verifyAggregateCommit, verifyBlock -/

theorem verifyAC_eq (n : Node) (s : BFT.State) (ac : AC) :
    verifyAC n s ac = firstFailure (acChecks n s ac) := by
  unfold verifyAC acChecks
  by_cases h0 : ac.bitsLen = 0 ∧ ac.sigLen = 0 ∧ ac.height = s.mhc
  · simp only [h0, and_self, if_true, firstFailure_nil]
  · simp only [h0, if_false, firstFailure_cons, ne_eq, ← not_or, ite_not, gt_iff_lt, ite_lt_flip, decide_eq_true_eq,
      Bool.not_eq_true', ite_false_flip, firstFailure_nil, decide_not]
    cases getParams s ac.height <;> rfl

theorem verifyBlock_eq (n : Node) (s : BFT.State) (b : Cand) :
    verifyBlock n s b = firstFailure (verifyChecks n s b) := by
  unfold verifyBlock verifyChecks
  simp only [List.cons_append, List.nil_append, firstFailure_cons, firstFailure_append, ← verifyAC_eq]
  cases slotGenerator n s b <;>
    simp only [Option.isSome_some, Option.isSome_none, if_true, Option.some.injEq, ne_eq, ite_not, gt_iff_lt, ite_lt_flip,
      decide_eq_true_eq, Bool.not_eq_true', ite_false_flip, firstFailure_nil, Bool.false_eq_true, if_false, reduceCtorEq]
  cases verifyAC n s b.ac <;> rfl

/-- a block that passes `verifyBlock` was generated by the generator assigned to its slot -/
theorem verifyBlock_none_generator {n : Node} {s : BFT.State} {b : Cand} (h : verifyBlock n s b = none) :
    slotGenerator n s b = some b.gen := by
  rw [verifyBlock_eq, firstFailure_none_iff] at h
  exact of_decide_eq_true
    (h (.generator, decide (slotGenerator n s b = some b.gen)) (by simp [verifyChecks]))

/-! ### the transaction loop -/

theorem execTxs_eq (l : List (TxV × TxV)) : execTxs l = firstFailure (txChecks l) := by
  induction l with
  | nil => rfl
  | cons p rest ih =>
    obtain ⟨v, e⟩ := p
    cases v <;> cases e <;> simp [execTxs, txChecks, firstFailure, ih]

/-! ### the staged machine -/

/-- A run of fallible steps from `s` reports the first failing rule of `chks`, leaves the committed node `n`
alone and, when no rule fails, ends with the staged store `post`. -/
structure RunSpec (fs : List Step) (s : Staged) (chks : List (Err × Bool)) (n : Node)
    (post : Option BFT.State) : Prop where
  err : (runSteps fs s).2 = firstFailure chks
  node : (runSteps fs s).1.node = n
  store : (runSteps fs s).2 = none → some (runSteps fs s).1.store = post

theorem RunSpec.nil {s : Staged} : RunSpec [] s [] s.node (some s.store) := ⟨rfl, rfl, fun _ => rfl⟩

/-- a step that fails with the first failing rule of `l` and otherwise continues from `s'` -/
theorem RunSpec.sub {f : Step} {fs : List Step} {s s' : Staged} {l chks : List (Err × Bool)} {n : Node}
    {post : Option BFT.State} (hn : s.node = n)
    (hf : f s = match firstFailure l with | some e => .error e | none => .ok s')
    (h : firstFailure l = none → RunSpec fs s' chks n post) : RunSpec (f :: fs) s (l ++ chks) n post := by
  have hrun : runSteps (f :: fs) s =
      match firstFailure l with | some e => (s, some e) | none => runSteps fs s' := by
    simp only [runSteps, hf]; cases firstFailure l <;> rfl
  cases hl : firstFailure l with
  | some e =>
    rw [hl] at hrun
    exact ⟨by rw [hrun, firstFailure_append, hl], by rw [hrun]; exact hn, fun h => by rw [hrun] at h; cases h⟩
  | none =>
    rw [hl] at hrun
    obtain ⟨h1, h2, h3⟩ := h hl
    exact ⟨by rw [hrun, firstFailure_append, hl]; exact h1, by rw [hrun]; exact h2, by rw [hrun]; exact h3⟩

/-- a step that checks one rule -/
theorem RunSpec.one {f : Step} {fs : List Step} {s s' : Staged} {e : Err} {ok : Bool}
    {chks : List (Err × Bool)} {n : Node} {post : Option BFT.State} (hn : s.node = n)
    (hf : f s = if ok then .ok s' else .error e)
    (h : ok = true → RunSpec fs s' chks n post) : RunSpec (f :: fs) s ((e, ok) :: chks) n post :=
  RunSpec.sub (l := [(e, ok)]) hn (by cases ok <;> exact hf) (fun hl => h (by cases ok <;> simp_all [firstFailure]))

theorem RunSpec.guard {fs : List Step} {s : Staged} {e : Err} {ok : Bool}
    {chks : List (Err × Bool)} {n : Node} {post : Option BFT.State} (hn : s.node = n)
    (h : ok = true → RunSpec fs s chks n post) : RunSpec (guardStep e ok :: fs) s ((e, ok) :: chks) n post :=
  RunSpec.one hn rfl h

/-- **The fallible part of `processValidated`** reports the first failing rule of
`verifyChecks ++ execChecks`, never touches the committed node, and stages `storeAfterExec`. Each step is
matched with its rules while the remaining steps and rules stay folded. -/
theorem preSteps_spec (n : Node) (b : Cand) :
    RunSpec (preSteps b) { node := n, store := n.bft } (verifyChecks n n.bft b ++ execChecks n b) n
      (storeAfterExec n b) := by
  unfold preSteps execChecks
  simp only [List.cons_append, List.nil_append]
  refine .sub (s' := ⟨n, n.bft⟩) rfl (by unfold stepVerify; rw [verifyBlock_eq]; rfl) fun _ => ?_
  refine .guard rfl fun _ => .guard rfl fun _ => ?_
  cases hp : BFT.process n.bft (hdrOf b) with
  | error e =>
    exact .one (ok := (storeAfterBFT n b).isSome) (s' := ⟨n, n.bft⟩) rfl (by simp [stepBFT, storeAfterBFT, hp])
      (fun h => by simp [storeAfterBFT, hp] at h)
  | ok s1 =>
    have h1 : storeAfterBFT n b = some s1 := by simp [storeAfterBFT, hp]
    refine .one (s' := ⟨n, s1⟩) rfl (by simp [stepBFT, h1, hp]) fun _ => ?_
    refine .one (s' := ⟨n, s1⟩) rfl (by simp [stepInfo, infoOKAfterBFT, h1]) fun _ => ?_
    refine .guard rfl fun _ => ?_
    refine .sub (s' := ⟨n, s1⟩) rfl (by unfold stepTxs; rw [execTxs_eq]; rfl) fun _ => ?_
    refine .guard rfl fun _ => ?_
    cases hc : applyChange s1 b.change with
    | none =>
      exact .one (s' := ⟨n, s1⟩) rfl (by simp [stepChange, changeOK, h1, hc]) (fun h => by simp [changeOK, h1, hc] at h)
    | some s2 =>
      have h2 : storeAfterExec n b = some s2 := by simp [storeAfterExec, h1, hc]
      refine .one (s' := ⟨n, s2⟩) rfl (by simp [stepChange, changeOK, h1, hc]) fun _ => ?_
      refine .one (s' := ⟨n, s2⟩) rfl (by simp [stepNextParams, nextParamsOK, h2]) fun _ => ?_
      refine .guard rfl fun _ => .guard rfl fun _ => .guard rfl fun _ => .guard rfl fun _ => ?_
      rw [h2]
      exact .nil

/-- `processValidated` answers the first failing rule and leaves the node as it was, or no rule fails and the block is
added with the store its execution produced -/
theorem processValidated_cases (n : Node) (b : Cand) :
    (∃ e, processValidated n b = (n, some e) ∧
      firstFailure (verifyChecks n n.bft b ++ execChecks n b) = some e) ∨
    (∃ s2, storeAfterExec n b = some s2 ∧ processValidated n b = (addBlock n s2 b, none) ∧
      firstFailure (verifyChecks n n.bft b ++ execChecks n b) = none) := by
  have he := (preSteps_spec n b).err
  have hn := (preSteps_spec n b).node
  have hs := (preSteps_spec n b).store
  unfold processValidated
  generalize runSteps (preSteps b) { node := n, store := n.bft } = r at he hn hs
  obtain ⟨s, oe⟩ := r
  simp only at he hn hs
  cases oe with
  | some e => exact Or.inl ⟨e, by rw [← hn], he.symm⟩
  | none => exact Or.inr ⟨s.store, (hs rfl).symm, by simp [commitStep, hn], he.symm⟩

theorem processValidated_err (n : Node) (b : Cand) :
    (processValidated n b).2 = firstFailure (verifyChecks n n.bft b ++ execChecks n b) := by
  rcases processValidated_cases n b with ⟨e, h, hf⟩ | ⟨s2, _, h, hf⟩ <;> rw [h, hf]

end LiskVerif.Verify
