/-
The static specification `Model/BFTSpec.lean` sees the validator weights only through the decisions
"prevote threshold ≤ prevote weight of height `h` in the view of `p`" (`SamePattern`): two configurations with
the same genesis height that take these decisions alike along a chain agree on `largestHeightPrecommit`, on
`maxHeightPrevoted`, on the precommits every header implies and on chain validity (`spec_congr`), so the
precommit weights differ only by the weights given to the same voters (`pcW_congr`). The decisions along a
concrete chain are finitely many comparisons of the weight of a voter list with the threshold (`pvQueries`,
`samePattern_of_queries`). `Props/C01_More.lean` transports the concrete counterexample to the parametric family
of `C01_threshold_iff` this way.
-/
import LiskVerif.Lemmas.BFTRefine

namespace LiskVerif.BFTSpec
open LiskVerif LiskVerif.BFT

theorem voters_congr {vote vote' : List Header → Header → Bool} {r : List Header}
    (h : ∀ x p, x :: p <:+ r → vote p x = vote' p x) : voters vote r = voters vote' r := by
  induction r with
  | nil => rfl
  | cons x p ih =>
    rw [voters, voters, h x p (List.suffix_refl _), ih fun y q hs => h y q (hs.trans (List.suffix_cons x p))]

theorem voters_nil_of {vote : List Header → Header → Bool} {r : List Header}
    (h : ∀ x p, x :: p <:+ r → vote p x = false) : voters vote r = [] :=
  List.eq_nil_iff_forall_not_mem.mpr fun _ ha => by
    obtain ⟨x, p, hs, _, hx⟩ := mem_voters.mp ha
    rw [h x p hs] at hx; cases hx

/-- two configurations decide every prevote quorum along `r` alike -/
def SamePattern (cfg cfg' : Cfg) (r : List Header) : Prop :=
  ∀ p, p <:+ r → ∀ h,
    decide (prevoteThreshold cfg ≤ pvW cfg p h) = decide (prevoteThreshold cfg' ≤ pvW cfg' p h)

theorem SamePattern.suffix {cfg cfg' : Cfg} {r s : List Header} (h : SamePattern cfg cfg' r) (hs : s <:+ r) :
    SamePattern cfg cfg' s := fun p hp => h p (hp.trans hs)

theorem lhp_congr {cfg cfg' : Cfg} (hg : cfg.genesis = cfg'.genesis) {r : List Header}
    (H : SamePattern cfg cfg' r) (v : Bytes) : lhp cfg r v = lhp cfg' r v := by
  induction r with
  | nil => exact hg
  | cons y r ih =>
    rw [lhp_cons, lhp_cons, ih (H.suffix (List.suffix_cons y r))]
    unfold minPc
    simp only [hg, H r (List.suffix_cons y r)]

theorem spec_congr {cfg cfg' : Cfg} (hg : cfg.genesis = cfg'.genesis) {r : List Header}
    (H : SamePattern cfg cfg' r) :
    mhp cfg r = mhp cfg' r ∧ (∀ x h, precommits cfg r x h = precommits cfg' r x h) ∧
      ∀ contra, chainValid contra cfg r = chainValid contra cfg' r := by
  refine ⟨?_, fun x h => ?_, fun contra => ?_⟩
  · unfold mhp; rw [funext (H r (List.suffix_refl _)), hg]
  · unfold precommits minPc
    rw [H r (List.suffix_refl _) h, hg, lhp_congr hg H]
  · induction r with
    | nil => rfl
    | cons y r ih =>
      unfold chainValid mhp
      rw [ih (H.suffix (List.suffix_cons y r)), funext (H r (List.suffix_cons y r)), hg]

/-- the precommit weight is the weight of the precommit voters of the other configuration -/
theorem pcW_congr {cfg cfg' : Cfg} (hg : cfg.genesis = cfg'.genesis) {r : List Header}
    (H : SamePattern cfg cfg' r) (h : Nat) :
    pcW cfg r h = ((voters (fun p x => precommits cfg' p x h) r).map (weightIn cfg.validators)).sum := by
  rw [pcW_eq, voteW_voters, voters_congr fun x p hs =>
    (spec_congr hg (H.suffix ((List.suffix_cons x p).trans hs))).2.1 x h]

/-- the voter lists whose weight is compared with the prevote threshold along `r`: one for every non-empty
suffix of `r` and every height up to its tip (`prevotes` depends on the configuration through the genesis
height only) -/
def pvQueries (cfg : Cfg) : List Header → List (List Bytes)
  | [] => []
  | x :: p => ((List.range (p.length + 2)).map fun i =>
      voters (fun _ y => prevotes cfg y (cfg.genesis + i)) (x :: p)) ++ pvQueries cfg p

theorem mem_pvQueries (cfg : Cfg) {r p : List Header} (hp : p <:+ r) (hne : p ≠ []) {i : Nat} (hi : i ≤ p.length) :
    voters (fun _ y => prevotes cfg y (cfg.genesis + i)) p ∈ pvQueries cfg r := by
  induction r with
  | nil => rw [List.suffix_nil] at hp; exact absurd hp hne
  | cons y r ih =>
    unfold pvQueries
    rw [List.mem_append]
    rcases List.suffix_cons_iff.mp hp with h | h
    · subst h
      exact Or.inl (List.mem_map.mpr ⟨i, List.mem_range.mpr (by simp only [List.length_cons] at hi; omega), rfl⟩)
    · exact Or.inr (ih h)

/-- Outside the heights of the suffix nobody prevotes and both thresholds are positive, so the pattern is decided
by the finitely many lists of `pvQueries`. -/
theorem samePattern_of_queries {cfg cfg' : Cfg} (hg : cfg.genesis = cfg'.genesis) {r : List Header}
    (hc : Consec cfg'.genesis r)
    (hq : ∀ l ∈ pvQueries cfg' r, decide (prevoteThreshold cfg ≤ (l.map (weightIn cfg.validators)).sum) =
      decide (prevoteThreshold cfg' ≤ (l.map (weightIn cfg'.validators)).sum)) : SamePattern cfg cfg' r := by
  intro p hp h
  have hv : voters (fun _ x => prevotes cfg x h) p = voters (fun _ x => prevotes cfg' x h) p := by
    unfold prevotes; rw [hg]
  rw [pvW_eq, pvW_eq, voteW_voters, voteW_voters, hv]
  by_cases hh : cfg'.genesis < h ∧ h ≤ cfg'.genesis + p.length
  · apply hq
    have := mem_pvQueries cfg' hp (by intro e; subst e; simp at hh; omega) (i := h - cfg'.genesis) (by omega)
    rwa [show cfg'.genesis + (h - cfg'.genesis) = h by omega] at this
  · have hcp := hc.suffix hp
    rw [voters_nil_of fun x q hs => Bool.eq_false_iff.mpr fun hx => ?_]
    · have := prevoteThreshold_pos cfg
      have := prevoteThreshold_pos cfg'
      simp only [List.map_nil, List.sum_nil, Nat.le_zero_eq]
      rw [decide_eq_false (by omega), decide_eq_false (by omega)]
    · have h1 := (prevotes_iff cfg' x h).mp hx
      have h2 := hcp.mem_height (hs.subset List.mem_cons_self)
      omega

end LiskVerif.BFTSpec
