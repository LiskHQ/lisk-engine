/-
Lemmas for the liveness half of C02 ("in a fault-free round-robin run every block becomes final
within two voting quorums of blocks"), about the unbounded specification `Model/BFTSpec.lean`.

The round-robin run of a configuration `cfg` with `n = cfg.validators.length` validators of weight 1
and pairwise distinct addresses: the block with 0-based index `k` (height `g + k + 1`) is generated by
the validator at position `k % n` of `cfg.validators`; its `maxHeightGenerated` is the height of the
previous block of the same validator, `g + k + 1 - n`, or a value `m0 ≤ g` for the first block of a
validator (`k < n`; the Go code uses 0, the genesis height is just as good — both make the chain
valid); its `maxHeightPrevoted` is the `maxHeightPrevoted` of the view of its parent, which is
`g + k + 1 - q` when `q ≤ k` and `g` otherwise (`RR.mhp_eq`), `q = ⌊2n/3⌋+1` the prevote threshold.

Closed forms proved here for the view of the chain of length `L` (newest first `rrChain cfg m0 L`):
* `pvW … h = min (g + L + 1 - h) n` for `h > g` (`RR.pvW_eq`);
* `heightNotPrevoted ≤ g` for every block (`RR.hnp_le`);
* `min (L + 1 - j - q) n ≤ pcW … (g + j) ≤ L + 1 - j - q` for `j ≥ 1` (`RR.pcW_ge`, `RR.pcW_le`);
* `mhp = g + L + 1 - q` if `q ≤ L`, else `g`; `mhpc = g + L + 1 - q - p` if `q + p ≤ L`, else `g`
  (`RR.mhp_eq`, `RR.mhpc_eq`), `p` the precommit threshold, `1 ≤ p ≤ n`;
* the chain is chain-valid (`RR.valid`).
-/
import LiskVerif.Lemmas.BFTSafety
import LiskVerif.Lemmas.BFTRefine

namespace LiskVerif.BFTSpec
open LiskVerif LiskVerif.BFT

/-! ### arithmetic helpers -/

theorem mod_eq_lt_add_le {n a b : Nat} (hab : a < b) (hm : a % n = b % n) : a + n ≤ b := by
  have ha := Nat.div_add_mod a n
  have hb := Nat.div_add_mod b n
  rcases Nat.lt_or_ge (a / n) (b / n) with hlt | hge
  · have h1 := Nat.mul_le_mul_left n (Nat.succ_le_of_lt hlt)
    rw [Nat.mul_succ] at h1
    omega
  · have h1 := Nat.mul_le_mul_left n hge
    omega

theorem sum_map_weight_eq_length (vs : List Validator) (h : ∀ v ∈ vs, v.weight = 1) :
    (vs.map (·.weight)).sum = vs.length := by
  induction vs with
  | nil => rfl
  | cons v vs ih =>
    simp only [List.map_cons, List.sum_cons, List.length_cons]
    rw [h v List.mem_cons_self, ih (fun u hu => h u (List.mem_cons_of_mem _ hu))]
    omega

/-! ### the round-robin run -/

/-- generator of the block with 0-based index `k` -/
def rrGen (cfg : Cfg) (k : Nat) : Bytes :=
  (cfg.validators.getD (k % cfg.validators.length) ⟨[], 0⟩).address

/-- header of the block with 0-based index `k` (height `g + k + 1`) of the round-robin run; `m0` is
the `maxHeightGenerated` a validator reports in its first block -/
def rrHdr (cfg : Cfg) (m0 k : Nat) : Header :=
  { height := cfg.genesis + k + 1
    gen := rrGen cfg k
    mhg := if k < cfg.validators.length then m0 else cfg.genesis + k + 1 - cfg.validators.length
    mhp := if prevoteThreshold cfg ≤ k then cfg.genesis + k + 1 - prevoteThreshold cfg else cfg.genesis }

/-- the round-robin chain of length `L`, newest first -/
def rrChain (cfg : Cfg) (m0 : Nat) : Nat → List Header
  | 0 => []
  | L + 1 => rrHdr cfg m0 L :: rrChain cfg m0 L

/-- hypotheses on the configuration: `n ≥ 1` validators of weight 1 with pairwise distinct
addresses; first-block `maxHeightGenerated` not above genesis -/
structure RR (cfg : Cfg) (m0 : Nat) : Prop where
  pos : 0 < cfg.validators.length
  w1 : ∀ v ∈ cfg.validators, v.weight = 1
  nodup : (cfg.validators.map (·.address)).Nodup
  m0le : m0 ≤ cfg.genesis

variable {cfg : Cfg} {m0 : Nat}

theorem rrHdr_height (cfg : Cfg) (m0 k : Nat) : (rrHdr cfg m0 k).height = cfg.genesis + k + 1 := rfl
theorem rrHdr_gen (cfg : Cfg) (m0 k : Nat) : (rrHdr cfg m0 k).gen = rrGen cfg k := rfl
theorem rrHdr_mhg (cfg : Cfg) (m0 k : Nat) : (rrHdr cfg m0 k).mhg =
    if k < cfg.validators.length then m0 else cfg.genesis + k + 1 - cfg.validators.length := rfl
theorem rrHdr_mhp (cfg : Cfg) (m0 k : Nat) : (rrHdr cfg m0 k).mhp =
    if prevoteThreshold cfg ≤ k then cfg.genesis + k + 1 - prevoteThreshold cfg else cfg.genesis := rfl

theorem rrChain_succ (cfg : Cfg) (m0 L : Nat) :
    rrChain cfg m0 (L + 1) = rrHdr cfg m0 L :: rrChain cfg m0 L := rfl

theorem rrChain_length (cfg : Cfg) (m0 L : Nat) : (rrChain cfg m0 L).length = L := by
  induction L with
  | zero => rfl
  | succ L ih => rw [rrChain_succ, List.length_cons, ih]

theorem mem_rrChain {cfg : Cfg} {m0 L : Nat} {x : Header} (h : x ∈ rrChain cfg m0 L) :
    ∃ k, k < L ∧ x = rrHdr cfg m0 k := by
  induction L with
  | zero => simp [rrChain] at h
  | succ L ih =>
    rw [rrChain_succ] at h
    rcases List.mem_cons.mp h with h | h
    · exact ⟨L, by omega, h⟩
    · obtain ⟨k, hk, hx⟩ := ih h
      exact ⟨k, by omega, hx⟩

theorem rr_consec (cfg : Cfg) (m0 L : Nat) : Consec cfg.genesis (rrChain cfg m0 L) := by
  induction L with
  | zero => trivial
  | succ L ih => exact ⟨by rw [rrHdr_height, rrChain_length], ih⟩

theorem RR.total (h : RR cfg m0) : totalWeight cfg = cfg.validators.length :=
  sum_map_weight_eq_length _ h.w1

theorem RR.q_le (h : RR cfg m0) : prevoteThreshold cfg ≤ cfg.validators.length := by
  unfold prevoteThreshold
  rw [h.total]
  have := h.pos
  omega

theorem RR.gen_mem (h : RR cfg m0) (k : Nat) :
    ∃ v ∈ cfg.validators, v.address = rrGen cfg k := by
  have hk : k % cfg.validators.length < cfg.validators.length := Nat.mod_lt _ h.pos
  refine ⟨cfg.validators[k % cfg.validators.length], List.getElem_mem hk, ?_⟩
  unfold rrGen
  rw [← List.getElem_eq_getD (h := hk)]

/-- every generator of the run has BFT weight 1 -/
theorem RR.weightOf_gen (h : RR cfg m0) (k : Nat) : weightOf cfg (rrGen cfg k) = 1 := by
  obtain ⟨v, hv, hva⟩ := h.gen_mem k
  unfold weightOf findValidator
  cases hf : cfg.validators.find? (fun v => decide (v.address = rrGen cfg k)) with
  | none =>
    rw [List.find?_eq_none] at hf
    have := hf v hv
    simp [hva] at this
  | some u => exact h.w1 u (List.mem_of_find?_eq_some hf)

/-- two blocks have the same generator iff their indices agree modulo `n` -/
theorem RR.gen_eq_iff (h : RR cfg m0) (k k' : Nat) :
    rrGen cfg k = rrGen cfg k' ↔ k % cfg.validators.length = k' % cfg.validators.length := by
  constructor
  · intro he
    have hk : k % cfg.validators.length < cfg.validators.length := Nat.mod_lt _ h.pos
    have hk' : k' % cfg.validators.length < cfg.validators.length := Nat.mod_lt _ h.pos
    unfold rrGen at he
    rw [← List.getElem_eq_getD (h := hk), ← List.getElem_eq_getD (h := hk')] at he
    have hl : (cfg.validators.map (·.address)).length = cfg.validators.length := List.length_map _
    have e1 : (cfg.validators.map (·.address))[k % cfg.validators.length]'(by rw [hl]; exact hk) =
        (cfg.validators.map (·.address))[k' % cfg.validators.length]'(by rw [hl]; exact hk') := by
      rw [List.getElem_map, List.getElem_map]; exact he
    exact (List.getElem_inj h.nodup).mp e1
  · intro he
    unfold rrGen
    rw [he]

/-- an earlier block of the same generator lies at least `n` blocks back -/
theorem RR.same_gen_back (h : RR cfg m0) {k k' : Nat} (hlt : k' < k)
    (hg : (rrHdr cfg m0 k').gen = (rrHdr cfg m0 k).gen) : k' + cfg.validators.length ≤ k :=
  mod_eq_lt_add_le hlt ((h.gen_eq_iff k' k).mp hg)

theorem rr_blockAt (cfg : Cfg) (m0 : Nat) {L k : Nat} (hk : k < L) :
    blockAt (rrChain cfg m0 L) (cfg.genesis + k + 1) = some (rrHdr cfg m0 k) := by
  obtain ⟨b, -, hb, hbh⟩ := (rr_consec cfg m0 L).index (k := cfg.genesis + k + 1) (by omega)
    (by rw [rrChain_length]; omega)
  obtain ⟨k', -, rfl⟩ := mem_rrChain (List.mem_of_find?_eq_some hb)
  rw [rrHdr_height] at hbh
  rw [hb, show k' = k by omega]

/-! ### prevote weights -/

theorem RR.prevotes_iff (h : RR cfg m0) (k hh : Nat) :
    prevotes cfg (rrHdr cfg m0 k) hh = true ↔
      cfg.genesis < hh ∧ hh ≤ cfg.genesis + k + 1 ∧ cfg.genesis + k + 1 < hh + cfg.validators.length := by
  rw [BFTSpec.prevotes_iff, rrHdr_height, rrHdr_mhg]
  have := h.pos
  have := h.m0le
  split <;> omega

theorem RR.pvW_eq (h : RR cfg m0) (L hh : Nat) :
    pvW cfg (rrChain cfg m0 L) hh =
      if cfg.genesis < hh then min (cfg.genesis + L + 1 - hh) cfg.validators.length else 0 := by
  induction L with
  | zero =>
    simp only [rrChain, pvW]
    split <;> omega
  | succ L ih =>
    rw [rrChain_succ, pvW_cons, ih, rrHdr_gen, h.weightOf_gen]
    have hp := h.prevotes_iff L hh
    by_cases hg : cfg.genesis < hh
    · rw [if_pos hg, if_pos hg]
      by_cases hx : prevotes cfg (rrHdr cfg m0 L) hh = true
      · rw [if_pos hx]
        have := hp.mp hx
        omega
      · rw [if_neg hx]
        have : ¬ (hh ≤ cfg.genesis + L + 1 ∧ cfg.genesis + L + 1 < hh + cfg.validators.length) :=
          fun hc => hx (hp.mpr ⟨hg, hc⟩)
        omega
    · rw [if_neg hg, if_neg hg, if_neg (fun hx => hg (hp.mp hx).1)]

theorem RR.quorum_iff (h : RR cfg m0) (L hh : Nat) :
    prevoteThreshold cfg ≤ pvW cfg (rrChain cfg m0 L) hh ↔
      cfg.genesis < hh ∧ hh + prevoteThreshold cfg ≤ cfg.genesis + L + 1 := by
  rw [h.pvW_eq]
  have := h.q_le
  have := prevoteThreshold_pos cfg
  split <;> omega

/-! ### heightNotPrevoted -/

/-- `maxHeightGenerated` of block `i`: not above genesis (the generator's first block), or the height of block `i − n` -/
theorem RR.mhg_cases (h : RR cfg m0) (i : Nat) :
    (rrHdr cfg m0 i).mhg ≤ cfg.genesis ∨
      ∃ i', (rrHdr cfg m0 i).mhg = cfg.genesis + i' + 1 ∧ i' + cfg.validators.length = i := by
  rw [rrHdr_mhg]
  by_cases hin : i < cfg.validators.length
  · left; rw [if_pos hin]; exact h.m0le
  · right; rw [if_neg hin]; exact ⟨i - cfg.validators.length, by omega, by omega⟩

/-- the walk of `getHeightNotPrevoted` from a block of generator `k % n` steps `n` blocks back each time, always to a
block of the same generator with a smaller `maxHeightGenerated`, until it reaches that generator's first block -/
theorem RR.hnpLoop_le_genesis (h : RR cfg m0) (L k : Nat) :
    ∀ (fuel prev : Nat),
      (prev ≤ cfg.genesis ∨ ∃ i, prev = cfg.genesis + i + 1 ∧ i < L ∧ i < fuel ∧
        i % cfg.validators.length = k % cfg.validators.length) →
      hnpLoop (rrChain cfg m0 L) (rrGen cfg k) fuel prev ≤ cfg.genesis := by
  intro fuel
  induction fuel with
  | zero =>
    intro prev hc
    rcases hc with hc | ⟨i, _, _, hi, _⟩
    · simpa [hnpLoop] using hc
    · omega
  | succ fuel ih =>
    intro prev hc
    unfold hnpLoop
    rcases hc with hc | ⟨i, hprev, hiL, hif, him⟩
    · rw [(rr_consec cfg m0 L).blockAt_none (Or.inl hc)]
      exact hc
    · rw [hprev, rr_blockAt cfg m0 hiL]
      simp only
      have hgen : (rrHdr cfg m0 i).gen = rrGen cfg k := (h.gen_eq_iff i k).mpr him
      have hpos := h.pos
      have hm0 := h.m0le
      have hlt : (rrHdr cfg m0 i).mhg < cfg.genesis + i + 1 := by
        rw [rrHdr_mhg]; split <;> omega
      rw [if_neg (by
        intro hor
        rcases hor with h1 | h1
        · exact h1 hgen
        · omega)]
      apply ih
      refine (h.mhg_cases i).imp id fun ⟨i', e, hi'⟩ => ⟨i', e, by omega, by omega, ?_⟩
      rw [← him, ← hi', Nat.add_mod_right]

/-- `heightNotPrevoted` of every block of the run is at most the genesis height: the walk along the
generator's own blocks reaches its first block -/
theorem RR.hnp_le (h : RR cfg m0) (L : Nat) :
    hnp (rrChain cfg m0 L) (rrHdr cfg m0 L) ≤ cfg.genesis := by
  unfold hnp
  rw [rrHdr_gen, rrChain_length]
  apply h.hnpLoop_le_genesis L L
  have hpos := h.pos
  refine (h.mhg_cases L).imp id fun ⟨i', e, hi'⟩ => ⟨i', e, by omega, by omega, ?_⟩
  rw [← hi', Nat.add_mod_right]

/-! ### largestHeightPrecommit -/

/-- if all blocks of `v` in the chain have 1-based index `≤ B`, `v` has precommitted at most up to
`g + B - q` -/
theorem RR.lhp_le (h : RR cfg m0) : ∀ (L : Nat) (v : Bytes) (B : Nat),
    (∀ k, k < L → (rrHdr cfg m0 k).gen = v → k + 1 ≤ B) →
    lhp cfg (rrChain cfg m0 L) v ≤ cfg.genesis + (B - prevoteThreshold cfg) := by
  intro L
  induction L with
  | zero => intro v B _; simp [rrChain, lhp]
  | succ L ih =>
    intro v B hB
    have hprev := ih v B (fun k hk hg => hB k (by omega) hg)
    rw [rrChain_succ, lhp_cons]
    split
    · rename_i hc
      have hLB := hB L (by omega) hc.1
      apply Nat.max_le.mpr
      refine ⟨hprev, ?_⟩
      rcases maxWith_spec (fun hh => decide (minPc cfg (hnp (rrChain cfg m0 L) (rrHdr cfg m0 L))
          (lhp cfg (rrChain cfg m0 L) v) ≤ hh) &&
          decide (prevoteThreshold cfg ≤ pvW cfg (rrChain cfg m0 L) hh)) cfg.genesis
          ((rrChain cfg m0 L).length + 1) with hm | hm
      · rw [hm]; omega
      · simp only [Bool.and_eq_true, decide_eq_true_eq] at hm
        have := (h.quorum_iff L _).mp hm.2
        omega
    · exact hprev

/-! ### precommits and precommit weights -/

/-- block `k` precommits height `g + j` when `j + q ≤ k + 1 < j + q + n` (within one round after the prevote quorum;
later blocks of the same generator do not precommit it again) -/
theorem RR.precommits_true (h : RR cfg m0) {k j : Nat} (hj : 1 ≤ j)
    (h1 : j + prevoteThreshold cfg ≤ k + 1)
    (h2 : k + 1 < j + prevoteThreshold cfg + cfg.validators.length) :
    precommits cfg (rrChain cfg m0 k) (rrHdr cfg m0 k) (cfg.genesis + j) = true := by
  rw [precommits_iff]
  have hpos := h.pos
  have hm0 := h.m0le
  have hq := prevoteThreshold_pos cfg
  have hhnp := h.hnp_le k
  have hlhp := h.lhp_le k (rrHdr cfg m0 k).gen (k + 1 - cfg.validators.length) (by
    intro k' hk' hg
    have := h.same_gen_back hk' hg
    omega)
  refine ⟨?_, by omega, by omega, by omega, (h.quorum_iff k _).mpr ⟨by omega, by omega⟩⟩
  rw [rrHdr_mhg, rrHdr_height]
  split <;> omega

theorem RR.pcW_ge (h : RR cfg m0) (L : Nat) {j : Nat} (hj : 1 ≤ j) :
    min (L + 1 - j - prevoteThreshold cfg) cfg.validators.length ≤
      pcW cfg (rrChain cfg m0 L) (cfg.genesis + j) := by
  induction L with
  | zero => simp only [rrChain, pcW]; have := prevoteThreshold_pos cfg; omega
  | succ L ih =>
    rw [rrChain_succ, pcW_cons, rrHdr_gen, h.weightOf_gen]
    by_cases hr : j + prevoteThreshold cfg ≤ L + 1 ∧
        L + 1 < j + prevoteThreshold cfg + cfg.validators.length
    · rw [if_pos (h.precommits_true hj hr.1 hr.2)]
      omega
    · have : pcW cfg (rrChain cfg m0 L) (cfg.genesis + j) ≤
          pcW cfg (rrChain cfg m0 L) (cfg.genesis + j) +
            (if precommits cfg (rrChain cfg m0 L) (rrHdr cfg m0 L) (cfg.genesis + j) = true then 1 else 0) :=
        Nat.le_add_right _ _
      omega

theorem RR.pcW_le (h : RR cfg m0) (L hh : Nat) :
    pcW cfg (rrChain cfg m0 L) hh ≤
      if cfg.genesis < hh then cfg.genesis + L + 1 - hh - prevoteThreshold cfg else 0 := by
  induction L with
  | zero => simp only [rrChain, pcW]; split <;> omega
  | succ L ih =>
    rw [rrChain_succ, pcW_cons, rrHdr_gen, h.weightOf_gen]
    by_cases hx : precommits cfg (rrChain cfg m0 L) (rrHdr cfg m0 L) hh = true
    · rw [if_pos hx]
      have := (h.quorum_iff L hh).mp ((precommits_iff cfg _ _ hh).mp hx).2.2.2.2
      rw [if_pos this.1] at ih ⊢
      omega
    · rw [if_neg hx]
      split at ih <;> split <;> omega

/-! ### maxHeightPrevoted, maxHeightPrecommitted -/

theorem RR.mhp_eq (h : RR cfg m0) (L : Nat) :
    mhp cfg (rrChain cfg m0 L) =
      if prevoteThreshold cfg ≤ L then cfg.genesis + L + 1 - prevoteThreshold cfg else cfg.genesis := by
  unfold mhp
  rw [rrChain_length]
  have hq := prevoteThreshold_pos cfg
  apply maxWith_eq_of
  · split <;> omega
  · split <;> omega
  · intro hlt
    simp only [decide_eq_true_eq]
    apply (h.quorum_iff L _).mpr
    split at hlt <;> rename_i hc
    · rw [if_pos hc]; omega
    · omega
  · intro m hm _
    simp only [decide_eq_true_eq] at hm
    have := (h.quorum_iff L m).mp hm
    split <;> omega

theorem RR.mhpc_eq (h : RR cfg m0) (hp1 : 1 ≤ cfg.precommitThreshold)
    (hpn : cfg.precommitThreshold ≤ cfg.validators.length) (L : Nat) :
    mhpc cfg (rrChain cfg m0 L) =
      if prevoteThreshold cfg + cfg.precommitThreshold ≤ L
      then cfg.genesis + L + 1 - prevoteThreshold cfg - cfg.precommitThreshold else cfg.genesis := by
  unfold mhpc
  rw [rrChain_length]
  have hq := prevoteThreshold_pos cfg
  apply maxWith_eq_of
  · split <;> omega
  · split <;> omega
  · intro hlt
    simp only [decide_eq_true_eq]
    split at hlt <;> rename_i hc
    · rw [if_pos hc]
      have hj : 1 ≤ L + 1 - prevoteThreshold cfg - cfg.precommitThreshold := by omega
      have := h.pcW_ge L hj
      have he : cfg.genesis + L + 1 - prevoteThreshold cfg - cfg.precommitThreshold =
          cfg.genesis + (L + 1 - prevoteThreshold cfg - cfg.precommitThreshold) := by omega
      rw [he]
      omega
    · omega
  · intro m hm hgm
    simp only [decide_eq_true_eq] at hm
    have := h.pcW_le L m
    rw [if_pos hgm] at this
    split <;> omega

/-- liveness needs only `p ≤ n`: height `g + j` is precommitted in the view of the chain of length
`L ≥ j + q + p - 1` -/
theorem RR.mhpc_ge (h : RR cfg m0) (hpn : cfg.precommitThreshold ≤ cfg.validators.length)
    {L j : Nat} (hj : 1 ≤ j) (hL : j + prevoteThreshold cfg + cfg.precommitThreshold ≤ L + 1) :
    cfg.genesis + j ≤ mhpc cfg (rrChain cfg m0 L) := by
  unfold mhpc
  rw [rrChain_length]
  have hq := prevoteThreshold_pos cfg
  apply maxWith_ge _ _ _ _ _ (by omega) (by omega)
  simp only [decide_eq_true_eq]
  have := h.pcW_ge L hj
  omega

/-! ### chain validity -/

theorem RR.valid (h : RR cfg m0) (L : Nat) : Valid cfg (rrChain cfg m0 L) := by
  induction L with
  | zero => exact valid_nil cfg
  | succ L ih =>
    rw [rrChain_succ, valid_cons]
    refine ⟨by rw [rrHdr_height, rrChain_length], by rw [rrHdr_mhp, h.mhp_eq], ?_, ih⟩
    unfold contradictingSpec
    cases hf : (rrChain cfg m0 L).find? (fun b => decide (b.gen = (rrHdr cfg m0 L).gen)) with
    | none => rfl
    | some b =>
      simp only
      have hbg : b.gen = (rrHdr cfg m0 L).gen := by simpa using List.find?_some hf
      obtain ⟨k, hk, rfl⟩ := mem_rrChain (List.mem_of_find?_eq_some hf)
      have hback := h.same_gen_back hk hbg
      have hpos := h.pos
      have hm0 := h.m0le
      apply (C07_spec _ _ (by rw [toHdr_gen, toHdr_gen]; exact hbg)).mpr
      left
      unfold C07LegitSucc toHdr
      simp only [rrHdr_height, rrHdr_mhg, rrHdr_mhp]
      rw [if_neg (show ¬ (L < cfg.validators.length) by omega)]
      refine ⟨by omega, by split <;> omega, by split <;> split <;> omega, ?_⟩
      split <;> split <;> omega

end LiskVerif.BFTSpec
