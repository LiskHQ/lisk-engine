/-
Facts about `List.all` used to read a single kernel evaluation over a regenerated table as the
obligations it consists of: a table-wide check is evaluated once, and what it says about one
criterion, or about one entry, follows without evaluating anything again. Second half: tables filtered by a name
test — the test stated after the check (`all_filter_of_all_or`, `flatMap_filter`), so that the evaluation reaches
it only where the check fails, and `filterSeq` / `filterSeq_eq`, the filter that tries the next expected name
first.
-/

namespace LiskVerif.Tables

variable {α β : Type _} {l : List α} {p q : α → Bool}

theorem all_imp (h : l.all p = true) (hpq : ∀ a, p a = true → q a = true) : l.all q = true :=
  List.all_eq_true.mpr fun a ha => hpq a (List.all_eq_true.mp h a ha)

theorem all_mem (h : l.all p = true) {a : α} (ha : a ∈ l) : p a = true :=
  List.all_eq_true.mp h a ha

theorem all_and : l.all (fun a => p a && q a) = true ↔ l.all p = true ∧ l.all q = true := by
  simp only [List.all_eq_true, Bool.and_eq_true]
  exact ⟨fun h => ⟨fun a ha => (h a ha).1, fun a ha => (h a ha).2⟩, fun h a ha => ⟨h.1 a ha, h.2 a ha⟩⟩

/-- what holds of every row of an evaluated selection `(l.filter p).map f = rows` holds of every selected entry -/
theorem all_of_rows {f : α → β} {rows : List β} (h : (l.filter p).map f = rows) (c : β → Bool)
    (hc : rows.all c = true) : (l.filter p).all (c ∘ f) = true := by
  rw [← List.all_map, h]; exact hc

/-- no selected entry passes a further test that no row of the evaluated selection passes -/
theorem filter_eq_nil_of_rows {f : α → β} {rows : List β} (h : (l.filter p).map f = rows) (c : β → Bool)
    (hc : rows.all (fun b => !c b) = true) : l.filter (fun a => p a && c (f a)) = [] :=
  List.filter_eq_nil_iff.mpr fun a ha hpc => by
    rw [Bool.and_eq_true] at hpc
    have := all_mem (all_of_rows h _ hc) (List.mem_filter.mpr ⟨ha, hpc.1⟩)
    simp [hpc.2] at this

/-- from a table to the part of it picked out by a further condition `r`; the new check may rest on `r` -/
theorem all_filter_and {r q' : α → Bool} (h : (l.filter p).all q = true)
    (hq : ∀ a, r a = true → q a = true → q' a = true) : (l.filter fun a => p a && r a).all q' = true :=
  List.all_eq_true.mpr fun a ha => by
    obtain ⟨hl, hpr⟩ := List.mem_filter.mp ha
    rw [Bool.and_eq_true] at hpr
    exact hq a hpr.2 (all_mem h (List.mem_filter.mpr ⟨hl, hpr.1⟩))

theorem all_of_subset {l' : List α} (h : l.all q = true) (hs : ∀ a ∈ l', a ∈ l) : l'.all q = true :=
  List.all_eq_true.mpr fun a ha => all_mem h (hs a ha)

theorem all_filter_of_all (h : l.all q = true) : (l.filter p).all q = true :=
  all_of_subset h fun _ ha => (List.mem_filter.mp ha).1

/-! A regenerated table lists every extracted function; the obligations speak of those that pass a test `p`
(the name is among the entry points), which the kernel evaluates by scanning a list of strings. Stated
over the whole table with the test AFTER the check — `q a || !p a` — the evaluation reaches the test only
where the check fails; these lemmas read such an evaluation as the statement over `l.filter p`. -/

theorem all_filter_of_all_or (h : l.all (fun a => q a || !p a) = true) : (l.filter p).all q = true := by
  rw [List.all_filter]
  exact all_imp h fun a ha => by rwa [Bool.or_comm] at ha

/-- the same for a collected list: `f a` is looked at first, the test only where it is not empty -/
theorem flatMap_filter (f : α → List β) :
    (l.filter p).flatMap f = l.flatMap fun a => match f a with
      | [] => []
      | b :: bs => if p a then b :: bs else [] := by
  induction l with
  | nil => rfl
  | cons a l ih =>
    simp only [List.filter_cons, List.flatMap_cons, ← ih]
    cases hp : p a <;> cases hf : f a <;> simp [hf]

/-! Where the filtered table itself is wanted (its length, say) every entry's name has to be looked up.
The entry list of a regenerated table names its entries in table order: walking both lists together finds
each name at the head of what is left of the entry list, and scans the whole list only for the few functions
that are not entry points. -/

variable {κ : Type _} [BEq κ] [LawfulBEq κ]

/-- `t.filter (fun e => all.contains e.1)`, trying the head of `ns` (a part of `all`) first -/
def filterSeq (all : List κ) : List (κ × β) → List κ → List (κ × β)
  | [], _ => []
  | e :: t, [] => if all.contains e.1 then e :: filterSeq all t [] else filterSeq all t []
  | e :: t, n :: ns =>
    if e.1 == n then e :: filterSeq all t ns
    else if all.contains e.1 then e :: filterSeq all t (n :: ns) else filterSeq all t (n :: ns)

theorem filterSeq_eq (all : List κ) (t : List (κ × β)) (ns : List κ) (h : ∀ n ∈ ns, n ∈ all) :
    filterSeq all t ns = t.filter fun e => all.contains e.1 := by
  induction t generalizing ns with
  | nil => cases ns <;> rfl
  | cons e t ih =>
    cases ns with
    | nil => simp only [filterSeq, List.filter_cons, ih [] h]
    | cons n ns =>
      have hns : ∀ m ∈ ns, m ∈ all := fun m hm => h m (List.mem_cons_of_mem _ hm)
      simp only [filterSeq, List.filter_cons, ih ns hns, ih (n :: ns) h]
      by_cases hen : (e.1 == n) = true
      · have : all.contains e.1 = true := by
          rw [beq_iff_eq.mp hen]; exact List.contains_iff_mem.mpr (h n (List.mem_cons_self ..))
        simp only [hen, this, if_true]
      · simp only [hen, Bool.false_eq_true, if_false]

end LiskVerif.Tables
