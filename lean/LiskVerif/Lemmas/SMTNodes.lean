/-
Nodes of the tree of a group of entries, by position: the entries below a position (`descend`), the height `ht` of
the tree, and **the root commits to the tree**: for a hash with outputs of one length and no collision between an
input hashed for one group (`X`) and one hashed for the other (`Y`), two groups with equal roots are taken apart in
step (`root_eq_rec`), so that they have the same height (`root_eq_ht`) and every key/value pair of the first is one
of the second (`root_keys_subset`).  Used for the positions of a
multi-key proof (Lemmas/SMTMultiTree.lean), for the records of the stored subtrees (Lemmas/SMTImplDistinct.lean) and for
"equal roots, equal maps" of the event tree (Lemmas/Roots.lean).
-/
import LiskVerif.Lemmas.SMT

namespace LiskVerif.SMT

/-! ### the entries below a position -/

theorem descend_append (es : List Entry) : ∀ (p q : Bits), descend es (p ++ q) = descend (descend es p) q
  | [], _ => rfl
  | _ :: p, q => descend_append _ p q

theorem length_child_le (b : Bool) (es : List Entry) : (if b then goR es else goL es).length ≤ es.length := by
  cases b <;> exact List.length_filterMap_le _ _

theorem length_descend_le (es : List Entry) : ∀ (p : Bits), (descend es p).length ≤ es.length
  | [] => Nat.le_refl _
  | b :: p => Nat.le_trans (length_descend_le _ p) (length_child_le b es)

/-- nothing is left below a position longer than the paths -/
theorem descend_nil_of_gt {d : Nat} {es : List Entry} (h : WFE d es) (x : Bits) (hx : d < x.length) :
    descend es x = [] := by
  apply List.eq_nil_iff_forall_not_mem.mpr
  intro e' he'
  obtain ⟨e, he, hp, _, _⟩ := (mem_descend x).mp he'
  have hl := h.1 e he
  rw [hp, List.length_append] at hl
  omega

/-! ### the height of the tree -/

def ht : Nat → List Entry → Nat
  | _, [] => 0
  | _, [_] => 0
  | 0, _ :: _ :: _ => 0
  | d + 1, e₁ :: e₂ :: es => 1 + max (ht d (goL (e₁ :: e₂ :: es))) (ht d (goR (e₁ :: e₂ :: es)))

@[simp] theorem ht_nil (d : Nat) : ht d [] = 0 := by cases d <;> simp [ht]
@[simp] theorem ht_single (d : Nat) (e : Entry) : ht d [e] = 0 := by cases d <;> simp [ht]
theorem ht_succ_two (d : Nat) (es : List Entry) (h : 2 ≤ es.length) :
    ht (d + 1) es = 1 + max (ht d (goL es)) (ht d (goR es)) := by
  match es, h with
  | _ :: _ :: _, _ => simp [ht]

theorem ht_le_one {d : Nat} {es : List Entry} (h : es.length ≤ 1) : ht d es = 0 := by
  match es, h with
  | [], _ => simp
  | [_], _ => simp

theorem ht_child_lt {d : Nat} {es : List Entry} (h2 : 2 ≤ es.length) (b : Bool) :
    ht d (if b then goR es else goL es) < ht (d + 1) es := by
  rw [ht_succ_two d es h2]
  cases b <;> simp <;> omega

theorem ht_child_le (d : Nat) (es : List Entry) (b : Bool) : ht d (if b then goR es else goL es) ≤ ht (d + 1) es := by
  by_cases h2 : 2 ≤ es.length
  · exact Nat.le_of_lt (ht_child_lt h2 b)
  · rw [ht_le_one (Nat.le_trans (length_child_le b es) (by omega))]; omega

theorem ht_descend_le : ∀ (r : Bits) (d : Nat) (es : List Entry), r.length ≤ d →
    ht (d - r.length) (descend es r) ≤ ht d es
  | [], _, _, _ => Nat.le_refl _
  | b :: r, 0, _, hl => by simp at hl
  | b :: r, d + 1, es, hl => by
    rw [List.length_cons, Nat.add_sub_add_right]
    exact Nat.le_trans (ht_descend_le r d _ (by simpa using hl)) (ht_child_le d es b)

/-- the tree below a branch node is lower than the tree of the branch node -/
theorem ht_descend_lt {D : Nat} {es : List Entry} (p : Bits) (b : Bool) (r : Bits)
    (hl : (p ++ b :: r).length ≤ D) (h2 : 2 ≤ (descend es p).length) :
    ht (D - (p ++ b :: r).length) (descend es (p ++ b :: r)) < ht (D - p.length) (descend es p) := by
  rw [descend_append]
  simp only [List.length_append, List.length_cons] at hl ⊢
  have h1 := ht_descend_le r (D - p.length - 1) (if b then goR (descend es p) else goL (descend es p)) (by omega)
  have h3 := ht_child_lt (d := D - p.length - 1) h2 b
  rw [show D - p.length - 1 + 1 = D - p.length by omega] at h3
  rw [show D - (p.length + (r.length + 1)) = D - p.length - 1 - r.length by omega]
  exact Nat.lt_of_le_of_lt h1 h3

/-! ### the root commits to the tree -/

/-- **equal roots are taken apart in step**: for a hash with outputs of one length and no collision between an input
in `X` and one in `Y`, two well-formed groups with equal roots (inputs in `X`, resp. `Y`) are of the same kind, and if they are
branches their sides have equal roots again.  So what holds of two empty groups, of two single entries with the
same key and value bytes, and of two branches as soon as it holds of their sides, holds of the two groups. -/
theorem root_eq_rec {H : HashFn} {n : Nat} (hlen : ∀ x, (H x).length = n) {X Y : Bytes → Prop}
    (hinj : ∀ a b, X a → Y b → H a = H b → a = b) {P : Nat → Nat → List Entry → List Entry → Prop}
    (h0 : ∀ d d', P d d' [] [])
    (h1 : ∀ d d' e e', e.key ++ e.value = e'.key ++ e'.value → P d d' [e] [e'])
    (h2 : ∀ d d' es es', WFE (d + 1) es → WFE (d' + 1) es' → 2 ≤ es.length → 2 ≤ es'.length →
      P d d' (goL es) (goL es') → P d d' (goR es) (goR es') → P (d + 1) (d' + 1) es es') :
    ∀ (d d' : Nat) (es es' : List Entry), WFE d es → WFE d' es' → (∀ a ∈ treeInputs H d es, X a) →
      (∀ a ∈ treeInputs H d' es', Y a) → root H d es = root H d' es' → P d d' es es' := by
  intro d
  induction d using Nat.strongRecOn with
  | ind d ih =>
    intro d' es es' hw hw' hx hx' h
    rcases root_pre H hw with ⟨rfl, hr, hm⟩ | ⟨e, rfl, hr, hm⟩ | ⟨n2, d₀, rfl, hr, hm, hl, hrr⟩ <;>
      rcases root_pre H hw' with ⟨rfl, hr', hm'⟩ | ⟨e', rfl, hr', hm'⟩ | ⟨n2', d₀', rfl, hr', hm', hl', hrr'⟩ <;>
      have hi := hinj _ _ (hx _ hm) (hx' _ hm') ((hr.symm.trans h).trans hr')
    · exact h0 _ _
    · simp at hi
    · simp at hi
    · simp at hi
    · exact h1 _ _ _ _ (List.cons.inj hi).2
    · simp at hi
    · simp at hi
    · simp at hi
    · obtain ⟨e1, e2⟩ := List.append_inj (List.cons.inj hi).2 (by rw [root_length hlen, root_length hlen])
      exact h2 _ _ _ _ hw hw' n2 n2'
        (ih d₀ (by omega) d₀' _ _ (wfe_goL hw) (wfe_goL hw') (fun a ha => hx a (hl a ha)) (fun a ha => hx' a (hl' a ha)) e1)
        (ih d₀ (by omega) d₀' _ _ (wfe_goR hw) (wfe_goR hw') (fun a ha => hx a (hrr a ha)) (fun a ha => hx' a (hrr' a ha)) e2)

variable {H : HashFn} {n : Nat} {X Y : Bytes → Prop}

theorem root_eq_ht (hlen : ∀ x, (H x).length = n) (hinj : ∀ a b, X a → Y b → H a = H b → a = b) :
    ∀ (d d' : Nat) (es es' : List Entry), WFE d es → WFE d' es' → (∀ a ∈ treeInputs H d es, X a) →
      (∀ a ∈ treeInputs H d' es', Y a) → root H d es = root H d' es' → ht d es = ht d' es' :=
  root_eq_rec hlen hinj (P := fun d d' es es' => ht d es = ht d' es') (fun _ _ => by simp) (fun _ _ _ _ _ => by simp)
    (fun d d' es es' _ _ n2 n2' hL hR => by rw [ht_succ_two _ _ n2, ht_succ_two _ _ n2', hL, hR])

/-- equal roots: every key/value pair of the first group is one of the second -/
theorem root_keys_subset (hlen : ∀ x, (H x).length = n) (hinj : ∀ a b, X a → Y b → H a = H b → a = b)
    (keyLen : Nat) (d d' : Nat) (es es' : List Entry) (hw : WFE d es) (hw' : WFE d' es')
    (hx : ∀ a ∈ treeInputs H d es, X a) (hx' : ∀ a ∈ treeInputs H d' es', Y a)
    (hk : ∀ e ∈ es, e.key.length = keyLen) (hk' : ∀ e ∈ es', e.key.length = keyLen)
    (h : root H d es = root H d' es') : ∀ e ∈ es, ∃ e' ∈ es', e'.key = e.key ∧ e'.value = e.value := by
  refine root_eq_rec hlen hinj (P := fun _ _ es es' => (∀ e ∈ es, e.key.length = keyLen) →
    (∀ e ∈ es', e.key.length = keyLen) → ∀ e ∈ es, ∃ e' ∈ es', e'.key = e.key ∧ e'.value = e.value)
    ?_ ?_ ?_ d d' es es' hw hw' hx hx' h hk hk'
  · intro _ _ _ _ e he
    simp at he
  · intro _ _ e₁ e' hi hk hk' e he
    obtain rfl : e = e₁ := by simpa using he
    obtain ⟨ha, hb⟩ := List.append_inj hi (by rw [hk e (by simp), hk' e' (by simp)])
    exact ⟨e', by simp, ha.symm, hb.symm⟩
  · intro _ _ es es' hw _ _ _ ihl ihr hk hk' e he
    match hp : e.path with
    | [] => exact absurd hp (wfe_path_ne_nil hw e he)
    | b :: p =>
      -- `e` is on side `b`, where the two groups have equal roots again
      have hkb : ∀ {es : List Entry}, (∀ e ∈ es, e.key.length = keyLen) →
          ∀ e ∈ (if b then goR es else goL es), e.key.length = keyLen :=
        fun hk => kv_child (P := fun k _ => k.length = keyLen) hk b
      have ih : ∀ e₁ ∈ (if b then goR es else goL es), ∃ e' ∈ (if b then goR es' else goL es'),
          e'.key = e₁.key ∧ e'.value = e₁.value := by
        cases b
        · exact ihl (hkb hk) (hkb hk')
        · exact ihr (hkb hk) (hkb hk')
      obtain ⟨e'', he'', hk'', hv''⟩ := ih ⟨p, e.key, e.value⟩ (mem_child.mpr ⟨e, he, hp, rfl, rfl⟩)
      obtain ⟨e₀, he₀, _, hk₀, hv₀⟩ := mem_child.mp he''
      exact ⟨e₀, he₀, by rw [← hk₀, hk''], by rw [← hv₀, hv'']⟩

end LiskVerif.SMT
