/-
The rate limiter one event at a time: its counters, `receive` case by case (malformed or unknown: ban; within the
limit: only the counter moves; over it: the procedure's penalty), what penalties and received envelopes leave alone; and the two outcomes of the life-cycle `restart`.
-/
import LiskVerif.Model.Lifecycle
import LiskVerif.Lemmas.ConnGater

namespace LiskVerif.RateLimit
open LiskVerif.ConnGater

/-! ### the counters: per procedure an association list from peer to count -/

theorem getCount_eq_get (l : List (Nat × Nat)) (p : Nat) : getCount l p = (AList.get l p).getD 0 := by
  induction l with
  | nil => rfl
  | cons e r ih =>
    obtain ⟨a, c⟩ := e
    rw [getCount, AList.get_cons, ih]
    split <;> rfl

theorem setCount_eq_upsert : setCount = AList.upsert := by
  funext l p v; induction l <;> simp only [setCount, AList.upsert, *]

theorem getCount_setCount (l : List (Nat × Nat)) (p v p' : Nat) :
    getCount (setCount l p v) p' = if p = p' then v else getCount l p' := by
  rw [getCount_eq_get, setCount_eq_upsert, AList.get_upsert, getCount_eq_get]
  by_cases h : p' = p
  · simp [h]
  · simp [h, Ne.symm h]

theorem findCounter_updCounter (cs : List Counter) (n : String) (f : Counter → Counter)
    (hf : ∀ c, (f c).name = c.name) (n' : String) :
    findCounter (updCounter cs n f) n' =
      if n = n' then (findCounter cs n).map f else findCounter cs n' := by
  induction cs with
  | nil => simp [updCounter, findCounter]
  | cons c r ih =>
    by_cases hc : c.name = n
    · subst hc
      simp only [updCounter, if_true, findCounter, hf]
      by_cases h1 : c.name = n' <;> simp [h1]
    · simp only [updCounter, hc, if_false, findCounter, ih]
      by_cases h1 : c.name = n'
      · have : ¬ n = n' := fun hh => hc (hh ▸ h1)
        simp [h1, this]
      · simp [h1]

theorem findCounter_map (cs : List Counter) (f : Counter → Counter)
    (hf : ∀ c, (f c).name = c.name) (n : String) :
    findCounter (cs.map f) n = (findCounter cs n).map f := by
  induction cs with
  | nil => simp [findCounter]
  | cons c r ih =>
    simp only [List.map_cons, findCounter, hf]
    by_cases h : c.name = n <;> simp [h, ih]

/-- the interval tick empties every counter and keeps its configuration -/
theorem findCounter_tick (n : Node) (name : String) :
    findCounter (tick n).counters name = (findCounter n.counters name).map fun c => { c with counts := [] } :=
  findCounter_map n.counters (fun c => { c with counts := [] }) (fun _ => rfl) name

theorem count_tick (n : Node) (name : String) (pid : Nat) : count (tick n) name pid = 0 := by
  rw [count, findCounter_tick]
  cases findCounter n.counters name <;> rfl

/-! ### `receive`, case by case: a bad envelope (`receive_bad`: gater started, remote address has an IP), within the
limit (`receive_within`: message protocol started, any remote address), over the limit (`receive_over`: all three);
between them the facts about `count`, `increase` and `disconnect` that the cases use -/

theorem peerAddPenalty_ok {g : Gater} (hs : g.started = true) (now : Nat) (ip : IP) (p : Nat)
    (s : Int) :
    peerAddPenalty g now ⟨some ip, some p⟩ s =
      ((addPenalty g now ⟨some ip, some p⟩ s).1,
        .ok (if (match find g.peerScore ip with | some i => i.score + s | none => s) ≥ maxPenaltyScore
             then some p else none)) := by
  have h2 : (addPenalty g now ⟨some ip, some p⟩ s).2 =
      .ok (match find g.peerScore ip with | some i => i.score + s | none => s) := by
    rw [addPenalty_ok hs]
    rfl
  unfold peerAddPenalty
  rcases hh : addPenalty g now ⟨some ip, some p⟩ s with ⟨g', r⟩
  rw [hh] at h2
  simp only at h2
  subst h2
  simp only
  split <;> exact (apply_ite (fun x => (g', PenOut.ok x)) _ _ _).symm

theorem nodeBan_ok (n : Node) (hs : n.g.started = true) (now : Nat) (ip : IP) (pid : Nat) :
    nodeBan n now ⟨some ip, some pid⟩ =
      (disconnect { n with g := (addPenalty n.g now ⟨some ip, some pid⟩ maxPenaltyScore).1 } pid,
        .ok (some pid)) := by
  unfold nodeBan banPeer
  rw [addPenalty_ok hs]
  rfl

/-- what is left of the connections after `Peer.Disconnect`: those of the other peers -/
theorem mem_conns_disconnect {n : Node} {p : Nat} {c : Nat × Addr} (h : c ∈ (disconnect n p).conns) :
    c ∈ n.conns ∧ c.1 ≠ p := by
  simpa [disconnect] using h

/-- malformed envelope / unknown procedure: the IP gets `MaxPenaltyScore`, the sender is disconnected -/
theorem receive_bad (n : Node) (hs : n.g.started = true) (now : Nat) (isReq : Bool) (ip : IP)
    (rpid : Option Nat) (pid : Nat) (k : MsgKind)
    (hk : k = .malformed ∨ ∃ name, k = .proc name ∧ findCounter n.counters name = none) :
    receive n now isReq ⟨some ip, rpid⟩ pid k =
      disconnect { n with g := (addPenalty n.g now ⟨some ip, some pid⟩ maxPenaltyScore).1 } pid := by
  have hb := nodeBan_ok n hs now ip pid
  rcases hk with hk | ⟨name, hk, hnone⟩
  · subst hk
    show (nodeBan n now ⟨some ip, some pid⟩).1 = _
    rw [hb]
  · subst hk
    unfold receive
    simp only [hnone, Option.isNone_none, if_true, withPid]
    rw [hb]

theorem count_of_find {n : Node} {name : String} {cfg : Counter} (hc : findCounter n.counters name = some cfg)
    (pid : Nat) : count n name pid = getCount cfg.counts pid := by
  rw [count, hc]

/-- setting the count of `(name, pid)` of a registered procedure moves that count alone -/
theorem count_setCount (n n' : Node) (name : String) (pid : Nat) (v : Counter → Nat) (cfg : Counter)
    (hc : findCounter n.counters name = some cfg)
    (hn' : n'.counters = updCounter n.counters name fun c => { c with counts := setCount c.counts pid (v c) })
    (name' : String) (pid' : Nat) :
    count n' name' pid' = if name' = name ∧ pid' = pid then v cfg else count n name' pid' := by
  unfold count
  rw [hn', findCounter_updCounter n.counters name (fun c => { c with counts := setCount c.counts pid (v c) })
    (fun _ => rfl) name']
  by_cases h1 : name = name'
  · subst h1
    simp only [if_true, hc, Option.map_some, true_and, getCount_setCount]
    by_cases h2 : pid = pid'
    · subst h2; simp
    · have : ¬ pid' = pid := fun hh => h2 hh.symm
      simp [h2, this]
  · have : ¬ name' = name := fun hh => h1 hh.symm
    simp [h1, this]

theorem find_increase (n : Node) (name : String) (pid : Nat) (name' : String) :
    findCounter (increase n name pid).counters name' =
      if name = name' then (findCounter n.counters name).map fun c =>
        { c with counts := setCount c.counts pid (getCount c.counts pid + 1) }
      else findCounter n.counters name' := by
  unfold increase
  simp only
  rw [findCounter_updCounter n.counters name (fun c => { c with counts := setCount c.counts pid (getCount c.counts pid + 1) }) (fun _ => rfl) name']

theorem count_increase (n : Node) (name : String) (pid : Nat) (cfg : Counter)
    (hc : findCounter n.counters name = some cfg) (name' : String) (pid' : Nat) :
    count (increase n name pid) name' pid' =
      if name' = name ∧ pid' = pid then count n name pid + 1 else count n name' pid' := by
  rw [count_setCount n _ name pid (fun c => getCount c.counts pid + 1) cfg hc rfl, count_of_find hc]

/-- registered procedure, count stays within the limit: only the counter moves; a request is served -/
theorem receive_within (n : Node) (hmp : n.mpStarted = true) (now : Nat) (isReq : Bool)
    (remote : Addr) (pid : Nat) (name : String) (cfg : Counter)
    (hc : findCounter n.counters name = some cfg)
    (hle : ((count n name pid + 1 : Nat) : Int) ≤ cfg.limit) :
    receive n now isReq remote pid (.proc name) =
      { increase n name pid with handled := n.handled + if isReq then 1 else 0 } := by
  rw [count_of_find hc] at hle
  have hfind := find_increase n name pid name
  simp only [if_true, hc, Option.map_some] at hfind
  have hmp' : (increase n name pid).mpStarted = true := hmp
  have hng : ¬ ((getCount (setCount cfg.counts pid (getCount cfg.counts pid + 1)) pid : Nat) : Int) > cfg.limit := by
    simp only [getCount_setCount, if_true]
    omega
  have hcl : checkLimit (increase n name pid) now name pid remote = (increase n name pid, .ok, none) := by
    unfold checkLimit
    simp only [hmp', Bool.not_true, Bool.false_eq_true, if_false, hfind, hng]
  unfold receive
  simp only [hc, Option.isNone_some, Bool.false_eq_true, if_false]
  rw [hcl]
  cases isReq <;> rfl

/-- registered procedure, the message brings the count above the limit: the procedure's penalty is
added to the sender's IP, the counter is reset, and the request is served all the same -/
theorem receive_over (n : Node) (hmp : n.mpStarted = true) (hs : n.g.started = true) (now : Nat)
    (isReq : Bool) (ip : IP) (rpid : Option Nat) (pid : Nat) (name : String) (cfg : Counter)
    (hc : findCounter n.counters name = some cfg)
    (hgt : ((getCount cfg.counts pid + 1 : Nat) : Int) > cfg.limit) :
    (receive n now isReq ⟨some ip, rpid⟩ pid (.proc name)).g =
        (addPenalty n.g now ⟨some ip, some pid⟩ cfg.penalty).1 ∧
    (receive n now isReq ⟨some ip, rpid⟩ pid (.proc name)).counters =
        updCounter (increase n name pid).counters name
          (fun c => { c with counts := setCount c.counts pid 0 }) ∧
    (receive n now isReq ⟨some ip, rpid⟩ pid (.proc name)).mpStarted = true ∧
    (receive n now isReq ⟨some ip, rpid⟩ pid (.proc name)).handled =
        n.handled + (if isReq then 1 else 0) ∧
    ((match find n.g.peerScore ip with | some i => i.score + cfg.penalty | none => cfg.penalty) ≥ maxPenaltyScore →
      ∀ c ∈ (receive n now isReq ⟨some ip, rpid⟩ pid (.proc name)).conns, c.1 ≠ pid) := by
  have hfind := find_increase n name pid name
  simp only [if_true, hc, Option.map_some] at hfind
  have hmp' : (increase n name pid).mpStarted = true := hmp
  have hg1 : (increase n name pid).g = n.g := rfl
  have hpen := peerAddPenalty_ok hs now ip pid cfg.penalty
  generalize hn' : receive n now isReq ⟨some ip, rpid⟩ pid (.proc name) = n'
  unfold receive at hn'
  simp only [hc, Option.isNone_some, Bool.false_eq_true, if_false] at hn'
  unfold checkLimit at hn'
  simp only [hmp', Bool.not_true, Bool.false_eq_true, if_false, hfind, getCount_setCount, if_true,
    hgt, nodeAddPenalty, withPid, hg1, hpen] at hn'
  by_cases hth : (match find n.g.peerScore ip with | some i => i.score + cfg.penalty | none => cfg.penalty)
      ≥ maxPenaltyScore
  · simp only [hth, if_true, applyOut] at hn'
    subst hn'
    cases isReq <;> exact ⟨rfl, rfl, rfl, rfl, fun _ _ hc => (mem_conns_disconnect hc).2⟩
  · simp only [hth, if_false, applyOut] at hn'
    subst hn'
    cases isReq <;> exact ⟨rfl, rfl, rfl, rfl, fun h => absurd h hth⟩

/-! ### what penalties and message events leave alone -/

/-- an update of counters that keeps name, limit and penalty of each keeps the configuration of every procedure -/
theorem cfg_updCounter (cs : List Counter) (name : String) (f : Counter → Counter)
    (hf : ∀ c, (f c).name = c.name ∧ (f c).limit = c.limit ∧ (f c).penalty = c.penalty) (name' : String) :
    (findCounter (updCounter cs name f) name').map (fun c => (c.limit, c.penalty)) =
      (findCounter cs name').map fun c => (c.limit, c.penalty) := by
  rw [findCounter_updCounter cs name f (fun c => (hf c).1) name']
  by_cases h : name = name'
  · subst h
    cases findCounter cs name with
    | none => simp
    | some c => simp [(hf c).2.1, (hf c).2.2]
  · simp [h]

/-- limit and penalty configured for a procedure (`none` = not registered) -/
def _root_.C18cfgOf (n : Node) (name : String) : Option (Int × Int) :=
  (findCounter n.counters name).map fun c => (c.limit, c.penalty)

/-- `n'` has the message-protocol flag of `n`, no connection that `n` does not have, and the same limit and penalty for
every procedure: penalties and received envelopes move a node only within this preorder.  It looks at three fields only,
so a `Touch` between nodes that differ elsewhere (gater, handler count) is re-packed field by field: both sides agree by
computation. -/
structure Touch (n n' : Node) : Prop where
  started : n'.mpStarted = n.mpStarted
  conns : ∀ c ∈ n'.conns, c ∈ n.conns
  cfg : ∀ name, C18cfgOf n' name = C18cfgOf n name

theorem Touch.refl (n : Node) : Touch n n := ⟨rfl, fun _ h => h, fun _ => rfl⟩

theorem Touch.trans {a b c : Node} (h1 : Touch a b) (h2 : Touch b c) : Touch a c :=
  ⟨h2.started.trans h1.started, fun x hx => h1.conns x (h2.conns x hx), fun name => (h2.cfg name).trans (h1.cfg name)⟩

/-- counts may move freely -/
theorem Touch.setCounts {n n' : Node} (h : Touch n n') (name : String) (f : Counter → List (Nat × Nat)) :
    Touch n { n' with counters := updCounter n'.counters name fun c => { c with counts := f c } } :=
  ⟨h.started, h.conns, fun name' =>
    (cfg_updCounter n'.counters name (fun c => { c with counts := f c }) (fun _ => ⟨rfl, rfl, rfl⟩) name').trans (h.cfg name')⟩

/-- a registered procedure stays registered, with its limit and penalty -/
theorem Touch.find {n n' : Node} (h : Touch n n') {name : String} {cfg : Counter}
    (hc : findCounter n.counters name = some cfg) :
    ∃ cfg', findCounter n'.counters name = some cfg' ∧ cfg'.limit = cfg.limit ∧ cfg'.penalty = cfg.penalty := by
  have := h.cfg name
  rw [C18cfgOf, C18cfgOf, hc] at this
  cases hf : findCounter n'.counters name with
  | none => rw [hf] at this; cases this
  | some c =>
    rw [hf] at this
    exact ⟨c, rfl, congrArg Prod.fst (Option.some.inj this), congrArg Prod.snd (Option.some.inj this)⟩

theorem touch_applyOut (n : Node) (o : PenOut) : Touch n (applyOut n o) := by
  unfold applyOut
  split
  · exact ⟨rfl, fun _ h => (mem_conns_disconnect h).1, fun _ => rfl⟩
  · exact .refl n

/-- … whatever gater the penalty leaves -/
theorem touch_applyOut_with (n : Node) (x : Gater × PenOut) : Touch n (applyOut { n with g := x.1 } x.2) :=
  have h := touch_applyOut { n with g := x.1 } x.2
  ⟨h.started, h.conns, h.cfg⟩

theorem touch_nodeAddPenalty (n : Node) (now : Nat) (a : Addr) (s : Int) : Touch n (nodeAddPenalty n now a s).1 :=
  touch_applyOut_with n (peerAddPenalty n.g now a s)

theorem touch_nodeBan (n : Node) (now : Nat) (a : Addr) : Touch n (nodeBan n now a).1 :=
  touch_applyOut_with n (banPeer n.g now a)

theorem touch_applyPenalty (n : Node) (now pid : Nat) (s : Int) : Touch n (applyPenalty n now pid s) :=
  List.foldlRecOn _ _ (.refl n) fun m h c _ => h.trans (touch_nodeAddPenalty m now _ s)

theorem touch_banPeerID (n : Node) (now pid : Nat) : Touch n (banPeerID n now pid) :=
  List.foldlRecOn _ _ (.refl n) fun m h c _ => h.trans (touch_nodeBan m now _)

theorem touch_checkLimit (n : Node) (now : Nat) (proc : String) (pid : Nat) (a : Addr) :
    Touch n (checkLimit n now proc pid a).1 := by
  unfold checkLimit
  split
  · exact .refl n
  · split
    · exact .refl n
    · split
      · have h := touch_nodeAddPenalty n now (withPid a pid) (by assumption : Counter).penalty
        split
        · rename_i heq; rw [heq] at h; exact h
        · rename_i heq; rw [heq] at h; exact h.setCounts proc fun _ => _
      · exact .refl n

theorem touch_receive (n : Node) (now : Nat) (r : Bool) (a : Addr) (pid : Nat) (k : MsgKind) :
    Touch n (receive n now r a pid k) := by
  unfold receive
  cases k with
  | malformed => exact touch_nodeBan n now _
  | proc name =>
    simp only
    split
    · exact touch_nodeBan n now _
    · have h : Touch n (checkLimit (increase n name pid) now name pid a).1 :=
        ((Touch.refl n).setCounts name fun c => _).trans (touch_checkLimit _ now name pid a)
      split
      · rename_i heq; rw [heq] at h
        split
        · exact ⟨h.started, h.conns, h.cfg⟩
        · exact h
      · rename_i heq; rw [heq] at h; exact h

theorem touch_applyEv (n : Node) (ev : Ev) : Touch n (applyEv n ev) := by
  cases ev with
  | tick =>
    refine ⟨rfl, fun _ h => h, fun name => ?_⟩
    show (findCounter (tick n).counters name).map _ = _
    rw [findCounter_tick, C18cfgOf]
    cases findCounter n.counters name <;> rfl
  | msg now rq a p k => exact touch_receive n now rq a p k

theorem touch_runEv (evs : List Ev) (n : Node) : Touch n (runEv n evs) :=
  List.foldlRecOn evs applyEv (.refl n) fun m h ev _ => h.trans (touch_applyEv m ev)

end LiskVerif.RateLimit

/-! ### the restart of Model/Lifecycle: `Stop` + `Start` with a blacklist load that may fail -/

section Restart
open LiskVerif LiskVerif.ConnGater LiskVerif.RateLimit LiskVerif.Lifecycle

/-- a restart starts the next generation on the fresh gater with the blacklist loaded, or fails on the blacklist
and leaves the stopped node -/
theorem restart_eq (l : LNode) (bl : List (Option IP)) :
    restart l bl = if (blacklist (freshGater l) bl).2 then
      (startedWith always always always l (blacklist (freshGater l) bl).1, true) else (stopped l, false) := by
  unfold restart restartWith
  rcases blacklist (freshGater l) bl with ⟨g', _ | _⟩ <;> rfl

theorem restart_snd (l : LNode) (bl : List (Option IP)) : (restart l bl).2 = (blacklist (freshGater l) bl).2 := by
  rw [restart_eq]
  split <;> simp [*]

theorem restart_ok {l : LNode} {bl : List (Option IP)} (h : (restart l bl).2 = true) :
    (restart l bl).1 = startedWith always always always l (blacklist (freshGater l) bl).1 := by
  rw [restart_eq, if_pos (restart_snd l bl ▸ h)]

theorem restart_failed {l : LNode} {bl : List (Option IP)} (h : (restart l bl).2 = false) :
    (restart l bl).1 = stopped l := by
  rw [restart_eq, if_neg (by rw [← restart_snd, h]; simp)]

end Restart
