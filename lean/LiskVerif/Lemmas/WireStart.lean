/-
The straight path of `Engine.Start` in the regenerated call table (`Gen/Wiring.lean`), evaluated once: the start-up obligations of C13, C15 and C16 on the order of
its steps are read off it.
-/
import LiskVerif.Lemmas.Wire

namespace LiskVerif.Wire

/-- the members of the list are steps of the straight path of `fn`: none inside an if / loop body, each
called exactly once, in this order -/
def straightPath (fn : String) (l : List String) : Prop :=
  (∀ a ∈ l, unconditional fn a = true) ∧ l.Pairwise fun a b => before fn a b = true

instance (fn : String) (l : List String) : Decidable (straightPath fn l) := inferInstanceAs (Decidable (_ ∧ _))

theorem straightPath.unconditional {fn : String} {l : List String} (h : straightPath fn l) (i : Nat)
    (hi : i < l.length := by decide) : Wire.unconditional fn l[i] = true :=
  h.1 _ (List.getElem_mem hi)

theorem straightPath.before {fn : String} {l : List String} (h : straightPath fn l) (i j : Nat)
    (hij : i < j := by decide) (hj : j < l.length := by decide) :
    Wire.before fn (l[i]'(Nat.lt_trans hij hj)) l[j] = true :=
  List.pairwise_iff_getElem.mp h.2 i j _ hj hij

/-- **The straight path of `Engine.Start`**, the order the restart theorems of C13 / C04 / C15 / C16 assume:
defaults, genesis block, components, chain, application contexts cleared, consensus, pool, generator,
application told the tip; and every `go` statement comes after `e.generator.Init`, the last `Init` of a component
of the engine (in engine.go they stand between it and `e.abi.Init`, the call that tells the application the tip). -/
theorem engineStart_path :
    straightPath "Engine.Start" ["e.config.InsertDefault", "config.ReadGenesisBlock", "genesisBlock.Init",
      "e.init", "e.chain.Init", "e.abi.Clear", "e.consensusExec.Init", "e.transactionPool.Init",
      "e.generator.Init", "e.abi.Init"] ∧
    allAsyncAfter "Engine.Start" "e.generator.Init" = true := by decide +kernel

end LiskVerif.Wire
