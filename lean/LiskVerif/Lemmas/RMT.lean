/-
Lemmas about the regular Merkle tree model (`LiskVerif.Model.RMT`): the split of the LIP-0031 root at a power of
two, the peaks of a list with one more perfect subtree, the inclusion path of one leaf, what the node bookkeeping of
`Append` leaves untouched (`Tree.SavedFrom`), and `VerifyProof` and `Update` unfolded once.
-/
import LiskVerif.Model.RMT

namespace LiskVerif.RMT

/-! ### the split of `rootH` -/

theorem rootH_ge2 (hf : HashFns) (l : List Bytes) (h : 2 ≤ l.length) :
    rootH hf l = hf.branch (rootH hf (l.take (splitPoint l.length))) (rootH hf (l.drop (splitPoint l.length))) := by
  match l, h with
  | a :: b :: r, _ => rw [rootH]; simp only [List.length_cons]

theorem log2_eq_of {n k : Nat} (h1 : 2 ^ k ≤ n) (h2 : n < 2 ^ (k + 1)) : Nat.log2 n = k :=
  (Nat.log2_eq_iff (by have := Nat.two_pow_pos k; omega)).2 ⟨h1, h2⟩

/-- A perfect left part of `2^k` leaves followed by at least one and at most `2^k` leaves splits at `2^k`. -/
theorem rootH_split (hf : HashFns) (k : Nat) (a b : List Bytes) (ha : a.length = 2 ^ k)
    (hb0 : 0 < b.length) (hb : b.length ≤ 2 ^ k) :
    rootH hf (a ++ b) = hf.branch (rootH hf a) (rootH hf b) := by
  have hp : 0 < 2 ^ k := Nat.pow_pos (by decide)
  have hlen : (a ++ b).length = 2 ^ k + b.length := by simp [ha]
  have hsp : splitPoint (a ++ b).length = 2 ^ k := by
    unfold splitPoint
    rw [hlen, log2_eq_of (k := k)]
    · omega
    · rw [Nat.pow_succ]; omega
  rw [rootH_ge2 hf (a ++ b) (by omega), hsp, ← ha]
  simp

/-! ### peaks, heights, the root of zero and one leaf -/

theorem peaksDesc_cons (hf : HashFns) (l : List Bytes) (h : l ≠ []) :
    peaksDesc hf l = rootH hf (l.take (2 ^ Nat.log2 l.length)) :: peaksDesc hf (l.drop (2 ^ Nat.log2 l.length)) := by
  match l, h with
  | a :: r, _ => rw [peaksDesc]; simp only [List.length_cons]

theorem peaksDesc_append (hf : HashFns) (k : Nat) (s : List Bytes) (hs : s.length = 2 ^ k) :
    ∀ (n : Nat) (l : List Bytes), l.length = n → 2 ^ (k + 1) ∣ l.length →
      peaksDesc hf (l ++ s) = peaksDesc hf l ++ [rootH hf s] := by
  have hk : 0 < 2 ^ k := Nat.pow_pos (by decide)
  intro n
  induction n using Nat.strongRecOn with
  | _ n ih =>
    intro l hn hd
    by_cases hl : l = []
    · subst hl
      have hsne : s ≠ [] := by intro h; simp [h] at hs; omega
      rw [List.nil_append, peaksDesc_cons hf s hsne, hs, Nat.log2_two_pow, ← hs]
      simp [peaksDesc]
    · have hL : 0 < l.length := List.length_pos_iff.mpr hl
      have hP : 0 < 2 ^ (k + 1) := Nat.pow_pos (by decide)
      have hPL : 2 ^ (k + 1) ≤ l.length := Nat.le_of_dvd hL hd
      have hj : k + 1 ≤ Nat.log2 l.length := (Nat.le_log2 (by omega)).2 hPL
      have hK : 2 ^ Nat.log2 l.length ≤ l.length := Nat.log2_self_le (by omega)
      have hKpos : 0 < 2 ^ Nat.log2 l.length := Nat.pow_pos (by decide)
      have hlt : l.length < 2 ^ (Nat.log2 l.length + 1) := Nat.lt_log2_self
      have hdK : 2 ^ (k + 1) ∣ 2 ^ Nat.log2 l.length := Nat.pow_dvd_pow 2 hj
      have hdK1 : 2 ^ (k + 1) ∣ 2 ^ (Nat.log2 l.length + 1) := Nat.pow_dvd_pow 2 (by omega)
      have hbound : l.length + 2 ^ (k + 1) ≤ 2 ^ (Nat.log2 l.length + 1) :=
        Nat.le_of_lt_add_of_dvd (by omega) (Nat.dvd_add hd (Nat.dvd_refl _)) hdK1
      have hlog : Nat.log2 (l ++ s).length = Nat.log2 l.length := by
        apply log2_eq_of
        · simp; omega
        · simp [hs]; rw [Nat.pow_succ 2 k] at hbound; omega
      have hne : l ++ s ≠ [] := by simp [hl]
      rw [peaksDesc_cons hf (l ++ s) hne, hlog, peaksDesc_cons hf l hl]
      rw [List.take_append_of_le_length hK, List.drop_append_of_le_length hK]
      rw [ih (l.length - 2 ^ Nat.log2 l.length) (by omega) (l.drop (2 ^ Nat.log2 l.length)) (by simp)
        (by simp; exact Nat.dvd_sub hd hdK)]
      simp

theorem le_two_pow_clog2 (n : Nat) : n ≤ 2 ^ clog2 n := by
  unfold clog2
  split
  · omega
  · have := @Nat.lt_log2_self (n - 1); omega

theorem lt_two_pow_getHeight (n : Nat) : n < 2 ^ getHeight n := by
  have := le_two_pow_clog2 n
  have := Nat.two_pow_pos (clog2 n)
  unfold getHeight; rw [Nat.pow_succ]; omega

theorem rootH_singleton (hf : HashFns) (x : Bytes) : rootH hf [x] = x := by rw [rootH]

theorem rootH_nil (hf : HashFns) : rootH hf [] = hf.empty := by rw [rootH]

/-! ### inclusion paths -/

theorem pathSpec_ge2 (hf : HashFns) (l : List Bytes) (i : Nat) (h : 2 ≤ l.length) :
    pathSpec hf l i =
      if i < splitPoint l.length then
        pathSpec hf (l.take (splitPoint l.length)) i ++ [(true, rootH hf (l.drop (splitPoint l.length)))]
      else
        pathSpec hf (l.drop (splitPoint l.length)) (i - splitPoint l.length)
          ++ [(false, rootH hf (l.take (splitPoint l.length)))] := by
  match l, h with
  | a :: b :: r, _ => rw [pathSpec]; simp only [List.length_cons]

theorem pathSpec_lt2 (hf : HashFns) (l : List Bytes) (i : Nat) (h : l.length < 2) : pathSpec hf l i = [] := by
  match l, h with
  | [], _ => rw [pathSpec]
  | [_], _ => rw [pathSpec]

theorem foldProof_append (hf : HashFns) (h : Bytes) (p q : List (Bool × Bytes)) :
    foldProof hf h (p ++ q) = foldProof hf (foldProof hf h p) q := by
  simp [foldProof, List.foldl_append]

/-- a position in a list of fewer than two elements: the one element -/
theorem eq_singleton_of_lt_two {α : Type} {l : List α} {i : Nat} (h2 : l.length < 2) (hil : i < l.length) :
    ∃ x, l = [x] ∧ i = 0 := by
  match l, h2 with
  | [x], _ => exact ⟨x, rfl, by simp at hil; omega⟩
  | [], _ => simp at hil

/-- completeness of the LIP-0031 inclusion path -/
theorem foldProof_pathSpec (hf : HashFns) :
    ∀ (n : Nat) (l : List Bytes) (i : Nat) (h : Bytes), l.length = n → l[i]? = some h →
      foldProof hf h (pathSpec hf l i) = rootH hf l := by
  intro n
  induction n using Nat.strongRecOn with
  | _ n ih =>
    intro l i h hn hi
    have hil : i < l.length := (List.getElem?_eq_some_iff.1 hi).1
    by_cases h2 : l.length < 2
    · rw [pathSpec_lt2 hf l i h2]
      obtain ⟨x, rfl, rfl⟩ := eq_singleton_of_lt_two h2 hil
      simp at hi; subst hi
      simp [foldProof, rootH_singleton]
    · have hge : 2 ≤ l.length := by omega
      have hk := @splitPoint_lt l.length hge
      have hk0 := splitPoint_pos l.length
      rw [pathSpec_ge2 hf l i hge, rootH_ge2 hf l hge]
      split
      · rename_i hlt
        rw [foldProof_append]
        rw [ih (l.take (splitPoint l.length)).length (by simp; omega) _ i h rfl
          (by rw [List.getElem?_take]; simp [hlt, hi])]
        simp [foldProof]
      · rename_i hge'
        rw [foldProof_append]
        rw [ih (l.drop (splitPoint l.length)).length (by simp; omega) _ (i - splitPoint l.length) h rfl
          (by rw [List.getElem?_drop]; rw [show splitPoint l.length + (i - splitPoint l.length) = i by omega]; exact hi)]
        simp [foldProof]

/-- a path whose side pattern ends with `b` ends with a step on side `b` -/
theorem map_fst_eq_snoc {p : List (Bool × Bytes)} {s : List Bool} {b : Bool} (h : p.map (·.1) = s ++ [b]) :
    ∃ p' y, p = p' ++ [(b, y)] ∧ p'.map (·.1) = s := by
  obtain ⟨p', q', hp, hp', hq'⟩ := List.map_eq_append_iff.mp h
  match q', hq' with
  | [(b', y)], hq' => simp at hq'; exact ⟨p', y, by rw [hp, hq'], hp'⟩

/-- the branch hash has no collisions: the one assumption of the soundness theorems (for SHA-256 it is taken on trust) -/
def BranchInj (hf : HashFns) : Prop :=
  ∀ a b c d : Bytes, hf.branch a b = hf.branch c d → a = c ∧ b = d

/-- soundness: a path of the shape of leaf `i` that folds to the root starts at leaf `i` and is its path -/
theorem foldProof_sound (hf : HashFns) (hinj : BranchInj hf) :
    ∀ (n : Nat) (l : List Bytes) (i : Nat) (h : Bytes) (p : List (Bool × Bytes)), l.length = n → i < l.length →
      p.map (·.1) = (pathSpec hf l i).map (·.1) → foldProof hf h p = rootH hf l →
      l[i]? = some h ∧ p = pathSpec hf l i := by
  intro n
  induction n using Nat.strongRecOn with
  | _ n ih =>
    intro l i h p hn hil hshape hfold
    by_cases h2 : l.length < 2
    · rw [pathSpec_lt2 hf l i h2] at hshape ⊢
      have hp : p = [] := by simpa using hshape
      subst hp
      obtain ⟨x, rfl, rfl⟩ := eq_singleton_of_lt_two h2 hil
      simp [foldProof, rootH_singleton] at hfold
      simp [hfold]
    · have hge : 2 ≤ l.length := by omega
      have hk := @splitPoint_lt l.length hge
      have hk0 := splitPoint_pos l.length
      rw [pathSpec_ge2 hf l i hge] at hshape ⊢
      rw [rootH_ge2 hf l hge] at hfold
      split at hshape
      · rename_i hlt
        rw [if_pos hlt]
        simp only [List.map_append, List.map_cons, List.map_nil] at hshape
        obtain ⟨p', y, rfl, hp'⟩ := map_fst_eq_snoc hshape
        rw [foldProof_append] at hfold
        simp only [foldProof, List.foldl_cons, List.foldl_nil, if_true] at hfold
        obtain ⟨e1, e2⟩ := hinj _ _ _ _ hfold
        have := ih (l.take (splitPoint l.length)).length (by simp; omega) _ i h p' rfl (by simp; omega) hp' e1
        rw [List.getElem?_take] at this
        simp only [hlt, if_true] at this
        exact ⟨this.1, by rw [this.2, e2]⟩
      · rename_i hge'
        rw [if_neg hge']
        simp only [List.map_append, List.map_cons, List.map_nil] at hshape
        obtain ⟨p', y, rfl, hp'⟩ := map_fst_eq_snoc hshape
        rw [foldProof_append] at hfold
        simp only [foldProof, List.foldl_cons, List.foldl_nil] at hfold
        obtain ⟨e1, e2⟩ := hinj _ _ _ _ hfold
        have := ih (l.drop (splitPoint l.length)).length (by simp; omega) _ (i - splitPoint l.length) h p' rfl
          (by simp; omega) hp' e2
        rw [List.getElem?_drop, show splitPoint l.length + (i - splitPoint l.length) = i by omega] at this
        exact ⟨this.1, by rw [this.2, e1]⟩

/-! ### the node bookkeeping of `Append` -/

/-- `t` is `t0` with branch nodes saved: root, append path, size and the stored info are the same, the
`hash -> location` index keeps its entries and gains entries of branch hashes only -/
structure Tree.SavedFrom (hf : HashFns) (t0 t : Tree) : Prop where
  core : t.core = t0.core
  info : t.info = t0.info
  keeps : ∀ e, e ∈ t0.h2l → e ∈ t.h2l
  gains : ∀ e, e ∈ t.h2l → e ∈ t0.h2l ∨ ∃ a b, e.1 = hf.branch a b

theorem Tree.SavedFrom.refl (hf : HashFns) (t : Tree) : Tree.SavedFrom hf t t :=
  ⟨rfl, rfl, fun _ he => he, fun _ he => Or.inl he⟩

theorem Tree.SavedFrom.of_save {hf : HashFns} {t0 t : Tree} {a b : Bytes} {loc : Loc}
    (h : Tree.SavedFrom hf (t0.saveNode (hf.branch a b) loc) t) : Tree.SavedFrom hf t0 t := by
  obtain ⟨h1, h2, h3, h4⟩ := h
  refine ⟨h1, h2, fun e he => h3 e (List.mem_cons_of_mem _ he), fun e he => ?_⟩
  rcases h4 e he with h5 | h5
  · rcases List.mem_cons.1 h5 with h6 | h6
    · exact Or.inr ⟨a, b, by rw [h6]⟩
    · exact Or.inl h6
  · exact Or.inr h5

theorem storeLoop_savedFrom (hf : HashFns) (height size : Nat) :
    ∀ (f h : Nat) (path : List Bytes) (cur : Bytes) (t0 : Tree),
      Tree.SavedFrom hf t0 (storeLoop hf height size f h path cur t0).1 := by
  intro f
  induction f with
  | zero => intro h path cur t0; exact Tree.SavedFrom.refl hf t0
  | succ f ih =>
    intro h path cur t0
    simp only [storeLoop]
    split
    · split
      · exact Tree.SavedFrom.refl hf t0
      · split
        · split
          · exact Tree.SavedFrom.refl hf t0
          · exact (ih _ _ _ _).of_save
        · exact (ih _ _ _ _).of_save
    · exact ih _ _ _ _

/-- `Append`, unfolded once: the node bookkeeping `t2`, its flag `b` (for the first leaf nothing but the leaf is saved), then
the new (root, append path, size) if both the bookkeeping and `appendCore` succeed -/
theorem append_eq (hf : HashFns) (t : Tree) (v : Bytes) :
    ∃ t2 b, Tree.SavedFrom hf (t.saveNode (hf.leaf v) (0, t.core.size)) t2 ∧
      (if t.core.size = 0 then (t.saveNode (hf.leaf v) (0, t.core.size), true)
        else storeLoop hf (getHeight t.core.size) t.core.size (getHeight t.core.size) 0 t.core.path (hf.leaf v)
          (t.saveNode (hf.leaf v) (0, t.core.size))) = (t2, b) ∧
      append hf t v = match b, appendCore hf t.core v with
        | true, some c => ({ t2 with core := c, info := some c }, true)
        | _, _ => (t2, false) := by
  unfold append
  by_cases hz : t.core.size = 0
  · refine ⟨_, true, Tree.SavedFrom.refl hf _, by rw [if_pos hz], ?_⟩
    simp only [hz, if_true]
    cases appendCore hf t.core v <;> rfl
  · have hs := storeLoop_savedFrom hf (getHeight t.core.size) t.core.size (getHeight t.core.size) 0 t.core.path
      (hf.leaf v) (t.saveNode (hf.leaf v) (0, t.core.size))
    simp only [hz, if_false]
    revert hs
    generalize storeLoop hf (getHeight t.core.size) t.core.size (getHeight t.core.size) 0 t.core.path
      (hf.leaf v) (t.saveNode (hf.leaf v) (0, t.core.size)) = sl
    intro hs
    obtain ⟨t2, b⟩ := sl
    refine ⟨t2, b, hs, rfl, ?_⟩
    cases b <;> cases appendCore hf t.core v <;> rfl

/-! ### `VerifyProof` and `Update`, unfolded -/

/-- what an accepted proof is -/
theorem verifyProof_iff (hf : HashFns) (q : List Bytes) (p : Proof) (root : Bytes) :
    verifyProof hf q p root = true ↔ p.size ≠ 0 ∧ idxsValid p.size p.idxs = true ∧
      ∃ res, calcPathNodes hf q p.size p.idxs p.sibs = some res ∧ res.lookup 2 = some root := by
  rw [verifyProof_eq, Bool.and_eq_true]
  unfold verifyProofOrig
  by_cases hz : p.size = 0
  · simp [hz]
  · rw [if_neg hz]
    cases calcPathNodes hf q p.size p.idxs p.sibs with
    | none => simp
    | some res => cases hl : res.lookup 2 <;> simp [hz, hl, and_comm]

/-- a successful `Update`, step by step -/
theorem update_some {hf : HashFns} {t t' : Tree} {idxs : List Nat} {data : List Bytes}
    (hu : update hf t idxs data = some t') :
    t.core.size ≠ 0 ∧ idxsValid t.core.size idxs = true ∧ ∃ sibs calcd t1 r p,
      siblingHashes t idxs = some sibs ∧
      calcPathNodes hf (data.map hf.leaf) t.core.size idxs sibs = some calcd ∧
      saveCalculated (getHeight t.core.size) calcd t = some t1 ∧ calcd.lookup 2 = some r ∧
      refreshPath calcd t.core.size (getHeight t.core.size) (getHeight t.core.size) 0 t.core.path = some p ∧
      t' = { t1 with core := ⟨r, p, t.core.size⟩, info := some ⟨r, p, t.core.size⟩ } := by
  rw [update_eq] at hu
  split at hu
  case isFalse => cases hu
  rename_i hval
  unfold updateOrig at hu
  split at hu
  · cases hu
  rename_i hz
  dsimp only at hu
  split at hu
  · cases hu
  split at hu
  · cases hu
  rename_i sibs hsib
  split at hu
  · cases hu
  rename_i calcd hcalc
  split at hu
  · cases hu
  rename_i t1 hsave
  split at hu
  · rename_i r p hr hp
    exact ⟨hz, hval, sibs, calcd, t1, r, p, hsib, hcalc, hsave, hr, hp, (Option.some.inj hu).symm⟩
  · cases hu

end LiskVerif.RMT
