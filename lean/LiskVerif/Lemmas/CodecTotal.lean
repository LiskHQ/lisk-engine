/-
Totality of the codec model (`LiskVerif.Model.Codec`): no input makes the decoder panic, and the
recursion depth / number of loop iterations is linear in the input length.

* `Safe Q x`: the outcome `x` is not `Err.panic`, and a successful result satisfies `Q`;
* every primitive read that succeeds strictly advances the index and stays inside the buffer
  (`AdvS`), so every loop iteration consumes a byte;
* `Safe.bind`, `bind_eq_ok`, `Below.bind`: the model propagates errors as `Except.bind` does, so facts about
  outcomes compose along the reads; `Below x y` ("`y` is `x` unless `x` is `panic`": out of fuel, or an unknown kind /
  a name missing from the table, which no fuel cures) is the order in which the decoder grows with its fuel;
* `decodeField_scalar`, `_bytesArr`, `_uints`: what `decodeField` does on a flat field, by shape;
  `decodeFields_cons` … `decodeMsgArr_succ`: one level of the recursion as a composition of reads; and
  `decode_ok_induct`: induction over successful decodes (used for every "whatever is decoded …" fact);
* `decode_adv`: a successful decode only moves forward, inside the buffer (any table, any fuel);
* `decode_ok`, `decodeStrict_ok`, `decode_of_fields`, `decodeStrict_of_fields`: `Decode` / `DecodeStrict`
  accept exactly what `decodeFields` decodes from the start of the buffer (for the strict one: up to its end);
* ranked schema tables, in which the hypotheses below (and those of C09_Codec, CodecNested) are stated:
  `kindOK`, `fieldsOK`, `schemaOK` (rank ≤ 8, ≤ 40 fields, nested structs exist and have smaller rank),
  `Ranked t rank` for a whole table, and `SchemaDec`, what `schemaOK` says of the two decoder lists;
* `decode_safe_aux`: the mutual decoder with fuel `#fields + 42 * rank + 1 + remaining bytes`;
* `decode_below`: one more unit of fuel does not change a result that is not `panic`;
* `costFields` … `costMsgArr`: a call counter following the model's control flow, and
  `decode_cost_aux`: the count is at most `1 + 3 * #fields + 121 * bytes used`, for every fuel.
-/
import LiskVerif.Model.Codec

namespace LiskVerif.Codec

/-! ### sizes that add up a weight per element -/

/-- a size that adds up a weight per element: every element weighs at most the total … -/
theorem weight_le_of_mem {α : Type} {size : List α → Nat} {w : α → Nat}
    (hcons : ∀ a l, size (a :: l) = w a + size l) {l : List α} {a : α} (h : a ∈ l) : w a ≤ size l := by
  induction l with
  | nil => cases h
  | cons b r ih =>
    rw [hcons]
    rcases List.mem_cons.mp h with rfl | h
    · omega
    · have := ih h; omega

/-- … and with positive weights there are at most as many elements as the total -/
theorem length_le_of_weights {α : Type} {size : List α → Nat} {w : α → Nat}
    (hcons : ∀ a l, size (a :: l) = w a + size l) (hw : ∀ a, 1 ≤ w a) (l : List α) :
    l.length ≤ size l := by
  induction l with
  | nil => exact Nat.zero_le _
  | cons b r ih => have := hw b; rw [hcons, List.length_cons]; omega

/-! ### outcomes that are not `panic` -/

/-- the outcome is not `panic`; a successful result satisfies `Q` -/
def Safe {α : Type} (Q : α → Prop) : Except Err α → Prop
  | .ok a => Q a
  | .error e => e ≠ .panic

@[simp] theorem safe_ok {α : Type} (Q : α → Prop) (a : α) :
    Safe Q (.ok a : Except Err α) = Q a := rfl

@[simp] theorem safe_error {α : Type} (Q : α → Prop) (e : Err) :
    Safe Q (.error e : Except Err α) = (e ≠ .panic) := rfl

theorem Safe.mono {α : Type} {Q Q' : α → Prop} {x : Except Err α} (h : Safe Q x)
    (hQ : ∀ a, Q a → Q' a) : Safe Q' x := by
  cases x with
  | ok a => exact hQ a h
  | error e => exact h

theorem Safe.ne_panic {α : Type} {Q : α → Prop} {x : Except Err α} (h : Safe Q x) :
    x ≠ .error .panic := by
  intro hc
  subst hc
  exact h rfl

theorem Safe.of_ne_panic {α : Type} {x : Except Err α} (h : x ≠ .error .panic) :
    Safe (fun _ => True) x := by
  cases x with
  | ok a => trivial
  | error e => exact fun hc => h (by rw [hc])

theorem Safe.of_ok {α : Type} {Q : α → Prop} {x : Except Err α} {a : α} (h : Safe Q x)
    (hx : x = .ok a) : Q a := by
  subst hx
  exact h

theorem Safe.of_error {α : Type} {Q : α → Prop} {x : Except Err α} {e : Err} (h : Safe Q x)
    (hx : x = .error e) : e ≠ .panic := by
  subst hx
  exact h

/-! ### outcomes of composed reads -/

section bind
variable {α β : Type}

theorem ok_bind (a : α) (g : α → Except Err β) : (Except.ok a).bind g = g a := rfl

theorem bind_eq_ok {x : Except Err α} {g : α → Except Err β} {b : β} (h : x.bind g = .ok b) :
    ∃ a, x = .ok a ∧ g a = .ok b := by
  cases x with
  | error e => cases h
  | ok a => exact ⟨a, rfl, h⟩

theorem Safe.bind {P : α → Prop} {Q : β → Prop} {x : Except Err α} {g : α → Except Err β}
    (hx : Safe P x) (hg : ∀ a, x = .ok a → P a → Safe Q (g a)) : Safe Q (x.bind g) := by
  cases x with
  | error e => exact hx
  | ok a => exact hg a rfl hx

/-- `y` is `x`, unless `x` is `panic` (what the decoder answers when it runs out of fuel; also on an
unknown kind or a name missing from the table) -/
def Below (x y : Except Err α) : Prop := x ≠ .error .panic → y = x

theorem Below.refl (x : Except Err α) : Below x x := fun _ => rfl

theorem Below.bind {x x' : Except Err α} {g g' : α → Except Err β} (hx : Below x x')
    (hg : ∀ a, x = .ok a → Below (g a) (g' a)) : Below (x.bind g) (x'.bind g') := by
  cases x with
  | error e =>
    intro hne
    rw [hx fun hc => hne (by rw [hc]; rfl)]
    rfl
  | ok a =>
    intro hne
    rw [hx fun hc => nomatch hc]
    exact hg a rfl hne

end bind

/-! ### progress of the reader -/

/-- same buffer length, index did not go back, and if it moved it is still inside the buffer -/
def Adv (r r' : Reader) : Prop :=
  r'.data.length = r.data.length ∧ r.index ≤ r'.index ∧
    (r'.index = r.index ∨ r'.index ≤ r.data.length)

/-- same buffer length, at least one byte consumed, still inside the buffer -/
def AdvS (r r' : Reader) : Prop :=
  r'.data.length = r.data.length ∧ r.index < r'.index ∧ r'.index ≤ r.data.length

theorem Adv.refl (r : Reader) : Adv r r := ⟨rfl, Nat.le_refl _, Or.inl rfl⟩

theorem Adv.trans {r r1 r2 : Reader} (h1 : Adv r r1) (h2 : Adv r1 r2) : Adv r r2 := by
  simp only [Adv] at *
  omega

theorem AdvS.adv {r r' : Reader} (h : AdvS r r') : Adv r r' := by
  simp only [Adv, AdvS] at *
  omega

theorem AdvS.trans {r r1 r2 : Reader} (h1 : AdvS r r1) (h2 : AdvS r1 r2) : AdvS r r2 := by
  simp only [AdvS] at *
  omega

/-- an advance followed by further reads that stay in the buffer -/
theorem AdvS.trans_adv {r r1 r2 : Reader} (h1 : AdvS r r1) (h2 : Adv r1 r2) : AdvS r r2 := by
  simp only [Adv, AdvS] at *
  omega

theorem readUintLoop_safe : ∀ (fuel : Nat) (b : Bytes) (k acc : Nat),
    Safe (fun p => k < p.2 ∧ p.2 ≤ k + b.length) (readUintLoop b fuel k acc) := by
  intro fuel
  induction fuel with
  | zero => intro b k acc; simp [readUintLoop]
  | succ fuel ih =>
    intro b k acc
    cases b with
    | nil => simp [readUintLoop]
    | cons x rest =>
      rw [readUintLoop]
      by_cases h1 : k + 1 = 10 ∧ x.toNat > 1
      · rw [if_pos h1]; simp
      rw [if_neg h1]
      by_cases h2 : x.toNat < 128
      · simp only [h2, if_true]
        by_cases h3 : varintShortestSize ((acc + x.toNat % 128 * 2 ^ (7 * k)) % 2 ^ 64) ≠ k + 1
        · rw [if_pos h3]; simp
        · rw [if_neg h3]; simp
      · simp only [h2, if_false]
        refine (ih rest (k + 1) _).mono fun p hp => ?_
        simp only [List.length_cons]
        omega

theorem Reader.suffix_length (r : Reader) : r.suffix.length = r.data.length - r.index := by
  simp [Reader.suffix]

theorem readUint_safe (b : Bytes) :
    Safe (fun p => 0 < p.2 ∧ p.2 ≤ b.length) (readUint b) :=
  (readUintLoop_safe 10 b 0 0).mono fun p hp => by omega

theorem Reader.readUInt_safe (r : Reader) : Safe (fun p => AdvS r p.2) r.readUInt := by
  have h := readUint_safe r.suffix
  rw [Reader.suffix_length] at h
  unfold Reader.readUInt
  cases hu : readUint r.suffix with
  | error e => exact h.of_error hu
  | ok p =>
    have := h.of_ok hu
    simp only [safe_ok, AdvS, true_and]
    omega

theorem readKey_safe (key : Nat) : Safe (fun _ => True) (readKey key) := by
  unfold readKey
  simp only
  split <;> simp

/-- `check`: the key is a varint read by `readUInt`, then taken apart by `readKey` -/
theorem Reader.check_eq (r : Reader) (fn wt : Nat) :
    r.check fn wt =
      if (r.index : Int) ≥ r.stop then .error .fieldNumberNotFound
      else r.readUInt.bind fun p => (readKey p.1).bind fun q =>
        if q.1 ≠ fn then .error .unexpectedFieldNumber
        else if q.2 ≠ wt then .error .invalidData else .ok p.2 := by
  unfold Reader.check Reader.readUInt
  split
  · rfl
  · cases readUint r.suffix with
    | error e => rfl
    | ok p =>
      dsimp only [Except.bind]
      cases readKey p.1 <;> rfl

theorem Reader.check_safe (r : Reader) (fn wt : Nat) : Safe (AdvS r) (r.check fn wt) := by
  rw [Reader.check_eq]
  split
  · simp
  · refine r.readUInt_safe.bind fun p _ hp => (readKey_safe p.1).bind fun q _ _ => ?_
    split
    · simp
    · split
      · simp
      · exact hp

theorem Reader.enter_safe (r : Reader) (fn wt : Nat) (st : Bool) :
    Safe (fun o => ∀ r1, o = some r1 → AdvS r r1) (r.enter fn wt st) := by
  have h := r.check_safe fn wt
  unfold Reader.enter
  cases hc : r.check fn wt with
  | ok r1 => exact fun _ e => Option.some.inj e ▸ h.of_ok hc
  | error e =>
    have := h.of_error hc
    simp only
    split
    · exact this
    · split
      · exact this
      · exact fun _ e => nomatch e

/-- the array prologue is the single-value prologue, never strict -/
theorem Reader.enterArr_eq_enter (r : Reader) (fn wt : Nat) :
    r.enterArr fn wt = r.enter fn wt false := by
  unfold Reader.enterArr Reader.enter
  cases r.check fn wt <;> rfl

theorem Reader.enterArr_safe (r : Reader) (fn wt : Nat) :
    Safe (fun o => ∀ r1, o = some r1 → AdvS r r1) (r.enterArr fn wt) :=
  r.enterArr_eq_enter fn wt ▸ r.enter_safe fn wt false

theorem Reader.readBool_safe (r : Reader) : Safe (fun p => AdvS r p.2) r.readBool := by
  unfold Reader.readBool
  cases hb : r.data[r.index]? with
  | none => simp
  | some b =>
    have hlt := (List.getElem?_eq_some_iff.mp hb).1
    simp only
    split
    · simp
    · simp only [safe_ok, AdvS, true_and]
      omega

theorem Reader.readBytes_eq (r : Reader) :
    r.readBytes = r.readUInt.bind fun p =>
      if p.1 > p.2.data.length - p.2.index then .error .byteSize
      else .ok ((p.2.data.drop p.2.index).take p.1, { p.2 with index := p.2.index + p.1 }) := by
  unfold Reader.readBytes
  cases r.readUInt <;> rfl

theorem Reader.readString_eq (nfc : NFC) (r : Reader) :
    r.readString nfc = r.readBytes.bind fun p =>
      if !utf8Valid p.1 then .error .utf8 else if !nfc.normal p.1 then .error .notNormalized
      else .ok p := by
  unfold Reader.readString
  cases r.readBytes <;> rfl

/-- a string read is a bytes read whose result is valid UTF-8 in normal form -/
theorem Reader.readString_ok {nfc : NFC} {r r' : Reader} {b : Bytes}
    (h : r.readString nfc = .ok (b, r')) :
    r.readBytes = .ok (b, r') ∧ utf8Valid b = true ∧ nfc.normal b = true := by
  rw [Reader.readString_eq] at h
  obtain ⟨p, hb, h⟩ := bind_eq_ok h
  split at h
  · cases h
  · rename_i hu
    split at h
    · cases h
    · rename_i hn
      cases h
      exact ⟨hb, by simpa using hu, by simpa using hn⟩

theorem Reader.readBytes_safe (r : Reader) : Safe (fun p => AdvS r p.2) r.readBytes := by
  rw [Reader.readBytes_eq]
  refine r.readUInt_safe.bind fun p _ h => ?_
  split
  · simp
  · simp only [safe_ok, AdvS] at h ⊢
    omega

theorem Reader.readString_safe (nfc : NFC) (r : Reader) :
    Safe (fun p => AdvS r p.2) (r.readString nfc) := by
  rw [Reader.readString_eq]
  refine r.readBytes_safe.bind fun p _ h => ?_
  split
  · simp
  · split
    · simp
    · exact h

/-- `ReadBytesArray` needs one unit of fuel per remaining byte (plus one for the exit test) -/
theorem readBytesArray_safe : ∀ (fuel : Nat) (r : Reader) (fn : Nat) (acc : List Bytes),
    (r.data.length - r.index) + 1 ≤ fuel →
    Safe (fun p => Adv r p.2) (readBytesArray fuel r fn acc) := by
  intro fuel
  induction fuel with
  | zero => intro r fn acc h; omega
  | succ fuel ih =>
    intro r fn acc hf
    rw [readBytesArray]
    by_cases hlt : (r.index : Int) < r.stop
    · rw [if_pos hlt]
      have he := r.enterArr_safe fn 2
      cases hc : r.enterArr fn 2 with
      | error e => exact he.of_error hc
      | ok o =>
        cases o with
        | none => exact Adv.refl r
        | some r1 =>
          have h1 := he.of_ok hc r1 rfl
          have hb := r1.readBytes_safe
          simp only
          cases hr : r1.readBytes with
          | error e => exact hb.of_error hr
          | ok p =>
            have h2 := h1.trans (hb.of_ok hr)
            refine (ih p.2 fn _ (by simp only [AdvS] at h2; omega)).mono fun q hq => h2.adv.trans hq
    · rw [if_neg hlt]; exact Adv.refl r

/-- packed `ReadUInts`: one unit of fuel per remaining byte, plus one for the exit test -/
theorem readPackedUInts_safe : ∀ (fuel : Nat) (r : Reader) (stop : Int) (acc : List Nat),
    (r.data.length - r.index) + 1 ≤ fuel →
    Safe (fun p => Adv r p.2) (readPackedUInts fuel r stop acc) := by
  intro fuel
  induction fuel with
  | zero => intro r stop acc h; omega
  | succ fuel ih =>
    intro r stop acc hf
    rw [readPackedUInts]
    by_cases hlt : (r.index : Int) < stop
    · rw [if_pos hlt]
      have hu := r.readUInt_safe
      cases hr : r.readUInt with
      | error e => exact hu.of_error hr
      | ok p =>
        have h1 := hu.of_ok hr
        refine (ih p.2 stop _ (by simp only [AdvS] at h1; omega)).mono fun q hq => h1.adv.trans hq
    · rw [if_neg hlt]; exact Adv.refl r

/-- induction over a successful run of `ReadBytesArray`; `P r l r'` speaks of the elements `l` the
loop appends to its accumulator -/
theorem readBytesArray_ok_induct {fn : Nat} {P : Reader → List Bytes → Reader → Prop}
    (stop : ∀ r, P r [] r)
    (step : ∀ {r r1 b r2 l r'}, r.enterArr fn 2 = .ok (some r1) → r1.readBytes = .ok (b, r2) →
      P r2 l r' → P r (b :: l) r') :
    ∀ {fuel : Nat} {r r' : Reader} {acc l : List Bytes},
    readBytesArray fuel r fn acc = .ok (l, r') → ∃ l', l = acc ++ l' ∧ P r l' r' := by
  intro fuel
  induction fuel with
  | zero => intro r r' acc l h; cases h
  | succ fuel ih =>
    intro r r' acc l h
    rw [readBytesArray] at h
    by_cases hlt : (r.index : Int) < r.stop
    · rw [if_pos hlt] at h
      cases hc : r.enterArr fn 2 with
      | error e => simp only [hc] at h; cases h
      | ok o =>
        cases o with
        | none => simp only [hc] at h; cases h; exact ⟨[], (List.append_nil _).symm, stop r⟩
        | some r1 =>
          simp only [hc] at h
          cases hr : r1.readBytes with
          | error e => simp only [hr] at h; cases h
          | ok p =>
            obtain ⟨b, r2⟩ := p
            simp only [hr] at h
            obtain ⟨l', hl, hP⟩ := ih h
            exact ⟨b :: l', by rw [hl, List.append_assoc]; rfl, step hc hr hP⟩
    · rw [if_neg hlt] at h; cases h; exact ⟨[], (List.append_nil _).symm, stop r⟩

/-- the same for the packed `ReadUInts` -/
theorem readPackedUInts_ok_induct {stop : Int} {P : Reader → List Nat → Reader → Prop}
    (done : ∀ r, P r [] r)
    (step : ∀ {r v r1 l r'}, r.readUInt = .ok (v, r1) → P r1 l r' → P r (v :: l) r') :
    ∀ {fuel : Nat} {r r' : Reader} {acc l : List Nat},
    readPackedUInts fuel r stop acc = .ok (l, r') → ∃ l', l = acc ++ l' ∧ P r l' r' := by
  intro fuel
  induction fuel with
  | zero => intro r r' acc l h; cases h
  | succ fuel ih =>
    intro r r' acc l h
    rw [readPackedUInts] at h
    by_cases hlt : (r.index : Int) < stop
    · rw [if_pos hlt] at h
      cases hr : r.readUInt with
      | error e => simp only [hr] at h; cases h
      | ok p =>
        obtain ⟨v, r1⟩ := p
        simp only [hr] at h
        obtain ⟨l', hl, hP⟩ := ih h
        exact ⟨v :: l', by rw [hl, List.append_assoc]; rfl, step hr hP⟩
    · rw [if_neg hlt] at h; cases h; exact ⟨[], (List.append_nil _).symm, done r⟩

theorem readBytesArray_adv (fuel : Nat) (r r' : Reader) (fn : Nat) (acc l : List Bytes)
    (h : readBytesArray fuel r fn acc = .ok (l, r')) : Adv r r' := by
  obtain ⟨_, _, hadv⟩ := readBytesArray_ok_induct (P := fun r _ r' => Adv r r') Adv.refl
    (fun {r r1 _ r2 _ _} he hb ih => by
      have h1 : AdvS r r1 := (r.enterArr_safe _ _).of_ok he r1 rfl
      have h2 : AdvS r1 r2 := r1.readBytes_safe.of_ok hb
      exact (h1.trans h2).adv.trans ih) h
  exact hadv

theorem readPackedUInts_adv (fuel : Nat) (r r' : Reader) (stop : Int) (acc l : List Nat)
    (h : readPackedUInts fuel r stop acc = .ok (l, r')) : Adv r r' := by
  obtain ⟨_, _, hadv⟩ := readPackedUInts_ok_induct (P := fun r _ r' => Adv r r') Adv.refl
    (fun {r _ r1 _ _} hr ih => by
      have h1 : AdvS r r1 := r.readUInt_safe.of_ok hr
      exact h1.adv.trans ih) h
  exact hadv

/-! ### the decoder, one equation per shape of field

The generated decoders read a scalar field (`ReadUInt`, `ReadBool`, `ReadBytes`, `ReadString` …) as
"key, then one primitive value"; `readScalar` is that primitive read. -/

def scalarKind : Kind → Bool
  | .uint | .uint32 | .int32 | .bool | .bytes | .string => true
  | _ => false

/-- the wire type in the key of a field -/
def wireType : Kind → Nat
  | .uint | .uint32 | .int32 | .bool => 0
  | _ => 2

/-- `int32(int64(unzigzag v))`: two's complement truncation -/
def toInt32 (v : Nat) : Int :=
  let i := unzigzag v
  let m := ((i % (2 ^ 32 : Int)) + 2 ^ 32) % 2 ^ 32
  if m ≥ 2 ^ 31 then m - 2 ^ 32 else m

/-- a primitive read whose result is wrapped into a `Value` -/
def valueOf {α : Type} (g : α → Value) (x : Except Err (α × Reader)) : Except Err (Value × Reader) :=
  match x with
  | .error e => .error e
  | .ok (a, r) => .ok (g a, r)

theorem valueOf_ok {α : Type} {g : α → Value} {x : Except Err (α × Reader)} {v : Value}
    {r : Reader} (h : valueOf g x = .ok (v, r)) : ∃ a, x = .ok (a, r) ∧ v = g a := by
  cases x with
  | error e => cases h
  | ok p => cases h; exact ⟨_, rfl, rfl⟩

theorem Safe.valueOf {α : Type} {g : α → Value} {x : Except Err (α × Reader)} {Q : Reader → Prop}
    (h : Safe (fun p => Q p.2) x) : Safe (fun p => Q p.2) (valueOf g x) := by
  cases x with
  | error e => exact h
  | ok p => exact h

/-- the value of a scalar field, read after its key -/
def readScalar (nfc : NFC) : Kind → Reader → Except Err (Value × Reader)
  | .uint, r => valueOf .uint r.readUInt
  | .uint32, r => valueOf (fun v => .uint (v % 2 ^ 32)) r.readUInt
  | .int32, r => valueOf (fun v => .int (toInt32 v)) r.readUInt
  | .bool, r => valueOf .bool r.readBool
  | .bytes, r => valueOf .bytes r.readBytes
  | .string, r => valueOf .bytes (r.readString nfc)
  | _, _ => .error .panic

theorem readScalar_safe (nfc : NFC) {k : Kind} (hk : scalarKind k = true) (r : Reader) :
    Safe (fun p => AdvS r p.2) (readScalar nfc k r) := by
  cases k with
  | uint => exact r.readUInt_safe.valueOf
  | uint32 => exact r.readUInt_safe.valueOf
  | int32 => exact r.readUInt_safe.valueOf
  | bool => exact r.readBool_safe.valueOf
  | bytes => exact r.readBytes_safe.valueOf
  | string => exact (r.readString_safe nfc).valueOf
  | _ => cases hk

section equations
variable (t : Table) (nfc : NFC) (fuel : Nat) {f : Field} (r : Reader)

theorem decodeField_scalar (hk : scalarKind f.kind = true) :
    decodeField t nfc (fuel + 1) f r =
      (r.enter f.num (wireType f.kind) f.strict).bind fun
        | none => .ok (zeroValue f.kind, r)
        | some r1 => readScalar nfc f.kind r1 := by
  obtain ⟨num, kind, st⟩ := f
  -- `hk` excludes the other kinds; uint, uint32, int32, bool, bytes, string go the same way
  cases kind <;> first | cases hk | skip
  all_goals
    rw [decodeField]
    simp only [wireType, readScalar]
    -- both sides branch alike on `enter`; they differ only where the value is read
    generalize r.enter _ _ _ = x
    rcases x with _ | _ | r1 <;> try rfl
    -- the model's `match` on the primitive read against `valueOf`: by cases on what was read
    simp only [Except.bind, valueOf]
    split <;> simp only [*, toInt32]

theorem decodeField_bytesArr (hk : f.kind = .bytesArr) :
    decodeField t nfc (fuel + 1) f r =
      (readBytesArray (r.data.length + 2) r f.num []).bind fun p => .ok (.bytesArr p.1, p.2) := by
  obtain ⟨num, kind, st⟩ := f
  subst hk
  rw [decodeField]
  dsimp only
  cases readBytesArray (r.data.length + 2) r num [] <;> rfl

/-- `end := r.index + int(arrayLength)` of `ReadUInts`; `int()` of a uint64 ≥ 2^63 is negative -/
def packedStop (r : Reader) (len : Nat) : Int :=
  let len' : Int := if len ≥ 2 ^ 63 then (len : Int) - 2 ^ 64 else len
  wrapInt64 ((r.index : Int) + len')

theorem decodeField_uints (hk : f.kind = .uints) :
    decodeField t nfc (fuel + 1) f r =
      (r.enterArr f.num 2).bind fun
        | none => .ok (.uints [], r)
        | some r1 => r1.readUInt.bind fun p =>
          (readPackedUInts (r.data.length + 2) p.2 (packedStop p.2 p.1) []).bind fun q =>
            .ok (.uints q.1, q.2) := by
  obtain ⟨num, kind, st⟩ := f
  subst hk
  rw [decodeField]
  dsimp only
  cases r.enterArr num 2 with
  | error e => rfl
  | ok o =>
    cases o with
    | none => rfl
    | some r1 =>
      dsimp only [Except.bind]
      cases r1.readUInt with
      | error e => rfl
      | ok p =>
        dsimp only [packedStop]
        cases readPackedUInts (r.data.length + 2) p.2 _ [] <;> rfl

theorem decodeField_unknown {src : String} (hk : f.kind = .unknown src) :
    decodeField t nfc fuel f r = .error .panic := by
  obtain ⟨num, kind, st⟩ := f
  subst hk
  cases fuel <;> rfl

end equations

/-! ### one level of the recursion, as a composition of reads -/

section recursion
variable (t : Table) (nfc : NFC) (fuel : Nat)

theorem decodeFields_cons (f : Field) (fs : List Field) (r : Reader) :
    decodeFields t nfc (fuel + 1) (f :: fs) r =
      (decodeField t nfc fuel f r).bind fun p =>
        (decodeFields t nfc fuel fs p.2).bind fun q => .ok (p.1 :: q.1, q.2) := by
  rw [decodeFields]
  cases decodeField t nfc fuel f r with
  | error e => rfl
  | ok p =>
    dsimp only [Except.bind]
    cases decodeFields t nfc fuel fs p.2 <;> rfl

/-- flat kinds (and unknown ones) are read without recursion: the fuel does not matter -/
theorem decodeField_succ (f : Field) (r : Reader) :
    decodeField t nfc (fuel + 1) f r =
      match f.kind with
      | .msg name => (r.enter f.num 2 f.strict).bind fun
        | none => .ok (defaultMsg t name, r)
        | some r1 => decodeNested t nfc fuel name r1
      | .msgArr name => (decodeMsgArr t nfc fuel name f.num r []).bind fun p => .ok (.msgArr p.1, p.2)
      | _ => decodeField t nfc 1 f r := by
  obtain ⟨num, kind, st⟩ := f
  cases kind <;> try rfl
  · rw [decodeField]
    dsimp only
    cases r.enter num 2 st with
    | error e => rfl
    | ok o => cases o <;> rfl
  · rw [decodeField]
    dsimp only
    cases decodeMsgArr t nfc fuel _ num r [] <;> rfl

theorem decodeNested_succ (name : String) (r : Reader) :
    decodeNested t nfc (fuel + 1) name r =
      r.readUInt.bind fun p =>
        match t.find name with
        | none => .error .panic
        | some s =>
          (decodeFields t nfc fuel s.dec { p.2 with stop := packedStop p.2 p.1 }).bind fun q =>
            .ok (.msg true q.1, { p.2 with index := q.2.index }) := by
  rw [decodeNested]
  cases r.readUInt with
  | error e => rfl
  | ok p =>
    dsimp only [Except.bind]
    cases t.find name with
    | none => rfl
    | some s =>
      dsimp only [packedStop]
      cases decodeFields t nfc fuel s.dec _ <;> rfl

theorem decodeMsgArr_succ (name : String) (fn : Nat) (r : Reader) (acc : List (List Value)) :
    decodeMsgArr t nfc (fuel + 1) name fn r acc =
      if (r.index : Int) < r.stop then
        (r.enterArr fn 2).bind fun
          | none => .ok (acc, r)
          | some r1 => (decodeNested t nfc fuel name r1).bind fun
            | (.msg _ vals, r2) => decodeMsgArr t nfc fuel name fn r2 (acc ++ [vals])
            | _ => .error .panic
      else .ok (acc, r) := by
  rw [decodeMsgArr]
  split
  · cases r.enterArr fn 2 with
    | error e => rfl
    | ok o =>
      cases o with
      | none => rfl
      | some r1 =>
        dsimp only [Except.bind]
        cases decodeNested t nfc fuel name r1 with
        | error e => rfl
        | ok p => obtain ⟨v, r2⟩ := p; cases v <;> rfl
  · rfl

end recursion

def flatKind : Kind → Bool
  | .uint | .uint32 | .int32 | .bool | .bytes | .string | .bytesArr | .uints => true
  | _ => false

/-- what a successful read of a flat field consists of -/
theorem decodeField_flat_ok {t : Table} {nfc : NFC} {fuel : Nat} {f : Field} {r r' : Reader}
    {v : Value} (hk : flatKind f.kind = true) (h : decodeField t nfc fuel f r = .ok (v, r')) :
    (scalarKind f.kind = true ∧
      ((r.enter f.num (wireType f.kind) f.strict = .ok none ∧ v = zeroValue f.kind ∧ r' = r) ∨
       ∃ r1, r.enter f.num (wireType f.kind) f.strict = .ok (some r1) ∧
         readScalar nfc f.kind r1 = .ok (v, r'))) ∨
    (f.kind = .bytesArr ∧
      ∃ l, readBytesArray (r.data.length + 2) r f.num [] = .ok (l, r') ∧ v = .bytesArr l) ∨
    (f.kind = .uints ∧
      ((r.enterArr f.num 2 = .ok none ∧ v = .uints [] ∧ r' = r) ∨
       ∃ r1 len r2 l, r.enterArr f.num 2 = .ok (some r1) ∧ r1.readUInt = .ok (len, r2) ∧
         readPackedUInts (r.data.length + 2) r2 (packedStop r2 len) [] = .ok (l, r') ∧
         v = .uints l)) := by
  cases fuel with
  | zero => rw [decodeField] at h; cases h
  | succ fuel =>
  cases hk' : f.kind with
  | bytesArr =>
    rw [decodeField_bytesArr t nfc fuel r hk'] at h
    obtain ⟨p, hd, h⟩ := bind_eq_ok h
    cases h
    exact Or.inr (Or.inl ⟨rfl, _, hd, rfl⟩)
  | uints =>
    rw [decodeField_uints t nfc fuel r hk'] at h
    refine Or.inr (Or.inr ⟨rfl, ?_⟩)
    obtain ⟨o, he, h⟩ := bind_eq_ok h
    cases o with
    | none => cases h; exact Or.inl ⟨he, rfl, rfl⟩
    | some r1 =>
      obtain ⟨⟨len, r2⟩, hu, h⟩ := bind_eq_ok h
      obtain ⟨q, hp, h⟩ := bind_eq_ok h
      cases h
      exact Or.inr ⟨r1, len, r2, _, he, hu, hp, rfl⟩
  | msg _ => rw [hk'] at hk; cases hk
  | msgArr _ => rw [hk'] at hk; cases hk
  | unknown _ => rw [hk'] at hk; cases hk
  | _ =>
    have hs : scalarKind f.kind = true := by rw [hk']; rfl
    rw [decodeField_scalar t nfc fuel r hs] at h
    rw [← hk']
    refine Or.inl ⟨hs, ?_⟩
    obtain ⟨o, he, h⟩ := bind_eq_ok h
    cases o with
    | none => cases h; exact Or.inl ⟨he, rfl, rfl⟩
    | some r1 => exact Or.inr ⟨r1, he, h⟩

/-! ### induction over successful decodes

To show a property of everything the four mutually recursive decoding functions return, it suffices
to check the steps: the empty field list, one more field, a flat field (which does not recurse), an
absent / present nested struct, an array of structs, the body of a nested struct, and the two ways
the loop over an array of structs goes on. `PA name fn r l r'` speaks of the elements `l` the loop
APPENDS to its accumulator. In `nested` the body is read by a reader whose `stop` is ARBITRARY (the
model computes it from the size prefix without checking it): the step must not depend on it. -/

theorem decode_ok_induct (t : Table) (nfc : NFC)
    {PF : List Field → Reader → List Value → Reader → Prop}
    {Pf : Field → Reader → Value → Reader → Prop}
    {PN : String → Reader → List Value → Reader → Prop}
    {PA : String → Nat → Reader → List (List Value) → Reader → Prop}
    (nil : ∀ r, PF [] r [] r)
    (cons : ∀ {f fs r v r1 vs r2}, Pf f r v r1 → PF fs r1 vs r2 → PF (f :: fs) r (v :: vs) r2)
    (flat : ∀ {fuel f r v r'}, flatKind f.kind = true →
      decodeField t nfc fuel f r = .ok (v, r') → Pf f r v r')
    (absent : ∀ {f name r}, f.kind = .msg name → r.enter f.num 2 f.strict = .ok none →
      Pf f r (defaultMsg t name) r)
    (present : ∀ {f name r r1 vals r'}, f.kind = .msg name →
      r.enter f.num 2 f.strict = .ok (some r1) → PN name r1 vals r' → Pf f r (.msg true vals) r')
    (array : ∀ {f name r l r'}, f.kind = .msgArr name → PA name f.num r l r' →
      Pf f r (.msgArr l) r')
    (nested : ∀ {name s r1 size r2 bodyStop vals rn}, t.find name = some s →
      r1.readUInt = .ok (size, r2) → PF s.dec { r2 with stop := bodyStop } vals rn →
      PN name r1 vals { r2 with index := rn.index })
    (done : ∀ name fn r, PA name fn r [] r)
    (step : ∀ {name fn r r1 vals r2 l r'}, r.enterArr fn 2 = .ok (some r1) → PN name r1 vals r2 →
      PA name fn r2 l r' → PA name fn r (vals :: l) r') :
    ∀ fuel : Nat,
    (∀ fs r vs r', decodeFields t nfc fuel fs r = .ok (vs, r') → PF fs r vs r') ∧
    (∀ f r v r', decodeField t nfc fuel f r = .ok (v, r') → Pf f r v r') ∧
    (∀ name r v r', decodeNested t nfc fuel name r = .ok (v, r') →
      ∃ vals, v = .msg true vals ∧ PN name r vals r') ∧
    (∀ name fn r acc l r', decodeMsgArr t nfc fuel name fn r acc = .ok (l, r') →
      ∃ l', l = acc ++ l' ∧ PA name fn r l' r') := by
  intro fuel
  induction fuel with
  | zero =>
    refine ⟨fun fs r vs r' h => ?_, fun _ _ _ _ h => ?_, fun _ _ _ _ h => ?_,
      fun _ _ _ _ _ _ h => ?_⟩
    · cases fs with
      | nil => cases h; exact nil r
      | cons f fs => rw [decodeFields] at h; cases h
    · rw [decodeField] at h; cases h
    · rw [decodeNested] at h; cases h
    · rw [decodeMsgArr] at h; cases h
  | succ fuel ih =>
    obtain ⟨ihFs, ihF, ihN, ihA⟩ := ih
    refine ⟨fun fs r vs r' h => ?_, fun f r v r' h => ?_, fun name r v r' h => ?_,
      fun name fn r acc l r' h => ?_⟩
    · cases fs with
      | nil => cases h; exact nil r
      | cons f fs =>
        rw [decodeFields_cons] at h
        obtain ⟨p, h1, h⟩ := bind_eq_ok h
        obtain ⟨q, h2, h⟩ := bind_eq_ok h
        cases h
        exact cons (ihF _ _ _ _ h1) (ihFs _ _ _ _ h2)
    · have hf := h
      rw [decodeField_succ] at h
      cases hk : f.kind with
      | msg name =>
        rw [hk] at h
        obtain ⟨o, he, h⟩ := bind_eq_ok h
        cases o with
        | none => cases h; exact absent hk he
        | some r1 =>
          obtain ⟨vals, rfl, hN⟩ := ihN _ _ _ _ h
          exact present hk he hN
      | msgArr name =>
        rw [hk] at h
        obtain ⟨p, hd, h⟩ := bind_eq_ok h
        obtain ⟨l', hl, hA⟩ := ihA _ _ _ _ _ _ hd
        cases h
        rw [hl]
        exact array hk hA
      | unknown src => rw [decodeField_unknown t nfc (fuel + 1) r hk] at hf; cases hf
      | _ => exact flat (by rw [hk]; rfl) hf
    · rw [decodeNested_succ] at h
      obtain ⟨p, hu, h⟩ := bind_eq_ok h
      cases hfind : t.find name with
      | none => rw [hfind] at h; cases h
      | some s =>
        rw [hfind] at h
        obtain ⟨q, hd, h⟩ := bind_eq_ok h
        cases h
        exact ⟨_, rfl, nested hfind hu (ihFs _ _ _ _ hd)⟩
    · rw [decodeMsgArr_succ] at h
      split at h
      · obtain ⟨o, he, h⟩ := bind_eq_ok h
        cases o with
        | none => cases h; exact ⟨[], (List.append_nil _).symm, done name fn r⟩
        | some r1 =>
          obtain ⟨p, hn, h⟩ := bind_eq_ok h
          obtain ⟨v, r2⟩ := p
          obtain ⟨vals, rfl, hN⟩ := ihN _ _ _ _ hn
          obtain ⟨l', hl, hA⟩ := ihA _ _ _ _ _ _ h
          exact ⟨vals :: l', by rw [hl, List.append_assoc]; rfl, step he hN hA⟩
      · cases h
        exact ⟨[], (List.append_nil _).symm, done name fn r⟩

/-! ### a successful decode only moves forward, inside the buffer (any table, any fuel) -/

theorem decodeField_flat_adv {t : Table} {nfc : NFC} {fuel : Nat} {f : Field} {r r' : Reader}
    {v : Value} (hk : flatKind f.kind = true) (h : decodeField t nfc fuel f r = .ok (v, r')) :
    Adv r r' := by
  rcases decodeField_flat_ok hk h with ⟨hs, ⟨_, _, rfl⟩ | ⟨r1, he, hr⟩⟩ | ⟨_, l, hl, _⟩ |
    ⟨_, ⟨_, _, rfl⟩ | ⟨r1, len, r2, l, he, hu, hp, _⟩⟩
  · exact Adv.refl _
  · exact (((r.enter_safe _ _ _).of_ok he r1 rfl).trans ((readScalar_safe nfc hs r1).of_ok hr)).adv
  · exact readBytesArray_adv _ _ _ _ _ _ hl
  · exact Adv.refl _
  · exact ((((r.enterArr_safe _ _).of_ok he r1 rfl).trans (r1.readUInt_safe.of_ok hu)).trans_adv
      (readPackedUInts_adv _ _ _ _ _ _ hp)).adv

theorem decode_adv (t : Table) (nfc : NFC) (fuel : Nat) :
    (∀ fs r vs r', decodeFields t nfc fuel fs r = .ok (vs, r') → Adv r r') ∧
    (∀ f r v r', decodeField t nfc fuel f r = .ok (v, r') → Adv r r') ∧
    (∀ name r v r', decodeNested t nfc fuel name r = .ok (v, r') →
      (∃ vals, v = .msg true vals) ∧ AdvS r r') ∧
    (∀ name fn r acc l r', decodeMsgArr t nfc fuel name fn r acc = .ok (l, r') → Adv r r') := by
  have h := decode_ok_induct t nfc (PF := fun _ r _ r' => Adv r r') (Pf := fun _ r _ r' => Adv r r')
    (PN := fun _ r _ r' => AdvS r r') (PA := fun _ _ r _ r' => Adv r r')
    (nil := Adv.refl) (cons := fun h1 h2 => h1.trans h2) (flat := decodeField_flat_adv)
    (absent := fun _ _ => Adv.refl _)
    (present := fun _ he hN => (((Reader.enter_safe _ _ _ _).of_ok he _ rfl).trans hN).adv)
    (array := fun _ hA => hA)
    (nested := fun {_ _ r1 _ r2 _ _ rn} _ hu hF => by
      have := r1.readUInt_safe.of_ok hu
      simp only [Adv, AdvS] at *
      omega)
    (done := fun _ _ r => Adv.refl r)
    (step := fun he hN hA => (((Reader.enterArr_safe _ _ _).of_ok he _ rfl).trans hN).adv.trans hA)
    fuel
  exact ⟨h.1, h.2.1, fun _ _ _ _ hd => (h.2.2.1 _ _ _ _ hd).elim fun vals hN => ⟨⟨vals, hN.1⟩, hN.2⟩,
    fun _ _ _ _ _ _ hd => (h.2.2.2 _ _ _ _ _ _ hd).elim fun _ hA => hA.2⟩

section frame
variable {t : Table} {nfc : NFC} {fuel : Nat} {r r' : Reader}

theorem decodeFields_adv {fs : List Field} {vs : List Value}
    (h : decodeFields t nfc fuel fs r = .ok (vs, r')) : Adv r r' :=
  (decode_adv t nfc fuel).1 _ _ _ _ h

theorem decodeField_adv {f : Field} {v : Value} (h : decodeField t nfc fuel f r = .ok (v, r')) :
    Adv r r' :=
  (decode_adv t nfc fuel).2.1 _ _ _ _ h

theorem decodeNested_adv {name : String} {v : Value}
    (h : decodeNested t nfc fuel name r = .ok (v, r')) : AdvS r r' :=
  ((decode_adv t nfc fuel).2.2.1 _ _ _ _ h).2

theorem decodeMsgArr_adv {name : String} {fn : Nat} {acc l : List (List Value)}
    (h : decodeMsgArr t nfc fuel name fn r acc = .ok (l, r')) : Adv r r' :=
  (decode_adv t nfc fuel).2.2.2 _ _ _ _ _ _ h

/-- `ReadDecodable` returns a non-nil pointer -/
theorem decodeNested_msg {name : String} {v : Value}
    (h : decodeNested t nfc fuel name r = .ok (v, r')) : ∃ vals, v = .msg true vals :=
  ((decode_adv t nfc fuel).2.2.1 _ _ _ _ h).1

/-- from the start of a buffer the index stays within its length -/
theorem decodeFields_new_le {data : Bytes} {fs : List Field} {vs : List Value}
    (h : decodeFields t nfc fuel fs (Reader.new data) = .ok (vs, r')) : r'.index ≤ data.length := by
  have := decodeFields_adv h
  simp only [Adv, Reader.new] at this
  omega

end frame

/-! ### what `Decode` / `DecodeStrict` accepted -/

section accepted
variable {t : Table} {nfc : NFC}

variable (t nfc) in
theorem decode_eq (s : Schema) (data : Bytes) :
    decode t nfc s data =
      (decodeFields t nfc (fuelFor data) s.dec (Reader.new data)).bind fun p => .ok p.1 := by
  unfold decode
  cases decodeFields t nfc (fuelFor data) s.dec (Reader.new data) <;> rfl

variable (t nfc) in
theorem decodeStrict_eq (s : Schema) (data : Bytes) :
    decodeStrict t nfc s data =
      (decodeFields t nfc (fuelFor data) s.decStrict (Reader.new data)).bind fun p =>
        if (p.2.index : Int) ≠ p.2.stop then .error .unreadBytes else .ok p.1 := by
  unfold decodeStrict
  cases decodeFields t nfc (fuelFor data) s.decStrict (Reader.new data) <;> rfl

variable {s : Schema} {data : Bytes} {vals : List Value} {r' : Reader}

/-- what `Decode` accepted was decoded by `decodeFields` from the start of the buffer -/
theorem decode_ok (h : decode t nfc s data = .ok vals) :
    ∃ r', decodeFields t nfc (fuelFor data) s.dec (Reader.new data) = .ok (vals, r') := by
  rw [decode_eq] at h
  obtain ⟨p, hd, h⟩ := bind_eq_ok h
  cases h
  exact ⟨p.2, hd⟩

/-- what `DecodeStrict` accepted was decoded by `decodeFields` up to the end of the reader -/
theorem decodeStrict_ok (h : decodeStrict t nfc s data = .ok vals) :
    ∃ r', decodeFields t nfc (fuelFor data) s.decStrict (Reader.new data) = .ok (vals, r') ∧
      (r'.index : Int) = r'.stop := by
  rw [decodeStrict_eq] at h
  obtain ⟨p, hd, h⟩ := bind_eq_ok h
  split at h
  · cases h
  · rename_i he
    cases h
    exact ⟨p.2, hd, Decidable.not_not.mp he⟩

theorem decode_of_fields
    (h : decodeFields t nfc (fuelFor data) s.dec (Reader.new data) = .ok (vals, r')) :
    decode t nfc s data = .ok vals := by
  rw [decode_eq, h]
  rfl

theorem decodeStrict_of_fields
    (h : decodeFields t nfc (fuelFor data) s.decStrict (Reader.new data) = .ok (vals, r'))
    (he : (r'.index : Int) = r'.stop) : decodeStrict t nfc s data = .ok vals := by
  rw [decodeStrict_eq, h]
  exact if_neg (not_not_intro he)

end accepted

/-! ### looking a struct up by name -/

theorem find_mem {t : Table} {name : String} {s : Schema} (h : t.find name = some s) : s ∈ t := by
  unfold Table.find at h
  exact List.mem_of_find?_eq_some h

/-- a struct found under a name is determined by its three field lists -/
theorem find_eq_of_fields {t : Table} {n : String} {e d st : List Field}
    (h : (t.find n).map (fun s => (s.enc, s.dec, s.decStrict)) = some (e, d, st)) :
    t.find n = some ⟨n, e, d, st⟩ := by
  cases hs : t.find n with
  | none => rw [hs] at h; cases h
  | some s =>
    have hn : s.name = n := by simpa using List.find?_some hs
    rw [hs] at h
    obtain ⟨name, a, b, c⟩ := s
    cases hn
    cases h
    rfl

/-! ### ranked schema tables -/

section ranked
variable (t : Table) (rank : String → Nat)

/-- a field kind whose nested struct (if any) exists and has rank below `k`; no unknown kinds -/
def kindOK (k : Nat) : Kind → Bool
  | .unknown _ => false
  | .msg n => (t.find n).isSome && decide (rank n < k)
  | .msgArr n => (t.find n).isSome && decide (rank n < k)
  | _ => true

def fieldsOK (k : Nat) (fs : List Field) : Bool := fs.all fun f => kindOK t rank k f.kind

/-- one struct: rank ≤ 8, ≤ 40 fields, nested structs exist and have strictly smaller rank -/
def schemaOK (s : Schema) : Bool :=
  decide (rank s.name ≤ 8) &&
  decide (s.enc.length ≤ 40) && decide (s.dec.length ≤ 40) && decide (s.decStrict.length ≤ 40) &&
  fieldsOK t rank (rank s.name) s.enc && fieldsOK t rank (rank s.name) s.dec &&
  fieldsOK t rank (rank s.name) s.decStrict

/-- the table has no recursion (witnessed by `rank`), no dangling names, no unknown kinds -/
def Ranked : Bool := t.all (schemaOK t rank)

variable {t rank}

theorem ranked_mem (hR : Ranked t rank = true) {s : Schema} (hs : s ∈ t) :
    schemaOK t rank s = true := by
  unfold Ranked at hR
  exact List.all_eq_true.mp hR s hs

theorem ranked_find (hR : Ranked t rank = true) {name : String} {s : Schema}
    (h : t.find name = some s) : schemaOK t rank s = true ∧ s.name = name :=
  ⟨ranked_mem hR (find_mem h), by simpa using List.find?_some h⟩

variable (t rank) in
/-- what `schemaOK` says of the two decoder lists of a struct -/
structure SchemaDec (s : Schema) : Prop where
  rank_le : rank s.name ≤ 8
  dec_len : s.dec.length ≤ 40
  strict_len : s.decStrict.length ≤ 40
  dec_ok : fieldsOK t rank (rank s.name) s.dec = true
  strict_ok : fieldsOK t rank (rank s.name) s.decStrict = true

theorem schemaOK_dec {s : Schema} (h : schemaOK t rank s = true) : SchemaDec t rank s := by
  simp only [schemaOK, Bool.and_eq_true, decide_eq_true_eq] at h
  obtain ⟨⟨⟨⟨⟨⟨h1, _⟩, h3⟩, h4⟩, _⟩, h6⟩, h7⟩ := h
  exact ⟨h1, h3, h4, h6, h7⟩

end ranked

/-! ### the mutual decoder never panics with fuel `#fields + 42 * rank + 1 + remaining bytes`

42 per nesting level: the ≤ 40 fields of a nested struct, each one call of `decodeFields`, plus the two
calls (`decodeField`, `decodeNested`) that lead into it. -/

/-- a tactic for a single-value field spelled as the model's `match` (`enter`, then the primitive read
`rd`). No proof calls it: the proofs below take this case from `decodeField_scalar` and
`readScalar_safe`. -/
local macro "field_scalar" rd:term : tactic => `(tactic| (
  split
  · rename_i e he
    exact Safe.of_error (Reader.enter_safe _ _ _ _) he
  · simp [Adv]
  · rename_i r1 he
    have h1 := Safe.of_ok (Reader.enter_safe _ _ _ _) he r1 rfl
    split
    · rename_i e hr
      exact Safe.of_error ($rd r1) hr
    · rename_i v r2 hr
      have h2 := Safe.of_ok ($rd r1) hr
      simp only [AdvS] at h1 h2
      simp only [safe_ok, Adv]
      omega))

/-- a flat field needs no fuel beyond the call itself, on any table -/
theorem decodeField_flat_safe (t : Table) (nfc : NFC) (fuel : Nat) {f : Field} (r : Reader)
    (hk : flatKind f.kind = true) : Safe (fun _ => True) (decodeField t nfc (fuel + 1) f r) := by
  cases hk' : f.kind with
  | bytesArr =>
    rw [decodeField_bytesArr t nfc fuel r hk']
    exact (readBytesArray_safe (r.data.length + 2) r f.num [] (by omega)).bind fun _ _ _ => trivial
  | uints =>
    rw [decodeField_uints t nfc fuel r hk']
    refine (r.enterArr_safe _ _).bind fun o _ he => ?_
    cases o with
    | none => trivial
    | some r1 =>
      refine r1.readUInt_safe.bind fun p _ hu => ?_
      have h2 := (he r1 rfl).trans hu
      exact (readPackedUInts_safe (r.data.length + 2) p.2 (packedStop p.2 p.1) []
        (by simp only [AdvS] at h2; omega)).bind fun _ _ _ => trivial
  | msg _ => rw [hk'] at hk; cases hk
  | msgArr _ => rw [hk'] at hk; cases hk
  | unknown _ => rw [hk'] at hk; cases hk
  | _ =>
    have hs : scalarKind f.kind = true := by rw [hk']; rfl
    rw [decodeField_scalar t nfc fuel r hs]
    refine (r.enter_safe _ _ _).bind fun o _ _ => ?_
    cases o with
    | none => trivial
    | some r1 => exact (readScalar_safe nfc hs r1).mono fun _ _ => trivial

theorem decode_safe_aux (t : Table) (nfc : NFC) (rank : String → Nat)
    (hR : Ranked t rank = true) : ∀ fuel : Nat,
    (∀ (k : Nat) (fs : List Field) (r : Reader), fieldsOK t rank k fs = true →
      fs.length + 42 * k + 1 + (r.data.length - r.index) ≤ fuel →
      Safe (fun _ => True) (decodeFields t nfc fuel fs r)) ∧
    (∀ (k : Nat) (f : Field) (r : Reader), kindOK t rank k f.kind = true →
      42 * k + 1 + (r.data.length - r.index) ≤ fuel →
      Safe (fun _ => True) (decodeField t nfc fuel f r)) ∧
    (∀ (name : String) (r : Reader), (t.find name).isSome = true →
      42 * rank name + 42 + (r.data.length - r.index) ≤ fuel →
      Safe (fun _ => True) (decodeNested t nfc fuel name r)) ∧
    (∀ (name : String) (fn : Nat) (r : Reader) (acc : List (List Value)),
      (t.find name).isSome = true →
      42 * rank name + 42 + (r.data.length - r.index) ≤ fuel →
      Safe (fun _ => True) (decodeMsgArr t nfc fuel name fn r acc)) := by
  intro fuel
  induction fuel with
  | zero =>
    exact ⟨fun _ _ _ _ h => by omega, fun _ _ _ _ h => by omega, fun _ _ _ h => by omega,
      fun _ _ _ _ _ h => by omega⟩
  | succ fuel ih =>
    obtain ⟨ihFs, ihF, ihN, ihA⟩ := ih
    refine ⟨fun k fs r hok hf => ?_, fun k f r hok hf => ?_, fun name r hfind hf => ?_,
      fun name fn r acc hfind hf => ?_⟩
    · cases fs with
      | nil => trivial
      | cons f fs =>
        simp only [fieldsOK, List.all_cons, Bool.and_eq_true] at hok
        simp only [List.length_cons] at hf
        rw [decodeFields_cons]
        refine (ihF k f r hok.1 (by omega)).bind fun p hp _ => ?_
        have a := decodeField_adv hp
        simp only [Adv] at a
        exact (ihFs k fs p.2 hok.2 (by omega)).bind fun _ _ _ => trivial
    · rw [decodeField_succ]
      cases hk : f.kind with
      | msg name =>
        rw [hk] at hok
        simp only [kindOK, Bool.and_eq_true, decide_eq_true_eq] at hok
        refine (r.enter_safe _ _ _).bind fun o _ h1 => ?_
        cases o with
        | none => trivial
        | some r1 =>
          have := h1 r1 rfl
          simp only [AdvS] at this
          exact ihN name r1 hok.1 (by omega)
      | msgArr name =>
        rw [hk] at hok
        simp only [kindOK, Bool.and_eq_true, decide_eq_true_eq] at hok
        exact (ihA name f.num r [] hok.1 (by omega)).bind fun _ _ _ => trivial
      | unknown src => rw [hk] at hok; cases hok
      | _ => exact decodeField_flat_safe t nfc 0 r (by rw [hk]; rfl)
    · rw [decodeNested_succ]
      refine r.readUInt_safe.bind fun p _ h2 => ?_
      simp only [AdvS] at h2
      cases hf' : t.find name with
      | none => rw [hf'] at hfind; cases hfind
      | some s =>
        obtain ⟨hs, hname⟩ := ranked_find hR hf'
        have hlen := (schemaOK_dec hs).dec_len
        have hdec := (schemaOK_dec hs).dec_ok
        rw [hname] at hdec
        exact (ihFs (rank name) s.dec _ hdec (by simp only; omega)).bind fun _ _ _ => trivial
    · rw [decodeMsgArr_succ]
      split
      · refine (r.enterArr_safe _ _).bind fun o _ h1 => ?_
        cases o with
        | none => trivial
        | some r1 =>
          have := h1 r1 rfl
          simp only [AdvS] at this
          refine (ihN name r1 hfind (by omega)).bind fun p hp _ => ?_
          obtain ⟨v, r2⟩ := p
          obtain ⟨vals, rfl⟩ := decodeNested_msg hp
          have a := decodeNested_adv hp
          simp only [AdvS] at a
          exact ihA name fn r2 _ hfind (by omega)
      · trivial

/-! ### more fuel does not change a result that is not `panic` -/

theorem decode_below (t : Table) (nfc : NFC) : ∀ fuel : Nat,
    (∀ fs r, Below (decodeFields t nfc fuel fs r) (decodeFields t nfc (fuel + 1) fs r)) ∧
    (∀ f r, Below (decodeField t nfc fuel f r) (decodeField t nfc (fuel + 1) f r)) ∧
    (∀ name r, Below (decodeNested t nfc fuel name r) (decodeNested t nfc (fuel + 1) name r)) ∧
    (∀ name fn r acc, Below (decodeMsgArr t nfc fuel name fn r acc)
      (decodeMsgArr t nfc (fuel + 1) name fn r acc)) := by
  intro fuel
  induction fuel with
  | zero =>
    refine ⟨fun fs r h => ?_, fun _ _ h => absurd rfl h, fun _ _ h => absurd rfl h,
      fun _ _ _ _ h => absurd rfl h⟩
    cases fs with
    | nil => rfl
    | cons f fs => exact absurd rfl h
  | succ fuel ih =>
    obtain ⟨ihFs, ihF, ihN, ihA⟩ := ih
    refine ⟨fun fs r => ?_, fun f r => ?_, fun name r => ?_, fun name fn r acc => ?_⟩
    · cases fs with
      | nil => exact fun _ => rfl
      | cons f fs =>
        rw [decodeFields_cons, decodeFields_cons]
        exact (ihF f r).bind fun p _ => (ihFs fs p.2).bind fun _ _ => Below.refl _
    · rw [decodeField_succ, decodeField_succ t nfc (fuel + 1)]
      split
      · exact (Below.refl _).bind fun o _ => by
          cases o with
          | none => exact Below.refl _
          | some r1 => exact ihN _ r1
      · exact (ihA _ _ r []).bind fun _ _ => Below.refl _
      · exact Below.refl _
    · rw [decodeNested_succ, decodeNested_succ t nfc (fuel + 1)]
      refine (Below.refl _).bind fun p _ => ?_
      split
      · exact Below.refl _
      · exact (ihFs _ _).bind fun _ _ => Below.refl _
    · rw [decodeMsgArr_succ, decodeMsgArr_succ t nfc (fuel + 1)]
      split
      · refine (Below.refl _).bind fun o _ => ?_
        cases o with
        | none => exact Below.refl _
        | some r1 =>
          refine (ihN name r1).bind fun p _ => ?_
          split
          · exact ihA _ _ _ _
          · exact Below.refl _
      · exact Below.refl _

/-- once the decoder has enough fuel not to panic, its result is the same for any larger fuel: the
model's answer is that of the fuel-free Go loop -/
theorem decodeFields_fuel_mono (t : Table) (nfc : NFC) {fuel fuel' : Nat} (fs : List Field)
    (r : Reader) (hle : fuel ≤ fuel') (h : decodeFields t nfc fuel fs r ≠ .error .panic) :
    decodeFields t nfc fuel' fs r = decodeFields t nfc fuel fs r := by
  induction hle with
  | refl => rfl
  | step _ ih => rw [← ih]; exact (decode_below t nfc _).1 fs r (by rw [ih]; exact h)

/-- fuel needed by `decodeFields` on a field list of rank `k` with `rem` unread bytes -/
def need (k nfields rem : Nat) : Nat := nfields + 42 * k + 1 + rem

/-- with that fuel the decoder does not panic, and a successful read moves forward in the buffer -/
theorem decodeFields_safe (t : Table) (nfc : NFC) (rank : String → Nat) (hR : Ranked t rank = true)
    (k : Nat) (fs : List Field) (r : Reader) (hok : fieldsOK t rank k fs = true) (fuel : Nat)
    (hf : need k fs.length (r.data.length - r.index) ≤ fuel) :
    Safe (fun p => Adv r p.2) (decodeFields t nfc fuel fs r) := by
  have h := (decode_safe_aux t nfc rank hR fuel).1 k fs r hok hf
  cases hd : decodeFields t nfc fuel fs r with
  | error e => exact h.of_error hd
  | ok p => exact decodeFields_adv hd

/-- ≤ 40 fields and rank ≤ 8: `fuelFor data` is enough -/
theorem need_le_fuelFor (data : Bytes) {k n : Nat} (hk : k ≤ 8) (hn : n ≤ 40) :
    need k n ((Reader.new data).data.length - (Reader.new data).index) ≤ fuelFor data := by
  simp only [need, fuelFor, Reader.new]
  omega

/-! ### total work

`costX` counts the calls of the four mutually recursive decoding functions plus the iterations of the
two primitive array loops, following exactly the control flow of the model (the scrutinees are the
model's own calls). Every call does a bounded number of primitive reads, each of which costs O(1)
or O(bytes it consumes). -/

/-- bytes used by a call started at `r`: consumed on success, everything left on failure -/
def used {α : Type} (r : Reader) : Except Err (α × Reader) → Nat
  | .ok (_, r') => r'.index - r.index
  | .error _ => r.data.length - r.index

@[simp] theorem used_ok {α : Type} (r r' : Reader) (a : α) :
    used r (.ok (a, r') : Except Err (α × Reader)) = r'.index - r.index := rfl

@[simp] theorem used_error {α : Type} (r : Reader) (e : Err) :
    used r (.error e : Except Err (α × Reader)) = r.data.length - r.index := rfl

def costPackedUInts : Nat → Reader → Int → Nat
  | 0, _, _ => 1
  | fuel + 1, r, stop =>
    if (r.index : Int) < stop then
      match r.readUInt with
      | .error _ => 1
      | .ok (_, r') => 1 + costPackedUInts fuel r' stop
    else 1

def costBytesArray : Nat → Reader → Nat → Nat
  | 0, _, _ => 1
  | fuel + 1, r, fn =>
    if (r.index : Int) < r.stop then
      match r.enterArr fn 2 with
      | .ok (some r1) =>
        match r1.readBytes with
        | .error _ => 1
        | .ok (_, r2) => 1 + costBytesArray fuel r2 fn
      | _ => 1
    else 1

mutual
def costFields (t : Table) (nfc : NFC) : Nat → List Field → Reader → Nat
  | _, [], _ => 1
  | 0, _ :: _, _ => 1
  | fuel + 1, f :: fs, r =>
    1 + costField t nfc fuel f r +
      match decodeField t nfc fuel f r with
      | .error _ => 0
      | .ok (_, r') => costFields t nfc fuel fs r'

def costField (t : Table) (nfc : NFC) : Nat → Field → Reader → Nat
  | 0, _, _ => 1
  | fuel + 1, f, r =>
    match f.kind with
    | .bytesArr => 1 + costBytesArray (r.data.length + 2) r f.num
    | .uints =>
      match r.enterArr f.num 2 with
      | .ok (some r1) =>
        match r1.readUInt with
        | .error _ => 1
        | .ok (len, r2) =>
          let len' : Int := if len ≥ 2 ^ 63 then (len : Int) - 2 ^ 64 else len
          1 + costPackedUInts (r.data.length + 2) r2 (wrapInt64 ((r2.index : Int) + len'))
      | _ => 1
    | .msg name =>
      match r.enter f.num 2 f.strict with
      | .ok (some r1) => 1 + costNested t nfc fuel name r1
      | _ => 1
    | .msgArr name => 1 + costMsgArr t nfc fuel name f.num r []
    | _ => 1

def costNested (t : Table) (nfc : NFC) : Nat → String → Reader → Nat
  | 0, _, _ => 1
  | fuel + 1, name, r1 =>
    match r1.readUInt with
    | .error _ => 1
    | .ok (size, r2) =>
      let size' : Int := if size ≥ 2 ^ 63 then (size : Int) - 2 ^ 64 else size
      match t.find name with
      | none => 1
      | some s =>
        1 + costFields t nfc fuel s.dec { r2 with stop := wrapInt64 ((r2.index : Int) + size') }

def costMsgArr (t : Table) (nfc : NFC) : Nat → String → Nat → Reader → List (List Value) → Nat
  | 0, _, _, _, _ => 1
  | fuel + 1, name, fn, r, acc =>
    if (r.index : Int) < r.stop then
      match r.enterArr fn 2 with
      | .ok (some r1) =>
        1 + costNested t nfc fuel name r1 +
          match decodeNested t nfc fuel name r1 with
          | .ok (.msg _ vals, r2) => costMsgArr t nfc fuel name fn r2 (acc ++ [vals])
          | _ => 0
      | _ => 1
    else 1
end

/-- a call `x` started at `r1`, which `r` has advanced to: counted from `r` it uses the advance plus
what it uses counted from `r1` (on failure too: everything left) -/
theorem used_shift {α : Type} {r r1 : Reader} {x : Except Err (α × Reader)} (h : Adv r r1)
    (hx : ∀ a r', x = .ok (a, r') → Adv r1 r') :
    used r x = r1.index - r.index + used r1 x := by
  cases x with
  | error e => simp only [Adv, used_error] at *; omega
  | ok p => obtain ⟨a, r'⟩ := p; have := hx a r' rfl; simp only [Adv, used_ok] at *; omega

/-- repacking a result around a reader at the same index does not change the bytes used -/
theorem used_map {α β : Type} {r : Reader} {x : Except Err (α × Reader)}
    {k : α × Reader → β × Reader} (hk : ∀ q, (k q).2.index = q.2.index := by intro; rfl) :
    used r (x.bind fun q => .ok (k q)) = used r x := by
  cases x with
  | error e => rfl
  | ok q => exact congrArg (· - r.index) (hk q)

theorem costBytesArray_le : ∀ (fuel : Nat) (r : Reader) (fn : Nat) (acc : List Bytes),
    costBytesArray fuel r fn ≤ 1 + used r (readBytesArray fuel r fn acc) := by
  intro fuel
  induction fuel with
  | zero => intro r fn acc; exact Nat.le_add_right _ _
  | succ fuel ih =>
    intro r fn acc
    rw [costBytesArray, readBytesArray]
    by_cases hlt : (r.index : Int) < r.stop
    · rw [if_pos hlt, if_pos hlt]
      cases he : r.enterArr fn 2 with
      | error e => exact Nat.le_add_right _ _
      | ok o =>
        cases o with
        | none => exact Nat.le_add_right _ _
        | some r1 =>
          have h1 := (r.enterArr_safe fn 2).of_ok he r1 rfl
          simp only
          cases hb : r1.readBytes with
          | error e => exact Nat.le_add_right _ _
          | ok p =>
            obtain ⟨b, r2⟩ := p
            have h2 : AdvS r r2 := h1.trans (r1.readBytes_safe.of_ok hb)
            have h3 := ih r2 fn (acc ++ [b])
            simp only
            rw [used_shift h2.adv fun _ _ => readBytesArray_adv _ _ _ _ _ _]
            simp only [AdvS] at h2
            omega
    · rw [if_neg hlt, if_neg hlt]; exact Nat.le_add_right _ _


theorem costPackedUInts_le : ∀ (fuel : Nat) (r : Reader) (stop : Int) (acc : List Nat),
    costPackedUInts fuel r stop ≤ 1 + used r (readPackedUInts fuel r stop acc) := by
  intro fuel
  induction fuel with
  | zero => intro r stop acc; exact Nat.le_add_right _ _
  | succ fuel ih =>
    intro r stop acc
    rw [costPackedUInts, readPackedUInts]
    by_cases hlt : (r.index : Int) < stop
    · rw [if_pos hlt, if_pos hlt]
      cases he : r.readUInt with
      | error e => exact Nat.le_add_right _ _
      | ok p =>
        obtain ⟨v, r1⟩ := p
        have h1 : AdvS r r1 := r.readUInt_safe.of_ok he
        have h3 := ih r1 stop (acc ++ [v])
        simp only
        rw [used_shift h1.adv fun _ _ => readPackedUInts_adv _ _ _ _ _ _]
        simp only [AdvS] at h1
        omega
    · rw [if_neg hlt, if_neg hlt]; exact Nat.le_add_right _ _

/-- Work is linear in the bytes used: at most 121 calls per byte (a field list of ≤ 40 fields costs
`1 + 3 * 40 = 121` calls before it has consumed a byte; for a nested struct they are paid for by the
≥ 1 byte of its size prefix), plus 3 per field of the outermost struct. Holds for every fuel. -/
theorem decode_cost_aux (t : Table) (nfc : NFC) (rank : String → Nat)
    (hR : Ranked t rank = true) : ∀ fuel : Nat,
    (∀ (k : Nat) (fs : List Field) (r : Reader), fieldsOK t rank k fs = true →
      costFields t nfc fuel fs r ≤
        1 + 3 * fs.length + 121 * used r (decodeFields t nfc fuel fs r)) ∧
    (∀ (k : Nat) (f : Field) (r : Reader), kindOK t rank k f.kind = true →
      costField t nfc fuel f r ≤ 2 + 121 * used r (decodeField t nfc fuel f r)) ∧
    (∀ (name : String) (r : Reader), (t.find name).isSome = true →
      costNested t nfc fuel name r ≤ 1 + 121 * used r (decodeNested t nfc fuel name r)) ∧
    (∀ (name : String) (fn : Nat) (r : Reader) (acc : List (List Value)),
      (t.find name).isSome = true →
      costMsgArr t nfc fuel name fn r acc ≤
        1 + 121 * used r (decodeMsgArr t nfc fuel name fn r acc)) := by
  intro fuel
  induction fuel with
  | zero =>
    refine ⟨fun k fs r _ => ?_, fun _ _ _ _ => ?_, fun _ _ _ => ?_, fun _ _ _ _ _ => ?_⟩
    · cases fs <;> (rw [costFields]; omega)
    · rw [costField]; omega
    · rw [costNested]; omega
    · rw [costMsgArr]; omega
  | succ fuel ih =>
    obtain ⟨ihFs, ihF, ihN, ihA⟩ := ih
    refine ⟨fun k fs r hok => ?_, fun k f r hok => ?_, fun name r hfind => ?_,
      fun name fn r acc hfind => ?_⟩
    · cases fs with
      | nil => rw [costFields]; omega
      | cons f fs =>
        simp only [fieldsOK, List.all_cons, Bool.and_eq_true] at hok
        rw [costFields, decodeFields_cons, List.length_cons]
        have hf := ihF k f r hok.1
        cases hd : decodeField t nfc fuel f r with
        | error e => rw [hd] at hf; simp only [Except.bind, used_error] at hf ⊢; omega
        | ok p =>
          obtain ⟨v, r'⟩ := p
          have hF := ihFs k fs r' hok.2
          rw [hd] at hf
          simp only [ok_bind]
          rw [used_map, used_shift (decodeField_adv hd) fun _ _ => decodeFields_adv]
          simp only [used_ok] at hf
          omega
    · rw [costField]
      cases hk : f.kind with
      | bytesArr =>
        have h := costBytesArray_le (r.data.length + 2) r f.num []
        rw [decodeField_bytesArr t nfc fuel r hk, used_map]
        simp only
        omega
      | uints =>
        rw [decodeField_uints t nfc fuel r hk]
        simp only
        rcases he : r.enterArr f.num 2 with _ | _ | r1
        · simp only [Except.bind]; omega
        · simp only [Except.bind]; omega
        · have h1 := (r.enterArr_safe f.num 2).of_ok he r1 rfl
          simp only [ok_bind]
          cases hu : r1.readUInt with
          | error e => simp only; omega
          | ok p =>
            obtain ⟨len, r2⟩ := p
            have h2 : AdvS r r2 := h1.trans (r1.readUInt_safe.of_ok hu)
            have h := costPackedUInts_le (r.data.length + 2) r2 (packedStop r2 len) []
            simp only [ok_bind]
            rw [used_map, used_shift h2.adv fun _ _ => readPackedUInts_adv _ _ _ _ _ _]
            simp only [AdvS, packedStop] at h2 h ⊢
            omega
      | msg name =>
        rw [hk] at hok
        simp only [kindOK, Bool.and_eq_true, decide_eq_true_eq] at hok
        rw [decodeField_succ, hk]
        simp only
        rcases he : r.enter f.num 2 f.strict with _ | _ | r1
        · simp only [Except.bind]; omega
        · simp only [Except.bind]; omega
        · have h1 := (r.enter_safe f.num 2 f.strict).of_ok he r1 rfl
          have hN := ihN name r1 hok.1
          simp only [ok_bind]
          rw [used_shift h1.adv fun _ _ h => (decodeNested_adv h).adv]
          simp only [AdvS] at h1
          omega
      | msgArr name =>
        rw [hk] at hok
        simp only [kindOK, Bool.and_eq_true, decide_eq_true_eq] at hok
        rw [decodeField_succ, hk]
        have hA := ihA name f.num r [] hok.1
        simp only
        rw [used_map]
        omega
      | _ => simp only; omega
    · rw [costNested, decodeNested_succ]
      cases hr : r.readUInt with
      | error e => simp only [Except.bind]; omega
      | ok p =>
        obtain ⟨size, r2⟩ := p
        have h2 : AdvS r r2 := r.readUInt_safe.of_ok hr
        cases hf : t.find name with
        | none => simp only; omega
        | some s =>
          obtain ⟨hs, hname⟩ := ranked_find hR hf
          have hlen := (schemaOK_dec hs).dec_len
          have hF := ihFs (rank s.name) s.dec { r2 with stop := packedStop r2 size }
            (schemaOK_dec hs).dec_ok
          simp only [ok_bind]
          rw [used_map,
            used_shift (r1 := { r2 with stop := packedStop r2 size }) h2.adv
              fun _ _ => decodeFields_adv]
          simp only [AdvS, packedStop] at h2 hF ⊢
          omega
    · rw [costMsgArr, decodeMsgArr_succ]
      by_cases hlt : (r.index : Int) < r.stop
      · rw [if_pos hlt, if_pos hlt]
        rcases he : r.enterArr fn 2 with _ | _ | r1
        · simp only [Except.bind]; omega
        · simp only [Except.bind]; omega
        · have h1 := (r.enterArr_safe fn 2).of_ok he r1 rfl
          have hN := ihN name r1 hfind
          simp only [ok_bind]
          cases hd : decodeNested t nfc fuel name r1 with
          | error e => rw [hd] at hN; simp only [AdvS, Except.bind, used_error] at h1 hN ⊢; omega
          | ok p =>
            obtain ⟨v, r2⟩ := p
            obtain ⟨vals, rfl⟩ := decodeNested_msg hd
            have a := h1.trans (decodeNested_adv hd)
            have hA := ihA name fn r2 (acc ++ [vals]) hfind
            rw [hd] at hN
            simp only [ok_bind]
            rw [used_shift a.adv fun _ _ => decodeMsgArr_adv]
            simp only [AdvS, used_ok] at h1 a hN ⊢
            omega
      · rw [if_neg hlt, if_neg hlt]; simp only [used_ok]; omega

/-- bytes used never exceed the bytes left, for a call that satisfies the frame condition -/
theorem used_le_of_adv {α : Type} (r : Reader) (x : Except Err (α × Reader))
    (h : ∀ a r', x = .ok (a, r') → Adv r r') : used r x ≤ r.data.length - r.index := by
  cases x with
  | error e => exact Nat.le_refl _
  | ok p =>
    obtain ⟨a, r'⟩ := p
    have := h a r' rfl
    simp only [Adv] at this
    simp only [used_ok]
    omega

/-- total number of calls and loop iterations of a top-level decode: at most `121 * (|data| + 1)`,
for every fuel -/
theorem costFields_le (t : Table) (nfc : NFC) (rank : String → Nat) (hR : Ranked t rank = true)
    (k : Nat) (fs : List Field) (hok : fieldsOK t rank k fs = true) (hlen : fs.length ≤ 40)
    (fuel : Nat) (data : Bytes) :
    costFields t nfc fuel fs (Reader.new data) ≤ 121 * (data.length + 1) := by
  have h := (decode_cost_aux t nfc rank hR fuel).1 k fs (Reader.new data) hok
  have hu := used_le_of_adv (Reader.new data) (decodeFields t nfc fuel fs (Reader.new data))
    (fun a r' he => decodeFields_adv he)
  simp only [Reader.new] at hu h ⊢
  omega

end LiskVerif.Codec
