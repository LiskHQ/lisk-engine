/-
`cacheDB.commit` and `Database.RevertDiff` in closed form: what one round of the commit loop does to
the database and to the diff, the committed database key by key, the three lists of the diff, and the
lookups after the writes of `RevertDiff`.
-/
import LiskVerif.Lemmas.DiffDB
import LiskVerif.Model.DiffDBCommit

namespace LiskVerif.DiffDB

/-! ### one round of the commit loop -/

theorem applyBatch_append (s : Store) (b b' : Batch) :
    applyBatch s (b ++ b') = applyBatch (applyBatch s b) b' :=
  List.foldl_append

/-- the loop of `Model/DiffDB.lean` applies, entry by entry, the calls the loop of the code hands to
the writer (`entryOut`) -/
theorem commitCache_cons (k : Bytes) (cv : CV) (r : Cache) (s : Store) (d : Diff) :
    commitCache ((k, cv) :: r) s d =
      commitCache r (applyBatch s (entryOut k cv d).1) (entryOut k cv d).2 := by
  rw [commitCache, entryOut]
  cases cv.init with
  | none => rfl
  | some i =>
    dsimp only
    split
    · rfl
    · split <;> rfl

/-- the loop with the batch as a value = the loop of `Model/DiffDB.lean` with the batch applied -/
theorem commitCache_eq_commitLoop (after : Bytes → CV → Option CV) (c : Cache) :
    ∀ (s : Store) (d : Diff),
      commitCache c s d = (applyBatch s (commitLoop after c d).2.1, (commitLoop after c d).2.2) := by
  induction c with
  | nil => exact fun _ _ => rfl
  | cons e r ih => intro s d; rw [commitCache_cons, ih, commitLoop, applyBatch_append]

/-- what `cacheDB.commit` writes for one entry, as the resulting lookup -/
def writtenBy (cv : CV) (old : Option Bytes) : Option Bytes :=
  match cv.init with
  | none => some cv.value
  | some _ => if cv.deleted then none else if cv.dirty then some cv.value else old

theorem slookup_entryOut (s : Store) (k : Bytes) (cv : CV) (d : Diff) (k' : Bytes) :
    slookup (applyBatch s (entryOut k cv d).1) k' =
      if k = k' then writtenBy cv (slookup s k) else slookup s k' := by
  have hs : ∀ v, slookup (applyBatch s [.set k v]) k' = if k = k' then some v else slookup s k' :=
    fun v => slookup_sset s k v k'
  have hd : slookup (applyBatch s [.del k]) k' = if k = k' then none else slookup s k' :=
    slookup_sdel s k k'
  unfold entryOut writtenBy
  cases cv.init with
  | none => exact hs _
  | some i =>
    dsimp only
    split
    · exact hd
    · split
      · exact hs _
      · by_cases hk : k = k'
        · rw [if_pos hk, hk]; rfl
        · rw [if_neg hk]; rfl

theorem nodup_entryOut {s : Store} (h : NoDupKeys s) (k : Bytes) (cv : CV) (d : Diff) :
    NoDupKeys (applyBatch s (entryOut k cv d).1) := by
  unfold entryOut
  cases cv.init with
  | none => exact nodup_sset s k _ h
  | some i =>
    dsimp only
    split
    · exact nodup_sdel s k h
    · split
      · exact nodup_sset s k _ h
      · exact h

theorem nodup_commitCache (c : Cache) : ∀ (s : Store) (d : Diff), NoDupKeys s →
    NoDupKeys (commitCache c s d).1 := by
  induction c with
  | nil => exact fun _ _ h => h
  | cons e r ih => intro s d h; rw [commitCache_cons]; exact ih _ _ (nodup_entryOut h _ _ _)

theorem nodup_commit (st : St) (h : NoDupKeys st.store) : NoDupKeys (commit st).1.store :=
  nodup_commitCache st.cache st.store {} h

/-- the committed database, key by key -/
theorem slookup_commitCache (c : Cache) : ∀ (s : Store) (d : Diff), NoDupKeys c → ∀ k,
    slookup (commitCache c s d).1 k =
      match clookup c k with
      | some cv => writtenBy cv (slookup s k)
      | none => slookup s k := by
  induction c with
  | nil => exact fun _ _ _ _ => rfl
  | cons e r ih =>
    intro s d hnd k
    have hr := List.nodup_cons.mp hnd
    rw [commitCache_cons, ih _ _ hr.2, slookup_entryOut, clookup]
    by_cases hk : e.1 = k
    · rw [if_pos hk, if_pos hk, ← hk, clookup_eq_get, AList.get_eq_none_iff.mpr hr.1]
    · rw [if_neg hk, if_neg hk]

/-! ### the diff in closed form -/

/-- the value `Commit` writes for an entry it lists as Added -/
def addNew (cv : CV) : Option Bytes :=
  match cv.init with
  | none => some cv.value
  | some _ => none

/-- the previous value `Commit` records for an entry it lists as Deleted -/
def delOld (cv : CV) : Option Bytes :=
  match cv.init with
  | some i => if cv.deleted then some i else none
  | none => none

/-- the previous value `Commit` records for an entry it lists as Updated -/
def updOld (cv : CV) : Option Bytes :=
  match cv.init with
  | some i => if cv.deleted then none else if cv.dirty then some i else none
  | none => none

def diffAdded (c : Cache) : List Bytes := (c.filterMap fun e => (addNew e.2).map (e.1, ·)).map (·.1)
def diffDeleted (c : Cache) : List KV := c.filterMap fun e => (delOld e.2).map (e.1, ·)
def diffUpdated (c : Cache) : List KV := c.filterMap fun e => (updOld e.2).map (e.1, ·)

theorem commitCache_diff (c : Cache) : ∀ (s : Store) (d : Diff),
    (commitCache c s d).2 =
      { added := d.added ++ diffAdded c, updated := d.updated ++ diffUpdated c,
        deleted := d.deleted ++ diffDeleted c } := by
  induction c with
  | nil => intro s d; simp [commitCache, diffAdded, diffUpdated, diffDeleted]
  | cons e r ih =>
    intro s d
    obtain ⟨k, i, v, di, dl⟩ := e
    rw [commitCache_cons, ih]
    cases i with
    | none => simp [entryOut, diffAdded, diffUpdated, diffDeleted, addNew, delOld, updOld]
    | some i =>
      cases dl with
      | true => simp [entryOut, diffAdded, diffUpdated, diffDeleted, addNew, delOld, updOld]
      | false => cases di <;> simp [entryOut, diffAdded, diffUpdated, diffDeleted, addNew, delOld, updOld]

/-- the diff of `Commit` depends on the overlay only -/
theorem commit_diff (st : St) :
    (commit st).2 = { added := diffAdded st.cache, updated := diffUpdated st.cache,
                      deleted := diffDeleted st.cache } := by
  rw [commit, commitCache_diff]; simp

theorem addNew_isSome {cv : CV} : (∃ v, addNew cv = some v) ↔ cv.init = none := by
  unfold addNew; cases cv.init <;> simp

theorem delOld_eq_some {cv : CV} {i : Bytes} :
    delOld cv = some i ↔ cv.init = some i ∧ cv.deleted = true := by
  unfold delOld; cases cv.init <;> cases cv.deleted <;> simp

theorem updOld_eq_some {cv : CV} {i : Bytes} :
    updOld cv = some i ↔ cv.init = some i ∧ cv.deleted = false ∧ cv.dirty = true := by
  unfold updOld; cases cv.init <;> cases cv.deleted <;> cases cv.dirty <;> simp

theorem mem_diffAdded (c : Cache) (hnd : NoDupKeys c) (k : Bytes) :
    k ∈ diffAdded c ↔ ∃ cv, clookup c k = some cv ∧ cv.init = none := by
  simp only [diffAdded, List.mem_map, Prod.exists, exists_and_right, exists_eq_right,
    mem_filterMap_assoc (fun _ => addNew) hnd, clookup_eq_get]
  exact ⟨fun ⟨v, cv, h1, h2⟩ => ⟨cv, h1, addNew_isSome.mp ⟨v, h2⟩⟩,
    fun ⟨cv, h1, h2⟩ => (addNew_isSome.mpr h2).elim fun v hv => ⟨v, cv, h1, hv⟩⟩

theorem mem_diffDeleted (c : Cache) (hnd : NoDupKeys c) (k i : Bytes) :
    (k, i) ∈ diffDeleted c ↔ ∃ cv, clookup c k = some cv ∧ cv.init = some i ∧ cv.deleted = true := by
  simp only [diffDeleted, mem_filterMap_assoc (fun _ => delOld) hnd, clookup_eq_get, delOld_eq_some]

theorem mem_diffUpdated (c : Cache) (hnd : NoDupKeys c) (k i : Bytes) :
    (k, i) ∈ diffUpdated c ↔
      ∃ cv, clookup c k = some cv ∧ cv.init = some i ∧ cv.deleted = false ∧ cv.dirty = true := by
  simp only [diffUpdated, mem_filterMap_assoc (fun _ => updOld) hnd, clookup_eq_get, updOld_eq_some]

/-- the three lists name pairwise different keys, each at most once -/
theorem diff_keys_nodup (c : Cache) (hnd : NoDupKeys c) :
    (diffAdded c ++ (diffUpdated c).map (·.1) ++ (diffDeleted c).map (·.1)).Nodup := by
  simp only [List.nodup_append, List.mem_append, List.mem_map, Prod.exists, exists_and_right,
    exists_eq_right, mem_diffAdded c hnd, mem_diffUpdated c hnd, mem_diffDeleted c hnd]
  refine ⟨⟨nodup_filterMap (fun _ => addNew) hnd, nodup_filterMap (fun _ => updOld) hnd, ?_⟩,
    nodup_filterMap (fun _ => delOld) hnd, ?_⟩
  · rintro a ⟨cv, h1, h2⟩ b ⟨i, cv', h3, h4, -⟩ rfl
    rw [h1] at h3; cases h3; rw [h2] at h4; cases h4
  · rintro a (⟨cv, h1, h2⟩ | ⟨i, cv, h1, -, h2, -⟩) b ⟨j, cv', h3, h4, h5⟩ rfl <;>
      rw [h1] at h3 <;> cases h3
    · rw [h2] at h4; cases h4
    · rw [h2] at h5; cases h5

/-- the lookup in one of the lists of the diff (`g` is `delOld` or `updOld`) -/
theorem slookup_diffList {c : Cache} (hnd : NoDupKeys c) (g : CV → Option Bytes) (k : Bytes) :
    slookup (c.filterMap fun e => (g e.2).map (e.1, ·)) k = (clookup c k).bind g := by
  rw [slookup_eq_get, clookup_eq_get]; exact get_filterMap (fun _ => g) hnd k

/-! ### lookups after the writes of `RevertDiff` -/

theorem slookup_foldl_sdel (ks : List Bytes) : ∀ (s : Store) (k : Bytes),
    slookup (ks.foldl (fun s k => sdel s k) s) k = if k ∈ ks then none else slookup s k := by
  induction ks with
  | nil => intro s k; simp
  | cons a r ih =>
    intro s k
    rw [List.foldl_cons, ih, slookup_sdel]
    by_cases h1 : k ∈ r
    · rw [if_pos h1, if_pos (List.mem_cons_of_mem _ h1)]
    · by_cases h2 : a = k
      · rw [if_neg h1, if_pos h2, if_pos (h2 ▸ List.mem_cons_self)]
      · rw [if_neg h1, if_neg h2, if_neg fun h => (List.mem_cons.mp h).elim (fun e => h2 e.symm) h1]

theorem slookup_foldl_sset (kvs : List KV) : ∀ (s : Store) (k : Bytes), NoDupKeys kvs →
    slookup (kvs.foldl (fun s kv => sset s kv.1 kv.2) s) k =
      match slookup kvs k with
      | some v => some v
      | none => slookup s k := by
  induction kvs with
  | nil => intro s k _; rfl
  | cons e r ih =>
    intro s k hnd
    have hr := List.nodup_cons.mp hnd
    rw [List.foldl_cons, ih _ _ hr.2, slookup_sset, slookup]
    by_cases h : e.1 = k
    · rw [if_pos h, if_pos h, ← h, slookup_eq_get, AList.get_eq_none_iff.mpr hr.1]
    · rw [if_neg h, if_neg h]

end LiskVerif.DiffDB
