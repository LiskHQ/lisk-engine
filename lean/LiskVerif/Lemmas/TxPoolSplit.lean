/- C14: the promotion round with operations interleaved into its verification window
(`Model/TxPoolSplit.lean`) preserves the pool invariant (`reorgSplit_inv`, from `promoteChecked_inv` and
`reorgApply_inv`: phase 2 is safe from any invariant state), and so do an announcement with a window
(`announceSplit_inv`) and every history built from them (`runX_inv`).  On a batch taken from the current list the
re-check of `promoteChecked` never fires (`promoteChecked_promotable`); the last section shows that with an empty
window the split round IS the sequential round (`reorgSplit_nil`). -/
import LiskVerif.Lemmas.TxPoolMore
import LiskVerif.Model.TxPoolSplit

namespace LiskVerif.TxPool

variable {cfg : Cfg} {p : Pool}

theorem head?_nonce_of_run {batch : List Tx} {first j : Nat} (hrun : batch.map (·.nonce) = List.range' first j)
    {t : Tx} (ht : batch.head? = some t) : t.nonce = first := by
  cases batch with
  | nil => cases ht
  | cons b r =>
    cases j with
    | zero => simp at hrun
    | succ j =>
      rw [List.map_cons, List.range'_succ] at hrun
      exact Option.some.inj ht ▸ (List.cons.inj hrun).1

/-- `Promote` with the continuity re-check (the batch is dropped unless it starts right after the highest
processable nonce) keeps the sender-list invariant for EVERY batch whose nonces are a run -/
theorem promoteChecked_inv {s : Nat} {a : Acct} (h : AcctInv cfg s a) (batch : List Tx) (first j : Nat)
    (hrun : batch.map (·.nonce) = List.range' first j) :
    AcctInv cfg s (a.promoteChecked batch) ∧ (a.promoteChecked batch).txs = a.txs := by
  unfold Acct.promoteChecked
  cases hh : batch.head? with
  | none =>
    -- an empty batch
    rw [List.head?_eq_none_iff.1 hh] at hrun ⊢
    exact promote_inv_run h [] first j hrun (fun _ _ => Or.inl (by simpa using congrArg List.length hrun.symm))
  | some t =>
    cases hl : a.proc.getLast? with
    | none => exact promote_inv_run h batch first j hrun (by simp [hl])
    | some hi =>
      simp only
      by_cases hc : (t.nonce != hi + 1) = true
      · rw [if_pos hc]; exact ⟨h, rfl⟩
      · rw [if_neg hc]
        refine promote_inv_run h batch first j hrun (fun hi' hx => Or.inr ?_)
        rw [← head?_nonce_of_run hrun hh, ← Option.some.inj (hl.symm.trans hx)]
        simpa using hc

/-- on the sequential path (the batch is a prefix of what is promotable NOW) the continuity re-check
never fires -/
theorem promoteChecked_promotable (a : Acct) (k : Nat) :
    a.promoteChecked (a.promotable.take k) = a.promote (a.promotable.take k) := by
  obtain ⟨first, m, hrun, hfirst⟩ := promotable_take_run a k
  unfold Acct.promoteChecked
  cases hh : (a.promotable.take k).head? with
  | none => rfl
  | some t =>
    cases hl : a.proc.getLast? with
    | none => rfl
    | some hi => simp [(head?_nonce_of_run hrun hh).trans (hfirst hi hl)]

/-! ### phase 1 -/

theorem reorgSnap_run (p : Pool) :
    ∀ sn ∈ reorgSnap p, ∃ first m, sn.prom.map (·.nonce) = List.range' first m := by
  intro sn hsn
  obtain ⟨e, he, hes⟩ := List.mem_filterMap.1 hsn
  by_cases hem : e.2.promotable.isEmpty = true
  · rw [if_pos hem] at hes; cases hes
  · rw [if_neg hem] at hes
    cases hes
    obtain ⟨first, m, hr, _⟩ := promotableNonces_spec e.2
    exact ⟨first, m, (promotable_map_nonce e.2).trans hr⟩

/-! ### phase 2 -/

/-- `Promote` on the goroutine's list object, for any `Promote` that keeps the sender-list invariant -/
theorem promoteIn_inv (h : C14Inv cfg p) (pr : Acct → List Tx → Acct) (alive : Bool)
    (s : Nat) (batch : List Tx)
    (hpr : ∀ a, AcctInv cfg s a → AcctInv cfg s (pr a batch) ∧ (pr a batch).txs = a.txs) :
    C14Inv cfg (promoteIn pr alive p s batch) := by
  unfold promoteIn
  cases alive with
  | false => exact h
  | true =>
    cases ha : findAcct p.accts s with
    | none => exact h
    | some a =>
      have := hpr a (h.acctOk _ (findAcct_some ha))
      exact setProc_inv h ha this.1 this.2

theorem reorgApply_inv (h : C14Inv cfg p) (v : Nat → Verdict) (alive : Bool) (sn : Snap)
    (hrun : ∃ first m, sn.prom.map (·.nonce) = List.range' first m) :
    C14Inv cfg (reorgApply Acct.promoteChecked v alive p sn) := by
  obtain ⟨first, m, hrun⟩ := hrun
  unfold reorgApply
  simp only
  cases firstInvalid v (sn.procs ++ sn.prom) with
  | none => exact promoteIn_inv h _ alive sn.sender sn.prom (fun _ hai => promoteChecked_inv hai _ first m hrun)
  | some fi =>
    simp only
    apply foldl_remove_inv
    by_cases hc : fi ≥ sn.procs.length + 1
    · rw [if_pos hc]
      exact promoteIn_inv h _ alive sn.sender _ (fun _ hai => promoteChecked_inv hai _ first
        (min (fi - sn.procs.length) m) (by rw [List.map_take, hrun, take_range']))
    · rw [if_neg hc]
      exact promoteIn_inv h _ alive sn.sender [] (fun _ hai => ⟨hai, rfl⟩)

/-! ### the window -/

/-- the bookkeeping does not change what the operations do -/
theorem applyOpT_fst (cfg : Cfg) (st : Pool × List Nat) (op : Op) :
    (applyOpT cfg st op).1 = applyOp cfg st.1 op := by
  cases op with
  | reverted l => exact (List.foldl_hom Prod.fst fun _ _ => rfl).symm
  | _ => rfl

theorem foldl_applyOpT_fst (cfg : Cfg) (ops : List Op) (st : Pool × List Nat) :
    (ops.foldl (applyOpT cfg) st).1 = ops.foldl (applyOp cfg) st.1 :=
  (List.foldl_hom Prod.fst fun x y => (applyOpT_fst cfg x y).symm).symm

theorem reorgSplit_inv (hmax : 1 ≤ cfg.maxTx) (hper : 1 ≤ cfg.maxPerAcct)
    (h : C14Inv cfg p) (v : Nat → Verdict) (inner : List Op) : C14Inv cfg (reorgSplit cfg v p inner) := by
  unfold reorgSplit reorgSplitWith
  refine List.foldlRecOn (motive := C14Inv cfg) _ _ ?_
    (fun _ hq sn hsn => reorgApply_inv hq v _ sn (reorgSnap_run p sn hsn))
  rw [foldl_applyOpT_fst]
  exact foldl_applyOp_inv hmax hper inner h

theorem announceSplit_inv (hmax : 1 ≤ cfg.maxTx) (hper : 1 ≤ cfg.maxPerAcct)
    (h : C14Inv cfg p) (x : AddArg) (inner : List Op) : C14Inv cfg (announceSplit cfg p x inner) := by
  unfold announceSplit
  have hq := foldl_applyOp_inv hmax hper inner h
  simp only
  split
  · exact hq
  · exact add_inv hmax hper hq x.tx x.v x.pubOk x.tie

theorem applyOpX_inv (hmax : 1 ≤ cfg.maxTx) (hper : 1 ≤ cfg.maxPerAcct)
    (h : C14Inv cfg p) (op : OpX) : C14Inv cfg (applyOpX cfg p op) := by
  cases op with
  | plain op => exact applyOp_inv hmax hper h op
  | reorgx v inner => exact reorgSplit_inv hmax hper h v inner
  | annx x inner => exact announceSplit_inv hmax hper h x inner

theorem runX_inv (hmax : 1 ≤ cfg.maxTx) (hper : 1 ≤ cfg.maxPerAcct) (ops : List OpX) :
    C14Inv cfg (runX cfg ops) :=
  List.foldlRecOn ops _ (init_inv cfg) (fun _ hq op _ => applyOpX_inv hmax hper hq op)

/-! ### the empty window: the split round is the sequential round -/

/-- phase 2 right after phase 1 is the goroutine body of the sequential model -/
theorem reorgApply_eq_reorgAcct (v : Nat → Verdict) {q : Pool} {s : Nat} {a : Acct}
    (ha : findAcct q.accts s = some a) (hne : ¬ a.promotable.isEmpty = true) :
    reorgApply Acct.promoteChecked v true q { sender := s, procs := a.processables, prom := a.promotable } =
      reorgAcct v q s := by
  unfold reorgApply reorgAcct promoteIn
  simp only [ha, if_neg hne, if_true]
  cases firstInvalid v (a.processables ++ a.promotable) with
  | none => simp only [List.take_length (l := a.promotable) ▸ promoteChecked_promotable a a.promotable.length]
  | some fi =>
    simp only
    by_cases hc : fi ≥ a.processables.length + 1
    · simp only [if_pos hc, promoteChecked_promotable]
    · simp only [if_neg hc]

/-- the snapshot taken by the goroutine of one registered list -/
def snapOf (e : Nat × Acct) : Option Snap :=
  if e.2.promotable.isEmpty then none
  else some { sender := e.1, procs := e.2.processables, prom := e.2.promotable }

theorem reorgSnap_eq (p : Pool) : reorgSnap p = p.accts.filterMap snapOf := rfl

theorem foldl_split_eq_seq (v : Nat → Verdict) (al : List Nat) :
    ∀ (es : List (Nat × Acct)) (q : Pool), C14Inv cfg q → (es.map (·.1)).Nodup →
      (∀ e ∈ es, findAcct q.accts e.1 = some e.2) →
      (∀ e ∈ es, ∀ sn, snapOf e = some sn → al.contains sn.sender = true) →
      (es.filterMap snapOf).foldl (fun q sn => reorgApply Acct.promoteChecked v (al.contains sn.sender) q sn) q =
        (es.map (·.1)).foldl (reorgAcct v) q := by
  intro es
  induction es with
  | nil => intro q _ _ _ _; rfl
  | cons e r ih =>
    intro q h hnd hfind hal
    rw [List.map_cons, List.nodup_cons] at hnd
    have he := hfind e List.mem_cons_self
    have hrest : ∀ q', C14Inv cfg q' → (∀ s', s' ≠ e.1 → findAcct q'.accts s' = findAcct q.accts s') →
        (r.filterMap snapOf).foldl (fun q sn => reorgApply Acct.promoteChecked v (al.contains sn.sender) q sn) q' =
          (r.map (·.1)).foldl (reorgAcct v) q' := by
      intro q' h' hframe
      apply ih q' h' hnd.2
      · intro x hx
        have hne : x.1 ≠ e.1 := fun hh => hnd.1 (hh ▸ List.mem_map.2 ⟨x, hx, rfl⟩)
        rw [hframe x.1 hne]
        exact hfind x (List.mem_cons_of_mem _ hx)
      · intro x hx; exact hal x (List.mem_cons_of_mem _ hx)
    by_cases hemp : e.2.promotable.isEmpty = true
    · have hs : snapOf e = none := by unfold snapOf; rw [if_pos hemp]
      have hid : reorgAcct v q e.1 = q := by
        unfold reorgAcct; simp only [he, if_pos hemp]
      rw [List.filterMap_cons, hs, List.map_cons, List.foldl_cons, hid]
      exact hrest q h (fun _ _ => rfl)
    · have hs : snapOf e = some { sender := e.1, procs := e.2.processables, prom := e.2.promotable } := by
        unfold snapOf; rw [if_neg hemp]
      rw [List.filterMap_cons, hs, List.map_cons, List.foldl_cons, List.foldl_cons]
      have hc := hal e List.mem_cons_self _ hs
      simp only at hc
      simp only [hc]
      rw [reorgApply_eq_reorgAcct v he hemp]
      exact hrest _ (reorgAcct_inv h v e.1) (fun s' hs' => (reorgAcct_exact h v e.1).2 s' hs')

/-- with nothing interleaved the two-phase round IS the sequential round (same pool, same list order) -/
theorem reorgSplit_nil (h : C14Inv cfg p) (v : Nat → Verdict) :
    reorgSplit cfg v p [] = reorg v p := by
  unfold reorgSplit reorgSplitWith reorg
  simp only [List.foldl_nil]
  rw [reorgSnap_eq]
  apply foldl_split_eq_seq v _ p.accts p h h.acctsNodup
  · intro e he; exact findAcct_of_mem h.acctsNodup he
  · intro e he sn hs
    rw [List.contains_iff_mem]
    exact List.mem_map.2 ⟨sn, List.mem_filterMap.2 ⟨e, he, hs⟩, rfl⟩

end LiskVerif.TxPool
