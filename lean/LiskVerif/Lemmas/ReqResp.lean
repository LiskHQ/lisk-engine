/-
C17 — invariant of the fixed request/response protocol (Model/ReqResp.lean) and its preservation
by every action of the interleaving relation.

`Inv` splits into `InvA` (lock, pending map, correlation; it tolerates forged responses) and `Book`
(ids, the wire, outcomes).  Each is preserved statement by statement (`step_cases`,
Lemmas/ReqRespStep.lean): the clauses that read nothing the statement writes are carried over as
they are, the others follow from the update lemmas of `LockOk`, `ChSound`, `Uniq` and `forall_set'`.
The last two sections read the invariant, for any state that has it: correlation, delivery target, the exact pending
map, no leak; and progress (`Inv.progress`): some thread can execute a statement that waits for no `mp.send`, unless
all are done or inside one.
-/
import LiskVerif.Lemmas.ReqRespStep
import LiskVerif.Lemmas.AList

namespace LiskVerif.ReqResp

/-- pcs between the creation of an attempt and the end of its `select` -/
def RPc.preWait : RPc → Bool
  | .regLock | .regStore | .regUnlock | .send | .wait => true
  | _ => false

/-- pcs of an attempt whose request is not yet on the wire -/
def RPc.preSend : RPc → Bool
  | .regLock | .regStore | .regUnlock | .send => true
  | _ => false

/- The invariant in the flat form the property theorems of Props/C17*.lean read: each of them is a handful of
these clauses (one or two for most, six for `C17_fresh_ids`).  The proofs work with the grouped form `InvA ∧ Book`
(`inv_iff`). -/
structure Inv (P : Nat → Nat) (s : State) : Prop where
  /-- a requester is at a lock-holding pc iff it is the holder of `resMu` -/
  lockReq : ∀ (i : Nat) (r : Req), s.reqs[i]? = some r → (r.pc.holds = true ↔ s.lock = some (.req i))
  lockHdl : ∀ (j : Nat) (h : Hdl), s.hdls[j]? = some h → (h.pc.holds = true ↔ s.lock = some (.hdl j))
  /-- the holder exists -/
  lockExR : ∀ i, s.lock = some (.req i) → i < s.reqs.length
  lockExH : ∀ j, s.lock = some (.hdl j) → j < s.hdls.length
  /-- from registration to unregistration the entry of the attempt is in the map -/
  regd : ∀ (i : Nat) (r : Req), s.reqs[i]? = some r → r.pc.registered = true → s.resCh.lookup r.id = some i
  /-- every entry of the map belongs to the attempt that registered it -/
  chSound : ∀ (id i : Nat), (id, i) ∈ s.resCh → ∃ r : Req, s.reqs[i]? = some r ∧ r.id = id ∧ r.pc.registered = true
  /-- ids are fresh -/
  fresh : ∀ (i : Nat) (r : Req), s.reqs[i]? = some r → r.pc ≠ .start → r.id < s.nextId
  uniq : ∀ (i i' : Nat) (r r' : Req), s.reqs[i]? = some r → s.reqs[i']? = some r' → i ≠ i' →
    r.pc ≠ .start → r'.pc ≠ .start → r.id ≠ r'.id
  /-- whatever sits in a requester's channel / was received is the handler's answer to its own id -/
  bufOk : ∀ (i : Nat) (r : Req) (m : Resp), s.reqs[i]? = some r → r.buf = some m → m = ⟨r.id, P r.id⟩
  outOk : ∀ (i : Nat) (r : Req) (m : Resp), s.reqs[i]? = some r → r.out = some (.got m) → m = ⟨r.id, P r.id⟩
  outNone : ∀ (i : Nat) (r : Req), s.reqs[i]? = some r → r.pc.preWait = true → r.out = none
  /-- responses in flight / being handled are genuine answers of the remote handler -/
  msgOk : ∀ (j : Nat) (h : Hdl), s.hdls[j]? = some h → h.msg.payload = P h.msg.rid
  netOk : ∀ m : Resp, m ∈ s.net → m.payload = P m.rid
  /-- the channel a handler is about to send on is the one registered under the message's id -/
  target : ∀ (j : Nat) (h : Hdl) (ch : Nat), s.hdls[j]? = some h → h.pc = .deliver ch → s.resCh.lookup h.msg.rid = some ch
  /-- every id is used for at most one request on the wire, and responses only answer such requests -/
  sentLt : ∀ id : Nat, id ∈ s.sent → id < s.nextId
  sentNodup : s.sent.Nodup
  notSent : ∀ (i : Nat) (r : Req), s.reqs[i]? = some r → r.pc.preSend = true → r.id ∉ s.sent
  netSent : ∀ m : Resp, m ∈ s.net → m.rid ∈ s.sent
  msgSent : ∀ (j : Nat) (h : Hdl), s.hdls[j]? = some h → h.msg.rid ∈ s.sent
  /-- ghost: once a response was handed over during the select, the attempt cannot time out -/
  ghost : ∀ (i : Nat) (r : Req), s.reqs[i]? = some r → r.arrived = true →
    (r.pc = .wait ∧ r.buf.isSome = true) ∨ (∃ m, r.out = some (.got m)) ∨ r.out = some .cancelled

/-! ### lists of thread records -/

/-- a clause about every element of a list, after one element is replaced: the other elements pass
from `Q` to `Q'`, the new element satisfies `Q'` -/
theorem forall_set' {α : Type} {Q Q' : Nat → α → Prop} {l : List α} {i : Nat} {x x' : α}
    (h : ∀ k y, l[k]? = some y → Q k y) (hi : l[i]? = some x)
    (hQ : ∀ k y, k ≠ i → l[k]? = some y → Q k y → Q' k y) (hx : Q i x → Q' i x') :
    ∀ k y, (l.set i x')[k]? = some y → Q' k y := by
  intro k y hk
  rw [List.getElem?_set] at hk
  split at hk
  · next he => subst he; split at hk <;> cases hk; exact hx (h i x hi)
  · next hne => exact hQ k y (Ne.symm hne) hk (h k y hk)

/-- … when the clause itself does not change: only the new element has to be looked at -/
theorem forall_set {α : Type} {Q : Nat → α → Prop} {l : List α} {i : Nat} {x x' : α}
    (h : ∀ k y, l[k]? = some y → Q k y) (hi : l[i]? = some x) (hx : Q i x → Q i x') :
    ∀ k y, (l.set i x')[k]? = some y → Q k y :=
  forall_set' h hi (fun _ _ _ _ h => h) hx

theorem forall_push {α : Type} {Q : Nat → α → Prop} {l : List α} {x : α}
    (h : ∀ k y, l[k]? = some y → Q k y) (hx : Q l.length x) :
    ∀ k y, (l ++ [x])[k]? = some y → Q k y := by
  intro k y hk
  rcases Nat.lt_trichotomy k l.length with hlt | rfl | hgt
  · rw [List.getElem?_append_left hlt] at hk; exact h k y hk
  · simp at hk; subst hk; exact hx
  · rw [List.getElem?_eq_none (by simp; omega)] at hk; cases hk

/-! ### the lock -/

/-- the threads of one kind (`c i` is the id of the `i`-th, `f` tests its record for a lock-holding pc)
agree with the holder of `resMu` -/
structure Held {α : Type} (f : α → Bool) (c : Nat → Tid) (lock : Option Tid) (l : List α) : Prop where
  iff : ∀ (i : Nat) (x : α), l[i]? = some x → (f x = true ↔ lock = some (c i))
  ex : ∀ i, lock = some (c i) → i < l.length

namespace Held
variable {α : Type} {f : α → Bool} {c : Nat → Tid} {lock : Option Tid} {l : List α} {i : Nat} {x x' : α}

theorem set (h : Held f c lock l) (hi : l[i]? = some x) (hf : f x' = f x) : Held f c lock (l.set i x') :=
  ⟨forall_set h.iff hi (hf ▸ ·), fun k hk => Nat.lt_of_lt_of_eq (h.ex k hk) List.length_set.symm⟩

theorem push (h : Held f c lock l) (hf : f x = false) : Held f c lock (l ++ [x]) :=
  ⟨forall_push h.iff ⟨fun e => (nomatch hf ▸ e), fun e => absurd (h.ex _ e) (Nat.lt_irrefl _)⟩,
    fun k hk => by rw [List.length_append]; exact Nat.lt_add_right _ (h.ex k hk)⟩

/-- the `i`-th thread of this kind takes the free lock -/
theorem acq (hc : ∀ {i j}, c i = c j → i = j) (h : Held f c lock l) (hl : lock = none)
    (hi : l[i]? = some x) (hf : f x' = true) : Held f c (some (c i)) (l.set i x') := by
  subst hl
  exact ⟨forall_set' h.iff hi
      (fun k y hk _ hy => ⟨fun e => (nomatch hy.mp e), fun e => absurd (hc (Option.some.inj e)).symm hk⟩)
      fun _ => ⟨fun _ => rfl, fun _ => hf⟩,
    fun k hk => by
      cases hc (Option.some.inj hk); rw [List.length_set]; exact (List.getElem?_eq_some_iff.mp hi).1⟩

/-- the `i`-th thread of this kind, which holds the lock, releases it -/
theorem rel (hc : ∀ {i j}, c i = c j → i = j) (h : Held f c lock l) (hi : l[i]? = some x)
    (hx : f x = true) (hf : f x' = false) : Held f c none (l.set i x') := by
  have hl := (h.iff i x hi).mp hx
  subst hl
  exact ⟨forall_set' h.iff hi
      (fun k y hk _ hy => ⟨fun e => absurd (hc (Option.some.inj (hy.mp e))).symm hk, nofun⟩)
      fun _ => ⟨fun e => (nomatch hf ▸ e), nofun⟩, nofun⟩

/-- the lock passes between `none` and a thread of another kind -/
theorem other {lock' : Option Tid} (h : Held f c lock l) (hl : ∀ k, lock ≠ some (c k))
    (hl' : ∀ k, lock' ≠ some (c k)) : Held f c lock' l :=
  ⟨fun k y hy => ⟨fun e => absurd ((h.iff k y hy).mp e) (hl k), fun e => absurd e (hl' k)⟩,
    fun k e => absurd e (hl' k)⟩

end Held

/-- `resMu` is held by exactly the thread (if any) that is at a lock-holding pc -/
structure LockOk (lock : Option Tid) (reqs : List Req) (hdls : List Hdl) : Prop where
  req : Held (·.pc.holds) .req lock reqs
  hdl : Held (·.pc.holds) .hdl lock hdls

namespace LockOk
variable {lock : Option Tid} {reqs : List Req} {hdls : List Hdl} {i j : Nat} {r r' : Req} {h h' : Hdl}

theorem acqReq (hL : LockOk lock reqs hdls) (hl : lock = none) (hr : reqs[i]? = some r)
    (hh : r'.pc.holds = true) : LockOk (some (.req i)) (reqs.set i r') hdls :=
  ⟨hL.req.acq Tid.req.inj hl hr hh, hL.hdl.other (fun _ e => nomatch hl.symm.trans e) fun _ => nofun⟩

theorem acqHdl (hL : LockOk lock reqs hdls) (hl : lock = none) (hj : hdls[j]? = some h)
    (hh : h'.pc.holds = true) : LockOk (some (.hdl j)) reqs (hdls.set j h') :=
  ⟨hL.req.other (fun _ e => nomatch hl.symm.trans e) fun _ => nofun, hL.hdl.acq Tid.hdl.inj hl hj hh⟩

theorem relReq (hL : LockOk lock reqs hdls) (hr : reqs[i]? = some r) (hp : r.pc.holds = true)
    (hh : r'.pc.holds = false) : LockOk none (reqs.set i r') hdls :=
  ⟨hL.req.rel Tid.req.inj hr hp hh,
    hL.hdl.other (fun _ e => nomatch ((hL.req.iff i r hr).mp hp).symm.trans e) fun _ => nofun⟩

theorem relHdl (hL : LockOk lock reqs hdls) (hj : hdls[j]? = some h) (hp : h.pc.holds = true)
    (hh : h'.pc.holds = false) : LockOk none reqs (hdls.set j h') :=
  ⟨hL.req.other (fun _ e => nomatch ((hL.hdl.iff j h hj).mp hp).symm.trans e) fun _ => nofun,
    hL.hdl.rel Tid.hdl.inj hj hp hh⟩

/-- while a requester holds the lock no handler is about to send on a channel -/
theorem no_deliver (hL : LockOk lock reqs hdls) (hr : reqs[i]? = some r) (hp : r.pc.holds = true)
    (hj : hdls[j]? = some h) (ch : Nat) : h.pc ≠ .deliver ch := fun e =>
  nomatch ((hL.req.iff i r hr).mp hp).symm.trans ((hL.hdl.iff j h hj).mp (e ▸ rfl))

end LockOk

/-! ### the pending map -/

theorem lookup_erase_ne (m : List (Nat × Nat)) (a b : Nat) (h : a ≠ b) :
    (eraseId m b).lookup a = m.lookup a := by
  rw [← AList.get_eq_lookup, ← AList.get_eq_lookup]; exact (AList.get_erase_bne m b a).trans (if_neg h)

theorem mem_of_lookup (m : List (Nat × Nat)) (a v : Nat) (h : m.lookup a = some v) : (a, v) ∈ m :=
  AList.mem_of_get (AList.get_eq_lookup m a ▸ h)

theorem lookup_eq_none_of_not_mem (m : List (Nat × Nat)) (a : Nat) (h : ∀ v, (a, v) ∉ m) : m.lookup a = none := by
  cases hl : m.lookup a with
  | none => rfl
  | some v => exact absurd (mem_of_lookup m a v hl) (h v)

theorem lookup_store_self (m : List (Nat × Nat)) (id ch : Nat) : (storeId m id ch).lookup id = some ch := by
  rw [← AList.get_eq_lookup]; exact (AList.get_put_bne m id ch id).trans (if_pos rfl)

theorem lookup_store_ne (m : List (Nat × Nat)) (a id ch : Nat) (h : a ≠ id) :
    (storeId m id ch).lookup a = m.lookup a := by
  rw [← AList.get_eq_lookup, ← AList.get_eq_lookup]; exact (AList.get_put_bne m id ch a).trans (if_neg h)

theorem mem_erase (m : List (Nat × Nat)) (a b v : Nat) : (a, v) ∈ eraseId m b ↔ (a, v) ∈ m ∧ a ≠ b := by
  simp [eraseId]

/-- every entry of the map belongs to the attempt that registered it -/
def ChSound (resCh : List (Nat × Nat)) (reqs : List Req) : Prop :=
  ∀ (id i : Nat), (id, i) ∈ resCh → ∃ r : Req, reqs[i]? = some r ∧ r.id = id ∧ r.pc.registered = true

namespace ChSound
variable {resCh : List (Nat × Nat)} {reqs : List Req} {i id : Nat} {r r' : Req}

theorem set (h : ChSound resCh reqs) (hr : reqs[i]? = some r)
    (hreg : r.pc.registered = true → r'.id = r.id ∧ r'.pc.registered = true) :
    ChSound resCh (reqs.set i r') := by
  intro id k hm
  obtain ⟨rk, hk, hid, hp⟩ := h id k hm
  by_cases hik : i = k
  · subst hik
    cases hr.symm.trans hk
    exact ⟨r', List.getElem?_set_self (List.getElem?_eq_some_iff.mp hr).1, (hreg hp).1.trans hid, (hreg hp).2⟩
  · exact ⟨rk, (List.getElem?_set_ne hik).trans hk, hid, hp⟩

/-- `resCh[id] = ch` by a requester that was not registered -/
theorem store (h : ChSound resCh reqs) (hr : reqs[i]? = some r) (hn : r.pc.registered = false)
    (hid : r'.id = id) (hp : r'.pc.registered = true) : ChSound (storeId resCh id i) (reqs.set i r') := by
  intro id' k hm
  rcases List.mem_cons.mp hm with e | hm
  · cases e
    exact ⟨r', List.getElem?_set_self (List.getElem?_eq_some_iff.mp hr).1, hid, hp⟩
  · exact h.set hr (fun e => nomatch hn ▸ e) id' k ((mem_erase ..).mp hm).1

/-- `delete(resCh, id)` by the requester working on `id` -/
theorem erase (h : ChSound resCh reqs) (hr : reqs[i]? = some r) (hi : r.id = id) :
    ChSound (eraseId resCh id) (reqs.set i r') := by
  intro id' k hm
  obtain ⟨hm, hne⟩ := (mem_erase ..).mp hm
  obtain ⟨rk, hk, hid, hp⟩ := h id' k hm
  have hik : i ≠ k := fun e => by subst e; cases hr.symm.trans hk; exact hne (hid.symm.trans hi)
  exact ⟨rk, (List.getElem?_set_ne hik).trans hk, hid, hp⟩

theorem push (h : ChSound resCh reqs) : ChSound resCh (reqs ++ [r]) := fun id k hm =>
  have ⟨rk, hk, hid, hp⟩ := h id k hm
  ⟨rk, (List.getElem?_append_left (List.getElem?_eq_some_iff.mp hk).1).trans hk, hid, hp⟩

end ChSound

/-! ### lock, pending map and correlation, with forged responses -/

/-- a response is the remote handler's answer to its id, or one of the forged ones -/
def okMsg (P : Nat → Nat) (F : Resp → Prop) (m : Resp) : Prop := m.payload = P m.rid ∨ F m

/-- what a requester has in its channel or has received answers its own id -/
def Corr (P : Nat → Nat) (F : Resp → Prop) (r : Req) : Prop :=
  ∀ m, r.buf = some m ∨ r.out = some (.got m) → m.rid = r.id ∧ okMsg P F m

/-- the part of the invariant that survives forged responses: the network may, besides answering,
inject any response satisfying `F` -/
structure InvA (P : Nat → Nat) (F : Resp → Prop) (s : State) : Prop where
  lock : LockOk s.lock s.reqs s.hdls
  chSound : ChSound s.resCh s.reqs
  /-- the channel a handler is about to send on is the one registered under the message's id -/
  target : ∀ (j : Nat) (h : Hdl), s.hdls[j]? = some h → ∀ ch, h.pc = .deliver ch → s.resCh.lookup h.msg.rid = some ch
  corr : ∀ (i : Nat) (r : Req), s.reqs[i]? = some r → Corr P F r
  msgA : ∀ (j : Nat) (h : Hdl), s.hdls[j]? = some h → okMsg P F h.msg
  netA : ∀ m ∈ s.net, okMsg P F m

theorem invA_init (P : Nat → Nat) (F : Resp → Prop) : InvA P F init := by
  refine ⟨⟨⟨?_, ?_⟩, ⟨?_, ?_⟩⟩, ?_, ?_, ?_, ?_, ?_⟩ <;> simp [init, ChSound]

/-- a statement of requester `i` that leaves the map alone and keeps, if the record is registered, its id and
registration; the lock may change hands (`hL`); `nextId` and `sent`, which `InvA` does not read, may change -/
theorem InvA.setReqLock {P : Nat → Nat} {F : Resp → Prop} {s : State} {i n : Nat} {t : List Nat} {r r' : Req}
    {l : Option Tid} (hI : InvA P F s) (hr : s.reqs[i]? = some r) (hL : LockOk l (s.reqs.set i r') s.hdls)
    (hreg : r.pc.registered = true → r'.id = r.id ∧ r'.pc.registered = true)
    (hc : Corr P F r → Corr P F r') :
    InvA P F { s with lock := l, reqs := s.reqs.set i r', nextId := n, sent := t } :=
  { hI with lock := hL, chSound := hI.chSound.set hr hreg, corr := forall_set hI.corr hr hc }

/-- … that keeps the record's lock-holding class, so that the lock stays where it is -/
theorem InvA.setReq {P : Nat → Nat} {F : Resp → Prop} {s : State} {i n : Nat} {t : List Nat} {r r' : Req}
    (hI : InvA P F s) (hr : s.reqs[i]? = some r) (hh : r'.pc.holds = r.pc.holds)
    (hreg : r.pc.registered = true → r'.id = r.id ∧ r'.pc.registered = true)
    (hc : Corr P F r → Corr P F r') : InvA P F { s with reqs := s.reqs.set i r', nextId := n, sent := t } :=
  hI.setReqLock hr ⟨hI.lock.req.set hr hh, hI.lock.hdl⟩ hreg hc

/-- a statement of handler `j` that leaves the map and the message alone; `ht`: what it is about to send on is
registered under the message's id; `unknown`, which `InvA` does not read, may change -/
theorem InvA.setHdl {P : Nat → Nat} {F : Resp → Prop} {s : State} {j : Nat} {u : List Nat} {m : Resp} {pc pc' : HPc}
    {l : Option Tid} (hI : InvA P F s) (hj : s.hdls[j]? = some ⟨pc, m⟩) (hL : LockOk l s.reqs (s.hdls.set j ⟨pc', m⟩))
    (ht : ∀ ch, pc' = .deliver ch → s.resCh.lookup m.rid = some ch) :
    InvA P F { s with lock := l, hdls := s.hdls.set j ⟨pc', m⟩, unknown := u } :=
  { hI with lock := hL, target := forall_set hI.target hj fun _ => ht, msgA := forall_set hI.msgA hj id }

/- The records in `step_cases` have literal pcs, so a clause whose reading of the state is the same
before and after a statement has literally the same meaning: `{ hI with … }` names the clauses that
change. -/
theorem invA_step {P : Nat → Nat} {F : Resp → Prop} {s s' : State} {a : Action} (hI : InvA P F s)
    (hs : step P s a = some s') : InvA P F s' :=
  step_cases hs
    (start := fun i r hr => hI.setReq hr rfl nofun fun _ _ h => h.elim nofun nofun)
    (regLock := fun i r hr hl => hI.setReqLock hr (hI.lock.acqReq hl hr rfl) nofun id)
    (regStore := fun i r hr => { hI with
      lock := ⟨hI.lock.req.set hr rfl, hI.lock.hdl⟩
      chSound := hI.chSound.store hr rfl rfl rfl
      target := fun j h hj ch e => absurd e (hI.lock.no_deliver hr rfl hj ch)
      corr := forall_set hI.corr hr id })
    (regUnlock := fun i r hr => hI.setReqLock hr (hI.lock.relReq hr rfl rfl) (fun _ => ⟨rfl, rfl⟩) id)
    (unLock := fun i r hr hl => hI.setReqLock hr (hI.lock.acqReq hl hr rfl) (fun _ => ⟨rfl, rfl⟩) id)
    (unDelete := fun i r hr => { hI with
      lock := ⟨hI.lock.req.set hr rfl, hI.lock.hdl⟩
      chSound := hI.chSound.erase hr rfl
      target := fun j h hj ch e => absurd e (hI.lock.no_deliver hr rfl hj ch)
      corr := forall_set hI.corr hr id })
    (retry := fun i r rt hr => hI.setReqLock hr (hI.lock.relReq hr rfl rfl) nofun id)
    (ret := fun i r hr _ => hI.setReqLock hr (hI.lock.relReq hr rfl rfl) nofun id)
    (sendOk := fun i r hr => hI.setReq hr rfl (fun _ => ⟨rfl, rfl⟩) id)
    (sendErr := fun i r hr => hI.setReq hr rfl (fun _ => ⟨rfl, rfl⟩) fun h m e => h m (e.imp_right nofun))
    (recv := fun i r m hr => hI.setReq hr rfl (fun _ => ⟨rfl, rfl⟩)
      fun h m' e => h m' (e.elim nofun fun e => .inl (by cases e; rfl)))
    (timeout := fun i r hr => hI.setReq hr rfl (fun _ => ⟨rfl, rfl⟩) fun h m e => h m (e.imp_right nofun))
    (cancel := fun i r hr => hI.setReq hr rfl (fun _ => ⟨rfl, rfl⟩) fun h m e => h m (e.imp_right nofun))
    (hLock := fun j m hj hl => hI.setHdl hj (hI.lock.acqHdl hl hj rfl) nofun)
    (found := fun j m ch hj hl => hI.setHdl hj ⟨hI.lock.req, hI.lock.hdl.set hj rfl⟩ fun _ e => by cases e; exact hl)
    (unknown := fun j m hj _ => hI.setHdl hj ⟨hI.lock.req, hI.lock.hdl.set hj rfl⟩ nofun)
    (deliver := fun j m ch r hj hr =>
      -- the message carries the id the owner of the channel works on
      have ⟨r0, hr0, hid, _⟩ := hI.chSound _ _ (mem_of_lookup _ _ _ (hI.target j _ hj ch rfl))
      have hid : r.id = m.rid := by cases hr.symm.trans hr0; exact hid
      { hI with
        lock := ⟨hI.lock.req.set hr rfl, hI.lock.hdl.set hj rfl⟩
        chSound := hI.chSound.set hr (fun h => ⟨rfl, h⟩)
        target := forall_set hI.target hj (fun _ => nofun)
        corr := forall_set hI.corr hr (fun hc m' h => by
          rcases h with h | h
          · cases hb : r.buf with
            | none => rw [hb] at h; cases h; exact ⟨hid.symm, hI.msgA j _ hj⟩
            | some m0 => rw [hb] at h; exact hc m' (.inl (hb.trans h))
          · exact hc m' (.inr h))
        msgA := forall_set hI.msgA hj id })
    (gone := fun j m ch hj _ => hI.setHdl hj ⟨hI.lock.req, hI.lock.hdl.set hj rfl⟩ nofun)
    (hUnlock := fun j m hj => hI.setHdl hj (hI.lock.relHdl hj rfl rfl) nofun)
    (respond := fun n _ => { hI with
      netA := fun m hm => (List.mem_cons.mp hm).elim (fun e => e ▸ .inl rfl) (hI.netA m) })
    (dup := fun k m hk => { hI with
      netA := fun m' hm => (List.mem_cons.mp hm).elim (fun e => e ▸ hI.netA m (List.mem_of_getElem? hk)) (hI.netA m') })
    (drop := fun k _ => { hI with netA := fun m hm => hI.netA m (List.mem_of_mem_eraseIdx hm) })
    (arrive := fun k m hk => { hI with
      lock := ⟨hI.lock.req, hI.lock.hdl.push rfl⟩
      target := forall_push hI.target nofun
      msgA := forall_push hI.msgA (hI.netA m (List.mem_of_getElem? hk))
      netA := fun m hm => hI.netA m (List.mem_of_mem_eraseIdx hm) })
    (spawn := fun b => { hI with
      lock := ⟨hI.lock.req.push rfl, hI.lock.hdl⟩
      chSound := hI.chSound.push
      corr := forall_push hI.corr (fun _ h => h.elim nofun nofun) })

/-! ### ids, the wire and the outcome of an attempt -/

/-- a pc at which a test that fails at `start` succeeds is not `start` (`registered`, `preSend`) -/
theorem RPc.ne_start {f : RPc → Bool} {pc : RPc} (h0 : f .start = false) (h : f pc = true) : pc ≠ .start :=
  fun e => Bool.false_ne_true (h0.symm.trans (e ▸ h))

/-- two different requesters never work on the same id -/
def Uniq (reqs : List Req) : Prop :=
  ∀ (i i' : Nat) (r r' : Req), reqs[i]? = some r → reqs[i']? = some r' → i ≠ i' →
    r.pc ≠ .start → r'.pc ≠ .start → r.id ≠ r'.id

namespace Uniq
variable {reqs : List Req} {i : Nat} {r r' : Req}

/-- the new record's id differs from every other requester's -/
theorem setNew (h : Uniq reqs)
    (hn : ∀ k rk, k ≠ i → reqs[k]? = some rk → rk.pc ≠ .start → r'.pc ≠ .start → rk.id ≠ r'.id) :
    Uniq (reqs.set i r') := by
  intro a b ra rb ha hb hab hpa hpb
  rw [List.getElem?_set] at ha hb
  split at ha <;> split at hb
  · omega
  · next e _ => subst e; split at ha <;> cases ha; exact (hn b rb (Ne.symm hab) hb hpb hpa).symm
  · next _ e => subst e; split at hb <;> cases hb; exact hn a ra hab ha hpa hpb
  · exact h a b ra rb ha hb hab hpa hpb

/-- the new record keeps the id -/
theorem set (h : Uniq reqs) (hr : reqs[i]? = some r) (hn : r'.pc ≠ .start → r.pc ≠ .start ∧ r'.id = r.id) :
    Uniq (reqs.set i r') :=
  h.setNew fun k rk hk hrk hp hp' => (hn hp').2 ▸ h k i rk r hrk hr hk hp (hn hp').1

theorem push (h : Uniq reqs) (hp : r.pc = .start) : Uniq (reqs ++ [r]) := by
  intro a b ra rb ha hb hab hpa hpb
  rw [List.getElem?_append] at ha hb
  split at ha <;> split at hb
  · exact h a b ra rb ha hb hab hpa hpb
  · rw [List.getElem?_singleton] at hb; split at hb <;> cases hb; exact absurd hp hpb
  · rw [List.getElem?_singleton] at ha; split at ha <;> cases ha; exact absurd hp hpa
  · rw [List.getElem?_singleton] at ha; split at ha <;> cases ha; exact absurd hp hpa

end Uniq

/-- what the bookkeeping invariant says of one requester record; the pc is read through Boolean tests
only, so that a clause a statement does not affect keeps its meaning by unfolding -/
structure ReqB (resCh : List (Nat × Nat)) (nextId : Nat) (sent : List Nat) (i : Nat) (r : Req) : Prop where
  regd : r.pc.registered = true → resCh.lookup r.id = some i
  fresh : (r.pc == .start) = false → r.id < nextId
  outNone : r.pc.preWait = true → r.out = none
  notSent : r.pc.preSend = true → r.id ∉ sent
  ghost : r.arrived = true →
    ((r.pc == .wait) = true ∧ r.buf.isSome = true) ∨ (∃ m, r.out = some (.got m)) ∨ r.out = some .cancelled

/-- before the end of the `select` nothing has arrived, unless the requester waits with a full channel -/
theorem ReqB.not_arrived {resCh nextId sent i} {r : Req} (h : ReqB resCh nextId sent i r)
    (hp : r.pc.preWait = true) (hw : (r.pc == .wait) = true → r.buf = none) : r.arrived ≠ true := fun ha => by
  have ho := h.outNone hp
  rcases h.ghost ha with ⟨h1, h2⟩ | ⟨_, h1⟩ | h1
  · rw [hw h1] at h2; cases h2
  · rw [ho] at h1; cases h1
  · rw [ho] at h1; cases h1

theorem isSome_fill (b : Option Resp) (m : Resp) : (if b = none then some m else b).isSome = true := by
  cases b <;> rfl

/-- ids are fresh and go on the wire at most once; outcomes are recorded when the `select` is left -/
structure Book (s : State) : Prop where
  req : ∀ (i : Nat) (r : Req), s.reqs[i]? = some r → ReqB s.resCh s.nextId s.sent i r
  uniq : Uniq s.reqs
  sentLt : ∀ id ∈ s.sent, id < s.nextId
  sentNodup : s.sent.Nodup
  netSent : ∀ m ∈ s.net, m.rid ∈ s.sent
  msgSent : ∀ (j : Nat) (h : Hdl), s.hdls[j]? = some h → h.msg.rid ∈ s.sent

theorem book_init : Book init := by
  constructor <;> simp [init, Uniq]

/-- a statement of requester `i` that leaves map, id generator and wire alone and keeps the record's
id; the lock, which `Book` does not read, may change -/
theorem Book.setReq {s : State} {i : Nat} {l : Option Tid} {r r' : Req} (hB : Book s)
    (hr : s.reqs[i]? = some r) (hn : r'.pc ≠ .start → r.pc ≠ .start ∧ r'.id = r.id)
    (h' : ReqB s.resCh s.nextId s.sent i r → ReqB s.resCh s.nextId s.sent i r') :
    Book { s with lock := l, reqs := s.reqs.set i r' } :=
  { hB with req := forall_set hB.req hr h', uniq := hB.uniq.set hr hn }

theorem book_step {P : Nat → Nat} {s s' : State} {a : Action} (hB : Book s)
    (hs : step P s a = some s') : Book s' :=
  step_cases hs
    (start := fun i r hr => { hB with
      req := forall_set' hB.req hr (fun _ _ _ _ h => { h with fresh := fun hp => Nat.lt_succ_of_lt (h.fresh hp) })
        (fun _ => ⟨nofun, fun _ => Nat.lt_succ_self _, fun _ => rfl,
          fun _ hm => Nat.lt_irrefl _ (hB.sentLt _ hm), nofun⟩)
      uniq := hB.uniq.setNew fun k rk _ hk hp _ => Nat.ne_of_lt ((hB.req k rk hk).fresh (beq_eq_false_iff_ne.mpr hp))
      sentLt := fun x hx => Nat.lt_succ_of_lt (hB.sentLt x hx) })
    (regLock := fun i r hr _ => hB.setReq hr (fun _ => ⟨nofun, rfl⟩) fun h => { h with })
    (regStore := fun i r hr => { hB with
      req := forall_set' hB.req hr
        (fun k y hk hy h => { h with
          regd := fun hp => (lookup_store_ne _ _ _ _
            (hB.uniq k i y _ hy hr hk (RPc.ne_start rfl hp) nofun)).trans (h.regd hp) })
        fun h => { h with regd := fun _ => lookup_store_self _ _ _ }
      uniq := hB.uniq.set hr fun _ => ⟨nofun, rfl⟩ })
    (regUnlock := fun i r hr => hB.setReq hr (fun _ => ⟨nofun, rfl⟩) fun h => { h with })
    (unLock := fun i r hr _ => hB.setReq hr (fun _ => ⟨nofun, rfl⟩) fun h => { h with })
    (unDelete := fun i r hr => { hB with
      req := forall_set' hB.req hr
        (fun k y hk hy h => { h with
          regd := fun hp => (lookup_erase_ne _ _ _
            (hB.uniq k i y _ hy hr hk (RPc.ne_start rfl hp) nofun)).trans (h.regd hp) })
        fun h => { h with regd := nofun }
      uniq := hB.uniq.set hr fun _ => ⟨nofun, rfl⟩ })
    (retry := fun i r rt hr => hB.setReq hr (fun hp => absurd rfl hp) fun h => { h with fresh := nofun })
    (ret := fun i r hr _ => hB.setReq hr (fun _ => ⟨nofun, rfl⟩) fun h => { h with })
    (sendOk := fun i r hr =>
      have h := hB.req i _ hr
      { hB with
        req := forall_set' hB.req hr
          (fun k y hk hy h => { h with
            notSent := fun hp hm => (List.mem_cons.mp hm).elim
              (hB.uniq k i y { r with pc := .send } hy hr hk (RPc.ne_start rfl hp) nofun)
              (h.notSent hp) })
          fun h => { h with notSent := nofun, ghost := fun ha => (h.ghost ha).imp (nomatch ·.1) (·) }
        uniq := hB.uniq.set hr fun _ => ⟨nofun, rfl⟩
        sentLt := fun x hx => (List.mem_cons.mp hx).elim (· ▸ h.fresh rfl) (hB.sentLt x)
        sentNodup := List.nodup_cons.mpr ⟨h.notSent rfl, hB.sentNodup⟩
        netSent := fun m hm => List.mem_cons_of_mem _ (hB.netSent m hm)
        msgSent := fun j x hx => List.mem_cons_of_mem _ (hB.msgSent j x hx) })
    (sendErr := fun i r hr => hB.setReq hr (fun _ => ⟨nofun, rfl⟩)
      fun h => { h with outNone := nofun, notSent := nofun,
                          ghost := fun ha => absurd ha (h.not_arrived rfl nofun) })
    (recv := fun i r m hr => hB.setReq hr (fun _ => ⟨nofun, rfl⟩)
      fun h => { h with outNone := nofun, ghost := fun _ => .inr (.inl ⟨m, rfl⟩) })
    (timeout := fun i r hr => hB.setReq hr (fun _ => ⟨nofun, rfl⟩)
      fun h => { h with outNone := nofun, ghost := fun ha => absurd ha (h.not_arrived rfl fun _ => rfl) })
    (cancel := fun i r hr => hB.setReq hr (fun _ => ⟨nofun, rfl⟩)
      fun h => { h with outNone := nofun, ghost := fun _ => .inr (.inr rfl) })
    (hLock := fun j m hj _ => { hB with msgSent := forall_set hB.msgSent hj (·) })
    (found := fun j m ch hj _ => { hB with msgSent := forall_set hB.msgSent hj (·) })
    (unknown := fun j m hj _ => { hB with msgSent := forall_set hB.msgSent hj (·) })
    (deliver := fun j m ch r hj hr => { hB with
      req := forall_set hB.req hr fun h => { h with
        ghost := fun ha => by
          cases hw : r.pc == .wait
          · exact (h.ghost (by simpa [hw] using ha)).imp (fun h => by simp [hw] at h) (·)
          · exact .inl ⟨rfl, isSome_fill _ _⟩ }
      uniq := hB.uniq.set hr fun hp => ⟨hp, rfl⟩
      msgSent := forall_set hB.msgSent hj (·) })
    (gone := fun j m ch hj _ => { hB with msgSent := forall_set hB.msgSent hj (·) })
    (hUnlock := fun j m hj => { hB with msgSent := forall_set hB.msgSent hj (·) })
    (respond := fun n hn => { hB with
      netSent := fun m hm => (List.mem_cons.mp hm).elim (fun e => by subst e; exact hn) (hB.netSent m) })
    (dup := fun k m hk => { hB with
      netSent := fun m' hm => (List.mem_cons.mp hm).elim (· ▸ hB.netSent m (List.mem_of_getElem? hk)) (hB.netSent m') })
    (drop := fun k _ => { hB with netSent := fun m hm => hB.netSent m (List.mem_of_mem_eraseIdx hm) })
    (arrive := fun k m hk => { hB with
      netSent := fun m hm => hB.netSent m (List.mem_of_mem_eraseIdx hm)
      msgSent := forall_push hB.msgSent (hB.netSent m (List.mem_of_getElem? hk)) })
    (spawn := fun b => { hB with
      req := forall_push hB.req ⟨nofun, nofun, fun _ => rfl, nofun, nofun⟩
      uniq := hB.uniq.push rfl })

/-! ### the invariant -/

theorem eq_of_okMsg {P : Nat → Nat} {m : Resp} {x : Nat} (h : m.rid = x ∧ okMsg P (fun _ => False) m) :
    m = ⟨x, P x⟩ := by
  obtain ⟨rid, pl⟩ := m
  obtain ⟨rfl, h | h⟩ := h
  · exact congrArg _ h
  · exact h.elim

/-- `Inv` is the forgery-tolerant invariant with nothing forged, plus the bookkeeping -/
theorem inv_iff {P : Nat → Nat} {s : State} : Inv P s ↔ InvA P (fun _ => False) s ∧ Book s where
  mp h :=
    ⟨{ lock := ⟨⟨h.lockReq, h.lockExR⟩, ⟨h.lockHdl, h.lockExH⟩⟩
       chSound := h.chSound
       target := fun j x hx ch => h.target j x ch hx
       corr := fun i r hr m hm => hm.elim (fun e => h.bufOk i r m hr e ▸ ⟨rfl, .inl rfl⟩)
         (fun e => h.outOk i r m hr e ▸ ⟨rfl, .inl rfl⟩)
       msgA := fun j x hx => .inl (h.msgOk j x hx)
       netA := fun m hm => .inl (h.netOk m hm) },
     { req := fun i r hr => ⟨h.regd i r hr, fun e => h.fresh i r hr (beq_eq_false_iff_ne.mp e), h.outNone i r hr,
         h.notSent i r hr, fun ha => (h.ghost i r hr ha).imp_left (.imp_left beq_iff_eq.mpr)⟩
       uniq := h.uniq, sentLt := h.sentLt, sentNodup := h.sentNodup, netSent := h.netSent
       msgSent := h.msgSent }⟩
  mpr := fun ⟨a, b⟩ =>
    { lockReq := a.lock.req.iff, lockHdl := a.lock.hdl.iff, lockExR := a.lock.req.ex, lockExH := a.lock.hdl.ex
      regd := fun i r hr => (b.req i r hr).regd
      chSound := a.chSound
      fresh := fun i r hr e => (b.req i r hr).fresh (beq_eq_false_iff_ne.mpr e)
      uniq := b.uniq
      bufOk := fun i r m hr e => eq_of_okMsg (a.corr i r hr m (.inl e))
      outOk := fun i r m hr e => eq_of_okMsg (a.corr i r hr m (.inr e))
      outNone := fun i r hr => (b.req i r hr).outNone
      msgOk := fun j x hx => (a.msgA j x hx).elim (·) False.elim
      netOk := fun m hm => (a.netA m hm).elim (·) False.elim
      target := fun j x ch hx => a.target j x hx ch
      sentLt := b.sentLt, sentNodup := b.sentNodup
      notSent := fun i r hr => (b.req i r hr).notSent
      netSent := b.netSent, msgSent := b.msgSent
      ghost := fun i r hr ha => ((b.req i r hr).ghost ha).imp_left (.imp_left beq_iff_eq.mp) }

theorem inv_init (P : Nat → Nat) : Inv P init := inv_iff.mpr ⟨invA_init P _, book_init⟩

theorem inv_step (P : Nat → Nat) (s s' : State) (a : Action) (hI : Inv P s)
    (hs : step P s a = some s') : Inv P s' :=
  inv_iff.mpr ⟨invA_step (inv_iff.mp hI).1 hs, book_step (inv_iff.mp hI).2 hs⟩

theorem inv_reachable (P : Nat → Nat) (s : State) (h : Reachable P s) : Inv P s := by
  induction h with
  | init => exact inv_init P
  | step a _ hs ih => exact inv_step P _ _ a ih hs

/-! ### what the invariant says, of any state that has it -/

theorem Inv.correlation {P : Nat → Nat} {s : State} (hI : Inv P s) {i : Nat} {r : Req} (hr : s.reqs[i]? = some r) :
    (∀ m, r.out = some (.got m) → m.rid = r.id ∧ m.payload = P r.id) ∧
    (∀ m, r.buf = some m → m.rid = r.id ∧ m.payload = P r.id) :=
  ⟨fun m hm => hI.outOk i r m hr hm ▸ ⟨rfl, rfl⟩, fun m hm => hI.bufOk i r m hr hm ▸ ⟨rfl, rfl⟩⟩

theorem Inv.delivery_target {P : Nat → Nat} {s : State} (hI : Inv P s) {j ch : Nat} {h : Hdl}
    (hh : s.hdls[j]? = some h) (hpc : h.pc = .deliver ch) :
    ∃ r, s.reqs[ch]? = some r ∧ r.id = h.msg.rid ∧ r.pc.registered = true :=
  hI.chSound _ _ (mem_of_lookup _ _ _ (hI.target j h ch hh hpc))

theorem Inv.pending_exact {P : Nat → Nat} {s : State} (hI : Inv P s) (id ch : Nat) :
    s.resCh.lookup id = some ch ↔ ∃ r, s.reqs[ch]? = some r ∧ r.id = id ∧ r.pc.registered = true :=
  ⟨fun h => hI.chSound _ _ (mem_of_lookup _ _ _ h), fun ⟨r, hr, hid, hp⟩ => hid ▸ hI.regd ch r hr hp⟩

theorem Inv.no_leak {P : Nat → Nat} {s : State} (hI : Inv P s) (hd : ∀ r ∈ s.reqs, r.pc = .done) :
    s.resCh = [] := by
  apply List.eq_nil_iff_forall_not_mem.mpr
  rintro ⟨id, ch⟩ hmem
  obtain ⟨r, hr, _, hp⟩ := hI.chSound id ch hmem
  have := hd r (List.mem_of_getElem? hr)
  simp [this, RPc.registered] at hp

/-! ### progress -/

/-- the holder of `resMu` is at one of its lock-holding statements, and that statement is enabled: nobody
waits while holding the lock -/
theorem Inv.holder_can_step {P : Nat → Nat} {s : State} (hI : Inv P s) {t : Tid} (ht : s.lock = some t) :
    match t with
    | .req i => ∃ r, s.reqs[i]? = some r ∧ r.pc.holds = true ∧ (step P s (.rStep i)).isSome = true
    | .hdl j => ∃ h, s.hdls[j]? = some h ∧ h.pc.holds = true ∧ (step P s (.hStep j)).isSome = true := by
  cases t with
  | req i =>
    have hr := List.getElem?_eq_getElem (hI.lockExR i ht)
    have hh := (hI.lockReq i _ hr).mpr ht
    obtain ⟨a, _, _, ha, h⟩ := req_can_step P s i _ hr (fun e => by simp [e, RPc.holds] at hh)
      (fun e => by rcases e with e | e <;> simp [e, RPc.holds] at hh)
    exact ⟨_, hr, hh, ha hh ▸ h⟩
  | hdl j =>
    have hr := List.getElem?_eq_getElem (hI.lockExH j ht)
    have hh := (hI.lockHdl j _ hr).mpr ht
    exact ⟨_, hr, hh, hdl_can_step P s j _ hr (fun e => by simp [e, HPc.holds] at hh)
      (fun e => by simp [e, HPc.holds] at hh)⟩

theorem Inv.holder_enabled {P : Nat → Nat} {s : State} (hI : Inv P s) {t : Tid} (ht : s.lock = some t) :
    ∃ a, actor a = some t ∧ a.isLocal = true ∧ (step P s a).isSome = true := by
  have h := hI.holder_can_step ht
  cases t with
  | req i => obtain ⟨_, _, _, h⟩ := h; exact ⟨.rStep i, rfl, rfl, h⟩
  | hdl j => obtain ⟨_, _, _, h⟩ := h; exact ⟨.hStep j, rfl, rfl, h⟩

/-- Unless every handler is done and every requester is done or inside `mp.send`, some thread can execute a
statement that does not wait for a send to return: the holder of `resMu`, or with the lock free any thread
that is neither done nor inside `mp.send`. -/
theorem Inv.progress {P : Nat → Nat} {s : State} (hI : Inv P s) :
    ((∀ r ∈ s.reqs, r.pc = .done ∨ r.pc = .send) ∧ (∀ h ∈ s.hdls, h.pc = .done)) ∨
    ∃ a, a.isLocal = true ∧ (step P s a).isSome = true := by
  cases hl : s.lock with
  | some t => exact .inr ((hI.holder_enabled hl).imp fun _ h => h.2)
  | none =>
    refine Classical.or_iff_not_imp_right.mpr fun hno => ⟨fun r hm => ?_, fun h hm => ?_⟩
    · obtain ⟨i, hi⟩ := List.getElem?_of_mem hm
      refine Classical.byContradiction fun hnd => hno ?_
      obtain ⟨a, _, hloc, _, hen⟩ := req_can_step P s i r hi (fun e => hnd (.inl e)) fun _ => hl
      exact ⟨a, hloc fun e => hnd (.inr e), hen⟩
    · obtain ⟨j, hj⟩ := List.getElem?_of_mem hm
      exact Classical.byContradiction fun hnd => hno ⟨.hStep j, rfl, hdl_can_step P s j h hj hnd fun _ => hl⟩

end LiskVerif.ReqResp
