/-
Histories written with `Set` and plain `Delete` only (`Plain`): compaction does not change what is read
from them and keeps them plain, and a further `Set` / plain `Delete` keeps them plain.  Shared by the
durability theorems of C05 (`Props/C05_DB.lean`) and C12 (`Props/C12_Durable.lean`).
-/
import LiskVerif.Model.KeyHistory

open LiskVerif LiskVerif.KeyHistory

namespace C12.Durable

/-- every history was written with `Set` / `Delete` only -/
def AllPlain (h : Store) : Prop := ∀ k, Plain (h k)

theorem compact_plain (es : List Entry) (h : Plain es) :
    visible (compact es) = visible es ∧ Plain (compact es) := by
  cases es with
  | nil => exact ⟨rfl, h⟩
  | cons e rest =>
    cases e with
    | set v =>
      refine ⟨rfl, ?_⟩
      intro x hx
      simp only [compact, compactAux, List.mem_singleton] at hx
      subst hx; intro c; cases c
    | del =>
      refine ⟨rfl, ?_⟩
      intro x hx
      simp [compact, compactAux] at hx
    | sdel => exact absurd rfl (h .sdel (by simp))

/-- a `Set` or a plain `Delete`: one entry that is no single-delete tombstone, on top of the key's history -/
def push (k : Bytes) (e : Entry) (h : Store) : Store := fun k' => if k' = k then e :: h k' else h k'

theorem push_plain {h : Store} (hp : AllPlain h) (k : Bytes) {e : Entry} (he : e ≠ .sdel) :
    AllPlain (push k e h) := by
  intro k' e' hm
  unfold push at hm
  split at hm
  · rcases List.mem_cons.mp hm with rfl | hm
    · exact he
    · exact hp k' e' hm
  · exact hp k' e' hm

end C12.Durable
