/-
More lemmas about the sync model (property C19): exact characterisation of `maxHeight?` (= `List.max?`) and of the
highest-common-block handler, soundness of the downloader against EVERY peer,
the common-block search against an honest responder, the chain states visited by the two synchronisers,
and the ways a round of either synchroniser ends (`FastEnd`, `BlockEnd`: the theorems about what a round leaves
behind, against every peer, go by cases on them; `fastSync_applied` / `blockSync_synced` are the converses used against
honest peers).  `fastSyncStates` / `blockSyncStates` list the intermediate chains by the same branching as the plans;
the theorems that tie them to the plans (Props/C19_More) therefore walk the branching of both at once.
-/
import LiskVerif.Lemmas.Sync
import LiskVerif.Model.SyncCtx

-- every lemma that mentions `ι` takes its section's `[DecidableEq ι]`, needed or not, so that all take the same arguments
-- (the three lemmas on `maxHeight?` are over `List Nat` and take neither)
set_option linter.unusedSectionVars false

namespace LiskVerif.Sync

/-! ### `maxHeight?` -/

section MaxHeight
variable {ι : Type} [DecidableEq ι]

/-- `maxHeight?` is the maximum of the list -/
theorem maxHeight?_eq_max? (l : List Nat) : maxHeight? l = l.max? := by
  induction l with
  | nil => rfl
  | cons a r ih =>
    rw [maxHeight?, ih, List.max?_cons]
    cases r.max? with
    | none => rfl
    | some m => exact congrArg some (by simp only [Option.elim, Nat.max_def]; split <;> split <;> omega)

theorem maxHeight?_eq_none_iff (l : List Nat) : maxHeight? l = none ↔ l = [] := by
  rw [maxHeight?_eq_max?]; exact List.max?_eq_none_iff

theorem maxHeight?_eq_some_iff (l : List Nat) (m : Nat) :
    maxHeight? l = some m ↔ m ∈ l ∧ ∀ x ∈ l, x ≤ m := by
  rw [maxHeight?_eq_max?]; exact List.max?_eq_some_iff

end MaxHeight

/-! ### well-formed chains -/

section Chain
variable {ι : Type} [DecidableEq ι]

/-- a chain whose first block has height 0 and whose blocks are linked (heights consecutive, `prev`
is the id of the block below) -/
def ChainOK : List (Blk ι) → Prop
  | [] => True
  | g :: rest => g.height = 0 ∧ Linked g.id g.height rest

/-- the height of every block is its position -/
def HeightsOK (c : List (Blk ι)) : Prop := ∀ (k : Nat) (b : Blk ι), c[k]? = some b → b.height = k

theorem chainOK_heights (p : List (Blk ι)) (h : ChainOK p) : HeightsOK p := by
  intro k b hb
  cases p with
  | nil => cases hb
  | cons g rest =>
    obtain ⟨h0, hl⟩ := h
    cases k with
    | zero => cases hb; exact h0
    | succ k => rw [linked_heights g.id g.height rest hl k b hb, h0, Nat.zero_add, Nat.add_comm]

theorem chainOK_split (p pre : List (Blk ι)) (b : Blk ι) (post : List (Blk ι)) (h : ChainOK p)
    (hp : p = pre ++ b :: post) : b.height = pre.length ∧ Linked b.id b.height post := by
  subst hp
  refine ⟨chainOK_heights _ h pre.length b (by simp), ?_⟩
  cases pre with
  | nil => exact h.2
  | cons g pre' =>
    have hl : Linked g.id g.height ((pre' ++ [b]) ++ post) := by simpa using h.2
    have h2 := ((linked_append g.id g.height (pre' ++ [b]) post).mp hl).2
    rwa [lastOf_append_singleton] at h2

/-- the block after `s` in a linked list that starts above height `lh` -/
theorem linked_end_height (lid : ι) (lh : Nat) (s : List (Blk ι)) (e : Blk ι) (rest : List (Blk ι))
    (h : Linked lid lh (s ++ e :: rest)) : e.height = lh + 1 + s.length :=
  linked_heights lid lh _ h s.length e (by simp)

end Chain

/-! ### the highest-common-block handler, exactly -/

section Hcb
variable {ι : Type} [DecidableEq ι]

theorem handleHighestCommon_eq_ban_iff (okLen : ι → Bool) (c : List (Blk ι)) (ids : List ι) :
    handleHighestCommon okLen c (some ids) = .ban ↔ ids = [] ∨ ∃ j ∈ ids, okLen j = false := by
  cases ids with
  | nil => simp [handleHighestCommon]
  | cons a r =>
    simp only [handleHighestCommon]
    by_cases hall : (a :: r).all okLen = true
    · simp only [hall, if_true]
      have hok : ∀ i ∈ a :: r, okLen i = true := by simpa using hall
      constructor
      · intro h
        cases hm : maxHeight? ((a :: r).filterMap (heightOf c)) with
        | none => rw [hm] at h; cases h
        | some k =>
          rw [hm] at h
          simp only at h
          cases hc : c[k]? <;> rw [hc] at h <;> cases h
      · rintro (h | ⟨j, hj, hjo⟩)
        · cases h
        · rw [hok j hj] at hjo; cases hjo
    · simp only [hall, Bool.false_eq_true, if_false, true_iff]
      right
      have hf : (a :: r).all okLen = false := by simpa using hall
      obtain ⟨i, hi, hio⟩ := List.all_eq_false.mp hf
      exact ⟨i, hi, by simpa using hio⟩

theorem handleHighestCommon_wf_of_ne_ban {okLen : ι → Bool} {c : List (Blk ι)} {ids : List ι}
    (h : handleHighestCommon okLen c (some ids) ≠ .ban) : ids ≠ [] ∧ ∀ j ∈ ids, okLen j = true := by
  have hn := mt (handleHighestCommon_eq_ban_iff okLen c ids).mpr h
  refine ⟨fun h0 => hn (Or.inl h0), fun j hj => ?_⟩
  cases ho : okLen j with
  | true => rfl
  | false => exact absurd (Or.inr ⟨j, hj, ho⟩) hn

/-- normal form of the handler on a well-formed request -/
theorem handleHighestCommon_wellformed (okLen : ι → Bool) (c : List (Blk ι)) (ids : List ι)
    (hne : ids ≠ []) (hok : ∀ j ∈ ids, okLen j = true) :
    handleHighestCommon okLen c (some ids) =
      match maxHeight? (ids.filterMap (heightOf c)) with
      | none => .none
      | some h => match c[h]? with
        | some b => .id b.id
        | none => .none := by
  cases ids with
  | nil => exact absurd rfl hne
  | cons a r =>
    have hall : (a :: r).all okLen = true := by simpa using hok
    simp only [handleHighestCommon, hall, if_true]
    rfl

theorem handleHighestCommon_eq_none_iff (okLen : ι → Bool) (c : List (Blk ι)) (ids : List ι) :
    handleHighestCommon okLen c (some ids) = .none ↔
      ids ≠ [] ∧ (∀ j ∈ ids, okLen j = true) ∧ ∀ j ∈ ids, heightOf c j = none := by
  by_cases hwf : ids ≠ [] ∧ ∀ j ∈ ids, okLen j = true
  · obtain ⟨hne, hok⟩ := hwf
    rw [handleHighestCommon_wellformed okLen c ids hne hok]
    cases hm : maxHeight? (ids.filterMap (heightOf c)) with
    | none =>
      simp only [true_iff]
      refine ⟨hne, hok, ?_⟩
      intro j hj
      have hnil := (maxHeight?_eq_none_iff _).mp hm
      cases hh : heightOf c j with
      | none => rfl
      | some k =>
        have : k ∈ ids.filterMap (heightOf c) := List.mem_filterMap.mpr ⟨j, hj, hh⟩
        rw [hnil] at this; cases this
    | some h =>
      obtain ⟨hmem, _⟩ := (maxHeight?_eq_some_iff _ h).mp hm
      obtain ⟨j, hj, hjh⟩ := List.mem_filterMap.mp hmem
      obtain ⟨⟨b, hb, _⟩, _⟩ := (heightOf_eq_some_iff c j h).mp hjh
      simp only [hb]
      constructor
      · intro h; cases h
      · rintro ⟨_, _, hnone⟩
        rw [hnone j hj] at hjh; cases hjh
  · exact ⟨fun h => absurd (handleHighestCommon_wf_of_ne_ban (by rw [h]; nofun)) hwf,
      fun ⟨h1, h2, _⟩ => absurd ⟨h1, h2⟩ hwf⟩

theorem handleHighestCommon_eq_id_iff (okLen : ι → Bool) (c : List (Blk ι)) (ids : List ι) (i : ι) :
    handleHighestCommon okLen c (some ids) = .id i ↔
      ids ≠ [] ∧ (∀ j ∈ ids, okLen j = true) ∧ i ∈ ids ∧
      ∃ h, heightOf c i = some h ∧ ∀ j ∈ ids, ∀ hj, heightOf c j = some hj → hj ≤ h := by
  by_cases hwf : ids ≠ [] ∧ ∀ j ∈ ids, okLen j = true
  · obtain ⟨hne, hok⟩ := hwf
    rw [handleHighestCommon_wellformed okLen c ids hne hok]
    cases hm : maxHeight? (ids.filterMap (heightOf c)) with
    | none =>
      have hnil := (maxHeight?_eq_none_iff _).mp hm
      constructor
      · intro h; cases h
      · rintro ⟨_, _, hi, h, hh, _⟩
        have : h ∈ ids.filterMap (heightOf c) := List.mem_filterMap.mpr ⟨i, hi, hh⟩
        rw [hnil] at this; cases this
    | some h =>
      obtain ⟨hmem, hmax⟩ := (maxHeight?_eq_some_iff _ h).mp hm
      obtain ⟨j, hj, hjh⟩ := List.mem_filterMap.mp hmem
      obtain ⟨⟨b, hb, hbj⟩, _⟩ := (heightOf_eq_some_iff c j h).mp hjh
      simp only [hb, HcbOut.id.injEq]
      constructor
      · intro hbi
        rw [hbj] at hbi
        subst hbi
        refine ⟨hne, hok, hj, h, hjh, ?_⟩
        intro k hk hk' hkh
        exact hmax hk' (List.mem_filterMap.mpr ⟨k, hk, hkh⟩)
      · rintro ⟨_, _, hi, h', hh', hmax'⟩
        have h1 : h' ≤ h := hmax h' (List.mem_filterMap.mpr ⟨i, hi, hh'⟩)
        have h2 : h ≤ h' := hmax' j hj h hjh
        have heq : h' = h := by omega
        subst heq
        obtain ⟨⟨b', hb', hbi'⟩, _⟩ := (heightOf_eq_some_iff c i h').mp hh'
        rw [hb] at hb'
        cases hb'
        exact hbi'
  · exact ⟨fun h => absurd (handleHighestCommon_wf_of_ne_ban (by rw [h]; nofun)) hwf,
      fun ⟨h1, h2, _⟩ => absurd ⟨h1, h2⟩ hwf⟩

end Hcb

/-! ### the downloader against EVERY peer -/

section DownloadSound
variable {ι : Type} [DecidableEq ι]

/-- no block of `l` is the end block and all are below the end height -/
def Below (endId : ι) (endH : Nat) (l : List (Blk ι)) : Prop := ∀ b ∈ l, b.id ≠ endId ∧ b.height < endH

theorem scanSeg_sound (endId : ι) (endH : Nat) (bs : List (Blk ι)) (lid : ι) (lh : Nat) (em : List (Blk ι))
    (sc : Scan ι) (h : scanSeg endId endH bs lid lh = (em, sc)) :
    Linked lid lh em ∧ (∃ rest, bs = em ++ rest) ∧
    match sc with
    | .cont l' h' => em = bs ∧ (l', h') = lastOf bs lid lh ∧ Below endId endH bs
    | .fin => ∃ s e, em = s ++ [e] ∧ e.id = endId ∧ Below endId endH s
    | .bad => Below endId endH em := by
  induction bs generalizing lid lh em sc with
  | nil => cases h; exact ⟨trivial, ⟨[], rfl⟩, rfl, rfl, fun _ hb => nomatch hb⟩
  | cons b r ih =>
    rw [scanSeg] at h
    by_cases hbad : b.height ≠ lh + 1 ∨ b.prev ≠ lid ∨ (b.height ≥ endH ∧ b.id ≠ endId)
    · rw [if_pos hbad] at h
      cases h
      exact ⟨trivial, ⟨b :: r, rfl⟩, fun _ hx => nomatch hx⟩
    · rw [if_neg hbad] at h
      have h1 : b.height = lh + 1 := Classical.byContradiction fun h => hbad (Or.inl h)
      have h2 : b.prev = lid := Classical.byContradiction fun h => hbad (Or.inr (Or.inl h))
      by_cases hend : b.id = endId
      · rw [if_pos hend] at h
        cases h
        exact ⟨⟨h1, h2, trivial⟩, ⟨r, rfl⟩, [], b, rfl, hend, fun _ hx => nomatch hx⟩
      · rw [if_neg hend] at h
        have hb : b.id ≠ endId ∧ b.height < endH :=
          ⟨hend, Nat.lt_of_not_le fun h => hbad (Or.inr (Or.inr ⟨h, hend⟩))⟩
        have hcons : ∀ l, Below endId endH l → Below endId endH (b :: l) :=
          fun l hl x hx => (List.mem_cons.mp hx).elim (fun e => by rw [e]; exact hb) (hl x)
        cases hsc : scanSeg endId endH r b.id b.height with
        | mk em' sc' =>
          rw [hsc] at h
          cases h
          obtain ⟨hl, ⟨rest, hrest⟩, hcase⟩ := ih b.id b.height em' sc' hsc
          refine ⟨⟨h1, h2, hl⟩, ⟨rest, by rw [List.cons_append, ← hrest]⟩, ?_⟩
          cases sc' with
          | cont l' h' =>
            obtain ⟨he, hlast, hbelow⟩ := hcase
            exact ⟨by rw [he], hlast, hcons r hbelow⟩
          | fin =>
            obtain ⟨s, e, hse, he, hbelow⟩ := hcase
            exact ⟨b :: s, e, by rw [hse]; rfl, he, hcons s hbelow⟩
          | bad => exact hcons em' hcase

/-- `lastOf_append_singleton` (Lemmas/Sync) under a second name: after a list that ends with `x` the last block is `x` -/
theorem lastOf_eq_getLast (lid : ι) (lh : Nat) (s : List (Blk ι)) (x : Blk ι) :
    lastOf (s ++ [x]) lid lh = (x.id, x.height) := lastOf_append_singleton lid lh s x

/-- a non-empty linked list of blocks below the end height ends below the end height, above the start -/
theorem lastOf_bounds (endId : ι) (endH : Nat) (lid : ι) (lh : Nat) (s : List (Blk ι)) (hne : s ≠ [])
    (hl : Linked lid lh s) (hb : Below endId endH s) :
    lh + 1 ≤ (lastOf s lid lh).2 ∧ (lastOf s lid lh).2 < endH := by
  have hs : s = s.dropLast ++ [s.getLast hne] := (List.dropLast_concat_getLast hne).symm
  have hlen := (lastOf_height lid lh s hl).1
  have hpos : 0 < s.length := List.length_pos_iff.mpr hne
  refine ⟨by omega, ?_⟩
  have := lastOf_append_singleton lid lh s.dropLast (s.getLast hne)
  rw [← hs] at this
  rw [this]
  exact (hb _ (List.getLast_mem hne)).2

/-- **Downloader soundness.**  Whatever the peer answers, the blocks put on the channel are linked to
the start block (consecutive heights, `prev` links); when the download completes they end with the
end block and no earlier block is the end block or reaches the end height; when it fails no
delivered block is the end block. Every delivered block was in some response of the peer. -/
theorem dlLoop_sound (seg : ι → Option (List (Blk ι))) (endId : ι) (endH : Nat) (fuel : Nat) (lid : ι) (lh : Nat)
    (em : List (Blk ι)) (ok : Bool) (h : dlLoop seg endId endH fuel lid lh = (em, ok)) :
    Linked lid lh em ∧
    (ok = true → ∃ s e, em = s ++ [e] ∧ e.id = endId ∧ Below endId endH s) ∧
    (ok = false → Below endId endH em) ∧
    (∀ b ∈ em, ∃ i L, seg i = some L ∧ b ∈ L) := by
  have hnil : ∀ (lid : ι) (lh : Nat), Linked lid lh ([] : List (Blk ι)) ∧
      (false = true → ∃ s e, ([] : List (Blk ι)) = s ++ [e] ∧ e.id = endId ∧ Below endId endH s) ∧
      (false = false → Below endId endH []) ∧ (∀ b ∈ ([] : List (Blk ι)), ∃ i L, seg i = some L ∧ b ∈ L) :=
    fun _ _ => ⟨trivial, nofun, fun _ _ hb => (nomatch hb), fun _ hb => (nomatch hb)⟩
  induction fuel generalizing lid lh em ok with
  | zero => cases h; exact hnil lid lh
  | succ f ih =>
    cases hseg : seg lid with
    | none => rw [dlLoop, hseg] at h; cases h; exact hnil lid lh
    | some L =>
      cases L with
      | nil => rw [dlLoop, hseg] at h; cases h; exact hnil lid lh
      | cons x xs =>
        rw [dlLoop_step seg endId endH f lid lh (x :: xs) hseg (by simp)] at h
        cases hsc : scanSeg endId endH (sortAsc (x :: xs)) lid lh with
        | mk em1 sc =>
        rw [hsc] at h
        obtain ⟨hl, ⟨rest, hrest⟩, hcase⟩ := scanSeg_sound endId endH _ lid lh em1 sc hsc
        have hmemL : ∀ b ∈ em1, ∃ i L, seg i = some L ∧ b ∈ L :=
          fun b hb => ⟨lid, _, hseg, (sortAsc_perm (x :: xs)).mem_iff.mp (hrest ▸ List.mem_append_left _ hb)⟩
        cases sc with
        | fin => cases h; exact ⟨hl, fun _ => hcase, nofun, hmemL⟩
        | bad => cases h; exact ⟨hl, nofun, fun _ => hcase, hmemL⟩
        | cont l' h' =>
          obtain ⟨hem, hlast, hbelow⟩ := hcase
          cases h
          obtain ⟨hl', hfin', hbad', hmem'⟩ := ih l' h' _ _ rfl
          have hbelow1 : Below endId endH em1 := hem ▸ hbelow
          refine ⟨(linked_append lid lh em1 _).mpr ⟨hl, by rw [hem, ← hlast]; exact hl'⟩, fun hk => ?_, fun hk y hy => ?_,
            fun y hy => ?_⟩
          · obtain ⟨s, e, hse, he, hb⟩ := hfin' hk
            exact ⟨em1 ++ s, e, by rw [hse, List.append_assoc], he,
              fun y hy => (List.mem_append.mp hy).elim (hbelow1 y) (hb y)⟩
          · exact (List.mem_append.mp hy).elim (hbelow1 y) (hbad' hk y)
          · exact (List.mem_append.mp hy).elim (hmemL y) (hmem' y)

/-- **The download terminates**: any amount of fuel of at least `endH - lh + 1` rounds gives the same
result — every round that does not end the download moves at least one height closer to `endH`. -/
theorem dlLoop_fuel_irrelevant (seg : ι → Option (List (Blk ι))) (endId : ι) (endH : Nat) (f f' : Nat)
    (lid : ι) (lh : Nat) (hf : endH - lh + 1 ≤ f) (hf' : endH - lh + 1 ≤ f') :
    dlLoop seg endId endH f lid lh = dlLoop seg endId endH f' lid lh := by
  induction f generalizing f' lid lh with
  | zero => omega
  | succ f0 ih =>
    cases f' with
    | zero => omega
    | succ f0' =>
      cases hseg : seg lid with
      | none => simp only [dlLoop, hseg]
      | some L =>
        cases L with
        | nil => simp only [dlLoop, hseg]
        | cons x xs =>
          rw [dlLoop_step seg endId endH f0 lid lh (x :: xs) hseg (by simp),
            dlLoop_step seg endId endH f0' lid lh (x :: xs) hseg (by simp)]
          cases hsc : scanSeg endId endH (sortAsc (x :: xs)) lid lh with
          | mk em sc =>
          obtain ⟨hl, _, hcase⟩ := scanSeg_sound endId endH _ lid lh em sc hsc
          cases sc with
          | fin => rfl
          | bad => rfl
          | cont l' h' =>
            dsimp only
            obtain ⟨hem, hlast, hbelow⟩ := hcase
            have hne : sortAsc (x :: xs) ≠ [] := fun h => nomatch (h ▸ sortAsc_perm (x :: xs)).nil_eq
            have hb := lastOf_bounds endId endH lid lh (sortAsc (x :: xs)) hne (by rw [← hem]; exact hl) hbelow
            rw [← hlast] at hb
            simp only at hb
            rw [ih f0' l' h' (by omega) (by omega)]

end DownloadSound

/-! ### extending a valid chain -/

section Appliers
variable {ι : Type}

/-- a valid chain extended by accepted blocks is a valid chain -/
theorem validChain_append (applies : List (Blk ι) → Blk ι → Bool) (c app : List (Blk ι)) (hc : c ≠ [])
    (hv : ValidChain applies c) (ha : Accepted applies c app) : ValidChain applies (c ++ app) := by
  intro pre b post hsplit hpre
  -- the block lies in `app` or in `c`
  rcases List.append_eq_append_iff.mp hsplit with ⟨as, rfl, happ⟩ | ⟨bs, rfl, hrest⟩
  · exact ha as b post happ
  · cases bs with
    | nil => simpa using ha [] b post hrest.symm
    | cons x bs' =>
      obtain ⟨rfl, _⟩ := List.cons.inj hrest
      exact hv pre b bs' rfl hpre

end Appliers

/-! ### an honest responder on a fork of the requester's chain -/

section HonestSearch
variable {ι : Type} [DecidableEq ι]

theorem mem_idsAt (q : List (Blk ι)) (hs : List Nat) (i : ι) :
    i ∈ idsAt q hs ↔ ∃ h ∈ hs, ∃ b, q[h]? = some b ∧ b.id = i := by
  unfold idsAt
  rw [List.mem_filterMap]
  constructor
  · rintro ⟨h, hh, hm⟩
    cases hq : q[h]? with
    | none => rw [hq] at hm; cases hm
    | some b =>
      rw [hq] at hm
      simp only [Option.map_some, Option.some.injEq] at hm
      exact ⟨h, hh, b, hq, hm⟩
  · rintro ⟨h, hh, b, hb, hbi⟩
    exact ⟨h, hh, by rw [hb]; simp [hbi]⟩

/-- the honest peer's answer is the handler's outcome, read by the requester -/
theorem honest_common_iff (p : List (Blk ι)) (mhp : Nat) (ids : List ι) :
    ((honest p mhp).common ids = none ↔ handleHighestCommon (fun _ => true) p (some ids) = .ban) ∧
    ((honest p mhp).common ids = some none ↔ handleHighestCommon (fun _ => true) p (some ids) = .none) ∧
    ∀ i, (honest p mhp).common ids = some (some i) ↔ handleHighestCommon (fun _ => true) p (some ids) = .id i := by
  simp only [honest]
  cases handleHighestCommon (fun _ => true) p (some ids) <;> simp

theorem honest_common_none_iff (p : List (Blk ι)) (mhp : Nat) (ids : List ι) :
    (honest p mhp).common ids = none ↔ ids = [] := by
  rw [(honest_common_iff p mhp ids).1, handleHighestCommon_eq_ban_iff]
  exact ⟨fun h => h.elim id (fun ⟨_, _, hj⟩ => nomatch hj), Or.inl⟩

theorem honest_common_some_none_iff (p : List (Blk ι)) (mhp : Nat) (ids : List ι) :
    (honest p mhp).common ids = some none ↔ ids ≠ [] ∧ ∀ j ∈ ids, heightOf p j = none := by
  rw [(honest_common_iff p mhp ids).2.1, handleHighestCommon_eq_none_iff]
  exact ⟨fun ⟨h1, _, h3⟩ => ⟨h1, h3⟩, fun ⟨h1, h3⟩ => ⟨h1, fun _ _ => rfl, h3⟩⟩

theorem honest_common_some_some_iff (p : List (Blk ι)) (mhp : Nat) (ids : List ι) (i : ι) :
    (honest p mhp).common ids = some (some i) ↔
      ids ≠ [] ∧ i ∈ ids ∧ ∃ h, heightOf p i = some h ∧ ∀ j ∈ ids, ∀ hj, heightOf p j = some hj → hj ≤ h := by
  rw [(honest_common_iff p mhp ids).2.2 i, handleHighestCommon_eq_id_iff]
  exact ⟨fun ⟨h1, _, h3⟩ => ⟨h1, h3⟩, fun ⟨h1, h3⟩ => ⟨h1, fun _ _ => rfl, h3⟩⟩

/-- requester on `com ++ qOwn`, responder on `com ++ pOwn`: block ids are unique on each chain and no
block of the requester's own part is on the responder's chain -/
structure Fork (com qOwn pOwn : List (Blk ι)) : Prop where
  ndq : ((com ++ qOwn).map (·.id)).Nodup
  ndp : ((com ++ pOwn).map (·.id)).Nodup
  disj : ∀ y ∈ qOwn, ∀ x ∈ com ++ pOwn, x.id ≠ y.id

/-- an id that is on both chains of a fork is in the common part, at the same height on both -/
theorem fork_common (com qOwn pOwn : List (Blk ι)) (hf : Fork com qOwn pOwn) (cid : ι) (hq hp : Nat)
    (h1 : heightOf (com ++ qOwn) cid = some hq) (h2 : heightOf (com ++ pOwn) cid = some hp) :
    hq = hp ∧ hq < com.length := by
  obtain ⟨⟨b, hb, hbi⟩, _⟩ := (heightOf_eq_some_iff _ cid hq).mp h1
  obtain ⟨⟨b', hb', hbi'⟩, _⟩ := (heightOf_eq_some_iff _ cid hp).mp h2
  have hlt : hq < com.length := by
    rcases Nat.lt_or_ge hq com.length with h | h
    · exact h
    · rw [List.getElem?_append_right h] at hb
      exact absurd (by rw [hbi, hbi']) (hf.disj b (List.mem_of_getElem? hb) b' (List.mem_of_getElem? hb'))
  refine ⟨?_, hlt⟩
  rw [List.getElem?_append_left hlt] at hb
  have hbp : (com ++ pOwn)[hq]? = some b := by rw [List.getElem?_append_left hlt]; exact hb
  have := heightOf_getElem_nodup _ hf.ndp hq b hbp
  rw [hbi, h2] at this
  exact (Option.some.inj this).symm

theorem u32sub_lt (a b : Nat) : u32sub a b < two32 := by
  unfold u32sub
  exact Nat.mod_lt _ (by unfold two32; omega)

theorem getHeightWithGap_start_or_minimum (start minimum gap num : Nat) (hnum : 2 ≤ num) (hs : start < two32) :
    start ∈ getHeightWithGap start minimum gap num ∨ (start ≤ minimum ∧ getHeightWithGap start minimum gap num = [minimum]) := by
  by_cases hle : start ≤ minimum
  · right; exact ⟨hle, by simp [getHeightWithGap, hle]⟩
  · left
    simp only [getHeightWithGap, hle, if_false]
    obtain ⟨f, hf⟩ : ∃ f, num - 1 = f + 1 := ⟨num - 2, by omega⟩
    rw [hf]
    have h0 : u32 (0 * gap) = 0 := by simp [u32]
    have h1 : u32 (minimum + 0) = minimum % two32 := by simp [u32]
    have hm : minimum % two32 ≤ minimum := Nat.mod_le _ _
    simp only [gapLoop, h0, h1]
    have : ¬ start < minimum % two32 := by omega
    simp only [this, if_false]
    have : u32sub start 0 = start := u32sub_of_le (Nat.zero_le _) hs
    rw [this]
    exact List.mem_cons_self

/-- the common-block search against an honest responder on a fork: a height it returns is in the
common part and not below the finalized height -/
theorem commonSearch_honest_ok (com qOwn pOwn : List (Blk ι)) (hf : Fork com qOwn pOwn) (mhp n fin : Nat)
    (hov : fin + 10 * n < two32) (trial start : Nat) (hs : start < two32) (ch : Nat)
    (h : commonSearch n fin (com ++ qOwn) (honest (com ++ pOwn) mhp) trial start = .ok ch) :
    ch < com.length ∧ fin ≤ ch := by
  induction trial generalizing start with
  | zero => simp only [commonSearch] at h; cases h
  | succ t ih =>
    simp only [commonSearch] at h
    split at h
    · cases h
    · exact ih _ (u32sub_lt _ _) h
    · rename_i cid hc
      split at h
      · cases h
      · rename_i ch' hch'
        cases h
        obtain ⟨_, hmem, hp, hhp, _⟩ := (honest_common_some_some_iff _ mhp _ cid).mp hc
        obtain ⟨hh, hhh, b, hb, hbi⟩ := (mem_idsAt _ _ cid).mp hmem
        have := heightOf_getElem_nodup _ hf.ndq hh b hb
        rw [hbi, hch'] at this
        have heq : ch = hh := Option.some.inj this
        exact ⟨(fork_common com qOwn pOwn hf cid ch hp hch' hhp).2, heq ▸ (getHeightWithGap_bounds hs hov hh hhh).1⟩

theorem commonSearch_honest_err (q p : List (Blk ι)) (mhp n fin trial start : Nat) (e : SyncErr)
    (h : commonSearch n fin q (honest p mhp) trial start = .error e) :
    e = .noCommon ∨ e = .requestFailed := by
  induction trial generalizing start with
  | zero => simp only [commonSearch] at h; cases h; exact Or.inl rfl
  | succ t ih =>
    simp only [commonSearch] at h
    split at h
    · cases h; exact Or.inr rfl
    · exact ih _ h
    · rename_i cid hc
      split at h
      · rename_i hnone
        obtain ⟨_, hmem, _⟩ := (honest_common_some_some_iff _ mhp _ cid).mp hc
        obtain ⟨hh, _, b, hb, hbi⟩ := (mem_idsAt _ _ cid).mp hmem
        exact absurd hbi ((heightOf_eq_none_iff q cid).mp hnone b (List.mem_of_getElem? hb))
      · cases h

/-- one request of the search against an honest responder that is offered some id: a common block is found, or the
responder has none of the offered blocks and the search goes on one round below the lowest sampled height -/
theorem commonSearch_honest_succ (q p : List (Blk ι)) (mhp n fin trial start : Nat)
    (hne : idsAt q (getHeightWithGap start fin n 10) ≠ []) :
    (∃ ch, commonSearch n fin q (honest p mhp) (trial + 1) start = .ok ch) ∨
    ((∀ j ∈ idsAt q (getHeightWithGap start fin n 10), heightOf p j = none) ∧
      commonSearch n fin q (honest p mhp) (trial + 1) start =
        commonSearch n fin q (honest p mhp) trial (u32sub ((getHeightWithGap start fin n 10).getLastD 0) n)) := by
  rw [commonSearch]
  cases hc : (honest p mhp).common (idsAt q (getHeightWithGap start fin n 10)) with
  | none => exact absurd ((honest_common_none_iff _ mhp _).mp hc) hne
  | some o =>
    cases o with
    | none => exact Or.inr ⟨((honest_common_some_none_iff _ mhp _).mp hc).2, rfl⟩
    | some cid =>
      dsimp only
      obtain ⟨_, hmem', _⟩ := (honest_common_some_some_iff _ mhp _ cid).mp hc
      obtain ⟨h2, _, b, hb2, hbi⟩ := (mem_idsAt _ _ cid).mp hmem'
      cases hq : heightOf q cid with
      | none => exact absurd hbi ((heightOf_eq_none_iff _ cid).mp hq b (List.mem_of_getElem? hb2))
      | some ch => exact Or.inl ⟨ch, rfl⟩

/-- when one of the heights sampled in a round is in the common part, that round finds a common block -/
theorem commonSearch_honest_hit (com qOwn pOwn : List (Blk ι)) (mhp n fin trial start : Nat)
    (hit : ∃ h ∈ getHeightWithGap start fin n 10, h < com.length) :
    ∃ ch, commonSearch n fin (com ++ qOwn) (honest (com ++ pOwn) mhp) (trial + 1) start = .ok ch := by
  obtain ⟨hh, hmem, hlt⟩ := hit
  have hid : com[hh].id ∈ idsAt (com ++ qOwn) (getHeightWithGap start fin n 10) :=
    (mem_idsAt _ _ _).mpr ⟨hh, hmem, _, by rw [List.getElem?_append_left hlt, List.getElem?_eq_getElem hlt], rfl⟩
  rcases commonSearch_honest_succ (com ++ qOwn) (com ++ pOwn) mhp n fin trial start (List.ne_nil_of_mem hid)
    with h | ⟨hnone, _⟩
  · exact h
  · exact absurd rfl ((heightOf_eq_none_iff _ _).mp (hnone _ hid) com[hh]
      (List.mem_append_left _ (List.getElem_mem hlt)))

/-- the downloader against an honest responder on a well-formed chain `pre ++ b :: s ++ e :: rest` (`b` the start
block, `e` the end block, `rest` any continuation) delivers `s ++ [e]` and completes, whatever the response cap
splits the blocks into and although the response that contains `e` may also contain blocks of `rest` -/
theorem download_honest (p : List (Blk ι)) (mhp : Nat) (hnd : (p.map (·.id)).Nodup) (hok : ChainOK p)
    (pre : List (Blk ι)) (b : Blk ι) (s : List (Blk ι)) (e : Blk ι) (rest : List (Blk ι))
    (hp : p = pre ++ b :: (s ++ e :: rest)) :
    download (honest p mhp).segment b.id pre.length e.id e.height = (s ++ [e], true) := by
  obtain ⟨hbh, hl⟩ := chainOK_split p pre b (s ++ e :: rest) hok hp
  have heh := (chainOK_split p (pre ++ b :: s) e rest hok (by rw [hp]; simp)).1
  simp only [List.length_append, List.length_cons] at heh
  rw [download, ← hbh]
  exact dlLoop_honest p mhp hnd e rest _ pre b s hp hl (by omega)

/-- the common-block search against ANY peer: a height it returns is the height of a block of the
requester's chain; the errors it can end with -/
theorem commonSearch_result (q : List (Blk ι)) (peer : Peer ι) (n fin trial start : Nat) :
    (∃ cid ch, commonSearch n fin q peer trial start = .ok ch ∧ heightOf q cid = some ch) ∨
    ∃ e, commonSearch n fin q peer trial start = .error e ∧
      (e = .noCommon ∨ e = .requestFailed ∨ e = .unknownCommon) := by
  induction trial generalizing start with
  | zero => exact Or.inr ⟨_, rfl, Or.inl rfl⟩
  | succ t ih =>
    rw [commonSearch]
    cases peer.common (idsAt q (getHeightWithGap start fin n 10)) with
    | none => exact Or.inr ⟨_, rfl, Or.inr (Or.inl rfl)⟩
    | some o =>
      cases o with
      | none => exact ih _
      | some cid =>
        dsimp only
        cases hq : heightOf q cid with
        | none => exact Or.inr ⟨_, rfl, Or.inr (Or.inr rfl)⟩
        | some ch => exact Or.inl ⟨cid, ch, rfl, hq⟩

theorem commonSearch_ok_height (q : List (Blk ι)) (peer : Peer ι) (n fin trial start ch : Nat)
    (h : commonSearch n fin q peer trial start = .ok ch) : ∃ cid, heightOf q cid = some ch := by
  rcases commonSearch_result q peer n fin trial start with ⟨cid, ch', h', hq⟩ | ⟨e, h', _⟩
  · rw [h'] at h; cases h; exact ⟨cid, hq⟩
  · rw [h'] at h; cases h

theorem commonSearch_err_cases (q : List (Blk ι)) (peer : Peer ι) (n fin trial start : Nat) (e : SyncErr)
    (h : commonSearch n fin q peer trial start = .error e) :
    e = .noCommon ∨ e = .requestFailed ∨ e = .unknownCommon := by
  rcases commonSearch_result q peer n fin trial start with ⟨_, _, h', _⟩ | ⟨e', h', he⟩
  · rw [h'] at h; cases h
  · rw [h'] at h; cases h; exact he

/-- **The honest peer names the fork point.**  Requester on `init ++ last :: qOwn`, honest peer on
`init ++ last :: pOwn` (`last` is the fork point: unique ids, no block of `qOwn` on the peer's chain).  When the fork
point is among the last `2n-1` blocks of the own chain, the answer to the request of the fast synchroniser is its id. -/
theorem honest_common_fork_point (n mhp : Nat) (init : List (Blk ι)) (last : Blk ι) (qOwn pOwn : List (Blk ι))
    (hndp : ((init ++ last :: pOwn).map (·.id)).Nodup)
    (hdisj : ∀ y ∈ qOwn, ∀ x ∈ init ++ last :: pOwn, x.id ≠ y.id)
    (hn : 1 ≤ n) (hwq : qOwn.length ≤ 2 * n - 2)
    (hbq : init.length + 1 + qOwn.length ≤ two32) (hbn : 2 * n ≤ two32) :
    (honest (init ++ last :: pOwn) mhp).common
      (idsAt (init ++ last :: qOwn) (getLastHeights ((init ++ last :: qOwn).length - 1) (2 * n))) =
        some (some last.id) := by
  have hqlen : (init ++ last :: qOwn).length - 1 = init.length + qOwn.length := by
    rw [List.length_append, List.length_cons]; omega
  rw [hqlen]
  have hqget : (init ++ last :: qOwn)[init.length]? = some last := by
    rw [List.getElem?_append_right (Nat.le_refl _)]; simp
  have hmem : last.id ∈ idsAt (init ++ last :: qOwn) (getLastHeights (init.length + qOwn.length) (2 * n)) := by
    rw [mem_idsAt, getLastHeights_eq (by omega) hbn]
    exact ⟨init.length, List.mem_map.mpr ⟨qOwn.length,
      List.mem_range.mpr (Nat.lt_min.mpr ⟨by omega, by omega⟩), Nat.add_sub_cancel ..⟩, last, hqget, rfl⟩
  have hhp : heightOf (init ++ last :: pOwn) last.id = some init.length :=
    heightOf_split init last _ (fun x hx => nodup_split_ne init (last :: pOwn) hndp x hx last List.mem_cons_self)
  rw [honest_common_some_some_iff]
  refine ⟨List.ne_nil_of_mem hmem, hmem, init.length, hhp, ?_⟩
  intro j hj hjh hjp
  obtain ⟨h', _, y, hy, hyj⟩ := (mem_idsAt _ _ j).mp hj
  have hcase : y ∈ init ++ [last] ∨ y ∈ qOwn := by
    rw [show init ++ last :: qOwn = (init ++ [last]) ++ qOwn by simp] at hy
    exact List.mem_append.mp (List.mem_of_getElem? hy)
  rcases hcase with h1 | h1
  · rw [show init ++ last :: pOwn = (init ++ [last]) ++ pOwn by simp, ← hyj] at hjp
    have := heightOf_lt_of_mem (init ++ [last]) _ y h1 hjh hjp
    simp only [List.length_append, List.length_singleton] at this
    omega
  · rw [(heightOf_eq_none_iff _ j).mpr (fun x hx => hyj ▸ hdisj y h1 x hx)] at hjp
    cases hjp

end HonestSearch

/-! ### the chain states a synchroniser goes through -/

section States
variable {α : Type}

/-- the states while deleting the tip of `c` until `k` blocks are left: `c` without its last block,
…, `c.take k` (none when `c` has at most `k` blocks) -/
def popStates (c : List α) (k : Nat) : List (List α) :=
  (List.range (c.length - k)).map (fun j => c.take (c.length - 1 - j))

/-- the states while appending the blocks of `app` to `c` one after the other -/
def pushStates (c app : List α) : List (List α) :=
  (List.range app.length).map (fun j => c ++ app.take (j + 1))

/-- delete down to `k` blocks, then append `app` -/
def walk (c : List α) (k : Nat) (app : List α) : List (List α) :=
  popStates c k ++ pushStates (c.take k) app

theorem mem_walk (c : List α) (k : Nat) (app : List α) (s : List α) (hs : s ∈ walk c k app) :
    (∃ m, k ≤ m ∧ s = c.take m) ∨ ∃ m, s = c.take k ++ app.take m := by
  unfold walk popStates pushStates at hs
  rcases List.mem_append.mp hs with h | h
  · obtain ⟨j, hj, hjs⟩ := List.mem_map.mp h
    simp only [List.mem_range] at hj
    exact Or.inl ⟨c.length - 1 - j, by omega, hjs.symm⟩
  · obtain ⟨j, _, hjs⟩ := List.mem_map.mp h
    exact Or.inr ⟨j + 1, hjs.symm⟩

/-- every state of a walk that never goes below `f + 1` blocks keeps the first `f + 1` blocks -/
theorem walk_keeps (c : List α) (k : Nat) (app : List α) (f : Nat) (hk : f + 1 ≤ k) (hc : f + 1 ≤ c.length) :
    ∀ s ∈ walk c k app, s.take (f + 1) = c.take (f + 1) := by
  intro s hs
  rcases mem_walk c k app s hs with ⟨m, hm, rfl⟩ | ⟨m, rfl⟩
  · rw [List.take_take]; congr 1; omega
  · exact take_take_append c _ k f hk hc

theorem getLastD_map_range (g : Nat → α) (n : Nat) (d : α) :
    ((List.range n).map g).getLastD d = if n = 0 then d else g (n - 1) := by
  rw [List.getLastD_eq_getLast?, List.getLast?_map, List.getLast?_range]
  split <;> rfl

theorem getLastD_append (l1 l2 : List α) (d : α) : (l1 ++ l2).getLastD d = l2.getLastD (l1.getLastD d) := by
  rw [List.getLastD_eq_getLast?, List.getLastD_eq_getLast?, List.getLastD_eq_getLast?, List.getLast?_append]
  cases l2.getLast? <;> rfl

theorem popStates_last (c : List α) (k : Nat) : (popStates c k).getLastD c = c.take k := by
  unfold popStates
  rw [getLastD_map_range]
  by_cases h : c.length - k = 0
  · rw [if_pos h, List.take_of_length_le (by omega)]
  · rw [if_neg h]
    congr 1; omega

theorem pushStates_last (c app : List α) : (pushStates c app).getLastD c = c ++ app := by
  unfold pushStates
  rw [getLastD_map_range]
  by_cases h : app.length = 0
  · rw [if_pos h, List.length_eq_zero_iff.mp h, List.append_nil]
  · rw [if_neg h, show app.length - 1 + 1 = app.length by omega, List.take_length]

/-- the last state of a walk that starts in `c` -/
theorem walk_last (c : List α) (k : Nat) (app : List α) : (walk c k app).getLastD c = c.take k ++ app := by
  unfold walk
  rw [getLastD_append, popStates_last, pushStates_last]

/-- consecutive states differ by exactly one block at the tip (one block applied or one deleted) -/
def OneBlockSteps : List α → List (List α) → Prop
  | _, [] => True
  | s, s' :: r => ((∃ b, s' = s ++ [b]) ∨ (∃ b, s = s' ++ [b])) ∧ OneBlockSteps s' r

theorem oneBlockSteps_append (s : List α) (l1 l2 : List (List α)) :
    OneBlockSteps s (l1 ++ l2) ↔ OneBlockSteps s l1 ∧ OneBlockSteps (l1.getLastD s) l2 := by
  induction l1 generalizing s with
  | nil => simp [OneBlockSteps]
  | cons a r ih =>
    simp only [List.cons_append, OneBlockSteps, ih a, List.getLastD_cons]
    constructor
    · rintro ⟨h1, h2, h3⟩; exact ⟨⟨h1, h2⟩, h3⟩
    · rintro ⟨⟨h1, h2⟩, h3⟩; exact ⟨h1, h2, h3⟩

/-- states `g 0, …, g (d - 1)` after `s`, each one block at the tip away from the one before it -/
theorem oneBlockSteps_map_range (g : Nat → List α) (s : List α) (d : Nat)
    (h0 : 0 < d → (∃ b, g 0 = s ++ [b]) ∨ (∃ b, s = g 0 ++ [b]))
    (hs : ∀ j, j + 1 < d → (∃ b, g (j + 1) = g j ++ [b]) ∨ (∃ b, g j = g (j + 1) ++ [b])) :
    OneBlockSteps s ((List.range d).map g) := by
  induction d generalizing s g with
  | zero => trivial
  | succ d ih =>
    rw [List.range_succ_eq_map, List.map_cons, List.map_map]
    exact ⟨h0 (Nat.succ_pos d), ih (g ∘ Nat.succ) (g 0) (fun h => hs 0 (Nat.succ_lt_succ h))
      (fun j hj => hs (j + 1) (Nat.succ_lt_succ hj))⟩

theorem popStates_steps (c : List α) (k : Nat) : OneBlockSteps c (popStates c k) := by
  refine oneBlockSteps_map_range _ c _ (fun h => Or.inr ⟨c[c.length - 1 - 0]'(by omega), ?_⟩)
    (fun j hj => Or.inr ⟨c[c.length - 1 - (j + 1)]'(by omega), ?_⟩)
  · rw [← List.take_succ_eq_append_getElem, List.take_of_length_le (by omega)]
  · rw [← List.take_succ_eq_append_getElem]; congr 1; omega

theorem pushStates_steps (c app : List α) : OneBlockSteps c (pushStates c app) := by
  refine oneBlockSteps_map_range _ c _ (fun h => Or.inl ⟨app[0], ?_⟩)
    (fun j hj => Or.inl ⟨app[j + 1], ?_⟩)
  · rw [List.take_succ_eq_append_getElem h, List.take_zero, List.nil_append]
  · rw [List.take_succ_eq_append_getElem hj, List.append_assoc]

theorem walk_steps (c : List α) (k : Nat) (app : List α) : OneBlockSteps c (walk c k app) := by
  unfold walk
  rw [oneBlockSteps_append, popStates_last]
  exact ⟨popStates_steps c k, pushStates_steps _ _⟩

/-- a run: the states `l` visited from `start`, ending in `final`, one block per step, all satisfying `P` -/
def Run (P : List α → Prop) (start : List α) (l : List (List α)) (final : List α) : Prop :=
  l.getLastD start = final ∧ OneBlockSteps start l ∧ ∀ s ∈ l, P s

theorem run_nil (P : List α → Prop) (s : List α) : Run P s [] s := ⟨rfl, trivial, fun _ h => (by cases h)⟩

/-- a guard that ends the round: nothing is visited if it holds, the run goes on if not -/
theorem run_gate {β : Type} (P : List α → Prop) (q : List α) (chain : β → List α) {c : Prop} [Decidable c]
    {l : List (List α)} {o o' : β} (ho : chain o = q) (h : ¬ c → Run P q l (chain o')) :
    Run P q (if c then [] else l) (chain (if c then o else o')) := by
  split
  · exact ho ▸ run_nil P q
  · exact h ‹_›

theorem run_append (P : List α → Prop) (a : List α) (l1 : List (List α)) (b : List α) (l2 : List (List α))
    (c : List α) (h1 : Run P a l1 b) (h2 : Run P b l2 c) : Run P a (l1 ++ l2) c := by
  obtain ⟨e1, s1, p1⟩ := h1
  obtain ⟨e2, s2, p2⟩ := h2
  refine ⟨by rw [getLastD_append, e1, e2], (oneBlockSteps_append a l1 l2).mpr ⟨s1, by rw [e1]; exact s2⟩, ?_⟩
  intro s hs
  rcases List.mem_append.mp hs with h | h
  · exact p1 s h
  · exact p2 s h

theorem run_walk (c : List α) (k : Nat) (app : List α) (f : Nat) (hk : f + 1 ≤ k) (hc : f + 1 ≤ c.length) :
    Run (fun s => s.take (f + 1) = c.take (f + 1)) c (walk c k app) (c.take k ++ app) :=
  ⟨walk_last c k app, walk_steps c k app, walk_keeps c k app f hk hc⟩

/-- deleting down to `k` blocks and appending what `c'` has above them ends in `c'` when `c'` agrees with `c` on
the first `k` blocks -/
theorem run_walk_to (c c' : List α) (k f : Nat) (hk : f + 1 ≤ k) (hc : f + 1 ≤ c.length)
    (h : c'.take k = c.take k) :
    Run (fun s => s.take (f + 1) = c.take (f + 1)) c (walk c k (c'.drop k)) c' := by
  have := run_walk c k (c'.drop k) f hk hc
  rwa [← h, List.take_append_drop] at this

end States

/-! ### the ways a round of a synchroniser ends -/

section Ends
variable {ι : Type} [DecidableEq ι]
open LiskVerif.SyncCtx

/-- How one round of the fast synchroniser (`fastSyncG`: the context's finalized height `ctxFin` decides about
the ban, the stored one `m` is what `deleteBlock` refuses to go below) can end. -/
inductive FastEnd (applies : List (Blk ι) → Blk ι → Bool) (finAfter : List (Blk ι) → Nat) (ctxFin m : Nat)
    (q : List (Blk ι)) (target : Blk ι) (peer : Peer ι) : Out ι → Prop
  /-- an error before anything is deleted -/
  | early (e : SyncErr) (b : Bool)
      (he : e ∈ [.requestFailed, .noCommon, .unknownCommon, .belowFinalized, .tooFar, .invalidBlock, .download])
      (hb : b = true ↔ e = .noCommon ∨ e = .belowFinalized ∨ e = .invalidBlock) :
      FastEnd applies finAfter ctxFin m q target peer ⟨q, [], b, some e⟩
  /-- the common block is below the stored finalized height: the deletion stops there -/
  | refused (ch : Nat) (hge : ctxFin ≤ ch) (hlt : ch < m) :
      FastEnd applies finAfter ctxFin m q target peer ⟨q.take (m + 1), q.drop (m + 1), false, some .deleteFailed⟩
  /-- the download completed and every block was applied -/
  | applied (cid : ι) (ch : Nat) (dl c' : List (Blk ι)) (hch : heightOf q cid = some ch) (hge : ctxFin ≤ ch)
      (hm : m ≤ ch) (hdl : download peer.segment cid ch target.id target.height = (dl, true))
      (hok : ∀ b ∈ dl, b.ok = true) (happ : applyAll applies (q.take (ch + 1)) dl = (c', true)) :
      FastEnd applies finAfter ctxFin m q target peer ⟨c', [], false, none⟩
  /-- a block was rejected after the blocks `app`, which finalized a block above the common block -/
  | stuck (ch : Nat) (app c' : List (Blk ι)) (hlt : ch < q.length) (hge : ctxFin ≤ ch) (hm : m ≤ ch)
      (hc' : c' = q.take (ch + 1) ++ app) (hfin : ch < max m (finAfter c')) :
      FastEnd applies finAfter ctxFin m q target peer
        ⟨c'.take (max m (finAfter c') + 1), q.drop (ch + 1), false, some .restoreFailed⟩
  /-- a block was rejected, the own blocks were all applied again -/
  | restored (ch : Nat) (c'' : List (Blk ι)) (hlt : ch < q.length) (hge : ctxFin ≤ ch) (hm : m ≤ ch)
      (hre : reapply applies (q.take (ch + 1)) (q.drop (ch + 1)) = (c'', [])) :
      FastEnd applies finAfter ctxFin m q target peer ⟨c'', [], true, some .applyFailed⟩
  /-- a block was rejected and so was one of the own blocks afterwards -/
  | lost (ch : Nat) (c'' rest : List (Blk ι)) (hlt : ch < q.length) (hge : ctxFin ≤ ch) (hm : m ≤ ch)
      (hre : reapply applies (q.take (ch + 1)) (q.drop (ch + 1)) = (c'', rest)) (hne : rest ≠ []) :
      FastEnd applies finAfter ctxFin m q target peer ⟨c'', rest, false, some .restoreFailed⟩

theorem fastSyncG_end (applies : List (Blk ι) → Blk ι → Bool) (finAfter : List (Blk ι) → Nat)
    (n ctxFin m : Nat) (q : List (Blk ι)) (target : Blk ι) (peer : Peer ι) :
    FastEnd applies finAfter ctxFin m q target peer (fastSyncG applies finAfter n ctxFin m q target peer) := by
  unfold fastSyncG
  dsimp only
  cases peer.common (idsAt q (getLastHeights (q.length - 1) (2 * n))) with
  | none => exact .early .requestFailed false (by decide) (by decide)
  | some o =>
    cases o with
    | none => exact .early .noCommon true (by decide) (by decide)
    | some cid =>
      dsimp only
      cases hch : heightOf q cid with
      | none => exact .early .unknownCommon false (by decide) (by decide)
      | some ch =>
        have hlt := heightOf_lt_length q cid ch hch
        dsimp only
        by_cases h1 : ch < ctxFin
        · rw [if_pos h1]; exact .early .belowFinalized true (by decide) (by decide)
        rw [if_neg h1]
        have hge := Nat.le_of_not_lt h1
        by_cases h2 : q.length - 1 - ch > 2 * n ∨ u32sub target.height ch > 2 * n
        · rw [if_pos h2]; exact .early .tooFar false (by decide) (by decide)
        rw [if_neg h2]
        by_cases h3 : (download peer.segment cid ch target.id target.height).1.any (fun b => !b.ok) = true
        · rw [if_pos h3]; exact .early .invalidBlock true (by decide) (by decide)
        rw [if_neg h3]
        by_cases h4 : (!(download peer.segment cid ch target.id target.height).2) = true
        · rw [if_pos h4]; exact .early .download false (by decide) (by decide)
        rw [if_neg h4]
        by_cases h5 : ch < m
        · rw [if_pos h5]; exact .refused ch hge h5
        rw [if_neg h5]
        have hm := Nat.le_of_not_lt h5
        have hbase : (q.take (ch + 1)).length = ch + 1 := by rw [List.length_take]; omega
        cases happ : applyAll applies (q.take (ch + 1)) (download peer.segment cid ch target.id target.height).1 with
        | mk c' ok =>
          cases ok with
          | true =>
            exact .applied cid ch _ c' hch hge hm (Prod.ext rfl (by simpa using h4))
              (by simpa using h3) happ
          | false =>
            obtain ⟨app, hc', _⟩ := applyAll_prefix applies _ _ _ _ happ
            dsimp only
            by_cases h6 : ch < max m (finAfter c') ∧ ch + 1 < c'.length
            · rw [if_pos h6]; exact .stuck ch app c' hlt hge hm hc' h6.1
            rw [if_neg h6]
            have htake : c'.take (ch + 1) = q.take (ch + 1) := by
              rw [hc']; exact take_take_append q app (ch + 1) ch (Nat.le_refl _) hlt
            rw [htake]
            cases hre : reapply applies (q.take (ch + 1)) (q.drop (ch + 1)) with
            | mk c'' rest =>
              cases rest with
              | nil => exact .restored ch c'' hlt hge hm hre
              | cons x xs => exact .lost ch c'' _ hlt hge hm hre nofun

/-- every end of the fast synchroniser leaves the blocks up to the stored finalized height in place -/
theorem FastEnd.keeps_prefix {applies : List (Blk ι) → Blk ι → Bool} {finAfter : List (Blk ι) → Nat}
    {ctxFin m : Nat} {q : List (Blk ι)} {target : Blk ι} {peer : Peer ι} {o : Out ι}
    (h : FastEnd applies finAfter ctxFin m q target peer o) (hm : m < q.length) :
    o.chain.take (m + 1) = q.take (m + 1) := by
  cases h with
  | early => rfl
  | refused => exact List.take_take.trans (by rw [Nat.min_self])
  | applied cid ch dl c' hch _ hmc _ _ happ =>
    obtain ⟨app, rfl, _⟩ := applyAll_prefix applies _ _ _ _ happ
    exact take_take_append q app (ch + 1) m (Nat.succ_le_succ hmc) hm
  | stuck ch app c' hlt _ hmc hc' hfin =>
    subst hc'
    exact List.take_take.trans (by
      rw [Nat.min_eq_left (Nat.succ_le_succ (Nat.le_max_left _ _))]
      exact take_take_append q app (ch + 1) m (Nat.succ_le_succ hmc) hm)
  | restored ch c'' hlt _ hmc hre =>
    obtain ⟨app, rfl⟩ := reapply_prefix applies _ _ _ _ hre
    exact take_take_append q app (ch + 1) m (Nat.succ_le_succ hmc) hm
  | lost ch c'' rest hlt _ hmc hre =>
    obtain ⟨app, rfl⟩ := reapply_prefix applies _ _ _ _ hre
    exact take_take_append q app (ch + 1) m (Nat.succ_le_succ hmc) hm

/-- with the stored finalized height in the context the deletion is never refused: `fastSyncG` is `fastSync` -/
theorem fastSyncG_eq_fastSync (applies : List (Blk ι) → Blk ι → Bool) (finAfter : List (Blk ι) → Nat)
    (n m : Nat) (q : List (Blk ι)) (target : Blk ι) (peer : Peer ι) :
    fastSyncG applies finAfter n m m q target peer = fastSync applies finAfter n m q target peer := by
  unfold fastSyncG fastSync
  dsimp only
  cases peer.common (idsAt q (getLastHeights (q.length - 1) (2 * n))) with
  | none => rfl
  | some o =>
    cases o with
    | none => rfl
    | some cid =>
      dsimp only
      cases heightOf q cid with
      | none => rfl
      | some ch =>
        dsimp only
        by_cases hlt : ch < m
        · rw [if_pos hlt, if_pos hlt]
        · rw [if_neg hlt, if_neg hlt, if_neg hlt]
          rfl

theorem fastSync_end (applies : List (Blk ι) → Blk ι → Bool) (finAfter : List (Blk ι) → Nat)
    (n fin : Nat) (q : List (Blk ι)) (target : Blk ι) (peer : Peer ι) :
    FastEnd applies finAfter fin fin q target peer (fastSync applies finAfter n fin q target peer) :=
  fastSyncG_eq_fastSync applies finAfter n fin q target peer ▸ fastSyncG_end applies finAfter n fin fin q target peer

/-- How one round of the block synchroniser (`blockSyncG`; `m` is the stored finalized height) can end. -/
inductive BlockEnd (applies : List (Blk ι) → Blk ι → Bool) (m : Nat) (q : List (Blk ι)) (peer : Peer ι) :
    Out ι → Prop
  /-- an error before anything is deleted -/
  | early (e : SyncErr) (b : Bool)
      (he : e ∈ [.notDifferent, .requestFailed, .invalidLast, .noPriority, .noCommon, .unknownCommon])
      (hb : b = true ↔ e = .invalidLast ∨ e = .noPriority) : BlockEnd applies m q peer ⟨q, [], b, some e⟩
  /-- the common block is below the stored finalized height: the deletion stops there -/
  | refused : BlockEnd applies m q peer ⟨q.take (m + 1), q.drop (m + 1), false, some .deleteFailed⟩
  /-- the download completed and every block was applied -/
  | synced (last : Blk ι) (lastMhp : Nat) (cid : ι) (ch : Nat) (dl c' : List (Blk ι))
      (hlast : peer.last = some (last, lastMhp)) (hlok : last.ok = true) (hch : heightOf q cid = some ch)
      (hm : m ≤ ch) (hdl : download peer.segment cid ch last.id last.height = (dl, true))
      (hst : streamApply applies (q.take (ch + 1)) dl = (c', none)) : BlockEnd applies m q peer ⟨c', [], false, none⟩
  /-- a downloaded block was refused (`r = some e`) or the download broke off; the own blocks stay in the temp
  table -/
  | partway (last : Blk ι) (cid : ι) (ch : Nat) (dl : List (Blk ι)) (ok : Bool) (c' : List (Blk ι))
      (r : Option SyncErr) (e : SyncErr) (hch : heightOf q cid = some ch) (hm : m ≤ ch)
      (hdl : download peer.segment cid ch last.id last.height = (dl, ok))
      (hst : streamApply applies (q.take (ch + 1)) dl = (c', r))
      (he : r = some e ∨ r = none ∧ ok = false ∧ e = .download) :
      BlockEnd applies m q peer ⟨c', q.drop (ch + 1), decide (e = .invalidBlock), some e⟩

theorem blockSyncG_end (applies : List (Blk ι) → Blk ι → Bool) (n ctxFin m myMhp : Nat) (q : List (Blk ι))
    (best : Tip ι) (peer : Peer ι) :
    BlockEnd applies m q peer (blockSyncG applies n ctxFin m myMhp q best peer) := by
  unfold blockSyncG
  dsimp only
  by_cases h1 : (!isDifferentChain myMhp best.mhp (q.length - 1) best.height) = true
  · rw [if_pos h1]; exact .early .notDifferent false (by decide) (by decide)
  rw [if_neg h1]
  cases hlast : peer.last with
  | none => exact .early .requestFailed false (by decide) (by decide)
  | some lp =>
    obtain ⟨last, lastMhp⟩ := lp
    dsimp only
    by_cases h2 : (!last.ok) = true
    · rw [if_pos h2]; exact .early .invalidLast true (by decide) (by decide)
    rw [if_neg h2]
    by_cases h3 : (!isDifferentChain myMhp lastMhp (q.length - 1) last.height) = true
    · rw [if_pos h3]; exact .early .noPriority true (by decide) (by decide)
    rw [if_neg h3]
    cases hcs : commonSearch n ctxFin q peer 3 (getCommonBlockStartSearchHeight (q.length - 1) n) with
    | error e =>
      rcases commonSearch_err_cases q peer n ctxFin _ _ e hcs with rfl | rfl | rfl <;>
        exact .early _ false (by decide) (by decide)
    | ok ch =>
      dsimp only
      by_cases h4 : ch < m
      · rw [if_pos h4]; exact .refused
      rw [if_neg h4]
      have hm := Nat.le_of_not_lt h4
      obtain ⟨cid, hch⟩ := commonSearch_ok_height q peer n ctxFin _ _ ch hcs
      obtain ⟨⟨bq, hbq, rfl⟩, _⟩ := (heightOf_eq_some_iff q _ ch).mp hch
      rw [hbq]
      dsimp only
      cases hst : streamApply applies (q.take (ch + 1))
          (download peer.segment bq.id ch last.id last.height).1 with
      | mk c' r =>
        cases r with
        | none =>
          dsimp only
          cases hd2 : (download peer.segment bq.id ch last.id last.height).2 with
          | true =>
            exact .synced last lastMhp bq.id ch _ c' hlast (by simpa using h2) hch hm
              (Prod.ext rfl hd2) hst
          | false =>
            exact .partway last bq.id ch _ false c' none .download hch hm (Prod.ext rfl hd2) hst
              (Or.inr ⟨rfl, rfl, rfl⟩)
        | some e =>
          rcases streamApply_err applies _ _ _ _ hst with rfl | rfl <;>
            exact .partway last bq.id ch _ _ c' _ _ hch hm rfl hst (Or.inl rfl)

/-- every end of the block synchroniser leaves the blocks up to the stored finalized height in place -/
theorem BlockEnd.keeps_prefix {applies : List (Blk ι) → Blk ι → Bool} {m : Nat} {q : List (Blk ι)} {peer : Peer ι}
    {o : Out ι} (h : BlockEnd applies m q peer o) (hm : m < q.length) :
    o.chain.take (m + 1) = q.take (m + 1) := by
  cases h with
  | early => rfl
  | refused => exact List.take_take.trans (by rw [Nat.min_self])
  | synced last lastMhp cid ch dl c' _ _ hch hmc _ hst =>
    obtain ⟨app, rfl⟩ := streamApply_prefix applies _ _ _ _ hst
    exact take_take_append q app (ch + 1) m (Nat.succ_le_succ hmc) hm
  | partway last cid ch dl ok c' r e hch hmc _ hst =>
    obtain ⟨app, rfl⟩ := streamApply_prefix applies _ _ _ _ hst
    exact take_take_append q app (ch + 1) m (Nat.succ_le_succ hmc) hm

/-- a converse of `FastEnd.applied`: its conditions, with the peer's answer `cid` to the common-block request (`hc`)
and both distances inside the two-round window (`hwin`), give that outcome -/
theorem fastSync_applied (applies : List (Blk ι) → Blk ι → Bool) (finAfter : List (Blk ι) → Nat) (n fin : Nat)
    (q : List (Blk ι)) (target : Blk ι) (peer : Peer ι) (cid : ι) (ch : Nat) (dl c' : List (Blk ι))
    (hc : peer.common (idsAt q (getLastHeights (q.length - 1) (2 * n))) = some (some cid))
    (hch : heightOf q cid = some ch) (hfin : fin ≤ ch)
    (hwin : q.length - 1 - ch ≤ 2 * n ∧ u32sub target.height ch ≤ 2 * n)
    (hdl : download peer.segment cid ch target.id target.height = (dl, true)) (hok : ∀ b ∈ dl, b.ok = true)
    (happ : applyAll applies (q.take (ch + 1)) dl = (c', true)) :
    fastSync applies finAfter n fin q target peer = ⟨c', [], false, none⟩ := by
  unfold fastSync
  dsimp only
  rw [hc]
  dsimp only
  rw [hch]
  dsimp only
  rw [if_neg (Nat.not_lt.mpr hfin), if_neg (not_or.mpr ⟨Nat.not_lt.mpr hwin.1, Nat.not_lt.mpr hwin.2⟩), hdl]
  dsimp only
  rw [if_neg (by simpa using hok), if_neg (by decide), happ]

/-- **Fast sync against an honest peer converges.**  The requester is on `init ++ last :: qOwn`, an honest
responder on `init ++ last :: s ++ e :: rest` (`last` is the fork point, not below the requester's finalized
height; `e` the received block; `rest` whatever the responder has above it; block ids are unique and no block of
`qOwn` is on the responder's chain).  The responder's blocks up to `e` are linked to `last`, valid and accepted
by the processor one after the other, and both own parts fit in the two-round window.  Then one round of the fast
synchroniser ends on the responder's chain up to `e`: no error, nobody banned, no temp block left. -/
theorem fastSync_honest (applies : List (Blk ι) → Blk ι → Bool)
    (finAfter : List (Blk ι) → Nat) (n fin mhp : Nat) (init : List (Blk ι)) (last : Blk ι)
    (qOwn s : List (Blk ι)) (e : Blk ι) (rest : List (Blk ι))
    (hndp : ((init ++ last :: (s ++ e :: rest)).map (·.id)).Nodup)
    (hndq : ((init ++ last :: qOwn).map (·.id)).Nodup)
    (hdisj : ∀ y ∈ qOwn, ∀ x ∈ init ++ last :: (s ++ e :: rest), x.id ≠ y.id)
    (hheight : last.height = init.length)
    (hlinked : Linked last.id last.height (s ++ e :: rest))
    (hok : ∀ b ∈ s ++ [e], b.ok = true)
    (hvalid : ValidChain applies (init ++ last :: (s ++ [e])))
    (hfin : fin ≤ init.length)
    (hn : 1 ≤ n) (hwq : qOwn.length ≤ 2 * n - 2) (hwp : s.length + 1 ≤ 2 * n)
    (hbq : init.length + 1 + qOwn.length ≤ two32) (hbp : init.length + 1 + s.length + 1 ≤ two32)
    (hbn : 2 * n ≤ two32) :
    fastSync applies finAfter n fin (init ++ last :: qOwn) e (honest (init ++ last :: (s ++ e :: rest)) mhp)
      = ⟨init ++ last :: (s ++ [e]), [], false, none⟩ := by
  have hqlen : (init ++ last :: qOwn).length - 1 = init.length + qOwn.length := by
    rw [List.length_append, List.length_cons]; omega
  have hch : heightOf (init ++ last :: qOwn) last.id = some init.length :=
    heightOf_split init last qOwn (fun x hx => nodup_split_ne init (last :: qOwn) hndq x hx last List.mem_cons_self)
  have heh := linked_end_height _ _ s e rest hlinked
  rw [hheight] at heh
  have htake : (init ++ last :: qOwn).take (init.length + 1) = init ++ [last] := by
    rw [show init ++ last :: qOwn = (init ++ [last]) ++ qOwn by simp]
    exact List.take_left' (by simp)
  refine fastSync_applied applies finAfter n fin _ e _ last.id init.length (s ++ [e]) _
    (honest_common_fork_point n mhp init last qOwn _ hndp hdisj hn hwq hbq hbn) hch hfin ?_ ?_ hok ?_
  · rw [hqlen, Nat.add_sub_cancel_left, u32sub_of_le (heh ▸ Nat.le_trans (Nat.le_add_right _ 1) (Nat.le_add_right _ _)) (heh ▸ hbp), heh,
      Nat.add_assoc, Nat.add_sub_cancel_left, Nat.add_comm]
    exact ⟨Nat.le_trans hwq (Nat.sub_le _ _), hwp⟩
  · have := dlLoop_honest _ mhp hndp e rest (e.height - init.length + 1) init last s rfl hlinked (by omega)
    rwa [hheight] at this
  · rw [htake]
    exact applyAll_valid applies _ _ _ hvalid (by simp) (by simp)

/-- a converse of `BlockEnd.synced`: its conditions, with the sync condition for the reported tip and for the peer's
last block (`hd1`, `hd2`) and a common-block search that ends at height `ch`, the height of `bq` (`hcs`, `hbq`), give
that outcome -/
theorem blockSync_synced (applies : List (Blk ι) → Blk ι → Bool) (n fin myMhp : Nat) (q : List (Blk ι))
    (best : Tip ι) (peer : Peer ι) (last : Blk ι) (lastMhp ch : Nat) (bq : Blk ι) (dl c' : List (Blk ι))
    (hd1 : isDifferentChain myMhp best.mhp (q.length - 1) best.height = true)
    (hlast : peer.last = some (last, lastMhp)) (hlok : last.ok = true)
    (hd2 : isDifferentChain myMhp lastMhp (q.length - 1) last.height = true)
    (hcs : commonSearch n fin q peer 3 (getCommonBlockStartSearchHeight (q.length - 1) n) = .ok ch)
    (hfin : fin ≤ ch) (hbq : q[ch]? = some bq)
    (hdl : download peer.segment bq.id ch last.id last.height = (dl, true))
    (hst : streamApply applies (q.take (ch + 1)) dl = (c', none)) :
    blockSync applies n fin myMhp q best peer = ⟨c', [], false, none⟩ := by
  unfold blockSync
  dsimp only
  rw [hd1, if_neg (by decide), hlast]
  dsimp only
  rw [hlok, if_neg (by decide), hd2, if_neg (by decide), hcs]
  dsimp only
  rw [if_neg (Nat.not_lt.mpr hfin), hbq]
  dsimp only
  rw [hdl, hst]
  rfl

/-- block sync with a peer that announced the block `e` and serves its blocks from the chain
`com ++ s' ++ e :: rest` (valid up to `e`), once the search has returned a height `ch` of the common part `com`
that is not below the finalized height: the requester ends on `com ++ s' ++ [e]` -/
theorem blockSync_honest_of_search (applies : List (Blk ι) → Blk ι → Bool) (n fin myMhp mhp : Nat)
    (com qOwn s' : List (Blk ι)) (e : Blk ι) (rest : List (Blk ι)) (best : Tip ι) (peer : Peer ι)
    (hlast : peer.last = some (e, mhp)) (hseg : peer.segment = (honest (com ++ (s' ++ e :: rest)) mhp).segment)
    (hf : Fork com qOwn (s' ++ e :: rest)) (hchain : ChainOK (com ++ (s' ++ e :: rest)))
    (hvalid : ValidChain applies (com ++ (s' ++ [e]))) (hok : ∀ b ∈ com ++ (s' ++ [e]), b.ok = true)
    (hd1 : isDifferentChain myMhp best.mhp ((com ++ qOwn).length - 1) best.height = true)
    (hd2 : isDifferentChain myMhp mhp ((com ++ qOwn).length - 1) e.height = true) (ch : Nat)
    (hcs : commonSearch n fin (com ++ qOwn) peer 3 (getCommonBlockStartSearchHeight ((com ++ qOwn).length - 1) n)
      = .ok ch)
    (hlt : ch < com.length) (hge : fin ≤ ch) :
    blockSync applies n fin myMhp (com ++ qOwn) best peer = ⟨com ++ (s' ++ [e]), [], false, none⟩ := by
  refine blockSync_synced applies n fin myMhp _ best peer e mhp ch com[ch] (com.drop (ch + 1) ++ s' ++ [e]) _
    hd1 hlast (hok e (by simp)) hd2 hcs hge
    (by rw [List.getElem?_append_left hlt, List.getElem?_eq_getElem hlt]) ?_ ?_
  · have := download_honest (com ++ (s' ++ e :: rest)) mhp hf.ndp hchain (com.take ch) com[ch]
      (com.drop (ch + 1) ++ s') e rest (by
        conv => lhs; rw [← List.take_append_drop ch com, List.drop_eq_getElem_cons hlt]
        simp only [List.append_assoc, List.cons_append])
    rwa [List.length_take, Nat.min_eq_left (by omega), ← hseg] at this
  · rw [List.take_append_of_le_length (by omega)]
    refine streamApply_valid applies _ _ _ hvalid ?_ (List.ne_nil_of_length_pos (by rw [List.length_take]; omega)) ?_
    · rw [List.append_assoc, ← List.append_assoc (com.take (ch + 1)), List.take_append_drop]
    · intro b hb
      apply hok b
      simp only [List.mem_append, List.mem_singleton] at hb ⊢
      exact hb.elim (fun h => h.elim (fun h => Or.inl (List.mem_of_mem_drop h)) (fun h => Or.inr (Or.inl h)))
        (fun h => Or.inr (Or.inr h))

end Ends

section Traces
variable {ι : Type} [DecidableEq ι]

/-- the chain states of one round of `fastSync`, in order, one block deleted or applied per step:
the same decisions as `fastSync`; where that deletes down to the common block, applies the
downloaded blocks, and (on failure) deletes again and re-applies the temp blocks, every intermediate
chain is listed.  `C19_fast_sync_states` ties the list to `fastSync`: it ends in the chain `fastSync` returns. -/
def fastSyncStates (applies : List (Blk ι) → Blk ι → Bool) (finAfter : List (Blk ι) → Nat) (n fin : Nat)
    (q : List (Blk ι)) (target : Blk ι) (peer : Peer ι) : List (List (Blk ι)) :=
  match peer.common (idsAt q (getLastHeights (q.length - 1) (2 * n))) with
  | some (some cid) =>
    match heightOf q cid with
    | some ch =>
      if ch < fin then []
      else if (q.length - 1) - ch > 2 * n ∨ u32sub target.height ch > 2 * n then []
      else
        let dl := download peer.segment cid ch target.id target.height
        if dl.1.any (fun b => !b.ok) then []
        else if !dl.2 then []
        else
          let r := applyAll applies (q.take (ch + 1)) dl.1
          let s1 := walk q (ch + 1) (r.1.drop (ch + 1))
          if r.2 then s1
          else
            let finNow := max fin (finAfter r.1)
            if ch < finNow ∧ ch + 1 < r.1.length then s1 ++ walk r.1 (finNow + 1) []
            else s1 ++ walk r.1 (ch + 1) ((reapply applies (r.1.take (ch + 1)) (q.drop (ch + 1))).1.drop (ch + 1))
    | none => []
  | _ => []

/-- the chain states of one round of `blockSync` (after the start state `q`), by the same decisions as `blockSync`;
`C19_block_sync_states` ties the list to it -/
def blockSyncStates (applies : List (Blk ι) → Blk ι → Bool) (n fin myMhp : Nat) (q : List (Blk ι))
    (best : Tip ι) (peer : Peer ι) : List (List (Blk ι)) :=
  if !isDifferentChain myMhp best.mhp (q.length - 1) best.height then []
  else
    match peer.last with
    | none => []
    | some (last, lastMhp) =>
      if !last.ok then []
      else if !isDifferentChain myMhp lastMhp (q.length - 1) last.height then []
      else
        match commonSearch n fin q peer 3 (getCommonBlockStartSearchHeight (q.length - 1) n) with
        | .error _ => []
        | .ok ch =>
          if ch < fin then walk q (fin + 1) []
          else
            let cid := match q[ch]? with | some b => b.id | none => last.id
            let dl := download peer.segment cid ch last.id last.height
            walk q (ch + 1) ((streamApply applies (q.take (ch + 1)) dl.1).1.drop (ch + 1))

end Traces

end LiskVerif.Sync
