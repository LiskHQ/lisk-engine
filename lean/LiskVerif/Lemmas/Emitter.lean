/-
Lemmas about the event-emitter model (`Model/Emitter.lean`): the effect of a publication on the receive logs,
the effect of closing duplicate-free lists, what every operation leaves alone, and the invariant of emitters
whose channels are all distinct.
Core Lean only.
-/
import LiskVerif.Model.Emitter
import LiskVerif.Lemmas.AList

namespace LiskVerif.Emitter

/-! ### receive logs -/

/-- appending to the log of `c` overwrites its entry where it stands, or adds one -/
theorem pushRecv_eq_upsert (r : List (Chan × List Msg)) (c : Chan) (m : Msg) :
    pushRecv r c m = AList.upsert r c ((r.lookup c).getD [] ++ [m]) := by
  induction r with
  | nil => rfl
  | cons p r ih =>
    obtain ⟨c', l⟩ := p
    by_cases h : c' = c
    · subst h; simp [pushRecv, AList.upsert, List.lookup]
    · simp [pushRecv, AList.upsert, List.lookup, h, beq_eq_false_iff_ne.mpr (Ne.symm h), ih]

theorem lookup_pushRecv_self (r : List (Chan × List Msg)) (c : Chan) (m : Msg) :
    ((pushRecv r c m).lookup c).getD [] = (r.lookup c).getD [] ++ [m] := by
  rw [pushRecv_eq_upsert, ← AList.get_eq_lookup, AList.get_upsert, if_pos rfl]; rfl

theorem lookup_pushRecv_other (r : List (Chan × List Msg)) (c d : Chan) (m : Msg) (h : d ≠ c) :
    ((pushRecv r c m).lookup d) = (r.lookup d) := by
  rw [pushRecv_eq_upsert, ← AList.get_eq_lookup, AList.get_upsert, if_neg h, AList.get_eq_lookup]

/-- a round of sends to channels none of which is closed: nobody panics, every channel's log grows by
one copy of the message per occurrence in the list, nothing else changes -/
theorem sendAll_spec (m : Msg) (l : List Chan) (s : St) (hd : s.dead = false) (hc : ∀ c ∈ l, c ∉ s.closed) :
    (sendAll s m l).dead = false ∧ (sendAll s m l).subs = s.subs ∧ (sendAll s m l).topics = s.topics ∧
    ∀ d, (sendAll s m l).recvOf d = s.recvOf d ++ List.replicate (l.count d) m := by
  induction l generalizing s with
  | nil => simp [sendAll, hd]
  | cons c r ih =>
    have hcc : s.closed.contains c = false := by
      have := hc c (by simp)
      simpa using this
    have ih' := ih { s with recv := pushRecv s.recv c m } hd (fun x hx => hc x (by simp [hx]))
    simp only [sendAll, hcc, Bool.false_eq_true, if_false]
    refine ⟨ih'.1, ih'.2.1, ih'.2.2.1, ?_⟩
    intro d
    rw [ih'.2.2.2 d]
    by_cases h : d = c
    · subst h
      simp only [St.recvOf, lookup_pushRecv_self, List.count_cons_self, List.replicate_succ]
      simp
    · have hne : (c == d) = false := by simp; exact fun e => h e.symm
      simp only [St.recvOf, lookup_pushRecv_other _ _ _ _ h, List.count_cons, hne]
      simp

/-- closing a duplicate-free list of open channels: nobody panics, exactly these channels get closed -/
theorem closeList_spec (l : List Chan) (s : St) (hd : s.dead = false) (hn : l.Nodup) (hc : ∀ c ∈ l, c ∉ s.closed) :
    (closeList s l).dead = false ∧ (closeList s l).closed = s.closed ++ l ∧ (closeList s l).subs = s.subs ∧
    (closeList s l).topics = s.topics := by
  induction l generalizing s with
  | nil => simp [closeList, hd]
  | cons c r ih =>
    have hcc : s.closed.contains c = false := by
      have := hc c (by simp)
      simpa using this
    have hn' := List.nodup_cons.mp hn
    have ih' := ih { s with closed := s.closed ++ [c] } hd hn'.2 (by
      intro x hx
      simp only [List.mem_append, List.mem_singleton, not_or]
      exact ⟨hc x (by simp [hx]), fun e => hn'.1 (e ▸ hx)⟩)
    simp only [closeList, hcc, Bool.false_eq_true, if_false]
    refine ⟨ih'.1, ?_, ih'.2.2.1, ih'.2.2.2⟩
    rw [ih'.2.1]; simp

/-! ### what the operations leave alone, in every state (panicking or not) -/

theorem closeList_frame (l : List Chan) (s : St) :
    (closeList s l).recv = s.recv ∧ (closeList s l).next = s.next ∧
      ∀ c ∈ s.closed, c ∈ (closeList s l).closed := by
  induction l generalizing s with
  | nil => exact ⟨rfl, rfl, fun _ h => h⟩
  | cons c r ih =>
    simp only [closeList]
    split
    · exact ⟨rfl, rfl, fun _ h => h⟩
    · obtain ⟨h1, h2, h3⟩ := ih { s with closed := s.closed ++ [c] }
      exact ⟨h1, h2, fun x hx => h3 x (List.mem_append_left _ hx)⟩

theorem sendAll_frame (m : Msg) (l : List Chan) (s : St) :
    (sendAll s m l).next = s.next ∧ (sendAll s m l).closed = s.closed := by
  induction l generalizing s with
  | nil => exact ⟨rfl, rfl⟩
  | cons c r ih =>
    simp only [sendAll]
    split
    · exact ⟨rfl, rfl⟩
    · exact ih _

/-- no operation gives a channel id back or reopens a channel -/
theorem step_frame (s : St) (o : Op) :
    s.next ≤ (step s o).next ∧ ∀ c ∈ s.closed, c ∈ (step s o).closed := by
  have hcl : ∀ l, s.next ≤ (closeList s l).next ∧ ∀ c ∈ s.closed, c ∈ (closeList s l).closed :=
    fun l => ⟨Nat.le_of_eq (closeList_frame l s).2.1.symm, (closeList_frame l s).2.2⟩
  unfold step
  split
  · exact ⟨Nat.le_refl _, fun _ h => h⟩
  · cases o with
    | newChan | subscribe t => exact ⟨Nat.le_succ _, fun _ h => h⟩
    | on t c => exact ⟨Nat.le_refl _, fun _ h => h⟩
    | publish t m =>
      obtain ⟨h1, h2⟩ := sendAll_frame m (s.chansOf t) s
      simp only [publish, h1, h2]
      exact ⟨Nat.le_refl _, fun _ h => h⟩
    | close => simp only [closeAll]; split <;> exact hcl _
    | unsubscribeAll t =>
      simp only [unsubscribeAll]
      split
      · exact ⟨Nat.le_refl _, fun _ h => h⟩
      · split <;> exact hcl _
    | unsubscribe t c =>
      simp only [unsubscribe]
      split
      · exact ⟨Nat.le_refl _, fun _ h => h⟩
      · split <;> exact hcl _

/-- no operation other than a publication changes any receive log -/
theorem step_recvOf_of_ne_publish (s : St) (o : Op) (h : ∀ t m, o ≠ .publish t m) (d : Chan) :
    (step s o).recvOf d = s.recvOf d := by
  have hcl : ∀ l, (closeList s l).recv = s.recv := fun l => (closeList_frame l s).1
  unfold step
  split
  · rfl
  · cases o with
    | newChan | on t c | subscribe t => rfl
    | publish t m => exact absurd rfl (h t m)
    | close => simp only [closeAll, St.recvOf]; split <;> simp [hcl]
    | unsubscribeAll t =>
      simp only [unsubscribeAll, St.recvOf]
      split
      · rfl
      · split <;> simp [hcl]
    | unsubscribe t c =>
      simp only [unsubscribe, St.recvOf]
      split
      · rfl
      · split <;> simp [hcl]

/-! ### the invariant of an emitter whose registered channels are pairwise distinct -/

/-- every registration is of a distinct, allocated, open channel; closed channels are allocated; no panic
happened.  `Subscribe` keeps it (fresh channels), `On` with an already registered channel breaks it. -/
structure Inv (s : St) : Prop where
  nodup : (s.subs.map (·.2)).Nodup
  alloc : ∀ p ∈ s.subs, p.2 < s.next
  open_ : ∀ p ∈ s.subs, p.2 ∉ s.closed
  closedAlloc : ∀ c ∈ s.closed, c < s.next
  alive : s.dead = false

theorem inv_init : Inv {} := by
  constructor <;> simp

theorem chansOf_sublist (s : St) (t : String) : (s.chansOf t).Sublist (s.subs.map (·.2)) := by
  unfold St.chansOf
  exact List.Sublist.map _ (List.filter_sublist)

theorem mem_chansOf {s : St} {t : String} {c : Chan} : c ∈ s.chansOf t ↔ (t, c) ∈ s.subs := by
  unfold St.chansOf
  simp only [List.mem_map, List.mem_filter, beq_iff_eq]
  constructor
  · rintro ⟨p, ⟨hp, ht⟩, hc⟩
    obtain ⟨a, b⟩ := p
    simp at ht hc; subst ht; subst hc; exact hp
  · intro h; exact ⟨(t, c), ⟨h, rfl⟩, rfl⟩

theorem Inv.chansOf_nodup {s : St} (h : Inv s) (t : String) : (s.chansOf t).Nodup :=
  List.Sublist.nodup (chansOf_sublist s t) h.nodup

theorem Inv.chansOf_open {s : St} (h : Inv s) (t : String) : ∀ c ∈ s.chansOf t, c ∉ s.closed := by
  intro c hc
  exact h.open_ (t, c) (mem_chansOf.mp hc)

theorem Inv.step_publish_recvOf {s : St} (h : Inv s) (t : String) (m : Msg) (d : Chan) :
    (step s (.publish t m)).recvOf d = s.recvOf d ++ List.replicate ((s.chansOf t).count d) m := by
  unfold step
  simp only [h.alive, Bool.false_eq_true, if_false]
  obtain ⟨_, _, _, hrecv⟩ := sendAll_spec m (s.chansOf t) s h.alive (h.chansOf_open t)
  exact hrecv d

/-- no step changes the log of a channel that is registered for no topic -/
theorem Inv.step_recvOf_unregistered {s : St} (h : Inv s) (o : Op) {d : Chan} (hd : ∀ t, d ∉ s.chansOf t) :
    (step s o).recvOf d = s.recvOf d := by
  by_cases hp : ∃ t m, o = .publish t m
  · obtain ⟨t, m, rfl⟩ := hp
    rw [h.step_publish_recvOf, List.count_eq_zero_of_not_mem (hd t), List.replicate_zero, List.append_nil]
  · exact step_recvOf_of_ne_publish s o (fun t m e => hp ⟨t, m, e⟩) d

/-- the operations the engine uses: every operation but `On` (channels come from `Subscribe` only) -/
def Op.fresh : Op → Bool
  | .on _ _ => false
  | _ => true

theorem inv_newChan {s : St} (h : Inv s) : Inv (newChan s).1 := by
  constructor
  · exact h.nodup
  · intro p hp; exact Nat.lt_succ_of_lt (h.alloc p hp)
  · exact h.open_
  · intro c hc; exact Nat.lt_succ_of_lt (h.closedAlloc c hc)
  · exact h.alive

theorem inv_subscribe {s : St} (h : Inv s) (t : String) : Inv (subscribe s t).1 := by
  constructor
  · show ((s.subs ++ [(t, s.next)]).map (·.2)).Nodup
    rw [List.map_append, List.nodup_append]
    refine ⟨h.nodup, by simp, ?_⟩
    intro a ha b hb
    simp at hb; subst hb
    obtain ⟨p, hp, rfl⟩ := List.mem_map.mp ha
    exact Nat.ne_of_lt (h.alloc p hp)
  · intro p hp
    show p.2 < s.next + 1
    rcases List.mem_append.mp hp with hp | hp
    · exact Nat.lt_succ_of_lt (h.alloc p hp)
    · simp at hp; subst hp; simp
  · intro p hp
    show p.2 ∉ s.closed
    rcases List.mem_append.mp hp with hp | hp
    · exact h.open_ p hp
    · simp at hp; subst hp
      intro hc; exact Nat.lt_irrefl _ (h.closedAlloc _ hc)
  · intro c hc; exact Nat.lt_succ_of_lt (h.closedAlloc c hc)
  · exact h.alive

theorem inv_publish {s : St} (h : Inv s) (t : String) (m : Msg) : Inv (publish s t m) := by
  obtain ⟨hdead, hsubs, _⟩ := sendAll_spec m (s.chansOf t) s h.alive (h.chansOf_open t)
  obtain ⟨hnext, hclosed⟩ := sendAll_frame m (s.chansOf t) s
  unfold publish
  constructor
  · rw [hsubs]; exact h.nodup
  · rw [hsubs, hnext]; exact h.alloc
  · rw [hsubs, hclosed]; exact h.open_
  · rw [hclosed, hnext]; exact h.closedAlloc
  · exact hdead

theorem inv_closeAll {s : St} (h : Inv s) : Inv (closeAll s) := by
  have hnext := (closeList_frame (s.subs.map (·.2)) s).2.1
  obtain ⟨hdead, hclosed, _⟩ := closeList_spec (s.subs.map (·.2)) s h.alive h.nodup (by
    intro c hc
    obtain ⟨p, hp, rfl⟩ := List.mem_map.mp hc
    exact h.open_ p hp)
  unfold closeAll
  simp only [hdead, Bool.false_eq_true, if_false]
  constructor
  · simp
  · simp
  · simp
  · intro c hc
    simp only [hclosed, hnext] at hc ⊢
    rcases List.mem_append.mp hc with hc | hc
    · exact h.closedAlloc c hc
    · obtain ⟨p, hp, rfl⟩ := List.mem_map.mp hc
      exact h.alloc p hp
  · simp

/-- `UnsubscribeAll` / `Unsubscribe`: a part `l` of the channels of topic `t` is closed, and no registration of
a channel of `l` is kept — nobody panics and the invariant holds again -/
theorem Inv.close_filter {s : St} (h : Inv s) {t : String} {l : List Chan} (hl : l.Sublist (s.chansOf t))
    (keep : String × Chan → Bool) (hk : ∀ p ∈ s.subs, keep p = true → p.2 ∉ l) (ts : List String) :
    (closeList s l).dead = false ∧
      Inv { closeList s l with subs := (closeList s l).subs.filter keep, topics := ts } := by
  have hnext := (closeList_frame l s).2.1
  obtain ⟨hdead, hclosed, hsubs, _⟩ := closeList_spec l s h.alive (hl.nodup (h.chansOf_nodup t))
    (fun x hx => h.chansOf_open t x (hl.subset hx))
  refine ⟨hdead, ?_, ?_, ?_, ?_, hdead⟩
  · simp only [hsubs]
    exact List.Sublist.nodup (List.Sublist.map _ List.filter_sublist) h.nodup
  · intro p hp
    simp only [hsubs, hnext] at hp ⊢
    exact h.alloc p (List.mem_filter.mp hp).1
  · intro p hp
    simp only [hsubs, hclosed, List.mem_append, not_or] at hp ⊢
    have hp' := List.mem_filter.mp hp
    exact ⟨h.open_ p hp'.1, hk p hp'.1 hp'.2⟩
  · intro c hc
    simp only [hclosed, hnext] at hc ⊢
    rcases List.mem_append.mp hc with hc | hc
    · exact h.closedAlloc c hc
    · exact h.alloc (t, c) (mem_chansOf.mp (hl.subset hc))

/-- a registration of a channel of topic `t` is a registration under `t` (channels are registered once) -/
theorem Inv.topic_of_mem_chansOf {s : St} (h : Inv s) {t : String} {p : String × Chan} (hp : p ∈ s.subs)
    (hc : p.2 ∈ s.chansOf t) : p.1 = t :=
  congrArg Prod.fst (inj_of_nodup_map _ h.nodup hp (mem_chansOf.mp hc) rfl)

theorem inv_unsubscribeAll {s : St} (h : Inv s) (t : String) : Inv (unsubscribeAll s t).1 := by
  unfold unsubscribeAll
  by_cases hk : s.topics.contains t
  · have := h.close_filter (t := t) (List.Sublist.refl _) (fun p => p.1 != t)
      (fun p hp hkp hc => by simp [h.topic_of_mem_chansOf hp hc] at hkp) ((closeList s (s.chansOf t)).topics.filter (· != t))
    simp only [hk, Bool.not_true, Bool.false_eq_true, if_false]
    rw [if_neg (Bool.eq_false_iff.mp this.1)]
    exact this.2
  · simp only [hk, Bool.not_false, if_true]; exact h

theorem inv_unsubscribe {s : St} (h : Inv s) (t : String) (c : Chan) : Inv (unsubscribe s t c).1 := by
  unfold unsubscribe
  by_cases hk : s.topics.contains t
  · have := h.close_filter (t := t) (l := (s.chansOf t).filter (· == c)) List.filter_sublist
      (fun p => !(p.1 == t && p.2 == c))
      (fun p hp hkp hc => by
        have hc' := List.mem_filter.mp hc
        simp [h.topic_of_mem_chansOf hp hc'.1, beq_iff_eq.mp hc'.2] at hkp)
      (closeList s ((s.chansOf t).filter (· == c))).topics
    simp only [hk, Bool.not_true, Bool.false_eq_true, if_false]
    rw [if_neg (Bool.eq_false_iff.mp this.1)]
    exact this.2
  · simp only [hk, Bool.not_false, if_true]; exact h

theorem inv_step {s : St} (h : Inv s) (o : Op) (ho : o.fresh = true) : Inv (step s o) := by
  unfold step
  simp only [h.alive, Bool.false_eq_true, if_false]
  cases o with
  | newChan => exact inv_newChan h
  | on t c => simp [Op.fresh] at ho
  | subscribe t => exact inv_subscribe h t
  | publish t m => exact inv_publish h t m
  | close => exact inv_closeAll h
  | unsubscribeAll t => exact inv_unsubscribeAll h t
  | unsubscribe t c => exact inv_unsubscribe h t c

theorem inv_foldl {s : St} (h : Inv s) (ops : List Op) (ho : ∀ o ∈ ops, o.fresh = true) : Inv (ops.foldl step s) := by
  induction ops generalizing s with
  | nil => exact h
  | cons o r ih =>
    exact ih (inv_step h o (ho o (by simp))) (fun x hx => ho x (by simp [hx]))

end LiskVerif.Emitter
