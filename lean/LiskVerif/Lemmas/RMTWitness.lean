/-
The right witness of the regular Merkle tree. On the way from the last leaf to the left of a split point up to the
root, the left siblings are the append path of the leaves to the left (`apSpec`) and the right siblings, as far as
they are not empty, are the right witness (`witSpec`): `GenerateRightWitness` on an exact node store returns them,
and `CalculateRootFromRightWitness` folds the two lists to the root — within its 64 layers of `uint64` arithmetic.
-/
import LiskVerif.Lemmas.RMTStore

namespace LiskVerif.RMT

/-- The right witness, from `layer` on, of a split point whose last leaf to the left lies in block `k` of the layer: the
right siblings on the way from `(layer, k)` to the root, as far as they are not empty, bottom-up. (The left siblings
on the same way are the append path `apSpec hf L f layer k`.) -/
def witSpec (hf : HashFns) (L : List Bytes) : Nat → Nat → Nat → List Bytes
  | 0, _, _ => []
  | f + 1, layer, k =>
    if L.length ≤ (k + 1) * 2 ^ layer then []
    else if k % 2 = 1 then witSpec hf L f (layer + 1) (k / 2)
    else rootH hf (blkCore L layer (k + 1)) :: witSpec hf L f (layer + 1) (k / 2)

theorem witSpec_succ (hf : HashFns) (L : List Bytes) (f layer k : Nat) : witSpec hf L (f + 1) layer k =
    if L.length ≤ (k + 1) * 2 ^ layer then []
    else if k % 2 = 1 then witSpec hf L f (layer + 1) (k / 2)
    else rootH hf (blkCore L layer (k + 1)) :: witSpec hf L f (layer + 1) (k / 2) := rfl

theorem witSpec_ge (hf : HashFns) (L : List Bytes) (f layer k : Nat) (h : L.length ≤ (k + 1) * 2 ^ layer) :
    witSpec hf L f layer k = [] := by
  cases f with
  | zero => rfl
  | succ f => rw [witSpec_succ, if_pos h]

/-- where the block after the parent of `k` starts -/
theorem half_succ_mul_pow_succ (k layer : Nat) :
    (k / 2 + 1) * 2 ^ (layer + 1) = if k % 2 = 1 then (k + 1) * 2 ^ layer else (k + 1) * 2 ^ layer + 2 ^ layer := by
  rw [mul_pow_succ]
  split
  · rw [show 2 * (k / 2 + 1) = k + 1 by omega]
  · rw [show 2 * (k / 2 + 1) = k + 1 + 1 by omega, Nat.succ_mul]

/-- the fuel does not matter once it covers the height -/
theorem witSpec_fuel (hf : HashFns) (L : List Bytes) : ∀ (f f' layer k : Nat),
    L.length ≤ 2 ^ (layer + f) → L.length ≤ 2 ^ (layer + f') →
    witSpec hf L f layer k = witSpec hf L f' layer k := by
  have hz : ∀ f layer k, L.length ≤ 2 ^ (layer + 0) → witSpec hf L f layer k = [] := fun f layer k h =>
    witSpec_ge hf L f layer k (Nat.le_trans h (Nat.le_mul_of_pos_left _ (Nat.succ_pos k)))
  intro f
  induction f with
  | zero => intro f' layer k h1 _; rw [hz 0 _ _ h1, hz f' _ _ h1]
  | succ f ih =>
    intro f' layer k h1 h2
    cases f' with
    | zero => rw [hz 0 _ _ h2, hz (f + 1) _ _ h2]
    | succ f' =>
      rw [show layer + (f + 1) = layer + 1 + f by omega] at h1
      rw [show layer + (f' + 1) = layer + 1 + f' by omega] at h2
      rw [witSpec_succ, witSpec_succ, ih f' (layer + 1) (k / 2) h1 h2]

/-- at most one entry per layer below `B` when there are at most `2^B` leaves -/
theorem witSpec_length (hf : HashFns) (L : List Bytes) (B : Nat) (hB : L.length ≤ 2 ^ B) :
    ∀ (f layer k : Nat), (witSpec hf L f layer k).length ≤ B - layer := by
  intro f
  induction f with
  | zero => intro layer k; simp [witSpec]
  | succ f ih =>
    intro layer k
    rw [witSpec_succ]
    have := ih (layer + 1) (k / 2)
    by_cases hge : L.length ≤ (k + 1) * 2 ^ layer
    · rw [if_pos hge]; simp
    · rw [if_neg hge]
      have hlB : layer < B := by
        have : 2 ^ layer ≤ (k + 1) * 2 ^ layer := Nat.le_mul_of_pos_left _ (Nat.succ_pos k)
        exact (Nat.pow_lt_pow_iff_right (a := 2) (by decide)).1 (by omega)
      split
      · omega
      · simp only [List.length_cons]; omega

/-- below the lowest set bit of the split point the witness has no entry -/
theorem witSpec_skip (hf : HashFns) (L : List Bytes) : ∀ (d f layer q : Nat), 0 < q →
    witSpec hf L (d + f) layer (q * 2 ^ d - 1) = witSpec hf L f (layer + d) (q - 1) := by
  intro d
  induction d with
  | zero => intro f layer q _; simp
  | succ d ih =>
    intro f layer q h0
    have hpos : 0 < q * 2 ^ d := Nat.mul_pos h0 (Nat.two_pow_pos d)
    have e : q * 2 ^ (d + 1) = 2 * (q * 2 ^ d) := by rw [Nat.pow_succ, ← Nat.mul_assoc, Nat.mul_comm]
    have e2 : (q * 2 ^ (d + 1) - 1 + 1) * 2 ^ layer = (q - 1 + 1) * 2 ^ (layer + (d + 1)) := by
      rw [show q * 2 ^ (d + 1) - 1 + 1 = q * 2 ^ (d + 1) by omega, show q - 1 + 1 = q by omega, Nat.mul_assoc,
        ← Nat.pow_add, Nat.add_comm]
    rw [show d + 1 + f = (d + f) + 1 by omega, witSpec_succ, e2]
    by_cases hge : L.length ≤ (q - 1 + 1) * 2 ^ (layer + (d + 1))
    · rw [if_pos hge, witSpec_ge hf L _ _ _ hge]
    · rw [if_neg hge, if_pos (by omega), show (q * 2 ^ (d + 1) - 1) / 2 = q * 2 ^ d - 1 by omega, ih f (layer + 1) q h0,
        show layer + 1 + d = layer + (d + 1) by omega]

/-- `GenerateRightWitness` reads the sibling blocks from the store: `k` is the block of the last leaf to the left -/
theorem witnessLoop_spec (hf : HashFns) (t : Tree) (L : List Bytes) (hst : Stored hf t L) (i : Nat) :
    ∀ (f layer k : Nat) (acc : List Bytes), (i - 1) / 2 ^ layer = k →
      witnessLoop t (layerStructure L.length) L.length (i - 1) f layer ((k + 1) * 2 ^ layer) acc
        = some (acc ++ witSpec hf L f layer k) := by
  intro f
  induction f with
  | zero => intro layer k acc _; simp [witnessLoop, witSpec]
  | succ f ih =>
    intro layer k acc hk
    have hp : 0 < 2 ^ layer := Nat.pow_pos (by decide)
    have hk2 : (i - 1) / 2 ^ (layer + 1) = k / 2 := by rw [div_pow_succ, hk]
    have hinc := half_succ_mul_pow_succ k layer
    simp only [witnessLoop, witSpec_succ, Nat.shiftRight_eq_div_pow, Nat.mul_div_cancel _ hp, hk]
    by_cases hb : k % 2 = 1
    · have hb' : ((k + 1) % 2 == 0) = true := by simp; omega
      rw [if_pos hb] at hinc
      rw [if_pos hb', if_pos hb, ← hinc, ih (layer + 1) (k / 2) acc hk2]
      by_cases hge : L.length ≤ (k / 2 + 1) * 2 ^ (layer + 1)
      · rw [if_pos hge, witSpec_ge hf L _ _ _ hge]
      · rw [if_neg hge]
    · have hb' : ¬ (((k + 1) % 2 == 0) = true) := by simp; omega
      rw [if_neg hb] at hinc
      rw [if_neg hb', if_neg hb]
      by_cases hge : L.length ≤ (k + 1) * 2 ^ layer
      · rw [if_pos hge, rsi_none (by rw [sibOf_even (by omega)]; exact hge)]
        simp
      · have hlt : sibOf k * 2 ^ layer < L.length := by rw [sibOf_even (by omega)]; omega
        rw [if_neg hge, rsi_eq_repLoc hlt]
        simp only
        rw [Stored_iff.1 hst _ _ (repLoc_nonempty hlt), repLoc_blk, sibOf_even (by omega)]
        simp only
        rw [← hinc, ih (layer + 1) (k / 2) _ hk2]
        simp

/-- `GenerateRightWitness` on a tree with an exact store -/
theorem genWitness_eq (hf : HashFns) (t : Tree) (L : List Bytes) (hst : Stored hf t L)
    (hsize : t.core.size = L.length) (i : Nat) (hi0 : 0 < i) (hi : i ≤ L.length) :
    genWitness t i = some (witSpec hf L (getHeight L.length) 0 (i - 1)) := by
  unfold genWitness
  have := witnessLoop_spec hf t L hst i (getHeight L.length) 0 (i - 1) [] (by simp)
  rw [Nat.pow_zero, Nat.mul_one, show i - 1 + 1 = i by omega] at this
  rw [hsize, if_neg (by omega), if_neg (by omega), if_neg (by omega), this]
  simp

theorem rwLoop_done (hf : HashFns) (i f layer inc : Nat) (init : Bool) (cur : Bytes) :
    rwLoop hf i f layer inc init [] [] cur = some cur := by
  cases f <;> simp [rwLoop]

/-- no hash is merged at a layer: the list is used up, or the bit is clear -/
theorem rwLoop_no_merge {l : List Bytes} {x : Nat} (h : l = [] ∨ x % 2 = 0) : (!l.isEmpty && x % 2 == 1) = false := by
  rcases h with h | h
  · subst h; simp
  · simp [h]

/-- nothing to merge at this layer -/
theorem rwLoop_idle (hf : HashFns) (i f layer inc : Nat) (init : Bool) (ap rw : List Bytes) (cur : Bytes)
    (h1 : ap = [] ∨ (i / 2 ^ layer) % 2 = 0) (h2 : rw = [] ∨ (inc / 2 ^ layer) % 2 = 0) :
    rwLoop hf i (f + 1) layer inc init ap rw cur = rwLoop hf i f (layer + 1) inc init ap rw cur := by
  by_cases he : ap = [] ∧ rw = []
  · obtain ⟨rfl, rfl⟩ := he
    rw [rwLoop_done, rwLoop_done]
  · have hemp : (ap.isEmpty && rw.isEmpty) = false := by
      cases ap <;> cases rw <;> simp at he ⊢
    have c1 := rwLoop_no_merge h1
    have c2 := rwLoop_no_merge h2
    simp only [rwLoop, hemp, Nat.shiftRight_eq_div_pow, c1, c2, Bool.false_eq_true, if_false]

theorem rwLoop_left (hf : HashFns) (i f layer inc : Nat) (a : Bytes) (ap rw : List Bytes) (cur : Bytes)
    (h1 : (i / 2 ^ layer) % 2 = 1) (h2 : rw = [] ∨ (inc / 2 ^ layer) % 2 = 0) :
    rwLoop hf i (f + 1) layer inc true (a :: ap) rw cur = rwLoop hf i f (layer + 1) inc true ap rw (hf.branch a cur) := by
  have c2 := rwLoop_no_merge h2
  simp [rwLoop, Nat.shiftRight_eq_div_pow, h1, c2]

theorem rwLoop_right (hf : HashFns) (i f layer inc inc' : Nat) (init : Bool) (w : Bytes) (ap rw : List Bytes) (cur : Bytes)
    (h1 : ap = [] ∨ (i / 2 ^ layer) % 2 = 0) (h2 : (inc / 2 ^ layer) % 2 = 1) (hinc : (inc + 2 ^ layer) % 2 ^ 64 = inc') :
    rwLoop hf i (f + 1) layer inc init ap (w :: rw) cur
      = rwLoop hf i f (layer + 1) inc' init ap rw (hf.branch cur w) := by
  have c1 := rwLoop_no_merge h1
  subst hinc
  simp [rwLoop, Nat.shiftRight_eq_div_pow, c1, h2]

theorem rwLoop_init (hf : HashFns) (i f layer inc inc' : Nat) (ap rw : List Bytes) (cur : Bytes) (hap : ap ≠ [])
    (h1 : (i / 2 ^ layer) % 2 = 1) (hinc : (inc + 2 ^ layer) % 2 ^ 64 = inc')
    (h2 : rw = [] ∨ (inc' / 2 ^ layer) % 2 = 0) :
    rwLoop hf i (f + 1) layer inc false ap rw cur = rwLoop hf i f (layer + 1) inc' true ap rw cur := by
  have c2 := rwLoop_no_merge h2
  have c1 : (!ap.isEmpty && (i / 2 ^ layer) % 2 == 1) = true := by simp [h1, hap]
  have c0 : (ap.isEmpty && rw.isEmpty) = false := by simp [hap]
  rw [rwLoop]
  simp only [c0, Nat.shiftRight_eq_div_pow, c1, Bool.false_eq_true, if_false, if_true, Bool.not_false, hinc, c2]

/-- below a power of two that divides `x` the bits of `x` are clear -/
theorem bit_clear_of_dvd {layer d x : Nat} (h : 2 ^ (layer + (d + 1)) ∣ x) : (x / 2 ^ layer) % 2 = 0 := by
  obtain ⟨q, rfl⟩ := h
  rw [show layer + (d + 1) = layer + 1 + d by omega, Nat.pow_add, Nat.pow_succ, Nat.mul_assoc, Nat.mul_assoc,
    Nat.mul_div_cancel_left _ (Nat.two_pow_pos layer)]
  omega

/-- layers below the lowest set bit of the split point are skipped -/
theorem rwLoop_skip (hf : HashFns) (i : Nat) (ap rw : List Bytes) (cur : Bytes) : ∀ (d f layer : Nat),
    2 ^ (layer + d) ∣ i →
    rwLoop hf i (d + f) layer i false ap rw cur = rwLoop hf i f (layer + d) i false ap rw cur := by
  intro d
  induction d with
  | zero => intro f layer _; simp
  | succ d ih =>
    intro f layer hd
    have hb := bit_clear_of_dvd hd
    rw [show d + 1 + f = (d + f) + 1 by omega, rwLoop_idle hf i _ layer i false ap rw cur (Or.inr hb) (Or.inr hb)]
    rw [ih f (layer + 1) (by rw [show layer + 1 + d = layer + (d + 1) by omega]; exact hd)]
    rw [show layer + 1 + d = layer + (d + 1) by omega]

theorem pow_div_self_mod (layer : Nat) : (2 ^ layer / 2 ^ layer) % 2 = 1 := by
  rw [Nat.div_self (Nat.pow_pos (by decide))]

/-- once the append path is used up, the remaining witness hashes are merged one per layer -/
theorem rwLoop_tail (hf : HashFns) (i : Nat) (init : Bool) : ∀ (rw : List Bytes) (f layer : Nat) (cur : Bytes),
    rw.length ≤ f → layer + rw.length ≤ 63 →
    rwLoop hf i f layer (2 ^ layer) init [] rw cur = some (rw.foldl hf.branch cur) := by
  intro rw
  induction rw with
  | nil => intro f layer cur _ _; rw [rwLoop_done]; rfl
  | cons w rw ih =>
    intro f layer cur hf' hl
    simp only [List.length_cons] at hf' hl
    obtain ⟨f', rfl⟩ : ∃ f', f = f' + 1 := ⟨f - 1, by omega⟩
    have hlt : 2 ^ (layer + 1) < 2 ^ 64 := Nat.pow_lt_pow_right (by decide) (by omega)
    rw [rwLoop_right hf i f' layer (2 ^ layer) (2 ^ (layer + 1)) init w [] rw cur (Or.inl rfl) (pow_div_self_mod layer)
      (by rw [show 2 ^ layer + 2 ^ layer = 2 ^ (layer + 1) by rw [Nat.pow_succ]; omega]; exact Nat.mod_eq_of_lt hlt)]
    rw [ih f' (layer + 1) _ (by omega) (by omega)]
    rfl

/-- without witness hashes left, the rest of the append path is folded in -/
theorem rwLoop_apSpec (hf : HashFns) (L : List Bytes) (i inc : Nat) : ∀ (f layer k : Nat) (cur : Bytes),
    i / 2 ^ layer = k →
    rwLoop hf i f layer inc true (apSpec hf L f layer k) [] cur = some (foldPath hf cur (apSpec hf L f layer k)) := by
  intro f
  induction f with
  | zero => intro layer k cur _; rw [show apSpec hf L 0 layer k = [] from rfl, rwLoop_done]; rfl
  | succ f ih =>
    intro layer k cur hi
    have hnext : i / 2 ^ (layer + 1) = k / 2 := by rw [div_pow_succ, hi]
    rw [apSpec_succ]
    rcases Nat.mod_two_eq_zero_or_one k with hb | hb
    · rw [if_neg (by omega), rwLoop_idle hf i f layer inc true _ [] cur (Or.inr (by rw [hi]; exact hb)) (Or.inl rfl)]
      exact ih (layer + 1) (k / 2) cur hnext
    · rw [if_pos hb, rwLoop_left hf i f layer inc _ _ [] cur (by rw [hi]; exact hb) (Or.inl rfl),
        ih (layer + 1) (k / 2) _ hnext]
      rfl

/-- merging the witness of a perfect prefix from the left gives the root -/
theorem fold_wit (hf : HashFns) (L : List Bytes) : ∀ (F a : Nat), L.length ≤ 2 ^ (a + F) →
    (witSpec hf L F a 0).foldl hf.branch (rootH hf (blkCore L a 0)) = rootH hf L := by
  intro F
  induction F with
  | zero => intro a h; rw [blk_top_all L a h]; rfl
  | succ F ih =>
    intro a h
    rw [witSpec_succ, Nat.zero_add, Nat.one_mul]
    by_cases hge : L.length ≤ 2 ^ a
    · rw [if_pos hge, blk_top_all L a hge]; rfl
    · rw [if_neg hge, if_neg (by decide), List.foldl_cons,
        ← rootH_blk_pair hf L a 0 (by rw [Nat.mul_zero, Nat.zero_add, Nat.one_mul]; omega)]
      exact ih (a + 1) (by rw [show a + 1 + F = a + (F + 1) by omega]; exact h)

/-- one layer of the witness, the fuel left as it is -/
theorem witSpec_step (hf : HashFns) (L : List Bytes) (F layer k : Nat)
    (hF : L.length ≤ 2 ^ (layer + F)) (hge : ¬ L.length ≤ (k + 1) * 2 ^ layer) :
    witSpec hf L F layer k =
      if k % 2 = 1 then witSpec hf L F (layer + 1) (k / 2)
      else rootH hf (blkCore L layer (k + 1)) :: witSpec hf L F (layer + 1) (k / 2) := by
  rw [witSpec_fuel hf L F (F + 1) layer k hF
    (Nat.le_trans hF (Nat.pow_le_pow_right (by decide) (by omega))), witSpec_succ, if_neg hge]

/-- the main phase of `CalculateRootFromRightWitness`: `cur` is the root of the block `(layer, k)` that holds the
split point; its left siblings are the entries of the append path, its right siblings those of the witness -/
theorem rwLoop_blk (hf : HashFns) (L : List Bytes) (i : Nat) (hn : L.length ≤ 2 ^ 63) :
    ∀ (f layer k F : Nat), i / 2 ^ layer = k → k * 2 ^ layer < L.length → layer + f = 64 → k < 2 ^ f →
      L.length ≤ 2 ^ (layer + F) →
      rwLoop hf i f layer ((k + 1) * 2 ^ layer) true (apSpec hf L f layer k)
        (witSpec hf L F layer k) (rootH hf (blkCore L layer k)) = some (rootH hf L) := by
  intro f
  induction f with
  | zero =>
    intro layer k F _ _ hlf hk _
    have h64 : 2 ^ 63 ≤ 2 ^ layer := Nat.pow_le_pow_right (by decide) (by omega)
    have : k = 0 := by omega
    subst this
    rw [witSpec_ge hf L _ _ _ (by omega), show apSpec hf L 0 layer 0 = [] from rfl, rwLoop_done,
      blk_top_all L layer (by omega)]
  | succ f ih =>
    intro layer k F hi hne hlf hk hF
    have hp := Nat.two_pow_pos layer
    have hincdiv : (k + 1) * 2 ^ layer / 2 ^ layer = k + 1 := Nat.mul_div_cancel _ hp
    have hinc : (k + 1) * 2 ^ layer = k * 2 ^ layer + 2 ^ layer := Nat.succ_mul _ _
    have h63 : (2 : Nat) ^ 63 ≤ 2 ^ (layer + (f + 1)) := Nat.pow_le_pow_right (by decide) (by omega)
    by_cases hge : L.length ≤ (k + 1) * 2 ^ layer
    · -- the witness is used up: the climb along the right edge
      rw [witSpec_ge hf L _ _ _ hge, rwLoop_apSpec hf L i _ (f + 1) layer k _ hi, foldPath_blk hf L (f + 1) layer k hne hge,
        Nat.div_eq_of_lt hk, blk_top_all L _ (Nat.le_trans hn h63)]
    · by_cases hk0 : k = 0
      · -- the append path is used up
        subst hk0
        rw [Nat.zero_add, Nat.one_mul] at hge ⊢
        have hl63 : layer < 63 := (Nat.pow_lt_pow_iff_right (a := 2) (by decide)).1 (by omega)
        have hlen := witSpec_length hf L 63 hn F layer 0
        rw [apSpec_zero, rwLoop_tail hf i true _ (f + 1) layer _ (by omega) (by omega), fold_wit hf L F layer hF]
      · rw [witSpec_step hf L F layer k hF hge, apSpec_succ]
        have hF' : L.length ≤ 2 ^ (layer + 1 + F) :=
          Nat.le_trans hF (Nat.pow_le_pow_right (by decide) (by omega))
        rcases Nat.mod_two_eq_zero_or_one k with hb | hb
        · -- a clear bit of the split point: the next block of the witness is merged from the right
          obtain ⟨r, rfl⟩ : ∃ r, k = 2 * r := ⟨k / 2, by omega⟩
          have hr : 2 * r / 2 = r := by omega
          have hstep := succ_mul_pow_succ r layer
          have hle : 2 ^ layer ≤ (2 * r + 1) * 2 ^ layer := Nat.le_mul_of_pos_left _ (by omega)
          rw [if_neg (by omega), if_neg (by omega), hr,
            rwLoop_right hf i f layer _ ((r + 1) * 2 ^ (layer + 1)) true _ _ _ _ (Or.inr (by rw [hi]; omega))
              (by rw [Nat.mul_div_cancel _ hp]; omega)
              (by rw [← hstep]; exact Nat.mod_eq_of_lt (by omega)),
            ← rootH_blk_pair hf L layer _ (Nat.lt_of_not_le hge)]
          exact ih (layer + 1) r F (by rw [div_pow_succ, hi, hr]) (by rw [mul_pow_succ]; exact hne) (by omega)
            (by rw [Nat.pow_succ] at hk; omega) hF'
        · -- a set bit: the entry of the append path is merged from the left
          obtain ⟨r, rfl⟩ : ∃ r, k = 2 * r + 1 := ⟨k / 2, by omega⟩
          have hr : (2 * r + 1) / 2 = r := by omega
          have hstep := succ_mul_pow_succ r layer
          rw [if_pos hb, if_pos hb, hr, Nat.add_sub_cancel, Nat.succ_mul, ← hstep,
            rwLoop_left hf i f layer _ _ _ _ _ (by rw [hi]; omega)
              (Or.inr (by rw [mul_pow_succ, Nat.mul_div_cancel _ hp]; omega)),
            ← rootH_blk_pair hf L layer _ hne]
          exact ih (layer + 1) r F (by rw [div_pow_succ, hi, hr])
            (by rw [mul_pow_succ]; rw [Nat.add_one_mul (2 * r)] at hne; omega) (by omega)
            (by rw [Nat.pow_succ] at hk; omega) hF'

/-- the right witness generated from an exact store, together with the append path of the first `i`
leaves, reconstructs the root -/
theorem rightWitness_correct (hf : HashFns) (t : Tree) (L : List Bytes) (hst : Stored hf t L)
    (hsize : t.core.size = L.length) (hpath : t.core.path = peaks hf L) (hn : L.length ≤ 2 ^ 63)
    (i : Nat) (hi : i ≤ L.length) :
    ∃ w, genWitness t i = some w ∧
      rootFromRightWitness hf i (peaks hf (L.take i)) w = some (rootH hf L) := by
  by_cases hi0 : i = 0
  · subst hi0
    unfold genWitness
    rw [hsize, if_neg (by omega)]
    by_cases hz : L.length = 0
    · have : L = [] := List.eq_nil_of_length_eq_zero hz
      subst this
      exact ⟨[], by simp, by simp [peaks_nil, rootFromRightWitness, rootFromPath, rootH_nil]⟩
    · exact ⟨_, by rw [if_neg hz, if_pos rfl, hpath],
        by simp [peaks_nil, rootFromRightWitness, rootFromPath_peaks]⟩
  refine ⟨_, genWitness_eq hf t L hst hsize i (by omega) hi, ?_⟩
  have hH : L.length ≤ 2 ^ getHeight L.length := Nat.le_of_lt (lt_two_pow_getHeight _)
  generalize getHeight L.length = H at hH
  by_cases hin : L.length ≤ i
  · rw [witSpec_ge hf L _ _ _ (by simp; omega), rootFromRightWitness_nil_right, rootFromPath_peaks,
      List.take_of_length_le hin]
  -- `j`: the lowest set bit of the split point
  obtain ⟨j, r, rfl⟩ := exists_lowbit i (by omega)
  have hpj := Nat.two_pow_pos j
  have hidiv : (2 * r + 1) * 2 ^ j / 2 ^ j = 2 * r + 1 := Nat.mul_div_cancel _ hpj
  have hdvd : 2 ^ (0 + j) ∣ (2 * r + 1) * 2 ^ j := by rw [Nat.zero_add]; exact Nat.dvd_mul_left _ _
  have hstep := succ_mul_pow_succ r j
  have hle : 2 ^ j ≤ (2 * r + 1) * 2 ^ j := Nat.le_mul_of_pos_left _ (by omega)
  have hj63 : j < 63 := (Nat.pow_lt_pow_iff_right (a := 2) (by decide)).1 (by omega)
  have hHj : L.length ≤ 2 ^ (j + 1 + H) := Nat.le_trans hH (Nat.pow_le_pow_right (by decide) (by omega))
  have hne : r * 2 ^ (j + 1) < L.length := by rw [mul_pow_succ]; rw [Nat.add_one_mul (2 * r)] at hin; omega
  -- the witness: nothing below layer `j`, the sibling block at layer `j`
  have hW : witSpec hf L H 0 ((2 * r + 1) * 2 ^ j - 1) = rootH hf (blkCore L j (2 * r + 1))
      :: witSpec hf L H (j + 1) r := by
    rw [witSpec_fuel hf L H (j + H) 0 _ (by simpa using hH)
        (by rw [Nat.zero_add]; exact Nat.le_trans hH (Nat.pow_le_pow_right (by decide) (by omega))),
      witSpec_skip hf L j H 0 (2 * r + 1) (by omega), Nat.zero_add, Nat.add_sub_cancel,
      witSpec_step hf L H j (2 * r) (Nat.le_trans hH (Nat.pow_le_pow_right (by decide) (by omega))) hin,
      if_neg (by omega), Nat.mul_div_cancel_left _ (by decide)]
  -- the append path: nothing below layer `j`, the block to the left at layer `j`
  have hP : peaks hf (L.take ((2 * r + 1) * 2 ^ j)) = rootH hf (blkCore L j (2 * r))
      :: apSpec hf L (63 - j) (j + 1) r := by
    have := peaks_take hf L 64 0 ((2 * r + 1) * 2 ^ j)
      (Nat.lt_of_le_of_lt (Nat.le_trans hi hn) (by decide)) (by simpa using hi)
    rw [Nat.pow_zero, Nat.mul_one] at this
    rw [this, show 64 = j + ((63 - j) + 1) by omega, apSpec_skip, Nat.zero_add, apSpec_succ, if_pos (by omega),
      Nat.add_sub_cancel, show (2 * r + 1) / 2 = r by omega]
  rw [hP, hW]
  simp only [rootFromRightWitness]
  rw [← rootH_blk_pair hf L j _ (Nat.lt_of_not_le hin),
    show 64 = j + (64 - j) by omega, rwLoop_skip hf _ _ _ _ j (64 - j) 0 hdvd, Nat.zero_add]
  by_cases hr : r = 0
  · -- the split point is a power of two
    subst hr
    simp only [Nat.mul_zero, Nat.zero_add, Nat.one_mul] at hstep ⊢
    have hlen := witSpec_length hf L 63 hn H (j + 1) 0
    rw [apSpec_zero, rwLoop_tail hf _ false _ (64 - j) j _ (by omega) (by omega)]
    exact congrArg some (fold_wit hf L H (j + 1) hHj)
  · have hr63 : r < 2 ^ (63 - j) :=
      Nat.lt_of_lt_of_le (pos_lt_of_nonempty hn (by omega) hne) (Nat.pow_le_pow_right (by decide) (by omega))
    rw [show 64 - j = (63 - j) + 1 by omega,
      rwLoop_init hf _ (63 - j) j _ ((r + 1) * 2 ^ (j + 1)) _ _ _ (apSpec_ne_nil hf L _ _ r (by omega) hr63)
        (by rw [hidiv]; omega) (by rw [hstep]; exact Nat.mod_eq_of_lt (by omega))
        (Or.inr (by rw [mul_pow_succ, Nat.mul_div_cancel _ hpj]; omega))]
    exact rwLoop_blk hf L _ hn (63 - j) (j + 1) r H (by rw [div_pow_succ, hidiv]; omega) hne (by omega) hr63 hHj

/-- when the fuel runs out before the witness is used up, no root is returned -/
theorem rwLoop_tail_none (hf : HashFns) (i : Nat) (init : Bool) : ∀ (f : Nat) (rw : List Bytes) (layer : Nat) (cur : Bytes),
    f < rw.length → layer + f = 64 → rwLoop hf i f layer (2 ^ layer) init [] rw cur = none := by
  intro f
  induction f with
  | zero =>
    intro rw layer cur h _
    cases rw with
    | nil => simp at h
    | cons w rw' => simp [rwLoop]
  | succ f ih =>
    intro rw layer cur h hl
    cases rw with
    | nil => simp at h
    | cons w rw' =>
      simp only [List.length_cons] at h
      by_cases hf0 : f = 0
      · subst hf0
        rw [rwLoop_right hf i 0 layer (2 ^ layer) _ init w [] rw' cur (Or.inl rfl) (pow_div_self_mod layer) rfl]
        cases rw' with
        | nil => simp at h
        | cons w2 rw2 => simp [rwLoop]
      · have hlt : 2 ^ (layer + 1) < 2 ^ 64 := Nat.pow_lt_pow_right (by decide) (by omega)
        rw [rwLoop_right hf i f layer (2 ^ layer) (2 ^ (layer + 1)) init w [] rw' cur (Or.inl rfl)
          (pow_div_self_mod layer)
          (by rw [show 2 ^ layer + 2 ^ layer = 2 ^ (layer + 1) by rw [Nat.pow_succ]; omega]; exact Nat.mod_eq_of_lt hlt)]
        exact ih rw' (layer + 1) _ (by omega) (by omega)

/-- one leaf more than `2^B`: above a perfect prefix the witness has an entry at every layer up to `B` -/
theorem witSpec_pow_length (hf : HashFns) (L : List Bytes) (B : Nat) (hL : L.length = 2 ^ B + 1) :
    ∀ (F j : Nat), j ≤ B → B + 1 - j ≤ F → (witSpec hf L F j 0).length = B + 1 - j := by
  intro F
  induction F with
  | zero => intro j h1 h2; omega
  | succ F ih =>
    intro j h1 h2
    have hp : 2 ^ j ≤ 2 ^ B := Nat.pow_le_pow_right (by decide) h1
    rw [witSpec_succ, Nat.zero_add, Nat.one_mul, if_neg (by omega), if_neg (by decide), Nat.zero_div]
    simp only [List.length_cons]
    by_cases hj : j = B
    · subst hj
      rw [witSpec_ge hf L _ _ _ (by
        have := Nat.two_pow_pos j
        rw [hL, Nat.zero_add, Nat.one_mul, Nat.pow_succ]; omega)]
      simp
    · rw [ih (j + 1) (by omega) (by omega)]
      omega

/-- for `2^64 + 1` leaves the split point 3 is not reconstructed: the 64 layers of
`CalculateRootFromRightWitness` do not consume the 64 hashes of the right witness -/
theorem rightWitness_fails (hf : HashFns) (t : Tree) (L : List Bytes) (hst : Stored hf t L)
    (hsize : t.core.size = L.length) (hL : L.length = 2 ^ 64 + 1) :
    ∃ w, genWitness t 3 = some w ∧ rootFromRightWitness hf 3 (peaks hf (L.take 3)) w = none := by
  refine ⟨_, genWitness_eq hf t L hst hsize 3 (by omega) (by rw [hL]; decide), ?_⟩
  rw [hL, getHeight_two_pow_succ 64, show 64 + 2 = 66 from rfl]
  have hP : peaks hf (L.take 3) = [rootH hf (blkCore L 0 2), rootH hf (blkCore L 1 0)] := by
    have := peaks_take hf L 2 0 3 (by decide) (by rw [hL]; decide)
    rwa [Nat.pow_zero, Nat.mul_one] at this
  rw [hP]
  -- the witness: the block at layer 0, nothing at layer 1, then one block per layer
  have hW : witSpec hf L 66 0 (3 - 1) = rootH hf (blkCore L 0 3) :: witSpec hf L 64 2 0 := by
    rw [witSpec_succ, if_neg (by rw [hL]; decide), if_neg (by decide), witSpec_succ, if_neg (by rw [hL]; decide),
      if_pos (by decide)]
  have hlen := witSpec_pow_length hf L 64 hL 64 2 (by decide) (by decide)
  rw [hW]
  simp only [rootFromRightWitness]
  generalize witSpec hf L 64 2 0 = W' at hlen
  rw [show (64 : Nat) = 63 + 1 from rfl,
    rwLoop_init hf 3 63 0 3 4 _ W' _ (by simp) (by decide) (by decide) (Or.inr (by decide)),
    show (63 : Nat) = 62 + 1 from rfl,
    rwLoop_left hf 3 62 1 4 _ [] W' _ (by decide) (Or.inr (by decide))]
  exact rwLoop_tail_none hf 3 true 62 W' 2 _ (by omega) (by decide)

end LiskVerif.RMT
