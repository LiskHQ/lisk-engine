/-
The connection gater one operation at a time: the score table is an association list (`find`/`put` are
`AList.get`/`AList.upsert`, unique keys are kept), the block list is read through membership only; what `addPenalty`,
`blockAddr`, `unblockAddr` and a blacklist load do to the entry or the membership of one IP, and which fields
`addPenalty`, `blockAddr` and a blacklist load leave alone.
-/
import LiskVerif.Model.ConnGater
import LiskVerif.Lemmas.AList

namespace LiskVerif.ConnGater

/-! ### the score table -/

def keys (m : Scores) : List IP := m.map Prod.fst

/-- a Go map has one entry per key -/
def NoDupKeys (m : Scores) : Prop := (keys m).Nodup

theorem noDupKeys_eq : NoDupKeys = AList.NodupKeys := rfl

theorem find_eq_get : find = AList.get := by
  funext m k; induction m <;> simp only [find, AList.get, *]

theorem put_eq_upsert : put = AList.upsert := by
  funext m k v; induction m <;> simp only [put, AList.upsert, *]

theorem find_put (m : Scores) (ip : IP) (v : PeerInfo) (ip' : IP) :
    find (put m ip v) ip' = if ip = ip' then some v else find m ip' := by
  rw [find_eq_get, put_eq_upsert, AList.get_upsert]
  by_cases h : ip' = ip
  · simp [h]
  · simp [h, Ne.symm h]

theorem nodup_put {m : Scores} (h : NoDupKeys m) (ip : IP) (v : PeerInfo) : NoDupKeys (put m ip v) := by
  rw [put_eq_upsert, noDupKeys_eq] at *; exact h.upsert ip v

theorem nodup_filter {m : Scores} (h : NoDupKeys m) (p : IP × PeerInfo → Bool) :
    NoDupKeys (m.filter p) := by
  rw [noDupKeys_eq] at *; exact h.filter p

/-- lookup after a value-based filter (needs unique keys) -/
theorem find_filter {m : Scores} (h : NoDupKeys m) (p : PeerInfo → Bool) (ip : IP) :
    find (m.filter fun e => p e.2) ip = (find m ip).filter p := by
  rw [find_eq_get]; exact AList.get_filter (noDupKeys_eq ▸ h) _ ip

/-! ### block list -/

theorem mem_blockAddr (g : Gater) (ip k : IP) :
    k ∈ (blockAddr g ip).blocked ↔ k = ip ∨ k ∈ g.blocked := by
  unfold blockAddr
  split
  · rename_i h
    exact ⟨Or.inr, fun hk => hk.elim (fun e => e ▸ h) id⟩
  · simp only [List.mem_append, List.mem_singleton, or_comm]

theorem mem_unblockAddr (g : Gater) (ip k : IP) :
    k ∈ (unblockAddr g ip).blocked ↔ k ≠ ip ∧ k ∈ g.blocked := by
  unfold unblockAddr
  simp only [List.mem_filter, ne_eq, decide_eq_true_eq]
  constructor
  · rintro ⟨a, b⟩; exact ⟨b, a⟩
  · rintro ⟨a, b⟩; exact ⟨b, a⟩

theorem isBlocked_unblock (g : Gater) (ip : IP) : isBlocked (apply g (.unblock ip)) ip = false :=
  decide_eq_false fun h => ((mem_unblockAddr g ip ip).1 h).1 rfl

@[simp] theorem blockAddr_fields (g : Gater) (ip : IP) :
    (blockAddr g ip).peerScore = g.peerScore ∧ (blockAddr g ip).started = g.started
      ∧ (blockAddr g ip).expSecs = g.expSecs := by
  unfold blockAddr; split <;> exact ⟨rfl, rfl, rfl⟩

def blockAll (g : Gater) (l : List (Option IP)) : Gater :=
  l.foldl (fun g o => match o with | some ip => blockAddr g ip | none => g) g

theorem blockAll_fields (l : List (Option IP)) (g : Gater) :
    (blockAll g l).peerScore = g.peerScore ∧ (blockAll g l).started = g.started
      ∧ (blockAll g l).expSecs = g.expSecs := by
  induction l generalizing g with
  | nil => exact ⟨rfl, rfl, rfl⟩
  | cons o r ih =>
    cases o with
    | none => exact ih g
    | some ip =>
      have := ih (blockAddr g ip)
      simpa [blockAll, List.foldl] using this

theorem mem_blockAll (l : List (Option IP)) (g : Gater) (k : IP) :
    k ∈ (blockAll g l).blocked ↔ some k ∈ l ∨ k ∈ g.blocked := by
  induction l generalizing g with
  | nil => simp [blockAll]
  | cons o r ih =>
    cases o with
    | none => simpa [blockAll] using ih g
    | some ip =>
      rw [show blockAll g (some ip :: r) = blockAll (blockAddr g ip) r from rfl, ih, mem_blockAddr, List.mem_cons,
        Option.some.injEq, or_left_comm, or_assoc]

theorem blacklist_eq (g : Gater) (l : List (Option IP)) :
    (blacklist g l).1 = if l.any (·.isNone) then g else blockAll g l := by
  unfold blacklist blockAll
  split <;> rfl

/-- a blacklist load that succeeds had no unparsable entry and blocked every address of the list -/
theorem blacklist_ok {g : Gater} {l : List (Option IP)} (h : (blacklist g l).2 = true) :
    l.any (·.isNone) = false ∧ (blacklist g l).1 = blockAll g l := by
  rw [blacklist_eq]
  unfold blacklist at h
  split at h
  · cases h
  · rename_i ha
    rw [if_neg ha]
    exact ⟨Bool.eq_false_iff.2 ha, rfl⟩

/-- a blacklist load touches nothing but the block list -/
theorem blacklist_frame (g : Gater) (l : List (Option IP)) :
    (blacklist g l).1.peerScore = g.peerScore ∧ (blacklist g l).1.started = g.started
      ∧ (blacklist g l).1.expSecs = g.expSecs := by
  rw [blacklist_eq]
  split
  · exact ⟨rfl, rfl, rfl⟩
  · exact blockAll_fields l g

/-! ### one-step facts about addPenalty -/

theorem addPenalty_ok {g : Gater} (hs : g.started = true) (now : Nat) (ip : IP) (pid : Option Nat)
    (score : Int) :
    addPenalty g now ⟨some ip, pid⟩ score =
      (let old := find g.peerScore ip
       let newScore := match old with | some i => i.score + score | none => score
       let oldExp := match old with | some i => i.expiration | none => -1
       let exp : Int := if newScore ≥ maxPenaltyScore then ((now + g.expSecs : Nat) : Int) else oldExp
       ({ g with peerScore := put g.peerScore ip ⟨newScore, exp⟩ }, .ok newScore)) := by
  unfold addPenalty
  rw [hs]
  rfl

/-- a penalty leaves the gater alone (not running, or an address without IP) or puts one entry into the score table -/
theorem addPenalty_cases (g : Gater) (now : Nat) (a : Addr) (s : Int) :
    (addPenalty g now a s).1 = g ∨
    ∃ ip v, a.ip = some ip ∧ (addPenalty g now a s).1 = { g with peerScore := put g.peerScore ip v } := by
  obtain ⟨aip, apid⟩ := a
  by_cases hs : g.started = true
  · cases aip with
    | none => exact Or.inl (by simp [addPenalty, hs])
    | some ip =>
      exact Or.inr ⟨ip, _, rfl, congrArg Prod.fst (addPenalty_ok hs now ip apid s)⟩
  · exact Or.inl (by simp [addPenalty, hs])

theorem addPenalty_fields (g : Gater) (now : Nat) (a : Addr) (s : Int) :
    (addPenalty g now a s).1.started = g.started ∧ (addPenalty g now a s).1.expSecs = g.expSecs
      ∧ (addPenalty g now a s).1.blocked = g.blocked := by
  rcases addPenalty_cases g now a s with h | ⟨_, _, _, h⟩ <;> rw [h] <;> exact ⟨rfl, rfl, rfl⟩

theorem addPenalty_find_other (g : Gater) (now : Nat) (a : Addr) (s : Int) (ip : IP)
    (h : a.ip ≠ some ip) :
    find (addPenalty g now a s).1.peerScore ip = find g.peerScore ip := by
  rcases addPenalty_cases g now a s with h' | ⟨ip', _, ha, h'⟩ <;> rw [h']
  exact (find_put _ ip' _ ip).trans (if_neg fun e => h (by rw [ha, e]))

theorem addPenalty_nodup (g : Gater) (now : Nat) (a : Addr) (s : Int) (h : NoDupKeys g.peerScore) :
    NoDupKeys (addPenalty g now a s).1.peerScore := by
  rcases addPenalty_cases g now a s with h' | ⟨ip', _, _, h'⟩ <;> rw [h']
  · exact h
  · exact nodup_put h ip' _

end LiskVerif.ConnGater
