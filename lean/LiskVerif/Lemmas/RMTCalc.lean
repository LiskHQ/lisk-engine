/-
`calculatePathNodes` for a set of leaves computes its specification `calcSpec` (`RMTSpec`). The worklist loop of the
implementation (`calcLoop`: one index at a time, parents inserted into the sorted worklist, two maps) computes what
the specification computes, layer by layer, whenever the 32-bit index parser does not fail; so an accepted proof
for distinct leaf positions is a root computed by the specification, and the other way round (`verify_calcSpec`,
`calcSpec_verify`). With the soundness of the specification this gives the soundness of `VerifyProof` for distinct leaf
positions under `BranchInj` (`verify_sound_layer0`, `verify_sound_multi`), which the C11 theorems use.
-/
import LiskVerif.Lemmas.RMTSpec
import LiskVerif.Lemmas.Sort

namespace LiskVerif.RMT

/-! ### one iteration of `calculatePathNodes` -/

/-- the index of the node at a location: what `nodeLocation.index` returns for a position `k < 2^(h - 1 - l)` when the
32-bit parser does not fail (`locIndex_nIdx`) -/
def locIdx (h : Nat) (loc : Loc) : Nat := nIdx h loc.1 loc.2

theorem locIndex_repLoc {n h l k : Nat} (hnH : n ≤ 2 ^ (h - 1)) (hl : l + 2 ≤ h) (hk : k * 2 ^ l < n)
    (hok : h ≤ 30 ∨ locIndex (repLoc n l k) h ≠ none) :
    locIndex (repLoc n l k) h = some (locIdx h (repLoc n l k)) := by
  obtain ⟨l', h1, h2, h3, _⟩ := repLoc_spec n l k
  rw [h2] at hok ⊢
  exact locIndex_nIdx (by omega) (pos_lt_of_nonempty hnH (by omega) (proper_lt (h3 hk))) hok

/-- the index of the stored node of a block is the index of no other node of its layer or above -/
theorem locIdx_repLoc_ne {n h l k l2 k2 : Nat} (hnH : n ≤ 2 ^ (h - 1)) (hl : l + 1 ≤ h) (hk : k * 2 ^ l < n)
    (hl2 : l2 + 1 ≤ h) (hk2 : k2 * 2 ^ l2 < n) (hne : l2 = l → k2 ≠ k) (hgt : l ≤ l2) :
    locIdx h (repLoc n l k) ≠ nIdx h l2 k2 := by
  obtain ⟨l', h1, h2, h3, _⟩ := repLoc_spec n l k
  rw [h2]
  intro e
  obtain ⟨e1, e2⟩ := nIdx_inj_nonempty hnH (by omega) hl2 (proper_lt (h3 hk)) hk2 e
  have : l' = l := by omega
  subst this
  simp only [Nat.sub_self, Nat.pow_zero, Nat.mul_one] at e2
  exact hne e1.symm e2.symm

/-- One iteration on the index of a non-empty node below the root layer. Here and below, `hok` says that the
32-bit index parser does not fail: the height is at most 30, or the computation at hand returns a result. -/
theorem calcLoop_iter (hf : HashFns) (n h : Nat) (hnH : n ≤ 2 ^ (h - 1)) (l k : Nat) (hl : l + 2 ≤ h)
    (hk : k * 2 ^ l < n) (f : Nat) (W : List Nat) (R C : List (Nat × Bytes)) (sibs : List Bytes) (v : Bytes)
    (hlook : look R C (nIdx h l k) = some v)
    (hok : h ≤ 30 ∨ calcLoop hf (layerStructure n) n h (f + 1) (nIdx h l k :: W) R C sibs ≠ none) :
    calcLoop hf (layerStructure n) n h (f + 1) (nIdx h l k :: W) R C sibs =
      if sibOf k * 2 ^ l < n then
        match takeSibling R (locIdx h (repLoc n l (sibOf k))) sibs with
        | none => none
        | some (sh, sibs') =>
          if parentConflict R (nIdx h (l + 1) (k / 2)) (if k % 2 = 0 then hf.branch v sh else hf.branch sh v) then none
          else calcLoop hf (layerStructure n) n h f (insertIdx W (nIdx h (l + 1) (k / 2)))
            (mapSet R (nIdx h (l + 1) (k / 2)) (if k % 2 = 0 then hf.branch v sh else hf.branch sh v)) C sibs'
      else calcLoop hf (layerStructure n) n h f (insertIdx W (nIdx h (l + 1) (k / 2))) R
        (mapSet C (nIdx h (l + 1) (k / 2)) v) sibs := by
  have hne : (nIdx h l k == 2) = false := by simpa using nIdx_ne_two (k := k) hl
  simp only [calcLoop, hne, Bool.false_eq_true, if_false, hlook] at hok ⊢
  have hnl := newLoc_nIdx (by omega) (pos_lt_pow hnH (by omega) hk) (hok.imp_right fun h1 e => h1 (by rw [e]))
  rw [hnl] at hok ⊢
  simp only at hok ⊢
  rw [nIdx_half (by omega)] at hok ⊢
  by_cases hlt : sibOf k * 2 ^ l < n
  · rw [rsi_eq_repLoc hlt] at hok
    rw [if_pos hlt, rsi_eq_repLoc hlt]
    simp only at hok ⊢
    rw [locIndex_repLoc hnH hl hlt (hok.imp_right fun h1 e => h1 (by rw [e]))]
    simp only
    cases takeSibling R (locIdx h (repLoc n l (sibOf k))) sibs with
    | none => rfl
    | some x =>
      by_cases hev : k % 2 = 0
      · have : (nIdx h l k % 2 == 0) = true := by rw [nIdx_mod2 (by omega), hev]; rfl
        simp only [this, if_true, hev]
      · have : (nIdx h l k % 2 == 0) = false := by rw [nIdx_mod2 (by omega)]; simpa using hev
        simp only [this, Bool.false_eq_true, if_false, hev]
  · rw [if_neg hlt, rsi_none (by omega)]

/-! ### the worklist and its positions -/

/-- the worklist inside layer `l`: the positions `A` of the layer still to be processed, then the positions `B` of the
parents found so far -/
def wlp (h l : Nat) (A B : List Nat) : List Nat := A.map (nIdx h l) ++ B.map (nIdx h (l + 1))

theorem wlp_cons (h l k : Nat) (rest B : List Nat) : wlp h l (k :: rest) B = nIdx h l k :: wlp h l rest B := by
  simp [wlp]

theorem wlp_snoc (h l : Nat) (A B : List Nat) (m : Nat) : wlp h l A (B ++ [m]) = wlp h l A B ++ [nIdx h (l + 1) m] := by
  simp [wlp]

/-- The fuel of the worklist loops: with `d + 1` layers to go and `a` nodes in the layer, `(d + 1) * a + 1` iterations
cover the layer (at most `a` iterations) and leave enough for the `p ≤ a` parents and `d` layers. -/
theorem layer_fuel {d a f : Nat} (hf : (d + 1) * a + 1 ≤ f) :
    a ≤ f ∧ ∀ p f', p ≤ a → f - a ≤ f' → d * p + 1 ≤ f' := by
  have e : (d + 1) * a = d * a + a := Nat.succ_mul _ _
  refine ⟨by omega, fun p f' hp h => ?_⟩
  have h1 : d * p ≤ d * a := Nat.mul_le_mul_left _ hp
  omega

/-- what the positions satisfy while the loops of `calculatePathNodes` and `getSiblingHashes` are inside layer `l` -/
structure WInv (n l : Nat) (A B : List Nat) : Prop where
  ascA : A.Pairwise (· < ·)
  okA : ∀ a ∈ A, a * 2 ^ l < n
  ascB : B.Pairwise (· < ·)
  okB : ∀ b ∈ B, b * 2 ^ (l + 1) < n
  sepBA : ∀ b ∈ B, ∀ a ∈ A, 2 * b + 1 < a

/-- the positions `pre` at the head of the layer have been replaced by their parent `m` -/
theorem WInv.advance {n l : Nat} {pre rest B : List Nat} {m : Nat} (hinv : WInv n l (pre ++ rest) B)
    (hne : pre ≠ []) (hpre : ∀ e ∈ pre, e / 2 = m) (hsep : ∀ a ∈ rest, 2 * m + 1 < a) :
    WInv n l rest (B ++ [m]) := by
  obtain ⟨e0, he0⟩ := List.exists_mem_of_ne_nil pre hne
  have he0A : e0 ∈ pre ++ rest := by simp [he0]
  have hm0 := hpre e0 he0
  refine ⟨(List.pairwise_append.mp hinv.ascA).2.1, fun a ha => hinv.okA a (by simp [ha]), ?_, ?_, ?_⟩
  · rw [List.pairwise_append]
    refine ⟨hinv.ascB, by simp, ?_⟩
    intro b hb c hc
    simp only [List.mem_singleton] at hc
    subst hc
    have := hinv.sepBA b hb e0 he0A
    omega
  · exact List.forall_mem_append.mpr ⟨hinv.okB,
      List.forall_mem_singleton.mpr (by rw [← hm0]; exact half_nonempty (hinv.okA e0 he0A))⟩
  · exact List.forall_mem_append.mpr ⟨fun b hb a ha => hinv.sepBA b hb a (by simp [ha]),
      List.forall_mem_singleton.mpr hsep⟩

theorem WInv.next {n l : Nat} {B : List Nat} (hinv : WInv n l [] B) : WInv n (l + 1) B [] :=
  ⟨hinv.ascB, hinv.okB, List.Pairwise.nil, (fun b hb => by cases hb), (fun b hb => by cases hb)⟩

/-- the head of the layer: its parent lies beyond the parents found so far, and all positions fit their layers -/
theorem WInv.head {n h l k : Nat} {rest B : List Nat} (hnH : n ≤ 2 ^ (h - 1)) (hl : l + 2 ≤ h)
    (hinv : WInv n l (k :: rest) B) :
    k * 2 ^ l < n ∧ (∀ b ∈ B, b < k / 2) ∧ k / 2 < 2 ^ (h - (l + 1)) ∧ ∀ a ∈ k :: rest, a < 2 ^ (h - l) := by
  have hk := hinv.okA k (by simp)
  exact ⟨hk, fun b hb => by have := hinv.sepBA b hb k (by simp); omega,
    pos_lt_pow hnH (by omega) (half_nonempty hk), fun a ha => pos_lt_pow hnH (by omega) (hinv.okA a ha)⟩

/-- the index of the parent of the head sorts after all indexes of what is left of the layer (`rest`) and after those
of the parents found so far, and is none of them -/
theorem WInv.parent_last {n h l k : Nat} {A rest B : List Nat} (hnH : n ≤ 2 ^ (h - 1)) (hl : l + 2 ≤ h)
    (hinv : WInv n l (k :: A) B) (hsub : ∀ a ∈ rest, a ∈ A) :
    ∀ e ∈ wlp h l rest B, e ≠ nIdx h (l + 1) (k / 2) ∧ idxLt (nIdx h (l + 1) (k / 2)) e = false := by
  obtain ⟨_, hB, hm, hA⟩ := hinv.head hnH hl
  intro e he
  have e2 := two_pow_sub_layer (show l + 1 ≤ h by omega)
  simp only [wlp, List.mem_append, List.mem_map] at he
  rcases he with ⟨a, ha, rfl⟩ | ⟨b, hb, rfl⟩
  · have hab := hA a (List.mem_cons_of_mem _ (hsub a ha))
    constructor
    · unfold nIdx; omega
    · unfold idxLt
      rw [bitLen_nIdx hab, bitLen_nIdx hm]
      have : (h - (l + 1) + 1 == h - l + 1) = false := by simp; omega
      rw [this]
      simp only [Bool.false_eq_true, if_false, decide_eq_false_iff_not]
      unfold nIdx; omega
  · have hbm := hB b hb
    constructor
    · unfold nIdx; omega
    · unfold idxLt
      rw [bitLen_nIdx (show b < 2 ^ (h - (l + 1)) by omega), bitLen_nIdx hm]
      simp only [beq_self_eq_true, if_true, decide_eq_false_iff_not]
      unfold nIdx; omega

/-- the parent of the head is inserted at the end of the worklist -/
theorem WInv.insert {n h l k : Nat} {A rest B : List Nat} (hnH : n ≤ 2 ^ (h - 1)) (hl : l + 2 ≤ h)
    (hinv : WInv n l (k :: A) B) (hsub : ∀ a ∈ rest, a ∈ A) :
    insertIdx (wlp h l rest B) (nIdx h (l + 1) (k / 2)) = wlp h l rest (B ++ [k / 2]) := by
  have hall := hinv.parent_last hnH hl hsub
  have hnot : nIdx h (l + 1) (k / 2) ∉ wlp h l rest B := fun hmem => (hall _ hmem).1 rfl
  rw [insertIdx_spec (wlp h l rest B) (wlp h l rest B) [] _ (by simp) (by simp) (fun e he _ => (hall e he).2) hnot,
    if_neg hnot, wlp_snoc]

/-- a parent that is in the worklist already, at the end, is not inserted again -/
theorem WInv.insert_last {n h l k : Nat} {A rest B : List Nat} (hnH : n ≤ 2 ^ (h - 1)) (hl : l + 2 ≤ h)
    (hinv : WInv n l (k :: A) B) (hsub : ∀ a ∈ rest, a ∈ A) :
    insertIdx (wlp h l rest (B ++ [k / 2])) (nIdx h (l + 1) (k / 2)) = wlp h l rest (B ++ [k / 2]) := by
  have hall := hinv.parent_last hnH hl hsub
  have hnot : nIdx h (l + 1) (k / 2) ∉ wlp h l rest B := fun hmem => (hall _ hmem).1 rfl
  rw [wlp_snoc, insertIdx_spec _ (wlp h l rest B) [nIdx h (l + 1) (k / 2)] _ rfl (by simp)
      (List.forall_mem_append.mpr ⟨fun e he _ => (hall e he).2,
        List.forall_mem_singleton.mpr fun hne => absurd rfl hne⟩) hnot,
    if_pos (by simp)]

/-! ### the invariant of `calculatePathNodes` inside a layer -/

/-- the worklist of `calculatePathNodes` inside layer `l` -/
def wl (h l : Nat) (A B : Lay) : List Nat := wlp h l (A.map (·.1)) (B.map (·.1))

theorem wl_cons (h l k : Nat) (v : Bytes) (rest B : Lay) : wl h l ((k, v) :: rest) B = nIdx h l k :: wl h l rest B := by
  simp [wl, wlp]

/-- `A`: the nodes of layer `l` still to be processed, `B`: the parents found so far. `valA`, `valB`: the value of each of
these nodes is found by `look` (the result map, else the cache) under the index of the node, and in the result map under
the index of the location that stands for the node when a sibling is looked up. `keys`: every key of the result map is the index of a node at or below a node of `A` or `B`; so
the parent of the head and a sibling outside the layer have no entry yet (`CInv.head_facts`), which is what makes
`takeSibling` read the proof and `parentConflict` pass. -/
structure CInv (n h l : Nat) (A B : Lay) (R C : List (Nat × Bytes)) : Prop where
  pos : WInv n l (A.map (·.1)) (B.map (·.1))
  valA : ∀ e ∈ A, look R C (nIdx h l e.1) = some e.2 ∧ R.lookup (locIdx h (repLoc n l e.1)) = some e.2
  valB : ∀ e ∈ B, look R C (nIdx h (l + 1) e.1) = some e.2 ∧ R.lookup (locIdx h (repLoc n (l + 1) e.1)) = some e.2
  keys : ∀ key v, R.lookup key = some v → ∃ l' k', l' ≤ l + 1 ∧ k' * 2 ^ l' < n ∧ key = nIdx h l' k' ∧
    ((l' ≤ l ∧ ∃ e ∈ A, e.1 = k' / 2 ^ (l - l')) ∨ (∃ e ∈ B, e.1 = k' / 2 ^ (l + 1 - l')))

theorem CInv.okA {n h l : Nat} {A B : Lay} {R C : List (Nat × Bytes)} (hinv : CInv n h l A B R C) : LayOK n l A :=
  fun e he => hinv.pos.okA e.1 (List.mem_map_of_mem he)

theorem CInv.ascA {n h l : Nat} {A B : Lay} {R C : List (Nat × Bytes)} (hinv : CInv n h l A B R C) :
    A.Pairwise (fun x y => x.1 < y.1) := List.pairwise_map.1 hinv.pos.ascA

/-- the nodes `pre` at the head of the layer have been combined into their parent `(m, pv)` -/
theorem CInv.advance {n h l : Nat} (hnH : n ≤ 2 ^ (h - 1)) (hl : l + 2 ≤ h) {pre rest B : Lay}
    {R C R' C' : List (Nat × Bytes)} {m : Nat} {pv : Bytes}
    (hinv : CInv n h l (pre ++ rest) B R C) (hne : pre ≠ []) (hpre : ∀ e ∈ pre, e.1 / 2 = m)
    (hsep : ∀ a ∈ rest, 2 * m + 1 < a.1)
    (P1 : ∀ key, key ≠ nIdx h (l + 1) m → R'.lookup key = R.lookup key ∧ look R' C' key = look R C key)
    (P2 : look R' C' (nIdx h (l + 1) m) = some pv ∧ R'.lookup (locIdx h (repLoc n (l + 1) m)) = some pv) :
    CInv n h l rest (B ++ [(m, pv)]) R' C' := by
  obtain ⟨e0, he0⟩ := List.exists_mem_of_ne_nil pre hne
  have he0A : e0 ∈ pre ++ rest := by simp [he0]
  have hm0 := hpre e0 he0
  have hmok : m * 2 ^ (l + 1) < n := by rw [← hm0]; exact half_nonempty (hinv.okA e0 he0A)
  have hBlt : ∀ b ∈ B, b.1 < m := by
    intro b hb
    have := hinv.pos.sepBA b.1 (List.mem_map_of_mem hb) e0.1 (List.mem_map_of_mem he0A)
    omega
  have hpos : WInv n l (rest.map (·.1)) ((B ++ [(m, pv)]).map (·.1)) := by
    have := hinv.pos
    rw [List.map_append] at this
    rw [List.map_append]
    exact this.advance (by simpa using hne)
      (fun e he => by obtain ⟨x, hx, rfl⟩ := List.mem_map.1 he; exact hpre x hx)
      (fun a ha => by obtain ⟨x, hx, rfl⟩ := List.mem_map.1 ha; exact hsep x hx)
  -- a node other than the new parent keeps its two entries
  have hkeep : ∀ (l2 k2 : Nat) (v : Bytes), l2 ≤ l + 1 → k2 * 2 ^ l2 < n → (l2 = l + 1 → k2 ≠ m) →
      look R C (nIdx h l2 k2) = some v ∧ R.lookup (locIdx h (repLoc n l2 k2)) = some v →
      look R' C' (nIdx h l2 k2) = some v ∧ R'.lookup (locIdx h (repLoc n l2 k2)) = some v := by
    intro l2 k2 v hl2 hek hne ⟨v1, v2⟩
    have hk1 : nIdx h l2 k2 ≠ nIdx h (l + 1) m := fun e' => by
      obtain ⟨a, b⟩ := nIdx_inj_nonempty hnH (by omega) (by omega) hek hmok e'
      exact hne a b
    have hk2 := locIdx_repLoc_ne hnH (show l2 + 1 ≤ h by omega) hek (show l + 1 + 1 ≤ h by omega) hmok
      (fun e => (hne e.symm).symm) hl2
    exact ⟨by rw [(P1 _ hk1).2]; exact v1, by rw [(P1 _ hk2).1]; exact v2⟩
  refine ⟨hpos, ?_, ?_, ?_⟩
  · exact fun e he => hkeep l e.1 e.2 (by omega) (hinv.okA e (by simp [he])) (by omega) (hinv.valA e (by simp [he]))
  · exact List.forall_mem_append.mpr ⟨fun e he => hkeep (l + 1) e.1 e.2 (Nat.le_refl _)
      (hinv.pos.okB e.1 (List.mem_map_of_mem he)) (fun _ => by have := hBlt e he; omega) (hinv.valB e he),
      List.forall_mem_singleton.mpr P2⟩
  · intro key v hv
    by_cases hkey : key = nIdx h (l + 1) m
    · exact ⟨l + 1, m, Nat.le_refl _, hmok, hkey, Or.inr ⟨(m, pv), by simp, by simp⟩⟩
    · rw [(P1 key hkey).1] at hv
      obtain ⟨l', k', h1, h2, h3, h4⟩ := hinv.keys key v hv
      refine ⟨l', k', h1, h2, h3, ?_⟩
      rcases h4 with ⟨h5, e, he, hek⟩ | ⟨e, he, hek⟩
      · simp only [List.mem_append] at he
        rcases he with he | he
        · right
          refine ⟨(m, pv), by simp, ?_⟩
          simp only
          rw [← hpre e he, hek, Nat.div_div_eq_div_mul, ← Nat.pow_succ]
          congr 2; omega
        · left; exact ⟨h5, e, he, hek⟩
      · right; exact ⟨e, by simp [he], hek⟩

theorem CInv.next {n h l : Nat} {B : Lay} {R C : List (Nat × Bytes)} (hinv : CInv n h l [] B R C) :
    CInv n h (l + 1) B [] R C := by
  refine ⟨hinv.pos.next, hinv.valB, (fun e he => by cases he), ?_⟩
  intro key v hv
  obtain ⟨l', k', h1, h2, h3, h4⟩ := hinv.keys key v hv
  refine ⟨l', k', by omega, h2, h3, ?_⟩
  rcases h4 with ⟨_, e, he, _⟩ | ⟨e, he, hek⟩
  · cases he
  · left; exact ⟨h1, e, he, hek⟩

theorem CInv.insert {n h l k : Nat} {v : Bytes} {rest B : Lay} {R C : List (Nat × Bytes)} (hnH : n ≤ 2 ^ (h - 1))
    (hl : l + 2 ≤ h) (hinv : CInv n h l ((k, v) :: rest) B R C) (pv : Bytes) :
    insertIdx (wl h l rest B) (nIdx h (l + 1) (k / 2)) = wl h l rest (B ++ [(k / 2, pv)]) := by
  have := (show WInv n l (k :: rest.map (·.1)) (B.map (·.1)) from hinv.pos).insert hnH hl (fun _ ha => ha)
  simpa [wl] using this

theorem CInv.insert_last {n h l k k' : Nat} {v w : Bytes} {rest B : Lay} {R C : List (Nat × Bytes)}
    (hnH : n ≤ 2 ^ (h - 1)) (hl : l + 2 ≤ h) (hinv : CInv n h l ((k, v) :: (k', w) :: rest) B R C) (pv : Bytes) :
    insertIdx (wl h l rest (B ++ [(k / 2, pv)])) (nIdx h (l + 1) (k / 2)) = wl h l rest (B ++ [(k / 2, pv)]) := by
  have := (show WInv n l (k :: k' :: rest.map (·.1)) (B.map (·.1)) from hinv.pos).insert_last hnH hl
    (fun _ ha => List.mem_cons_of_mem _ ha)
  simpa [wl] using this

/-- the head of the layer: neither its parent nor a sibling outside the layer has an entry in the result map -/
theorem CInv.head_facts {n h l : Nat} (hnH : n ≤ 2 ^ (h - 1)) (hl : l + 2 ≤ h) {k : Nat} {v : Bytes}
    {rest B : Lay} {R C : List (Nat × Bytes)} (hinv : CInv n h l ((k, v) :: rest) B R C) :
    k * 2 ^ l < n ∧ R.lookup (nIdx h (l + 1) (k / 2)) = none ∧
    (∀ sib, sib * 2 ^ l < n → sib / 2 = k / 2 → sib ≠ k → (∀ a ∈ rest, a.1 ≠ sib) →
      R.lookup (locIdx h (repLoc n l sib)) = none) := by
  obtain ⟨hk, hB, _, _⟩ := (show WInv n l (k :: rest.map (·.1)) (B.map (·.1)) from hinv.pos).head hnH hl
  have hBlt : ∀ b ∈ B, b.1 < k / 2 := fun b hb => hB b.1 (List.mem_map_of_mem hb)
  have hmok : k / 2 * 2 ^ (l + 1) < n := half_nonempty hk
  refine ⟨hk, ?_, ?_⟩
  · apply Option.eq_none_iff_forall_ne_some.mpr
    intro v' hv'
    obtain ⟨l', k', h1, h2, h3, h4⟩ := hinv.keys _ v' hv'
    obtain ⟨e1, e2⟩ := nIdx_inj_nonempty hnH (by omega) (by omega) hmok h2 h3
    subst e1; subst e2
    rcases h4 with ⟨h5, _⟩ | ⟨b, hb, hbe⟩
    · omega
    · have := hBlt b hb
      simp at hbe; omega
  · intro sib hsib hhalf hne hnot
    apply Option.eq_none_iff_forall_ne_some.mpr
    intro v' hv'
    obtain ⟨l', k', h1, h2, h3, h4⟩ := hinv.keys _ v' hv'
    obtain ⟨l2, g1, g2, g3, _⟩ := repLoc_spec n l sib
    rw [g2] at h3
    obtain ⟨e1, e2⟩ := nIdx_inj_nonempty hnH (by omega) (by omega) (proper_lt (g3 hsib)) h2 h3
    subst e1; subst e2
    rcases h4 with ⟨_, e, he, hek⟩ | ⟨b, hb, hbe⟩
    · rw [Nat.mul_div_cancel _ (Nat.two_pow_pos _)] at hek
      simp only [List.mem_cons] at he
      rcases he with rfl | he
      · exact hne hek.symm
      · exact hnot e he hek
    · rw [mul_pow_div_succ _ _ _ (by omega), hhalf] at hbe
      have := hBlt b hb
      omega

/-! ### a whole layer, and all layers -/

/-- one node whose sibling is not in the layer: one iteration -/
theorem calc_single_step (hf : HashFns) (n h : Nat) (hnH : n ≤ 2 ^ (h - 1)) (l : Nat) (hl : l + 2 ≤ h)
    (k : Nat) (v : Bytes) (rest B : Lay) (R C : List (Nat × Bytes)) (sibs : List Bytes) (f : Nat)
    (hinv : CInv n h l ((k, v) :: rest) B R C) (hsep : ∀ a ∈ rest, 2 * (k / 2) + 1 < a.1)
    (hok : h ≤ 30 ∨ calcLoop hf (layerStructure n) n h (f + 1) (wl h l ((k, v) :: rest) B) R C sibs ≠ none) :
    ∃ C', calcLoop hf (layerStructure n) n h (f + 1) (wl h l ((k, v) :: rest) B) R C sibs
        = (stepOne hf n l k v sibs).bind (fun y => calcLoop hf (layerStructure n) n h f
            (wl h l rest (B ++ [(k / 2, y.1)])) (addParent n h l R (k / 2, y.1)) C' y.2) ∧
      ∀ y, stepOne hf n l k v sibs = some y →
        CInv n h l rest (B ++ [(k / 2, y.1)]) (addParent n h l R (k / 2, y.1)) C' := by
  obtain ⟨hk, hfresh, hsnone⟩ := CInv.head_facts hnH hl hinv
  obtain ⟨va1, va2⟩ := hinv.valA (k, v) (by simp)
  rw [wl_cons] at hok ⊢
  rw [calcLoop_iter hf n h hnH l k hl hk f (wl h l rest B) R C sibs v va1 hok]
  have hadv : ∀ (R' C' : List (Nat × Bytes)) (pv : Bytes),
      (∀ key, key ≠ nIdx h (l + 1) (k / 2) → R'.lookup key = R.lookup key ∧ look R' C' key = look R C key) →
      (look R' C' (nIdx h (l + 1) (k / 2)) = some pv ∧ R'.lookup (locIdx h (repLoc n (l + 1) (k / 2))) = some pv) →
      CInv n h l rest (B ++ [(k / 2, pv)]) R' C' := fun R' C' pv P1 P2 =>
    CInv.advance hnH hl (pre := [(k, v)]) (by simpa using hinv) (by simp) (by simp) hsep P1 P2
  have hpp := proper_parent_iff (n := n) hk
  unfold stepOne addParent
  by_cases hlt : sibOf k * 2 ^ l < n
  · simp only [if_pos hlt, if_pos (hpp.2 hlt)]
    -- the sibling is not in the layer
    have hsn := hsnone (sibOf k) hlt (sibOf_div k) (sibOf_ne k) (fun a ha he => by
      have h1 := hsep a ha
      have := sibOf_div k
      omega)
    cases sibs with
    | nil => exact ⟨C, by simp [takeSibling, hsn], fun y hy => by cases hy⟩
    | cons s ss =>
      simp only [takeSibling, hsn, parentConflict, hfresh, Bool.false_eq_true, if_false, Option.bind_some]
      refine ⟨C, by rw [hinv.insert hnH hl], ?_⟩
      intro y hy
      cases hy
      refine hadv _ C _ (fun key hkey => ⟨lookup_mapSet_ne _ _ _ _ hkey, look_mapSet_R_ne _ _ _ _ _ hkey⟩)
        ⟨look_mapSet_R_self _ _ _ _, ?_⟩
      rw [repLoc_proper (hpp.2 hlt)]
      exact lookup_mapSet_self _ _ _
  · have hnp : ¬ properCore n (l + 1) (k / 2) := fun hp => hlt (hpp.1 hp)
    have hev : k % 2 = 0 := by
      rcases Nat.mod_two_eq_zero_or_one k with h0 | h1
      · exact h0
      · have : sibOf k * 2 ^ l ≤ k * 2 ^ l := Nat.mul_le_mul_right _ (by rw [sibOf_odd h1]; exact Nat.sub_le k 1)
        omega
    simp only [if_neg hlt, if_neg hnp, Option.bind_some]
    refine ⟨mapSet C (nIdx h (l + 1) (k / 2)) v, by rw [hinv.insert hnH hl], ?_⟩
    intro y hy
    cases hy
    refine hadv R _ _ (fun key hkey => ⟨rfl, look_mapSet_C_ne _ _ _ _ _ hkey⟩)
      ⟨look_mapSet_C_self _ _ _ _ hfresh, ?_⟩
    rw [repLoc_carry hnp, show k / 2 * 2 = k by omega]
    exact va2

/-- two sibling nodes of the layer: two iterations, the second recomputes the same parent -/
theorem calc_pair_step (hf : HashFns) (n h : Nat) (hnH : n ≤ 2 ^ (h - 1)) (l : Nat) (hl : l + 2 ≤ h)
    (k : Nat) (v w : Bytes) (rest B : Lay) (R C : List (Nat × Bytes)) (sibs : List Bytes) (f : Nat)
    (hinv : CInv n h l ((k, v) :: (k + 1, w) :: rest) B R C) (hev : k % 2 = 0)
    (hok : h ≤ 30 ∨
      calcLoop hf (layerStructure n) n h (f + 1 + 1) (wl h l ((k, v) :: (k + 1, w) :: rest) B) R C sibs ≠ none) :
    calcLoop hf (layerStructure n) n h (f + 1 + 1) (wl h l ((k, v) :: (k + 1, w) :: rest) B) R C sibs
      = calcLoop hf (layerStructure n) n h f (wl h l rest (B ++ [(k / 2, hf.branch v w)]))
          (addParent n h l R (k / 2, hf.branch v w)) C sibs ∧
    CInv n h l rest (B ++ [(k / 2, hf.branch v w)]) (addParent n h l R (k / 2, hf.branch v w)) C := by
  obtain ⟨hk, hfresh, _⟩ := CInv.head_facts hnH hl hinv
  obtain ⟨va1, va2⟩ := hinv.valA (k, v) (by simp)
  obtain ⟨vb1, vb2⟩ := hinv.valA (k + 1, w) (by simp)
  simp only at va1 va2 vb1 vb2
  have hk1 : (k + 1) * 2 ^ l < n := hinv.okA (k + 1, w) (by simp)
  have hmok : k / 2 * 2 ^ (l + 1) < n := half_nonempty hk
  have hs0 := sibOf_even hev
  have hs1 : sibOf (k + 1) = k := sibOf_odd (by omega)
  have hhalf : (k + 1) / 2 = k / 2 := by omega
  have hproper : properCore n (l + 1) (k / 2) := (proper_parent_iff hk).2 (by rw [hs0]; exact hk1)
  unfold addParent
  simp only [if_pos hproper]
  rw [wl_cons] at hok ⊢
  have hiter := calcLoop_iter hf n h hnH l k hl hk (f + 1) (wl h l ((k + 1, w) :: rest) B) R C sibs v va1 hok
  rw [hiter, hs0, if_pos hk1] at hok
  rw [hiter, hs0, if_pos hk1]
  simp only [takeSibling, vb2, parentConflict, hfresh, if_pos hev, Bool.false_eq_true, if_false] at hok ⊢
  rw [hinv.insert hnH hl (hf.branch v w), wl_cons] at hok ⊢
  have hkey1 : nIdx h l (k + 1) ≠ nIdx h (l + 1) (k / 2) := fun e => by
    have := (nIdx_inj_nonempty hnH (by omega) (by omega) hk1 hmok e).1
    omega
  have hkey2 : locIdx h (repLoc n l k) ≠ nIdx h (l + 1) (k / 2) :=
    locIdx_repLoc_ne hnH (by omega) hk (by omega) hmok (by omega) (by omega)
  have hlook2 : look (mapSet R (nIdx h (l + 1) (k / 2)) (hf.branch v w)) C (nIdx h l (k + 1)) = some w := by
    rw [look_mapSet_R_ne _ _ _ _ _ hkey1]; exact vb1
  rw [calcLoop_iter hf n h hnH l (k + 1) hl hk1 f (wl h l rest (B ++ [(k / 2, hf.branch v w)]))
    (mapSet R (nIdx h (l + 1) (k / 2)) (hf.branch v w)) C sibs w hlook2 hok, hs1, if_pos hk, hhalf]
  have hl2 : (mapSet R (nIdx h (l + 1) (k / 2)) (hf.branch v w)).lookup (locIdx h (repLoc n l k)) = some v := by
    rw [lookup_mapSet_ne _ _ _ _ hkey2]; exact va2
  simp only [takeSibling, hl2, parentConflict, lookup_mapSet_self, if_neg (show ¬ (k + 1) % 2 = 0 by omega),
    bne_self_eq_false, Bool.false_eq_true, if_false]
  rw [hinv.insert_last hnH hl (hf.branch v w), mapSet_idem]
  refine ⟨rfl, ?_⟩
  refine CInv.advance hnH hl (pre := [(k, v), (k + 1, w)]) (by simpa using hinv) (by simp) ?_ ?_
    (fun key hkey => ⟨lookup_mapSet_ne _ _ _ _ hkey, look_mapSet_R_ne _ _ _ _ _ hkey⟩)
    ⟨look_mapSet_R_self _ _ _ _, by rw [repLoc_proper hproper]; exact lookup_mapSet_self _ _ _⟩
  · exact List.forall_mem_cons.mpr ⟨rfl, List.forall_mem_singleton.mpr hhalf⟩
  · intro a ha
    have := (List.pairwise_cons.mp (List.pairwise_cons.mp hinv.ascA).2).1 a ha
    simp only at this; omega

/-- the result of a layer whose first parent `e` is known, from the result of the rest of the layer -/
theorem layer_cons_tail {β : Type} (o : Option (Lay × List Bytes)) (e : Nat × Bytes)
    {g g' : Lay × List Bytes → Option β} {P P' : Lay × List Bytes → Prop} {lhs : Option β}
    (hg : ∀ x, g' x = g (e :: x.1, x.2)) (hP : ∀ x, P' x → P (e :: x.1, x.2))
    (h : lhs = o.bind g' ∧ ∀ x, o = some x → P' x) :
    lhs = (o.map fun x => (e :: x.1, x.2)).bind g ∧ ∀ x, (o.map fun x => (e :: x.1, x.2)) = some x → P x := by
  obtain ⟨h1, h2⟩ := h
  cases o with
  | none => exact ⟨h1, fun x hx => by cases hx⟩
  | some y => exact ⟨by rw [h1]; exact hg y, fun x hx => by cases hx; exact hP y (h2 y rfl)⟩

/-- a whole layer of `calculatePathNodes` follows `layerStep` -/
theorem calcLoop_layer (hf : HashFns) (n h : Nat) (hnH : n ≤ 2 ^ (h - 1)) (l : Nat) (hl : l + 2 ≤ h) (A : Lay) :
    ∀ (B : Lay) (R C : List (Nat × Bytes)) (sibs : List Bytes) (f : Nat), CInv n h l A B R C → A.length ≤ f →
      (h ≤ 30 ∨ calcLoop hf (layerStructure n) n h f (wl h l A B) R C sibs ≠ none) →
      ∃ C', calcLoop hf (layerStructure n) n h f (wl h l A B) R C sibs
          = (layerStep hf n l A sibs).bind (fun x => calcLoop hf (layerStructure n) n h (f - A.length)
              (wl h l [] (B ++ x.1)) (x.1.foldl (addParent n h l) R) C' x.2) ∧
        ∀ x, layerStep hf n l A sibs = some x → CInv n h l [] (B ++ x.1) (x.1.foldl (addParent n h l) R) C' := by
  induction A using pairInduction (Prod.fst : Nat × Bytes → Nat) with
  | nil =>
    intro B R C sibs f hinv _ _
    exact ⟨C, by simp [layerStep], fun x hx => by cases hx; simpa using hinv⟩
  | pair a b rest ha hb ih =>
    obtain ⟨k, v⟩ := a; obtain ⟨k', w⟩ := b
    simp only at ha hb; subst hb
    intro B R C sibs f hinv hf' hok
    obtain ⟨f', rfl⟩ : ∃ f', f = f' + 1 + 1 := ⟨f - 2, by simp at hf'; omega⟩
    obtain ⟨heq, hinv1⟩ := calc_pair_step hf n h hnH l hl k v w rest B R C sibs f' hinv ha hok
    rw [heq] at hok ⊢
    obtain ⟨C', heq', hinv'⟩ := ih _ _ C sibs f' hinv1 (by simp at hf'; omega) hok
    rw [layerStep_pair hf n l k v w rest sibs ha]
    exact ⟨C', layer_cons_tail _ _ (fun x => by simp [List.append_assoc]) (fun x hx => by simpa using hx) ⟨heq', hinv'⟩⟩
  | single a rest hp ih =>
    obtain ⟨k, v⟩ := a
    intro B R C sibs f hinv hf' hok
    obtain ⟨f', rfl⟩ : ∃ f', f = f' + 1 := ⟨f - 1, by simp at hf'; omega⟩
    have hsep : ∀ a ∈ rest, 2 * (k / 2) + 1 < a.1 := fun a ha =>
      sep_of_not_pairHead (k := k) (rest := rest.map (·.1)) (by simpa [List.pairwise_map] using hinv.ascA) hp a.1
        (List.mem_map_of_mem ha)
    obtain ⟨C1, heq, hinv1⟩ := calc_single_step hf n h hnH l hl k v rest B R C sibs f' hinv hsep hok
    rw [heq] at hok ⊢
    rw [layerStep_single hf n l k v rest sibs hp]
    cases ho : stepOne hf n l k v sibs with
    | none => exact ⟨C, rfl, fun x hx => by cases hx⟩
    | some y =>
      rw [ho] at hok
      simp only [Option.bind_some] at hok ⊢
      obtain ⟨C', heq', hinv'⟩ := ih _ _ C1 y.2 f' (hinv1 y ho) (by simp at hf'; omega) hok
      exact ⟨C', layer_cons_tail _ _ (fun x => by simp [List.append_assoc]) (fun x hx => by simpa using hx) ⟨heq', hinv'⟩⟩

/-- `calculatePathNodes` from a layer on computes what the specification computes -/
theorem calcLoop_spec (hf : HashFns) (n h : Nat) (hnH : n ≤ 2 ^ (h - 1)) (hh : 1 ≤ h)
    (htop : 2 ≤ h → 2 ^ (h - 2) < n) :
    ∀ (d l : Nat) (A : Lay) (R C : List (Nat × Bytes)) (sibs : List Bytes) (f : Nat),
      l + d = h - 1 → A ≠ [] → CInv n h l A [] R C → d * A.length + 1 ≤ f →
      (h ≤ 30 ∨ calcLoop hf (layerStructure n) n h f (wl h l A []) R C sibs ≠ none) →
      calcLoop hf (layerStructure n) n h f (wl h l A []) R C sibs
        = (calcSpec hf n d l A sibs).map (fun _ => resSpec hf n h d l A R sibs) ∧
      ∀ r, calcSpec hf n d l A sibs = some r → (resSpec hf n h d l A R sibs).lookup 2 = some r := by
  intro d
  induction d with
  | zero =>
    intro l A R C sibs f hld hne hinv hf' _
    have hl : l = h - 1 := by omega
    subst hl
    obtain ⟨⟨k, r⟩, rfl, hk0⟩ := top_singleton Prod.fst hnH hne hinv.okA hinv.ascA
    simp only at hk0; subst hk0
    obtain ⟨f', rfl⟩ : ∃ f', f = f' + 1 := ⟨f - 1, by omega⟩
    have hprop : properCore n (h - 1) 0 := by
      by_cases h1 : h = 1
      · subst h1; exact proper_zero.2 (by have := hinv.okA (0, r) (by simp); omega)
      · have := htop (by omega)
        rw [show h - 1 = (h - 2) + 1 by omega, proper_succ]; omega
    have hv := (hinv.valA (0, r) (by simp)).2
    rw [repLoc_proper hprop] at hv
    simp only [locIdx, nIdx_top h hh] at hv
    exact ⟨by simp [wl, wlp, nIdx_top h hh, calcLoop, calcSpec, resSpec], fun r' hr' => by
      simp only [calcSpec, Option.some.injEq] at hr'; subst hr'; simpa [resSpec] using hv⟩
  | succ d ih =>
    intro l A R C sibs f hld hne hinv hf' hok
    obtain ⟨hfA, hfuel⟩ := layer_fuel hf'
    obtain ⟨C', heq, hinv'⟩ := calcLoop_layer hf n h hnH l (by omega) A [] R C sibs f hinv hfA hok
    rw [heq] at hok ⊢
    simp only [calcSpec, resSpec]
    cases hr : layerStep hf n l A sibs with
    | none => exact ⟨rfl, fun r hr' => by cases hr'⟩
    | some x =>
      rw [hr] at hok
      simp only [Option.bind_some, List.nil_append] at hok ⊢
      have hx := layerStep_ok hf n l A sibs x.1 x.2 hinv.okA hr
      have hwl : wl h l [] x.1 = wl h (l + 1) x.1 [] := by simp [wl, wlp]
      rw [hwl] at hok ⊢
      exact ih (l + 1) x.1 _ C' x.2 (f - A.length) (by omega) (hx.2.2 hne)
        (CInv.next (by simpa using hinv' x hr)) (hfuel _ _ hx.2.1 (Nat.le_refl _)) hok

/-! ### `calculatePathNodes` / `VerifyProof` for several leaves and the specification -/

/-- the queried leaves with their hashes, in ascending order of position -/
def layer0 (pos : List Nat) (q : List Bytes) : Lay := isort (fun a b => decide (a.1 ≤ b.1)) (pos.zip q)

/-- every position comes with its query hash -/
theorem exists_mem_zip_fst {pos : List Nat} {q : List Bytes} (hlen : q.length = pos.length) {p : Nat} (hp : p ∈ pos) :
    ∃ e ∈ pos.zip q, e.1 = p := by
  have hpz : p ∈ (pos.zip q).map (·.1) := by rw [List.map_fst_zip (by omega)]; exact hp
  obtain ⟨e, he, rfl⟩ := List.mem_map.1 hpz
  exact ⟨e, he, rfl⟩

/-- a tree in which positions are named has a leaf -/
theorem one_le_of_pos_lt {n : Nat} {pos : List Nat} (hlt : ∀ p ∈ pos, p < n) (hne : pos ≠ []) : 1 ≤ n := by
  obtain ⟨p0, hp0⟩ := List.exists_mem_of_ne_nil pos hne
  have := hlt p0 hp0; omega

/-- the iterations the worklist loops allow (one per binary digit of a leaf index) cover `H - 1` layers of `a` nodes -/
theorem sub_one_mul_le (H a : Nat) : (H - 1) * a ≤ a * (H + 1) := by
  rw [Nat.mul_comm]; exact Nat.mul_le_mul_left _ (by omega)

theorem layer0_singleton (i : Nat) (q : Bytes) : layer0 [i] [q] = [(i, q)] := by simp [layer0, isort, insertBy]

theorem mem_layer0 (pos : List Nat) (q : List Bytes) (e : Nat × Bytes) : e ∈ layer0 pos q ↔ e ∈ pos.zip q :=
  mem_isort _ _ _

theorem layer0_fst_lt {n : Nat} {pos : List Nat} {q : List Bytes} (hlt : ∀ p ∈ pos, p < n) :
    ∀ e ∈ layer0 pos q, e.1 < n :=
  fun e he => hlt e.1 (List.of_mem_zip ((mem_layer0 pos q e).1 he)).1

theorem length_layer0 (pos : List Nat) (q : List Bytes) (hlen : q.length = pos.length) :
    (layer0 pos q).length = pos.length := by
  unfold layer0; rw [(isort_perm _ _).length_eq]; simp; omega

theorem mem_layer0_fst (pos : List Nat) (q : List Bytes) (hlen : q.length = pos.length) (p : Nat) :
    p ∈ (layer0 pos q).map (·.1) ↔ p ∈ pos := by
  have hz : (pos.zip q).map (·.1) = pos := List.map_fst_zip (by omega)
  simp only [List.mem_map, mem_layer0]
  rw [← hz, List.mem_map, hz]

theorem layer0_fst_asc (pos : List Nat) (q : List Bytes) (hnd : pos.Nodup) (hlen : q.length = pos.length) :
    ((layer0 pos q).map (·.1)).Pairwise (· < ·) := by
  rw [List.pairwise_map]
  have hnd2 : ((layer0 pos q).map (·.1)).Nodup := by
    unfold layer0
    rw [((isort_perm _ (pos.zip q)).map _).nodup_iff, List.map_fst_zip (by omega)]
    exact hnd
  rw [List.Nodup, List.pairwise_map] at hnd2
  refine ((isort_key_pairwise (·.1) (pos.zip q)).and hnd2).imp ?_
  intro a b h
  omega

theorem layer0_fst_ne_nil (pos : List Nat) (q : List Bytes) (hlen : q.length = pos.length) (hne : pos ≠ []) :
    (layer0 pos q).map (·.1) ≠ [] :=
  fun e => hne (by have := congrArg List.length e; simpa [length_layer0 pos q hlen] using this)

theorem sortIdx_layer0 (n h : Nat) (pos : List Nat) (q : List Bytes) (hnH : n ≤ 2 ^ (h - 1))
    (hlt : ∀ p ∈ pos, p < n) (hlen : q.length = pos.length) :
    sortIdx ((pos.map fun p => 2 ^ h + p).filter (· != 0)) = wl h 0 (layer0 pos q) [] := by
  have hle : 2 ^ (h - 1) ≤ 2 ^ h := Nat.pow_le_pow_right (by decide) (by omega)
  have hzip : (pos.map fun p => 2 ^ h + p) = (pos.zip q).map (fun e => 2 ^ h + e.1) := by
    conv => lhs; rw [← List.map_fst_zip (l₁ := pos) (l₂ := q) (by omega)]
    rw [List.map_map]; rfl
  rw [filter_ne_zero_leaves, hzip]
  unfold sortIdx layer0
  rw [isort_mapEmbed (fun e : Nat × Bytes => 2 ^ h + e.1) (fun a b => decide (a.1 ≤ b.1))]
  · simp [wl, wlp, nIdx_zero]
  · intro a ha b hb
    have h1 := bitLen_nIdx (h := h) (l := 0) (k := a.1) (by have := hlt a.1 (List.of_mem_zip ha).1; simp; omega)
    have h2 := bitLen_nIdx (h := h) (l := 0) (k := b.1) (by have := hlt b.1 (List.of_mem_zip hb).1; simp; omega)
    rw [nIdx_zero] at h1 h2
    unfold idxLt
    rw [h1, h2]
    simp only [beq_self_eq_true, if_true]
    by_cases hab : a.1 ≤ b.1
    · simp [hab]
    · simp [hab]; omega

/-- the number of iterations the loops allow: every leaf index has `h + 1` binary digits -/
theorem sumBitLen_layer0 (n h : Nat) (pos : List Nat) (q : List Bytes) (hnH : n ≤ 2 ^ (h - 1)) (hh : 1 ≤ h)
    (hlt : ∀ p ∈ pos, p < n) (hlen : q.length = pos.length) :
    sumBitLen (wl h 0 (layer0 pos q) []) = pos.length * (h + 1) := by
  rw [sumBitLen_const _ (h + 1)]
  · simp [wl, wlp, length_layer0 pos q hlen]
  · intro x hx
    simp only [wl, wlp, List.map_nil, List.append_nil, List.map_map] at hx
    obtain ⟨e, he, rfl⟩ := List.mem_map.mp hx
    simpa using bitLen_nIdx (pos_lt_pow hnH (l := 0) (by omega) (by simpa using layer0_fst_lt hlt e he))

theorem WInv_layer0 (n : Nat) (pos : List Nat) (q : List Bytes) (hnd : pos.Nodup) (hlt : ∀ p ∈ pos, p < n)
    (hlen : q.length = pos.length) : WInv n 0 ((layer0 pos q).map (·.1)) [] :=
  ⟨layer0_fst_asc pos q hnd hlen, fun a ha => by simpa using hlt a ((mem_layer0_fst pos q hlen a).1 ha),
    List.Pairwise.nil, (fun b hb => by cases hb), (fun b hb => by cases hb)⟩

theorem CInv.init (n h : Nat) (pos : List Nat) (q : List Bytes) (hnd : pos.Nodup) (hlt : ∀ p ∈ pos, p < n)
    (hlen : q.length = pos.length) :
    CInv n h 0 (layer0 pos q) [] (initResult q (pos.map fun p => 2 ^ h + p) []) [] := by
  have hpos := Nat.two_pow_pos h
  obtain ⟨hi1, hi2⟩ := initResult_lookup (pos.map fun p => 2 ^ h + p) q [] ((nodup_leaves h pos).2 hnd)
    (by intro i hi; simp only [List.mem_map] at hi; obtain ⟨p, _, rfl⟩ := hi; omega) (by simpa using hlen)
  refine ⟨WInv_layer0 n pos q hnd hlt hlen, ?_, (fun e he => by cases he), ?_⟩
  · intro e he
    have hin : (2 ^ h + e.1, e.2) ∈ (pos.map fun p => 2 ^ h + p).zip q := by
      rw [List.zip_map_left]
      exact List.mem_map.mpr ⟨e, (mem_layer0 pos q e).1 he, rfl⟩
    have hl := hi2 _ hin
    simp only at hl
    rw [repLoc_proper (proper_zero.2 (layer0_fst_lt hlt e he))]
    simp only [locIdx, nIdx_zero, look, hl, and_self]
  · intro key v hv
    have hkey : key ∈ pos.map fun p => 2 ^ h + p := by
      rcases Classical.em (key ∈ pos.map fun p => 2 ^ h + p) with h | h
      · exact h
      · rw [hi1 key h] at hv; cases hv
    obtain ⟨p, hp, rfl⟩ := List.mem_map.1 hkey
    obtain ⟨e, he, rfl⟩ := exists_mem_zip_fst hlen hp
    exact ⟨0, e.1, by omega, by simpa using hlt e.1 hp, (nIdx_zero h e.1).symm,
      Or.inl ⟨Nat.le_refl _, e, (mem_layer0 pos q e).2 he, by simp⟩⟩

/-- `calculatePathNodes` on distinct leaf positions computes the root of the specification -/
theorem calcPathNodes_spec (hf : HashFns) (n : Nat) (pos : List Nat) (q sibs : List Bytes)
    (hnd : pos.Nodup) (hlt : ∀ p ∈ pos, p < n) (hlen : q.length = pos.length) (hne : pos ≠ [])
    (hok : getHeight n ≤ 30 ∨ calcPathNodes hf q n (pos.map fun p => 2 ^ getHeight n + p) sibs ≠ none) :
    calcPathNodes hf q n (pos.map fun p => 2 ^ getHeight n + p) sibs =
      (calcSpec hf n (getHeight n - 1) 0 (layer0 pos q) sibs).map (fun _ =>
        resSpec hf n (getHeight n) (getHeight n - 1) 0 (layer0 pos q)
          (initResult q (pos.map fun p => 2 ^ getHeight n + p) []) sibs) ∧
    ∀ r, calcSpec hf n (getHeight n - 1) 0 (layer0 pos q) sibs = some r →
      (resSpec hf n (getHeight n) (getHeight n - 1) 0 (layer0 pos q)
          (initResult q (pos.map fun p => 2 ^ getHeight n + p) []) sibs).lookup 2 = some r := by
  have hh1 := getHeight_pos n
  have hnH : n ≤ 2 ^ (getHeight n - 1) := le_two_pow_clog2 n
  have htop : 2 ≤ getHeight n → 2 ^ (getHeight n - 2) < n := by
    intro h2
    simpa [getHeight] using two_pow_clog2_lt (two_le_of_clog2_pos (by simp [getHeight] at h2; omega))
  have hposlen : 0 < pos.length := List.length_pos_iff.mpr hne
  have hl0 := length_layer0 pos q hlen
  have hsum := sumBitLen_layer0 n (getHeight n) pos q hnH hh1 hlt hlen
  unfold calcPathNodes at hok ⊢
  have hc1 : (q.length != (pos.map fun p => 2 ^ getHeight n + p).length) = false := by simp [hlen]
  have hc2 : (q.length == 0) = false := by rw [hlen]; simpa using hne
  simp only [hc1, hc2, Bool.false_eq_true, if_false] at hok ⊢
  rw [sortIdx_layer0 n (getHeight n) pos q hnH hlt hlen, hsum] at hok ⊢
  refine calcLoop_spec hf n (getHeight n) hnH hh1 htop (getHeight n - 1) 0 (layer0 pos q) _ [] sibs _ (by omega)
    (fun e => by rw [e] at hl0; simp at hl0; omega) (CInv.init n (getHeight n) pos q hnd hlt hlen) ?_ hok
  rw [hl0]
  have := sub_one_mul_le (getHeight n) pos.length
  omega

/-- what an accepted proof for distinct leaf positions means in terms of the specification -/
theorem verify_calcSpec (hf : HashFns) (n : Nat) (pos : List Nat) (q sibs : List Bytes) (root : Bytes)
    (hnd : pos.Nodup) (hlt : ∀ p ∈ pos, p < n) (hlen : q.length = pos.length) (hne : pos ≠ [])
    (hv : verifyProof hf q ⟨n, pos.map fun p => 2 ^ getHeight n + p, sibs⟩ root = true) :
    calcSpec hf n (getHeight n - 1) 0 (layer0 pos q) sibs = some root := by
  obtain ⟨_, _, res, hres, hr⟩ := (verifyProof_iff hf q _ root).1 hv
  obtain ⟨h1, h2⟩ := calcPathNodes_spec hf n pos q sibs hnd hlt hlen hne (Or.inr (by rw [hres]; simp))
  rw [hres] at h1
  cases hc : calcSpec hf n (getHeight n - 1) 0 (layer0 pos q) sibs with
  | none => rw [hc] at h1; cases h1
  | some r =>
    rw [hc, Option.map_some, Option.some.injEq] at h1
    rw [h1, h2 r hc, Option.some.injEq] at hr
    rw [hr]

/-- a root computed by the specification is accepted, for trees of height at most 30 (above, the 32-bit index parser
fails) -/
theorem calcSpec_verify (hf : HashFns) (n : Nat) (hn : 1 ≤ n) (pos : List Nat) (q sibs : List Bytes) (root : Bytes)
    (hnd : pos.Nodup) (hlt : ∀ p ∈ pos, p < n) (hlen : q.length = pos.length) (hne : pos ≠ [])
    (hb : getHeight n ≤ 30)
    (hs : calcSpec hf n (getHeight n - 1) 0 (layer0 pos q) sibs = some root) :
    verifyProof hf q ⟨n, pos.map fun p => 2 ^ getHeight n + p, sibs⟩ root = true := by
  obtain ⟨h1, h2⟩ := calcPathNodes_spec hf n pos q sibs hnd hlt hlen hne (Or.inl hb)
  exact (verifyProof_iff hf q _ root).2 ⟨Nat.ne_of_gt hn, idxsValid_leaves hb pos hnd hlt, _, by rw [h1, hs]; rfl, h2 root hs⟩

/-- an accepted proof for distinct leaf positions against the root of `L`, in the terms of the specification: the nodes of
its bottom layer `layer0 pos q` have the values of the tree and the sibling hashes consumed are those of the tree
(`verify_sound_multi` reads the first half position by position) -/
theorem verify_sound_layer0 (hf : HashFns) (hinj : BranchInj hf) (L : List Bytes) (pos : List Nat) (q sibs : List Bytes)
    (hnd : pos.Nodup) (hlt : ∀ p ∈ pos, p < L.length) (hlen : q.length = pos.length) (hne : pos ≠ [])
    (hv : verifyProof hf q ⟨L.length, pos.map fun p => 2 ^ getHeight L.length + p, sibs⟩ (rootH hf L) = true) :
    (∀ e ∈ layer0 pos q, e.2 = rootH hf (blkCore L 0 e.1)) ∧
      sibSpec hf L (getHeight L.length - 1) 0 ((layer0 pos q).map (·.1)) <+: sibs :=
  calcSpec_sound hf hinj L (getHeight L.length - 1) 0 (layer0 pos q) sibs
    (by simpa [getHeight] using le_two_pow_clog2 L.length) (fun e he => by simpa using layer0_fst_lt hlt e he)
    (verify_calcSpec hf L.length pos q sibs (rootH hf L) hnd hlt hlen hne hv)

/-- soundness of `VerifyProof` for several distinct leaf positions -/
theorem verify_sound_multi (hf : HashFns) (hinj : BranchInj hf) (L : List Bytes) (pos : List Nat) (q sibs : List Bytes)
    (hnd : pos.Nodup) (hlt : ∀ p ∈ pos, p < L.length) (hlen : q.length = pos.length)
    (hv : verifyProof hf q ⟨L.length, pos.map fun p => 2 ^ getHeight L.length + p, sibs⟩ (rootH hf L) = true) :
    ∀ k (hk : k < pos.length), L[pos[k]]? = q[k]? := by
  intro k hk
  have hne : pos ≠ [] := by intro e; rw [e] at hk; simp at hk
  have hp0 := hlt pos[k] (List.getElem_mem hk)
  have hall := (verify_sound_layer0 hf hinj L pos q sibs hnd hlt hlen hne hv).1
  have hkq : k < q.length := by omega
  have hmem : (pos[k], q[k]) ∈ layer0 pos q := by
    rw [mem_layer0]
    have : (pos.zip q)[k]'(by simp; omega) = (pos[k], q[k]) := by simp
    rw [← this]; exact List.getElem_mem _
  have := hall _ hmem
  simp only at this
  rw [List.getElem?_eq_getElem hkq, this]
  have hl : L[pos[k]]? = some L[pos[k]] := List.getElem?_eq_getElem hp0
  rw [blk_leaf L pos[k] _ hl, rootH_singleton, hl]

end LiskVerif.RMT
