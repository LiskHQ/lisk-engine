/-
Helper lemmas for the execution model (`LiskVerif.Model.Exec`): event numbering, what a piece of
module code can do to the event logger and to the staged store (`Item.ops`), the command phase by
the outcome of the command, the correspondence between a batch of store writes and the updates of
the state tree, and the table of stored diffs (`findDiff`) as an association list.  The last section
is what the interpreter on maps of `Props/C16_More.lean` needs: module code never touches the
database under the staged store; a logger with a default topic accepts an event of the scripted
module exactly when `evOk` says so; the staged store of an execution context.
-/
import LiskVerif.Model.Exec
import LiskVerif.Lemmas.DiffDB

namespace LiskVerif.Exec
open LiskVerif.DiffDB

/-! ### event numbering -/

/-- the events of the list are numbered `n, n+1, …` -/
def IdxFrom : Nat → List Logged → Prop
  | _, [] => True
  | n, e :: r => e.event.index = n ∧ IdxFrom (n + 1) r

theorem idxFrom_append (a b : List Logged) : ∀ n,
    IdxFrom n (a ++ b) ↔ IdxFrom n a ∧ IdxFrom (n + a.length) b := by
  induction a with
  | nil => intro n; simp [IdxFrom]
  | cons e r ih =>
    intro n
    simp only [List.cons_append, IdxFrom, ih, List.length_cons]
    have : n + 1 + r.length = n + (r.length + 1) := by omega
    rw [this]
    exact and_assoc.symm

theorem idxFrom_reindexFrom (l : List Logged) : ∀ n, IdxFrom n (reindexFrom n l) := by
  induction l with
  | nil => intro n; trivial
  | cons e r ih => intro n; exact ⟨rfl, ih (n + 1)⟩

theorem idxFrom_take (l : List Logged) : ∀ n k, IdxFrom n l → IdxFrom n (l.take k) := by
  induction l with
  | nil => intro n k _; simp [IdxFrom]
  | cons e r ih =>
    intro n k h
    cases k with
    | zero => simp [IdxFrom]
    | succ k => exact ⟨h.1, ih (n + 1) k h.2⟩

theorem idxFrom_get (l : List Logged) : ∀ n, IdxFrom n l →
    ∀ i (h : i < l.length), (l[i]).event.index = n + i := by
  induction l with
  | nil => intro n _ i h; simp at h
  | cons e r ih =>
    intro n hl i h
    cases i with
    | zero => simpa using hl.1
    | succ i =>
      have := ih (n + 1) hl.2 i (by simpa using h)
      simp only [List.getElem_cons_succ]
      omega

theorem reindexFrom_length (l : List Logged) : ∀ n, (reindexFrom n l).length = l.length := by
  induction l with
  | nil => intro n; rfl
  | cons e r ih => intro n; simp [reindexFrom, ih]

theorem reindexFrom_fields (l : List Logged) : ∀ n, ∀ e ∈ reindexFrom n l, ∃ e' ∈ l,
    e.noRevert = e'.noRevert ∧ e.event.name = e'.event.name ∧ e.event.data = e'.event.data ∧
      e.event.module = e'.event.module ∧ e.event.ntopics = e'.event.ntopics ∧
      e.event.height = e'.event.height := by
  induction l with
  | nil => intro n e h; simp [reindexFrom] at h
  | cons a r ih =>
    intro n e h
    simp only [reindexFrom, List.mem_cons] at h
    rcases h with h | h
    · exact ⟨a, List.mem_cons_self, by subst h; simp⟩
    · obtain ⟨e', he', hp⟩ := ih (n + 1) e h
      exact ⟨e', List.mem_cons_of_mem _ he', hp⟩

/-! ### the logger under `add`, `addUnrevertible` and module code -/

/-- everything but the list of events -/
def SameCfg (a b : EventLogger) : Prop :=
  a.snapshotIndex = b.snapshotIndex ∧ a.height = b.height ∧ a.hasTopic = b.hasTopic

theorem sameCfg_refl (a : EventLogger) : SameCfg a a := ⟨rfl, rfl, rfl⟩

theorem SameCfg.snapshotIndex {a b : EventLogger} (h : SameCfg a b) : a.snapshotIndex = b.snapshotIndex := h.1
theorem SameCfg.height {a b : EventLogger} (h : SameCfg a b) : a.height = b.height := h.2.1
theorem SameCfg.hasTopic {a b : EventLogger} (h : SameCfg a b) : a.hasTopic = b.hasTopic := h.2.2

theorem sameCfg_trans {a b c : EventLogger} (h1 : SameCfg a b) (h2 : SameCfg b c) : SameCfg a c :=
  ⟨h1.snapshotIndex.trans h2.snapshotIndex, h1.height.trans h2.height, h1.hasTopic.trans h2.hasTopic⟩

/-- the event `createEvent l m n d x` makes: the next index, the arguments, the logger's height -/
structure Created (l : EventLogger) (m n : String) (d : Bytes) (x : Nat) (e : Event) : Prop where
  index : e.index = l.events.length
  module : e.module = m
  name : e.name = n
  data : e.data = d
  ntopics : e.ntopics = 1 + x
  height : e.height = l.height

theorem createEvent_spec {l : EventLogger} {m n : String} {d : Bytes} {x : Nat} {e : Event}
    (h : createEvent l m n d x = some e) : Created l m n d x e := by
  unfold createEvent at h
  by_cases hT : (!l.hasTopic) = true
  · rw [if_pos hT] at h; cases h
  · rw [if_neg hT] at h
    dsimp only at h
    split at h
    · cases h; exact ⟨rfl, rfl, rfl, rfl, rfl, rfl⟩
    · cases h

/-- `Add` (`b = false`) and `AddUnrevertible` (`b = true`) append the created event -/
theorem createEvent_map_spec {l l' : EventLogger} {m n : String} {d : Bytes} {x : Nat} {b : Bool}
    (h : (createEvent l m n d x).map
      (fun e => { l with events := l.events ++ [{ event := e, noRevert := b }] }) = some l') :
    ∃ e, l'.events = l.events ++ [{ event := e, noRevert := b }] ∧ Created l m n d x e ∧ SameCfg l l' := by
  cases hc : createEvent l m n d x with
  | none => rw [hc] at h; cases h
  | some e => rw [hc] at h; cases h; exact ⟨e, rfl, createEvent_spec hc, rfl, rfl, rfl⟩

theorem add_spec {l l' : EventLogger} {m n : String} {d : Bytes} {x : Nat}
    (h : add l m n d x = some l') :
    ∃ e, l'.events = l.events ++ [{ event := e, noRevert := false }] ∧ Created l m n d x e ∧ SameCfg l l' :=
  createEvent_map_spec (b := false) (by rw [← h, add]; cases createEvent l m n d x <;> rfl)

theorem addUnrevertible_spec {l l' : EventLogger} {m n : String} {d : Bytes} {x : Nat}
    (h : addUnrevertible l m n d x = some l') :
    ∃ e, l'.events = l.events ++ [{ event := e, noRevert := true }] ∧ Created l m n d x e ∧ SameCfg l l' :=
  createEvent_map_spec (b := true) (by rw [← h, addUnrevertible]; cases createEvent l m n d x <;> rfl)

/-- the logger only grows, by events numbered consecutively -/
structure Grows (a b : EventLogger) : Prop where
  cfg : SameCfg a b
  ext : ∃ new, b.events = a.events ++ new ∧ IdxFrom a.events.length new

theorem grows_refl (a : EventLogger) : Grows a a :=
  ⟨sameCfg_refl a, [], by simp, trivial⟩

theorem grows_trans {a b c : EventLogger} (h1 : Grows a b) (h2 : Grows b c) : Grows a c := by
  obtain ⟨n1, e1, i1⟩ := h1.ext
  obtain ⟨n2, e2, i2⟩ := h2.ext
  refine ⟨sameCfg_trans h1.cfg h2.cfg, n1 ++ n2, by rw [e2, e1, List.append_assoc], ?_⟩
  rw [idxFrom_append]
  refine ⟨i1, ?_⟩
  rw [e1, List.length_append] at i2
  exact i2

theorem grows_add {l l' : EventLogger} {m n : String} {d : Bytes} {x : Nat}
    (h : add l m n d x = some l') : Grows l l' := by
  obtain ⟨e, he, hcr, hc⟩ := add_spec h
  exact ⟨hc, [_], he, ⟨hcr.index, trivial⟩⟩

theorem grows_addUnrevertible {l l' : EventLogger} {m n : String} {d : Bytes} {x : Nat}
    (h : addUnrevertible l m n d x = some l') : Grows l l' := by
  obtain ⟨e, he, hcr, hc⟩ := addUnrevertible_spec h
  exact ⟨hc, [_], he, ⟨hcr.index, trivial⟩⟩

/-- the operations of the staged store an item performs, whether or not the logger accepts its
event; `stack` holds the ids of the snapshots the code has taken -/
def Item.ops (stack : List Nat) : Item → List Op
  | .set k v => [.set k v]
  | .del k => [.del k]
  | .get k => [.get k]
  | .chk k _ => [.get k]
  | .push => [.snapshot]
  | .pop =>
    match stack with
    | [] => []
    | id :: _ => [.restore id]
  | _ => []

theorem runItem_st_stack (s : SecSt) (it : Item) :
    (runItem s it).1.st = run s.st (it.ops s.stack) ∧
      (runItem s it).1.stack =
        match it with
        | .push => s.st.snapCount :: s.stack
        | .pop => s.stack.tail
        | _ => s.stack := by
  cases it with
  | get k => rw [runItem]; split <;> exact ⟨rfl, rfl⟩
  | ev u n d => rw [runItem]; split <;> exact ⟨rfl, rfl⟩
  | badEv => rw [runItem]; split <;> exact ⟨rfl, rfl⟩
  | pop => cases hs : s.stack <;> simp only [runItem, Item.ops, hs] <;> exact ⟨rfl, rfl⟩
  | _ => exact ⟨rfl, rfl⟩

theorem runItem_st (s : SecSt) (it : Item) : (runItem s it).1.st = run s.st (it.ops s.stack) :=
  (runItem_st_stack s it).1

theorem runItem_grows (s : SecSt) (it : Item) : Grows s.lg (runItem s it).1.lg := by
  cases it with
  | get k =>
    simp only [runItem]
    split
    · next lg' h => exact grows_add h
    · exact grows_refl _
  | ev unrev n d =>
    simp only [runItem]
    split
    · next lg' h =>
      cases unrev
      · simp only [Bool.false_eq_true, if_false] at h; exact grows_add h
      · simp only [if_true] at h; exact grows_addUnrevertible h
    · exact grows_refl _
  | badEv =>
    simp only [runItem]
    split
    · next lg' h => exact grows_add h
    · exact grows_refl _
  | pop => simp only [runItem]; split <;> exact grows_refl _
  | _ => exact grows_refl _

theorem runSection_grows (items : List Item) : ∀ s, Grows s.lg (runSection s items).1.lg := by
  induction items with
  | nil => intro s; exact grows_refl _
  | cons it r ih =>
    intro s
    simp only [runSection]
    split
    · exact grows_trans (runItem_grows s it) (ih _)
    · exact runItem_grows s it

/-! ### the command phase -/

/-- what `command.Execute` did: the staged store and the logger when it returned -/
def cmdRun (st : St) (lg : EventLogger) (cmd : List Item) : SecSt × Bool :=
  runSection { st := (snapshot st).1, lg := createSnapshot lg } cmd

theorem commandPhase_of_ok (st : St) (lg : EventLogger) (cmd : List Item)
    (h : (cmdRun st lg cmd).2 = true) :
    commandPhase st lg cmd =
      { st := deleteSnapshot (cmdRun st lg cmd).1.st (snapshot st).2, lg := (cmdRun st lg cmd).1.lg,
        success := true, lgRan := (cmdRun st lg cmd).1.lg } := by
  unfold cmdRun at h
  unfold commandPhase cmdRun
  dsimp only
  rw [if_pos h]

theorem commandPhase_of_fail (st : St) (lg : EventLogger) (cmd : List Item)
    (h : (cmdRun st lg cmd).2 = false)
    (hr : (restore (cmdRun st lg cmd).1.st (snapshot st).2).2 = true) :
    commandPhase st lg cmd =
      { st := deleteSnapshot (restore (cmdRun st lg cmd).1.st (snapshot st).2).1 (snapshot st).2,
        lg := restoreSnapshot (cmdRun st lg cmd).1.lg, success := false,
        lgRan := (cmdRun st lg cmd).1.lg } := by
  unfold cmdRun at h hr
  unfold commandPhase cmdRun
  dsimp only
  rw [if_neg (by simp [h]), if_pos hr]

theorem cmdRun_grows (st : St) (lg : EventLogger) (cmd : List Item) :
    Grows (createSnapshot lg) (cmdRun st lg cmd).1.lg :=
  runSection_grows cmd { st := (snapshot st).1, lg := createSnapshot lg }

/-- the events the command added: the logger when it returned is the logger before plus these -/
theorem cmdRun_events (st : St) (lg : EventLogger) (cmd : List Item) :
    ∃ new, (cmdRun st lg cmd).1.lg.events = lg.events ++ new ∧ IdxFrom lg.events.length new ∧
      (cmdRun st lg cmd).1.lg.snapshotIndex = some lg.events.length ∧
      (cmdRun st lg cmd).1.lg.hasTopic = lg.hasTopic ∧ (cmdRun st lg cmd).1.lg.height = lg.height := by
  obtain ⟨cfg, new, he, hi⟩ := cmdRun_grows st lg cmd
  exact ⟨new, he, hi, cfg.snapshotIndex.symm, cfg.hasTopic.symm, cfg.height.symm⟩

/-- `RestoreSnapshot` after code that ran from `CreateSnapshot`: of the events logged since, the
unrevertible ones are kept and renumbered -/
theorem restoreSnapshot_grows {l l' : EventLogger} (h : Grows (createSnapshot l) l') :
    ∃ new, l'.events = l.events ++ new ∧
      (restoreSnapshot l').events =
        l.events ++ reindexFrom l.events.length (new.filter (·.noRevert)) := by
  obtain ⟨new, he, _⟩ := h.ext
  have hs : l'.snapshotIndex = some l.events.length := h.cfg.snapshotIndex.symm
  have he' : l'.events = l.events ++ new := he
  exact ⟨new, he', by simp only [restoreSnapshot, hs, he', List.take_left' rfl, List.drop_left' rfl]⟩

theorem restoreSnapshot_cfg (l : EventLogger) :
    (restoreSnapshot l).hasTopic = l.hasTopic ∧ (restoreSnapshot l).height = l.height := by
  unfold restoreSnapshot
  split <;> exact ⟨rfl, rfl⟩

/-! ### batches, the store and the state tree -/

/-- `getTreeKey` never maps two state keys to the same tree key -/
def TreeKeyInj (H : Bytes → Bytes) : Prop := ∀ a b, treeKey H a = treeKey H b → a = b

/-- for keys that carry the 6-byte store prefix it follows from injectivity of the hash; `TreeKeyInj`
itself speaks of all keys and is a hypothesis of the theorems that use it -/
theorem treeKey_inj_of_len (H : Bytes → Bytes) (hH : ∀ a b, H a = H b → a = b) (a b : Bytes)
    (ha : 6 ≤ a.length) (hb : 6 ≤ b.length) (h : treeKey H a = treeKey H b) : a = b := by
  unfold treeKey at h
  have hl : (a.take 6).length = (b.take 6).length := by
    simp only [List.length_take]; omega
  have := List.append_inj h hl
  have hd := hH _ _ this.2
  rw [← List.take_append_drop 6 a, ← List.take_append_drop 6 b, this.1, hd]

/-- the tree holds exactly the image of the state: one leaf `(treeKey k, H v)` per entry -/
def LeafInv (H : Bytes → Bytes) (s : Store) (l : Leaves) : Prop :=
  ∀ tk hv, slookup l tk = some hv ↔ ∃ k v, slookup s k = some v ∧ treeKey H k = tk ∧ H v = hv

theorem leafInv_empty (H : Bytes → Bytes) : LeafInv H [] [] := by
  intro tk hv; simp [slookup]

/-- writing `o` under the key `k0` of the state and `H o` under its tree key keeps the invariant -/
theorem leafInv_update {H : Bytes → Bytes} (hTK : TreeKeyInj H) {s s' : Store} {l l' : Leaves}
    (h : LeafInv H s l) (k0 : Bytes) (o : Option Bytes)
    (hs : ∀ k, slookup s' k = if k0 = k then o else slookup s k)
    (hl : ∀ tk, slookup l' tk = if treeKey H k0 = tk then o.map H else slookup l tk) :
    LeafInv H s' l' := by
  intro tk hv
  rw [hl]
  by_cases htk : treeKey H k0 = tk
  · subst htk
    rw [if_pos rfl]
    constructor
    · intro hh
      cases o with
      | none => cases hh
      | some v => exact ⟨k0, v, by rw [hs, if_pos rfl], rfl, Option.some.inj hh⟩
    · rintro ⟨k, v, h1, h2, rfl⟩
      obtain rfl := hTK _ _ h2
      rw [hs, if_pos rfl] at h1
      rw [h1]; rfl
  · rw [if_neg htk, h tk hv]
    have hne : ∀ k, treeKey H k = tk → k0 ≠ k := fun k h2 hk => htk (hk ▸ h2)
    constructor <;> rintro ⟨k, v, h1, h2, h3⟩ <;> refine ⟨k, v, ?_, h2, h3⟩
    · rw [hs, if_neg (hne k h2)]; exact h1
    · rw [hs, if_neg (hne k h2)] at h1; exact h1

theorem leafInv_applyWrite {H : Bytes → Bytes} (hTK : TreeKeyInj H) {s : Store} {l : Leaves}
    (h : LeafInv H s l) (w : Write) : LeafInv H (applyWrite s w) (applyLeaf H l w) := by
  obtain ⟨k0, o⟩ := w
  cases o with
  | some v0 => exact leafInv_update hTK h k0 (some v0) (slookup_sset s k0 v0) (slookup_sset l _ _)
  | none => exact leafInv_update hTK h k0 none (slookup_sdel s k0) (slookup_sdel l _)

theorem leafInv_apply {H : Bytes → Bytes} (hTK : TreeKeyInj H) (ws : List Write) {s : Store} {l : Leaves}
    (h : LeafInv H s l) : LeafInv H (applyStore s ws) (applyLeaves H l ws) :=
  List.foldl_rel (r := LeafInv H) h fun w _ _ _ h => leafInv_applyWrite hTK h w

/-- two trees that hold the image of the same state are the same map -/
theorem leafInv_unique {H : Bytes → Bytes} {s s' : Store} {l l' : Leaves}
    (h : LeafInv H s l) (h' : LeafInv H s' l') (hs : ∀ k, slookup s k = slookup s' k) :
    ∀ tk, slookup l tk = slookup l' tk := by
  intro tk
  apply Option.ext
  intro hv
  rw [h tk hv, h' tk hv]
  constructor
  · rintro ⟨k, v, h1, h2⟩; exact ⟨k, v, by rw [← hs]; exact h1, h2⟩
  · rintro ⟨k, v, h1, h2⟩; exact ⟨k, v, by rw [hs]; exact h1, h2⟩

/-- the specification tree `leavesOf` satisfies the invariant -/
theorem leafInv_leavesOf {H : Bytes → Bytes} (hTK : TreeKeyInj H) (s : Store) :
    LeafInv H s (leavesOf H s) := by
  induction s with
  | nil => exact leafInv_empty H
  | cons e r ih => exact leafInv_update hTK ih e.1 (some e.2) (fun _ => rfl) (fun _ => rfl)

/-- the pebble batch of a commit is what `cacheDB.commit` writes -/
theorem applyStore_batchOfCache (c : Cache) : ∀ (s : Store) (d : Diff),
    (commitCache c s d).1 = applyStore s (batchOfCache c) := by
  induction c with
  | nil => intro s d; rfl
  | cons e r ih =>
    intro s d
    obtain ⟨k, cv⟩ := e
    unfold commitCache batchOfCache
    cases hi : cv.init with
    | none => simp only [applyStore, List.foldl_cons, applyWrite]; exact ih _ _
    | some i =>
      simp only
      cases hd : cv.deleted with
      | true => simp only [if_true, applyStore, List.foldl_cons, applyWrite]; exact ih _ _
      | false =>
        cases hdi : cv.dirty with
        | true =>
          simp only [Bool.false_eq_true, if_false, if_true, applyStore, List.foldl_cons, applyWrite]
          exact ih _ _
        | false => simp only [Bool.false_eq_true, if_false]; exact ih _ _

/-- the pebble batch of a revert is `RevertDiff` -/
theorem applyStore_batchOfDiff (s : Store) (d : Diff) :
    applyStore s (batchOfDiff d) = revertDiff s d := by
  unfold applyStore batchOfDiff revertDiff
  simp only [List.foldl_append, List.foldl_map, applyWrite]

theorem nodup_applyWrite (s : Store) (w : Write) (h : NoDupKeys s) : NoDupKeys (applyWrite s w) := by
  obtain ⟨k, o⟩ := w
  cases o with
  | some v => exact nodup_put s k v h
  | none => exact nodup_filter s _ h

theorem nodup_applyStore (ws : List Write) (s : Store) (h : NoDupKeys s) : NoDupKeys (applyStore s ws) :=
  List.foldlRecOn (motive := NoDupKeys) ws _ h fun s hs w _ => nodup_applyWrite s w hs

theorem findDiff_eq_get : findDiff = AList.get := by
  funext l i; induction l <;> simp only [findDiff, AList.get, *]

theorem findDiff_putDiff_eq (l : List (Nat × Diff)) (h : Nat) (d : Diff) (i : Nat) :
    findDiff (putDiff l h d) i = if h = i then some d else findDiff l i := by
  rw [findDiff_eq_get]; exact (AList.get_put l h d i).trans (ite_key_comm ..)

theorem findDiff_putDiff (l : List (Nat × Diff)) (h : Nat) (d : Diff) :
    findDiff (putDiff l h d) h = some d :=
  (findDiff_putDiff_eq l h d h).trans (if_pos rfl)

/-! ### for the interpreter on maps: the database below, accepted events, the context's store -/

/-- the store under the staged overlay never changes while module code runs -/
theorem runItem_store (s : SecSt) (it : Item) : (runItem s it).1.st.store = s.st.store := by
  rw [runItem_st]; exact run_store _ _

theorem runSection_store (items : List Item) : ∀ s : SecSt,
    (runSection s items).1.st.store = s.st.store := by
  induction items with
  | nil => intro s; rfl
  | cons it r ih =>
    intro s
    simp only [runSection]
    split
    · rw [ih, runItem_store]
    · exact runItem_store s it

/-- `Event.Validate` for an event of the scripted module: it looks at the name, the size of the data
and the number of topics only -/
def evOk (name : String) (data : Bytes) (extra : Nat) : Bool :=
  ({ module := modName, name := name, data := data, ntopics := 1 + extra, height := 0, index := 0 } :
    Event).valid

theorem createEvent_isSome (l : EventLogger) (hT : l.hasTopic = true) (n : String) (d : Bytes) (x : Nat) :
    (createEvent l modName n d x).isSome = evOk n d x := by
  unfold createEvent evOk Event.valid
  simp only [hT, Bool.not_true, Bool.false_eq_true, if_false]
  split <;> simp_all

theorem add_isSome (l : EventLogger) (hT : l.hasTopic = true) (n : String) (d : Bytes) (x : Nat) :
    (add l modName n d x).isSome = evOk n d x := by
  rw [← createEvent_isSome l hT n d x]
  unfold add
  split <;> simp_all

theorem addUnrevertible_isSome (l : EventLogger) (hT : l.hasTopic = true) (n : String) (d : Bytes)
    (x : Nat) : (addUnrevertible l modName n d x).isSome = evOk n d x := by
  rw [← createEvent_isSome l hT n d x]
  unfold addUnrevertible
  split <;> simp_all

theorem stOf_ctxOf (a : App) (c : Ctx) (st : St) (h : st.store = a.store) :
    stOf a (ctxOf c st) = st := by
  cases st
  simp only [stOf, ctxOf] at *
  rw [h]

end LiskVerif.Exec
