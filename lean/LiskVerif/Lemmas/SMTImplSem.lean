/-
Entries of the specification (Model/SMTSpec.lean) below the nodes of a stored subtree (Model/SMTImpl.lean).

* `Exp`: a layout tree is an (uncollapsed) arrangement of a set of entries – empty tips hold nothing, leaf tips one
  entry, stub tips the root of at least two entries, a branch splits the entries by their next key bit; then the
  recursively collapsed tree (`LT.collapse`, the recursive form of `calculateSubTree`) hashes to the specification
  root of the entries (`collapse_exp`; no property of the hash function is used);
* a pending write of a batch is an `Entry` (`value = []`: delete) whose `path` are the key bits below the current node;
* `applyE es ops`: the entries below a node after the writes `ops`; it commutes with descending to a child, keeps
  well-formedness / non-empty values / `Under`, and at the top level lists the entries of `applyBatch m b` up to order;
* `BinsOK rem bins ops`: the `2^rem` bins handed to `updateNode` hold exactly the writes `ops`, split by their next
  `rem` key bits (most significant first);
* `Arr`: a layout tree arranges a list of entries (strengthening of `Exp`: the nodes are exactly the ones the
  code builds, stubs sit at the bottom of the subtree only and commit to the entries below them).
-/
import LiskVerif.Lemmas.SMTImplTree
import LiskVerif.Lemmas.SMT

namespace LiskVerif.SMTImpl
open LiskVerif LiskVerif.SMT

/-- `Exp H d t es`: the layout tree `t`, below a node with `d` key bits left, arranges exactly the entries `es` -/
inductive Exp (H : HashFn) : Nat → LT → List Entry → Prop
  | empty (d : Nat) (n : Node) : n.kind = .empty → n.hash = emptyHash H → Exp H d (.tip n) []
  | leaf (d : Nat) (n : Node) (e : Entry) : n.kind = .leaf → n.hash = leafHash H e.key e.value → Exp H d (.tip n) [e]
  | stub (d : Nat) (n : Node) (es : List Entry) : n.kind = .stub → 2 ≤ es.length → n.hash = root H d es →
      Exp H d (.tip n) es
  | br (d : Nat) (l r : LT) (es : List Entry) : Exp H d l (goL es) → Exp H d r (goR es) → Exp H (d + 1) (.br l r) es

/-- kind of the top of a tree; a branch counts as a stub (an inner node) -/
def LT.topKind : LT → Kind
  | .tip n => n.kind
  | .br _ _ => .stub

def kindOfLen : Nat → Kind
  | 0 => .empty
  | 1 => .leaf
  | _ => .stub

theorem kindOfLen_empty {n : Nat} : kindOfLen n = .empty ↔ n = 0 := by
  rcases n with _ | _ | n <;> simp [kindOfLen]

theorem kindOfLen_leaf {n : Nat} : kindOfLen n = .leaf ↔ n = 1 := by
  rcases n with _ | _ | n <;> simp [kindOfLen]

theorem kindOfLen_stub {n : Nat} : kindOfLen n = .stub ↔ 2 ≤ n := by
  rcases n with _ | _ | n <;> simp [kindOfLen]

/-- with at least two entries below, a pair of sides is none of (empty, empty), (empty, leaf), (leaf, empty) -/
theorem kindIf_two {α : Type} {m n : Nat} (h : 2 ≤ m + n) (x00 x01 x10 x11 : α) :
    (if kindOfLen m = .empty ∧ kindOfLen n = .empty then x00 else if kindOfLen m = .empty ∧ kindOfLen n = .leaf then x01
      else if kindOfLen m = .leaf ∧ kindOfLen n = .empty then x10 else x11) = x11 := by
  rw [if_neg (by rw [kindOfLen_empty, kindOfLen_empty]; omega), if_neg (by rw [kindOfLen_empty, kindOfLen_leaf]; omega),
    if_neg (by rw [kindOfLen_leaf, kindOfLen_empty]; omega)]

theorem branchHash_eq (H : HashFn) (l r : Bytes) : newBranchHash H l r = branchHash H l r := rfl

/-- a branch collapses to its non-empty side when the other side is empty and that side is empty or a leaf -/
theorem LT.collapse_br (l r : LT) : (LT.br l r).collapse =
    if l.collapse.topKind = .empty ∧ r.collapse.topKind = .empty then l.collapse
    else if l.collapse.topKind = .empty ∧ r.collapse.topKind = .leaf then r.collapse
    else if l.collapse.topKind = .leaf ∧ r.collapse.topKind = .empty then l.collapse
    else .br l.collapse r.collapse := by
  simp only [LT.collapse]
  cases l.collapse with
  | br _ _ => simp [LT.topKind]
  | tip a =>
    cases r.collapse with
    | br _ _ => simp [LT.topKind]
    | tip b => rfl

/-- the collapsed tree hashes to the specification root, and its top says how many entries there are -/
theorem collapse_exp (H : HashFn) : ∀ (d : Nat) (t : LT) (es : List Entry), WFE d es → Exp H d t es →
    t.collapse.hash H = root H d es ∧ t.collapse.topKind = kindOfLen es.length := by
  intro d t es hw he
  induction he with
  | empty d n hk hh => simp [LT.collapse, LT.hash, LT.topKind, kindOfLen, hk, hh]
  | leaf d n e hk hh => simp [LT.collapse, LT.hash, LT.topKind, kindOfLen, hk, hh]
  | stub d n es hk h2 hh => exact ⟨hh, hk.trans (kindOfLen_stub.mpr h2).symm⟩
  | br d l r es _ _ ihl ihr =>
    obtain ⟨hl1, hl2⟩ := ihl (wfe_goL hw)
    obtain ⟨hr1, hr2⟩ := ihr (wfe_goR hw)
    rw [LT.collapse_br, hl2, hr2]
    rcases node_split hw with ⟨rfl, hL, hR⟩ | ⟨e, p, rfl, ⟨_, hL, hR⟩ | ⟨_, hL, hR⟩⟩ | ⟨h2, hsum⟩
    · rw [hL, hR, if_pos ⟨rfl, rfl⟩, hl1, hl2, hL]
      exact ⟨by simp, rfl⟩
    · rw [hL, hR, if_neg (by simp [kindOfLen]), if_neg (by simp [kindOfLen]), if_pos ⟨rfl, rfl⟩, hl1, hl2, hL]
      exact ⟨by simp, rfl⟩
    · rw [hL, hR, if_neg (by simp [kindOfLen]), if_pos ⟨rfl, rfl⟩, hr1, hr2, hR]
      exact ⟨by simp, rfl⟩
    · rw [kindIf_two (by omega), root_succ_two H d es h2, ← hl1, ← hr1]
      exact ⟨rfl, (kindOfLen_stub.mpr h2).symm⟩

/-- is the entry `e` left untouched by the writes `ops`? -/
def untouched (ops : List Entry) (e : Entry) : Bool := ops.all fun o => decide (o.path ≠ e.path)

/-- the entries after the writes: untouched old entries, then the non-empty writes -/
def applyE (es ops : List Entry) : List Entry :=
  es.filter (untouched ops) ++ ops.filter fun o => decide (o.value ≠ [])

/-- the write of the pair `kv` seen from absolute bit depth `D` -/
def opOf (D : Nat) (kv : KV) : Entry := ⟨(keyBits kv.1).drop D, kv.1, kv.2⟩

def kvOf (o : Entry) : KV := (o.key, o.value)

/-- the entry lies below the node reached by the bits `pre` -/
def Under (pre : Bits) (e : Entry) : Prop := keyBits e.key = pre ++ e.path

/-- the bins of a node with `rem` levels left in its subtree hold the writes `ops`, in batch order -/
def BinsOK : Nat → List (List KV) → List Entry → Prop
  | 0, bins, ops => bins = [ops.map kvOf]
  | rem + 1, bins, ops =>
    ∃ bl br, bins = bl ++ br ∧ bl.length = 2 ^ rem ∧ BinsOK rem bl (goL ops) ∧ BinsOK rem br (goR ops)

/-- a node of a stored subtree, with `rem` levels left below it inside the subtree and `d` key bits left, holds
the entries `es`; `S d es h`: the store holds the subtree of root `h` for the entries `es` (`d` bits left) -/
inductive ArrTip (H : HashFn) (S : Nat → List Entry → Bytes → Prop) (rem d : Nat) : Node → List Entry → Prop
  | empty : ArrTip H S rem d (newEmptyNode H) []
  | leaf (e : Entry) : e.value ≠ [] → ArrTip H S rem d (newLeafNode H e.key e.value) [e]
  | stub (es : List Entry) : rem = 0 → 2 ≤ es.length → S d es (root H d es) →
      ArrTip H S rem d (newStubNode (root H d es)) es

/-- a layout tree (root with `rem` levels left in the subtree, `d` key bits left) arranges the entries `es` -/
inductive Arr (H : HashFn) (S : Nat → List Entry → Bytes → Prop) : Nat → Nat → LT → List Entry → Prop
  | tip (rem d : Nat) (n : Node) (es : List Entry) : ArrTip H S rem d n es → Arr H S rem d (.tip n) es
  | br (rem d : Nat) (l r : LT) (es : List Entry) : Arr H S rem d l (goL es) → Arr H S rem d r (goR es) →
      Arr H S (rem + 1) (d + 1) (.br l r) es

/-- a node holds its entries in any store that knows the group a stub commits to -/
theorem ArrTip.imp {H : HashFn} {S S' : Nat → List Entry → Bytes → Prop} {rem d : Nat} {n : Node} {es : List Entry}
    (h : ArrTip H S rem d n es) (hS : rem = 0 → 2 ≤ es.length → S d es (root H d es) → S' d es (root H d es)) :
    ArrTip H S' rem d n es := by
  cases h with
  | empty => exact ArrTip.empty
  | leaf e hv => exact ArrTip.leaf e hv
  | stub es h0 h2 hs => exact ArrTip.stub es h0 h2 (hS h0 h2 hs)

theorem Arr.exp {H : HashFn} {S : Nat → List Entry → Bytes → Prop} {rem d : Nat} {t : LT} {es : List Entry}
    (h : Arr H S rem d t es) : Exp H d t es := by
  induction h with
  | tip rem d n es ht =>
    cases ht with
    | empty => exact Exp.empty d _ rfl rfl
    | leaf e _ => exact Exp.leaf d _ e rfl rfl
    | stub es _ h2 _ => exact Exp.stub d _ es rfl h2 rfl
  | br rem d l r es _ _ ihl ihr => exact Exp.br d l r es ihl ihr

theorem Arr.noTemp {H : HashFn} {S : Nat → List Entry → Bytes → Prop} {rem d : Nat} {t : LT} {es : List Entry}
    (h : Arr H S rem d t es) : t.noTemp := by
  induction h with
  | tip rem d n es ht =>
    cases ht <;> simp [LT.noTemp, newEmptyNode, newLeafNode, newStubNode]
  | br rem d l r es _ _ ihl ihr => exact ⟨ihl, ihr⟩

theorem maps_untouched_nil (e : Entry) : untouched [] e = true := rfl

theorem untouched_cons (o : Entry) (ops : List Entry) (e : Entry) :
    untouched (o :: ops) e = (decide (o.path ≠ e.path) && untouched ops e) := rfl

theorem untouched_iff {ops : List Entry} {e : Entry} :
    untouched ops e = true ↔ ∀ o ∈ ops, o.path ≠ e.path := by
  unfold untouched
  simp [List.all_eq_true]

theorem mem_applyE {es ops : List Entry} {e : Entry} :
    e ∈ applyE es ops ↔ (e ∈ es ∧ untouched ops e = true) ∨ (e ∈ ops ∧ e.value ≠ []) := by
  unfold applyE
  simp [List.mem_append, List.mem_filter]

theorem applyE_nil_ops (es : List Entry) : applyE es [] = es := by
  unfold applyE
  simp [maps_untouched_nil]

theorem applyE_perm_left {es es' : List Entry} (h : es.Perm es') (ops : List Entry) :
    (applyE es ops).Perm (applyE es' ops) :=
  (h.filter _).append_right _

/-- whether the writes touch an entry is decided on the entry's side of the node -/
theorem untouched_child (ops : List Entry) {b : Bool} {e e' : Entry} (hp : e.path = b :: e'.path) :
    untouched ops e = untouched (if b then goR ops else goL ops) e' := by
  rw [Bool.eq_iff_iff, untouched_iff, untouched_iff]
  constructor
  · intro hu o' ho' heq
    obtain ⟨o, ho, hop, _⟩ := mem_child.mp ho'
    exact hu o ho (by rw [hop, hp, heq])
  · intro hu o ho heq
    exact hu ⟨e'.path, o.key, o.value⟩ (mem_child.mpr ⟨o, ho, by rw [heq, hp], rfl, rfl⟩) rfl

/-- `applyE` commutes with descending to a child: for a step function that strips the leading bit `b` -/
theorem filterMap_applyE {f : Entry → Option Entry} {b : Bool}
    (hfb : ∀ l : List Entry, l.filterMap f = if b then goR l else goL l)
    (hs : ∀ {e e'}, f e = some e' → e.path = b :: e'.path ∧ e'.value = e.value) (es ops : List Entry) :
    (applyE es ops).filterMap f = applyE (es.filterMap f) (ops.filterMap f) := by
  unfold applyE
  rw [List.filterMap_append]
  congr 1
  · exact filterMap_filter_of_agree f _ _ es fun x _ y hy => by rw [hfb]; exact untouched_child ops (hs hy).1
  · exact filterMap_filter_of_agree f _ _ ops fun x _ y hy => by rw [(hs hy).2]

theorem goL_applyE (es ops : List Entry) : goL (applyE es ops) = applyE (goL es) (goL ops) :=
  filterMap_applyE (b := false) (fun _ => rfl) (fun h => ⟨(stepL_some h).1, (stepL_some h).2.2⟩) es ops

theorem goR_applyE (es ops : List Entry) : goR (applyE es ops) = applyE (goR es) (goR ops) :=
  filterMap_applyE (b := true) (fun _ => rfl) (fun h => ⟨(stepR_some h).1, (stepR_some h).2.2⟩) es ops

/-- well-formedness is kept: paths of length `d`, pairwise distinct -/
theorem wfe_applyE {d : Nat} {es ops : List Entry} (he : WFE d es) (ho : WFE d ops) : WFE d (applyE es ops) := by
  refine ⟨?_, ?_⟩
  · intro e hm
    rcases mem_applyE.mp hm with h | h
    · exact he.1 e h.1
    · exact ho.1 e h.1
  · unfold applyE
    rw [List.pairwise_append]
    refine ⟨he.2.filter _, ho.2.filter _, ?_⟩
    intro a ha b hb
    rw [List.mem_filter] at ha hb
    exact fun hab => untouched_iff.mp ha.2 b hb.1 hab.symm

/-- entries keep non-empty values -/
theorem applyE_values {es ops : List Entry} (he : ∀ e ∈ es, e.value ≠ []) :
    ∀ e ∈ applyE es ops, e.value ≠ [] := by
  intro e hm
  rcases mem_applyE.mp hm with h | h
  · exact he e h.1
  · exact h.2

theorem under_child {pre : Bits} {es : List Entry} (h : ∀ e ∈ es, Under pre e) (b : Bool) :
    ∀ e ∈ (if b then goR es else goL es), Under (pre ++ [b]) e := by
  intro e' he'
  obtain ⟨e, he, hp, hk, _⟩ := mem_child.mp he'
  have := h e he
  unfold Under at *
  rw [hk, this, hp]; simp

theorem under_applyE {pre : Bits} {es ops : List Entry} (he : ∀ e ∈ es, Under pre e)
    (ho : ∀ e ∈ ops, Under pre e) : ∀ e ∈ applyE es ops, Under pre e := by
  intro e hm
  rcases mem_applyE.mp hm with h | h
  · exact he e h.1
  · exact ho e h.1

/-- under one node, equal paths mean equal keys -/
theorem under_key_eq {pre : Bits} {a b : Entry} (ha : Under pre a) (hb : Under pre b) :
    a.path = b.path ↔ a.key = b.key := by
  unfold Under at *
  constructor
  · intro h
    apply keyBits_inj
    rw [ha, hb, h]
  · intro h
    rw [h, hb] at ha
    exact (List.append_cancel_left ha).symm

theorem uniqueFirst_eq_dedupFirst (b : List KV) : uniqueFirst b = dedupFirst b := by
  induction b with
  | nil => rfl
  | cons kv r ih => simp only [uniqueFirst, dedupFirst, ih]

theorem ops_eq_entriesOf (b : List KV) : (uniqueFirst b).map (opOf 0) = entriesOf (dedupFirst b) := by
  rw [uniqueFirst_eq_dedupFirst]
  exact List.map_congr_left (fun kv _ => by simp [opOf])

theorem wfe_ops (keyLen : Nat) (b : List KV) (hbk : ∀ kv ∈ b, kv.1.length = keyLen) :
    WFE (8 * keyLen) ((uniqueFirst b).map (opOf 0)) := by
  rw [ops_eq_entriesOf]
  exact wfe_entriesOf (nodupKeys_dedupFirst b) (fun kv h => hbk kv (mem_dedupFirst h))

theorem under_entriesOf (m : List KV) : ∀ e ∈ entriesOf m, Under [] e :=
  forall_mem_entriesOf.mpr fun _ _ => by simp [Under]

theorem under_ops (b : List KV) : ∀ e ∈ (uniqueFirst b).map (opOf 0), Under [] e := by
  rw [ops_eq_entriesOf]
  exact under_entriesOf _

/-- a write that no later write of the batch touches can be applied first -/
theorem applyE_cons (es : List Entry) {o : Entry} {ops : List Entry} (ho : untouched ops o = true) :
    applyE es (o :: ops) = applyE (applyE es [o]) ops := by
  unfold applyE
  rw [List.filter_append, List.filter_filter, List.append_assoc]
  congr 1
  · exact List.filter_congr fun a _ => by
      rw [untouched_cons, untouched_cons, maps_untouched_nil, Bool.and_true, Bool.and_comm]
  · by_cases hv : o.value = [] <;> simp [hv, ho]

/-- one write on the entries is `applyOp` on the map -/
theorem applyE_opOfKV (m : List KV) (kv : KV) :
    (applyE (entriesOf m) [⟨keyBits kv.1, kv.1, kv.2⟩]).Perm (entriesOf (applyOp m (opOfKV kv))) := by
  have hdel : (entriesOf m).filter (untouched [⟨keyBits kv.1, kv.1, kv.2⟩]) = entriesOf (mdel m kv.1) :=
    (List.filter_congr fun e _ => by simp [untouched, ne_comm]).trans (entriesOf_mdel m kv.1).symm
  unfold applyE opOfKV
  rw [hdel]
  by_cases hv : kv.2 = []
  · simp [hv, applyOp]
  · simp [hv, applyOp, mset, entriesOf]

/-- the top level: the entries of the map after the batch, up to order -/
theorem applyE_entriesOf (m b : List KV) :
    (applyE (entriesOf m) ((uniqueFirst b).map (opOf 0))).Perm (entriesOf (applyBatch m b)) := by
  rw [ops_eq_entriesOf]
  have hd := nodupKeys_dedupFirst b
  unfold applyBatch batchOps
  generalize dedupFirst b = d at hd
  induction d generalizing m with
  | nil => rw [show entriesOf [] = [] from rfl, applyE_nil_ops]; exact List.Perm.refl _
  | cons kv d ih =>
    simp only [NoDupKeys, List.map_cons, List.nodup_cons] at hd
    have hu : untouched (entriesOf d) ⟨keyBits kv.1, kv.1, kv.2⟩ = true :=
      untouched_iff.mpr fun o ho heq => by
        obtain ⟨x, hx, rfl⟩ := List.mem_map.mp ho
        exact hd.1 (keyBits_inj heq ▸ List.mem_map_of_mem hx)
    show (applyE (entriesOf m) (_ :: entriesOf d)).Perm _
    rw [applyE_cons _ hu]
    exact (applyE_perm_left (applyE_opOfKV m kv) _).trans (ih _ hd.2)

end LiskVerif.SMTImpl

#print axioms LiskVerif.SMTImpl.applyE_entriesOf
