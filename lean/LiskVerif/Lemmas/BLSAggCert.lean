/-
Link between the byte-level transcription of pkg/crypto/bls.go (Model/BLSAgg.lean) and the bit-list
model of Model/Cert.lean that the C06 theorems are about: `Bits.ofBytes` lists exactly the bits
`bitSet` names, `selectedKW` pairs the flagged keys with the flagged weights.
-/
import LiskVerif.Lemmas.BLSAgg
import LiskVerif.Lemmas.Collection
import LiskVerif.Lemmas.Cert

namespace LiskVerif.BLSAgg
open LiskVerif.Cert (Bits bitsOfByte selectedKW)

theorem bitsOfByte_getElem? (x : UInt8) (i : Nat) (h : i < 8) :
    (bitsOfByte x)[i]? = some ((x.toNat / 2 ^ i) % 2 == 1) := by
  show ((List.range 8).map _)[i]? = _
  rw [List.getElem?_map, List.getElem?_range h]
  rfl

/-- `Bits.ofBytes` lists the bits in `Bits.read` order -/
theorem ofBytes_getElem? (bs : Bytes) (i : Nat) (h : i < 8 * bs.length) :
    (Bits.ofBytes bs)[i]? = some (bitSet bs i) := by
  have hq : i / 8 < bs.length := by omega
  rw [Bits.ofBytes, Collection.flatMap_getElem? bitsOfByte (n := 8) (by decide) (fun _ => rfl),
    List.getElem?_eq_getElem hq, bitSet, List.getD_eq_getElem?_getD, List.getElem?_eq_getElem hq]
  exact bitsOfByte_getElem? _ _ (Nat.mod_lt _ (by decide))

/-- `selectedKW` on the bits of a byte string pairs the flagged keys with the flagged weights -/
theorem selectedKW_drop (bits : Bytes) :
    ∀ (ks ws : List Nat) (i : Nat), ws.length = ks.length → i + ks.length ≤ 8 * bits.length →
      selectedKW ks ws ((Bits.ofBytes bits).drop i) = (flaggedFrom bits i ks).zip (flaggedFrom bits i ws)
  | [], _, _, _, _ => by simp [selectedKW, flaggedFrom]
  | _ :: _, [], _, hl, _ => by simp at hl
  | k :: ks, w :: ws, i, hl, h => by
    have hi : i < (Bits.ofBytes bits).length := by
      rw [Cert.length_ofBytes]; simp only [List.length_cons] at h; omega
    have hget : (Bits.ofBytes bits)[i] = bitSet bits i := by
      have := ofBytes_getElem? bits i (by rw [Cert.length_ofBytes] at hi; exact hi)
      rw [List.getElem?_eq_getElem hi] at this
      exact Option.some.inj this
    rw [List.drop_eq_getElem_cons hi, hget]
    have ih := selectedKW_drop bits ks ws (i + 1) (by simpa using hl) (by simp only [List.length_cons] at h; omega)
    unfold selectedKW flaggedFrom
    cases hb : bitSet bits i
    · simp only [Bool.false_eq_true, if_false]; exact ih
    · simp only [if_true, List.zip_cons_cons]; rw [ih]

end LiskVerif.BLSAgg
