/-
Helper lemmas for Props/C15_Accept.lean (composition of the generator model with the block
verification model): what acceptance needs from a result of the selection loop (`run_facts`), the
replay of a payload by the verifier (`replayTxs`, `AllOk`).
-/
import LiskVerif.Lemmas.Generator
import LiskVerif.Model.Verify

namespace LiskVerif.GenAccept
open LiskVerif LiskVerif.Generator

/-! ### selection, for every pool (duplicates allowed) -/

theorem limitBySize_sum (maxSize : Nat) (l : List Tx) (total : Nat) (ht : total ≤ maxSize) :
    total + ((limitBySize maxSize total l).map (·.size)).sum ≤ maxSize := by
  induction l generalizing total with
  | nil => simpa [limitBySize] using ht
  | cons t r ih =>
    unfold limitBySize
    split
    · simpa using ht
    · have := ih (total + t.size) (by omega)
      simp only [List.map_cons, List.sum_cons]
      omega

/-- every transaction in a sender list belongs to `txs` -/
def GroupsIn (g : Groups) (txs : List Tx) : Prop := ∀ p ∈ g, ∀ t ∈ p.2, t ∈ txs

theorem GroupsIn.erase {g : Groups} {txs : List Tx} (h : GroupsIn g txs) (s : Nat) : GroupsIn (erase s g) txs :=
  fun p hp => h p (mem_of_mem_erase hp)

theorem GroupsIn.advance {g : Groups} {txs : List Tx} (h : GroupsIn g txs) {s : Nat} {t : Tx} {rest : List Tx}
    (hm : (s, t :: rest) ∈ g) : GroupsIn (advance s rest g) txs :=
  forall_mem_advance h fun _ x hx => h _ hm x (List.mem_cons_of_mem _ hx)

theorem initGroups_in (txs : List Tx) : GroupsIn (initGroups txs) txs := by
  rintro ⟨s, l⟩ hp t ht
  have := (initGroups_mem hp).1
  simp only at ht
  rw [this, mem_isort] at ht
  exact (List.mem_filter.mp ht).1

/-- a run selects from the sender lists only -/
theorem run_subset {ok : List Tx → Tx → Bool} {maxSize : Nat} {g : Groups}
    {total : Nat} {acc R : List Tx} {evs : List Ev} {txs : List Tx}
    (h : Run ok maxSize g total acc R evs) (hg : GroupsIn g txs) : ∀ t ∈ R, t ∈ txs := by
  induction h with
  | done total acc => intro t ht; cases ht
  | cut hmax hsz => intro t ht; cases ht
  | skip hmax hsz hok hrun ih => exact ih (hg.erase _)
  | take hmax hsz hok hrun ih =>
    intro x hx
    rcases List.mem_cons.mp hx with rfl | hx
    · exact hg _ hmax.1 _ List.mem_cons_self
    · exact ih (hg.advance hmax.1) x hx

/-- every element of the list was answered "ok" by the application in the state reached after the
elements before it (`acc` = what was selected before the list starts) -/
def AllOk (ok : List Tx → Tx → Bool) : List Tx → List Tx → Prop
  | _, [] => True
  | acc, t :: r => ok acc t = true ∧ AllOk ok (acc ++ [t]) r

/-- every possible result of the selection loop (any tie-break) consists of picks answered "ok" -/
theorem run_allOk {ok : List Tx → Tx → Bool} {maxSize : Nat} {g : Groups} {total : Nat} {acc R : List Tx}
    {evs : List Ev} (h : Run ok maxSize g total acc R evs) : AllOk ok acc R := by
  induction h with
  | done total acc => trivial
  | cut hmax hsz => trivial
  | skip hmax hsz hok hrun ih => exact ih
  | take hmax hsz hok hrun ih => exact ⟨hok, ih⟩

/-- what acceptance needs from a result of the loop on a pool — any pool, any tie-break: it fits
the limit, every pick was answered "ok" after the picks before it, and only pool transactions are
picked -/
theorem run_facts {ok : List Tx → Tx → Bool} {maxSize : Nat} {txs R : List Tx} {evs : List Ev}
    (h : Run ok maxSize (initGroups txs) 0 [] R evs) :
    (R.map (·.size)).sum ≤ maxSize ∧ AllOk ok [] R ∧ ∀ t ∈ R, t ∈ txs :=
  ⟨by have := h.size_bound (Nat.zero_le _); omega, run_allOk h, run_subset h (initGroups_in txs)⟩

/-- the verdict pairs (VerifyTransaction, ExecuteTransaction) the verifier obtains when it replays
the list after `acc` -/
def replayTxs (verdict : List Tx → Tx → Verify.TxV × Verify.TxV) : List Tx → List Tx → List (Verify.TxV × Verify.TxV)
  | _, [] => []
  | acc, t :: r => verdict acc t :: replayTxs verdict (acc ++ [t]) r

theorem replayTxs_good (ok : List Tx → Tx → Bool) (verdict : List Tx → Tx → Verify.TxV × Verify.TxV)
    (P : Verify.TxV × Verify.TxV → Prop) (hdet : ∀ acc t, ok acc t = true → P (verdict acc t)) :
    ∀ (l acc : List Tx), AllOk ok acc l → ∀ p ∈ replayTxs verdict acc l, P p
  | [], _, _, p, hp => by cases hp
  | t :: r, acc, h, p, hp => by
    simp only [replayTxs, List.mem_cons] at hp
    rcases hp with rfl | hp
    · exact hdet acc t h.1
    · exact replayTxs_good ok verdict P hdet r _ h.2 p hp

theorem replayTxs_length (verdict : List Tx → Tx → Verify.TxV × Verify.TxV) :
    ∀ (l acc : List Tx), (replayTxs verdict acc l).length = l.length
  | [], _ => rfl
  | _ :: r, acc => by simp [replayTxs, replayTxs_length verdict r]

end LiskVerif.GenAccept

