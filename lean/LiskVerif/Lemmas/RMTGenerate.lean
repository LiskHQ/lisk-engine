/-
`GenerateProof` for a set of leaves: the worklist loop of `getSiblingHashes` on an exact node store returns the
sibling hashes `sibSpec` of the specification (`RMTSpec`), so a generated proof verifies — for trees of height at most 30
(the reach of the 32-bit index parser) whose leaf hashes are pairwise distinct and are no branch hashes, so that the
`hash -> location` index finds the queried leaves (`generate_verify_multi`).
-/
import LiskVerif.Lemmas.RMTCalc
import LiskVerif.Lemmas.RMTStore

namespace LiskVerif.RMT

/-- queried leaves with their hashes are the bottom layer of the tree -/
theorem layer0_eq_valLay (hf : HashFns) (L : List Bytes) (pos : List Nat) (q : List Bytes)
    (hq : ∀ e ∈ pos.zip q, L[e.1]? = some e.2) :
    layer0 pos q = valLay hf L 0 ((layer0 pos q).map (·.1)) := by
  unfold valLay
  rw [List.map_map]
  conv => lhs; rw [← List.map_id (layer0 pos q)]
  apply List.map_congr_left
  intro e he
  simp only [id, Function.comp]
  rw [blk_leaf L e.1 e.2 (hq e ((mem_layer0 pos q e).1 he)), rootH_singleton]

/-! ### `getSiblingHashes` for several leaves -/

theorem xor_succ_even (x : Nat) (h : x % 2 = 0) : x ^^^ (x + 1) = 1 := by
  apply Nat.eq_of_testBit_eq
  intro i
  rw [Nat.testBit_xor]
  cases i with
  | zero => simp [Nat.testBit_zero]; omega
  | succ i =>
    simp only [Nat.testBit_succ]
    rw [show (x + 1) / 2 = x / 2 by omega]
    simp

theorem xor_eq_one_even (x y : Nat) (h : x % 2 = 0) (e : x ^^^ y = 1) : y = x + 1 := by
  have h1 : y = x ^^^ (x ^^^ y) := by rw [← Nat.xor_assoc, Nat.xor_self, Nat.zero_xor]
  have h2 : x + 1 = x ^^^ (x ^^^ (x + 1)) := by rw [← Nat.xor_assoc, Nat.xor_self, Nat.zero_xor]
  rw [h1, e, h2, xor_succ_even x h]

theorem removeIdx_head (cur : Nat) (rest : List Nat) (h : cur ∉ rest) : removeIdx (cur :: rest) cur = rest := by
  unfold removeIdx
  rw [List.filter_cons_of_neg (by simp), List.filter_eq_self]
  intro a ha
  simp only [bne_iff_ne, ne_eq]
  intro e; subst e; exact h ha

/-- one iteration of `getSiblingHashes` on a node that is not the left one of a pair in the list -/
theorem siblingLoop_iter (hf : HashFns) (t : Tree) (L : List Bytes) (hst : Stored hf t L) (h : Nat)
    (hnH : L.length ≤ 2 ^ (h - 1)) (orig : List Nat) (l k : Nat) (hl : l + 2 ≤ h) (hk : k * 2 ^ l < L.length)
    (f : Nat) (W : List Nat) (acc : List Bytes)
    (hnp : k % 2 = 1 ∨ W.head? ≠ some (nIdx h l k + 1))
    (hnot : nIdx h l k ∉ W)
    (horig : sibOf k * 2 ^ l < L.length → orig.contains (locIdx h (repLoc L.length l (sibOf k))) = false)
    (hok : h ≤ 30 ∨
      siblingLoop t (layerStructure L.length) L.length h orig (f + 1) (nIdx h l k :: W) acc ≠ none) :
    siblingLoop t (layerStructure L.length) L.length h orig (f + 1) (nIdx h l k :: W) acc
      = siblingLoop t (layerStructure L.length) L.length h orig f (insertIdx W (nIdx h (l + 1) (k / 2)))
          (acc ++ sibOne hf L l k) := by
  have hne : (nIdx h l k == 2) = false := by simpa using nIdx_ne_two (k := k) hl
  have hm : nIdx h l k % 2 = k % 2 := nIdx_mod2 (by omega)
  have hcond : ∀ (b : Bool), (k % 2 = 1 ∨ b = false) → (nIdx h l k % 2 == 0 && b) = false := by
    intro b hb
    rcases hb with hb | hb
    · simp [hm, hb]
    · simp [hb]
  -- the test for a pair at the head of the worklist fails (`hnp`), so the iteration is the branch for a single node
  have hunf : siblingLoop t (layerStructure L.length) L.length h orig (f + 1) (nIdx h l k :: W) acc =
      match newLoc (nIdx h l k) h with
      | none => none
      | some loc =>
        match rightSiblingInfo (layerStructure L.length) loc.2 loc.1 L.length with
        | none => siblingLoop t (layerStructure L.length) L.length h orig f
            (insertIdx (removeIdx (nIdx h l k :: W) (nIdx h l k)) (nIdx h l k / 2)) acc
        | some sl =>
          match locIndex sl h with
          | none => none
          | some sidx =>
            if orig.contains sidx then siblingLoop t (layerStructure L.length) L.length h orig f
              (insertIdx (removeIdx (nIdx h l k :: W) (nIdx h l k)) (nIdx h l k / 2)) acc
            else
              match t.getHash sl with
              | none => none
              | some hh => siblingLoop t (layerStructure L.length) L.length h orig f
                  (insertIdx (removeIdx (nIdx h l k :: W) (nIdx h l k)) (nIdx h l k / 2)) (acc ++ [hh]) := by
    cases W with
    | nil =>
      simp only [siblingLoop, Bool.and_false, Bool.false_eq_true, if_false, hne]
      rfl
    | cons nx W' =>
      have := hcond (bitLen (nIdx h l k) == bitLen nx && (nIdx h l k ^^^ nx) == 1) (by
        rcases Nat.mod_two_eq_zero_or_one k with hev | hod
        · right
          rw [Bool.and_eq_false_iff]
          right
          rw [beq_eq_false_iff_ne]
          intro e
          have := xor_eq_one_even _ _ (by rw [hm]; exact hev) e
          rcases hnp with h1 | h1
          · omega
          · exact h1 (by rw [this]; rfl)
        · left; exact hod)
      simp only [siblingLoop, this, Bool.false_eq_true, if_false, hne]
      rfl
  rw [hunf] at hok ⊢
  have hnl := newLoc_nIdx (by omega) (pos_lt_pow hnH (by omega) hk) (hok.imp_right fun h1 e => h1 (by rw [e]))
  rw [hnl] at hok ⊢
  simp only at hok ⊢
  rw [nIdx_half (by omega), removeIdx_head _ _ hnot] at hok ⊢
  unfold sibOne
  by_cases hlt : sibOf k * 2 ^ l < L.length
  · rw [rsi_eq_repLoc hlt] at hok
    rw [rsi_eq_repLoc hlt, if_pos hlt]
    simp only at hok ⊢
    rw [locIndex_repLoc hnH hl hlt (hok.imp_right fun h1 e => h1 (by rw [e]))]
    simp only [horig hlt, Bool.false_eq_true, if_false]
    rw [Stored_iff.1 hst _ _ (repLoc_nonempty hlt), repLoc_blk]
  · rw [rsi_none (by omega), if_neg hlt]
    simp

/-- one iteration on the left node of a pair -/
theorem siblingLoop_iter_pair (t : Tree) (n h : Nat) (orig : List Nat) (l k : Nat) (hl : l + 1 ≤ h)
    (hk1 : k + 1 < 2 ^ (h - l)) (hev : k % 2 = 0) (f : Nat) (W : List Nat) (acc : List Bytes) :
    siblingLoop t (layerStructure n) n h orig (f + 1) (nIdx h l k :: nIdx h l (k + 1) :: W) acc
      = siblingLoop t (layerStructure n) n h orig f (insertIdx W (nIdx h (l + 1) (k / 2))) acc := by
  have hm : nIdx h l k % 2 = 0 := by rw [nIdx_mod2 hl]; exact hev
  have hx : nIdx h l k ^^^ nIdx h l (k + 1) = 1 := by
    rw [show nIdx h l (k + 1) = nIdx h l k + 1 by unfold nIdx; omega]; exact xor_succ_even _ hm
  simp only [siblingLoop, hm, bitLen_nIdx (show k < 2 ^ (h - l) by omega), bitLen_nIdx hk1, hx, beq_self_eq_true,
    Bool.and_self, if_true, List.drop_one, List.tail_cons]
  rw [nIdx_half hl]

/-- the invariant of `getSiblingHashes` inside a layer (`S`: the queried leaf positions) -/
structure SInv (n l : Nat) (S A B : List Nat) : Prop where
  pos : WInv n l A B
  orig : ∀ p ∈ S, p / 2 ^ l ∈ A ∨ p / 2 ^ (l + 1) ∈ B

theorem SInv.advance {n l : Nat} {S pre rest B : List Nat} {m : Nat} (hinv : SInv n l S (pre ++ rest) B)
    (hne : pre ≠ []) (hpre : ∀ e ∈ pre, e / 2 = m) (hsep : ∀ a ∈ rest, 2 * m + 1 < a) :
    SInv n l S rest (B ++ [m]) := by
  refine ⟨hinv.pos.advance hne hpre hsep, ?_⟩
  intro p hp
  rcases hinv.orig p hp with h | h
  · simp only [List.mem_append] at h
    rcases h with h | h
    · right
      simp only [List.mem_append, List.mem_singleton]
      right
      rw [← hpre _ h, div_pow_succ]
    · left; exact h
  · right; simp [h]

theorem SInv.next {n l : Nat} {S B : List Nat} (hinv : SInv n l S [] B) : SInv n (l + 1) S B [] := by
  refine ⟨hinv.pos.next, ?_⟩
  intro p hp
  rcases hinv.orig p hp with h | h
  · cases h
  · left; exact h

/-- a whole layer of `getSiblingHashes` follows `sibLayer` -/
theorem siblingLoop_layer (hf : HashFns) (t : Tree) (L : List Bytes) (hst : Stored hf t L) (h : Nat)
    (hnH : L.length ≤ 2 ^ (h - 1)) (S : List Nat) (hS : ∀ p ∈ S, p < L.length) (l : Nat) (hl : l + 2 ≤ h)
    (A : List Nat) :
    ∀ (B : List Nat) (acc : List Bytes) (f : Nat), SInv L.length l S A B → A.length ≤ f →
      (h ≤ 30 ∨
        siblingLoop t (layerStructure L.length) L.length h (S.map fun p => 2 ^ h + p) f (wlp h l A B) acc ≠ none) →
      ∃ f', f - A.length ≤ f' ∧ SInv L.length l S [] (B ++ parents A) ∧
        siblingLoop t (layerStructure L.length) L.length h (S.map fun p => 2 ^ h + p) f (wlp h l A B) acc
          = siblingLoop t (layerStructure L.length) L.length h (S.map fun p => 2 ^ h + p) f'
              (wlp h l [] (B ++ parents A)) (acc ++ sibLayer hf L l A) := by
  induction A using pairInduction id with
  | nil =>
    intro B acc f hinv _ _
    exact ⟨f, by omega, by simpa [parents] using hinv, by simp [sibLayer, parents]⟩
  | pair k b rest hev hb ih =>
    simp only [id] at hev hb; subst hb
    intro B acc f hinv hf' hok
    obtain ⟨f', rfl⟩ : ∃ f', f = f' + 1 := ⟨f - 1, by simp at hf'; omega⟩
    obtain ⟨hk, hBlt, hmb', hAb⟩ := hinv.pos.head hnH hl
    have hasc := List.pairwise_cons.mp (List.pairwise_cons.mp hinv.pos.ascA).2
    rw [sibLayer_pair hf L l k rest hev, parents_pair k rest hev]
    rw [wlp_cons, wlp_cons,
      siblingLoop_iter_pair t L.length h _ l k (by omega) (hAb (k + 1) (by simp)) hev f' _ acc,
      hinv.pos.insert hnH hl (fun _ ha => List.mem_cons_of_mem _ ha)] at hok ⊢
    have hinv1 : SInv L.length l S rest (B ++ [k / 2]) :=
      SInv.advance (pre := [k, k + 1]) (by simpa using hinv) (by simp) (by
        intro e he
        simp only [List.mem_cons, List.not_mem_nil, or_false] at he
        rcases he with rfl | rfl <;> omega) (fun a ha => by have := hasc.1 a ha; omega)
    obtain ⟨f2, h1, h2, h3⟩ := ih _ acc f' hinv1 (by simp at hf'; omega) hok
    exact ⟨f2, by simp; omega, by simpa using h2, by rw [h3]; simp⟩
  | single k rest hp ih =>
    have hp' : ¬ pairHead k rest := by simpa using hp
    intro B acc f hinv hf' hok
    obtain ⟨f', rfl⟩ : ∃ f', f = f' + 1 := ⟨f - 1, by simp at hf'; omega⟩
    obtain ⟨hk, hBlt, hmb', hAb⟩ := hinv.pos.head hnH hl
    have hasc := List.pairwise_cons.mp hinv.pos.ascA
    have hsep := sep_of_not_pairHead hinv.pos.ascA hp'
    have hb1 := bitLen_nIdx (hAb k (by simp))
    rw [sibLayer_single hf L l k rest hp', parents_single k rest hp']
    rw [wlp_cons] at hok ⊢
    have hiter := siblingLoop_iter hf t L hst h hnH (S.map fun p => 2 ^ h + p) l k hl hk f' (wlp h l rest B) acc
      (by
        -- the next index of the worklist is not the right sibling of the head
        rcases Nat.mod_two_eq_zero_or_one k with hev | hod
        · right
          have e2 := two_pow_sub_layer (show l + 1 ≤ h by omega)
          cases rest with
          | nil =>
            cases B with
            | nil => simp [wlp]
            | cons b B' =>
              have hbb := hBlt b (by simp)
              simp only [wlp, List.map_nil, List.nil_append, List.map_cons, List.head?_cons, ne_eq,
                Option.some.injEq]
              unfold nIdx; omega
          | cons a r =>
            have ha := hsep a (by simp)
            simp only [wlp, List.map_cons, List.cons_append, List.head?_cons, ne_eq, Option.some.injEq]
            unfold nIdx; omega
        · left; exact hod)
      (by
        intro hmem
        simp only [wlp, List.mem_append, List.mem_map] at hmem
        rcases hmem with ⟨a, ha, e⟩ | ⟨b, hb, e⟩
        · have := hasc.1 a ha
          unfold nIdx at e; omega
        · have hbb := hBlt b hb
          have := (nIdx_inj (by omega) (by omega) (show b < 2 ^ (h - (l + 1)) by omega) (hAb k (by simp)) e).1
          omega)
      (by
        -- the sibling is not an ancestor of a queried leaf
        intro hlt
        rw [← Bool.not_eq_true]
        intro hc
        simp only [List.contains_eq_mem, List.mem_map, decide_eq_true_eq] at hc
        obtain ⟨p, hpS, hpe⟩ := hc
        obtain ⟨l2, g1, g2, g3, _⟩ := repLoc_spec L.length l (sibOf k)
        rw [g2] at hpe
        obtain ⟨e1, e2⟩ := nIdx_inj_nonempty hnH (l := 0) (by omega) (show l2 + 1 ≤ h by omega)
          (by simpa using hS p hpS) (proper_lt (g3 hlt)) (by rw [nIdx_zero]; exact hpe)
        subst e1
        simp only [Nat.sub_zero] at e2
        have hpl : p / 2 ^ l = sibOf k := by rw [e2, Nat.mul_div_cancel _ (Nat.two_pow_pos l)]
        have hpl1 : p / 2 ^ (l + 1) = k / 2 := by rw [div_pow_succ, hpl, sibOf_div]
        rcases hinv.orig p hpS with hA | hB
        · rw [hpl] at hA
          exact sibOf_not_mem (fun x hx => by have := hsep x hx; omega)
            ((List.mem_cons.1 hA).resolve_left (sibOf_ne k))
        · rw [hpl1] at hB
          have := hBlt _ hB
          omega)
      hok
    rw [hiter, hinv.pos.insert hnH hl (fun _ ha => ha)] at hok ⊢
    have hinv1 : SInv L.length l S rest (B ++ [k / 2]) :=
      SInv.advance (pre := [k]) (by simpa using hinv) (by simp) (by simp) hsep
    obtain ⟨f2, h1, h2, h3⟩ := ih _ (acc ++ sibOne hf L l k) f' hinv1 (by simp at hf'; omega) hok
    exact ⟨f2, by simp; omega, by simpa using h2, by rw [h3]; simp⟩

/-- `getSiblingHashes` from a layer on produces the sibling hashes of the specification -/
theorem sibLoop_spec (hf : HashFns) (t : Tree) (L : List Bytes) (hst : Stored hf t L) (h : Nat)
    (hnH : L.length ≤ 2 ^ (h - 1)) (hh : 1 ≤ h) (S : List Nat) (hS : ∀ p ∈ S, p < L.length) :
    ∀ (d l : Nat) (A : List Nat) (acc : List Bytes) (f : Nat), l + d = h - 1 → A ≠ [] →
      SInv L.length l S A [] → d * A.length + 1 ≤ f →
      (h ≤ 30 ∨
        siblingLoop t (layerStructure L.length) L.length h (S.map fun p => 2 ^ h + p) f (wlp h l A []) acc ≠ none) →
      siblingLoop t (layerStructure L.length) L.length h (S.map fun p => 2 ^ h + p) f (wlp h l A []) acc
        = some (acc ++ sibSpec hf L d l A) := by
  intro d
  induction d with
  | zero =>
    intro l A acc f hld hne hinv hf' _
    have hl : l = h - 1 := by omega
    subst hl
    obtain ⟨a, rfl, ha0⟩ := top_singleton id hnH hne hinv.pos.okA hinv.pos.ascA
    simp only [id] at ha0; subst ha0
    obtain ⟨f', rfl⟩ : ∃ f', f = f' + 1 := ⟨f - 1, by omega⟩
    simp [wlp, nIdx_top h hh, siblingLoop, sibSpec]
  | succ d ih =>
    intro l A acc f hld hne hinv hf' hok
    obtain ⟨hfA, hfuel⟩ := layer_fuel hf'
    obtain ⟨f', h1, h2, h3⟩ := siblingLoop_layer hf t L hst h hnH S hS l (by omega) A [] acc f hinv hfA hok
    simp only [List.nil_append] at h2 h3
    have hwl : wlp h l [] (parents A) = wlp h (l + 1) (parents A) [] := by simp [wlp]
    rw [h3, hwl] at hok ⊢
    rw [ih (l + 1) _ (acc ++ sibLayer hf L l A) f' (by omega) (parents_ne_nil hne) (SInv.next h2)
      (hfuel _ _ (length_parents_le A) h1) hok]
    simp [sibSpec]

/-- `getSiblingHashes` for distinct leaf positions -/
theorem siblingHashes_spec (hf : HashFns) (t : Tree) (L : List Bytes) (hst : Stored hf t L)
    (hsize : t.core.size = L.length) (pos : List Nat) (q : List Bytes) (hnd : pos.Nodup)
    (hlt : ∀ p ∈ pos, p < L.length) (hlen : q.length = pos.length) (hne : pos ≠ [])
    (hok : getHeight L.length ≤ 30 ∨ siblingHashes t (pos.map fun p => 2 ^ getHeight L.length + p) ≠ none) :
    siblingHashes t (pos.map fun p => 2 ^ getHeight L.length + p)
      = some (sibSpec hf L (getHeight L.length - 1) 0 ((layer0 pos q).map (·.1))) := by
  have hn := one_le_of_pos_lt hlt hne
  have hh1 := getHeight_pos L.length
  have hnH : L.length ≤ 2 ^ (getHeight L.length - 1) := le_two_pow_clog2 L.length
  have hl0 := length_layer0 pos q hlen
  have hposlen : 0 < pos.length := List.length_pos_iff.mpr hne
  have hinv : SInv L.length 0 pos ((layer0 pos q).map (·.1)) [] :=
    ⟨WInv_layer0 L.length pos q hnd hlt hlen, fun p hp => Or.inl (by simpa using (mem_layer0_fst pos q hlen p).2 hp)⟩
  unfold siblingHashes at hok ⊢
  simp only [hsize] at hok ⊢
  rw [sortIdx_layer0 L.length (getHeight L.length) pos q hnH hlt hlen,
    sumBitLen_layer0 L.length (getHeight L.length) pos q hnH hh1 hlt hlen, wl] at hok ⊢
  simp only [List.map_nil] at hok ⊢
  have := sibLoop_spec hf t L hst (getHeight L.length) hnH hh1 pos hlt (getHeight L.length - 1) 0
    ((layer0 pos q).map (·.1)) [] (pos.length * (getHeight L.length + 1) + 1) (by omega)
    (layer0_fst_ne_nil pos q hlen hne) hinv (by
      rw [List.length_map, hl0]
      have := sub_one_mul_le (getHeight L.length) pos.length
      omega) hok
  simpa using this

/-! ### `GenerateProof` + `VerifyProof` for several leaves -/

theorem getIndexes_leaves (hf : HashFns) (t : Tree) (L : List Bytes) (hh : H2L hf t L) (hnd : L.Nodup)
    (hsep : ∀ a b x, x ∈ L → hf.branch a b ≠ x) (h : Nat) (hnH : L.length ≤ 2 ^ (h - 1)) (hh1 : 1 ≤ h)
    (hb : h ≤ 30) : ∀ (pos : List Nat) (q : List Bytes), q.length = pos.length →
    (∀ e ∈ pos.zip q, L[e.1]? = some e.2) → getIndexes t h q = some (pos.map fun p => 2 ^ h + p) := by
  intro pos
  induction pos with
  | nil =>
    intro q hl _
    have : q = [] := List.eq_nil_of_length_eq_zero (by simpa using hl)
    subst this; rfl
  | cons p ps ih =>
    intro q hl hq
    match q, hl with
    | x :: xs, hl =>
      have hx : L[p]? = some x := hq (p, x) (by simp)
      have hpl := (List.getElem?_eq_some_iff.1 hx).1
      simp only [getIndexes]
      rw [ih xs (by simpa using hl) (fun e he => hq e (by simp [he])), getLoc_leaf hf t L hh hnd hsep p x hx]
      simp only
      rw [locIndex_nIdx (by omega) (show p < 2 ^ (h - 1 - 0) by simp; omega) (Or.inl hb)]
      simp [nIdx_zero]

/-- The generated proof for a non-empty list of distinct leaves verifies, on a tree with an exact store and an exact
`hash -> location` index (`H2L`) whose leaf hashes are pairwise distinct and are no branch hashes (`hsep`), of height at
most 30 (above, the 32-bit index parser fails and `GenerateProof` returns an error). -/
theorem generate_verify_multi (hf : HashFns) (t : Tree) (L : List Bytes) (hst : Stored hf t L)
    (hsize : t.core.size = L.length) (hh : H2L hf t L) (hnd : L.Nodup)
    (hsep : ∀ a b x, x ∈ L → hf.branch a b ≠ x) (pos : List Nat) (q : List Bytes) (hpnd : pos.Nodup)
    (hne : pos ≠ []) (hlen : q.length = pos.length) (hq : ∀ e ∈ pos.zip q, L[e.1]? = some e.2)
    (hb : getHeight L.length ≤ 30) :
    ∃ p, generateProof t q = some p ∧ verifyProof hf q p (rootH hf L) = true := by
  have hlt : ∀ p ∈ pos, p < L.length := by
    intro p hp
    obtain ⟨e, he, rfl⟩ := exists_mem_zip_fst hlen hp
    exact (List.getElem?_eq_some_iff.1 (hq e he)).1
  have hn := one_le_of_pos_lt hlt hne
  have hnH : L.length ≤ 2 ^ (getHeight L.length - 1) := le_two_pow_clog2 L.length
  refine ⟨⟨L.length, pos.map fun p => 2 ^ getHeight L.length + p,
    sibSpec hf L (getHeight L.length - 1) 0 ((layer0 pos q).map (·.1))⟩, ?_, ?_⟩
  · unfold generateProof
    rw [hsize, if_neg (by omega), getIndexes_leaves hf t L hh hnd hsep _ hnH (getHeight_pos _) hb pos q hlen hq]
    simp only
    rw [siblingHashes_spec hf t L hst hsize pos q hpnd hlt hlen hne (Or.inl hb)]
  · apply calcSpec_verify hf L.length hn pos q _ _ hpnd hlt hlen hne hb
    have := calcSpec_complete hf L (getHeight L.length - 1) 0 ((layer0 pos q).map (·.1)) []
      (by simpa using hnH)
      (layer0_fst_ne_nil pos q hlen hne)
      (fun k hk => by simpa using hlt k ((mem_layer0_fst pos q hlen k).1 hk))
      (layer0_fst_asc pos q hpnd hlen)
    rw [List.append_nil, ← layer0_eq_valLay hf L pos q hq] at this
    exact this

end LiskVerif.RMT
