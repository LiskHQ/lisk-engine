/-
`bcmp` (Go `bytes.Compare`) is a total order on byte strings: it is the lexicographic `compare` of lists of bytes,
whose laws the library proves for every lawful element order; a common prefix cancels.
-/
import LiskVerif.Model.Util

namespace LiskVerif

theorem u8_eq_of_not_lt {x y : UInt8} (h1 : ¬ x < y) (h2 : ¬ y < x) : x = y :=
  UInt8.le_antisymm (UInt8.not_lt.mp h2) (UInt8.not_lt.mp h1)

theorem bcmp_eq_compare (a b : Bytes) : bcmp a b = compare a b := by
  induction a generalizing b with
  | nil => cases b <;> rfl
  | cons x xs ih =>
    cases b with
    | nil => rfl
    | cons y ys =>
      show _ = List.compareLex compare _ _
      rw [bcmp, List.compareLex_cons_cons, ih]
      show _ = (compareOfLessAndEq x y).then _
      unfold compareOfLessAndEq
      by_cases h1 : x < y
      · rw [if_pos h1, if_pos h1]; rfl
      · by_cases h2 : y < x
        · rw [if_neg h1, if_pos h2, if_neg h1, if_neg (UInt8.ne_of_lt h2).symm]; rfl
        · rw [if_neg h1, if_neg h2, if_neg h1, if_pos (u8_eq_of_not_lt h1 h2)]; rfl

theorem ble_eq_isLE (a b : Bytes) : ble a b = (compare a b).isLE := by
  rw [ble, bcmp_eq_compare]; cases compare a b <;> rfl

theorem bcmp_self (a : Bytes) : bcmp a a = .eq := by
  rw [bcmp_eq_compare]; exact Std.ReflCmp.compare_self

theorem bcmp_eq_iff (a b : Bytes) : bcmp a b = .eq ↔ a = b := by
  rw [bcmp_eq_compare]; exact Std.LawfulEqCmp.compare_eq_iff_eq

theorem bcmp_swap (a b : Bytes) : bcmp a b = .lt ↔ bcmp b a = .gt := by
  rw [bcmp_eq_compare, bcmp_eq_compare]; exact Std.OrientedCmp.gt_iff_lt.symm

theorem ble_total (a b : Bytes) : ble a b || ble b a := by
  rw [ble_eq_isLE, ble_eq_isLE, Bool.or_eq_true]
  exact (Bool.eq_false_or_eq_true _).imp_right fun h => by
    rw [Std.OrientedCmp.lt_of_not_isLE (cmp := compare) (a := a) (ne_true_of_eq_false h)]; rfl

theorem ble_antisymm (a b : Bytes) (h1 : ble a b = true) (h2 : ble b a = true) : a = b := by
  rw [ble_eq_isLE] at h1 h2
  exact Std.LawfulEqCmp.eq_of_compare (Std.OrientedCmp.isLE_antisymm h1 h2)

theorem bcmp_lt_trans (a b c : Bytes) (h1 : bcmp a b = .lt) (h2 : bcmp b c = .lt) : bcmp a c = .lt := by
  rw [bcmp_eq_compare] at *; exact Std.TransCmp.lt_trans h1 h2

theorem ble_trans (a b c : Bytes) (h1 : ble a b = true) (h2 : ble b c = true) : ble a c = true := by
  rw [ble_eq_isLE] at *; exact Std.TransCmp.isLE_trans h1 h2

theorem blt_of_blt_of_ble (x a b : Bytes) (h1 : blt x a = true) (h2 : ble a b = true) :
    blt x b = true := by
  rw [ble_eq_isLE] at h2
  simp only [blt, beq_iff_eq, bcmp_eq_compare] at h1 ⊢
  exact Std.TransCmp.lt_of_lt_of_isLE h1 h2

theorem blt_of_ble_ne (a b : Bytes) (h : ble a b = true) (hne : a ≠ b) : blt a b = true := by
  rw [ble_eq_isLE] at h
  rw [blt, bcmp_eq_compare, beq_iff_eq]
  exact Ordering.isLE_iff_eq_lt_or_eq_eq.mp h |>.resolve_right (mt Std.LawfulEqCmp.eq_of_compare hne)

theorem not_blt_eq_ble (a b : Bytes) : (!(blt b a)) = ble a b := by
  rw [blt, ble, bcmp_eq_compare, bcmp_eq_compare, Std.OrientedCmp.eq_swap (cmp := compare) (a := b)]
  cases compare a b <;> rfl

/-! ### common prefixes -/

theorem bcmp_append_left (p a b : Bytes) : bcmp (p ++ a) (p ++ b) = bcmp a b := by
  induction p with
  | nil => rfl
  | cons x xs ih => simp [bcmp, UInt8.lt_irrefl, ih]

theorem ble_append_left (p a b : Bytes) : ble (p ++ a) (p ++ b) = ble a b := by
  unfold ble; rw [bcmp_append_left]

/-- a proper extension sorts after the string it extends -/
theorem bcmp_append_lt (p s : Bytes) (hs : s ≠ []) : bcmp p (p ++ s) = .lt := by
  have := bcmp_append_left p [] s
  rw [List.append_nil] at this
  rw [this]
  cases s with
  | nil => exact absurd rfl hs
  | cons _ _ => rfl

/-- every key between `p ++ s` and `p ++ e` has the prefix `p` (what makes `key[prefixLength:]` in
`Database.Range` well defined) -/
theorem hasPrefix_of_between (p s e k : Bytes) (h1 : ble (p ++ s) k = true) (h2 : ble k (p ++ e) = true) :
    hasPrefix k p = true := by
  induction p generalizing k with
  | nil => cases k <;> rfl
  | cons x xs ih =>
    cases k with
    | nil => simp [ble, bcmp] at h1
    | cons y ys =>
      simp only [List.cons_append, ble, bcmp] at h1 h2
      have hyx : ¬ y < x := by
        intro h
        have hxy : ¬ x < y := fun h' => absurd (UInt8.lt_trans h h') (UInt8.lt_irrefl _)
        simp [h, hxy] at h1
      have hxy : ¬ x < y := by
        intro h
        simp [h, hyx] at h2
      have : x = y := u8_eq_of_not_lt hxy hyx
      subst this
      simp only [UInt8.lt_irrefl, if_false] at h1 h2
      simp only [hasPrefix, beq_self_eq_true, Bool.true_and]
      exact ih ys h1 h2

theorem hasPrefix_iff_prefix (k p : Bytes) : hasPrefix k p = true ↔ p <+: k := by
  induction p generalizing k with
  | nil => cases k <;> simp [hasPrefix]
  | cons x xs ih =>
    cases k with
    | nil => simp [hasPrefix]
    | cons y ys =>
      rw [hasPrefix, Bool.and_eq_true, beq_iff_eq, ih, List.cons_prefix_cons]
      exact and_congr_left' eq_comm

end LiskVerif
