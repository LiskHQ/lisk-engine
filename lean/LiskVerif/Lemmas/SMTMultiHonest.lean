/-
Work lists that say the truth about the tree, under the standing assumptions `TreeCtx` (well-formed entries with the
key bits as paths, keys of one length, non-empty values, a hash of one positive output length without collision among
the inputs of the tree and the empty string): a query at a node of the tree (`AtNode`), honest query proofs of the verifier (`HonestQ`) and of the prover
(`HonestP`), one iteration of `CalculateRoot` and of `calculateSiblingHashes` on them, the fuel of both loops, and
that the two work lists start at the same position when the prover's first position is in the verifier's list
(`head_same_path`).
-/
import LiskVerif.Lemmas.SMTMultiSound
import LiskVerif.Lemmas.SMTMultiTree

namespace LiskVerif.SMTVerify
open LiskVerif LiskVerif.SMT

/-! ### honest work lists -/

/-- the standing assumptions of the completeness proof: the entries of a stored map, a hash with outputs of one
positive length and without collisions among the inputs of the tree and the empty string -/
structure TreeCtx (H : HashFn) (n keyLen : Nat) (es : List Entry) : Prop where
  hlen : ∀ x, (H x).length = n
  npos : 0 < n
  wfe : WFE (8 * keyLen) es
  klen : ∀ e ∈ es, e.key.length = keyLen
  path : ∀ e ∈ es, e.path = keyBits e.key
  vals : ∀ e ∈ es, e.value ≠ []
  ncT : NoColl H (treeInputs H (8 * keyLen) es) (treeInputs H (8 * keyLen) es)
  ncE : NoColl H [[]] (treeInputs H (8 * keyLen) es)

theorem nh_eq_empty_iff {H : HashFn} {n keyLen : Nat} {es : List Entry} (c : TreeCtx H n keyLen es) {z : Bits}
    (hz : Proper es z) : nh H (8 * keyLen) es z = emptyHash H ↔ descend es z = [] := by
  constructor
  · intro h
    exact root_eq_empty (wfe_descend z c.wfe (proper_length c.wfe hz))
      (c.ncE.mono (fun _ ha => ha) (treeInputs_descend_subset H z c.wfe hz)) h
  · intro h; unfold nh; rw [h]; simp

theorem nh_not_isEmpty {H : HashFn} {n keyLen : Nat} {es : List Entry} (c : TreeCtx H n keyLen es) (z : Bits) :
    (nh H (8 * keyLen) es z).isEmpty = false := by
  have h1 : (nh H (8 * keyLen) es z).length = n := root_length c.hlen _ _
  have h2 := c.npos
  cases h : nh H (8 * keyLen) es z with
  | nil => rw [h] at h1; simp at h1; omega
  | cons _ _ => rfl

/-- position of the parent of the node of a query -/
def QP.parent (q : QP) : Bits := q.binaryKey.take (q.height - 1)
/-- the side of its parent on which the node of a query lies -/
def QP.dir (q : QP) : Bool := q.binaryKey.getD (q.height - 1) false
/-- position of the sibling node -/
abbrev QP.sib (q : QP) : Bits := q.parent ++ [!q.dir]

/-- a query proof at a node of the tree: its position is a node of the tree and its bitmap that of the position -/
structure AtNode (keyLen : Nat) (es : List Entry) (q : QP) : Prop where
  klen : q.key.length = keyLen
  hle : q.height ≤ 8 * keyLen
  proper : Proper es q.binaryPath
  bm : q.bm = bmOf es q.binaryPath

/-- a query proof of the work list that says the truth about the tree: it is at a node of the tree and carries the
hash of that node -/
structure HonestQ (H : HashFn) (keyLen : Nat) (es : List Entry) (q : QP) : Prop extends AtNode keyLen es q where
  hash : q.hash = nh H (8 * keyLen) es q.binaryPath

section AtNode
variable {keyLen : Nat} {es : List Entry} {q : QP}

theorem AtNode.path_eq (h : AtNode keyLen es q) (h1 : 1 ≤ q.height) : q.binaryPath = q.parent ++ [q.dir] :=
  binaryPath_succ h.klen h.hle h1

theorem AtNode.path_length (h : AtNode keyLen es q) : q.binaryPath.length = q.height :=
  binaryPath_length h.klen h.hle

theorem AtNode.parent_length (h : AtNode keyLen es q) (h1 : 1 ≤ q.height) : q.parent.length = q.height - 1 := by
  have := h.path_length
  rw [h.path_eq h1] at this
  simp at this; omega

theorem AtNode.sib_length (h : AtNode keyLen es q) (h1 : 1 ≤ q.height) : q.sib.length = q.height := by
  rw [List.length_append, h.parent_length h1]; simp; omega

/-- a query at the sibling position has the same height -/
theorem AtNode.height_of_sib {s : QP} (h : AtNode keyLen es q) (hs : AtNode keyLen es s) (h1 : 1 ≤ q.height)
    (hp : s.binaryPath = q.sib) : s.height = q.height := by
  rw [← hs.path_length, hp, h.sib_length h1]

theorem AtNode.parent_branch (h : AtNode keyLen es q) (h1 : 1 ≤ q.height) :
    Proper es q.parent ∧ 2 ≤ (descend es q.parent).length := by
  have := h.proper
  rwa [h.path_eq h1, proper_snoc] at this

theorem AtNode.bm_cons (h : AtNode keyLen es q) (h1 : 1 ≤ q.height) :
    q.bm = (!(descend es q.sib).isEmpty) :: bmOf es q.parent := by
  rw [h.bm, h.path_eq h1, bmOf_snoc]

/-- a query with the key of `q` and the bitmap of the parent position is at the parent node -/
theorem AtNode.climb (h : AtNode keyLen es q) (h1 : 1 ≤ q.height) {q' : QP} (hk : q'.key = q.key)
    (hb : q'.bm = bmOf es q.parent) :
    AtNode keyLen es q' ∧ q'.binaryPath = q.parent ∧ q'.height = q.height - 1 := by
  have hheight : q'.height = q.height - 1 := by
    unfold QP.height; rw [hb, bmOf_length, h.parent_length h1]; rfl
  have hpath : q'.binaryPath = q.parent := by
    unfold QP.binaryPath QP.binaryKey QP.parent; rw [hheight, hk]; rfl
  exact ⟨⟨hk ▸ h.klen, by rw [hheight]; have := h.hle; omega, by rw [hpath]; exact (h.parent_branch h1).1,
    by rw [hb, hpath]⟩, hpath, hheight⟩

end AtNode

theorem isSiblingOf_iff {keyLen : Nat} {p q : QP} (hpk : p.key.length = keyLen) (hph : p.height ≤ 8 * keyLen)
    (hqk : q.key.length = keyLen) (h1 : 1 ≤ p.height) :
    isSiblingOf p q = true ↔ q.height = p.height ∧ q.binaryPath = p.sib := by
  constructor
  · intro h
    obtain ⟨s1, s2, s3⟩ := isSiblingOf_spec h
    refine ⟨s1.symm, ?_⟩
    rw [binaryPath_succ hqk (by omega) (by omega), ← s2, ← s1, s3]; rfl
  · rintro ⟨hh, hp⟩
    rw [binaryPath_succ hqk (by omega) (by omega)] at hp
    have hlen : (q.binaryKey.take (q.height - 1)).length = (p.parent).length := by
      unfold QP.parent QP.binaryKey toBools
      rw [List.length_take, List.length_take, keyBits_length, keyBits_length, hpk, hqk, hh]
    obtain ⟨e1, e2⟩ := List.append_inj hp hlen
    simp only [List.cons.injEq, and_true] at e2
    unfold isSiblingOf
    have hbm : p.bm.length = q.bm.length := hh.symm
    simp only [hbm, bne_self_eq_false, Bool.false_eq_true, ↓reduceIte]
    unfold QP.parent at e1
    simp only [e1, bne_self_eq_false, Bool.false_eq_true, ↓reduceIte]
    rw [hh] at e2
    unfold QP.dir at e2
    rw [e2]
    cases p.binaryKey.getD (p.height - 1) false <;> simp

theorem proper_sibling {es : List Entry} {X : Bits} (h : Proper es X ∧ 2 ≤ (descend es X).length) (b : Bool) :
    Proper es (X ++ [b]) := (proper_snoc es X b).mpr h

/-- the query one level up is honest -/
theorem climb_honest {H : HashFn} {n keyLen : Nat} {es : List Entry} (c : TreeCtx H n keyLen es) {q : QP}
    (h : HonestQ H keyLen es q) (h1 : 1 ≤ q.height) :
    HonestQ H keyLen es (climb H q (bmOf es q.parent) (nh H (8 * keyLen) es q.sib)) ∧
    (climb H q (bmOf es q.parent) (nh H (8 * keyLen) es q.sib)).binaryPath = q.parent ∧
    (climb H q (bmOf es q.parent) (nh H (8 * keyLen) es q.sib)).height = q.height - 1 := by
  obtain ⟨ha, hpath, hheight⟩ :=
    h.toAtNode.climb h1 (q' := climb H q (bmOf es q.parent) (nh H (8 * keyLen) es q.sib)) rfl rfl
  obtain ⟨hX, h2⟩ := h.parent_branch h1
  refine ⟨⟨ha, ?_⟩, hpath, hheight⟩
  rw [hpath, nh_branch H c.wfe (proper_length c.wfe hX) h2]
  show (if !q.dir then branchHash H q.hash _ else branchHash H _ q.hash) = _
  rw [h.hash, h.path_eq h1]
  unfold QP.sib
  cases q.dir <;> simp

/-- among honest query proofs `insertAndMerge` does not fail -/
theorem insertAndMerge_honest {H : HashFn} {keyLen : Nat} {es : List Entry} {q : QP} {qs : List QP}
    (hq : HonestQ H keyLen es q) (hqs : ∀ e ∈ qs, HonestQ H keyLen es e) : ∃ res, insertAndMerge q qs = some res := by
  rcases insertAndMerge_cases q qs with ⟨e, he, hp, heq⟩ | ⟨heq, -⟩
  · have h' := hqs e he
    exact ⟨qs, by rw [heq, if_pos ⟨by rw [h'.hash, hq.hash, hp], by rw [h'.bm, hq.bm, hp]⟩]⟩
  · exact ⟨_, heq⟩

/-- the sibling of the verifier's first query, when in the work list, is the second query -/
theorem sibling_adjacent {H : HashFn} {keyLen : Nat} {es : List Entry} {v0 : QP} {vrest : List QP}
    (hV : QInv keyLen (v0 :: vrest)) (hVh : ∀ v ∈ v0 :: vrest, HonestQ H keyLen es v) (h1 : 1 ≤ v0.height)
    {sz : QP} (hsz : sz ∈ vrest) (hp : sz.binaryPath = v0.sib) :
    ∃ s rest', vrest = s :: rest' ∧ s.binaryPath = v0.sib := by
  have h0 := hVh v0 (by simp)
  have hy := h0.path_eq h1
  cases vrest with
  | nil => simp at hsz
  | cons s rest' =>
    refine ⟨s, rest', rfl, ?_⟩
    have hs := hVh s (by simp)
    have hz := hVh sz (List.mem_cons_of_mem _ hsz)
    -- `v0 ≤ s ≤ sz` in sort order, and `sz` has the height and the parent position of `v0`: so has `s`
    have hle1 : qpLe v0 s = true := qpLe_head id hV.sorted (by simp)
    have hle2 : qpLe s sz = true := qpLe_head id hV.tail.sorted hsz
    have hzh : sz.height = v0.height := h0.height_of_sib hz.toAtNode h1 hp
    have g1 := height_ge_of_qpLe hle1
    have g2 := height_ge_of_qpLe hle2
    have hsh : s.height = v0.height := by omega
    have hzp := hz.path_eq (by omega)
    have hsp := hs.path_eq (by omega)
    have hzpar : sz.parent = v0.parent := by
      rw [hzp] at hp
      exact (List.append_inj' hp rfl).1
    have hspar : s.parent = v0.parent := by
      have := key_squeeze (v0.height - 1) v0.key s.key sz.key (by rw [h0.klen, hs.klen]) (by rw [hs.klen, hz.klen])
        (ble_of_qpLe hle1 (by omega)).2 (ble_of_qpLe hle2 (by omega)).2 (by
          have : (toBools sz.key).take (v0.height - 1) = sz.parent := by
            unfold QP.parent QP.binaryKey; rw [hzh]
          rw [this, hzpar]; rfl)
      unfold QP.parent QP.binaryKey
      rw [hsh]; exact this
    have hd : s.dir ≠ v0.dir := fun hd =>
      (List.pairwise_cons.mp hV.distinct).1 s (by simp) (by rw [hy, hsp, hspar, hd])
    rw [hsp, hspar, Bool.eq_not_of_ne hd]

/-! ### one iteration of `CalculateRoot` on an honest work list -/

/-- the queries of the list at other positions than `z` -/
def dropPos (z : Bits) (qs : List QP) : List QP := qs.filter fun v => decide (v.binaryPath ≠ z)

theorem mem_dropPos {z : Bits} {qs : List QP} {v : QP} : v ∈ dropPos z qs ↔ v ∈ qs ∧ v.binaryPath ≠ z := by
  simp [dropPos]

theorem dropPos_eq_self {z : Bits} {qs : List QP} (h : ∀ v ∈ qs, v.binaryPath ≠ z) : dropPos z qs = qs :=
  List.filter_eq_self.mpr (by simpa using h)

theorem dropPos_cons_eq {z : Bits} {s : QP} (qs : List QP) (hs : s.binaryPath = z) :
    dropPos z (s :: qs) = dropPos z qs := by
  simp [dropPos, hs]

theorem pickSib_merge {H : HashFn} {n keyLen : Nat} {es : List Entry} (c : TreeCtx H n keyLen es) {v0 s : QP}
    (h0 : HonestQ H keyLen es v0) (hs : HonestQ H keyLen es s) (h1 : 1 ≤ v0.height)
    (hp : s.binaryPath = v0.sib) (sibs : List Bytes) (rest' : List QP) :
    pickSib H sibs v0 (!(descend es v0.sib).isEmpty) (bmOf es v0.parent) (s :: rest') =
      some (nh H (8 * keyLen) es v0.sib, sibs, rest') := by
  have hXb := h0.parent_branch h1
  have hh : s.height = v0.height := h0.height_of_sib hs.toAtNode h1 hp
  have hsib : isSiblingOf v0 s = true := (isSiblingOf_iff h0.klen h0.hle hs.klen h1).mpr ⟨hh, hp⟩
  have hsbm : s.bm = (!(descend es v0.binaryPath).isEmpty) :: bmOf es v0.parent := by
    rw [hs.bm, hp, bmOf_snoc, h0.path_eq h1]; simp
  have hshash : s.hash = nh H (8 * keyLen) es v0.sib := by rw [hs.hash, hp]
  have e1 := nh_eq_empty_iff c (proper_sibling hXb (!v0.dir))
  have e2 := nh_eq_empty_iff c h0.proper
  unfold pickSib
  simp only [hsib, ↓reduceIte, hsbm, List.headD_cons, List.tail_cons, bne_self_eq_false, hshash, h0.hash,
    Bool.false_eq_true]
  by_cases hz : descend es v0.sib = [] <;> by_cases hy : descend es v0.binaryPath = [] <;>
    simp [e1, e2, hz, hy]

theorem pickSib_nil (H : HashFn) (v0 : QP) (sibs : List Bytes) (b0 : Bool) (bmRest : Bits) :
    pickSib H sibs v0 b0 bmRest [] =
      if !b0 then some (emptyHash H, sibs, [])
      else match sibs with
        | [] => none
        | x :: ss => some (x, ss, []) := rfl

/-- **one iteration of `CalculateRoot` on an honest work list**: the sibling of the first query `v0` is merged when
its position is in the list; else its hash is the empty hash, or the next provided hash `Y'` which must be the
hash of the sibling node -/
theorem calcLoop_step {H : HashFn} {n keyLen : Nat} {es : List Entry} (c : TreeCtx H n keyLen es) {v0 : QP}
    {vrest : List QP} (hV : QInv keyLen (v0 :: vrest)) (hVh : ∀ v ∈ v0 :: vrest, HonestQ H keyLen es v)
    (h1 : 1 ≤ v0.height) {Y' : List Bytes}
    (hY' : (((∃ v ∈ vrest, v.binaryPath = v0.sib) ∨ descend es v0.sib = []) ∧ Y' = []) ∨
      ((¬ ∃ v ∈ vrest, v.binaryPath = v0.sib) ∧ descend es v0.sib ≠ [] ∧ Y' = [nh H (8 * keyLen) es v0.sib]))
    (f : Nat) (ss : List Bytes) :
    calcLoop H (f + 1) (Y' ++ ss) (v0 :: vrest) =
      match insertAndMerge (climb H v0 (bmOf es v0.parent) (nh H (8 * keyLen) es v0.sib)) (dropPos v0.sib vrest) with
      | none => none
      | some qs => calcLoop H f ss qs := by
  have h0 := hVh v0 (by simp)
  have hne := nh_not_isEmpty c v0.sib
  rw [calcLoop_succ_cons, h0.bm_cons h1]
  by_cases hin : ∃ v ∈ vrest, v.binaryPath = v0.sib
  · obtain ⟨v, hv, hvz⟩ := hin
    obtain ⟨s, rest', rfl, hsp⟩ := sibling_adjacent hV hVh h1 hv hvz
    have hY : Y' = [] := by
      rcases hY' with ⟨_, h⟩ | ⟨h, _⟩
      · exact h
      · exact absurd ⟨v, hv, hvz⟩ h
    have hdrop : dropPos v0.sib (s :: rest') = rest' := by
      rw [dropPos_cons_eq _ hsp]
      exact dropPos_eq_self fun w hw hwz =>
        (List.pairwise_cons.mp hV.tail.distinct).1 w hw (by rw [hsp, hwz])
    simp only [hY, List.nil_append, pickSib_merge c h0 (hVh s (by simp)) h1 hsp, hne, hdrop, Bool.false_eq_true,
      ↓reduceIte]
    rfl
  · rw [dropPos_eq_self fun v hv hvz => hin ⟨v, hv, hvz⟩]
    have hps := pickSib_nosib (H := H) (v0 := v0) (queries := vrest) fun s rest' hvr => by
      cases h : isSiblingOf v0 s
      · rfl
      · have hs : s ∈ vrest := by simp [hvr]
        exact absurd ⟨s, hs, ((isSiblingOf_iff h0.klen h0.hle
          (hVh s (List.mem_cons_of_mem _ hs)).klen h1).mp h).2⟩ hin
    by_cases hz : descend es v0.sib = []
    · have hY : Y' = [] := by
        rcases hY' with ⟨_, h⟩ | ⟨_, h, _⟩
        · exact h
        · exact absurd hz h
      have hnh := (nh_eq_empty_iff c (proper_sibling (h0.parent_branch h1) _)).mpr hz
      rw [hnh] at hne
      simp only [hps, hY, List.nil_append, hz, List.isEmpty_nil, Bool.not_true, Bool.not_false, ↓reduceIte, hne,
        Bool.false_eq_true, hnh]
      rfl
    · have hY : Y' = [nh H (8 * keyLen) es v0.sib] := by
        rcases hY' with ⟨h | h, _⟩ | ⟨_, _, h⟩
        · exact absurd h hin
        · exact absurd h hz
        · exact h
      have hze : (descend es v0.sib).isEmpty = false := List.isEmpty_eq_false_iff.mpr hz
      simp only [hps, hY, List.cons_append, List.nil_append, hze, Bool.not_false, Bool.not_true, Bool.false_eq_true,
        ↓reduceIte, hne]
      rfl

/-! ### the prover's work list (`calculateSiblingHashes`) -/

/-- a prover query as a verifier query (for the sort order and the position) -/
def PQ.toQP (p : PQ) : QP := ⟨p.key, p.value, p.bm, []⟩

theorem pqLess_eq (a b : PQ) : pqLess a b = qpLess a.toQP b.toQP := rfl
theorem PQ.binaryPath_eq (p : PQ) : p.binaryPath = p.toQP.binaryPath := rfl
theorem PQ.height_eq (p : PQ) : p.height = p.toQP.height := rfl

def pqLe (a b : PQ) : Bool := qpLe a.toQP b.toQP

theorem isort_pq_eq (l : List PQ) : isort (fun a b => !(pqLess b a)) l = isort pqLe l := rfl

theorem isort_pq_sorted (l : List PQ) : (isort pqLe l).Pairwise (fun a b => pqLe a b = true) :=
  isort_pairwise pqLe (fun _ _ _ => qpLe_trans _ _ _) (fun _ _ => qpLe_total _ _) l

/-- `insertAndFilterQueries` keeps the list sorted; the query is inserted unless a query of its position is there -/
theorem insertAndFilter_spec (q : PQ) {qs : List PQ} (hs : qs.Pairwise (fun a b => pqLe a b = true)) :
    (insertAndFilter q qs).Pairwise (fun a b => pqLe a b = true) ∧
    (∀ x ∈ insertAndFilter q qs, x = q ∨ x ∈ qs) ∧ (∀ x ∈ qs, x ∈ insertAndFilter q qs) ∧
    (q ∈ insertAndFilter q qs ∨ ∃ e ∈ qs, e.binaryPath = q.binaryPath) ∧
    (insertAndFilter q qs = qs ∨ ∃ i, insertAndFilter q qs = insertAt qs i q) := by
  have key : (∃ i, insertAndFilter q qs = insertAt qs i q ∧ (insertAt qs i q).Pairwise (fun a b => pqLe a b = true)) ∨
      (insertAndFilter q qs = qs ∧ ∃ e ∈ qs, e.binaryPath = q.binaryPath) := by
    have hless : (fun (val : PQ) => (q.height == val.height && blt q.key val.key) || decide (q.height > val.height)) =
        fun val => qpLess q.toQP val.toQP := funext fun val => searchPos_less q.toQP val.toQP
    obtain ⟨hle, hA, hB⟩ := search_spec PQ.toQP hs q.toQP q rfl
    have hins := pairwise_insertAt hs hA hB
    unfold insertAndFilter
    rw [hless]
    generalize binarySearch (fun val => qpLess q.toQP (PQ.toQP val)) qs q = idx at *
    by_cases hemp : qs.isEmpty = true
    · rw [if_pos hemp, List.isEmpty_iff.mp hemp]
      exact Or.inl ⟨0, rfl, by simp [insertAt]⟩
    · rw [if_neg hemp]
      cases ho : qs[idx]? with
      | none =>
        have hidx : idx = qs.length := by have := List.getElem?_eq_none_iff.mp ho; omega
        exact Or.inl ⟨idx, by simp [insertAt, hidx], hins⟩
      | some original =>
        by_cases hsame : q.binaryPath = original.binaryPath
        · exact Or.inr ⟨by simp [ho, hsame], original, List.mem_of_getElem? ho, hsame.symm⟩
        · exact Or.inl ⟨idx, by simp [ho, hsame], hins⟩
  rcases key with ⟨i, heq, hp⟩ | ⟨heq, he⟩
  · rw [heq]
    exact ⟨hp, fun x hx => (mem_insertAt _ _ _ _).mp hx, fun x hx => (mem_insertAt _ _ _ _).mpr (Or.inr hx),
      Or.inl ((mem_insertAt _ _ _ _).mpr (Or.inl rfl)), Or.inr ⟨i, rfl⟩⟩
  · rw [heq]
    exact ⟨hs, fun x hx => Or.inr hx, fun x hx => hx, Or.inr he, Or.inl rfl⟩

/-- a prover query that says the truth about the tree -/
structure HonestP (H : HashFn) (keyLen : Nat) (es : List Entry) (p : PQ) : Prop where
  klen : p.key.length = keyLen
  hle : p.height ≤ 8 * keyLen
  proper : Proper es p.binaryPath
  bm : p.bm = bmOf es p.binaryPath
  sibs : p.sibs = sibsOf H (8 * keyLen) es p.binaryPath

theorem HonestP.atNode {H : HashFn} {keyLen : Nat} {es : List Entry} {p : PQ} (h : HonestP H keyLen es p) :
    AtNode keyLen es p.toQP := ⟨h.klen, h.hle, h.proper, h.bm⟩

/-- the prover query one level up -/
def pclimb (H : HashFn) (keyLen : Nat) (es : List Entry) (p : PQ) : PQ :=
  { p with bm := bmOf es p.toQP.parent, sibs := sibsOf H (8 * keyLen) es p.toQP.parent }

theorem pclimb_honest {H : HashFn} {keyLen : Nat} {es : List Entry} {p : PQ}
    (h : HonestP H keyLen es p) (h1 : 1 ≤ p.height) :
    HonestP H keyLen es (pclimb H keyLen es p) ∧ (pclimb H keyLen es p).binaryPath = p.toQP.parent ∧
      (pclimb H keyLen es p).height = p.height - 1 := by
  obtain ⟨ha, hpath, hheight⟩ := h.atNode.climb h1 (q' := (pclimb H keyLen es p).toQP) rfl rfl
  exact ⟨⟨ha.klen, ha.hle, ha.proper, ha.bm, by rw [show (pclimb H keyLen es p).binaryPath = _ from hpath]; rfl⟩,
    hpath, hheight⟩

/-- the body of `sibLoop` (Model/SMTVerify.lean) as an equation, by `rfl`: the simulation steps through it -/
theorem sibLoop_succ_cons (anc : List Bytes) (f : Nat) (query : PQ) (rest : List PQ) (out : List Bytes) :
    sibLoop anc (f + 1) (query :: rest) out =
      match query.bm with
      | [] => sibLoop anc f rest out
      | b0 :: bmRest =>
        sibLoop anc f
          (insertAndFilter
            { query with
              bm := bmRest,
              sibs := (if b0 = true then
                  (query.sibs.dropLast,
                    if (!out.contains (query.sibs.getLastD []) && !anc.contains (query.sibs.getLastD [])) = true then
                      out ++ [query.sibs.getLastD []]
                    else out)
                else (query.sibs, out)).fst }
            rest)
          (if b0 = true then
              (query.sibs.dropLast,
                if (!out.contains (query.sibs.getLastD []) && !anc.contains (query.sibs.getLastD [])) = true then
                  out ++ [query.sibs.getLastD []]
                else out)
            else (query.sibs, out)).snd := by
  rfl

/-- one iteration of `calculateSiblingHashes` on an honest query: the hash of the sibling node is emitted when the
node is not empty and the hash neither emitted before nor among the ancestor hashes -/
theorem sibLoop_step {H : HashFn} {keyLen : Nat} {es : List Entry} {p : PQ} (h : HonestP H keyLen es p)
    (h1 : 1 ≤ p.height) (anc : List Bytes) (f : Nat) (rest : List PQ) (out : List Bytes) :
    sibLoop anc (f + 1) (p :: rest) out =
      sibLoop anc f (insertAndFilter (pclimb H keyLen es p) rest)
        (if (!(descend es p.toQP.sib).isEmpty && !out.contains (nh H (8 * keyLen) es p.toQP.sib) &&
              !anc.contains (nh H (8 * keyLen) es p.toQP.sib))
         then out ++ [nh H (8 * keyLen) es p.toQP.sib] else out) := by
  have hsibs : p.sibs = sibsOf H (8 * keyLen) es p.toQP.parent ++
      (if (descend es p.toQP.sib).isEmpty then [] else [nh H (8 * keyLen) es p.toQP.sib]) := by
    rw [h.sibs, show p.binaryPath = _ from h.atNode.path_eq h1, sibsOf_snoc]
  rw [sibLoop_succ_cons, show p.bm = _ from h.atNode.bm_cons h1]
  simp only
  by_cases hz : (descend es p.toQP.sib).isEmpty = true
  · simp only [hz, Bool.not_true, Bool.false_eq_true, ↓reduceIte, Bool.false_and]
    rw [hz] at hsibs
    simp only [↓reduceIte, List.append_nil] at hsibs
    unfold pclimb
    rw [← hsibs]
  · have hz' : (descend es p.toQP.sib).isEmpty = false := by simpa using hz
    rw [hz'] at hsibs
    simp only [Bool.false_eq_true, ↓reduceIte] at hsibs
    simp only [hz', Bool.not_false, ↓reduceIte, Bool.true_and, hsibs, List.getLastD_concat,
      List.dropLast_concat]
    rfl

/-- once every query of the prover's work list is at the root nothing more is emitted -/
theorem sibLoop_done (anc : List Bytes) : ∀ (f : Nat) (qs : List PQ) (out : List Bytes),
    (∀ p ∈ qs, p.bm = []) → sibLoop anc f qs out = out
  | 0, _, _, _ => rfl
  | _ + 1, [], _, _ => rfl
  | f + 1, p :: rest, out, h => by
    rw [sibLoop_succ_cons, h p (by simp)]
    exact sibLoop_done anc f rest out (fun x hx => h x (List.mem_cons_of_mem _ hx))

/-! ### fuel -/

/-- the fuel the two loops need: every iteration removes one level from one query of the work list (`mV`: the
verifier's list, `calcFuel = mV + 1`; `mP`: the prover's) -/
def mV (qs : List QP) : Nat := (qs.map fun q => q.height + 1).sum
def mP (qs : List PQ) : Nat := (qs.map fun q => q.height + 1).sum

theorem calcFuel_eq (qs : List QP) : calcFuel qs = mV qs + 1 := rfl

theorem mV_cons (q : QP) (qs : List QP) : mV (q :: qs) = q.height + 1 + mV qs := by simp [mV]
theorem mP_cons (q : PQ) (qs : List PQ) : mP (q :: qs) = q.height + 1 + mP qs := by simp [mP]

theorem sum_map_insertAt {α : Type} (f : α → Nat) (l : List α) (i : Nat) (a : α) :
    ((insertAt l i a).map f).sum = (l.map f).sum + f a := by
  unfold insertAt
  conv => rhs; rw [← List.take_append_drop i l]
  simp only [List.map_append, List.map_cons, List.sum_append, List.sum_cons]
  omega

theorem mV_insertAndMerge {q : QP} {qs res : List QP} (h : insertAndMerge q qs = some res) :
    mV res ≤ mV qs + (q.height + 1) := by
  rcases insertAndMerge_some h with ⟨hres, _⟩ | ⟨hres, _⟩
  · rw [hres]; omega
  · rw [hres]; exact Nat.le_of_eq (sum_map_insertAt _ _ _ _)

theorem mP_insertAndFilter (q : PQ) {qs : List PQ} (hs : qs.Pairwise (fun a b => pqLe a b = true)) :
    mP (insertAndFilter q qs) ≤ mP qs + (q.height + 1) := by
  obtain ⟨-, -, -, -, h | ⟨i, h⟩⟩ := insertAndFilter_spec q hs
  · rw [h]; omega
  · rw [h]; exact Nat.le_of_eq (sum_map_insertAt _ _ _ _)

theorem sum_map_filter_le {α : Type} (f : α → Nat) (p : α → Bool) (l : List α) :
    ((l.filter p).map f).sum ≤ (l.map f).sum := by
  induction l with
  | nil => exact Nat.le_refl _
  | cons a r ih => rw [List.filter_cons]; split <;> simp only [List.map_cons, List.sum_cons] <;> omega

theorem mV_dropPos_le (z : Bits) (qs : List QP) : mV (dropPos z qs) ≤ mV qs := sum_map_filter_le _ _ qs

/-! ### heads of the two work lists -/

/-- when the position of the prover's first query is still in the verifier's work list, it is the position of the
verifier's first query -/
theorem head_same_path {H : HashFn} {keyLen : Nat} {es : List Entry} {p : PQ} {rest : List PQ} {v0 : QP}
    {vrest : List QP} (hP : (p :: rest).Pairwise (fun a b => pqLe a b = true))
    (hPh : ∀ x ∈ p :: rest, HonestP H keyLen es x) (hV : QInv keyLen (v0 :: vrest))
    (hVh : ∀ v ∈ v0 :: vrest, HonestQ H keyLen es v)
    (s1 : ∀ v ∈ v0 :: vrest, ∃ x ∈ p :: rest, x.binaryPath = v.binaryPath)
    (hf : ∃ v ∈ v0 :: vrest, v.binaryPath = p.binaryPath) : v0.binaryPath = p.binaryPath := by
  obtain ⟨v, hv, hvp⟩ := hf
  obtain ⟨p2, hp2, hp2p⟩ := s1 v0 (by simp)
  -- `p ≤ p2` and `v0 ≤ v` in sort order, `p2` at the position of `v0` and `v` at that of `p`: one height, and the
  -- positions are lexicographically `p ≤ p2 = v0 ≤ v = p`
  have hle1 : qpLe p.toQP p2.toQP = true := qpLe_head PQ.toQP hP hp2
  have hle2 : qpLe v0 v = true := qpLe_head id hV.sorted hv
  have e1 := (hPh p (by simp)).atNode.path_length
  have e2 := (hPh p2 hp2).atNode.path_length
  have e3 := (hVh v0 (by simp)).path_length
  have e4 := (hVh v hv).path_length
  have g1 := height_ge_of_qpLe hle1
  have g2 := height_ge_of_qpLe hle2
  have l1 : p2.toQP.binaryPath.length = v0.binaryPath.length := congrArg List.length hp2p
  have l2 : v.binaryPath.length = p.toQP.binaryPath.length := congrArg List.length hvp
  have hh1 : p.toQP.height = p2.toQP.height := by omega
  have hh2 : v0.height = v.height := by omega
  have b1 := path_le_of_qpLe (hPh p (by simp)).klen (hPh p2 hp2).klen hh1 hle1
  have b2 := path_le_of_qpLe (hVh v0 (by simp)).klen (hVh v hv).klen hh2 hle2
  rw [show p2.toQP.binaryPath = _ from hp2p] at b1
  rw [hvp] at b2
  exact bitsLe_antisymm _ _ (show v0.binaryPath.length = p.toQP.binaryPath.length by omega) b2 b1

end LiskVerif.SMTVerify
