/-
Atomicity criterion on synchronisation skeletons (property C20): "no unlock–relock between dependent
accesses".

Lock discipline (criteria 1–4 of `Model/Locks.lean`) excludes deadlocks and data races, but not
*atomicity violations*: a function that reads a guarded field in one critical section, releases the
guard, and writes the same field in a later critical section is race-free and deadlock-free, yet another
goroutine's write can fall between the two sections and be overwritten (lost update / check-then-act).

This file contains (core Lean only)
  * the path criterion `pathAtomic`: a two-set automaton run along a path. `rd` = the guarded fields read
    so far, `stale` = the fields read *before the last lock operation on their guard* (Lock, RLock,
    Unlock, RUnlock of that mutex). A write of a stale field is a violation: the read that may feed it
    happened in another critical section;
  * `pathAtomic_quiet`: on a path satisfying the criterion there is no lock operation on the guard of `f`
    between a read of `f` and any later write of `f`;
  * the decidable check `atomicOk` on a skeleton: an abstract interpreter `atAn` runs the same automaton
    on the skeleton (calls inlined through the table with the callee's deferred unlocks released at its
    exit, alternatives joined, loop bodies iterated to a checked invariant, spawned goroutines analysed
    from the empty state);
  * its soundness `atomicOk_paths` w.r.t. the path semantics `den` (calls inlined to any depth, every
    loop iterated any number of times, spawned goroutines included): every thread path of a skeleton
    that passes the check satisfies `pathAtomic`.
  * the interleaving consequence `rmw_excludes` (with `mem_heldAfterPath_quiet`): under the lockset discipline a
    goroutine between such a read and its write holds the guard exclusively, so no other goroutine is about to
    access the field.
The obligations over the regenerated skeletons are in `Props/C20_Atomic.lean`.
-/
import LiskVerif.Lemmas.LocksSound

namespace LiskVerif.Locks

/-! ## the automaton on paths -/

/-- the mutex a primitive operates on -/
def lockOf : Prim → Option String
  | .acq m => some m
  | .racq m => some m
  | .rel m => some m
  | .rrel m => some m
  | _ => none

/-- automaton state: fields read so far / fields read before the last lock operation on their guard -/
structure AtSt where
  rd : List String
  stale : List String
  deriving DecidableEq, Repr

namespace AtSt

def bot : AtSt := ⟨[], []⟩

/-- componentwise inclusion -/
def le (a b : AtSt) : Prop := (∀ x ∈ a.rd, x ∈ b.rd) ∧ (∀ x ∈ a.stale, x ∈ b.stale)

def sub (a b : AtSt) : Bool := subsetD a.rd b.rd && subsetD a.stale b.stale

def union (a b : AtSt) : AtSt := ⟨unionD a.rd b.rd, unionD a.stale b.stale⟩

theorem le_refl (a : AtSt) : le a a := ⟨fun _ h => h, fun _ h => h⟩

theorem le_trans {a b c : AtSt} (h1 : le a b) (h2 : le b c) : le a c :=
  ⟨fun x h => h2.1 x (h1.1 x h), fun x h => h2.2 x (h1.2 x h)⟩

theorem bot_le (a : AtSt) : le bot a := ⟨(by intro x h; cases h), by intro x h; cases h⟩

theorem sub_iff {a b : AtSt} : sub a b = true ↔ le a b := by
  simp only [sub, Bool.and_eq_true, subsetD_iff, le]

theorem le_union_left (a b : AtSt) : le a (union a b) :=
  ⟨fun _ h => mem_unionD.mpr (Or.inl h), fun _ h => mem_unionD.mpr (Or.inl h)⟩

theorem le_union_right (a b : AtSt) : le b (union a b) :=
  ⟨fun _ h => mem_unionD.mpr (Or.inr h), fun _ h => mem_unionD.mpr (Or.inr h)⟩

end AtSt

def guardedBy (g : List (String × String)) (m : String) (x : String) : Bool := g.lookup x == some m

/-- one primitive: a read is recorded; a lock operation on `m` makes every recorded field guarded by `m`
stale -/
def stepAt (g : List (String × String)) (a : AtSt) (p : Prim) : AtSt :=
  match lockOf p with
  | some m => ⟨a.rd, unionD a.stale (a.rd.filter (guardedBy g m))⟩
  | none =>
    match p with
    | .read x => ⟨insertD x a.rd, a.stale⟩
    | _ => a

/-- a write of a stale field is a violation -/
def okAt (a : AtSt) : Prim → Bool
  | .write x => !a.stale.contains x
  | _ => true

def runAt (g : List (String × String)) (a : AtSt) : Path → AtSt
  | [] => a
  | p :: ps => runAt g (stepAt g a p) ps

def okFromAt (g : List (String × String)) (a : AtSt) : Path → Bool
  | [] => true
  | p :: ps => okAt a p && okFromAt g (stepAt g a p) ps

/-- **The criterion on a path**: no write of a field whose earlier read on this path is separated from
the write by a lock operation on the field's guard. -/
def pathAtomic (g : List (String × String)) (p : Path) : Bool := okFromAt g AtSt.bot p

theorem mem_stepAt_rd {g : List (String × String)} {a : AtSt} {p : Prim} {x : String} :
    x ∈ (stepAt g a p).rd ↔ x ∈ a.rd ∨ p = Prim.read x := by
  cases p <;> simp [stepAt, lockOf, mem_insertD, or_comm, eq_comm]

theorem mem_stepAt_stale {g : List (String × String)} {a : AtSt} {p : Prim} {x : String} :
    x ∈ (stepAt g a p).stale ↔ x ∈ a.stale ∨ (x ∈ a.rd ∧ ∃ m, lockOf p = some m ∧ g.lookup x = some m) := by
  cases p <;> simp [stepAt, lockOf, mem_unionD, guardedBy]

theorem le_stepAt (g : List (String × String)) (a : AtSt) (p : Prim) : AtSt.le a (stepAt g a p) :=
  ⟨fun _ h => mem_stepAt_rd.mpr (Or.inl h), fun _ h => mem_stepAt_stale.mpr (Or.inl h)⟩

theorem stepAt_mono {g : List (String × String)} {a b : AtSt} (h : AtSt.le a b) (p : Prim) :
    AtSt.le (stepAt g a p) (stepAt g b p) := by
  constructor
  · intro x hx
    rcases mem_stepAt_rd.mp hx with hx | hx
    · exact mem_stepAt_rd.mpr (Or.inl (h.1 x hx))
    · exact mem_stepAt_rd.mpr (Or.inr hx)
  · intro x hx
    rcases mem_stepAt_stale.mp hx with hx | ⟨hx, hm⟩
    · exact mem_stepAt_stale.mpr (Or.inl (h.2 x hx))
    · exact mem_stepAt_stale.mpr (Or.inr ⟨h.1 x hx, hm⟩)

theorem okAt_anti {a b : AtSt} (h : AtSt.le a b) (p : Prim) (hb : okAt b p = true) : okAt a p = true := by
  cases p with
  | write x =>
    simp only [okAt, Bool.not_eq_true', List.contains_eq_mem, decide_eq_false_iff_not] at hb ⊢
    exact fun hx => hb (h.2 x hx)
  | _ => rfl

theorem runAt_append (g : List (String × String)) (a : AtSt) (p q : Path) :
    runAt g a (p ++ q) = runAt g (runAt g a p) q := by
  induction p generalizing a with
  | nil => rfl
  | cons x p ih => simp only [List.cons_append, runAt, ih]

theorem okFromAt_append (g : List (String × String)) (a : AtSt) (p q : Path) :
    okFromAt g a (p ++ q) = (okFromAt g a p && okFromAt g (runAt g a p) q) := by
  induction p generalizing a with
  | nil => simp [okFromAt, runAt]
  | cons x p ih => simp only [List.cons_append, okFromAt, runAt, ih, Bool.and_assoc]

theorem runAt_mono {g : List (String × String)} {a b : AtSt} (h : AtSt.le a b) (p : Path) :
    AtSt.le (runAt g a p) (runAt g b p) := by
  induction p generalizing a b with
  | nil => exact h
  | cons x p ih => exact ih (stepAt_mono h x)

theorem le_runAt (g : List (String × String)) (a : AtSt) (p : Path) : AtSt.le a (runAt g a p) := by
  induction p generalizing a with
  | nil => exact AtSt.le_refl a
  | cons x p ih => exact AtSt.le_trans (le_stepAt g a x) (ih _)

theorem okFromAt_anti {g : List (String × String)} {a b : AtSt} (h : AtSt.le a b) (p : Path)
    (hb : okFromAt g b p = true) : okFromAt g a p = true := by
  induction p generalizing a b with
  | nil => rfl
  | cons x p ih =>
    simp only [okFromAt, Bool.and_eq_true] at hb ⊢
    exact ⟨okAt_anti h x hb.1, ih (stepAt_mono h x) hb.2⟩

/-! ### paths of lock operations only (deferred releases) -/

def LockOnly (d : Path) : Prop := ∀ p ∈ d, (lockOf p).isSome = true

def lockOnlyB (d : Path) : Bool := d.all (fun p => (lockOf p).isSome)

theorem lockOnlyB_iff {d : Path} : lockOnlyB d = true ↔ LockOnly d := by
  simp [lockOnlyB, LockOnly, List.all_eq_true]

theorem LockOnly.append {d e : Path} (hd : LockOnly d) (he : LockOnly e) : LockOnly (d ++ e) := by
  intro p hp
  rcases List.mem_append.mp hp with h | h
  · exact hd p h
  · exact he p h

theorem lockOnly_nil : LockOnly [] := by intro p hp; cases hp

theorem mem_runAt_lockOnly {g : List (String × String)} {d : Path} (hd : LockOnly d) (a : AtSt) (x : String) :
    (x ∈ (runAt g a d).rd ↔ x ∈ a.rd) ∧
    (x ∈ (runAt g a d).stale ↔
      x ∈ a.stale ∨ (x ∈ a.rd ∧ ∃ p ∈ d, ∃ m, lockOf p = some m ∧ g.lookup x = some m)) := by
  induction d generalizing a with
  | nil => simp [runAt]
  | cons q d ih =>
    have hq := hd q (List.mem_cons_self ..)
    have hd' : LockOnly d := fun p hp => hd p (List.mem_cons_of_mem _ hp)
    obtain ⟨i1, i2⟩ := ih hd' (stepAt g a q)
    have hrd : x ∈ (stepAt g a q).rd ↔ x ∈ a.rd := by
      rw [mem_stepAt_rd]
      constructor
      · rintro (h | h)
        · exact h
        · subst h; simp [lockOf] at hq
      · exact Or.inl
    simp only [runAt]
    refine ⟨i1.trans hrd, ?_⟩
    rw [i2, hrd, mem_stepAt_stale]
    constructor
    · rintro ((h | ⟨h1, m, h2, h3⟩) | ⟨h1, p, hp, m, h2, h3⟩)
      · exact Or.inl h
      · exact Or.inr ⟨h1, q, List.mem_cons_self .., m, h2, h3⟩
      · exact Or.inr ⟨h1, p, List.mem_cons_of_mem _ hp, m, h2, h3⟩
    · rintro (h | ⟨h1, p, hp, m, h2, h3⟩)
      · exact Or.inl (Or.inl h)
      · rcases List.mem_cons.mp hp with rfl | hp
        · exact Or.inl (Or.inr ⟨h1, m, h2, h3⟩)
        · exact Or.inr ⟨h1, p, hp, m, h2, h3⟩

/-- the deferred releases actually registered by a run (`d`, any order, any multiplicity) do no more than
the releases `ds` the analysis collected -/
theorem runAt_defers_le {g : List (String × String)} {d ds : Path} (hds : LockOnly ds)
    (hsub : ∀ p ∈ d, p ∈ ds) {c a : AtSt} (h : AtSt.le c a) : AtSt.le (runAt g c d) (runAt g a ds) := by
  have hd : LockOnly d := fun p hp => hds p (hsub p hp)
  constructor
  · intro x hx
    exact ((mem_runAt_lockOnly hds a x).1).mpr (h.1 x (((mem_runAt_lockOnly hd c x).1).mp hx))
  · intro x hx
    rcases ((mem_runAt_lockOnly hd c x).2).mp hx with hx | ⟨h1, p, hp, m, h2, h3⟩
    · exact ((mem_runAt_lockOnly hds a x).2).mpr (Or.inl (h.2 x hx))
    · exact ((mem_runAt_lockOnly hds a x).2).mpr (Or.inr ⟨h.1 x h1, p, hsub p hp, m, h2, h3⟩)

theorem okFromAt_lockOnly {g : List (String × String)} {d : Path} (hd : LockOnly d) (a : AtSt) :
    okFromAt g a d = true := by
  induction d generalizing a with
  | nil => rfl
  | cons q d ih =>
    have hq := hd q (List.mem_cons_self ..)
    have hd' : LockOnly d := fun p hp => hd p (List.mem_cons_of_mem _ hp)
    simp only [okFromAt, Bool.and_eq_true]
    refine ⟨?_, ih hd' _⟩
    cases q <;> first | rfl | simp [lockOf] at hq

/-! ### what the criterion says about a path -/

/-- on a path satisfying the criterion there is no lock operation on the guard of `f` between a read of
`f` and a later write of `f` (from any automaton state `a`; `pathAtomic g p` is `okFromAt g AtSt.bot p`) -/
theorem pathAtomic_quiet {g : List (String × String)} {a : AtSt} {pre mid rest : Path} {f m : String}
    (h : okFromAt g a (pre ++ Prim.read f :: (mid ++ Prim.write f :: rest)) = true)
    (hg : g.lookup f = some m) : ∀ q ∈ mid, lockOf q ≠ some m := by
  intro q hq hl
  obtain ⟨m1, m2, rfl⟩ := List.append_of_mem hq
  -- when the write is reached, `f` has been read (before `m1`) and made stale by `q`
  have hst : f ∈ (runAt g (runAt g a pre) (Prim.read f :: (m1 ++ q :: m2))).stale := by
    simp only [runAt, runAt_append]
    exact (le_runAt g _ m2).2 f (mem_stepAt_stale.mpr
      (Or.inr ⟨(le_runAt g _ m1).1 f (mem_stepAt_rd.mpr (Or.inr rfl)), m, hl, hg⟩))
  rw [okFromAt_append, Bool.and_eq_true, ← List.cons_append, okFromAt_append, Bool.and_eq_true] at h
  simp only [okFromAt, okAt, Bool.and_eq_true, Bool.not_eq_true', List.contains_eq_mem,
    decide_eq_false_iff_not] at h
  exact h.2.2.1 hst

/-- lock operations on other mutexes do not change what is held of `m` -/
theorem mem_heldAfter_quiet {m : String} {md : Mode} {a : Prim} (ha : lockOf a ≠ some m) (h : Held) :
    (m, md) ∈ heldAfter h a ↔ (m, md) ∈ h := by
  cases a with
  | acq m' | racq m' =>
    have : m ≠ m' := fun e => ha (by rw [e]; rfl)
    simp [heldAfter, this]
  | rel m' | rrel m' =>
    have : m ≠ m' := fun e => ha (by rw [e]; rfl)
    exact List.mem_erase_of_ne (by simp [this])
  | _ => rfl

theorem mem_heldAfterPath_quiet {m : String} {md : Mode} {mid : Path} (hq : ∀ q ∈ mid, lockOf q ≠ some m)
    (h : Held) : (m, md) ∈ heldAfterPath h mid ↔ (m, md) ∈ h := by
  induction mid generalizing h with
  | nil => rfl
  | cons a mid ih =>
    rw [heldAfterPath, ih (fun q hq' => hq q (List.mem_cons_of_mem _ hq')),
      mem_heldAfter_quiet (hq a (List.mem_cons_self ..))]

/-- Goroutines on paths with the lockset discipline, any schedule. A goroutine that still has to execute
`mid ++ [write f] ++ …`, with no lock operation on `f`'s guard `m` in `mid`, holds `m` exclusively, and no
other goroutine is about to read or to write `f`. -/
theorem rmw_excludes {g : List (String × String)} {ps : List Path} (hls : ∀ p ∈ ps, pathLs g p = true)
    {st : State} (hr : Reachable (initState ps) st) {i j : Nat} {ti tj : Thread} (hij : i ≠ j)
    (hi : st[i]? = some ti) (hj : st[j]? = some tj) {f m : String} (hg : g.lookup f = some m)
    {mid rest : Path} (hprog : ti.prog = mid ++ Prim.write f :: rest) (hq : ∀ q ∈ mid, lockOf q ≠ some m) :
    (m, Mode.W) ∈ ti.held ∧ ∀ rest', tj.prog ≠ Prim.read f :: rest' ∧ tj.prog ≠ Prim.write f :: rest' := by
  have hAll := allLs_reachable hls st hr
  have hti := hAll ti (List.mem_of_getElem? hi)
  rw [hprog, pathLsFrom_append, pathLsFrom_cons] at hti
  simp only [Bool.and_eq_true] at hti
  obtain ⟨m', hl, hw⟩ := lockset_write hti.2.1.2
  cases hg.symm.trans hl
  have hw' : (m, Mode.W) ∈ ti.held := (mem_heldAfterPath_quiet hq ti.held).mp hw
  exact ⟨hw', fun rest' => (atomic_of_inv hAll (mutual_exclusion ps st hr) hij hi hj hg rest').1 hw'⟩

/-! ## abstract interpretation of skeletons -/

/-- result of analysing an action list from one automaton state -/
structure AtRes where
  ok : Bool          -- no violation found
  fall : AtSt        -- state in which control falls through
  rets : AtSt        -- state in which a `return` was executed
  defs : Path        -- deferred releases that may have been registered
  deriving Repr

/-- a leaf action: the single run `denFirst` gives it, executed on the automaton -/
def atRun (g : List (String × String)) (a : AtSt) (r : Run) : AtRes :=
  ⟨okFromAt g a r.path, if r.returned then AtSt.bot else runAt g a r.path,
    if r.returned then runAt g a r.path else AtSt.bot, r.defers⟩

/-- invariant of a loop body: iterate `I ↦ I ∪ fall(body from I)` until the body maps `I` into itself -/
def loopInv (f : AtSt → Option AtRes) : Nat → AtSt → Option (AtSt × AtRes)
  | 0, _ => none
  | k + 1, I =>
    match f I with
    | none => none
    | some rb => if AtSt.sub rb.fall I then some (I, rb) else loopInv f k (AtSt.union I rb.fall)

def choiceF (f : List Act → Option AtRes) : Option AtRes → List Act → Option AtRes := fun acc alt =>
  match acc, f alt with
  | some r, some ra => some ⟨r.ok && ra.ok, AtSt.union r.fall ra.fall, AtSt.union r.rets ra.rets, r.defs ++ ra.defs⟩
  | _, _ => none

/-- abstract execution of one action from the state `a`; `rec` analyses nested action lists -/
def atFirst (g : List (String × String)) (tbl : Table) (rec : AtSt → List Act → Option AtRes)
    (a : AtSt) (x : Act) : Option AtRes :=
  match x with
  | .call f =>
    match tbl.find f with
    | none => some ⟨true, a, AtSt.bot, []⟩
    | some body =>
      -- the callee runs from the caller's state; its deferred releases run at its exit
      match rec a body with
      | none => none
      | some rb =>
        if lockOnlyB rb.defs then some ⟨rb.ok, runAt g (AtSt.union rb.fall rb.rets) rb.defs, AtSt.bot, []⟩
        else none
  | .go b =>
    -- the spawned goroutine is a thread of its own: analysed from the empty state
    match rec AtSt.bot b with
    | none => none
    | some rb => some ⟨rb.ok && lockOnlyB rb.defs, a, AtSt.bot, []⟩
  | .choice alts => alts.foldl (choiceF (rec a)) (some ⟨true, AtSt.bot, AtSt.bot, []⟩)
  | .loop b =>
    -- 4 rounds: any bound will do, the invariant found is checked (`loopInv`); not reaching one fails the check
    match loopInv (fun I => rec I b) 4 a with
    | none => none
    | some (I, rb) => some ⟨rb.ok, I, rb.rets, rb.defs⟩
  | x =>
    match denFirst [] 0 (fun _ => []) x with
    | [r] => if r.spawns.isEmpty then some (atRun g a r) else none
    | _ => none

/-- `atAn g tbl n a k` — abstract execution of the action list `k` from the automaton state `a`;
`none` when the fuel runs out or a loop invariant is not reached. -/
def atAn (g : List (String × String)) (tbl : Table) : Nat → AtSt → List Act → Option AtRes
  | 0, _, _ => none
  | _ + 1, a, [] => some ⟨true, a, AtSt.bot, []⟩
  | n + 1, a, x :: k =>
    match atFirst g tbl (atAn g tbl n) a x with
    | none => none
    | some r1 =>
      match atAn g tbl n r1.fall k with
      | none => none
      | some r2 => some ⟨r1.ok && r2.ok, r2.fall, AtSt.union r1.rets r2.rets, r1.defs ++ r2.defs⟩

def atomicFuel : Nat := 400

/-- **The decidable check**: the body (and every goroutine it spawns) never writes a guarded field whose
earlier read is separated from the write by a lock operation on the guard. -/
def atomicOk (c : Cfg) (s : Skel) : Bool :=
  match atAn c.guards c.tbl atomicFuel AtSt.bot s with
  | some r => r.ok && lockOnlyB r.defs
  | none => false

/-! ## soundness -/

/-- the body passes the atomicity check as a thread of its own: analysed from the empty automaton state with some
fuel, no violation found, nothing but releases deferred -/
def AtGood (g : List (String × String)) (tbl : Table) (b : List Act) : Prop :=
  ∃ fa rb, atAn g tbl fa AtSt.bot b = some rb ∧ rb.ok = true ∧ LockOnly rb.defs

/-- the runs `rs` started in any automaton state below `a` are covered by the result `r` -/
def SoundAt (g : List (String × String)) (tbl : Table) (a : AtSt) (rs : List Run) (r : AtRes) : Prop :=
  ∀ run ∈ rs,
    (∀ p ∈ run.defers, p ∈ r.defs) ∧
    (r.ok = true → ∀ b ∈ run.spawns, AtGood g tbl b) ∧
    ∀ c, AtSt.le c a →
      (r.ok = true → okFromAt g c run.path = true) ∧
      (run.returned = false → AtSt.le (runAt g c run.path) r.fall) ∧
      (run.returned = true → AtSt.le (runAt g c run.path) r.rets)

theorem SoundAt.mono {g : List (String × String)} {tbl : Table} {a a' : AtSt} {rs : List Run} {r r' : AtRes}
    (h : SoundAt g tbl a rs r) (ha : AtSt.le a' a) (hok : r'.ok = true → r.ok = true)
    (hf : AtSt.le r.fall r'.fall) (ht : AtSt.le r.rets r'.rets) (hd : ∀ p ∈ r.defs, p ∈ r'.defs) :
    SoundAt g tbl a' rs r' := by
  intro run hrun
  obtain ⟨d1, s1, c1⟩ := h run hrun
  refine ⟨fun p hp => hd p (d1 p hp), fun ho => s1 (hok ho), fun c hc => ?_⟩
  obtain ⟨o1, f1, t1⟩ := c1 c (AtSt.le_trans hc ha)
  exact ⟨fun ho => o1 (hok ho), fun hr => AtSt.le_trans (f1 hr) hf, fun hr => AtSt.le_trans (t1 hr) ht⟩

theorem SoundAt.seq {g : List (String × String)} {tbl : Table} {a : AtSt} {rs1 rs2 : List Run} {r1 r2 : AtRes}
    (h1 : SoundAt g tbl a rs1 r1) (h2 : SoundAt g tbl r1.fall rs2 r2) :
    SoundAt g tbl a (seqRuns rs1 rs2)
      ⟨r1.ok && r2.ok, r2.fall, AtSt.union r1.rets r2.rets, r1.defs ++ r2.defs⟩ := by
  intro run hrun
  obtain ⟨x1, hx1, hcase⟩ := mem_seqRuns hrun
  obtain ⟨d1, s1, c1⟩ := h1 x1 hx1
  rcases hcase with ⟨hret, rfl⟩ | ⟨hret', x2, hx2, rfl⟩
  · refine ⟨fun p hp => List.mem_append.mpr (Or.inl (d1 p hp)), ?_, fun c hc => ?_⟩
    · intro ho; simp only [Bool.and_eq_true] at ho; exact s1 ho.1
    · obtain ⟨o1, _, t1⟩ := c1 c hc
      refine ⟨?_, fun h => (by rw [hret] at h; cases h), fun _ => AtSt.le_trans (t1 hret) (AtSt.le_union_left _ _)⟩
      intro ho; simp only [Bool.and_eq_true] at ho; exact o1 ho.1
  · obtain ⟨d2, s2, c2⟩ := h2 x2 hx2
    refine ⟨?_, ?_, fun c hc => ?_⟩
    · intro p hp
      rcases List.mem_append.mp hp with hp | hp
      · exact List.mem_append.mpr (Or.inr (d2 p hp))
      · exact List.mem_append.mpr (Or.inl (d1 p hp))
    · intro ho b hb
      simp only [Bool.and_eq_true] at ho
      rcases List.mem_append.mp hb with hb | hb
      · exact s1 ho.1 b hb
      · exact s2 ho.2 b hb
    · obtain ⟨o1, f1, _⟩ := c1 c hc
      obtain ⟨o2, f2, t2⟩ := c2 (runAt g c x1.path) (f1 hret')
      refine ⟨?_, ?_, ?_⟩
      · intro ho
        simp only [Bool.and_eq_true] at ho
        rw [okFromAt_append, o1 ho.1, o2 ho.2]; rfl
      · intro hr; rw [runAt_append]; exact f2 hr
      · intro hr; rw [runAt_append]; exact AtSt.le_trans (t2 hr) (AtSt.le_union_right _ _)

/-- a leaf action -/
theorem soundAt_run (g : List (String × String)) (tbl : Table) (a : AtSt) (r : Run)
    (hs : r.spawns = []) : SoundAt g tbl a [r] (atRun g a r) := by
  intro run hrun
  simp only [List.mem_singleton] at hrun
  subst hrun
  refine ⟨fun p hp => hp, (by intro _ b hb; rw [hs] at hb; cases hb), fun c hc => ⟨?_, ?_, ?_⟩⟩
  · intro ho; exact okFromAt_anti hc _ ho
  · intro hr; simp only [atRun, hr, Bool.false_eq_true, if_false]; exact runAt_mono hc _
  · intro hr; simp only [atRun, hr, if_true]; exact runAt_mono hc _

theorem soundAt_skip (g : List (String × String)) (tbl : Table) (a : AtSt) :
    SoundAt g tbl a [⟨[], [], false, []⟩] ⟨true, a, AtSt.bot, []⟩ :=
  soundAt_run g tbl a ⟨[], [], false, []⟩ rfl

theorem loopInv_spec (f : AtSt → Option AtRes) : ∀ (k : Nat) (a I : AtSt) (rb : AtRes),
    loopInv f k a = some (I, rb) → f I = some rb ∧ AtSt.le rb.fall I ∧ AtSt.le a I := by
  intro k
  induction k with
  | zero => intro a I rb h; simp [loopInv] at h
  | succ k ih =>
    intro a I rb h
    simp only [loopInv] at h
    cases hf : f a with
    | none => simp [hf] at h
    | some r =>
      simp only [hf] at h
      by_cases hsub : AtSt.sub r.fall a = true
      · simp only [hsub, if_true, Option.some.injEq, Prod.mk.injEq] at h
        obtain ⟨rfl, rfl⟩ := h
        exact ⟨hf, AtSt.sub_iff.mp hsub, AtSt.le_refl _⟩
      · simp only [hsub, Bool.false_eq_true, if_false] at h
        obtain ⟨h1, h2, h3⟩ := ih _ I rb h
        exact ⟨h1, h2, AtSt.le_trans (AtSt.le_union_left _ _) h3⟩

theorem soundAt_iter {g : List (String × String)} {tbl : Table} {I : AtSt} {body : List Run} {rb : AtRes}
    (hb : SoundAt g tbl I body rb) (hsub : AtSt.le rb.fall I) (i : Nat) :
    SoundAt g tbl I (iterRuns body i) ⟨rb.ok, I, rb.rets, rb.defs⟩ := by
  induction i with
  | zero =>
    exact (soundAt_skip g tbl I).mono (AtSt.le_refl _) (fun _ => rfl) (AtSt.le_refl _) (AtSt.bot_le _)
      (by intro p hp; cases hp)
  | succ i ih =>
    have h2 : SoundAt g tbl (AtRes.fall ⟨rb.ok, I, rb.rets, rb.defs⟩) body rb := hb
    refine (SoundAt.seq ih h2).mono (AtSt.le_refl _) ?_ hsub ?_ ?_
    · intro ho; have ho' : rb.ok = true := ho; simp [ho']
    · exact ⟨fun x hx => by rcases mem_unionD.mp hx with h | h <;> exact h,
        fun x hx => by rcases mem_unionD.mp hx with h | h <;> exact h⟩
    · intro p hp; rcases List.mem_append.mp hp with h | h <;> exact h

/-- join of alternatives: every alternative's result is below the fold's result -/
theorem foldChoiceAt_spec (f : List Act → Option AtRes) (alts : List (List Act)) (r0 r : AtRes)
    (h : alts.foldl (choiceF f) (some r0) = some r) :
    ∀ alt ∈ alts, ∃ ra, f alt = some ra ∧ (r.ok = true → ra.ok = true) ∧ AtSt.le ra.fall r.fall ∧
      AtSt.le ra.rets r.rets ∧ (∀ p ∈ ra.defs, p ∈ r.defs) := by
  have hstep : choiceF f = fun acc alt => acc.bind fun r => (f alt).map fun ra =>
      ⟨r.ok && ra.ok, AtSt.union r.fall ra.fall, AtSt.union r.rets ra.rets, r.defs ++ ra.defs⟩ := by
    funext acc alt
    cases acc <;> simp only [choiceF] <;> cases f alt <;> rfl
  rw [hstep] at h
  let le := fun a b : AtRes => (b.ok = true → a.ok = true) ∧ AtSt.le a.fall b.fall ∧ AtSt.le a.rets b.rets ∧
    ∀ p ∈ a.defs, p ∈ b.defs
  have le_trans : ∀ {a b d : AtRes}, le a b → le b d → le a d := fun h1 h2 =>
    ⟨fun h => h1.1 (h2.1 h), AtSt.le_trans h1.2.1 h2.2.1, AtSt.le_trans h1.2.2.1 h2.2.2.1,
      fun p hp => h2.2.2.2 p (h1.2.2.2 p hp)⟩
  exact (foldl_some_upper le (fun _ ra r => le ra r)
    (fun _ => ⟨fun h => h, AtSt.le_refl _, AtSt.le_refl _, fun _ h => h⟩) le_trans le_trans (fun r _ ra =>
      ⟨⟨fun h => (Bool.and_eq_true_iff.mp h).1, AtSt.le_union_left _ _, AtSt.le_union_left _ _,
          fun p hp => List.mem_append_left _ hp⟩,
        fun h => (Bool.and_eq_true_iff.mp h).2, AtSt.le_union_right _ _, AtSt.le_union_right _ _,
        fun p hp => List.mem_append_right _ hp⟩) alts h).2

/-- one action: what `atFirst` answers covers the runs `denFirst` gives the action, `recA` covering the runs `recD`
gives nested bodies and callees (`H`), and passing the check from the empty state making a body good as a thread of
its own (`HG`). A leaf action has one run, taken as it is; a call runs the callee's defers at its exit; a loop is
covered from the invariant `loopInv` found, which is above the entry state and which the body maps into itself. -/
theorem atFirst_sound (g : List (String × String)) (tbl : Table) (u : Nat)
    (recA : AtSt → List Act → Option AtRes) (recD : List Act → List Run)
    (H : ∀ {a k r}, recA a k = some r → SoundAt g tbl a (recD k) r)
    (HG : ∀ {b rb}, recA AtSt.bot b = some rb → rb.ok = true → LockOnly rb.defs → AtGood g tbl b)
    (a : AtSt) (x : Act) (r1 : AtRes) (h : atFirst g tbl recA a x = some r1) :
    SoundAt g tbl a (denFirst tbl u recD x) r1 := by
  cases x
  case call f =>
    simp only [atFirst, denFirst] at h ⊢
    cases hf : tbl.find f with
    | none =>
      simp only [hf, Option.some.injEq] at h ⊢
      subst h
      exact soundAt_run g tbl a ⟨[.bad _], [], false, []⟩ rfl
    | some body =>
      simp only [hf] at h ⊢
      cases hrec : recA a body with
      | none => simp [hrec] at h
      | some rb =>
        simp only [hrec] at h
        by_cases hlo : lockOnlyB rb.defs = true
        · simp only [hlo, if_true, Option.some.injEq] at h
          subst h
          have hs := H hrec
          have hlo' := lockOnlyB_iff.mp hlo
          intro run hrun
          simp only [List.mem_map] at hrun
          obtain ⟨rbody, hrb, rfl⟩ := hrun
          obtain ⟨d1, s1, c1⟩ := hs rbody hrb
          refine ⟨(by intro p hp; cases hp), s1, fun c hc => ?_⟩
          obtain ⟨o1, f1, t1⟩ := c1 c hc
          have hdl : LockOnly rbody.defers := fun p hp => hlo' p (d1 p hp)
          refine ⟨?_, ?_, fun h => by cases h⟩
          · intro ho
            rw [okFromAt_append, o1 ho, okFromAt_lockOnly hdl]; rfl
          · intro _
            rw [runAt_append]
            apply runAt_defers_le hlo' d1
            cases hr : rbody.returned with
            | false => exact AtSt.le_trans (f1 hr) (AtSt.le_union_left _ _)
            | true => exact AtSt.le_trans (t1 hr) (AtSt.le_union_right _ _)
        · simp [hlo] at h
  case go b =>
    simp only [atFirst, denFirst] at h ⊢
    cases hrec : recA AtSt.bot b with
    | none => simp [hrec] at h
    | some rb =>
      simp only [hrec, Option.some.injEq] at h
      subst h
      intro run hrun
      simp only [List.mem_singleton] at hrun
      subst hrun
      refine ⟨(by intro p hp; cases hp), ?_, fun c hc => ⟨fun _ => rfl, fun _ => hc, fun h => by cases h⟩⟩
      intro ho b' hb'
      simp only [List.mem_singleton] at hb'
      subst hb'
      simp only [Bool.and_eq_true] at ho
      exact HG hrec ho.1 (lockOnlyB_iff.mp ho.2)
  case choice alts =>
    simp only [atFirst, denFirst] at h ⊢
    have i6 := foldChoiceAt_spec _ alts _ r1 h
    intro run hrun
    simp only [List.mem_flatMap] at hrun
    obtain ⟨alt, halt, hrun⟩ := hrun
    obtain ⟨ra, hra, j1, j2, j3, j4⟩ := i6 alt halt
    exact ((H hra).mono (AtSt.le_refl _) j1 j2 j3 j4) run hrun
  case loop b =>
    simp only [atFirst, denFirst] at h ⊢
    cases hli : loopInv (fun I => recA I b) 4 a with
    | none => simp [hli] at h
    | some Irb =>
      obtain ⟨I, rb⟩ := Irb
      simp only [hli, Option.some.injEq] at h
      subst h
      obtain ⟨k1, k2, k3⟩ := loopInv_spec _ _ _ _ _ hli
      have hb := H k1
      intro run hrun
      simp only [List.mem_flatMap] at hrun
      obtain ⟨i, _, hrun⟩ := hrun
      exact ((soundAt_iter hb k2 i).mono k3 (fun h => h) (AtSt.le_refl _) (AtSt.le_refl _) (fun _ h => h)) run hrun
  all_goals
    simp only [atFirst, denFirst, List.isEmpty_nil, if_true, Option.some.injEq] at h ⊢
    subst h
    exact soundAt_run g tbl a _ rfl

/-- **Soundness of the atomicity analysis** w.r.t. the path semantics: for every fuel of the analysis and
of the path semantics, every loop bound `u`. -/
theorem atAn_sound (g : List (String × String)) (tbl : Table) (u : Nat) :
    ∀ (n fa : Nat) (a : AtSt) (k : List Act) (r : AtRes),
      atAn g tbl fa a k = some r → SoundAt g tbl a (den tbl u n k) r := by
  intro n
  induction n with
  | zero => intro fa a k r _ run hrun; simp [den] at hrun
  | succ n ih =>
    intro fa a k r h
    cases fa with
    | zero => simp [atAn] at h
    | succ fa =>
      cases k with
      | nil =>
        simp only [atAn, Option.some.injEq] at h
        subst h
        simp only [den]
        exact soundAt_skip g tbl a
      | cons x k =>
        simp only [atAn] at h
        cases h1 : atFirst g tbl (atAn g tbl fa) a x with
        | none => simp [h1] at h
        | some r1 =>
          simp only [h1] at h
          cases h2 : atAn g tbl fa r1.fall k with
          | none => simp [h2] at h
          | some r2 =>
            simp only [h2, Option.some.injEq] at h
            subst h
            simp only [den]
            have s1 := atFirst_sound g tbl u (atAn g tbl fa) (den tbl u n) (ih fa _ _ _)
              (fun hb ho hl => ⟨fa, _, hb, ho, hl⟩) a x r1 h1
            exact SoundAt.seq s1 (ih fa r1.fall k r2 h2)

/-! ### from the check to the threads of a function -/

theorem atGood_paths {g : List (String × String)} {tbl : Table} {b : List Act} (hb : AtGood g tbl b)
    (u n : Nat) : ∀ p ∈ bodyPaths tbl u n b, pathAtomic g p = true := by
  obtain ⟨fa, rb, hrb, hok, hl⟩ := hb
  intro p hp
  simp only [bodyPaths, List.mem_map] at hp
  obtain ⟨run, hrun, rfl⟩ := hp
  obtain ⟨d1, _, c1⟩ := atAn_sound g tbl u n fa _ b rb hrb run hrun
  obtain ⟨o1, _, _⟩ := c1 AtSt.bot (AtSt.le_refl _)
  have hdl : LockOnly run.defers := fun p hp => hl p (d1 p hp)
  simp only [pathAtomic]
  rw [okFromAt_append, o1 hok, okFromAt_lockOnly hdl]; rfl

theorem atGood_spawns {g : List (String × String)} {tbl : Table} {b b' : List Act} (hb : AtGood g tbl b)
    {u n : Nat} {run : Run} (hrun : run ∈ den tbl u n b) (hb' : b' ∈ run.spawns) : AtGood g tbl b' := by
  obtain ⟨fa, rb, hrb, hok, _⟩ := hb
  exact (atAn_sound g tbl u n fa _ b rb hrb run hrun).2.1 hok b' hb'

theorem atomicOk_atGood {c : Cfg} {s : Skel} (h : atomicOk c s = true) : AtGood c.guards c.tbl s := by
  unfold atomicOk at h
  cases hr : atAn c.guards c.tbl atomicFuel AtSt.bot s with
  | none => simp [hr] at h
  | some r =>
    simp only [hr, Bool.and_eq_true] at h
    exact ⟨_, r, hr, h.1, lockOnlyB_iff.mp h.2⟩

theorem spawned_atGood {g : List (String × String)} {tbl : Table} {u : Nat} {root b : List Act}
    (hg : AtGood g tbl root) (hsp : Spawned tbl u root b) : AtGood g tbl b := by
  induction hsp with
  | direct hrun hb => exact atGood_spawns hg hrun hb
  | trans _ hrun hb ih => exact atGood_spawns ih hrun hb

/-- **The check is sound for every thread of the function**: the invoking goroutine and every goroutine
spawned (transitively) along some run, calls inlined to any depth, loops iterated up to any bound. -/
theorem atomicOk_paths (c : Cfg) (s : Skel) (h : atomicOk c s = true) (u : Nat) (p : Path)
    (hp : IsThreadPath c.tbl u s p) : pathAtomic c.guards p = true := by
  have hg := atomicOk_atGood h
  rcases hp with ⟨n, hp⟩ | ⟨b, n, hsp, hp⟩
  · exact atGood_paths hg u n p hp
  · exact atGood_paths (spawned_atGood hg hsp) u n p hp

end LiskVerif.Locks
