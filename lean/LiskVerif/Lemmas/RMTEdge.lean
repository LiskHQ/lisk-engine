/-
The append path as blocks of the tree, and the climb along the right edge of the tree that `Append`,
`CalculateRootFromAppendPath`, `getRootFromPath` and the end of `CalculateRootFromRightWitness` all perform.
-/
import LiskVerif.Lemmas.RMTLayers

namespace LiskVerif.RMT

/-- The append path read off the tree over `L`, from `layer` on: `q` is the number of complete blocks of the layer
that the path covers; for every set bit of `q` the last of them is an entry. `f` bits are looked at. Read as a walk
from block `q` of the layer up to the root (`q -> q / 2`), the entries are the left siblings met on the way. -/
def apSpec (hf : HashFns) (L : List Bytes) : Nat → Nat → Nat → List Bytes
  | 0, _, _ => []
  | f + 1, layer, q =>
    if q % 2 = 1 then rootH hf (blkCore L layer (q - 1)) :: apSpec hf L f (layer + 1) (q / 2)
    else apSpec hf L f (layer + 1) (q / 2)

theorem apSpec_succ (hf : HashFns) (L : List Bytes) (f layer q : Nat) : apSpec hf L (f + 1) layer q =
    if q % 2 = 1 then rootH hf (blkCore L layer (q - 1)) :: apSpec hf L f (layer + 1) (q / 2)
    else apSpec hf L f (layer + 1) (q / 2) := rfl

/-- the bit loop of `Append` on an append path of this shape is the plain fold -/
theorem foldBits_apSpec (hf : HashFns) (L : List Bytes) : ∀ (f layer q : Nat) (cur : Bytes),
    foldBits hf f q (apSpec hf L f layer q) cur = some (foldPath hf cur (apSpec hf L f layer q)) := by
  intro f
  induction f with
  | zero => intro layer q cur; rfl
  | succ f ih =>
    intro layer q cur
    simp only [foldBits, apSpec]
    rcases Nat.mod_two_eq_zero_or_one q with h | h
    · simp only [h, if_neg (show ¬ (0 = 1) by decide), show ((0 : Nat) == 1) = false from rfl, Bool.false_eq_true,
        if_false]
      exact ih _ _ _
    · simp only [h, if_true, show ((1 : Nat) == 1) = true from rfl]
      rw [ih]; rfl

/-- The climb along the right edge: `k` is the last non-empty node of its layer. Where `k` is odd its left sibling
is the entry of the append path and the parent is their branch node; where it is even the right sibling is empty
and the node is carried up. -/
theorem foldPath_blk (hf : HashFns) (L : List Bytes) : ∀ (f layer k : Nat), k * 2 ^ layer < L.length →
    L.length ≤ (k + 1) * 2 ^ layer →
    foldPath hf (rootH hf (blkCore L layer k)) (apSpec hf L f layer k)
      = rootH hf (blkCore L (layer + f) (k / 2 ^ f)) := by
  intro f
  induction f with
  | zero => intro layer k _ _; simp [apSpec, foldPath]
  | succ f ih =>
    intro layer k h1 h2
    have h2' : L.length ≤ (k / 2 + 1) * 2 ^ (layer + 1) := by
      rw [mul_pow_succ]
      exact Nat.le_trans h2 (Nat.mul_le_mul_right _ (by omega))
    have e : k / 2 / 2 ^ f = k / 2 ^ (f + 1) := by rw [Nat.div_div_eq_div_mul, Nat.pow_succ, Nat.mul_comm]
    have hnext := ih (layer + 1) (k / 2) (half_nonempty h1) h2'
    rw [show layer + 1 + f = layer + (f + 1) by omega, e] at hnext
    rw [← hnext, apSpec_succ]
    rcases Nat.mod_two_eq_zero_or_one k with hk | hk
    · rw [if_neg (by omega), rootH_blk_parent_last hf L layer k h1 hk h2]
    · rw [if_pos hk, rootH_blk_parent_odd hf L layer k h1 hk]
      rfl

/-- bits above the size are clear -/
theorem apSpec_succ_of_lt (hf : HashFns) (L : List Bytes) : ∀ (f layer q : Nat), q < 2 ^ f →
    apSpec hf L (f + 1) layer q = apSpec hf L f layer q := by
  intro f
  induction f with
  | zero => intro layer q h; simp [apSpec, show q = 0 by omega]
  | succ f ih =>
    intro layer q h
    rw [apSpec_succ hf L (f + 1) layer q, apSpec_succ hf L f layer q,
      ih (layer + 1) (q / 2) (by rw [Nat.pow_succ] at h; omega)]

theorem trailingOnes_le (hf : HashFns) (L : List Bytes) : ∀ (f layer q : Nat),
    trailingOnes f q ≤ (apSpec hf L f layer q).length := by
  intro f
  induction f with
  | zero => intro layer q; simp [trailingOnes]
  | succ f ih =>
    intro layer q
    have := ih (layer + 1) (q / 2)
    simp only [trailingOnes, apSpec]
    rcases Nat.mod_two_eq_zero_or_one q with h | h
    · simp [h]
    · simp [h]; omega

/-- the second half of `Append`, from `layer` on, where `k` is the position of the last block (complete with the new
leaf): with `t = trailingOnes f k`, the `t` lowest entries of the path are merged with it into the block
`(layer + t, k / 2^t)`, the first entry of the new path -/
theorem nextPath_blk (hf : HashFns) (L : List Bytes) : ∀ (f layer k : Nat), k < 2 ^ f → L.length = (k + 1) * 2 ^ layer →
    foldPath hf (rootH hf (blkCore L layer k)) ((apSpec hf L f layer k).take (trailingOnes f k))
        :: (apSpec hf L f layer k).drop (trailingOnes f k)
      = apSpec hf L (f + 1) layer (k + 1) := by
  intro f
  induction f with
  | zero => intro layer k h _; simp [apSpec, trailingOnes, foldPath, show k = 0 by omega]
  | succ f ih =>
    intro layer k hk hlen
    have hp := Nat.two_pow_pos layer
    have h1 : k * 2 ^ layer < L.length := by rw [hlen, Nat.succ_mul]; omega
    rw [apSpec_succ hf L (f + 1) layer (k + 1), apSpec_succ hf L f layer k]
    rcases Nat.mod_two_eq_zero_or_one k with hev | hod
    · have ht : trailingOnes (f + 1) k = 0 := by simp [trailingOnes, hev]
      rw [ht, if_neg (by omega), if_pos (by omega), show (k + 1) / 2 = k / 2 by omega,
        apSpec_succ_of_lt hf L f _ _ (by rw [Nat.pow_succ] at hk; omega), Nat.add_sub_cancel]
      rfl
    · have ht : trailingOnes (f + 1) k = trailingOnes f (k / 2) + 1 := by simp [trailingOnes, hod, Nat.add_comm]
      have hpar := rootH_blk_parent_odd hf L layer k h1 hod
      have hlen' : L.length = (k / 2 + 1) * 2 ^ (layer + 1) := by
        rw [hlen, mul_pow_succ, show 2 * (k / 2 + 1) = k + 1 by omega]
      rw [ht, if_pos hod, if_neg (by omega), show (k + 1) / 2 = k / 2 + 1 by omega,
        ← ih (layer + 1) (k / 2) (by rw [Nat.pow_succ] at hk; omega) hlen', hpar]
      rfl

theorem peaks_nil (hf : HashFns) : peaks hf [] = [] := by unfold peaks; rw [peaksDesc]; rfl

/-- the append path of a prefix of `L` whose length is a multiple of `2^layer`, as blocks of `L` -/
theorem peaks_take (hf : HashFns) (L : List Bytes) : ∀ (f layer q : Nat), q < 2 ^ f → q * 2 ^ layer ≤ L.length →
    peaks hf (L.take (q * 2 ^ layer)) = apSpec hf L f layer q := by
  intro f
  induction f with
  | zero => intro layer q h _; simp [apSpec, show q = 0 by omega, peaks_nil]
  | succ f ih =>
    intro layer q hq hle
    have hp := Nat.two_pow_pos layer
    have hhalf : q / 2 * 2 ^ (layer + 1) ≤ L.length := by
      rw [mul_pow_succ]; exact Nat.le_trans (Nat.mul_le_mul_right _ (by omega)) hle
    have hih := ih (layer + 1) (q / 2) (by rw [Nat.pow_succ] at hq; omega) hhalf
    rw [apSpec]
    rcases Nat.mod_two_eq_zero_or_one q with hev | hod
    · rw [if_neg (by omega), ← hih, mul_pow_succ, show 2 * (q / 2) = q by omega]
    · have e1 : q * 2 ^ layer = (q - 1) * 2 ^ layer + 2 ^ layer := by
        rw [← Nat.succ_mul, show (q - 1).succ = q by omega]
      have e2 : (q - 1) * 2 ^ layer = q / 2 * 2 ^ (layer + 1) := by
        rw [mul_pow_succ, show 2 * (q / 2) = q - 1 by omega]
      have hb : (blkCore L layer (q - 1)).length = 2 ^ layer := by rw [length_blk]; omega
      rw [if_pos hod, ← hih, e1, List.take_add, ← e2]
      unfold peaks
      rw [show (L.drop ((q - 1) * 2 ^ layer)).take (2 ^ layer) = blkCore L layer (q - 1) from rfl,
        peaksDesc_append hf layer _ hb _ _ rfl (by
          rw [List.length_take, Nat.min_eq_left (by omega), e2]; exact Nat.dvd_mul_left _ _)]
      simp

/-- the append path of `L`, as blocks of a longer list -/
theorem peaks_eq_apSpec_append (hf : HashFns) (L x : List Bytes) (f : Nat) (h : L.length < 2 ^ f) :
    peaks hf L = apSpec hf (L ++ x) f 0 L.length := by
  have := peaks_take hf (L ++ x) f 0 L.length h (by simp)
  rwa [Nat.pow_zero, Nat.mul_one, List.take_left' rfl] at this

theorem apSpec_zero (hf : HashFns) (L : List Bytes) : ∀ (f layer : Nat), apSpec hf L f layer 0 = [] := by
  intro f
  induction f with
  | zero => intro layer; rfl
  | succ f ih => intro layer; rw [apSpec_succ, if_neg (by decide)]; exact ih _

/-- below the lowest set bit of the size the append path has no entry -/
theorem apSpec_skip (hf : HashFns) (L : List Bytes) : ∀ (d f layer q : Nat),
    apSpec hf L (d + f) layer (q * 2 ^ d) = apSpec hf L f (layer + d) q := by
  intro d
  induction d with
  | zero => intro f layer q; simp
  | succ d ih =>
    intro f layer q
    have e : q * 2 ^ (d + 1) = 2 * (q * 2 ^ d) := by rw [Nat.pow_succ, ← Nat.mul_assoc, Nat.mul_comm]
    rw [show d + 1 + f = (d + f) + 1 by omega, apSpec_succ, e, if_neg (by omega),
      Nat.mul_div_cancel_left _ (by decide), ih f (layer + 1) q, show layer + 1 + d = layer + (d + 1) by omega]

theorem apSpec_ne_nil (hf : HashFns) (L : List Bytes) : ∀ (f layer q : Nat), 0 < q → q < 2 ^ f →
    apSpec hf L f layer q ≠ [] := by
  intro f
  induction f with
  | zero => intro layer q h0 h; omega
  | succ f ih =>
    intro layer q h0 h
    rw [apSpec_succ]
    split
    · simp
    · exact ih (layer + 1) (q / 2) (by omega) (by rw [Nat.pow_succ] at h; omega)

theorem peaks_eq_apSpec (hf : HashFns) (L : List Bytes) (f : Nat) (h : L.length < 2 ^ f) :
    peaks hf L = apSpec hf L f 0 L.length := by
  have := peaks_eq_apSpec_append hf L [] f h
  rwa [List.append_nil] at this

/-- every positive number is an odd multiple of a power of two -/
theorem exists_lowbit : ∀ i : Nat, 0 < i → ∃ j r, i = (2 * r + 1) * 2 ^ j := by
  intro i
  induction i using Nat.strongRecOn with
  | _ i ih =>
    intro hi
    rcases Nat.mod_two_eq_zero_or_one i with h | h
    · obtain ⟨j, r, e⟩ := ih (i / 2) (by omega) (by omega)
      exact ⟨j + 1, r, by rw [Nat.pow_succ, ← Nat.mul_assoc, ← e]; omega⟩
    · exact ⟨0, i / 2, by omega⟩

/-- bagging the peaks from the smallest to the largest gives the root: the lowest entry is the last non-empty node
of its layer, and the rest of the path is the climb from it along the right edge -/
theorem rootFromPath_peaks (hf : HashFns) (L : List Bytes) : rootFromPath hf (peaks hf L) = rootH hf L := by
  by_cases h0 : L.length = 0
  · have : L = [] := List.eq_nil_of_length_eq_zero h0
    subst this
    rw [peaks_nil, rootH]; rfl
  obtain ⟨j, r, hn⟩ := exists_lowbit L.length (by omega)
  have hlt : L.length < 2 ^ (j + (L.length + 1)) :=
    Nat.lt_of_lt_of_le Nat.lt_two_pow_self (Nat.pow_le_pow_right (by decide) (by omega))
  have hle : 2 * r * 2 ^ j + 2 ^ j = L.length := by rw [hn, Nat.add_one_mul (2 * r)]
  have hp := Nat.two_pow_pos j
  have h2r : 2 * r < 2 ^ (L.length + 1) := by
    have := pos_lt_of_nonempty (k := 2 * r) (Nat.le_of_lt hlt) (Nat.le_add_right j _) (by omega)
    rwa [Nat.add_sub_cancel_left] at this
  have hclimb := foldPath_blk hf L (L.length + 1) j (2 * r) (by omega) (by rw [Nat.add_one_mul (2 * r)]; omega)
  rw [apSpec_succ, if_neg (by omega), Nat.mul_div_cancel_left _ (by decide), Nat.div_eq_of_lt h2r,
    blk_top_all L _ (Nat.le_of_lt hlt)] at hclimb
  rw [peaks_eq_apSpec hf L _ hlt]
  conv => lhs; arg 2; arg 5; rw [hn]
  rw [apSpec_skip, Nat.zero_add, apSpec_succ, if_pos (by omega), Nat.add_sub_cancel,
    show (2 * r + 1) / 2 = r by omega]
  exact hclimb

/-- without a right witness `CalculateRootFromRightWitness` bags the append path -/
theorem rootFromRightWitness_nil_right (hf : HashFns) (i : Nat) (ap : List Bytes) :
    rootFromRightWitness hf i ap [] = some (rootFromPath hf ap) := by
  cases ap <;> simp [rootFromRightWitness]

theorem length_apSpec (hf : HashFns) (L L' : List Bytes) : ∀ (f layer q : Nat),
    (apSpec hf L' f layer q).length = (apSpec hf L f layer q).length := by
  intro f
  induction f with
  | zero => intro layer q; rfl
  | succ f ih =>
    intro layer q
    rw [apSpec_succ, apSpec_succ]
    split <;> simp [ih]

/-- `Append` and `CalculateRootFromAppendPath` on (root, append path, size) of any list of leaf hashes -/
theorem appendCore_blk (hf : HashFns) (L : List Bytes) (v : Bytes) :
    appendCore hf ⟨rootH hf L, peaks hf L, L.length⟩ v
      = some ⟨rootH hf (L ++ [hf.leaf v]), peaks hf (L ++ [hf.leaf v]), L.length + 1⟩ ∧
    rootFromAppendPath hf v (peaks hf L) L.length
      = some ⟨rootH hf (L ++ [hf.leaf v]), peaks hf (L ++ [hf.leaf v]), L.length + 1⟩ := by
  have hp1 := peaks_eq_apSpec_append hf L [hf.leaf v]
  have hlt := lt_two_pow_getHeight L.length
  have hp2 : peaks hf (L ++ [hf.leaf v]) = apSpec hf (L ++ [hf.leaf v]) (getHeight L.length + 1) 0 (L.length + 1) := by
    have := peaks_take hf (L ++ [hf.leaf v]) (getHeight L.length + 1) 0 (L.length + 1)
      (by rw [Nat.pow_succ]; omega) (by simp)
    rwa [Nat.pow_zero, Nat.mul_one, List.take_of_length_le (by simp)] at this
  have hleaf : rootH hf (blkCore (L ++ [hf.leaf v]) 0 L.length) = hf.leaf v := by
    rw [blk_leaf _ _ (hf.leaf v) (by simp), rootH_singleton]
  have hroot : ∀ f, L.length < 2 ^ f →
      foldBits hf f L.length (peaks hf L) (hf.leaf v) = some (rootH hf (L ++ [hf.leaf v])) := by
    intro f hf'
    have hclimb := foldPath_blk hf (L ++ [hf.leaf v]) f 0 L.length (by simp) (by simp)
    rw [hleaf, Nat.div_eq_of_lt hf', Nat.zero_add, blk_top_all _ _ (by simp; omega)] at hclimb
    rw [hp1 f hf', foldBits_apSpec, hclimb]
  have hnext : nextPath hf (hf.leaf v) (peaks hf L) L.length = some (peaks hf (L ++ [hf.leaf v])) := by
    have := nextPath_blk hf (L ++ [hf.leaf v]) (getHeight L.length) 0 L.length hlt (by simp)
    rw [hleaf] at this
    unfold nextPath
    rw [hp1 _ hlt, if_neg (Nat.not_lt.2 (trailingOnes_le hf _ _ _ _)), this, hp2]
  by_cases hz : L.length = 0
  · have : L = [] := List.eq_nil_of_length_eq_zero hz
    subst this
    rw [nextPath, if_neg (Nat.not_lt.2 (by rw [peaks_nil]; exact Nat.le_of_eq (by cases getHeight 0 <;> rfl)))] at hnext
    simp only [peaks_nil, List.take_nil, List.drop_nil, foldPath, List.foldl_nil, Option.some.injEq,
      List.nil_append] at hnext
    simp [appendCore, rootFromAppendPath, peaks_nil, rootH_singleton, ← hnext]
  · simp only [appendCore, rootFromAppendPath, hz, if_false]
    rw [hroot _ hlt, hroot _ Nat.lt_log2_self, hnext]
    exact ⟨rfl, rfl⟩

/-- a run of `Append`s from (root, append path, size) of any list of leaf hashes -/
theorem appendAll_blk (hf : HashFns) : ∀ (data L : List Bytes),
    appendAll hf ⟨rootH hf L, peaks hf L, L.length⟩ data
      = some ⟨rootH hf (L ++ data.map hf.leaf), peaks hf (L ++ data.map hf.leaf), L.length + data.length⟩ := by
  intro data
  induction data with
  | nil => intro L; simp [appendAll]
  | cons v vs ih =>
    intro L
    have := ih (L ++ [hf.leaf v])
    simp only [appendAll, (appendCore_blk hf L v).1]
    simpa [Nat.add_assoc, Nat.add_comm 1] using this

theorem initCore_eq (hf : HashFns) : initCore hf = ⟨rootH hf [], peaks hf [], ([] : List Bytes).length⟩ := by
  rw [peaks_nil, rootH]; rfl

end LiskVerif.RMT
