/- Finite maps as lists of pairs, the first entry for a key being its value: the Go maps, stores and caches
of the models.  Each model spells its own lookup; one equation identifies it with `get`. -/
namespace LiskVerif

universe u v

/-- a function whose values on a list are pairwise different is injective on the list -/
theorem inj_of_nodup_map {α : Type u} {β : Type v} (f : α → β) {l : List α} (h : (l.map f).Nodup) {a b : α}
    (ha : a ∈ l) (hb : b ∈ l) (e : f a = f b) : a = b :=
  have hp : l.Pairwise (fun a b => f a ≠ f b) := List.pairwise_map.1 h
  List.Pairwise.forall_of_forall_of_flip (R := fun a b => f a = f b → a = b) (fun _ _ _ => rfl)
    (hp.imp fun hab e => absurd e hab) (hp.imp fun hab e => absurd e.symm hab) ha hb e

theorem nodup_of_nodup_map {α : Type u} {β : Type v} (f : α → β) {l : List α} (h : (l.map f).Nodup) : l.Nodup :=
  (List.pairwise_map.1 h).imp fun hab e => hab (congrArg f e)

/-- in a list with distinct keys, the first entry with the key of `v` (and a property `p`) is `v` -/
theorem find?_key_of_nodup {α : Type u} {κ : Type v} {f : α → κ} {l : List α} (hd : (l.map f).Nodup)
    {v : α} (hv : v ∈ l) (p q : α → Bool) (hq : ∀ a, q a = true ↔ p a = true ∧ f a = f v) :
    l.find? q = if p v then some v else none := by
  cases h : l.find? q with
  | none =>
    have := mt (hq v).mpr (by simpa using List.find?_eq_none.mp h v hv)
    rw [if_neg fun hp => this ⟨hp, rfl⟩]
  | some a =>
    have ha := (hq a).mp (List.find?_some h)
    obtain rfl := inj_of_nodup_map f hd (List.mem_of_find?_eq_some h) hv ha.2
    rw [if_pos ha.1]

namespace AList

variable {κ : Type u} {ν : Type v} [DecidableEq κ]

/-- the first value stored under `k` -/
def get : List (κ × ν) → κ → Option ν
  | [], _ => none
  | (k', v) :: r, k => if k' = k then some v else get r k

/-- overwrite the first entry for `k` where it stands, or append one -/
def upsert : List (κ × ν) → κ → ν → List (κ × ν)
  | [], k, v => [(k, v)]
  | (k', w) :: r, k, v => if k' = k then (k', v) :: r else (k', w) :: upsert r k v

def NodupKeys (l : List (κ × ν)) : Prop := (l.map (·.1)).Nodup

@[simp] theorem get_nil (k : κ) : get ([] : List (κ × ν)) k = none := rfl

theorem get_cons (e : κ × ν) (r : List (κ × ν)) (k : κ) :
    get (e :: r) k = if e.1 = k then some e.2 else get r k := by
  cases e; rfl

theorem get_eq_find? (l : List (κ × ν)) (k : κ) :
    get l k = (l.find? (fun e => e.1 == k)).map (·.2) := by
  induction l with
  | nil => rfl
  | cons e r ih =>
    rw [get_cons, List.find?_cons, ih]
    by_cases h : e.1 = k
    · rw [if_pos h, beq_iff_eq.mpr h]; rfl
    · rw [if_neg h, beq_eq_false_iff_ne.mpr h]

theorem get_eq_lookup (l : List (κ × ν)) (k : κ) : get l k = l.lookup k := by
  induction l with
  | nil => rfl
  | cons e r ih =>
    obtain ⟨a, v⟩ := e
    rw [get_cons, List.lookup_cons, ih]
    by_cases h : a = k
    · subst h; simp
    · rw [if_neg h, beq_eq_false_iff_ne.mpr (Ne.symm h)]

theorem mem_of_get {l : List (κ × ν)} {k : κ} {v : ν} (h : get l k = some v) : (k, v) ∈ l := by
  induction l with
  | nil => cases h
  | cons e r ih =>
    rw [get_cons] at h
    by_cases he : e.1 = k
    · rw [if_pos he, Option.some.injEq] at h
      exact List.mem_cons.mpr (Or.inl (Prod.ext he.symm h.symm))
    · rw [if_neg he] at h
      exact List.mem_cons_of_mem _ (ih h)

theorem get_eq_none_iff {l : List (κ × ν)} {k : κ} : get l k = none ↔ k ∉ l.map (·.1) := by
  induction l with
  | nil => simp
  | cons e r ih =>
    rw [get_cons, List.map_cons, List.mem_cons, not_or, ← ih]
    by_cases he : e.1 = k
    · simp [he]
    · simp [he, Ne.symm he]

/-- with distinct keys, lookup is membership -/
theorem get_iff_mem {l : List (κ × ν)} (h : NodupKeys l) {k : κ} {v : ν} :
    get l k = some v ↔ (k, v) ∈ l := by
  refine ⟨mem_of_get, fun hm => ?_⟩
  induction l with
  | nil => cases hm
  | cons e r ih =>
    rw [NodupKeys, List.map_cons, List.nodup_cons] at h
    rcases List.mem_cons.mp hm with rfl | hm
    · simp [get_cons]
    · have : e.1 ≠ k := fun he => h.1 (he ▸ List.mem_map.mpr ⟨_, hm, rfl⟩)
      rw [get_cons, if_neg this, ih h.2 hm]

/-- a filter that looks at keys only hides the keys it rejects and nothing else -/
theorem get_filter_key (p : κ → Bool) (l : List (κ × ν)) (k : κ) :
    get (l.filter (fun e => p e.1)) k = if p k then get l k else none := by
  induction l with
  | nil => simp
  | cons e r ih =>
    rw [List.filter_cons]
    by_cases he : e.1 = k
    · subst he
      cases hp : p e.1 <;> simp [hp, get_cons, ih]
    · cases p e.1 <;> simp [he, get_cons, ih]

theorem get_erase (l : List (κ × ν)) (k k' : κ) :
    get (l.filter (fun e => e.1 ≠ k)) k' = if k' = k then none else get l k' := by
  rw [get_filter_key (fun x => decide (x ≠ k))]; by_cases h : k' = k <;> simp [h]

theorem get_put (l : List (κ × ν)) (k : κ) (v : ν) (k' : κ) :
    get ((k, v) :: l.filter (fun e => e.1 ≠ k)) k' = if k' = k then some v else get l k' := by
  rw [get_cons, get_erase]; by_cases h : k' = k <;> simp [h, Ne.symm]

/-- with distinct keys, a filter on the entries filters the answer -/
theorem get_filter {l : List (κ × ν)} (h : NodupKeys l) (q : κ × ν → Bool) (k : κ) :
    get (l.filter q) k = (get l k).filter fun v => q (k, v) := by
  induction l with
  | nil => rfl
  | cons e r ih =>
    rw [NodupKeys, List.map_cons, List.nodup_cons] at h
    rw [List.filter_cons, get_cons]
    by_cases he : e.1 = k
    · have hr : get r k = none := get_eq_none_iff.mpr (he ▸ h.1)
      subst he
      cases hq : q e <;> simp [hq, get_cons, ih h.2, hr, Option.filter]
    · cases q e <;> simp [he, get_cons, ih h.2]

omit [DecidableEq κ] in
theorem NodupKeys.filter {l : List (κ × ν)} (h : NodupKeys l) (p : κ × ν → Bool) :
    NodupKeys (l.filter p) :=
  (List.filter_sublist.map _).nodup h

omit [DecidableEq κ] in
/-- a new entry may head the entries whose keys pass a test that its own key fails -/
theorem NodupKeys.cons_filter {l : List (κ × ν)} (h : NodupKeys l) {p : κ → Bool} {k : κ} (hk : p k = false)
    (v : ν) : NodupKeys ((k, v) :: l.filter fun e => p e.1) := by
  refine List.nodup_cons.mpr ⟨fun hm => ?_, h.filter _⟩
  obtain ⟨x, hx, rfl⟩ := List.mem_map.mp hm
  exact Bool.false_ne_true (hk ▸ (List.mem_filter.mp hx).2)

theorem NodupKeys.put {l : List (κ × ν)} (h : NodupKeys l) (k : κ) (v : ν) :
    NodupKeys ((k, v) :: l.filter (fun e => e.1 ≠ k)) :=
  h.cons_filter (p := fun x => decide (x ≠ k)) (by simp) v

/-! erase and put with the filter spelled `e.1 != k`, as the models of the transaction pool and of the
request/response layer spell it -/

theorem get_erase_bne (l : List (κ × ν)) (k k' : κ) :
    get (l.filter (fun e => e.1 != k)) k' = if k' = k then none else get l k' := by
  rw [get_filter_key (· != k)]; by_cases h : k' = k <;> simp [h]

theorem get_put_bne (l : List (κ × ν)) (k : κ) (v : ν) (k' : κ) :
    get ((k, v) :: l.filter (fun e => e.1 != k)) k' = if k' = k then some v else get l k' := by
  rw [get_cons, get_erase_bne]; by_cases h : k' = k <;> simp [h, Ne.symm]

theorem NodupKeys.put_bne {l : List (κ × ν)} (h : NodupKeys l) (k : κ) (v : ν) :
    NodupKeys ((k, v) :: l.filter (fun e => e.1 != k)) :=
  h.cons_filter (p := (· != k)) (by simp) v

theorem get_upsert (l : List (κ × ν)) (k : κ) (v : ν) (k' : κ) :
    get (upsert l k v) k' = if k' = k then some v else get l k' := by
  induction l with
  | nil => by_cases h : k' = k <;> simp [upsert, get_cons, h, Ne.symm]
  | cons e r ih =>
    obtain ⟨a, w⟩ := e
    by_cases ha : a = k
    · subst ha
      by_cases h : k' = a <;> simp [upsert, get_cons, h, Ne.symm]
    · by_cases h : k' = k
      · subst h; simp [upsert, get_cons, ha, ih]
      · simp [upsert, get_cons, ha, ih, h]

theorem keys_upsert (l : List (κ × ν)) (k : κ) (v : ν) :
    (upsert l k v).map (·.1) = if k ∈ l.map (·.1) then l.map (·.1) else l.map (·.1) ++ [k] := by
  induction l with
  | nil => simp [upsert]
  | cons e r ih =>
    obtain ⟨a, w⟩ := e
    by_cases ha : a = k
    · simp [upsert, ha]
    · by_cases hm : k ∈ r.map (·.1) <;> simp_all [upsert, Ne.symm ha]

theorem mem_keys_upsert (l : List (κ × ν)) (k : κ) (v : ν) (a : κ) :
    a ∈ (upsert l k v).map (·.1) ↔ a = k ∨ a ∈ l.map (·.1) := by
  rw [keys_upsert]; split
  · exact ⟨Or.inr, fun h => h.elim (fun e => e ▸ ‹_›) id⟩
  · rw [List.mem_append, List.mem_singleton, or_comm]

theorem NodupKeys.upsert {l : List (κ × ν)} (h : NodupKeys l) (k : κ) (v : ν) :
    NodupKeys (upsert l k v) := by
  rw [NodupKeys, keys_upsert]; split
  · exact h
  · exact List.nodup_append.mpr ⟨h, by simp, fun a ha b hb e => by
      rw [List.mem_singleton] at hb; exact ‹k ∉ _› (hb ▸ e ▸ ha)⟩

omit [DecidableEq κ] in
theorem nodup_of_nodupKeys {l : List (κ × ν)} (h : NodupKeys l) : l.Nodup :=
  nodup_of_nodup_map Prod.fst h

/-- two maps with distinct keys that answer every lookup alike hold the same pairs -/
theorem perm_of_get_eq {l₁ l₂ : List (κ × ν)} (h₁ : NodupKeys l₁) (h₂ : NodupKeys l₂)
    (h : ∀ k, get l₁ k = get l₂ k) : l₁.Perm l₂ := by
  have : DecidableEq (κ × ν) := fun a b => Classical.propDecidable _
  rw [List.perm_ext_iff_of_nodup (nodup_of_nodupKeys h₁) (nodup_of_nodupKeys h₂)]
  intro ⟨k, v⟩
  rw [← get_iff_mem h₁, ← get_iff_mem h₂, h k]

theorem get_perm {l₁ l₂ : List (κ × ν)} (hp : l₁.Perm l₂) (h₁ : NodupKeys l₁) (k : κ) :
    get l₁ k = get l₂ k := by
  have h₂ : NodupKeys l₂ := (hp.map _).nodup_iff.mp h₁
  cases hv : get l₂ k with
  | none => exact get_eq_none_iff.mpr fun hm => get_eq_none_iff.mp hv ((hp.map _).mem_iff.mp hm)
  | some v => exact (get_iff_mem h₁).mpr (hp.mem_iff.mpr ((get_iff_mem h₂).mp hv))

end AList

end LiskVerif
