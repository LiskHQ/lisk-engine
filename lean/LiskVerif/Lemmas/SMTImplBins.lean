/-
Facts about the bins of `updateSubtree` (Model/SMTImpl.lean): what every consumer of `BinsOK` needs (number of
bins, number of pairs, the only pair, the split in halves), `bytes.IsBitSet` reads the key bit, and the bins made
by `binIndexes` / `mkBins` satisfy `BinsOK` for the writes of the batch.
Core Lean only.
-/
import LiskVerif.Lemmas.SMTImplSem
import LiskVerif.Lemmas.Collection

namespace LiskVerif.SMTImpl
open LiskVerif LiskVerif.SMT

/-! ### consumers of `BinsOK` -/

theorem BinsOK.length {rem : Nat} {bins : List (List KV)} {ops : List Entry} (h : BinsOK rem bins ops) :
    bins.length = 2 ^ rem := by
  induction rem generalizing bins ops with
  | zero => simp only [BinsOK] at h; subst h; simp
  | succ rem ih =>
    obtain ⟨bl, br, hb, hl, _, hr⟩ := h
    have := ih hr
    subst hb
    rw [List.length_append, hl, this, Nat.pow_succ]; omega

theorem bins_binTotal_append (a b : List (List KV)) : binTotal (a ++ b) = binTotal a + binTotal b := by
  simp [binTotal]

theorem path_ne_nil_of_le {rem : Nat} {ops : List Entry} (hp : ∀ o ∈ ops, rem + 1 ≤ o.path.length) :
    ∀ o ∈ ops, o.path ≠ [] := fun o ho hn => by
  have := hp o ho
  rw [hn] at this
  exact Nat.not_succ_le_zero _ this

theorem child_path_le {rem : Nat} {ops : List Entry} (hp : ∀ o ∈ ops, rem + 1 ≤ o.path.length) (b : Bool) :
    ∀ o ∈ (if b then goR ops else goL ops), rem ≤ o.path.length := fun o ho => by
  obtain ⟨e, he, hpe, _, _⟩ := mem_child.mp ho
  have := hp e he
  rw [hpe] at this
  exact Nat.le_of_succ_le_succ this

/-- the bins hold every write once, provided every write has at least `rem` bits of path left -/
theorem BinsOK.total {rem : Nat} {bins : List (List KV)} {ops : List Entry} (h : BinsOK rem bins ops)
    (hp : ∀ o ∈ ops, rem ≤ o.path.length) : binTotal bins = ops.length := by
  induction rem generalizing bins ops with
  | zero => simp only [BinsOK] at h; subst h; simp [binTotal]
  | succ rem ih =>
    obtain ⟨bl, br, hb, _, hl, hr⟩ := h
    subst hb
    rw [bins_binTotal_append, ih hl (child_path_le hp false), ih hr (child_path_le hp true),
      length_goL_add_goR ops (path_ne_nil_of_le hp)]

/-- `firstKV` is the first pair of the concatenated bins -/
theorem firstKV_eq_head? : ∀ bins : List (List KV), firstKV bins = bins.flatten.head?
  | [] => rfl
  | [] :: r => firstKV_eq_head? r
  | (_ :: _) :: _ => rfl

theorem BinsOK.firstKV_single {rem : Nat} {bins : List (List KV)} {o : Entry} (h : BinsOK rem bins [o])
    (hp : rem ≤ o.path.length) : firstKV bins = some (kvOf o) := by
  induction rem generalizing bins o with
  | zero => simp only [BinsOK] at h; subst h; simp [firstKV]
  | succ rem ih =>
    obtain ⟨bl, br, hb, _, hl, hr⟩ := h
    subst hb
    rw [firstKV_eq_head?, List.flatten_append, List.head?_append, ← firstKV_eq_head?, ← firstKV_eq_head?]
    match hpath : o.path with
    | [] => rw [hpath] at hp; simp at hp
    | false :: r =>
      rw [goL_cons_false o [] r hpath] at hl
      rw [ih hl (by rw [hpath] at hp; simpa using hp)]
      rfl
    | true :: r =>
      -- no write goes left: the left bins hold `binTotal = 0` pairs
      rw [goL_cons_true o [] r hpath] at hl
      rw [goR_cons_true o [] r hpath] at hr
      have hnil : bl.flatten = [] :=
        List.eq_nil_of_length_eq_zero (by rw [List.length_flatten]; exact hl.total (fun _ ho => nomatch ho))
      rw [firstKV_eq_head? bl, hnil, ih hr (by rw [hpath] at hp; simpa using hp)]
      rfl

theorem BinsOK.take_drop {rem : Nat} {bins : List (List KV)} {ops : List Entry} (h : BinsOK (rem + 1) bins ops) :
    BinsOK rem (bins.take (bins.length / 2)) (goL ops) ∧ BinsOK rem (bins.drop (bins.length / 2)) (goR ops) := by
  obtain ⟨bl, br, hb, hll, hl, hr⟩ := h
  have hrl := hr.length
  subst hb
  have : (bl ++ br).length / 2 = bl.length := by
    rw [List.length_append, hll, hrl]; omega
  rw [this, List.take_left', List.drop_left']
  · exact ⟨hl, hr⟩
  · rfl
  · rfl

/-! ### key bits -/

theorem byteBits_eq_byteBools (b : UInt8) : byteBits b = Collection.byteBools b := by
  simp (disch := decide) only [byteBits, Collection.byteBools, Collection.topBitAfterShift_eq, Nat.reduceSub]

/-- the bits of a key are what `bytes.ToBools` lists -/
theorem keyBits_eq_toBools (k : Bytes) : keyBits k = Collection.toBools k := by
  induction k with
  | nil => rfl
  | cons b r ih => rw [keyBits, Collection.toBools, ih, byteBits_eq_byteBools]

theorem keyBits_getElem? (k : Bytes) (i : Nat) :
    (keyBits k)[i]? = (k[i / 8]?).map (fun x => x.toNat.testBit (7 - i % 8)) := by
  have hr := Nat.mod_lt i (by decide : 0 < 8)
  conv => lhs; rw [keyBits_eq_toBools, ← Nat.div_add_mod i 8, Collection.toBools_getElem?_add _ _ _ hr]
  cases k[i / 8]? with
  | none => rfl
  | some x => exact congrArg some (Collection.topBitAfterShift_eq x _ hr)

/-- `bytes.IsBitSet` reads the key bit -/
theorem isBitSet_keyBits (k : Bytes) (i : Nat) (b : Bool) (h : (keyBits k)[i]? = some b) : isBitSet k i = .ok b := by
  rw [keyBits_getElem?] at h
  unfold isBitSet
  cases hk : k[i / 8]? with
  | none => rw [hk] at h; simp at h
  | some x => rw [hk] at h; simp only [Option.map_some, Option.some.injEq] at h; simp [h]

/-! ### the bins of `updateSubtree` -/

/-- the number written by the first `n` bits of a path, most significant first -/
def bins_val : Nat → Bits → Nat
  | 0, _ => 0
  | _ + 1, [] => 0
  | n + 1, b :: r => (if b then 2 ^ n else 0) + bins_val n r

theorem bins_val_lt (n : Nat) (p : Bits) : bins_val n p < 2 ^ n := by
  induction n generalizing p with
  | zero => simp [bins_val]
  | succ n ih =>
    cases p with
    | nil => simp only [bins_val]; exact Nat.two_pow_pos _
    | cons b r =>
      have := ih r
      simp only [bins_val, Nat.pow_succ]
      split <;> omega

/-- the writes split by the number their next `rem` bits write -/
def bins_of (rem : Nat) (ops : List Entry) : List (List KV) :=
  (List.range (2 ^ rem)).map fun i => (ops.filter fun o => bins_val rem o.path == i).map kvOf

/-- the first bit of a path picks the half of the bins, the rest of the path the bin inside that half -/
theorem bins_val_cons_beq (rem : Nat) (c b : Bool) (r : Bits) {i : Nat} (hi : i < 2 ^ rem) :
    (bins_val (rem + 1) (c :: r) == (if b then 2 ^ rem else 0) + i) = ((c == b) && (bins_val rem r == i)) := by
  have := bins_val_lt rem r
  rw [bins_val, Bool.eq_iff_iff, Bool.and_eq_true, beq_iff_eq, beq_iff_eq, beq_iff_eq]
  cases c <;> cases b <;> simp only [Bool.false_eq_true, if_false, if_true, reduceCtorEq, false_and, true_and,
    iff_false] <;> omega

theorem child_cons (o : Entry) (t : List Entry) (c b : Bool) (r : Bits) (h : o.path = c :: r) :
    (if b then goR (o :: t) else goL (o :: t)) =
      if c == b then ⟨r, o.key, o.value⟩ :: (if b then goR t else goL t) else if b then goR t else goL t := by
  cases b <;> cases c
  · exact goL_cons_false o t r h
  · exact goL_cons_true o t r h
  · exact goR_cons_false o t r h
  · exact goR_cons_true o t r h

/-- bin `i` of the half picked by `b` holds the writes that go to the child `b` and there to bin `i` -/
theorem bins_of_child (rem : Nat) (ops : List Entry) (hp : ∀ o ∈ ops, o.path ≠ []) (b : Bool) (i : Nat)
    (hi : i < 2 ^ rem) :
    (ops.filter fun o => bins_val (rem + 1) o.path == (if b then 2 ^ rem else 0) + i).map kvOf =
      ((if b then goR ops else goL ops).filter fun o => bins_val rem o.path == i).map kvOf := by
  induction ops with
  | nil => cases b <;> rfl
  | cons o t ih =>
    have iht := ih (fun x hx => hp x (List.mem_cons_of_mem _ hx))
    match hpath : o.path with
    | [] => exact absurd hpath (hp o (by simp))
    | c :: r =>
      rw [child_cons o t c b r hpath, List.filter_cons, hpath, bins_val_cons_beq rem c b r hi]
      cases c == b
      · exact iht
      · rw [Bool.true_and, if_pos rfl, List.filter_cons]
        split
        · rw [List.map_cons, List.map_cons, iht]; rfl
        · exact iht

/-- splitting the writes by their next `rem` bits gives bins that are `BinsOK` -/
theorem bins_of_ok (rem : Nat) (ops : List Entry) (hp : ∀ o ∈ ops, rem ≤ o.path.length) :
    BinsOK rem (bins_of rem ops) ops := by
  induction rem generalizing ops with
  | zero =>
    simp only [BinsOK, bins_of, bins_val, Nat.pow_zero, List.range_one, List.map_cons, List.map_nil, beq_self_eq_true]
    rw [List.filter_eq_self.mpr (by simp)]
  | succ rem ih =>
    have hne := path_ne_nil_of_le hp
    refine ⟨bins_of rem (goL ops), bins_of rem (goR ops), ?_, by simp [bins_of],
      ih (goL ops) (child_path_le hp false), ih (goR ops) (child_path_le hp true)⟩
    have h2 : 2 ^ (rem + 1) = 2 ^ rem + 2 ^ rem := by rw [Nat.pow_succ]; omega
    unfold bins_of
    rw [h2, List.range_add, List.map_append, List.map_map]
    congr 1
    · apply List.map_congr_left
      intro i hi
      exact (Nat.zero_add i ▸ bins_of_child rem ops hne false i (List.mem_range.mp hi) :)
    · apply List.map_congr_left
      intro i hi
      exact bins_of_child rem ops hne true i (List.mem_range.mp hi)

/-! #### the bin index is the number written by the next key bits -/

theorem keyBits_drop (k : Bytes) (b : Nat) : (keyBits k).drop (8 * b) = keyBits (k.drop b) := by
  induction b generalizing k with
  | zero => simp
  | succ b ih =>
    cases k with
    | nil => simp [keyBits]
    | cons x r =>
      have : 8 * (b + 1) = (byteBits x).length + 8 * b := by rw [byteBits_length]; omega
      show (byteBits x ++ keyBits r).drop (8 * (b + 1)) = _
      rw [this, List.drop_append, List.drop_of_length_le (by omega), Nat.add_sub_cancel_left, ih]
      simp

/-- Reading the top `n` of the low `k` bits of `v`, most significant first, writes
`v / 2 ^ (k - n) % 2 ^ n`. -/
theorem bins_val_testBits (v : Nat) (r : Bits) : ∀ n k, n ≤ k →
    bins_val n ((List.range k).reverse.map v.testBit ++ r) = v / 2 ^ (k - n) % 2 ^ n
  | 0, _, _ => by rw [bins_val, Nat.pow_zero, Nat.mod_one]
  | n + 1, k + 1, h => by
    rw [List.range_succ, List.reverse_append, List.reverse_singleton, List.singleton_append,
      List.map_cons, List.cons_append, bins_val, bins_val_testBits v r n k (Nat.le_of_succ_le_succ h),
      Nat.succ_sub_succ, Nat.pow_succ, Nat.mod_mul (x := v / 2 ^ (k - n)), Nat.div_div_eq_div_mul,
      ← Nat.pow_add, Nat.sub_add_cancel (Nat.le_of_succ_le_succ h), Nat.testBit_eq_decide_div_mod_eq,
      Nat.add_comm]
    rcases Nat.mod_two_eq_zero_or_one (v / 2 ^ k) with h | h <;> simp [h]

theorem bins_val_testBits_self (v : Nat) (r : Bits) (n : Nat) :
    bins_val n ((List.range n).reverse.map v.testBit ++ r) = v % 2 ^ n := by
  rw [bins_val_testBits v r n n (Nat.le_refl n), Nat.sub_self, Nat.pow_zero, Nat.div_one]

/-- The three instances below hold by unfolding: `byteBits x` is `(List.range 8).reverse.map x.toNat.testBit`,
and dropping its first four bits leaves `(List.range 4).reverse.map x.toNat.testBit`. -/
theorem bins_val_byte8 (x : UInt8) (r : Bits) : bins_val 8 (byteBits x ++ r) = x.toNat :=
  (bins_val_testBits_self x.toNat r 8).trans (Nat.mod_eq_of_lt x.toNat_lt)

theorem bins_val_hi4 (x : UInt8) (r : Bits) : bins_val 4 (byteBits x ++ r) = x.toNat / 16 :=
  (bins_val_testBits x.toNat r 4 8 (by decide)).trans
    (Nat.mod_eq_of_lt (Nat.div_lt_of_lt_mul x.toNat_lt))

theorem bins_val_lo4 (x : UInt8) (r : Bits) : bins_val 4 ((byteBits x ++ r).drop 4) = x.toNat % 16 :=
  bins_val_testBits_self x.toNat r 4

/-- heights at which a subtree of this height can start -/
def Aligned (c : Cfg) (h : Nat) : Prop := (c.sth = 8 ∧ h % 8 = 0) ∨ (c.sth = 4 ∧ (h % 8 = 0 ∨ h % 8 = 4))

theorem bins_getBinIndex (c : Cfg) (height : Nat) (key : Bytes)
    (hs : Aligned c height)
    (hk : height + c.sth ≤ 8 * key.length) :
    getBinIndex c key height = .ok (bins_val c.sth ((keyBits key).drop height)) := by
  have hb : height / 8 < key.length := by rcases hs with ⟨h, _⟩ | ⟨h, _⟩ <;> omega
  have hd : (keyBits key).drop (8 * (height / 8)) =
      byteBits key[height / 8] ++ keyBits (key.drop (height / 8 + 1)) := by
    rw [keyBits_drop, List.drop_eq_getElem_cons hb]; rfl
  have hd0 (hm : height % 8 = 0) : (keyBits key).drop height =
      byteBits key[height / 8] ++ keyBits (key.drop (height / 8 + 1)) := by
    rw [← hd, Nat.mul_div_cancel' (Nat.dvd_of_mod_eq_zero hm)]
  have hget := List.getElem?_eq_getElem hb
  rcases hs with ⟨h8, hm⟩ | ⟨h4, hm | hm⟩
  · rw [hd0 hm, h8, bins_val_byte8]
    simp [getBinIndex, h8, hget]
  · rw [hd0 hm, h4, bins_val_hi4]
    simp [getBinIndex, h4, hm, hget]
  · rw [show (keyBits key).drop height = ((keyBits key).drop (8 * (height / 8))).drop 4 by
      rw [List.drop_drop]; congr 1; omega, hd, h4, bins_val_lo4]
    simp [getBinIndex, h4, hm, hget]

theorem bins_binIndexes (c : Cfg) (height : Nat) (kvs : List KV)
    (hs : Aligned c height)
    (hk : ∀ kv ∈ kvs, height + c.sth ≤ 8 * kv.1.length) :
    binIndexes c height kvs = .ok (kvs.map fun kv => (bins_val c.sth ((keyBits kv.1).drop height), kv)) := by
  induction kvs with
  | nil => rfl
  | cons kv r ih =>
    have h1 := bins_getBinIndex c height kv.1 hs (hk kv (by simp))
    have h2 := ih (fun x hx => hk x (List.mem_cons_of_mem _ hx))
    simp only [binIndexes, h1, h2, List.map_cons]
    rfl

/-- the bins made by `updateSubtree` (8-bit subtrees at a byte boundary, 4-bit subtrees at a nibble boundary) -/
theorem mkBins_ok (c : Cfg) (height : Nat) (kvs : List KV)
    (hs : Aligned c height)
    (hk : ∀ kv ∈ kvs, height + c.sth ≤ 8 * kv.1.length) :
    ∃ ikvs, binIndexes c height kvs = .ok ikvs ∧ BinsOK c.sth (mkBins c.maxNodes ikvs) (kvs.map (opOf height)) := by
  refine ⟨_, bins_binIndexes c height kvs hs hk, ?_⟩
  have hok := bins_of_ok c.sth (kvs.map (opOf height)) (by
    intro o ho
    obtain ⟨kv, hkv, rfl⟩ := List.mem_map.mp ho
    have := hk kv hkv
    simp only [opOf, List.length_drop, keyBits_length]
    omega)
  have : mkBins c.maxNodes (kvs.map fun kv => (bins_val c.sth ((keyBits kv.1).drop height), kv)) =
      bins_of c.sth (kvs.map (opOf height)) := by
    unfold mkBins bins_of Cfg.maxNodes
    apply List.map_congr_left
    intro i _
    simp only [List.filter_map, List.map_map]
    rfl
  rw [this]
  exact hok

end LiskVerif.SMTImpl

#print axioms LiskVerif.SMTImpl.mkBins_ok
#print axioms LiskVerif.SMTImpl.BinsOK.length
#print axioms LiskVerif.SMTImpl.BinsOK.total
#print axioms LiskVerif.SMTImpl.BinsOK.firstKV_single
#print axioms LiskVerif.SMTImpl.BinsOK.take_drop
#print axioms LiskVerif.SMTImpl.isBitSet_keyBits
