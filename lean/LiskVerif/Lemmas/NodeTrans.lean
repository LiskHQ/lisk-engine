/-
`deleteBlock` (in the form `deleteCore` of Model/NodeStale.lean: the block passed as argument need not be the tip;
`deleteTip` is the call with the tip), `PrepareCache` and `ClearTempBlocks` preserve the refinement `Ref`; transitions
between refined states (`Trans`: finalized height, finalized prefix of the chain, finalize events); the ghost chain of
an operation sequence; the header served for a height (`hdrSpec`, `headerAt_ref`); `Executer.process` as a sequence of
`processValidated` / `deleteBlock` calls, with the induction over its `deleteTill` loop (`deleteTill_induction`).
-/
import LiskVerif.Lemmas.NodeLoad
import LiskVerif.Model.NodeStale

namespace LiskVerif.Node
open LiskVerif LiskVerif.DiffDB

/-! ### deleteBlock -/

/-- a `deleteBlock` that removed the block: `ok`, or `errWritten` when reloading the emptied block
cache failed (the error is returned after the batch was written, no event is published) -/
def Res.removed (r : Res) : Prop := r = .ok ∨ r = .errWritten

/-- a refusal (an error before anything is written, or the panic) removed nothing -/
theorem Res.not_removed {r : Res} (h : r = .err ∨ r = .panic) : ¬ r.removed := by
  rcases h with rfl | rfl <;> rintro (h | h) <;> cases h

/-- what `deleteBlock` returns once every test has passed: the state diff `d` of height `r` is reverted, the tip
removed, the event names `e` -/
def deleteDone (cd : Codecs) (cfg : Cfg) (s : St) (d : Diff) (r : Nat) (e tip : Block) (rest : List Block)
    (st : Bool) : St × Res :=
  match rest with
  | _ :: _ => ({ db := deleteDbAt s.db d r tip st, cache := rest, log := Ev.delete e.hdr.id e.hdr.height :: s.log }, .ok)
  | [] =>
    match loadCache cd cfg (deleteDbAt s.db d r tip st) with
    | none => ({ db := deleteDbAt s.db d r tip st, cache := [], log := s.log }, .errWritten)
    | some c => ({ db := deleteDbAt s.db d r tip st, cache := c, log := Ev.delete e.hdr.id e.hdr.height :: s.log }, .ok)

/-- `deleteCore` either refuses (an error, or the panic on an empty block cache; nothing is written) or passes
every test and removes the tip — the same way whatever block the event names -/
theorem deleteCore_cases (cd : Codecs) (cfg : Cfg) (s : St) (g r : Nat) (st ok : Bool) :
    (∃ res, (res = .err ∨ res = .panic ∧ ok = true) ∧ ∀ e, deleteCore cd cfg s g r e st ok = (s, res)) ∨
    ∃ fin bytes d tip rest, finOf s.db = some fin ∧ fin < g ∧ (headerAt cd s (r - 1)).isSome ∧
      slookup s.db (kDiff r) = some bytes ∧ cd.decDiff bytes = some d ∧ ok = true ∧
      s.cache = tip :: rest ∧ tip.hdr.height ≠ cfg.genesisHeight ∧
      ∀ e, deleteCore cd cfg s g r e st ok = deleteDone cd cfg s d r e tip rest st := by
  unfold deleteCore
  cases hf : finOf s.db with
  | none => exact Or.inl ⟨_, Or.inl rfl, fun _ => rfl⟩
  | some fin =>
    by_cases hle : g ≤ fin
    · exact Or.inl ⟨_, Or.inl rfl, fun _ => by simp only [hle, if_true]⟩
    cases hh : headerAt cd s (r - 1) with
    | none => exact Or.inl ⟨_, Or.inl rfl, fun _ => by simp only [hle, if_false]⟩
    | some hd =>
      cases hl : slookup s.db (kDiff r) with
      | none => exact Or.inl ⟨_, Or.inl rfl, fun _ => by simp only [hle, if_false]⟩
      | some bytes =>
        cases hd' : cd.decDiff bytes with
        | none => exact Or.inl ⟨_, Or.inl rfl, fun _ => by simp only [hle, if_false, hd']⟩
        | some d =>
          cases ok with
          | false => exact Or.inl ⟨_, Or.inl rfl, fun _ => by simp only [hle, if_false, hd', Bool.not_false, if_true]⟩
          | true =>
            cases hc : s.cache with
            | nil =>
              exact Or.inl ⟨_, Or.inr ⟨rfl, rfl⟩, fun _ => by
                simp only [hle, if_false, hd', Bool.not_true, Bool.false_eq_true]⟩
            | cons tip rest =>
              by_cases hg : tip.hdr.height = cfg.genesisHeight
              · exact Or.inl ⟨_, Or.inl rfl, fun _ => by
                  simp only [hle, if_false, hd', Bool.not_true, Bool.false_eq_true, hg, if_true]⟩
              · refine Or.inr ⟨fin, bytes, d, tip, rest, rfl, by omega, rfl, rfl, hd', rfl, rfl, hg, fun e => ?_⟩
                simp only [hle, if_false, hd', Bool.not_true, Bool.false_eq_true, hg, deleteDone, deleteDbAt]
                cases rest with
                | cons _ _ => rfl
                | nil => simp only; cases loadCache cd cfg _ <;> rfl

/-- `deleteTip` is `deleteBlock` with the tip in every role -/
theorem deleteTip_eq_core {cd : Codecs} {cfg : Cfg} {s : St} {tip : Block} {rest : List Block} (st : Bool)
    (hc : s.cache = tip :: rest) :
    deleteTip cd cfg s st = deleteCore cd cfg s tip.hdr.height tip.hdr.height tip st true := by
  unfold deleteTip deleteCore
  rw [hc]
  simp only
  cases finOf s.db with
  | none => rfl
  | some fin =>
    simp only
    by_cases hle : tip.hdr.height ≤ fin
    · simp only [hle, if_true]
    simp only [hle, if_false]
    cases headerAt cd s (tip.hdr.height - 1) with
    | none => rfl
    | some hd =>
      simp only
      cases slookup s.db (kDiff tip.hdr.height) with
      | none => rfl
      | some bytes =>
        simp only
        cases cd.decDiff bytes with
        | none => rfl
        | some d =>
          simp only [Bool.not_true, Bool.false_eq_true, if_false]
          by_cases hg : tip.hdr.height = cfg.genesisHeight
          · simp only [hg, if_true]
          simp only [hg, if_false]
          cases rest with
          | cons _ _ => rfl
          | nil => simp only; cases loadCache cd cfg _ <;> rfl

/-- what `deleteDone` returns: the database written, and either `ok` with the delete event and the popped (or reloaded)
cache, or `errWritten` (the reload failed) with the log as it was -/
theorem deleteDone_inv {cd : Codecs} {cfg : Cfg} {s s' : St} {d : Diff} {r : Nat} {e tip : Block}
    {rest : List Block} {st : Bool} {res : Res} (h : deleteDone cd cfg s d r e tip rest st = (s', res)) :
    s'.db = deleteDbAt s.db d r tip st ∧
      ((res = .ok ∧ s'.log = Ev.delete e.hdr.id e.hdr.height :: s.log ∧
        ((rest ≠ [] ∧ s'.cache = rest) ∨ (rest = [] ∧ loadCache cd cfg s'.db = some s'.cache))) ∨
       (res = .errWritten ∧ s'.log = s.log ∧ s'.cache = [] ∧ rest = [])) := by
  unfold deleteDone at h
  cases rest with
  | cons r1 r2 =>
    obtain ⟨rfl, rfl⟩ := Prod.mk.inj h
    simp only [true_and, ne_eq, reduceCtorEq, not_false_eq_true, false_and, or_false]
  | nil =>
    simp only at h
    cases hlc : loadCache cd cfg (deleteDbAt s.db d r tip st) with
    | none =>
      rw [hlc] at h
      obtain ⟨rfl, rfl⟩ := Prod.mk.inj h
      simp only [true_and, reduceCtorEq, false_and, false_or]
    | some c =>
      rw [hlc] at h
      obtain ⟨rfl, rfl⟩ := Prod.mk.inj h
      simp only [true_and, hlc, ne_eq, not_true_eq_false, false_and, false_or, reduceCtorEq, or_false]

/-- `deleteBlock` on the tip: refused with nothing written, or the tip is removed -/
theorem deleteTip_cases (cd : Codecs) (cfg : Cfg) (s : St) (st : Bool) :
    (∃ res, (res = .err ∨ res = .panic) ∧ deleteTip cd cfg s st = (s, res)) ∨
    ∃ fin bytes d tip rest, s.cache = tip :: rest ∧ finOf s.db = some fin ∧ fin < tip.hdr.height ∧
      slookup s.db (kDiff tip.hdr.height) = some bytes ∧ cd.decDiff bytes = some d ∧
      deleteTip cd cfg s st = deleteDone cd cfg s d tip.hdr.height tip tip rest st := by
  cases hc : s.cache with
  | nil => exact Or.inl ⟨.panic, Or.inr rfl, by simp only [deleteTip, hc]⟩
  | cons tip rest =>
    rw [deleteTip_eq_core st hc]
    rcases deleteCore_cases cd cfg s tip.hdr.height tip.hdr.height st true with
      ⟨res, hres, h⟩ | ⟨fin, bytes, d, tip', rest', hf, hlt, _, hl, hd, _, hc', _, h⟩
    · exact Or.inl ⟨res, hres.imp_right And.left, h tip⟩
    · obtain ⟨rfl, rfl⟩ := List.cons.inj (hc.symm.trans hc')
      exact Or.inr ⟨fin, bytes, d, tip, rest, rfl, hf, hlt, hl, hd, h tip⟩

/-- inversion of a `deleteBlock` that removed the tip: the tests that passed and what was written -/
theorem deleteTip_done_inv {cd : Codecs} {cfg : Cfg} {s s' : St} {st : Bool} {r : Res}
    (h : deleteTip cd cfg s st = (s', r)) (hr : r.removed) :
    ∃ tip rest fin bytes d, s.cache = tip :: rest ∧ finOf s.db = some fin ∧ fin < tip.hdr.height ∧
      slookup s.db (kDiff tip.hdr.height) = some bytes ∧ cd.decDiff bytes = some d ∧
      s'.db = deleteDb s.db d tip st ∧
      ((r = .ok ∧ s'.log = Ev.delete tip.hdr.id tip.hdr.height :: s.log ∧
        ((rest ≠ [] ∧ s'.cache = rest) ∨
          (rest = [] ∧ loadCache cd cfg (deleteDb s.db d tip st) = some s'.cache))) ∨
       (r = .errWritten ∧ s'.log = s.log ∧ s'.cache = [] ∧ rest = [])) := by
  rcases deleteTip_cases cd cfg s st with ⟨res, hres, he⟩ | ⟨fin, bytes, d, tip, rest, hc, hf, hlt, hl, hd, he⟩
  · obtain ⟨-, rfl⟩ := Prod.mk.inj (he.symm.trans h)
    exact absurd hr (Res.not_removed hres)
  · obtain ⟨hdb, hrest⟩ := deleteDone_inv (he.symm.trans h)
    rw [hdb] at hrest
    exact ⟨tip, rest, fin, bytes, d, hc, hf, hlt, hl, hd, hdb, hrest⟩

/-- a `deleteBlock` that did not remove the tip — an error before writing, or the panic — leaves the state alone -/
theorem deleteTip_not_removed {cd : Codecs} {cfg : Cfg} {s s' : St} {st : Bool} {r : Res}
    (h : deleteTip cd cfg s st = (s', r)) (hr : ¬ r.removed) : s' = s := by
  rcases deleteTip_cases cd cfg s st with ⟨res, _, he⟩ | ⟨_, _, _, _, _, _, _, _, _, _, he⟩
  · exact (Prod.mk.inj (he.symm.trans h)).1.symm
  · obtain ⟨_, ⟨rfl, _⟩ | ⟨rfl, _⟩⟩ := deleteDone_inv (he.symm.trans h)
    · exact absurd (Or.inl rfl) hr
    · exact absurd (Or.inr rfl) hr

/-- **Induction over the loop of `deleteTillCommonBlock`**: it stops — out of fuel, on an empty block cache, with
the tip at the target height, or because `deleteBlock` did not succeed — or it removes the tip and goes on. -/
theorem deleteTill_induction {cd : Codecs} {cfg : Cfg} {target : Nat} {P : St → St × Res → Prop}
    (fuel0 : ∀ s, P s (s, .err))
    (empty : ∀ s, s.cache = [] → P s (s, .panic))
    (hit : ∀ s tip rest, s.cache = tip :: rest → tip.hdr.height = target → P s (s, .ok))
    (fail : ∀ s s' r, deleteTip cd cfg s true = (s', r) → r ≠ .ok → P s (s', r))
    (step : ∀ s s1 out, deleteTip cd cfg s true = (s1, .ok) → P s1 out → P s out) :
    ∀ (fuel : Nat) (s : St), P s (deleteTill cd cfg fuel s target) := by
  intro fuel
  induction fuel with
  | zero => exact fuel0
  | succ n ih =>
    intro s
    unfold deleteTill
    cases hc : s.cache with
    | nil => exact empty s hc
    | cons tip rest =>
      simp only
      split
      · rename_i heq; exact hit s tip rest hc heq
      · cases hd : deleteTip cd cfg s true with
        | mk s' r =>
          cases r with
          | ok => exact step s s' _ hd (ih s')
          | _ => exact fail s s' _ hd (by simp)

theorem cacheRef_pop {cd : Codecs} {base : Store} {baseH : Nat} {tip r1 : Block} {r2 : List Block}
    {c : Chain} {b : Block} {x : Exec}
    (hC : CacheRef cd base baseH (tip :: r1 :: r2) ((b, x) :: c))
    (hh : b.hdr.height = tipH baseH c + 1) : CacheRef cd base baseH (r1 :: r2) c := by
  have htip : tip.hdr.height = b.hdr.height := hC.head tip rfl
  refine ⟨?_, hC.consec.2, ?_, ?_⟩
  · intro t ht
    simp only [List.head?_cons, Option.some.injEq] at ht
    subst ht
    have := hC.consec.1
    omega
  · intro t ht bx hbx hhe
    exact hC.chain t (List.mem_cons_of_mem _ ht) bx (List.mem_cons_of_mem _ hbx) hhe
  · intro t ht hle
    exact hC.baseHdr t (List.mem_cons_of_mem _ ht) hle

/-- the state diff stored under the height of the newest block of a refined database is the one its application wrote -/
theorem DbRef.tip_diff {cd : Codecs} {base : Store} {baseH : Nat} {db : Store} {c : Chain} {b : Block} {x : Exec}
    {f : Nat} (hR : DbRef cd base baseH db ((b, x) :: c)) (hf : finOf db = some f) (hlt : f < b.hdr.height) :
    slookup db (kDiff b.hdr.height) = some (cd.encDiff (diffOf x.overlay)) := by
  rw [hR.agree f hf _ (kDiff_not_vol hR.wf.step.block.heightLt (by omega)), spec_head_diff hR.wf.step]

/-- the diff decoded from the bytes found where `cd.encDiff D` was written is `D` -/
theorem diff_of_stored {cd : Codecs} {L : Option Bytes} {bytes : Bytes} {d D : Diff} (hl : L = some bytes)
    (hw : L = some (cd.encDiff D)) (hd : cd.decDiff bytes = some d) (hrt : cd.decDiff (cd.encDiff D) = some D) :
    d = D := by
  obtain rfl : bytes = cd.encDiff D := Option.some.inj (hl.symm.trans hw)
  exact Option.some.inj (hd.symm.trans hrt)

/-- **The removal of the tip**, once `deleteBlock` has passed its tests on the tip's height — whatever block the
event names: the state diff found is the one `processValidated` stored for the tip, the chain loses its newest
block and `Ref` is preserved. -/
theorem ref_deleteDone {cd : Codecs} {cfg : Cfg} {base : Store} {baseH : Nat} {s s' : St} {c0 : Chain}
    {tip e : Block} {rest : List Block} {fin : Nat} {bytes : Bytes} {d : Diff} {st : Bool} {r : Res}
    (hbase : BaseOK cd base baseH) (hR : Ref cd base baseH s c0) (hc : s.cache = tip :: rest)
    (hf : finOf s.db = some fin) (hlt : fin < tip.hdr.height)
    (hl : slookup s.db (kDiff tip.hdr.height) = some bytes) (hd : cd.decDiff bytes = some d)
    (h : deleteDone cd cfg s d tip.hdr.height e tip rest st = (s', r)) :
    ∃ x c, c0 = (tip, x) :: c ∧ Ref cd base baseH s' c ∧ finOf s'.db = finOf s.db ∧
      s'.db = deleteDb s.db (diffOf x.overlay) tip st ∧
      s'.log = (if r = .ok then [Ev.delete e.hdr.id e.hdr.height] else []) ++ s.log := by
  obtain ⟨hdb0, hrest⟩ := deleteDone_inv h
  obtain ⟨x, c, rfl⟩ := hR.tip_cons hc hf hlt
  obtain ⟨hstep, _, _⟩ := hR.db.wf
  -- the diff stored under the tip's height is the one its application wrote
  obtain rfl : d = diffOf x.overlay := diff_of_stored hl (hR.db.tip_diff hf hlt) hd hstep.diffRt
  have hdb : s'.db = deleteDb s.db (diffOf x.overlay) tip st := hdb0
  obtain ⟨hdbR, hfin'⟩ := dbRef_delete (st := st) hR.db hf hlt
  rw [← hdb] at hdbR hfin'
  refine ⟨x, c, rfl, ⟨hdbR, ?_⟩, by rw [hfin', hf], hdb, ?_⟩
  · rcases hrest with ⟨_, _, ⟨hne, hce⟩ | ⟨_, hload⟩⟩ | ⟨_, _, hcache, _⟩
    · rw [hce]
      cases rest with
      | nil => exact absurd rfl hne
      | cons r1 r2 => exact cacheRef_pop (hc ▸ hR.cache) hR.db.wf.height
    · exact loadCache_cacheRef hbase hdbR hload
    · exact hcache ▸ cacheRef_nil cd base baseH c
  · rcases hrest with ⟨rfl, hlog, _⟩ | ⟨rfl, hlog, _⟩ <;> exact hlog

/-- `Ref` is preserved by a `deleteBlock` that removed the tip: the chain loses its newest block -/
theorem ref_delete {cd : Codecs} {cfg : Cfg} {base : Store} {baseH : Nat} {s s' : St} {c0 : Chain}
    {st : Bool} {r : Res} (hbase : BaseOK cd base baseH)
    (hR : Ref cd base baseH s c0) (hok : deleteTip cd cfg s st = (s', r)) (hr : r.removed) :
    ∃ b x c, c0 = (b, x) :: c ∧ Ref cd base baseH s' c ∧ finOf s'.db = finOf s.db ∧
      s'.log = (if r = .ok then [Ev.delete b.hdr.id b.hdr.height] else []) ++ s.log ∧
      (∀ f, finOf s.db = some f → f < b.hdr.height) ∧ s.cache.head? = some b ∧
      s'.db = deleteDb s.db (diffOf x.overlay) b st := by
  rcases deleteTip_cases cd cfg s st with ⟨res, hres, he⟩ | ⟨fin, bytes, d, tip, rest, hc, hf, hlt, hl, hd, he⟩
  · obtain ⟨-, rfl⟩ := Prod.mk.inj (he.symm.trans hok)
    exact absurd hr (Res.not_removed hres)
  · obtain ⟨x, c, rfl, hR', hfin, hdb, hlog⟩ := ref_deleteDone hbase hR hc hf hlt hl hd (he.symm.trans hok)
    exact ⟨tip, x, c, rfl, hR', hfin, hlog, fun f hf' => Option.some.inj (hf'.symm.trans hf) ▸ hlt,
      by rw [hc]; rfl, hdb⟩

/-! ### restart, ClearTempBlocks -/

theorem ref_restart {cd : Codecs} {cfg : Cfg} {base : Store} {baseH : Nat} {s : St} {c : Chain}
    (hbase : BaseOK cd base baseH) (hR : Ref cd base baseH s c) :
    Ref cd base baseH (restart cd cfg s).1 c ∧ (restart cd cfg s).1.db = s.db ∧
      (restart cd cfg s).1.log = s.log := by
  have hnil := cacheRef_nil cd base baseH c
  unfold restart
  cases hl : loadCache cd cfg s.db with
  | none => exact ⟨⟨hR.db, hnil⟩, rfl, rfl⟩
  | some cache =>
    cases cache with
    | nil => exact ⟨⟨hR.db, hnil⟩, rfl, rfl⟩
    | cons t r => exact ⟨⟨hR.db, loadCache_cacheRef hbase hR.db hl⟩, rfl, rfl⟩

/-- `ClearTempBlocks` deletes the stored keys of table 7 -/
theorem bval_clearTemp (db : Store) (k : Bytes) :
    bval ((dbIterate db [7] (-1) true).map fun kv => BOp.del kv.1) k =
      if k.head? = some 7 ∧ slookup db k ≠ none then some none else none := by
  simp only [bval_delScan, mem_keys_iterate]

theorem clearTemp_lookup (db : Store) (k : Bytes) (hk : k.head? ≠ some 7) :
    slookup (applyBatch db ((dbIterate db [7] (-1) true).map fun kv => BOp.del kv.1)) k = slookup db k := by
  rw [slookup_applyBatch, bval_clearTemp, if_neg fun h => hk h.1]

theorem ref_clearTemp {cd : Codecs} {base : Store} {baseH : Nat} {s : St} {c : Chain}
    (hR : Ref cd base baseH s c) :
    Ref cd base baseH (clearTemp s) c ∧ finOf (clearTemp s).db = finOf s.db ∧ (clearTemp s).log = s.log := by
  have hfin : finOf (clearTemp s).db = finOf s.db := by
    unfold finOf clearTemp
    simp only
    rw [clearTemp_lookup s.db kFin (by simp [kFin])]
  refine ⟨⟨⟨nodup_applyBatch _ _ hR.db.nodup, ?_, ?_, hR.db.wf, hR.db.tipLt⟩, hR.cache⟩, hfin, rfl⟩
  · rw [hfin]; exact hR.db.finOk
  · intro f hf k hk
    rw [hfin] at hf
    have hk7 : k.head? ≠ some 7 := fun h => hk (Or.inr (Or.inl h))
    show slookup (applyBatch s.db _) k = _
    rw [clearTemp_lookup s.db k hk7]
    exact hR.db.agree f hf k hk

/-! ### the header served for a height, as a function of the chain -/

/-- the header of the chain at height `h`: the two-step lookup of `GetBlockHeaderByHeight` (`hdrDB`, the `none` branch of
`headerAt`) in `spec` instead of the database -/
def hdrSpec (cd : Codecs) (base : Store) (c : Chain) (h : Nat) : Option Hdr :=
  match spec cd base c (kHeight h) with
  | none => none
  | some id =>
    match spec cd base c (kHeader id) with
    | none => none
    | some hb => cd.decHdr hb

theorem hdrDB_eq_hdrSpec {cd : Codecs} {base : Store} {baseH : Nat} {db : Store} {c : Chain}
    (hR : DbRef cd base baseH db c) (h : Nat) : hdrDB cd db h = hdrSpec cd base c h := by
  obtain ⟨f, hf, _, _⟩ := hR.finOk
  unfold hdrDB hdrSpec headerOf
  rw [hR.agree f hf _ (kHeight_not_vol f h)]
  cases spec cd base c (kHeight h) with
  | none => rfl
  | some id => simp only; rw [hR.agree f hf _ (kHeader_not_vol f id)]; rfl

/-- an index entry up to the tip points to a stored header -/
theorem index_has_header {cd : Codecs} {base : Store} {baseH : Nat} {c : Chain}
    (hwf : ChainWF cd base baseH c) (hbase : BaseOK cd base baseH) (hT : tipH baseH c < u32)
    {h : Nat} (hle : h ≤ tipH baseH c) {id : Bytes} (hi : spec cd base c (kHeight h) = some id) :
    ∃ hb, spec cd base c (kHeader id) = some hb := by
  by_cases hb : baseH < h
  · obtain ⟨bx, hbx, hh⟩ := chain_covers hwf h hb hle
    have hs := stored_member hwf bx hbx
    have := hs.height
    rw [hh, hi] at this
    have hid : id = bx.1.hdr.id := Option.some.inj this
    exact ⟨_, hid ▸ hs.header⟩
  · rcases spec_some_origin hwf (kHeight_not_state h) hi with ⟨bx, hbx, hm⟩ | hbs
    · exfalso
      have hbl := chain_heights hwf bx hbx
      have := (heightKey_mem_allKeys (key := kHeight) (by simp) h bx.1 (by omega) (by omega)).mp hm
      omega
    · obtain ⟨hb0, hhb0⟩ := hbase.idxHasHdr h id (by omega) hbs
      exact ⟨hb0, spec_base_present hwf (kHeader_not_state id) hhb0⟩

/-- the header of the chain at the height of one of its blocks -/
theorem hdrSpec_member {cd : Codecs} {base : Store} {baseH : Nat} {c : Chain}
    (hwf : ChainWF cd base baseH c) {bx : Block × Exec} (hm : bx ∈ c) :
    hdrSpec cd base c bx.1.hdr.height = some bx.1.hdr := by
  have hs := stored_member hwf bx hm
  unfold hdrSpec
  rw [hs.height]
  simp only
  rw [hs.header]
  exact (chain_blockOK hwf bx hm).hdrOk

theorem hdrSpec_cons {cd : Codecs} {base : Store} {baseH : Nat} {c : Chain} {b : Block} {x : Exec}
    (hwf : ChainWF cd base baseH ((b, x) :: c)) (hbase : BaseOK cd base baseH)
    {h : Nat} (hle : h ≤ tipH baseH c) : hdrSpec cd base ((b, x) :: c) h = hdrSpec cd base c h := by
  obtain ⟨hstep, hheight, hwf'⟩ := hwf
  have hbl := hstep.block.heightLt
  have hk1 : kHeight h ∉ allKeys b := fun hm => by
    have := (heightKey_mem_allKeys (key := kHeight) (by simp) h b (by omega) hbl).mp hm
    omega
  unfold hdrSpec
  rw [spec_cons_other cd base b x c _ hstep.stateKeys hk1 (kHeight_not_state h)]
  cases hi : spec cd base c (kHeight h) with
  | none => rfl
  | some id =>
    simp only
    obtain ⟨hb, hhb⟩ := index_has_header hwf' hbase (by omega) hle hi
    rw [spec_present_cons hstep (kHeader_not_state id) hhb, hhb]

theorem cacheAt_some {c : List Block} {h : Nat} {t : Block} (hc : cacheAt c h = some t) :
    t ∈ c ∧ t.hdr.height = h := by
  unfold cacheAt at hc
  exact ⟨List.mem_of_find?_eq_some hc, by simpa using List.find?_some hc⟩

/-- the header the node serves for a height (cache first, then database) is the chain's -/
theorem headerAt_ref {cd : Codecs} {base : Store} {baseH : Nat} {s : St} {c : Chain}
    (hbase : BaseOK cd base baseH) (hR : Ref cd base baseH s c) (h : Nat) :
    headerAt cd s h = hdrSpec cd base c h := by
  have hdbspec := hdrDB_eq_hdrSpec hR.db h
  unfold headerAt
  cases hc : cacheAt s.cache h with
  | none =>
    simp only
    rw [← hdbspec]
    rfl
  | some t =>
    simp only
    obtain ⟨htm, hth⟩ := cacheAt_some hc
    have htT : h ≤ tipH baseH c := by
      cases hcache : s.cache with
      | nil => rw [hcache] at htm; cases htm
      | cons t0 r =>
        have h1 := hR.cache.head t0 (by rw [hcache]; rfl)
        have h2 := consec_le (hcache ▸ hR.cache.consec) t (hcache ▸ htm)
        omega
    by_cases hb : baseH < h
    · obtain ⟨bx, hbx, hh⟩ := chain_covers hR.db.wf h hb htT
      have hte : t = bx.1 := hR.cache.chain t htm bx hbx (by rw [hh, hth])
      rw [← hh, hdrSpec_member hR.db.wf hbx, hte]
    · have hle : h ≤ baseH := by omega
      have hbh := hR.cache.baseHdr t htm (by omega)
      rw [hth] at hbh
      rw [← hbh, ← hdbspec]
      -- the database agrees with the base on the header of a base height
      unfold hdrDB
      rw [db_index_base hR.db hle]
      cases hi : slookup base (kHeight h) with
      | none => rfl
      | some id =>
        simp only
        obtain ⟨hb0, hhb0⟩ := hbase.idxHasHdr h id hle hi
        obtain ⟨f, hf, _, _⟩ := hR.db.finOk
        unfold headerOf
        rw [hR.db.agree f hf _ (kHeader_not_vol f id),
          spec_base_present hR.db.wf (kHeader_not_state id) hhb0, hhb0]

/-- two states refined by one chain serve the same headers -/
theorem headerAt_congr {cd : Codecs} {base : Store} {baseH : Nat} {s s' : St} {c : Chain}
    (hbase : BaseOK cd base baseH) (hR : Ref cd base baseH s c) (hR' : Ref cd base baseH s' c) (h : Nat) :
    headerAt cd s' h = headerAt cd s h := by
  rw [headerAt_ref hbase hR' h, headerAt_ref hbase hR h]

/-- the header served for the height of the tip is the cached tip's -/
theorem headerAt_tip {cd : Codecs} {base : Store} {baseH : Nat} {s : St} {c : Chain}
    (hR : Ref cd base baseH s c) {t : Block} (ht : s.cache.head? = some t) :
    headerAt cd s (tipH baseH c) = some t.hdr := by
  have hh := hR.cache.head t ht
  unfold headerAt cacheAt
  cases hc : s.cache with
  | nil => rw [hc] at ht; cases ht
  | cons a r =>
    obtain rfl : a = t := by rw [hc] at ht; exact Option.some.inj ht
    simp [List.find?, hh]

/-- over the base alone the header of the chain is the header the base serves -/
theorem hdrSpec_nil (cd : Codecs) (base : Store) (h : Nat) : hdrSpec cd base [] h = hdrDB cd base h := by
  unfold hdrSpec hdrDB headerOf
  simp only [spec]
  cases slookup base (kHeight h) <;> rfl

/-! ### finalize events -/

/-- `[(f0,f1),(f1,f2),…]`: consecutive strict raises from `a` to `b` -/
def IsChain : Nat → List (Nat × Nat) → Nat → Prop
  | a, [], b => a = b
  | a, (o, n) :: r, b => o = a ∧ a < n ∧ IsChain n r b

/-- the (original, next) pairs of the finalize events of a log (newest first), oldest first -/
def finPairs : List Ev → List (Nat × Nat)
  | [] => []
  | .finalize o n _ :: r => finPairs r ++ [(o, n)]
  | .new _ _ :: r => finPairs r
  | .delete _ _ :: r => finPairs r

theorem isChain_append : ∀ (l1 l2 : List (Nat × Nat)) (a b c : Nat),
    IsChain a l1 b → IsChain b l2 c → IsChain a (l1 ++ l2) c := by
  intro l1
  induction l1 with
  | nil => intro l2 a b c h1 h2; simp only [IsChain] at h1; subst h1; exact h2
  | cons e r ih =>
    obtain ⟨o, n⟩ := e
    intro l2 a b c h1 h2
    exact ⟨h1.1, h1.2.1, ih l2 n b c h1.2.2 h2⟩

theorem finPairs_append (l1 l2 : List Ev) : finPairs (l1 ++ l2) = finPairs l2 ++ finPairs l1 := by
  induction l1 with
  | nil => simp [finPairs]
  | cons e r ih =>
    cases e <;> simp [finPairs, ih]

theorem isChain_le : ∀ (l : List (Nat × Nat)) (a b : Nat), IsChain a l b → a ≤ b := by
  intro l
  induction l with
  | nil => intro a b h; simp only [IsChain] at h; omega
  | cons e r ih =>
    obtain ⟨o, n⟩ := e
    intro a b h
    have := ih n b h.2.2
    have := h.2.1
    omega

/-! ### transitions -/

/-- what a stretch of history guarantees: the refinement afterwards (`ref`); the finalized height went from `f` to `f'`
through the strict raises that the finalize events published in between record, in order (`fin`); the headers of the chain
at heights up to the old finalized height are unchanged (`pre`) -/
structure Trans (cd : Codecs) (base : Store) (baseH : Nat) (s : St) (c : Chain) (s' : St)
    (c' : Chain) : Prop where
  ref : Ref cd base baseH s' c'
  fin : ∃ f f' evs, finOf s.db = some f ∧ finOf s'.db = some f' ∧ s'.log = evs ++ s.log ∧
    IsChain f (finPairs evs) f'
  pre : ∀ f, finOf s.db = some f → ∀ h, h ≤ f → hdrSpec cd base c' h = hdrSpec cd base c h

theorem trans_same_fin_log {cd : Codecs} {base : Store} {baseH : Nat} {s s' : St} {c : Chain}
    (hR' : Ref cd base baseH s' c) (hfin : finOf s'.db = finOf s.db) (hlog : s'.log = s.log) :
    Trans cd base baseH s c s' c := by
  obtain ⟨f, hf, _, _⟩ := hR'.db.finOk
  exact ⟨hR', ⟨f, f, [], hfin ▸ hf, hf, by simp [hlog], rfl⟩, fun _ _ _ _ => rfl⟩

theorem trans_refl {cd : Codecs} {base : Store} {baseH : Nat} {s : St} {c : Chain}
    (hR : Ref cd base baseH s c) : Trans cd base baseH s c s c :=
  trans_same_fin_log hR rfl rfl

theorem trans_trans {cd : Codecs} {base : Store} {baseH : Nat} {s1 s2 s3 : St} {c1 c2 c3 : Chain}
    (h12 : Trans cd base baseH s1 c1 s2 c2) (h23 : Trans cd base baseH s2 c2 s3 c3) :
    Trans cd base baseH s1 c1 s3 c3 := by
  obtain ⟨f1, f2, e1, hf1, hf2, hl1, hc1⟩ := h12.fin
  obtain ⟨f2', f3, e2, hf2', hf3, hl2, hc2⟩ := h23.fin
  have : f2' = f2 := by rw [hf2] at hf2'; exact (Option.some.inj hf2').symm
  subst this
  refine ⟨h23.ref, ⟨f1, f3, e2 ++ e1, hf1, hf3, ?_, ?_⟩, ?_⟩
  · rw [hl2, hl1, List.append_assoc]
  · rw [finPairs_append]; exact isChain_append _ _ _ _ _ hc1 hc2
  · intro f hf h hle
    have hfe : f = f1 := by rw [hf1] at hf; exact (Option.some.inj hf).symm
    subst hfe
    have := isChain_le _ _ _ hc1
    rw [h23.pre f2' hf2 h (by omega), h12.pre f hf1 h hle]

/-! What a transition guarantees to an observer (the statements of C04, for any run that yields `Trans`) -/

/-- the finalized height does not decrease -/
theorem Trans.fin_le {cd : Codecs} {base : Store} {baseH : Nat} {s s' : St} {c c' : Chain}
    (h : Trans cd base baseH s c s' c') : ∃ f f', finOf s.db = some f ∧ finOf s'.db = some f' ∧ f ≤ f' := by
  obtain ⟨f, f', evs, h1, h2, _, h4⟩ := h.fin
  exact ⟨f, f', h1, h2, isChain_le _ _ _ h4⟩

/-- the header and the block id served for a height at or below the finalized height stay -/
theorem Trans.served {cd : Codecs} {base : Store} {baseH : Nat} {s s' : St} {c c' : Chain}
    (h : Trans cd base baseH s c s' c') (hbase : BaseOK cd base baseH) (hR : Ref cd base baseH s c)
    {f : Nat} (hf : finOf s.db = some f) {k : Nat} (hle : k ≤ f) :
    headerAt cd s' k = headerAt cd s k ∧ idAt cd s' k = idAt cd s k := by
  have hh : headerAt cd s' k = headerAt cd s k := by
    rw [headerAt_ref hbase h.ref k, headerAt_ref hbase hR k]
    exact h.pre f hf k hle
  exact ⟨hh, by unfold idAt; rw [hh]⟩

/-- in a refined state the marker lies between the base height and the tip, and the cached tip is at or above it -/
theorem Ref.fin_bounds {cd : Codecs} {base : Store} {baseH : Nat} {s : St} {c : Chain} (hR : Ref cd base baseH s c) :
    ∃ f, finOf s.db = some f ∧ baseH ≤ f ∧ f ≤ tipH baseH c ∧ ∀ t, s.cache.head? = some t → f ≤ t.hdr.height := by
  obtain ⟨f, hf, h1, h2⟩ := hR.db.finOk
  exact ⟨f, hf, h1, h2, fun t ht => by rw [hR.cache.head t ht]; exact h2⟩

/-! ### the chain after an operation (ghost state) -/

/-- the chain after `Executer.process` -/
def processC (cd : Codecs) (cfg : Cfg) (slot : Slot) (s : St) (c : Chain) (i : Incoming) : Chain :=
  match s.cache with
  | [] => c
  | tip :: _ =>
    match forkChoice slot tip.hdr i.block.hdr i.flags with
    | .valid =>
      if !i.staticValid then c
      else if (apply cd cfg s i.block i.valid i.exec false).2 = .ok then (i.block, i.exec) :: c else c
    | .tieBreak =>
      if !i.staticValid then c
      else if (deleteTip cd cfg s false).2 = .errWritten then c.tail
      else if (deleteTip cd cfg s false).2 = .ok then
        let s1 := (deleteTip cd cfg s false).1
        if (apply cd cfg s1 i.block i.valid i.exec false).2 = .ok then (i.block, i.exec) :: c.tail
        else
          let s2 := (apply cd cfg s1 i.block i.valid i.exec false).1
          if (apply cd cfg s2 tip i.oldValid i.oldExec false).2 = .ok then (tip, i.oldExec) :: c.tail
          else c.tail
      else c
    | _ => c

def stepC (cd : Codecs) (cfg : Cfg) (slot : Slot) (s : St) (c : Chain) : Op → Chain
  | .apply b v x rt => if (apply cd cfg s b v x rt).2 = .ok then (b, x) :: c else c
  | .deleteTip st =>
    if (deleteTip cd cfg s st).2 = .ok ∨ (deleteTip cd cfg s st).2 = .errWritten then c.tail else c
  | .restart => c
  | .process i => processC cd cfg slot s c i
  | .clearTemp => c

/-- hypotheses on the inputs of one operation, relative to the chain it is applied to -/
def OpOK (cd : Codecs) (cfg : Cfg) (slot : Slot) (base : Store) (s : St) (c : Chain) : Op → Prop
  | .apply b v x rt => (apply cd cfg s b v x rt).2 = .ok → StepOK cd base c b x
  | .process i =>
    match s.cache with
    | [] => True
    | tip :: _ =>
      match forkChoice slot tip.hdr i.block.hdr i.flags with
      | .valid => StepOK cd base c i.block i.exec
      | .tieBreak => StepOK cd base c.tail i.block i.exec ∧ StepOK cd base c.tail tip i.oldExec
      | _ => True
  | _ => True

def runC (cd : Codecs) (cfg : Cfg) (slot : Slot) : St → Chain → List Op → Chain
  | _, c, [] => c
  | s, c, op :: r => runC cd cfg slot (step cd cfg slot s op) (stepC cd cfg slot s c op) r

/-- the hypotheses `OpOK` along an operation sequence -/
def RunOK (cd : Codecs) (cfg : Cfg) (slot : Slot) (base : Store) : St → Chain → List Op → Prop
  | _, _, [] => True
  | s, c, op :: r =>
    OpOK cd cfg slot base s c op ∧
      RunOK cd cfg slot base (step cd cfg slot s op) (stepC cd cfg slot s c op) r

theorem run_cons (cd : Codecs) (cfg : Cfg) (slot : Slot) (s : St) (op : Op) (r : List Op) :
    run cd cfg slot s (op :: r) = run cd cfg slot (step cd cfg slot s op) r := rfl

theorem run_nil (cd : Codecs) (cfg : Cfg) (slot : Slot) (s : St) : run cd cfg slot s [] = s := rfl

theorem runC_cons (cd : Codecs) (cfg : Cfg) (slot : Slot) (s : St) (c : Chain) (op : Op) (r : List Op) :
    runC cd cfg slot s c (op :: r) =
      runC cd cfg slot (step cd cfg slot s op) (stepC cd cfg slot s c op) r := rfl

theorem runC_nil (cd : Codecs) (cfg : Cfg) (slot : Slot) (s : St) (c : Chain) :
    runC cd cfg slot s c [] = c := rfl

/-! ### `process` as a sequence of primitive operations -/

/-- an operation other than `process` -/
def Op.prim : Op → Prop
  | .process _ => False
  | _ => True

/-- the `processValidated` / `deleteBlock` calls `Executer.process` makes in state `s` -/
def processOps (cd : Codecs) (cfg : Cfg) (slot : Slot) (s : St) (i : Incoming) : List Op :=
  match s.cache with
  | [] => []
  | tip :: _ =>
    match forkChoice slot tip.hdr i.block.hdr i.flags with
    | .valid => if !i.staticValid then [] else [.apply i.block i.valid i.exec false]
    | .tieBreak =>
      if !i.staticValid then []
      else if (deleteTip cd cfg s false).2 = .ok then
        if (apply cd cfg (deleteTip cd cfg s false).1 i.block i.valid i.exec false).2 = .ok then
          [.deleteTip false, .apply i.block i.valid i.exec false]
        else
          [.deleteTip false, .apply i.block i.valid i.exec false, .apply tip i.oldValid i.oldExec false]
      else [.deleteTip false]
    | _ => []

/-- the shapes of `processOps`: nothing; or — the block passed `Block.Validate` — one `processValidated`, or
the tie-break sequence on the cached tip -/
theorem processOps_cases (cd : Codecs) (cfg : Cfg) (slot : Slot) (s : St) (i : Incoming) :
    processOps cd cfg slot s i = [] ∨ (i.staticValid = true ∧
      (processOps cd cfg slot s i = [.apply i.block i.valid i.exec false] ∨
       ∃ tip rest, s.cache = tip :: rest ∧
        (processOps cd cfg slot s i = [.deleteTip false] ∨
         ((deleteTip cd cfg s false).2 = .ok ∧
          (processOps cd cfg slot s i = [.deleteTip false, .apply i.block i.valid i.exec false] ∨
           processOps cd cfg slot s i =
            [.deleteTip false, .apply i.block i.valid i.exec false, .apply tip i.oldValid i.oldExec false]))))) := by
  unfold processOps
  cases hc : s.cache with
  | nil => exact Or.inl rfl
  | cons tip rest =>
    simp only
    cases forkChoice slot tip.hdr i.block.hdr i.flags with
    | valid => cases i.staticValid <;> simp
    | tieBreak =>
      cases i.staticValid with
      | false => exact Or.inl rfl
      | true =>
        refine Or.inr ⟨rfl, Or.inr ⟨tip, rest, rfl, ?_⟩⟩
        simp only [Bool.not_true, Bool.false_eq_true, if_false]
        split
        · rename_i hd
          split
          · exact Or.inr ⟨hd, Or.inl rfl⟩
          · exact Or.inr ⟨hd, Or.inr rfl⟩
        · exact Or.inl rfl
    | _ => exact Or.inl rfl

theorem processOps_prim (cd : Codecs) (cfg : Cfg) (slot : Slot) (s : St) (i : Incoming) :
    ∀ op ∈ processOps cd cfg slot s i, op.prim := by
  intro op hop
  rcases processOps_cases cd cfg slot s i with h | ⟨_, h | ⟨_, _, _, h | ⟨_, h | h⟩⟩⟩ <;> rw [h] at hop <;>
    simp only [List.mem_cons, List.not_mem_nil, or_false] at hop
  · rcases hop with rfl; trivial
  · rcases hop with rfl; trivial
  · rcases hop with rfl | rfl <;> trivial
  · rcases hop with rfl | rfl | rfl <;> trivial

/-- **`Executer.process` is the run of its primitive operations** — for the state, for the ghost chain and for
the hypotheses on the inputs; one walk through its branches. -/
theorem process_run (cd : Codecs) (cfg : Cfg) (slot : Slot) (base : Store) (s : St) (c : Chain) (i : Incoming) :
    (process cd cfg slot s i).1 = run cd cfg slot s (processOps cd cfg slot s i) ∧
    processC cd cfg slot s c i = runC cd cfg slot s c (processOps cd cfg slot s i) ∧
    (OpOK cd cfg slot base s c (.process i) → RunOK cd cfg slot base s c (processOps cd cfg slot s i)) := by
  unfold process processC processOps OpOK
  cases hc : s.cache with
  | nil => exact ⟨rfl, rfl, fun _ => trivial⟩
  | cons tip rest =>
    simp only
    cases hv : forkChoice slot tip.hdr i.block.hdr i.flags with
    | valid =>
      simp only
      cases hsv : i.staticValid with
      | false => exact ⟨rfl, rfl, fun _ => trivial⟩
      | true =>
        simp only [Bool.not_true, Bool.false_eq_true, if_false]
        refine ⟨?_, ?_, fun hok => ⟨fun _ => hok, trivial⟩⟩
        · rw [run_cons, run_nil]
          simp only [step]
          cases ha : apply cd cfg s i.block i.valid i.exec false with
          | mk s' r => cases r <;> rfl
        · rw [runC_cons, runC_nil]
          simp only [stepC]
    | tieBreak =>
      simp only
      cases hsv : i.staticValid with
      | false => exact ⟨rfl, rfl, fun _ => trivial⟩
      | true =>
        simp only [Bool.not_true, Bool.false_eq_true, if_false]
        have hs1 : step cd cfg slot s (.deleteTip false) = (deleteTip cd cfg s false).1 := rfl
        cases hd : deleteTip cd cfg s false with
        | mk s1 r1 =>
          rw [hd] at hs1
          cases r1 with
          | ok =>
            simp only [reduceCtorEq, if_false, if_true]
            have hc1 : stepC cd cfg slot s c (.deleteTip false) = c.tail := by
              simp only [stepC, hd, true_or, if_true]
            cases ha : apply cd cfg s1 i.block i.valid i.exec false with
            | mk s2 r2 =>
              by_cases hr2 : r2 = .ok
              · subst hr2
                simp only [if_true]
                refine ⟨?_, ?_, fun hok => ⟨trivial, ?_, trivial⟩⟩
                · rw [run_cons, run_cons, run_nil]; simp only [step, hd, ha]
                · rw [runC_cons, runC_cons, runC_nil]; simp only [stepC, step, hd, ha, true_or, if_true]
                · rw [hc1, hs1]; exact fun _ => hok.1
              · simp only [hr2, if_false]
                refine ⟨?_, ?_, fun hok => ⟨trivial, ?_, ?_, trivial⟩⟩
                · rw [run_cons, run_cons, run_cons, run_nil]
                  simp only [step, hd, ha]
                  cases r2 with
                  | ok => exact absurd rfl hr2
                  | _ => cases ha2 : apply cd cfg s2 tip i.oldValid i.oldExec false with
                    | mk s3 r3 => cases r3 <;> rfl
                · rw [runC_cons, runC_cons, runC_cons, runC_nil]
                  simp only [stepC, step, hd, ha, hr2, true_or, if_true, if_false]
                · rw [hc1, hs1]; exact fun _ => hok.1
                · rw [hc1, hs1]
                  simp only [stepC, step, ha, hr2, if_false]
                  exact fun _ => hok.2
          | _ =>
            simp only [reduceCtorEq, if_false, if_true]
            refine ⟨?_, ?_, fun _ => ⟨trivial, trivial⟩⟩
            · rw [run_cons, run_nil]; simp only [step, hd]
            · rw [runC_cons, runC_nil]; simp only [stepC, hd, reduceCtorEq, or_self, or_true, if_false, if_true]
    | _ => exact ⟨rfl, rfl, fun _ => trivial⟩

/-- `deleteBlock` calls need no hypotheses on their inputs -/
theorem runOK_deleteTips (cd : Codecs) (cfg : Cfg) (slot : Slot) (base : Store) (st : Bool) :
    ∀ (k : Nat) (s : St) (c : Chain), RunOK cd cfg slot base s c (List.replicate k (Op.deleteTip st))
  | 0, _, _ => trivial
  | k + 1, _, _ => ⟨trivial, runOK_deleteTips cd cfg slot base st k _ _⟩

theorem run_append (cd : Codecs) (cfg : Cfg) (slot : Slot) (s : St) (a b : List Op) :
    run cd cfg slot s (a ++ b) = run cd cfg slot (run cd cfg slot s a) b := by
  unfold run; rw [List.foldl_append]

theorem runC_append (cd : Codecs) (cfg : Cfg) (slot : Slot) : ∀ (a b : List Op) (s : St) (c : Chain),
    runC cd cfg slot s c (a ++ b) =
      runC cd cfg slot (run cd cfg slot s a) (runC cd cfg slot s c a) b := by
  intro a
  induction a with
  | nil => intro b s c; rfl
  | cons op r ih => intro b s c; simp only [List.cons_append, runC, run_cons]; exact ih b _ _

theorem runOK_append (cd : Codecs) (cfg : Cfg) (slot : Slot) (base : Store) :
    ∀ (a b : List Op) (s : St) (c : Chain), RunOK cd cfg slot base s c (a ++ b) ↔
      RunOK cd cfg slot base s c a ∧
      RunOK cd cfg slot base (run cd cfg slot s a) (runC cd cfg slot s c a) b := by
  intro a
  induction a with
  | nil => intro b s c; simp [RunOK, run, runC]
  | cons op r ih => intro b s c; simp only [List.cons_append, RunOK, run_cons, runC_cons, ih, and_assoc]

end LiskVerif.Node
