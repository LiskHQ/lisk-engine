/-
The simulation between `calculateSiblingHashes` (with its duplicate work-list entries, tamed by the "already
emitted / is an ancestor" tests) and `CalculateRoot`: the hashes emitted are exactly those consumed (`sim`).
-/
import LiskVerif.Lemmas.SMTMultiHonest

namespace LiskVerif.SMTVerify
open LiskVerif LiskVerif.SMT

/-! ### the simulation: `calculateSiblingHashes` emits exactly the hashes `CalculateRoot` consumes -/

/-- the positions `Qpos` of the proven nodes and the ancestor hashes `ancs` of `Prove` -/
structure AncCtx (H : HashFn) (keyLen : Nat) (es : List Entry) (Qpos : List Bits) (ancs : List Bytes) : Prop where
  proper : ∀ t ∈ Qpos, Proper es t
  fwd : ∀ t ∈ Qpos, ∀ z, z <+: t → descend es z = [] ∨ nh H (8 * keyLen) es z ∈ ancs
  bwd : ∀ a ∈ ancs, ∃ t ∈ Qpos, ∃ z, z <+: t ∧ descend es z ≠ [] ∧ a = nh H (8 * keyLen) es z
  nonempty : Qpos ≠ []

/-- the prover emits nothing for the sibling node at `z` -/
def NoEmit (H : HashFn) (keyLen : Nat) (es : List Entry) (ancs out : List Bytes) (z : Bits) : Prop :=
  descend es z = [] ∨ nh H (8 * keyLen) es z ∈ ancs ∨ nh H (8 * keyLen) es z ∈ out

/-- the verifier's work list during a run on an honest proof: the invariant of `CalculateRoot`, honest queries, no
position above another, every position above a proven node and every proven node below a position -/
structure VInv (H : HashFn) (keyLen : Nat) (es : List Entry) (Qpos : List Bits) (Vq : List QP) : Prop where
  inv : QInv keyLen Vq
  honest : ∀ v ∈ Vq, HonestQ H keyLen es v
  anti : ∀ v ∈ Vq, ∀ w ∈ Vq, v.binaryPath <+: w.binaryPath → v.binaryPath = w.binaryPath
  sub : ∀ v ∈ Vq, ∃ t ∈ Qpos, v.binaryPath <+: t
  cov : ∀ t ∈ Qpos, ∃ v ∈ Vq, v.binaryPath <+: t

/-- the two work lists: every position of the verifier's list is in the prover's; a position of the prover's list
that the verifier has left behind (`pInV`, second case) is the child of a position of the verifier's list whose
sibling will not be emitted; what was emitted (`emitted`) is the hash of a non-empty node beside the verifier's path -/
structure SimInv (H : HashFn) (keyLen : Nat) (es : List Entry) (Qpos : List Bits) (ancs : List Bytes)
    (Pq : List PQ) (Vq : List QP) (out : List Bytes) : Prop where
  psorted : Pq.Pairwise (fun a b => pqLe a b = true)
  phonest : ∀ p ∈ Pq, HonestP H keyLen es p
  v : VInv H keyLen es Qpos Vq
  vInP : ∀ v ∈ Vq, ∃ p ∈ Pq, p.binaryPath = v.binaryPath
  pInV : ∀ p ∈ Pq, (∃ v ∈ Vq, v.binaryPath = p.binaryPath) ∨
        (∃ X b, p.binaryPath = X ++ [b] ∧ (∃ v ∈ Vq, v.binaryPath = X) ∧ NoEmit H keyLen es ancs out (X ++ [!b]))
  emitted : ∀ a ∈ out, ∃ X b, a = nh H (8 * keyLen) es (X ++ [b]) ∧ Proper es (X ++ [b]) ∧ descend es (X ++ [b]) ≠ [] ∧
        (∀ v ∈ Vq, v.binaryPath ≠ X ++ [!b]) ∧ (∀ v ∈ Vq, v.height ≤ X.length + 1)

theorem insertAndMerge_mem {q : QP} {qs res : List QP} (h : insertAndMerge q qs = some res) :
    ∀ x ∈ res, x = q ∨ x ∈ qs := by
  intro x hx
  rcases insertAndMerge_some h with ⟨hres, _⟩ | ⟨hres, _⟩
  · rw [hres] at hx; exact Or.inr hx
  · rw [hres] at hx; exact (mem_insertAt _ _ _ _).mp hx

/-- the verifier's side of a step on the first query `v0` -/
theorem vstep_inv {H : HashFn} {n keyLen : Nat} {es : List Entry} (c : TreeCtx H n keyLen es) {Qpos : List Bits}
    {v0 : QP} {vrest Vq' : List QP} (hv : VInv H keyLen es Qpos (v0 :: vrest)) (h1 : 1 ≤ v0.height)
    (hins : insertAndMerge (climb H v0 (bmOf es v0.parent) (nh H (8 * keyLen) es v0.sib)) (dropPos v0.sib vrest)
      = some Vq') :
    VInv H keyLen es Qpos Vq' ∧
    (∀ v ∈ Vq', v ∈ dropPos v0.sib vrest ∨ v.binaryPath = v0.parent) ∧ (∀ v ∈ dropPos v0.sib vrest, v ∈ Vq') ∧
    (∃ e ∈ Vq', e.binaryPath = v0.parent) ∧ (∀ v ∈ Vq', v.height ≤ v0.height) ∧ mV Vq' < mV (v0 :: vrest) := by
  have h0 := hv.honest v0 (by simp)
  obtain ⟨hq', hq'p, hq'h⟩ := climb_honest c h0 h1
  have hy := h0.path_eq h1
  have hXl := h0.parent_length h1
  have hsubV : ∀ v ∈ dropPos v0.sib vrest, v ∈ v0 :: vrest := fun v h => List.mem_cons_of_mem _ (mem_dropPos.mp h).1
  obtain ⟨hinv2, hsub2, e, he, hep, _, _⟩ :=
    insertAndMerge_inv (hv.inv.tail.sublist List.filter_sublist) hq'.klen hq'.hle hins
  have hmem := insertAndMerge_mem hins
  have hmem' : ∀ v ∈ Vq', v ∈ dropPos v0.sib vrest ∨ v.binaryPath = v0.parent := by
    intro v hv'
    rcases hmem v hv' with rfl | h
    · exact Or.inr hq'p
    · exact Or.inl h
  have hheight : ∀ v ∈ Vq', v.height ≤ v0.height := by
    intro v hv'
    rcases hmem v hv' with rfl | h
    · rw [hq'h]; omega
    · exact height_le_head hv.inv.sorted (hsubV v h)
  -- a query of the rest whose position extends the parent position is at the parent position
  have hXpre : ∀ w ∈ dropPos v0.sib vrest, v0.parent <+: w.binaryPath → w.binaryPath = v0.parent := by
    intro w hw hpre
    have hwl := (hv.honest w (hsubV w hw)).path_length
    have hwle := height_le_head hv.inv.sorted (hsubV w hw)
    obtain ⟨t, ht⟩ := hpre
    match t, ht with
    | [], ht => simpa using ht.symm
    | [b], ht =>
      exfalso
      by_cases hb : b = v0.dir
      · exact (List.pairwise_cons.mp hv.inv.distinct).1 w (mem_dropPos.mp hw).1 (by rw [hy, ← ht, hb])
      · exact (mem_dropPos.mp hw).2 (by rw [← ht, Bool.eq_not_of_ne hb])
    | _ :: _ :: _, ht =>
      have := congrArg List.length ht
      simp at this; omega
  refine ⟨⟨hinv2, ?_, ?_, ?_, ?_⟩, hmem', hsub2, ⟨e, he, by rw [hep, hq'p]⟩, hheight, ?_⟩
  · intro v hv'
    rcases hmem v hv' with rfl | h
    · exact hq'
    · exact hv.honest v (hsubV v h)
  · intro v hv' w hw hpre
    rcases hmem' v hv' with hv'' | hv'' <;> rcases hmem' w hw with hw' | hw'
    · exact hv.anti v (hsubV v hv'') w (hsubV w hw') hpre
    · -- v in the rest, w at the parent position: then v is above the first query
      exfalso
      have := hv.anti v (hsubV v hv'') v0 (by simp)
        (by rw [hy]; exact List.IsPrefix.trans (hw' ▸ hpre) (List.prefix_append _ _))
      have hl := hpre.length_le
      rw [this, hw', hy] at hl
      simp at hl
      omega
    · rw [hv''] at hpre ⊢
      exact (hXpre w hw' hpre).symm
    · rw [hv'', hw']
  · intro v hv'
    rcases hmem' v hv' with hv'' | hv''
    · exact hv.sub v (hsubV v hv'')
    · obtain ⟨t, ht, hpre⟩ := hv.sub v0 (by simp)
      exact ⟨t, ht, hv'' ▸ List.IsPrefix.trans (by rw [hy]; exact List.prefix_append _ _) hpre⟩
  · intro t ht
    obtain ⟨v, hv', hpre⟩ := hv.cov t ht
    by_cases hd : v ∈ dropPos v0.sib vrest
    · exact ⟨v, hsub2 v hd, hpre⟩
    · -- `v` is the first query or its sibling: the new query at the parent position is above `t`
      have hX : v0.parent <+: v.binaryPath := by
        rcases List.mem_cons.mp hv' with rfl | hvr
        · rw [hy]; exact List.prefix_append _ _
        · rw [Classical.not_not.mp fun hne => hd (mem_dropPos.mpr ⟨hvr, hne⟩)]; exact List.prefix_append _ _
      exact ⟨e, he, by rw [hep, hq'p]; exact hX.trans hpre⟩
  · have := mV_insertAndMerge hins
    have := mV_dropPos_le v0.sib vrest
    rw [mV_cons]
    rw [hq'h] at *
    omega

theorem NoEmit.mono {H : HashFn} {keyLen : Nat} {es : List Entry} {ancs out out' : List Bytes} {z : Bits}
    (h : NoEmit H keyLen es ancs out z) (ho : ∀ a ∈ out, a ∈ out') : NoEmit H keyLen es ancs out' z :=
  h.imp_right (Or.imp_right (ho _))

/-- a step of both loops on a position that is the first of both work lists; `Y'` = what the prover emits -/
theorem sim_fresh {H : HashFn} {n keyLen : Nat} {es : List Entry} (c : TreeCtx H n keyLen es) {Qpos : List Bits}
    {ancs : List Bytes} {p : PQ} {rest : List PQ} {v0 : QP} {vrest : List QP} {out : List Bytes}
    (inv : SimInv H keyLen es Qpos ancs (p :: rest) (v0 :: vrest) out)
    (hpath : v0.binaryPath = p.binaryPath) (h1 : 1 ≤ v0.height) {Vq' : List QP} {Y' : List Bytes}
    (hins : insertAndMerge (climb H v0 (bmOf es v0.parent) (nh H (8 * keyLen) es v0.sib)) (dropPos v0.sib vrest)
      = some Vq')
    (hzNE : NoEmit H keyLen es ancs (out ++ Y') v0.sib)
    (hyNE : (∃ v ∈ vrest, v.binaryPath = v0.sib) → NoEmit H keyLen es ancs (out ++ Y') v0.binaryPath)
    (hY' : ∀ a ∈ Y', a = nh H (8 * keyLen) es v0.sib ∧ descend es v0.sib ≠ []) :
    SimInv H keyLen es Qpos ancs (insertAndFilter (pclimb H keyLen es p) rest) Vq' (out ++ Y') ∧
    mP (insertAndFilter (pclimb H keyLen es p) rest) < mP (p :: rest) ∧ mV Vq' < mV (v0 :: vrest) := by
  have h0 := inv.v.honest v0 (by simp)
  have hp := inv.phonest p (by simp)
  have hy := h0.path_eq h1
  have hXl := h0.parent_length h1
  have hph : p.toQP.height = v0.height := by
    rw [← hp.atNode.path_length, ← h0.path_length]; exact congrArg List.length hpath.symm
  have hp1 : 1 ≤ p.height := by rw [p.height_eq]; omega
  obtain ⟨hq'h, hq'p, hq'ht⟩ := pclimb_honest hp hp1
  have hpar : p.toQP.parent = v0.parent :=
    (List.append_inj' ((hp.atNode.path_eq hp1).symm.trans (hpath.symm.trans hy)) rfl).1
  rw [hpar] at hq'p
  have hrs : rest.Pairwise (fun a b => pqLe a b = true) := (List.pairwise_cons.mp inv.psorted).2
  obtain ⟨f1, f2, f3, f4, _⟩ := insertAndFilter_spec (pclimb H keyLen es p) hrs
  obtain ⟨g1, g2, g3, g4, g5, g6⟩ := vstep_inv c inv.v h1 hins
  have hsubV : ∀ v ∈ dropPos v0.sib vrest, v ∈ vrest := fun v h => (mem_dropPos.mp h).1
  have hrem : ∀ v ∈ vrest, v ∈ dropPos v0.sib vrest ∨ v.binaryPath = v0.sib := fun v hv =>
    (Classical.em (v.binaryPath = v0.sib)).symm.imp_left fun hne => mem_dropPos.mpr ⟨hv, hne⟩
  have hdist := (List.pairwise_cons.mp inv.v.inv.distinct).1
  -- the verifier's side is `vstep_inv`; left are the honesty of the prover's list, the measure, and the three clauses that
  -- tie the lists together: `vInP` and `pInV` are split on whether the member is the climbed query (now at the parent
  -- position), a member of the rest, or the dropped sibling; `emitted` on whether the hash was emitted before or in this step
  refine ⟨⟨f1, ?_, g1, ?_, ?_, ?_⟩, ?_, g6⟩
  · intro x hx
    rcases f2 x hx with rfl | h
    · exact hq'h
    · exact inv.phonest x (List.mem_cons_of_mem _ h)
  · intro v hv
    rcases g2 v hv with hv' | hv'
    · obtain ⟨x, hx, hxp⟩ := inv.vInP v (List.mem_cons_of_mem _ (hsubV v hv'))
      rcases List.mem_cons.mp hx with rfl | hxr
      · exact absurd (hpath.trans hxp) (hdist v (hsubV v hv'))
      · exact ⟨x, f3 x hxr, hxp⟩
    · rcases f4 with h | ⟨e, he, hep⟩
      · exact ⟨_, h, hq'p.trans hv'.symm⟩
      · exact ⟨e, f3 e he, by rw [hep, hq'p, hv']⟩
  · intro x hx
    rcases f2 x hx with rfl | hxr
    · obtain ⟨e, he, hep⟩ := g4
      exact Or.inl ⟨e, he, by rw [hep, hq'p]⟩
    · have hxh : x.toQP.height ≤ p.toQP.height := height_ge_of_qpLe (qpLe_head PQ.toQP inv.psorted (List.mem_cons_of_mem _ hxr))
      have hxl := (inv.phonest x (List.mem_cons_of_mem _ hxr)).atNode.path_length
      rcases inv.pInV x (List.mem_cons_of_mem _ hxr) with ⟨v, hv, hvp⟩ | ⟨X1, b1, hx1, ⟨v1, hv1, hv1p⟩, hne1⟩
      · rcases List.mem_cons.mp hv with rfl | hvr
        · exact Or.inr ⟨v.parent, v.dir, by rw [← hvp, hy], g4, hzNE⟩
        · rcases hrem v hvr with h | h
          · exact Or.inl ⟨v, g3 v h, hvp⟩
          · refine Or.inr ⟨v0.parent, !v0.dir, by rw [← hvp, h], g4, ?_⟩
            rw [Bool.not_not, ← hy]
            exact hyNE ⟨v, hvr, h⟩
      · have hlen : X1.length + 1 ≤ v0.height := by
          have : x.toQP.binaryPath.length = X1.length + 1 := by
            rw [show x.toQP.binaryPath = _ from hx1]; simp
          omega
        refine Or.inr ⟨X1, b1, hx1, ?_, hne1.mono fun a ha => List.mem_append_left _ ha⟩
        rcases List.mem_cons.mp hv1 with rfl | hvr
        · have := h0.path_length
          rw [hv1p] at this; omega
        · rcases hrem v1 hvr with h | h
          · exact ⟨v1, g3 v1 h, hv1p⟩
          · have := congrArg List.length (hv1p.symm.trans h)
            simp at this; omega
  · intro a ha
    rcases List.mem_append.mp ha with hao | haY
    · obtain ⟨X0, b0, e1, e2, e3, e4, e5⟩ := inv.emitted a hao
      have hh0 := e5 v0 (by simp)
      refine ⟨X0, b0, e1, e2, e3, ?_, fun v hv => Nat.le_trans (g5 v hv) hh0⟩
      intro v hv
      rcases g2 v hv with hv' | hv'
      · exact e4 v (List.mem_cons_of_mem _ (hsubV v hv'))
      · intro hcon
        have := congrArg List.length (hv'.symm.trans hcon)
        simp at this; omega
    · obtain ⟨rfl, hzne⟩ := hY' a haY
      refine ⟨v0.parent, !v0.dir, rfl, proper_sibling (h0.parent_branch h1) _, hzne, ?_, ?_⟩
      · intro v hv
        rw [Bool.not_not, ← hy]
        rcases g2 v hv with hv' | hv'
        · exact fun hcon => hdist v (hsubV v hv') hcon.symm
        · intro hcon
          have := congrArg List.length (hv'.symm.trans hcon)
          rw [h0.path_length] at this; omega
      · intro v hv
        have := g5 v hv
        omega
  · have := mP_insertAndFilter (pclimb H keyLen es p) hrs
    rw [mP_cons]
    rw [hq'ht] at this
    omega

/-- a step of the prover's loop on a position the verifier has already dealt with: nothing is emitted -/
theorem sim_stale {H : HashFn} {keyLen : Nat} {es : List Entry} {Qpos : List Bits}
    {ancs : List Bytes} {p : PQ} {rest : List PQ} {Vq : List QP} {out : List Bytes}
    (inv : SimInv H keyLen es Qpos ancs (p :: rest) Vq out) (h1 : 1 ≤ p.height)
    (hstale : ¬ ∃ v ∈ Vq, v.binaryPath = p.binaryPath) :
    SimInv H keyLen es Qpos ancs (insertAndFilter (pclimb H keyLen es p) rest) Vq out ∧
    mP (insertAndFilter (pclimb H keyLen es p) rest) < mP (p :: rest) ∧
    NoEmit H keyLen es ancs out p.toQP.sib := by
  have hp := inv.phonest p (by simp)
  obtain ⟨hq'h, hq'p, hq'ht⟩ := pclimb_honest hp h1
  have hrs : rest.Pairwise (fun a b => pqLe a b = true) := (List.pairwise_cons.mp inv.psorted).2
  obtain ⟨f1, f2, f3, f4, _⟩ := insertAndFilter_spec (pclimb H keyLen es p) hrs
  rcases inv.pInV p (by simp) with hfresh | ⟨X, b, hx, ⟨v, hv, hvp⟩, hne⟩
  · exact absurd hfresh hstale
  · obtain ⟨rfl, hb⟩ := List.append_inj' ((hp.atNode.path_eq h1).symm.trans hx) rfl
    obtain rfl : p.toQP.dir = b := by simpa using hb
    refine ⟨⟨f1, ?_, inv.v, ?_, ?_, inv.emitted⟩, ?_, hne⟩
    · intro x hx'
      rcases f2 x hx' with rfl | h
      · exact hq'h
      · exact inv.phonest x (List.mem_cons_of_mem _ h)
    · intro w hw
      obtain ⟨x, hx', hxp⟩ := inv.vInP w hw
      rcases List.mem_cons.mp hx' with rfl | hxr
      · exact absurd ⟨w, hw, hxp.symm⟩ hstale
      · exact ⟨x, f3 x hxr, hxp⟩
    · intro x hx'
      rcases f2 x hx' with rfl | hxr
      · exact Or.inl ⟨v, hv, by rw [hvp, hq'p]⟩
      · exact inv.pInV x (List.mem_cons_of_mem _ hxr)
    · have := mP_insertAndFilter (pclimb H keyLen es p) hrs
      rw [mP_cons]
      rw [hq'ht] at this
      omega

theorem proper_of_prefix {es : List Entry} {t z : Bits} (ht : Proper es t) (hz : z <+: t) : Proper es z := by
  obtain ⟨r, rfl⟩ := hz
  exact ((proper_append es z r).mp ht).1

theorem noEmit_flag {H : HashFn} {keyLen : Nat} {es : List Entry} {ancs out : List Bytes} {z : Bits}
    (h : NoEmit H keyLen es ancs out z) :
    (!(descend es z).isEmpty && !out.contains (nh H (8 * keyLen) es z) && !ancs.contains (nh H (8 * keyLen) es z))
      = false := by
  rcases h with h | h | h
  · simp [h]
  · have : ancs.contains (nh H (8 * keyLen) es z) = true := List.contains_iff_mem.mpr h
    simp only [this, Bool.not_true, Bool.and_false]
  · have : out.contains (nh H (8 * keyLen) es z) = true := List.contains_iff_mem.mpr h
    simp only [this, Bool.not_true, Bool.and_false, Bool.false_and]

/-- **The sibling hashes `Prove` emits are exactly those `CalculateRoot` consumes**: from related honest work
lists, the rest of the run of `calculateSiblingHashes` appends a list `Y` of hashes to its output with which the
loop of `CalculateRoot` reaches the root hash. -/
theorem sim {H : HashFn} {n keyLen : Nat} {es : List Entry} (c : TreeCtx H n keyLen es) {Qpos : List Bits}
    {ancs : List Bytes} (A : AncCtx H keyLen es Qpos ancs) :
    ∀ (fP : Nat) (Pq : List PQ) (Vq : List QP) (out : List Bytes) (fV : Nat),
      SimInv H keyLen es Qpos ancs Pq Vq out → mP Pq ≤ fP → mV Vq ≤ fV →
      ∃ Y, sibLoop ancs fP Pq out = out ++ Y ∧ calcLoop H fV Y Vq = some (nh H (8 * keyLen) es []) := by
  intro fP
  induction fP with
  | zero =>
    intro Pq Vq out fV inv hmP _
    exfalso
    obtain ⟨t, ht⟩ := List.exists_mem_of_ne_nil _ A.nonempty
    obtain ⟨v, hv, _⟩ := inv.v.cov t ht
    obtain ⟨x, hx, _⟩ := inv.vInP v hv
    cases Pq with
    | nil => simp at hx
    | cons p rest => rw [mP_cons] at hmP; omega
  | succ fP ih =>
    intro Pq Vq out fV inv hmP hmV
    obtain ⟨t, ht⟩ := List.exists_mem_of_ne_nil _ A.nonempty
    obtain ⟨vt, hvt, _⟩ := inv.v.cov t ht
    obtain ⟨xt, hxt, _⟩ := inv.vInP vt hvt
    match Pq, Vq, hxt, hvt with
    | p :: rest, v0 :: vrest, _, _ =>
    have hp := inv.phonest p (by simp)
    have h0 := inv.v.honest v0 (by simp)
    by_cases hp0 : p.height = 0
    · -- the prover's work list is at the root
      have hall : ∀ x ∈ p :: rest, x.bm = [] := by
        intro x hx
        have := height_ge_of_qpLe (qpLe_head PQ.toQP inv.psorted hx)
        exact List.length_eq_zero_iff.mp (show x.toQP.height = 0 by have := p.height_eq; omega)
      refine ⟨[], by rw [sibLoop_done ancs _ _ _ hall]; simp, ?_⟩
      have hv0 : ∀ v ∈ v0 :: vrest, v.binaryPath = [] := by
        intro v hv
        obtain ⟨x, hx, hxp⟩ := inv.vInP v hv
        have hxl := (inv.phonest x hx).atNode.path_length
        rw [show x.toQP.binaryPath = _ from hxp, show x.toQP.height = x.bm.length from rfl, hall x hx] at hxl
        exact List.length_eq_zero_iff.mp hxl
      obtain rfl : vrest = [] := by
        cases vrest with
        | nil => rfl
        | cons w _ =>
          exact absurd ((hv0 v0 (by simp)).trans (hv0 w (by simp)).symm)
            ((List.pairwise_cons.mp inv.v.inv.distinct).1 w (by simp))
      have hbm0 : v0.bm = [] := by
        have := h0.path_length
        rw [hv0 v0 (by simp)] at this
        exact List.length_eq_zero_iff.mp this.symm
      obtain ⟨f, rfl⟩ : ∃ f, fV = f + 1 := ⟨fV - 1, by rw [mV_cons] at hmV; omega⟩
      rw [calcLoop_succ_cons, hbm0]
      simp only [List.isEmpty_nil, ↓reduceIte]
      rw [h0.hash, hv0 v0 (by simp)]
    · have hp1 : 1 ≤ p.height := by omega
      by_cases hfresh : ∃ v ∈ v0 :: vrest, v.binaryPath = p.binaryPath
      · -- both loops work on the same position
        have hpath := head_same_path inv.psorted inv.phonest inv.v.inv inv.v.honest inv.vInP hfresh
        have h1 : 1 ≤ v0.height := by
          have e1 := hp.atNode.path_length
          have e2 := h0.path_length
          rw [show p.toQP.binaryPath = _ from hpath.symm] at e1
          have := p.height_eq
          omega
        have hy := h0.path_eq h1
        have hsib : p.toQP.sib = v0.sib := by
          have := List.append_inj' ((hp.atNode.path_eq hp1).symm.trans (hpath.symm.trans hy)) rfl
          unfold QP.sib
          rw [this.1, (List.cons.inj this.2).1]
        have hzP : Proper es v0.sib := proper_sibling (h0.parent_branch h1) _
        obtain ⟨f, rfl⟩ : ∃ f, fV = f + 1 := ⟨fV - 1, by rw [mV_cons] at hmV; omega⟩
        obtain ⟨Vq', hins⟩ := insertAndMerge_honest (climb_honest c h0 h1).1
          fun e he => inv.v.honest e (List.mem_cons_of_mem _ (mem_dropPos.mp he).1)
        rw [sibLoop_step hp hp1, hsib]
        -- a node above a proven node is empty or among the ancestors: nothing is emitted for it
        have hanc : ∀ v ∈ v0 :: vrest, NoEmit H keyLen es ancs out v.binaryPath := by
          intro v hv
          obtain ⟨t', ht', hpre⟩ := inv.v.sub v hv
          exact (A.fwd t' ht' _ hpre).imp_right Or.inl
        -- what the prover emits (`Y'`) is what the verifier consumes
        obtain ⟨Y', hflag, hstep, hzNE, hyNE, hY'⟩ : ∃ Y' : List Bytes,
            (if (!(descend es v0.sib).isEmpty && !out.contains (nh H (8 * keyLen) es v0.sib) &&
                !ancs.contains (nh H (8 * keyLen) es v0.sib)) then out ++ [nh H (8 * keyLen) es v0.sib] else out)
              = out ++ Y' ∧
            ((((∃ v ∈ vrest, v.binaryPath = v0.sib) ∨ descend es v0.sib = []) ∧ Y' = []) ∨
              ((¬ ∃ v ∈ vrest, v.binaryPath = v0.sib) ∧ descend es v0.sib ≠ [] ∧
                Y' = [nh H (8 * keyLen) es v0.sib])) ∧
            NoEmit H keyLen es ancs (out ++ Y') v0.sib ∧
            ((∃ v ∈ vrest, v.binaryPath = v0.sib) → NoEmit H keyLen es ancs (out ++ Y') v0.binaryPath) ∧
            (∀ a ∈ Y', a = nh H (8 * keyLen) es v0.sib ∧ descend es v0.sib ≠ []) := by
          by_cases hzV : ∃ v ∈ vrest, v.binaryPath = v0.sib
          · -- the sibling is in the verifier's list: merged
            obtain ⟨s, hs, hsp⟩ := hzV
            have hzNE := hsp ▸ hanc s (List.mem_cons_of_mem _ hs)
            exact ⟨[], by rw [noEmit_flag hzNE]; simp, Or.inl ⟨Or.inl ⟨s, hs, hsp⟩, rfl⟩, by simpa using hzNE,
              fun _ => by simpa using hanc v0 (by simp), by simp⟩
          · by_cases hze : descend es v0.sib = []
            · -- empty sibling node
              exact ⟨[], by rw [noEmit_flag (Or.inl hze)]; simp, Or.inl ⟨Or.inr hze, rfl⟩, Or.inl hze,
                fun h => absurd h hzV, by simp⟩
            · -- the sibling hash is emitted by the prover and consumed by the verifier
              have hzV' : ¬ ∃ v ∈ v0 :: vrest, v.binaryPath = v0.sib := by
                rintro ⟨v, hv, hvp⟩
                rcases List.mem_cons.mp hv with rfl | hvr
                · have := (List.append_inj' (hy.symm.trans hvp) rfl).2
                  simp at this
                · exact hzV ⟨v, hvr, hvp⟩
              have hnanc : nh H (8 * keyLen) es v0.sib ∉ ancs := by
                intro hmem
                obtain ⟨t', ht', z', hz'pre, hz'ne, hz'eq⟩ := A.bwd _ hmem
                obtain rfl : v0.sib = z' :=
                  nh_injective c.hlen c.wfe c.ncT c.klen c.path hzP (proper_of_prefix (A.proper t' ht') hz'pre)
                    hze hz'eq
                obtain ⟨v, hv, hvpre⟩ := inv.v.cov t' ht'
                have hvl := (inv.v.honest v hv).path_length
                have hvh := height_le_head inv.v.inv.sorted hv
                have hzl : v0.sib.length = v0.height := h0.sib_length h1
                rcases List.prefix_or_prefix_of_prefix hvpre hz'pre with hpre | hpre
                · by_cases hlen : v.binaryPath.length = v0.sib.length
                  · exact hzV' ⟨v, hv, hpre.eq_of_length hlen⟩
                  · have hpy : v.binaryPath <+: v0.binaryPath := by
                      rw [hy]
                      exact (List.prefix_of_prefix_length_le hpre (List.prefix_append _ _)
                        (by rw [h0.parent_length h1]; omega)).trans (List.prefix_append _ _)
                    have := inv.v.anti v hv v0 (by simp) hpy
                    rw [this, h0.path_length] at hlen
                    omega
                · exact hzV' ⟨v, hv, (hpre.eq_of_length (by have := hpre.length_le; omega)).symm⟩
              have hnout : nh H (8 * keyLen) es v0.sib ∉ out := by
                intro hmem
                obtain ⟨X0, b0, e1, e2, e3, e4, _⟩ := inv.emitted _ hmem
                obtain ⟨hX0, hb0⟩ := List.append_inj'
                  (nh_injective c.hlen c.wfe c.ncT c.klen c.path hzP e2 hze e1) rfl
                simp only [List.cons.injEq, and_true] at hb0
                exact e4 v0 (by simp) (by rw [hy, ← hX0, ← hb0, Bool.not_not])
              refine ⟨[nh H (8 * keyLen) es v0.sib], ?_, Or.inr ⟨hzV, hze, rfl⟩, Or.inr (Or.inr (by simp)),
                fun h => absurd h hzV, by simp [hze]⟩
              have h1' : (descend es v0.sib).isEmpty = false := List.isEmpty_eq_false_iff.mpr hze
              rw [h1', Bool.eq_false_iff.mpr fun hc => hnout (List.contains_iff_mem.mp hc),
                Bool.eq_false_iff.mpr fun hc => hnanc (List.contains_iff_mem.mp hc)]
              rfl
        obtain ⟨inv', hmP', hmV'⟩ := sim_fresh c inv hpath h1 hins hzNE hyNE hY'
        rw [hflag]
        obtain ⟨Y, hY1, hY2⟩ := ih _ _ (out ++ Y') f inv' (by rw [mP_cons] at hmP hmP'; omega)
          (by rw [mV_cons] at hmV hmV'; omega)
        refine ⟨Y' ++ Y, by rw [hY1, List.append_assoc], ?_⟩
        rw [calcLoop_step c inv.v.inv inv.v.honest h1 hstep, hins]
        exact hY2
      · -- the prover works on a position the verifier has finished
        obtain ⟨inv', hmP', hne⟩ := sim_stale inv hp1 hfresh
        rw [sibLoop_step hp hp1, noEmit_flag hne]
        simp only [Bool.false_eq_true, ↓reduceIte]
        exact ih _ _ out fV inv' (by rw [mP_cons] at hmP hmP'; omega) hmV

end LiskVerif.SMTVerify
