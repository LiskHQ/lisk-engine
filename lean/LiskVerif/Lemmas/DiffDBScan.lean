/-
Scans of the diffdb model in key order.  Membership in `cacheLive`, for the scan refinement theorem
(Props/C12_Scan.lean).  The key-sorted arrangement of a list with distinct keys is unique
(`sortDir_eq_of_perm`, `sortDir_eq_of_mem_iff`): two stores with the same entries scan alike; used by
Props/C12_Scan, `DiffDBMore` and Props/C16_More.  The reverse prefix scan of a database with limit 1
returns the entry with the largest key under the prefix (`dbIterate_one_rev`, for `Lemmas/NodeLoad`).
-/
import LiskVerif.Lemmas.DiffDB
import LiskVerif.Lemmas.Order

namespace LiskVerif.DiffDB

/-! ### `cacheLive` -/

/-- the value `cacheLive` lists for an overlay entry -/
def liveVal (f : Bytes → Bool) (k : Bytes) (cv : CV) : Option Bytes :=
  if !cv.deleted && f k then some cv.value else none

theorem cacheLive_eq (c : Cache) (f : Bytes → Bool) :
    cacheLive c f = c.filterMap fun e => (liveVal f e.1 e.2).map (e.1, ·) := by
  unfold cacheLive liveVal
  congr 1; funext e
  split <;> rfl

theorem nodup_cacheLive (c : Cache) (f : Bytes → Bool) (h : NoDupKeys c) :
    NoDupKeys (cacheLive c f) := by
  rw [cacheLive_eq]; exact nodup_filterMap (liveVal f) h

theorem mem_cacheLive (c : Cache) (f : Bytes → Bool) (h : NoDupKeys c) (k v : Bytes) :
    (k, v) ∈ cacheLive c f ↔
      ∃ cv, clookup c k = some cv ∧ cv.deleted = false ∧ f k = true ∧ cv.value = v := by
  rw [cacheLive_eq, clookup_eq_get, mem_filterMap_assoc (liveVal f) h]
  simp only [liveVal, Bool.and_eq_true, Bool.not_eq_eq_eq_not, Bool.not_true,
    Option.ite_none_right_eq_some, Option.some.injEq, and_assoc]

/-! ### the key-sorted arrangement of a list with distinct keys is unique -/

theorem kvLE_trans (a b c : KV) (h1 : kvLE a b = true) (h2 : kvLE b c = true) : kvLE a c = true :=
  ble_trans _ _ _ h1 h2
theorem kvLE_total (a b : KV) : (kvLE a b || kvLE b a) = true := ble_total _ _
theorem kvGE_trans (a b c : KV) (h1 : kvGE a b = true) (h2 : kvGE b c = true) : kvGE a c = true :=
  ble_trans _ _ _ h2 h1
theorem kvGE_total (a b : KV) : (kvGE a b || kvGE b a) = true := ble_total _ _

/-- scans return the keys in order -/
theorem sortDir_sorted (l : List KV) :
    (sortDir l false).Pairwise (fun x y => ble x.1 y.1 = true) ∧
    (sortDir l true).Pairwise (fun x y => ble y.1 x.1 = true) :=
  ⟨isort_pairwise _ kvLE_trans kvLE_total l, isort_pairwise _ kvGE_trans kvGE_total l⟩

theorem sortDir_eq_of_perm (A B : List KV) (hA : NoDupKeys A) (hp : A.Perm B) (rev : Bool) :
    sortDir A rev = sortDir B rev := by
  -- a sorted list is determined by its elements when the order is antisymmetric on them
  have key : ∀ le : KV → KV → Bool, (∀ a b, le a b = true → le b a = true → a.1 = b.1) →
      (isort le A).Pairwise (fun x y => le x y = true) →
      (isort le B).Pairwise (fun x y => le x y = true) → isort le A = isort le B := by
    intro le anti pA pB
    refine ((isort_perm le A).trans (hp.trans (isort_perm le B).symm)).eq_of_pairwise
      (fun a b ha hb hab hba => ?_) pA pB
    exact inj_of_nodup_map Prod.fst hA.alist ((mem_isort le A a).mp ha)
      (hp.mem_iff.mpr ((mem_isort le B b).mp hb)) (anti a b hab hba)
  unfold sortDir
  cases rev with
  | false => exact key kvLE (fun _ _ => ble_antisymm _ _) (sortDir_sorted A).1 (sortDir_sorted B).1
  | true =>
    exact key kvGE (fun _ _ h1 h2 => ble_antisymm _ _ h2 h1) (sortDir_sorted A).2 (sortDir_sorted B).2

/-- two lists with distinct keys and the same entries have the same sorted arrangement -/
theorem sortDir_eq_of_mem_iff (A B : List KV) (hA : NoDupKeys A) (hB : NoDupKeys B)
    (h : ∀ e, e ∈ A ↔ e ∈ B) (rev : Bool) : sortDir A rev = sortDir B rev :=
  sortDir_eq_of_perm A B hA
    ((List.perm_ext_iff_of_nodup (AList.nodup_of_nodupKeys hA.alist) (AList.nodup_of_nodupKeys hB.alist)).mpr h) rev

/-- the reverse scan with limit 1 returns the entry with the largest key under the prefix -/
theorem dbIterate_one_rev {db : Store} (hnd : NoDupKeys db) {p k v : Bytes} (hm : (k, v) ∈ db)
    (hp : hasPrefix k p = true) (hmax : ∀ kv ∈ db, hasPrefix kv.1 p = true → ble kv.1 k = true) :
    dbIterate db p 1 true = [(k, v)] := by
  unfold dbIterate applyLimit sortDir
  have hnl : ¬ ((1 : Int) < 0) := by omega
  simp only [if_true, Int.toNat_one, hnl, if_false]
  have hmem : ∀ x, x ∈ isort kvGE (db.filter fun kv => hasPrefix kv.1 p) ↔ x ∈ db ∧ hasPrefix x.1 p = true :=
    fun x => (mem_isort _ _ x).trans List.mem_filter
  have hpw := isort_pairwise kvGE kvGE_trans kvGE_total (db.filter fun kv => hasPrefix kv.1 p)
  cases hS : isort kvGE (db.filter fun kv => hasPrefix kv.1 p) with
  | nil => exact absurd ((hmem (k, v)).mpr ⟨hm, hp⟩) (by rw [hS]; exact List.not_mem_nil)
  | cons x r =>
    rw [hS] at hpw
    obtain ⟨hxdb, hxp⟩ := (hmem x).mp (by rw [hS]; exact List.mem_cons_self)
    -- the first entry is at least the entry of `k`, and no prefixed key is above `k`
    have hx2 : ble k x.1 = true := by
      rcases List.mem_cons.mp (hS ▸ (hmem (k, v)).mpr ⟨hm, hp⟩) with he | he
      · rw [← he]; unfold ble; rw [bcmp_self]; decide
      · exact (List.pairwise_cons.mp hpw).1 _ he
    obtain rfl : x = (k, v) :=
      inj_of_nodup_map Prod.fst hnd.alist hxdb hm (ble_antisymm _ _ (hmax x hxdb hxp) hx2)
    rfl

end LiskVerif.DiffDB
