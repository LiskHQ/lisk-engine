/-
Positions of the canonical tree of a map: the hash `nh` of the node at a position, positions of nodes (`Proper`),
bitmap `bmOf` and sibling hashes `sibsOf` of a position, what `generateQueryProof` returns (`queryInfo_spec`), and
different non-empty nodes have different hashes (`nh_injective`).
-/
import LiskVerif.Model.SMTVerify
import LiskVerif.Lemmas.SMTNodes

namespace LiskVerif.SMTVerify
open LiskVerif LiskVerif.SMT

/-! ### positions in the canonical tree -/

/-- the entries below the child in direction `b` -/
def goB (b : Bool) (es : List Entry) : List Entry := if b then goR es else goL es

theorem descend_cons (es : List Entry) (b : Bool) (r : Bits) : descend es (b :: r) = descend (goB b es) r := rfl

theorem descend_snoc (es : List Entry) (p : Bits) (b : Bool) : descend es (p ++ [b]) = goB b (descend es p) := by
  rw [descend_append]; rfl

theorem length_descend_le (es : List Entry) : ∀ (p : Bits), (descend es p).length ≤ es.length :=
  SMT.length_descend_le es

theorem length_goB_add (es : List Entry) (h : ∀ e ∈ es, e.path ≠ []) (b : Bool) :
    (goB b es).length + (goB (!b) es).length = es.length := by
  have := length_goL_add_goR es h
  cases b <;> simp [goB] <;> omega

/-- hash of the node at position `p` (`D` = number of key bits) -/
def nh (H : HashFn) (D : Nat) (es : List Entry) (p : Bits) : Bytes := root H (D - p.length) (descend es p)

theorem nh_cons (H : HashFn) (D : Nat) (es : List Entry) (b : Bool) (p : Bits) :
    nh H (D + 1) es (b :: p) = nh H D (goB b es) p := by
  simp [nh, descend_cons]

/-- `p` is the position of a node of the canonical tree: every proper prefix is a branch -/
def Proper : List Entry → Bits → Prop
  | _, [] => True
  | es, b :: r => 2 ≤ es.length ∧ Proper (goB b es) r

theorem proper_append (es : List Entry) : ∀ (p q : Bits), Proper es (p ++ q) ↔ Proper es p ∧ Proper (descend es p) q
  | [], q => by simp [Proper, descend]
  | b :: p, q => by
    simp only [List.cons_append, Proper, descend_cons]
    rw [proper_append _ p q]
    exact and_assoc.symm

theorem proper_snoc (es : List Entry) (p : Bits) (b : Bool) :
    Proper es (p ++ [b]) ↔ Proper es p ∧ 2 ≤ (descend es p).length := by
  rw [proper_append]; simp [Proper]

/-- every proper prefix of a node position is a branch -/
theorem proper_prefix_branch {es : List Entry} {p : Bits} (hp : Proper es p) {q : Bits} {b : Bool} {r : Bits}
    (h : p = q ++ b :: r) : Proper es q ∧ 2 ≤ (descend es q).length := by
  subst h
  rw [proper_append] at hp
  exact ⟨hp.1, hp.2.1⟩

/-- a branch node is not at the bottom level -/
theorem branch_depth {D : Nat} {es : List Entry} (hw : WFE D es) {p : Bits} (hl : p.length ≤ D)
    (h2 : 2 ≤ (descend es p).length) : p.length < D := by
  have hwd := wfe_descend p hw hl
  by_cases h : p.length < D
  · exact h
  · have h0 : D - p.length = 0 := by omega
    rw [h0] at hwd
    have := wfe_zero_length hwd
    omega

theorem proper_length : ∀ {D : Nat} {es : List Entry} (_ : WFE D es) {p : Bits}, Proper es p → p.length ≤ D
  | _, _, _, [], _ => by simp
  | D, es, hw, b :: r, hp => by
    cases D with
    | zero => have := wfe_zero_length hw; have := hp.1; omega
    | succ D =>
      have := proper_length (wfe_child hw b) hp.2
      simp; omega

/-- the hash of a branch node from the hashes of its children -/
theorem nh_branch (H : HashFn) {D : Nat} {es : List Entry} (hw : WFE D es) {p : Bits} (hl : p.length ≤ D)
    (h2 : 2 ≤ (descend es p).length) :
    nh H D es p = branchHash H (nh H D es (p ++ [false])) (nh H D es (p ++ [true])) := by
  have hlt := branch_depth hw hl h2
  unfold nh
  have : D - p.length = (D - (p.length + 1)) + 1 := by omega
  rw [this, root_succ_two H _ _ h2, descend_snoc, descend_snoc]
  simp [goB]

/-! ### the bitmap and the sibling hashes of a position -/

/-- bitmap of position `p`, deepest level first: is the sibling on that level non-empty? -/
def bmOf : List Entry → Bits → Bits
  | _, [] => []
  | es, b :: r => bmOf (goB b es) r ++ [!(goB (!b) es).isEmpty]

theorem bmOf_length (es : List Entry) : ∀ (p : Bits), (bmOf es p).length = p.length
  | [] => rfl
  | b :: r => by simp [bmOf, bmOf_length _ r]

theorem bmOf_snoc (es : List Entry) : ∀ (p : Bits) (b : Bool),
    bmOf es (p ++ [b]) = (!(descend es (p ++ [!b])).isEmpty) :: bmOf es p
  | [], b => by cases b <;> simp [bmOf, descend, goB]
  | c :: p, b => by
    simp only [List.cons_append, bmOf, descend_cons]
    rw [bmOf_snoc _ p b]
    simp

/-- the non-empty sibling hashes of position `p`, top level first -/
def sibsOf (H : HashFn) : Nat → List Entry → Bits → List Bytes
  | _, _, [] => []
  | d, es, b :: r =>
    (if (goB (!b) es).isEmpty then [] else [root H (d - 1) (goB (!b) es)]) ++ sibsOf H (d - 1) (goB b es) r

theorem sibsOf_snoc (H : HashFn) : ∀ (D : Nat) (es : List Entry) (p : Bits) (b : Bool),
    sibsOf H D es (p ++ [b]) = sibsOf H D es p ++
      (if (descend es (p ++ [!b])).isEmpty then [] else [nh H D es (p ++ [!b])])
  | D, es, [], b => by cases b <;> simp [sibsOf, descend, goB, nh]
  | D, es, c :: p, b => by
    simp only [List.cons_append, sibsOf, descend_cons]
    rw [sibsOf_snoc H (D - 1) _ p b]
    simp only [nh, List.length_append, List.length_cons, List.length_nil, descend_cons, List.append_assoc]
    have : D - 1 - (p.length + (0 + 1)) = D - (p.length + (0 + 1) + 1) := by omega
    rw [this]

/-! ### what `generateQueryProof` returns -/

theorem hash_buildH (H : HashFn) : ∀ (d : Nat) (es : List Entry), (buildH H d es).hash H = root H d es
  | _, [] => by simp [buildH, HT.hash]
  | _, [e] => by simp [buildH, HT.hash]
  | 0, _ :: _ :: _ => by simp [buildH, HT.hash, root]
  | d + 1, e₁ :: e₂ :: es => by
    have h1 := hash_buildH H d (goL (e₁ :: e₂ :: es))
    have h2 := hash_buildH H d (goR (e₁ :: e₂ :: es))
    show branchHash H ((buildH H d (goL (e₁ :: e₂ :: es))).hash H) ((buildH H d (goR (e₁ :: e₂ :: es))).hash H) = _
    rw [h1, h2]; simp [root]

theorem isEmpty_buildH (H : HashFn) {d : Nat} {es : List Entry} (hw : WFE d es) :
    (buildH H d es).isEmpty = es.isEmpty := by
  match d, es, hw with
  | _, [], _ => simp [buildH, HT.isEmpty]
  | _, [e], _ => simp [buildH, HT.isEmpty]
  | 0, _ :: _ :: _, hw => have := wfe_zero_length hw; simp at this
  | d + 1, _ :: _ :: _, _ => simp [buildH, HT.isEmpty]

theorem buildH_succ_two (H : HashFn) (d : Nat) (es : List Entry) (h : 2 ≤ es.length) :
    buildH H (d + 1) es = .branch (branchHash H ((buildH H d (goL es)).hash H) ((buildH H d (goR es)).hash H))
      (buildH H d (goL es)) (buildH H d (goR es)) := by
  match es, h with
  | _ :: _ :: _, _ => simp [buildH]

/-- the walk of `generateQueryProof` down the canonical tree: the node reached is a node of the tree (empty, or a
leaf), bitmap / sibling hashes / ancestor hashes are those of its position -/
theorem queryInfo_spec (H : HashFn) (qk : Bytes) :
    ∀ (d : Nat) (es : List Entry) (q : Bits), WFE d es → q.length = d → (∀ e ∈ es, e.value ≠ []) →
      ∀ pq, queryInfo H qk (buildH H d es) q = pq →
      pq.bm.length ≤ d ∧ Proper es (q.take pq.bm.length) ∧ pq.bm = bmOf es (q.take pq.bm.length) ∧
      pq.sibs = sibsOf H d es (q.take pq.bm.length) ∧
      ((pq.value = [] ∧ pq.key = qk ∧ descend es (q.take pq.bm.length) = []) ∨
       (∃ e, descend es (q.take pq.bm.length) = [e] ∧ pq.key = e.key ∧ pq.value = e.value)) ∧
      (∀ a, a ∈ pq.anc ↔ ∃ j, j ≤ pq.bm.length ∧ descend es (q.take j) ≠ [] ∧ a = nh H d es (q.take j)) := by
  intro d es q hw
  induction d, es, hw using WFE.node_induction generalizing q with
  | nil d _ => intro _ _ pq hpq; subst hpq; cases d <;> simp [buildH, queryInfo, Proper, bmOf, sibsOf, descend]
  | single d e _ =>
    intro _ hv pq hpq
    have := hv e (by simp)
    subst hpq; cases d <;> simp [buildH, queryInfo, Proper, bmOf, sibsOf, descend, nh]
  | branch d es hw h2 ih =>
    intro hq hv pq hpq
    match q, hq with
    | b :: qr, hq =>
      · have hgo : (if b = true then goR es else goL es) = goB b es := rfl
        obtain ⟨i1, i2, i3, i4, i5, i6⟩ := ih b qr (by simpa using hq)
          (kv_child (P := fun _ v => v ≠ []) hv b) _ rfl
        simp only [hgo] at i1 i2 i3 i4 i5 i6
        have hsub : (if b = true then buildH H d (goR es) else buildH H d (goL es)) = buildH H d (goB b es) := by
          cases b <;> rfl
        have hsib : (if b = true then buildH H d (goL es) else buildH H d (goR es)) = buildH H d (goB (!b) es) := by
          cases b <;> rfl
        rw [buildH_succ_two H d es h2] at hpq
        have hwb : WFE d (goB (!b) es) := wfe_child hw (!b)
        simp only [queryInfo, hsub, hsib, hash_buildH, isEmpty_buildH H hwb] at hpq
        subst hpq
        generalize queryInfo H qk (buildH H d (goB b es)) qr = pq at *
        simp only [List.length_append, List.length_singleton, List.take_succ_cons]
        refine ⟨by omega, ⟨h2, i2⟩, ?_, ?_, i5, ?_⟩
        · simp only [bmOf]; rw [← i3]
        · simp only [sibsOf, Nat.add_sub_cancel]; rw [← i4]
        · -- the ancestors: the node itself (`j = 0`) and those below the child
          have h0 : ∀ a, a = branchHash H (root H d (goL es)) (root H d (goR es)) ↔
              descend es [] ≠ [] ∧ a = nh H (d + 1) es [] := by
            intro a
            have : es ≠ [] := fun h0 => by rw [h0] at h2; simp at h2
            simp [nh, descend, root_succ_two H d es h2, this]
          intro a
          rw [List.mem_cons, i6, h0]
          constructor
          · rintro (ha | ⟨j, hj, hne, ha⟩)
            · exact ⟨0, by omega, ha⟩
            · exact ⟨j + 1, by omega, hne, by rw [ha, List.take_succ_cons, nh_cons]⟩
          · rintro ⟨j, hj, ha⟩
            cases j with
            | zero => exact Or.inl ha
            | succ j => exact Or.inr ⟨j, by omega, ha.1, by rw [ha.2, List.take_succ_cons, nh_cons]⟩

/-! ### different nodes have different hashes (for a hash without collisions on the inputs of the tree) -/

theorem treeInputs_descend_subset (H : HashFn) : ∀ (p : Bits) {D : Nat} {es : List Entry}, WFE D es → Proper es p →
    ∀ b ∈ treeInputs H (D - p.length) (descend es p), b ∈ treeInputs H D es
  | [], _, _, _, _ => by simp [descend]
  | c :: p, D, es, hw, hp => by
    intro b hb
    rcases root_pre H hw with ⟨a1, _⟩ | ⟨e, a1, _⟩ | ⟨_, d', hd, _, _, aL, aR⟩
    · have := hp.1; rw [a1] at this; simp at this
    · have := hp.1; rw [a1] at this; simp at this
    · subst hd
      simp only [List.length_cons, descend_cons] at hb
      rw [show d' + 1 - (p.length + 1) = d' - p.length by omega] at hb
      have := treeInputs_descend_subset H p (wfe_child hw c) hp.2 b hb
      cases c
      · exact aL b this
      · exact aR b this

/-- **different non-empty nodes of the canonical tree have different hashes** when `H` has no collision among the
inputs hashed to compute the root -/
theorem nh_injective {H : HashFn} {n : Nat} (hlen : ∀ x, (H x).length = n) {D : Nat} {es : List Entry}
    (hw : WFE D es) (hnc : NoColl H (treeInputs H D es) (treeInputs H D es)) {kl : Nat}
    (hk : ∀ e ∈ es, e.key.length = kl) (hpath : ∀ e ∈ es, e.path = keyBits e.key) {p q : Bits}
    (hp : Proper es p) (hq : Proper es q) (hpe : descend es p ≠ [])
    (h : nh H D es p = nh H D es q) : p = q := by
  -- equal node hashes: equal tree heights and a common key; a common key makes one position a prefix of the other,
  -- and a position strictly below a branch has a lower tree
  have hpl := proper_length hw hp
  have hql := proper_length hw hq
  have kp := kv_descend (P := fun k _ => k.length = kl) hk p
  have kq := kv_descend (P := fun k _ => k.length = kl) hk q
  have hinj : ∀ a b, a ∈ treeInputs H D es → b ∈ treeInputs H D es → H a = H b → a = b := fun a b ha hb => hnc a ha b hb
  have wp := wfe_descend p hw hpl
  have wq := wfe_descend q hw hql
  have tp := treeInputs_descend_subset H p hw hp
  have tq := treeInputs_descend_subset H q hw hq
  have hht := root_eq_ht hlen hinj _ _ _ _ wp wq tp tq h
  obtain ⟨e1, he1⟩ := List.exists_mem_of_ne_nil _ hpe
  obtain ⟨e2, he2, hk21, -⟩ := root_keys_subset hlen hinj kl _ _ _ _ wp wq tp tq kp kq h e1 he1
  have hk12 := hk21.symm
  have hbits : p ++ e1.path = q ++ e2.path := by
    rw [← keyBits_mem_descend hpath he1, ← keyBits_mem_descend hpath he2, hk12]
  have hpre1 : p <+: p ++ e1.path := List.prefix_append _ _
  have hpre2 : q <+: p ++ e1.path := by rw [hbits]; exact List.prefix_append _ _
  rcases List.prefix_or_prefix_of_prefix hpre1 hpre2 with ⟨t, ht'⟩ | ⟨t, ht'⟩
  · cases t with
    | nil => simpa using ht'
    | cons b r =>
      exfalso
      have h2 := (proper_prefix_branch hq ht'.symm).2
      have := ht_descend_lt p b r (by rw [ht']; exact hql) h2
      rw [ht'] at this
      omega
  · cases t with
    | nil => simpa using ht'.symm
    | cons b r =>
      exfalso
      have h2 := (proper_prefix_branch hp ht'.symm).2
      have := ht_descend_lt q b r (by rw [ht']; exact hpl) h2
      rw [ht'] at this
      omega

end LiskVerif.SMTVerify
