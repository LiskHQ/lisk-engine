/-
C09 — address texts with arbitrary bytes (pkg/codec/bytes.go: `ValidateLisk32`, `Lisk32ToBytes`,
`Lisk32.UnmarshalJSON`, `BytesToLisk32`).

`codec.Lisk32` is the JSON type of every address parameter of the JSON-RPC endpoints; `router.Invoke` runs the
handler — and with it `json.Unmarshal` → `Lisk32.UnmarshalJSON` → `Lisk32ToBytes` — in a goroutine without
`recover`, so a panic while decoding an address text terminates the node. The text is an arbitrary byte string:
the length check is on BYTES, the loops are over RUNES, and the lookups go through `strings.Index` on the
re-encoded rune.

`Model/Lisk32Text.lean` follows the source construct by construct with Go's run-time panics explicit (slice
expressions, table indexing, the unchecked second lookup of `Lisk32ToBytes`). Theorems, for ALL byte strings:
  * no panic outcome is reachable (`C09_lisk32_total`), because every slice is guarded by the byte-length check
    and every looked-up value is -1 or a position inside the 32-entry alphabet (`C09_lisk32_lookup_guard`);
  * the text-level model equals the byte-level model of `Model/Lisk32.lean` (`C09_lisk32_text_refines_bytes`),
    so the C08 round-trip theorems hold for what Go computes on arbitrary bytes;
  * a text with any byte ≥ 0x80 behind the prefix is rejected, whatever UTF-8 shape it has;
  * the only place that indexes the alphabet table (`uint5ToLisk32`) is always in range.
Tie B: pseudo-property C09TEXT (harness/c09/text.go) runs the real functions and this model (Driver/Text.lean) on
all 256 byte values at every position of valid addresses, on multi-byte / invalid UTF-8 substitutions and on JSON
escapes.
-/
import LiskVerif.Lemmas.Lisk32Text

open LiskVerif LiskVerif.Lisk32 LiskVerif.Lisk32Text

/-! ### the guards -/

/-- **Lookup guard.** For every rune `strings.Index(lisk32Charset, string(c))` is -1 or a position inside the
32-entry alphabet, and only ASCII runes are found: a value that passes the `index < 0` check is a valid index of
any table of the alphabet's size and a valid 5-bit quantity. -/
theorem C09_lisk32_lookup_guard (r : Nat) :
    charIdx r = -1 ∨ (0 ≤ charIdx r ∧ charIdx r < 32 ∧ r < 0x80) :=
  charIdx_guard r

/-- the partial table lookup `lisk32Charset[v]` of `uint5ToLisk32` is defined exactly on the values below 32 -/
theorem C09_lisk32_table_defined_iff (v : Nat) : tableGet charset v ≠ .panic ↔ v < 32 := by
  constructor
  · intro h
    unfold tableGet at h
    cases hg : charset[v]? with
    | none => simp [hg] at h
    | some c =>
      have := (List.getElem?_eq_some_iff.mp hg).1
      rwa [charset_length] at this
  · intro h
    rw [tableGet_charset v h]
    simp

/-- the slices `val[3:]` and `val[3:35]` are in range whenever the byte-length check passed -/
theorem C09_lisk32_slices_in_range (s : Bytes) (h : s.length = 41) :
    slice s 3 s.length = .ok (s.drop 3) ∧ slice s 3 35 = .ok ((s.drop 3).take 32) := by
  unfold slice
  constructor
  · rw [if_pos ⟨by omega, Nat.le_refl _⟩, List.take_length]
  · rw [if_pos ⟨by omega, by omega⟩, List.drop_take]

/-! ### text level = byte level -/

/-- `ValidateLisk32` on an arbitrary byte string: the verdict of the byte-level model -/
theorem C09_lisk32_validate_refines (s : Bytes) :
    goValidate s = if validate s then .ok () else .err := by
  unfold goValidate validate
  by_cases hl : s.length = 41
  · have h1 : ¬ (s.length ≠ 41) := by omega
    rw [if_neg h1, if_neg h1, (C09_lisk32_slices_in_range s hl).1]
    simp only [runes]
    rw [lookupAll_runes _ _ (Nat.le_refl _)]
    cases hm : (s.drop 3).mapM charIndex with
    | none => rfl
    | some u5 =>
      simp only [Option.map_some, map_toNat_ofNat_int]
      by_cases hp : polymod u5 = 1
      · rw [if_neg (by simp [hp])]; simp [hp]
      · rw [if_pos hp]; simp [hp]
  · rw [if_pos hl, if_pos hl]; rfl

/-- `Lisk32ToBytes` on an arbitrary byte string: the result of the byte-level model -/
theorem C09_lisk32_tobytes_refines (s : Bytes) :
    goToBytes s = match lisk32ToBytes s with | some b => .ok b | none => .err := by
  unfold goToBytes lisk32ToBytes
  by_cases h0 : s.length = 0
  · rw [if_pos h0, if_pos h0]
  · rw [if_neg h0, if_neg h0, C09_lisk32_validate_refines]
    by_cases hv : validate s = true
    · obtain ⟨hl, all, hm, _⟩ := validate_true s hv
      obtain ⟨e1, e2⟩ := mapM_charIndex_some _ _ hm
      have ht : (s.drop 3).take 32 = (all.take 32).map charOf := by rw [e1, List.map_take]
      have hlt : ∀ v ∈ all.take 32, v < 32 := fun v hv => e2 v (List.mem_of_mem_take hv)
      simp only [hv, if_true, Bool.not_true, Bool.false_eq_true, if_false,
        (C09_lisk32_slices_in_range s hl).2]
      rw [ht, mapM_charIndex_map _ hlt]
      simp only [runes]
      rw [map_charIdx_runes _ _ hlt (by simp), convertInts_ofNat]
    · have hv' : validate s = false := by simpa using hv
      simp [hv']

/-- **Text level = byte level**, for every byte string: what Go computes through rune iteration,
re-encoding and substring search is what the byte-level model (and the C08 theorems about it) describe. -/
theorem C09_lisk32_text_refines_bytes (s : Bytes) :
    (goValidate s = if validate s then .ok () else .err) ∧
    (goToBytes s = match lisk32ToBytes s with | some b => .ok b | none => .err) :=
  ⟨C09_lisk32_validate_refines s, C09_lisk32_tobytes_refines s⟩

/-- `BytesToLisk32`: the table lookups are always in range (20 bytes give 32 + 6 values below 32) -/
theorem C09_lisk32_frombytes_refines (b : Bytes) :
    goFromBytes b = match bytesToLisk32 b with | some s => .ok s | none => .err := by
  unfold goFromBytes
  by_cases h0 : b.length = 0
  · rw [if_pos h0]; unfold bytesToLisk32; rw [if_pos h0]
  · by_cases h20 : b.length = 20
    · rw [if_neg h0, if_neg (by omega), bytesToLisk32_eq b h20]
      show (match lookupTable (u5Of b ++ createChecksum (u5Of b)) with
        | .ok r => Res.ok (lskPrefix ++ r) | .err => .err | .panic => .panic) = _
      rw [lookupTable_ok _ (checksummed_lt _ (u5Of_props b h20).2.1)]
    · rw [if_neg h0, if_pos h20]; unfold bytesToLisk32; rw [if_neg h0, if_pos h20]

/-! ### totality -/

/-- **Totality on all byte strings**: `ValidateLisk32`, `Lisk32ToBytes`, `Lisk32.UnmarshalJSON` (whatever string
`encoding/json` produced, or none) and `BytesToLisk32` return a value or an error — the panic outcome of the
model (slice out of range, table index out of range) is unreachable. -/
theorem C09_lisk32_total (s : Bytes) :
    goValidate s ≠ .panic ∧ goToBytes s ≠ .panic ∧ goFromBytes s ≠ .panic ∧
      ∀ d : Option Bytes, goUnmarshal d ≠ .panic := by
  have hv : ∀ t : Bytes, goValidate t ≠ .panic := by
    intro t; rw [C09_lisk32_validate_refines]; split <;> simp
  have hb : ∀ t : Bytes, goToBytes t ≠ .panic := by
    intro t; rw [C09_lisk32_tobytes_refines]; split <;> simp
  refine ⟨hv s, hb s, ?_, ?_⟩
  · rw [C09_lisk32_frombytes_refines]; split <;> simp
  · intro d
    cases d with
    | none => simp [goUnmarshal]
    | some t => exact hb t

/-! ### consequences for hostile texts -/

/-- an accepted text has 41 bytes and only alphabet characters (hence only ASCII) behind the prefix -/
theorem C09_lisk32_accepted_is_alphabet_text (s : Bytes) (h : goValidate s = .ok ()) :
    s.length = 41 ∧ ∀ c ∈ s.drop 3, c ∈ charset := by
  rw [C09_lisk32_validate_refines] at h
  have hv : validate s = true := by
    by_cases hv : validate s = true
    · exact hv
    · rw [if_neg hv] at h; cases h
  obtain ⟨hl, all, hm, _⟩ := validate_true s hv
  obtain ⟨e1, e2⟩ := mapM_charIndex_some _ _ hm
  refine ⟨hl, fun c hc => ?_⟩
  rw [e1] at hc
  obtain ⟨v, hv1, rfl⟩ := List.mem_map.mp hc
  exact charOf_mem v (e2 v hv1)

/-- **Every byte ≥ 0x80 behind the prefix is answered with an error** — a multi-byte character that keeps the
byte length at 41, an invalid UTF-8 byte, a truncated sequence: all the same. -/
theorem C09_lisk32_non_ascii_rejected (s : Bytes) (c : UInt8) (hc : c ∈ s.drop 3) (h80 : 0x80 ≤ c.toNat) :
    goValidate s = .err ∧ (s.length ≠ 0 → goToBytes s = .err) := by
  have hne : goValidate s ≠ .ok () := by
    intro hok
    have := charset_ascii c ((C09_lisk32_accepted_is_alphabet_text s hok).2 c hc)
    omega
  have hv : validate s = false := by
    rw [C09_lisk32_validate_refines] at hne
    by_cases hv : validate s = true
    · rw [if_pos hv] at hne; exact absurd rfl hne
    · simpa using hv
  constructor
  · rw [C09_lisk32_validate_refines, hv]; rfl
  · intro h0
    rw [C09_lisk32_tobytes_refines]
    unfold lisk32ToBytes
    rw [if_neg h0, hv]
    rfl

/-! ### non-vacuity -/

/-- a valid address is accepted and decoded … -/
example : goValidate "lskgr5tu9283t77x8d27g8e95zwqgkc3sogx4zazd".toUTF8.toList = .ok () ∧
    (match goToBytes "lskgr5tu9283t77x8d27g8e95zwqgkc3sogx4zazd".toUTF8.toList with
      | .ok b => b.length == 20 | _ => false) = true := by
  decide +kernel

/-- … the same text with "é" in place of two characters (still 41 bytes: the failing input of seeded change
C09-11) is an error, not a panic; so are an invalid byte and a truncated sequence at the end -/
example : goValidate "lské5tu9283t77x8d27g8e95zwqgkc3sogx4zazd".toUTF8.toList = .err ∧
    goToBytes ("lskgr5tu9283t77x8d27g8e95zwqgkc3sogx4zaz".toUTF8.toList ++ [0xff]) = .err ∧
    goToBytes ("lskgr5tu9283t77x8d27g8e95zwqgkc3sogx4za".toUTF8.toList ++ [0xe2, 0x82]) = .err := by
  decide +kernel

/-- the lookup guard is not vacuous: 'z' is found at 0, 'g' at 31, "é" and U+FFFD are not found -/
example : charIdx 0x7a = 0 ∧ charIdx 0x67 = 31 ∧ charIdx 0xe9 = -1 ∧ charIdx runeError = -1 := by
  decide +kernel
