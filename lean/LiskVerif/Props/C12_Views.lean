/-
C12 — snapshots taken, restored and deleted THROUGH prefix views (Model/DiffDBViews.lean).

"restoring a snapshot returns exactly the staged state at the time of the snapshot … for all interleavings of
set/del/get/range/iterate/snapshot/restore over several prefix views".

* `C12_views_restore_exact`      — a snapshot taken through any view handle and restored through it after ANY
  sequence of reads, writes, snapshots, restores and deletions through any handles (root included) that does not
  restore or delete THAT snapshot puts back exactly the overlay of the time of the snapshot; the persisted store
  is untouched by every such operation, so every read (a function of store and overlay) returns what it returned
  then — through every handle, because there is one overlay and `RestoreSnapshot` writes through the shared
  pointer (a restore that replaces only the handle's pointer breaks this: the defect fixed by 5a39fd4).
* `C12_views_ids_fresh`          — ids handed out through one handle are never reused while held.
* `C12_views_tables_independent` — snapshot operations through one handle leave the tables of the others alone
  (equal ids coexist).
* `C12_views_shared_table_loses_snapshot` — the variant with ONE table shared by all handles and a counter per
  handle (struct copy in `WithPrefix`, seeded change C12-19): a view snapshot overwrites the root snapshot of the
  same id and the root's restore returns a LATER state.
-/
import LiskVerif.Model.DiffDBViews
import LiskVerif.Props.C12_More

open LiskVerif LiskVerif.DiffDB

namespace LiskVerif.DiffDB

/-- ids in the view tables are below the handle's counter -/
def VInv (v : VSt) : Prop := ∀ e ∈ v.vsnaps, e.1.2 < vcount v.vcounts e.1.1

theorem findV_eq_get : findV = AList.get := by
  funext l k; induction l <;> simp only [findV, AList.get, *]

theorem findV_filter_ne (l : List ((Bytes × Nat) × Cache)) (k k' : Bytes × Nat) (h : k' ≠ k) :
    findV (l.filter (fun e => e.1 ≠ k')) k = findV l k := by
  rw [findV_eq_get]; exact (AList.get_erase l k' k).trans (if_neg (Ne.symm h))

theorem findV_none_of_not_mem (l : List ((Bytes × Nat) × Cache)) (k : Bytes × Nat)
    (h : ∀ e ∈ l, e.1 ≠ k) : findV l k = none := by
  rw [findV_eq_get]
  exact AList.get_eq_none_iff.mpr fun hm => by
    obtain ⟨e, he, hk⟩ := List.mem_map.mp hm
    exact h e he hk

theorem vcount_cons_self (l : List (Bytes × Nat)) (p : Bytes) (n : Nat) : vcount ((p, n) :: l) p = n := by
  simp [vcount]

theorem vcount_cons_ne (l : List (Bytes × Nat)) (p q : Bytes) (n : Nat) (h : q ≠ p) :
    vcount ((q, n) :: l) p = vcount l p := by
  simp [vcount, h]

/-- one step is a step of the root store (the tables of the views stay as they are), a new snapshot
under the counter of a view handle, or the removal of one key from the table of the views -/
theorem vstep_cases (v : VSt) (o : VOp) :
    (∃ st, st.store = v.st.store ∧ vstep v o = { v with st := st }) ∨
    (∃ p, vstep v o = { v with vsnaps := ((p, vcount v.vcounts p), v.st.cache) :: v.vsnaps,
                               vcounts := (p, vcount v.vcounts p + 1) :: v.vcounts }) ∨
    ∃ key st, st.store = v.st.store ∧ o.touches key.1 key.2 = true ∧
      vstep v o = { v with st := st, vsnaps := v.vsnaps.filter (fun e => e.1 ≠ key) } := by
  cases o with
  | base o => exact Or.inl ⟨_, step_store v.st o, rfl⟩
  | vsnap p =>
    by_cases hp : p = []
    · exact Or.inl ⟨(snapshot v.st).1, rfl, by rw [vstep, vsnapshot, if_pos hp]⟩
    · exact Or.inr (Or.inl ⟨p, by rw [vstep, vsnapshot, if_neg hp]⟩)
  | vrestore p id =>
    rw [vstep, vrestore]
    by_cases hp : p = []
    · exact Or.inl ⟨(restore v.st id).1, (restore_frame v.st id).1, by rw [if_pos hp]⟩
    · rw [if_neg hp]
      cases findV v.vsnaps (p, id) with
      | none => exact Or.inl ⟨v.st, rfl, rfl⟩
      | some c => exact Or.inr (Or.inr ⟨(p, id), { v.st with cache := c }, rfl, by simp [VOp.touches], rfl⟩)
  | vdelete p id =>
    rw [vstep, vdelete]
    by_cases hp : p = []
    · exact Or.inl ⟨deleteSnapshot v.st id, rfl, by rw [if_pos hp]⟩
    · exact Or.inr (Or.inr ⟨(p, id), v.st, rfl, by simp [VOp.touches], by rw [if_neg hp]⟩)

theorem VInv_vstep (v : VSt) (o : VOp) (h : VInv v) : VInv (vstep v o) := by
  rcases vstep_cases v o with ⟨st, _, e⟩ | ⟨p, e⟩ | ⟨key, st, _, _, e⟩ <;> rw [e]
  · exact h
  · intro e he
    rcases List.mem_cons.mp he with rfl | he
    · simp [vcount]
    · have := h e he
      by_cases hq : p = e.1.1
      · rw [← hq] at this ⊢; simp [vcount]; omega
      · simp [vcount, hq]; exact this
  · exact fun e he => h e (List.mem_filter.mp he).1

/-- one step keeps the entry of a view snapshot it does not touch -/
theorem vstep_keeps (v : VSt) (o : VOp) (p : Bytes) (id : Nat) (c : Cache)
    (hid : id < vcount v.vcounts p)
    (hf : findV v.vsnaps (p, id) = some c) (ht : o.touches p id = false) :
    findV (vstep v o).vsnaps (p, id) = some c ∧ id < vcount (vstep v o).vcounts p := by
  rcases vstep_cases v o with ⟨st, _, e⟩ | ⟨q, e⟩ | ⟨key, st, _, hk, e⟩ <;> rw [e]
  · exact ⟨hf, hid⟩
  · have hne : (q, vcount v.vcounts q) ≠ (p, id) := fun h => by
      injection h with h1 h2; subst h1; omega
    refine ⟨by simp [findV, hne, hf], ?_⟩
    by_cases hqp : q = p
    · subst hqp; simp [vcount]; omega
    · simp [vcount, hqp]; exact hid
  · have hne : key ≠ (p, id) := fun h => by rw [h, ht] at hk; cases hk
    exact ⟨by rw [findV_filter_ne _ _ _ hne]; exact hf, hid⟩

theorem vrun_keeps (ops : List VOp) (v : VSt) (p : Bytes) (id : Nat) (c : Cache)
    (hid : id < vcount v.vcounts p) (hf : findV v.vsnaps (p, id) = some c)
    (ht : ∀ o ∈ ops, o.touches p id = false) :
    findV (vrun v ops).vsnaps (p, id) = some c :=
  (List.foldlRecOn (motive := fun w : VSt => findV w.vsnaps (p, id) = some c ∧ id < vcount w.vcounts p) ops _
    ⟨hf, hid⟩ fun w hw o ho => vstep_keeps w o p id c hw.2 hw.1 (ht o ho)).1

theorem vstep_store (v : VSt) (o : VOp) : (vstep v o).st.store = v.st.store := by
  rcases vstep_cases v o with ⟨st, hs, e⟩ | ⟨p, e⟩ | ⟨key, st, hs, _, e⟩ <;> rw [e]
  · exact hs
  · exact hs

theorem vrun_store (ops : List VOp) (v : VSt) : (vrun v ops).st.store = v.st.store :=
  List.foldlRecOn (motive := fun w : VSt => w.st.store = v.st.store) ops _ rfl fun w hw o _ => (vstep_store w o).trans hw

end LiskVerif.DiffDB

/-- Restoring a view snapshot after any history that does not restore / delete that very snapshot puts back exactly
the overlay of the time of the snapshot; the persisted store is the one of that time too. -/
theorem C12_views_restore_exact (v : VSt) (p : Bytes) (ops : List VOp) (hp : p ≠ []) (hinv : VInv v)
    (ht : ∀ o ∈ ops, o.touches p (vsnapshot v p).2 = false) :
    let v1 := vrun (vsnapshot v p).1 ops
    (vrestore v1 p (vsnapshot v p).2).2 = true ∧
    (vrestore v1 p (vsnapshot v p).2).1.st.cache = v.st.cache ∧
    (vrestore v1 p (vsnapshot v p).2).1.st.store = v.st.store := by
  intro v1
  have hs : vsnapshot v p = (({ v with vsnaps := ((p, vcount v.vcounts p), v.st.cache) :: v.vsnaps,
                                       vcounts := (p, vcount v.vcounts p + 1) :: v.vcounts } : VSt),
      vcount v.vcounts p) := by
    unfold vsnapshot; simp [hp]
  have hfind : findV (vsnapshot v p).1.vsnaps (p, (vsnapshot v p).2) = some v.st.cache := by
    rw [hs]; simp [findV]
  have hid : (vsnapshot v p).2 < vcount (vsnapshot v p).1.vcounts p := by
    rw [hs]; simp [vcount]
  have hkept := vrun_keeps ops (vsnapshot v p).1 p (vsnapshot v p).2 v.st.cache hid hfind ht
  have hstore : v1.st.store = v.st.store := by
    have h1 := vrun_store ops (vsnapshot v p).1
    rw [show (vsnapshot v p).1.st.store = v.st.store from by rw [hs]] at h1
    exact h1
  have hkept' : findV v1.vsnaps (p, (vsnapshot v p).2) = some v.st.cache := hkept
  unfold vrestore
  simp only [hp, if_false, hkept']
  exact ⟨trivial, trivial, hstore⟩

/-- ids handed out through one view handle are fresh: the invariant "every held id is below the counter" holds
along every history, and a new snapshot gets the counter as its id. -/
theorem C12_views_ids_fresh (ops : List VOp) (store : Store) (p : Bytes) (hp : p ≠ []) :
    let v := vrun { st := { store := store } } ops
    ∀ e ∈ v.vsnaps, e.1 ≠ (p, (vsnapshot v p).2) := by
  intro v e he
  have hinv : VInv v := by
    exact List.foldlRecOn (motive := VInv) ops _ (by intro e he; simp at he) fun w hw o _ => VInv_vstep w o hw
  have hlt := hinv e he
  have hs : (vsnapshot v p).2 = vcount v.vcounts p := by unfold vsnapshot; simp [hp]
  intro heq
  rw [hs] at heq
  have h1 : e.1.1 = p := by rw [heq]
  have h2 : e.1.2 = vcount v.vcounts p := by rw [heq]
  rw [h1] at hlt
  omega

/-- Snapshot operations through one handle leave the snapshots held through another handle alone (equal ids
coexist): after a snapshot through `q ≠ p`, a snapshot held through `p` is still found, with the same content. -/
theorem C12_views_tables_independent (v : VSt) (p q : Bytes) (id : Nat) (c : Cache) (hq : q ≠ []) (hpq : q ≠ p)
    (hf : findV v.vsnaps (p, id) = some c) :
    findV (vsnapshot v q).1.vsnaps (p, id) = some c ∧
    findV (vdelete v q id).vsnaps (p, id) = some c := by
  constructor
  · unfold vsnapshot
    simp only [hq, if_false]
    have hne : (q, vcount v.vcounts q) ≠ (p, id) := by intro h; injection h with h1 _; exact hpq h1
    simp [findV, hne, hf]
  · unfold vdelete
    simp only [hq, if_false]
    have hne : (q, id) ≠ (p, id) := by intro h; injection h with h1 _; exact hpq h1
    rw [findV_filter_ne _ _ _ hne]; exact hf

/-- Non-vacuity: a view snapshot, a write through another view, a root snapshot with the same id, then the
restore through the view: the write is gone. -/
example :
    let v0 : VSt := { st := { store := [([1, 1], [7])] } }
    let s := vsnapshot v0 [1]
    let v1 := vrun s.1 [.base (.set [2, 9] [5]), .vsnap [], .vsnap [2]]
    (vrestore v1 [1] s.2).2 = true ∧ (vrestore v1 [1] s.2).1.st.cache = [] := by decide +kernel

/-- The seeded variant (one table shared by all handles, a counter per handle): the root takes snapshot 0 of the
empty overlay, a view takes ITS snapshot 0 after a write — the shared table now holds the later state under id 0
and the root's restore of its snapshot returns the overlay WITH the write. -/
theorem C12_views_shared_table_loses_snapshot :
    let c1 : Cache := [([2, 9], { init := none, value := [5], dirty := true, deleted := false })]
    let s0 : SharedSt := { cache := [] }
    let r := sharedSnapshot s0 []                       -- root: id 0, empty overlay
    let s1 : SharedSt := { r.1 with cache := c1 }       -- a write through some view
    let w := sharedSnapshot s1 [1]                      -- view [1]: id 0 again
    r.2 = 0 ∧ w.2 = 0 ∧ (sharedRestore w.1 0).1.cache = c1 ∧ (sharedRestore w.1 0).1.cache ≠ s0.cache := by
  decide +kernel
