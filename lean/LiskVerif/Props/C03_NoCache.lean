/-
C03 — a rejected (or merely staged) block leaves nothing behind in component memory that changes the verdict on a
later block (tie A + the reason).

Props/C03.lean proves for the model that a block is accepted iff it satisfies every rule (`C03_accept_iff_spec`)
and that a rejected block leaves the state untouched (`C03_reject_leaves_state`).  There the verdict is a FUNCTION of
(state, block): the model has no place where a candidate could leave anything.  The real acceptance path runs
through objects that live across blocks — `liskbft.Module` with its `API` (every getter of the validatorsHash check,
of the aggregate-commit check and of the generator's `sealBlock` is a method of the one `API` object created by
`NewModule`), `consensus.Executer`, `blockchain.Chain` — and these getters are called on STAGED stores:
`processValidated` reads `GetBFTParameters(consensusStore, height+1)` right after `abi.Execute` staged the block's
parameters, pkg/generator does the same for its own candidate.  A store that is dropped cannot take a struct field
with it.  The model's theorems carry over to the behaviour of the node only if the getters compute from the store
they are handed.

Part 1 (semantics, all machines and candidate sequences; the generic machine of Props/C05_NoCache.lean): if the
persistent effect of offering a block does not depend on the component memory (`ReadsPersistedOnly`), then after ANY
sequence of rejected blocks and of candidates computed on dropped stores the persistent state and the chain are
what they were and the verdict on every next block is the verdict of a fresh node on the same persistent state; with
deletions restoring the state (`DeleteInverts`) also after any history before them.  A toy `GetBFTParameters` that
memoizes by the height the parameters are stored at — the persistent state is left exactly as it was by every
rejected block — accepts the block that carries the REJECTED block's validatorsHash and refuses the right one.

Part 2 (tie A): tools/compgen regenerates `Gen/CompState.lean` from the source on every check run; the theorems
state the exact field, method, write and initialiser tables of `liskbft.API` / `liskbft.Endpoint`, who holds a
reference to the BFT module, and that the package has no package-level memo: a memo field (with or without its
mutex), a helper method that fills it, a write to a receiver field outside `init`, a package-level map breaks a
named theorem.  Model-free counterpart on the real node: harness/c03/memo.go (C03MEMO).
-/
import LiskVerif.Props.C05_NoCache

/-! ## Part 1: rejected candidates leave no trace in the verdict -/

namespace LiskVerif.NoHidden

variable {P H B : Type}

/-- every step of the sequence is a block the node rejects, or a candidate computed on a store that is dropped -/
def allRejected (m : Machine P H B) : NodeSt P H B → List (Hist B) → Prop
  | _, [] => True
  | w, x :: t =>
    (match x with
     | .block b => (m.apply w.p w.h b).1 = none
     | .candidate _ => True
     | .delete => False
     | .restart => False) ∧ allRejected m (hstep m w x) t

private theorem hrun_append (m : Machine P H B) (w : NodeSt P H B) (a b : List (Hist B)) :
    hrun m w (a ++ b) = hrun m (hrun m w a) b := by
  unfold hrun; exact List.foldl_append

/-- rejected blocks and dropped candidates change neither the persistent state nor the chain -/
theorem rejected_keep_state (m : Machine P H B) (xs : List (Hist B)) :
    ∀ w : NodeSt P H B, allRejected m w xs → (hrun m w xs).p = w.p ∧ (hrun m w xs).kept = w.kept := by
  induction xs with
  | nil => intro w _; exact ⟨rfl, rfl⟩
  | cons x t ih =>
    intro w hx
    obtain ⟨h1, h2⟩ := hx
    have hs : (hstep m w x).p = w.p ∧ (hstep m w x).kept = w.kept := by
      cases x with
      | block b =>
        have h1' : (m.apply w.p w.h b).1 = none := h1
        simp [hstep, h1']
      | candidate b => exact ⟨rfl, rfl⟩
      | delete => exact h1.elim
      | restart => exact h1.elim
    obtain ⟨ihp, ihk⟩ := ih (hstep m w x) h2
    exact ⟨ihp.trans hs.1, ihk.trans hs.2⟩

end LiskVerif.NoHidden

open LiskVerif LiskVerif.NoHidden

/-- **Rejected blocks change nothing — including the verdict on the next block.**  If the verdict reads only
(store, block), then after ANY sequence of rejected blocks and of candidates computed on dropped stores (forged by
the node itself) the persistent state and the chain are unchanged, and every next block gets the verdict a node with
fresh objects gives on the same persistent state — with the same resulting state. -/
theorem C03_rejected_candidates_leave_no_trace {P H B : Type} (m : Machine P H B) (hro : ReadsPersistedOnly m)
    (w : NodeSt P H B) (xs : List (Hist B)) (hx : allRejected m w xs) :
    (hrun m w xs).p = w.p ∧ (hrun m w xs).kept = w.kept ∧
    ∀ b, (m.apply (hrun m w xs).p (hrun m w xs).h b).1 = (m.apply w.p m.h0 b).1 := by
  obtain ⟨hp, hk⟩ := rejected_keep_state m xs w hx
  refine ⟨hp, hk, fun b => ?_⟩
  rw [hp]
  exact hro.1 _ _ _ b

/-- the same after any history (blocks applied and rejected, tips deleted, restarts) followed by rejected
candidates: the verdict on the next block is the verdict of the FRESH node that was given only the chain — a node
that never saw any of the rejected candidates. -/
theorem C03_verdict_equals_fresh_node {P H B : Type} (m : Machine P H B) (Inv : P → Prop)
    (hro : ReadsPersistedOnly m) (hdi : DeleteInverts m Inv) (p0 : P) (hI : Inv p0) (hs xs : List (Hist B))
    (hx : allRejected m (hrun m (hinit m p0) hs) xs) (b : B) :
    (hrun m (hinit m p0) (hs ++ xs)).kept = (hrun m (hinit m p0) hs).kept ∧
    (m.apply (hrun m (hinit m p0) (hs ++ xs)).p (hrun m (hinit m p0) (hs ++ xs)).h b).1 =
      (m.apply (fresh m p0 (hrun m (hinit m p0) hs).kept).1 (fresh m p0 (hrun m (hinit m p0) hs).kept).2 b).1 := by
  have hk : (hrun m (hinit m p0) (hs ++ xs)).kept = (hrun m (hinit m p0) hs).kept := by
    rw [hrun_append]; exact (rejected_keep_state m xs _ hx).2
  refine ⟨hk, ?_⟩
  have h := (C05_no_hidden_state_confluent m Inv hro hdi p0 hI (hs ++ xs)).2.2 b
  rw [hk] at h
  exact h

/-! ### the defect class: a getter that memoizes by height what it read from a staged store -/

namespace LiskVerif.NoHidden.MemoToy

/-- persistent state: the BFT parameters stored for each height, newest first.  A block `(change, vhash)` executes to
`change` — staged as the parameters of the next height — and is valid iff its header field `vhash` is what
`GetBFTParameters(stagedStore, height+1)` returns (the validatorsHash check of `processValidated`). -/
def honest : Machine (List Nat) Unit (Nat × Nat) where
  apply p _ b := (if b.1 = b.2 then some (b.1 :: p) else none, ())
  delete p _ := (p.tail, ())
  h0 := ()

/-- `GetBFTParameters` with a memo keyed by the height the parameters are stored at: "decoded once, never again".
The first lookup at a key — also one made on a store that is dropped afterwards — decides every later one. -/
def memo : Machine (List Nat) (List (Nat × Nat)) (Nat × Nat) where
  apply p h b :=
    let key := p.length + 1
    let read := match h.lookup key with | some v => v | none => b.1
    (if read = b.2 then some (b.1 :: p) else none,
     if (h.lookup key).isSome then h else (key, read) :: h)
  delete p h := (p.tail, h)
  h0 := []

/-- X: executes to 7, wrong validatorsHash (rejected after execution) -/
def received : List (Hist (Nat × Nat)) := [.block (7, 0)]
/-- X: the node's own candidate for this height, computed on a store that is dropped -/
def forged : List (Hist (Nat × Nat)) := [.candidate (7, 7)]

end LiskVerif.NoHidden.MemoToy

open LiskVerif.NoHidden.MemoToy in
/-- **THE DEFECT CLASS.**  With the height-keyed memo every rejected block leaves the persistent state exactly as it
was, yet after X (received and rejected, or forged on a dropped store) the block F = (8, 7) — it executes to 8 and
carries the validatorsHash of X's outcome — is APPENDED (the store then holds parameters that contradict the header)
and the right block Y = (8, 8) is refused; a fresh node on the same state refuses F and accepts Y. -/
theorem C03_height_keyed_memo_counterexample :
    ¬ ReadsPersistedOnly memo ∧
    allRejected memo (hinit memo [1]) received ∧ allRejected memo (hinit memo [1]) forged ∧
    (∀ xs ∈ [received, forged],
      (let w := hrun memo (hinit memo [1]) xs
       w.p = [1] ∧ w.kept = [] ∧
       (memo.apply w.p w.h (8, 7)).1 = some [8, 1] ∧ (memo.apply [1] memo.h0 (8, 7)).1 = none ∧
       (memo.apply w.p w.h (8, 8)).1 = none ∧ (memo.apply [1] memo.h0 (8, 8)).1 = some [8, 1])) := by
  refine ⟨?_, ⟨by decide, trivial⟩, ⟨trivial, trivial⟩, by decide⟩
  intro hro
  have := hro.1 [1] [(2, 7)] [] (8, 7)
  revert this
  decide

open LiskVerif.NoHidden.MemoToy in
/-- non-vacuity of `C03_rejected_candidates_leave_no_trace`: the honest getter satisfies the hypothesis, both
sequences are sequences of rejected candidates, and afterwards F is refused and Y accepted -/
example :
    ReadsPersistedOnly honest ∧
    allRejected honest (hinit honest [1]) [.block (7, 0)] ∧ allRejected honest (hinit honest [1]) [.candidate (7, 7)] ∧
    (honest.apply (hrun honest (hinit honest [1]) [.block (7, 0), .candidate (7, 7)]).p () (8, 7)).1 = none ∧
    (honest.apply (hrun honest (hinit honest [1]) [.block (7, 0), .candidate (7, 7)]).p () (8, 8)).1 = some [8, 1] :=
  ⟨readsPersistedOnly_of_subsingleton honest, ⟨by decide, trivial⟩, ⟨trivial, trivial⟩, by decide, by decide⟩

/-! ## Part 2: every getter of the BFT API is a function of the store it is handed (regenerated facts) -/

open LiskVerif.Gen.CompState

/-- **`liskbft.API` and `liskbft.Endpoint` have exactly the fields they have today**: the module id and the batch
size, plain values.  A memo of decoded parameters (and the mutex guarding it) would be a new field. -/
theorem C03_bft_api_fields_exact :
    fieldsOf "consensus/liskbft" "API" = [("moduleID", "uint32", "basic"), ("batchSize", "int", "basic")] ∧
    fieldsOf "consensus/liskbft" "Endpoint" = [("moduleID", "uint32", "basic")] ∧
    (fields.filter (fun f => f.pkg == "consensus/liskbft" && (f.strct == "API" || f.strct == "Endpoint") &&
      !plainKind f.kind)) = [] :=
  ⟨C05_bft_module_fields_exact.2.1, C05_bft_module_fields_exact.2.2,
    List.filter_eq_nil_iff.mpr fun a ha h => by
      -- a field of `API` or of `Endpoint` is a row of one of the two exact lists, whose kinds are plain
      simp only [Bool.and_eq_true, Bool.or_eq_true] at h
      obtain ⟨⟨hp, hs | hs⟩, hk⟩ := h
      · exact List.filter_eq_nil_iff.mp (Tables.filter_eq_nil_of_rows C05_bft_module_fields_exact.2.1
          (fun t => !plainKind t.2.2) rfl) a ha (by simp only [hp, hs, hk, Bool.and_self])
      · exact List.filter_eq_nil_iff.mp (Tables.filter_eq_nil_of_rows C05_bft_module_fields_exact.2.2
          (fun t => !plainKind t.2.2) rfl) a ha (by simp only [hp, hs, hk, Bool.and_self])⟩

/-- **no method of `API` / `Endpoint` writes a receiver field** except the two `init` called once by `Module.Init`;
no composite literal initialises a field (`NewModule` creates both objects empty); no field is handed to a callee
and no address of a field is taken.  So every getter is a function of its arguments — the store it is handed. -/
theorem C03_bft_api_never_written :
    writesOf "consensus/liskbft" "API" = [("API.init", "moduleID", "assign"), ("API.init", "batchSize", "assign")] ∧
    writesOf "consensus/liskbft" "Endpoint" = [("Endpoint.init", "moduleID", "assign")] ∧
    initsOf "consensus/liskbft" "API" = [] ∧ initsOf "consensus/liskbft" "Endpoint" = [] ∧
    (passes.filter (fun p => p.pkg == "consensus/liskbft")) = [] ∧
    (writes.filter (fun w => w.pkg == "consensus/liskbft" && (w.how == "addr" || w.how == "addr-nested" || w.how == "assign-all"))) = [] := by
  obtain ⟨_, hAPI, hEndpoint, _, hiAPI, hiEndpoint, _⟩ := C05_bft_module_written_only_by_init
  obtain ⟨_, hpasses, haddr⟩ := C05_component_fields_are_private
  refine ⟨hAPI, hEndpoint, hiAPI, hiEndpoint, ?_, ?_⟩
  · rw [hpasses]
    rfl
  · rw [← List.filter_filter, haddr]
    rfl

/-- the exact method tables of `API` and `Endpoint`, all on pointer receivers of the one object: the getters used by
`verifyBlock`, `verifyAggregateCommit`, the validatorsHash check and `sealBlock`.  A helper that fills a memo
(`decodeParams`, `cache…`) is a new row. -/
theorem C03_bft_api_methods_exact :
    ((methods.filter (fun m => m.pkg == "consensus/liskbft" && m.strct == "API")).map (fun m => (m.name, m.ptr))) =
      [("init", true), ("AreHeadersContradicting", true), ("IsHeaderContradictingChain", true),
       ("ExistBFTParameters", true), ("GetBFTParameters", true), ("GetBFTHeights", true),
       ("ImpliesMaximalPrevotes", true), ("NextHeightBFTParameters", true), ("SetBFTParameters", true),
       ("SetGeneratorKeys", true), ("GetGeneratorKeys", true), ("HeaderHasPriority", true), ("GetValidator", true),
       ("GetCurrentValidators", true)] ∧
    ((methods.filter (fun m => m.pkg == "consensus/liskbft" && m.strct == "Endpoint")).map (fun m => (m.name, m.ptr))) =
      [("init", true), ("Get", true)] := by decide +kernel

/-- **who can reach the BFT module from the acceptance path**: the struct fields of the three packages whose type
mentions the module or its API — the executer, the per-block state executers and the commit judge, all holding the
ONE object `NewExecuter` creates (`C05_constructor_calls_exact`); none of them holds a decoded parameter set
(`BFTParams`) or a parameter cache. -/
theorem C03_bft_module_holders_exact :
    ((fields.filter (fun f => mentions f.typ "liskbft.Module" || mentions f.typ "liskbft.API")).map
      (fun f => (f.pkg, f.strct, f.name, f.typ))) =
      [("consensus", "stateExecuter", "bft", "*liskbft.Module"),
       ("consensus", "genesisStateExecuter", "bft", "*liskbft.Module"),
       ("consensus", "commitDiscard", "bftAPI", "*liskbft.API"),
       ("consensus", "Executer", "liskBFT", "*liskbft.Module")] ∧
    (fields.filter (fun f => isComponent f.pkg f.strct && f.strct != "bftParamsCache" &&
      (mentions f.typ "BFTParams" || mentions f.typ "bftParamsCache"))) = [] := by
  simp only [mentions, Strings.toList_eq_chars]
  decide +kernel

/-- **no package-level memo in pkg/consensus/liskbft**: its package-level variables are three store prefixes, the
empty key and two sentinel errors, and no function of the three packages writes a package-level variable. -/
theorem C03_bft_no_package_level_memo :
    ((globals.filter (fun g => g.pkg == "consensus/liskbft")).map (fun g => (g.name, g.kind))) =
      [("storePrefixBFTParams", "basic"), ("storePrefixGeneratorKeys", "basic"), ("storePrefixBFTVotes", "basic"),
       ("emptyKey", "slice"), ("ErrBFTParamsNotFound", "call"), ("ErrGeneratorKeysNotFound", "call")] ∧
    (globals.filter (fun g => g.kind == "map" || g.kind == "pointer" || g.kind == "struct")) = [] ∧
    globalWrites = [] := by decide +kernel
