/-
C10 (proof side, multi-key) — the transcription of pkg/trie/smt `Verify` / `CalculateRoot` / `Prove`
(Model/SMTVerify.lean, the code after fixes/C10-*.patch) for ANY number of queries:

* `C10_multi_sound`     : an accepted multi-proof shows for every queried key what the map holds (no collision of
                          `H` between the inputs hashed by the verifier and those of the tree);
* `C10_multi_complete`  : `Verify (Prove keys)` accepts for every non-empty list of keys, and the generated queries
                          show what the map holds (no collision of `H` among the inputs of the tree);
* `C10_reg_*`           : regressions on a 3-key and a 4-key map: the generated multi-proofs spelled out and every
                          single-field tampering / forgery class refused (kernel evaluation of the transcription);
                          honest multi-proofs accepted (instances of `C10_multi_complete`).
Soundness goes through the single-key theory: every query of an accepted multi-proof is a verifying single-key proof
(`C10_verify_extract`), to which `C10_verify_sound` applies.  Completeness is the simulation of the prover's loop
against the verifier's (`sim` in Lemmas/SMTMultiSim.lean; `prove_verify` in Lemmas/SMTMulti.lean).
The idealised statements `C10_multi_sound_Statement` / `C10_multi_complete_Statement` of Props/C10_Verify.lean: the first
is proved (`C10_multi_sound_statement_holds`); the second is FALSE as stated for `keys = []`
(`C10_multi_complete_no_query`) and proved for non-empty key lists (`C10_multi_complete_injective`).
-/
import LiskVerif.Lemmas.SMTMulti
import LiskVerif.Props.C10_Verify

open LiskVerif LiskVerif.SMT LiskVerif.SMTVerify

/-! ### multi-key soundness -/

/-- the work list `CalculateRoot` starts from: the position-filtered query proofs, sorted -/
def C10WorkList (H : HashFn) (proof : Proof) : List QP :=
  sortQPs ((filterQueries H proof.queries []).getD [])

/-- every input the verifier hashes while checking `proof`: the proven nodes (a leaf `0x00 ‖ key ‖ value`, or the
empty string for an empty node) and every branch `0x01 ‖ left ‖ right` computed by `CalculateRoot` -/
def C10MultiInputs (H : HashFn) (proof : Proof) : List Bytes :=
  proof.queries.map (fun q => C10NodeInput (toProof1 q [])) ++
    calcTrace H (calcFuel (C10WorkList H proof)) proof.siblings (C10WorkList H proof)

/-- **every query of an accepted multi-proof is a verifying single-key proof**: for an accepted proof (against any
root) and every position `i` there are a bitmap and sibling hashes with which the specification verifier accepts
the node of query `i` for `keys[i]` against the same root, hashing only inputs that `Verify` hashed -/
theorem C10_verify_extract (H : HashFn) (keyLen : Nat) (keys : List Bytes) (proof : Proof) (rt : Bytes)
    (h : verify H keys proof rt keyLen = .ok true) (i : Nat) (hi : i < keys.length) (hq : i < proof.queries.length) :
    ∃ bm ss, verify1 H keyLen keys[i] ⟨proof.queries[i].key, proof.queries[i].value, bm, ss⟩ rt = true ∧
      ∀ a ∈ C10VerifyInputs H ⟨proof.queries[i].key, proof.queries[i].value, bm, ss⟩, a ∈ C10MultiInputs H proof := by
  obtain ⟨-, -, hqs⟩ := C10_verify_accepts_only_wellformed H _ _ _ _ h
  obtain ⟨-, hnone, filtered, hfilt, hr⟩ := verify_ok_true h
  -- the query and its representative in the work list
  obtain ⟨seen', hone⟩ := checkQueries_getElem _ _ _ hnone i hi hq
  obtain ⟨hk, hqk, -, -, hqh, hpre⟩ := checkOne_eq_none.mp hone
  obtain ⟨hdist, hfrom, -, hrep⟩ := filterQueries_spec H _ _ _ hfilt List.Pairwise.nil
  obtain ⟨e, he, hep, heh, ebm⟩ := hrep _ (List.getElem_mem hq)
  have hwl : C10WorkList H proof = sortQPs filtered := by simp [C10WorkList, hfilt]
  have hmem : ∀ x ∈ filtered, ∃ q ∈ proof.queries, x = qpOf H q := fun x hx =>
    (hfrom x hx).resolve_left (by simp)
  have hinv : QInv keyLen (sortQPs filtered) := QInv.of_sort
    (fun x hx => by obtain ⟨q, hq', rfl⟩ := hmem x hx; exact (hqs q hq').1)
    (fun x hx => by obtain ⟨q, hq', rfl⟩ := hmem x hx; exact (hqs q hq').2) hdist
  unfold calculateRoot at hr
  simp only at hr
  have hchain := calcLoop_chain H keyLen _ _ _ _ hinv hr e (by rw [sortQPs_eq, mem_isort]; exact he)
  obtain ⟨bmT, ssT, hb1, hb2, hb3⟩ := hchain
  generalize hq0 : proof.queries[i] = q at *
  have hheight : bmT.length = (stripPrefixFalse (toBools q.bitmap)).length := by
    rw [hb1]; unfold QP.height; rw [ebm]; rfl
  have hnode : (Proof1.nodeHash H ⟨q.key, q.value, bmT, ssT⟩) = e.hash := heh ▸ nodeHash_eq_mkQP H _ _ _ _ _
  have hpath : e.binaryPath = (keyBits q.key).take bmT.length := by
    rw [hep, hheight]; rfl
  -- the extracted single-key proof verifies
  have hv1 : verify1 H keyLen keys[i] ⟨q.key, q.value, bmT, ssT⟩ rt = true := by
    unfold verify1
    simp only [hk, hqk, decide_true, Bool.true_and, Bool.and_eq_true, Bool.or_eq_true, decide_eq_true_eq]
    refine ⟨⟨by rw [hheight]; exact hqh, ?_⟩, ?_⟩
    · rcases hpre with hp | hp
      · exact Or.inl hp.symm
      · exact Or.inr (by rw [hheight]; exact hp)
    · rw [hnode, ← hpath]; exact hb2
  refine ⟨bmT, ssT, hv1, ?_⟩
  intro a ha
  unfold C10VerifyInputs at ha
  unfold C10MultiInputs
  rw [List.mem_append]
  rcases List.mem_cons.mp ha with ha | ha
  · left
    rw [ha, List.mem_map]
    exact ⟨q, by rw [← hq0]; exact List.getElem_mem hq, rfl⟩
  · right
    rw [hwl]
    simp only at ha
    rw [hnode, ← hpath] at ha
    exact hb3 a ha

/-- **Multi-key soundness of the transcribed `Verify`**: let `H` have outputs of one length and NO COLLISION
between the (finitely many) inputs the verifier hashes for this proof (`C10MultiInputs`) and the inputs hashed to
compute the root of the map.  Then a proof for ANY list of query keys that `Verify` accepts against the root of
the map shows, for every queried key, what the map holds: the stored value if the query claims inclusion,
absence otherwise. -/
theorem C10_multi_sound (H : HashFn) (n : Nat) (hlen : ∀ x, (H x).length = n) (keyLen : Nat) (m : List KV)
    (hm : C10Map keyLen m) (keys : List Bytes) (proof : Proof)
    (hnc : NoColl H (C10MultiInputs H proof) (treeInputs H (8 * keyLen) (entriesOf m)))
    (h : verify H keys proof (mapRoot H keyLen m) keyLen = .ok true) :
    ∀ i (hi : i < keys.length) (hq : i < proof.queries.length),
      claim keys[i] proof.queries[i] = mget m keys[i] := by
  intro i hi hq
  obtain ⟨bm, ss, hv1, hsub⟩ := C10_verify_extract H keyLen keys proof _ h i hi hq
  exact (show claim keys[i] proof.queries[i] = claim1 keys[i] ⟨_, _, bm, ss⟩ from rfl).trans
    (C10_verify_sound H n hlen keyLen m hm keys[i] _ (hnc.mono hsub fun _ hb => hb) hv1)

/-- the contrapositive: a multi-key proof in which some query makes a claim that disagrees with the map is not
accepted against the root of the map (unless it exhibits a collision of `H`) -/
theorem C10_multi_no_false_claim (H : HashFn) (n : Nat) (hlen : ∀ x, (H x).length = n) (keyLen : Nat) (m : List KV)
    (hm : C10Map keyLen m) (keys : List Bytes) (proof : Proof)
    (hnc : NoColl H (C10MultiInputs H proof) (treeInputs H (8 * keyLen) (entriesOf m)))
    (i : Nat) (hi : i < keys.length) (hq : i < proof.queries.length)
    (hne : claim keys[i] proof.queries[i] ≠ mget m keys[i]) :
    verify H keys proof (mapRoot H keyLen m) keyLen ≠ .ok true :=
  fun h => hne (C10_multi_sound H n hlen keyLen m hm keys proof hnc h i hi hq)

/-- the idealised statement of Props/C10_Verify.lean (`H` injective on all byte strings) follows -/
theorem C10_multi_sound_statement_holds : C10_multi_sound_Statement := by
  intro H n hlen hinj keyLen m hm keys proof h i hi hq
  exact C10_multi_sound H n hlen keyLen m hm keys proof (noColl_of_injective hinj _ _) h i hi hq

/-! ### multi-key completeness -/

/-- the standing assumptions of the completeness proof hold for a stored map and a hash with outputs of one
positive length and no collision among the inputs of the tree of the map and the empty string -/
theorem C10_treeCtx (H : HashFn) (n : Nat) (hlen : ∀ x, (H x).length = n) (hn : 0 < n) (keyLen : Nat) (m : List KV)
    (hm : C10Map keyLen m)
    (hnc : NoColl H ([] :: treeInputs H (8 * keyLen) (entriesOf m)) (treeInputs H (8 * keyLen) (entriesOf m))) :
    TreeCtx H n keyLen (entriesOf m) := by
  exact ⟨hlen, hn, wfe_entriesOf hm.nodup hm.keys, forall_mem_entriesOf.mpr hm.keys,
    forall_mem_entriesOf.mpr fun _ _ => rfl, forall_mem_entriesOf.mpr hm.values,
    hnc.mono (fun a ha => List.mem_cons_of_mem _ ha) (fun _ hb => hb),
    hnc.mono (fun a ha => by rw [List.mem_singleton.mp ha]; simp) (fun _ hb => hb)⟩

/-- a generated query shows what the map holds for the queried key -/
private theorem claim_of_pqspec {H : HashFn} {keyLen : Nat} {m : List KV} (hm : C10Map keyLen m) {k : Bytes} {pq : PQ}
    (s : PQSpec H keyLen (entriesOf m) k pq) : claim k (wireQ pq) = mget m k := by
  refine C10_claim_of_node hm (h := pq.height) ?_
  rw [← s.path]
  exact s.term.imp (fun h => ⟨h.1, h.2.2⟩) id

/-- **Multi-key completeness of `Prove` / `Verify`**: let `H` have outputs of one positive length and no collision
among the (finitely many) inputs hashed to compute the root of the map, nor between them and the empty string.
Then for EVERY non-empty list of keys of the right length (absent keys, repeated keys, keys proven by the same
leaf included) `Prove` returns a proof, `Verify` accepts it against the root of the map, and every query shows
what the map holds for its key. -/
theorem C10_multi_complete (H : HashFn) (n : Nat) (hlen : ∀ x, (H x).length = n) (hn : 0 < n) (keyLen : Nat)
    (m : List KV) (hm : C10Map keyLen m)
    (hnc : NoColl H ([] :: treeInputs H (8 * keyLen) (entriesOf m)) (treeInputs H (8 * keyLen) (entriesOf m)))
    (keys : List Bytes) (hne : keys ≠ []) (hkeys : ∀ k ∈ keys, k.length = keyLen) :
    ∃ proof, prove H keyLen (buildH H (8 * keyLen) (entriesOf m)) keys = some proof ∧
      verify H keys proof (mapRoot H keyLen m) keyLen = .ok true ∧
      ∀ i (hi : i < keys.length) (hq : i < proof.queries.length), claim keys[i] proof.queries[i] = mget m keys[i] := by
  have c := C10_treeCtx H n hlen hn keyLen m hm hnc
  obtain ⟨proof, h1, h2, h3, h4⟩ := prove_verify c keys hne hkeys
  refine ⟨proof, h1, h2, ?_⟩
  intro i hi hq
  have hqi : proof.queries[i] =
      wireQ (queryInfo H keys[i] (buildH H (8 * keyLen) (entriesOf m)) (toBools keys[i])) := by
    simp only [h3, List.getElem_map]
  rw [hqi]
  exact claim_of_pqspec hm (h4 keys[i] (hkeys _ (List.getElem_mem hi)))

/-- the idealised form of Props/C10_Verify.lean, for non-empty key lists (`H` injective) -/
theorem C10_multi_complete_injective (H : HashFn) (n : Nat) (hlen : ∀ x, (H x).length = n) (hn : 0 < n)
    (hinj : ∀ a b, H a = H b → a = b) (keyLen : Nat) (m : List KV) (hm : C10Map keyLen m) (keys : List Bytes)
    (hne : keys ≠ []) (hkeys : ∀ k ∈ keys, k.length = keyLen) :
    ∃ proof, prove H keyLen (buildH H (8 * keyLen) (entriesOf m)) keys = some proof ∧
      verify H keys proof (mapRoot H keyLen m) keyLen = .ok true ∧
      ∀ i (hi : i < keys.length) (hq : i < proof.queries.length), claim keys[i] proof.queries[i] = mget m keys[i] :=
  C10_multi_complete H n hlen hn keyLen m hm (noColl_of_injective hinj _ _) keys hne hkeys

/-- for the EMPTY key list `Prove` returns the empty proof and `Verify` answers with an error ("fail to compute
root"): the conclusion of `C10_multi_complete_Statement` is false for `keys = []`, the hypothesis `keys ≠ []` of
`C10_multi_complete` cannot be dropped -/
theorem C10_multi_complete_no_query (H : HashFn) (keyLen : Nat) (t : HT) (rt : Bytes) :
    (prove H keyLen t []).map (fun p => (p.siblings, p.queries.length)) = some ([], 0) ∧
    ∀ sibs, verify H [] ⟨sibs, []⟩ rt keyLen = .err := by
  refine ⟨rfl, fun sibs => rfl⟩

/-! ### regression theorems (toy hash `C10toyH` of Props/C10.lean, 1-byte keys)

`C10m3` : three keys (two part at bit 4, the third at bit 0); `C10m4` : four keys (00 / 01 part at the last bit,
80 / f0 at bit 1).  Honest multi-proofs generated by the transcription of `Prove` are accepted (by completeness: the
toy hash has no collision among the inputs of the two trees); every single-field tampering is refused, by kernel
evaluation (`ok false` = `(false, nil)`, `err` = a non-nil error of `Verify`). -/

def C10m3 : List KV := [([0x10], [1, 1]), ([0x90], [2, 2]), ([0x18], [3, 3])]
def C10m4 : List KV := [([0x00], [1]), ([0x01], [2, 2]), ([0x80], [3]), ([0xF0], [4, 4, 4])]

def C10mProve (m : List KV) (keys : List Bytes) : Proof :=
  (prove C10toyH 1 (buildH C10toyH 8 (entriesOf m)) keys).getD ⟨[], []⟩
def C10mVerify (m : List KV) (keys : List Bytes) (p : Proof) : Verdict :=
  verify C10toyH keys p (mapRoot C10toyH 1 m) 1
/-- tamper with query `i` -/
def C10modQ (p : Proof) (i : Nat) (f : Query → Query) : Proof := { p with queries := p.queries.modify i f }

theorem C10m3_ok : C10Map 1 C10m3 :=
  ⟨by show (C10m3.map Prod.fst).Nodup; decide, by show ∀ kv ∈ C10m3, kv.1.length = 1; decide,
   by show ∀ kv ∈ C10m3, kv.2 ≠ []; decide⟩
theorem C10m4_ok : C10Map 1 C10m4 :=
  ⟨by show (C10m4.map Prod.fst).Nodup; decide, by show ∀ kv ∈ C10m4, kv.1.length = 1; decide,
   by show ∀ kv ∈ C10m4, kv.2 ≠ []; decide⟩

/-- query keys of the examples: `C10K1` = a stored key, an absent key ending in the leaf 80, an absent key ending
in an empty node; `C10K2` = all four stored keys; `C10K3` (for `C10m3`) = two stored keys, an absent key ending in
the leaf 90, an absent key ending in an empty node -/
def C10K1 : List Bytes := [[0x01], [0x81], [0x40]]
def C10K2 : List Bytes := [[0x00], [0x01], [0x80], [0xF0]]
def C10K3 : List Bytes := [[0x18], [0x91], [0x40], [0x10]]
def C10P1 : Proof := C10mProve C10m4 C10K1
def C10P2 : Proof := C10mProve C10m4 C10K2
def C10P3 : Proof := C10mProve C10m3 C10K3

/-- the generated proofs, spelled out -/
theorem C10_reg_proofs :
    (C10P1.siblings = [[130, 85], [246, 93]] ∧
     C10P1.queries = [⟨[0x01], [2, 2], [0x81]⟩, ⟨[0x80], [3], [0x03]⟩, ⟨[0x40], [], [0x03]⟩]) ∧
    (C10P2.siblings = [] ∧
     C10P2.queries = [⟨[0x00], [1], [0x81]⟩, ⟨[0x01], [2, 2], [0x81]⟩, ⟨[0x80], [3], [0x03]⟩, ⟨[0xF0], [4, 4, 4], [0x03]⟩]) ∧
    (C10P3.siblings = [] ∧
     C10P3.queries = [⟨[0x18], [3, 3], [0x11]⟩, ⟨[0x90], [2, 2], [0x01]⟩, ⟨[0x40], [], [0x03]⟩, ⟨[0x10], [1, 1], [0x11]⟩]) := by
  decide +kernel

theorem C10m4_noColl : NoColl C10toyH ([] :: treeInputs C10toyH (8 * 1) (entriesOf C10m4))
    (treeInputs C10toyH (8 * 1) (entriesOf C10m4)) := noColl_of_check (by decide +kernel)
theorem C10m3_noColl : NoColl C10toyH ([] :: treeInputs C10toyH (8 * 1) (entriesOf C10m3))
    (treeInputs C10toyH (8 * 1) (entriesOf C10m3)) := noColl_of_check (by decide +kernel)

/-- `C10_multi_complete` for the toy hash and 1-byte keys -/
theorem C10mVerify_prove {m : List KV} (hm : C10Map 1 m)
    (hnc : NoColl C10toyH ([] :: treeInputs C10toyH (8 * 1) (entriesOf m)) (treeInputs C10toyH (8 * 1) (entriesOf m)))
    (keys : List Bytes) (hne : keys ≠ []) (hkeys : ∀ k ∈ keys, k.length = 1) :
    C10mVerify m keys (C10mProve m keys) = .ok true := by
  obtain ⟨proof, h1, h2, -⟩ := C10_multi_complete C10toyH 2 C10toyH_length (by decide) 1 m hm hnc keys hne hkeys
  unfold C10mVerify C10mProve
  rw [h1]
  exact h2

/-- honest multi-proofs (2, 3 and 4 queries; inclusion, exclusion by another leaf, exclusion by an empty node,
the same key twice, two keys ending in the same leaf) are accepted -/
theorem C10_reg_honest_accepted :
    C10mVerify C10m4 C10K1 C10P1 = .ok true ∧
    C10mVerify C10m4 C10K2 C10P2 = .ok true ∧
    C10mVerify C10m3 C10K3 C10P3 = .ok true ∧
    C10mVerify C10m3 [[0x10], [0x90], [0x18]] (C10mProve C10m3 [[0x10], [0x90], [0x18]]) = .ok true ∧
    C10mVerify C10m4 [[0x01], [0xF0]] (C10mProve C10m4 [[0x01], [0xF0]]) = .ok true ∧
    C10mVerify C10m4 [[0x01], [0x01]] (C10mProve C10m4 [[0x01], [0x01]]) = .ok true ∧
    C10mVerify C10m4 [[0x80], [0xC0]] (C10mProve C10m4 [[0x80], [0xC0]]) = .ok true ∧
    C10mVerify C10m4 [[0xF0], [0xC0], [0xE1]] (C10mProve C10m4 [[0xF0], [0xC0], [0xE1]]) = .ok true :=
  ⟨C10mVerify_prove C10m4_ok C10m4_noColl _ (by decide) (by decide),
   C10mVerify_prove C10m4_ok C10m4_noColl _ (by decide) (by decide),
   C10mVerify_prove C10m3_ok C10m3_noColl _ (by decide) (by decide),
   C10mVerify_prove C10m3_ok C10m3_noColl _ (by decide) (by decide),
   C10mVerify_prove C10m4_ok C10m4_noColl _ (by decide) (by decide),
   C10mVerify_prove C10m4_ok C10m4_noColl _ (by decide) (by decide),
   C10mVerify_prove C10m4_ok C10m4_noColl _ (by decide) (by decide),
   C10mVerify_prove C10m4_ok C10m4_noColl _ (by decide) (by decide)⟩

/-- dropping a query together with its key leaves an honest proof when the dropped query contributed no sibling -/
theorem C10_reg_subproof_accepted :
    C10mVerify C10m4 (C10K1.take 2) { C10P1 with queries := C10P1.queries.take 2 } = .ok true := by
  decide +kernel

/-- tampering class "value": a changed / removed / invented value of any one query is refused -/
theorem C10_reg_tamper_value :
    C10mVerify C10m4 C10K1 (C10modQ C10P1 0 fun q => { q with value := [9, 9] }) = .ok false ∧
    C10mVerify C10m4 C10K1 (C10modQ C10P1 1 fun q => { q with value := [] }) = .ok false ∧
    C10mVerify C10m4 C10K1 (C10modQ C10P1 2 fun q => { q with value := [7] }) = .err ∧
    C10mVerify C10m4 C10K2 (C10modQ C10P2 3 fun q => { q with value := [4, 4] }) = .ok false ∧
    C10mVerify C10m3 C10K3 (C10modQ C10P3 0 fun q => { q with value := [3] }) = .ok false ∧
    C10mVerify C10m3 C10K3 (C10modQ C10P3 2 fun q => { q with value := [1] }) ≠ .ok true := by
  decide +kernel

/-- tampering class "key" (caught by the check of the key length of proven nodes among others): another key, the queried absent key in
place of the leaf that excludes it, a shifted key / value boundary, an empty key -/
theorem C10_reg_tamper_key :
    C10mVerify C10m4 C10K1 (C10modQ C10P1 0 fun q => { q with key := [0x02] }) = .ok false ∧
    C10mVerify C10m4 C10K1 (C10modQ C10P1 1 fun q => { q with key := [0x81] }) = .ok false ∧
    C10mVerify C10m4 C10K1 (C10modQ C10P1 0 fun q => { q with key := [0x01, 2], value := [2] }) = .ok false ∧
    C10mVerify C10m4 C10K1 (C10modQ C10P1 0 fun q => { q with key := [] }) = .ok false ∧
    C10mVerify C10m3 C10K3 (C10modQ C10P3 1 fun q => { q with key := [0x91] }) ≠ .ok true ∧
    C10mVerify C10m3 C10K3 (C10modQ C10P3 3 fun q => { q with key := [0x10, 1], value := [1] }) = .ok false := by
  decide +kernel

/-- the one key change that IS accepted: an exclusion proof by an empty node may carry any key below that node —
the claim about the queried key (absent) is unchanged and right -/
theorem C10_reg_empty_node_key_free :
    C10mVerify C10m4 C10K1 (C10modQ C10P1 2 fun q => { q with key := [0x41] }) = .ok true ∧
    claim [0x40] ⟨[0x41], [], [0x03]⟩ = mget C10m4 [0x40] := by
  decide +kernel

/-- tampering class "bitmap" (caught by the height bound among others): a flipped bit, a lengthened / shortened bitmap, a
leading zero byte, a bitmap longer than the key, an empty bitmap -/
theorem C10_reg_tamper_bitmap :
    C10mVerify C10m4 C10K1 (C10modQ C10P1 0 fun q => { q with bitmap := [0x80] }) = .err ∧
    C10mVerify C10m4 C10K1 (C10modQ C10P1 0 fun q => { q with bitmap := [0xC1] }) = .err ∧
    C10mVerify C10m4 C10K1 (C10modQ C10P1 1 fun q => { q with bitmap := [0x01] }) = .err ∧
    C10mVerify C10m4 C10K1 (C10modQ C10P1 1 fun q => { q with bitmap := [0x00, 0x03] }) = .ok false ∧
    C10mVerify C10m4 C10K1 (C10modQ C10P1 1 fun q => { q with bitmap := [0x01, 0x03] }) = .ok false ∧
    C10mVerify C10m4 C10K1 (C10modQ C10P1 2 fun q => { q with bitmap := [] }) = .err ∧
    C10mVerify C10m3 C10K3 (C10modQ C10P3 0 fun q => { q with bitmap := [0x13] }) ≠ .ok true ∧
    C10mVerify C10m3 C10K3 (C10modQ C10P3 2 fun q => { q with bitmap := [0x02] }) ≠ .ok true := by
  decide +kernel

/-- tampering class "sibling hashes" (caught by the check that all sibling hashes are used among others): a changed hash, swapped hashes, a
dropped hash, no hashes, an extra hash behind / in front, an empty hash -/
theorem C10_reg_tamper_siblings :
    C10mVerify C10m4 C10K1 { C10P1 with siblings := [[130, 85], [246, 94]] } = .ok false ∧
    C10mVerify C10m4 C10K1 { C10P1 with siblings := [[246, 93], [130, 85]] } = .ok false ∧
    C10mVerify C10m4 C10K1 { C10P1 with siblings := [[130, 85]] } = .err ∧
    C10mVerify C10m4 C10K1 { C10P1 with siblings := [] } = .err ∧
    C10mVerify C10m4 C10K1 { C10P1 with siblings := C10P1.siblings ++ [[1, 2]] } = .err ∧
    C10mVerify C10m4 C10K1 { C10P1 with siblings := [1, 2] :: C10P1.siblings } = .err ∧
    C10mVerify C10m4 C10K1 { C10P1 with siblings := [[], [246, 93]] } = .err ∧
    C10mVerify C10m4 C10K2 { C10P2 with siblings := [[1, 2]] } = .err ∧
    C10mVerify C10m3 C10K3 { C10P3 with siblings := [[1, 2]] } = .err := by
  decide +kernel

/-- tampering class "query list / parameters": fewer queries than keys, fewer keys than queries, keys in another
order than the queries, another root, another key length -/
theorem C10_reg_tamper_shape :
    C10mVerify C10m4 C10K1 { C10P1 with queries := C10P1.queries.take 2 } = .ok false ∧
    C10mVerify C10m4 (C10K1.take 2) C10P1 = .ok false ∧
    C10mVerify C10m4 [[0x01], [0x40], [0x81]] C10P1 = .ok false ∧
    verify C10toyH C10K1 C10P1 (C10toyH [1]) 1 = .ok false ∧
    verify C10toyH C10K1 C10P1 (mapRoot C10toyH 1 C10m4) 2 = .ok false ∧
    verify C10toyH C10K2 C10P2 (mapRoot C10toyH 1 C10m3) 1 = .ok false := by
  decide +kernel

/-- forgery class "position filter": a second claim at the position of a proven node (another value / an empty
node), a second query for a proven key with another value or bitmap (`seen` check), a claim whose zero-padded
path would collide with a proven position -/
theorem C10_reg_forge_position :
    C10mVerify C10m4 (C10K1 ++ [[0x82]]) { C10P1 with queries := C10P1.queries ++ [⟨[0x82], [5], [0x03]⟩] } = .ok false ∧
    C10mVerify C10m4 (C10K1 ++ [[0x82]]) { C10P1 with queries := C10P1.queries ++ [⟨[0x82], [], [0x03]⟩] } = .ok false ∧
    C10mVerify C10m4 (C10K1 ++ [[0x01]]) { C10P1 with queries := C10P1.queries ++ [⟨[0x01], [5], [0x81]⟩] } = .err ∧
    C10mVerify C10m4 (C10K1 ++ [[0x01]]) { C10P1 with queries := C10P1.queries ++ [⟨[0x01], [2, 2], [0x01]⟩] } = .err ∧
    C10mVerify C10m4 (C10K1 ++ [[0x03]]) { C10P1 with queries := C10P1.queries ++ [⟨[0x03], [9], [0x80]⟩] } ≠ .ok true := by
  decide +kernel

/-- forgery class "merge check": bogus deeper queries below a proven node that climb on junk sibling hashes (in
front / behind the honest ones), or on each other, towards the position of an honest query -/
theorem C10_reg_forge_merge :
    C10mVerify C10m4 (C10K1 ++ [[0x90]])
      { siblings := [9, 9] :: C10P1.siblings, queries := C10P1.queries ++ [⟨[0x90], [9, 9], [0x07]⟩] } ≠ .ok true ∧
    C10mVerify C10m4 (C10K1 ++ [[0x90]])
      { siblings := C10P1.siblings ++ [[9, 9]], queries := C10P1.queries ++ [⟨[0x90], [9, 9], [0x07]⟩] } ≠ .ok true ∧
    C10mVerify C10m4 (C10K1 ++ [[0x88], [0x80]])
      { siblings := C10P1.siblings,
        queries := C10P1.queries ++ [⟨[0x88], [9, 9], [0x1F]⟩, ⟨[0x80], [8], [0x1F]⟩] } ≠ .ok true ∧
    C10mVerify C10m3 (C10K3 ++ [[0x14]])
      { siblings := [[9, 9]], queries := C10P3.queries ++ [⟨[0x14], [9], [0x31]⟩] } ≠ .ok true := by
  decide +kernel

/-- `Verify` with no query at all is an error ("fail to compute root"), also for the proof `Prove` generates for
the empty key list: `C10_multi_complete_Statement` can only hold for non-empty key lists -/
theorem C10_reg_no_query_err :
    (C10mProve C10m4 []).siblings = [] ∧ (C10mProve C10m4 []).queries = [] ∧
    C10mVerify C10m4 [] (C10mProve C10m4 []) = .err :=
  ⟨rfl, rfl, (C10_multi_complete_no_query C10toyH 1 .empty _).2 []⟩

/-! ### non-vacuity of `C10_multi_sound`: all hypotheses hold for the honest 3-query and 4-query proofs -/

example : ∀ i (_ : i < C10K1.length) (_ : i < C10P1.queries.length),
    claim C10K1[i] C10P1.queries[i] = mget C10m4 C10K1[i] :=
  C10_multi_sound C10toyH 2 C10toyH_length 1 C10m4 C10m4_ok C10K1 C10P1
    (noColl_of_check (by decide +kernel)) C10_reg_honest_accepted.1

example : ∀ i (_ : i < C10K3.length) (_ : i < C10P3.queries.length),
    claim C10K3[i] C10P3.queries[i] = mget C10m3 C10K3[i] :=
  C10_multi_sound C10toyH 2 C10toyH_length 1 C10m3 C10m3_ok C10K3 C10P3
    (noColl_of_check (by decide +kernel)) C10_reg_honest_accepted.2.2.1

-- and `C10_multi_no_false_claim` on a forged value (the tampered proof has no collision with the tree either)
example : C10mVerify C10m4 C10K1 (C10modQ C10P1 0 fun q => { q with value := [9, 9] }) ≠ .ok true :=
  C10_multi_no_false_claim C10toyH 2 C10toyH_length 1 C10m4 C10m4_ok C10K1 _
    (noColl_of_check (by decide +kernel)) 0 (by decide) (by decide +kernel) (by decide +kernel)

/-! ### non-vacuity of `C10_multi_complete`: the hypotheses hold for the toy hash and the example maps -/

example : ∃ proof, prove C10toyH 1 (buildH C10toyH 8 (entriesOf C10m4)) C10K1 = some proof ∧
    verify C10toyH C10K1 proof (mapRoot C10toyH 1 C10m4) 1 = .ok true ∧
    ∀ i (_ : i < C10K1.length) (_ : i < proof.queries.length), claim C10K1[i] proof.queries[i] = mget C10m4 C10K1[i] :=
  C10_multi_complete C10toyH 2 C10toyH_length (by decide) 1 C10m4 C10m4_ok C10m4_noColl
    C10K1 (by decide) (by decide)

example : ∃ proof, prove C10toyH 1 (buildH C10toyH 8 (entriesOf C10m3)) C10K3 = some proof ∧
    verify C10toyH C10K3 proof (mapRoot C10toyH 1 C10m3) 1 = .ok true ∧
    ∀ i (_ : i < C10K3.length) (_ : i < proof.queries.length), claim C10K3[i] proof.queries[i] = mget C10m3 C10K3[i] :=
  C10_multi_complete C10toyH 2 C10toyH_length (by decide) 1 C10m3 C10m3_ok C10m3_noColl
    C10K3 (by decide) (by decide)
