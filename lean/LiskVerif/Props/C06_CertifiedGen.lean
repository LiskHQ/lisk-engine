/-
C06 — tie A for "the last certified height is a function of the chain" (`Props/C06_Certified.lean`).

`LiskVerif/Gen/BFTSkeleton.lean` is REGENERATED from /repo on every run by tools/vskelgen (go/ast, table `-set bft`,
tools/vskelgen/run_bft.sh): the skeletons of `liskbft.Module.BeforeTransactionsExecute` and
`BFTVotes.updateMaxHeightCertified` (every statement-level call, every `if … { return … }`, every return, every
assignment to a receiver field, in program order, with the enclosing conditions in `ctx`; anything the translator
does not understand is an error and nothing is written).

`Model/BFT.lean` transcribes `BeforeTransactionsExecute` as a straight line:
insert → cache → votes → prevoted → precommitted → `mhc := h.commitHeight.getD mhc` → prune, for EVERY header.
`C06CertGen.bte_eq` states that the source still has that shape: the regenerated list IS the straight line of
fifteen calls, nine of them followed by `if err != nil { return err }`, and `return nil`.  The named
obligations about `BeforeTransactionsExecute` are read off the straight line (`C06_gen_bte_present` and
`C06_gen_update_certified_shape` evaluate the regenerated table themselves):

* `C06_gen_bte_straight_line` : the function has no conditional structure at all — every item is at the top level
  (`ctx = []`), every exit before the final `return nil` is the error of the call just made
  (`if err := f(…); err != nil { return err }`), there is no `branch`;
* `C06_gen_bte_no_early_return` : in particular nothing returns `nil` (or anything but a callee's error) before
  `updateMaxHeightCertified`, the store write and the two pruning calls;
* `C06_gen_bte_certified_update_unconditional`, `C06_gen_bte_pruning_unconditional`, `C06_gen_bte_calls` : the calls
  `updateMaxHeightCertified(blockHeader)` (with the header being processed), `diffdb.SetEncodable` of the votes,
  `deleteBFTParams` and `deleteGeneratorKeys` occur exactly once, unconditionally, in this order and after the three
  vote / height updates; the pruning bound is `ints.Min(oldest.height, maxHeightCertified + 1)` of the UPDATED votes;
* `C06_gen_update_certified_shape` : `updateMaxHeightCertified` is exactly "both fields empty → unchanged; otherwise
  `maxHeightCertified = header.AggregateCommit().Height`" — the model's `h.commitHeight.getD s.mhc`.

A change that puts the update (or the pruning) behind a condition — such as an early return for headers that imply no
votes, the seeded change C06-16 — adds a `branch` / a conditional `ret` to the regenerated list: it is no longer a
straight line, `bte_eq` fails and with it `C06_gen_bte_straight_line`, `C06_gen_bte_no_early_return` and the
exact-sequence obligation `C06_gen_bte_calls`, which rest on it.
-/
import LiskVerif.Gen.BFTSkeleton

open LiskVerif LiskVerif.Gen

namespace C06CertGen

abbrev Item := BFTS.Item

def body (f : String) : List Item := (BFTS.fns.lookup f).getD []

def bte : List Item := body "Module.BeforeTransactionsExecute"

/-- the item is the error exit of a call: `if err := f(…); err != nil { return err }` -/
def isCallErrExit (i : Item) : Bool := i.kind == "check" && i.op == "callerr" && i.ret == "err"

/-- the statement-level calls (canonical text: locals inlined), in program order -/
def calls (l : List Item) : List String := (l.filter (·.kind == "call")).map (·.lhs)

/-- the items strictly before the first statement-level call with the text `c` -/
def before (l : List Item) (c : String) : List Item :=
  l.takeWhile (fun i => !(i.kind == "call" && i.lhs == c))

def votes : String := "&BFTVotes{}"
def votesStore : String := "diffStore.WithPrefix(dbPrefix(storePrefixBFTVotes))"
def paramsStore : String := "diffStore.WithPrefix(dbPrefix(storePrefixBFTParams))"
def keysStore : String := "diffStore.WithPrefix(dbPrefix(storePrefixGeneratorKeys))"
def cache : String := "newBFTParamsCache(" ++ paramsStore ++ ")"
def oldest : String := votes ++ ".blockBFTInfos[len(" ++ votes ++ ".blockBFTInfos) - 1].height"
/-- `ints.Min(oldest.height, maxHeightCertified + 1)` read from the votes object AFTER the updates -/
def pruneBound : String := "ints.Min(" ++ oldest ++ ", " ++ votes ++ ".maxHeightCertified + 1)"

def cUpdateVotes : String := votes ++ ".updatePrevotesPrecommits(" ++ cache ++ ")"
def cUpdatePrevoted : String := votes ++ ".updateMaxHeightPrevoted(" ++ cache ++ ")"
def cUpdatePrecommitted : String := votes ++ ".updateMaxHeightPrecommitted(" ++ cache ++ ")"
def cUpdateCertified : String := votes ++ ".updateMaxHeightCertified(blockHeader)"
def cStoreVotes : String := "diffdb.SetEncodable(" ++ votesStore ++ ", emptyKey, " ++ votes ++ ")"
def cPruneParams : String := "deleteBFTParams(" ++ paramsStore ++ ", " ++ pruneBound ++ ")"
def cPruneKeys : String := "deleteGeneratorKeys(" ++ keysStore ++ ", " ++ pruneBound ++ ")"

/-- a statement-level call and, if it has one, its error exit `if err := f(…); err != nil { return err }` -/
def callStep (c : String × Bool) : List Item :=
  { kind := "call", lhs := c.1 } :: if c.2 then [{ kind := "check", op := "callerr", lhs := c.1, ret := "err" }] else []

/-- the body that makes the calls in order, leaves only with the error of the call just made, and ends in
`return nil` -/
def straightLine (cs : List (String × Bool)) : List Item := cs.flatMap callStep ++ [{ kind := "ret", ret := "nil" }]

theorem calls_straightLine (cs : List (String × Bool)) : calls (straightLine cs) = cs.map (·.1) := by
  unfold calls straightLine
  induction cs with
  | nil => rfl
  | cons c cs ih =>
    obtain ⟨t, b⟩ := c
    cases b <;> simpa [callStep, List.filter_cons] using ih

/-- the calls of `BeforeTransactionsExecute` (canonical text, has an error exit) -/
def bteCalls : List (String × Bool) :=
  [(votesStore, false), (paramsStore, false), (cache, false),
   ("diffdb.GetDecodable(" ++ votesStore ++ ", emptyKey, " ++ votes ++ ")", true),
   (votes ++ ".insertBlockBFTInfo(blockHeader, self.maxLengthBlock)", true),
   (cache ++ ".cache(" ++ oldest ++ ", " ++ votes ++ ".blockBFTInfos[0].height)", true),
   (cUpdateVotes, true), (cUpdatePrevoted, true), (cUpdatePrecommitted, true), (cUpdateCertified, true),
   (cStoreVotes, false), (pruneBound, false), (cPruneParams, true), (keysStore, false), (cPruneKeys, true)]

/-- **`BeforeTransactionsExecute` as regenerated is the straight line of `bteCalls`.** -/
theorem bte_eq : bte = straightLine bteCalls := by decide +kernel

end C06CertGen

open C06CertGen

/-- the skeletons were generated (a renamed or removed function gives the empty list and breaks this) -/
theorem C06_gen_bte_present : bte.length = 25 ∧ (body "BFTVotes.updateMaxHeightCertified").length = 3 := by
  decide +kernel

/-- `BeforeTransactionsExecute` is a straight line: no item lies under a condition, a loop, `go` or `defer`;
there is no `branch`; every `check` is the error exit of a call; the only other return is the final
`return nil`. -/
theorem C06_gen_bte_straight_line :
    bte.all (fun i => i.ctx == []) = true ∧
    bte.all (fun i => i.kind == "call" || isCallErrExit i || (i.kind == "ret" && i.ret == "nil")) = true ∧
    (bte.filter (fun i => i.kind == "ret")).length = 1 ∧
    bte.getLast? = some { kind := "ret", ret := "nil" } := by
  rw [bte_eq]
  decide +kernel

/-- the exact sequence of statement-level calls: insert → cache → votes → prevoted → precommitted →
certified (from the header being processed) → store → prune parameters → prune generator keys, the pruning
bound being computed from the updated votes -/
theorem C06_gen_bte_calls :
    calls bte =
      [votesStore, paramsStore, cache,
       "diffdb.GetDecodable(" ++ votesStore ++ ", emptyKey, " ++ votes ++ ")",
       votes ++ ".insertBlockBFTInfo(blockHeader, self.maxLengthBlock)",
       cache ++ ".cache(" ++ oldest ++ ", " ++ votes ++ ".blockBFTInfos[0].height)",
       cUpdateVotes, cUpdatePrevoted, cUpdatePrecommitted, cUpdateCertified, cStoreVotes, pruneBound,
       cPruneParams, keysStore, cPruneKeys] := by
  rw [bte_eq, calls_straightLine]
  rfl

/-- nothing but the error of a callee leaves the function before the certified-height update, the store
write and the two pruning calls (each of which exists): no early `return nil` -/
theorem C06_gen_bte_no_early_return :
    ([cUpdateCertified, cStoreVotes, cPruneParams, cPruneKeys].all fun c =>
      decide ((before bte c).length < bte.length) &&
      (before bte c).all (fun i => i.kind == "call" || isCallErrExit i)) = true := by
  rw [bte_eq]
  decide +kernel

/-- the certified height is updated exactly once, unconditionally, from the header being processed -/
theorem C06_gen_bte_certified_update_unconditional :
    bte.filter (fun i => i.kind == "call" && i.lhs == cUpdateCertified) = [{ kind := "call", lhs := cUpdateCertified }] ∧
    (bte.filter (fun i => i.kind == "set")).length = 0 := by
  rw [bte_eq]
  decide +kernel

/-- the updated votes are stored and both stores are pruned exactly once, unconditionally -/
theorem C06_gen_bte_pruning_unconditional :
    bte.filter (fun i => i.kind == "call" && (i.lhs == cStoreVotes || i.lhs == cPruneParams || i.lhs == cPruneKeys)) =
      [{ kind := "call", lhs := cStoreVotes }, { kind := "call", lhs := cPruneParams },
       { kind := "call", lhs := cPruneKeys }] := by
  rw [bte_eq]
  decide +kernel

/-- `updateMaxHeightCertified` is the model's `h.commitHeight.getD s.mhc`: unchanged iff aggregation bits AND
signature are empty, otherwise the height field of the header's aggregate commit -/
theorem C06_gen_update_certified_shape :
    body "BFTVotes.updateMaxHeightCertified" =
      [{ kind := "check", op := "&&", lhs := "len(header.AggregateCommit().AggregationBits) == 0",
         rhs := "len(header.AggregateCommit().CertificateSignature) == 0", ret := "nil" },
       { kind := "set", lhs := "self.maxHeightCertified", rhs := "header.AggregateCommit().Height" },
       { kind := "ret", ret := "nil" }] := by
  decide +kernel

/-- non-vacuity of the queries: a list with the early return of the seeded change (a `branch` on "the header
implied no votes" whose body stores the votes and returns nil, placed before `updateMaxHeightPrevoted`) is
rejected by the straight-line and the no-early-return predicates, which hold of the regenerated list -/
example :
    let seeded : List C06CertGen.Item :=
      (before bte cUpdatePrevoted) ++
      [{ kind := "branch", op := "not", lhs := "voted" },
       { kind := "call", ctx := ["!voted"], lhs := "diffdb.SetEncodable(voteStore, emptyKey, bftVotes)" },
       { kind := "ret", ctx := ["!voted"], ret := "nil" }] ++
      bte.drop (before bte cUpdatePrevoted).length
    seeded.length = bte.length + 3 ∧
    seeded.all (fun i => i.ctx == []) = false ∧
    (before seeded cUpdateCertified).all (fun i => i.kind == "call" || isCallErrExit i) = false ∧
    (before bte cUpdateCertified).all (fun i => i.kind == "call" || isCallErrExit i) = true := by
  rw [bte_eq]
  decide +kernel
