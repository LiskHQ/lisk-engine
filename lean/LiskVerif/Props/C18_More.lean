/-
C18 — the connection gater and the rate limiter along arbitrary runs.

Gater: the ban period under every clock sequence (`time.Now().Unix()` is the wall clock and may step back), the exact end
of a ban, no false bans, score bounds (the Go `int`), the gates that never refuse, permanence of the blacklist and its
independence of bans.  Rate limiter: a refinement of a reference counter machine for ALL arrival sequences, limits and tick
placements (`C18_rate_limiter_refines`), so that every theorem about gater runs applies to message traffic; the exact
number of penalties (`C18_rate_penalty_count`); connections only close and a ban survives later traffic
(`C18_conns_only_shrink`, `C18_ban_survives_traffic`); scores add up per IP, across peer ids and connections
(`C18_score_is_sum_per_ip`).  Four concrete runs mark the limits of these statements: `C18_clock_backwards_shortens_ban`,
`C18_negative_score_defeats_ban`, `C18_ban_disconnects_only_the_penalised_peer`, `C18_apply_penalty_counts_per_connection`.
-/
import LiskVerif.Props.C18_Rate
import LiskVerif.Lemmas.GaterMore

open LiskVerif LiskVerif.ConnGater LiskVerif.RateLimit

/-! ## the connection gater -/

/-- every gate that looks at the remote address refuses `ip` (whatever peer id / transport part the
address carries), and so do the inbound and the outbound gate sequence -/
def C18Refused (g : Gater) (ip : IP) : Prop :=
  ∀ (pid : Nat) (apid : Option Nat),
    interceptAddrDial g pid ⟨some ip, apid⟩ = false ∧ interceptAccept g ⟨some ip, apid⟩ = false ∧
    interceptSecured g true pid ⟨some ip, apid⟩ = false ∧
    outboundAllowed g pid ⟨some ip, apid⟩ = false ∧ inboundAllowed g pid ⟨some ip, apid⟩ = false

/-- every gate allows `ip` -/
def C18Admitted (g : Gater) (ip : IP) : Prop :=
  ∀ (pid : Nat) (apid : Option Nat),
    interceptPeerDial g pid = true ∧ interceptAddrDial g pid ⟨some ip, apid⟩ = true ∧
    interceptAccept g ⟨some ip, apid⟩ = true ∧ interceptSecured g true pid ⟨some ip, apid⟩ = true ∧
    interceptSecured g false pid ⟨some ip, apid⟩ = true ∧ interceptUpgraded g = true ∧
    outboundAllowed g pid ⟨some ip, apid⟩ = true ∧ inboundAllowed g pid ⟨some ip, apid⟩ = true

private theorem refused_of (g : Gater) (ip : IP) (h : isBanned g ip = true ∨ isBlocked g ip = true) :
    C18Refused g ip := fun pid apid => (C18_gates_refuse_banned_or_blacklisted g ip apid pid).1 h

private theorem admitted_of (g : Gater) (ip : IP) (h1 : isBanned g ip = false)
    (h2 : isBlocked g ip = false) : C18Admitted g ip :=
  fun pid apid => (C18_gates_refuse_banned_or_blacklisted g ip apid pid).2 ⟨h1, h2⟩

private theorem epoch_append (E : Nat) (ip : IP) (a b : List Op) :
    C18epoch E ip (a ++ b) = b.foldl (C18epochStep E ip) (C18epoch E ip a) := by
  unfold C18epoch
  rw [List.foldl_append]

/-- the score returned by a penalty is the total of the epoch it extends -/
private theorem pen_result (E : Nat) (pre : List Op) (tb : Nat) (ip : IP) (apid : Option Nat)
    (s ns : Int) (hpen : (addPenalty (run (C18fresh E) pre) tb ⟨some ip, apid⟩ s).2 = .ok ns) :
    ns = C18total ((tb, s) :: C18epoch E ip pre) := by
  have hs := (C18_reachable_wf E pre).2.1
  rw [addPenalty_ok hs] at hpen
  simp only [Except.ok.injEq] at hpen
  rw [C18_entry_is_epoch] at hpen
  cases h : C18epoch E ip pre with
  | nil =>
    rw [h] at hpen
    simp only [C18specEntry] at hpen
    simp [C18total, ← hpen]
  | cons e r =>
    rw [h] at hpen
    simp only [C18specEntry] at hpen
    simp only [C18total] at hpen ⊢
    omega

private theorem epoch_after_pen (E : Nat) (pre : List Op) (tb : Nat) (ip : IP) (apid : Option Nat)
    (s : Int) (ops : List Op) :
    C18epoch E ip (pre ++ Op.pen tb ⟨some ip, apid⟩ s :: ops) =
      ops.foldl (C18epochStep E ip) ((tb, s) :: C18epoch E ip pre) := by
  rw [epoch_append]
  simp [List.foldl, C18epochStep]

/-! ### the ban period, for every clock sequence -/

private theorem run_append (g : Gater) (a b : List Op) : run g (a ++ b) = run (run g a) b := by
  unfold run; rw [List.foldl_append]

/-- **The ban period under every clock sequence.**  Along every run: a penalty stamped `tb` brings
the total of `ip` to the threshold (returned score `ns ≥ 100`).  Let `m ≤ tb` be a lower bound of the
clock readings of the *later penalties against `ip`* (`m = tb` when the clock never runs backwards
for them).  Then after every prefix of any continuation — penalties of any sign to any address,
expiry passes in any order (the clock may jump backwards arbitrarily far for them), block / unblock /
blacklist operations — in which every expiry pass reads a clock `≤ m + E`, `ip` is still banned and
every address-inspecting gate and both gate sequences refuse it.
Props/C18 `C18_ban_holds_until_expiry` is the companion for any started gater with unique keys (not only a reachable
one) when all clock readings lie in `[tb, tb + E]`. -/
theorem C18_ban_period_any_clock (E : Nat) (pre : List Op) (tb : Nat) (ip : IP) (apid : Option Nat)
    (s ns : Int) (hpen : (addPenalty (run (C18fresh E) pre) tb ⟨some ip, apid⟩ s).2 = .ok ns)
    (hns : ns ≥ 100) (m : Nat) (hm : m ≤ tb) (ops : List Op)
    (hsw : ∀ t, Op.sweep t ∈ ops → t ≤ m + E)
    (hpn : ∀ t a s', Op.pen t a s' ∈ ops → a.ip = some ip → m ≤ t) (k : Nat) :
    isBanned (run (C18fresh E) (pre ++ Op.pen tb ⟨some ip, apid⟩ s :: ops.take k)) ip = true ∧
    C18Refused (run (C18fresh E) (pre ++ Op.pen tb ⟨some ip, apid⟩ s :: ops.take k)) ip := by
  have hb : isBanned (run (C18fresh E) (pre ++ Op.pen tb ⟨some ip, apid⟩ s :: ops.take k)) ip = true := by
    have htot := pen_result E pre tb ip apid s ns hpen
    have h100 : C18total ((tb, s) :: C18epoch E ip pre) ≥ 100 := by rw [← htot]; exact hns
    have hrel := C18_rel_reachable E (pre ++ [Op.pen tb ⟨some ip, apid⟩ s]) ip
    rw [epoch_after_pen E pre tb ip apid s []] at hrel
    rw [show pre ++ Op.pen tb ⟨some ip, apid⟩ s :: ops.take k = (pre ++ [Op.pen tb ⟨some ip, apid⟩ s]) ++ ops.take k by simp,
      run_append]
    exact C18_ban_period hrel m (by simp only [List.foldl, C18expOf, h100, if_true]; constructor <;> omega) (ops.take k)
      (fun t h => hsw t (List.mem_of_mem_take h)) (fun t a s' h => hpn t a s' (List.mem_of_mem_take h))
  exact ⟨hb, refused_of _ ip (Or.inl hb)⟩

example : isBanned (run (C18fresh 10) ([] ++ Op.pen 100 ⟨some [1, 2, 3, 4], none⟩ 100 ::
    [Op.sweep 5, .pen 3 ⟨some [9, 9, 9, 9], none⟩ 100, .sweep 110, .pen 105 ⟨some [1, 2, 3, 4], some 7⟩ (-60),
     .unblock [1, 2, 3, 4], .sweep 0].take 6)) [1, 2, 3, 4] = true := by decide

/-- **The lower bound on later penalty time stamps is necessary (clock running backwards).**  A ban
imposed at second 100 with duration 10 should last until 110.  A further penalty against the same IP
stamped with an *earlier* clock reading (50; `time.Now().Unix()` is the wall clock and may step back)
moves the expiration back to 60, and an expiry pass at second 61 lifts the ban 49 seconds early. -/
theorem C18_clock_backwards_shortens_ban :
    let ops : List Op := [.pen 100 ⟨some [1, 2, 3, 4], some 1⟩ 100, .pen 50 ⟨some [1, 2, 3, 4], some 1⟩ 1,
      .sweep 61]
    isBanned (run (C18fresh 10) (ops.take 2)) [1, 2, 3, 4] = true ∧
    find (run (C18fresh 10) (ops.take 2)).peerScore [1, 2, 3, 4] = some ⟨101, 60⟩ ∧
    isBanned (run (C18fresh 10) ops) [1, 2, 3, 4] = false ∧
    inboundAllowed (run (C18fresh 10) ops) 1 ⟨some [1, 2, 3, 4], none⟩ = true := by decide

/-! ### the exact end of a ban -/

private theorem fold_nil_no_pen (E : Nat) (ip : IP) (ops : List Op)
    (hno : ∀ t a s', Op.pen t a s' ∈ ops → a.ip ≠ some ip) :
    ops.foldl (C18epochStep E ip) [] = [] :=
  List.foldlRecOn ops _ (motive := (· = [])) rfl fun ep hep op hop => by
    rcases C18epochStep_cases E ip ep op with ⟨t, a, s', rfl, ha, _⟩ | ⟨_, _, _, _, h⟩ | ⟨_, h⟩
    · exact absurd ha (hno t a s' hop)
    · exact h
    · exact h.trans hep

private theorem ends_fold (E : Nat) (ip : IP) (tb : Nat) (s : Int) (older : C18Epoch)
    (htot : C18total ((tb, s) :: older) ≥ 100) (ops : List Op)
    (hno : ∀ t a s', Op.pen t a s' ∈ ops → a.ip ≠ some ip) :
    ((∀ t, Op.sweep t ∈ ops → t ≤ tb + E) →
        ops.foldl (C18epochStep E ip) ((tb, s) :: older) = (tb, s) :: older) ∧
    ((∃ t, Op.sweep t ∈ ops ∧ tb + E < t) → ops.foldl (C18epochStep E ip) ((tb, s) :: older) = []) := by
  have hexp : C18expOf E ((tb, s) :: older) = ((tb + E : Nat) : Int) := by
    simp only [C18expOf, htot, if_true]
  induction ops with
  | nil => exact ⟨fun _ => rfl, fun ⟨t, ht, _⟩ => nomatch ht⟩
  | cons op r ih =>
    have hno' : ∀ t a s', Op.pen t a s' ∈ r → a.ip ≠ some ip :=
      fun t a s' h => hno t a s' (List.mem_cons_of_mem _ h)
    rw [List.foldl_cons]
    rcases C18epochStep_cases E ip ((tb, s) :: older) op with ⟨t, a, s', rfl, ha, _⟩ | ⟨t, rfl, _, ht, h⟩ | ⟨_, h⟩
    · exact absurd ha (hno t a s' List.mem_cons_self)
    · rw [h, fold_nil_no_pen E ip r hno']
      rw [hexp] at ht
      exact ⟨fun hs => absurd (hs t List.mem_cons_self) (by omega), fun _ => rfl⟩
    · rw [h]
      refine ⟨fun hs => (ih hno').1 (fun t ht => hs t (List.mem_cons_of_mem _ ht)), ?_⟩
      rintro ⟨t, ht, hlt⟩
      rcases List.mem_cons.mp ht with rfl | ht
      · rw [C18epochStep, if_pos (by rw [hexp]; omega)] at h
        cases h
      · exact (ih hno').2 ⟨t, ht, hlt⟩

/-- **A ban ends exactly at the first expiry pass after `tb + E`, for every clock sequence, and then
the IP is clean.**  Along every run, after a penalty stamped `tb` that returns a score `≥ 100`, and
any continuation without further penalties against that IP (everything else is allowed, in any clock
order, monotone or not):
* `ip` is banned (and then refused by every gate that looks at the address and by both gate sequences)
  **iff** no expiry pass so far read a clock `> tb + E`;
* once such a pass happened, the entry is gone for good — whatever clock readings follow —: the IP
  is not banned, every gate admits it unless it is on the permanent blacklist, and its next penalty
  starts from a clean score (`addPenalty … s'` returns `s'`). -/
theorem C18_ban_ends_exactly (E : Nat) (pre : List Op) (tb : Nat) (ip : IP) (apid : Option Nat)
    (s ns : Int) (hpen : (addPenalty (run (C18fresh E) pre) tb ⟨some ip, apid⟩ s).2 = .ok ns)
    (hns : ns ≥ 100) (ops : List Op)
    (hno : ∀ t a s', Op.pen t a s' ∈ ops → a.ip ≠ some ip) :
    let g' := run (C18fresh E) (pre ++ Op.pen tb ⟨some ip, apid⟩ s :: ops)
    (isBanned g' ip = true ↔ ∀ t, Op.sweep t ∈ ops → t ≤ tb + E) ∧
    (isBanned g' ip = true → C18Refused g' ip) ∧
    ((∃ t, Op.sweep t ∈ ops ∧ tb + E < t) →
      find g'.peerScore ip = none ∧ isBanned g' ip = false ∧
      (isBlocked g' ip = false → C18Admitted g' ip) ∧
      ∀ t' apid' s', (addPenalty g' t' ⟨some ip, apid'⟩ s').2 = .ok s') := by
  intro g'
  have htot := pen_result E pre tb ip apid s ns hpen
  have h100 : C18total ((tb, s) :: C18epoch E ip pre) ≥ 100 := by rw [← htot]; exact hns
  have hf := ends_fold E ip tb s (C18epoch E ip pre) h100 ops hno
  have hep := epoch_after_pen E pre tb ip apid s ops
  have hexpired : (∃ t, Op.sweep t ∈ ops ∧ tb + E < t) →
      find g'.peerScore ip = none ∧ isBanned g' ip = false := by
    intro h
    have hnil := hf.2 h
    have hfind : find g'.peerScore ip = none := by
      show find (run (C18fresh E) _).peerScore ip = none
      rw [C18_entry_is_epoch, hep, hnil]
      rfl
    exact ⟨hfind, by simp [isBanned, hfind]⟩
  refine ⟨?_, fun hb => refused_of _ ip (Or.inl hb), ?_⟩
  · constructor
    · intro hb t ht
      by_cases hle : t ≤ tb + E
      · exact hle
      · have := (hexpired ⟨t, ht, by omega⟩).2
        rw [this] at hb
        exact absurd hb (by simp)
    · intro h
      show isBanned (run (C18fresh E) _) ip = true
      rw [(C18_rel_reachable E _ ip).banned_iff, hep, hf.1 h]
      simp only [C18expOf, h100, if_true]
      omega
  · intro h
    obtain ⟨hfind, hnb⟩ := hexpired h
    refine ⟨hfind, hnb, fun hbl => admitted_of _ ip hnb hbl, ?_⟩
    intro t' apid' s'
    have hs : g'.started = true := (C18_reachable_wf E _).2.1
    rw [addPenalty_ok hs]
    simp [hfind]

example : (∃ t, Op.sweep t ∈ [Op.sweep 5, .sweep 111, .sweep 3] ∧ 100 + 10 < t) := ⟨111, by simp, by omega⟩
example : isBanned (run (C18fresh 10) ([] ++ Op.pen 100 ⟨some [1, 2, 3, 4], none⟩ 100 ::
    [Op.sweep 5, .sweep 111, .sweep 3])) [1, 2, 3, 4] = false := by decide
example : isBanned (run (C18fresh 10) ([] ++ Op.pen 100 ⟨some [1, 2, 3, 4], none⟩ 100 ::
    [Op.sweep 5, .sweep 110, .sweep 3])) [1, 2, 3, 4] = true := by decide

/-! ### no false bans -/

/-- sum of the positive parts of the penalties against `ip` -/
def C18posSum (ip : IP) : List Op → Int
  | [] => 0
  | .pen _ a s :: r => (if a.ip = some ip then (if 0 ≤ s then s else 0) else 0) + C18posSum ip r
  | _ :: r => C18posSum ip r

private theorem posPart_spec (s : Int) : 0 ≤ (if 0 ≤ s then s else 0) ∧ s ≤ (if 0 ≤ s then s else 0) := by
  split <;> omega

private theorem posSum_nonneg (ip : IP) (ops : List Op) : 0 ≤ C18posSum ip ops := by
  induction ops with
  | nil => simp [C18posSum]
  | cons op r ih =>
    cases op with
    | pen now a s =>
      have := posPart_spec s
      simp only [C18posSum]
      split <;> omega
    | _ => exact ih

private theorem posSum_take_le (ip : IP) (ops : List Op) (k : Nat) :
    C18posSum ip (ops.take k) ≤ C18posSum ip ops := by
  induction ops generalizing k with
  | nil => simp [C18posSum]
  | cons op r ih =>
    cases k with
    | zero => simp only [List.take, C18posSum]; exact posSum_nonneg ip _
    | succ k =>
      have := ih k
      cases op with
      | pen now a s => simp only [List.take, C18posSum]; omega
      | _ => exact this

private theorem expOf_none_of_suffixes (E : Nat) (ep : C18Epoch)
    (h : ∀ k, C18total (ep.drop k) < 100) : C18expOf E ep = -1 :=
  Decidable.byContradiction fun hne =>
    let ⟨k, _, hk⟩ := (C18expOf_ne_iff E ep).mp hne
    absurd hk (Int.not_le.mpr (h k))

private theorem below_fold (E : Nat) (ip : IP) (ops : List Op) (ep : C18Epoch) (P : Int)
    (hP : 0 ≤ P) (hI : ∀ k, C18total (ep.drop k) ≤ P) :
    ∀ k, C18total ((ops.foldl (C18epochStep E ip) ep).drop k) ≤ P + C18posSum ip ops := by
  induction ops generalizing ep P with
  | nil => intro k; simp only [List.foldl, C18posSum]; have := hI k; omega
  | cons op r ih =>
    cases op with
    | pen now a s =>
      by_cases ha : a.ip = some ip
      · intro k
        obtain ⟨hw0, hw1⟩ := posPart_spec s
        have hI' : ∀ k, C18total (((now, s) :: ep).drop k) ≤ P + (if 0 ≤ s then s else 0) := by
          intro k
          cases k with
          | zero => have := hI 0; simp only [List.drop, C18total] at this ⊢; omega
          | succ k => have := hI k; simp only [List.drop]; omega
        have := ih ((now, s) :: ep) (P + (if 0 ≤ s then s else 0)) (by omega) hI' k
        simp only [List.foldl, C18epochStep, ha, if_true, C18posSum]
        omega
      · intro k
        have := ih ep P hP hI k
        simp only [List.foldl, C18epochStep, ha, if_false, C18posSum]
        omega
    | sweep now =>
      intro k
      simp only [List.foldl, C18epochStep, C18posSum]
      split
      · exact ih [] P hP (fun k => by simpa [C18total] using hP) k
      · exact ih ep P hP hI k
    | _ => exact ih ep P hP hI

/-- **No false bans.**  Along every run: if `ip` currently has no entry (it was never penalised, or
its ban expired and was swept), then as long as the positive parts of the penalties against `ip`
sum to less than the threshold, `ip` is never banned — after every prefix of the continuation,
whatever the clock does and whatever happens to other IPs — and every gate admits it unless it is
on the permanent blacklist.  In particular penalties against other IPs, and peers behind other IPs,
never cause a ban of `ip`. -/
theorem C18_no_ban_below_threshold (E : Nat) (pre : List Op) (ip : IP)
    (hclean : find (run (C18fresh E) pre).peerScore ip = none) (ops : List Op)
    (hsum : C18posSum ip ops < 100) (k : Nat) :
    isBanned (run (C18fresh E) (pre ++ ops.take k)) ip = false ∧
    (isBlocked (run (C18fresh E) (pre ++ ops.take k)) ip = false →
      C18Admitted (run (C18fresh E) (pre ++ ops.take k)) ip) := by
  have hnil : C18epoch E ip pre = [] := ((C18_ban_iff_threshold E pre ip).2.2).1 hclean
  have hb : isBanned (run (C18fresh E) (pre ++ ops.take k)) ip = false := by
    rw [Bool.eq_false_iff]
    intro hb
    rw [(C18_rel_reachable E _ ip).banned_iff, epoch_append, hnil] at hb
    apply hb
    apply expOf_none_of_suffixes
    intro j
    have := below_fold E ip (ops.take k) [] 0 (Int.le_refl 0) (fun k => by simp [C18total]) j
    have := posSum_take_le ip ops k
    omega
  exact ⟨hb, fun hbl => admitted_of _ ip hb hbl⟩

example : C18posSum [1, 2, 3, 4] [.pen 1 ⟨some [1, 2, 3, 4], none⟩ 60, .pen 2 ⟨some [5, 5, 5, 5], none⟩ 100,
    .pen 3 ⟨some [1, 2, 3, 4], some 2⟩ 39, .pen 4 ⟨some [1, 2, 3, 4], some 2⟩ (-50)] < 100 := by decide

/-! ### score bounds (Go `int`) -/

/-- sum of the absolute values of the penalties against `ip` -/
def C18absSum (ip : IP) : List Op → Int
  | [] => 0
  | .pen _ a s :: r => (if a.ip = some ip then (if 0 ≤ s then s else -s) else 0) + C18absSum ip r
  | _ :: r => C18absSum ip r

private theorem absPart_spec (s : Int) :
    0 ≤ (if 0 ≤ s then s else -s) ∧ -(if 0 ≤ s then s else -s) ≤ s ∧ s ≤ (if 0 ≤ s then s else -s) := by
  split <;> omega

private theorem absSum_nonneg (ip : IP) (ops : List Op) : 0 ≤ C18absSum ip ops := by
  induction ops with
  | nil => simp [C18absSum]
  | cons op r ih =>
    cases op with
    | pen now a s =>
      have := absPart_spec s
      simp only [C18absSum]
      split <;> omega
    | _ => exact ih

private theorem abs_fold (E : Nat) (ip : IP) (ops : List Op) (ep : C18Epoch) (A : Int) (hA : 0 ≤ A)
    (hI : -A ≤ C18total ep ∧ C18total ep ≤ A) :
    -(A + C18absSum ip ops) ≤ C18total (ops.foldl (C18epochStep E ip) ep) ∧
      C18total (ops.foldl (C18epochStep E ip) ep) ≤ A + C18absSum ip ops := by
  induction ops generalizing ep A with
  | nil => simpa [C18absSum] using hI
  | cons op r ih =>
    cases op with
    | pen now a s =>
      by_cases ha : a.ip = some ip
      · obtain ⟨hw0, hw1, hw2⟩ := absPart_spec s
        have := ih ((now, s) :: ep) (A + (if 0 ≤ s then s else -s)) (by omega) (by simp only [C18total]; omega)
        simp only [List.foldl, C18epochStep, ha, if_true, C18absSum]
        omega
      · have := ih ep A hA hI
        simp only [List.foldl, C18epochStep, ha, if_false, C18absSum]
        omega
    | sweep now =>
      simp only [List.foldl, C18epochStep, C18absSum]
      split
      · exact ih [] A hA (by simp only [C18total]; omega)
      · exact ih ep A hA hI
    | _ => exact ih ep A hA hI

private theorem nonneg_fold (E : Nat) (ip : IP) (ops : List Op) (ep : C18Epoch) (hI : 0 ≤ C18total ep)
    (hnn : ∀ t a s, Op.pen t a s ∈ ops → a.ip = some ip → 0 ≤ s) :
    0 ≤ C18total (ops.foldl (C18epochStep E ip) ep) :=
  List.foldlRecOn ops _ (motive := fun ep => 0 ≤ C18total ep) hI fun ep hI op hop => by
    rcases C18epochStep_cases E ip ep op with ⟨t, a, s, rfl, ha, h⟩ | ⟨_, _, _, _, h⟩ | ⟨_, h⟩ <;> rw [h]
    · have hs := hnn t a s hop ha
      simp only [C18total]; omega
    · exact Int.le_refl 0
    · exact hI

/-- **The score stays within the sum of the penalty magnitudes.**  After every run the score of
every IP lies in `[-A, A]` where `A` is the sum of the absolute values of the penalties against that
IP; with non-negative penalties the score is non-negative.  Consequently the unbounded `Int` of the
model and the Go `int` (64 bit) agree on every run whose penalty magnitudes sum to less than `2^63`.
(Nothing smaller bounds the score: there is no cap at `MaxPenaltyScore`, a banned IP keeps accumulating.) -/
theorem C18_score_bounded (E : Nat) (ops : List Op) (ip : IP) (i : PeerInfo)
    (hi : find (run (C18fresh E) ops).peerScore ip = some i) :
    -C18absSum ip ops ≤ i.score ∧ i.score ≤ C18absSum ip ops ∧
    (C18absSum ip ops < 2 ^ 63 → -(2 : Int) ^ 63 ≤ i.score ∧ i.score < 2 ^ 63) ∧
    ((∀ t a s, Op.pen t a s ∈ ops → a.ip = some ip → 0 ≤ s) → 0 ≤ i.score) := by
  have hsc := (C18_ban_iff_threshold E ops ip).2.1 i hi
  have hb := abs_fold E ip ops [] 0 (Int.le_refl 0) (by simp [C18total])
  have hb' : -C18absSum ip ops ≤ C18total (C18epoch E ip ops) ∧
      C18total (C18epoch E ip ops) ≤ C18absSum ip ops := by
    unfold C18epoch
    constructor <;> omega
  refine ⟨by omega, by omega, fun h => by omega, ?_⟩
  intro hnn
  have := nonneg_fold E ip ops [] (by simp [C18total]) hnn
  unfold C18epoch at hsc
  omega

example : find (run (C18fresh 10) [.pen 1 ⟨some [1, 2, 3, 4], none⟩ 100, .pen 2 ⟨some [1, 2, 3, 4], none⟩ 100,
    .pen 3 ⟨some [1, 2, 3, 4], none⟩ 100]).peerScore [1, 2, 3, 4] = some ⟨300, 13⟩ := by decide

/-- **Magnitude and sign of penalties are not validated: a negative score is a credit that defeats
the ban for malformed envelopes.**  (`Connection.ApplyPenalty(pid, score int)` and
`WithRPCMessageCounter(limit, penalty int)` accept any `int`.)  After a penalty of `-1000`, a
malformed envelope from that IP adds `MaxPenaltyScore` but the total stays below the threshold: the
sender is disconnected, yet its IP is **not** banned and may reconnect at once.  Hence the hypothesis
`hnonneg` of `C18_bad_message_banned` is necessary. -/
theorem C18_negative_score_defeats_ban :
    let n : Node := { g := run (C18fresh 10) [.pen 1 ⟨some [1, 2, 3, 4], some 3⟩ (-1000)],
                      mpStarted := true, conns := [(3, ⟨some [1, 2, 3, 4], none⟩)] }
    let n' := receive n 5 true ⟨some [1, 2, 3, 4], none⟩ 3 .malformed
    find n'.g.peerScore [1, 2, 3, 4] = some ⟨-900, -1⟩ ∧ isBanned n'.g [1, 2, 3, 4] = false ∧
    n'.conns = [] ∧ inboundAllowed n'.g 3 ⟨some [1, 2, 3, 4], none⟩ = true := by decide

/-! ### the gates that never refuse; the blacklist -/

/-- **Two of the five gates never refuse, a third never refuses an outbound connection, and an address without
IP component is never refused.**  `InterceptPeerDial` and `InterceptUpgraded` return `true` in every state, and so
does `InterceptSecured` for an outbound connection (even for a banned *and* blacklisted IP), so refusal is the work
of `InterceptAddrDial`, `InterceptAccept` and inbound `InterceptSecured`: the outbound sequence answers what
`InterceptAddrDial` answers, the inbound sequence what `InterceptAccept` answers.
A multiaddr from which `manet.ToIP` extracts no IP passes every gate. -/
theorem C18_gates_that_never_refuse (g : Gater) (pid : Nat) (a : Addr) (apid : Option Nat) :
    interceptPeerDial g pid = true ∧ interceptUpgraded g = true ∧ interceptSecured g false pid a = true ∧
    (outboundAllowed g pid a = interceptAddrDial g pid a) ∧
    (inboundAllowed g pid a = interceptAccept g a) ∧
    inboundAllowed g pid ⟨none, apid⟩ = true ∧ outboundAllowed g pid ⟨none, apid⟩ = true := by
  refine ⟨rfl, rfl, rfl, ?_, ?_, rfl, rfl⟩
  · simp [outboundAllowed, interceptPeerDial, interceptSecured, interceptUpgraded]
  · simp [inboundAllowed, interceptAccept, interceptSecured, interceptUpgraded]

example : let g := blockAddr (run (C18fresh 10) [.pen 1 ⟨some [1, 2, 3, 4], none⟩ 100]) [1, 2, 3, 4]
    isBanned g [1, 2, 3, 4] = true ∧ isBlocked g [1, 2, 3, 4] = true ∧
    interceptSecured g false 0 ⟨some [1, 2, 3, 4], none⟩ = true := by decide

/-- **The blacklist is permanent.**  From any state in which `ip` is blacklisted, after every prefix
of every operation sequence that does not contain `unblock ip` — expiry passes at any clock reading,
penalties, `unblock` of other IPs, further blacklist loads — `ip` is still blacklisted and refused by
every address-inspecting gate; `unblock ip` is the one operation that removes it. -/
theorem C18_blacklist_permanent (g : Gater) (ip : IP) (hb : isBlocked g ip = true) (ops : List Op)
    (hno : Op.unblock ip ∉ ops) (k : Nat) :
    isBlocked (run g (ops.take k)) ip = true ∧ C18Refused (run g (ops.take k)) ip ∧
    isBlocked (apply (run g (ops.take k)) (.unblock ip)) ip = false := by
  have h := isBlocked_run (ops.take k) g ip hb (fun hm => hno (List.mem_of_mem_take hm))
  exact ⟨h, refused_of _ ip (Or.inr h), isBlocked_unblock _ ip⟩

example : isBlocked (run (blockAddr (C18fresh 1) [9, 9, 9, 9]) ([Op.sweep 1000000, .unblock [9, 9, 9, 8],
    .pen 5 ⟨some [9, 9, 9, 9], none⟩ (-500), .blacklist [none]].take 4)) [9, 9, 9, 9] = true := by decide

/-- blacklist edits and `start` -/
def C18isConfig : Op → Bool
  | .pen _ _ _ => false
  | .sweep _ => false
  | _ => true

/-- **Ban and blacklist are independent.**  Blacklist edits (block / unblock / blacklist load) never
change the score table — `unblock` does not lift or shorten a ban, `block` does not reset a score —
and penalties / expiry passes never change the blacklist — it never expires. -/
theorem C18_ban_and_blacklist_independent (g : Gater) (ops : List Op) :
    ((∀ op ∈ ops, C18isConfig op = true) → (run g ops).peerScore = g.peerScore) ∧
    ((∀ op ∈ ops, C18isConfig op = false) → (run g ops).blocked = g.blocked) := by
  refine ⟨fun h => List.foldlRecOn (motive := fun g' => g'.peerScore = g.peerScore) ops apply rfl
      fun g hg op hm => Eq.trans ?_ hg,
    fun h => List.foldlRecOn (motive := fun g' => g'.blocked = g.blocked) ops apply rfl fun g hg op hm => Eq.trans ?_ hg⟩
  · have := h op hm
    cases op with
    | pen _ _ _ => cases this
    | sweep _ => cases this
    | block ip => exact (blockAddr_fields g ip).1
    | blacklist l => exact (blacklist_frame g l).1
    | _ => rfl
  · have := h op hm
    cases op with
    | pen now a s => exact (addPenalty_fields g now a s).2.2
    | sweep _ => rfl
    | _ => cases this

example : isBanned (run (run (C18fresh 10) [.pen 1 ⟨some [1, 2, 3, 4], none⟩ 100])
    [.unblock [1, 2, 3, 4], .block [1, 2, 3, 4], .unblock [1, 2, 3, 4]]) [1, 2, 3, 4] = true := by decide

/-! ## the rate limiter, for every arrival sequence -/

/-- a penalty issued by the message protocol: time stamp, remote address and peer id of the sender,
amount, and its cause (`some proc` = rate excess on that procedure, `none` = malformed envelope or
unknown procedure, i.e. a ban) -/
structure C18Pen where
  now : Nat
  remote : Addr
  pid : Nat
  score : Int
  src : Option String
deriving Repr

/-- the gater operation a penalty amounts to -/
def C18Pen.toOp (p : C18Pen) : Op := .pen p.now (withPid p.remote p.pid) p.score

def C18set0 (c : C18Cnt) (name : String) (pid : Nat) : C18Cnt :=
  fun n p => if n = name ∧ p = pid then 0 else c n p

/-- **Reference rate limiter** (independent bookkeeping): one counter per (procedure, peer); a
message that would bring the counter above the limit is penalised and resets the counter; a tick
clears all counters; malformed envelopes and unknown procedures cost `MaxPenaltyScore`. -/
def C18rlStep (cfg : String → Option (Int × Int)) (c : C18Cnt) : Ev → C18Cnt × List C18Pen
  | .tick => (fun _ _ => 0, [])
  | .msg now _ remote pid .malformed => (c, [⟨now, remote, pid, 100, none⟩])
  | .msg now _ remote pid (.proc name) =>
    match cfg name with
    | none => (c, [⟨now, remote, pid, 100, none⟩])
    | some (L, p) =>
      if ((c name pid + 1 : Nat) : Int) > L then (C18set0 c name pid, [⟨now, remote, pid, p, some name⟩])
      else (C18inc c name pid, [])

def C18rlRun (cfg : String → Option (Int × Int)) : C18Cnt → List Ev → C18Cnt × List C18Pen
  | c, [] => (c, [])
  | c, ev :: r =>
    ((C18rlRun cfg (C18rlStep cfg c ev).1 r).1, (C18rlStep cfg c ev).2 ++ (C18rlRun cfg (C18rlStep cfg c ev).1 r).2)

/-- a request for a registered procedure (it reaches its handler) -/
def C18served1 (cfg : String → Option (Int × Int)) : Ev → Nat
  | .msg _ isReq _ _ (.proc name) => if isReq = true ∧ (cfg name).isSome = true then 1 else 0
  | _ => 0

def C18servedReq (cfg : String → Option (Int × Int)) : List Ev → Nat
  | [] => 0
  | ev :: r => C18served1 cfg ev + C18servedReq cfg r

/-! #### one event: the model against the reference -/

private theorem count_congr (n n' : Node) (hcnt : n'.counters = n.counters) (name : String) (pid : Nat) :
    count n' name pid = count n name pid := by
  unfold count; rw [hcnt]

private theorem run_one (g : Gater) (op : Op) : run g [op] = apply g op := rfl

/-- one event: the model and the reference agree.  The cases are those of `receive` (GaterMore: `receive_bad`,
`receive_over`, `receive_within`); in each the four observations — gater started and equal to a run of the emitted
penalties, counts, handler count — are read off the node the case lemma gives.  (That the message-protocol flag and the
configuration stay is `touch_applyEv`.) -/
private theorem rl_step (n : Node) (hmp : n.mpStarted = true) (hs : n.g.started = true) (ev : Ev)
    (hip : ∀ now r a p k, ev = Ev.msg now r a p k → a.ip ≠ none) :
    (applyEv n ev).g.started = true ∧
    (applyEv n ev).g = run n.g ((C18rlStep (C18cfgOf n) (count n) ev).2.map C18Pen.toOp) ∧
    (∀ name pid, count (applyEv n ev) name pid = (C18rlStep (C18cfgOf n) (count n) ev).1 name pid) ∧
    (applyEv n ev).handled = n.handled + C18served1 (C18cfgOf n) ev := by
  cases ev with
  | tick =>
    exact ⟨hs, rfl, count_tick n, rfl⟩
  | msg now isReq remote pid k =>
    obtain ⟨rip, rpid⟩ := remote
    have hne := hip now isReq ⟨rip, rpid⟩ pid k rfl
    cases rip with
    | none => exact absurd rfl hne
    | some ip =>
    have hbad : ∀ n', n' = disconnect { n with g := (addPenalty n.g now ⟨some ip, some pid⟩ maxPenaltyScore).1 } pid →
        n'.g.started = true ∧
        n'.g = run n.g ([(⟨now, ⟨some ip, rpid⟩, pid, 100, none⟩ : C18Pen)].map C18Pen.toOp) ∧
        (∀ name' pid', count n' name' pid' = count n name' pid') ∧ n'.handled = n.handled := by
      rintro _ rfl
      exact ⟨(addPenalty_fields n.g now _ _).1.trans hs, rfl, fun _ _ => rfl, rfl⟩
    cases k with
    | malformed => exact hbad _ (receive_bad n hs now isReq ip rpid pid _ (Or.inl rfl))
    | proc name =>
      cases hcf : findCounter n.counters name with
      | none =>
        have hcfg : C18cfgOf n name = none := by simp [C18cfgOf, hcf]
        simp only [C18rlStep, C18served1, hcfg, Option.isSome_none, Bool.false_eq_true, and_false,
          if_false]
        exact hbad _ (receive_bad n hs now isReq ip rpid pid _ (Or.inr ⟨name, rfl, hcf⟩))
      | some cfg =>
        have hcfg : C18cfgOf n name = some (cfg.limit, cfg.penalty) := by simp [C18cfgOf, hcf]
        have hcount := count_of_find hcf pid
        by_cases hov : ((getCount cfg.counts pid + 1 : Nat) : Int) > cfg.limit
        · -- over the limit
          obtain ⟨hg, hcounters, _, hhandled, _⟩ := receive_over n hmp hs now isReq ip rpid pid name cfg hcf hov
          have hfi := find_increase n name pid name
          rw [if_pos rfl, hcf] at hfi
          have hov' : ((count n name pid + 1 : Nat) : Int) > cfg.limit := by rw [hcount]; exact hov
          simp only [applyEv, C18rlStep, C18served1, hcfg, hov', if_true, Option.isSome_some, and_true]
          refine ⟨?_, ?_, fun name' pid' => ?_, ?_⟩
          · rw [hg, (addPenalty_fields n.g now _ _).1]; exact hs
          · rw [hg]; rfl
          · rw [count_setCount (increase n name pid) _ name pid (fun _ => 0) _ hfi hcounters,
              count_increase n name pid cfg hcf]
            unfold C18set0
            by_cases h : name' = name ∧ pid' = pid
            · rw [if_pos h, if_pos h]
            · rw [if_neg h, if_neg h, if_neg h]
          · rw [hhandled]
        · -- within the limit
          have hov' : ¬ ((count n name pid + 1 : Nat) : Int) > cfg.limit := by rw [hcount]; exact hov
          have hr := receive_within n hmp now isReq ⟨some ip, rpid⟩ pid name cfg hcf (by omega)
          simp only [applyEv, C18rlStep, C18served1, hcfg, hov', if_false, Option.isSome_some, and_true]
          refine ⟨by rw [hr]; exact hs, by rw [hr]; rfl, fun name' pid' => ?_, by rw [hr]⟩
          rw [count_congr (increase n name pid) _ (by rw [hr]) name' pid', count_increase n name pid cfg hcf]
          unfold C18inc
          by_cases h : name' = name ∧ pid' = pid
          · rw [if_pos h, if_pos h, h.1, h.2]
          · rw [if_neg h, if_neg h]

/-- **The rate limiter refines the reference counter machine — for every arrival sequence.**  With
the message protocol and the gater started, for ANY sequence of received envelopes (well formed or
not, registered or unknown procedures, any interleaving of peers, procedures and interval ticks,
any configured limits and penalties — negative ones included) whose remote addresses carry an IP:
* the gater ends in exactly the state obtained by applying the reference machine's penalties, in
  order, as `addPenalty` operations (so all theorems about gater runs apply to message traffic);
* the per-(procedure, peer) counters are the reference counters;
* every request for a registered procedure reaches its handler — also the one that exceeded the limit;
* the configuration is unchanged. -/
theorem C18_rate_limiter_refines (n : Node) (hmp : n.mpStarted = true) (hs : n.g.started = true)
    (evs : List Ev) (hip : ∀ now r a p k, Ev.msg now r a p k ∈ evs → a.ip ≠ none) :
    (runEv n evs).g = run n.g ((C18rlRun (C18cfgOf n) (count n) evs).2.map C18Pen.toOp) ∧
    (∀ name pid, count (runEv n evs) name pid = (C18rlRun (C18cfgOf n) (count n) evs).1 name pid) ∧
    (runEv n evs).handled = n.handled + C18servedReq (C18cfgOf n) evs ∧
    C18cfgOf (runEv n evs) = C18cfgOf n ∧
    (runEv n evs).mpStarted = true ∧ (runEv n evs).g.started = true := by
  induction evs generalizing n with
  | nil => exact ⟨rfl, fun _ _ => rfl, rfl, rfl, hmp, hs⟩
  | cons ev r ih =>
    have hst := rl_step n hmp hs ev (fun now rq a p k h => hip now rq a p k (h ▸ List.mem_cons_self))
    obtain ⟨h2, h3, h4, h6⟩ := hst
    have h1 := (touch_applyEv n ev).started.trans hmp
    have h5 : C18cfgOf (applyEv n ev) = C18cfgOf n := funext (touch_applyEv n ev).cfg
    have hih := ih (applyEv n ev) h1 h2 (fun now rq a p k h => hip now rq a p k (List.mem_cons_of_mem _ h))
    have hc : count (applyEv n ev) = (C18rlStep (C18cfgOf n) (count n) ev).1 := by
      funext name pid; exact h4 name pid
    rw [h5, hc] at hih
    obtain ⟨i1, i2, i3, i4, i5, i6⟩ := hih
    have hrun : runEv n (ev :: r) = runEv (applyEv n ev) r := rfl
    rw [hrun]
    refine ⟨?_, i2, ?_, i4, i5, i6⟩
    · rw [i1, h3]
      simp only [C18rlRun, List.map_append]
      exact (run_append _ _ _).symm
    · rw [i3, h6]
      simp only [C18servedReq]
      omega

example : (runEv C18exampleNode [.msg 1 true ⟨some [1, 2, 3, 4], none⟩ 0 (.proc "blk"),
      .msg 1 true ⟨some [1, 2, 3, 4], none⟩ 0 (.proc "blk"), .msg 2 false ⟨some [1, 2, 3, 4], none⟩ 0 (.proc "blk"),
      .tick, .msg 3 true ⟨some [1, 2, 3, 4], none⟩ 7 (.proc "nope")]).g.peerScore =
    [([1, 2, 3, 4], ⟨150, 13⟩)] := by decide
example : ((C18rlRun (C18cfgOf C18exampleNode) (count C18exampleNode)
    [.msg 1 true ⟨some [1, 2, 3, 4], none⟩ 0 (.proc "blk"),
      .msg 1 true ⟨some [1, 2, 3, 4], none⟩ 0 (.proc "blk"), .msg 2 false ⟨some [1, 2, 3, 4], none⟩ 0 (.proc "blk"),
      .tick, .msg 3 true ⟨some [1, 2, 3, 4], none⟩ 7 (.proc "nope")]).2.map (·.score)) = [50, 100] := by decide

/-! #### how many penalties — exactly -/

/-- a well-formed message of `pid` for procedure `name` -/
def C18isMsgOf (name : String) (pid : Nat) : Ev → Bool
  | .msg _ _ _ p (.proc nm) => decide (nm = name ∧ p = pid)
  | _ => false

/-- a rate penalty of `pid` for procedure `name` -/
def C18isPenOf (name : String) (pid : Nat) (p : C18Pen) : Bool := decide (p.src = some name ∧ p.pid = pid)

private theorem rl_step_count (cfg : String → Option (Int × Int)) (name : String) (L : Nat) (p : Int)
    (hcfg : cfg name = some ((L : Int), p)) (pid : Nat) (c : C18Cnt) (ev : Ev) (hnt : ev ≠ .tick)
    (hc : c name pid ≤ L) :
    (C18rlStep cfg c ev).1 name pid ≤ L ∧
    (C18rlStep cfg c ev).1 name pid + List.countP (C18isPenOf name pid) (C18rlStep cfg c ev).2 * (L + 1) =
      c name pid + (if C18isMsgOf name pid ev = true then 1 else 0) := by
  cases ev with
  | tick => exact absurd rfl hnt
  | msg now isReq remote p1 k =>
    cases k with
    | malformed =>
      simp [C18rlStep, C18isPenOf, C18isMsgOf, hc]
    | proc nm =>
      cases hnm : cfg nm with
      | none =>
        simp [C18rlStep, hnm, C18isPenOf, C18isMsgOf, hc]
        intro h1 _
        rw [h1, hcfg] at hnm
        exact absurd hnm (by simp)
      | some lp =>
        obtain ⟨L', p'⟩ := lp
        by_cases hsame : nm = name ∧ p1 = pid
        · obtain ⟨h1, h2⟩ := hsame
          subst h1; subst h2
          rw [hcfg] at hnm
          simp only [Option.some.injEq, Prod.mk.injEq] at hnm
          obtain ⟨hL, hp⟩ := hnm
          subst hL
          by_cases hov : ((c nm p1 + 1 : Nat) : Int) > (L : Int)
          · have hcL : c nm p1 = L := by omega
            simp only [C18rlStep, hcfg]
            rw [if_pos hov]
            simp [C18set0, C18isPenOf, C18isMsgOf, hcL]
          · have hcL : c nm p1 + 1 ≤ L := by omega
            simp only [C18rlStep, hcfg]
            rw [if_neg hov]
            simp [C18inc, C18isMsgOf, hcL]
        · have hmsg : C18isMsgOf name pid (.msg now isReq remote p1 (.proc nm)) = false := by
            simp only [C18isMsgOf, decide_eq_false_iff_not]; exact hsame
          have hsame' : ¬ (name = nm ∧ pid = p1) := fun h => hsame ⟨h.1.symm, h.2.symm⟩
          by_cases hov : ((c nm p1 + 1 : Nat) : Int) > L'
          · simp only [C18rlStep, hnm, hov, if_true, C18set0, hsame', if_false, hmsg]
            have : C18isPenOf name pid ⟨now, remote, p1, p', some nm⟩ = false := by
              simp only [C18isPenOf, decide_eq_false_iff_not, Option.some.injEq]; exact hsame
            simp [this, hc]
          · simp only [C18rlStep, hnm, hov, if_false, C18inc, hsame', hmsg]
            simp [hc]

/-- **Exactly one penalty per `limit + 1` messages, for every limit and every interleaving.**  In
the reference machine (hence, by `C18_rate_limiter_refines`, in the model), within one interval (no
tick) and for any limit `L ≥ 0`, any penalty amount, any starting count `c₀ ≤ L`, and any
interleaving with malformed envelopes, other peers and other procedures: after `k` well-formed
messages of peer `pid` for procedure `name` the number of rate penalties charged to (`name`, `pid`)
is exactly `(c₀ + k) / (L + 1)` and the counter stands at `(c₀ + k) % (L + 1)`.  So traffic with
`c₀ + k ≤ L` is never penalised, the excess is penalised by the `(L + 1 - c₀)`-th message at the
latest, and `m` penalties need at least `m · (L + 1) - c₀` messages. -/
theorem C18_rate_penalty_count (cfg : String → Option (Int × Int)) (name : String) (L : Nat) (p : Int)
    (hcfg : cfg name = some ((L : Int), p)) (pid : Nat) (evs : List Ev) (hnt : Ev.tick ∉ evs)
    (c : C18Cnt) (hc : c name pid ≤ L) :
    List.countP (C18isPenOf name pid) (C18rlRun cfg c evs).2 =
      (c name pid + List.countP (C18isMsgOf name pid) evs) / (L + 1) ∧
    (C18rlRun cfg c evs).1 name pid = (c name pid + List.countP (C18isMsgOf name pid) evs) % (L + 1) := by
  induction evs generalizing c with
  | nil =>
    simp only [C18rlRun, List.countP_nil, Nat.add_zero]
    constructor
    · rw [Nat.div_eq_of_lt (by omega)]
    · rw [Nat.mod_eq_of_lt (by omega)]
  | cons ev r ih =>
    have hne : ev ≠ .tick := fun h => hnt (h ▸ List.mem_cons_self)
    have hst := rl_step_count cfg name L p hcfg pid c ev hne hc
    have hih := ih (fun h => hnt (List.mem_cons_of_mem _ h)) (C18rlStep cfg c ev).1 hst.1
    simp only [C18rlRun, List.countP_append, List.countP_cons]
    rw [hih.1, hih.2]
    generalize List.countP (C18isMsgOf name pid) r = k' at *
    generalize (C18rlStep cfg c ev).1 name pid = c' at *
    generalize List.countP (C18isPenOf name pid) (C18rlStep cfg c ev).2 = d at *
    have heq : c name pid + (k' + if C18isMsgOf name pid ev = true then 1 else 0) = (c' + k') + d * (L + 1) := by
      omega
    rw [heq, Nat.add_mul_div_right _ _ (by omega : 0 < L + 1), Nat.add_mul_mod_self_right]
    exact ⟨by omega, rfl⟩

example : Ev.tick ∉ [Ev.msg 1 true ⟨some [1, 2, 3, 4], none⟩ 0 (.proc "blk"),
    .msg 1 false ⟨some [1, 2, 3, 4], none⟩ 5 .malformed, .msg 1 true ⟨some [1, 2, 3, 4], none⟩ 0 (.proc "blk"),
    .msg 1 true ⟨some [1, 2, 3, 4], none⟩ 0 (.proc "blk")] := by simp
example : List.countP (C18isPenOf "blk" 0) (C18rlRun (C18cfgOf C18exampleNode) (fun _ _ => 0)
    [Ev.msg 1 true ⟨some [1, 2, 3, 4], none⟩ 0 (.proc "blk"),
    .msg 1 false ⟨some [1, 2, 3, 4], none⟩ 5 .malformed, .msg 1 true ⟨some [1, 2, 3, 4], none⟩ 0 (.proc "blk"),
    .msg 1 true ⟨some [1, 2, 3, 4], none⟩ 0 (.proc "blk")]).2 = 1 := by decide

/-! #### disconnection along runs -/

/-- **Message traffic never opens connections; a disconnected sender stays disconnected.**  Along
every event sequence the set of open connections only shrinks; so once a penalty has closed the
connections of a peer (`C18_excess_penalised`, `C18_bad_message_banned`), no later traffic brings
them back — only a new connection attempt can, and that has to pass the gates. -/
theorem C18_conns_only_shrink (n : Node) (evs : List Ev) :
    (∀ c ∈ (runEv n evs).conns, c ∈ n.conns) ∧
    (∀ pid, (∀ c ∈ n.conns, c.1 ≠ pid) → ∀ c ∈ (runEv n evs).conns, c.1 ≠ pid) :=
  ⟨(touch_runEv evs n).conns, fun _ h c hc => h c ((touch_runEv evs n).conns c hc)⟩

/-- **A ban caused by a bad message survives all later traffic.**  On a node whose gater is in a
reachable state and whose message protocol is started: after a malformed envelope or an envelope for an
unknown procedure from a peer at `ip` (score not negative), for EVERY later sequence of interval ticks and
received envelopes whose remote addresses have an IP
(any peers, any procedures, any limits and penalties — negative ones included —, any time stamps):
`ip` is still banned, every address-inspecting gate refuses it, and no connection to the sender is
open.  (Only an expiry pass after `now + E` ends the ban — `C18_ban_ends_exactly`.) -/
theorem C18_ban_survives_traffic (E : Nat) (pre : List Op) (n : Node) (hg : n.g = run (C18fresh E) pre)
    (hmp : n.mpStarted = true) (remote : Addr) (ip : IP) (hip : remote.ip = some ip) (pid now : Nat)
    (isReq : Bool) (k : MsgKind)
    (hk : k = .malformed ∨ ∃ name, k = .proc name ∧ findCounter n.counters name = none)
    (hnonneg : ∀ i, find n.g.peerScore ip = some i → 0 ≤ i.score)
    (evs : List Ev) (hipev : ∀ now r a p k, Ev.msg now r a p k ∈ evs → a.ip ≠ none) :
    isBanned (runEv (receive n now isReq remote pid k) evs).g ip = true ∧
    C18Refused (runEv (receive n now isReq remote pid k) evs).g ip ∧
    ∀ c ∈ (runEv (receive n now isReq remote pid k) evs).conns, c.1 ≠ pid := by
  have hs : n.g.started = true := by rw [hg]; exact (C18_reachable_wf E pre).2.1
  have hone := C18_bad_message_banned n hs remote ip hip pid now isReq k hk hnonneg 0 none
  obtain ⟨rip, rpid⟩ := remote
  simp only at hip
  subst hip
  have hr := receive_bad n hs now isReq ip rpid pid k hk
  have hg1 : (receive n now isReq ⟨some ip, rpid⟩ pid k).g =
      (addPenalty n.g now ⟨some ip, some pid⟩ maxPenaltyScore).1 := by rw [hr]; rfl
  have hmp1 : (receive n now isReq ⟨some ip, rpid⟩ pid k).mpStarted = true := by rw [hr]; exact hmp
  have hs1 : (receive n now isReq ⟨some ip, rpid⟩ pid k).g.started = true := by
    rw [hg1, (addPenalty_fields n.g now _ _).1]; exact hs
  have href := (C18_rate_limiter_refines _ hmp1 hs1 evs hipev).1
  generalize hops : (C18rlRun (C18cfgOf (receive n now isReq ⟨some ip, rpid⟩ pid k))
      (count (receive n now isReq ⟨some ip, rpid⟩ pid k)) evs).2.map C18Pen.toOp = ops at href
  have hnosweep : ∀ t, Op.sweep t ∉ ops := by
    intro t hm
    rw [← hops] at hm
    obtain ⟨p, _, hp⟩ := List.mem_map.1 hm
    simp [C18Pen.toOp] at hp
  -- the returned score of the ban penalty
  have hpen : ∃ ns, (addPenalty (run (C18fresh E) pre) now ⟨some ip, some pid⟩ maxPenaltyScore).2 = .ok ns ∧
      ns ≥ 100 := by
    rw [← hg, addPenalty_ok hs]
    refine ⟨_, rfl, ?_⟩
    cases hf : find n.g.peerScore ip with
    | none => simp [maxPenaltyScore]
    | some i =>
      have := hnonneg i hf
      simp only [maxPenaltyScore]
      omega
  obtain ⟨ns, hpen, hns⟩ := hpen
  have hT := C18_ban_period_any_clock E pre now ip (some pid) maxPenaltyScore ns hpen hns 0 (Nat.zero_le _)
    ops (fun t h => absurd h (hnosweep t)) (fun _ _ _ _ _ => Nat.zero_le _) ops.length
  rw [List.take_length] at hT
  have hgfin : (runEv (receive n now isReq ⟨some ip, rpid⟩ pid k) evs).g =
      run (C18fresh E) (pre ++ Op.pen now ⟨some ip, some pid⟩ maxPenaltyScore :: ops) := by
    rw [href, hg1, hg]
    show run (apply (run (C18fresh E) pre) (Op.pen now ⟨some ip, some pid⟩ maxPenaltyScore)) ops = _
    rw [run_append]
    rfl
  rw [hgfin]
  exact ⟨hT.1, hT.2, (C18_conns_only_shrink _ evs).2 pid hone.2.1⟩

example : isBanned (runEv (receive { C18exampleNode with conns := [(3, ⟨some [1, 2, 3, 4], none⟩)] } 5 true
      ⟨some [1, 2, 3, 4], none⟩ 3 .malformed)
    [.msg 6 true ⟨some [1, 2, 3, 4], none⟩ 3 (.proc "blk"), .tick,
     .msg 2 false ⟨some [1, 2, 3, 4], none⟩ 4 (.proc "zzz")]).g [1, 2, 3, 4] = true := by decide

/-- **The ban is per IP, the disconnection per peer id.**  Two peers (ids 1 and 2) are connected from
the same IP; peer 1 sends a malformed envelope.  The IP is banned and peer 1 is disconnected, but
peer 2 — behind the banned IP — keeps its connection (`Peer.banPeer` closes `addrInfo.ID` only),
and its traffic is still served. -/
theorem C18_ban_disconnects_only_the_penalised_peer :
    let n : Node := { C18exampleNode with conns := [(1, ⟨some [1, 2, 3, 4], none⟩), (2, ⟨some [1, 2, 3, 4], none⟩)] }
    let n' := receive n 5 true ⟨some [1, 2, 3, 4], none⟩ 1 .malformed
    isBanned n'.g [1, 2, 3, 4] = true ∧ n'.conns = [(2, ⟨some [1, 2, 3, 4], none⟩)] ∧
    (receive n' 6 true ⟨some [1, 2, 3, 4], none⟩ 2 (.proc "blk")).handled = n'.handled + 1 := by decide

/-! #### accumulation per IP, across peer ids, connections and reconnects -/

/-- sum of the penalties against `ip` (whatever peer id / transport the address carries) -/
def C18sum (ip : IP) : List Op → Int
  | [] => 0
  | .pen _ a s :: r => (if a.ip = some ip then s else 0) + C18sum ip r
  | _ :: r => C18sum ip r

private theorem sum_fold (E : Nat) (ip : IP) (ops : List Op) (ep : C18Epoch)
    (hns : ∀ t, Op.sweep t ∉ ops) :
    C18total (ops.foldl (C18epochStep E ip) ep) = C18total ep + C18sum ip ops := by
  induction ops generalizing ep with
  | nil => simp [C18sum]
  | cons op r ih =>
    have hns' : ∀ t, Op.sweep t ∉ r := fun t h => hns t (List.mem_cons_of_mem _ h)
    cases op with
    | pen now a s =>
      by_cases ha : a.ip = some ip
      · simp only [List.foldl, C18epochStep, ha, if_true, C18sum]
        rw [ih _ hns']
        simp only [C18total]
        omega
      · simp only [List.foldl, C18epochStep, ha, if_false, C18sum]
        rw [ih _ hns']
        omega
    | sweep now => exact absurd List.mem_cons_self (hns now)
    | _ => exact ih ep hns'

/-- **Penalties accumulate per IP — across peer ids, connections and reconnects.**  Along every run
without an expiry pass, the score of `ip` is the plain sum of all penalties whose address has that
IP, whichever peer id or transport part the address carries and in whatever order they arrive; and
closing or opening connections never touches the gater, so the score survives a reconnect. -/
theorem C18_score_is_sum_per_ip (E : Nat) (ops : List Op) (ip : IP) (hns : ∀ t, Op.sweep t ∉ ops) :
    (∀ i, find (run (C18fresh E) ops).peerScore ip = some i → i.score = C18sum ip ops) ∧
    (∀ (n : Node) (p : Nat), (disconnect n p).g = n.g) ∧
    (∀ (n : Node) (inb : Bool) (a : Addr) (p : Nat), (connect n inb a p).1.g = n.g) := by
  refine ⟨?_, fun _ _ => rfl, ?_⟩
  · intro i hi
    rw [(C18_ban_iff_threshold E ops ip).2.1 i hi]
    unfold C18epoch
    rw [sum_fold E ip ops [] hns]
    simp [C18total]
  · intro n inb a p
    unfold connect
    simp only
    split <;> split <;> rfl

example : find (run (C18fresh 5) [.pen 1 ⟨some [1, 1, 1, 1], some 0⟩ 30, .pen 1 ⟨some [2, 2, 2, 2], some 1⟩ 100,
    .pen 2 ⟨some [1, 1, 1, 1], some 2⟩ 30, .pen 0 ⟨some [1, 1, 1, 1], none⟩ 45]).peerScore [1, 1, 1, 1] =
    some ⟨105, 5⟩ := by decide

/-- **`Connection.ApplyPenalty` charges the penalty once per open connection.**  A peer with two open
connections from one IP receives `ApplyPenalty(pid, 60)`: its IP is charged 120 and banned, although
a single penalty of 60 is below the threshold. -/
theorem C18_apply_penalty_counts_per_connection :
    let n : Node := { g := C18fresh 10, mpStarted := true,
                      conns := [(7, ⟨some [1, 2, 3, 4], none⟩), (7, ⟨some [1, 2, 3, 4], none⟩)] }
    find (applyPenalty n 5 7 60).g.peerScore [1, 2, 3, 4] = some ⟨120, 15⟩ ∧
    isBanned (applyPenalty n 5 7 60).g [1, 2, 3, 4] = true ∧ (applyPenalty n 5 7 60).conns = [] ∧
    find (applyPenalty { n with conns := [(7, ⟨some [1, 2, 3, 4], none⟩)] } 5 7 60).g.peerScore [1, 2, 3, 4] =
      some ⟨60, -1⟩ := by decide
