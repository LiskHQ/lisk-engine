/-
C08 — Lisk32 addresses (pkg/codec/bytes.go, LIP-0018): the checksum appended by `BytesToLisk32`
is the one `ValidateLisk32` accepts, 20-byte values survive bytes → text → bytes, and accepted
"lsk…" texts survive text → bytes → text.

Theorems about `LiskVerif.Model.Lisk32`; helper lemmas in `LiskVerif.Lemmas.Lisk32`.
-/
import LiskVerif.Lemmas.Lisk32

open LiskVerif LiskVerif.Lisk32

/-! ### checksum -/

/-- The six values appended by `createChecksum` bring the BCH state to 1 — for every list of
values, not only for 32 quintets (`polymodStep` is XOR-linear and the six injected values never
reach the feedback bits). -/
theorem C08_lisk32_checksum_valid_general (u5 : List Nat) :
    polymod (u5 ++ createChecksum u5) = 1 :=
  polymod_checksum u5

/-- The instance used by `BytesToLisk32`: 32 values below 32. -/
theorem C08_lisk32_checksum_valid (u5 : List Nat) (_hl : u5.length = 32)
    (_hv : ∀ v ∈ u5, v < 32) : polymod (u5 ++ createChecksum u5) = 1 :=
  C08_lisk32_checksum_valid_general u5

/-- The checksum is the only accepted 6-value tail: a tail of six values below 32 that brings the
state to 1 is the one `createChecksum` computes. -/
theorem C08_lisk32_checksum_unique (u5 cs : List Nat) (hl : cs.length = 6)
    (hv : ∀ c ∈ cs, c < 32) (h : polymod (u5 ++ cs) = 1) : createChecksum u5 = cs :=
  checksum_unique u5 cs hl hv h

/-- Every state after one step fits 30 bits (the Go `int` never overflows). -/
theorem C08_lisk32_polymod_state_bound (chk v : Nat) (hv : v < 32) :
    polymodStep chk v < 2 ^ 30 :=
  polymodStep_lt chk v hv

/-! ### bit regrouping -/

/-- 8 → 5 → 8 regrouping loses nothing on whole 5-byte blocks (20 bytes = 4 blocks). -/
theorem C08_lisk32_regroup_8_5_8 (k : Nat) (l : List Nat) (hl : l.length = 5 * k)
    (hb : ∀ b ∈ l, b < 256) : convertUIntArray (convertUIntArray l 8 5) 5 8 = l :=
  convert_convert 8 5 (by decide) (by decide) l hb (8 * k) (by omega)

/-- 5 → 8 → 5 regrouping loses nothing on whole 8-quintet blocks (32 quintets = 4 blocks). -/
theorem C08_lisk32_regroup_5_8_5 (k : Nat) (l : List Nat) (hl : l.length = 8 * k)
    (hb : ∀ q ∈ l, q < 32) : convertUIntArray (convertUIntArray l 5 8) 8 5 = l :=
  convert_convert 5 8 (by decide) (by decide) l hb (5 * k) (by omega)

/-- 20 bytes give exactly 32 quintets, each below 32. -/
theorem C08_lisk32_regroup_shape (b : Bytes) (hb : b.length = 20) :
    (convertUIntArray (b.map (·.toNat)) 8 5).length = 32 ∧
      ∀ v ∈ convertUIntArray (b.map (·.toNat)) 8 5, v < 32 :=
  ⟨(u5Of_props b hb).1, (u5Of_props b hb).2.1⟩

/-! ### bytes → text -/

/-- The text produced for a 20-byte value is accepted by `validate`. -/
theorem C08_lisk32_validates_own_output (b : Bytes) (hb : b.length = 20) (s : Bytes)
    (h : bytesToLisk32 b = some s) : validate s = true := by
  rw [bytesToLisk32_eq b hb] at h
  injection h with h
  subst h
  exact validate_encoded _ (u5Of_props b hb).1 (u5Of_props b hb).2.1

/-- `bytesToLisk32` succeeds on every 20-byte value, and its text starts with "lsk" and has 41
bytes. -/
theorem C08_lisk32_output_shape (b : Bytes) (hb : b.length = 20) :
    ∃ s, bytesToLisk32 b = some s ∧ s.length = 41 ∧ s.take 3 = lskPrefix := by
  refine ⟨_, bytesToLisk32_eq b hb, ?_, ?_⟩
  · simp [lskPrefix_eq, (u5Of_props b hb).1, (createChecksum_props (u5Of b)).1]
  · exact List.take_left' (by rw [lskPrefix_eq]; rfl)

/-- bytes → text → bytes without loss -/
theorem C08_lisk32_roundtrip (b : Bytes) (hb : b.length = 20) :
    (bytesToLisk32 b).bind lisk32ToBytes = some b := by
  obtain ⟨h1, h2, h3⟩ := u5Of_props b hb
  rw [bytesToLisk32_eq b hb, Option.bind_some, lisk32ToBytes_encoded _ h1 h2, h3]

/-- Different 20-byte values get different texts. -/
theorem C08_lisk32_injective (a b : Bytes) (ha : a.length = 20) (hb : b.length = 20)
    (h : bytesToLisk32 a = bytesToLisk32 b) : a = b := by
  have h1 := C08_lisk32_roundtrip a ha
  have h2 := C08_lisk32_roundtrip b hb
  rw [h, h2] at h1
  injection h1 with h1
  exact h1.symm

/-! ### text → bytes -/

/-- text → bytes → text without loss, for accepted texts that start with "lsk". -/
theorem C08_lisk32_text_roundtrip (s : Bytes) (hv : validate s = true)
    (hp : s.take 3 = lskPrefix) : (lisk32ToBytes s).bind bytesToLisk32 = some s := by
  obtain ⟨hlen, all, hm, hpoly⟩ := validate_true s hv
  obtain ⟨hdrop, hall⟩ := mapM_charIndex_some _ _ hm
  have hall_len : all.length = 38 := by
    have := congrArg List.length hdrop
    simp only [List.length_drop, List.length_map, hlen] at this
    omega
  -- split the 38 values into 32 quintets and the 6-value tail
  have hsplit : all.take 32 ++ all.drop 32 = all := List.take_append_drop 32 all
  have hu_len : (all.take 32).length = 32 := by simp [hall_len]
  have hu_lt : ∀ v ∈ all.take 32, v < 32 := fun v hv => hall v (List.mem_of_mem_take hv)
  have hc_len : (all.drop 32).length = 6 := by simp [hall_len]
  have hc_lt : ∀ v ∈ all.drop 32, v < 32 := fun v hv => hall v (List.mem_of_mem_drop hv)
  have hck : createChecksum (all.take 32) = all.drop 32 :=
    checksum_unique _ _ hc_len hc_lt (by rw [hsplit]; exact hpoly)
  have hs : s = lskPrefix ++ (all.take 32 ++ createChecksum (all.take 32)).map charOf := by
    rw [hck, hsplit, ← hdrop, ← hp, List.take_append_drop]
  -- decode
  have hm : 5 * (all.take 32).length = 8 * 20 := by rw [hu_len]
  have hconv := convertUIntArray_eq 5 8 (by decide) _ hu_lt 20 hm
  have hdec : lisk32ToBytes s = some ((convertUIntArray (all.take 32) 5 8).map UInt8.ofNat) := by
    conv => lhs; rw [hs]
    exact lisk32ToBytes_encoded _ hu_len hu_lt
  have hbytes_len : ((convertUIntArray (all.take 32) 5 8).map UInt8.ofNat).length = 20 := by
    rw [List.length_map, hconv, digits_length]
  have hu5 : u5Of ((convertUIntArray (all.take 32) 5 8).map UInt8.ofNat) = all.take 32 := by
    rw [u5Of, map_toNat_ofNat _ (by rw [hconv]; exact digits_lt 8 20 _),
      convert_convert 5 8 (by decide) (by decide) _ hu_lt 20 hm]
  rw [hdec, Option.bind_some, bytesToLisk32_eq _ hbytes_len, hu5, ← hs]

/-- Different accepted "lsk…" texts decode to different byte values. -/
theorem C08_lisk32_text_injective (s t : Bytes) (hs : validate s = true) (ht : validate t = true)
    (ps : s.take 3 = lskPrefix) (pt : t.take 3 = lskPrefix)
    (h : lisk32ToBytes s = lisk32ToBytes t) : s = t := by
  have h1 := C08_lisk32_text_roundtrip s hs ps
  have h2 := C08_lisk32_text_roundtrip t ht pt
  rw [h, h2] at h1
  injection h1 with h1
  exact h1.symm

/-! ### the "lsk" prefix is not checked -/

/-- `validate` (Go `ValidateLisk32`) reads `val[3:]` only: a text with another 3-byte prefix and a
valid body is accepted, and `lisk32ToBytes` decodes it to the same bytes as the "lsk" text. So
`lisk32ToBytes` is not injective on accepted texts, and the hypothesis `s.take 3 = lskPrefix` of
`C08_lisk32_text_roundtrip` cannot be dropped. Counterexample by evaluation
("abc24cd35u4jdq8szo3pnsqe5dsxwrnazyqqqg5eu"). -/
theorem C08_lisk32_prefix_not_checked :
    ∃ s : Bytes, s.take 3 ≠ lskPrefix ∧ validate s = true ∧
      (lisk32ToBytes s).bind bytesToLisk32 ≠ some s ∧
      lisk32ToBytes s = lisk32ToBytes (lskPrefix ++ s.drop 3) := by
  refine ⟨[97, 98, 99, 50, 52, 99, 100, 51, 53, 117, 52, 106, 100, 113, 56, 115, 122, 111, 51, 112,
    110, 115, 113, 101, 53, 100, 115, 120, 119, 114, 110, 97, 122, 121, 113, 113, 113, 103, 53, 101,
    117], ?_⟩
  decide +kernel

/-! ### non-vacuity: the LIP-0018 test vector
address bytes c247a42e09e6aafd818821f75b2f5b0de47c8235 ↔ "lsk24cd35u4jdq8szo3pnsqe5dsxwrnazyqqqg5eu" -/

/-- the example 20-byte value -/
def C08_lisk32_exampleBytes : Bytes :=
  [0xc2, 0x47, 0xa4, 0x2e, 0x09, 0xe6, 0xaa, 0xfd, 0x81, 0x88, 0x21, 0xf7, 0x5b, 0x2f, 0x5b, 0x0d,
    0xe4, 0x7c, 0x82, 0x35]

/-- its text, "lsk24cd35u4jdq8szo3pnsqe5dsxwrnazyqqqg5eu" -/
def C08_lisk32_exampleText : Bytes :=
  [108, 115, 107, 50, 52, 99, 100, 51, 53, 117, 52, 106, 100, 113, 56, 115, 122, 111, 51, 112, 110,
    115, 113, 101, 53, 100, 115, 120, 119, 114, 110, 97, 122, 121, 113, 113, 113, 103, 53, 101, 117]

example : C08_lisk32_exampleText = "lsk24cd35u4jdq8szo3pnsqe5dsxwrnazyqqqg5eu".toUTF8.toList := by
  decide +kernel

example : C08_lisk32_exampleBytes.length = 20 := by decide

theorem C08_lisk32_example_encoded :
    bytesToLisk32 C08_lisk32_exampleBytes = some C08_lisk32_exampleText := by decide +kernel

example : bytesToLisk32 C08_lisk32_exampleBytes = some C08_lisk32_exampleText :=
  C08_lisk32_example_encoded

example : validate C08_lisk32_exampleText = true :=
  C08_lisk32_validates_own_output _ (by decide) _ C08_lisk32_example_encoded

example : C08_lisk32_exampleText.take 3 = lskPrefix := by decide +kernel

example : lisk32ToBytes C08_lisk32_exampleText = some C08_lisk32_exampleBytes := by
  have := C08_lisk32_roundtrip C08_lisk32_exampleBytes (by decide)
  rwa [C08_lisk32_example_encoded, Option.bind_some] at this

/-- the checksum theorem on the example's quintets (hypotheses of `C08_lisk32_checksum_valid`) -/
example :
    let u5 := convertUIntArray (C08_lisk32_exampleBytes.map (·.toNat)) 8 5
    u5.length = 32 ∧ (∀ v ∈ u5, v < 32) ∧ polymod (u5 ++ createChecksum u5) = 1 :=
  ⟨(C08_lisk32_regroup_shape _ (by decide)).1, (C08_lisk32_regroup_shape _ (by decide)).2,
    C08_lisk32_checksum_valid_general _⟩

/-- a wrong checksum character is rejected (last character changed) -/
example : validate (C08_lisk32_exampleText.take 40 ++ [122]) = false := by decide +kernel

/-- regrouping on a concrete block -/
example : convertUIntArray [0xff, 0x00, 0xab, 0x12, 0x80] 8 5 = [31, 28, 0, 10, 22, 4, 20, 0] ∧
    convertUIntArray [31, 28, 0, 10, 22, 4, 20, 0] 5 8 = [0xff, 0x00, 0xab, 0x12, 0x80] := by
  decide
