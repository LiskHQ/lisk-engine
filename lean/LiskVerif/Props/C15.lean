/-
C15 (part 2) — a generator never contradicts itself.

Theorems about part 2 of `LiskVerif.Model.Generator` (header bookkeeping of `forge` /
`initBlockHeader` with the stored `GeneratorInfo`), for the FIXED update rule
(/verif/fixes/C15-max-height-generated.patch: the stored height is the largest height ever
generated), for every sequence of operations
  `ext` (a block of another generator is applied), `del k` (blocks deleted from the tip — a chain
  switch is `del` followed by `ext`s), `forge v o` (validator `v` generates on the tip; outcome `o`:
  applied / handed on but dropped or process died after the database write / process died before
  the write), `restart`
started from the empty generator database, with arbitrary values of the chain's maxHeightPrevoted.
The contradiction predicate is the one regenerated from the Go source (`Gen.areDistinctHeadersContradicting`,
C07). The section "the unpatched rule" shows on one history that `Rule.original` (the stored height is
the height of the last generated block) does produce a contradiction. Part 1 (transaction selection) is
in `Props/C15_Sel.lean`.
-/
import LiskVerif.Model.Generator
import LiskVerif.Props.C07
import LiskVerif.Lemmas.Generator

open LiskVerif LiskVerif.Gen LiskVerif.Generator

/-- largest height in a list of headers (0 for none) -/
def C15maxHeight : List Hdr → Nat
  | [] => 0
  | h :: r => max h.height (C15maxHeight r)

/-- the forging opportunities `(height, chain maxHeightPrevoted)` of validator `v` whose header
reached the generator database, in order -/
def C15steps (addr : Nat → Bytes) (v : Nat) : GState → List Op → List (Nat × Nat)
  | _, [] => []
  | st, op :: r =>
    let rest := C15steps addr v (applyOp .fixed addr st op) r
    match op with
    | .forge w o _ => if w = v ∧ o ≠ .crashedBeforeWrite then (st.height + 1, st.mhp) :: rest else rest
    | _ => rest

/-! ### the view of one validator -/

private theorem maxHeight_ge (l : List Hdr) (h : Hdr) (hm : h ∈ l) : h.height ≤ C15maxHeight l := by
  induction l with
  | nil => cases hm
  | cons a r ih =>
    rcases List.mem_cons.mp hm with rfl | hm
    · exact Nat.le_max_left _ _
    · exact Nat.le_trans (ih hm) (Nat.le_max_right _ _)

/-- what the honest generator remembers is the largest height it signed -/
theorem C07Gen.final_eq (g : Bytes) (steps : List (Nat × Nat)) (s : C07Gen) :
    (C07Gen.final s steps).maxGen = max s.maxGen (C15maxHeight (C07Gen.run g s steps)) := by
  induction steps generalizing s with
  | nil => exact (Nat.max_zero _).symm
  | cons st r ih => exact (ih _).trans (Nat.max_assoc _ _ _)

private theorem headersOf_append (v w : Nat) (l : List (Nat × Hdr)) (h : Hdr) :
    headersOf v (l ++ [(w, h)]) = if w = v then headersOf v l ++ [h] else headersOf v l := by
  by_cases hw : w = v <;> simp [headersOf, List.filter_append, hw]

private theorem steps_cons (addr : Nat → Bytes) (v : Nat) (st : GState) (op : Op) (r : List Op) :
    C15steps addr v st (op :: r) =
      if op.signer = some v then (st.height + 1, st.mhp) :: C15steps addr v (applyOp .fixed addr st op) r
      else C15steps addr v (applyOp .fixed addr st op) r := by
  cases op with
  | forge w o m => cases o <;> simp [C15steps, Op.signer]
  | _ => rfl

/-- **Seen by one validator, the generator database is the honest generator of C07** (which remembers
the largest height): along any history the headers of `v` that reached the database are the honest
generator's headers over the forging opportunities of `v`, the stored height is what the honest
generator remembers, and the two ghost lists stay equal. What the theorems below say about the
database they say about `C07Gen.run` / `C07Gen.final`. -/
theorem C15_view (addr : Nat → Bytes) (v : Nat) (ops : List Op) :
    ∀ (st : GState) (s : C07Gen), s.maxGen = (getInfo st.infos v).height →
      headersOf v (run .fixed addr st ops).persisted =
        headersOf v st.persisted ++ C07Gen.run (addr v) s (C15steps addr v st ops) ∧
      (getInfo (run .fixed addr st ops).infos v).height =
        (C07Gen.final s (C15steps addr v st ops)).maxGen ∧
      (st.handedOn = st.persisted →
        (run .fixed addr st ops).handedOn = (run .fixed addr st ops).persisted) := by
  induction ops with
  | nil => intro st s hs; exact ⟨(List.append_nil _).symm, hs.symm, id⟩
  | cons op r ih =>
    intro st s hs
    rw [run, steps_cons]
    cases hsg : op.signer with
    | none =>
      obtain ⟨e1, e2, e3⟩ := applyOp_db_none .fixed addr st hsg
      rw [if_neg nofun]
      have := ih (applyOp .fixed addr st op) s (e1 ▸ hs)
      rwa [e2, e3] at this
    | some w =>
      obtain ⟨e1, e2, e3⟩ := applyOp_db_some .fixed addr st hsg
      by_cases hw : w = v
      · -- the honest generator makes the same step: same header, same largest height
        subst hw
        rw [if_pos rfl]
        have := ih (applyOp .fixed addr st op) (s.forge (g := []) (st.height + 1) st.mhp).1
          (by rw [e1, getInfo_setInfo, if_pos rfl]; simp only [C07Gen.forge, nextInfo, mkHeader, hs]; omega)
        rw [e2, e3, headersOf_append, if_pos rfl, List.append_assoc] at this
        refine ⟨?_, this.2.1, fun h => this.2.2 (by rw [h])⟩
        rw [this.1]
        simp only [C07Gen.run, C07Gen.forge, mkHeader, hs, List.cons_append, List.nil_append]
      · rw [if_neg (fun e => hw (Option.some.inj e))]
        have := ih (applyOp .fixed addr st op) s (by rw [e1, getInfo_setInfo, if_neg (Ne.symm hw)]; exact hs)
        rw [e2, e3, headersOf_append, if_neg hw] at this
        exact ⟨this.1, this.2.1, fun h => this.2.2 (by rw [h])⟩

/-- … from the empty generator database -/
theorem C15_view_init (addr : Nat → Bytes) (ops : List Op) (v : Nat) :
    headersOf v (run .fixed addr {} ops).persisted = C07Gen.run (addr v) {} (C15steps addr v {} ops) ∧
    (getInfo (run .fixed addr {} ops).infos v).height = (C07Gen.final {} (C15steps addr v {} ops)).maxGen ∧
    (run .fixed addr {} ops).handedOn = (run .fixed addr {} ops).persisted := by
  obtain ⟨h1, h2, h3⟩ := C15_view addr v ops {} {} rfl
  exact ⟨by simpa [headersOf] using h1, h2, h3 rfl⟩

/-- What `maxHeightGenerated` reports: after ANY sequence of forge / delete / chain switch /
restart / crash, the header a validator generates next carries the largest height of all its
headers that ever reached the generator database (0 if none) — not the height of the last one. -/
theorem C15_reports_largest_height (addr : Nat → Bytes) (ops : List Op) (v : Nat) :
    (mkHeader addr (run .fixed addr {} ops) v).maxHeightGenerated =
      C15maxHeight (headersOf v (run .fixed addr {} ops).persisted) := by
  obtain ⟨h1, h2, _⟩ := C15_view_init addr ops v
  rw [h1]
  exact h2.trans ((C07Gen.final_eq (addr v) _ {}).trans (Nat.zero_max _))

/-- Persisted before the hand-off: at every moment, every header that was handed to consensus
(`AddInternal`) is covered by what the generator database holds for its validator — so whatever
happens after the hand-off (crash, restart, the block being dropped), the next header reports a
height at least as large. -/
theorem C15_persisted_before_handoff (addr : Nat → Bytes) (ops : List Op) (v : Nat) (h : Hdr)
    (hh : (v, h) ∈ (run .fixed addr {} ops).handedOn) :
    h.height ≤ (getInfo (run .fixed addr {} ops).infos v).height ∧
    h.height ≤ (mkHeader addr (run .fixed addr {} ops) v).maxHeightGenerated := by
  obtain ⟨h1, h2, h3⟩ := C15_view_init addr ops v
  have : h.height ≤ (getInfo (run .fixed addr {} ops).infos v).height := by
    rw [h2, C07Gen.final_eq (addr v)]
    exact Nat.le_trans (maxHeight_ge _ h (h1 ▸ mem_headersOf (h3 ▸ hh))) (Nat.le_max_right _ _)
  exact ⟨this, this⟩

/-- the stored height never decreases -/
theorem C15_stored_height_monotone (addr : Nat → Bytes) (st : GState) (op : Op) (v : Nat) :
    (getInfo st.infos v).height ≤ (getInfo (applyOp .fixed addr st op).infos v).height := by
  rw [getInfo_applyOp]
  split
  · exact Nat.le_max_right _ _
  · exact Nat.le_refl _

/-- The headers of a validator are the headers of the honest generator of C07. -/
theorem C15_refines_honest_generator (addr : Nat → Bytes) (ops : List Op) (v : Nat) :
    headersOf v (run .fixed addr {} ops).persisted =
      C07Gen.run (addr v) {} (C15steps addr v {} ops) :=
  (C15_view_init addr ops v).1

/-- No self-contradiction: for every sequence of forge / delete / better-chain switch / restart /
crash, if each time the validator generates its tip is better in the fork-choice order (larger
maxHeightPrevoted, or equal and larger height) than the tip it generated on before — which is what
a node that only moves to chains preferred by fork choice provides, including a better but
SHORTER chain — then no two headers the validator ever signed contradict each other, in either
order (`contradiction.AreDistinctHeadersContradicting`, regenerated from the Go source). -/
theorem C15_no_self_contradiction (addr : Nat → Bytes) (ops : List Op) (v : Nat)
    (hall : C07Gen.allowedAll {} (C15steps addr v {} ops)) :
    (headersOf v (run .fixed addr {} ops).persisted).Pairwise
      (fun a b => areDistinctHeadersContradicting a b = false ∧
        areDistinctHeadersContradicting b a = false) := by
  rw [C15_refines_honest_generator]
  exact C07_protocol_follower_never_flagged _ (addr v) (C07Gen.run_address _ _ _)
    (C07_honest_generator_chain (addr v) _ {} hall)

/-- Whatever the tips are: a contradiction between two headers of one validator can only come from
the fork-choice part (the later header is not on a better tip), never from `maxHeightGenerated`:
for an earlier header `e` and a later header `l` of the validator, `e.height ≤ l.maxHeightGenerated`
and `e.maxHeightGenerated ≤ l.maxHeightGenerated` always hold. -/
theorem C15_max_height_generated_clauses (addr : Nat → Bytes) (ops : List Op) (v : Nat) :
    (headersOf v (run .fixed addr {} ops).persisted).Pairwise
      (fun e l => e.height ≤ l.maxHeightGenerated ∧ e.maxHeightGenerated ≤ l.maxHeightGenerated) := by
  rw [C15_refines_honest_generator]
  exact C07Gen.run_clauses _ _ _

/-! ### the unpatched rule -/

/-- ten blocks, the validator generates at height 10 on a chain with maxHeightPrevoted 3; the node
moves to a better, shorter chain (3 blocks deleted, maxHeightPrevoted 4); the validator generates
at 8 and then at 9 -/
def C15counterOps : List Op :=
  [.ext 0, .ext 0, .ext 0, .ext 0, .ext 0, .ext 0, .ext 1, .ext 2, .ext 3,
   .forge 0 .applied 3, .del 3 4, .forge 0 .applied 4, .restart, .forge 0 .applied 4]

/-- With the unpatched rule (the stored height is the height of the LAST generated block) the
header at height 9 reports maxHeightGenerated = 8 and contradicts the header at height 10 —
although every forging opportunity was on a better tip (`allowedAll`), i.e. the environment
behaved; with the fixed rule the header at height 9 reports 10 (last conjunct: the three headers of
the same history; that they do not contradict follows from `C15_no_self_contradiction`, whose
hypothesis is the third conjunct). -/
theorem C15_original_contradicts_counterexample :
    let addr : Nat → Bytes := fun v => [UInt8.ofNat v]
    let hs := headersOf 0 (run .original addr {} C15counterOps).persisted
    hs.map (fun h => (h.height, h.maxHeightGenerated, h.maxHeightPrevoted)) = [(10, 0, 3), (8, 10, 4), (9, 8, 4)] ∧
    (∃ a ∈ hs, ∃ b ∈ hs, areDistinctHeadersContradicting a b = true) ∧
    C07Gen.allowedAll {} (C15steps addr 0 {} C15counterOps) ∧
    (headersOf 0 (run .fixed addr {} C15counterOps).persisted).map
      (fun h => (h.height, h.maxHeightGenerated, h.maxHeightPrevoted)) = [(10, 0, 3), (8, 10, 4), (9, 10, 4)] := by
  refine ⟨by decide, ?_, ?_, by decide⟩
  · refine ⟨{ height := 10, generatorAddress := [0], maxHeightGenerated := 0, maxHeightPrevoted := 3 }, by decide,
      { height := 9, generatorAddress := [0], maxHeightGenerated := 8, maxHeightPrevoted := 4 }, by decide, by decide⟩
  · have hs : C15steps (fun v => [UInt8.ofNat v]) 0 {} C15counterOps = [(10, 3), (8, 4), (9, 4)] := by decide
    rw [hs]
    simp [C07Gen.allowedAll, C07Gen.allowed, C07Gen.forge]

/-! ### non-vacuity -/

-- the fixed rule on the counterexample history: hypotheses of `C15_no_self_contradiction` hold
example : C07Gen.allowedAll {} (C15steps (fun v => [UInt8.ofNat v]) 0 {} C15counterOps) :=
  C15_original_contradicts_counterexample.2.2.1
example : (mkHeader (fun v => [UInt8.ofNat v]) (run .fixed (fun v => [UInt8.ofNat v]) {} C15counterOps) 0).maxHeightGenerated = 10 := by
  decide
-- a crash before the write leaves no trace; a dropped block is still accounted for
example : (run .fixed (fun v => [UInt8.ofNat v]) {}
    [.ext 0, .forge 1 .crashedBeforeWrite 0, .forge 1 .dropped 0, .restart, .forge 1 .applied 0]).persisted.map
      (fun p => (p.2.height, p.2.maxHeightGenerated)) = [(2, 0), (2, 2)] := by decide
