/-
C08 — Codec: lossless round trip, canonical strict decoding, stable IDs.

Theorems about `LiskVerif.Model.Codec` (the model of pkg/codec Reader/Writer and the generic
interpreter of the generated codecs) and about the schema table REGENERATED from the *_codec.go
files on every run (`LiskVerif.Gen.allSchemas`).
-/
import LiskVerif.Lemmas.Varint
import LiskVerif.Gen.Schemas

open LiskVerif LiskVerif.Codec LiskVerif.Gen

/-! ### varints -/

/-- Every 64-bit value survives `writeUInt` / `readUInt`, whatever follows it in the buffer. -/
theorem C08_varint_roundtrip (n : Nat) (hn : n < 2 ^ 64) (rest : Bytes) :
    readUint (putUvarint n ++ rest) = .ok (n, (putUvarint n).length) :=
  (readUint_ok_iff _ n _).mpr ⟨hn, rfl, List.take_left' rfl⟩

/-- Only the canonical (shortest, non-overflowing) varint is accepted: an accepted prefix is the
encoding of the returned value. -/
theorem C08_varint_canonical (b : Bytes) (n size : Nat) (h : readUint b = .ok (n, size)) :
    b.take size = putUvarint n ∧ n < 2 ^ 64 :=
  ⟨((readUint_ok_iff b n size).mp h).2.2, ((readUint_ok_iff b n size).mp h).1⟩

/-- Two different values never share an encoding (so IDs, which hash encodings, distinguish them). -/
theorem C08_varint_injective (a b : Nat) (ha : a < 2 ^ 64) (hb : b < 2 ^ 64)
    (h : putUvarint a = putUvarint b) : a = b := by
  have h1 := C08_varint_roundtrip a ha []
  have h2 := C08_varint_roundtrip b hb []
  rw [h] at h1
  rw [h1] at h2
  injection h2 with h2
  exact (Prod.mk.inj h2).1

/-- zig-zag integers survive the round trip -/
theorem C08_zigzag_roundtrip (i : Int) : unzigzag (zigzag i) = i :=
  unzigzag_zigzag i

/-! ### the regenerated schema table is well formed

`C08WellFormed`: field numbers strictly increase; Encode, DecodeFromReader and DecodeStrictFromReader
agree on numbers and kinds; the strict decoder passes `strict = true` for every single-value field;
no construct unknown to the translator; nested types exist. A mutated or stale codec file breaks
this obligation for every input at once. -/

def C08fieldsSorted : List Field → Bool
  | a :: b :: r => a.num < b.num && C08fieldsSorted (b :: r)
  | _ => true

def C08kindKnown (t : Table) : Kind → Bool
  | .unknown _ => false
  | .msg n => (t.find n).isSome
  | .msgArr n => (t.find n).isSome
  | _ => true

def C08singleValued : Kind → Bool
  | .bytesArr | .uints | .msgArr _ => false
  | _ => true

def C08WellFormed (t : Table) (s : Schema) : Bool :=
  C08fieldsSorted s.enc &&
  s.enc.all (fun f => f.num > 0 && C08kindKnown t f.kind) &&
  (s.enc.map fun f => (f.num, f.kind)) == (s.dec.map fun f => (f.num, f.kind)) &&
  (s.enc.map fun f => (f.num, f.kind)) == (s.decStrict.map fun f => (f.num, f.kind)) &&
  s.dec.all (fun f => !f.strict) &&
  s.decStrict.all (fun f => f.strict == C08singleValued f.kind)

/-- a name read as a number in base 256 -/
def C08nameCode (n : String) : Nat := n.toByteArray.data.toList.foldl (fun a b => a * 256 + b.toNat) 0

/-- Every schema of the regenerated table is well formed and no two names have the same code. Stated as one
conjunction, with the names read as numbers, because the kernel's work is unpacking the name literals (done once
for both parts) and it compares numbers much faster than strings. -/
theorem C08_table_valid : allSchemas.all (C08WellFormed allSchemas) = true ∧
    ((allSchemas.map (·.name)).map C08nameCode).Nodup := by
  decide +kernel

theorem C08_all_schemas_wellformed : allSchemas.all (C08WellFormed allSchemas) = true :=
  C08_table_valid.1

/-- the names of the regenerated table are pairwise distinct (structs are looked up by name) -/
theorem C08_schema_names_unique : (allSchemas.map (·.name)).Nodup :=
  C08_table_valid.2.of_map C08nameCode fun _ _ h e => h (congrArg _ e)
