/-
C15 — producer and verifier of the same node agree at the BOUNDARY values of every limit they share.

Property clause: "every block the generator produces is accepted by the same node's block validation …
its transactions respect … the payload size limit".  A generator that fills a block up to AND INCLUDING the
limit is correct; a verifier that rejects at equality makes the node refuse its own block (this is what the
obligations catch; demonstrated by seeded change C15-16: the payload check of `verifyBlock` written with a
decremented budget and `remaining <= 0`).

Models: `Model/Generator.lean` (selection loops), `Model/Verify.lean` (`verifyBlock`), `Model/Cert.lean`
(aggregate commits), `Model/Boundary.lean` (the shared limits side by side).

Idea. For each shared limit the producer's test and the verifier's test are put side by side and shown to be
complementary at EVERY value, so in particular at the boundary: payload size (`generatorStops size total max ↔
verifierRejects (total + size) max`; every result of the selection is within the limit and what is within
the limit is accepted; the result is the longest prefix the verifier accepts, not a knapsack optimum; a budget
check with `≤ 0` instead of `< 0` differs exactly at equality), the same for the tests regenerated from
verify.go / generator.go / transaction.go, then slots (`shouldForge` against the `future` / `pastSlot` rules),
aggregate-commit heights (the producer's range `(mhc, min(mhpc, next-1)]` is the range the height guards let
through) and transaction parameters (one function on both sides). maxHeightGenerated / maxHeightPrevoted have
no numeric limit: `C15_verifier_contradiction_rule`, `C15_forged_accept_iff` (Props/C15_Accept.lean) hold for
every value.
-/
import LiskVerif.Model.Boundary
import LiskVerif.Model.Cert
import LiskVerif.Lemmas.Verify
import LiskVerif.Props.C06_More
import LiskVerif.Lemmas.GeneratorAccept
import LiskVerif.Lemmas.GenInt
import LiskVerif.Props.C15_Gen

open LiskVerif LiskVerif.Generator LiskVerif.Boundary LiskVerif.GenAccept

/-! ## 1. payload size -/

/-- `payloadTotal` adds the sizes from the front -/
theorem payloadTotal_cons (t : Tx) (r : List Tx) : payloadTotal (t :: r) = t.size + payloadTotal r := rfl

/-- **producer**: whatever the pool, the verdicts of the application and the limit, the block's
transactions have at most `maxSize` bytes — for the function `select` (what the driver prints), for every
possible run of the loop (any tie-break) and for `limitTransactionsWithSize` on any list -/
theorem C15_boundary_producer_within_limit (ok : List Tx → Tx → Bool) (maxSize : Nat) (txs : List Tx) :
    payloadTotal (select ok maxSize txs) ≤ maxSize ∧
    (∀ R evs, Run ok maxSize (initGroups txs) 0 [] R evs → payloadTotal R ≤ maxSize) ∧
    (∀ l : List Tx, payloadTotal (limitBySize maxSize 0 l) ≤ maxSize) := by
  have hrun : ∀ R evs, Run ok maxSize (initGroups txs) 0 [] R evs → payloadTotal R ≤ maxSize :=
    fun R evs h => Nat.zero_add (payloadTotal R) ▸ h.size_bound (Nat.zero_le _)
  obtain ⟨evs, hs⟩ := select_run ok maxSize txs
  exact ⟨hrun _ evs hs, hrun,
    fun l => Nat.zero_add (payloadTotal _) ▸ limitBySize_sum maxSize l 0 (Nat.zero_le _)⟩

/-- **verifier**: the payload rule accepts EVERY total up to and including the limit and nothing above it
(all totals, all limits) -/
theorem C15_boundary_verifier_accepts_iff (total maxTxLen : Nat) :
    (verifierRejects total maxTxLen = false ↔ total ≤ maxTxLen) ∧
    (∀ l : List Tx, payloadVerdict maxTxLen l = none ↔ payloadTotal l ≤ maxTxLen) := by
  have hv : ∀ t, verifierRejects t maxTxLen = false ↔ t ≤ maxTxLen := fun t =>
    decide_eq_false_iff_not.trans Nat.not_lt
  refine ⟨hv total, fun l => ?_⟩
  rw [← hv, payloadVerdict]
  cases verifierRejects (payloadTotal l) maxTxLen <;> simp

/-- in particular at equality -/
theorem C15_boundary_verifier_accepts_equality (maxTxLen : Nat) : verifierRejects maxTxLen maxTxLen = false :=
  (C15_boundary_verifier_accepts_iff maxTxLen maxTxLen).1.mpr (Nat.le_refl _)

/-- a reported error is that of a failing entry of the rule list -/
private theorem firstFailure_mem {l : List (Verify.Err × Bool)} {e : Verify.Err}
    (h : Verify.firstFailure l = some e) : (e, false) ∈ l := by
  obtain ⟨pre, post, rfl, _⟩ := (Verify.firstFailure_some_iff l e).mp h
  exact List.mem_append_right _ List.mem_cons_self

/-- **`Verify.verifyBlock` and the payload rule**: a candidate block within the limit is never rejected for
its payload size (whatever else is wrong with it), and a block that passes the three rules checked before
(version, height, previous id) with a payload above the limit is rejected with exactly that error -/
theorem C15_boundary_verifyBlock_payload (n : Verify.Node) (s : BFT.State) (b : Verify.Cand) :
    (b.payloadSize ≤ n.cfg.maxTxLen → Verify.verifyBlock n s b ≠ some .payloadSize) ∧
    (b.version = 2 → b.height = n.tipHeight + 1 → b.prevID = n.tipID →
      verifierRejects b.payloadSize n.cfg.maxTxLen = true → Verify.verifyBlock n s b = some .payloadSize) := by
  constructor
  · intro hle h
    -- the only entry of the rule list with this error is the payload test itself
    have hm := firstFailure_mem ((Verify.verifyBlock_eq n s b).symm.trans h)
    unfold Verify.verifyChecks Verify.acChecks at hm
    split at hm <;> simp at hm <;> omega
  · intro h1 h2 h3 h4
    rw [Verify.verifyBlock, if_neg (not_not_intro h1), if_neg (not_not_intro h2),
      if_neg (not_not_intro h3), if_pos (of_decide_eq_true h4)]

/-- **agreement**: the payload of every block the generator assembles passes the payload rule of a
verifier whose limit is the generator's (or larger) — `select`, and every run of the loop -/
theorem C15_boundary_forged_payload_accepted (ok : List Tx → Tx → Bool) (maxSize maxTxLen : Nat) (txs : List Tx)
    (hcfg : maxSize ≤ maxTxLen) :
    payloadVerdict maxTxLen (select ok maxSize txs) = none ∧
    (∀ R evs, Run ok maxSize (initGroups txs) 0 [] R evs → payloadVerdict maxTxLen R = none) := by
  have hrun : ∀ R evs, Run ok maxSize (initGroups txs) 0 [] R evs → payloadVerdict maxTxLen R = none :=
    fun R evs h => ((C15_boundary_verifier_accepts_iff 0 maxTxLen).2 _).mpr
      (Nat.le_trans ((C15_boundary_producer_within_limit ok maxSize txs).2.1 R evs h) hcfg)
  obtain ⟨evs, hs⟩ := select_run ok maxSize txs
  exact ⟨hrun _ evs hs, hrun⟩

/-- a list that fits the limit on top of `total` is kept whole -/
private theorem limitBySize_eq_self (maxSize : Nat) (l : List Tx) (total : Nat)
    (h : total + payloadTotal l ≤ maxSize) : limitBySize maxSize total l = l := by
  induction l generalizing total with
  | nil => rfl
  | cons t r ih =>
    rw [payloadTotal_cons] at h
    rw [limitBySize, if_neg (by omega), ih _ (by omega)]

/-- **equality is legitimately produced and must be accepted**: a list whose sizes add up to exactly the
limit is kept whole by `limitTransactionsWithSize` — for every list — and the verifier accepts it -/
theorem C15_boundary_equality_produced_and_accepted (l : List Tx) :
    limitBySize (payloadTotal l) 0 l = l ∧ payloadVerdict (payloadTotal l) l = none := by
  exact ⟨limitBySize_eq_self _ l 0 (Nat.le_of_eq (Nat.zero_add _)),
    ((C15_boundary_verifier_accepts_iff 0 _).2 l).mpr (Nat.le_refl _)⟩

/-- **the two tests are complementary at every value**: the generator stops before a transaction exactly
when the verifier would reject the payload with that transaction added -/
theorem C15_boundary_complementary (size total maxSize : Nat) :
    generatorStops size total maxSize = true ↔ verifierRejects (total + size) maxSize = true := by
  unfold generatorStops verifierRejects
  rw [Nat.add_comm]

/-- the models use exactly these tests -/
theorem C15_boundary_models_use_tests (maxSize total : Nat) (t : Tx) (r : List Tx) (n : Verify.Node) (b : Verify.Cand) :
    limitBySize maxSize total (t :: r) =
      (if generatorStops t.size total maxSize then [] else t :: limitBySize maxSize (total + t.size) r) ∧
    ((Verify.Err.payloadSize, !verifierRejects b.payloadSize n.cfg.maxTxLen) ∈ Verify.verifyChecks n n.bft b) := by
  constructor
  · unfold generatorStops
    simp [limitBySize]
  · have e : (!verifierRejects b.payloadSize n.cfg.maxTxLen) = decide (b.payloadSize ≤ n.cfg.maxTxLen) := by
      rw [verifierRejects, ← decide_not, decide_eq_decide]; exact Nat.not_lt
    rw [e]
    simp [Verify.verifyChecks]

/-- **maximal w.r.t. the implemented rule** (`limitTransactionsWithSize`): the result is a prefix of the
list, and it is the LONGEST prefix the verifier accepts — either everything was kept, or the verifier
would reject the result extended by the next transaction -/
theorem C15_boundary_limit_prefix_maximal (maxSize : Nat) (l : List Tx) (total : Nat) :
    ∃ rest, l = limitBySize maxSize total l ++ rest ∧
      (rest = [] ∨ ∃ t r, rest = t :: r ∧
        verifierRejects (total + payloadTotal (limitBySize maxSize total l) + t.size) maxSize = true) := by
  induction l generalizing total with
  | nil => exact ⟨[], rfl, Or.inl rfl⟩
  | cons t r ih =>
    unfold limitBySize
    split
    · rename_i h
      exact ⟨t :: r, rfl, Or.inr ⟨t, r, rfl, (C15_boundary_complementary _ _ _).mp (decide_eq_true h)⟩⟩
    · obtain ⟨rest, h1, h2⟩ := ih (total + t.size)
      refine ⟨rest, by rw [List.cons_append, ← h1], ?_⟩
      rcases h2 with h2 | ⟨t', r', h3, h4⟩
      · exact Or.inl h2
      · exact Or.inr ⟨t', r', h3, by rw [payloadTotal_cons, ← Nat.add_assoc]; exact h4⟩

/-- **maximal w.r.t. the implemented rule** (`selectTransactionsByFee`, any tie-break): a transaction at which
the loop is cut is one the verifier would reject on top of the result. (By the constructors of `Run` a `cut`
is the only way the loop ends before the pool is exhausted, and by `C15_selection_greedy_priority` the
transaction cut is a sender head of maximal fee priority; neither is part of this statement.) -/
theorem C15_boundary_run_cut_is_rejected (ok : List Tx → Tx → Bool) (maxSize : Nat) (g : Groups)
    (total : Nat) (acc R : List Tx) (evs : List Ev) (h : Run ok maxSize g total acc R evs) :
    ∀ t hs, Ev.cut t hs ∈ evs → verifierRejects (total + payloadTotal R + t.size) maxSize = true := by
  induction h with
  | done total acc => intro t hs hm; cases hm
  | cut hmax hsz =>
    intro t hs hm
    rw [List.mem_singleton] at hm
    cases hm
    exact (C15_boundary_complementary _ _ _).mp (decide_eq_true hsz)
  | skip hmax hsz hok hrun ih =>
    intro t hs hm
    rcases List.mem_cons.mp hm with hm | hm
    · cases hm
    · exact ih t hs hm
  | take hmax hsz hok hrun ih =>
    intro t hs hm
    rcases List.mem_cons.mp hm with hm | hm
    · cases hm
    · rw [payloadTotal_cons, ← Nat.add_assoc]; exact ih t hs hm

/-- the rule is "first candidate that does not fit ends the selection", not "fill as much as possible": a
large transaction of highest priority that misses the limit by one byte ends the selection although the
smaller one behind it would fit -/
theorem C15_boundary_not_knapsack_maximal :
    select okMock 300 [{ id := 0, sender := 0, nonce := 0, fee := 30100, size := 301 },
                       { id := 1, sender := 1, nonce := 0, fee := 200, size := 100 }] = [] ∧
    select okMock 301 [{ id := 0, sender := 0, nonce := 0, fee := 30100, size := 301 },
                       { id := 1, sender := 1, nonce := 0, fee := 200, size := 100 }] =
      [{ id := 0, sender := 0, nonce := 0, fee := 30100, size := 301 }] := by decide

/-! ### the budget form of the check -/

/-- Sizes are not negative, so the remaining budget only goes down: the check fires on a non-empty
list exactly when the whole list overdraws the budget — or, for the `≤ 0` variant, uses it up. -/
private theorem budgetRejects_iff (strict : Bool) (l : List Nat) (rem : Int) :
    budgetRejects strict rem l = true ↔
      l ≠ [] ∧ if strict then rem < (l.sum : Nat) else rem ≤ (l.sum : Nat) := by
  induction l generalizing rem with
  | nil => simp [budgetRejects]
  | cons z r ih =>
    rw [budgetRejects]
    cases strict <;>
      simp only [Bool.false_eq_true, if_false, if_true, decide_eq_true_eq, List.sum_cons, ne_eq,
        reduceCtorEq, not_false_eq_true, true_and, Int.natCast_add] <;>
      split
    -- the first entry alone fires the check: then so does the whole list
    · simp only [true_iff]; omega
    -- otherwise the rest decides, and an empty rest cannot fire
    · rw [ih]; by_cases hr : r = [] <;> simp [hr] <;> omega
    · simp only [true_iff]; omega
    · rw [ih]; by_cases hr : r = [] <;> simp [hr] <;> omega

/-- the `< 0` budget check is the rule of the model, for every limit and every list of sizes -/
theorem C15_boundary_budget_strict_eq (maxTxLen : Nat) (sizes : List Nat) :
    budgetRejects true (maxTxLen : Int) sizes = verifierRejects sizes.sum maxTxLen := by
  rw [Bool.eq_iff_iff, budgetRejects_iff, verifierRejects, decide_eq_true_eq, if_pos rfl]
  cases sizes with
  | nil => simp
  | cons z r => simp; omega

/-- **counterexample**: a budget check with `≤ 0` rejects EVERY non-empty payload
whose size is exactly the limit — all of which the generator legitimately produces
(`C15_boundary_equality_produced_and_accepted`) and the model accepts -/
theorem C15_boundary_cx_budget_rejects_equality (sizes : List Nat) (hne : sizes ≠ []) :
    budgetRejects false ((sizes.sum : Nat) : Int) sizes = true ∧ verifierRejects sizes.sum sizes.sum = false :=
  ⟨(budgetRejects_iff false _ _).mpr ⟨hne, Int.le_refl _⟩, C15_boundary_verifier_accepts_equality _⟩

/-- the disagreement in one statement: every non-empty block the generator fills to exactly the limit is kept
whole, accepted by the model's verifier and rejected by the `≤ 0` budget verifier (below the limit the two
verifiers agree: next theorem) -/
theorem C15_boundary_cx_seeded_disagreement (l : List Tx) (hne : l ≠ []) :
    limitBySize (payloadTotal l) 0 l = l ∧ payloadVerdict (payloadTotal l) l = none ∧
    budgetRejects false ((payloadTotal l : Nat) : Int) (l.map (·.size)) = true := by
  obtain ⟨h1, h2⟩ := C15_boundary_equality_produced_and_accepted l
  refine ⟨h1, h2, ?_⟩
  have := (C15_boundary_cx_budget_rejects_equality (l.map (·.size)) (by simpa using hne)).1
  exact this

/-- below the limit the `≤ 0` budget check accepts what the model accepts: the defect is invisible to any
test that does not hit the limit exactly -/
theorem C15_boundary_cx_seeded_invisible_below (maxTxLen : Nat) (sizes : List Nat) (h : sizes.sum < maxTxLen) :
    budgetRejects false (maxTxLen : Int) sizes = false := by
  refine Bool.eq_false_iff.mpr fun hc => ?_
  have : (maxTxLen : Int) ≤ (sizes.sum : Nat) := ((budgetRejects_iff false _ _).mp hc).2
  omega

/-! ## 2. tie A: the regenerated tests -/

/-- the regenerated tests are the tests of `Model/Boundary.lean` (and through
`C15_boundary_models_use_tests`, `C15_gen_size_cut_eq` those of the generator and verification models) -/
theorem C15_boundary_gen_verifier_eq_model (total max size : Nat) (h : size + total < 9223372036854775808) :
    Gen.verifyPayloadTooLarge (total : Int) max = verifierRejects total max ∧
    Gen.genSelectBlockFull (size : Int) (total : Int) (Gen.genSelectLimitArg max) = generatorStops size total max ∧
    Gen.genLimitBlockFull (size : Int) (total : Int) (Gen.genLimitLimitArg max) = generatorStops size total max ∧
    Gen.verifyPayloadInit = 0 ∧
    Gen.verifyPayloadTotal (total : Int) (size : Int) = ((total + size : Nat) : Int) := by
  -- the two stop tests are those of `C15_gen_size_cut_eq`; the limit arguments are the conversion `int(max)`
  obtain ⟨c1, c2, _, _⟩ := C15_gen_size_cut_eq size total max h
  refine ⟨decide_eq_decide.mpr Int.ofNat_lt, c1, c2, rfl, ?_⟩
  -- sums of sizes are natural numbers below 2^63: `int` arithmetic does not wrap
  unfold Gen.verifyPayloadTotal
  rw [← Int.natCast_add, Gen.i64_ofNat (Nat.add_comm size total ▸ h)]

/-- **the regenerated stop tests of the generator and the regenerated reject test of `verifyBlock` are
complementary at every value** (sizes are Go `int`s, the limit is the `uint32` configuration value that
`forge` converts with `int(…)` — `Gen.genSelectLimitArg`, `Gen.genLimitLimitArg` — and `verifyBlock`
converts inside its test): `selectTransactionsByFee` / `limitTransactionsWithSize` stop before a transaction
⇔ `verifyBlock` rejects the payload after its accumulator `transactionsSize += tx.Size()` took it in -/
theorem C15_boundary_gen_complementary (size total max : Nat) (h : size + total < 9223372036854775808) :
    Gen.genSelectBlockFull (size : Int) (total : Int) (Gen.genSelectLimitArg max) =
      Gen.verifyPayloadTooLarge (Gen.verifyPayloadTotal (total : Int) (size : Int)) max ∧
    Gen.genLimitBlockFull (size : Int) (total : Int) (Gen.genLimitLimitArg max) =
      Gen.verifyPayloadTooLarge (Gen.verifyPayloadTotal (total : Int) (size : Int)) max := by
  obtain ⟨_, hs, hl, _, ht⟩ := C15_boundary_gen_verifier_eq_model total max size h
  rw [hs, hl, ht, (C15_boundary_gen_verifier_eq_model (total + size) max 0 (by omega)).1,
    Bool.eq_iff_iff.mpr (C15_boundary_complementary size total max)]
  exact ⟨rfl, rfl⟩

/-- the loop of `verifyBlock` with the regenerated initial value and accumulator -/
def C15verifyFold (sizes : List Nat) : Int :=
  sizes.foldl (fun (acc : Int) (z : Nat) => Gen.verifyPayloadTotal acc (z : Int)) Gen.verifyPayloadInit

/-- **`verifyBlock`'s regenerated loop and test are the payload rule of `Model/Verify.lean`**: folding the
regenerated accumulator over the sizes gives their sum (payloads below 2^63 bytes), and the regenerated test
on it is the model's `payloadSize > maxTxLen` -/
theorem C15_boundary_gen_fold_eq_model (sizes : List Nat) (max : Nat) (h : sizes.sum < 9223372036854775808) :
    C15verifyFold sizes = ((sizes.sum : Nat) : Int) ∧
    Gen.verifyPayloadTooLarge (C15verifyFold sizes) max = decide (sizes.sum > max) := by
  have key : ∀ (l : List Nat) (acc : Nat), acc + l.sum < 9223372036854775808 →
      l.foldl (fun (a : Int) (z : Nat) => Gen.verifyPayloadTotal a (z : Int)) (acc : Int) = ((acc + l.sum : Nat) : Int) := by
    intro l
    induction l with
    | nil => intro acc _; rfl
    | cons z r ih =>
      intro acc hacc
      rw [List.sum_cons] at hacc
      rw [List.foldl_cons, (C15_boundary_gen_verifier_eq_model acc max z (by omega)).2.2.2.2,
        ih _ (by omega), List.sum_cons, Nat.add_assoc]
  have hf : C15verifyFold sizes = ((sizes.sum : Nat) : Int) := by
    unfold C15verifyFold Gen.verifyPayloadInit
    have := key sizes 0 (by omega)
    simpa using this
  refine ⟨hf, ?_⟩
  rw [hf]
  exact (C15_boundary_gen_verifier_eq_model sizes.sum max 0 (by omega)).1

/-- **transaction parameters**: the regenerated size rule of `Transaction.Validate` — the one function
behind admission to the pool (gossip validator, RPC) and `Block.Validate` — accepts every length up to and
including `MaxTransactionParamsSize` and nothing above -/
theorem C15_boundary_gen_params (len : Nat) :
    Gen.txParamsTooLarge (len : Int) = paramsRejected len ∧
    Gen.maxTransactionParamsSize = (maxParamsSize : Int) ∧
    (paramsRejected len = false ↔ len ≤ maxParamsSize) ∧ paramsRejected maxParamsSize = false ∧
    paramsRejected (maxParamsSize + 1) = true := by
  unfold Gen.txParamsTooLarge paramsRejected Gen.maxTransactionParamsSize maxParamsSize
  exact ⟨decide_eq_decide.mpr Int.ofNat_lt, rfl, by simp, by decide, by decide⟩

/-! ## 3. slots -/

/-- **slots, agreement**: when `shouldForge` lets the generator produce a block at clock `now` (the header
carries that clock as timestamp), the clock is not behind the tip and the verifier's clock is not behind the
generator's, then neither slot rule of `verifyBlock` rejects the block — at whichever second of the slot
(the hypotheses are needed: `C15_cx_clock_behind_tip`, `C15_cx_verifier_clock_behind`) -/
theorem C15_boundary_slot_agreement (c : Verify.Config) (tip now : Nat)
    (hf : shouldForge c tip now = true) (htip : Verify.slotOf c tip ≤ Verify.slotOf c now)
    (hclk : Verify.slotOf c now ≤ Verify.slotOf c c.now) : slotVerdict c tip now = none := by
  unfold shouldForge at hf
  unfold slotVerdict
  by_cases h : Verify.slotOf c now = Verify.slotOf c tip
  · simp [h] at hf
  · rw [if_neg (Nat.not_lt.mpr hclk), if_neg (fun hle => h (Nat.le_antisymm hle htip))]

/-- the verifier's slot rules depend on the slot of the timestamp only: every second of a slot is judged alike -/
theorem C15_boundary_slot_verdict_by_slot (c : Verify.Config) (tip ts ts' : Nat)
    (h : Verify.slotOf c ts = Verify.slotOf c ts') : slotVerdict c tip ts = slotVerdict c tip ts' := by
  unfold slotVerdict; rw [h]

/-- **slots, edges of the producer**: in the slot right after the tip's slot `shouldForge` holds at EVERY
second (first and last included); after missed slots it holds exactly from second `blockTime/5 + 1` of the
slot on (the boundary `now = slot start + blockTime/5` is still "wait") -/
theorem C15_boundary_slot_edges (c : Verify.Config) (tip now : Nat) :
    (Verify.slotOf c now = Verify.slotOf c tip + 1 → shouldForge c tip now = true) ∧
    (Verify.slotOf c tip + 1 < Verify.slotOf c now →
      (shouldForge c tip now = true ↔ slotStart c (Verify.slotOf c now) + c.blockTime / 5 < now)) := by
  unfold shouldForge
  constructor
  · intro h
    simp only [h]
    rw [if_neg (Nat.succ_ne_self _), if_neg (fun h' => Nat.lt_irrefl _ h'.1)]
  · intro h
    rw [if_neg (fun e => Nat.lt_irrefl _ (Nat.lt_trans (Nat.lt_succ_self _) (e ▸ h)))]
    by_cases h2 : now ≤ slotStart c (Verify.slotOf c now) + c.blockTime / 5
    · simp only [h, h2, and_self, if_true, Bool.false_eq_true, false_iff]; omega
    · simp only [h2, and_false, if_false, true_iff]; omega

/-! ## 4. aggregate commit heights -/

open LiskVerif.Cert in
/-- **aggregate commit, agreement**: the height of a non-empty aggregate commit the node assembles
(`GetAggregateCommit`) passes all three height guards of `verifyAggregateCommit` — strictly above
`maxHeightCertified`, at most `maxHeightPrecommitted`, at most `heightNextBFTParams - 1` -/
theorem C15_boundary_ac_produced_in_range (st : State) (pool : Pool) (ac : AggCommit)
    (hg : getAggregateCommit st pool = .ok ac) (hne : ac.isEmpty = false) :
    st.mhc < ac.height ∧ ac.height ≤ st.mhpc ∧
    (∀ nh, nextHeightParams st.params (st.mhc + 1) = some nh → ac.height ≤ nh - 1) := by
  rcases C06_assembled_height_exact st pool ac hg with ⟨h1, _⟩ | ⟨_, h2, h3, _, _⟩
  · rw [h1] at hne
    simp [emptyCommit, AggCommit.isEmpty] at hne
  · obtain ⟨h4, h5⟩ := (gacStart_iff st ac.height).mp h3
    refine ⟨h2, h4, fun nh hn => ?_⟩
    obtain ⟨hlt, ⟨p, hp⟩, _⟩ := nextHeightParams_some hn
    exact Nat.le_sub_one_of_lt (h5 (nh, p) hp hlt)

open LiskVerif.Cert in
/-- **aggregate commit, edges**: the producer's upper bound `gacStart` (= `min(mhpc, next-1)`, or `mhpc`)
is exactly the verifier's: at every height in `(mhc, gacStart]` — the bound itself included — the height
guards let the commit through to the certificate check, and at `gacStart + 1` a height guard rejects -/
theorem C15_boundary_ac_edges (st : State) (ac : AggCommit) (sig : Sig) (hs : ac.sig = some sig)
    (hb : ac.bits.isEmpty = false) :
    (st.mhc < ac.height → ac.height ≤ gacStart st → verifyAggregateCommit st ac = verifyCertificate st ac sig) ∧
    (st.mhc ≤ gacStart st → ac.height = gacStart st + 1 →
      verifyAggregateCommit st ac = .reject .abovePrecommitted ∨
      verifyAggregateCommit st ac = .reject .beyondNextParams) := by
  -- with both fields present the check is the three height guards in front of the certificate check
  rw [verifyAggregateCommit_of_fields hs (fun h => by rw [h] at hb; cases hb)]
  have hle : gacStart st ≤ st.mhpc := ((gacStart_iff st _).mp (Nat.le_refl _)).1
  refine ⟨fun h1 h2 => ?_, fun h1 h2 => ?_⟩
  · rw [if_neg (Nat.not_le.mpr h1), if_neg (by omega), if_neg (Nat.not_lt.mpr h2)]
  · rw [if_neg (by omega)]
    by_cases h3 : st.mhpc < ac.height
    · rw [if_pos h3]; exact Or.inl rfl
    · rw [if_neg h3, if_pos (by omega)]; exact Or.inr rfl

/-! ## non-vacuity -/

/-- a pool whose selection fills the limit exactly: three transactions of 830 bytes under the limit 830
(the numbers of the demonstration seeded/C15-16) — produced, within the limit, accepted by the model,
rejected by the `≤ 0` budget check -/
example :
    let pool : List Tx := [{ id := 0, sender := 0, nonce := 0, fee := 4000, size := 300 },
                           { id := 1, sender := 1, nonce := 0, fee := 2800, size := 280 },
                           { id := 2, sender := 0, nonce := 1, fee := 2500, size := 250 }]
    payloadTotal (select okMock 830 pool) = 830 ∧ payloadVerdict 830 (select okMock 830 pool) = none ∧
    budgetRejects false 830 ((select okMock 830 pool).map (·.size)) = true ∧
    budgetRejects true 830 ((select okMock 830 pool).map (·.size)) = false ∧
    (select okMock 829 pool).length = 2 ∧ payloadTotal (select okMock 831 pool) = 830 := by decide

example : generatorStops 250 580 830 = false ∧ verifierRejects 830 830 = false ∧
    generatorStops 250 580 829 = true ∧ verifierRejects 830 829 = true ∧
    Gen.genSelectBlockFull 250 580 (Gen.genSelectLimitArg 830) = false ∧
    Gen.verifyPayloadTooLarge (Gen.verifyPayloadTotal 580 250) 830 = false ∧
    Gen.verifyPayloadTooLarge (Gen.verifyPayloadTotal 580 250) 829 = true ∧
    C15verifyFold [300, 280, 250] = 830 ∧ Gen.txParamsTooLarge 14336 = false ∧ Gen.txParamsTooLarge 14337 = true := by
  decide +kernel

example : shouldForge ⟨1000, 10, 0, 0, true⟩ 1005 1010 = true ∧ shouldForge ⟨1000, 10, 0, 0, true⟩ 1005 1019 = true ∧
    shouldForge ⟨1000, 10, 0, 0, true⟩ 1005 1009 = false ∧ shouldForge ⟨1000, 10, 0, 0, true⟩ 1005 1032 = false ∧
    shouldForge ⟨1000, 10, 0, 0, true⟩ 1005 1033 = true ∧
    slotVerdict ⟨1000, 10, 1019, 0, true⟩ 1005 1010 = none ∧ slotVerdict ⟨1000, 10, 1019, 0, true⟩ 1005 1019 = none ∧
    slotVerdict ⟨1000, 10, 1019, 0, true⟩ 1005 1020 = some .future := by decide +kernel
