/-
C17 — lock / channel protocol of the p2p request/response layer, on skeletons REGENERATED from the Go
source.

`tools/skelgen` (group `p2p`) extracts on every check run the synchronisation skeleton of every method
of `MessageProtocol` (pkg/p2p/message_protocol.go: `sendRequestMessage`, `onResponse`, `request`,
`onRequest`, `respond`, `send`, `RequestFrom`, `Broadcast`, `start`, …) into `Gen/SkeletonsP2P.lean`,
together with what these methods call under a lock of their own: the rate limiter (ratelimit.go, see
Props/C17_RateSkel.lean), `Peer.addPenalty` / `banPeer` and the connection gater (conngater.go).
The facts the model of `Model/ReqResp.lean` (fixed version `step`) relies on are obligations here:

  * the response channel is created with capacity ≥ 1           `C17_gen_response_channel_buffered`
  * it is registered (write of `resCh` under `resMu`) before the
    request is handed to `send`                                  `C17_gen_register_before_send`
  * `onResponse` performs no blocking channel operation while it
    holds `resMu` (criterion 3; the delivery is a `select` with
    `default`, skeleton action `trySend`)                        `C17_gen_onResponse_no_blocking_under_lock`
  * every path of `sendRequestMessage` that registered
    unregisters (`delete(resCh, id)`) before it returns          `C17_gen_unregister_on_all_paths`
  * `resMu` is never re-acquired while held                      `C17_gen_no_reentrant_resMu`
  * `resCh` is only accessed under `resMu` (writes exclusively)  `C17_gen_all_entries_ok` (criterion 4)

A change of the source that breaks one of these facts (or introduces a construct skelgen does not
understand) changes the regenerated file and breaks the theorem. The ORIGINAL code (79181c4), written
in the same skeleton language, violates the blocking-in-critical-section, register-before-send and
capacity checks (`C17_gen_original_*`); the concrete lost-response / deadlock executions of the original
are in Props/C17.lean.

Criterion (3) "no possibly blocking operation inside a critical section" does NOT hold as such for the
entry points that reach `rateLimit.checkLimit` (`onRequest`, `onResponse`, `start`): `checkLimit` calls
`Peer.addPenalty` — which may call `Peer.Disconnect`, a network operation — while it holds the counter
mutex (`C17_rate_checkLimit_penalty_under_lock` in Props/C17_RateSkel.lean). What holds for them is
stated in `C17_gen_all_entries_ok`: every other criterion, nothing blocking is ever done under `resMu`,
and `Peer.Disconnect` under the counter mutex alone is the only blocking operation inside any critical
section. The deadlock-freedom theorem is therefore stated for the skeletons in which `Peer.Disconnect`
is an ordinary call that returns (`cfgE`).

Order properties are evaluated on the *event runs* of one body (`Locks.evRuns`: leaf actions in program
order, calls kept as events); `sendRequestMessage` is loop-free, so the enumeration is exhaustive
(`C17_gen_sendRequestMessage_loop_free`, `C17_skel_loopFree_runs_exhaustive`). The meaning of the flag
checks is spelled out by `C17_skel_setWheneverAt_spec` / `C17_skel_cleared_spec`.

The entry points of this file are those of the whole p2p group that are not functions of ratelimit.go, and
the configurations are the same: the table-wide criteria below are `C17Rate.all_entries_ok`
(Props/C17_RateSkel.lean), which evaluates the analysis over the whole group, restricted to them.
-/
import LiskVerif.Props.C17_RateSkel

open LiskVerif LiskVerif.Locks

namespace C17Skel

/-- the configuration of Props/C17_RateSkel.lean (the guard table ties `resCh` to `resMu`) -/
def cfg : Cfg := ⟨Gen.SkeletonsP2P.table, Gen.SkeletonsP2P.guards, Gen.SkeletonsP2P.lockOrder⟩

/-- a function of ratelimit.go (a method of `rateLimit` or the plain function `rateLimiterHandler`):
these entry points have their own obligations in Props/C17_RateSkel.lean -/
def isRate (f : String) : Bool := "rateLimit".toList.isPrefixOf f.toList

/-- the regenerated entry points of this file: the message protocol, `Peer.addPenalty` / `banPeer` and
the connection gater (the rate limiter is analysed inlined into `onRequest` / `onResponse` here, and
standalone in Props/C17_RateSkel.lean) -/
def entryTable : Table :=
  Gen.SkeletonsP2P.table.filter (fun e => Gen.SkeletonsP2P.entries.contains e.1 && !isRate e.1)

def resCh : String := "MessageProtocol.resCh"
def resMu : String := "MessageProtocol.resMu"
def sendFn : String := "MessageProtocol.send"

/-- registration `mp.resCh[id] = ch` -/
def isRegister : Act → Bool := Act.isWrite resCh
/-- unregistration `delete(mp.resCh, id)` -/
def isUnregister : Act → Bool := Act.isDel resCh
/-- the request leaves: call of `mp.send` -/
def isSend : Act → Bool := Act.isCall sendFn
/-- creation of an unbuffered channel -/
def isMakeUnbuffered (a : Act) : Bool := a.isMakeChan && !a.isMakeChanGe 1

def counterMu : String := "rpcMessageCounter.mu"
/-- the network operation called (through `Peer.addPenalty`) with a counter mutex held -/
def disconnect : String := "Peer.Disconnect"

/-- the entry points that reach `rateLimit.checkLimit`, hence `Peer.Disconnect` under the counter mutex -/
def penaltyUnderLock : List String :=
  ["MessageProtocol.onRequest", "MessageProtocol.onResponse", "MessageProtocol.start"]

/-- the regenerated configuration in which `Peer.Disconnect` is an ordinary call that returns -/
def cfgE : Cfg :=
  ⟨Gen.SkeletonsP2P.table.eraseBlockingCalls [disconnect], Gen.SkeletonsP2P.guards, Gen.SkeletonsP2P.lockOrder⟩

def entryTableE : Table :=
  cfgE.tbl.filter (fun e => Gen.SkeletonsP2P.entries.contains e.1 && !isRate e.1)

/-- the methods the property names -/
def required : List String :=
  ["MessageProtocol.sendRequestMessage", "MessageProtocol.onResponse", "MessageProtocol.request",
   "MessageProtocol.onRequest", "MessageProtocol.respond", "MessageProtocol.send",
   "MessageProtocol.RequestFrom", "MessageProtocol.Broadcast"]

/-! configuration and names are those of `C17Rate`: what Props/C17_RateSkel.lean evaluates for its own is carried
over by these equations -/
theorem cfg_eq : cfg = C17Rate.cfg := rfl
theorem cfgE_eq : cfgE = C17Rate.cfgE := rfl
theorem resMu_eq : resMu = C17Rate.resMu := rfl
theorem counterMu_eq : counterMu = C17Rate.counterMu := rfl
theorem disconnect_eq : disconnect = C17Rate.disconnect := rfl
theorem penaltyUnderLock_eq : C17Rate.penaltyUnderLock = "rateLimit.checkLimit" :: penaltyUnderLock := rfl

end C17Skel

open C17Skel

/-! ## meaning of the decidable path checks -/

private theorem flagAfter_append (on off : Act → Bool) (f : Bool) (p q : List Act) :
    flagAfter on off f (p ++ q) = flagAfter on off (flagAfter on off f p) q := by
  induction p generalizing f with
  | nil => rfl
  | cons a p ih => simp only [List.cons_append, flagAfter]; exact ih _

/-- **`setWheneverAt`** — if the check holds for a run, then at every occurrence of an `at_` event the
flag is set: the events before it contain an `on` event that no later `off` event undid. -/
theorem C17_skel_setWheneverAt_spec (on off at_ : Act → Bool) (evs pre post : List Act) (a : Act)
    (h : flagSetAt on off at_ false evs = true) (he : evs = pre ++ a :: post) (ha : at_ a = true) :
    ∃ p1 r p2, pre = p1 ++ r :: p2 ∧ on r = true ∧ ∀ b ∈ p2, on b = true ∨ off b = false := by
  subst he
  -- the flag is set at `a`: it was set from the start and nothing cleared it, or some `on` event set it for good
  suffices ∀ (pre : List Act) (f : Bool), flagSetAt on off at_ f (pre ++ a :: post) = true →
      (f = true ∧ ∀ b ∈ pre, on b = true ∨ off b = false) ∨
      ∃ p1 r p2, pre = p1 ++ r :: p2 ∧ on r = true ∧ ∀ b ∈ p2, on b = true ∨ off b = false from
    (this pre false h).resolve_left fun hf => Bool.noConfusion hf.1
  intro pre
  induction pre with
  | nil =>
    intro f h
    simp only [List.nil_append, flagSetAt, ha, if_true, Bool.and_eq_true] at h
    exact .inl ⟨h.1, nofun⟩
  | cons c pre ih =>
    intro f h
    simp only [List.cons_append, flagSetAt, Bool.and_eq_true] at h
    rcases ih _ h.2 with ⟨hf, hall⟩ | ⟨p1, r, p2, hp, hr, hall⟩
    · by_cases hon : on c = true
      · exact .inr ⟨[], c, pre, rfl, hon, hall⟩
      · by_cases hoff : off c = true
        · simp [flagStep, hon, hoff] at hf
        · simp only [flagStep, hon, hoff] at hf
          exact .inl ⟨hf, List.forall_mem_cons.mpr ⟨.inr (Bool.eq_false_iff.mpr hoff), hall⟩⟩
    · exact .inr ⟨c :: p1, r, p2, by rw [hp]; rfl, hr, hall⟩

/-- **`clearedOnAllPaths`** — if a run ends with the flag clear, then every `on` event in it is
followed by an `off` event (which is not itself an `on` event). -/
theorem C17_skel_cleared_spec (on off : Act → Bool) (evs pre post : List Act) (r : Act)
    (h : flagAfter on off false evs = false) (he : evs = pre ++ r :: post) (hr : on r = true) :
    ∃ b ∈ post, off b = true ∧ on b = false := by
  -- a set flag stays set up to an `off` event that is not an `on` event
  have h3 : ∀ l, flagAfter on off true l = false → ∃ b ∈ l, off b = true ∧ on b = false := by
    intro l
    induction l with
    | nil => exact nofun
    | cons c l ih =>
      intro h
      by_cases hc : off c = true ∧ on c = false
      · exact ⟨c, List.mem_cons_self, hc⟩
      · have hs : flagStep on off true c = true := by
          cases hon : on c <;> cases hoff : off c <;> simp_all [flagStep]
        rw [flagAfter, hs] at h
        obtain ⟨b, hb, hp⟩ := ih h
        exact ⟨b, List.mem_cons_of_mem _ hb, hp⟩
  rw [he, flagAfter_append, flagAfter, flagStep, if_pos hr] at h
  exact h3 post h

/-- for a loop-free body the enumeration of runs does not depend on the loop bound: `evRuns` lists
all its runs -/
theorem C17_skel_loopFree_runs_exhaustive (u n : Nat) (k : List Act) (h : loopFree n k = true) :
    evRuns u n k = evRuns 0 n k := by
  induction n generalizing k with
  | zero => rfl
  | succ n ih =>
    cases k with
    | nil => rfl
    | cons a k =>
      simp only [loopFree, Bool.and_eq_true] at h
      simp only [evRuns]
      rw [ih k h.2]
      congr 1
      cases a with
      | loop b => simp at h
      | choice alts =>
        have hall : ∀ alt ∈ alts, loopFree n alt = true := by simpa [List.all_eq_true] using h.1
        simp only [evFirst]
        clear h
        induction alts with
        | nil => rfl
        | cons alt alts iha =>
          simp only [List.flatMap_cons]
          rw [ih alt (hall alt (by simp)), iha (fun x hx => hall x (by simp [hx]))]
      | _ => rfl

/-- so the runs of a loop-free body are the same for any two loop bounds -/
theorem evRuns_loopFree {n : Nat} {k : List Act} (h : loopFree n k = true) (u v : Nat) :
    evRuns u n k = evRuns v n k :=
  (C17_skel_loopFree_runs_exhaustive u n k h).trans (C17_skel_loopFree_runs_exhaustive v n k h).symm

/-! ## obligations over the regenerated skeletons -/

/-- every regenerated entry point of the p2p group satisfies all criteria of Model/Locks:
well-formed (no unknown construct, every function ends holding nothing), (1) no re-entrant
acquisition, (2) lock order `resMu` < `rpcMessageCounter.mu` < `connectionGater.mutex`, (3) no blocking
communication inside a critical section, (4) `resCh` is read under `resMu` and written / deleted under
it exclusively (likewise the rate counters and the gater tables under their mutexes) — except that for
the entry points reaching `checkLimit` (3) is replaced by: nothing blocking under `resMu`, and the only
blocking operation inside a critical section is `Peer.Disconnect` with the counter mutex alone held. -/
theorem C17_gen_all_entries_ok :
    entryTable.all (fun e =>
      if penaltyUnderLock.contains e.1 then
        C20.criteriaExceptBlocking C17Skel.cfg e.2 && noBlockingHolding C17Skel.cfg resMu e.2 &&
          blockingOnly C17Skel.cfg [disconnect] [counterMu] e.2
      else criteria C17Skel.cfg e.2) = true :=
  have h := C17Rate.all_entries_ok.2.2
  Tables.all_filter_and (Tables.all_and.mpr ⟨h.1, Tables.all_and.mpr ⟨h.2.1, h.2.2.1⟩⟩) fun e hr he => by
    rw [cfg_eq, resMu_eq, counterMu_eq, disconnect_eq]
    simp only [Bool.and_eq_true] at he
    obtain ⟨hc, hb, hn⟩ := he
    split
    · rw [Bool.and_eq_true, Bool.and_eq_true]
      exact ⟨⟨hc, noBlockingHolding_of_blockingOnly (by decide) hb⟩, hb⟩
    · next hp =>
      refine criteria_iff.mpr ⟨hc, ?_⟩
      -- of the entry points reaching `checkLimit` only `checkLimit` itself is not listed here: it is in ratelimit.go
      rw [penaltyUnderLock_eq, List.contains_cons, Bool.or_eq_true, Bool.or_eq_true, beq_iff_eq] at hn
      rcases hn with (hf | hin) | hn
      · rw [hf] at hr
        exact absurd hr (by decide +kernel)
      · exact absurd hin hp
      · exact hn

/-- with `Peer.Disconnect` taken as an ordinary call that returns, every entry point satisfies all
criteria, (3) included -/
theorem C17_gen_all_entries_ok_modulo_disconnect :
    entryTableE.all (fun e => criteria cfgE e.2) = true ∧
    entryTableE.map (·.1) = entryTable.map (·.1) :=
  ⟨cfgE_eq ▸ Tables.all_filter_and C17_rate_all_entries_ok_modulo_disconnect.1 fun _ _ h => h,
    map_fst_eraseBlockingCalls_filter _ _ fun f => Gen.SkeletonsP2P.entries.contains f && !isRate f⟩

/-- the quantification is not vacuous: the methods the property names are regenerated entry points,
and the guard table ties `resCh` to `resMu` -/
theorem C17_gen_required_methods_present :
    required.all (fun f => (entryTable.find f).isSome) = true ∧
    Gen.SkeletonsP2P.guards.lookup resCh = some resMu := by
  -- the characters of the names read off their bytes: `String.toList` is slow in the kernel
  simp only [entryTable, isRate, Strings.toList_eq_chars]
  decide +kernel

/-- no construct the extractor does not understand — stated as all of `wellFormed`: also every release matches a
held lock, loops are lock-balanced and every function and spawned goroutine ends holding nothing -/
theorem C17_gen_no_unknown_construct :
    entryTable.all (fun e => wellFormed C17Skel.cfg e.2) = true :=
  cfg_eq ▸ Tables.all_filter_and C17Rate.all_entries_ok.2.2.1 fun _ _ h => (criteriaExceptBlocking_iff.mp h).1

/-- **no re-entrant acquisition of `resMu`** — nor of any other mutex — in any entry point (calls inlined) -/
theorem C17_gen_no_reentrant_resMu :
    entryTable.all (fun e => noReentrantAcquire C17Skel.cfg e.2) = true :=
  cfg_eq ▸ Tables.all_filter_and C17Rate.all_entries_ok.2.2.1 fun _ _ h => (criteriaExceptBlocking_iff.mp h).2.1

/-- **`onResponse` never blocks while holding `resMu`** (criterion 3 for `resMu`): it does take the
lock, it does deliver under the lock — by a non-blocking `trySend` — and neither it nor anything it calls
performs a possibly blocking send / receive / wait / network call while `resMu` is held (the rate-limit
check in front of the critical section is done before `resMu` is taken). -/
theorem C17_gen_onResponse_no_blocking_under_lock :
    noBlockingHolding C17Skel.cfg resMu Gen.SkeletonsP2P.MessageProtocol_onResponse = true ∧
    allEvents (fun a => !a.isBlocking) 1 Gen.SkeletonsP2P.MessageProtocol_onResponse = true ∧
    someRunHas (fun a => match a with | .trySend _ => true | _ => false) 1
      Gen.SkeletonsP2P.MessageProtocol_onResponse = true ∧
    someRunHas (fun a => match a with | .lock m => m == resMu | _ => false) 1
      Gen.SkeletonsP2P.MessageProtocol_onResponse = true := by
  decide +kernel

/-- **the response channel is buffered**: every channel `sendRequestMessage` creates has capacity ≥ 1,
one is created on every path before the registration, and a registration exists. -/
theorem C17_gen_response_channel_buffered :
    allEvents (fun a => !isMakeUnbuffered a) 1 Gen.SkeletonsP2P.MessageProtocol_sendRequestMessage = true ∧
    setWheneverAt (Act.isMakeChanGe 1) isMakeUnbuffered isRegister 1
      Gen.SkeletonsP2P.MessageProtocol_sendRequestMessage = true ∧
    someRunHas isRegister 1 Gen.SkeletonsP2P.MessageProtocol_sendRequestMessage = true := by
  decide +kernel

/-- **register before send**: on every path of `sendRequestMessage`, whenever the request is handed to
`mp.send` the response channel is registered (and not yet unregistered); `send` is actually called. -/
theorem C17_gen_register_before_send :
    setWheneverAt isRegister isUnregister isSend 1 Gen.SkeletonsP2P.MessageProtocol_sendRequestMessage = true ∧
    someRunHas isSend 1 Gen.SkeletonsP2P.MessageProtocol_sendRequestMessage = true := by
  decide +kernel

/-- `sendRequestMessage` has no loop: its event runs are all its paths -/
theorem C17_gen_sendRequestMessage_loop_free :
    loopFree evFuel Gen.SkeletonsP2P.MessageProtocol_sendRequestMessage = true := by
  decide

/-- **unregister on all paths**: every path of `sendRequestMessage` ends with the response channel
unregistered — after the registration, the send-error branch and the three branches of the wait
(`ch`, timeout, context) all `delete(resCh, id)` before returning; no path falls off the end
registered. -/
theorem C17_gen_unregister_on_all_paths :
    clearedOnAllPaths isRegister isUnregister 1 Gen.SkeletonsP2P.MessageProtocol_sendRequestMessage = true ∧
    (evRuns 1 evFuel Gen.SkeletonsP2P.MessageProtocol_sendRequestMessage).all
      (fun r => r.returned || !r.evs.any isRegister) = true := by
  decide +kernel

/-- … spelled out: in every run of `sendRequestMessage` (whatever the loop bound), every registration
event is followed by an unregistration event. -/
theorem C17_gen_every_registration_is_undone (u : Nat) (r : EvRun)
    (hr : r ∈ evRuns u evFuel Gen.SkeletonsP2P.MessageProtocol_sendRequestMessage)
    (pre post : List Act) (a : Act) (he : r.evs = pre ++ a :: post) (ha : isRegister a = true) :
    ∃ b ∈ post, isUnregister b = true := by
  rw [evRuns_loopFree C17_gen_sendRequestMessage_loop_free u 1] at hr
  have hc := C17_gen_unregister_on_all_paths.1
  simp only [clearedOnAllPaths, List.all_eq_true, Bool.and_eq_true, Bool.not_eq_true'] at hc
  obtain ⟨b, hb, hoff, _⟩ := C17_skel_cleared_spec isRegister isUnregister r.evs pre post a (hc r hr).2 he ha
  exact ⟨b, hb, hoff⟩

/-- … and: in every run, before each call of `mp.send` there is a registration not yet undone. -/
theorem C17_gen_send_preceded_by_registration (u : Nat) (r : EvRun)
    (hr : r ∈ evRuns u evFuel Gen.SkeletonsP2P.MessageProtocol_sendRequestMessage)
    (pre post : List Act) (a : Act) (he : r.evs = pre ++ a :: post) (ha : isSend a = true) :
    ∃ p1 g p2, pre = p1 ++ g :: p2 ∧ isRegister g = true ∧ ∀ b ∈ p2, isUnregister b = false := by
  rw [evRuns_loopFree C17_gen_sendRequestMessage_loop_free u 1] at hr
  have hc := C17_gen_register_before_send.1
  simp only [setWheneverAt, List.all_eq_true, Bool.and_eq_true] at hc
  obtain ⟨p1, g, p2, hp, hg, hall⟩ :=
    C17_skel_setWheneverAt_spec isRegister isUnregister isSend r.evs pre post a (hc r hr).2 he ha
  refine ⟨p1, g, p2, hp, hg, ?_⟩
  intro b hb
  rcases hall b hb with hon | hoff
  · -- an event cannot be both a registration and an unregistration
    cases b with
    | del _ => cases hon
    | _ => rfl
  · exact hoff

/-- the registration and the unregistrations happen under `resMu`, held exclusively (criterion 4 on
`sendRequestMessage` and `onResponse`, reported by name) -/
theorem C17_gen_resCh_guarded :
    locksetOk C17Skel.cfg Gen.SkeletonsP2P.MessageProtocol_sendRequestMessage = true ∧
    locksetOk C17Skel.cfg Gen.SkeletonsP2P.MessageProtocol_onResponse = true ∧
    wellFormed C17Skel.cfg Gen.SkeletonsP2P.MessageProtocol_sendRequestMessage = true ∧
    wellFormed C17Skel.cfg Gen.SkeletonsP2P.MessageProtocol_onResponse = true :=
  have h1 := criteriaExceptBlocking_iff.mp (Tables.all_mem C17Rate.all_entries_ok.2.2.1 C17Rate.named_mem.2.2 :)
  have h2 := criteriaExceptBlocking_iff.mp (Tables.all_mem C17Rate.all_entries_ok.2.2.1 C17Rate.named_mem.2.1 :)
  cfg_eq ▸ ⟨h1.2.2.2, h2.2.2.2, h1.1, h2.1⟩

/-- the requester waits for the response holding nothing: criterion 3 for `sendRequestMessage`,
`request` (retry loop) and the public `RequestFrom` / `Broadcast` -/
theorem C17_gen_requester_waits_outside_lock :
    [Gen.SkeletonsP2P.MessageProtocol_sendRequestMessage, Gen.SkeletonsP2P.MessageProtocol_request,
     Gen.SkeletonsP2P.MessageProtocol_RequestFrom, Gen.SkeletonsP2P.MessageProtocol_Broadcast].all
      (noBlockingInCS C17Skel.cfg) = true ∧
    someRunHas Act.isBlocking 1 Gen.SkeletonsP2P.MessageProtocol_sendRequestMessage = true := by
  decide +kernel

/-- **Deadlock freedom of the request/response layer** (by `table_deadlock_free`, Lemmas/LockCriteria),
`Peer.Disconnect` being an ordinary call that returns: any number of goroutines running paths of the
regenerated entry points (requesters, response and request stream handlers with the rate-limit calls
inlined, the connection gater; with the rate limiter's reset goroutine in addition:
`C17_rate_deadlock_free`) under any schedule never reach a state in which some goroutine waits
for `resMu`, a counter mutex or the gater mutex forever: in every reachable state some thread can step
without a communication partner, or every thread is finished or parked at a communication (the wait for
the response / timeout / context / ticker) holding no lock. -/
theorem C17_gen_deadlock_free (u : Nat) (ps : List Path)
    (hps : ∀ p ∈ ps, ∃ e ∈ entryTableE, IsThreadPath cfgE.tbl u e.2 p)
    (st : State) (hr : Reachable (initState ps) st) :
    deadlocked st = false ∧ (quiescent st = true ∨ ∃ i, canStepInternal st i = true) :=
  table_deadlock_free _ _ C17_gen_all_entries_ok_modulo_disconnect.1 u ps hps st hr

/-! ## the ORIGINAL skeleton (pkg/p2p/message_protocol.go at 79181c4) -/

namespace C17Skel.Orig

/-- original `sendRequestMessage`: the request is sent first; only then an UNBUFFERED channel is
created and registered -/
def sendRequestMessage : Skel :=
  [.call "MessageProtocol.send",
   .choice [[.ret], []],
   .makeChan "ch" 0,
   .lock "MessageProtocol.resMu",
   .write "MessageProtocol.resCh",
   .unlock "MessageProtocol.resMu",
   .choice [[.recv "ch",
        .lock "MessageProtocol.resMu", .read "MessageProtocol.resCh", .del "MessageProtocol.resCh",
        .unlock "MessageProtocol.resMu", .ret],
      [.recv "time.After(mp.timeout)",
        .lock "MessageProtocol.resMu", .read "MessageProtocol.resCh", .del "MessageProtocol.resCh",
        .unlock "MessageProtocol.resMu", .ret],
      [.recv "ctx.Done()",
        .lock "MessageProtocol.resMu", .read "MessageProtocol.resCh", .del "MessageProtocol.resCh",
        .unlock "MessageProtocol.resMu", .ret]]]

/-- original `onResponse`: a plain blocking `ch <- response` with `resMu` held (deferred unlock); the
rate-limiter calls in front of the critical section, identical in both versions, are left out -/
def onResponse : Skel :=
  [.choice [[.ret], []],
   .choice [[.call "MessageProtocol.banRemotePeer", .ret], []],
   .choice [[.call "MessageProtocol.banRemotePeer", .ret], []],
   .choice [[.ret], []],
   .lock "MessageProtocol.resMu",
   .deferUnlock "MessageProtocol.resMu",
   .read "MessageProtocol.resCh",
   .choice [[.send "ch"], []]]

/-- the original table: the two functions above shadow the regenerated ones -/
def table : Table :=
  [("MessageProtocol.sendRequestMessage", sendRequestMessage), ("MessageProtocol.onResponse", onResponse)]
    ++ Gen.SkeletonsP2P.table

def cfg : Cfg := ⟨table, Gen.SkeletonsP2P.guards, Gen.SkeletonsP2P.lockOrder⟩

/-- the path of the original `onResponse` that delivers: blocks on the channel with the lock held -/
def deliverPath : Path :=
  [.acq "MessageProtocol.resMu", .read "MessageProtocol.resCh", .block "ch", .rel "MessageProtocol.resMu"]

/-- the timeout path of the original requester after registration: needs `resMu` to unregister -/
def timeoutTail : Path :=
  [.acq "MessageProtocol.resMu", .read "MessageProtocol.resCh", .write "MessageProtocol.resCh",
   .rel "MessageProtocol.resMu"]

end C17Skel.Orig

/-- the original `onResponse` violates criterion (3): a possibly blocking send inside the critical
section of `resMu` (every other criterion holds for it) -/
theorem C17_gen_original_blocks_under_lock :
    noBlockingInCS C17Skel.Orig.cfg C17Skel.Orig.onResponse = false ∧
    noBlockingHolding C17Skel.Orig.cfg resMu C17Skel.Orig.onResponse = false ∧
    wellFormed C17Skel.Orig.cfg C17Skel.Orig.onResponse = true ∧
    noReentrantAcquire C17Skel.Orig.cfg C17Skel.Orig.onResponse = true ∧
    locksetOk C17Skel.Orig.cfg C17Skel.Orig.onResponse = true ∧
    allEvents (fun a => !a.isBlocking) 1 C17Skel.Orig.onResponse = false := by
  decide +kernel

/-- the original `sendRequestMessage` violates register-before-send (the request leaves while nothing
is registered: a fast response is dropped as "unknown request ID") and creates an unbuffered channel;
it does unregister on all paths -/
theorem C17_gen_original_sends_before_register :
    setWheneverAt isRegister isUnregister isSend 1 C17Skel.Orig.sendRequestMessage = false ∧
    allEvents (fun a => !isMakeUnbuffered a) 1 C17Skel.Orig.sendRequestMessage = false ∧
    setWheneverAt (Act.isMakeChanGe 1) isMakeUnbuffered isRegister 1 C17Skel.Orig.sendRequestMessage = false ∧
    clearedOnAllPaths isRegister isUnregister 1 C17Skel.Orig.sendRequestMessage = true := by
  decide +kernel

/-- what the violation of (3) means on the interleaving semantics: the original handler parked at its
send holds `resMu`; a requester whose wait timed out needs `resMu` to unregister and can never get it —
the state is not quiescent and nobody can take an internal step (the only way out is a communication
partner for the handler's send, which is exactly the requester that is stuck). -/
theorem C17_gen_original_handler_blocks_requester :
    C17Skel.Orig.deliverPath ∈ bodyPaths C17Skel.Orig.table 0 30 C17Skel.Orig.onResponse ∧
    ∃ st, run (initState [C17Skel.Orig.deliverPath, C17Skel.Orig.timeoutTail]) [0, 0, 0, 1] = some st ∧
      quiescent st = false ∧ (List.range st.length).all (fun i => !canStepInternal st i) = true := by
  refine ⟨by decide +kernel, _, rfl, ?_, ?_⟩ <;> decide

/-! ## non-vacuity -/

/-- the checks distinguish: dropping one `delete` branch, or moving the registration behind `send`,
is detected on a small hand-made body -/
example :
    clearedOnAllPaths isRegister isUnregister 1
      [.write resCh, .call sendFn, .choice [[.del resCh, .ret], [.ret]]] = false ∧
    clearedOnAllPaths isRegister isUnregister 1
      [.write resCh, .call sendFn, .choice [[.del resCh, .ret], [.del resCh, .ret]]] = true ∧
    setWheneverAt isRegister isUnregister isSend 1 [.call sendFn, .write resCh, .del resCh] = false ∧
    setWheneverAt isRegister isUnregister isSend 1 [.write resCh, .call sendFn, .del resCh] = true := by
  decide

/-- complete paths through the table in which `Peer.Disconnect` returns (`cfgE.tbl`) exist: one of the regenerated
`sendRequestMessage` (register, send, wait, unregister) and one of `onResponse`; that the erased forms of the two
are entries of `entryTableE` is `mem_eraseBlockingCalls_filter` at `C17Rate.named_mem` -/
example :
    (∃ p ∈ bodyPaths cfgE.tbl 0 40 Gen.SkeletonsP2P.MessageProtocol_sendRequestMessage,
      p.contains (.acq "MessageProtocol.resMu") = true ∧ p.contains (.block "ch") = true) ∧
    (∃ p ∈ bodyPaths cfgE.tbl 1 60 Gen.SkeletonsP2P.MessageProtocol_onResponse,
      p.contains (.acq "MessageProtocol.resMu") = true ∧ p.contains (.rel "MessageProtocol.resMu") = true) := by
  decide +kernel

/-- a run of the regenerated `sendRequestMessage` with a registration followed by `send` exists, so the
spelled-out theorems are not vacuous -/
example : ∃ r ∈ evRuns 1 evFuel Gen.SkeletonsP2P.MessageProtocol_sendRequestMessage,
    r.evs.any isRegister = true ∧ r.evs.any isSend = true ∧ r.evs.any isUnregister = true := by
  decide
