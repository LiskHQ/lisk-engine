/-
C02 — liveness half: "in a fault-free round-robin run every block becomes final within two voting
quorums of blocks", proved about the unbounded specification `Model/BFTSpec.lean` for EVERY number
`n ≥ 1` of validators, and transferred to the windowed transcription `Model/BFT.lean` of the Go module
for runs that fit into the window (`C02_round_robin_finality_model`).

The run. `cfg : Cfg` has `n = cfg.validators.length ≥ 1` validators of weight 1 with pairwise distinct
addresses, genesis height `g`, precommit threshold `p ≤ n`; the prevote threshold is
`q = ⌊2n/3⌋+1` (`SetBFTParameters`). The block with 0-based index `k` (height `g + k + 1`) is generated
by the validator at position `k % n`; its `maxHeightGenerated` is the height `g + k + 1 - n` of the
previous block of that validator, and a value `m0 ≤ g` in the validator's first block (`k < n`;
lisk-engine reports 0, the genesis height serves as well; every `m0 ≤ g` makes the chain valid and
yields the same votes); its `maxHeightPrevoted` is the specification's `maxHeightPrevoted` of the view
of its parent (`C02_round_robin_fields`). `C02rrChain cfg m0 L` is the chain of the first `L` blocks,
oldest first (`C02_round_robin_chain_shape`).

Exact offsets (`C02_round_robin_heights_exact`; the examples at the end evaluate the specification for
n = 3, 4, 5, 7): after the block at height `H`
  maxHeightPrevoted     = H − q + 1      (if H ≥ g + q,     else g)
  maxHeightPrecommitted = H − q − p + 1  (if H ≥ g + q + p, else g),
i.e. the block at height `h` is prevoted exactly from the block at height `h + q − 1` on and
precommitted (final) exactly from the block at height `h + q + p − 1` on — `q + p − 1 ≤ 2n − 1` blocks
after `h`, "within two voting quorums".

Lemma proofs are in `Lemmas/BFTLive.lean`.
-/
import LiskVerif.Lemmas.BFTLive
import LiskVerif.Props.C01_Safety

open LiskVerif LiskVerif.BFT LiskVerif.BFTSpec

/-! ### the run -/

/-- the round-robin chain of the first `L` blocks, OLDEST first -/
def C02rrChain (cfg : Cfg) (m0 L : Nat) : List Header := (rrChain cfg m0 L).reverse

/-- the chain is the list of the headers `rrHdr cfg m0 k`, `k = 0, …, L-1`: height `g + k + 1`,
generator = validator number `k % n`, `maxHeightGenerated = if k < n then m0 else g + k + 1 - n`,
`maxHeightPrevoted = if q ≤ k then g + k + 1 - q else g` -/
theorem C02_round_robin_chain_shape (cfg : Cfg) (m0 L : Nat) :
    C02rrChain cfg m0 L = (List.range L).map (rrHdr cfg m0) ∧
    ∀ k, rrHdr cfg m0 k =
      { height := cfg.genesis + k + 1
        gen := (cfg.validators.getD (k % cfg.validators.length) ⟨[], 0⟩).address
        mhg := if k < cfg.validators.length then m0 else cfg.genesis + k + 1 - cfg.validators.length
        mhp := if prevoteThreshold cfg ≤ k then cfg.genesis + k + 1 - prevoteThreshold cfg
               else cfg.genesis } := by
  refine ⟨?_, fun _ => rfl⟩
  unfold C02rrChain
  induction L with
  | zero => rfl
  | succ L ih => rw [rrChain_succ, List.reverse_cons, ih, List.range_succ, List.map_append]; rfl

private theorem q_eq (cfg : Cfg) (hw : ∀ v ∈ cfg.validators, v.weight = 1) :
    prevoteThreshold cfg = cfg.validators.length * 2 / 3 + 1 := by
  unfold prevoteThreshold totalWeight
  rw [sum_map_weight_eq_length _ hw]

/-- The header fields of the run are truthful. `maxHeightPrevoted` of block `k` is the
specification's `maxHeightPrevoted` after its parent chain; `maxHeightGenerated` is the height of the
most recent earlier block of the same generator (block `k - n`; no block in between is by that
generator), and `m0` when the generator has no earlier block. -/
theorem C02_round_robin_fields (cfg : Cfg) (m0 : Nat) (hn : 1 ≤ cfg.validators.length)
    (hw : ∀ v ∈ cfg.validators, v.weight = 1) (hd : (cfg.validators.map (·.address)).Nodup)
    (hm : m0 ≤ cfg.genesis) (k : Nat) :
    (rrHdr cfg m0 k).mhp = (specHeights cfg (C02rrChain cfg m0 k)).1 ∧
    (cfg.validators.length ≤ k →
      (rrHdr cfg m0 k).mhg = (rrHdr cfg m0 (k - cfg.validators.length)).height ∧
      (rrHdr cfg m0 (k - cfg.validators.length)).gen = (rrHdr cfg m0 k).gen) ∧
    (k < cfg.validators.length → (rrHdr cfg m0 k).mhg = m0) ∧
    (∀ k', k' < k → k - cfg.validators.length < k' ∨ k < cfg.validators.length →
      (rrHdr cfg m0 k').gen ≠ (rrHdr cfg m0 k).gen) := by
  have h : RR cfg m0 := ⟨hn, hw, hd, hm⟩
  refine ⟨?_, ?_, ?_, ?_⟩
  · unfold specHeights C02rrChain
    simp only [List.reverse_reverse]
    rw [rrHdr_mhp, h.mhp_eq]
  · intro hk
    refine ⟨?_, ?_⟩
    · rw [rrHdr_mhg, rrHdr_height, if_neg (by omega)]; omega
    · rw [rrHdr_gen, rrHdr_gen, h.gen_eq_iff]
      exact (Nat.mod_eq_sub_mod hk).symm
  · intro hk
    rw [rrHdr_mhg, if_pos hk]
  · intro k' hk' hor hg
    have := h.same_gen_back hk' hg
    omega

/-! ### chain validity -/

/-- **The round-robin chain is chain-valid**: consecutive heights from `g + 1`, every
`maxHeightPrevoted` field equals the value computed for the parent view, and no header contradicts the
previous header of its generator (regenerated `AreDistinctHeadersContradicting`). -/
theorem C02_round_robin_chain_valid (cfg : Cfg) (m0 : Nat) (hn : 1 ≤ cfg.validators.length)
    (hw : ∀ v ∈ cfg.validators, v.weight = 1) (hd : (cfg.validators.map (·.address)).Nodup)
    (hm : m0 ≤ cfg.genesis) (L : Nat) : C01ChainValid cfg (C02rrChain cfg m0 L) := by
  unfold C01ChainValid C02rrChain
  rw [List.reverse_reverse]
  exact (⟨hn, hw, hd, hm⟩ : RR cfg m0).valid L

/-! ### finality -/

/-- **Round-robin finality.** `n ≥ 1` validators of weight 1, prevote threshold `q = ⌊2n/3⌋+1`,
precommit threshold `p ≤ n` (in particular every `p` with `⌊n/3⌋+1 ≤ p ≤ n` that
`SetBFTParameters` accepts; the lower bound is not needed), genesis height `g`. In the view of the
round-robin chain whose tip has height `g + L`, every block of height `h > g` with
`h + q + p − 1 ≤ g + L` is precommitted: `maxHeightPrecommitted ≥ h`. -/
theorem C02_round_robin_finality (cfg : Cfg) (m0 : Nat) (hn : 1 ≤ cfg.validators.length)
    (hw : ∀ v ∈ cfg.validators, v.weight = 1) (hd : (cfg.validators.map (·.address)).Nodup)
    (hm : m0 ≤ cfg.genesis) (hp : cfg.precommitThreshold ≤ cfg.validators.length)
    (L h : Nat) (hh : cfg.genesis < h)
    (hL : h + (cfg.validators.length * 2 / 3 + 1) + cfg.precommitThreshold - 1 ≤ cfg.genesis + L) :
    h ≤ (specHeights cfg (C02rrChain cfg m0 L)).2 := by
  have hr : RR cfg m0 := ⟨hn, hw, hd, hm⟩
  have hq := q_eq cfg hw
  unfold specHeights C02rrChain
  simp only [List.reverse_reverse]
  have := hr.mhpc_ge hp (L := L) (j := h - cfg.genesis) (by omega) (by omega)
  omega

/-- the prevote half: every block of height `h > g` with `h + q − 1 ≤ g + L` is prevoted -/
theorem C02_round_robin_prevoted (cfg : Cfg) (m0 : Nat) (hn : 1 ≤ cfg.validators.length)
    (hw : ∀ v ∈ cfg.validators, v.weight = 1) (hd : (cfg.validators.map (·.address)).Nodup)
    (hm : m0 ≤ cfg.genesis) (L h : Nat) (hh : cfg.genesis < h)
    (hL : h + (cfg.validators.length * 2 / 3 + 1) - 1 ≤ cfg.genesis + L) :
    h ≤ (specHeights cfg (C02rrChain cfg m0 L)).1 := by
  have hr : RR cfg m0 := ⟨hn, hw, hd, hm⟩
  have hq := q_eq cfg hw
  unfold specHeights C02rrChain
  simp only [List.reverse_reverse]
  rw [hr.mhp_eq]
  split <;> omega

/-- **Exact closed form** (`1 ≤ p ≤ n`): after the round-robin chain of length `L`
`maxHeightPrevoted = g + L + 1 − q` if `L ≥ q` (else `g`) and
`maxHeightPrecommitted = g + L + 1 − q − p` if `L ≥ q + p` (else `g`). -/
theorem C02_round_robin_heights_exact (cfg : Cfg) (m0 : Nat) (hn : 1 ≤ cfg.validators.length)
    (hw : ∀ v ∈ cfg.validators, v.weight = 1) (hd : (cfg.validators.map (·.address)).Nodup)
    (hm : m0 ≤ cfg.genesis) (hp1 : 1 ≤ cfg.precommitThreshold)
    (hp : cfg.precommitThreshold ≤ cfg.validators.length) (L : Nat) :
    specHeights cfg (C02rrChain cfg m0 L) =
      (if cfg.validators.length * 2 / 3 + 1 ≤ L
         then cfg.genesis + L + 1 - (cfg.validators.length * 2 / 3 + 1) else cfg.genesis,
       if cfg.validators.length * 2 / 3 + 1 + cfg.precommitThreshold ≤ L
         then cfg.genesis + L + 1 - (cfg.validators.length * 2 / 3 + 1) - cfg.precommitThreshold
         else cfg.genesis) := by
  have hr : RR cfg m0 := ⟨hn, hw, hd, hm⟩
  have hq := q_eq cfg hw
  unfold specHeights C02rrChain
  simp only [List.reverse_reverse]
  rw [hr.mhp_eq, hr.mhpc_eq hp1 hp, hq]

/-- **The bound is tight** (`1 ≤ p ≤ n`): as long as the tip is below `h + q + p − 1`, the block at
height `h > g` is NOT yet precommitted, and as long as it is below `h + q − 1`, not yet prevoted. -/
theorem C02_round_robin_finality_tight (cfg : Cfg) (m0 : Nat) (hn : 1 ≤ cfg.validators.length)
    (hw : ∀ v ∈ cfg.validators, v.weight = 1) (hd : (cfg.validators.map (·.address)).Nodup)
    (hm : m0 ≤ cfg.genesis) (hp1 : 1 ≤ cfg.precommitThreshold)
    (hp : cfg.precommitThreshold ≤ cfg.validators.length) (L h : Nat) (hh : cfg.genesis < h) :
    (cfg.genesis + L < h + (cfg.validators.length * 2 / 3 + 1) + cfg.precommitThreshold - 1 →
      (specHeights cfg (C02rrChain cfg m0 L)).2 < h) ∧
    (cfg.genesis + L < h + (cfg.validators.length * 2 / 3 + 1) - 1 →
      (specHeights cfg (C02rrChain cfg m0 L)).1 < h) := by
  rw [C02_round_robin_heights_exact cfg m0 hn hw hd hm hp1 hp L]
  simp only
  constructor
  · intro hlt; split <;> omega
  · intro hlt; split <;> omega

/-! ### the windowed model of the Go module -/

private theorem sorted_rr (g pcThr m0 : Nat) (vs : List Validator) (hn : 1 ≤ vs.length)
    (hw : ∀ v ∈ vs, v.weight = 1) (hd : (vs.map (·.address)).Nodup) (hm : m0 ≤ g) :
    RR (C01sortedCfg g pcThr vs) m0 := by
  have hperm := isort_perm (fun a b : Validator => addrGE a.address b.address) vs
  refine ⟨?_, ?_, ?_, hm⟩
  · show 0 < (isort _ vs).length
    rw [hperm.length_eq]; exact hn
  · intro v hv
    exact hw v (hperm.mem_iff.mp hv)
  · exact (hperm.map (·.address)).nodup_iff.mpr hd

/-- **Round-robin finality of the windowed model.** Start from the state that `SetBFTParameters`
produces on the genesis state for `n ≥ 1` validators of weight 1 with distinct addresses (it stores
them sorted: `C01sortedCfg`), and process the round-robin chain of length `L` (generators in the
stored order). If the chain fits into the window (`L ≤ 3·batchSize`, heights below `2^32`), the model
(transcription of `liskbft`) accepts every header, ends with exactly the specification's heights
(`specHeights`; their closed form is `C02_round_robin_heights_exact`, for `1 ≤ p`), and every block of height `h > g` with `h + q + p − 1 ≤ g + L` is final:
`maxHeightPrecommited ≥ h`. -/
theorem C02_round_robin_finality_model (bs g pcThr certThr m0 : Nat) (vs : List Validator) (s0 : State)
    (hinit : setParams (initGenesis bs g) pcThr certThr vs = .ok s0)
    (hn : 1 ≤ vs.length) (hw : ∀ v ∈ vs, v.weight = 1) (hd : (vs.map (·.address)).Nodup) (hm : m0 ≤ g)
    (L : Nat) (hwin : L ≤ 3 * bs) (hu : g + L + 1 < 4294967296) :
    ∃ s, C01runChain s0 (C02rrChain (C01sortedCfg g pcThr vs) m0 L) = some s ∧
      (s.mhp, s.mhpc) = specHeights (C01sortedCfg g pcThr vs) (C02rrChain (C01sortedCfg g pcThr vs) m0 L) ∧
      (∀ h, g < h → h + (vs.length * 2 / 3 + 1) - 1 ≤ g + L → h ≤ s.mhp) ∧
      (∀ h, g < h → h + (vs.length * 2 / 3 + 1) + pcThr - 1 ≤ g + L → h ≤ s.mhpc) := by
  have hr := sorted_rr g pcThr m0 vs hn hw hd hm
  have hperm := isort_perm (fun a b : Validator => addrGE a.address b.address) vs
  have hlen : (C01sortedCfg g pcThr vs).validators.length = vs.length := hperm.length_eq
  have hpn : (C01sortedCfg g pcThr vs).precommitThreshold ≤ (C01sortedCfg g pcThr vs).validators.length := by
    have := (setParams_ok hinit).2.2.1
    rw [sum_map_weight_eq_length _ hw] at this
    rw [hlen]; exact this
  have hvalid := C02_round_robin_chain_valid (C01sortedCfg g pcThr vs) m0 hr.pos hr.w1 hr.nodup hr.m0le L
  have hlen2 : (C02rrChain (C01sortedCfg g pcThr vs) m0 L).length = L := by
    unfold C02rrChain; rw [List.length_reverse, rrChain_length]
  obtain ⟨s, h1, h2, _⟩ := C01_spec_eq_model_within_window bs g pcThr certThr vs s0
    (C02rrChain (C01sortedCfg g pcThr vs) m0 L) hinit (C01_valid_heights _ _ hvalid)
    (by rw [hlen2]; exact hwin) (by rw [hlen2]; exact hu)
  refine ⟨s, h1, h2, ?_, ?_⟩
  · intro h hh hL
    have := C02_round_robin_prevoted (C01sortedCfg g pcThr vs) m0 hr.pos hr.w1 hr.nodup hr.m0le L h hh
      (by rw [hlen]; exact hL)
    rw [← h2] at this
    exact this
  · intro h hh hL
    have := C02_round_robin_finality (C01sortedCfg g pcThr vs) m0 hr.pos hr.w1 hr.nodup hr.m0le hpn L h hh
      (by rw [hlen]; exact hL)
    rw [← h2] at this
    exact this

/-! ### non-vacuity: evaluation of the specification for n = 3, 4, 5, 7 -/

/-- `n` validators with addresses `[0], [1], …` of weight 1 -/
def C02rrVals (n : Nat) : List Validator := (List.range n).map fun k => ⟨[UInt8.ofNat k], 1⟩

def C02rrCfg (g n p : Nat) : Cfg := ⟨g, C02rrVals n, p⟩

/-- `(maxHeightPrevoted, maxHeightPrecommitted)` after each of the first `L` blocks -/
def C02rrTable (cfg : Cfg) (m0 L : Nat) : List (Nat × Nat) :=
  (List.range (L + 1)).map fun l => specHeights cfg (C02rrChain cfg m0 l)

/-- n = 3 (q = 3), p = 2, g = 10, first-block `maxHeightGenerated = 0`: prevoted from block
`h + 2` on, precommitted from block `h + 4 = h + q + p − 1` on -/
example : C02rrTable (C02rrCfg 10 3 2) 0 9 =
    [(10, 10), (10, 10), (10, 10), (11, 10), (12, 10), (13, 11), (14, 12), (15, 13), (16, 14), (17, 15)] := by
  decide +kernel

/-- n = 4 (q = 3), p = 2 and p = 3 -/
example : C02rrTable (C02rrCfg 0 4 2) 0 8 =
    [(0, 0), (0, 0), (0, 0), (1, 0), (2, 0), (3, 1), (4, 2), (5, 3), (6, 4)] ∧
  C02rrTable (C02rrCfg 0 4 3) 0 8 =
    [(0, 0), (0, 0), (0, 0), (1, 0), (2, 0), (3, 0), (4, 1), (5, 2), (6, 3)] := by
  decide +kernel

/-- n = 5 (q = 4), p = 2 and p = 4 (`maxHeightGenerated = g` in first blocks) -/
example : C02rrTable (C02rrCfg 7 5 2) 7 9 =
    [(7, 7), (7, 7), (7, 7), (7, 7), (8, 7), (9, 7), (10, 8), (11, 9), (12, 10), (13, 11)] ∧
  C02rrTable (C02rrCfg 7 5 4) 7 9 =
    [(7, 7), (7, 7), (7, 7), (7, 7), (8, 7), (9, 7), (10, 7), (11, 7), (12, 8), (13, 9)] := by
  decide +kernel

/-- n = 7 (q = 5), p = 3: after 12 blocks heights `(8, 5) = (12 + 1 − 5, 12 + 1 − 5 − 3)` -/
example : (C02rrTable (C02rrCfg 0 7 3) 0 12).drop 4 =
    [(0, 0), (1, 0), (2, 0), (3, 0), (4, 1), (5, 2), (6, 3), (7, 4), (8, 5)] := by
  decide +kernel

/-- two of the example chains (n = 3 and n = 7) are chain-valid by evaluation … -/
example : C01ChainValid (C02rrCfg 10 3 2) (C02rrChain (C02rrCfg 10 3 2) 0 9) ∧
    C01ChainValid (C02rrCfg 0 7 3) (C02rrChain (C02rrCfg 0 7 3) 0 12) := by
  decide +kernel

/-- … and the hypotheses of the theorems hold for the configuration n = 3, p = 2, g = 10 used below -/
theorem C02_round_robin_example_hypotheses :
    1 ≤ (C02rrCfg 10 3 2).validators.length ∧
    (∀ v ∈ (C02rrCfg 10 3 2).validators, v.weight = 1) ∧
    ((C02rrCfg 10 3 2).validators.map (·.address)).Nodup ∧
    (C02rrCfg 10 3 2).precommitThreshold ≤ (C02rrCfg 10 3 2).validators.length := by
  decide +kernel

/-- instance of the finality theorem: n = 3, p = 2, g = 10 — the block at height 13 is final after
the block at height 17 = 13 + 3 + 2 − 1 … -/
example : 13 ≤ (specHeights (C02rrCfg 10 3 2) (C02rrChain (C02rrCfg 10 3 2) 0 7)).2 :=
  C02_round_robin_finality (C02rrCfg 10 3 2) 0 C02_round_robin_example_hypotheses.1
    C02_round_robin_example_hypotheses.2.1 C02_round_robin_example_hypotheses.2.2.1 (by decide)
    C02_round_robin_example_hypotheses.2.2.2 7 13 (by decide) (by decide)

/-- … and not before -/
example : (specHeights (C02rrCfg 10 3 2) (C02rrChain (C02rrCfg 10 3 2) 0 6)).2 < 13 :=
  (C02_round_robin_finality_tight (C02rrCfg 10 3 2) 0 C02_round_robin_example_hypotheses.1
    C02_round_robin_example_hypotheses.2.1 C02_round_robin_example_hypotheses.2.2.1 (by decide)
    (by decide) C02_round_robin_example_hypotheses.2.2.2 6 13 (by decide)).1 (by decide)

/-- instance of chain validity -/
example : C01ChainValid (C02rrCfg 10 3 2) (C02rrChain (C02rrCfg 10 3 2) 0 30) :=
  C02_round_robin_chain_valid (C02rrCfg 10 3 2) 0 C02_round_robin_example_hypotheses.1
    C02_round_robin_example_hypotheses.2.1 C02_round_robin_example_hypotheses.2.2.1 (by decide) 30

/-- the windowed model on the run: n = 4, batch size 4 (window 12), p = 3, g = 0; after 9 blocks the
model has `maxHeightPrevoted = 7`, `maxHeightPrecommited = 4`, and the model theorem applies -/
example :
    ((match setParams (initGenesis 4 0) 3 3 (C02rrVals 4) with
      | .ok s => some s | .error _ => none).bind fun s =>
        C01runChain s (C02rrChain (C01sortedCfg 0 3 (C02rrVals 4)) 0 9)).map
      (fun (s : State) => (s.mhp, s.mhpc)) = some (7, 4) := by
  decide +kernel

example : ∃ s, C01runChain (match setParams (initGenesis 4 0) 3 3 (C02rrVals 4) with
      | .ok s => s | .error _ => initGenesis 4 0)
      (C02rrChain (C01sortedCfg 0 3 (C02rrVals 4)) 0 9) = some s ∧ 4 ≤ s.mhpc := by
  obtain ⟨s, h1, _, _, h4⟩ := C02_round_robin_finality_model 4 0 3 3 0 (C02rrVals 4)
    (match setParams (initGenesis 4 0) 3 3 (C02rrVals 4) with
      | .ok s => s | .error _ => initGenesis 4 0) (by rfl) (by decide) (by decide +kernel)
    (by decide +kernel) (by decide) 9 (by decide) (by decide)
  exact ⟨s, h1, h4 4 (by decide) (by decide)⟩
