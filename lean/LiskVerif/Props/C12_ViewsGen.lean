/-
C12 — the assumptions of Model/DiffDBViews.lean / Props/C12_Views.lean as obligations on facts regenerated from
pkg/db/diffdb on every run (tools/compgen, tables `ddb*` of Gen/CompState.lean):

* every handle shares ONE overlay: `WithPrefix` initialises the view's `cache` with the parent's pointer, and NO method
  of `Database` ever replaces that pointer (`RestoreSnapshot` writes THROUGH it: `s.cache.data`) — a pointer
  assignment would leave handles derived earlier with the un-restored overlay (the defect /repo commit 5a39fd4 repairs);
* every handle owns its snapshot table and counter: `New` and `WithPrefix` each allocate `make(map[int]*cacheDB)`,
  neither copies the counter, and the view is built field by field (a struct copy of the parent — seeded change
  C12-19 — would share the table and fork the counter: the composite-literal initialisers disappear and
  `C12_gen_view_initialisers_exact` breaks);
* only `Snapshot` / `DeleteSnapshot` / `RestoreSnapshot` write table and counter, each its own handle's.
-/
import LiskVerif.Gen.CompState
import LiskVerif.Lemmas.Tables

open LiskVerif.Gen.CompState LiskVerif.Tables

/-- the components scanned are the staged store and its overlay -/
theorem C12_gen_components_exact : ddbComponents = [("db/diffdb", "Database"), ("db/diffdb", "cacheDB")] := rfl

/-- the exact fields of `Database` (a new field — a memo, a second table — must be placed in the model) -/
theorem C12_gen_database_fields_exact :
    (ddbFields.filter (fun f => f.strct == "Database")).map (fun f => (f.name, f.typ)) =
      [("store", "DatabaseReader"), ("mutex", "*sync.Mutex"), ("prefix", "[]byte"), ("prefixLength", "int"),
       ("cache", "*cacheDB"), ("snapshots", "map[int]*cacheDB"), ("snapshotCount", "int")] := by
  decide +kernel

/-- the overlay is one map behind one pointer -/
theorem C12_gen_overlay_fields_exact :
    (ddbFields.filter (fun f => f.strct == "cacheDB")).map (fun f => (f.name, f.typ)) =
      [("data", "map[string]*cacheValue")] := by
  decide +kernel

/-- every receiver-field write of `Database`, exactly -/
theorem C12_gen_database_writes_exact :
    (ddbWrites.filter (fun w => w.strct == "Database")).map (fun w => (w.fn, w.field, w.how, w.path)) =
      [("Database.Snapshot", "snapshots", "index-assign", "s.snapshots[id]"),
       ("Database.Snapshot", "snapshotCount", "incdec", "s.snapshotCount"),
       ("Database.DeleteSnapshot", "snapshots", "delete", "s.snapshots"),
       ("Database.RestoreSnapshot", "cache", "nested", "s.cache.data"),
       ("Database.RestoreSnapshot", "snapshots", "delete", "s.snapshots")] := by
  decide +kernel

/-- no method replaces the pointer to the shared overlay: every write to `cache` goes THROUGH it -/
theorem C12_gen_cache_pointer_never_replaced :
    (ddbWrites.filter (fun w => w.strct == "Database" && w.field == "cache")).all (fun w => w.how == "nested") = true := by
  rw [← List.filter_filter, List.all_filter]
  exact all_of_rows C12_gen_database_writes_exact (fun t => !(t.2.1 == "cache") || t.2.2.1 == "nested") (by decide)

/-- the restore is in place: it writes the shared overlay's map -/
theorem C12_gen_restore_in_place :
    ddbWrites.any (fun w => w.fn == "Database.RestoreSnapshot" && w.field == "cache" && w.path == "s.cache.data") = true := by
  have hm : ("Database.RestoreSnapshot", "cache", "nested", "s.cache.data") ∈
      (ddbWrites.filter (fun w => w.strct == "Database")).map (fun w => (w.fn, w.field, w.how, w.path)) :=
    C12_gen_database_writes_exact ▸ by decide
  obtain ⟨w, hw, he⟩ := List.mem_map.mp hm
  simp only [Prod.mk.injEq] at he
  exact List.any_eq_true.mpr ⟨w, (List.mem_filter.mp hw).1, by simp [he.1, he.2.1, he.2.2.2]⟩

/-- a view is built field by field: shared mutex, store and overlay; its own (empty) snapshot table; the counter is
not copied (zero value) -/
theorem C12_gen_view_initialisers_exact :
    (ddbInits.filter (fun i => i.fn == "Database.WithPrefix")).map (fun i => (i.field, i.value)) =
      [("mutex", "s.mutex"), ("store", "s.store"), ("cache", "s.cache"), ("prefix", "nextPrefix"),
       ("prefixLength", "len(nextPrefix)"), ("snapshots", "make(map[int]*cacheDB)")] := by
  decide +kernel

/-- the root starts with an empty overlay and an empty table of its own -/
theorem C12_gen_root_initialisers_exact :
    (ddbInits.filter (fun i => i.fn == "New")).map (fun i => (i.field, i.value)) =
      [("mutex", "new(sync.Mutex)"), ("store", "store"), ("cache", "newCacheDB()"), ("prefix", "prefix"),
       ("prefixLength", "len(prefix)"), ("snapshots", "make(map[int]*cacheDB)")] := by
  decide +kernel

/-- no handle is created anywhere else in the package (constructors of `Database`: `New` and `WithPrefix`) -/
theorem C12_gen_database_constructors_exact :
    ((ddbInits.filter (fun i => i.strct == "Database")).map (fun i => i.fn)).eraseDups = ["New", "Database.WithPrefix"] := by
  decide +kernel

/-- the package keeps no package-level state -/
theorem C12_gen_no_package_state : ddbGlobalWrites = [] := rfl
