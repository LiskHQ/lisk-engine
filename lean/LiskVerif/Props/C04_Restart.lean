/-
C04 — the guards of the property evaluated IMMEDIATELY after a restart.

A restart (`restart` = a new `Chain` + `Executer` over the same database: `Chain.PrepareCache`)
keeps nothing in memory. Every guard of C04 therefore has to be decided from the database: the
`already finalized` check of `Executer.deleteBlock` (`deleteTip`), `deleteTillCommonBlock` of both
synchronisers (`deleteTill`) and the finalized block header that `Executer.createSyncContext` hands
to the synchronisers (`syncFinalized`, Model/Node.lean). Props/C04.lean proves the guards for every
state refined by a chain; this file states them for the state *right after a restart, before the
new Executer has applied a single block*, in terms of what was stored BEFORE the restart — the
situation of a node that was restarted and synchronises first:

* the restart leaves the database and hence the stored finalized height alone
  (`C04_restart_keeps_db`, `C04_restart_keeps_finalized`);
* `deleteBlock` on a tip at or below the height stored before the restart is refused, nothing is
  written (`C04_restart_delete_refused`);
* `deleteTillCommonBlock` never completes for a common block below the height stored before the
  restart (`C04_restart_deleteTill_refused`);
* the sync context's finalized header is the same before and after the restart
  (`C04_restart_sync_context`), it is the header of the chain's block at the stored finalized height
  (`C04_sync_context_is_finalized_block`) and it has that height (`C04_sync_context_height`): the fast
  synchroniser's refusal of common blocks below it (`C04_fast_sync_bans_below_fin`) and the block
  synchroniser's `getHeightWithGap(minimum = its height)` (`C04_sync_heights_ge_fin`) are evaluated
  against the stored finalized height, also right after a restart.

The model is tied to the real Executer by the C04 correspondence harness: the recorder follows every
restart directly by `sctx` (createSyncContext), `delat` (deleteBlock at / below the finalized height)
and `till` (deleteTillCommonBlock below the finalized height) operations, replayed on a real node and
on the compiled model; oracles `c04-sync-context-finalized-wrong`, `c04-finalized-delete-accepted`.
-/
import LiskVerif.Props.C04
import LiskVerif.Props.C04_More

open LiskVerif LiskVerif.Node
open LiskVerif.DiffDB (Store KV CV Cache Diff slookup sset sdel)

/-- a restart replaces the block cache only: database and event log stay -/
theorem LiskVerif.Node.restart_db_log (cd : Codecs) (cfg : Cfg) (s : St) :
    (restart cd cfg s).1.db = s.db ∧ (restart cd cfg s).1.log = s.log := by
  unfold restart
  split <;> exact ⟨rfl, rfl⟩

/-- A restart does not write to the database. -/
theorem C04_restart_keeps_db (cd : Codecs) (cfg : Cfg) (s : St) :
    (restart cd cfg s).1.db = s.db :=
  (restart_db_log cd cfg s).1

/-- … so the stored finalized height is what it was. -/
theorem C04_restart_keeps_finalized (cd : Codecs) (cfg : Cfg) (s : St) :
    finOf (restart cd cfg s).1.db = finOf s.db := by
  rw [C04_restart_keeps_db]

private theorem run_restart (cd : Codecs) (cfg : Cfg) (slot : Slot) (s : St) (a : List Op) :
    run cd cfg slot s (a ++ [Op.restart]) = (restart cd cfg (run cd cfg slot s a)).1 := by
  rw [run_append]
  rfl

/-- **deleteBlock right after a restart**: a tip at or below the finalized height stored before the
restart is refused; the state (database, cache, published events) is untouched. -/
theorem C04_restart_delete_refused (cd : Codecs) (cfg : Cfg) (s : St) (tip : Block)
    (rest : List Block) (saveTemp : Bool) (fin : Nat) (hf : finOf s.db = some fin)
    (hc : (restart cd cfg s).1.cache = tip :: rest) (hle : tip.hdr.height ≤ fin) :
    deleteTip cd cfg (restart cd cfg s).1 saveTemp = ((restart cd cfg s).1, .err) :=
  C04_delete_refuses_finalized cd cfg _ tip rest saveTemp fin hc
    (by rw [C04_restart_keeps_finalized]; exact hf) hle

/-- **deleteTillCommonBlock right after a restart**: after any history that ends with a restart, the
synchronisers' revert loop completes only for common blocks at or above the finalized height that was
stored before the restart. -/
theorem C04_restart_deleteTill_refused (cd : Codecs) (cfg : Cfg) (slot : Slot) (base : Store)
    (baseH : Nat) (hbase : BaseOK cd base baseH) (s : St) (c : Chain) (a : List Op)
    (hR : Ref cd base baseH s c) (hok : RunOK cd cfg slot base s c (a ++ [Op.restart]))
    (fuel target : Nat) (s' : St) (f : Nat) (hf : finOf (run cd cfg slot s a).db = some f)
    (hd : deleteTill cd cfg fuel (run cd cfg slot s (a ++ [Op.restart])) target = (s', .ok)) :
    f ≤ target := by
  have hR' := (trans_run hbase (a ++ [Op.restart]) s c hR hok).ref
  have hf' : finOf (run cd cfg slot s (a ++ [Op.restart])).db = some f := by
    rw [run_restart, C04_restart_keeps_finalized]; exact hf
  exact C04_deleteTill_stops_at_fin cd cfg slot base baseH hbase _ _ hR' fuel target s' hd f hf'

/-- **The sync context right after a restart**: the finalized block header `createSyncContext` hands
to the synchronisers after a history that ends with a restart is the one it would have handed over
before the restart. -/
theorem C04_restart_sync_context (cd : Codecs) (cfg : Cfg) (slot : Slot) (base : Store)
    (baseH : Nat) (hbase : BaseOK cd base baseH) (s : St) (c : Chain) (a : List Op)
    (hR : Ref cd base baseH s c) (hok : RunOK cd cfg slot base s c (a ++ [Op.restart])) :
    syncFinalized cd (run cd cfg slot s (a ++ [Op.restart])) =
      syncFinalized cd (run cd cfg slot s a) := by
  have hdb : (run cd cfg slot s (a ++ [Op.restart])).db = (run cd cfg slot s a).db := by
    rw [run_restart]; exact C04_restart_keeps_db cd cfg _
  unfold syncFinalized
  rw [hdb]
  cases hf : finOf (run cd cfg slot s a).db with
  | none => rfl
  | some f =>
    simp only
    exact (C04_finalized_prefix_stable cd cfg slot base baseH hbase s c a [Op.restart] hR hok f hf f
      (Nat.le_refl f)).1

/-- The sync context's finalized header is the header of the chain's block at the stored finalized
height (for every state refined by a chain — in particular right after a restart). -/
theorem C04_sync_context_is_finalized_block (cd : Codecs) (base : Store) (baseH : Nat)
    (hbase : BaseOK cd base baseH) (s : St) (c : Chain) (hR : Ref cd base baseH s c) (f : Nat)
    (hf : finOf s.db = some f) (hlt : baseH < f) :
    ∃ bx ∈ c, bx.1.hdr.height = f ∧ syncFinalized cd s = some bx.1.hdr := by
  obtain ⟨f', hf', _, hle⟩ := hR.db.finOk
  have : f' = f := by rw [hf] at hf'; exact (Option.some.inj hf').symm
  subst this
  obtain ⟨bx, hm, hh⟩ := chain_covers hR.db.wf f' hlt hle
  refine ⟨bx, hm, hh, ?_⟩
  unfold syncFinalized
  rw [hf]
  simp only
  rw [← hh]
  exact C04_finalized_block_served cd base baseH hbase s c hR bx hm

/-- … hence it has the stored finalized height: the synchronisers compare common blocks and choose
request heights against the stored finalized height. -/
theorem C04_sync_context_height (cd : Codecs) (base : Store) (baseH : Nat)
    (hbase : BaseOK cd base baseH) (s : St) (c : Chain) (hR : Ref cd base baseH s c) (f : Nat)
    (hf : finOf s.db = some f) (hlt : baseH < f) (hd : Hdr) (hs : syncFinalized cd s = some hd) :
    hd.height = f := by
  obtain ⟨bx, _, hh, hb⟩ := C04_sync_context_is_finalized_block cd base baseH hbase s c hR f hf hlt
  rw [hb] at hs
  rw [← Option.some.inj hs]
  exact hh

/-! ### non-vacuity: apply a block that raises the finalized height 0 → 1, restart, evaluate the guards -/

namespace C04Restart
open LiskVerif.Node.Example

def opsA : List Op := [.apply b1 true C04More.xr false]

theorem runOKA : RunOK cd cfg slot base s0 [] (opsA ++ [Op.restart]) :=
  ⟨fun _ => C04More.stepR, trivial, trivial⟩

end C04Restart

/-- after the restart the sync context carries block 1 (id `[7]`), `deleteBlock` on the tip is
refused and `deleteTillCommonBlock(0)` fails -/
example :
    (syncFinalized Example.cd (run Example.cd Example.cfg Example.slot Example.s0
      (C04Restart.opsA ++ [Op.restart]))).map (fun h => (h.height, h.id)) = some (1, [7]) ∧
    (deleteTip Example.cd Example.cfg (run Example.cd Example.cfg Example.slot Example.s0
      (C04Restart.opsA ++ [Op.restart])) true).2 = .err ∧
    (deleteTill Example.cd Example.cfg 5 (run Example.cd Example.cfg Example.slot Example.s0
      (C04Restart.opsA ++ [Op.restart])) 0).2 = .err := by
  decide +kernel

example : syncFinalized Example.cd (run Example.cd Example.cfg Example.slot Example.s0
      (C04Restart.opsA ++ [Op.restart])) =
    syncFinalized Example.cd (run Example.cd Example.cfg Example.slot Example.s0 C04Restart.opsA) :=
  C04_restart_sync_context _ _ _ _ _ Example.baseOK _ _ _ Example.ref0 C04Restart.runOKA

example : ∀ (fuel target : Nat) (s' : St),
    deleteTill Example.cd Example.cfg fuel (run Example.cd Example.cfg Example.slot Example.s0
      (C04Restart.opsA ++ [Op.restart])) target = (s', .ok) → 1 ≤ target :=
  fun fuel target s' hd =>
    C04_restart_deleteTill_refused _ _ _ _ _ Example.baseOK _ _ _ Example.ref0 C04Restart.runOKA
      fuel target s' 1 (by decide +kernel) hd
