/-
C06 — no consensus entry point keeps a view of the consensus store across calls (tie A + the reason).

The model of the certificate protocol (Model/Cert.lean) evaluates every entry point on the CURRENT chain
state; the theorems of Props/C06*.lean hold "after any history of operations interleaved with chain growth
and reorganisations" because nothing but the pool survives a call.  The real code reads the BFT state
through `diffdb.Database` views, which remember every key they have read.  The correspondence therefore
needs: a view never outlives the call (block) that created it.

Part 1 (semantics, all inputs): a fresh view answers every entry point as specified; a view kept under a
renewal rule ("renew when the height of the last block changed") answers wrongly as soon as two chain
states with different store contents share the rule's key - a tip replaced at the same height, a
reorganisation ending at a height seen before.

Part 2 (tie A): tools/storegen regenerates `Gen/StoreSites.lean` from pkg/consensus on every check run:
the fields of `Executer`, all struct fields / globals / function results of a diffdb type, every
`diffdb.New` / `WithPrefix` call with its enclosing function and binding, every place where a view leaves
a function, and through which variable each certificate entry point reads.  The theorems state the exact
tables: a new field of `Executer` (a memoized store, a cached height ..), a helper that hands out a view, a
view stored in a struct, or an entry point that does not create its store itself breaks a named theorem.
-/
import LiskVerif.Gen.StoreSites
import LiskVerif.Lemmas.StoreView

open LiskVerif LiskVerif.StoreView LiskVerif.Gen.StoreSites

/-! ## Part 1: why the store has to be created inside the call -/

/-- an entry point run through a view all of whose remembered reads still agree with the database returns
exactly what the specification (reading the current database) returns -/
theorem C06_agreeing_view_is_current {α : Type} (p : Prog α) (v : View) (db : DB) (h : v.agrees db) :
    (p.run v db).2 = p.spec db :=
  (Prog.run_eq_spec p v db h).1

/-- in particular a FRESH view - for every entry point and database -/
theorem C06_fresh_view_is_current {α : Type} (p : Prog α) (db : DB) :
    (p.run View.fresh db).2 = p.spec db :=
  C06_agreeing_view_is_current p View.fresh db (fresh_agrees db)

/-- a memoized view is right as long as the database does not change between the calls -/
theorem C06_memo_same_database {α β : Type} (key : DB → Nat) (p : Prog α) (q : Prog β) (db : DB) :
    (Memo.call key (Memo.call key none p db).1 q db).2 = q.spec db := by
  simp only [Memo.call, if_true]
  exact (Prog.run_eq_spec q _ db (Prog.run_eq_spec p View.fresh db (fresh_agrees db)).2).1

/-- THE DEFECT CLASS: whatever the renewal rule looks at (`key`: the height of the last block ..) - if two
states of the database share the key and differ in one stored value, an entry point that was called in the
first state answers wrongly in the second -/
theorem C06_keyed_memo_is_stale (key : DB → Nat) (db db' : DB) (k : Nat)
    (hkey : key db = key db') (hne : db k ≠ db' k) :
    ∃ p : Prog (Option Nat), (Memo.call key (Memo.call key none p db).1 p db').2 ≠ p.spec db' := by
  refine ⟨.read k .ret, ?_⟩
  simp [Memo.call, Prog.run, Prog.spec, View.get, View.fresh, lookup, hkey, hne]

/-- non-vacuity: tip A (certified height 8 under key 0) replaced by tip B (certified height 0) at the
same block height 14: the memoized view still reports 8 -/
example :
    let key : DB → Nat := fun _ => 14
    let dbA : DB := fun k => if k = 0 then some 8 else none
    let dbB : DB := fun k => if k = 0 then some 0 else none
    let p : Prog (Option Nat) := .read 0 .ret
    (Memo.call key (Memo.call key none p dbA).1 p dbB).2 = some 8 ∧ p.spec dbB = some 0 := by decide

/-- the second read of a key is served from the view's memory -/
example :
    let r := (Prog.read 3 (fun x => Prog.read 3 (fun y => Prog.ret (x, y)))).run View.fresh (fun _ => some 7)
    r.1.cache = [(3, some 7)] ∧ r.2 = (some 7, some 7) := by decide

/-! ## Part 2: the code creates every view inside the call (regenerated facts) -/

namespace LiskVerif.NoCache

/-- the consensus state view: the executer's database under the state prefix -/
def stateArgs : List String := ["c.database", "blockchain.DBPrefixToBytes(blockchain.DBPrefixState)"]

def sitesOf (fn : String) : List Site := sites.filter (fun s => s.pkg == "consensus" && s.fn == fn)

/-- `fn` creates exactly one view, `v := diffdb.New(c.database, <state prefix>)` with a new local `v`,
`v` is defined nowhere else in `fn` from a call, and every `c.liskBFT.API()` call of `fn` reads through `v` -/
def freshStoreIn (fn : String) : Bool :=
  match sitesOf fn with
  | [s] =>
    s.callee == "diffdb.New" && s.args == stateArgs && s.bind == "define" &&
    (storeBinds.filter (·.fn == fn)) == [⟨fn, s.target, "diffdb.New"⟩] &&
    !(bftCalls.filter (·.fn == fn)).isEmpty &&
    (bftCalls.filter (·.fn == fn)).all (·.arg0 == s.target)
  | _ => false

/-- `fn` creates no view and reads only through its parameter `param` -/
def readsThroughParam (fn param : String) : Bool :=
  (sitesOf fn).isEmpty && (storeBinds.filter (·.fn == fn)).isEmpty &&
  (storeParams.filter (fun p => p.pkg == "consensus" && p.fn == fn)).map (·.param) == [param] &&
  !(bftCalls.filter (·.fn == fn)).isEmpty &&
  (bftCalls.filter (·.fn == fn)).all (·.arg0 == param)

/-- all call sites of `callee` in package consensus that pass a view: (function, variable) -/
def passedTo (callee : String) : List (String × String) :=
  (storeArgs.filter (fun a => a.pkg == "consensus" && a.callee == callee)).map (fun a => (a.fn, a.var))

end LiskVerif.NoCache

open LiskVerif.NoCache

/-- the exact fields of `consensus.Executer`: configuration, components, the pool - and nothing that
remembers consensus state (a memoized store, cached BFT heights or parameters would be a new field) -/
theorem C06_executer_fields_exact :
    executerFields.map (fun f => (f.name, f.typ)) =
      [("blockTime", "uint32"), ("batchSize", "int"), ("abi", "labi.ABI"), ("chain", "*blockchain.Chain"),
       ("conn", "*p2p.Connection"), ("certificatePool", "*certificate.Pool"), ("liskBFT", "*liskbft.Module"),
       ("ctx", "context.Context"), ("database", "*db.DB"), ("logger", "log.Logger"),
       ("blockSlot", "*validator.BlockSlot"), ("syncying", "bool"), ("events", "*event.EventEmitter"),
       ("processCh", "chan *ProcessContext"), ("closeCh", "chan bool"), ("syncer", "*sync.Syncer"),
       ("lastBlockReceived", "*time.Time"), ("certificateTime", "*time.Ticker")] := by decide +kernel

/-- nothing in pkg/consensus (all sub-packages) holds a view: no struct field and no package-level variable
of a diffdb type, no function returns one, and no view leaves the function that holds it by assignment to
a field / global / element, in a composite literal, as a return value or over a channel -/
theorem C06_no_view_outlives_its_function :
    storeFields = [] ∧ storeGlobals = [] ∧ storeFuncs = [] ∧ escapes = [] := by decide +kernel

/-- every view of the consensus state is created by `diffdb.New(c.database, <state prefix>)`, bound to a
new local variable of the creating function; these are all creation sites -/
theorem C06_store_creation_sites_exact :
    (sites.filter (·.callee == "diffdb.New")).map (fun s => (s.fn, s.args, s.bind, s.target)) =
      [("Executer.singleCommitValidator", stateArgs, "define", "diffStore"),
       ("Executer.Certify", stateArgs, "define", "diffStore"),
       ("Executer.broadcastCertificate", stateArgs, "define", "diffStore"),
       ("Executer.GetAggregateCommit", stateArgs, "define", "diffStore"),
       ("Executer.Synced", stateArgs, "define", "consensusStore"),
       ("Executer.processValidated", stateArgs, "define", "consensusStore"),
       ("Executer.processGenesisBlock", stateArgs, "define", "consensusStore"),
       ("Executer.deleteBlock", stateArgs, "define", "diffStore"),
       ("Executer.createSyncContext", stateArgs, "define", "diffStore")] := by decide +kernel

/-- sub-views (`WithPrefix`) are only taken from a parameter of the function and bound to a new local -/
theorem C06_sub_views_are_local :
    (sites.filter (·.callee == "WithPrefix")).all (fun s => s.recvKind == "param" && s.bind == "define") = true ∧
    (sites.filter (fun s => s.callee != "WithPrefix" && s.callee != "diffdb.New")) = [] := by decide +kernel

/-- the four certificate entry points without a store parameter create their view themselves, once, from
the executer's database, and read the BFT state only through it -/
theorem C06_cert_entry_points_create_their_store :
    freshStoreIn "Executer.singleCommitValidator" = true ∧
    freshStoreIn "Executer.Certify" = true ∧
    freshStoreIn "Executer.broadcastCertificate" = true ∧
    freshStoreIn "Executer.GetAggregateCommit" = true := by decide +kernel

/-- `verifyAggregateCommit` reads through its parameter only; its single caller is `verifyBlock`, which
passes its own parameter; `verifyBlock`'s single caller `processValidated` passes the view it created for
this block -/
theorem C06_verify_reads_the_block_store :
    readsThroughParam "Executer.verifyAggregateCommit" "diffStore" = true ∧
    passedTo "c.verifyAggregateCommit" = [("Executer.verifyBlock", "consensusStore")] ∧
    (storeParams.filter (fun p => p.pkg == "consensus" && p.fn == "Executer.verifyBlock")).map (·.param) = ["consensusStore"] ∧
    passedTo "c.verifyBlock" = [("Executer.processValidated", "consensusStore")] ∧
    (sitesOf "Executer.processValidated").map (fun s => (s.callee, s.args, s.bind, s.target)) =
      [("diffdb.New", stateArgs, "define", "consensusStore")] := by decide +kernel

/-- the broadcast tick's per-call memo of `ExistBFTParameters` (`commitDiscard`) is created inside the tick
and reads through the tick's view -/
theorem C06_broadcast_memo_is_per_call :
    passedTo "cache.exist" = [("Executer.broadcastCertificate", "diffStore")] ∧
    passedTo "c.bftAPI.ExistBFTParameters" = [("commitDiscard.exist", "diffStore")] ∧
    (structFields.filter (fun f => f.pkg == "consensus" && f.strct == "commitDiscard")).map (fun f => (f.name, f.typ)) =
      [("existHeight", "map[uint32]bool"), ("bftAPI", "*liskbft.API"), ("mutex", "*sync.RWMutex")] := by decide +kernel

/-- the components the entry points read through carry configuration only: the BFT module and its API
have no field that could remember votes, heights or parameters between calls; the certificate pool holds
the two commit lists (the one piece of memory the model has too) -/
theorem C06_bft_module_and_pool_fields_exact :
    (structFields.filter (fun f => f.pkg == "consensus/liskbft" && f.strct == "Module")).map (fun f => (f.name, f.typ)) =
      [("batchSize", "int"), ("maxLengthBlock", "int"), ("api", "*API"), ("endpoint", "*Endpoint")] ∧
    (structFields.filter (fun f => f.pkg == "consensus/liskbft" && f.strct == "API")).map (fun f => (f.name, f.typ)) =
      [("moduleID", "uint32"), ("batchSize", "int")] ∧
    (structFields.filter (fun f => f.pkg == "consensus/certificate" && f.strct == "Pool")).map (fun f => (f.name, f.typ)) =
      [("nonGossiped", "SingleCommits"), ("gossiped", "SingleCommits"), ("mutex", "*sync.Mutex")] := by decide +kernel
