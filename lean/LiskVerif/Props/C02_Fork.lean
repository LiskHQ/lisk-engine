/-
C02 — "a function of the header sequence alone" under fork switches, dropped candidate blocks and
restarts of the module object.

A node does not only extend its chain: consensus deletes tip blocks (`Executer.deleteBlock` reverts
the state diff of the block, i.e. the BFT vote update of that block and the BFT parameters /
generator keys set while it was executed), drops candidate blocks whose staged store is discarded,
and is restarted (a new liskbft module object over the same database). The property says that none
of this may leave a trace: the BFT state is determined by the chain which is left.

`C02Hist` is such a history; `C02hstep` is what the model driver (`Driver/BFT.lean`, ops `revert`,
`restart`, `tryblock`) executes: the BFT state plus one saved state per block on the chain, next to
the bookkeeping of the chain which is left (`kept`, the same computation as `c02.Winning` in the Go
harness, which feeds exactly these events to a fresh real node: oracle `c02-history-dependent`).
The theorems show that in the model the state after ANY history equals the state of a fresh node
that processed only the chain which is left — so every disagreement of the real module with the
model on such a history, and every disagreement with the fresh real node, is hidden state of the
implementation (e.g. a parameter cache kept in the module object across blocks).
-/
import LiskVerif.Props.C02

open LiskVerif LiskVerif.BFT

/-- one step of a node's history -/
inductive C02Hist where
  /-- an event of the chain: block, parameter change, generator-key change -/
  | ev (e : C02Ev)
  /-- the tip block is deleted (fork switch): its state diff is reverted -/
  | revert
  /-- the module object is replaced by a new one over the same store -/
  | restart
  /-- a candidate block is processed on a staged store which is dropped -/
  | tryBlock (h : Header)

/-- the event is a block which the node accepts (it becomes the new tip) -/
def C02accepts (s : State) : C02Ev → Bool
  | .block h => match process s h with | .ok _ => true | .error _ => false
  | _ => false

/-- node with history: current state, the state saved before each block on the chain (newest
first), the events of the chain which is left, and for each block on the chain the number of events
before it -/
structure C02Node where
  st : State
  stack : List State := []
  kept : List C02Ev := []
  marks : List Nat := []

def C02hstep (w : C02Node) : C02Hist → C02Node
  | .ev e =>
    if C02accepts w.st e then
      { st := C02step w.st e, stack := w.st :: w.stack, kept := w.kept ++ [e], marks := w.kept.length :: w.marks }
    else
      { w with st := C02step w.st e, kept := w.kept ++ [e] }
  | .revert =>
    match w.stack, w.marks with
    | p :: r, m :: ms => { st := p, stack := r, kept := w.kept.take m, marks := ms }
    | _, _ => w
  | .restart => w
  | .tryBlock _ => w

def C02hrun (w : C02Node) (hs : List C02Hist) : C02Node := hs.foldl C02hstep w

/-- a node which starts at genesis -/
def C02hinit (batchSize genesisHeight : Nat) : C02Node := { st := initGenesis batchSize genesisHeight }

/-- the saved states are the states of a fresh node after the corresponding prefixes of the chain -/
private def StackOk (s0 : State) : List C02Ev → List State → List Nat → Prop
  | _, [], [] => True
  | kept, p :: r, m :: ms => m ≤ kept.length ∧ p = C02run s0 (kept.take m) ∧ StackOk s0 (kept.take m) r ms
  | _, _, _ => False

private theorem stackOk_append (s0 : State) (kept x : List C02Ev) :
    ∀ (st : List State) (ms : List Nat), StackOk s0 kept st ms → StackOk s0 (kept ++ x) st ms
  | [], [], _ => trivial
  | [], _ :: _, h | _ :: _, [], h => h
  | _ :: _, m :: _, ⟨h1, h2, h3⟩ => by
    have ht : (kept ++ x).take m = kept.take m := List.take_append_of_le_length h1
    exact ⟨by rw [List.length_append]; omega, ht ▸ h2, ht ▸ h3⟩

private def NodeOk (s0 : State) (w : C02Node) : Prop :=
  w.st = C02run s0 w.kept ∧ StackOk s0 w.kept w.stack w.marks

/-- the step on an accepted block: the state before it is saved, with the number of events kept so far -/
theorem C02hstep_accepted {w : C02Node} {e : C02Ev} (h : C02accepts w.st e = true) :
    C02hstep w (.ev e) =
      { st := C02step w.st e, stack := w.st :: w.stack, kept := w.kept ++ [e], marks := w.kept.length :: w.marks } := by
  simp [C02hstep, h]

/-- the step on any other event: it is applied and kept, nothing is saved -/
theorem C02hstep_rejected {w : C02Node} {e : C02Ev} (h : C02accepts w.st e = false) :
    C02hstep w (.ev e) = { w with st := C02step w.st e, kept := w.kept ++ [e] } := by
  simp [C02hstep, h]

private theorem nodeOk_step (s0 : State) (w : C02Node) (h : C02Hist) (hw : NodeOk s0 w) :
    NodeOk s0 (C02hstep w h) := by
  obtain ⟨hst, hstack⟩ := hw
  have hrun (e : C02Ev) : C02step w.st e = C02run s0 (w.kept ++ [e]) := by rw [C02_run_append, hst]; rfl
  cases h with
  | ev e =>
    cases hacc : C02accepts w.st e with
    | true =>
      rw [C02hstep_accepted hacc]
      refine ⟨hrun e, ?_, ?_, ?_⟩ <;> dsimp only
      · rw [List.length_append]; omega
      · rw [List.take_left' rfl]; exact hst
      · rw [List.take_left' rfl]; exact hstack
    | false =>
      rw [C02hstep_rejected hacc]
      exact ⟨hrun e, stackOk_append s0 w.kept [e] _ _ hstack⟩
  | revert =>
    simp only [C02hstep]
    split
    · rename_i p r m ms hs hm
      rw [hs, hm] at hstack
      exact ⟨hstack.2.1, hstack.2.2⟩
    · exact ⟨hst, hstack⟩
  | restart => exact ⟨hst, hstack⟩
  | tryBlock _ => exact ⟨hst, hstack⟩

/-- **History independence.** After any history of blocks, parameter changes, deleted tip blocks
(fork switches of any depth, repeated), dropped candidates and restarts, the BFT state of the node
is exactly the state of a fresh node which processed only the chain that is left. -/
theorem C02_history_independent (batchSize genesisHeight : Nat) (hs : List C02Hist) :
    (C02hrun (C02hinit batchSize genesisHeight) hs).st =
      C02run (initGenesis batchSize genesisHeight) (C02hrun (C02hinit batchSize genesisHeight) hs).kept :=
  (List.foldlRecOn hs C02hstep (show NodeOk _ (C02hinit batchSize genesisHeight) from ⟨rfl, trivial⟩)
    fun w hw h _ => nodeOk_step _ w h hw).1

/-- Two nodes with the same genesis whose histories leave the same chain agree on the whole BFT
state (heights, weights, vote info, parameters), whatever forks each of them has seen. -/
theorem C02_same_chain_same_state (batchSize genesisHeight : Nat) (hs₁ hs₂ : List C02Hist)
    (h : (C02hrun (C02hinit batchSize genesisHeight) hs₁).kept = (C02hrun (C02hinit batchSize genesisHeight) hs₂).kept) :
    (C02hrun (C02hinit batchSize genesisHeight) hs₁).st = (C02hrun (C02hinit batchSize genesisHeight) hs₂).st := by
  rw [C02_history_independent, C02_history_independent, h]

/-- Without deletions the chain which is left is the whole event sequence (`C02_history_independent` is
not vacuous: `kept` really is the node's chain). -/
theorem C02_kept_linear (w : C02Node) (evs : List C02Ev) :
    (C02hrun w (evs.map .ev)).kept = w.kept ++ evs := by
  induction evs generalizing w with
  | nil => simp [C02hrun]
  | cons e t ih =>
    have hk : (C02hstep w (.ev e)).kept = w.kept ++ [e] := by
      cases h : C02accepts w.st e
      · rw [C02hstep_rejected h]
      · rw [C02hstep_accepted h]
    show (C02hrun (C02hstep w (.ev e)) (t.map .ev)).kept = _
    rw [ih, hk, List.append_assoc]
    rfl

/-- events that are not accepted blocks leave the saved states alone -/
private theorem rejected_keep_stack (evs : List C02Ev) (hno : ∀ s e, e ∈ evs → C02accepts s e = false) (v : C02Node) :
    (C02hrun v (evs.map .ev)).stack = v.stack ∧ (C02hrun v (evs.map .ev)).marks = v.marks :=
  List.foldlRecOn _ C02hstep (motive := fun w => w.stack = v.stack ∧ w.marks = v.marks) ⟨rfl, rfl⟩ fun w hw a ha => by
    obtain ⟨e, he, rfl⟩ := List.mem_map.mp ha
    rw [C02hstep_rejected (hno w.st e he)]
    exact hw

/-- Deleting the tip block restores exactly the state before that block was processed, including
the parameters and keys set while it was the tip. -/
theorem C02_revert_restores (w : C02Node) (h : Header) (evs : List C02Ev)
    (hacc : C02accepts w.st (.block h) = true) (hno : ∀ s e, e ∈ evs → C02accepts s e = false) :
    (C02hstep (C02hrun (C02hstep w (.ev (.block h))) (evs.map .ev)) .revert).st = w.st ∧
    (C02hstep (C02hrun (C02hstep w (.ev (.block h))) (evs.map .ev)) .revert).kept = w.kept := by
  obtain ⟨a, b⟩ := rejected_keep_stack evs hno (C02hstep w (.ev (.block h)))
  have c := C02_kept_linear (C02hstep w (.ev (.block h))) evs
  rw [C02hstep_accepted hacc] at a b c
  rw [C02hstep_accepted hacc]
  simp only [C02hstep, a, b, c]
  exact ⟨trivial, by rw [List.append_assoc, List.take_left' rfl]⟩

/-- Restarting the module object and processing a dropped candidate change nothing. -/
theorem C02_restart_tryblock_noop (w : C02Node) (h : Header) :
    C02hstep w .restart = w ∧ C02hstep w (.tryBlock h) = w := ⟨rfl, rfl⟩

/-- non-vacuity: a block is accepted, parameters change while it is the tip, the block is deleted:
the chain which is left is the two events before the block -/
example :
    (C02hrun (C02hinit 2 0)
      [.ev (.setParams 1 1 [{ address := [1], weight := 1 }]), .ev (.setKeys [[1]]),
       .ev (.block { height := 1, gen := [1], mhg := 0, mhp := 0 }),
       .ev (.setParams 2 2 [{ address := [1], weight := 2 }]), .restart, .revert]).kept.length = 2 := by
  decide
