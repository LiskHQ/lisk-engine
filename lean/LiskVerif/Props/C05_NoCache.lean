/-
C05 — no component that takes part in apply / delete keeps consensus state in memory (tie A + the reason).

Props/C05.lean and C05_More.lean prove for the node model that `delete ∘ apply` restores the PERSISTENT state
(`C05_delete_apply_identity`, `C05_delete_apply_all_keys`), that the persistent state is a function of the chain
(`C05_state_function_of_chain`) and that a reorganisation is confluent (`C05_reorg_confluence`); Props/C02_Fork.lean
proves for the BFT model that the state after any history of blocks, deleted tips, dropped candidates and restarts
is the state of a fresh node that processed only the chain which is left (`C02_history_independent`).  In all of
them the execution of a block is a function of the persistent state it is applied to.  The real node is made of
objects (`liskbft.Module`, its `API`, `blockchain.Chain`, `DataAccess`, `consensus.Executer`) that live across
blocks; `Executer.deleteBlock` reverts the database underneath them and cannot revert a struct field.  The
theorems carry over to the BEHAVIOUR of the node only if these objects compute from the persistent state alone.

Part 1 (semantics, all machines and histories): a node is a persistent state `P`, component memory `H` and a step
function.  If the persistent effect of a step does not depend on `H` (`ReadsPersistedOnly`) and deletion restores the
persistent state (`DeleteInverts`; for the node model this is what the theorems named above say, read informally: no
`Machine` is built from Model/Node.lean, the instances here are the BFT model and toy machines), then after ANY history
of applied blocks, rejected blocks, candidates computed on a dropped store (forged by the node itself), deleted tips
and restarts the node is in the persistent state of a fresh node that was given only the surviving chain, that node
accepts every block of it, and both accept exactly the same next block with the same result.  A toy parameter cache
kept in `H` across blocks — the persistent state is restored exactly by every deletion — violates the conclusion
after a reorganisation of depth 2, and of depth 1 when the node computed a candidate for the next height.

Part 2 (tie A): tools/compgen regenerates `Gen/CompState.lean` from pkg/consensus/liskbft, pkg/blockchain and
pkg/consensus on every check run: every struct field with a syntactic kind of its type, every method of the
components, every write to a component field (assignment, index assignment, append, delete(), inc/dec, address
taken), constructor initialisers and constructor calls, package-level variables and their writers.  The theorems
state the exact tables: a new field of `liskbft.Module` (a retained parameter store), a method that writes a
receiver field, a per-call cache that is handed a shared map, a package-level memo, a new writer of the chain /
executer fields breaks a named theorem.
Out of scope of the tables (stated in tools/compgen/main.go): writes through an alias of a field, through a method
called on the value of a field, and inside a function a field is passed to.
-/
import LiskVerif.Gen.CompState
import LiskVerif.Model.BFT
import LiskVerif.Lemmas.StringChars
import LiskVerif.Lemmas.Tables

/-! ## Part 1: why the components must not remember -/

namespace LiskVerif.NoHidden

/-- a node: persistent state `P` (the database), component memory `H` (struct fields), blocks `B`.
`apply p h b` = (the new persistent state if the block is accepted, the new memory); the memory may change even if
the block is rejected or its store is dropped.  `delete` removes the tip.  `h0` = the memory of a fresh object. -/
structure Machine (P H B : Type) where
  apply : P → H → B → Option P × H
  delete : P → H → P × H
  h0 : H

/-- one step of a node's history -/
inductive Hist (B : Type) where
  /-- a block is offered: applied, or rejected -/
  | block (b : B)
  /-- the tip block is deleted (no-op on the bare genesis state) -/
  | delete
  /-- the objects are replaced by new ones over the same database -/
  | restart
  /-- a candidate is computed on a staged store that is dropped (the node forges, or validation fails late) -/
  | candidate (b : B)

/-- the node with its history: persistent state, memory, and the chain which is left -/
structure NodeSt (P H B : Type) where
  p : P
  h : H
  kept : List B

variable {P H B : Type}

def hstep (m : Machine P H B) (w : NodeSt P H B) : Hist B → NodeSt P H B
  | .block b =>
    match (m.apply w.p w.h b).1 with
    | some p' => { p := p', h := (m.apply w.p w.h b).2, kept := w.kept ++ [b] }
    | none => { w with h := (m.apply w.p w.h b).2 }
  | .delete =>
    match w.kept with
    | [] => w
    | _ :: _ => { p := (m.delete w.p w.h).1, h := (m.delete w.p w.h).2, kept := w.kept.dropLast }
  | .restart => { w with h := m.h0 }
  | .candidate b => { w with h := (m.apply w.p w.h b).2 }

def hrun (m : Machine P H B) (w : NodeSt P H B) (hs : List (Hist B)) : NodeSt P H B := hs.foldl (hstep m) w

/-- a node that starts on the persistent state `p0` -/
def hinit (m : Machine P H B) (p0 : P) : NodeSt P H B := { p := p0, h := m.h0, kept := [] }

/-- the FRESH node: new objects, given the blocks of a chain in order -/
def fstep (m : Machine P H B) (s : P × H) (b : B) : P × H :=
  match (m.apply s.1 s.2 b).1 with
  | some p' => (p', (m.apply s.1 s.2 b).2)
  | none => (s.1, (m.apply s.1 s.2 b).2)

def fresh (m : Machine P H B) (p0 : P) (c : List B) : P × H := c.foldl (fstep m) (p0, m.h0)

/-- the persistent state after a chain all of whose blocks are accepted (by objects without memory) -/
def prun (m : Machine P H B) : P → List B → Option P
  | p, [] => some p
  | p, b :: c =>
    match (m.apply p m.h0 b).1 with
    | some p' => prun m p' c
    | none => none

/-- the persistent effect of a step is a function of the persistent state: nothing is read from memory -/
def ReadsPersistedOnly (m : Machine P H B) : Prop :=
  (∀ p h h' b, (m.apply p h b).1 = (m.apply p h' b).1) ∧ (∀ p h h', (m.delete p h).1 = (m.delete p h').1)

/-- deleting an applied block restores the persistent state (on the states satisfying `Inv`, which steps preserve) -/
def DeleteInverts (m : Machine P H B) (Inv : P → Prop) : Prop :=
  ∀ p h b p', Inv p → (m.apply p h b).1 = some p' → Inv p' ∧ ∀ h', (m.delete p' h').1 = p

/-- a machine whose accepted blocks push one entry on the persistent state, and whose `delete` pops it -/
theorem deleteInverts_of_push {α : Type} (m : Machine (List α) H B) (hd : ∀ p h, (m.delete p h).1 = p.tail)
    (ha : ∀ p h b p', (m.apply p h b).1 = some p' → p'.tail = p) : DeleteInverts m (fun _ => True) :=
  fun p h b p' _ hp => ⟨trivial, fun h' => (hd p' h').trans (ha p h b p' hp)⟩

/-- a step that pushes one entry when its guard holds, as the blocks of the toy machines do -/
theorem tail_of_ite_push {α : Type} {c : Prop} [Decidable c] {x : α} {p p' : List α}
    (h : (if c then some (x :: p) else none) = some p') : p'.tail = p :=
  Option.some.inj (Option.ite_none_right_eq_some.1 h).2 ▸ rfl

theorem readsPersistedOnly_of_subsingleton [Subsingleton H] (m : Machine P H B) : ReadsPersistedOnly m :=
  ⟨fun p h h' b => by rw [Subsingleton.elim h h'], fun p h h' => by rw [Subsingleton.elim h h']⟩

private theorem prun_snoc (m : Machine P H B) (p : P) (c : List B) (b : B) :
    prun m p (c ++ [b]) = (prun m p c).bind (fun q => (m.apply q m.h0 b).1) := by
  induction c generalizing p with
  | nil =>
    simp only [List.nil_append, prun, Option.bind]
    cases (m.apply p m.h0 b).1 <;> rfl
  | cons a t ih =>
    simp only [List.cons_append, prun]
    cases (m.apply p m.h0 a).1 with
    | none => rfl
    | some p' => exact ih p'

/-- of an accepted chain the first block is accepted, and the rest on the state it leaves -/
private theorem prun_cons_some {m : Machine P H B} {p q : P} {a : B} {t : List B} (h : prun m p (a :: t) = some q) :
    ∃ p', (m.apply p m.h0 a).1 = some p' ∧ prun m p' t = some q := by
  simp only [prun] at h
  cases ha : (m.apply p m.h0 a).1 with
  | none => rw [ha] at h; cases h
  | some p' => rw [ha] at h; exact ⟨p', rfl, h⟩

private theorem prun_inv (m : Machine P H B) (Inv : P → Prop) (hdi : DeleteInverts m Inv) (c : List B) :
    ∀ p q, Inv p → prun m p c = some q → Inv q := by
  induction c with
  | nil => intro p q hp h; simp only [prun, Option.some.injEq] at h; exact h ▸ hp
  | cons a t ih =>
    intro p q hp h
    obtain ⟨p', ha, h⟩ := prun_cons_some h
    exact ih p' q (hdi p m.h0 a p' hp ha).1 h

private theorem fresh_of_prun (m : Machine P H B) (hro : ReadsPersistedOnly m) (c : List B) :
    ∀ p h q, prun m p c = some q → (c.foldl (fstep m) (p, h)).1 = q := by
  induction c with
  | nil => intro p h q hq; simp only [prun, Option.some.injEq] at hq; simpa using hq
  | cons a t ih =>
    intro p h q hq
    obtain ⟨p', ha, hq⟩ := prun_cons_some hq
    have ha' : (m.apply p h a).1 = some p' := by rw [hro.1 p h m.h0 a]; exact ha
    have hs : fstep m (p, h) a = (p', (m.apply p h a).2) := by simp only [fstep, ha']
    simp only [List.foldl_cons, hs]
    exact ih p' _ q hq

private def NodeOk (m : Machine P H B) (p0 : P) (w : NodeSt P H B) : Prop :=
  prun m p0 w.kept = some w.p

private theorem nodeOk_step (m : Machine P H B) (Inv : P → Prop) (hro : ReadsPersistedOnly m)
    (hdi : DeleteInverts m Inv) (p0 : P) (hI : Inv p0) (w : NodeSt P H B) (x : Hist B)
    (hw : NodeOk m p0 w) : NodeOk m p0 (hstep m w x) := by
  unfold NodeOk at *
  cases x with
  | block b =>
    cases ha : (m.apply w.p w.h b).1 with
    | none => simp only [hstep, ha]; exact hw
    | some p' =>
      simp only [hstep, ha]
      rw [prun_snoc, hw]
      show (m.apply w.p m.h0 b).1 = some p'
      rw [← hro.1 w.p w.h m.h0 b]; exact ha
  | delete =>
    cases hk : w.kept with
    | nil => simp only [hstep, hk]; rw [hk] at hw; exact hw
    | cons a t =>
      simp only [hstep, hk]
      -- the chain is l ++ [b]
      have hne : (a :: t) ≠ [] := List.cons_ne_nil a t
      have hsplit : a :: t = (a :: t).dropLast ++ [(a :: t).getLast hne] := (List.dropLast_concat_getLast hne).symm
      rw [hk, hsplit, prun_snoc] at hw
      cases hl : prun m p0 (a :: t).dropLast with
      | none => rw [hl] at hw; cases hw
      | some pl =>
        rw [hl] at hw
        simp only [Option.bind] at hw
        have hIl : Inv pl := prun_inv m Inv hdi _ p0 pl hI hl
        rw [(hdi pl m.h0 _ w.p hIl hw).2 w.h]
  | restart => exact hw
  | candidate b => exact hw

end LiskVerif.NoHidden

open LiskVerif LiskVerif.NoHidden

/-- **No hidden state ⇒ every history is confluent with the fresh node.**  If the persistent effect of apply and
delete is a function of the persistent state and deletion restores it, then after ANY history (blocks applied or
rejected, candidates computed on dropped stores, tips deleted to any depth, repeatedly, restarts):
the fresh node that is given only the surviving chain accepts every block of it and ends in the persistent state of
the node with the history; and the two accept exactly the same next block, with the same resulting state. -/
theorem C05_no_hidden_state_confluent {P H B : Type} (m : Machine P H B) (Inv : P → Prop)
    (hro : ReadsPersistedOnly m) (hdi : DeleteInverts m Inv) (p0 : P) (hI : Inv p0) (hs : List (Hist B)) :
    prun m p0 (hrun m (hinit m p0) hs).kept = some (hrun m (hinit m p0) hs).p ∧
    (fresh m p0 (hrun m (hinit m p0) hs).kept).1 = (hrun m (hinit m p0) hs).p ∧
    ∀ b, (m.apply (hrun m (hinit m p0) hs).p (hrun m (hinit m p0) hs).h b).1 =
      (m.apply (fresh m p0 (hrun m (hinit m p0) hs).kept).1 (fresh m p0 (hrun m (hinit m p0) hs).kept).2 b).1 := by
  have hok : prun m p0 (hrun m (hinit m p0) hs).kept = some (hrun m (hinit m p0) hs).p :=
    List.foldlRecOn hs (hstep m) (show NodeOk m p0 (hinit m p0) from rfl) fun w hw x _ =>
      nodeOk_step m Inv hro hdi p0 hI w x hw
  have hf := fresh_of_prun m hro _ p0 m.h0 _ hok
  refine ⟨hok, hf, ?_⟩
  intro b
  unfold fresh at *
  rw [hf]
  exact hro.1 _ _ _ b

/-- two nodes whose histories leave the same chain are in the same persistent state, whatever each of them saw -/
theorem C05_same_chain_same_state {P H B : Type} (m : Machine P H B) (Inv : P → Prop)
    (hro : ReadsPersistedOnly m) (hdi : DeleteInverts m Inv) (p0 : P) (hI : Inv p0) (hs₁ hs₂ : List (Hist B))
    (h : (hrun m (hinit m p0) hs₁).kept = (hrun m (hinit m p0) hs₂).kept) :
    (hrun m (hinit m p0) hs₁).p = (hrun m (hinit m p0) hs₂).p := by
  have h1 := (C05_no_hidden_state_confluent m Inv hro hdi p0 hI hs₁).1
  have h2 := (C05_no_hidden_state_confluent m Inv hro hdi p0 hI hs₂).1
  rw [h, h2] at h1
  exact (Option.some.inj h1).symm

/-! ### the BFT model of C01 / C02 is such a machine -/

namespace LiskVerif.NoHidden

/-- the BFT model as a machine: the persistent state is the BFT store together with the stored state diffs (here:
the states before each block on the chain, newest first); the model has NO component memory (`H = Unit`) -/
def bftMachine : Machine (List BFT.State) Unit BFT.Header where
  apply st _ h :=
    match st with
    | [] => (none, ())
    | s :: r =>
      match BFT.process s h with
      | .ok s' => (some (s' :: s :: r), ())
      | .error _ => (none, ())
  delete st _ := (st.tail, ())
  h0 := ()

end LiskVerif.NoHidden

/-- the general theorem applies to the BFT model (`process` of Model/BFT.lean — the model the real
`liskbft.Module.BeforeTransactionsExecute` is compared with line by line in C01 / C02): a node without component
memory is history independent.  (`C02_history_independent` is the same fact with parameter changes and restarts of
the module object as events of their own.) -/
theorem C05_bft_model_has_no_hidden_state (s0 : BFT.State) (hs : List (Hist BFT.Header)) :
    prun bftMachine [s0] (hrun bftMachine (hinit bftMachine [s0]) hs).kept =
      some (hrun bftMachine (hinit bftMachine [s0]) hs).p := by
  refine (C05_no_hidden_state_confluent bftMachine (fun _ => True) (readsPersistedOnly_of_subsingleton bftMachine)
    (deleteInverts_of_push bftMachine (fun _ _ => rfl) fun p h b p' hp => ?_) [s0] trivial hs).1
  cases p with
  | nil => cases hp
  | cons s r =>
    simp only [bftMachine] at hp
    split at hp <;> cases hp
    rfl

/-! ### the defect class: a parameter cache kept in the module object across blocks -/

namespace LiskVerif.NoHidden.Toy

/-- The toy machines below share one persistent state: the BFT parameter ("who generates the next block") written
for each height, newest first; `p.length` is the height of the next block.  A block `(gen, next)` is valid iff `gen`
is the parameter in force; it writes `next` for the height after; deleting the tip removes what the block wrote.
`paramInForce` is the parameter in force: the newest entry. -/
def paramInForce (p : List Nat) : Nat := p.headD 0

/-- the module as it is: the parameters are read from the store for every block -/
def honest : Machine (List Nat) Unit (Nat × Nat) where
  apply p _ b := (if paramInForce p = b.1 then some (b.2 :: p) else none, ())
  delete p _ := (p.tail, ())
  h0 := ()

/-- the module with a parameter cache kept across blocks: "the parameters of a height that was decoded once never
change" — true on a growing chain, false once `delete` reverts the store underneath -/
def cached : Machine (List Nat) (List (Nat × Nat)) (Nat × Nat) where
  apply p h b :=
    let par := match h.lookup p.length with | some v => v | none => paramInForce p
    (if par = b.1 then some (b.2 :: p) else none,
     if (h.lookup p.length).isSome then h else (p.length, par) :: h)
  delete p h := (p.tail, h)
  h0 := []

/-- branch A: block 1 by generator 1 hands over to 3, block 2 by 3; both deleted; branch B: block 1 by 1 hands over to 2 -/
def reorgDepth2 : List (Hist (Nat × Nat)) := [.block (1, 3), .block (3, 3), .delete, .delete, .block (1, 2)]

/-- depth 1: the node computed a candidate for height 2 (it is itself the generator 3) before block 1 was replaced -/
def reorgDepth1Forged : List (Hist (Nat × Nat)) := [.block (1, 3), .candidate (3, 3), .delete, .block (1, 2)]

end LiskVerif.NoHidden.Toy

open LiskVerif.NoHidden.Toy in
/-- **THE DEFECT CLASS.**  The cache machine restores the persistent state exactly on every deletion
(`DeleteInverts`), and after the reorganisation the node's persistent state IS the state of the fresh node that
was given only the surviving chain `[(1, 2)]` — yet the next block `(2, 2)` (by the generator the store names) is
REJECTED by the node and accepted by the fresh node: the step is not a function of the persistent state
(`ReadsPersistedOnly` fails).  Depth 2, and depth 1 when the node computed a candidate for the next height. -/
theorem C05_hidden_cache_counterexample :
    DeleteInverts cached (fun _ => True) ∧ ¬ ReadsPersistedOnly cached ∧
    (let w := hrun cached (hinit cached [1]) reorgDepth2
     w.kept = [(1, 2)] ∧ w.p = (fresh cached [1] w.kept).1 ∧
     (cached.apply w.p w.h (2, 2)).1 = none ∧
     (cached.apply (fresh cached [1] w.kept).1 (fresh cached [1] w.kept).2 (2, 2)).1 = some [2, 2, 1]) ∧
    (let w := hrun cached (hinit cached [1]) reorgDepth1Forged
     w.kept = [(1, 2)] ∧ w.p = (fresh cached [1] w.kept).1 ∧
     (cached.apply w.p w.h (2, 2)).1 = none ∧
     (cached.apply (fresh cached [1] w.kept).1 (fresh cached [1] w.kept).2 (2, 2)).1 = some [2, 2, 1]) := by
  refine ⟨deleteInverts_of_push cached (fun _ _ => rfl) fun _ _ _ _ => tail_of_ite_push, ?_, by decide, by decide⟩
  intro hro
  have := hro.1 [2, 1] [] [(2, 3)] (2, 2)
  revert this
  decide

open LiskVerif.NoHidden.Toy in
/-- non-vacuity of `C05_no_hidden_state_confluent`: the honest machine satisfies both hypotheses, and on the same
two histories the node accepts the block the fresh node accepts -/
example :
    ReadsPersistedOnly honest ∧ DeleteInverts honest (fun _ => True) ∧
    (honest.apply (hrun honest (hinit honest [1]) reorgDepth2).p () (2, 2)).1 = some [2, 2, 1] ∧
    (honest.apply (hrun honest (hinit honest [1]) reorgDepth1Forged).p () (2, 2)).1 = some [2, 2, 1] := by
  exact ⟨readsPersistedOnly_of_subsingleton honest,
    deleteInverts_of_push honest (fun _ _ => rfl) fun _ _ _ _ => tail_of_ite_push, by decide, by decide⟩

/-! ## Part 2: the components hold configuration and references only (regenerated facts) -/

namespace LiskVerif.NoHidden

open LiskVerif.Gen.CompState

/-- (name, type, kind) of the fields of a struct, in declaration order -/
def fieldsOf (pkg strct : String) : List (String × String × String) :=
  (fields.filter (fun f => f.pkg == pkg && f.strct == strct)).map (fun f => (f.name, f.typ, f.kind))

/-- (function, field, how) of every write to a field of a component struct, in source order -/
def writesOf (pkg strct : String) : List (String × String × String) :=
  (writes.filter (fun w => w.pkg == pkg && w.strct == strct)).map (fun w => (w.fn, w.field, w.how))

/-- (function, field, value) of every composite-literal element of a component struct -/
def initsOf (pkg strct : String) : List (String × String × String) :=
  (inits.filter (fun i => i.pkg == pkg && i.strct == strct)).map (fun i => (i.fn, i.field, i.value))

def isPrefixL : List Char → List Char → Bool
  | [], _ => true
  | _ :: _, [] => false
  | a :: as, b :: bs => a == b && isPrefixL as bs

def containsL (needle : List Char) : List Char → Bool
  | [] => needle.isEmpty
  | c :: cs => isPrefixL needle (c :: cs) || containsL needle cs

/-- the type text mentions the name -/
def mentions (typ name : String) : Bool := containsL name.toList typ.toList

def isComponent (pkg strct : String) : Bool := components.contains (pkg, strct)

/-- kinds of a type that cannot remember anything by themselves -/
def plainKind (k : String) : Bool := k == "basic" || k == "local:basic"

end LiskVerif.NoHidden

open LiskVerif.Gen.CompState

/-- the components whose fields, methods and writers the tables below describe -/
theorem C05_components_exact :
    components =
      [("consensus/liskbft", "Module"), ("consensus/liskbft", "API"), ("consensus/liskbft", "Endpoint"),
       ("consensus/liskbft", "bftParamsCache"), ("blockchain", "Chain"), ("blockchain", "DataAccess"),
       ("blockchain", "blockCache"), ("consensus", "Executer")] := by decide +kernel

/-- **`liskbft.Module`, `API`, `Endpoint` hold configuration only**: the exact field lists.  A decoded-parameter
store, cached votes or heights, a mutex guarding shared data would be a new field. -/
theorem C05_bft_module_fields_exact :
    fieldsOf "consensus/liskbft" "Module" =
      [("batchSize", "int", "basic"), ("maxLengthBlock", "int", "basic"), ("api", "*API", "pointer"),
       ("endpoint", "*Endpoint", "pointer")] ∧
    fieldsOf "consensus/liskbft" "API" = [("moduleID", "uint32", "basic"), ("batchSize", "int", "basic")] ∧
    fieldsOf "consensus/liskbft" "Endpoint" = [("moduleID", "uint32", "basic")] := by decide +kernel

/-- **no method of the BFT module writes a receiver field, except `Init`** (and the `init` of API / Endpoint it
calls): the exact write tables; `NewModule` fills only the two component references, with empty objects. -/
theorem C05_bft_module_written_only_by_init :
    writesOf "consensus/liskbft" "Module" =
      [("Module.Init", "batchSize", "assign"), ("Module.Init", "maxLengthBlock", "assign")] ∧
    writesOf "consensus/liskbft" "API" = [("API.init", "moduleID", "assign"), ("API.init", "batchSize", "assign")] ∧
    writesOf "consensus/liskbft" "Endpoint" = [("Endpoint.init", "moduleID", "assign")] ∧
    initsOf "consensus/liskbft" "Module" = [("NewModule", "api", "&API{}"), ("NewModule", "endpoint", "&Endpoint{}")] ∧
    initsOf "consensus/liskbft" "API" = [] ∧ initsOf "consensus/liskbft" "Endpoint" = [] ∧
    ((methods.filter (fun m => m.pkg == "consensus/liskbft" && m.strct == "Module")).map (·.name)) =
      ["Init", "ID", "Name", "Endpoint", "API", "InitGenesisState", "BeforeTransactionsExecute"] := by decide +kernel

/-- **no map / slice / channel / function / struct / foreign-typed field in Module, API, Endpoint**; the only fields
that are not plain values are the two justified references `Module.api` and `Module.endpoint` — pointers to the two
components whose own fields are plain values (previous theorems), created once by `NewModule`. -/
theorem C05_bft_no_mutable_container_fields :
    ((fields.filter (fun f => f.pkg == "consensus/liskbft" &&
        (f.strct == "Module" || f.strct == "API" || f.strct == "Endpoint") && !plainKind f.kind)).map
      (fun f => (f.strct, f.name, f.typ))) = [("Module", "api", "*API"), ("Module", "endpoint", "*Endpoint")] ∧
    (fieldsOf "consensus/liskbft" "API").all (fun f => plainKind f.2.2) = true ∧
    (fieldsOf "consensus/liskbft" "Endpoint").all (fun f => plainKind f.2.2) = true :=
  ⟨by decide +kernel, by rw [C05_bft_module_fields_exact.2.1]; rfl, by rw [C05_bft_module_fields_exact.2.2]; rfl⟩

/-- **the decoded-parameter cache is per call**: `bftParamsCache` is the only struct of pkg/consensus/liskbft with a
map field; its single constructor creates the map (`make`) — it is not handed a map that lives elsewhere —; the
constructor is called exactly once, in `Module.BeforeTransactionsExecute`, and bound to a new local; no struct
field of the three packages has a type mentioning it (it is never stored); its writers are its own two methods. -/
theorem C05_params_cache_is_per_call :
    ((fields.filter (fun f => f.pkg == "consensus/liskbft" && f.kind == "map")).map (fun f => (f.strct, f.name, f.typ))) =
      [("bftParamsCache", "data", "map[uint32]*BFTParams")] ∧
    fieldsOf "consensus/liskbft" "bftParamsCache" =
      [("paramsStore", "statemachine.ImmutableStore", "extern"), ("data", "map[uint32]*BFTParams", "map")] ∧
    initsOf "consensus/liskbft" "bftParamsCache" =
      [("newBFTParamsCache", "paramsStore", "paramsStore"), ("newBFTParamsCache", "data", "make(map[uint32]*BFTParams)")] ∧
    ((ctorCalls.filter (fun c => c.callee == "newBFTParamsCache")).map (fun c => (c.fn, c.bind, c.target))) =
      [("Module.BeforeTransactionsExecute", "define", "paramsCache")] ∧
    (fields.filter (fun f => mentions f.typ "bftParamsCache")) = [] ∧
    writesOf "consensus/liskbft" "bftParamsCache" =
      [("bftParamsCache.cache", "data", "index-assign"), ("bftParamsCache.GetParameters", "data", "index-assign")] := by
  simp only [mentions, Strings.toList_eq_chars]
  decide +kernel

/-- **no package-level memo**: the package-level variables of the three packages that are not plain values are
constants in effect (the empty key, two sentinel errors, the empty hash, two signing tags, one compiled regular
expression), and NO function assigns to, appends to, indexes into or deletes from a package-level variable. -/
theorem C05_no_package_level_memo :
    ((globals.filter (fun g => !plainKind g.kind)).map (fun g => (g.pkg, g.name, g.kind, g.init))) =
      [("consensus/liskbft", "emptyKey", "slice", "[]byte{}"),
       ("consensus/liskbft", "ErrBFTParamsNotFound", "call", "errors.New(\"bFT parameters does not exist\")"),
       ("consensus/liskbft", "ErrGeneratorKeysNotFound", "call", "errors.New(\"generator keys does not exist\")"),
       ("blockchain", "emptyHash", "call", "crypto.Hash([]byte{})"),
       ("blockchain", "TagBlockHeader", "slice", "[]byte(\"LSK_BH_\")"),
       ("blockchain", "TagTransaction", "slice", "[]byte(\"LSK_TX_\")"),
       ("blockchain", "alphanumericRegex", "call", "regexp.MustCompile(\"^[a-zA-Z0-9]*$\")")] ∧
    globalWrites = [] := by decide +kernel

/-- **`blockchain.Chain` and `DataAccess`**: exact fields; `Chain` is written by `Chain.Init` only, `DataAccess` by
nobody after its constructor.  The one piece of memory below them is the block cache (next theorem). -/
theorem C05_chain_and_data_access_writes_exact :
    fieldsOf "blockchain" "Chain" =
      [("maxTransactionsLength", "uint32", "basic"), ("maxBlockCache", "int", "basic"), ("chainID", "codec.Hex", "extern"),
       ("keepEventsForHeights", "int", "basic"), ("database", "*db.DB", "pointer"), ("dataAccess", "*DataAccess", "pointer"),
       ("genesisBlock", "*Block", "pointer")] ∧
    writesOf "blockchain" "Chain" =
      [("Chain.Init", "database", "assign"), ("Chain.Init", "dataAccess", "assign"), ("Chain.Init", "genesisBlock", "assign")] ∧
    initsOf "blockchain" "Chain" =
      [("NewChain", "chainID", "cfg.ChainID"), ("NewChain", "maxTransactionsLength", "cfg.MaxTransactionsLength"),
       ("NewChain", "maxBlockCache", "cfg.MaxBlockCache"), ("NewChain", "keepEventsForHeights", "cfg.KeepEventsForHeights")] ∧
    fieldsOf "blockchain" "DataAccess" =
      [("database", "*db.DB", "pointer"), ("cache", "*blockCache", "pointer"), ("keepEventsForHeights", "int", "basic")] ∧
    writesOf "blockchain" "DataAccess" = [] ∧
    initsOf "blockchain" "DataAccess" =
      [("NewDataAccess", "database", "db"), ("NewDataAccess", "cache", "newBlockCache(maxCacheSize)"),
       ("NewDataAccess", "keepEventsForHeights", "keepEventsForHeights")] := by decide +kernel

/-- **the block cache is the memory of the chain, and exactly this**: six fields, of which two maps, a size and the
current height are written (the other two are `maxSize` and the mutex), by `push`, `pop` and `replace` only (the (method, field, how) table).  It IS part of the model
(`Node.St.cache`): `C05_cache_restored`, `C05_cached_tip_restored` and the C20CACHE correspondence
cover what it holds after apply / delete; a further memo next to it would be a new field or a new writer. -/
theorem C05_block_cache_writes_exact :
    fieldsOf "blockchain" "blockCache" =
      [("cachedBlocks", "map[string]*Block", "map"), ("heightIndex", "map[uint32]string", "map"), ("size", "int", "basic"),
       ("maxSize", "int", "basic"), ("currentHeight", "uint32", "basic"), ("mutex", "*sync.RWMutex", "pointer")] ∧
    writesOf "blockchain" "blockCache" =
      [("blockCache.push", "heightIndex", "delete"), ("blockCache.push", "cachedBlocks", "delete"),
       ("blockCache.push", "size", "incdec"), ("blockCache.push", "cachedBlocks", "index-assign"),
       ("blockCache.push", "heightIndex", "index-assign"), ("blockCache.push", "currentHeight", "assign"),
       ("blockCache.push", "size", "incdec"),
       ("blockCache.pop", "heightIndex", "delete"), ("blockCache.pop", "cachedBlocks", "delete"),
       ("blockCache.pop", "size", "incdec"), ("blockCache.pop", "currentHeight", "incdec"),
       ("blockCache.replace", "cachedBlocks", "assign"), ("blockCache.replace", "heightIndex", "assign"),
       ("blockCache.replace", "size", "assign"), ("blockCache.replace", "cachedBlocks", "index-assign"),
       ("blockCache.replace", "heightIndex", "index-assign"), ("blockCache.replace", "currentHeight", "assign"),
       ("blockCache.replace", "size", "incdec")] ∧
    ((fields.filter (fun f => f.pkg == "blockchain" && mentions f.typ "blockCache")).map (fun f => (f.strct, f.name))) =
      [("DataAccess", "cache")] := by
  simp only [mentions, Strings.toList_eq_chars]
  decide +kernel

/-- **`consensus.Executer`**: exact fields (configuration, component references, channels) and the exact write
table: `Init` fills six references; afterwards only `process` writes, and only `lastBlockReceived` (the receive
time of the tip: an INPUT of the fork-choice tie-break, `Incoming.flags.receivedLastBlockWithinForgingSlot` in
Model/Node.lean) and `syncying` (set around a sync).
Neither is read by `processValidated` / `deleteBlock` / `verifyBlock`; a cached height, store or parameter set
would be a new field or a new row. -/
theorem C05_executer_writes_exact :
    fieldsOf "consensus" "Executer" =
      [("blockTime", "uint32", "basic"), ("batchSize", "int", "basic"), ("abi", "labi.ABI", "extern"),
       ("chain", "*blockchain.Chain", "pointer"), ("conn", "*p2p.Connection", "pointer"),
       ("certificatePool", "*certificate.Pool", "pointer"), ("liskBFT", "*liskbft.Module", "pointer"),
       ("ctx", "context.Context", "extern"), ("database", "*db.DB", "pointer"), ("logger", "log.Logger", "extern"),
       ("blockSlot", "*validator.BlockSlot", "pointer"), ("syncying", "bool", "basic"),
       ("events", "*event.EventEmitter", "pointer"), ("processCh", "chan *ProcessContext", "chan"),
       ("closeCh", "chan bool", "chan"), ("syncer", "*sync.Syncer", "pointer"),
       ("lastBlockReceived", "*time.Time", "pointer"), ("certificateTime", "*time.Ticker", "pointer")] ∧
    writesOf "consensus" "Executer" =
      [("Executer.Init", "ctx", "assign"), ("Executer.Init", "logger", "assign"), ("Executer.Init", "database", "assign"),
       ("Executer.Init", "certificateTime", "assign"), ("Executer.Init", "blockSlot", "assign"),
       ("Executer.Init", "syncer", "assign"),
       ("Executer.process", "lastBlockReceived", "assign"), ("Executer.process", "lastBlockReceived", "assign"),
       ("Executer.process", "syncying", "assign"), ("Executer.process", "syncying", "assign")] ∧
    ((fields.filter (fun f => f.pkg == "consensus" && f.strct == "Executer" && (f.kind == "map" || f.kind == "slice"))) = []) := by
  suffices h : _ ∧ _ from
    ⟨h.1, h.2, Tables.filter_eq_nil_of_rows h.1 (fun t => t.2.2 == "map" || t.2.2 == "slice") rfl⟩
  decide +kernel

/-- the components are created once and wired by reference: the module inside `NewExecuter`, the data access layer
inside `Chain.Init`, the block cache inside `NewDataAccess`, the parameter cache per block (see above) -/
theorem C05_constructor_calls_exact :
    ctorCalls.map (fun c => (c.fn, c.callee, c.bind, c.target)) =
      [("Module.BeforeTransactionsExecute", "newBFTParamsCache", "define", "paramsCache"),
       ("Chain.Init", "NewDataAccess", "assign", "c.dataAccess"),
       ("NewDataAccess", "newBlockCache", "field-init", "DataAccess.cache"),
       ("NewExecuter", "liskbft.NewModule", "field-init", "Executer.liskBFT")] := by decide +kernel

/-- completeness of the write tables: every field of a component is unexported (no other package can assign it),
no map / slice field of a component is handed to a function, and no address of a component field is taken -/
theorem C05_component_fields_are_private :
    (fields.filter (fun f => isComponent f.pkg f.strct)).all
      (fun f => match f.name.toList with | c :: _ => c.isLower | [] => false) = true ∧
    passes = [] ∧
    (writes.filter (fun w => w.how == "addr" || w.how == "addr-nested" || w.how == "assign-all")) = [] := by
  simp only [Strings.toList_eq_chars]
  decide +kernel
