/-
C14 — Transaction pool keeps its indexes consistent, bounded and live.

Property theorems about `LiskVerif.Model.TxPool`, the sequential model of pkg/txpool (with the fixes
/verif/fixes/C14-*.patch).  The invariant `C14Inv` is defined in `LiskVerif/Lemmas/TxPoolInv.lean`, where its
preservation by `remove`, `evict`, `add` (insertion and replacement) and `reorg` is proved; the fee rule of a
replacement and the facts about promotion come from the exact forms in `Lemmas/TxPoolMore.lean`.

All statements quantify over every configuration with limits ≥ 1, every history `ops` (adds with any
verifier answer / publish answer / tie-break, removes, promotion rounds with any verifier function, block
applied / reverted notifications) started from the empty pool.

Liveness: every model operation is a total function (Lean's termination checker), i.e. the sequential
code of each pool method terminates; what can still block a call is a mutex.  `C14_no_reentrant_lock`
checks the lock discipline of the fixed source, written down as data (`fixedTable`, hand-extracted from
pkg/txpool/txpool.go and txlist.go): no path acquires a mutex it already holds, takes the pool mutex under
a list mutex, or waits for goroutines that need a mutex it holds.  `C14_original_self_deadlock` shows the
same check failing on the unpatched source (`Add` → `evictUnprocessable` → `RLock`).  The lock discipline of the
CURRENT source is checked on the skeletons regenerated from it, in Props/C14_Locks.lean; the hand table here
serves the comparison with the unpatched code.
-/
import LiskVerif.Lemmas.TxPoolMore

open LiskVerif LiskVerif.TxPool

theorem C14_inv_init (cfg : Cfg) : C14Inv cfg {} := init_inv cfg

theorem C14_inv_step (cfg : Cfg) (hmax : 1 ≤ cfg.maxTx) (hper : 1 ≤ cfg.maxPerAcct) (p : Pool)
    (h : C14Inv cfg p) (op : Op) : C14Inv cfg (applyOp cfg p op) := applyOp_inv hmax hper h op

theorem C14_inv_all (cfg : Cfg) (hmax : 1 ≤ cfg.maxTx) (hper : 1 ≤ cfg.maxPerAcct) (ops : List Op) :
    C14Inv cfg (run cfg ops) := run_inv hmax hper ops

/-- The three indexes agree: every pooled transaction sits in the list of its sender at its nonce,
every list entry is pooled and belongs to that sender, there is one list per sender, no list is empty,
and the fee queue holds exactly the pooled transactions. -/
theorem C14_indexes_agree (cfg : Cfg) (hmax : 1 ≤ cfg.maxTx) (hper : 1 ≤ cfg.maxPerAcct) (ops : List Op) :
    let p := run cfg ops
    (∀ t ∈ p.all, ∃ a, findAcct p.accts t.sender = some a ∧ a.get t.nonce = some t) ∧
    (∀ e ∈ p.accts, e.2.txs ≠ [] ∧ ∀ t ∈ e.2.txs, t ∈ p.all ∧ t.sender = e.1 ∧ e.2.get t.nonce = some t) ∧
    (p.accts.map (·.1)).Nodup ∧ (p.all.map (·.id)).Nodup ∧ p.heap.Perm p.all :=
  (run_inv hmax hper ops).indexes_agree

/-- Sizes stay within the configured limits. -/
theorem C14_bounded (cfg : Cfg) (hmax : 1 ≤ cfg.maxTx) (hper : 1 ≤ cfg.maxPerAcct) (ops : List Op) :
    (run cfg ops).all.length ≤ cfg.maxTx ∧ (run cfg ops).heap.length ≤ cfg.maxTx ∧
    ∀ e ∈ (run cfg ops).accts, e.2.txs.length ≤ cfg.maxPerAcct :=
  (run_inv hmax hper ops).sizes

/-- At most one transaction per sender and nonce; a transaction that takes an occupied slot evicts the old
one from all three indexes, and — unless the pool was full, in which case the capacity eviction may already
have removed the old one — it pays at least the old fee plus the configured minimum difference. -/
theorem C14_unique_nonce_and_replacement (cfg : Cfg) (hmax : 1 ≤ cfg.maxTx) (hper : 1 ≤ cfg.maxPerAcct)
    (ops : List Op) :
    let p := run cfg ops
    (∀ x ∈ p.all, ∀ y ∈ p.all, x.sender = y.sender → x.nonce = y.nonce → x = y) ∧
    ∀ (tx old : Tx) (v : Verdict) (pubOk : Bool) (tie : Nat),
      old ∈ p.all → old.sender = tx.sender → old.nonce = tx.nonce → old.id ≠ tx.id →
      let p' := (add cfg p tx v pubOk tie).1
      tx ∈ p'.all →
        (old ∉ p'.all ∧ old ∉ p'.heap ∧ ∀ e ∈ p'.accts, old ∉ e.2.txs) ∧
        (p.all.length < cfg.maxTx → old.fee + cfg.minFeeDiff ≤ tx.fee) := by
  intro p
  have h : C14Inv cfg p := run_inv hmax hper ops
  refine ⟨fun x hx y hy hs hn => inv_unique_slot h hx hy hs hn, ?_⟩
  intro tx old v pubOk tie hold hs hn hne p' hin
  have h' : C14Inv cfg p' := add_inv hmax hper h tx v pubOk tie
  have hgone : old ∉ p'.all := by
    intro ho
    exact hne (congrArg Tx.id (inv_unique_slot h' ho hin hs hn))
  refine ⟨⟨hgone, fun ho => hgone (h'.heapPerm.mem_iff.1 ho), fun e he ho => hgone (h'.acctInAll e he old ho)⟩, ?_⟩
  intro hroom
  exact add_replacement_fee hmax h tx old v pubOk tie hold hs hn hne hroom hin

/-- Each sender's processable set is strictly ascending without gaps and every processable nonce has its
transaction in the list. -/
theorem C14_processable_gapfree (cfg : Cfg) (hmax : 1 ≤ cfg.maxTx) (hper : 1 ≤ cfg.maxPerAcct) (ops : List Op) :
    ∀ e ∈ (run cfg ops).accts,
      e.2.proc.Pairwise (· < ·) ∧
      (∀ x ∈ e.2.proc, ∀ y ∈ e.2.proc, ∀ z, x ≤ z → z ≤ y → z ∈ e.2.proc) ∧
      (∀ n ∈ e.2.proc, ∃ t, e.2.get n = some t) :=
  (run_inv hmax hper ops).processable_gapfree

/-- Only a promotion round makes a transaction processable, and only if the verifier function of that round does
not answer `invalid` for it (an answer `pending` is treated like `ok` by `verifyTransactions`
— see `C14_finding_pending_promoted`). -/
theorem C14_promotion_verified (cfg : Cfg) (hmax : 1 ≤ cfg.maxTx) (hper : 1 ≤ cfg.maxPerAcct) (ops : List Op)
    (op : Op) (t : Tx) (ht : isProc (applyOp cfg (run cfg ops) op) t) :
    isProc (run cfg ops) t ∨ ∃ v, op = Op.reorg v ∧ v t.id ≠ Verdict.invalid :=
  applyOp_isProc hmax hper (run_inv hmax hper ops) op t ht

/-- `removeLocked` never dereferences a missing sender list (no nil-pointer panic). -/
theorem C14_no_panic (cfg : Cfg) (hmax : 1 ≤ cfg.maxTx) (hper : 1 ≤ cfg.maxPerAcct) (ops : List Op) :
    (run cfg ops).fault = false := (run_inv hmax hper ops).noFault

/-- Lock discipline of the fixed source: no entry point re-acquires a mutex it holds, violates the lock
order pool → list, or waits for goroutines needing a held mutex; every entry point releases what it took. -/
theorem C14_no_reentrant_lock : lockCheck fixedTable = true := lockCheck_fixedTable

/-- The unpatched source fails the same check: `Add` holds the pool mutex and calls `evictUnprocessable`,
which read-locks it again (and `remove`, which locks it) — a self-deadlock once the pool is full. -/
theorem C14_original_self_deadlock : lockCheck originalTable = false ∧ (walk originalTable 8 Fn.AddTx {}).ok = false := by
  decide

/-- Known finding (kept in the model as the code behaves): a transaction the verifier answered `pending`
is promoted to processable. -/
theorem C14_finding_pending_promoted :
    let cfg : Cfg := { maxTx := 4, maxPerAcct := 4, minFeeDiff := 1, minEntrance := 0 }
    let t : Tx := { id := 7, sender := 1, nonce := 5, fee := 1000, size := 100 }
    let p := run cfg [Op.add { tx := t, v := .pending, pubOk := true, tie := 0 }, Op.reorg (fun _ => .pending)]
    p.accts.map (fun e => (e.1, e.2.proc)) = [(1, [5])] := by
  decide

/-! ### non-vacuity -/

namespace C14Examples

def cfg : Cfg := { maxTx := 2, maxPerAcct := 2, minFeeDiff := 10, minEntrance := 0 }
def t1 : Tx := { id := 1, sender := 1, nonce := 0, fee := 1000, size := 100 }
def t2 : Tx := { id := 2, sender := 1, nonce := 0, fee := 5000, size := 100 }
def t2low : Tx := { id := 5, sender := 1, nonce := 0, fee := 1009, size := 100 }
def t3 : Tx := { id := 3, sender := 2, nonce := 0, fee := 9000, size := 100 }
def t4 : Tx := { id := 4, sender := 3, nonce := 0, fee := 99000, size := 100 }
def arg (t : Tx) : AddArg := { tx := t, v := .ok, pubOk := true, tie := 0 }

/-- replacement with a sufficient fee removes the old transaction from every index; then the pool fills up
and the fourth transaction evicts the cheapest one (this history deadlocks the unpatched code) -/
example : (run cfg [.add (arg t1), .add (arg t2), .add (arg t3), .add (arg t4)]).all.map (·.id) = [4, 3] := by decide
example : (run cfg [.add (arg t1), .add (arg t2)]).heap.map (·.id) = [2] := by decide
/-- below the minimum fee difference the old transaction stays -/
example : (run cfg [.add (arg t1), .add (arg t2low)]).all.map (·.id) = [1] := by decide
/-- promotion of a gap-free run; an invalid verdict promotes the prefix before it and drops the rest -/
example :
    let a : Tx := { id := 10, sender := 1, nonce := 0, fee := 1000, size := 100 }
    let b : Tx := { id := 11, sender := 1, nonce := 1, fee := 1000, size := 100 }
    let c5 : Cfg := { maxTx := 5, maxPerAcct := 2, minFeeDiff := 10, minEntrance := 0 }
    (run c5 [.add (arg a), .add (arg b), .reorg (fun _ => .ok)]).accts.map (fun e => e.2.proc) = [[0, 1]] ∧
    (let q := run c5 [.add (arg a), .add (arg b), .reorg (fun id => if id = 11 then .invalid else .ok)]
     q.all.map (·.id) = [10] ∧ q.accts.map (fun e => e.2.proc) = [[0]]) := by
  decide
example : ∃ p t, isProc p t :=
  ⟨{ accts := [(1, { txs := [t1], proc := [0] })] }, t1, _, List.mem_cons_self, List.mem_cons_self, List.mem_cons_self⟩

end C14Examples
