/-
C10 (proof side) — statements and checks about the transcription of pkg/trie/smt `Verify` / `CalculateRoot` /
`Prove` (Model/SMTVerify.lean, the code after fixes/C10-*.patch).

Proved here: every accepted proof passed the structural checks that make the rest of `Verify` panic free
(key lengths, height bound); `Verify` on a single query refines the specification verifier `SMT.verify1`
(`C10_verify_single_refines`; `verifySingle` = `verify1` on the wire format is compared with Go `Verify` on every
single-query proof of every run), hence is sound (`C10_multi_sound_partial`, by Props/C10.lean); kernel-evaluated
regression examples for the six defects found in the unfixed code.  The idealised multi-key statements
`C10_multi_sound_Statement` / `C10_multi_complete_Statement` are defined here and settled in Props/C10_Multi.lean: the
first is proved, the second is false for the empty key list and proved for non-empty ones.
-/
import LiskVerif.Lemmas.SMTVerify
import LiskVerif.Props.C10

open LiskVerif LiskVerif.SMT LiskVerif.SMTVerify

/-- full multi-key soundness of `verify`: for a stored map and a hash without collisions, an accepted proof
shows for every queried key what the map holds. -/
def C10_multi_sound_Statement : Prop :=
  ∀ (H : HashFn) (n : Nat), (∀ x, (H x).length = n) → (∀ a b, H a = H b → a = b) →
    ∀ (keyLen : Nat) (m : List KV), C10Map keyLen m →
      ∀ (keys : List Bytes) (proof : Proof),
        verify H keys proof (mapRoot H keyLen m) keyLen = .ok true →
          ∀ i (hi : i < keys.length) (hq : i < proof.queries.length),
            claim keys[i] proof.queries[i] = mget m keys[i]

/-- full multi-key completeness: the proof generated for any list of keys of the right length verifies and
shows what the map holds. -/
def C10_multi_complete_Statement : Prop :=
  ∀ (H : HashFn) (n : Nat), (∀ x, (H x).length = n) → (∀ a b, H a = H b → a = b) →
    ∀ (keyLen : Nat) (m : List KV), C10Map keyLen m →
      ∀ (keys : List Bytes), (∀ k ∈ keys, k.length = keyLen) →
        ∃ proof, prove H keyLen (buildH H (8 * keyLen) (entriesOf m)) keys = some proof ∧
          verify H keys proof (mapRoot H keyLen m) keyLen = .ok true ∧
          ∀ i (hi : i < keys.length) (hq : i < proof.queries.length),
            claim keys[i] proof.queries[i] = mget m keys[i]

/-! ### structural checks of accepted proofs -/

/-- an accepted proof has as many queries as keys, all queried and all proven keys have the key length of the
tree, and no proven node is deeper than the key has bits — the facts that keep `binaryPath` / `binaryKey`
indexing of `CalculateRoot` in range (defects 1 and 2 of the unfixed code). -/
theorem C10_verify_accepts_only_wellformed (H : HashFn) (keys : List Bytes) (proof : Proof) (rt : Bytes)
    (keyLen : Nat) (h : verify H keys proof rt keyLen = .ok true) :
    keys.length = proof.queries.length ∧ (∀ k ∈ keys, k.length = keyLen) ∧
    (∀ q ∈ proof.queries, q.key.length = keyLen ∧
      (stripPrefixFalse (toBools q.bitmap)).length ≤ 8 * keyLen) := by
  obtain ⟨hl, hnone, -⟩ := verify_ok_true h
  refine ⟨hl, ?_, ?_⟩
  · intro k hk
    obtain ⟨i, hi, rfl⟩ := List.getElem_of_mem hk
    obtain ⟨_, hone⟩ := checkQueries_getElem _ _ _ hnone i hi (hl ▸ hi)
    obtain ⟨hk, -⟩ := checkOne_eq_none.mp hone
    exact hk
  · intro q hq
    obtain ⟨i, hi, rfl⟩ := List.getElem_of_mem hq
    obtain ⟨_, hone⟩ := checkQueries_getElem _ _ _ hnone i (hl ▸ hi) hi
    obtain ⟨-, hqk, -, -, hqh, -⟩ := checkOne_eq_none.mp hone
    exact ⟨hqk, hqh⟩

/-! ### the transcription of `Verify` on a single query refines the specification verifier -/

/-- **`Verify` with one query implies the specification verifier**: whatever single-query proof the transcribed
`Verify` accepts, `SMT.verify1` accepts too (on the same data in its top-down format). -/
theorem C10_verify_single_refines (H : HashFn) (keyLen : Nat) (qk : Bytes) (q : Query) (sibs : List Bytes)
    (rt : Bytes) (h : verify H [qk] ⟨sibs, [q]⟩ rt keyLen = .ok true) :
    verifySingle H keyLen qk q sibs rt = true := by
  obtain ⟨-, hnone, filtered, hfilt, hr⟩ := verify_ok_true h
  obtain ⟨seen, hone⟩ := checkQueries_getElem _ _ _ hnone 0 (by simp) (by simp)
  obtain ⟨hqk, hkey, -, hhead, hh, hpre⟩ := checkOne_eq_none.mp (show checkOne keyLen qk q seen = none from hone)
  simp only [filterQueries, List.find?_nil, List.reverse_cons, List.reverse_nil, List.nil_append,
    Option.some.injEq] at hfilt
  subst hfilt
  simp only [calculateRoot, sortQPs, isort, insertBy] at hr
  have hbits : (stripPrefixFalse (toBools q.bitmap)).length ≤ (toBools q.key).length := by
    unfold toBools; rw [keyBits_length, hkey]; exact hh
  have hrec := calcLoop_single H q.key q.value _ _ _ _ _ hbits hr
  unfold verifySingle verify1 toProof1
  simp only [List.length_reverse, hqk, hkey, decide_true, hh, Bool.true_and, Bool.and_eq_true,
    bne_iff_ne, ne_eq, Bool.or_eq_true, decide_eq_true_eq]
  refine ⟨hhead, hpre.imp_left Eq.symm, ?_⟩
  rw [nodeHash_eq_mkQP H _ _ _ _ (stripPrefixFalse (toBools q.bitmap))]
  exact hrec

/-- **Soundness of the transcribed `Verify` for single-key proofs** (the `|queries| = 1` part of
`C10_multi_sound_Statement`): an accepted single-query proof shows what the map holds for the queried key,
provided `H` has no collision between the inputs hashed by the verifier and those of the tree. -/
theorem C10_multi_sound_partial (H : HashFn) (n : Nat) (hlen : ∀ x, (H x).length = n) (keyLen : Nat)
    (m : List KV) (hm : C10Map keyLen m) (qk : Bytes) (q : Query) (sibs : List Bytes)
    (hnc : NoColl H (C10VerifyInputs H (toProof1 q sibs)) (treeInputs H (8 * keyLen) (entriesOf m)))
    (h : verify H [qk] ⟨sibs, [q]⟩ (mapRoot H keyLen m) keyLen = .ok true) :
    claim qk q = mget m qk := by
  have hs := C10_verify_single_refines H keyLen qk q sibs _ h
  unfold verifySingle at hs
  simp only [Bool.and_eq_true] at hs
  have := C10_verify_sound H n hlen keyLen m hm qk (toProof1 q sibs) hnc hs.2
  exact (show claim qk q = claim1 qk (toProof1 q sibs) from rfl).trans this

/-! ### regression examples (kernel evaluation of the transcription with the toy hash of Props/C10.lean)

The six defects of the unfixed `Verify` / `CalculateRoot`, on a three-key map with 1-byte keys: the honest proofs
are accepted, every forgery is refused. -/

def C10exMap2 : List KV := [([0x40], [1, 1]), ([0xC0], [2, 2]), ([0x41], [3, 3])]
def C10exRoot2 : Bytes := mapRoot C10toyH 1 C10exMap2
def C10exProve (keys : List Bytes) : Proof :=
  (prove C10toyH 1 (buildH C10toyH 8 (entriesOf C10exMap2)) keys).getD ⟨[], []⟩

-- present, absent (other leaf), absent (empty node) and mixed queries verify; claims are those of the map
example : verify C10toyH [[0xC0]] (C10exProve [[0xC0]]) C10exRoot2 1 = .ok true := by decide +kernel
example : verify C10toyH [[0x41], [0xC1], [0x00], [0x40]] (C10exProve [[0x41], [0xC1], [0x00], [0x40]]) C10exRoot2 1
    = .ok true := by decide +kernel
example : (C10exProve [[0x41], [0xC1], [0x00]]).queries.map (fun q => (q.key, q.value)) =
    [([0x41], [3, 3]), ([0xC0], [2, 2]), ([0x00], [])] := by decide +kernel

-- defect 1: key/value boundary of the proven leaf shifted (would be an exclusion proof of the stored key c0)
example : verify C10toyH [[0xC0]]
    { C10exProve [[0xC0]] with queries := [⟨[0xC0, 2], [2], ((C10exProve [[0xC0]]).queries.map (·.bitmap)).headD []⟩] }
    C10exRoot2 1 = .ok false := by decide +kernel
-- defect 2: bitmap longer than the key (the Go code sliced out of range)
example : verify C10toyH [[0xC0]] { C10exProve [[0xC0]] with queries := [⟨[0xC0], [2, 2], [1, 0]⟩] }
    C10exRoot2 1 = .ok false := by decide +kernel
-- defect 3: forged claim whose zero-padded path (00000001) collides with the path (1) of the proven node
example : verify C10toyH [[0xC0], [0x01]]
    { C10exProve [[0xC0]] with queries := (C10exProve [[0xC0]]).queries ++ [⟨[0x01], [9, 9], [0x80]⟩] }
    C10exRoot2 1 ≠ .ok true := by decide +kernel
-- defect 4: second, different claim at the position of a proven node (inclusion of the absent key c1)
example : verify C10toyH [[0xC0], [0xC1]]
    { C10exProve [[0xC0]] with queries := (C10exProve [[0xC0]]).queries ++
        [⟨[0xC1], [9, 9], ((C10exProve [[0xC0]]).queries.map (·.bitmap)).headD []⟩] }
    C10exRoot2 1 = .ok false := by decide +kernel
-- defect 5: bogus deeper query below the proven node with a junk sibling hash to climb on
example : verify C10toyH [[0xC0], [0x80]]
    { siblings := [9, 9] :: (C10exProve [[0xC0]]).siblings,
      queries := (C10exProve [[0xC0]]).queries ++ [⟨[0x80], [9, 9], [0x02]⟩] }
    C10exRoot2 1 ≠ .ok true := by decide +kernel
-- defect 6: unused sibling hash
example : verify C10toyH [[0xC0]]
    { C10exProve [[0xC0]] with siblings := (C10exProve [[0xC0]]).siblings ++ [[9, 9]] }
    C10exRoot2 1 = .err := by decide +kernel
-- wrong root
example : verify C10toyH [[0xC0]] (C10exProve [[0xC0]]) (C10toyH [1]) 1 = .ok false := by decide +kernel

-- non-vacuity of `C10_multi_sound_partial` / `C10_verify_single_refines`: the hypotheses hold for the honest
-- single-key proofs of a stored key (0x41) and of an absent key (0x43, ends in an empty node)
theorem C10exMap2_ok : C10Map 1 C10exMap2 :=
  ⟨by show (C10exMap2.map Prod.fst).Nodup; decide, by show ∀ kv ∈ C10exMap2, kv.1.length = 1; decide,
   by show ∀ kv ∈ C10exMap2, kv.2 ≠ []; decide⟩

example : (C10exProve [[0x41]]).queries = [⟨[0x41], [3, 3], [0x81]⟩] ∧
    (C10exProve [[0x43]]).queries = [⟨[0x43], [], [0x41]⟩] := by decide +kernel

example : claim [0x41] ⟨[0x41], [3, 3], [0x81]⟩ = mget C10exMap2 [0x41] :=
  C10_multi_sound_partial C10toyH 2 C10toyH_length 1 C10exMap2 C10exMap2_ok [0x41] ⟨[0x41], [3, 3], [0x81]⟩
    (C10exProve [[0x41]]).siblings (noColl_of_check (by decide +kernel)) (by decide +kernel)

example : claim [0x43] ⟨[0x43], [], [0x41]⟩ = mget C10exMap2 [0x43] :=
  C10_multi_sound_partial C10toyH 2 C10toyH_length 1 C10exMap2 C10exMap2_ok [0x43] ⟨[0x43], [], [0x41]⟩
    (C10exProve [[0x43]]).siblings (noColl_of_check (by decide +kernel)) (by decide +kernel)
