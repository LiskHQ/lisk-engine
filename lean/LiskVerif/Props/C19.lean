/-
C19 — Sync picks the best peer, serves correct chain segments, converges safely.

Theorems about `LiskVerif.Model.Sync`, the model of pkg/consensus/sync with the fixes fixes/C19-*.patch applied.
Peer selection: for EVERY iteration order of the Go map and EVERY value of `rand.Intn` the selected peer has the largest
maxHeightPrevoted, among those the largest height, among those a most frequent block id, and `possibleBest` (what the
harness compares with) is exactly the set of answers; the unfixed loop returns a least frequent id.  The two RPC
handlers that take an argument (`handleHighestCommon`, `handleBlocksFromID`) and the three height helpers do what
sync.go says.  The fast synchroniser is a plan over a requester chain and a peer behaviour: against EVERY peer a
failed round restores the original chain, against an honest peer inside the two-round window it ends on the peer's
chain, and neither synchroniser ever touches a block at or below the finalized height.
-/
import LiskVerif.Lemmas.SyncMore

open LiskVerif LiskVerif.Sync

/-! ## Peer selection -/

/-- the members of `l` that agree with `t` on maxHeightPrevoted and height -/
def C19sameTop {ι : Type} (l : List (Tip ι)) (t : Tip ι) : List (Tip ι) :=
  l.filter (fun v => v.height == t.height && v.mhp == t.mhp)

private theorem topGroup_eq_sameTop {ι : Type} (l : List (Tip ι)) (t : Tip ι) (ht : t ∈ topGroup l) :
    topGroup l = C19sameTop l t ∧ t ∈ l ∧ (∀ u ∈ l, u.mhp ≤ t.mhp) ∧ (∀ u ∈ l, u.mhp = t.mhp → u.height ≤ t.height) := by
  unfold topGroup at ht ⊢
  have h2 := (mem_largestBy (·.height) _ t).mp ht
  have h1 := (mem_largestBy (·.mhp) l t).mp h2.1
  refine ⟨?_, h1.1, h1.2, ?_⟩
  · rw [largestBy_eq_of_mem (·.height) _ t ht, largestBy_eq_of_mem (·.mhp) l t h2.1, List.filter_filter]
    rfl
  · intro u hu hmu
    apply h2.2 u
    rw [mem_largestBy]
    exact ⟨hu, fun w hw => by rw [hmu]; exact h1.2 w hw⟩

/-- **Best peer.** Whatever order Go's map iteration visits the block ids in (`order`: any list that
contains them) and whatever `rand.Intn` returns (`rnd`), the peer selected by the fixed
`getBestNodeInfo` has the largest maxHeightPrevoted, among those the largest height, and among those
a block id that no other id beats in frequency; and it is a member of the set `possibleBest`. -/
theorem C19_best_peer {ι : Type} [DecidableEq ι] (l : List (Tip ι)) (order : List ι) (rnd : Nat) (t : Tip ι)
    (hord : ∀ u ∈ l, u.id ∈ order) (h : bestWith order rnd l = some t) :
    t ∈ l ∧ (∀ u ∈ l, u.mhp ≤ t.mhp) ∧ (∀ u ∈ l, u.mhp = t.mhp → u.height ≤ t.height) ∧
    (∀ u ∈ l, u.mhp = t.mhp → u.height = t.height →
      countId (C19sameTop l t) u.id ≤ countId (C19sameTop l t) t.id) ∧
    t ∈ possibleBest l := by
  unfold bestWith at h
  have htg := List.mem_of_getElem? h
  unfold mostFrequentWith at htg
  cases hp : pickLoop (countId (topGroup l)) order 0 none with
  | none => rw [hp] at htg; cases htg
  | some i =>
    rw [hp] at htg
    simp only [List.mem_filter, decide_eq_true_eq] at htg
    obtain ⟨htG, hti⟩ := htg
    obtain ⟨_, hn⟩ | ⟨i', _, hi', _, hmax⟩ := pickLoop_eq (countId (topGroup l)) order 0 none
    · rw [hp] at hn; cases hn
    obtain rfl : i' = i := Option.some.inj (hi'.symm.trans hp)
    obtain ⟨hG, htl, hm, hh⟩ := topGroup_eq_sameTop l t htG
    refine ⟨htl, hm, hh, ?_, ?_⟩
    · intro u hu _ _
      rw [← hG, hti]
      exact hmax u.id (hord u hu)
    · unfold possibleBest
      simp only [List.mem_filter, List.all_eq_true, decide_eq_true_eq]
      refine ⟨htG, fun u hu => ?_⟩
      rw [hti]
      exact hmax u.id (hord u (topGroup_eq_sameTop l u hu).2.1)

/-- The selection never fails on a non-empty list (in particular `rand.Intn` is never called with 0). -/
theorem C19_best_peer_total {ι : Type} [DecidableEq ι] (l : List (Tip ι)) (order : List ι) (rnd : Nat)
    (hl : l ≠ []) (hord : ∀ u ∈ l, u.id ∈ order) : ∃ t, bestWith order rnd l = some t := by
  have hG : topGroup l ≠ [] := largestBy_ne_nil _ _ (largestBy_ne_nil _ _ hl)
  obtain ⟨x, hx⟩ := List.exists_mem_of_ne_nil _ hG
  have hxpos := countId_pos_of_mem (topGroup l) x hx
  obtain ⟨hall, _⟩ | ⟨i, _, hi, hipos, _⟩ := pickLoop_eq (countId (topGroup l)) order 0 none
  · exact absurd (hall x.id (hord x (topGroup_eq_sameTop l x hx).2.1)) (Nat.not_le.mpr hxpos)
  unfold bestWith mostFrequentWith
  rw [hi]
  simp only
  have hlen : (List.filter (fun t => decide (t.id = i)) (topGroup l)).length > 0 := hipos
  have hlt := Nat.mod_lt rnd hlen
  exact ⟨_, List.getElem?_eq_getElem hlt⟩

/-- Every member of `possibleBest` is an answer of `getBestNodeInfo` for some iteration order of the
map and some random value: the set the harness compares the implementation with is exact. -/
theorem C19_best_peer_all_reachable {ι : Type} [DecidableEq ι] (l : List (Tip ι)) (t : Tip ι)
    (ht : t ∈ possibleBest l) :
    ∃ order rnd, (∀ u ∈ l, u.id ∈ order) ∧ bestWith order rnd l = some t := by
  unfold possibleBest at ht
  simp only [List.mem_filter, List.all_eq_true, decide_eq_true_eq] at ht
  obtain ⟨htG, hall⟩ := ht
  have hcnt : ∀ j, countId (topGroup l) j ≤ countId (topGroup l) t.id := by
    intro j
    by_cases h0 : countId (topGroup l) j = 0
    · omega
    · have hne : (topGroup l).filter (fun u => decide (u.id = j)) ≠ [] := by
        intro h; apply h0; unfold countId; rw [h]; rfl
      obtain ⟨w, hw⟩ := List.exists_mem_of_ne_nil _ hne
      simp only [List.mem_filter, decide_eq_true_eq] at hw
      rw [← hw.2]; exact hall w hw.1
  have htpos := countId_pos_of_mem (topGroup l) t htG
  have hpick : pickLoop (countId (topGroup l)) (t.id :: l.map (·.id)) 0 none = some t.id := by
    simp only [pickLoop, htpos, if_true]
    obtain ⟨_, heq⟩ | ⟨i, _, _, hlt, _⟩ := pickLoop_eq (countId (topGroup l)) (l.map (·.id)) (countId (topGroup l) t.id) (some t.id)
    · exact heq
    · exact absurd (hcnt i) (Nat.not_le.mpr hlt)
  have htg : t ∈ (topGroup l).filter (fun u => decide (u.id = t.id)) := by simp [htG]
  obtain ⟨k, hk, hkt⟩ := List.getElem_of_mem htg
  refine ⟨t.id :: l.map (·.id), k, ?_, ?_⟩
  · intro u hu
    exact List.mem_cons_of_mem _ (List.mem_map_of_mem hu)
  · unfold bestWith mostFrequentWith
    rw [hpick]
    simp only
    rw [Nat.mod_eq_of_lt hk, List.getElem?_eq_getElem hk, hkt]

/-- The three peers `{A, A, B}` with equal maxHeightPrevoted and height. -/
def C19threePeers : List (Tip Nat) := [⟨0, 10, 5, 1⟩, ⟨1, 10, 5, 1⟩, ⟨2, 10, 5, 2⟩]

/-- **The unfixed rule.** `max` is never updated, so the id visited last wins: when the map iteration
visits `A` before `B`, the original `getBestNodeInfo` answers the peer whose block id `B` is reported
by one peer although `A` is reported by two; that peer is not a correct answer, and the fixed rule
never gives it. -/
theorem C19_best_peer_original_counterexample :
    bestOrigWith [1, 2] 0 C19threePeers = some ⟨2, 10, 5, 2⟩ ∧
    countId C19threePeers 2 < countId C19threePeers 1 ∧
    (⟨2, 10, 5, 2⟩ : Tip Nat) ∉ possibleBest C19threePeers ∧
    (∀ order rnd, (∀ u ∈ C19threePeers, u.id ∈ order) →
      bestWith order rnd C19threePeers ≠ some ⟨2, 10, 5, 2⟩) := by
  refine ⟨by decide, by decide, by decide, ?_⟩
  intro order rnd hord h
  have := (C19_best_peer C19threePeers order rnd _ hord h).2.2.2.2
  revert this
  decide

/-- non-vacuity: with three peers `{A, A, B}` the fixed rule answers one of the two `A` peers -/
example : bestWith [2, 1] 1 C19threePeers = some ⟨1, 10, 5, 1⟩ := by decide
example : possibleBest C19threePeers = [⟨0, 10, 5, 1⟩, ⟨1, 10, 5, 1⟩] := by decide

/-! ## The RPC handlers -/

section Handlers
variable {ι : Type} [DecidableEq ι]

/-- **Highest common block.** For a request carrying the ids `ids`, the handler
* bans exactly when the list is empty or contains an id of the wrong length;
* answers "none" exactly when no requested id is on the responder's chain `c`;
* otherwise answers a requested id that is on `c`, and no requested id is on `c` at a greater height.
If the requested ids are taken from the requester's chain `q`, the answer is on both chains. -/
theorem C19_highest_common_block (okLen : ι → Bool) (c : List (Blk ι)) (ids : List ι) :
    match handleHighestCommon okLen c (some ids) with
    | .ban => ids = [] ∨ ∃ i ∈ ids, okLen i = false
    | .none => ids ≠ [] ∧ (∀ i ∈ ids, okLen i = true) ∧ ∀ i ∈ ids, heightOf c i = none
    | .id i =>
      ids ≠ [] ∧ (∀ j ∈ ids, okLen j = true) ∧ i ∈ ids ∧
      (∃ h, heightOf c i = some h ∧ ∀ j ∈ ids, ∀ hj, heightOf c j = some hj → hj ≤ h) ∧
      (∀ q : List (Blk ι), (∀ j ∈ ids, j ∈ q.map (·.id)) → i ∈ q.map (·.id) ∧ i ∈ c.map (·.id)) := by
  cases h : handleHighestCommon okLen c (some ids) with
  | ban => exact (handleHighestCommon_eq_ban_iff okLen c ids).mp h
  | none => exact (handleHighestCommon_eq_none_iff okLen c ids).mp h
  | id i =>
    obtain ⟨h1, h2, h3, hh, h4, h5⟩ := (handleHighestCommon_eq_id_iff okLen c ids i).mp h
    obtain ⟨⟨b, hb, hbi⟩, _⟩ := (heightOf_eq_some_iff c i hh).mp h4
    exact ⟨h1, h2, h3, ⟨hh, h4, h5⟩, fun q hq => ⟨hq i h3, List.mem_map.mpr ⟨b, List.mem_of_getElem? hb, hbi⟩⟩⟩

/-- **Blocks from id.** The answer to a well-formed request for id `i` that is on the responder's
chain at height `h` consists of the blocks of heights `h+1, h+2, …` of that chain, consecutive and in
ascending order, as many as there are up to the cap of 103. -/
theorem C19_blocks_from_id (okLen : ι → Bool) (c : List (Blk ι)) (i : ι) (l : List (Blk ι))
    (hres : handleBlocksFromID okLen c (some i) = .blocks l) :
    okLen i = true ∧ ∃ h, heightOf c i = some h ∧
      l.length ≤ maxBlocksPerResponse ∧
      l.length = min maxBlocksPerResponse (c.length - 1 - h) ∧
      ∀ k, k < l.length → l[k]? = c[h + 1 + k]? := by
  rw [handleBlocksFromID_some] at hres
  by_cases hok : okLen i = true
  · rw [if_pos hok] at hres
    cases hh : heightOf c i with
    | none => rw [hh] at hres; cases hres
    | some h =>
      rw [hh] at hres
      have hlt := heightOf_lt_length c i h hh
      obtain rfl := BfiOut.blocks.inj hres
      refine ⟨hok, h, rfl, ?_, ?_, fun k hk => ?_⟩
      · rw [List.length_take]; exact Nat.min_le_left _ _
      · rw [List.length_take, List.length_drop, Nat.sub_sub, Nat.add_comm 1 h]
      · rw [List.getElem?_take_of_lt (Nat.lt_min.mp (List.length_take ▸ hk)).1, List.getElem?_drop]
  · rw [if_neg hok] at hres
    cases hres

/-- Requests without a decodable body, without ids, or with an id that is not 32 bytes long are
answered by banning the requester (nothing is written). -/
theorem C19_malformed_requests_banned (okLen : ι → Bool) (c : List (Blk ι)) :
    handleHighestCommon okLen c none = .ban ∧
    handleHighestCommon okLen c (some []) = .ban ∧
    (∀ ids, (∃ i ∈ ids, okLen i = false) → handleHighestCommon okLen c (some ids) = .ban) ∧
    handleBlocksFromID okLen c none = .ban ∧
    (∀ i, okLen i = false → handleBlocksFromID okLen c (some i) = .ban) := by
  refine ⟨rfl, rfl, ?_, rfl, ?_⟩
  · intro ids ⟨i, hi, hok⟩
    cases ids with
    | nil => cases hi
    | cons a r =>
      simp only [handleHighestCommon]
      have : (a :: r).all okLen = false := by
        rw [List.all_eq_false]; exact ⟨i, hi, by simp [hok]⟩
      simp [this]
  · intro i hok
    simp [handleBlocksFromID, hok]

end Handlers

/-- non-vacuity: chain of five blocks; ids 3 and 1 are requested with an unknown id 9 -/
def C19chain5 : List (Blk Nat) := (List.range 5).map fun h => { id := h, prev := h - 1, height := h }
example : handleHighestCommon (fun _ => true) C19chain5 (some [1, 9, 3]) = .id 3 := by decide
example : handleBlocksFromID (fun _ => true) C19chain5 (some 2) = .blocks (C19chain5.drop 3) := by decide

/-! ## Height helpers -/

/-- **Height arithmetic** (no `uint32` overflow: `start < 2^32`, `minimum + num*gap < 2^32`).
* `getHeightWithGap start minimum gap num` is `[minimum]` when `start ≤ minimum`; otherwise it is
  `start, start-gap, start-2·gap, …`: at most `num-1` heights, all `≥ minimum`, and it stops early
  only when the next height would be below `minimum`.  In all cases every element lies between
  `minimum` and `max start minimum`.
* `getLastHeights start num` is `start, start-1, …`: `min (num-1) (start+1)` heights.
* `getCommonBlockStartSearchHeight h r` (`r ≥ 1`) is a multiple of `r`, at most `h`, within `r` of
  `h`, and strictly below `h` when `h > 0` (the largest multiple of `r` strictly below `h`). -/
theorem C19_heights_arith :
    (∀ start minimum gap num, start < two32 → minimum + num * gap < two32 →
      (start ≤ minimum → getHeightWithGap start minimum gap num = [minimum]) ∧
      (minimum < start → ∃ k, k ≤ num - 1 ∧
        getHeightWithGap start minimum gap num = (List.range k).map (fun j => start - j * gap) ∧
        (∀ j, j < k → minimum + j * gap ≤ start) ∧ (k < num - 1 → start < minimum + k * gap)) ∧
      (∀ e ∈ getHeightWithGap start minimum gap num, minimum ≤ e ∧ e ≤ max start minimum)) ∧
    (∀ start num, start < two32 → num ≤ two32 →
      getLastHeights start num = (List.range (min (num - 1) (start + 1))).map (fun j => start - j)) ∧
    (∀ h r, 0 < r →
      getCommonBlockStartSearchHeight h r ≤ h ∧ getCommonBlockStartSearchHeight h r % r = 0 ∧
      h - getCommonBlockStartSearchHeight h r ≤ r ∧ (0 < h → getCommonBlockStartSearchHeight h r < h)) :=
  ⟨fun _ _ gap num hs hno =>
      ⟨getHeightWithGap_of_le gap num, getHeightWithGap_of_lt hs hno, getHeightWithGap_bounds hs hno⟩,
    fun _ _ => getLastHeights_eq, startSearch_spec⟩

/-- non-vacuity: the values of the repository's own tests -/
example : getHeightWithGap 206 0 103 9 = [206, 103, 0] ∧ getLastHeights 200 10 = [200, 199, 198, 197, 196, 195, 194, 193, 192]
    ∧ getCommonBlockStartSearchHeight 413 103 = 412 ∧ getCommonBlockStartSearchHeight 412 103 = 309 := by decide

/-! ## Fast synchronisation as a plan -/

section Plans
variable {ι : Type} [DecidableEq ι]

/-- **Failed fast sync restores the original chain.** For EVERY peer behaviour (arbitrary answers to
the three requests), every processor `applies` and every requester chain `q`:
1. if a downloaded block cannot be applied and the temp blocks are re-applied (`applyFailed`), the
   requester is back on exactly its original chain, the temp table is empty and the peer is banned;
2. whatever error ends the round, except a failed restoration, the chain is the original one;
3. restoration cannot fail when the original chain is valid for the processor and applying the
   downloaded blocks did not finalize anything above the finalized height the round started with
   (`deleteBlock` would refuse to go back below a newly finalized block). -/
theorem C19_fast_sync_failure_restores (applies : List (Blk ι) → Blk ι → Bool)
    (finAfter : List (Blk ι) → Nat) (n fin : Nat) (q : List (Blk ι)) (target : Blk ι) (peer : Peer ι) :
    ((fastSync applies finAfter n fin q target peer).err = some .applyFailed →
      (fastSync applies finAfter n fin q target peer).chain = q ∧
      (fastSync applies finAfter n fin q target peer).banned = true ∧
      (fastSync applies finAfter n fin q target peer).temp = []) ∧
    (∀ e, (fastSync applies finAfter n fin q target peer).err = some e → e ≠ .restoreFailed →
      (fastSync applies finAfter n fin q target peer).chain = q) ∧
    ((∀ c, finAfter c ≤ fin) → ValidChain applies q →
      (fastSync applies finAfter n fin q target peer).err ≠ some .restoreFailed) := by
  have h := fastSync_end applies finAfter n fin q target peer
  generalize fastSync applies finAfter n fin q target peer = o at h ⊢
  cases h with
  | early e b he hb =>
    refine ⟨fun h => ?_, fun _ _ _ => rfl, fun _ _ h => ?_⟩ <;> cases h <;> exact absurd he (by decide)
  | refused ch hge hlt => omega
  | applied => exact ⟨nofun, fun _ => nofun, fun _ _ => nofun⟩
  | stuck ch app c' hlt hge hm hc' hadv =>
    refine ⟨nofun, fun e h hne => ?_, fun hfa _ _ => ?_⟩
    · cases h; exact absurd rfl hne
    · have := hfa c'; omega
  | restored ch c'' hlt hge hm hre =>
    have hq : c'' = q := by simpa using reapply_append applies _ _ _ _ hre
    exact ⟨fun _ => ⟨hq, rfl, rfl⟩, fun _ _ _ => hq, fun _ _ => nofun⟩
  | lost ch c'' rest hlt hge hm hre hne =>
    refine ⟨nofun, fun e h hne' => ?_, fun _ hv _ => ?_⟩
    · cases h; exact absurd rfl hne'
    · rw [reapply_valid applies q _ _ hv (by simp) (List.ne_nil_of_length_pos (by rw [List.length_take]; omega))] at hre
      cases hre; exact hne rfl

/-- **Convergence.** The requester is on chain `init ++ last :: qOwn`, an honest responder on the chain
`init ++ last :: (s ++ [e])` (`last` is the last common block; no block of `qOwn` is on the responder's chain; block ids
are unique).  The responder's own blocks `s ++ [e]` are well-formed, linked to the last common block and
accepted by the processor one after the other; the received block is the responder's tip; the last
common block is not below the requester's finalized height; and the two own parts fit in the
two-round window of fast sync.  Then one round of the fast synchroniser ends with the requester on
exactly the responder's chain, no error, nobody banned, no temp block left — whatever the response
cap splits the download into. -/
theorem C19_converges_to_better_chain (applies : List (Blk ι) → Blk ι → Bool)
    (finAfter : List (Blk ι) → Nat) (n fin mhp : Nat) (init : List (Blk ι)) (last : Blk ι)
    (qOwn s : List (Blk ι)) (e : Blk ι)
    (hndp : ((init ++ last :: (s ++ [e])).map (·.id)).Nodup)
    (hndq : ((init ++ last :: qOwn).map (·.id)).Nodup)
    (hdisj : ∀ y ∈ qOwn, ∀ x ∈ init ++ last :: (s ++ [e]), x.id ≠ y.id)
    (hheight : last.height = init.length)
    (hlinked : Linked last.id last.height (s ++ [e]))
    (hok : ∀ b ∈ s ++ [e], b.ok = true)
    (hvalid : ValidChain applies (init ++ last :: (s ++ [e])))
    (hfin : fin ≤ init.length)
    (hn : 1 ≤ n) (hwq : qOwn.length ≤ 2 * n - 2) (hwp : s.length + 1 ≤ 2 * n)
    (hbq : init.length + 1 + qOwn.length ≤ two32) (hbp : init.length + 1 + s.length + 1 ≤ two32)
    (hbn : 2 * n ≤ two32) :
    fastSync applies finAfter n fin (init ++ last :: qOwn) e (honest (init ++ last :: (s ++ [e])) mhp)
      = ⟨init ++ last :: (s ++ [e]), [], false, none⟩ :=
  fastSync_honest applies finAfter n fin mhp init last qOwn s e [] hndp hndq hdisj hheight hlinked hok hvalid hfin
    hn hwq hwp hbq hbp hbn

/-- **Synchronisation never touches finalized blocks.** Whatever the peer answers (any `Peer`),
whatever the processor accepts, after one round of the fast synchroniser or of the block
synchroniser the requester's chain still starts with its blocks up to the finalized height. -/
theorem C19_sync_keeps_finalized (applies : List (Blk ι) → Blk ι → Bool) (finAfter : List (Blk ι) → Nat)
    (n fin myMhp : Nat) (q : List (Blk ι)) (target : Blk ι) (best : Tip ι) (peer : Peer ι)
    (hfin : fin < q.length) :
    (fastSync applies finAfter n fin q target peer).chain.take (fin + 1) = q.take (fin + 1) ∧
    (blockSync applies n fin myMhp q best peer).chain.take (fin + 1) = q.take (fin + 1) :=
  ⟨(fastSync_end applies finAfter n fin q target peer).keeps_prefix hfin,
    (blockSyncG_end applies n fin fin myMhp q best peer).keeps_prefix hfin⟩

/- Example data for the plan theorems: a requester on `g b1 q2` and a responder on `g b1 b2 b3` (two validators; the
processor `C19applies` accepts a block iff it is linked to the tip). -/
def C19g : Blk Nat := { id := 0, prev := 0, height := 0 }
def C19b1 : Blk Nat := { id := 1, prev := 0, height := 1 }
def C19b2 : Blk Nat := { id := 2, prev := 1, height := 2 }
def C19b3 : Blk Nat := { id := 3, prev := 2, height := 3 }
def C19q2 : Blk Nat := { id := 12, prev := 1, height := 2 }
def C19applies (c : List (Blk Nat)) (x : Blk Nat) : Bool :=
  x.height == c.length && (match c.getLast? with | some t => t.id == x.prev | none => false)

def C19outcome (o : Out Nat) : List (Blk Nat) × List (Blk Nat) × Bool × Option SyncErr :=
  (o.chain, o.temp, o.banned, o.err)

example : C19outcome (fastSync C19applies (fun _ => 0) 2 0 [C19g, C19b1, C19q2] C19b3
      (honest [C19g, C19b1, C19b2, C19b3] 1))
    = ([C19g, C19b1, C19b2, C19b3], [], false, none) := by decide

/-- the same responder, but the requester cannot apply block `b3`: original chain restored, peer banned -/
example : C19outcome (fastSync (fun c x => C19applies c x && x.id != 3) (fun _ => 0) 2 0
      [C19g, C19b1, C19q2] C19b3 (honest [C19g, C19b1, C19b2, C19b3] 1))
    = ([C19g, C19b1, C19q2], [], true, some .applyFailed) := by decide

end Plans
