/-
C06 — tie of `Model/Cert.lean`'s `verifyAggregateCommit` to the Go source: the guards of
`Executer.verifyAggregateCommit` (pkg/consensus/certificate.go) before the block lookup are
REGENERATED from the Go source on every run by tools/fngen (`LiskVerif/Gen/Fns.lean`,
`Gen.aggregateCommitGuards`: the 1-based index of the first `if cond { return … }` whose condition
holds, 0 = none; `Gen.aggregateCommitGuardsReturns`: what each guard returns). The results of the
impure calls are parameters: `Empty()`, the commit height, `maxHeightCertified`,
`maxHeightPrecommited` (`GetBFTHeights`), whether `NextHeightBFTParameters(maxHeightCertified+1)`
found a height (`err == nil`) and that height, `len(AggregationBits) == 0`,
`len(CertificateSignature) == 0`.

`C06_gen_aggregate_commit_guards_eq`: the model evaluates the same five conditions in the same
order with the same outcomes; what follows the guards (block lookup, parameters, weighted aggregate
signature check) is `Cert.verifyCertificate`.
-/
import LiskVerif.Lemmas.Cert
import LiskVerif.Gen.Fns

open LiskVerif LiskVerif.Cert

/-- the regenerated guards evaluated on a model state and aggregate commit -/
def C06genGuards (st : State) (ac : AggCommit) : Nat :=
  Gen.aggregateCommitGuards ac.isEmpty ac.height st.mhc st.mhpc
    (nextHeightParams st.params (st.mhc + 1)).isSome ((nextHeightParams st.params (st.mhc + 1)).getD 0)
    ac.bits.isEmpty ac.sig.isNone

/-- the outcome the Go code attaches to each guard, in order: guard 1 returns `nil` (the commit is
accepted as it stands), guards 2–5 return an error -/
theorem C06_gen_aggregate_commit_guard_returns :
    Gen.aggregateCommitGuardsReturns = ["nil", "error", "error", "error", "error"] := rfl

/-- **Guard order and conditions of the model = those regenerated from the Go code.** For every
state whose next BFT-parameter height (if any) is a `uint32`, `Cert.verifyAggregateCommit` is: the
regenerated guard index decides — 1 ↦ accept (`return nil`), 2 ↦ empty aggregation bits or signature,
3 ↦ height not above `maxHeightCertified`, 4 ↦ height above `maxHeightPrecommited`, 5 ↦ height above
the next BFT parameters − 1, and 0 (no guard fires) ↦ the certificate check `verifyCertificate`. -/
theorem C06_gen_aggregate_commit_guards_eq (st : State) (ac : AggCommit)
    (hu : ∀ nh, nextHeightParams st.params (st.mhc + 1) = some nh → nh < 4294967296) :
    verifyAggregateCommit st ac =
      match C06genGuards st ac, ac.sig with
      | 0, some sig => verifyCertificate st ac sig
      | 0, none => .reject .emptyField      -- unreachable: guard 2 fires when the signature is empty
      | 1, _ => .accept
      | 2, _ => .reject .emptyField
      | 3, _ => .reject .notIncreasing
      | 4, _ => .reject .abovePrecommitted
      | _, _ => .reject .beyondNextParams := by
  unfold verifyAggregateCommit C06genGuards Gen.aggregateCommitGuards AggCommit.isEmpty
  cases hs : ac.sig with
  | none =>
    cases hb : ac.bits.isEmpty <;> by_cases hh : ac.height = st.mhc <;> simp [hh]
  | some sig =>
    cases hb : ac.bits.isEmpty
    · simp only [Option.isNone_some, Bool.and_false, Bool.false_eq_true, false_and, ↓reduceIte,
        Bool.or_self, decide_eq_true_eq]
      by_cases h3 : ac.height ≤ st.mhc
      · simp [h3]
      · simp only [h3, ↓reduceIte]
        by_cases h4 : ac.height > st.mhpc
        · simp [h4]
        · simp only [h4, ↓reduceIte]
          cases hn : nextHeightParams st.params (st.mhc + 1) with
          | none => simp
          | some nh =>
            have h1 := (nextHeightParams_some hn).1
            have h2 := hu nh hn
            have he : (nh + 4294967296 - 1) % 4294967296 = nh - 1 := by omega
            simp only [Option.isSome_some, Option.getD_some, Bool.true_and, decide_eq_true_eq, he]
            by_cases h5 : ac.height > nh - 1
            · simp [h5]
            · simp [h5]
    · simp

private theorem ite_eq_iff {α : Type} {c : Prop} [Decidable c] {a b d : α} :
    (if c then a else b) = d ↔ c ∧ a = d ∨ ¬ c ∧ b = d := by
  split <;> simp [*]

private theorem ite_le {c : Prop} [Decidable c] {a b k : Nat} (ha : a ≤ k) (hb : b ≤ k) :
    (if c then a else b) ≤ k := by
  split <;> assumption

/-- the same statement read from the Go side: which guard fires determines the model's verdict -/
theorem C06_gen_aggregate_commit_guard_verdicts (st : State) (ac : AggCommit)
    (hu : ∀ nh, nextHeightParams st.params (st.mhc + 1) = some nh → nh < 4294967296) :
    (C06genGuards st ac = 1 → verifyAggregateCommit st ac = .accept) ∧
    (C06genGuards st ac = 2 → verifyAggregateCommit st ac = .reject .emptyField) ∧
    (C06genGuards st ac = 3 → verifyAggregateCommit st ac = .reject .notIncreasing) ∧
    (C06genGuards st ac = 4 → verifyAggregateCommit st ac = .reject .abovePrecommitted) ∧
    (C06genGuards st ac = 5 → verifyAggregateCommit st ac = .reject .beyondNextParams) ∧
    (C06genGuards st ac = 0 → ∃ sig, ac.sig = some sig ∧ ac.bits.isEmpty = false ∧
      st.mhc < ac.height ∧ ac.height ≤ st.mhpc ∧
      verifyAggregateCommit st ac = verifyCertificate st ac sig) ∧
    C06genGuards st ac ≤ 5 := by
  have h := C06_gen_aggregate_commit_guards_eq st ac hu
  refine ⟨?_, ?_, ?_, ?_, ?_, ?_, ?_⟩
  iterate 5 (intro hg; rw [h, hg]; cases ac.sig <;> rfl)
  · intro hg
    -- no guard fires: the negation of every condition, in order
    have hc := hg
    simp only [C06genGuards, Gen.aggregateCommitGuards, ite_eq_iff, Nat.reduceEqDiff, and_false, false_or,
      Bool.or_eq_true, not_or, Bool.not_eq_true, decide_eq_true_eq] at hc
    obtain ⟨-, ⟨hb, hs⟩, h3, h4, -⟩ := hc
    cases hsig : ac.sig with
    | none => rw [hsig] at hs; cases hs
    | some sig =>
      refine ⟨sig, rfl, hb, by omega, by omega, ?_⟩
      rw [h, hg, hsig]
      rfl
  · exact ite_le (by decide) <| ite_le (by decide) <| ite_le (by decide) <| ite_le (by decide) <|
      ite_le (by decide) (by decide)

/-! ### non-vacuity -/

def C06genState : State :=
  { chainId := 1, blockAt := fun _ => none, params := [(1, ⟨[], 1⟩), (20, ⟨[], 1⟩)], mhpc := 15, mhc := 10 }

/-- each of the six outcomes occurs -/
example :
    [C06genGuards C06genState ⟨10, [], none⟩,
     C06genGuards C06genState ⟨12, [], some .garbage⟩,
     C06genGuards C06genState ⟨9, [true], some .garbage⟩,
     C06genGuards C06genState ⟨16, [true], some .garbage⟩,
     C06genGuards { C06genState with mhpc := 30 } ⟨20, [true], some .garbage⟩,
     C06genGuards C06genState ⟨12, [true], some .garbage⟩] = [1, 2, 3, 4, 5, 0] := by
  decide +kernel

example : verifyAggregateCommit C06genState ⟨16, [true], some .garbage⟩ = .reject .abovePrecommitted :=
  (C06_gen_aggregate_commit_guard_verdicts C06genState ⟨16, [true], some .garbage⟩
    (by
      intro nh h
      have h20 : nextHeightParams C06genState.params (C06genState.mhc + 1) = some 20 := by decide +kernel
      rw [h20] at h
      injection h with h
      omega)).2.2.2.1 (by decide +kernel)
