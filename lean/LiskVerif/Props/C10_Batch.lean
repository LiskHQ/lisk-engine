/-
C10 — batches with repeated keys: the exported batch normaliser `smt.UniqueAndSort` (Model/SMTBatch.lean; the
harness op `uniq` ties the real function to `uniqueAndSort` line by line).

For EVERY batch: the normalised batch lists every written key exactly once, in strictly ascending key order, each
with the value of its LAST write; feeding it to `trie.Update` leaves exactly the map that the writes of the batch,
applied one after the other, produce ("root independent of overwrites": the root of that map by C10_root_function_of_map).
The variant that records a new key's position by its index in the INPUT (instead of its position in the
de-duplicated list) is refuted by evaluation.
-/
import LiskVerif.Model.SMTBatch
import LiskVerif.Lemmas.SMT
import LiskVerif.Lemmas.Sort
import LiskVerif.Lemmas.Order

open LiskVerif LiskVerif.SMT

namespace LiskVerif.SMT

/-- on entries with one entry per key, a write overwrites the entry of its key where it stands or appends one -/
theorem foldWrite_eq_upsert {acc : List KV} (h : NoDupKeys acc) (kv : KV) :
    foldWrite acc kv = AList.upsert acc kv.1 kv.2 := by
  induction acc with
  | nil => rfl
  | cons x r ih =>
    obtain ⟨hx, hr⟩ := List.nodup_cons.mp h
    by_cases hk : x.1 = kv.1
    · -- no other entry has the key of `x`
      have hid : r.map (fun y => if y.1 = kv.1 then kv else y) = r :=
        (List.map_congr_left fun y hy => if_neg fun (he : y.1 = kv.1) =>
          hx (hk ▸ he ▸ List.mem_map_of_mem (f := Prod.fst) hy)).trans
          (List.map_id' r)
      simp [foldWrite, AList.upsert, hk, hid]
    · have := ih hr
      unfold foldWrite at this ⊢
      simp only [List.any_cons, beq_eq_false_iff_ne.mpr hk, Bool.false_or, List.map_cons, Bool.false_eq_true,
        if_false, List.cons_append, AList.upsert, if_neg hk]
      split <;> simp_all

theorem nodupKeys_foldWrite {acc : List KV} (h : NoDupKeys acc) (kv : KV) : NoDupKeys (foldWrite acc kv) :=
  foldWrite_eq_upsert h kv ▸ AList.NodupKeys.upsert h kv.1 kv.2

/-- one write: the written key now answers with the written value, every other key as before -/
theorem mget_foldWrite {acc : List KV} (h : NoDupKeys acc) (kv : KV) (k : Bytes) :
    mget (foldWrite acc kv) k = if kv.1 = k then some kv.2 else mget acc k := by
  rw [foldWrite_eq_upsert h, mget_eq_get, AList.get_upsert]
  by_cases hk : kv.1 = k <;> simp [hk, Ne.symm]

theorem mget_foldl_foldWrite (b : List KV) {acc : List KV} (h : NoDupKeys acc) (k : Bytes) :
    mget (b.foldl foldWrite acc) k = match lastWrite k b with
      | some v => some v
      | none => mget acc k := by
  induction b generalizing acc with
  | nil => rfl
  | cons kv r ih =>
    simp only [List.foldl_cons, lastWrite]
    rw [ih (nodupKeys_foldWrite h kv), mget_foldWrite h]
    cases lastWrite k r with
    | some v => rfl
    | none =>
      by_cases hk : kv.1 = k <;> simp [hk]

theorem nodupKeys_uniqueKVs (b : List KV) : NoDupKeys (uniqueKVs b) :=
  List.foldlRecOn b foldWrite (motive := NoDupKeys) (by simp [NoDupKeys]) fun _ h kv _ => nodupKeys_foldWrite h kv

theorem uniqueAndSort_perm (b : List KV) : (uniqueAndSort b).Perm (uniqueKVs b) := isort_perm _ _

theorem nodupKeys_uniqueAndSort (b : List KV) : NoDupKeys (uniqueAndSort b) := by
  unfold NoDupKeys
  exact ((uniqueAndSort_perm b).map Prod.fst).nodup_iff.mpr (nodupKeys_uniqueKVs b)

theorem mget_perm {m₁ m₂ : List KV} (hp : m₁.Perm m₂) (h₁ : NoDupKeys m₁) (k : Bytes) : mget m₁ k = mget m₂ k := by
  rw [mget_eq_get]; exact AList.get_perm hp h₁ k

end LiskVerif.SMT

/-- **Every key once, ascending**: the normalised batch is strictly sorted by key. -/
theorem C10_uniqueAndSort_strictly_sorted (b : List KV) :
    (uniqueAndSort b).Pairwise (fun x y => ble x.1 y.1 = true ∧ x.1 ≠ y.1) := by
  have hs : (uniqueAndSort b).Pairwise (fun x y => kvKeyLe x y = true) :=
    isort_pairwise kvKeyLe (fun a b c => ble_trans a.1 b.1 c.1) (fun a b => ble_total a.1 b.1) _
  have hn : (uniqueAndSort b).Pairwise (fun x y => x.1 ≠ y.1) := by
    have := nodupKeys_uniqueAndSort b
    unfold NoDupKeys List.Nodup at this
    exact List.pairwise_map.mp this
  exact hs.and hn

/-- **Last write wins**: the normalised batch answers every key with the value of its last write in the batch
(and holds no other key). -/
theorem C10_uniqueAndSort_last_write (b : List KV) (k : Bytes) :
    mget (uniqueAndSort b) k = lastWrite k b := by
  rw [mget_perm (uniqueAndSort_perm b) (nodupKeys_uniqueAndSort b)]
  unfold uniqueKVs
  rw [mget_foldl_foldWrite b (by simp [NoDupKeys])]
  cases lastWrite k b <;> simp [mget]

/-- the map after ALL writes of a batch were applied one after the other (empty value = delete) -/
def C10writeAll (m : List KV) (b : List KV) : List KV := b.foldl (fun m kv => applyOp m (opOfKV kv)) m

theorem C10_writeAll_lookup (m b : List KV) (k : Bytes) :
    mget (C10writeAll m b) k = match lastWrite k b with
      | none => mget m k
      | some v => if v = [] then none else some v := by
  unfold C10writeAll
  induction b generalizing m with
  | nil => rfl
  | cons kv r ih =>
    simp only [List.foldl_cons, lastWrite]
    rw [ih]
    cases lastWrite k r with
    | some v => rfl
    | none =>
      simp only [mget_applyOp_opOfKV]
      by_cases hk : kv.1 = k
      · simp [hk]
      · have : ¬ k = kv.1 := fun h => hk h.symm
        simp [hk, this]

/-- **Overwrites inside a batch**: `Update` of the normalised batch leaves, for every key, what the writes of the
batch applied one after the other leave — so (C10_root_function_of_map / perm_of_mget_eq) the same map and root. -/
theorem C10_update_normalised_is_all_writes (m b : List KV) (k : Bytes) :
    mget (applyBatch m (uniqueAndSort b)) k = mget (C10writeAll m b) k := by
  rw [mget_applyBatch, C10_writeAll_lookup, C10_uniqueAndSort_last_write]
  cases lastWrite k b <;> rfl

theorem C10_update_normalised_same_root (H : HashFn) (keyLen : Nat) (m b : List KV) (hm : NoDupKeys m) :
    mapRoot H keyLen (applyBatch m (uniqueAndSort b)) = mapRoot H keyLen (C10writeAll m b) := by
  apply mapRoot_perm
  exact perm_of_mget_eq (nodupKeys_applyBatch hm _)
    (List.foldlRecOn b (fun m kv => applyOp m (opOfKV kv)) hm fun _ h _ _ => nodupKeys_applyOp h _)
    (C10_update_normalised_is_all_writes m b)

/-! ### non-vacuity and the refuted variant -/

private def kA : Bytes := [1]
private def kB : Bytes := [2]
private def kC : Bytes := [3]

example : uniqueAndSort [(kB, [3]), (kA, [1]), (kA, [2]), (kC, [4]), (kB, [5])] = [(kA, [2]), (kB, [5]), (kC, [4])] := by decide
example : uniqueAndSort [(kA, [1]), (kA, [2]), (kB, [3]), (kB, [])] = [(kA, [2]), (kB, [])] := by decide

/-- the variant that remembers, for a new key, its index in the INPUT list; an overwrite goes to that slot of the
de-duplicated list (`none`: the slot does not exist — the Go code panics) -/
def C10foldWriteByInputIndex (st : List KV × List (Bytes × Nat) × Nat) (kv : KV) : Option (List KV × List (Bytes × Nat) × Nat) :=
  let (acc, pos, i) := st
  match pos.find? (fun p => p.1 == kv.1) with
  | some p => if p.2 < acc.length then some (acc.set p.2 (acc[p.2]!.1, kv.2), pos, i + 1) else none
  | none => some (acc ++ [kv], pos ++ [(kv.1, i)], i + 1)

def C10uniqueByInputIndex (b : List KV) : Option (List KV) :=
  (b.foldl (fun st kv => st.bind (C10foldWriteByInputIndex · kv)) (some ([], [], 0))).map
    (fun st => isort kvKeyLe st.1)

/-- the index-by-input-position variant is NOT last-write-wins: [a=1,a=2,b=3,c=4,b=5] gives b=3 (stale) and c=5
(a foreign value), and [a,a,b,b] has no result (index out of range). -/
theorem C10_uniqueByInputIndex_refuted :
    C10uniqueByInputIndex [(kA, [1]), (kA, [2]), (kB, [3]), (kC, [4]), (kB, [5])] = some [(kA, [2]), (kB, [3]), (kC, [5])] ∧
    uniqueAndSort [(kA, [1]), (kA, [2]), (kB, [3]), (kC, [4]), (kB, [5])] = [(kA, [2]), (kB, [5]), (kC, [4])] ∧
    C10uniqueByInputIndex [(kA, [1]), (kA, [2]), (kB, [3]), (kB, [4])] = none := by decide
