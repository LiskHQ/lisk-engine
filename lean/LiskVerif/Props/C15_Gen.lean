/-
C15 — tie of `Model/Generator.lean` (and of the slot arithmetic of `Model/Verify.lean`) to the Go
source: the integer expressions of pkg/generator (generator.go, selector.go) and of
pkg/consensus/validator/block_slot.go are REGENERATED from the Go source on every run by tools/fngen
(typed translation, `LiskVerif/Gen/Fns2.lean`) with the exact semantics of `uint32`/`uint64` (wrap),
`int` (two's complement) and the conversions between them:

* selection: the fee priority `tx.Fee / uint64(tx.Size())` (`Gen.genFeePriority`), its storage as
  `int(priority)` (`Gen.genFeePriorityStored`) and the heap order
  `uint64(h[i].FeePriority) > uint64(h[j].FeePriority)` (`Gen.genFeeLess`); the block-size cut
  `nextTx.Size()+totalSize > maxSize` and `totalSize += nextTx.Size()` of `selectTransactionsByFee`
  and of `limitTransactionsWithSize`;
* header bookkeeping: `nextHeight := lastBlock.Header.Height + 1`, the fields `Height`,
  `MaxHeightGenerated`, `MaxHeightPrevoted` of the `blockchain.BlockHeader` literal and the fields of the
  `GeneratorInfo` literals of `initBlockHeader` (`ints.Max(nextHeight, previousInfo.Height)`, …) and of
  `forge` (`ints.Max(signedBlock.Header.Height, signedBlock.Header.MaxHeightGenerated)`, …);
  `ints.Max` (pkg/collection/ints, generic and sort based) is taken to be the maximum;
* slots: `elapsed := unixTime - a.genesisTimestamp` of `BlockSlot.GetSlotNumber` (the division that
  follows is done in float64 and is not translated) and `BlockSlot.GetSlotTime`.
-/
import LiskVerif.Model.Generator
import LiskVerif.Model.Verify
import LiskVerif.Lemmas.GenInt

open LiskVerif LiskVerif.Generator

/-! ### fee priority and heap order -/

/-- **the regenerated fee priority is `Generator.Tx.prio`** for every transaction of positive size -/
theorem C15_gen_fee_priority_eq (t : Tx) (h0 : 0 < t.size) (h1 : t.size < 9223372036854775808) :
    Gen.genFeePriority t.fee (t.size : Int) = some t.prio := by
  unfold Gen.genFeePriority Tx.prio
  rw [Gen.toNat_emod64 (by omega)]
  have : ¬ t.size = 0 := by omega
  simp [this]

/-- **the heap order on the stored priorities is the order of the priorities**: a `uint64` priority is
stored as `int` (values ≥ 2^63 become negative) and compared after conversion back to `uint64`, which
is exact — `pickMax` / `IsMaxHead` compare `Tx.prio` -/
theorem C15_gen_fee_less_eq (a b : Nat) (ha : a < 2 ^ 64) (hb : b < 2 ^ 64) :
    Gen.genFeeLess (Gen.genFeePriorityStored a) (Gen.genFeePriorityStored b) = decide (a > b) := by
  unfold Gen.genFeeLess Gen.genFeePriorityStored
  rw [show Int.ofNat a = (a : Int) from rfl, show Int.ofNat b = (b : Int) from rfl,
    Gen.toNat_i64_emod64 ha, Gen.toNat_i64_emod64 hb]

/-! ### block-size cut -/

/-- the regenerated cut test and accumulator of both selection loops, while sizes are `int`s -/
theorem C15_gen_size_cut_eq (size total maxSize : Nat) (h : size + total < 9223372036854775808) :
    Gen.genSelectBlockFull (size : Int) (total : Int) (maxSize : Int) = decide (size + total > maxSize) ∧
    Gen.genLimitBlockFull (size : Int) (total : Int) (maxSize : Int) = decide (size + total > maxSize) ∧
    Gen.genSelectTotalSize (total : Int) (size : Int) = ((total + size : Nat) : Int) ∧
    Gen.genLimitTotalSize (total : Int) (size : Int) = ((total + size : Nat) : Int) := by
  unfold Gen.genSelectBlockFull Gen.genLimitBlockFull Gen.genSelectTotalSize Gen.genLimitTotalSize
  rw [Gen.i64_eq (x := (size : Int) + total) (by omega) (by omega),
    Gen.i64_eq (x := (total : Int) + size) (by omega) (by omega)]
  have e : ((size : Int) + (total : Int) > (maxSize : Int)) ↔ (size + total > maxSize) := by omega
  refine ⟨?_, ?_, by omega, by omega⟩ <;> simp only [e]

/-- **`Generator.limitBySize` step with the regenerated test and accumulator** -/
theorem C15_gen_limit_by_size_eq (maxSize total : Nat) (t : Tx) (r : List Tx)
    (h : t.size + total < 9223372036854775808) :
    limitBySize maxSize total (t :: r) =
      if Gen.genLimitBlockFull (t.size : Int) (total : Int) (maxSize : Int) = true then []
      else t :: limitBySize maxSize (Gen.genLimitTotalSize (total : Int) (t.size : Int)).toNat r := by
  obtain ⟨_, h2, _, h4⟩ := C15_gen_size_cut_eq t.size total maxSize h
  rw [h2, h4]
  simp only [limitBySize, decide_eq_true_eq, Int.toNat_natCast]

/-- **`Generator.selectLoop` step with the regenerated test and accumulator** -/
theorem C15_gen_select_loop_eq (ok : List Tx → Tx → Bool) (maxSize fuel : Nat) (g : Groups) (total : Nat)
    (acc : List Tx) (hsz : ∀ s t rest, pickMax g = some (s, t, rest) → t.size + total < 9223372036854775808) :
    selectLoop ok maxSize (fuel + 1) g total acc =
      match pickMax g with
      | none => []
      | some (s, t, rest) =>
        if Gen.genSelectBlockFull (t.size : Int) (total : Int) (maxSize : Int) = true then []
        else if ok acc t then
          t :: selectLoop ok maxSize fuel (advance s rest g) (Gen.genSelectTotalSize (total : Int) (t.size : Int)).toNat (acc ++ [t])
        else selectLoop ok maxSize fuel (erase s g) total acc := by
  simp only [selectLoop]
  cases hp : pickMax g with
  | none => rfl
  | some x =>
    obtain ⟨s, t, rest⟩ := x
    obtain ⟨h1, _, h3, _⟩ := C15_gen_size_cut_eq t.size total maxSize (hsz s t rest hp)
    simp only [h1, h3, decide_eq_true_eq, Int.toNat_natCast]

/-! ### header bookkeeping -/

/-- **what `forge` persists: `Generator.nextInfo .fixed` is the regenerated `GeneratorInfo` literal** -/
theorem C15_gen_persisted_info_eq (h : Hdr) :
    nextInfo .fixed h =
      { height := Gen.genPersistedInfoHeight h.height h.maxHeightGenerated
        mhp := Gen.genPersistedInfoMaxHeightPrevoted h.maxHeightPrevoted
        mhg := Gen.genPersistedInfoMaxHeightGenerated h.maxHeightGenerated } := rfl

/-- **the header `initBlockHeader` prepares: `Generator.mkHeader` carries the regenerated height and
`maxHeightGenerated`** (tip below 2^32 - 1), and the `GeneratorInfo` it writes before signing has the
height `forge` writes after sealing -/
theorem C15_gen_init_header_eq (addr : Nat → Bytes) (st : GState) (v : Nat) (hh : st.height + 1 < 4294967296) :
    (mkHeader addr st v).height = Gen.genHeaderHeight (Gen.genNextHeight st.height) ∧
    (mkHeader addr st v).maxHeightGenerated = Gen.genHeaderMaxHeightGenerated (getInfo st.infos v).height ∧
    (mkHeader addr st v).maxHeightPrevoted = Gen.genHeaderMaxHeightPrevoted st.mhp ∧
    Gen.genNextInfoMaxHeightGenerated (getInfo st.infos v).height = (mkHeader addr st v).maxHeightGenerated ∧
    Gen.genNextInfoHeight (Gen.genNextHeight st.height) (getInfo st.infos v).height =
      (nextInfo .fixed (mkHeader addr st v)).height := by
  unfold Gen.genNextHeight Gen.genNextInfoMaxHeightGenerated Gen.genNextInfoHeight Gen.genHeaderHeight
    Gen.genHeaderMaxHeightGenerated Gen.genHeaderMaxHeightPrevoted
  rw [Nat.mod_eq_of_lt hh]
  exact ⟨rfl, rfl, rfl, rfl, rfl⟩

/-- at the last `uint32` height the Go `nextHeight` wraps to 0 where the model continues to 2^32 -/
theorem C15_gen_next_height_wraps : Gen.genNextHeight 4294967295 = 0 := by decide +kernel

/-! ### slots -/

/-- **`Verify.slotOf` is the regenerated `elapsed` divided by the block time** (the division itself
is float64 code in `GetSlotNumber`) -/
theorem C15_gen_slot_elapsed_eq (c : Verify.Config) (t : Nat) :
    Verify.slotOf c t = Gen.slotElapsed t c.genesisTimestamp / c.blockTime := rfl

/-- `GetSlotTime(slot)` in closed form for `slot ≥ 0` (exact modulo 2^32 even where the `int` product wraps) -/
theorem C15_gen_slot_time_eq (slot g bt : Nat) :
    Gen.getSlotTime (slot : Int) g bt = (g + slot * bt) % 4294967296 := by
  show (g + Int.toNat (Gen.i64 ((slot * bt : Nat) : Int) % 4294967296)) % 4294967296 = _
  rw [Gen.toNat_i64_emod32, Nat.add_mod_mod]

/-- **`GetSlotTime` is a right inverse of the slot number**: the slot of the start time of slot `s`
is `s` (no `uint32` wrap: `genesis + s * blockTime < 2^32`, positive block time) -/
theorem C15_gen_slot_time_roundtrip (c : Verify.Config) (s : Nat) (hbt : 0 < c.blockTime)
    (h : c.genesisTimestamp + s * c.blockTime < 4294967296) :
    Verify.slotOf c (Gen.getSlotTime (s : Int) c.genesisTimestamp c.blockTime) = s := by
  rw [C15_gen_slot_time_eq, Nat.mod_eq_of_lt h]
  unfold Verify.slotOf BFT.u32
  have : (c.genesisTimestamp + s * c.blockTime + 4294967296 - c.genesisTimestamp) % 4294967296 = s * c.blockTime := by
    omega
  rw [this]
  exact Nat.mul_div_cancel s hbt

/-! ### non-vacuity -/

example : Gen.genFeePriority 1000 100 = some 10 ∧ Gen.genFeePriority 5 0 = none ∧
    Gen.genFeeLess (Gen.genFeePriorityStored (2 ^ 63 + 5)) (Gen.genFeePriorityStored 7) = true ∧
    Gen.genFeePriorityStored (2 ^ 63 + 5) = -9223372036854775803 ∧
    Gen.genSelectBlockFull 60 50 100 = true ∧ Gen.genSelectBlockFull 50 50 100 = false ∧
    Gen.genSelectTotalSize 50 50 = 100 ∧ Gen.genPersistedInfoHeight 7 12 = 12 ∧ Gen.genPersistedInfoHeight 13 12 = 13 ∧
    Gen.genNextHeight 41 = 42 ∧ Gen.slotElapsed 1010 1000 = 10 ∧ Gen.getSlotTime 3 1000 10 = 1030 := by
  decide +kernel

example : Verify.slotOf ⟨1000, 10, 0, 0, true⟩ (Gen.getSlotTime 3 1000 10) = 3 :=
  C15_gen_slot_time_roundtrip ⟨1000, 10, 0, 0, true⟩ 3 (by decide) (by decide)
