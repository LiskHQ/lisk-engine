/-
C04 — "the block ID served for every finalized height stays the same forever", the ID side.

A header arrives as bytes `b` (gossip, sync, RPC); the header decoder is LENIENT (a spare byte after the last field,
a default-valued field left out: several byte strings decode to one header, Props/C08_Nested.lean); the database
stores the canonical serialisation `enc h` and every header read back from it gets its ID from those stored bytes.
`blockchain.NewBlockHeader` computes the ID as `H (enc (dec b))`.

* `C04_canon_id_stable_across_reload` — with that rule the ID computed on arrival equals the ID computed when the
  header is read back from the database, for EVERY accepted encoding: cache, database after eviction and database
  after a restart serve one ID.
* `C04_canon_id_received_bytes_changes` — with the ID taken from the bytes as received (`H b`, seeded change
  C04-19) and a collision-free `H`, every non-canonical accepted encoding gets an ID that changes on reload.
Tie: the harness delivers a third of the blocks of the C04SERVED histories non-canonically encoded (ParseBlock
nc=1) and checks every accessor, plus `c04-served-id-not-hash-of-header`.
-/
import LiskVerif.Model.Util

open LiskVerif

section
variable {Hdr : Type}

/-- `NewBlockHeader`: decode, then hash the canonical serialisation -/
def C04_newHeaderID (dec : Bytes → Option Hdr) (enc : Hdr → Bytes) (H : Bytes → Bytes) (b : Bytes) : Option Bytes :=
  (dec b).map fun h => H (enc h)

/-- the seeded variant: hash the bytes as received -/
def C04_newHeaderIDReceived (dec : Bytes → Option Hdr) (H : Bytes → Bytes) (b : Bytes) : Option Bytes :=
  (dec b).map fun _ => H b

/-- every accepted encoding of one header gets the same ID -/
theorem C04_canon_id_of_header_only (dec : Bytes → Option Hdr) (enc : Hdr → Bytes) (H : Bytes → Bytes)
    (b b' : Bytes) (h : Hdr) (hb : dec b = some h) (hb' : dec b' = some h) :
    C04_newHeaderID dec enc H b = C04_newHeaderID dec enc H b' := by
  simp [C04_newHeaderID, hb, hb']

theorem C04_canon_id_stable_across_reload (dec : Bytes → Option Hdr) (enc : Hdr → Bytes) (H : Bytes → Bytes)
    (hrt : ∀ h, dec (enc h) = some h) (b : Bytes) (h : Hdr) (hb : dec b = some h) :
    C04_newHeaderID dec enc H (enc h) = C04_newHeaderID dec enc H b :=
  C04_canon_id_of_header_only dec enc H (enc h) b h (hrt h) hb

theorem C04_canon_id_received_bytes_changes (dec : Bytes → Option Hdr) (enc : Hdr → Bytes) (H : Bytes → Bytes)
    (hinj : ∀ x y, H x = H y → x = y) (hrt : ∀ h, dec (enc h) = some h)
    (b : Bytes) (h : Hdr) (hb : dec b = some h) (hnc : b ≠ enc h) :
    C04_newHeaderIDReceived dec H (enc h) ≠ C04_newHeaderIDReceived dec H b := by
  simp only [C04_newHeaderIDReceived, hrt, hb, Option.map_some, ne_eq, Option.some.injEq]
  intro he
  exact hnc (hinj _ _ he).symm

end

/-- Non-vacuity: a decoder that ignores one trailing zero byte accepts two encodings of the header `[1]`. -/
example :
    let dec : Bytes → Option Bytes := fun b => if b.getLast? = some 0 then some b.dropLast else some b
    let enc : Bytes → Bytes := id
    dec [1, 0] = some [1] ∧ dec (enc [1]) = some [1] ∧ ([1, 0] : Bytes) ≠ enc [1] := by decide
