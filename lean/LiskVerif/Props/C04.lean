/-
C04 — Finalized blocks are irreversible and the finalized height never decreases.

Theorems about `LiskVerif.Model.Node` (model of Executer.process / processValidated / deleteBlock,
Chain.AddBlock / RemoveBlock / PrepareCache, DataAccess.saveBlock / removeBlock and of the height
selection of the synchronisers). The model is tied to the real node by the C04/C05 correspondence
harness (same operation lines through the real Executer over pebble and through the compiled
model, database deltas compared byte for byte).

Setting of the invariant-based theorems. A node state `s` is *refined* by a chain `c` of
(block, execution result) pairs applied on top of a base state `base` whose tip is finalized
(`Ref cd base baseH s c`, e.g. the state right after the genesis block with `c = []`): outside the
volatile keys the database is `spec cd base c`, and the block cache holds the newest blocks.
Hypotheses on the inputs of an operation sequence are collected in `RunOK` (`StepOK` for every
block that gets applied: result of executing it on the state its parent chain produces — overlay
over the consensus store (`C12CacheInv` shape), `maxHeightPrecommited ≤ height`
(by `C02_precommitted_le_prevoted_from_genesis` this follows from `maxHeightPrevoted ≤ height`, which no theorem here states:
it is part of the hypothesis), fresh block id and
transaction ids, round trip of the codecs that are parameters of the model for this block's header,
assets and state diff (C08)). `BaseOK`: the block index of the base state is consistent.
-/
import LiskVerif.Lemmas.NodeMore
import LiskVerif.Lemmas.NodeExample

open LiskVerif LiskVerif.Node
open LiskVerif.DiffDB (Store KV CV Cache Diff slookup sset sdel)

/-! ### the finalized height -/

/-- After a successful `processValidated` the stored finalized height is
`max (previous finalized height) (maxHeightPrecommited after the block)` — written in the same
batch that stores the block. -/
theorem C04_fin_eq_max (cd : Codecs) (cfg : Cfg) (s s' : St) (b : Block) (valid : Bool) (x : Exec)
    (rt : Bool) (fin : Nat) (hok : apply cd cfg s b valid x rt = (s', .ok))
    (hf : finOf s.db = some fin) (hm : x.mhpc < u32) : finOf s'.db = some (max fin x.mhpc) :=
  finOf_apply_ok hok hf hm

/-- A finalize event is published by `processValidated` exactly when the stored finalized height
is raised, with `Original` = the old and `Next` = the new finalized height and the applied block
as trigger; the only other event of the step is the new-block event. -/
theorem C04_finalize_event_iff_raise (cd : Codecs) (cfg : Cfg) (s s' : St) (b : Block) (valid : Bool)
    (x : Exec) (rt : Bool) (fin : Nat) (hok : apply cd cfg s b valid x rt = (s', .ok))
    (hf : finOf s.db = some fin) (hm : x.mhpc < u32) :
    ∃ evs fin', finOf s'.db = some fin' ∧ s'.log = evs ++ s.log ∧
      Ev.new b.hdr.id b.hdr.height ∈ evs ∧
      (∀ e ∈ evs, e = Ev.new b.hdr.id b.hdr.height ∨ e = Ev.finalize fin fin' b.hdr.id) ∧
      (Ev.finalize fin fin' b.hdr.id ∈ evs ↔ fin < fin') ∧
      (∀ o n t, Ev.finalize o n t ∈ evs → o = fin ∧ n = fin' ∧ t = b.hdr.id ∧ fin < fin') := by
  have hfin := C04_fin_eq_max cd cfg s s' b valid x rt fin hok hf hm
  obtain ⟨tip, rest, fin0, _, _, _, _, hf0, hs'⟩ := apply_ok_inv hok
  have : fin0 = fin := by rw [hf] at hf0; exact (Option.some.inj hf0).symm
  subst this
  refine ⟨applyLog fin0 b x, max fin0 x.mhpc, hfin, by rw [hs'], ?_⟩
  unfold applyLog
  by_cases hlt : fin0 < x.mhpc
  · rw [Nat.max_eq_right (Nat.le_of_lt hlt)]
    simp [hlt]
  · rw [Nat.max_eq_left (Nat.le_of_not_lt hlt)]
    simp [hlt]

/-- `deleteBlock` refuses a block at or below the finalized height and changes nothing — first
guard of `Executer.deleteBlock`, whatever else the state looks like. -/
theorem C04_delete_refuses_finalized (cd : Codecs) (cfg : Cfg) (s : St) (tip : Block)
    (rest : List Block) (saveTemp : Bool) (fin : Nat) (hc : s.cache = tip :: rest)
    (hf : finOf s.db = some fin) (hle : tip.hdr.height ≤ fin) :
    deleteTip cd cfg s saveTemp = (s, .err) := by
  unfold deleteTip
  rw [hc]
  simp only [hf, hle, if_true]

/-- The tie-break rule cannot replace a finalized tip either: `process` leaves the state alone. -/
theorem C04_tiebreak_refuses_finalized (cd : Codecs) (cfg : Cfg) (slot : Slot) (s : St) (tip : Block)
    (rest : List Block) (i : Incoming) (fin : Nat) (hc : s.cache = tip :: rest)
    (hf : finOf s.db = some fin) (hle : tip.hdr.height ≤ fin)
    (hv : forkChoice slot tip.hdr i.block.hdr i.flags = .tieBreak) :
    (process cd cfg slot s i).1 = s := by
  unfold process
  rw [hc]
  simp only [hv]
  split
  · rfl
  · rw [C04_delete_refuses_finalized cd cfg s tip rest false fin hc hf hle]

/-! ### operation sequences -/

/-- **The finalized height never decreases**, along any sequence of processed blocks (valid,
invalid, competing, tie-breaks), deletions (also the synchronisers' plans: they are sequences of
`deleteTip true` / `apply … removeTemp` / `clearTemp`), restarts. -/
theorem C04_fin_monotone (cd : Codecs) (cfg : Cfg) (slot : Slot) (base : Store) (baseH : Nat)
    (hbase : BaseOK cd base baseH) (s : St) (c : Chain) (ops : List Op)
    (hR : Ref cd base baseH s c) (hok : RunOK cd cfg slot base s c ops) :
    ∃ f f', finOf s.db = some f ∧ finOf (run cd cfg slot s ops).db = some f' ∧ f ≤ f' :=
  (trans_run hbase ops s c hR hok).fin_le

/-- … and it is monotone between any two points of a history. -/
theorem C04_fin_monotone_prefix (cd : Codecs) (cfg : Cfg) (slot : Slot) (base : Store) (baseH : Nat)
    (hbase : BaseOK cd base baseH) (s : St) (c : Chain) (a b : List Op)
    (hR : Ref cd base baseH s c) (hok : RunOK cd cfg slot base s c (a ++ b)) :
    ∃ f f', finOf (run cd cfg slot s a).db = some f ∧
      finOf (run cd cfg slot s (a ++ b)).db = some f' ∧ f ≤ f' := by
  obtain ⟨hRa, hb, _⟩ := run_split hbase a b s c hR hok
  rw [run_append]
  exact C04_fin_monotone cd cfg slot base baseH hbase _ _ b hRa hb

/-- **Finalize events are exactly the raises**: the finalize events published along a history are
`(f0,f1), (f1,f2), …, (f_{n-1}, f_n)` with `f0` the finalized height at the start, `f_n` the one at
the end and `f_i < f_{i+1}`: one event per raise, `Original`/`Next` = old/new stored height, no
event without a raise, no raise without an event. -/
theorem C04_finalize_events_chain (cd : Codecs) (cfg : Cfg) (slot : Slot) (base : Store) (baseH : Nat)
    (hbase : BaseOK cd base baseH) (s : St) (c : Chain) (ops : List Op)
    (hR : Ref cd base baseH s c) (hok : RunOK cd cfg slot base s c ops) :
    ∃ f f' evs, finOf s.db = some f ∧ finOf (run cd cfg slot s ops).db = some f' ∧
      (run cd cfg slot s ops).log = evs ++ s.log ∧ IsChain f (finPairs evs) f' :=
  (trans_run hbase ops s c hR hok).fin

/-- **Finalized blocks are irreversible**: for every history `a ++ b` and every height `h` at or
below the finalized height reached after `a`, the block id (indeed the whole header) the node
serves for `h` — `GetBlockHeaderByHeight`: block cache first, then the database index — is the
same after `a ++ b` as after `a`: fork choice, tie-break, deletions, failed applications, the
delete/apply plans of the synchronisers and restarts never remove or replace it. -/
theorem C04_finalized_prefix_stable (cd : Codecs) (cfg : Cfg) (slot : Slot) (base : Store) (baseH : Nat)
    (hbase : BaseOK cd base baseH) (s : St) (c : Chain) (a b : List Op)
    (hR : Ref cd base baseH s c) (hok : RunOK cd cfg slot base s c (a ++ b))
    (f : Nat) (hf : finOf (run cd cfg slot s a).db = some f) (h : Nat) (hle : h ≤ f) :
    headerAt cd (run cd cfg slot s (a ++ b)) h = headerAt cd (run cd cfg slot s a) h ∧
    idAt cd (run cd cfg slot s (a ++ b)) h = idAt cd (run cd cfg slot s a) h := by
  obtain ⟨hRa, hb, _⟩ := run_split hbase a b s c hR hok
  rw [run_append]
  exact (trans_run hbase b _ _ hRa hb).served hbase hRa hf hle

/-- Every block of the chain (finalized or not) is served at its height: the header of the chain's block. -/
theorem C04_finalized_block_served (cd : Codecs) (base : Store) (baseH : Nat)
    (hbase : BaseOK cd base baseH) (s : St) (c : Chain)
    (hR : Ref cd base baseH s c) (bx : Block × Exec) (hm : bx ∈ c) :
    headerAt cd s bx.1.hdr.height = some bx.1.hdr := by
  rw [headerAt_ref hbase hR, hdrSpec_member hR.db.wf hm]

/-! ### the synchronisers -/

/-- `deleteTillCommonBlock` is a sequence of `deleteBlock(tip, saveTemp = true)` calls -/
theorem C04_deleteTill_is_run (cd : Codecs) (cfg : Cfg) (slot : Slot) : ∀ (fuel : Nat) (s : St)
    (target : Nat), ∃ k, (deleteTill cd cfg fuel s target).1 =
      run cd cfg slot s (List.replicate k (Op.deleteTip true)) := by
  intro fuel s target
  refine deleteTill_induction (P := fun s out => ∃ k, out.1 = run cd cfg slot s (List.replicate k (Op.deleteTip true)))
    (fun _ => ⟨0, rfl⟩) (fun _ _ => ⟨0, rfl⟩) (fun _ _ _ _ _ => ⟨0, rfl⟩)
    (fun s s' r hd _ => ⟨1, by simp [run, step, hd]⟩) ?_ fuel s
  rintro s s1 out hd ⟨k, hk⟩
  refine ⟨k + 1, ?_⟩
  rw [hk, List.replicate_succ, run_cons]
  simp only [step, hd]

/-- **Block sync has no explicit check of the common block** (the id comes from the peer): the
guard of `deleteBlock` is what protects finalized blocks — `deleteTillCommonBlock` towards a
common block below the finalized height never reports success, and (by
`C04_finalized_prefix_stable` through `C04_deleteTill_is_run`) removes no finalized block. -/
theorem C04_deleteTill_stops_at_fin (cd : Codecs) (cfg : Cfg) (slot : Slot) (base : Store)
    (baseH : Nat) (hbase : BaseOK cd base baseH) (s : St) (c : Chain)
    (hR : Ref cd base baseH s c) (fuel target : Nat) (s' : St)
    (hd : deleteTill cd cfg fuel s target = (s', .ok)) (f : Nat) (hf : finOf s.db = some f) :
    f ≤ target := by
  obtain ⟨k, hk⟩ := C04_deleteTill_is_run cd cfg slot fuel s target
  have hT := trans_run hbase _ s c hR (runOK_deleteTips cd cfg slot base true k s c)
  rw [← hk, hd] at hT
  simp only at hT
  obtain ⟨f0, f1, _, h0, h1, _, hch⟩ := hT.fin
  have hmono := isChain_le _ _ _ hch
  have : f0 = f := by rw [hf] at h0; exact (Option.some.inj h0).symm
  subst this
  have hle2 := (hT.ref.db.fin_le h1).2
  -- the loop ended with the tip at the target height
  have htip : (deleteTill cd cfg fuel s target).2 = .ok →
      ∃ tip, (deleteTill cd cfg fuel s target).1.cache.head? = some tip ∧ tip.hdr.height = target :=
    deleteTill_induction (P := fun _ out => out.2 = .ok → ∃ tip, out.1.cache.head? = some tip ∧ tip.hdr.height = target)
      (fun _ h => by cases h) (fun _ _ h => by cases h) (fun s tip rest hc heq _ => ⟨tip, by rw [hc]; rfl, heq⟩)
      (fun _ _ _ _ hr h => absurd h hr) (fun _ _ _ _ ih => ih) fuel s
  obtain ⟨tip, hh, ht⟩ := by rw [hd] at htip; exact htip rfl
  have := hT.ref.cache.head tip hh
  omega

/-- `fastSyncer.Sync` proceeds (downloads, deletes down to the common block, applies) only if the
common block named by the peer is not below the finalized block; otherwise the peer is banned. -/
theorem C04_fast_sync_common_ge_fin (lastHeight commonHeight finalizedHeight blockHeight nv : Nat)
    (h : fastSyncDecide lastHeight commonHeight finalizedHeight blockHeight nv = .proceed) :
    finalizedHeight ≤ commonHeight := by
  unfold fastSyncDecide at h
  split at h
  · cases h
  · omega

theorem C04_fast_sync_bans_below_fin (lastHeight commonHeight finalizedHeight blockHeight nv : Nat)
    (h : commonHeight < finalizedHeight) :
    fastSyncDecide lastHeight commonHeight finalizedHeight blockHeight nv = .banBelowFinalized := by
  unfold fastSyncDecide; simp [h]

/-- the `uint32` subtraction `start - t` of the height loops does not wrap while `t ≤ start` -/
private theorem sub_mod_u32 {start t : Nat} (hs : start < u32) (ht : t ≤ start) :
    (start + u32 - t) % u32 = start - t := by
  have : start + u32 - t = (start - t) + u32 := by omega
  rw [this, Nat.add_mod_right, Nat.mod_eq_of_lt (by omega)]

private theorem gapLoop_ge (start minimum gap : Nat) (hs : start < u32) : ∀ (n i : Nat),
    minimum + (i + n) * gap < u32 + gap → ∀ x ∈ gapLoop start minimum gap n i, minimum ≤ x ∧ x ≤ start := by
  intro n
  induction n with
  | zero => intro i _ x hx; simp [gapLoop] at hx
  | succ m ih =>
    intro i hb x hx
    have hig : i * gap ≤ (i + (m + 1)) * gap - gap := by
      have : (i + (m + 1)) * gap = i * gap + (m + 1) * gap := Nat.add_mul _ _ _
      have : (m + 1) * gap = m * gap + gap := Nat.succ_mul _ _
      omega
    have h1 : minimum + i * gap < u32 := by
      have : (i + (m + 1)) * gap = i * gap + (m + 1) * gap := Nat.add_mul _ _ _
      have : (m + 1) * gap = m * gap + gap := Nat.succ_mul _ _
      omega
    have h2 : (i * gap) % u32 = i * gap := Nat.mod_eq_of_lt (by omega)
    have h3 : (minimum + i * gap) % u32 = minimum + i * gap := Nat.mod_eq_of_lt h1
    simp only [gapLoop, h2, h3] at hx
    split at hx
    · cases hx
    · rename_i hge
      simp only [List.mem_cons] at hx
      rcases hx with hx | hx
      · rw [hx, sub_mod_u32 hs (by omega)]
        omega
      · refine ih (i + 1) ?_ x hx
        have : i + 1 + m = i + (m + 1) := by omega
        rw [this]; exact hb

/-- **Heights offered to the peer by block sync are never below the finalized height.**
`getHeightWithGap(start, minimum = finalized, gap, num)` returns `[minimum]` when
`start ≤ minimum`; otherwise every returned height lies in `[minimum, start]` — provided the
`uint32` sum `minimum + (num-2)·gap` does not wrap (heights far below 2^32). -/
theorem C04_sync_heights_ge_fin (start minimum gap num : Nat) (hs : start < u32)
    (hno : minimum + (num - 2) * gap < u32) :
    (start ≤ minimum → getHeightWithGap start minimum gap num = [minimum]) ∧
    (minimum < start → ∀ x ∈ getHeightWithGap start minimum gap num, minimum ≤ x ∧ x ≤ start) := by
  constructor
  · intro h; unfold getHeightWithGap; simp [h]
  · intro h x hx
    unfold getHeightWithGap at hx
    have : ¬ start ≤ minimum := by omega
    simp only [this, if_false] at hx
    refine gapLoop_ge start minimum gap hs (num - 1) 0 ?_ x hx
    rcases Nat.lt_or_ge num 2 with h2 | h2
    · have : num - 1 = 0 ∨ num - 1 = 1 := by omega
      rcases this with h3 | h3
      · rw [h3]; simp; omega
      · rw [h3]; simp; omega
    · have : 0 + (num - 1) = (num - 2) + 1 := by omega
      rw [this, Nat.succ_mul]; omega

/-- Without the bound the `uint32` addition wraps and a height below `minimum` is returned. -/
theorem C04_sync_heights_overflow_counterexample :
    4294967285 ∈ getHeightWithGap 4294967295 4294967291 10 10 ∧ 4294967285 < 4294967291 := by decide

private theorem lastLoop_le (start : Nat) (hs : start < u32) : ∀ (n i : Nat), i + n ≤ u32 →
    ∀ x ∈ lastLoop start n i, x ≤ start ∧ start < x + (i + n) := by
  intro n
  induction n with
  | zero => intro i _ x hx; simp [lastLoop] at hx
  | succ m ih =>
    intro i hb x hx
    have h2 : i % u32 = i := Nat.mod_eq_of_lt (by omega)
    simp only [lastLoop, h2] at hx
    split at hx
    · cases hx
    · simp only [List.mem_cons] at hx
      rcases hx with hx | hx
      · rw [hx, sub_mod_u32 hs (by omega)]; omega
      · have := ih (i + 1) (by omega) x hx
        omega

/-- `getLastHeights(start, num)` (fast sync) returns heights in `(start - (num-1), start]`; it has
no finalized bound of its own — `C04_fast_sync_common_ge_fin` is where fast sync enforces it. (For `num ≤ 1` the second
disjunct of the conclusion holds and nothing is said about the list.) -/
theorem C04_last_heights_bounds (start num : Nat) (hs : start < u32) (hn : num ≤ u32) :
    ∀ x ∈ getLastHeights start num, x ≤ start ∧ start < x + (num - 1) ∨ num ≤ 1 := by
  intro x hx
  unfold getLastHeights at hx
  rcases Nat.lt_or_ge 1 num with h | h
  · left
    have := lastLoop_le start hs (num - 1) 0 (by omega) x hx
    omega
  · right; omega

/-! ### non-vacuity -/

/-- the hypotheses of the invariant-based theorems are satisfiable: the state after a genesis
block, then "apply a block with a transaction and a consensus-store write, restart, delete it
again keeping a temporary copy, restart" -/
example : ∃ f f', finOf Example.s0.db = some f ∧
    finOf (run Example.cd Example.cfg Example.slot Example.s0 Example.ops1).db = some f' ∧ f ≤ f' :=
  C04_fin_monotone _ _ _ _ _ Example.baseOK _ _ _ Example.ref0 Example.runOK1

example : idAt Example.cd (run Example.cd Example.cfg Example.slot Example.s0 (Example.ops1 ++ [])) 0 =
    idAt Example.cd (run Example.cd Example.cfg Example.slot Example.s0 Example.ops1) 0 := by
  obtain ⟨f, _, hf, _⟩ := C04_fin_monotone_prefix Example.cd Example.cfg Example.slot Example.base 0
    Example.baseOK Example.s0 [] Example.ops1 [] Example.ref0 (by simpa using Example.runOK1)
  exact (C04_finalized_prefix_stable _ _ _ _ _ Example.baseOK _ _ Example.ops1 []
    Example.ref0 (by simpa using Example.runOK1) f hf 0 (Nat.zero_le _)).2

example : (apply Example.cd Example.cfg Example.s0 Example.b1 true Example.x1 false).2 = .ok := by
  decide

example : deleteTip Example.cd Example.cfg Example.s0 false = (Example.s0, .err) :=
  C04_delete_refuses_finalized _ _ _ Example.g [] false 0 rfl (by decide) (by decide)

example : getHeightWithGap 100 40 7 10 = [100, 93, 86, 79, 72, 65, 58, 51, 44] := by decide
example : getHeightWithGap 30 40 7 10 = [40] := by decide
example : getLastHeights 5 20 = [5, 4, 3, 2, 1, 0] := by decide
example : fastSyncDecide 50 39 40 52 4 = .banBelowFinalized := by decide
example : fastSyncDecide 50 45 40 52 4 = .proceed := by decide
