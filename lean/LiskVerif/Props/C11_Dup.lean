/-
C11 — Regular Merkle tree: index lists that are not a set of nodes of the tree.

`calculatePathNodes` (behind `VerifyProof`, `CalculateRootFromUpdateData` and `Update`) pairs the query hashes
with `Idxs` through a map and never compared an index with the shape of the tree. Two defects of the
original code (confirmed on the real code, see /verif/fixes/C11-proof-duplicate-index.patch and
/verif/fixes/C11-proof-index-out-of-tree.patch), each shown here by counterexamples on the original functions
(`…_original_…`):
* a repeated index keeps only the last query hash; when no sibling hash of its own is needed for that index (lone
  right-edge leaf, or its sibling is queried too) the proof is accepted although the first hash is arbitrary; the
  position a lone right-edge leaf passes through on its way up is no node of the tree, but a hash given for it replaced
  the one carried up from the leaf without comparison; a leaf-layer index beyond the size is a claim that is ignored;
* in `Update` and `CalculateRootFromUpdateData` a leaf-layer index at or beyond the size is hashed in as a leaf the
  tree does not have.
With the fixes (`idxsValid` in `Model/RMT.lean`: the non-zero indexes are pairwise distinct and each names a node
of the tree of `size` leaves) the theorems of this file hold for ALL index lists of leaf-layer positions — no
distinctness, no range hypothesis: an accepted proof, and a successful `Update`, name pairwise distinct positions
inside the tree, and what `Props/C11_More.lean` proves for such positions follows; duplicates and positions out of
range are rejected. The fixed operations are the original ones behind the check (`C11_fixed_eq_checked_original`).
-/
import LiskVerif.Props.C11_More

open LiskVerif LiskVerif.RMT

/-! ### the fixed operations are the original ones behind the check of the index list -/

/-- `VerifyProof`, `CalculateRootFromUpdateData` and `Update` with the fixes are the original functions
guarded by `idxsValid`: nothing else changed. -/
theorem C11_fixed_eq_checked_original (hf : HashFns) :
    (∀ q p r, verifyProof hf q p r = (idxsValid p.size p.idxs && verifyProofOrig hf q p r)) ∧
    (∀ upd p, rootFromUpdateData hf upd p
      = if idxsValid p.size p.idxs then rootFromUpdateDataOrig hf upd p else none) ∧
    (∀ t idxs data, update hf t idxs data
      = if idxsValid t.core.size idxs then updateOrig hf t idxs data else none) :=
  ⟨verifyProof_eq hf, rootFromUpdateData_eq hf, update_eq hf⟩

private theorem calcPathNodes_some_len (hf : HashFns) (q : List Bytes) (n : Nat) (idxs : List Nat) (sibs : List Bytes)
    (res : List (Nat × Bytes)) (h : calcPathNodes hf q n idxs sibs = some res) : q.length = idxs.length := by
  unfold calcPathNodes at h
  split at h
  · cases h
  · rename_i hne
    simpa using hne

private theorem verify_valid (hf : HashFns) (q : List Bytes) (p : Proof) (r : Bytes)
    (h : verifyProof hf q p r = true) : idxsValid p.size p.idxs = true ∧ q.length = p.idxs.length := by
  obtain ⟨_, hval, res, hres, _⟩ := (verifyProof_iff hf q p r).1 h
  exact ⟨hval, calcPathNodes_some_len hf _ _ _ _ res hres⟩

/-! ### soundness of `VerifyProof` for any list of leaf-layer indexes -/

/-- Soundness without a distinctness (or range) hypothesis: if the fixed `VerifyProof` accepts a proof whose
indexes are ANY list of leaf-layer positions against the root of `l`, then the positions are pairwise
distinct, there are as many as query hashes, each lies inside the tree, and every query hash is the hash of
the leaf at its position. (Injectivity of the branch hash is the only assumption. The original code fails
this statement: `C11_dup_index_original_accepts_false_claim`.) -/
theorem C11_proof_sound_any_indexes (hf : HashFns) (hinj : BranchInj hf) (l : List Bytes) (pos : List Nat)
    (q sibs : List Bytes)
    (hv : verifyProof hf q ⟨l.length, pos.map (fun p => 2 ^ getHeight l.length + p), sibs⟩ (rootH hf l) = true) :
    pos.Nodup ∧ q.length = pos.length ∧
      ∀ k (hk : k < pos.length), pos[k] < l.length ∧ l[pos[k]]? = q[k]? := by
  obtain ⟨hval, hlen⟩ := verify_valid hf _ _ _ hv
  simp only [List.length_map] at hlen
  obtain ⟨hnd, hlt⟩ := idxsValid_leaves_inv pos hval
  refine ⟨hnd, hlen, ?_⟩
  intro k hk
  exact ⟨hlt _ (List.getElem_mem hk), verify_sound_multi hf hinj l pos q sibs hnd hlt hlen hv k hk⟩

/-- The statement for index lists that also contain inner nodes and zero entries ("not in the tree"): every pair
whose index lies in the leaf layer names the real leaf. `C11_proof_sound_any_indexes` proves it for lists
consisting of indexes at or above the leaf layer (any `2^height + p`); with inner-node indexes mixed in it is
not proved here — the harness checks it on the real code and on the model (`vcraft` ops with ancestors, zero
entries and pass-through positions; oracle `c11-proof-accepts-false-claim`). -/
def C11_proof_sound_mixed_indexes_Statement : Prop :=
  ∀ (hf : HashFns), BranchInj hf → ∀ (l : List Bytes) (idxs : List Nat) (q sibs : List Bytes),
    verifyProof hf q ⟨l.length, idxs, sibs⟩ (rootH hf l) = true →
    ∀ (k p : Nat), idxs[k]? = some (2 ^ getHeight l.length + p) → p < l.length ∧ l[p]? = q[k]?

/-- non-vacuity: the fixed verifier accepts the proof for the leaves 3 and 1 (in this order) of five leaves -/
example : verifyProof C11.pairHash [[4], [2]]
    ⟨5, [3, 1].map (fun p => 2 ^ getHeight 5 + p), [[1], [3], [5]]⟩
    (rootH C11.pairHash [[1], [2], [3], [4], [5]]) = true := by
  decide +kernel

example : ([3, 1] : List Nat).Nodup ∧ ([[4], [2]] : List Bytes).length = ([3, 1] : List Nat).length ∧
    ∀ k (hk : k < ([3, 1] : List Nat).length), ([3, 1] : List Nat)[k] < ([[1], [2], [3], [4], [5]] : List Bytes).length ∧
      ([[1], [2], [3], [4], [5]] : List Bytes)[([3, 1] : List Nat)[k]]? = ([[4], [2]] : List Bytes)[k]? :=
  C11_proof_sound_any_indexes C11.pairHash C11.pairHash_inj [[1], [2], [3], [4], [5]] [3, 1] [[4], [2]] [[1], [3], [5]]
    (by decide +kernel)

/-- Other leaf data is rejected, for any list of leaf-layer indexes: a proof accepted for the data `d` shows
that the leaf at every named position is the corresponding element of `d` (leaf hash injective). -/
theorem C11_proof_any_indexes_other_leaf (hf : HashFns) (hinj : BranchInj hf)
    (hleaf : ∀ a b, hf.leaf a = hf.leaf b → a = b) (data : List Bytes) (pos : List Nat) (d sibs : List Bytes)
    (hv : verifyProof hf (d.map hf.leaf) ⟨data.length, pos.map (fun p => 2 ^ getHeight data.length + p), sibs⟩
      (root hf data) = true) :
    ∀ k (hk : k < pos.length), data[pos[k]]? = d[k]? := by
  have hl : (data.map hf.leaf).length = data.length := by simp
  obtain ⟨_, hlen, hall⟩ := C11_proof_sound_any_indexes hf hinj (data.map hf.leaf) pos (d.map hf.leaf) sibs
    (by rw [hl]; exact hv)
  intro k hk
  obtain ⟨hlt, he⟩ := hall k hk
  rw [hl] at hlt
  have hlen' : d.length = pos.length := by simpa using hlen
  have hkd : k < d.length := by omega
  rw [List.getElem?_map, List.getElem?_map, List.getElem?_eq_getElem hlt, List.getElem?_eq_getElem hkd] at he
  rw [List.getElem?_eq_getElem hlt, List.getElem?_eq_getElem hkd, hleaf _ _ (Option.some.inj he)]

example : ∀ k (hk : k < ([3, 1] : List Nat).length),
    ([[1], [2], [3], [4], [5]] : List Bytes)[([3, 1] : List Nat)[k]]? = ([[4], [2]] : List Bytes)[k]? :=
  C11_proof_any_indexes_other_leaf C11.pairHash C11.pairHash_inj (fun _ _ h => h) [[1], [2], [3], [4], [5]] [3, 1]
    [[4], [2]] [[1], [3], [5]] (by decide +kernel)

/-- The fixed `VerifyProof` rejects every proof that names a leaf-layer position twice. -/
theorem C11_verify_rejects_duplicate_index (hf : HashFns) (n : Nat) (pos : List Nat) (q sibs : List Bytes) (r : Bytes)
    (hdup : ¬ pos.Nodup) :
    verifyProof hf q ⟨n, pos.map (fun p => 2 ^ getHeight n + p), sibs⟩ r = false := by
  cases hv : verifyProof hf q ⟨n, pos.map (fun p => 2 ^ getHeight n + p), sibs⟩ r with
  | false => rfl
  | true => exact absurd (idxsValid_leaves_inv pos (verify_valid hf _ _ _ hv).1).1 hdup

/-- The fixed `VerifyProof` rejects every proof that names a leaf-layer position at or beyond the size. -/
theorem C11_verify_rejects_out_of_range (hf : HashFns) (n : Nat) (pos : List Nat) (q sibs : List Bytes) (r : Bytes)
    (p : Nat) (hp : p ∈ pos) (hge : n ≤ p) :
    verifyProof hf q ⟨n, pos.map (fun p => 2 ^ getHeight n + p), sibs⟩ r = false := by
  cases hv : verifyProof hf q ⟨n, pos.map (fun p => 2 ^ getHeight n + p), sibs⟩ r with
  | false => rfl
  | true =>
    have hlt : p < n := (idxsValid_leaves_inv (n := n) pos (verify_valid hf _ _ _ hv).1).2 p hp
    omega

example : verifyProof C11.pairHash [[9], [5]] ⟨5, [4, 4].map (fun p => 2 ^ getHeight 5 + p), [[1, 1, 0, 1, 0, 1, 2, 1, 0, 3, 4]]⟩
    (rootH C11.pairHash [[1], [2], [3], [4], [5]]) = false :=
  C11_verify_rejects_duplicate_index _ _ _ _ _ _ (by decide)

/-! ### the original pairing: counterexamples -/

/-- The original `VerifyProof` (last query hash wins for a repeated index) accepts a false claim: in the tree
of the five leaves `[1] … [5]` (toy hash), the proof `Idxs = [20, 20]` with the query hashes `[[9], [5]]` and
the one sibling hash of leaf 4 is accepted against the real root, although leaf 4 is `[5]` and not `[9]`.
The fixed verifier rejects it. -/
theorem C11_dup_index_original_accepts_false_claim :
    let l : List Bytes := [[1], [2], [3], [4], [5]]
    let p : Proof := ⟨5, [2 ^ getHeight 5 + 4, 2 ^ getHeight 5 + 4], [rootH C11.pairHash [[1], [2], [3], [4]]]⟩
    l[4]? ≠ some [9] ∧
    verifyProofOrig C11.pairHash [[9], [5]] p (rootH C11.pairHash l) = true ∧
    verifyProof C11.pairHash [[9], [5]] p (rootH C11.pairHash l) = false := by
  decide +kernel

/-- The same with the sibling queried as well (`Idxs = [17, 17, 16]`, hashes `[[9], [2], [1]]`): no sibling hash
is consumed for the repeated index, the false claim `(17, [9])` is accepted by the original code. -/
theorem C11_dup_index_sibling_queried_original_accepts_false_claim :
    let l : List Bytes := [[1], [2], [3], [4], [5]]
    let p : Proof := ⟨5, [17, 17, 16], [rootH C11.pairHash [[3], [4]], [5]]⟩
    l[1]? ≠ some [9] ∧
    verifyProofOrig C11.pairHash [[9], [2], [1]] p (rootH C11.pairHash l) = true ∧
    verifyProof C11.pairHash [[9], [2], [1]] p (rootH C11.pairHash l) = false := by
  decide +kernel

/-- Index 10 = (layer 1, node 2) is no node of a tree of five leaves (layer structure 5, 2, 1, 1) but the position
leaf 4 (index 20) passes through on its way up. The original code takes the hash given for it instead of the
one carried up from index 20 without comparing them: `Idxs = [20, 10]` with `[[9], [5]]` is accepted, a false
claim about leaf 4. The fixed verifier rejects index 10. -/
theorem C11_passthrough_alias_original_accepts_false_claim :
    let l : List Bytes := [[1], [2], [3], [4], [5]]
    let p : Proof := ⟨5, [20, 10], [rootH C11.pairHash [[1], [2], [3], [4]]]⟩
    l[4]? ≠ some [9] ∧ layerStructure 5 = [5, 2, 1, 1] ∧
    verifyProofOrig C11.pairHash [[9], [5]] p (rootH C11.pairHash l) = true ∧
    verifyProof C11.pairHash [[9], [5]] p (rootH C11.pairHash l) = false := by
  decide +kernel

/-- A leaf-layer index beyond the size is a claim the original `VerifyProof` ignores: in the tree of the three leaves
`[1], [2], [3]` the proof `Idxs = [10, 8, 12]` (12 = position 4) with the hashes `[[3], [1], [9]]` is accepted — the hash
given for index 12 travels up beside the tree and is never combined with anything. The fixed verifier rejects it. -/
theorem C11_out_of_range_original_accepts_ignored_claim :
    let l : List Bytes := [[1], [2], [3]]
    let p : Proof := ⟨3, [10, 8, 12], [[2]]⟩
    2 ^ getHeight 3 + 4 = 12 ∧
    verifyProofOrig C11.pairHash [[3], [1], [9]] p (rootH C11.pairHash l) = true ∧
    verifyProof C11.pairHash [[3], [1], [9]] p (rootH C11.pairHash l) = false := by
  decide +kernel

/-! ### update through a proof -/

private theorem update_valid (hf : HashFns) (t t' : Tree) (idxs : List Nat) (data : List Bytes)
    (hu : update hf t idxs data = some t') :
    idxsValid t.core.size idxs = true ∧ data.length = idxs.length := by
  obtain ⟨_hsize, hval, sibs, calcd, t1, r, p, _hsibs, hcalc, _hsave, _hroot, _hpath, _heq⟩ := update_some hu
  exact ⟨hval, by simpa using calcPathNodes_some_len hf _ _ _ _ calcd hcalc⟩

/-- The fixed `Update` returns an error when a leaf-layer position at or beyond the size is named (the original
code hashed it in as a leaf the tree does not have: `C11_update_original_accepts_phantom_leaf`). -/
theorem C11_update_rejects_out_of_range (hf : HashFns) (t : Tree) (pos : List Nat) (upd : List Bytes)
    (p : Nat) (hp : p ∈ pos) (hge : t.core.size ≤ p) :
    update hf t (pos.map fun p => 2 ^ getHeight t.core.size + p) upd = none := by
  cases hu : update hf t (pos.map fun p => 2 ^ getHeight t.core.size + p) upd with
  | none => rfl
  | some t' =>
    have := (idxsValid_leaves_inv pos (update_valid hf t t' _ _ hu).1).2 p hp
    omega

/-- The fixed `Update` returns an error when a position is named twice. -/
theorem C11_update_rejects_duplicate_index (hf : HashFns) (t : Tree) (pos : List Nat) (upd : List Bytes)
    (hdup : ¬ pos.Nodup) :
    update hf t (pos.map fun p => 2 ^ getHeight t.core.size + p) upd = none := by
  cases hu : update hf t (pos.map fun p => 2 ^ getHeight t.core.size + p) upd with
  | none => rfl
  | some t' => exact absurd (idxsValid_leaves_inv pos (update_valid hf t t' _ _ hu).1).1 hdup

/-- `Update` through a proof for ANY list of leaf-layer positions (no distinctness, range or length hypothesis):
if it succeeds on a tree built by appends, the positions are pairwise distinct, inside the tree, as many as the
update data, and (root, append path, size) are those of the list with exactly these leaves replaced. -/
theorem C11_update_via_proof_any_positions (hf : HashFns) (data : List Bytes) (t t' : Tree) (pos : List Nat)
    (upd : List Bytes) (h : C11.appendTreeAll hf (emptyTree hf) data = some t)
    (hu : update hf t (pos.map fun p => 2 ^ getHeight data.length + p) upd = some t') :
    pos.Nodup ∧ pos.length = upd.length ∧ (∀ p ∈ pos, p < data.length) ∧
    (let data' := (pos.zip upd).foldl (fun d pu => d.set pu.1 pu.2) data
     t'.core = ⟨root hf data', peaks hf (data'.map hf.leaf), data.length⟩) := by
  have hsz : t.core.size = data.length := by simpa using (C11_built hf data t h).size
  obtain ⟨hval, hlen⟩ := update_valid hf t t' _ _ hu
  rw [hsz] at hval
  simp only [List.length_map] at hlen
  obtain ⟨hnd, hlt⟩ := idxsValid_leaves_inv pos hval
  exact ⟨hnd, hlen.symm, hlt, C11_update_via_proof hf data t t' pos upd h hnd hlen.symm hlt hu⟩

/-- non-vacuity: the update of the leaves 4, 0, 2 of five leaves succeeds on the fixed model -/
example : ((C11.appendTreeAll C11.pairHash (emptyTree C11.pairHash) [[1], [2], [3], [4], [5]]).bind
    fun t => update C11.pairHash t ([4, 0, 2].map fun p => 2 ^ getHeight 5 + p) [[9], [8], [7]]).map (·.core.root)
      = some (root C11.pairHash [[8], [2], [7], [4], [9]]) := by
  decide +kernel

/-- The original `Update` accepts index 21 (leaf-layer position 5) in the tree of the five leaves `[1] … [5]`:
it succeeds, the size stays 5, and the root becomes the root of the six-leaf list `[1] … [5], [9]` — a leaf
the tree does not have. The fixed `Update` returns an error. -/
theorem C11_update_original_accepts_phantom_leaf :
    ((C11.appendTreeAll C11.pairHash (emptyTree C11.pairHash) [[1], [2], [3], [4], [5]]).bind
      fun t => updateOrig C11.pairHash t [2 ^ getHeight 5 + 5] [[9]]).map (fun t' => (t'.core.root, t'.core.size))
      = some (root C11.pairHash [[1], [2], [3], [4], [5], [9]], 5) ∧
    ((C11.appendTreeAll C11.pairHash (emptyTree C11.pairHash) [[1], [2], [3], [4], [5]]).bind
      fun t => update C11.pairHash t [2 ^ getHeight 5 + 5] [[9]]) = none := by
  decide +kernel

/-- The original `Update` with a position named twice writes only the last value (`[20, 20]` with `[[8], [9]]`
gives the root of `[1] … [4], [9]`); the fixed `Update` returns an error. -/
theorem C11_update_original_duplicate_index_last_wins :
    ((C11.appendTreeAll C11.pairHash (emptyTree C11.pairHash) [[1], [2], [3], [4], [5]]).bind
      fun t => updateOrig C11.pairHash t [20, 20] [[8], [9]]).map (·.core.root)
      = some (root C11.pairHash [[1], [2], [3], [4], [9]]) ∧
    ((C11.appendTreeAll C11.pairHash (emptyTree C11.pairHash) [[1], [2], [3], [4], [5]]).bind
      fun t => update C11.pairHash t [20, 20] [[8], [9]]) = none := by
  decide +kernel

/-! ### `CalculateRootFromUpdateData` -/

private theorem rootFromUpdateData_valid (hf : HashFns) (upd : List Bytes) (p : Proof) (r : Bytes)
    (h : rootFromUpdateData hf upd p = some r) : idxsValid p.size p.idxs = true := by
  rw [rootFromUpdateData_eq] at h
  split at h
  · assumption
  · cases h

/-- The fixed `CalculateRootFromUpdateData` returns an error for a proof that names a leaf-layer position at or
beyond its size. -/
theorem C11_root_from_update_data_rejects_out_of_range (hf : HashFns) (n : Nat) (pos : List Nat)
    (upd sibs : List Bytes) (p : Nat) (hp : p ∈ pos) (hge : n ≤ p) :
    rootFromUpdateData hf upd ⟨n, pos.map (fun p => 2 ^ getHeight n + p), sibs⟩ = none := by
  cases hr : rootFromUpdateData hf upd ⟨n, pos.map (fun p => 2 ^ getHeight n + p), sibs⟩ with
  | none => rfl
  | some r =>
    have hlt : p < n := (idxsValid_leaves_inv (n := n) pos (rootFromUpdateData_valid hf _ _ r hr)).2 p hp
    omega

/-- … and for a proof that names a position twice. -/
theorem C11_root_from_update_data_rejects_duplicate_index (hf : HashFns) (n : Nat) (pos : List Nat)
    (upd sibs : List Bytes) (hdup : ¬ pos.Nodup) :
    rootFromUpdateData hf upd ⟨n, pos.map (fun p => 2 ^ getHeight n + p), sibs⟩ = none := by
  cases hr : rootFromUpdateData hf upd ⟨n, pos.map (fun p => 2 ^ getHeight n + p), sibs⟩ with
  | none => rfl
  | some r => exact absurd (idxsValid_leaves_inv pos (rootFromUpdateData_valid hf _ _ r hr)).1 hdup

/-- The original `CalculateRootFromUpdateData` computes the root of a six-leaf list from a proof of size 5 that
names index 21; the fixed one returns an error. -/
theorem C11_root_from_update_data_original_accepts_phantom_leaf :
    let p : Proof := ⟨5, [2 ^ getHeight 5 + 5], [[5], rootH C11.pairHash [[1], [2], [3], [4]]]⟩
    rootFromUpdateDataOrig C11.pairHash [[9]] p = some (root C11.pairHash [[1], [2], [3], [4], [5], [9]]) ∧
    rootFromUpdateData C11.pairHash [[9]] p = none := by
  decide +kernel
