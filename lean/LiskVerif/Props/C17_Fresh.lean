/-
C17 — per-request objects are fresh: nothing is carried over from one request to another.

Clause: "every request ends with either the response the remote handler produced for that very request or an
error".  Props/C17.lean proves correlation for a handler result `P id` that is a FUNCTION of the request id.
That the responder answers with a function of the request's own handler run is a fact about the code of its own: it
fails as soon as a per-request object (the response writer, a message, a read buffer) is reused and keeps
something of its previous use (seeded/C17-17: a pooled `responseWriter` whose release clears the payload only;
seeded/C17-16: a pooled read buffer the decoded payload is a view of).  This file states it as obligations on the
regenerated facts, and shows on a model of the responder why it is needed.

* tie A (`C17_fresh_gen_*`): tools/reqgen regenerates into Gen/ReqFacts.lean, on every run, the origin of every
  value assigned / declared / sent / returned / deferred in the functions of the request-response path of
  pkg/p2p, every mention of `sync.Pool` in the package, every package-level variable and those the path
  reaches, and the statements of pkg/codec `Reader.readBytes`.  The obligations state the exact lists: the
  response writer is `&responseWriter{}`, the messages come from constructors returning composite literals,
  the stream is read by `io.ReadAll`, the response channel is `make(chan *Response, 1)`, decoded bytes are
  copied into a `make`d slice, the package has no `sync.Pool`, and the only package-level variable on the
  path is the sentinel `errTimeout`.
* model (`C17_fresh_*`, Model/ReqFresh.lean): any number of requests in flight at the responder, handler
  calls interleaved arbitrarily.  With a fresh writer per request (and with a pool whose release resets the
  whole writer) every response sent is exactly what the handler of its own request produced, for ALL
  schedules and any pool content; `C17_correlation` at that handler result then says that a requester receives the
  intended (data, error) of its own request (that the two models are joined this way is assumed).  With the release of seeded/C17-17 a concrete schedule (evaluated by
  the kernel) answers a request whose handler only wrote data with that data PLUS the error of an earlier
  request.
-/
import LiskVerif.Model.ReqFresh
import LiskVerif.Gen.ReqFacts
import LiskVerif.Props.C17

open LiskVerif LiskVerif.ReqFresh

/-! ### tie A: where the per-request objects come from -/

private theorem filter_eq_map_aux {α : Type} (p : α → Bool) (f : Nat → α) :
    ∀ (l : List α) (k : Nat), (∀ j (h : j < l.length), f (k + j) = l[j]) →
      l.filter p = ((List.range' k l.length).filter fun i => p (f i)).map f
  | [], _, _ => rfl
  | x :: l, k, h => by
    have hx : f k = x := h 0 (Nat.zero_lt_succ _)
    have ih := filter_eq_map_aux p f l (k + 1) fun j hj => by
      rw [Nat.add_right_comm, Nat.add_assoc]; exact h (j + 1) (Nat.succ_lt_succ hj)
    simp only [List.length_cons, List.range'_succ, List.filter_cons, hx, ih]
    split <;> simp [hx]

/-- The rows a predicate selects are the rows at the positions it selects (stated so because comparing strings is
slow in the kernel: with this form it evaluates the predicate only, and `rfl` reads the selected rows off the table). -/
private theorem filter_eq_map_getElem {α : Type} [Inhabited α] (p : α → Bool) (l : List α) :
    l.filter p = ((List.range' 0 l.length).filter fun i => p l[i]!).map (l[·]!) :=
  filter_eq_map_aux p (l[·]!) l 0 fun j h => by simp [h]

/-- Every function of the request-response path was found, and the per-request objects are allocated per
request: the exact rows of the objects that carry a response or a request. -/
theorem C17_fresh_gen_objects_allocated_per_request :
    Gen.ReqFacts.freshPathMissing = [] ∧
    (Gen.ReqFacts.perRequestObjects.filter (fun r => r.2.2.1.startsWith "fresh:" || r.2.2.1 == "imported-call:io.ReadAll")) =
      [("MessageProtocol.onRequest", "buf,err", "imported-call:io.ReadAll", "io.ReadAll(s)"),
       ("MessageProtocol.onRequest", "newMsg", "fresh:ctor:newRequestMessage", "newRequestMessage(s.Conn().RemotePeer(), \"\", nil)"),
       ("MessageProtocol.onRequest", "w", "fresh:&lit:responseWriter", "&responseWriter{}"),
       ("MessageProtocol.onResponse", "buf,err", "imported-call:io.ReadAll", "io.ReadAll(s)"),
       ("MessageProtocol.onResponse", "newMsg", "fresh:ctor:newResponseMessage", "newResponseMessage(\"\", \"\", nil, nil)"),
       ("MessageProtocol.onResponse", "send:ch", "fresh:ctor:NewResponse", "NewResponse( newMsg.Timestamp, s.Conn().RemotePeer(), newMsg.Data, resError, )"),
       ("MessageProtocol.respond", "resMsg", "fresh:ctor:newResponseMessage", "newResponseMessage(reqMsgID, procedure, data, err)"),
       ("MessageProtocol.sendRequestMessage", "reqMsg", "fresh:ctor:newRequestMessage", "newRequestMessage(mp.peer.ID(), procedure, data)"),
       ("MessageProtocol.sendRequestMessage", "ch", "fresh:make", "make(chan *Response, 1)"),
       ("MessageProtocol.RequestFrom", "return", "fresh:lit:Response", "Response{err: err}"),
       ("newRequestMessage", "return", "fresh:&lit:Request", "&Request{ ID: uuid.New().String(), Timestamp: time.Now().Unix(), PeerID: peerID, Procedure: procedure, Data: data, }"),
       ("newResponseMessage", "return", "fresh:&lit:responseMsg", "&responseMsg{ ID: reqMsgID, Procedure: procedure, Timestamp: time.Now().Unix(), Data: data, Error: errString, }"),
       ("NewResponse", "return", "fresh:&lit:Response", "&Response{ timestamp: timestamp, peerID: peerID, data: data, err: err, }")] := by
  refine ⟨rfl, ?_⟩
  rw [filter_eq_map_getElem, show List.filter _ _ = [0, 3, 10, 12, 15, 25, 26, 28, 29, 50, 52, 55, 56] by decide +kernel]
  rfl

/-- The handler's writer, the decoded messages, the stream contents and the response channel of a request
are bound exactly once per function, to the fresh values above: the (function, variable) pairs of those
objects occur nowhere else in the table with another origin. -/
theorem C17_fresh_gen_objects_bound_once :
    (Gen.ReqFacts.perRequestObjects.filter (fun r => r.2.1 == "w" || r.2.1 == "newMsg" || r.2.1 == "buf,err" || r.2.1 == "buf"
        || r.2.1 == "resMsg" && r.1 == "MessageProtocol.respond" || r.2.1 == "reqMsg" || r.2.1 == "ch")).map (fun r => (r.1, r.2.1, r.2.2.1)) =
      [("MessageProtocol.onRequest", "buf,err", "imported-call:io.ReadAll"),
       ("MessageProtocol.onRequest", "newMsg", "fresh:ctor:newRequestMessage"),
       ("MessageProtocol.onRequest", "w", "fresh:&lit:responseWriter"),
       ("MessageProtocol.onResponse", "buf,err", "imported-call:io.ReadAll"),
       ("MessageProtocol.onResponse", "newMsg", "fresh:ctor:newResponseMessage"),
       ("MessageProtocol.respond", "resMsg", "fresh:ctor:newResponseMessage"),
       ("MessageProtocol.sendRequestMessage", "reqMsg", "fresh:ctor:newRequestMessage"),
       ("MessageProtocol.sendRequestMessage", "ch", "fresh:make")] := by
  decide +kernel

/-- Nothing on the path is recycled: no value comes from a package-level variable, from a local function that
reaches one or returns anything but fresh memory, from a view into another buffer or from an imported call
outside the known allocating ones; nothing is handed back by a `defer`.  The single exception is the
immutable error sentinel `errTimeout`. -/
theorem C17_fresh_gen_nothing_recycled :
    Gen.ReqFacts.perRequestRecycled =
      [("MessageProtocol.sendRequestMessage", "return", "pkgvar:errTimeout", "errTimeout")] ∧
    Gen.ReqFacts.reqPathPkgVars = ["errTimeout"] ∧
    (Gen.ReqFacts.p2pPkgVars.filter (fun v => v.2.1 == "errTimeout")) =
      [("message_protocol.go", "errTimeout", "", "errors.New(\"timeout\")")] := by
  exact ⟨rfl, rfl, by decide +kernel⟩

/-- pkg/p2p declares and uses no `sync.Pool`, and its package-level variables are the error sentinels, the libp2p
option tables of peer.go and the flag `ttlPeerstoreSet` — no buffer, writer or message. -/
theorem C17_fresh_gen_no_pool_no_shared_buffers :
    Gen.ReqFacts.p2pSyncPools = [] ∧
    Gen.ReqFacts.p2pPkgVars.map (fun v => (v.1, v.2.1)) =
      [("conngater.go", "errInvalidDuration"), ("conngater.go", "errConnGaterIsNotrunning"),
       ("gossipsub.go", "ErrGossipSubIsNotRunnig"), ("gossipsub.go", "ErrGossipSubIsRunning"),
       ("gossipsub.go", "ErrDuplicateHandler"), ("gossipsub.go", "ErrTopicNotFound"),
       ("message_protocol.go", "errTimeout"), ("peer.go", "ttlPeerstoreSet"), ("peer.go", "connMgrOptions"),
       ("peer.go", "autoRelayOptions"), ("peer.go", "relayServiceOptions")] :=
  ⟨rfl, rfl⟩

/-- The bytes of a decoded message are copied into a slice made for them (pkg/codec `Reader.readBytes`): a kept
payload is no view into the buffer the message was read into. -/
theorem C17_fresh_gen_decoded_bytes_are_copied :
    Gen.ReqFacts.codecReadBytes =
      [("size,err", "method:r.readUInt", "r.readUInt()"),
       ("return", "value", "nil"),
       ("return", "local:err", "err"),
       ("remaining", "value", "len(r.data) - r.index"),
       ("return", "value", "nil"),
       ("return", "imported-call:fmt.Errorf", "fmt.Errorf(\"invalid byte size %d. Remaining data length is %d\", size, remaining)"),
       ("result", "fresh:make", "make([]byte, int(size))"),
       ("stmt", "stmt", "copy(result, r.data[r.index:r.index+int(size)])"),
       ("r.index", "conv(local:size)", "int(size)"),
       ("return", "local:result", "result"),
       ("return", "value", "nil")] :=
  rfl

/-! ### model: a fresh writer per request -/

section
variable {D E : Type}

/-- the part of the handler still to run turns the flight's writer into the intended result -/
private def FlightOk (f : Flight D E) : Prop := runHandler f.w f.todo = intended f.acts

private def FInv (s : State D E) : Prop := (∀ f ∈ s.flights, FlightOk f) ∧ (∀ x ∈ s.sent, x.w = intended x.acts)

private def CleanPool (s : State D E) : Prop := ∀ w ∈ s.pool, w = Writer.empty

private theorem advance_ok (f : Flight D E) (h : FlightOk f) : FlightOk (advance f) := by
  unfold advance
  cases hf : f.todo with
  | nil => simpa [hf] using h
  | cons a rest =>
    simp only [FlightOk, hf, runHandler, List.foldl_cons] at h ⊢
    exact h

private theorem done_ok (id : Nat) (f : Flight D E) (h : FlightOk f) (hd : isDone id f = true) : f.w = intended f.acts := by
  simp only [isDone, Bool.and_eq_true, List.isEmpty_iff] at hd
  simpa [FlightOk, hd.2, runHandler] using h

/-- one step keeps the invariant whenever the writer handed to a new request is empty -/
private theorem step_inv (al : Alloc D E) (s : State D E) (a : Action D E) (h : FInv s)
    (hacq : (acquire al s.pool).1 = Writer.empty) : FInv (step al s a) := by
  obtain ⟨hf, hs⟩ := h
  cases a with
  | start id acts =>
    refine ⟨?_, hs⟩
    intro f hfm
    simp only [step, List.mem_cons] at hfm
    rcases hfm with rfl | hfm
    · simp only [FlightOk, hacq, intended]
    · exact hf f hfm
  | act id =>
    refine ⟨?_, hs⟩
    intro f hfm
    simp only [step, List.mem_map] at hfm
    obtain ⟨g, hg, rfl⟩ := hfm
    by_cases c : (g.id == id) = true
    · simp only [c, if_true]; exact advance_ok g (hf g hg)
    · simp only [c]; exact hf g hg
  | finish id =>
    constructor
    · intro f hfm
      simp only [step, List.mem_filter] at hfm
      exact hf f hfm.1
    · intro x hx
      simp only [step, List.mem_append, List.mem_map, List.mem_filter] at hx
      rcases hx with hx | ⟨g, ⟨hg, hd⟩, rfl⟩
      · exact hs x hx
      · exact done_ok id g (hf g hg) hd

private theorem acquire_clean (r : Writer D E → Writer D E) (s : State D E) (hp : CleanPool s) :
    (acquire (.pooled r) s.pool).1 = Writer.empty := by
  unfold CleanPool at hp
  cases hpool : s.pool with
  | nil => rfl
  | cons w rest => simp only [acquire]; exact hp w (by simp [hpool])

private theorem step_clean (s : State D E) (a : Action D E) (hp : CleanPool s) :
    CleanPool (step (.pooled releaseAllFields) s a) := by
  unfold CleanPool at *
  cases a with
  | start id acts =>
    intro w hw
    cases hpool : s.pool with
    | nil => simp [step, acquire, hpool] at hw
    | cons w0 rest =>
      simp only [step, acquire, hpool] at hw
      exact hp w (by simp [hpool, hw])
  | act id => intro w hw; exact hp w hw
  | finish id =>
    intro w hw
    simp only [step, releaseAll, List.mem_append, List.mem_map] at hw
    rcases hw with ⟨_, _, rfl⟩ | hw
    · rfl
    · exact hp w hw

/-- every schedule keeps the invariant when the allocator only ever hands out empty writers: `C` is what makes it so
(nothing for a fresh writer per request, a clean pool for a pool whose release resets the whole writer) -/
private theorem run_inv (al : Alloc D E) (C : State D E → Prop)
    (hacq : ∀ s, C s → (acquire al s.pool).1 = Writer.empty) (hC : ∀ s a, C s → C (step al s a)) :
    ∀ (sched : List (Action D E)) (s : State D E), FInv s → C s → FInv (run al s sched)
  | [], _, h, _ => h
  | a :: rest, s, h, hc => run_inv al C hacq hC rest _ (step_inv al s a h (hacq s hc)) (hC s a hc)

end

private theorem init_inv {D E : Type} (pool : List (Writer D E)) : FInv ({ pool := pool } : State D E) := by
  constructor
  · intro f hf; cases hf
  · intro x hx; cases hx

/-- FRESH WRITER PER REQUEST: for every schedule (any number of requests in flight, handler calls interleaved
in any order, responses sent in any order) and whatever the pool holds, every response the responder sends is
exactly the (data, error) the handler of its OWN request produced. -/
theorem C17_fresh_response_is_own_handler_result {D E : Type} (pool : List (Writer D E)) (sched : List (Action D E)) :
    ∀ x ∈ (run .fresh ({ pool := pool } : State D E) sched).sent, x.w = intended x.acts :=
  (run_inv .fresh (fun _ => True) (fun _ _ => rfl) (fun _ _ _ => trivial) sched _ (init_inv pool) trivial).2

/-- The same with a pool, provided the release resets the WHOLE writer (and the pool starts clean). -/
theorem C17_fresh_pool_with_full_reset_is_sound {D E : Type} (sched : List (Action D E)) :
    ∀ x ∈ (run (.pooled releaseAllFields) ({} : State D E) sched).sent, x.w = intended x.acts :=
  (run_inv _ CleanPool (acquire_clean _) step_clean sched {} (init_inv []) (fun w hw => by cases hw)).2

/-- In particular the response does not depend on what else was served: two schedules (and two pools) that serve a
request with the same handler script answer it identically. -/
theorem C17_fresh_response_independent_of_other_requests {D E : Type} (pool₁ pool₂ : List (Writer D E))
    (sched₁ sched₂ : List (Action D E)) (x₁ x₂ : Sent D E)
    (h₁ : x₁ ∈ (run .fresh ({ pool := pool₁ } : State D E) sched₁).sent)
    (h₂ : x₂ ∈ (run .fresh ({ pool := pool₂ } : State D E) sched₂).sent)
    (hacts : x₁.acts = x₂.acts) : x₁.w = x₂.w := by
  rw [C17_fresh_response_is_own_handler_result pool₁ sched₁ x₁ h₁,
      C17_fresh_response_is_own_handler_result pool₂ sched₂ x₂ h₂, hacts]

/-- `C17_correlation` at the remote handler `id ↦ enc (intended (script id))`: IF the responder answers request `id`
with that (the theorems above say so of the responder model with a fresh writer; that the two models are joined this
way is assumed here, not proved), whatever a requester receives is the intended (data, error) of its own current
request, in every reachable state of the protocol model. -/
theorem C17_fresh_requester_gets_own_intended {D E : Type} (script : Nat → List (HAct D E)) (enc : Writer D E → Nat)
    (s : ReqResp.State) (hs : ReqResp.Reachable (fun id => enc (intended (script id))) s)
    (i : Nat) (r : ReqResp.Req) (hr : s.reqs[i]? = some r) :
    ∀ m, r.out = some (.got m) → m.rid = r.id ∧ m.payload = enc (intended (script r.id)) :=
  (C17_correlation _ s hs i r hr).1

/-- non-vacuity: two requests in flight together, handler calls interleaved, error before data and data before error -/
example :
    (run .fresh ({ pool := [⟨some 99, some 98⟩] } : State Nat Nat)
      [.start 1 [.error 7, .write 5], .start 2 [.write 6], .act 1, .act 2, .act 1, .finish 2, .finish 1]).sent.map (fun x => (x.id, x.w))
      = [(2, ⟨some 6, none⟩), (1, ⟨some 5, some 7⟩)] := by
  decide +kernel

/-- COUNTEREXAMPLE (the release of seeded/C17-17): a pooled writer whose release drops the payload but keeps the error.
Request 1's handler reports error 7; request 2, served afterwards with the recycled writer, only writes 6 —
and is answered with data 6 AND error 7, which its handler never produced. -/
theorem C17_fresh_recycled_writer_carries_error_over :
    let s := run (.pooled releaseDataOnly) ({} : State Nat Nat)
      [.start 1 [.error 7], .act 1, .finish 1, .start 2 [.write 6], .act 2, .finish 2]
    s.sent.map (fun x => (x.id, x.w)) = [(1, ⟨none, some 7⟩), (2, ⟨some 6, some 7⟩)] ∧
    intended ([.write 6] : List (HAct Nat Nat)) = ⟨some 6, none⟩ ∧
    ¬ (∀ x ∈ s.sent, x.w = intended x.acts) := by
  decide +kernel
