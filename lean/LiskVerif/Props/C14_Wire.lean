/-
C14 — the pool limits of the configuration reach the pool unchanged; zero limits are replaced by positive
defaults both by the engine configuration and by the pool's own constructor (tie A, table described in
Props/C13_Wire.lean).  `C14Inv` is proved for limits ≥ 1.
-/
import LiskVerif.Lemmas.Wire

open LiskVerif LiskVerif.Wire

theorem C14_wire_pool_limits :
    wired "Engine.init" "txpool.TransactionPoolConfig" "MaxTransactions" "e.config.TransactionPool.MaxTransactions" = true ∧
    wired "Engine.init" "txpool.TransactionPoolConfig" "MaxTransactionsPerAccount" "e.config.TransactionPool.MaxTransactionsPerAccount" = true ∧
    wired "Engine.init" "txpool.TransactionPoolConfig" "TransactionExpiryTime" "e.config.TransactionPool.TransactionExpiryTime" = true ∧
    wired "Engine.init" "txpool.TransactionPoolConfig" "MinEntranceFeePriority" "e.config.TransactionPool.MinEntranceFeePriority" = true ∧
    wired "Engine.init" "txpool.TransactionPoolConfig" "MinReplacementFeeDifference" "e.config.TransactionPool.MinReplacementFeeDifference" = true ∧
    wired "Engine.init" "recv" "transactionPool" "txpool.NewTransactionPool(poolConfig)" = true ∧
    wired "NewTransactionPool" "TransactionPool" "config" "config" = true := by decide +kernel

theorem C14_wire_defaults_positive :
    positiveDefault "TransactionPoolConfig.InsertDefault" "MaxTransactions" "0" = true ∧
    positiveDefault "TransactionPoolConfig.InsertDefault" "MaxTransactionsPerAccount" "0" = true ∧
    positiveDefault "TransactionPoolConfig.SetDefault" "MaxTransactions" "0" = true ∧
    positiveDefault "TransactionPoolConfig.SetDefault" "MaxTransactionsPerAccount" "0" = true ∧
    positiveDefault "TransactionPoolConfig.SetDefault" "MinReplacementFeeDifference" "0" = true := by decide +kernel

/-- the constructor applies its defaults: `config.SetDefault` is called exactly once, unconditionally, in
`NewTransactionPool` (no order against the construction of the pool is stated) -/
theorem C14_wire_constructor_sets_defaults :
    (seqsOf "NewTransactionPool" "config.SetDefault").length = 1 ∧
    unconditional "NewTransactionPool" "config.SetDefault" = true := by decide +kernel

/-- the pool starts empty: fresh maps, a fresh lock, an initialised (empty) fee heap -/
theorem C14_wire_pool_starts_empty :
    wired "NewTransactionPool" "TransactionPool" "allTransactions" "map[string]*TransactionWithFeePriority{}" = true ∧
    wired "NewTransactionPool" "TransactionPool" "perAccount" "map[string]*addressTransactions{}" = true ∧
    wired "NewTransactionPool" "TransactionPool" "mutex" "new(sync.RWMutex)" = true ∧
    wired "NewTransactionPool" "TransactionPool" "feePriorityQueue" "queue" = true := by decide +kernel
