/-
C04 — a node STARTED on an existing database with WRONG start-up inputs.

`Executer.Init` receives the genesis block from the node's configuration, not from the database.
`Chain.GenesisBlockExist` decides whether it is the genesis block of the stored chain; when it answers
"not stored, no error" `Init` runs `processGenesisBlock`, which resets the BFT store, writes the block
over the height index of its height and writes `finalized height := genesis height` — on a database that
holds a chain this lowers (or arbitrarily moves) the stored finalized height and replaces finalized
blocks. The property therefore needs: **on a database that holds a chain, a start with ANY genesis block
writes nothing; with a foreign genesis block it is refused.**

`restartG` (Model/Node.lean) is `Executer.Init` with the genesis block as an input: `genesisExist`
(the check, evaluated on the database: a new `Chain` has an empty block cache), `genesis`
(`processGenesisBlock`, only on an EMPTY database) and `restart` (`PrepareCache`).

* `C04_foreign_genesis_refused` — a genesis block that is not the block stored at its height (another id
  at that height, or no block at that height) is refused on every database that holds a chain;
* `C04_start_keeps_db`, `C04_start_keeps_finalized`, `C04_start_publishes_nothing` — for EVERY genesis
  block (foreign or not) a start on a database that holds a chain leaves the database, hence the stored
  finalized height and every stored block, alone and publishes no event;
* `C04_start_ok_only_own_genesis` — such a start succeeds only if the block stored at the genesis height
  has the id of the configured genesis block;
* `C04_refused_start_invisible` — after a refused start a regular restart ends in exactly the state a
  regular restart would have produced without it: every theorem of Props/C04_Restart.lean (guards right
  after a restart) and Props/C04.lean applies unchanged to the history without the refused start;
* `C04_refused_start_serves_stored_blocks` — while the refused node object exists, the id served for a
  height is the one in the database;
* `C04_genesis_height_check_needed` — the check as it was before fix `C04-foreign-genesis-height`
  (“nothing stored at the genesis height” = “first start”) lowers the stored finalized height 7 → 3 for a
  genesis block below the stored chain: a concrete database, checked by evaluation. (The seeded change
  C04-8 made the same mistake for every foreign genesis block by consulting the empty block cache.)

Tie to the code: harness/c04 op `restartg v=genesis` (a real node restarted with a foreign genesis block:
same height other id, inside the stored chain, at the tip, above the tip, below the stored genesis; the
application keeping or having lost its state) is replayed on the compiled model (Driver/Node.lean);
model-free oracle: byte-exact database dump before == after (`c04-foreign-genesis-wrote`), start refused
(`c04-foreign-genesis-accepted`). `restartg v=cfg` / `v=chainid` (block cache size, event retention, chain
id changed) are the model's `restart` under another `Cfg` (`C04_restart_keeps_db` holds for every `cfg`).
-/
import LiskVerif.Props.C04_Restart

open LiskVerif LiskVerif.Node
open LiskVerif.DiffDB (Store KV CV Cache Diff slookup sset sdel dbIterate)

/-- the database holds a chain: its height index is not empty (what `DataAccess.getLastBlock` reads) -/
def C04HoldsChain (db : Store) : Prop := (dbIterate db [4] 1 true).isEmpty = false

/-- `g` is not the block the database stores at the height of `g` -/
def C04Foreign (cd : Codecs) (db : Store) (g : Block) : Prop :=
  ∀ b, getBlockByHeight cd db g.hdr.height = some b → b.hdr.id ≠ g.hdr.id

/-- On a database that holds a chain a start is refused, or it is the ordinary restart: according to whether
the block stored at the height of `g` has the id of `g`. -/
private theorem restartG_of_chain {cd : Codecs} {s : St} (cfg : Cfg) (g : Block) (x : Exec)
    (hc : C04HoldsChain s.db) :
    restartG cd cfg s g x = ({ s with cache := [] }, .err) ∨
    ((∃ b, getBlockByHeight cd s.db g.hdr.height = some b ∧ b.hdr.id = g.hdr.id) ∧
      restartG cd cfg s g x = restart cd { cfg with genesisHeight := g.hdr.height } s) := by
  unfold restartG genesisExist
  unfold C04HoldsChain at hc
  cases hb : getBlockByHeight cd s.db g.hdr.height with
  | none => exact .inl (by simp only [hc]; rfl)
  | some b =>
    by_cases he : b.hdr.id = g.hdr.id
    · exact .inr ⟨⟨b, rfl, he⟩, by simp only [he, if_true]⟩
    · exact .inl (by simp only [he, if_false])

/-- **A foreign genesis block is refused.** On a database that holds a chain, `Executer.Init` with a
genesis block that is not the stored block of its height returns an error; nothing is written, nothing is
published, the new `Chain` object has an empty block cache. -/
theorem C04_foreign_genesis_refused (cd : Codecs) (cfg : Cfg) (s : St) (g : Block) (x : Exec)
    (hc : C04HoldsChain s.db) (hf : C04Foreign cd s.db g) :
    restartG cd cfg s g x = ({ s with cache := [] }, .err) := by
  rcases restartG_of_chain cfg g x hc with h | ⟨⟨b, hb, he⟩, -⟩
  · exact h
  · exact absurd he (hf b hb)

/-- **No start writes to a database that holds a chain** — whatever genesis block is configured. -/
theorem C04_start_keeps_db (cd : Codecs) (cfg : Cfg) (s : St) (g : Block) (x : Exec)
    (hc : C04HoldsChain s.db) :
    (restartG cd cfg s g x).1.db = s.db := by
  rcases restartG_of_chain cfg g x hc with h | ⟨-, h⟩ <;> rw [h]
  exact C04_restart_keeps_db cd _ s

/-- … so the stored finalized height is what it was: it cannot decrease (nor move at all). -/
theorem C04_start_keeps_finalized (cd : Codecs) (cfg : Cfg) (s : St) (g : Block) (x : Exec)
    (hc : C04HoldsChain s.db) :
    finOf (restartG cd cfg s g x).1.db = finOf s.db := by
  rw [C04_start_keeps_db cd cfg s g x hc]

/-- … and no event (in particular no finalization event) is published. -/
theorem C04_start_publishes_nothing (cd : Codecs) (cfg : Cfg) (s : St) (g : Block) (x : Exec)
    (hc : C04HoldsChain s.db) :
    (restartG cd cfg s g x).1.log = s.log := by
  rcases restartG_of_chain cfg g x hc with h | ⟨-, h⟩ <;> rw [h]
  exact (restart_db_log cd _ s).2

/-- A start on a database that holds a chain succeeds only with the genesis block whose id is stored at
its height. -/
theorem C04_start_ok_only_own_genesis (cd : Codecs) (cfg : Cfg) (s : St) (g : Block) (x : Exec)
    (hc : C04HoldsChain s.db) (hok : (restartG cd cfg s g x).2 = .ok) :
    ∃ b, getBlockByHeight cd s.db g.hdr.height = some b ∧ b.hdr.id = g.hdr.id := by
  rcases restartG_of_chain cfg g x hc with h | ⟨hb, -⟩
  · rw [h] at hok; cases hok
  · exact hb

private theorem restart_ignores_cache (cd : Codecs) (cfg : Cfg) (s : St) (c : List Block) :
    restart cd cfg { s with cache := c } = restart cd cfg s := by
  unfold restart
  simp only

/-- **A refused start is invisible.** The regular restart that follows a refused start gives exactly
the state (database, block cache, published events) and result of a regular restart without it. -/
theorem C04_refused_start_invisible (cd : Codecs) (cfg cfg' : Cfg) (s : St) (g : Block) (x : Exec)
    (hc : C04HoldsChain s.db) (hf : C04Foreign cd s.db g) :
    restart cd cfg (restartG cd cfg' s g x).1 = restart cd cfg s := by
  rw [C04_foreign_genesis_refused cd cfg' s g x hc hf]
  exact restart_ignores_cache cd cfg s []

/-- While the refused node object exists, the block id served for a height is the stored one
(`GetBlockHeaderByHeight` with an empty block cache reads the height index and the header table). -/
theorem C04_refused_start_serves_stored_blocks (cd : Codecs) (cfg : Cfg) (s : St) (g : Block) (x : Exec)
    (hc : C04HoldsChain s.db) (hf : C04Foreign cd s.db g) (h : Nat) :
    idAt cd (restartG cd cfg s g x).1 h =
      ((slookup s.db (kHeight h)).bind (headerOf cd s.db)).map (·.id) := by
  rw [C04_foreign_genesis_refused cd cfg s g x hc hf]
  unfold idAt headerAt cacheAt
  simp only [List.find?_nil]
  cases slookup s.db (kHeight h) <;> rfl

/-! ### the check before the fix (and, for every foreign genesis block, under seeded change C04-8) -/

/-- `Chain.GenesisBlockExist` before fix `C04-foreign-genesis-height`: no block at the genesis height was
taken for "genesis block not processed yet" -/
def C04genesisExistOld (cd : Codecs) (db : Store) (g : Block) : Option Bool :=
  match getBlockByHeight cd db g.hdr.height with
  | some b => if b.hdr.id = g.hdr.id then some true else none
  | none => some false

/-- `restartG` of Model/Node.lean with `C04genesisExistOld` in place of `genesisExist` -/
def C04restartGOld (cd : Codecs) (cfg : Cfg) (s : St) (g : Block) (x : Exec) : St × Res :=
  let cfg' : Cfg := { cfg with genesisHeight := g.hdr.height }
  match C04genesisExistOld cd s.db g with
  | none => ({ s with cache := [] }, .err)
  | some true => restart cd cfg' s
  | some false => ({ genesis cd cfg' s.db g x with log := s.log }, .ok)

namespace C04Genesis
open LiskVerif.Node.Example

/-- a database built from a genesis block at height 7 (a migrated network), nothing applied yet -/
def hdr7 : Hdr := { hdr0 with height := 7 }
def db7 : Store := [(kFin, encU32 7), (kHeight 7, gid), (kHeader gid, [0])]
def s7 : St := { db := db7, cache := [], log := [] }
def cd7 : Codecs := { cd with decHdr := fun hb => if hb = [0] then some hdr7 else none }

/-- a foreign genesis block at height 3 (e.g. the genesis file of the network before the migration) -/
def g3 : Block := { hdr := { hdr0 with height := 3, id := [3] }, hdrBytes := [3], txs := [], assets := [] }
/-- … at height 7 with another id, and the right one -/
def g7' : Block := { hdr := { hdr0 with height := 7, id := [4] }, hdrBytes := [4], txs := [], assets := [] }
def g7 : Block := { hdr := hdr7, hdrBytes := [0], txs := [], assets := [] }
def x0 : Exec := { overlay := [], mhpc := 0, events := [] }

theorem holds7 : C04HoldsChain db7 := by unfold C04HoldsChain; decide

theorem foreign3 : C04Foreign cd7 db7 g3 := by
  intro b hb
  have : getBlockByHeight cd7 db7 g3.hdr.height = none := by decide
  rw [this] at hb
  cases hb

theorem foreign7' : C04Foreign cd7 db7 g7' := by
  intro b hb
  have : getBlockByHeight cd7 db7 g7'.hdr.height = some g7 := by decide
  rw [this] at hb
  cases hb
  decide

end C04Genesis

/-- **The height check is needed** (failing input of the model-free oracle `c04-foreign-genesis-wrote:
unstored-height`, found on the unchanged code): with the old check a start of the node whose database was
built from a genesis block at height 7 with a genesis block at height 3 is accepted and lowers the stored
finalized height 7 → 3; with the fixed check it is refused and the height stays 7. -/
theorem C04_genesis_height_check_needed :
    finOf C04Genesis.s7.db = some 7 ∧
    (C04restartGOld C04Genesis.cd7 Example.cfg C04Genesis.s7 C04Genesis.g3 C04Genesis.x0).2 = .ok ∧
    finOf (C04restartGOld C04Genesis.cd7 Example.cfg C04Genesis.s7 C04Genesis.g3 C04Genesis.x0).1.db = some 3 ∧
    (restartG C04Genesis.cd7 Example.cfg C04Genesis.s7 C04Genesis.g3 C04Genesis.x0).2 = .err ∧
    finOf (restartG C04Genesis.cd7 Example.cfg C04Genesis.s7 C04Genesis.g3 C04Genesis.x0).1.db = some 7 := by
  decide +kernel

/-! ### non-vacuity -/

example : restartG C04Genesis.cd7 Example.cfg C04Genesis.s7 C04Genesis.g3 C04Genesis.x0
    = ({ C04Genesis.s7 with cache := [] }, .err) :=
  C04_foreign_genesis_refused _ _ _ _ _ C04Genesis.holds7 C04Genesis.foreign3

example : restartG C04Genesis.cd7 Example.cfg C04Genesis.s7 C04Genesis.g7' C04Genesis.x0
    = ({ C04Genesis.s7 with cache := [] }, .err) :=
  C04_foreign_genesis_refused _ _ _ _ _ C04Genesis.holds7 C04Genesis.foreign7'

/-- the configured genesis block of the stored chain is accepted and cached -/
example : (restartG C04Genesis.cd7 Example.cfg C04Genesis.s7 C04Genesis.g7 C04Genesis.x0).2 = .ok ∧
    ((restartG C04Genesis.cd7 Example.cfg C04Genesis.s7 C04Genesis.g7 C04Genesis.x0).1.cache.map (·.hdr.height)) = [7] := by
  decide +kernel

/-- first start: on an empty database the genesis block is processed (finalized height := its height) -/
example : (restartG C04Genesis.cd7 Example.cfg { db := [] } C04Genesis.g3 C04Genesis.x0).2 = .ok ∧
    finOf (restartG C04Genesis.cd7 Example.cfg { db := [] } C04Genesis.g3 C04Genesis.x0).1.db = some 3 := by
  decide +kernel

/-- after the block of `Example` became final (0 → 1): a start with a foreign genesis block at height 1,
then the regular restart — same state as the regular restart alone -/
example :
    restart Example.cd Example.cfg (restartG Example.cd Example.cfg
      (run Example.cd Example.cfg Example.slot Example.s0 C04Restart.opsA)
      { C04Genesis.g7' with hdr := { C04Genesis.g7'.hdr with height := 1 } } C04Genesis.x0).1
    = restart Example.cd Example.cfg (run Example.cd Example.cfg Example.slot Example.s0 C04Restart.opsA) := by
  apply C04_refused_start_invisible
  · unfold C04HoldsChain
    decide +kernel
  · intro b hb
    have h : (getBlockByHeight Example.cd (run Example.cd Example.cfg Example.slot Example.s0 C04Restart.opsA).db 1).map
        (·.hdr.id) = some [7] := by decide +kernel
    simp only at hb
    rw [hb] at h
    simp only [Option.map_some, Option.some.injEq] at h
    rw [h]
    decide
