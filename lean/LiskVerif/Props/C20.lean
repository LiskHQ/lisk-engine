/-
C20 — Shared chain data is race-free and deadlock-free under concurrent use.

(A) Generic theorems, proved once, about the interleaving semantics of `Model/Locks.lean` (threads
    run the paths of synchronisation skeletons; Go `sync.Mutex` / `sync.RWMutex` semantics in which a
    pending writer blocks new readers): the decidable criteria computed on a skeleton imply deadlock
    freedom and race freedom for every number of threads and every schedule. The link from the
    criteria (computed by the abstract interpreter `an`) to the paths (`den`: calls inlined to any
    depth, every loop iterated any number of times, spawned goroutines included) is the soundness
    theorem of `Lemmas/LocksSound.lean`.
(B) Per-function obligations over the skeletons REGENERATED from the Go source by tools/skelgen on
    every check run (`Gen/Skeletons.lean`): they break when the source changes in a way that violates
    the lock discipline (or introduces a construct skelgen does not understand).
(C) Counterexample theorems for the original code (hand-copied skeletons kept as data here): the
    nested read lock of `blockCache.last()` reaches a deadlocked state with one reader and one writer;
    the unsynchronised `append` fan-out of the bulk lookups loses an item. Beside the latter stand the positive
    facts about the two repairs: per-index result slots hold every item exactly once, for every schedule
    (`C20_slots_untouched`, `C20_slots_exactly_once`), and appends under a mutex keep every item
    (`C20_atomic_append_keeps_all`).

What is covered: the extracted functions (see `Gen.Skeletons.entries`), goroutines they spawn, with
the Go memory model approximated by interleavings of the extracted actions; channel operations and
`Wait` are treated as communications whose partner is outside the model (they must happen outside
critical sections, criterion 3). The event emitter's `Publish` / `Emit` violate criterion 3 (known
finding): the remaining criteria are proved for them.
-/
import LiskVerif.Lemmas.LockCriteria
import LiskVerif.Lemmas.LocksAtomic
import LiskVerif.Lemmas.Tables
import LiskVerif.Gen.Skeletons

open LiskVerif LiskVerif.Locks

namespace C20

/-- configuration regenerated from the source: call table, guards, lock order -/
def cfg : Cfg := ⟨Gen.Skeletons.table, Gen.Skeletons.guards, Gen.Skeletons.lockOrder⟩

/-- functions that hold a lock across a blocking channel send (known finding c20-emitter-send-under-lock) -/
def knownBlocking : List String := ["EventEmitter.Publish", "EventEmitter.Emit"]

end C20

namespace C20.Data

/-- the fields of `blockCache` guarded by `blockCache.mutex` -/
def cacheFields : List String :=
  ["blockCache.cachedBlocks", "blockCache.heightIndex", "blockCache.size", "blockCache.currentHeight"]

end C20.Data

namespace C20.Atomic

/-- entry points of the single writer goroutine that span several critical sections of the block cache
(check the tip, then pop / refill): exempt from the criterion under the single-writer assumption -/
def multiSectionWriter : List String := ["Chain.RemoveBlock", "Chain.PrepareCache"]

/-- the entry points through which the block cache is written: the cache's own mutators, their
`DataAccess` wrappers and the chain operations of the consensus goroutine -/
def cacheWriters : List String :=
  ["blockCache.push", "blockCache.pop", "blockCache.replace", "DataAccess.Cache", "DataAccess.RemoveCache",
   "Chain.AddBlock", "Chain.RemoveBlock", "Chain.PrepareCache"]

/-- no observation of the analysed function is a write of a block-cache field -/
def noCacheWrite (s : Skel) : Bool :=
  match analyse C20.cfg.tbl fuelDefault s with
  | none => false
  | some (obs, _) => obs.all (fun o => match o.2 with
      | .write x => !C20.Data.cacheFields.contains x
      | _ => true)

end C20.Atomic

/-! ## (A) generic theorems -/

/-- **Criteria imply deadlock freedom.** Take any set of skeletons satisfying the deadlock criteria
(well-formed, (1) no re-entrant acquisition, (2) fixed lock order, (3) no blocking communication inside
a critical section) and any number of threads, each running a path of one of these skeletons or of a
goroutine spawned by it (calls inlined to any depth, loops iterated up to any bound `u`). Then in every
reachable state either some thread can take a step that needs no communication partner, or every thread
is finished or parked at a communication while holding no lock and requesting none. -/
theorem C20_criteria_imply_deadlock_free (c : Cfg) (u : Nat) (roots : List Skel)
    (hroots : ∀ s ∈ roots, deadlockCriteria c s = true)
    (ps : List Path) (hps : ∀ p ∈ ps, ∃ s ∈ roots, IsThreadPath c.tbl u s p)
    (st : State) (hr : Reachable (initState ps) st) :
    quiescent st = true ∨ ∃ i, canStepInternal st i = true :=
  (invocations_deadlock_free c u ps (fun p hp =>
    have ⟨s, hs, hpath⟩ := hps p hp
    single_invocation ⟨hroots s hs, hpath⟩) st hr).2

open C20 in
/-- Under the same hypotheses no reachable state is deadlocked (some thread unfinished and no thread
able to step), communications being completed by the environment. -/
theorem C20_no_reachable_deadlock (c : Cfg) (u : Nat) (roots : List Skel)
    (hroots : ∀ s ∈ roots, deadlockCriteria c s = true)
    (ps : List Path) (hps : ∀ p ∈ ps, ∃ s ∈ roots, IsThreadPath c.tbl u s p)
    (st : State) (hr : Reachable (initState ps) st) : deadlocked st = false :=
  deadlocked_eq_false_of_progress st (C20_criteria_imply_deadlock_free c u roots hroots ps hps st hr)

/-- **Lockset discipline implies race freedom.** If all skeletons are well-formed and satisfy (4) —
every read of a guarded variable holds its guard, every write holds it exclusively — then in no
reachable state two distinct threads are simultaneously about to perform conflicting accesses (same
variable, at least one write). -/
theorem C20_lockset_implies_race_free (c : Cfg) (u : Nat) (roots : List Skel)
    (hroots : ∀ s ∈ roots, wellFormed c s = true ∧ locksetOk c s = true)
    (ps : List Path) (hps : ∀ p ∈ ps, ∃ s ∈ roots, IsThreadPath c.tbl u s p)
    (st : State) (hr : Reachable (initState ps) st) (i j : Nat) : raceAt st i j = false :=
  invocations_race_free c u ps (fun p hp =>
    have ⟨s, hs, hpath⟩ := hps p hp
    single_invocation ⟨hroots s hs, hpath⟩) st hr i j

/-- **Mutual exclusion** of the lock semantics itself (any program): a mutex held exclusively by one
thread is held by no other thread in any mode. -/
theorem C20_mutual_exclusion (ps : List Path) (st : State) (hr : Reachable (initState ps) st)
    (i j : Nat) (ti tj : Thread) (m : String) (md : Mode) (hij : i ≠ j)
    (hi : st[i]? = some ti) (hj : st[j]? = some tj) (hw : (m, Mode.W) ∈ ti.held) : (m, md) ∉ tj.held :=
  mutual_exclusion ps st hr i j ti tj m md hij hi hj hw

/-- **Soundness of the criteria computation**: every observation `(locks held, action)` occurring
dynamically along any path of any thread of a function is among the observations on which the
criteria were evaluated. -/
theorem C20_analysis_sound (tbl : Table) (u fuel : Nat) (root : Skel) (obs : List Obs) (ends : List Held)
    (ha : analyse tbl fuel root = some (obs, ends)) (p : Path) (hp : IsThreadPath tbl u root p) :
    ∀ o ∈ trace [] p, o ∈ obs :=
  (thread_paths_sound ha p hp).1

/-! ## (B) obligations over the regenerated skeletons -/

open Gen.Skeletons C20.Atomic in
/-- **The regenerated table, evaluated once.** Every function of the table that is an entry point satisfies all
criteria (except (3) for the event emitter's `Publish` / `Emit`, known finding) and the atomicity criterion of
`Lemmas/LocksAtomic.lean` (except the multi-section sequences of the single writer), and writes no block-cache
field unless it is one of `cacheWriters`. Each test is stated over the whole table with the name lookup AFTER the
check, so that only a function that fails (a helper that relies on its caller's lock) is looked up among the
entry points. The lists of named functions (entries of the table, as the theorems about them list them) stand in
the same declaration because the kernel shares the analysis of a function within one declaration only. -/
theorem C20.table_ok :
    (table.all (fun e =>
      (if C20.knownBlocking.contains e.1 then C20.criteriaExceptBlocking C20.cfg e.2
       else criteria C20.cfg e.2) || !entries.contains e.1) = true ∧
    table.all (fun e =>
      ((multiSectionWriter.contains e.1 || atomicOk C20.cfg e.2) || !entries.contains e.1) &&
      (noCacheWrite e.2 || !(entries.contains e.1 && !cacheWriters.contains e.1))) = true) ∧
    [Pool_Size, Pool_Has, Pool_Add, Pool_Cleanup, Pool_Select, Pool_Get, Pool_Upgrade].all (criteria C20.cfg) = true ∧
    [Database_WithPrefix, Database_Has, Database_Get, Database_Range, Database_Iterate, Database_Set,
     Database_Del, Database_Commit, Database_RevertDiff, Database_Snapshot, Database_DeleteSnapshot,
     Database_RestoreSnapshot].all (fun s => criteria C20.cfg s && atomicOk C20.cfg s) = true ∧
    ([EventEmitter_On, EventEmitter_Subscribe, EventEmitter_Close, EventEmitter_UnsubscribeAll,
      EventEmitter_Unsubscribe].all (criteria C20.cfg) = true ∧
     [EventEmitter_Publish, EventEmitter_Emit].all (C20.criteriaExceptBlocking C20.cfg) = true) ∧
    [blockCache_last, blockCache_get, blockCache_getByHeight, blockCache_push, blockCache_pop, blockCache_len,
     blockCache_replace, Chain_LastBlock, Chain_AddBlock].all (atomicOk C20.cfg) = true ∧
    [Pool_Size, Pool_Has, Pool_Add, Pool_Cleanup, Pool_Select, Pool_Get, Pool_Upgrade, EventEmitter_On,
     EventEmitter_Subscribe, EventEmitter_Publish, EventEmitter_Emit, EventEmitter_Close, EventEmitter_UnsubscribeAll,
     EventEmitter_Unsubscribe].all (atomicOk C20.cfg) = true ∧
    [blockCache_last, blockCache_get, blockCache_getByHeight, blockCache_push, blockCache_pop,
     DataAccess_GetBlockHeaders, DataAccess_GetBlockHeadersByHeights, DataAccess_GetTransactions,
     DataAccess_GetBlocksBetweenHeight, DataAccess_getTransactions, Chain_LastBlock, Chain_AddBlock,
     Chain_RemoveBlock, Chain_PrepareCache, blockSyncer_Sync, blockSyncer_getCommonBlockHeader,
     Syncer_HandleRPCEndpointGetHighestCommonBlock, Syncer_HandleRPCEndpointGetBlocksFromID].all
      (criteria C20.cfg) = true := by
  decide +kernel

open Gen.Skeletons in
/-- every extracted entry point satisfies all criteria, except (3) for the event emitter's
`Publish` / `Emit` (known finding) — quantified over the regenerated table, so functions added to the
configured types are covered automatically -/
theorem C20_all_entries_ok :
    (table.filter (fun e => entries.contains e.1)).all (fun e =>
      if C20.knownBlocking.contains e.1 then C20.criteriaExceptBlocking C20.cfg e.2
      else criteria C20.cfg e.2) = true :=
  Tables.all_filter_of_all_or C20.table_ok.1.1

/-- no configured function contains a construct the extractor does not understand -/
theorem C20_no_unknown_construct :
    (Gen.Skeletons.table.filter (fun e => Gen.Skeletons.entries.contains e.1)).all
      (fun e => wellFormed C20.cfg e.2) = true := by
  refine Tables.all_imp C20_all_entries_ok fun e he => ?_
  split at he
  · exact (criteriaExceptBlocking_iff.mp he).1
  · exact (criteriaExceptBlocking_iff.mp (criteria_iff.mp he).1).1

theorem C20.entry_ok {f : String} {s : Skel} (he : (f, s) ∈ Gen.Skeletons.table)
    (hent : Gen.Skeletons.entries.contains f = true) (hkb : C20.knownBlocking.contains f = false) :
    criteria C20.cfg s = true := by
  have h := Tables.all_mem C20_all_entries_ok (List.mem_filter.mpr ⟨he, hent⟩)
  rwa [if_neg (Bool.eq_false_iff.mp hkb)] at h

/-- `named_entry`: the function is in the last list of `C20.table_ok` -/
local macro "named_entry" : tactic =>
  `(tactic| exact Tables.all_mem C20.table_ok.2.2.2.2.2.2 (by simp only [List.mem_cons, true_or, or_true]))

theorem C20_blockcache_last_ok : criteria C20.cfg Gen.Skeletons.blockCache_last = true := by
  named_entry
theorem C20_blockcache_get_ok : criteria C20.cfg Gen.Skeletons.blockCache_get = true := by
  named_entry
theorem C20_blockcache_getByHeight_ok : criteria C20.cfg Gen.Skeletons.blockCache_getByHeight = true := by
  named_entry
theorem C20_blockcache_push_ok : criteria C20.cfg Gen.Skeletons.blockCache_push = true := by
  named_entry
theorem C20_blockcache_pop_ok : criteria C20.cfg Gen.Skeletons.blockCache_pop = true := by
  named_entry
/-- the diagnosis of defect (a): `last()` does not acquire the read lock it already holds (compare `C20.Orig.last`) -/
theorem C20_no_nested_rlock : noReentrantAcquire C20.cfg Gen.Skeletons.blockCache_last = true :=
  (criteriaExceptBlocking_iff.mp (criteria_iff.mp C20_blockcache_last_ok).1).2.1

theorem C20_bulk_headers_by_id_ok : criteria C20.cfg Gen.Skeletons.DataAccess_GetBlockHeaders = true := by
  named_entry
theorem C20_bulk_headers_by_height_ok : criteria C20.cfg Gen.Skeletons.DataAccess_GetBlockHeadersByHeights = true := by
  named_entry
theorem C20_bulk_transactions_ok : criteria C20.cfg Gen.Skeletons.DataAccess_GetTransactions = true := by
  named_entry
theorem C20_bulk_range_ok : criteria C20.cfg Gen.Skeletons.DataAccess_GetBlocksBetweenHeight = true := by
  named_entry
theorem C20_block_transactions_ok : criteria C20.cfg Gen.Skeletons.DataAccess_getTransactions = true := by
  named_entry
theorem C20_chain_lastblock_ok : criteria C20.cfg Gen.Skeletons.Chain_LastBlock = true := by
  named_entry
theorem C20_chain_addblock_ok : criteria C20.cfg Gen.Skeletons.Chain_AddBlock = true := by
  named_entry
theorem C20_chain_removeblock_ok : criteria C20.cfg Gen.Skeletons.Chain_RemoveBlock = true := by
  named_entry
theorem C20_chain_preparecache_ok : criteria C20.cfg Gen.Skeletons.Chain_PrepareCache = true := by
  named_entry

theorem C20_sync_ok : criteria C20.cfg Gen.Skeletons.blockSyncer_Sync = true := by
  named_entry
theorem C20_sync_common_block_ok : criteria C20.cfg Gen.Skeletons.blockSyncer_getCommonBlockHeader = true := by
  named_entry
theorem C20_sync_highest_common_block_handler_ok :
    criteria C20.cfg Gen.Skeletons.Syncer_HandleRPCEndpointGetHighestCommonBlock = true := by
  named_entry
theorem C20_sync_blocks_from_id_handler_ok :
    criteria C20.cfg Gen.Skeletons.Syncer_HandleRPCEndpointGetBlocksFromID = true := by
  named_entry

theorem C20_pool_ok :
    [Gen.Skeletons.Pool_Size, Gen.Skeletons.Pool_Has, Gen.Skeletons.Pool_Add, Gen.Skeletons.Pool_Cleanup,
     Gen.Skeletons.Pool_Select, Gen.Skeletons.Pool_Get, Gen.Skeletons.Pool_Upgrade].all (criteria C20.cfg) = true :=
  C20.table_ok.2.1

theorem C20_diffdb_ok :
    [Gen.Skeletons.Database_WithPrefix, Gen.Skeletons.Database_Has, Gen.Skeletons.Database_Get,
     Gen.Skeletons.Database_Range, Gen.Skeletons.Database_Iterate, Gen.Skeletons.Database_Set,
     Gen.Skeletons.Database_Del, Gen.Skeletons.Database_Commit, Gen.Skeletons.Database_RevertDiff,
     Gen.Skeletons.Database_Snapshot, Gen.Skeletons.Database_DeleteSnapshot,
     Gen.Skeletons.Database_RestoreSnapshot].all (criteria C20.cfg) = true :=
  (Tables.all_and.mp C20.table_ok.2.2.1).1

/-- the event emitter: every criterion except (3) for `Publish` / `Emit` -/
theorem C20_emitter_ok_except_blocking :
    [Gen.Skeletons.EventEmitter_On, Gen.Skeletons.EventEmitter_Subscribe, Gen.Skeletons.EventEmitter_Close,
     Gen.Skeletons.EventEmitter_UnsubscribeAll, Gen.Skeletons.EventEmitter_Unsubscribe].all (criteria C20.cfg) = true ∧
    [Gen.Skeletons.EventEmitter_Publish, Gen.Skeletons.EventEmitter_Emit].all (C20.criteriaExceptBlocking C20.cfg) = true :=
  C20.table_ok.2.2.2.1

/-- known finding c20-emitter-send-under-lock: `Publish` performs its channel sends while holding the
emitter lock (a source in which they do not fails this theorem: `criteria … = true` then holds instead) -/
theorem C20_emitter_publish_sends_under_lock :
    noBlockingInCS C20.cfg Gen.Skeletons.EventEmitter_Publish = false ∧
    noBlockingInCS C20.cfg Gen.Skeletons.EventEmitter_Emit = false := by
  decide +kernel

/-- invocations of entry points outside `knownBlocking` are invocations of functions that satisfy all criteria -/
theorem C20.entries_criteria {u : Nat} {p : Path}
    (hp : ∃ segs : List Path, p = segs.flatten ∧ ∀ q ∈ segs,
      ∃ e ∈ Gen.Skeletons.table, Gen.Skeletons.entries.contains e.1 = true ∧
        C20.knownBlocking.contains e.1 = false ∧ IsThreadPath Gen.Skeletons.table u e.2 q) :
    ∃ segs : List Path, p = segs.flatten ∧
      ∀ q ∈ segs, ∃ s, criteria C20.cfg s = true ∧ IsThreadPath C20.cfg.tbl u s q :=
  have ⟨segs, hflat, hsegs⟩ := hp
  ⟨segs, hflat, fun q hq =>
    have ⟨e, he, hent, hkb, hpath⟩ := hsegs q hq
    ⟨e.2, C20.entry_ok (f := e.1) he hent hkb, hpath⟩⟩

/-- **Deadlock and race freedom of the extracted functions**: any number of goroutines, each executing
any finite sequence of invocations of the regenerated entry points other than the emitter's
`Publish` / `Emit` (or the body of a goroutine spawned by one), under any schedule, never reach a
deadlocked state and never race on a guarded variable. -/
theorem C20_shared_chain_data_deadlock_and_race_free (u : Nat) (ps : List Path)
    (hps : ∀ p ∈ ps, ∃ segs : List Path, p = segs.flatten ∧ ∀ q ∈ segs,
      ∃ e ∈ Gen.Skeletons.table, Gen.Skeletons.entries.contains e.1 = true ∧
        C20.knownBlocking.contains e.1 = false ∧ IsThreadPath Gen.Skeletons.table u e.2 q)
    (st : State) (hr : Reachable (initState ps) st) :
    deadlocked st = false ∧ (quiescent st = true ∨ ∃ i, canStepInternal st i = true) ∧
      ∀ i j, raceAt st i j = false := by
  have hdl := invocations_deadlock_free C20.cfg u ps (fun p hp =>
    have ⟨segs, hflat, hsegs⟩ := C20.entries_criteria (hps p hp)
    ⟨segs, hflat, fun q hq =>
      have ⟨s, hs, hpath⟩ := hsegs q hq
      ⟨s, (Bool.and_eq_true_iff.mp hs).1, hpath⟩⟩) st hr
  exact ⟨hdl.1, hdl.2, race_free C20.cfg.guards ps
    (fun p hp => criteria_invocations_pathLs (C20.entries_criteria (hps p hp))) st hr⟩

/-! ## (C) counterexamples for the original code, and what the repaired bulk lookup guarantees -/

namespace C20.Orig

/-- `blockCache.last()` with the defect (a) (pkg/blockchain/block_cache.go before `fix:` nested read lock): takes the
read lock and calls `getByHeight`, which takes it again -/
def last : Skel :=
  [.rlock "blockCache.mutex", .deferRUnlock "blockCache.mutex", .read "blockCache.currentHeight",
   .call "blockCache.getByHeight", .ret]

def getByHeight : Skel :=
  [.rlock "blockCache.mutex", .deferRUnlock "blockCache.mutex", .read "blockCache.heightIndex",
   .choice [[.ret], []], .read "blockCache.cachedBlocks", .ret]

/-- the lock skeleton of `push` / `pop` (writer) -/
def writer : Skel :=
  [.lock "blockCache.mutex", .deferUnlock "blockCache.mutex", .write "blockCache.currentHeight", .ret]

def table : Table :=
  [("blockCache.last", last), ("blockCache.getByHeight", getByHeight), ("blockCache.push", writer)]

def cfg : Cfg := ⟨table, Gen.Skeletons.guards, Gen.Skeletons.lockOrder⟩

/-- a reader executing the original `last()` … -/
def readerPath : Path :=
  [.racq "blockCache.mutex", .read "blockCache.currentHeight", .racq "blockCache.mutex",
   .read "blockCache.heightIndex", .read "blockCache.cachedBlocks", .rrel "blockCache.mutex",
   .rrel "blockCache.mutex"]

/-- … and a writer executing `push` -/
def writerPath : Path :=
  [.acq "blockCache.mutex", .write "blockCache.currentHeight", .rel "blockCache.mutex"]

/-- the state reached when the writer's `Lock()` arrives between the reader's two `RLock()`s -/
def stuck : State :=
  [⟨[("blockCache.mutex", .R)], none,
      [.racq "blockCache.mutex", .read "blockCache.heightIndex", .read "blockCache.cachedBlocks",
       .rrel "blockCache.mutex", .rrel "blockCache.mutex"]⟩,
   ⟨[], some "blockCache.mutex", writerPath⟩]

/-- the fan-out of the original bulk lookups: every goroutine appends to the shared `headers` slice -/
def getBlockHeaders : Skel :=
  [.loop [.go [.call "blockCache.getByHeight", .choice [[.ret], []],
               .read "local:DataAccess.GetBlockHeaders.headers",
               .write "local:DataAccess.GetBlockHeaders.headers", .ret]],
   .wait "eg", .ret]

end C20.Orig

/-- the original `last()` violates criterion (1): the read lock is re-acquired while held -/
theorem C20_original_last_violates_criteria :
    noReentrantAcquire C20.Orig.cfg C20.Orig.last = false ∧
    criteria C20.Orig.cfg C20.Orig.getByHeight = true ∧ criteria C20.Orig.cfg C20.Orig.writer = true := by
  decide +kernel

/-- **Counterexample (defect a).** One goroutine in the original `last()` and one writer (`push`):
both paths are paths of the skeletons, the schedule reader, writer, reader reaches a state in which
the reader waits for the pending writer and the writer waits for the reader — deadlock. -/
theorem C20_original_last_deadlocks :
    C20.Orig.readerPath ∈ bodyPaths C20.Orig.table 0 10 C20.Orig.last ∧
    C20.Orig.writerPath ∈ bodyPaths C20.Orig.table 0 10 C20.Orig.writer ∧
    run (initState [C20.Orig.readerPath, C20.Orig.writerPath]) [0, 1, 0] = some C20.Orig.stuck ∧
    deadlocked C20.Orig.stuck = true := by
  decide +kernel

/-- the same with two readers and a writer: once the writer is pending every reader of the tip hangs -/
theorem C20_original_last_deadlocks_all_readers :
    ∃ st, run (initState [C20.Orig.readerPath, C20.Orig.readerPath, C20.Orig.writerPath]) [0, 2, 0] = some st ∧
      deadlocked st = true := by
  refine ⟨_, rfl, ?_⟩
  decide +kernel

/-- the original bulk lookup violates the lockset criterion (4): unsynchronised write to the captured
slice inside the spawned goroutines -/
theorem C20_original_bulk_lookup_violates_lockset :
    locksetOk C20.Orig.cfg C20.Orig.getBlockHeaders = false := by
  decide +kernel

/-- **Counterexample (defect b): lost append.** Two goroutines appending items 1 and 2 to the shared
slice (`x = append(x, item)` = load; store): under the schedule load₁ load₂ store₁ store₂ both finish
and item 1 is lost. -/
theorem C20_shared_append_loses_item :
    ∃ st, appRun (appInit [1, 2]) [0, 1, 0, 1] = some st ∧ st.threads.all (·.pc = 2) = true ∧
      st.shared = [2] := by
  refine ⟨_, rfl, ?_, ?_⟩ <;> decide

/-- **Per-index result slots**, for every schedule: whatever the order `ws` in which the goroutines perform
their writes `slot[i] = vᵢ`, a slot nobody writes keeps its content … -/
theorem C20_slots_untouched {α} (ws : List (Nat × α)) (arr : List (Option α)) (i : Nat)
    (hni : i ∉ ws.map (·.1)) : (applyWrites ws arr)[i]? = arr[i]? := by
  induction ws generalizing arr with
  | nil => rfl
  | cons w ws ih =>
    simp only [List.map_cons, List.mem_cons, not_or] at hni
    simp only [applyWrites, List.foldl_cons] at ih ⊢
    rw [ih _ hni.2, List.getElem?_set_ne (fun h => hni.1 h.symm)]

/-- … and with distinct indices slot `i` holds exactly `vᵢ` afterwards: the result holds every existing
item exactly once. -/
theorem C20_slots_exactly_once {α} (ws : List (Nat × α)) (arr : List (Option α))
    (hnd : (ws.map (·.1)).Nodup) (i : Nat) (v : α) (hm : (i, v) ∈ ws) (hi : i < arr.length) :
    (applyWrites ws arr)[i]? = some (some v) := by
  induction ws generalizing arr with
  | nil => cases hm
  | cons w ws ih =>
    simp only [List.map_cons, List.nodup_cons] at hnd
    simp only [applyWrites, List.foldl_cons]
    rcases List.mem_cons.mp hm with rfl | hm
    · -- the later writes go to other slots
      exact (C20_slots_untouched ws _ i hnd.1).trans (List.getElem?_set_self hi)
    · exact ih (arr.set w.1 (some w.2)) hnd.2 hm (by simpa using hi)

/-- appends made atomic by a mutex keep every item (the result is the items in schedule order) -/
theorem C20_atomic_append_keeps_all (init ws : List Nat) :
    ws.foldl (fun acc x => acc ++ [x]) init = init ++ ws := by
  induction ws generalizing init with
  | nil => simp
  | cons w ws ih => simp [List.foldl_cons, ih]

/-! ## non-vacuity -/

/-- the hypotheses of the generic theorems are satisfiable: the path of a reader of the tip is a path of the
regenerated `last()`, and `last()` satisfies the deadlock criteria -/
example :
    let p1 : Path := [.racq "blockCache.mutex", .read "blockCache.heightIndex", .read "blockCache.currentHeight",
      .rrel "blockCache.mutex"]
    p1 ∈ bodyPaths Gen.Skeletons.table 0 10 Gen.Skeletons.blockCache_last ∧
    deadlockCriteria C20.cfg Gen.Skeletons.blockCache_last = true := by
  decide +kernel

example : ∃ st, Reachable (initState [C20.Orig.writerPath, C20.Orig.writerPath]) st ∧ st ≠ initState [C20.Orig.writerPath, C20.Orig.writerPath] :=
  ⟨_, ⟨[0, 1, 0], rfl⟩, by decide⟩

example : (applyWrites [(1, "b"), (0, "a")] [none, none, none]) = [some "a", some "b", none] := by decide

/-- the spawned-goroutine part of `IsThreadPath` is inhabited: a run of the regenerated
`GetBlockHeaders` that spawns a lookup goroutine, and a (non-empty) path of that goroutine -/
example : ∃ b p, Spawned Gen.Skeletons.table 1 Gen.Skeletons.DataAccess_GetBlockHeaders b ∧
    p ∈ bodyPaths Gen.Skeletons.table 1 40 b ∧ p ≠ [] := by
  have h : ∃ run ∈ den Gen.Skeletons.table 1 40 Gen.Skeletons.DataAccess_GetBlockHeaders,
      ∃ b ∈ run.spawns, ∃ p ∈ bodyPaths Gen.Skeletons.table 1 40 b, p ≠ [] := by decide +kernel
  obtain ⟨run, hrun, b, hb, p, hp, hne⟩ := h
  exact ⟨b, p, Spawned.direct hrun hb, hp, hne⟩
