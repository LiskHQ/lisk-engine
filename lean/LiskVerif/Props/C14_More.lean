/-
C14 — the transaction pool, exact forms.  Where Props/C14.lean says that the invariant holds, this file says what the
operations DO, on the model `LiskVerif.Model.TxPool` (exact forms in `Lemmas/TxPoolMore.lean`), for all configurations
with limits ≥ 1 and ALL histories `ops` from the empty pool: when a transaction for an occupied (sender, nonce) slot gets in
(the fee rule, also on uint64 with and without the `in < ex` guard), what the per-sender limit compares with, the sender
lists after one promotion round as a function `reorgSpec` of the old lists and the verifier answers, which transaction the
capacity eviction removes, and the known finding (`pending` counts as `ok`) as an iff; also that the fuel of the lock
walk of Props/C14.lean does not matter from 8 on.  The counterexamples say what does NOT hold of the code: an evicted
transaction may outrank the incoming one, a rejected `Add` may already have evicted, and a low nonce brought back by a
revert blocks every later promotion of its sender (`C14_quirk_low_nonce_blocks_promotion`).
-/
import LiskVerif.Lemmas.TxPoolMore

open LiskVerif LiskVerif.TxPool

/-! ## replacement rule -/

/-- Go's `a - b` on uint64 -/
def C14_u64sub (a b : Nat) : Nat := (a + 2 ^ 64 - b) % 2 ^ 64

/-- the fixed test of txlist.go `Add`: `incoming.Fee < existing.Fee || incoming.Fee-existing.Fee < minDiff` -/
def C14_goReplaceRejects (inc ex d : Nat) : Bool := decide (inc < ex) || decide (C14_u64sub inc ex < d)

/-- the same test with the `incoming.Fee < existing.Fee` guard removed -/
def C14_unguardedReplaceRejects (inc ex d : Nat) : Bool := decide (C14_u64sub inc ex < d)

/-- the unpatched test `incoming.Fee < existing.Fee + minDiff` on uint64 -/
def C14_origReplaceRejects (inc ex d : Nat) : Bool := decide (inc < (ex + d) % 2 ^ 64)

/-- For all uint64 values — including fees next to 2^64 — the fixed Go test is the model's test. -/
theorem C14_replace_rule_uint64 (inc ex d : Nat) (hi : inc < 2 ^ 64) (he : ex < 2 ^ 64) (_hd : d < 2 ^ 64) :
    C14_goReplaceRejects inc ex d = true ↔ inc < ex + d := by
  unfold C14_goReplaceRejects C14_u64sub
  simp only [Bool.or_eq_true, decide_eq_true_eq]
  omega

/-- The sender-list decision on an occupied nonce, exactly: accepted iff `old.fee + minFeeDiff ≤ tx.fee`;
then the old transaction is the one dropped, otherwise the list is unchanged. -/
theorem C14_replace_list_iff (cfg : Cfg) (a : Acct) (tx old : Tx) (hg : a.get tx.nonce = some old) :
    ((a.add cfg tx).2.1 = true ↔ old.fee + cfg.minFeeDiff ≤ tx.fee) ∧
    ((a.add cfg tx).2.1 = true → (a.add cfg tx).2.2 = some old) ∧
    ((a.add cfg tx).2.1 = false → a.add cfg tx = (a, false, none)) := by
  rw [acct_add_occupied cfg hg]
  by_cases hfee : tx.fee < old.fee + cfg.minFeeDiff
  · rw [if_pos hfee]; simp; omega
  · rw [if_neg hfee]; simp; omega

/-- The model decides a replacement as the fixed uint64 code does, for every fee below 2^64. -/
theorem C14_replace_model_matches_go (cfg : Cfg) (a : Acct) (tx old : Tx) (hg : a.get tx.nonce = some old)
    (hi : tx.fee < 2 ^ 64) (he : old.fee < 2 ^ 64) (hd : cfg.minFeeDiff < 2 ^ 64) :
    (a.add cfg tx).2.1 = !C14_goReplaceRejects tx.fee old.fee cfg.minFeeDiff := by
  have h1 := (C14_replace_list_iff cfg a tx old hg).1
  have h2 := C14_replace_rule_uint64 tx.fee old.fee cfg.minFeeDiff hi he hd
  cases hb : (a.add cfg tx).2.1 <;> cases hc : C14_goReplaceRejects tx.fee old.fee cfg.minFeeDiff <;>
    simp_all <;> omega

/-- Without the `incoming < existing` guard the subtraction wraps: a strictly lower fee is accepted unless
the configured difference exceeds `2^64 - (existing - incoming)`. -/
theorem C14_replace_guard_needed (inc ex d : Nat) (_hi : inc < 2 ^ 64) (he : ex < 2 ^ 64) (hlt : inc < ex) :
    (C14_unguardedReplaceRejects inc ex d = false ↔ d + (ex - inc) ≤ 2 ^ 64) ∧
    C14_goReplaceRejects inc ex d = true := by
  unfold C14_unguardedReplaceRejects C14_goReplaceRejects C14_u64sub
  simp only [decide_eq_false_iff_not, Bool.or_eq_true, decide_eq_true_eq]
  omega

/-- The unpatched test wraps: fee 100 replaces fee 2^64-1 (minimum difference 10). -/
theorem C14_replace_orig_wraps :
    C14_origReplaceRejects 100 (2 ^ 64 - 1) 10 = false ∧ C14_goReplaceRejects 100 (2 ^ 64 - 1) 10 = true ∧
    C14_unguardedReplaceRejects 100 200 10 = false ∧ C14_goReplaceRejects 100 200 10 = true := by
  decide

/-- Replacement at the pool, after any history, as an iff (no room hypothesis): a transaction that passes
the admission guards and whose (sender, nonce) slot is held by `old` gets into the pool iff it pays
`old.fee + minFeeDiff`, or the pool was full and the capacity eviction picked `old` itself. -/
theorem C14_replacement_iff (cfg : Cfg) (hmax : 1 ≤ cfg.maxTx) (hper : 1 ≤ cfg.maxPerAcct) (ops : List Op)
    (tx old : Tx) (v : Verdict) (pubOk : Bool) (tie : Nat) :
    let p := run cfg ops
    old ∈ p.all → old.sender = tx.sender → old.nonce = tx.nonce →
    (∀ t ∈ p.all, t.id ≠ tx.id) → cfg.minEntrance ≤ tx.prio →
    (isFull cfg p && tooCheap p.heap tx) = false → v ≠ Verdict.invalid →
    (tx ∈ (add cfg p tx v pubOk tie).1.all ↔
      (old.fee + cfg.minFeeDiff ≤ tx.fee ∨ (isFull cfg p = true ∧ pickMin (evictCands p) tie = some old))) := by
  intro p hold hs hn hid hent hcheap hv
  exact add_occupied_iff hmax (run_inv hmax hper ops) tx old v pubOk tie hold hs hn hid hent hcheap hv

/-- A lower fee never replaces — nor an equal one or a too small increase: whatever the verifier, publish
and tie-break answers, if `tx.fee < old.fee + minFeeDiff` the new transaction stays out and the old one stays
in, unless `old` was the victim of the capacity eviction of a full pool. -/
theorem C14_lower_fee_never_replaces (cfg : Cfg) (hmax : 1 ≤ cfg.maxTx) (hper : 1 ≤ cfg.maxPerAcct)
    (ops : List Op) (tx old : Tx) (v : Verdict) (pubOk : Bool) (tie : Nat) :
    let p := run cfg ops
    old ∈ p.all → old.sender = tx.sender → old.nonce = tx.nonce → old.id ≠ tx.id →
    tx.fee < old.fee + cfg.minFeeDiff →
    ¬ (isFull cfg p = true ∧ pickMin (evictCands p) tie = some old) →
    tx ∉ (add cfg p tx v pubOk tie).1.all ∧ old ∈ (add cfg p tx v pubOk tie).1.all := by
  intro p hold hs hn hne hfee hvict
  exact add_occupied_rejected hmax (run_inv hmax hper ops) tx old v pubOk tie hold hs hn hne hfee hvict

/-! ## per-sender limit -/

/-- After ANY history every sender has at most `maxPerAcct` transactions in `allTransactions` (counted on
the pool index itself, not on the sender list). -/
theorem C14_sender_count_bounded (cfg : Cfg) (hmax : 1 ≤ cfg.maxTx) (hper : 1 ≤ cfg.maxPerAcct) (ops : List Op)
    (s : Nat) : ((run cfg ops).all.filter (fun t => t.sender == s)).length ≤ cfg.maxPerAcct :=
  sender_count_le (run_inv hmax hper ops) s

/-- The bound at a history written `before ++ ext :: after`, where `ext` is ANY operation: in particular a removal from
outside the sender list (`Remove`, block applied, a promotion round dropping an invalid suffix, a capacity eviction
inside an `add`) followed by further adds — the histories on which a limit check that trusts a cached highest nonce
goes wrong (demonstrated by seeded/C14-4). -/
theorem C14_limit_after_external_removal (cfg : Cfg) (hmax : 1 ≤ cfg.maxTx) (hper : 1 ≤ cfg.maxPerAcct)
    (before after : List Op) (ext : Op) (s : Nat) :
    ((run cfg (before ++ ext :: after)).all.filter (fun t => t.sender == s)).length ≤ cfg.maxPerAcct ∧
    ∀ e ∈ (run cfg (before ++ ext :: after)).accts, e.2.txs.length ≤ cfg.maxPerAcct :=
  ⟨C14_sender_count_bounded cfg hmax hper _ s, fun e he => ((run_inv hmax hper _).acctOk e he).bound⟩

/-- At the limit the decision reads the current pool: a transaction with a new nonce for a sender that has
`maxPerAcct` pooled transactions (pool not full) is compared with `top`, the pooled transaction of that
sender with the highest nonce *now*; above it `allTransactions` is unchanged, below it `top` is dropped from
`allTransactions` and the new one inserted. -/
theorem C14_sender_limit_exact (cfg : Cfg) (hmax : 1 ≤ cfg.maxTx) (hper : 1 ≤ cfg.maxPerAcct) (ops : List Op)
    (tx : Tx) (v : Verdict) (pubOk : Bool) (tie : Nat) :
    let p := run cfg ops
    (∀ t ∈ p.all, t.id ≠ tx.id) → cfg.minEntrance ≤ tx.prio → v ≠ Verdict.invalid →
    p.all.length < cfg.maxTx →
    (∀ x ∈ p.all, x.sender = tx.sender → x.nonce ≠ tx.nonce) →
    (p.all.filter (fun t => t.sender == tx.sender)).length = cfg.maxPerAcct →
    ∃ top ∈ p.all, top.sender = tx.sender ∧ (∀ x ∈ p.all, x.sender = tx.sender → x.nonce ≤ top.nonce) ∧
      (top.nonce < tx.nonce → (add cfg p tx v pubOk tie).1.all = p.all) ∧
      (tx.nonce < top.nonce →
        (add cfg p tx v pubOk tie).1.all = tx :: p.all.filter (fun x => x.id != top.id)) := by
  intro p hid hent hv hroom hslot hcnt
  have h : C14Inv cfg p := run_inv hmax hper ops
  rw [add_of_room pubOk tie hid hent hv hroom]
  obtain ⟨top, htop, hts, hmaxn, hr⟩ := addCore_limit hper h tx pubOk hslot hcnt
  exact ⟨top, htop, hts, hmaxn, fun hlt => by rw [hr, if_pos hlt], fun hlt => by rw [hr, if_neg (by omega)]⟩

/-- Below the limit (and with a free slot, pool not full) the transaction is simply inserted. -/
theorem C14_below_limit_exact (cfg : Cfg) (hmax : 1 ≤ cfg.maxTx) (hper : 1 ≤ cfg.maxPerAcct) (ops : List Op)
    (tx : Tx) (v : Verdict) (pubOk : Bool) (tie : Nat) :
    let p := run cfg ops
    (∀ t ∈ p.all, t.id ≠ tx.id) → cfg.minEntrance ≤ tx.prio → v ≠ Verdict.invalid →
    p.all.length < cfg.maxTx →
    (∀ x ∈ p.all, x.sender = tx.sender → x.nonce ≠ tx.nonce) →
    (p.all.filter (fun t => t.sender == tx.sender)).length < cfg.maxPerAcct →
    (add cfg p tx v pubOk tie).1.all = tx :: p.all := by
  intro p hid hent hv hroom hslot hcnt
  have h : C14Inv cfg p := run_inv hmax hper ops
  rw [add_of_room pubOk tie hid hent hv hroom]
  exact addCore_free h tx pubOk hslot hcnt

/-! ## promotion round, exact; fuel -/

/-- One `reorg` tick after any history, exactly: the list of every sender `s` becomes
`reorgSpec v` of the old list — unchanged if it has nothing promotable; otherwise its processable set is the
longest prefix of `asked = processable nonces ++ promotable run` whose transactions the verifier does not
answer `invalid`, and the asked transactions from the first `invalid` one on are removed (the list is
unregistered when it gets empty).  Lists are transformed independently of each other. -/
theorem C14_reorg_exact (cfg : Cfg) (hmax : 1 ≤ cfg.maxTx) (hper : 1 ≤ cfg.maxPerAcct) (ops : List Op)
    (v : Nat → Verdict) (s : Nat) :
    findAcct (reorg v (run cfg ops)).accts s = (findAcct (run cfg ops).accts s).bind (reorgSpec v) :=
  reorg_exact (run_inv hmax hper ops) v s

/-- The promotable run is an interval of nonces that starts right after the highest processable nonce, so `asked` is
strictly ascending and `askedTxs` are the transactions at exactly these nonces.  (That the run is maximal and its nonces
are present in the list is `C14_promotable_run_maximal`.) -/
theorem C14_asked_run (cfg : Cfg) (hmax : 1 ≤ cfg.maxTx) (hper : 1 ≤ cfg.maxPerAcct) (ops : List Op) :
    ∀ e ∈ (run cfg ops).accts,
      e.2.asked.Pairwise (· < ·) ∧ e.2.askedTxs.map (·.nonce) = e.2.asked ∧
      ∃ first m, e.2.promotableNonces = List.range' first m ∧
        ∀ hi, e.2.proc.getLast? = some hi → first = hi + 1 := by
  intro e he
  have hai := (run_inv hmax hper ops).acctOk e he
  obtain ⟨first, m, hr, hfirst, _⟩ := promotableNonces_spec e.2
  exact ⟨asked_pairwise hai, askedTxs_map_nonce hai, first, m, hr, hfirst⟩

/-- The promotable run is the MAXIMAL gap-free continuation of the processable set: when non-empty it is
`first, …, first+m` with `first` right after the highest processable nonce, every nonce of it is in the list,
and the list has no entry at `first+m+1` (it stops only at a gap). -/
theorem C14_promotable_run_maximal (cfg : Cfg) (hmax : 1 ≤ cfg.maxTx) (hper : 1 ≤ cfg.maxPerAcct) (ops : List Op) :
    ∀ e ∈ (run cfg ops).accts, e.2.promotableNonces ≠ [] →
      ∃ first m, e.2.promotableNonces = List.range' first (m + 1) ∧
        (∀ hi, e.2.proc.getLast? = some hi → first = hi + 1) ∧
        (∀ n ∈ e.2.promotableNonces, ∃ t ∈ e.2.txs, t.nonce = n) ∧
        ∀ t ∈ e.2.txs, t.nonce ≠ first + m + 1 := by
  intro e he hne
  have hai := (run_inv hmax hper ops).acctOk e he
  obtain ⟨first, m, hr, hfirst, hmaxm⟩ := promotable_maximal hai hne
  obtain ⟨_, _, _, _, hin⟩ := promotableNonces_spec e.2
  exact ⟨first, m, hr, hfirst, hin, hmaxm⟩

/-- Fate of every transaction of a list with something to promote, after the round: an asked transaction is
processable afterwards or has left the pool — it is processable iff no asked transaction up to and including
it was answered `invalid`; a transaction that was not asked stays pooled and unprocessable. -/
theorem C14_reorg_asked_fate (cfg : Cfg) (hmax : 1 ≤ cfg.maxTx) (hper : 1 ≤ cfg.maxPerAcct) (ops : List Op)
    (v : Nat → Verdict) (s : Nat) (a : Acct) (t : Tx) :
    let p := run cfg ops
    findAcct p.accts s = some a → a.promotableNonces ≠ [] → t ∈ a.txs →
    (t ∈ a.askedTxs →
      (t ∈ (reorg v p).all ↔ isProc (reorg v p) t) ∧
      (isProc (reorg v p) t ↔ ∀ u ∈ a.askedTxs, u.nonce ≤ t.nonce → v u.id ≠ Verdict.invalid)) ∧
    (t ∉ a.askedTxs → t ∈ (reorg v p).all ∧ ¬ isProc (reorg v p) t) := by
  intro p ha hprom hta
  have h : C14Inv cfg p := run_inv hmax hper ops
  have hai : AcctInv cfg s a := h.acctOk _ (findAcct_some ha)
  obtain ⟨hin, hproc⟩ := reorg_after h v ha hprom hta
  have hnonce : t ∈ a.askedTxs ↔ t.nonce ∈ a.asked := by
    have := (mem_askedTxs_iff hai hta 0).2
    rwa [List.drop_zero, List.drop_zero] at this
  rw [← List.take_append_drop (acceptedLen v a) a.asked, List.mem_append] at hnonce
  constructor
  · intro htask
    refine ⟨?_, reorg_isProc_iff h v ha hprom htask⟩
    rw [hin, hproc]
    exact ⟨fun hnd => (hnonce.1 htask).resolve_right hnd, asked_take_not_drop hai _⟩
  · intro hnask
    exact ⟨hin.2 (fun hh => hnask (hnonce.2 (Or.inr hh))), fun hp => hnask (hnonce.2 (Or.inl (hproc.1 hp)))⟩

/-- The fuel of the lock walk (`C14_no_reentrant_lock` uses 8) is irrelevant: the call depth of the fixed
table is below 8, so every larger fuel gives the same walk — no path is cut off. -/
theorem C14_lock_walk_fuel_irrelevant (n : Nat) (hn : 8 ≤ n) (f : Fn) (w : Walk) :
    walk fixedTable n f w = walk fixedTable 8 f w := by
  induction n with
  | zero => omega
  | succ m ih =>
    by_cases hm : 8 ≤ m
    · rw [← walk_fuel fixedTable fixedTable_rankOk m f (by have := fnRank_le f; omega) w]
      exact ih hm
    · have : m = 7 := by omega
      subst this; rfl

/-- Hence the lock check passes with every fuel ≥ 8. -/
theorem C14_lock_check_any_fuel (n : Nat) (hn : 8 ≤ n) :
    (allFns.all fun f => let w := walk fixedTable n f {}; w.ok && w.held.isEmpty && w.pending.isEmpty) = true := by
  have : (allFns.all fun f => let w := walk fixedTable n f {}; w.ok && w.held.isEmpty && w.pending.isEmpty)
      = lockCheck fixedTable := by
    unfold lockCheck
    congr 1
    funext f
    rw [C14_lock_walk_fuel_irrelevant n hn f {}]
  rw [this]
  exact lockCheck_fixedTable

/-! ## eviction policy -/

/-- The capacity eviction of an `add` into a full pool, exactly.  The victim is `pickMin (evictCands p) tie`:
(a) if some list has an "unprocessable" entry (`GetUnprocessables`), the victim is one of those with minimal
fee priority; (b) otherwise it is the last processable transaction — the one with the highest processable
nonce — of some sender, minimal in fee priority among these; `tie` selects among equal priorities.  The victim
is gone from all three indexes afterwards, and for a sender without pooled transactions the result is the old
pool minus the victim plus the new transaction.  (The third conjunct is the first with `pickMin` written out.) -/
theorem C14_eviction_exact (cfg : Cfg) (hmax : 1 ≤ cfg.maxTx) (hper : 1 ≤ cfg.maxPerAcct) (ops : List Op)
    (tx : Tx) (v : Verdict) (pubOk : Bool) (tie : Nat) :
    let p := run cfg ops
    let p' := (add cfg p tx v pubOk tie).1
    (∀ t ∈ p.all, t.id ≠ tx.id) → cfg.minEntrance ≤ tx.prio → v ≠ Verdict.invalid →
    isFull cfg p = true → tooCheap p.heap tx = false →
    ∃ victim, pickMin (evictCands p) tie = some victim ∧ victim ∈ p.all ∧
      (minCands (evictCands p))[tie % (minCands (evictCands p)).length]? = some victim ∧
      (unprocCands p ≠ [] → victim ∈ unprocCands p ∧ ∀ u ∈ unprocCands p, victim.prio ≤ u.prio) ∧
      (unprocCands p = [] →
        (∃ e ∈ p.accts, e.2.processables.getLast? = some victim ∧ ∀ n ∈ e.2.proc, n ≤ victim.nonce) ∧
        ∀ u ∈ procCands p, victim.prio ≤ u.prio) ∧
      (victim ∉ p'.all ∧ victim ∉ p'.heap ∧ ∀ e ∈ p'.accts, victim ∉ e.2.txs) ∧
      (∀ x ∈ p'.all, x = tx ∨ (x ∈ p.all ∧ x ≠ victim)) ∧
      ((∀ x ∈ p.all, x.sender ≠ tx.sender) → p'.all = tx :: p.all.filter (fun x => x.id != victim.id)) := by
  intro p p' hid hent hv hfull hcheap
  have h : C14Inv cfg p := run_inv hmax hper ops
  have h' : C14Inv cfg p' := add_inv hmax hper h tx v pubOk tie
  obtain ⟨t, hpick, htall, _, hevall, _⟩ := evict_spec h (isFull_ne_nil hmax hfull) tie
  have hcheap' : (isFull cfg p && tooCheap p.heap tx) = false := by rw [hcheap]; simp
  have hp' : p' = (addCore cfg (evict p tie) tx pubOk).1 := by
    show (add cfg p tx v pubOk tie).1 = _
    rw [add_admitted pubOk tie hid hent hcheap' hv, if_pos hfull]
  have hsub : ∀ x ∈ p'.all, x = tx ∨ (x ∈ p.all ∧ x ≠ t) := by
    intro x hx
    rw [hp'] at hx
    rcases addCore_all_subset cfg _ tx pubOk x hx with rfl | hx
    · exact Or.inl rfl
    · right
      rw [hevall] at hx
      obtain ⟨hxall, hxid⟩ := List.mem_filter.1 hx
      exact ⟨hxall, fun hxt => by subst hxt; simp at hxid⟩
  have hgone : t ∉ p'.all := by
    intro ht
    rcases hsub t ht with rfl | ⟨_, hh⟩
    · exact hid _ htall rfl
    · exact hh rfl
  refine ⟨t, hpick, htall, hpick, ?_, ?_, ⟨hgone, fun hh => hgone (h'.heapPerm.mem_iff.1 hh),
    fun e he hh => hgone (h'.acctInAll e he t hh)⟩, hsub, ?_⟩
  · intro hu
    rw [evictCands_of_ne_nil hu] at hpick
    exact pickMin_spec hpick
  · intro hu
    rw [evictCands_of_nil hu] at hpick
    obtain ⟨e, he, hl⟩ := List.mem_filterMap.1 (pickMin_spec hpick).1
    exact ⟨⟨e, he, hl, (processables_getLast (h.acctOk e he) hl).2.2⟩, (pickMin_spec hpick).2⟩
  · intro hfresh
    rw [hp']
    have hnone : ∀ x ∈ (evict p tie).all, x.sender ≠ tx.sender :=
      fun x hx => hfresh x (evict_all_subset p tie x hx)
    rw [addCore_free (evict_quiet h tie).inv tx pubOk (fun x hx hxs => absurd hxs (hnone x hx)), hevall]
    rw [List.filter_eq_nil_iff.2 (fun x hx => by simpa using hnone x hx)]
    exact hper

/-- Class (a) of the eviction really consists of unprocessable transactions as long as no list entry lies below
a processable nonce of its list: then `GetUnprocessables` returns exactly the entries whose nonce is not in the
processable set.  (`C14_quirk_low_nonce_blocks_promotion` shows the condition is needed.) -/
theorem C14_unprocessables_exact (cfg : Cfg) (hmax : 1 ≤ cfg.maxTx) (hper : 1 ≤ cfg.maxPerAcct) (ops : List Op) :
    ∀ e ∈ (run cfg ops).accts,
      (∀ t ∈ e.2.txs, t.nonce ∉ e.2.proc → ∀ n ∈ e.2.proc, n < t.nonce) →
      ∀ t, t ∈ e.2.unprocessables ↔ t ∈ e.2.txs ∧ t.nonce ∉ e.2.proc := by
  intro e he hnormal t
  exact mem_unprocessables_iff ((run_inv hmax hper ops).acctOk e he) hnormal t

/-- What the fee-priority guard gives: the incoming transaction strictly beats the lowest fee priority in the
pool, and the victim is minimal among the eviction candidates; so the victim has a strictly lower priority than
the incoming one — unless a strictly cheaper pooled transaction is shielded from eviction because it is not a
candidate (a processable one while unprocessables exist, or a processable one that is not the last of its
sender). -/
theorem C14_eviction_priority (cfg : Cfg) (hmax : 1 ≤ cfg.maxTx) (hper : 1 ≤ cfg.maxPerAcct) (ops : List Op)
    (tx victim : Tx) (tie : Nat) :
    let p := run cfg ops
    isFull cfg p = true → tooCheap p.heap tx = false → pickMin (evictCands p) tie = some victim →
    (∃ u ∈ p.all, u.prio < tx.prio ∧ ∀ x ∈ p.all, u.prio ≤ x.prio) ∧
    (victim.prio < tx.prio ∨
      ∃ u ∈ p.all, u ∉ evictCands p ∧ u.prio < victim.prio ∧ u.prio < tx.prio) := by
  intro p hfull hcheap hpick
  have h : C14Inv cfg p := run_inv hmax hper ops
  have hne := isFull_ne_nil hmax hfull
  obtain ⟨_, hmin⟩ := pickMin_spec hpick
  unfold tooCheap at hcheap
  cases hm : minPrio p.heap with
  | none =>
    have hl := h.heapPerm.length_eq
    rw [minPrio_eq_none.1 hm] at hl
    exact absurd (List.eq_nil_of_length_eq_zero hl.symm) hne
  | some m =>
    rw [hm] at hcheap
    have hlt : m < tx.prio := by simpa using hcheap
    obtain ⟨⟨u, hu, hum⟩, hle⟩ := minPrio_spec _ _ hm
    have huall : u ∈ p.all := h.heapPerm.mem_iff.1 hu
    have humin : ∀ x ∈ p.all, u.prio ≤ x.prio := fun x hx => hum ▸ hle x (h.heapPerm.mem_iff.2 hx)
    refine ⟨⟨u, huall, by omega, humin⟩, ?_⟩
    by_cases hc : u ∈ evictCands p
    · left; have := hmin u hc; omega
    · by_cases hv : victim.prio < tx.prio
      · exact Or.inl hv
      · right; exact ⟨u, huall, hc, by omega, by omega⟩

/-- "A transaction is never evicted to make room for a lower-priority one" does NOT hold for the code (nor
the model): with a cheap processable transaction in the pool, `evictUnprocessable` removes an unprocessable
transaction of fee priority 100 to let in one of fee priority 50. -/
theorem C14_evicted_may_outrank_incoming :
    let cfg : Cfg := { maxTx := 2, maxPerAcct := 4, minFeeDiff := 1, minEntrance := 0 }
    let cheap : Tx := { id := 1, sender := 1, nonce := 0, fee := 100, size := 100 }
    let dear : Tx := { id := 2, sender := 2, nonce := 7, fee := 10000, size := 100 }
    let mid : Tx := { id := 3, sender := 3, nonce := 0, fee := 5000, size := 100 }
    let ok (t : Tx) : Op := Op.add { tx := t, v := .ok, pubOk := true, tie := 0 }
    let p := run cfg [ok cheap, Op.reorg (fun _ => .ok), ok dear]
    pickMin (evictCands p) 0 = some dear ∧ mid.prio < dear.prio ∧
    (run cfg [ok cheap, Op.reorg (fun _ => .ok), ok dear, ok mid]).all.map (·.id) = [3, 1] := by
  decide

/-- Remark (code and model agree): the capacity eviction runs BEFORE the sender list decides, so an `Add` that is
then rejected (here: replacement fee too low) has already evicted a pooled transaction — the pool loses
transaction 2 although nothing was added. -/
theorem C14_rejected_add_may_evict :
    let cfg : Cfg := { maxTx := 2, maxPerAcct := 4, minFeeDiff := 10, minEntrance := 0 }
    let a : Tx := { id := 1, sender := 1, nonce := 0, fee := 1000, size := 100 }
    let b : Tx := { id := 2, sender := 2, nonce := 0, fee := 500, size := 100 }
    let c : Tx := { id := 3, sender := 1, nonce := 0, fee := 1005, size := 100 }
    let ok (t : Tx) : Op := Op.add { tx := t, v := .ok, pubOk := true, tie := 0 }
    let r := add cfg (run cfg [ok a, ok b]) c .ok true 0
    r.2 = false ∧ r.1.all.map (·.id) = [1] := by
  decide

/-! ## the known finding as an iff -/

/-- the answers `verifyTransactions` does not treat as `invalid` -/
theorem C14_verdict_cases (x : Verdict) : x ≠ Verdict.invalid ↔ (x = Verdict.ok ∨ x = Verdict.pending) := by
  cases x <;> simp

/-- Known finding, exact form: after a promotion round an asked transaction is processable iff the verifier
answered `ok` OR `pending` for every asked transaction up to and including it — `pending` counts as `ok`. -/
theorem C14_pending_promoted_iff (cfg : Cfg) (hmax : 1 ≤ cfg.maxTx) (hper : 1 ≤ cfg.maxPerAcct) (ops : List Op)
    (v : Nat → Verdict) (s : Nat) (a : Acct) (t : Tx) :
    let p := run cfg ops
    findAcct p.accts s = some a → a.promotableNonces ≠ [] → t ∈ a.askedTxs →
    (isProc (reorg v p) t ↔
      ∀ u ∈ a.askedTxs, u.nonce ≤ t.nonce → (v u.id = Verdict.ok ∨ v u.id = Verdict.pending)) := by
  intro p ha hprom ht
  rw [reorg_isProc_iff (run_inv hmax hper ops) v ha hprom ht]
  constructor
  · intro hh u hu hle; exact (C14_verdict_cases _).1 (hh u hu hle)
  · intro hh u hu hle; exact (C14_verdict_cases _).2 (hh u hu hle)

/-- For the transaction with the lowest asked nonce (e.g. the first transaction of a sender without
processables): processable after the round ⇔ the verifier answered `ok` or `pending`. -/
theorem C14_first_promotable_iff (cfg : Cfg) (hmax : 1 ≤ cfg.maxTx) (hper : 1 ≤ cfg.maxPerAcct) (ops : List Op)
    (v : Nat → Verdict) (s : Nat) (a : Acct) (t : Tx) :
    let p := run cfg ops
    findAcct p.accts s = some a → a.promotableNonces ≠ [] → t ∈ a.askedTxs →
    (∀ u ∈ a.askedTxs, t.nonce ≤ u.nonce) →
    (isProc (reorg v p) t ↔ (v t.id = Verdict.ok ∨ v t.id = Verdict.pending)) := by
  intro p ha hprom ht hlow
  have h : C14Inv cfg p := run_inv hmax hper ops
  have hai := h.acctOk _ (findAcct_some ha)
  rw [C14_pending_promoted_iff cfg hmax hper ops v s a t ha hprom ht]
  constructor
  · intro hh; exact hh t ht (Nat.le_refl _)
  · intro hh u hu hle
    have hn : u.nonce = t.nonce := Nat.le_antisymm hle (hlow u hu)
    rw [inj_of_nodup_map _ hai.nodup (askedTxs_subset hu) (askedTxs_subset ht) hn]
    exact hh

/-- Quirk of `GetUnprocessables` / `GetPromotable` kept by the model (they skip `len(processables)` of the
sorted nonces, i.e. assume the processable nonces are the lowest of the list): after a block revert brings
back lower nonces (3, 4) of a sender whose nonces 5, 6 are processable, no later round promotes anything for
that sender, and the "unprocessable" eviction candidates are 5, 6 and 7: the processable 5 and 6 are among them. -/
theorem C14_quirk_low_nonce_blocks_promotion :
    let cfg : Cfg := { maxTx := 8, maxPerAcct := 8, minFeeDiff := 1, minEntrance := 0 }
    let mk (i n : Nat) : Tx := { id := i, sender := 1, nonce := n, fee := 1000, size := 100 }
    let arg (t : Tx) : AddArg := { tx := t, v := .ok, pubOk := true, tie := 0 }
    let p := run cfg [Op.add (arg (mk 5 5)), Op.add (arg (mk 6 6)), Op.add (arg (mk 7 7)), Op.reorg (fun _ => .ok),
      Op.remove 7, Op.reverted [arg (mk 3 3), arg (mk 4 4)], Op.add (arg (mk 8 7)), Op.reorg (fun _ => .ok),
      Op.reorg (fun _ => .ok)]
    p.accts.map (fun e => (e.2.proc, e.2.sortedNonces, e.2.unprocessables.map (·.nonce))) =
      [([5, 6], [3, 4, 5, 6, 7], [5, 6, 7])] := by
  decide

/-! ## non-vacuity -/

namespace C14MoreExamples

def cfg : Cfg := { maxTx := 3, maxPerAcct := 2, minFeeDiff := 10, minEntrance := 0 }
def mk (i s n fee : Nat) : Tx := { id := i, sender := s, nonce := n, fee := fee, size := 100 }
def ok (t : Tx) : Op := Op.add { tx := t, v := .ok, pubOk := true, tie := 0 }

/-- uint64 rule at the edge: 2^64-1 does not replace 2^64-5 with difference 10, and does with difference 4 -/
example : C14_goReplaceRejects (2 ^ 64 - 1) (2 ^ 64 - 5) 10 = true ∧
    C14_goReplaceRejects (2 ^ 64 - 1) (2 ^ 64 - 5) 4 = false := by decide

/-- `C14_replacement_iff`, fee branch: hypotheses hold and the transaction gets in -/
example :
    let p := run cfg [ok (mk 1 1 0 1000)]
    mk 1 1 0 1000 ∈ p.all ∧ (∀ t ∈ p.all, t.id ≠ (mk 2 1 0 1010).id) ∧
    (isFull cfg p && tooCheap p.heap (mk 2 1 0 1010)) = false ∧
    mk 2 1 0 1010 ∈ (add cfg p (mk 2 1 0 1010) .ok true 0).1.all ∧
    mk 2 1 0 1009 ∉ (add cfg p (mk 2 1 0 1009) .ok true 0).1.all := by decide

/-- `C14_replacement_iff`, eviction branch: full pool, the old holder of the slot is the capacity victim, and a
LOWER fee (smaller transaction, higher priority) takes the slot -/
example :
    let c : Cfg := { maxTx := 1, maxPerAcct := 2, minFeeDiff := 10, minEntrance := 0 }
    let old : Tx := { id := 1, sender := 1, nonce := 0, fee := 1000, size := 100 }
    let tx : Tx := { id := 2, sender := 1, nonce := 0, fee := 900, size := 10 }
    let p := run c [Op.add { tx := old, v := .ok, pubOk := true, tie := 0 }]
    isFull c p = true ∧ pickMin (evictCands p) 0 = some old ∧ tooCheap p.heap tx = false ∧
    (add c p tx .ok true 0).1.all = [tx] := by decide

/-- the highest nonce (9) is removed from outside (the history of seeded/C14-4), the list is refilled to
the limit with lower nonces, one more arrives — the model drops the current highest (5), count stays 2 -/
example :
    (run cfg [ok (mk 1 1 5 1000), ok (mk 2 1 9 1000), Op.remove 2, ok (mk 3 1 3 1000), ok (mk 4 1 4 1000)]).all.map
      (·.id) = [4, 3] := by decide

/-- `C14_sender_limit_exact`: hypotheses hold (count = limit, free slot, room) -/
example :
    let p := run cfg [ok (mk 1 1 5 1000), ok (mk 3 1 3 1000)]
    (p.all.filter (fun t => t.sender == 1)).length = cfg.maxPerAcct ∧ p.all.length < cfg.maxTx ∧
    (add cfg p (mk 4 1 4 1000) .ok true 0).1.all.map (·.id) = [4, 3] ∧
    (add cfg p (mk 4 1 6 1000) .ok true 0).1.all.map (·.id) = [3, 1] := by decide

/-- `reorgSpec` on a list with nonces 0,1,2,4: asked = [0,1,2]; second answer invalid → processable [0], the
transactions at 1 and 2 leave, 4 stays unprocessable -/
example :
    let c : Cfg := { maxTx := 8, maxPerAcct := 8, minFeeDiff := 10, minEntrance := 0 }
    let p := run c [ok (mk 10 1 0 1000), ok (mk 11 1 1 1000), ok (mk 12 1 2 1000), ok (mk 14 1 4 1000)]
    let q := reorg (fun id => if id = 11 then .invalid else .ok) p
    (p.accts.map (fun e => (e.2.asked, e.2.promotableNonces))) = [([0, 1, 2], [0, 1, 2])] ∧
    q.accts.map (fun e => (e.2.proc, e.2.txs.map (·.id))) = [([0], [14, 10])] ∧
    (p.accts.map (fun e => (reorgSpec (fun id => if id = 11 then .invalid else .ok) e.2).map
      (fun a => (a.proc, a.txs.map (·.id))))) = [some ([0], [14, 10])] := by decide

/-- `C14_eviction_exact`, both classes: unprocessable victim; processable victim = last processable -/
example :
    let p := run cfg [ok (mk 1 1 0 1000), ok (mk 2 2 0 500), ok (mk 3 3 0 800)]
    isFull cfg p = true ∧ unprocCands p ≠ [] ∧ pickMin (evictCands p) 0 = some (mk 2 2 0 500) ∧
    tooCheap p.heap (mk 4 4 0 900) = false ∧
    (add cfg p (mk 4 4 0 900) .ok true 0).1.all.map (·.id) = [4, 3, 1] := by decide
example :
    let p := run cfg [ok (mk 1 1 0 1000), ok (mk 2 1 1 500), ok (mk 3 3 0 800), Op.reorg (fun _ => .ok)]
    unprocCands p = [] ∧ pickMin (evictCands p) 0 = some (mk 2 1 1 500) ∧
    (add cfg p (mk 4 4 0 900) .ok true 0).1.all.map (·.id) = [4, 3, 1] := by decide

/-- `C14_unprocessables_exact`: the condition holds and the unprocessable entries are those above the run -/
example :
    let c : Cfg := { maxTx := 8, maxPerAcct := 8, minFeeDiff := 10, minEntrance := 0 }
    let p := run c [ok (mk 10 1 0 1000), ok (mk 11 1 1 1000), Op.reorg (fun _ => .ok), ok (mk 14 1 4 1000)]
    p.accts.map (fun e => (e.2.proc, e.2.unprocessables.map (·.id),
      decide (∀ t ∈ e.2.txs, t.nonce ∉ e.2.proc → ∀ n ∈ e.2.proc, n < t.nonce))) = [([0, 1], [14], true)] := by
  decide

/-- `C14_first_promotable_iff`: pending is promoted, invalid is not -/
example :
    let p := run cfg [Op.add { tx := mk 7 1 5 1000, v := .pending, pubOk := true, tie := 0 }]
    (p.accts.map (fun e => (e.2.promotableNonces, e.2.askedTxs.map (·.id)))) = [([5], [7])] ∧
    (reorg (fun _ => .pending) p).accts.map (fun e => e.2.proc) = [[5]] ∧
    (reorg (fun _ => .invalid) p).all = [] := by decide

/-- `C14_promotable_run_maximal`: nonces 0,1,2,4 → run 0..2, stops at the gap -/
example :
    (run { maxTx := 8, maxPerAcct := 8, minFeeDiff := 10, minEntrance := 0 }
      [ok (mk 10 1 0 1000), ok (mk 11 1 1 1000), ok (mk 12 1 2 1000), ok (mk 14 1 4 1000)]).accts.map
      (fun e => e.2.promotableNonces) = [[0, 1, 2]] := by decide

example : walk fixedTable 50 Fn.AddTx {} = walk fixedTable 8 Fn.AddTx {} :=
  C14_lock_walk_fuel_irrelevant 50 (by decide) _ _

end C14MoreExamples
