/-
C07 — the slot calculator (`pkg/consensus/validator/block_slot.go`) inside the model.

The fork-choice predicates of Props/C07.lean and C07_More.lean take `validator.BlockSlot` as an opaque
function `Slot.getSlotNumber` and the two wall-clock helpers of `forkChoice` as opaque flags. Here they are
instantiated with definitions REGENERATED from the Go source by tools/fngen (typed translation,
`LiskVerif/Gen/Fns2.lean`) on every run:

* `Gen.newBlockSlotGenesis`, `Gen.newBlockSlotBlockTime` — the two fields `NewBlockSlot` STORES,
* `Gen.getSlotNumber`, `Gen.getSlotTime`                 — the two methods of `BlockSlot`,
* `Gen.fcReceivedBlockWithinForgingSlot`, `Gen.fcReceivedLastBlockWithinForgingSlot`,
  `Gen.fcIsTieBreakTimed`                                — the wall-clock helpers and the tie-break test of
                                                            `forkChoice`, calling `GetSlotNumber`.

The specification is the LIP-0014 slot grid (`C07SlotSpec`): slot `k` of a chain with genesis timestamp `g`
and block time `bt` is the interval `[g + k·bt, g + (k+1)·bt)` — counted from the genesis timestamp ITSELF,
whatever its residue modulo the block time. Idea: for `bt > 0` and `g ≤ t < 2^32` the slot of `t` is
`(t - g) / bt` on both sides (`C07_slot_number_eq`, `C07_slot_spec_iff`); the constructor, the two methods,
the receive-time helpers and `IsTieBreak` are read off from that. Outside the specification the code is
described as it is: a time before the genesis timestamp wraps (`uint32`) into a huge positive slot, block
time 0 gives slot -2^63 on amd64. Throughout, 4294967296 = 2^32 (`uint32`) and 9223372036854775808 = 2^63 (`int`).

A constructor that stores `g - g % bt` (a grid "aligned" to multiples of the block time) fails
`C07_slot_constructor_stores` and everything stated through `C07newSlotFields`: for `g = 1000003`, `bt = 10`
the time `1000071` lies in `[g + 6·bt, g + 7·bt) = [1000063, 1000073)`, slot 6, but the aligned grid answers 7
(`(1000071 - 1000000) / 10`).
-/
import LiskVerif.Props.C07_More
import LiskVerif.Lemmas.GenInt

open LiskVerif LiskVerif.Gen

/-! ### the specification: the LIP-0014 slot grid -/

/-- `t` lies in slot `k` of the chain with genesis timestamp `g` and block time `bt` (LIP-0014:
slots are `bt` seconds long and are counted from the genesis timestamp) -/
def C07SlotSpec (g bt t k : Nat) : Prop := g + k * bt ≤ t ∧ t < g + (k + 1) * bt

instance (g bt t k : Nat) : Decidable (C07SlotSpec g bt t k) := by unfold C07SlotSpec; infer_instance

/-- the grid is a partition of the times from the genesis timestamp on: existence … -/
theorem C07_slot_spec_exists (g bt t : Nat) (hbt : 0 < bt) (hgt : g ≤ t) : C07SlotSpec g bt t ((t - g) / bt) := by
  unfold C07SlotSpec
  have h1 : (t - g) / bt * bt ≤ t - g := Nat.div_mul_le_self _ _
  have h2 : t - g < ((t - g) / bt + 1) * bt := by
    have := Nat.lt_div_mul_add (a := t - g) hbt
    rw [Nat.add_mul]; omega
  omega

/-- … and uniqueness -/
theorem C07_slot_spec_unique (g bt t k k' : Nat) (h : C07SlotSpec g bt t k) (h' : C07SlotSpec g bt t k') : k = k' := by
  unfold C07SlotSpec at h h'
  rcases Nat.lt_trichotomy k k' with hlt | heq | hgt
  · have : (k + 1) * bt ≤ k' * bt := Nat.mul_le_mul_right bt hlt
    omega
  · exact heq
  · have : (k' + 1) * bt ≤ k * bt := Nat.mul_le_mul_right bt hgt
    omega

/-- together: the slot of a time from the genesis timestamp on is `(t - g) / bt` -/
theorem C07_slot_spec_iff (g bt t k : Nat) (hbt : 0 < bt) (hgt : g ≤ t) :
    C07SlotSpec g bt t k ↔ k = (t - g) / bt :=
  ⟨fun h => C07_slot_spec_unique g bt t _ _ h (C07_slot_spec_exists g bt t hbt hgt),
   fun h => h ▸ C07_slot_spec_exists g bt t hbt hgt⟩

/-! ### the constructor -/

/-- the two fields `NewBlockSlot(g, bt)` stores (`none` = the constructor panics) -/
def C07newSlotFields (g bt : Nat) : Option (Nat × Nat) :=
  match newBlockSlotGenesis g bt, newBlockSlotBlockTime g bt with
  | some g', some bt' => some (g', bt')
  | _, _ => none

/-- `validator.BlockSlot` with the stored fields `(g, bt)`, as fork choice uses it -/
def C07slotOf (p : Nat × Nat) : Slot := { getSlotNumber := fun t => getSlotNumber t p.1 p.2 }

/-- **`NewBlockSlot` stores the genesis timestamp and the block time unchanged** (for every input, including
block time 0 — the constructor has no arithmetic and cannot panic) -/
theorem C07_slot_constructor_stores (g bt : Nat) :
    newBlockSlotGenesis g bt = some g ∧ newBlockSlotBlockTime g bt = some bt ∧ C07newSlotFields g bt = some (g, bt) :=
  ⟨rfl, rfl, rfl⟩

/-! ### `GetSlotNumber` -/

private theorem elapsed_eq {g t : Nat} (hgt : g ≤ t) (ht : t < 4294967296) :
    (t + 4294967296 - g) % 4294967296 = t - g := by
  rw [Nat.sub_add_comm hgt, Nat.add_mod_right, Nat.mod_eq_of_lt (Nat.lt_of_le_of_lt (Nat.sub_le t g) ht)]

/-- `GetSlotNumber` for a positive block time: the `uint32` difference `elapsed`, divided -/
private theorem slot_number_elapsed (g bt t : Nat) (hbt : 0 < bt) :
    getSlotNumber t g bt = ((((t + 4294967296 - g) % 4294967296) / bt : Nat) : Int) := by
  unfold getSlotNumber f64FloorDivToInt
  rw [if_neg (by omega)]
  rfl

/-- closed form for times from the genesis timestamp on -/
theorem C07_slot_number_eq (g bt t : Nat) (hbt : 0 < bt) (hgt : g ≤ t) (ht : t < 4294967296) :
    getSlotNumber t g bt = (((t - g) / bt : Nat) : Int) := by
  rw [slot_number_elapsed g bt t hbt, elapsed_eq hgt ht]

/-- **`GetSlotNumber(t) = k` exactly when `t` lies in `[g + k·bt, g + (k+1)·bt)`** — for every genesis
timestamp `g`, multiple of the block time or not (`bt > 0`, `g ≤ t`, `t` a `uint32`) -/
theorem C07_slot_number_iff (g bt t k : Nat) (hbt : 0 < bt) (hgt : g ≤ t) (ht : t < 4294967296) :
    getSlotNumber t g bt = (k : Int) ↔ C07SlotSpec g bt t k := by
  rw [C07_slot_number_eq g bt t hbt hgt ht, C07_slot_spec_iff g bt t k hbt hgt, Int.natCast_inj, eq_comm]

/-- the slot number of a time from the genesis timestamp on is never negative -/
theorem C07_slot_number_nonneg (g bt t : Nat) (hbt : 0 < bt) (hgt : g ≤ t) (ht : t < 4294967296) :
    0 ≤ getSlotNumber t g bt := by
  rw [C07_slot_number_eq g bt t hbt hgt ht]
  exact Int.natCast_nonneg _

/-- **the same for the calculator `NewBlockSlot(g, bt)` builds**: the constructor does not panic and the
slot numbers of the object it returns follow the grid that starts at `g` -/
theorem C07_slot_constructed_number_iff (g bt t k : Nat) (hbt : 0 < bt) (hgt : g ≤ t) (ht : t < 4294967296) :
    ∃ p, C07newSlotFields g bt = some p ∧
      ((C07slotOf p).getSlotNumber t = (k : Int) ↔ C07SlotSpec g bt t k) :=
  ⟨(g, bt), (C07_slot_constructor_stores g bt).2.2, C07_slot_number_iff g bt t k hbt hgt ht⟩

/-- **the genesis timestamp is in slot 0, for EVERY genesis timestamp** (aligned to the block time or not) -/
theorem C07_slot_genesis_is_slot_zero (g bt : Nat) (hbt : 0 < bt) (hg : g < 4294967296) :
    ∃ p, C07newSlotFields g bt = some p ∧ (C07slotOf p).getSlotNumber g = 0 := by
  refine ⟨(g, bt), (C07_slot_constructor_stores g bt).2.2, ?_⟩
  have := (C07_slot_number_iff g bt g 0 hbt (Nat.le_refl g) hg).mpr (by unfold C07SlotSpec; omega)
  simpa [C07slotOf] using this

/-- the last second before the genesis timestamp + `k·bt` is in slot `k - 1`, that second itself in slot `k` -/
theorem C07_slot_boundary (g bt k : Nat) (hbt : 0 < bt) (h : g + (k + 1) * bt < 4294967296) :
    getSlotNumber (g + (k + 1) * bt - 1) g bt = (k : Int) ∧ getSlotNumber (g + (k + 1) * bt) g bt = ((k + 1 : Nat) : Int) := by
  have hm := Nat.add_one_mul k bt
  constructor
  · exact (C07_slot_number_iff g bt _ k hbt (by omega) (by omega)).mpr (by unfold C07SlotSpec; omega)
  · rw [C07_slot_number_eq g bt _ hbt (Nat.le_add_right _ _) h, Nat.add_sub_cancel_left,
      Nat.mul_div_cancel _ hbt]

/-- **monotone**: from the genesis timestamp on (`g ≤ t1`) a later time is never in an earlier slot, for any
block time, including 0; across the genesis timestamp it fails (`C07_slot_before_genesis_counterexample`) -/
theorem C07_slot_monotone (g bt t1 t2 : Nat) (hg : g ≤ t1) (h12 : t1 ≤ t2) (ht : t2 < 4294967296) :
    getSlotNumber t1 g bt ≤ getSlotNumber t2 g bt := by
  unfold getSlotNumber f64FloorDivToInt
  simp only [elapsed_eq hg (by omega), elapsed_eq (Nat.le_trans hg h12) ht]
  by_cases hb : bt = 0
  · simp [hb]
  · rw [if_neg hb, if_neg hb]
    have : (t1 - g) / bt ≤ (t2 - g) / bt := Nat.div_le_div_right (by omega)
    exact Int.ofNat_le.mpr this

/-! ### `GetSlotTime` -/

/-- `GetSlotTime(k)` for `k ≥ 0` whose product with the block time fits an `int`: `g + k·bt` modulo 2^32 -/
theorem C07_slot_time_wraps (g bt k : Nat) (h : k * bt < 9223372036854775808) :
    getSlotTime (k : Int) g bt = (g + k * bt) % 4294967296 := by
  have hc : ((k : Int) * Int.ofNat bt) = ((k * bt : Nat) : Int) := (Int.natCast_mul k bt).symm
  rw [getSlotTime, hc, Gen.i64_ofNat h]
  show (g + Int.toNat ((k * bt % 4294967296 : Nat) : Int)) % 4294967296 = _
  rw [Int.toNat_natCast, Nat.add_mod_mod]

/-- **`GetSlotTime(k) = g + k·bt`** as long as that is a `uint32` -/
theorem C07_slot_time_eq (g bt k : Nat) (h : g + k * bt < 4294967296) : getSlotTime (k : Int) g bt = g + k * bt := by
  rw [C07_slot_time_wraps g bt k (by omega), Nat.mod_eq_of_lt h]

/-- the slot of the start time of slot `k` is `k` -/
theorem C07_slot_time_roundtrip (g bt k : Nat) (hbt : 0 < bt) (h : g + k * bt < 4294967296) :
    getSlotNumber (getSlotTime (k : Int) g bt) g bt = (k : Int) := by
  rw [C07_slot_time_eq g bt k h]
  exact (C07_slot_number_iff g bt _ k hbt (by omega) h).mpr (by unfold C07SlotSpec; rw [Nat.add_mul]; omega)

/-- `GetSlotTime(k)` is the FIRST second of slot `k`: every time in slot `k` is at or after it -/
theorem C07_slot_time_is_first_second (g bt t k : Nat) (hbt : 0 < bt) (hgt : g ≤ t) (ht : t < 4294967296)
    (hk : getSlotNumber t g bt = (k : Int)) :
    getSlotTime (k : Int) g bt ≤ t ∧ t < getSlotTime (k : Int) g bt + bt := by
  have hs := (C07_slot_number_iff g bt t k hbt hgt ht).mp hk
  unfold C07SlotSpec at hs
  rw [C07_slot_time_eq g bt k (by omega)]
  rw [Nat.add_mul] at hs
  omega

/-! ### the wall-clock helpers of `forkChoice` -/

/-- **`receivedBlockWithinForgingSlot`: the receive time and the header timestamp lie in the same slot of
the LIP-0014 grid** -/
theorem C07_slot_received_in_slot_iff (g bt recv ts : Nat) (hbt : 0 < bt)
    (hgr : g ≤ recv) (hr : recv < 4294967296) (hgt : g ≤ ts) (ht : ts < 4294967296) :
    fcReceivedBlockWithinForgingSlot recv ts g bt = true ↔ ∃ k, C07SlotSpec g bt recv k ∧ C07SlotSpec g bt ts k := by
  unfold fcReceivedBlockWithinForgingSlot
  rw [decide_eq_true_iff, C07_slot_number_eq g bt recv hbt hgr hr, C07_slot_number_eq g bt ts hbt hgt ht,
    Int.natCast_inj]
  simp only [C07_slot_spec_iff g bt _ _ hbt hgr, C07_slot_spec_iff g bt _ _ hbt hgt]
  exact ⟨fun h => ⟨_, h.symm, rfl⟩, fun ⟨_, h1, h2⟩ => h1.symm.trans h2⟩

/-- **`receivedLastBlockWithinForgingSlot`: true for a tip that came from syncing (no receive time), otherwise
"same slot of the grid"** -/
theorem C07_slot_received_last_in_slot_iff (g bt recv ts : Nat) (fromSync : Bool) (hbt : 0 < bt)
    (hgr : g ≤ recv) (hr : recv < 4294967296) (hgt : g ≤ ts) (ht : ts < 4294967296) :
    fcReceivedLastBlockWithinForgingSlot fromSync recv ts g bt = true ↔
      (fromSync = true ∨ ∃ k, C07SlotSpec g bt recv k ∧ C07SlotSpec g bt ts k) := by
  have h := C07_slot_received_in_slot_iff g bt recv ts hbt hgr hr hgt ht
  unfold fcReceivedBlockWithinForgingSlot at h
  unfold fcReceivedLastBlockWithinForgingSlot
  cases fromSync with
  | true => simp
  | false => simpa using h

/-- **the hand transcription `C07recvFlags` of the two helpers (Props/C07_More.lean) is the regenerated code**,
for the calculator with stored fields `(g, bt)` -/
theorem C07_slot_recvFlags_generated (g bt : Nat) (tip cur : Hdr) (recvTip : Option Nat) (now : Nat) :
    C07recvFlags (C07slotOf (g, bt)) tip cur recvTip now =
      { receivedBlockWithinForgingSlot := fcReceivedBlockWithinForgingSlot now cur.timestamp g bt,
        receivedLastBlockWithinForgingSlot :=
          fcReceivedLastBlockWithinForgingSlot recvTip.isNone (recvTip.getD 0) tip.timestamp g bt } := by
  unfold C07recvFlags C07slotOf fcReceivedBlockWithinForgingSlot fcReceivedLastBlockWithinForgingSlot
  cases recvTip <;> simp

/-- **the untyped `IsTieBreak` (Gen/Fns.lean) on the record `process` builds from the calculator is the typed
one**: same source lines, the opaque `c.slot.GetSlotNumber` instantiated with the regenerated method -/
theorem C07_slot_tiebreak_timed_eq (g bt : Nat) (tip cur : Hdr) (f : Node.RecvFlags) :
    fcIsTieBreak (C07fc (C07slotOf (g, bt)) tip cur f) =
      fcIsTieBreakTimed (fcIsDuplicateBlock (C07fc (C07slotOf (g, bt)) tip cur f)) tip.timestamp cur.timestamp
        f.receivedLastBlockWithinForgingSlot f.receivedBlockWithinForgingSlot g bt := rfl

/-- LIP-0014 case 4 over the grid: same height / maxHeightPrevoted / parent (`C07Dup`), the incoming block
belongs to a later slot, the tip has a recorded receive time outside its slot, the incoming block was
received within its own slot -/
def C07TieBreakLIP (g bt : Nat) (tip cur : Hdr) (recvTip : Option Nat) (now : Nat) : Prop :=
  C07Dup tip cur ∧
  ∃ kt kc, C07SlotSpec g bt tip.timestamp kt ∧ C07SlotSpec g bt cur.timestamp kc ∧ kt < kc ∧
    (∃ r, recvTip = some r ∧ ¬ C07SlotSpec g bt r kt) ∧ C07SlotSpec g bt now kc

/-- **`IsTieBreak`, evaluated with the calculator `NewBlockSlot(g, bt)` returns and the receive times, is the
LIP-0014 tie-break condition over the slot grid that starts at the genesis timestamp** (all times are
`uint32` values from the genesis timestamp on, `bt > 0`) -/
theorem C07_slot_tiebreak_lip14 (g bt : Nat) (tip cur : Hdr) (recvTip : Option Nat) (now : Nat) (hbt : 0 < bt)
    (h1 : g ≤ tip.timestamp ∧ tip.timestamp < 4294967296) (h2 : g ≤ cur.timestamp ∧ cur.timestamp < 4294967296)
    (h3 : g ≤ now ∧ now < 4294967296) (h4 : ∀ r, recvTip = some r → g ≤ r ∧ r < 4294967296) :
    ∃ p, C07newSlotFields g bt = some p ∧
      (fcIsTieBreak (C07fc (C07slotOf p) tip cur (C07recvFlags (C07slotOf p) tip cur recvTip now)) = true ↔
        C07TieBreakLIP g bt tip cur recvTip now) := by
  refine ⟨(g, bt), (C07_slot_constructor_stores g bt).2.2, ?_⟩
  have e1 := C07_slot_number_eq g bt tip.timestamp hbt h1.1 h1.2
  have e2 := C07_slot_number_eq g bt cur.timestamp hbt h2.1 h2.2
  have e3 := C07_slot_number_eq g bt now hbt h3.1 h3.2
  rw [C07_raw_tieBreak]
  unfold C07TieCond C07TieBreakLIP
  -- both sides speak of the slot indices `(t - g) / bt` of the four times
  simp only [C07recvFlags, C07slotOf, e1, e2, e3, C07_slot_spec_iff g bt _ _ hbt h1.1,
    C07_slot_spec_iff g bt _ _ hbt h2.1, C07_slot_spec_iff g bt _ _ hbt h3.1]
  cases recvTip with
  | none => simp
  | some r =>
    obtain ⟨hr1, hr2⟩ := h4 r rfl
    simp only [C07_slot_number_eq g bt r hbt hr1 hr2, Option.some.injEq, exists_eq_left',
      C07_slot_spec_iff g bt r _ hbt hr1, Int.ofNat_lt, Int.natCast_inj, decide_eq_false_iff_not,
      decide_eq_true_eq, and_assoc]
    refine and_congr_right fun _ => ⟨fun ⟨a, b, c⟩ => ⟨_, _, rfl, rfl, a, fun h => b h.symm, c.symm⟩, ?_⟩
    rintro ⟨_, _, rfl, rfl, a, b, c⟩
    exact ⟨a, fun h => b h.symm, c.symm⟩

/-! ### outside the specification: what the code does -/

/-- **a time BEFORE the genesis timestamp**: `elapsed` is a `uint32` and wraps, so the slot number is the huge
non-negative `(t + 2^32 - g) / bt` — never a negative slot -/
theorem C07_slot_before_genesis_wraps (g bt t : Nat) (hbt : 0 < bt) (htg : t < g) (hg : g < 4294967296) :
    getSlotNumber t g bt = (((t + 4294967296 - g) / bt : Nat) : Int) ∧ 0 ≤ getSlotNumber t g bt := by
  have : getSlotNumber t g bt = (((t + 4294967296 - g) / bt : Nat) : Int) := by
    rw [slot_number_elapsed g bt t hbt, Nat.mod_eq_of_lt (by omega)]
  exact ⟨this, by rw [this]; exact Int.natCast_nonneg _⟩

/-- the second before genesis 1000, block time 10, is in slot 429496729 (not in slot -1), and slots are
therefore NOT monotone across the genesis timestamp -/
theorem C07_slot_before_genesis_counterexample :
    getSlotNumber 999 1000 10 = 429496729 ∧ getSlotNumber 1000 1000 10 = 0 ∧
    ¬ (getSlotNumber 999 1000 10 ≤ getSlotNumber 1000 1000 10) := by decide +kernel

/-- **block time 0**: `float64(elapsed) / 0` is +Inf or NaN and `int(…)` of it is implementation-dependent in Go;
on amd64 it is -2^63 for every time (so all times are "in the same slot"), and `GetSlotTime` is constantly
the genesis timestamp. The constructor accepts block time 0. -/
theorem C07_slot_zero_block_time (g t : Nat) (k : Int) (hg : g < 4294967296) :
    C07newSlotFields g 0 = some (g, 0) ∧ getSlotNumber t g 0 = -9223372036854775808 ∧ getSlotTime k g 0 = g := by
  refine ⟨rfl, ?_, ?_⟩
  · unfold getSlotNumber f64FloorDivToInt; simp
  · unfold getSlotTime
    have : k * Int.ofNat 0 = 0 := by simp
    simp only [this]
    have h0 : Gen.i64 0 = 0 := by decide
    rw [h0]
    simp
    omega

/-! ### non-vacuity -/

/-- genesis 1000003 (residue 3 mod 10), tip of slot 5 received in slot 6, competing block of slot 6 (timestamp
genesis + 60) received at genesis + 68 = 1000071: a tie break. A calculator with stored genesis 1000000 (grid
shifted down by the residue) puts that receive time in another slot than the header timestamp. -/
example : getSlotNumber 1000063 1000003 10 = 6 ∧ getSlotNumber 1000071 1000003 10 = 6 ∧
    getSlotNumber 1000062 1000003 10 = 5 ∧ getSlotNumber 1000073 1000003 10 = 7 ∧
    getSlotTime 6 1000003 10 = 1000063 ∧
    fcReceivedBlockWithinForgingSlot 1000071 1000063 1000003 10 = true ∧
    fcReceivedBlockWithinForgingSlot 1000071 1000063 1000000 10 = false ∧
    fcReceivedLastBlockWithinForgingSlot false 1000063 1000053 1000003 10 = false ∧
    fcReceivedLastBlockWithinForgingSlot true 0 1000053 1000003 10 = true := by decide +kernel

example : C07SlotSpec 1000003 10 1000071 6 := by decide

example : C07TieBreakLIP 1000003 10
    { height := 7, generatorAddress := [1], maxHeightGenerated := 0, maxHeightPrevoted := 2, id := [1], previousBlockID := [9], timestamp := 1000053 }
    { height := 7, generatorAddress := [2], maxHeightGenerated := 0, maxHeightPrevoted := 2, id := [2], previousBlockID := [9], timestamp := 1000063 }
    (some 1000063) 1000071 := by
  refine ⟨by unfold C07Dup; decide, 5, 6, by decide, by decide, by decide, ⟨1000063, rfl, by decide⟩, by decide⟩

-- the witness of `C07_slot_genesis_is_slot_zero` is the pair the constructor stores, not an aligned one
example : (C07_slot_genesis_is_slot_zero 1000003 10 (by decide) (by decide)).choose = (1000003, 10) := by
  have h := (C07_slot_genesis_is_slot_zero 1000003 10 (by decide) (by decide)).choose_spec.1
  have h2 := (C07_slot_constructor_stores 1000003 10).2.2
  exact Option.some.inj (h.symm.trans h2)
