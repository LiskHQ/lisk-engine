/-
C19 (more) — the sync handlers, the downloader and the two synchronisers for ALL inputs: every request, every peer
behaviour (any answer to any request: valid, invalid at any position, truncated, empty, failed, reordered, wrong fork),
every processor, every requester chain.

The handlers are characterised by `iff`s (the answer depends only on the SET of requested ids; the returned segment is
the contiguous part of the chain after the FIRST block with the requested id, capped at 103).  What the downloader puts
on the channel is always a linked extension of the start block, completion means the end block was reached, and it
terminates.  A round of either synchroniser ends in one of the ways listed by `Sync.FastEnd` / `Sync.BlockEnd`
(Lemmas/SyncMore); the outcome theorems read the chain, the temp table, the ban and the error off each case.  Every
intermediate chain state (one block deleted or applied per step) keeps the finalized prefix.  Against an honest peer on
any fork the block synchroniser ends on the peer's chain or leaves the original chain with one of four stated reasons.
Also here: the temp blocks are re-applied in ascending height whatever order the temp table returns them in; the order of
the blocks inside a response does not matter to the downloader; `Syncer.Sync` as a whole keeps the finalized prefix.
-/
import LiskVerif.Props.C19
import LiskVerif.Lemmas.SyncMore

open LiskVerif LiskVerif.Sync

set_option linter.unusedSectionVars false

/-! ## The handlers, exactly -/

section Handlers
variable {ι : Type} [DecidableEq ι]

/-- **Blocks from id, every request.**  The three possible outcomes of
`HandleRPCEndpointGetBlocksFromID`, each characterised by an `iff`, for every chain, every request
and every id:
* the requester is banned exactly when the body is missing / undecodable or the id is not 32 bytes;
* an error is written exactly when the (well-formed) id is not on the chain;
* otherwise the answer is the (at most 103) blocks that follow the FIRST block with that id. -/
theorem C19_blocks_from_id_exact (okLen : ι → Bool) (c : List (Blk ι)) (req : Option ι) :
    (handleBlocksFromID okLen c req = .ban ↔ req = none ∨ ∃ i, req = some i ∧ okLen i = false) ∧
    (handleBlocksFromID okLen c req = .err ↔ ∃ i, req = some i ∧ okLen i = true ∧ ∀ b ∈ c, b.id ≠ i) ∧
    (∀ l, handleBlocksFromID okLen c req = .blocks l ↔
      ∃ i h, req = some i ∧ okLen i = true ∧ heightOf c i = some h ∧
        l = (c.drop (h + 1)).take maxBlocksPerResponse) := by
  cases req with
  | none => simp [handleBlocksFromID]
  | some i =>
    rw [handleBlocksFromID_some]
    by_cases hok : okLen i = true
    · rw [if_pos hok]
      cases hh : heightOf c i with
      | none =>
        have hnone := (heightOf_eq_none_iff c i).mp hh
        refine ⟨by simp [hok], ?_, ?_⟩
        · simp only [true_iff]; exact ⟨i, rfl, hok, hnone⟩
        · intro l
          simp only [reduceCtorEq, false_iff]
          rintro ⟨j, h, hj, _, hjh, _⟩
          cases hj
          rw [hh] at hjh; cases hjh
      | some h =>
        refine ⟨by simp [hok], ?_, ?_⟩
        · simp only [reduceCtorEq, false_iff]
          rintro ⟨j, hj, _, hnone⟩
          cases hj
          rw [(heightOf_eq_none_iff c i).mpr hnone] at hh; cases hh
        · intro l
          simp only [BfiOut.blocks.injEq]
          constructor
          · intro hl; exact ⟨i, h, rfl, hok, hh, hl.symm⟩
          · rintro ⟨j, h', hj, _, hjh, hl⟩
            cases hj
            rw [hh] at hjh; cases hjh
            exact hl.symm
    · have hf : okLen i = false := by simpa using hok
      rw [if_neg hok]
      refine ⟨?_, ?_, ?_⟩
      · simp only [true_iff]; exact Or.inr ⟨i, rfl, hf⟩
      · simp only [reduceCtorEq, false_iff]
        rintro ⟨j, hj, hjo, _⟩; cases hj; rw [hf] at hjo; cases hjo
      · intro l
        simp only [reduceCtorEq, false_iff]
        rintro ⟨j, h, hj, hjo, _⟩; cases hj; rw [hf] at hjo; cases hjo

/-- **The returned segment.**  For EVERY chain `c` and every well-formed id `i` whose first
occurrence on `c` is at height `h`, the handler answers a list `l` with
* `l.length = min 103 (tip height - h)`: as many blocks as remain, never more than the cap, and the cap
  is reached whenever enough blocks remain;
* `c = (blocks up to h) ++ l ++ rest`: `l` is the contiguous part of `c` that starts right after the
  requested block, in chain order (so `l[k]` is the block of `c` at position `h+1+k`);
* `l` is empty exactly when the requested block is the tip;
* when heights are positions, `l[k].height = h+1+k`; on a linked chain `l` is linked to the requested
  block (consecutive heights, `prev` links) and strictly ascending — exactly what the downloader of
  the requester checks. -/
theorem C19_blocks_from_id_segment (okLen : ι → Bool) (c : List (Blk ι)) (i : ι) (h : Nat)
    (hok : okLen i = true) (hh : heightOf c i = some h) :
    ∃ l, handleBlocksFromID okLen c (some i) = .blocks l ∧
      l.length = min maxBlocksPerResponse (c.length - 1 - h) ∧
      c = c.take (h + 1) ++ l ++ c.drop (h + 1 + l.length) ∧
      (∀ k, k < l.length → l[k]? = c[h + 1 + k]?) ∧
      (l = [] ↔ h + 1 = c.length) ∧
      (HeightsOK c → ∀ k b, l[k]? = some b → b.height = h + 1 + k) ∧
      (ChainOK c → Linked i h l ∧ l.Pairwise (fun a b => a.height < b.height)) := by
  have hlt := heightOf_lt_length c i h hh
  have hres : handleBlocksFromID okLen c (some i) = .blocks ((c.drop (h + 1)).take maxBlocksPerResponse) := by
    rw [handleBlocksFromID_some, if_pos hok, hh]
  obtain ⟨_, h', hh', _, hlen, hget⟩ := C19_blocks_from_id okLen c i _ hres
  obtain rfl : h = h' := Option.some.inj (hh.symm.trans hh')
  refine ⟨_, hres, hlen, ?_, hget, ?_, fun hH k b hb => ?_, fun hC => ?_⟩
  · have := take_append_drop_take (c.drop (h + 1)) maxBlocksPerResponse
    rw [List.drop_drop] at this
    rw [List.append_assoc, this, List.take_append_drop]
  · rw [List.take_eq_nil_iff, List.drop_eq_nil_iff]
    exact ⟨fun h' => h'.elim (fun h0 => nomatch h0) (fun _ => by omega), fun _ => Or.inr (by omega)⟩
  · rw [List.getElem?_take] at hb
    split at hb
    · exact hH _ b (List.getElem?_drop ▸ hb)
    · cases hb
  · obtain ⟨⟨b, hb, rfl⟩, _⟩ := (heightOf_eq_some_iff c _ h).mp hh
    obtain rfl := (List.getElem_eq_iff hlt).mpr hb
    obtain ⟨hbh, hl⟩ := chainOK_split c (c.take h) c[h] (c.drop (h + 1)) hC (by simp)
    rw [List.length_take, Nat.min_eq_left (by omega)] at hbh
    have hl2 := linked_take _ _ _ maxBlocksPerResponse (hbh ▸ hl)
    exact ⟨hl2, linked_pairwise_lt _ h _ hl2⟩

/-- a chain of 250 blocks (ids = heights) -/
def C19chain250 : List (Blk Nat) := (List.range 250).map fun h => { id := h, prev := h - 1, height := h }

/-- non-vacuity: cap reached in the middle of the chain, remainder near the tip, nothing at the tip -/
example : (match handleBlocksFromID (fun _ => true) C19chain250 (some 100) with
    | .blocks l => (l.length, l.head?.map (·.height), l.getLast?.map (·.height)) | _ => (0, none, none))
    = (103, some 101, some 203) := by decide +kernel
example : (match handleBlocksFromID (fun _ => true) C19chain250 (some 200) with
    | .blocks l => (l.length, l.head?.map (·.height), l.getLast?.map (·.height)) | _ => (0, none, none))
    = (49, some 201, some 249) := by decide +kernel
example : handleBlocksFromID (fun _ => true) C19chain250 (some 249) = .blocks [] := by decide +kernel
example : handleBlocksFromID (fun _ => true) C19chain250 (some 250) = .err := by decide +kernel
example : handleBlocksFromID (fun i => i < 1000) C19chain250 (some 1000) = .ban := by decide +kernel

/-- **Highest common block, every request.**  The three possible outcomes of
`HandleRPCEndpointGetHighestCommonBlock` for EVERY list of ids (duplicates, unknown ids, any order):
* ban exactly when the list is empty or some id is not 32 bytes long;
* "none" exactly when the list is well-formed and no requested id is on the chain;
* the answer is `i` exactly when the list is well-formed, `i` was requested, `i` is on the chain, and
  no requested id is on the chain at a greater height (such an `i` is unique). -/
theorem C19_highest_common_exact (okLen : ι → Bool) (c : List (Blk ι)) (ids : List ι) :
    (handleHighestCommon okLen c (some ids) = .ban ↔ ids = [] ∨ ∃ j ∈ ids, okLen j = false) ∧
    (handleHighestCommon okLen c (some ids) = .none ↔
      ids ≠ [] ∧ (∀ j ∈ ids, okLen j = true) ∧ ∀ j ∈ ids, heightOf c j = none) ∧
    (∀ i, handleHighestCommon okLen c (some ids) = .id i ↔
      ids ≠ [] ∧ (∀ j ∈ ids, okLen j = true) ∧ i ∈ ids ∧
      ∃ h, heightOf c i = some h ∧ ∀ j ∈ ids, ∀ hj, heightOf c j = some hj → hj ≤ h) :=
  ⟨handleHighestCommon_eq_ban_iff okLen c ids, handleHighestCommon_eq_none_iff okLen c ids,
    fun i => handleHighestCommon_eq_id_iff okLen c ids i⟩

/-- **Only the set of requested ids matters.**  Two requests with the same ids — in any order, with
any repetitions — get the same answer.  (In the Go handler the headers are collected from goroutines
in an arbitrary order and sorted with an unstable sort; the model looks them up in request order.) -/
theorem C19_highest_common_order_irrelevant (okLen : ι → Bool) (c : List (Blk ι)) (ids ids' : List ι)
    (hsame : ∀ j, j ∈ ids ↔ j ∈ ids') :
    handleHighestCommon okLen c (some ids) = handleHighestCommon okLen c (some ids') := by
  have hnil : ids = [] ↔ ids' = [] := by simp only [List.eq_nil_iff_forall_not_mem, hsame]
  obtain ⟨hb, hn, hi⟩ := C19_highest_common_exact okLen c ids
  obtain ⟨hb', hn', hi'⟩ := C19_highest_common_exact okLen c ids'
  cases hres : handleHighestCommon okLen c (some ids) with
  | ban =>
    symm; rw [hb']
    rcases hb.mp hres with h | ⟨j, hj, hjo⟩
    · exact Or.inl (hnil.mp h)
    · exact Or.inr ⟨j, (hsame j).mp hj, hjo⟩
  | none =>
    symm; rw [hn']
    obtain ⟨h1, h2, h3⟩ := hn.mp hres
    exact ⟨fun h => h1 (hnil.mpr h), fun j hj => h2 j ((hsame j).mpr hj), fun j hj => h3 j ((hsame j).mpr hj)⟩
  | id i =>
    symm; rw [hi' i]
    obtain ⟨h1, h2, h3, h, h4, h5⟩ := (hi i).mp hres
    exact ⟨fun h => h1 (hnil.mpr h), fun j hj => h2 j ((hsame j).mpr hj), (hsame i).mp h3, h, h4,
      fun j hj => h5 j ((hsame j).mpr hj)⟩

/-- non-vacuity: duplicates, an unknown id, two orders -/
example : handleHighestCommon (fun _ => true) C19chain5 (some [1, 9, 3, 1, 3]) = .id 3 ∧
    handleHighestCommon (fun _ => true) C19chain5 (some [3, 3, 9, 1]) = .id 3 ∧
    handleHighestCommon (fun _ => true) C19chain5 (some [9, 7]) = .none ∧
    handleHighestCommon (fun i => i < 8) C19chain5 (some [1, 9]) = .ban := by decide

end Handlers

/-! ## The downloader against every peer -/

section Download
variable {ι : Type} [DecidableEq ι]

/-- **Downloader soundness and termination, for EVERY peer behaviour** (`seg` is any function from
the requested id to a response: valid, truncated, empty, failed, reordered, wrong fork, …).
With `d = download seg startId startH endId endH`:
1. the blocks put on the channel (`d.1`) are always linked to the start block: consecutive heights
   `startH+1, startH+2, …` and each `prev` is the id of the block before;
2. the channel is closed without an error item (`d.2 = true`) only if the last delivered block is the
   end block, and then no earlier block is the end block or reaches the end height;
3. if it is closed with an error item, no delivered block is the end block;
4. every delivered block was in a response of the peer;
5. termination: `endH - startH + 1` request rounds always suffice — more fuel never changes the
   result (in the Go code the loop is `for {}`; every round that does not end it gets closer to `endH`). -/
theorem C19_download_sound (seg : ι → Option (List (Blk ι))) (startId : ι) (startH : Nat) (endId : ι) (endH : Nat) :
    Linked startId startH (download seg startId startH endId endH).1 ∧
    ((download seg startId startH endId endH).2 = true →
      ∃ s e, (download seg startId startH endId endH).1 = s ++ [e] ∧ e.id = endId ∧
        ∀ b ∈ s, b.id ≠ endId ∧ b.height < endH) ∧
    ((download seg startId startH endId endH).2 = false →
      ∀ b ∈ (download seg startId startH endId endH).1, b.id ≠ endId ∧ b.height < endH) ∧
    (∀ b ∈ (download seg startId startH endId endH).1, ∃ i L, seg i = some L ∧ b ∈ L) ∧
    (∀ extra, dlLoop seg endId endH (endH - startH + 1 + extra) startId startH
      = download seg startId startH endId endH) := by
  obtain ⟨h1, h2, h3, h4⟩ := dlLoop_sound seg endId endH (endH - startH + 1) startId startH _ _ rfl
  refine ⟨h1, h2, h3, h4, ?_⟩
  intro extra
  exact dlLoop_fuel_irrelevant seg endId endH _ _ startId startH (by omega) (by omega)

end Download

/-- non-vacuity: a peer that serves two blocks per response, then one from a wrong fork -/
def C19lyingSeg : Nat → Option (List (Blk Nat))
  | 1 => some [C19b2, C19b3]
  | 3 => some [{ id := 40, prev := 7, height := 4 }]
  | _ => none
example : download C19lyingSeg 1 1 50 5 = ([C19b2, C19b3], false) := by decide
example : download (honest [C19g, C19b1, C19b2, C19b3] 0).segment 1 1 3 3 = ([C19b2, C19b3], true) := by decide

/-! ## Restore order -/

section Restore
variable {ι : Type} [DecidableEq ι]

/-- **Restore order.**  `restoreBlocks` reads the temp table (`GetTempBlocks` iterates it in REVERSE
key order) and sorts the blocks with `SortBlockByHeightAsc` before re-applying them.  Whatever order
`t` the table returns the saved blocks `temp` in (any permutation), the sorted list is `temp` in
ascending height, so the processor sees exactly the same sequence of blocks; and for ANY list the
sorted list is ascending and has the same blocks. -/
theorem C19_restore_order (applies : List (Blk ι) → Blk ι → Bool) (base temp t : List (Blk ι))
    (hasc : temp.Pairwise (fun a b => a.height < b.height)) (hperm : t.Perm temp) :
    sortAsc t = temp ∧ reapply applies base (sortAsc t) = reapply applies base temp ∧
    (∀ l : List (Blk ι), (sortAsc l).Pairwise (fun a b => a.height ≤ b.height) ∧ (sortAsc l).Perm l) := by
  have h := sortAsc_eq_of_perm t temp hperm hasc
  exact ⟨h, by rw [h], fun l => ⟨sortAsc_pairwise l, sortAsc_perm l⟩⟩

/-- the temp blocks of the model (`q.drop (ch+1)` of a linked chain) in any order the table may return
them: sorting gives back `q.drop (ch+1)`, the list `fastSync` re-applies -/
theorem C19_restore_order_chain (q : List (Blk ι)) (hq : ChainOK q) (ch : Nat) (t : List (Blk ι))
    (hperm : t.Perm (q.drop (ch + 1))) : sortAsc t = q.drop (ch + 1) := by
  apply sortAsc_eq_of_perm t _ hperm
  by_cases hlt : ch < q.length
  · have hsplit : q = q.take ch ++ q[ch] :: q.drop (ch + 1) := by simp
    exact linked_pairwise_lt _ _ _ (chainOK_split q _ _ _ hq hsplit).2
  · rw [List.drop_of_length_le (by omega)]; exact List.Pairwise.nil

end Restore

/-- non-vacuity: the table returns the blocks in descending key order -/
example : sortAsc [C19b3, C19b2, C19b1] = [C19b1, C19b2, C19b3] := by decide
example : ChainOK [C19g, C19b1, C19b2, C19b3] := by simp [ChainOK, Linked, C19g, C19b1, C19b2, C19b3]

/-! ## The fast synchroniser against every peer -/

section FastSync
variable {ι : Type} [DecidableEq ι]

/-- **Fast sync, every peer, every outcome.**  For EVERY peer behaviour (arbitrary answers to the
common-block request and to every blocks-from-id request: valid, invalid at any position, truncated,
empty, failed, wrong fork), every processor and every requester chain, one round of the fast
synchroniser ends in exactly one of three ways.
1. No error: the chain is `q` up to a block `cid` of `q` at a height `ch ≥ fin` (the common block the
   peer named) followed by the downloaded blocks `dl`; these are linked to `cid` (consecutive heights,
   `prev` links), end with the received block `target`, all passed `Validate()`, each was accepted by
   the processor on top of the ones before, and each came from a response of the peer; the temp table
   is empty and nobody is banned.
2. Any error other than a failed restoration: the chain is EXACTLY the original chain `q`, the temp
   table is empty, and the peer is banned exactly for: no common block, common block below the
   finalized height, an invalid downloaded block, a downloaded block the processor rejects.
3. Failed restoration (excluded by `C19_fast_sync_failure_restores` when the original chain is valid
   and nothing new was finalized): the chain still agrees with `q` up to the common block `ch ≥ fin`, and
   every original block is on the chain or still in the temp table (nothing is lost). -/
theorem C19_fast_sync_outcomes (applies : List (Blk ι) → Blk ι → Bool)
    (finAfter : List (Blk ι) → Nat) (n fin : Nat) (q : List (Blk ι)) (target : Blk ι) (peer : Peer ι) :
    ((fastSync applies finAfter n fin q target peer).err = none →
      (fastSync applies finAfter n fin q target peer).temp = [] ∧
      (fastSync applies finAfter n fin q target peer).banned = false ∧
      ∃ cid ch dl, heightOf q cid = some ch ∧ fin ≤ ch ∧
        (fastSync applies finAfter n fin q target peer).chain = q.take (ch + 1) ++ dl ∧
        Linked cid ch dl ∧ (∃ s e, dl = s ++ [e] ∧ e.id = target.id) ∧ (∀ b ∈ dl, b.ok = true) ∧
        Accepted applies (q.take (ch + 1)) dl ∧ (∀ b ∈ dl, ∃ i L, peer.segment i = some L ∧ b ∈ L)) ∧
    (∀ e, (fastSync applies finAfter n fin q target peer).err = some e → e ≠ .restoreFailed →
      (fastSync applies finAfter n fin q target peer).chain = q ∧
      (fastSync applies finAfter n fin q target peer).temp = [] ∧
      ((fastSync applies finAfter n fin q target peer).banned = true ↔
        e = .noCommon ∨ e = .belowFinalized ∨ e = .invalidBlock ∨ e = .applyFailed)) ∧
    ((fastSync applies finAfter n fin q target peer).err = some .restoreFailed →
      (fastSync applies finAfter n fin q target peer).banned = false ∧
      ∃ ch, fin ≤ ch ∧ ch < q.length ∧
        (fastSync applies finAfter n fin q target peer).chain.take (ch + 1) = q.take (ch + 1) ∧
        ∀ b ∈ q, b ∈ (fastSync applies finAfter n fin q target peer).chain ∨
          b ∈ (fastSync applies finAfter n fin q target peer).temp) := by
  have h := fastSync_end applies finAfter n fin q target peer
  generalize fastSync applies finAfter n fin q target peer = o at h ⊢
  cases h with
  | early e b he hb =>
    have hD : e ≠ .applyFailed := by rintro rfl; exact absurd he (by decide)
    refine ⟨nofun, fun e' h _ => ?_, fun h => ?_⟩ <;> cases h
    · exact ⟨rfl, rfl, by simp [hb, hD]⟩
    · exact absurd he (by decide)
  | refused ch hge hlt => omega
  | applied cid ch dl c' hch hge hm hdl hok happ =>
    obtain ⟨app, rest, h1, h2, h3, h4, _⟩ := applyAll_spec applies _ _ _ _ happ
    obtain rfl := h4 rfl
    obtain rfl : dl = app := by simpa using h1
    obtain ⟨s1, s2, _, s4, _⟩ := C19_download_sound peer.segment cid ch target.id target.height
    rw [hdl] at s1 s2 s4
    obtain ⟨s, e, hse, he, _⟩ := s2 rfl
    exact ⟨fun _ => ⟨rfl, rfl, cid, ch, dl, hch, hge, h2, s1, ⟨s, e, hse, he⟩, hok, h3, s4⟩, fun _ => nofun, nofun⟩
  | stuck ch app c' hlt hge hm hc' hadv =>
    have htk : (c'.take (max fin (finAfter c') + 1)).take (ch + 1) = q.take (ch + 1) := by
      rw [List.take_take, Nat.min_eq_left (Nat.succ_le_succ (Nat.le_of_lt hadv)), hc']
      exact take_take_append q app (ch + 1) ch (Nat.le_refl _) hlt
    refine ⟨nofun, fun e h hne => by cases h; exact absurd rfl hne, fun _ => ⟨rfl, ch, hge, hlt, htk, fun b hb => ?_⟩⟩
    rw [← List.take_append_drop (ch + 1) q, ← htk] at hb
    exact (List.mem_append.mp hb).imp_left List.mem_of_mem_take
  | restored ch c'' hlt hge hm hre =>
    have hq : c'' = q := by simpa using reapply_append applies _ _ _ _ hre
    exact ⟨nofun, fun e h _ => by cases h; exact ⟨hq, rfl, by simp⟩, nofun⟩
  | lost ch c'' rest hlt hge hm hre hne =>
    obtain ⟨app, hc''⟩ := reapply_prefix applies _ _ _ _ hre
    have hq : c'' ++ rest = q := by simpa using reapply_append applies _ _ _ _ hre
    refine ⟨nofun, fun e h hne => by cases h; exact absurd rfl hne, fun _ => ⟨rfl, ch, hge, hlt, ?_, fun b hb => ?_⟩⟩
    · show c''.take (ch + 1) = _
      rw [hc'']; exact take_take_append q app (ch + 1) ch (Nat.le_refl _) hlt
    · rw [← hq] at hb; exact List.mem_append.mp hb

end FastSync

/-! ## Every intermediate state of the fast synchroniser -/

section FastStates
variable {ι : Type} [DecidableEq ι]

/-- **Fast sync never touches finalized blocks — in every intermediate state.**
`fastSyncStates` lists the chain after every single block deletion / application the round performs
(delete down to the common block; apply the downloaded blocks; on failure delete the applied blocks
again and re-apply the temp blocks).  For EVERY peer behaviour and every processor:
* the list ends in the chain `fastSync` computes (so it is a refinement of the plan);
* consecutive states differ by exactly one block at the tip;
* every state still starts with the requester's blocks up to the finalized height. -/
theorem C19_fast_sync_states (applies : List (Blk ι) → Blk ι → Bool) (finAfter : List (Blk ι) → Nat)
    (n fin : Nat) (q : List (Blk ι)) (target : Blk ι) (peer : Peer ι) (hfin : fin < q.length) :
    (fastSyncStates applies finAfter n fin q target peer).getLastD q
      = (fastSync applies finAfter n fin q target peer).chain ∧
    OneBlockSteps q (fastSyncStates applies finAfter n fin q target peer) ∧
    ∀ s ∈ fastSyncStates applies finAfter n fin q target peer, s.take (fin + 1) = q.take (fin + 1) := by
  show Run (fun s => s.take (fin + 1) = q.take (fin + 1)) q _ _
  -- `fastSyncStates` repeats the decisions of `fastSync`, so both are walked together (not through `FastEnd`, which
  -- knows the plan only); each deletion / application phase is a `walk`, joined by `run_append`
  unfold fastSync fastSyncStates
  dsimp only
  cases peer.common (idsAt q (getLastHeights (q.length - 1) (2 * n))) with
  | none => exact run_nil _ q
  | some o =>
    cases o with
    | none => exact run_nil _ q
    | some cid =>
      dsimp only
      cases hh : heightOf q cid with
      | none => exact run_nil _ q
      | some ch =>
        have hlt := heightOf_lt_length q cid ch hh
        dsimp only
        refine run_gate _ q Out.chain rfl fun h1 => ?_
        have hfc : fin + 1 ≤ ch + 1 := Nat.succ_le_succ (Nat.le_of_not_lt h1)
        refine run_gate _ q Out.chain rfl fun h2 => ?_
        refine run_gate _ q Out.chain rfl fun h3 => ?_
        refine run_gate _ q Out.chain rfl fun h4 => ?_
        have hbase : (q.take (ch + 1)).length = ch + 1 := by rw [List.length_take]; omega
        cases happ : applyAll applies (q.take (ch + 1)) (download peer.segment cid ch target.id target.height).1 with
        | mk c' ok =>
          obtain ⟨app, hc', _⟩ := applyAll_prefix applies _ _ _ _ happ
          have htake : c'.take (ch + 1) = q.take (ch + 1) := by
            rw [hc']; exact take_take_append q app (ch + 1) ch (Nat.le_refl _) hlt
          have hpre : c'.take (fin + 1) = q.take (fin + 1) := by
            rw [hc']; exact take_take_append q app (ch + 1) fin hfc hfin
          have hlen : fin + 1 ≤ c'.length := by rw [hc', List.length_append, hbase]; omega
          have hrun1 := run_walk_to q c' (ch + 1) fin hfc hfin htake
          cases ok with
          | true => exact hrun1
          | false =>
            dsimp only
            rw [if_neg (by decide)]
            by_cases h5 : ch < max fin (finAfter c') ∧ ch + 1 < c'.length
            · rw [if_pos h5, if_pos h5]
              refine run_append _ _ _ _ _ _ hrun1 ?_
              have := run_walk c' (max fin (finAfter c') + 1) [] fin (Nat.succ_le_succ (Nat.le_max_left _ _)) hlen
              rwa [List.append_nil, hpre] at this
            · rw [if_neg h5, if_neg h5]
              cases hre : reapply applies (c'.take (ch + 1)) (q.drop (ch + 1)) with
              | mk c'' rest =>
                obtain ⟨app2, hc''⟩ := reapply_prefix applies _ _ _ _ hre
                have hrun2 := run_walk_to c' c'' (ch + 1) fin hfc hlen (by
                  rw [hc'', List.take_append_of_le_length (by rw [htake, hbase]; exact Nat.le_refl _), List.take_take,
                    Nat.min_self])
                rw [hpre] at hrun2
                cases rest <;> exact run_append _ _ _ _ _ _ hrun1 hrun2

end FastStates

/-! ## The block synchroniser against every peer -/

section BlockSync
variable {ι : Type} [DecidableEq ι]

/-- **Block sync, every peer, every outcome.**  For EVERY peer behaviour, processor and chain, one
round of the block synchroniser (after peer selection) ends in one of these ways.
1. No error: the chain is `q` up to the common block `cid` (height `ch ≥ fin`) followed by the downloaded
   blocks, which are linked to `cid`, end with the block the peer reported as its last block, all
   passed `Validate()`, were each accepted by the processor and came from the peer's responses; the
   temp table is empty; nobody is banned.
2. An error before anything is deleted (sync condition not met, failed request, invalid / no-priority
   last block, no or unknown common block): chain `q`, temp table empty.
3. The peer named a common block below the finalized height: `deleteBlock` stops at the finalized
   block; the chain is cut to `q.take (fin+1)`, the deleted blocks are in the temp table.
4. An error after the deletion (invalid block, rejected block, download error): the chain is the
   common prefix plus the blocks applied so far (linked, valid, accepted); the replaced original
   blocks `q.drop (ch+1)` are in the temp table.  Block sync does NOT re-apply them (unlike fast sync).
The peer is banned exactly for an invalid or no-priority last block and for an invalid downloaded
block.  In all cases `q.take k ++ temp = q` for the cut height `k`: no original block is lost. -/
theorem C19_block_sync_outcomes (applies : List (Blk ι) → Blk ι → Bool) (n fin myMhp : Nat)
    (q : List (Blk ι)) (best : Tip ι) (peer : Peer ι) :
    ((blockSync applies n fin myMhp q best peer).err = none →
      (blockSync applies n fin myMhp q best peer).temp = [] ∧
      (blockSync applies n fin myMhp q best peer).banned = false ∧
      ∃ last lastMhp cid ch dl, peer.last = some (last, lastMhp) ∧ last.ok = true ∧
        heightOf q cid = some ch ∧ fin ≤ ch ∧
        (blockSync applies n fin myMhp q best peer).chain = q.take (ch + 1) ++ dl ∧
        Linked cid ch dl ∧ (∃ s e, dl = s ++ [e] ∧ e.id = last.id) ∧ (∀ b ∈ dl, b.ok = true) ∧
        Accepted applies (q.take (ch + 1)) dl ∧ (∀ b ∈ dl, ∃ i L, peer.segment i = some L ∧ b ∈ L)) ∧
    (∀ e, (blockSync applies n fin myMhp q best peer).err = some e →
      ((blockSync applies n fin myMhp q best peer).banned = true ↔
        e = .invalidLast ∨ e = .noPriority ∨ e = .invalidBlock) ∧
      (((e = .notDifferent ∨ e = .requestFailed ∨ e = .invalidLast ∨ e = .noPriority ∨ e = .noCommon ∨
          e = .unknownCommon) ∧
          (blockSync applies n fin myMhp q best peer).chain = q ∧
          (blockSync applies n fin myMhp q best peer).temp = []) ∨
       (e = .deleteFailed ∧ (blockSync applies n fin myMhp q best peer).chain = q.take (fin + 1) ∧
          (blockSync applies n fin myMhp q best peer).temp = q.drop (fin + 1)) ∨
       ((e = .invalidBlock ∨ e = .applyFailed ∨ e = .download) ∧
          ∃ cid ch app, heightOf q cid = some ch ∧ fin ≤ ch ∧
            (blockSync applies n fin myMhp q best peer).chain = q.take (ch + 1) ++ app ∧
            (blockSync applies n fin myMhp q best peer).temp = q.drop (ch + 1) ∧
            Linked cid ch app ∧ (∀ b ∈ app, b.ok = true) ∧ Accepted applies (q.take (ch + 1)) app))) := by
  have h : BlockEnd applies fin q peer (blockSync applies n fin myMhp q best peer) :=
    blockSyncG_end applies n fin fin myMhp q best peer
  generalize blockSync applies n fin myMhp q best peer = o at h ⊢
  cases h with
  | early e b he hb =>
    have hD : e ≠ .invalidBlock := by rintro rfl; exact absurd he (by decide)
    refine ⟨nofun, fun e' h => ?_⟩
    cases h
    exact ⟨by simp [hb, hD], Or.inl ⟨by simpa using he, rfl, rfl⟩⟩
  | refused => exact ⟨nofun, fun e h => by cases h; exact ⟨by simp, Or.inr (Or.inl ⟨rfl, rfl, rfl⟩)⟩⟩
  | synced last lastMhp cid ch dl c' hlast hlok hch hm hdl hst =>
    obtain ⟨app, rest, h1, h2, h3, h4, h5, _⟩ := streamApply_spec applies _ _ _ _ hst
    obtain rfl := h5 rfl
    obtain rfl : dl = app := by simpa using h1
    obtain ⟨s1, s2, _, s4, _⟩ := C19_download_sound peer.segment cid ch last.id last.height
    rw [hdl] at s1 s2 s4
    obtain ⟨s, e, hse, he, _⟩ := s2 rfl
    exact ⟨fun _ => ⟨rfl, rfl, last, lastMhp, cid, ch, dl, hlast, hlok, hch, hm, h2, s1, ⟨s, e, hse, he⟩, h4, h3, s4⟩,
      fun _ => nofun⟩
  | partway last cid ch dl ok c' r e hch hm hdl hst he =>
    obtain ⟨app, rest, h1, h2, h3, h4, _⟩ := streamApply_spec applies _ _ _ _ hst
    have s1 := (C19_download_sound peer.segment cid ch last.id last.height).1
    rw [hdl, h1] at s1
    have he3 : e = .invalidBlock ∨ e = .applyFailed ∨ e = .download := by
      rcases he with rfl | ⟨_, _, rfl⟩
      · exact (streamApply_err applies _ _ _ _ hst).imp_right Or.inl
      · exact Or.inr (Or.inr rfl)
    refine ⟨nofun, fun e' h => ?_⟩
    cases h
    refine ⟨?_, Or.inr (Or.inr ⟨he3, cid, ch, app, hch, hm, h2, rfl, linked_prefix cid ch app rest s1, h4, h3⟩)⟩
    rcases he3 with rfl | rfl | rfl <;> simp

end BlockSync

section BlockStates
variable {ι : Type} [DecidableEq ι]

/-- **Block sync never touches finalized blocks — in every intermediate state.**  `blockSyncStates`
lists the chain after every single block deletion / application of the round.  For EVERY peer and
processor the list ends in the chain `blockSync` computes, consecutive states differ by one block at
the tip, and every state starts with the requester's blocks up to the finalized height — also when
the peer names a common block below the finalized height (the deletion then stops at the finalized
block). -/
theorem C19_block_sync_states (applies : List (Blk ι) → Blk ι → Bool) (n fin myMhp : Nat)
    (q : List (Blk ι)) (best : Tip ι) (peer : Peer ι) (hfin : fin < q.length) :
    (blockSyncStates applies n fin myMhp q best peer).getLastD q
      = (blockSync applies n fin myMhp q best peer).chain ∧
    OneBlockSteps q (blockSyncStates applies n fin myMhp q best peer) ∧
    ∀ s ∈ blockSyncStates applies n fin myMhp q best peer, s.take (fin + 1) = q.take (fin + 1) := by
  show Run (fun s => s.take (fin + 1) = q.take (fin + 1)) q _ _
  -- as for the fast synchroniser: the list and the plan branch alike and are walked together
  unfold blockSync blockSyncStates
  dsimp only
  refine run_gate _ q Out.chain rfl fun h1 => ?_
  cases peer.last with
  | none => exact run_nil _ q
  | some lp =>
    obtain ⟨last, lastMhp⟩ := lp
    dsimp only
    refine run_gate _ q Out.chain rfl fun h2 => ?_
    refine run_gate _ q Out.chain rfl fun h3 => ?_
    cases hcs : commonSearch n fin q peer 3 (getCommonBlockStartSearchHeight (q.length - 1) n) with
    | error e => exact run_nil _ q
    | ok ch =>
      dsimp only
      obtain ⟨cid, hch⟩ := commonSearch_ok_height q peer n fin _ _ ch hcs
      have hlt := heightOf_lt_length q cid ch hch
      by_cases h4 : ch < fin
      · rw [if_pos h4, if_pos h4]
        have := run_walk q (fin + 1) [] fin (Nat.le_refl _) hfin
        rwa [List.append_nil] at this
      rw [if_neg h4, if_neg h4]
      generalize hst : streamApply applies (q.take (ch + 1)) _ = res
      obtain ⟨c', r⟩ := res
      obtain ⟨app, hc'⟩ := streamApply_prefix applies _ _ _ _ hst
      have hrun := run_walk_to q c' (ch + 1) fin (Nat.succ_le_succ (Nat.le_of_not_lt h4)) hfin (by
        rw [hc']; exact take_take_append q app (ch + 1) ch (Nat.le_refl _) hlt)
      cases r with
      | none => rw [apply_ite Out.chain, ite_self]; exact hrun
      | some e => cases e <;> exact hrun

end BlockStates

/-! ## The block synchroniser against an honest peer on any fork -/

section BlockHonest
variable {ι : Type} [DecidableEq ι]

/-- **Block sync with an honest peer: the peer's chain or the original chain, nothing else.**
The requester is on `com ++ qOwn`, an honest responder on `com ++ pOwn` — ANY fork: no bound on the
lengths of the common part or of the two own parts (`pOwn` non-empty; block ids unique; no block of
`qOwn` on the responder's chain).  The responder's chain is linked, valid for the processor and its
blocks pass `Validate()`.  Then one round of the block synchroniser either ends with the requester on
EXACTLY the responder's chain (no error, nobody banned, temp table empty — however many responses
of 103 blocks the download takes), or leaves the requester on exactly its original chain with an
empty temp table, and the only possible reasons are four: the sync condition does not hold for the
reported tip (`notDifferent`) / for the responder's last block (`noPriority`), none of the (at most three) rounds of
sampled heights hit the common part (`noCommon`), or a request of the search offered no id (`requestFailed`).
In particular a common block found with an honest peer is never below the finalized height, and no partial state is left behind. -/
theorem C19_block_sync_honest (applies : List (Blk ι) → Blk ι → Bool) (n fin myMhp mhp : Nat)
    (com qOwn pOwn : List (Blk ι)) (best : Tip ι)
    (hf : Fork com qOwn pOwn) (hne : pOwn ≠ [])
    (hchain : ChainOK (com ++ pOwn)) (hvalid : ValidChain applies (com ++ pOwn))
    (hok : ∀ b ∈ com ++ pOwn, b.ok = true)
    (hov : fin + 10 * n < two32) (hlen : (com ++ qOwn).length ≤ two32) :
    blockSync applies n fin myMhp (com ++ qOwn) best (honest (com ++ pOwn) mhp)
      = ⟨com ++ pOwn, [], false, none⟩ ∨
    ((blockSync applies n fin myMhp (com ++ qOwn) best (honest (com ++ pOwn) mhp)).chain = com ++ qOwn ∧
     (blockSync applies n fin myMhp (com ++ qOwn) best (honest (com ++ pOwn) mhp)).temp = [] ∧
     ((blockSync applies n fin myMhp (com ++ qOwn) best (honest (com ++ pOwn) mhp)).err = some .notDifferent ∨
      (blockSync applies n fin myMhp (com ++ qOwn) best (honest (com ++ pOwn) mhp)).err = some .noPriority ∨
      (blockSync applies n fin myMhp (com ++ qOwn) best (honest (com ++ pOwn) mhp)).err = some .noCommon ∨
      (blockSync applies n fin myMhp (com ++ qOwn) best (honest (com ++ pOwn) mhp)).err = some .requestFailed)) := by
  obtain ⟨s', e, rfl⟩ : ∃ s' e, pOwn = s' ++ [e] := ⟨_, _, (List.dropLast_concat_getLast hne).symm⟩
  have hlast : (honest (com ++ (s' ++ [e])) mhp).last = some (e, mhp) := by
    simp [honest, handleLastBlock]
  have hstart := startSearch_lt_two32 n hlen
  have heok : (!e.ok) = false := by rw [hok e (by simp)]; rfl
  -- `BlockEnd.early` does not say WHICH guard ended the round; the honest peer rules out two of its six errors, so the
  -- two gates and the search are taken one by one
  by_cases h1 : (!isDifferentChain myMhp best.mhp ((com ++ qOwn).length - 1) best.height) = true
  · right
    unfold blockSync
    dsimp only
    rw [if_pos h1]
    exact ⟨rfl, rfl, Or.inl rfl⟩
  by_cases h3 : (!isDifferentChain myMhp mhp ((com ++ qOwn).length - 1) e.height) = true
  · right
    unfold blockSync
    dsimp only
    rw [if_neg h1, hlast]
    dsimp only
    rw [heok, if_neg (by decide), if_pos h3]
    exact ⟨rfl, rfl, Or.inr (Or.inl rfl)⟩
  cases hcs : commonSearch n fin (com ++ qOwn) (honest (com ++ (s' ++ [e])) mhp) 3
      (getCommonBlockStartSearchHeight ((com ++ qOwn).length - 1) n) with
  | error e' =>
    right
    unfold blockSync
    dsimp only
    rw [if_neg h1, hlast]
    dsimp only
    rw [heok, if_neg (by decide), if_neg h3, hcs]
    rcases commonSearch_honest_err _ _ mhp n fin _ _ e' hcs with rfl | rfl
    · exact ⟨rfl, rfl, Or.inr (Or.inr (Or.inl rfl))⟩
    · exact ⟨rfl, rfl, Or.inr (Or.inr (Or.inr rfl))⟩
  | ok ch =>
    obtain ⟨hlt, hge⟩ := commonSearch_honest_ok com qOwn (s' ++ [e]) hf mhp n fin hov 3 _ hstart ch hcs
    exact Or.inl (blockSync_honest_of_search applies n fin myMhp mhp com qOwn s' e [] best _ hlast rfl hf hchain
      hvalid hok (by simpa using h1) (by simpa using h3) ch hcs hlt hge)

/-- **Convergence of block sync.**  In the situation of `C19_block_sync_honest`, if the sync condition
holds for the tip reported during peer selection and for the responder's last block, and one of the
heights sampled in the FIRST round of the common-block search lies in the common part (for instance
when the fork is above the largest multiple of `n` strictly below the tip height, or not below the finalized block while the
search starts at or below it), the requester ends on exactly the responder's chain. -/
theorem C19_block_sync_converges (applies : List (Blk ι) → Blk ι → Bool) (n fin myMhp mhp : Nat)
    (com qOwn pOwn : List (Blk ι)) (best : Tip ι)
    (hf : Fork com qOwn pOwn) (hne : pOwn ≠ [])
    (hchain : ChainOK (com ++ pOwn)) (hvalid : ValidChain applies (com ++ pOwn))
    (hok : ∀ b ∈ com ++ pOwn, b.ok = true)
    (hov : fin + 10 * n < two32) (hlen : (com ++ qOwn).length ≤ two32)
    (hd1 : isDifferentChain myMhp best.mhp ((com ++ qOwn).length - 1) best.height = true)
    (hd2 : isDifferentChain myMhp mhp ((com ++ qOwn).length - 1) ((com ++ pOwn).length - 1) = true)
    (hit : (∃ h ∈ getHeightWithGap (getCommonBlockStartSearchHeight ((com ++ qOwn).length - 1) n) fin n 10,
        h < com.length) ∨
      (getCommonBlockStartSearchHeight ((com ++ qOwn).length - 1) n < com.length ∧ fin < com.length)) :
    blockSync applies n fin myMhp (com ++ qOwn) best (honest (com ++ pOwn) mhp)
      = ⟨com ++ pOwn, [], false, none⟩ := by
  have hstart := startSearch_lt_two32 n hlen
  have hit' : ∃ h ∈ getHeightWithGap (getCommonBlockStartSearchHeight ((com ++ qOwn).length - 1) n) fin n 10,
      h < com.length := by
    rcases hit with h | ⟨h1, h2⟩
    · exact h
    · rcases getHeightWithGap_start_or_minimum (getCommonBlockStartSearchHeight ((com ++ qOwn).length - 1) n) fin n 10
        (by decide) hstart with h | ⟨_, h⟩
      · exact ⟨_, h, h1⟩
      · exact ⟨fin, by rw [h]; exact List.mem_singleton.mpr rfl, h2⟩
  obtain ⟨s', e, rfl⟩ : ∃ s' e, pOwn = s' ++ [e] := ⟨_, _, (List.dropLast_concat_getLast hne).symm⟩
  obtain ⟨ch, hcs⟩ := commonSearch_honest_hit com qOwn (s' ++ [e]) mhp n fin 2 _ hit'
  have heh : e.height = (com ++ (s' ++ [e])).length - 1 := by
    rw [(chainOK_split _ (com ++ s') e [] hchain (by simp)).1]; simp
  obtain ⟨hlt, hge⟩ := commonSearch_honest_ok com qOwn (s' ++ [e]) hf mhp n fin hov 3 _ hstart ch hcs
  exact blockSync_honest_of_search applies n fin myMhp mhp com qOwn s' e [] best _
    (by simp [honest, handleLastBlock]) rfl hf hchain hvalid hok hd1 (heh ▸ hd2) ch hcs hlt hge

end BlockHonest

/-! ## The order of the blocks inside a response does not matter -/

section ResponseOrder
variable {ι : Type} [DecidableEq ι]

/-- a round of the request loop in terms of the sorted response -/
private theorem dlLoop_sorted (seg : ι → Option (List (Blk ι))) (endId : ι) (endH f : Nat) (lid : ι) (lh : Nat) :
    dlLoop seg endId endH (f + 1) lid lh =
      match (seg lid).map sortAsc with
      | none => ([], false)
      | some [] => ([], false)
      | some (b :: bs) =>
        match scanSeg endId endH (b :: bs) lid lh with
        | (em, .fin) => (em, true)
        | (em, .bad) => (em, false)
        | (em, .cont lid' lh') =>
          (em ++ (dlLoop seg endId endH f lid' lh').1, (dlLoop seg endId endH f lid' lh').2) := by
  cases h1 : seg lid with
  | none => rw [dlLoop, h1]; rfl
  | some L =>
    cases L with
    | nil => rw [dlLoop, h1]; rfl
    | cons x xs =>
      rw [dlLoop_step seg endId endH f lid lh _ h1 (List.cons_ne_nil x xs), Option.map_some]
      cases hs : sortAsc (x :: xs) with
      | nil => exact absurd (List.nil_perm.mp (hs ▸ sortAsc_perm (x :: xs))) (List.cons_ne_nil x xs)
      | cons b bs => rfl

private theorem dlLoop_congr (seg seg' : ι → Option (List (Blk ι)))
    (hseg : ∀ i, (seg i).map sortAsc = (seg' i).map sortAsc) (endId : ι) (endH fuel : Nat) (lid : ι) (lh : Nat) :
    dlLoop seg endId endH fuel lid lh = dlLoop seg' endId endH fuel lid lh := by
  induction fuel generalizing lid lh with
  | zero => rfl
  | succ f ih => simp only [dlLoop_sorted, hseg lid, ih]

/-- **Response order is irrelevant.**  Two peers whose responses contain the same blocks, listed in
any order (blocks of one response have pairwise different heights), drive the downloader to the same
result: the sort by height in `Downloader.Start` (and `GetBlocksBetweenHeight`'s own sort on the
responder side, whose goroutines finish in any order) makes the list order immaterial. -/
theorem C19_download_response_order_irrelevant (seg seg' : ι → Option (List (Blk ι)))
    (hsame : ∀ i, match seg i, seg' i with
      | some L, some L' => L.Perm L' ∧ L.Pairwise (fun a b => a.height ≠ b.height)
      | none, none => True
      | _, _ => False)
    (startId : ι) (startH : Nat) (endId : ι) (endH : Nat) :
    download seg startId startH endId endH = download seg' startId startH endId endH := by
  unfold download
  apply dlLoop_congr
  intro i
  have h := hsame i
  cases h1 : seg i with
  | none => cases h2 : seg' i with
    | none => rfl
    | some L' => rw [h1, h2] at h; exact absurd h (by simp)
  | some L => cases h2 : seg' i with
    | none => rw [h1, h2] at h; exact absurd h (by simp)
    | some L' =>
      rw [h1, h2] at h
      obtain ⟨hp, hd⟩ := h
      simp only [Option.map_some, Option.some.injEq]
      -- both sorted lists are ascending permutations of `L`, and heights identify the blocks of `L`
      have hL' := (sortAsc_perm L').trans hp.symm
      exact ascending_perm_eq _ _ (sortAsc_pairwise L) (sortAsc_pairwise L') ((sortAsc_perm L).trans hL'.symm)
        fun a ha b hb => inj_of_nodup_map (·.height) (List.pairwise_map.mpr hd) (hL'.mem_iff.mp ha) (hL'.mem_iff.mp hb)

end ResponseOrder

/-! ## Concrete runs (non-vacuity) -/

/-- a responder that is honest about its last block and the common block but truncates the
download: it serves the blocks up to `b2`, then its requests fail -/
def C19truncPeer : Peer Nat :=
  { (honest [C19g, C19b1, C19b2, C19b3] 1) with
    segment := fun i => if i = 0 then some [C19b1, C19b2] else if i = 1 then some [C19b2] else none }

/-- block sync with an honest responder: the requester ends on the responder's chain -/
example : C19outcome (blockSync C19applies 2 0 0 [C19g, C19b1, C19q2] ⟨0, 3, 1, 3⟩
      (honest [C19g, C19b1, C19b2, C19b3] 1))
    = ([C19g, C19b1, C19b2, C19b3], [], false, none) := by decide

/-- block sync with the truncating responder: case 4 of `C19_block_sync_outcomes`.  The sampled common
block is the genesis block (the search starts at the largest multiple of the round length strictly below the tip height 2), so `b1` and
`q2` are deleted; the requester is left on the common block plus the two downloaded blocks — neither
its original chain nor the responder's — and the deleted blocks are in the temp table. -/
example : C19outcome (blockSync C19applies 2 0 0 [C19g, C19b1, C19q2] ⟨0, 3, 1, 3⟩ C19truncPeer)
    = ([C19g, C19b1, C19b2], [C19b1, C19q2], false, some .download) := by decide

/-- fast sync with the truncating responder: nothing is deleted, the chain is the original one -/
example : C19outcome (fastSync C19applies (fun _ => 0) 2 0 [C19g, C19b1, C19q2] C19b3 C19truncPeer)
    = ([C19g, C19b1, C19q2], [], false, some .download) := by decide

/-- the intermediate states of a successful and of a restored fast sync round -/
example : fastSyncStates C19applies (fun _ => 0) 2 0 [C19g, C19b1, C19q2] C19b3
      (honest [C19g, C19b1, C19b2, C19b3] 1)
    = [[C19g, C19b1], [C19g, C19b1, C19b2], [C19g, C19b1, C19b2, C19b3]] := by decide
example : fastSyncStates (fun c x => C19applies c x && x.id != 3) (fun _ => 0) 2 0
      [C19g, C19b1, C19q2] C19b3 (honest [C19g, C19b1, C19b2, C19b3] 1)
    = [[C19g, C19b1], [C19g, C19b1, C19b2], [C19g, C19b1], [C19g, C19b1, C19q2]] := by decide
example : blockSyncStates C19applies 2 0 0 [C19g, C19b1, C19q2] ⟨0, 3, 1, 3⟩ C19truncPeer
    = [[C19g, C19b1], [C19g], [C19g, C19b1], [C19g, C19b1, C19b2]] := by decide

/-- the hypotheses of `C19_block_sync_converges` are satisfiable: the fork `g b1 | q2` / `g b1 | b2 b3` -/
example : Fork [C19g, C19b1] [C19q2] [C19b2, C19b3] := ⟨by decide, by decide, by decide⟩
example : ∃ h ∈ getHeightWithGap (getCommonBlockStartSearchHeight 2 2) 0 2 10, h < 2 := ⟨0, by decide, by decide⟩

/-! ## `Syncer.Sync` as a whole -/

/-- whichever synchroniser `Syncer.Sync` chooses (or none), against every peer, the requester's
blocks up to the finalized height stay in place -/
theorem C19_sync_top_keeps_finalized {ι : Type} [DecidableEq ι] (applies : List (Blk ι) → Blk ι → Bool)
    (finAfter : List (Blk ι) → Nat) (n fin myMhp : Nat) (q : List (Blk ι)) (target : Blk ι)
    (targetMhp : Nat) (genIn stale : Bool) (peer : Peer ι) (hfin : fin < q.length) :
    (syncTop applies finAfter n fin myMhp q target targetMhp genIn stale peer).chain.take (fin + 1)
      = q.take (fin + 1) := by
  unfold syncTop
  split
  · rfl
  · split
    · exact (C19_sync_keeps_finalized applies finAfter n fin myMhp q target ⟨0, 0, 0, target.id⟩ peer hfin).1
    · exact (C19_sync_keeps_finalized applies finAfter n fin myMhp q target
        ⟨0, target.height, targetMhp, target.id⟩ peer hfin).2
    · rfl
