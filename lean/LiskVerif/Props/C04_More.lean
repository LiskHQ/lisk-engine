/-
C04 over whole histories (setting `Ref`, `RunOK`, `BaseOK`: Lemmas/NodeRef.lean, NodeLoad.lean, NodeTrans.lean). Everything is
read off the effect trace `trace cd cfg slot s ops` (Lemmas/NodeMore.lean), which lists, in order, every successful
`processValidated` of the history (also those inside `Executer.process`), every `deleteBlock` that removed the tip and every
`ClearTempBlocks`:

* the stored finalized height after ANY history (valid, invalid, competing blocks, tie-breaks, deletions, restarts, failed
  operations) is the maximum of its start value and the `maxHeightPrecommited` of every block whose `processValidated`
  succeeded; it changes in no other step and dominates the `maxHeightPrecommited` of every block of the chain;
* the published log is a function of the trace: exactly one finalize event per raise, with (original, next, trigger) =
  (marker before the step, the block's `maxHeightPrecommited`, the block applied in that step);
* the finalized BLOCKS (not only the headers served) stay in the chain, loadable from the database, their id served, after
  every continuation; the height index on disk is frozen up to the finalized height;
* `Executer.process` writes only through `processValidated` / `deleteBlock`; `deleteTillCommonBlock` of both synchronisers
  changes neither the marker nor a finalized block, whatever its outcome.
-/
import LiskVerif.Props.C04

open LiskVerif LiskVerif.Node
open LiskVerif.DiffDB (Store KV CV Cache Diff slookup sset sdel)

/-! ### `process` -/

/-- **`Executer.process` changes the node only through `processValidated` and `deleteBlock`**: its
effect is that of at most three such calls (valid block: one `processValidated`; tie-break:
`deleteBlock(tip, false)`, `processValidated(new)` and, if that failed, `processValidated(tip)`);
every other verdict (identical, double forging, different chain — the synchroniser is a sequence of
the same calls —, discard) leaves the state alone. -/
theorem C04_process_is_run (cd : Codecs) (cfg : Cfg) (slot : Slot) (s : St) (i : Incoming) :
    (process cd cfg slot s i).1 = run cd cfg slot s (processOps cd cfg slot s i) ∧
    (∀ op ∈ processOps cd cfg slot s i, (∃ b v x, op = Op.apply b v x false) ∨ op = Op.deleteTip false) ∧
    (processOps cd cfg slot s i).length ≤ 3 := by
  refine ⟨(process_run cd cfg slot [] s [] i).1, ?_, ?_⟩
  · intro op hop
    rcases processOps_cases cd cfg slot s i with h | ⟨_, h | ⟨_, _, _, h | ⟨_, h | h⟩⟩⟩ <;> rw [h] at hop <;>
      simp only [List.mem_cons, List.not_mem_nil, or_false] at hop
    · exact Or.inl ⟨_, _, _, hop⟩
    · exact Or.inr hop
    · rcases hop with h | h
      · exact Or.inr h
      · exact Or.inl ⟨_, _, _, h⟩
    · rcases hop with h | h | h
      · exact Or.inr h
      · exact Or.inl ⟨_, _, _, h⟩
      · exact Or.inl ⟨_, _, _, h⟩
  · rcases processOps_cases cd cfg slot s i with h | ⟨_, h | ⟨_, _, _, h | ⟨_, h | h⟩⟩⟩ <;> rw [h] <;> simp

/-- … hence every history is a history of primitive operations (same final state, same ghost
chain, same hypotheses). -/
theorem C04_history_is_primitive (cd : Codecs) (cfg : Cfg) (slot : Slot) (base : Store) (s : St)
    (c : Chain) (ops : List Op) (hok : RunOK cd cfg slot base s c ops) :
    run cd cfg slot s ops = run cd cfg slot s (flat cd cfg slot s ops) ∧
    runC cd cfg slot s c ops = runC cd cfg slot s c (flat cd cfg slot s ops) ∧
    RunOK cd cfg slot base s c (flat cd cfg slot s ops) ∧
    ∀ op ∈ flat cd cfg slot s ops, op.prim :=
  have h := flat_run cd cfg slot base ops s c
  ⟨h.1, h.2.1, h.2.2 hok, flat_prim cd cfg slot ops s⟩

/-- **What the effect trace is** (so that the theorems below can be read without the definition):
the trace of a history is the concatenation of the traces of its operations, each taken in the state
it is executed in; `processValidated` contributes the block iff it succeeded; `deleteBlock`
contributes the cached tip iff it removed it (`published = false`: the error after the write, no
event); a restart contributes nothing; `Executer.process` contributes what its `processValidated` /
`deleteBlock` calls contribute. -/
theorem C04_trace_unfold (cd : Codecs) (cfg : Cfg) (slot : Slot) (s : St) :
    (∀ op r, trace cd cfg slot s (op :: r) =
      trace cd cfg slot s [op] ++ trace cd cfg slot (step cd cfg slot s op) r) ∧
    trace cd cfg slot s [] = [] ∧
    (∀ b v x rt, trace cd cfg slot s [Op.apply b v x rt] =
      if (apply cd cfg s b v x rt).2 = .ok then [Eff.applied b x rt] else []) ∧
    (∀ st, trace cd cfg slot s [Op.deleteTip st] =
      match s.cache with
      | [] => []
      | tip :: _ =>
        if (deleteTip cd cfg s st).2 = .ok then [Eff.deleted tip st true]
        else if (deleteTip cd cfg s st).2 = .errWritten then [Eff.deleted tip st false] else []) ∧
    trace cd cfg slot s [Op.restart] = [] ∧
    trace cd cfg slot s [Op.clearTemp] = [Eff.cleared] ∧
    (∀ i, trace cd cfg slot s [Op.process i] = trace cd cfg slot s (processOps cd cfg slot s i)) := by
  refine ⟨fun op r => trace_cons cd cfg slot s op r, rfl, ?_, ?_, rfl, rfl,
    fun i => trace_process cd cfg slot s i⟩
  · intro b v x rt
    simp only [trace, flat, primOps, List.append_nil, tracePrim, effOf]
  · intro st
    simp only [trace, flat, primOps, List.append_nil, tracePrim, effOf]
    cases s.cache <;> rfl

/-! ### the finalized height of a history -/

/-- **The stored finalized height is the maximum, over the history, of the precommitted heights**:
after any history `a` (and any continuation `b` does not matter: `a` is an arbitrary prefix of an
arbitrary history) the marker `GetFinalizedHeight` reads from the database is
`max (start value) (maxHeightPrecommited of every block whose processValidated succeeded in a)` —
whatever else happened (invalid blocks, failed operations, deletions, tie-breaks, restarts). -/
theorem C04_fin_eq_max_history (cd : Codecs) (cfg : Cfg) (slot : Slot) (base : Store) (baseH : Nat)
    (hbase : BaseOK cd base baseH) (s : St) (c : Chain) (a b : List Op)
    (hR : Ref cd base baseH s c) (hok : RunOK cd cfg slot base s c (a ++ b)) :
    ∃ f, finOf s.db = some f ∧
      finOf (run cd cfg slot s a).db =
        some (((appliedOf (trace cd cfg slot s a)).map (·.2.mhpc)).foldl max f) ∧
      finOf (run cd cfg slot s (a ++ b)).db =
        some (((appliedOf (trace cd cfg slot s (a ++ b))).map (·.2.mhpc)).foldl max f) := by
  obtain ⟨f, hf, _, _⟩ := hR.db.finOk
  obtain ⟨ha, _⟩ := (runOK_append cd cfg slot base a b s c).mp hok
  refine ⟨f, hf, ?_, ?_⟩
  · rw [← finAfter_eq_foldl]; exact (hist_run hbase a s c f hR hf ha).fin
  · rw [← finAfter_eq_foldl]; exact (hist_run hbase (a ++ b) s c f hR hf hok).fin

/-- The marker is durable and changes in no other step: a stretch of history in which no
`processValidated` succeeds (failed blocks, deletions, restarts, `ClearTempBlocks`, fork-choice
discards) leaves the stored finalized height as it is. -/
theorem C04_fin_changes_only_by_apply (cd : Codecs) (cfg : Cfg) (slot : Slot) (base : Store)
    (baseH : Nat) (hbase : BaseOK cd base baseH) (s : St) (c : Chain) (a b : List Op)
    (hR : Ref cd base baseH s c) (hok : RunOK cd cfg slot base s c (a ++ b))
    (hno : appliedOf (trace cd cfg slot (run cd cfg slot s a) b) = []) :
    finOf (run cd cfg slot s (a ++ b)).db = finOf (run cd cfg slot s a).db := by
  obtain ⟨hRa, hb, _⟩ := run_split hbase a b s c hR hok
  obtain ⟨f, hf, _, _⟩ := hRa.db.finOk
  have h := (hist_run hbase b _ _ f hRa hf hb).fin
  rw [finAfter_eq_foldl, hno] at h
  rw [run_append, h, hf]
  rfl

/-- The marker lies between the base height and the tip, and the cached tip is at or above it. -/
theorem C04_fin_bounds (cd : Codecs) (cfg : Cfg) (slot : Slot) (base : Store) (baseH : Nat)
    (hbase : BaseOK cd base baseH) (s : St) (c : Chain) (ops : List Op)
    (hR : Ref cd base baseH s c) (hok : RunOK cd cfg slot base s c ops) :
    ∃ f, finOf (run cd cfg slot s ops).db = some f ∧ baseH ≤ f ∧
      f ≤ tipH baseH (runC cd cfg slot s c ops) ∧
      ∀ t, (run cd cfg slot s ops).cache.head? = some t → f ≤ t.hdr.height :=
  (trans_run hbase ops s c hR hok).ref.fin_bounds

/-- **The marker is the chain's precommitted height or more**: if the finalized height is at least
the `maxHeightPrecommited` of every block of the chain at the start (e.g. the chain is empty: the
state right after the genesis block), this stays so after every history — the node never holds a
block whose precommitted height it has not stored as finalized. -/
theorem C04_fin_ge_chain_mhpc (cd : Codecs) (cfg : Cfg) (slot : Slot) (base : Store) (baseH : Nat)
    (hbase : BaseOK cd base baseH) (s : St) (c : Chain) (ops : List Op)
    (hR : Ref cd base baseH s c) (hok : RunOK cd cfg slot base s c ops) (f : Nat)
    (hf : finOf s.db = some f) (h0 : ∀ bx ∈ c, bx.2.mhpc ≤ f) :
    ∃ f', finOf (run cd cfg slot s ops).db = some f' ∧
      ∀ bx ∈ runC cd cfg slot s c ops, bx.2.mhpc ≤ f' := by
  have h := hist_run hbase ops s c f hR hf hok
  refine ⟨_, h.fin, ?_⟩
  rw [h.chain]
  exact chainOf_mhpc_le _ c f h0

/-! ### the events of a history -/

/-- **The published events are a function of the effect trace**: after any history the event log
is the old log followed by, for every successful `processValidated` in order, the finalize event (iff
the block raised the marker) and the new-block event, and for every `deleteBlock` that returned
without error the delete event — nothing else is ever published. Second conjunct: the ghost chain after the
history is read off the same trace (`chainOf`). -/
theorem C04_event_log_exact (cd : Codecs) (cfg : Cfg) (slot : Slot) (base : Store) (baseH : Nat)
    (hbase : BaseOK cd base baseH) (s : St) (c : Chain) (ops : List Op)
    (hR : Ref cd base baseH s c) (hok : RunOK cd cfg slot base s c ops) (f : Nat)
    (hf : finOf s.db = some f) :
    (run cd cfg slot s ops).log = (evsOf f (trace cd cfg slot s ops)).reverse ++ s.log ∧
    runC cd cfg slot s c ops = chainOf c (trace cd cfg slot s ops) := by
  have h := hist_run hbase ops s c f hR hf hok
  exact ⟨h.log, h.chain⟩

/-- **Exactly one finalize event per raise, with the right content**: the finalize events
published during a history are, in order, `finEvsOf f (applied blocks)`: walking through the blocks
whose `processValidated` succeeded with the running maximum `m` (start: the stored marker), a block
with `maxHeightPrecommited > m` contributes the one event `(Original = m, Next =
maxHeightPrecommited, Trigger = the block)` and `m` becomes `Next`; a block that does not raise the
marker contributes none. -/
theorem C04_finalize_events_exact (cd : Codecs) (cfg : Cfg) (slot : Slot) (base : Store) (baseH : Nat)
    (hbase : BaseOK cd base baseH) (s : St) (c : Chain) (ops : List Op)
    (hR : Ref cd base baseH s c) (hok : RunOK cd cfg slot base s c ops) (f : Nat)
    (hf : finOf s.db = some f) :
    ∃ evs : List Ev, (run cd cfg slot s ops).log = evs.reverse ++ s.log ∧
      evs.filter Ev.isFinalize = finEvsOf f (appliedOf (trace cd cfg slot s ops)) :=
  ⟨_, (hist_run hbase ops s c f hR hf hok).log, evsOf_finalize _ f⟩

/-- **A finalize event iff a raise**: `(o, n, t)` is published during a history iff the history
contains a successful `processValidated` of a block with id `t` and `maxHeightPrecommited = n`
before which the stored marker was `o < n` (`o` is the marker after the part `tr1` of the history
that precedes that step). -/
theorem C04_finalize_event_iff (cd : Codecs) (cfg : Cfg) (slot : Slot) (base : Store) (baseH : Nat)
    (hbase : BaseOK cd base baseH) (s : St) (c : Chain) (ops : List Op)
    (hR : Ref cd base baseH s c) (hok : RunOK cd cfg slot base s c ops) (f : Nat)
    (hf : finOf s.db = some f) :
    ∃ evs : List Ev, (run cd cfg slot s ops).log = evs.reverse ++ s.log ∧
      ∀ o n t, Ev.finalize o n t ∈ evs ↔
        ∃ tr1 b x rt tr2, trace cd cfg slot s ops = tr1 ++ Eff.applied b x rt :: tr2 ∧
          o = finAfter f tr1 ∧ n = x.mhpc ∧ o < n ∧ t = b.hdr.id :=
  ⟨_, (hist_run hbase ops s c f hR hf hok).log, fun o n t => evsOf_finalize_mem _ f o n t⟩

/-! ### finalized blocks -/

/-- **Finalized blocks are never removed or replaced — the blocks, not only the headers served.**
Let `bx = (block, execution result)` be in the chain after a history `a`, at or below the finalized
height reached after `a`. Then after every continuation `b` (fork choice, tie-breaks, deletions,
the delete / apply / restore plans of the synchronisers, failed operations, restarts):
`bx` is still in the chain, the block is loadable from the database exactly as it was stored
(`getBlock`: header, transactions, assets), the height index points to it, and the id served for its
height is its id — `some`, never `none` — as it was after `a`. -/
theorem C04_finalized_blocks_forever (cd : Codecs) (cfg : Cfg) (slot : Slot) (base : Store)
    (baseH : Nat) (hbase : BaseOK cd base baseH) (s : St) (c : Chain) (a b : List Op)
    (hR : Ref cd base baseH s c) (hok : RunOK cd cfg slot base s c (a ++ b))
    (f : Nat) (hf : finOf (run cd cfg slot s a).db = some f)
    (bx : Block × Exec) (hm : bx ∈ runC cd cfg slot s c a) (hle : bx.1.hdr.height ≤ f) :
    bx ∈ runC cd cfg slot s c (a ++ b) ∧
    getBlock cd (run cd cfg slot s (a ++ b)).db bx.1.hdr.id = some bx.1 ∧
    slookup (run cd cfg slot s (a ++ b)).db (kHeight bx.1.hdr.height) = some bx.1.hdr.id ∧
    idAt cd (run cd cfg slot s (a ++ b)) bx.1.hdr.height = some bx.1.hdr.id ∧
    idAt cd (run cd cfg slot s a) bx.1.hdr.height = some bx.1.hdr.id := by
  obtain ⟨hRa, hb, hRb⟩ := run_split hbase a b s c hR hok
  have hm' : bx ∈ runC cd cfg slot s c (a ++ b) := by
    rw [runC_append]
    exact mem_runC hbase b _ _ f hRa hf hb bx hm hle
  obtain ⟨g1, g2⟩ := getBlock_member hRb.db hm'
  refine ⟨hm', g1, g2, ?_, ?_⟩
  · unfold idAt
    rw [C04_finalized_block_served cd base baseH hbase _ _ hRb bx hm']; rfl
  · unfold idAt
    rw [C04_finalized_block_served cd base baseH hbase _ _ hRa bx hm]; rfl

/-- **The height index on disk is frozen up to the finalized height**: for every `h` at or below
the finalized height reached after `a`, the database entry `height → block id` is byte for byte the
same after every continuation (what a restart — `PrepareCache` reads the database — sees). -/
theorem C04_finalized_index_on_disk (cd : Codecs) (cfg : Cfg) (slot : Slot) (base : Store)
    (baseH : Nat) (hbase : BaseOK cd base baseH) (s : St) (c : Chain) (a b : List Op)
    (hR : Ref cd base baseH s c) (hok : RunOK cd cfg slot base s c (a ++ b))
    (f : Nat) (hf : finOf (run cd cfg slot s a).db = some f) (h : Nat) (hle : h ≤ f) :
    slookup (run cd cfg slot s (a ++ b)).db (kHeight h) =
      slookup (run cd cfg slot s a).db (kHeight h) := by
  obtain ⟨hRa, _, hRb⟩ := run_split hbase a b s c hR hok
  by_cases hbh : h ≤ baseH
  · rw [db_index_base hRb.db hbh, db_index_base hRa.db hbh]
  · have hft := (hRa.db.fin_le hf).2
    obtain ⟨bx, hbx, hh⟩ := chain_covers hRa.db.wf h (by omega) (by omega)
    have hall := C04_finalized_blocks_forever cd cfg slot base baseH hbase s c a b hR hok f hf bx hbx
      (by omega)
    rw [← hh, hall.2.2.1, (getBlock_member hRa.db hbx).2]

/-! ### the synchronisers -/

private theorem deleteTill_ref {cd : Codecs} {cfg : Cfg} {base : Store} {baseH : Nat}
    (hbase : BaseOK cd base baseH) (fuel : Nat) (s : St) (c : Chain) (target : Nat)
    (hR : Ref cd base baseH s c) :
    ∃ k, Ref cd base baseH (deleteTill cd cfg fuel s target).1 (c.drop k) ∧
      finOf (deleteTill cd cfg fuel s target).1.db = finOf s.db := by
  have stay : ∀ (s : St) (c : Chain), Ref cd base baseH s c →
      ∃ k, Ref cd base baseH s (c.drop k) ∧ finOf s.db = finOf s.db := fun s c hR => ⟨0, by simpa using hR, rfl⟩
  -- one `deleteBlock`: the chain loses its newest block, or nothing happened
  have one : ∀ (s s' : St) (r : Res) (c : Chain), deleteTip cd cfg s true = (s', r) → Ref cd base baseH s c →
      ∃ k, Ref cd base baseH s' (c.drop k) ∧ finOf s'.db = finOf s.db := by
    intro s s' r c hd hR
    by_cases hr : r.removed
    · obtain ⟨b, x, c', rfl, hR', hfin, _⟩ := ref_delete hbase hR hd hr
      exact ⟨1, by simpa using hR', hfin⟩
    · rw [deleteTip_not_removed hd hr]; exact stay s c hR
  refine deleteTill_induction (cfg := cfg) (P := fun s out => ∀ c, Ref cd base baseH s c →
      ∃ k, Ref cd base baseH out.1 (c.drop k) ∧ finOf out.1.db = finOf s.db)
    (fun s => stay s) (fun s _ => stay s) (fun s _ _ _ _ => stay s) (fun s s' r hd _ c => one s s' r c hd) ?_ fuel s c hR
  intro s s1 out hd ih c hR
  obtain ⟨j, hR1, hf1⟩ := one s s1 _ c hd hR
  obtain ⟨k, hRk, hfk⟩ := ih _ hR1
  exact ⟨j + k, by rw [← List.drop_drop]; exact hRk, hfk.trans hf1⟩

/-- **`deleteTillCommonBlock` cannot touch finality**, whatever target the peer named and however
it ends (reached the common block, refused by the `deleteBlock` guard, ran into an error): the
stored finalized height is unchanged, the state is again a refinement of a suffix of the chain, and
for every height at or below the finalized height the header / block id served is unchanged. -/
theorem C04_deleteTill_keeps_finalized (cd : Codecs) (cfg : Cfg) (slot : Slot) (base : Store)
    (baseH : Nat) (hbase : BaseOK cd base baseH) (s : St) (c : Chain)
    (hR : Ref cd base baseH s c) (fuel target : Nat) (f : Nat) (hf : finOf s.db = some f) :
    finOf (deleteTill cd cfg fuel s target).1.db = some f ∧
    (∃ k, Ref cd base baseH (deleteTill cd cfg fuel s target).1 (c.drop k)) ∧
    ∀ h, h ≤ f →
      headerAt cd (deleteTill cd cfg fuel s target).1 h = headerAt cd s h ∧
      idAt cd (deleteTill cd cfg fuel s target).1 h = idAt cd s h := by
  obtain ⟨k, hRk, hfin⟩ := deleteTill_ref (cfg := cfg) hbase fuel s c target hR
  refine ⟨by rw [hfin]; exact hf, ⟨k, hRk⟩, ?_⟩
  intro h hle
  obtain ⟨j, hj⟩ := C04_deleteTill_is_run cd cfg slot fuel s target
  have := C04_finalized_prefix_stable cd cfg slot base baseH hbase s c []
    (List.replicate j (Op.deleteTip true)) hR (by simpa using runOK_deleteTips cd cfg slot base true j s c) f (by simpa [run] using hf) h hle
  rw [hj]
  simpa [run] using this

/-! ### non-vacuity: a history with a finality raise -/

namespace C04More
open LiskVerif.Node.Example

/-- the block of `LiskVerif.Node.Example`, executed with a result that precommits height 1 -/
def xr : Exec := { overlay := ov1, mhpc := 1, events := [] }

/-- `xr` satisfies the step hypotheses as the execution result of the example does (`step1`) -/
theorem stepR : StepOK cd base [] b1 xr := by
  have h := step1
  exact ⟨h.block, h.ov, h.stateKeys, h.initOk, by decide, h.fresh, h.diffRt⟩

/-- apply the block (raises the marker 0 → 1), try to delete it (refused: finalized), restart,
try again through a tie-break-free `deleteTip`, clear the temporary blocks -/
def opsR : List Op := [.apply b1 true xr false, .deleteTip true, .restart, .deleteTip false, .clearTemp]

/-- the step hypotheses hold along `opsR` -/
theorem runOKR : RunOK cd cfg slot base s0 [] opsR :=
  ⟨fun _ => stepR, trivial, trivial, trivial, trivial, trivial⟩

end C04More

example : (run Example.cd Example.cfg Example.slot Example.s0 C04More.opsR).log =
    [Ev.new [7] 1, Ev.finalize 0 1 [7]] ∧
    finOf (run Example.cd Example.cfg Example.slot Example.s0 C04More.opsR).db = some 1 ∧
    idAt Example.cd (run Example.cd Example.cfg Example.slot Example.s0 C04More.opsR) 1 = some [7] := by
  decide +kernel

example : ∃ f, finOf Example.s0.db = some f ∧
    finOf (run Example.cd Example.cfg Example.slot Example.s0 C04More.opsR).db =
      some (((appliedOf (trace Example.cd Example.cfg Example.slot Example.s0 C04More.opsR)).map
        (·.2.mhpc)).foldl max f) := by
  obtain ⟨f, h1, h2, _⟩ := C04_fin_eq_max_history Example.cd Example.cfg Example.slot Example.base 0
    Example.baseOK Example.s0 [] C04More.opsR [] Example.ref0 (by simpa using C04More.runOKR)
  exact ⟨f, h1, h2⟩

example : ∃ evs : List Ev, (run Example.cd Example.cfg Example.slot Example.s0 C04More.opsR).log =
      evs.reverse ++ Example.s0.log ∧
    evs.filter Ev.isFinalize =
      finEvsOf 0 (appliedOf (trace Example.cd Example.cfg Example.slot Example.s0 C04More.opsR)) :=
  C04_finalize_events_exact _ _ _ _ _ Example.baseOK _ _ _ Example.ref0 C04More.runOKR 0 (by decide)

/-- the trace of the example history: one applied block, no deletion succeeded -/
example : (appliedOf (trace Example.cd Example.cfg Example.slot Example.s0 C04More.opsR)).map
      (fun bx => (bx.1, bx.2.mhpc)) = [(Example.b1, 1)] ∧
    finEvsOf 0 [(Example.b1, C04More.xr)] = [Ev.finalize 0 1 [7]] := by
  decide +kernel

example : getBlock Example.cd (run Example.cd Example.cfg Example.slot Example.s0
    (C04More.opsR ++ [])).db Example.b1.hdr.id = some Example.b1 :=
  (C04_finalized_blocks_forever Example.cd Example.cfg Example.slot Example.base 0 Example.baseOK
    Example.s0 [] C04More.opsR [] Example.ref0 (by simpa using C04More.runOKR) 1 (by decide +kernel)
    (Example.b1, C04More.xr) (by
      have h : runC Example.cd Example.cfg Example.slot Example.s0 [] C04More.opsR =
          [(Example.b1, C04More.xr)] := by rfl
      rw [h]; exact List.mem_cons_self) (by decide)).2.1

example : (process Example.cd Example.cfg Example.slot Example.s0
    { block := Example.b1, flags := ⟨true, true⟩, staticValid := true, valid := true,
      exec := Example.x1, oldValid := true, oldExec := Example.x1 }).2 = .applied := by
  decide +kernel

/-! #### a tie-break -/

namespace C04More
open LiskVerif.Node.Example

def sA : St := (apply cd cfg s0 b1 true x1 false).1

/-- a competing block for height 1 by another generator in a later slot -/
def hdrT : Hdr := { height := 1, generatorAddress := [2], maxHeightGenerated := 0,
                    maxHeightPrevoted := 0, id := [8], previousBlockID := gid, timestamp := 20 }
def bT : Block := { hdr := hdrT, hdrBytes := [1], txs := [], assets := [] }
def iT : Incoming := { block := bT, flags := ⟨true, false⟩, staticValid := true, valid := true,
                       exec := x1, oldValid := true, oldExec := x1 }

end C04More

/-- `process` takes the tie-break path: the tip is deleted and the competing block applied — two
primitive operations, three events, the marker untouched -/
example : (process Example.cd Example.cfg Example.slot C04More.sA C04More.iT).2 = .tieBreakApplied ∧
    (processOps Example.cd Example.cfg Example.slot C04More.sA C04More.iT).length = 2 ∧
    (process Example.cd Example.cfg Example.slot C04More.sA C04More.iT).1.log =
      [Ev.new [8] 1, Ev.delete [7] 1, Ev.new [7] 1] ∧
    finOf (process Example.cd Example.cfg Example.slot C04More.sA C04More.iT).1.db = some 0 ∧
    idAt Example.cd (process Example.cd Example.cfg Example.slot C04More.sA C04More.iT).1 1 = some [8] := by
  decide +kernel
