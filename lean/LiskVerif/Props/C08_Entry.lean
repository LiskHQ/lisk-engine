/-
C08 — the entry points that turn received bytes into objects with IDs.

`blockchain.NewBlock` is a COMPOSITION: `RawBlock.DecodeStrict` splits the envelope into header bytes,
transaction byte strings and asset byte strings; then `NewBlockHeader` (lenient), `NewBlockAsset`
(strict) per asset and `NewTransaction` (strict) per transaction (`LiskVerif.Validators.newBlock`,
IDs and re-encoding in `LiskVerif.CodecEntry`). The theorems below state what this composition
guarantees and what the generated codec of `blockchain.Block` (nested structs, always decoded
leniently) does NOT guarantee:

The composition guarantees: an accepted block's envelope is the canonical envelope of its parts,
every transaction (and asset) byte string in it is exactly the `Encode` of the transaction (asset) in
the block, and every transaction ID is the hash of exactly those received bytes; contrapositively one
transaction byte string that is not the encoding of the transaction it decodes to (default field
omitted, non-shortest varint, trailing bytes …) makes `NewBlock` fail. `Block.Encode` of the accepted
block is the received envelope with the header replaced by the header's own encoding — the received
bytes themselves when the header arrived canonical — and then `NewBlock (Block.Encode blk)` is
accepted again with the same IDs. The generated Block codec cannot replace the composition: on a
concrete envelope with a transaction whose default-valued nonce and params are left out,
`NewTransaction` and `NewBlock` reject, `Block.DecodeStrict` accepts and re-encodes to other bytes.
-/
import LiskVerif.Model.CodecEntry
import LiskVerif.Lemmas.Validators
import LiskVerif.Props.C08_Nested

open LiskVerif LiskVerif.Codec LiskVerif.Gen LiskVerif.Validators LiskVerif.CodecEntry

/-! ### helpers -/

/-- strict decoding through `NewTransaction` is canonical -/
private theorem C08E_tx_canonical (b : Bytes) (vals : List Value)
    (h : decodeNamed allSchemas asciiNFC true "blockchain.Transaction" b = .ok vals) :
    encodeNamed allSchemas asciiNFC "blockchain.Transaction" vals = b :=
  decodeNamed_canonical (find_eq_of_fields C08_transaction_schema)
    (C08_transaction_strict_canonical _ (find_eq_of_fields C08_transaction_schema)) b vals h

/-! ### NewBlock accepts only canonical transactions -/

/-- **`NewBlock` accepts only canonical transactions.** If `NewBlock` accepts `data` as the block
`blk`, then there is exactly one way the bytes were read — the strict decode `raw` of the flat
envelope, whose re-encoding IS `data` — and

* the transaction byte strings of the envelope are, one by one, the `Encode` of the block's
  transactions (so no transaction arrived with an omitted default field, a non-shortest varint, fields
  out of order, trailing bytes or an unknown field);
* the transaction IDs assigned by `Init` (hash of the re-encoding) are the hashes of exactly the
  received transaction byte strings — for any hash function;
* the asset byte strings are the `Encode` of the block's assets;
* the header is what the lenient `NewBlockHeader` reads from the header bytes. -/
theorem C08_newBlock_accepts_only_canonical_transactions (H : Bytes → Bytes) (data : Bytes)
    (blk : Validators.Block) (h : Validators.newBlock allSchemas asciiNFC data = .ok blk) :
    ∃ raw : List Value,
      decodeNamed allSchemas asciiNFC true "blockchain.RawBlock" data = .ok raw ∧
      encodeNamed allSchemas asciiNFC "blockchain.RawBlock" raw = data ∧
      blk.txs.map (encodeNamed allSchemas asciiNFC "blockchain.Transaction") = fBytesArr raw 1 ∧
      blockTxIDs allSchemas asciiNFC H blk = (fBytesArr raw 1).map H ∧
      blk.assets.map (encodeNamed allSchemas asciiNFC "blockchain.BlockAsset") = fBytesArr raw 2 ∧
      decodeNamed allSchemas asciiNFC false "blockchain.BlockHeader" (fBytes raw 0) = .ok blk.header := by
  obtain ⟨raw, hraw, hheader, hassets, htxs⟩ := newBlock_ok h
  have htx := mapDecode_ok_map C08E_tx_canonical htxs
  -- `NewBlockAsset` and the envelope are decoded strictly by structs whose strict decoder is canonical
  have hfa := find_eq_of_fields C08_blockAsset_schema
  have has := mapDecode_ok_map (decodeNamed_canonical hfa
    (C08_blockAsset_strict_canonical _ hfa asciiNFC asciiNFC_law.fix)) hassets
  have hfr := find_eq_of_fields C08_rawBlock_schema
  refine ⟨raw, hraw, decodeNamed_canonical hfr
    (C08_rawBlock_strict_canonical _ hfr asciiNFC asciiNFC_law.fix) data raw hraw, htx, ?_, has, hheader⟩
  simp only [blockTxIDs, txID]
  rw [← htx, List.map_map]
  rfl

/-- the same seen from `CodecEntry.newBlock` (what the driver prints): the printed transaction IDs
are the hashes of the transaction byte strings of the envelope -/
theorem C08_newBlock_ids_are_hashes_of_received_bytes (H : Bytes → Bytes) (data : Bytes)
    (a : Accepted) (h : CodecEntry.newBlock allSchemas asciiNFC H data = .ok a) :
    ∃ raw : List Value,
      decodeNamed allSchemas asciiNFC true "blockchain.RawBlock" data = .ok raw ∧
      encodeNamed allSchemas asciiNFC "blockchain.RawBlock" raw = data ∧
      a.txIDs = (fBytesArr raw 1).map H := by
  unfold CodecEntry.newBlock at h
  split at h
  · exact absurd h (by simp)
  · rename_i blk hblk
    injection h with h
    subst h
    obtain ⟨raw, h1, h2, _, h4, _⟩ :=
      C08_newBlock_accepts_only_canonical_transactions H data blk hblk
    exact ⟨raw, h1, h2, h4⟩

/-- **A non-canonical transaction makes `NewBlock` fail.** Let the envelope split (strictly) into
`raw`, and let `tx` be one of its transaction byte strings that is NOT canonical: whatever transaction
the lenient decoder reads from `tx` (absent fields defaulted, unknown tail ignored …), its encoding
differs from `tx`. Then `NewBlock` rejects the block. (Lenient rejection is covered too: the
hypothesis is then vacuous for `tx` and the strict decoder rejects as well.) -/
theorem C08_newBlock_rejects_noncanonical_transaction (data : Bytes) (raw : List Value)
    (hraw : decodeNamed allSchemas asciiNFC true "blockchain.RawBlock" data = .ok raw)
    (tx : Bytes) (hmem : tx ∈ fBytesArr raw 1) (hlen : tx.length < 2 ^ 63)
    (hnc : ∀ vals, decodeNamed allSchemas asciiNFC false "blockchain.Transaction" tx = .ok vals →
      encodeNamed allSchemas asciiNFC "blockchain.Transaction" vals ≠ tx) :
    ∀ blk, Validators.newBlock allSchemas asciiNFC data ≠ .ok blk := by
  intro blk h
  obtain ⟨raw', hraw', _, _, htxs⟩ := newBlock_ok h
  rw [hraw] at hraw'
  have hr := Except.ok.inj hraw'
  subst hr
  obtain ⟨vals, hs⟩ := mapDecode_ok_mem htxs tx hmem
  have hcan := C08E_tx_canonical tx vals hs
  have hfs := find_eq_of_fields C08_transaction_schema
  rw [decodeNamed_of_find hfs] at hs
  have hst := (C08_transaction_id_stable _ hfs tx hlen vals hs id).2.1
  rw [encodeNamed_of_find hfs] at hcan
  rw [hcan] at hst
  refine hnc vals ?_ (by rw [encodeNamed_of_find hfs]; exact hcan)
  rw [decodeNamed_of_find hfs]
  exact hst

/-! ### the generated Block codec is not a substitute for the composition -/

/-- "the outcome is the error `e`" -/
def C08ErrIs {α : Type} : Except Err α → Err → Bool
  | .error e', e => decide (e' = e)
  | .ok _, _ => false

/-- "`NewBlock` accepts" as a Bool (evaluated by the kernel in the examples) -/
def C08Accepts (data : Bytes) : Bool :=
  match Validators.newBlock allSchemas asciiNFC data with
  | .ok _ => true
  | .error _ => false

/-- module "a", command "b", nonce 0, fee 1, empty key, empty params, no signature — canonical -/
def C08txCanonical : Bytes := [0x0a, 1, 0x61, 0x12, 1, 0x62, 0x18, 0, 0x20, 1, 0x2a, 0, 0x32, 0]
/-- the same transaction as a stock proto3 encoder writes it: default-valued nonce and params omitted -/
def C08txCompact : Bytes := [0x0a, 1, 0x61, 0x12, 1, 0x62, 0x20, 1, 0x2a, 0]
/-- envelopes: an (empty, leniently accepted) header and the one transaction -/
def C08envCanonical : Bytes := [0x0a, 0, 0x12, 14] ++ C08txCanonical
def C08envCompact : Bytes := [0x0a, 0, 0x12, 10] ++ C08txCompact

-- the test vectors below are evaluated by the kernel
attribute [local instance] decEqOk decEqError

private theorem C08E_ex_accept : C08Accepts C08envCanonical = true := by decide +kernel

private theorem C08E_ex_raw :
    decodeNamed allSchemas asciiNFC true "blockchain.RawBlock" C08envCanonical =
      .ok [.bytes [], .bytesArr [C08txCanonical], .bytesArr []] := by
  decide +kernel

private theorem C08E_ex_reject :
    C08ErrIs (Validators.newBlock allSchemas asciiNFC C08envCompact) .unexpectedFieldNumber = true := by
  decide +kernel

private theorem C08E_ex_codec (s : Schema) (hs : allSchemas.find "blockchain.Block" = some s) :
    decodeStrict allSchemas asciiNFC s C08envCompact =
      .ok [.msg true C08zeroHeader,
           .msgArr [[.bytes [0x61], .bytes [0x62], .uint 0, .uint 1, .bytes [], .bytes [], .bytesArr []]],
           .msgArr []] := by
  cases C08_schema_eq C08_block_schema hs
  decide +kernel

private theorem C08E_ex_enc :
    encodeNamed allSchemas asciiNFC "blockchain.Transaction"
      [.bytes [0x61], .bytes [0x62], .uint 0, .uint 1, .bytes [], .bytes [], .bytesArr []] =
      C08txCanonical := by
  simp [encodeNamed, find_eq_of_fields C08_transaction_schema, encode, C08txFields, C08txCanonical,
    encodeFields, writeKey, writeBytes, putUvarint_lt, asciiNFC]

/-- **Non-vacuity and the seeded simplification refuted.**
1. `NewBlock` accepts the canonical envelope; the transaction ID hashes exactly the received bytes.
2. `NewBlock` rejects the envelope that carries the compact transaction (`unexpectedFieldNumber`:
   the strict transaction decoder meets field 4 where field 3 must stand).
3. `Block.DecodeStrict` — the generated codec of the nested `Block` struct — ACCEPTS that envelope:
   it decodes nested transactions leniently, returns the transaction with nonce 0 and empty params …
4. … whose encoding is the canonical 14 bytes, not the 10 received ones: with
   `NewBlock := Block.DecodeStrict; Init` the ID would be the hash of bytes that were never received,
   and two different byte strings would be accepted for one transaction ID. -/
theorem C08_block_codec_is_not_newBlock (H : Bytes → Bytes) (s : Schema)
    (hs : allSchemas.find "blockchain.Block" = some s) :
    (∃ blk, Validators.newBlock allSchemas asciiNFC C08envCanonical = .ok blk ∧
      blockTxIDs allSchemas asciiNFC H blk = [H C08txCanonical]) ∧
    C08ErrIs (Validators.newBlock allSchemas asciiNFC C08envCompact) .unexpectedFieldNumber = true ∧
    decodeStrict allSchemas asciiNFC s C08envCompact =
      .ok [.msg true C08zeroHeader,
           .msgArr [[.bytes [0x61], .bytes [0x62], .uint 0, .uint 1, .bytes [], .bytes [], .bytesArr []]],
           .msgArr []] ∧
    encodeNamed allSchemas asciiNFC "blockchain.Transaction"
      [.bytes [0x61], .bytes [0x62], .uint 0, .uint 1, .bytes [], .bytes [], .bytesArr []] =
      C08txCanonical ∧
    C08txCanonical ≠ C08txCompact := by
  refine ⟨?_, C08E_ex_reject, C08E_ex_codec s hs, C08E_ex_enc, by decide⟩
  have hacc := C08E_ex_accept
  unfold C08Accepts at hacc
  split at hacc
  · rename_i blk hblk
    refine ⟨blk, hblk, ?_⟩
    obtain ⟨raw, h1, _, _, h4, _⟩ :=
      C08_newBlock_accepts_only_canonical_transactions H C08envCanonical blk hblk
    have h1' := Except.ok.inj (C08E_ex_raw.symm.trans h1)
    subst h1'
    rw [h4]
    rfl
  · exact absurd hacc (by simp)

/-! ### re-encoding an accepted block -/

/-- the bytes of a block envelope: header bytes under key 1, every transaction byte string under
key 2, every asset byte string under key 3, each with its length prefix -/
def C08envelope (hdr : Bytes) (txs assets : List Bytes) : Bytes :=
  writeKey 2 1 ++ writeBytes hdr ++
    ((txs.map fun b => writeKey 2 2 ++ writeBytes b).flatten ++
      (assets.map fun b => writeKey 2 3 ++ writeBytes b).flatten)

/-- the nesting fuel of `encodeFields` is irrelevant for flat field lists -/
private theorem C08E_encField_fuel_flat (t : Table) (nfc : NFC) (a b : Nat) (f : Field) (v : Value)
    (hf : flatKind f.kind = true) : encField t nfc a f v = encField t nfc b f v := by
  unfold encField
  cases hk : f.kind <;> rw [hk] at hf <;> cases v <;>
    first | rfl | exact absurd hf (by simp [flatKind])

private theorem C08E_encodeFields_fuel_flat (t : Table) (nfc : NFC) (a b : Nat) :
    ∀ (fs : List Field) (vs : List Value), fs.all (fun f => flatKind f.kind) = true →
      encodeFields t nfc a fs vs = encodeFields t nfc b fs vs := by
  intro fs
  induction fs with
  | nil => intro vs _; rw [encodeFields_nil_left, encodeFields_nil_left]
  | cons f fs ih =>
    intro vs hf
    simp only [List.all_cons, Bool.and_eq_true] at hf
    cases vs with
    | nil => rw [encodeFields_nil_right, encodeFields_nil_right]
    | cons v vs =>
      rw [encodeFields_cons, encodeFields_cons, C08E_encField_fuel_flat t nfc a b f v hf.1,
        ih vs hf.2]

/-- a field list whose nested structs are all flat (BlockHeader: only `AggregateCommit`) -/
def C08Shallow (t : Table) (fs : List Field) : Bool :=
  fs.all fun f => flatKind f.kind ||
    (match f.kind with
     | .msg n => (match t.find n with
        | some s => s.enc.all (fun g => flatKind g.kind)
        | none => true)
     | _ => false)

private theorem C08E_encodeFields_fuel_shallow (t : Table) (nfc : NFC) (a b : Nat) :
    ∀ (fs : List Field) (vs : List Value), C08Shallow t fs = true →
      encodeFields t nfc (a + 1) fs vs = encodeFields t nfc (b + 1) fs vs := by
  intro fs
  induction fs with
  | nil => intro vs _; rw [encodeFields_nil_left, encodeFields_nil_left]
  | cons f fs ih =>
    intro vs hf
    simp only [C08Shallow, List.all_cons, Bool.and_eq_true] at hf
    cases vs with
    | nil => rw [encodeFields_nil_right, encodeFields_nil_right]
    | cons v vs =>
      rw [encodeFields_cons, encodeFields_cons]
      have ht : encodeFields t nfc (a + 1) fs vs = encodeFields t nfc (b + 1) fs vs :=
        ih vs (by simpa only [C08Shallow] using hf.2)
      rw [ht]
      congr 1
      cases hflat : flatKind f.kind with
      | true => exact C08E_encField_fuel_flat t nfc _ _ f v hflat
      | false =>
        have h1 := hf.1
        simp only [hflat, Bool.false_or] at h1
        unfold encField
        cases hk : f.kind <;> rw [hk] at h1 <;> try (exact absurd h1 Bool.false_ne_true)
        rename_i name
        cases v <;> try rfl
        rename_i present vals
        cases present
        · rfl
        · simp only [Bool.not_true, Bool.false_eq_true, if_false]
          cases hfind : t.find name with
          | none => rfl
          | some s =>
            simp only [hfind] at h1
            simp only
            rw [C08E_encodeFields_fuel_flat t nfc a b s.enc vals h1]

private theorem C08E_raw_envelope (h : Bytes) (t a : List Bytes) :
    encodeNamed allSchemas asciiNFC "blockchain.RawBlock" [.bytes h, .bytesArr t, .bytesArr a] =
      C08envelope h t a := by
  simp [encodeNamed, find_eq_of_fields C08_rawBlock_schema, encode, C08rawBlockFields, encodeFields,
    C08envelope]

private theorem C08E_block_envelope (blk : Validators.Block) (sh stx sa : Schema)
    (hfh : allSchemas.find "blockchain.BlockHeader" = some sh)
    (hft : allSchemas.find "blockchain.Transaction" = some stx)
    (hfa : allSchemas.find "blockchain.BlockAsset" = some sa) :
    blockEncode allSchemas asciiNFC blk =
      C08envelope (encodeFields allSchemas asciiNFC 7 sh.enc blk.header)
        (blk.txs.map (encodeFields allSchemas asciiNFC 7 stx.enc))
        (blk.assets.map (encodeFields allSchemas asciiNFC 7 sa.enc)) := by
  simp [blockEncode, encodeNamed, find_eq_of_fields C08_block_schema, encode, C08blockFields,
    encodeFields, C08envelope, hfh, hft, hfa, List.map_map, Function.comp_def]

/-- the strict decode of an envelope has the shape (header bytes, transactions, assets) -/
private theorem C08E_raw_shape (data : Bytes) (hlen : data.length < 2 ^ 63) (raw : List Value)
    (h : decodeNamed allSchemas asciiNFC true "blockchain.RawBlock" data = .ok raw) :
    raw = [.bytes (fBytes raw 0), .bytesArr (fBytesArr raw 1), .bytesArr (fBytesArr raw 2)] := by
  have hfr := find_eq_of_fields C08_rawBlock_schema
  rw [decodeNamed_of_find hfr] at h
  have ht := (C08_decoded_values_typed allSchemas C09rank asciiNFC C08_allSchemas_deepWF
    C08_asciiNFC_law _ (find_mem hfr) 0 data hlen raw).2 (by decide) h
  simp only [C08TypedDeep_eq, C08rawBlockFields] at ht
  obtain ⟨a, b, c, rfl, ha, hb, hc⟩ : ∃ a b c, raw = [a, b, c] ∧ typedVal asciiNFC .bytes a = true ∧
      typedVal asciiNFC .bytesArr b = true ∧ typedVal asciiNFC .bytesArr c = true := by
    match raw, ht with
    | [a, b, c], ht =>
      simp only [typedWith, typedValDeep, Bool.and_eq_true, Bool.and_true] at ht
      exact ⟨a, b, c, rfl, ht.1, ht.2.1, ht.2.2⟩
    | [], ht => simp [typedWith] at ht
    | [_], ht => simp [typedWith] at ht
    | [_, _], ht => simp [typedWith] at ht
    | _ :: _ :: _ :: _ :: _, ht => simp [typedWith] at ht
  cases a <;> simp [typedVal] at ha
  cases b <;> simp [typedVal] at hb
  cases c <;> simp [typedVal] at hc
  rfl

private theorem C08E_header_shallow : C08Shallow allSchemas (C08headerFields false) = true := by
  decide +kernel

/-- **Re-encoding an accepted block.** For a block accepted by `NewBlock` (received bytes shorter
than 2^63), the received bytes are the envelope of (header bytes, transaction bytes, asset bytes),
and `Block.Encode` of the accepted block is the SAME envelope with the header bytes replaced by the
header's own encoding. Hence if the header arrived in canonical form, re-encoding reproduces the
received bytes exactly. (The header is the one element `NewBlock` reads leniently; its ID is the hash
of its re-encoding, stable by `C08_blockHeader_id_stable`.) -/
theorem C08_newBlock_reencode (data : Bytes) (hlen : data.length < 2 ^ 63)
    (blk : Validators.Block) (h : Validators.newBlock allSchemas asciiNFC data = .ok blk) :
    ∃ raw : List Value,
      decodeNamed allSchemas asciiNFC true "blockchain.RawBlock" data = .ok raw ∧
      data = C08envelope (fBytes raw 0) (fBytesArr raw 1) (fBytesArr raw 2) ∧
      fBytesArr raw 1 = blk.txs.map (encodeNamed allSchemas asciiNFC "blockchain.Transaction") ∧
      fBytesArr raw 2 = blk.assets.map (encodeNamed allSchemas asciiNFC "blockchain.BlockAsset") ∧
      blockEncode allSchemas asciiNFC blk =
        C08envelope (encodeNamed allSchemas asciiNFC "blockchain.BlockHeader" blk.header)
          (fBytesArr raw 1) (fBytesArr raw 2) ∧
      (encodeNamed allSchemas asciiNFC "blockchain.BlockHeader" blk.header = fBytes raw 0 →
        blockEncode allSchemas asciiNFC blk = data) := by
  obtain ⟨raw, h1, h2, h3, _, h5, _⟩ :=
    C08_newBlock_accepts_only_canonical_transactions id data blk h
  have hshape := C08E_raw_shape data hlen raw h1
  have hcongr := congrArg (encodeNamed allSchemas asciiNFC "blockchain.RawBlock") hshape
  rw [hcongr, C08E_raw_envelope] at h2
  have hfh := find_eq_of_fields C08_blockHeader_schema
  have hft := find_eq_of_fields C08_transaction_schema
  have hfa := find_eq_of_fields C08_blockAsset_schema
  -- `Block.Encode` writes its nested structs with nesting budget 7, `encodeNamed` with the 8 of
  -- `encode`; the header nests one level, transactions and assets none, so the budget is irrelevant
  have eh : encodeFields allSchemas asciiNFC 7 (C08headerFields false) blk.header =
      encodeNamed allSchemas asciiNFC "blockchain.BlockHeader" blk.header := by
    rw [encodeNamed_of_find hfh]
    unfold encode
    exact C08E_encodeFields_fuel_shallow allSchemas asciiNFC 6 7 _ blk.header C08E_header_shallow
  have et : encodeFields allSchemas asciiNFC 7 (C08txFields false) =
      encodeNamed allSchemas asciiNFC "blockchain.Transaction" := by
    funext v
    rw [encodeNamed_of_find hft]
    unfold encode
    exact C08E_encodeFields_fuel_flat allSchemas asciiNFC 7 8 _ v (by decide)
  have ea : encodeFields allSchemas asciiNFC 7 (C08assetFields false) =
      encodeNamed allSchemas asciiNFC "blockchain.BlockAsset" := by
    funext v
    rw [encodeNamed_of_find hfa]
    unfold encode
    exact C08E_encodeFields_fuel_flat allSchemas asciiNFC 7 8 _ v (by decide)
  have hb := C08E_block_envelope blk _ _ _ hfh hft hfa
  rw [eh, et, ea, h3, h5] at hb
  refine ⟨raw, h1, h2.symm, h3.symm, h5.symm, hb, ?_⟩
  intro hcanon
  rw [hb, hcanon, h2]

/-- **IDs survive store / load of the whole block.** If the header of an accepted block arrived in
canonical form, then `NewBlock` applied to `Block.Encode` of the accepted block accepts the very same
block again — same header, transactions and assets, hence the same header ID and transaction IDs for
any hash function. -/
theorem C08_newBlock_id_stable (H : Bytes → Bytes) (data : Bytes) (hlen : data.length < 2 ^ 63)
    (blk : Validators.Block) (h : Validators.newBlock allSchemas asciiNFC data = .ok blk)
    (hcanon : ∀ raw, decodeNamed allSchemas asciiNFC true "blockchain.RawBlock" data = .ok raw →
      encodeNamed allSchemas asciiNFC "blockchain.BlockHeader" blk.header = fBytes raw 0) :
    Validators.newBlock allSchemas asciiNFC (blockEncode allSchemas asciiNFC blk) = .ok blk ∧
    CodecEntry.newBlock allSchemas asciiNFC H (blockEncode allSchemas asciiNFC blk) =
      CodecEntry.newBlock allSchemas asciiNFC H data := by
  obtain ⟨raw, h1, _, _, _, _, hre⟩ := C08_newBlock_reencode data hlen blk h
  rw [hre (hcanon raw h1)]
  exact ⟨h, rfl⟩

/-! ### non-vacuity -/

/-- `C08_newBlock_accepts_only_canonical_transactions`, `C08_newBlock_ids_are_hashes_of_received_bytes`:
`NewBlock` accepts something -/
example : ∃ blk, Validators.newBlock allSchemas asciiNFC C08envCanonical = .ok blk := by
  obtain ⟨⟨blk, hblk, _⟩, _⟩ :=
    C08_block_codec_is_not_newBlock id _ (find_eq_of_fields C08_block_schema)
  exact ⟨blk, hblk⟩

private theorem C08E_ex_raw_compact :
    decodeNamed allSchemas asciiNFC true "blockchain.RawBlock" C08envCompact =
      .ok [.bytes [], .bytesArr [C08txCompact], .bytesArr []] := by
  decide +kernel

private theorem C08E_ex_lenient_compact :
    decodeNamed allSchemas asciiNFC false "blockchain.Transaction" C08txCompact =
      .ok [.bytes [0x61], .bytes [0x62], .uint 0, .uint 1, .bytes [], .bytes [], .bytesArr []] := by
  decide +kernel

/-- `C08_newBlock_rejects_noncanonical_transaction`: its hypotheses hold for the envelope with the
compact transaction (the lenient decoder reads it, the re-encoding has 14 bytes instead of 10) -/
example : ∃ data raw tx,
    decodeNamed allSchemas asciiNFC true "blockchain.RawBlock" data = .ok raw ∧
    tx ∈ fBytesArr raw 1 ∧ tx.length < 2 ^ 63 ∧
    (∃ vals, decodeNamed allSchemas asciiNFC false "blockchain.Transaction" tx = .ok vals) ∧
    (∀ vals, decodeNamed allSchemas asciiNFC false "blockchain.Transaction" tx = .ok vals →
      encodeNamed allSchemas asciiNFC "blockchain.Transaction" vals ≠ tx) := by
  refine ⟨C08envCompact, _, C08txCompact, C08E_ex_raw_compact, by simp [fBytesArr], by decide,
    ⟨_, C08E_ex_lenient_compact⟩, ?_⟩
  intro vals hv
  rw [C08E_ex_lenient_compact] at hv
  have hv' := Except.ok.inj hv
  subst hv'
  rw [C08E_ex_enc]
  decide

/-- the all-default header in canonical form (36 bytes) -/
def C08zeroHeaderBytes : Bytes :=
  [8, 0, 16, 0, 24, 0, 34, 0, 42, 0, 50, 0, 58, 0, 66, 0, 74, 0, 80, 0, 88, 0, 96, 0, 106, 0,
   114, 6, 8, 0, 18, 0, 26, 0, 122, 0]

/-- an envelope all of whose parts are canonical -/
def C08envAllCanonical : Bytes := [0x0a, 36] ++ C08zeroHeaderBytes ++ [0x12, 14] ++ C08txCanonical

private theorem C08E_ex_accept2 : C08Accepts C08envAllCanonical = true := by decide +kernel

private theorem C08E_ex_raw2 :
    decodeNamed allSchemas asciiNFC true "blockchain.RawBlock" C08envAllCanonical =
      .ok [.bytes C08zeroHeaderBytes, .bytesArr [C08txCanonical], .bytesArr []] := by
  decide +kernel

private theorem C08E_ex_header2 :
    decodeNamed allSchemas asciiNFC false "blockchain.BlockHeader" C08zeroHeaderBytes =
      .ok C08zeroHeader := by
  decide +kernel

private theorem C08E_ex_header_enc :
    encodeNamed allSchemas asciiNFC "blockchain.BlockHeader" C08zeroHeader = C08zeroHeaderBytes := by
  simp [encodeNamed, find_eq_of_fields C08_blockHeader_schema,
    find_eq_of_fields C08_aggregateCommit_schema, encode, C08headerFields, C08acFields, C08zeroHeader,
    C08zeroHeaderBytes, encodeFields, writeKey, writeBytes, putUvarint_lt]

/-- `C08_newBlock_reencode` / `C08_newBlock_id_stable`: there is an accepted block whose header arrived
in canonical form, so the "re-encoding reproduces the received bytes" conclusion is reached -/
example : ∃ data blk, data.length < 2 ^ 63 ∧
    Validators.newBlock allSchemas asciiNFC data = .ok blk ∧
    (∀ raw, decodeNamed allSchemas asciiNFC true "blockchain.RawBlock" data = .ok raw →
      encodeNamed allSchemas asciiNFC "blockchain.BlockHeader" blk.header = fBytes raw 0) ∧
    blockEncode allSchemas asciiNFC blk = data := by
  have hacc := C08E_ex_accept2
  unfold C08Accepts at hacc
  split at hacc
  · rename_i blk hblk
    have hlen : C08envAllCanonical.length < 2 ^ 63 := by decide
    have hcanon : ∀ raw, decodeNamed allSchemas asciiNFC true "blockchain.RawBlock"
        C08envAllCanonical = .ok raw →
        encodeNamed allSchemas asciiNFC "blockchain.BlockHeader" blk.header = fBytes raw 0 := by
      intro raw hraw
      obtain ⟨raw', hraw', hh, _, _⟩ := newBlock_ok hblk
      have e1 := Except.ok.inj (C08E_ex_raw2.symm.trans hraw)
      have e2 := Except.ok.inj (C08E_ex_raw2.symm.trans hraw')
      subst e1
      subst e2
      have hf : fBytes [Value.bytes C08zeroHeaderBytes, .bytesArr [C08txCanonical], .bytesArr []] 0 =
          C08zeroHeaderBytes := rfl
      rw [hf] at hh ⊢
      rw [C08E_ex_header2] at hh
      rw [← Except.ok.inj hh]
      exact C08E_ex_header_enc
    refine ⟨_, blk, hlen, hblk, hcanon, ?_⟩
    obtain ⟨raw, h1, _, _, _, _, hre⟩ := C08_newBlock_reencode _ hlen blk hblk
    exact hre (hcanon raw h1)
  · exact absurd hacc (by simp)
