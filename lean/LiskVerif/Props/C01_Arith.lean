/-
C01 — what ONE block header may add to the vote store, for every value of its `uint32` fields.

The mechanism of finality safety (properties.jsonl C01: "prevotes only for heights above the generator's
maxHeightGenerated", "precommit only for blocks already prevoted by > 2/3") as a statement about a single
application of `BFT.process` (the transcription of `Module.BeforeTransactionsExecute`; the second theorem is stated
for `processU32`, what the driver runs), with NO bound
on `maxHeightGenerated` / `maxHeightPrevoted` and the only assumption `height < 2^32`:

* `C01_arith_vote_weight_per_header`: every entry of the window keeps its identity; its prevote weight is
  unchanged or grows by exactly the BFT weight of the header's generator at that height, the latter only
  for heights above the header's `maxHeightGenerated` and only if `maxHeightGenerated < height`; its
  precommit weight is unchanged or grows by exactly that weight, only if the entry already carried a
  prevote quorum and `maxHeightGenerated < height`.
* `C01_arith_max_claim_adds_nothing`: a header claiming `maxHeightGenerated = 2^32-1` (the largest value
  a Byzantine generator can put into the field; accepted by `IsHeaderContradictingChain` again and again)
  adds nothing at all.

The same clause is checked model-free on the real module after every header of every generated chain /
fork-tree branch (harness/bftsim/votes.go, signatures `bft-vote-rule:*`). The arithmetic behind it is
tied to the Go source in `Props/C02_Arith.lean`.
-/
import LiskVerif.Model.BFTU32
import LiskVerif.Lemmas.BFT
import LiskVerif.Props.C02_Arith

open LiskVerif LiskVerif.BFT

/-- the generator `gen` holds BFT weight `w` in the parameters in force at height `x` -/
def C01WeightAt (g : Nat → Option Params) (gen : Bytes) (x w : Nat) : Prop :=
  ∃ p v, g x = some p ∧ findValidator p.validators gen = some v ∧ v.weight = w

/-- what one header (generator `gen`, prevotes from height `lo` on) may do to one entry of the window -/
def C01VoteDelta (g : Nat → Option Params) (gen : Bytes) (lo : Nat) (a b : BlockInfo) : Prop :=
  SameMeta a b ∧
  (b.prevoteWeight = a.prevoteWeight ∨
    (lo ≤ a.height ∧ ∃ w, C01WeightAt g gen a.height w ∧ b.prevoteWeight = a.prevoteWeight + w)) ∧
  (b.precommitWeight = a.precommitWeight ∨
    (PvQ g a ∧ ∃ w, C01WeightAt g gen a.height w ∧ b.precommitWeight = a.precommitWeight + w))

private def PcDelta (g : Nat → Option Params) (gen : Bytes) (a b : BlockInfo) : Prop :=
  SameMeta a b ∧ b.prevoteWeight = a.prevoteWeight ∧
  (b.precommitWeight = a.precommitWeight ∨
    (PvQ g a ∧ ∃ w, C01WeightAt g gen a.height w ∧ b.precommitWeight = a.precommitWeight + w))

private def PvDelta (g : Nat → Option Params) (gen : Bytes) (lo : Nat) (a b : BlockInfo) : Prop :=
  SameMeta a b ∧ b.precommitWeight = a.precommitWeight ∧
  (b.prevoteWeight = a.prevoteWeight ∨
    (lo ≤ a.height ∧ ∃ w, C01WeightAt g gen a.height w ∧ b.prevoteWeight = a.prevoteWeight + w))

private theorem PcDelta.refl (g : Nat → Option Params) (gen : Bytes) (a : BlockInfo) : PcDelta g gen a a :=
  ⟨SameMeta.refl a, rfl, Or.inl rfl⟩
private theorem PvDelta.refl (g : Nat → Option Params) (gen : Bytes) (lo : Nat) (a : BlockInfo) : PvDelta g gen lo a a :=
  ⟨SameMeta.refl a, rfl, Or.inl rfl⟩
private theorem C01VoteDelta.refl (g : Nat → Option Params) (gen : Bytes) (lo : Nat) (a : BlockInfo) :
    C01VoteDelta g gen lo a a := ⟨SameMeta.refl a, Or.inl rfl, Or.inl rfl⟩

private theorem precommitLoop_delta (s : State) (gen : Bytes) (minH : Nat) (l : List BlockInfo) (done : Bool)
    (l' : List BlockInfo) (first : Option Nat) (h : precommitLoop s gen minH l done = .ok (l', first)) :
    All2 (PcDelta (getParams s) gen) l l' :=
  precommitLoop_all2 s gen minH (PcDelta.refl _ _) (fun b p v hp hq hv =>
    ⟨SameMeta.refl b, rfl, Or.inr ⟨⟨p, hp, hq⟩, v.weight, ⟨p, v, hp, hv, rfl⟩, rfl⟩⟩) l done l' first h

private theorem prevoteLoop_delta (s : State) (gen : Bytes) (minH : Nat) (l l' : List BlockInfo)
    (h : prevoteLoop s gen minH l = .ok l') : All2 (PvDelta (getParams s) gen minH) l l' :=
  prevoteLoop_all2 s gen minH (PvDelta.refl _ _ _) (fun b p v hge hp hv =>
    ⟨SameMeta.refl b, rfl, Or.inr ⟨hge, v.weight, ⟨p, v, hp, hv, rfl⟩, rfl⟩⟩) l l' h

private theorem delta_comp (g : Nat → Option Params) (gen : Bytes) (lo : Nat) (a b c : BlockInfo)
    (h1 : PcDelta g gen a b) (h2 : PvDelta g gen lo b c) : C01VoteDelta g gen lo a c := by
  obtain ⟨a0, a5, a6⟩ := h1
  obtain ⟨b0, b5, b6⟩ := h2
  have a1 := a0.1
  refine ⟨a0.trans b0, ?_, ?_⟩
  · rcases b6 with b6 | ⟨hlo, w, hw, b6⟩
    · exact Or.inl (b6.trans a5)
    · refine Or.inr ⟨by rw [a1]; exact hlo, w, by rw [a1]; exact hw, ?_⟩
      rw [b6, a5]
  · rcases a6 with a6 | ⟨hq, w, hw, a6⟩
    · exact Or.inl (b5.trans a6)
    · exact Or.inr ⟨hq, w, hw, b5.trans a6⟩

/-- `updatePrevotesPrecommits`: either nothing changes (the header implies no votes or its generator is not
an active validator), or `maxHeightGenerated < height` and every entry changes by `C01VoteDelta` with a prevote range
that starts at `(maxHeightGenerated+1) % 2^32` or above (the code's `max(…, minActiveHeight)` is weakened to that) -/
private theorem updateVotes_delta {s s' : State} (h : updateVotes s = .ok s') :
    s'.infos = s.infos ∨
    ∃ n rest, s.infos = n :: rest ∧ n.mhg < n.height ∧
      All2 (C01VoteDelta (getParams s) n.gen ((n.mhg + 1) % u32)) s.infos s'.infos := by
  rcases updateVotes_ok h with rfl | ⟨n, rest, vi, _, _, _, _, _, hs, hlt, h1, h2, rfl⟩
  · exact Or.inl rfl
  · refine Or.inr ⟨n, rest, hs, hlt, ?_⟩
    refine All2.imp ?_ (All2.comp (delta_comp (getParams s) n.gen _) (precommitLoop_delta _ _ _ _ _ _ _ h1)
      (prevoteLoop_delta _ _ _ _ _ h2))
    intro a b ⟨m, pv, pc⟩
    refine ⟨m, ?_, pc⟩
    rcases pv with pv | ⟨hlo, hw⟩
    · exact Or.inl pv
    · exact Or.inr ⟨Nat.le_trans (Nat.le_max_left _ _) hlo, hw⟩

/-- **the vote weight a single header adds** (`BFT.process` = `Module.BeforeTransactionsExecute`), for every
value of `maxHeightGenerated` / `maxHeightPrevoted` and every height below 2^32: per entry of the window at
most the BFT weight of the header's generator at that height; prevote weight only above the header's
`maxHeightGenerated` and only if `maxHeightGenerated < height`; precommit weight only on entries that
already carried a prevote quorum and only if `maxHeightGenerated < height`. -/
theorem C01_arith_vote_weight_per_header (s s' : State) (h : Header) (hh : h.height < 2 ^ 32)
    (hp : process s h = .ok s') :
    ∃ k, 3 * s.batchSize = k + 1 ∧
      All2 (fun a b => C01VoteDelta (getParams s) h.gen (h.mhg + 1) a b ∧
          ((b.prevoteWeight ≠ a.prevoteWeight ∨ b.precommitWeight ≠ a.precommitWeight) → h.mhg < h.height))
        (newInfo h :: s.infos.take k) s'.infos := by
  obtain ⟨k, s1, _, _, hk, hu, _, _, rfl⟩ := process_ok hp
  refine ⟨k, hk, ?_⟩
  rcases updateVotes_delta hu with hsame | ⟨n, rest, hs, hlt, hall⟩
  · rw [show s1.infos = _ from hsame]
    exact All2.refl (fun a => ⟨C01VoteDelta.refl _ _ _ a, fun hx => (hx.elim (· rfl) (· rfl)).elim⟩) _
  · cases hs
    have hlt' : h.mhg < h.height := hlt
    have hmod : ((newInfo h).mhg + 1) % u32 = h.mhg + 1 := Nat.mod_eq_of_lt (by simp only [u32, newInfo]; omega)
    rw [hmod] at hall
    exact All2.imp (fun a b hd => ⟨hd, fun _ => hlt'⟩) hall

/-- **a header claiming `maxHeightGenerated = 2^32-1` adds nothing**: for every height (a `uint32`), every
generator and every state the window after an accepted `processU32` is the old window with the new entry in
front, all weights untouched, and the vote infos of the validators are unchanged — however often such a header is
processed -/
theorem C01_arith_max_claim_adds_nothing (s s' : State) (h : Header) (hh : h.height < 2 ^ 32)
    (hm : h.mhg = 2 ^ 32 - 1) (hp : processU32 s h = .ok s') :
    s'.infos = insertInfo s h ∧ s'.active = s.active :=
  C02_arith_no_votes_for_every_value_u32 s s' h (by omega) hp

/-- non-vacuity of `C01_arith_vote_weight_per_header`: an honest header that does add weight (validator of
weight 2 alone, prevote threshold 2; the first block carries prevote weight 2 in the start state: the second block
prevotes itself and precommits the first) -/
example : (process
    { batchSize := 1, mhp := 0, mhpc := 0, mhc := 0,
      infos := [{ height := 1, gen := [0x10], mhg := 0, mhp := 0, prevoteWeight := 2 }],
      active := [{ address := [0x10], minActiveHeight := 1, largestHeightPrecommit := 0 }],
      params := [(1, { prevoteThreshold := 2, precommitThreshold := 2, certificateThreshold := 2,
                       validators := [{ address := [0x10], weight := 2 }] })] }
    { height := 2, gen := [0x10], mhg := 1, mhp := 1 }).toOption.map
      (fun s' => (s'.infos.map (·.prevoteWeight), s'.infos.map (·.precommitWeight))) =
    some ([2, 2], [0, 2]) := by decide +kernel
