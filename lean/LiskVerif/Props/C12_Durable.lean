/-
C12, clause "Commit WRITES exactly that final state and returns a diff whose reversal restores the previous database
contents" - and every read clause - on the database as it is STORED.

`Props/C12.lean` ff. prove the clauses for the database as a finite map (`DiffDB.Store`). The map is what a read
returns right after the write; what pebble keeps is, per key, a history of entries that memtable flushes and
compactions reduce piecewise, at points the engine does not control (`Model/KeyHistory.lean`,
`Model/KeyHistoryMaint.lean`: `mergeTop` for a flush / upper-level compaction of the newest entries of a key,
`compact` for a compaction to the bottom level; which keys and how many entries a step covers is arbitrary). A read
after a flush, a compaction or close / reopen sees the reduced history.

(i) With `Set` / plain `Delete` every maintenance step is invisible to reads (`C12_durable_maint_invisible`), so the
map-level theorems hold of the stored database for every history and every placement of maintenance steps.
(ii) With `Del` issuing a SingleDelete that is false (`C12_durable_single_delete_counterexample`). (iii) That the
code issues plain deletes, that `Commit` / `RevertDiff` only stage on the writer they are handed, and that a batch
reaches the database only through the synced `DB.Write` is read off the facts tools/wskelgen regenerates from
pkg/db and pkg/db/diffdb (`Gen/WriteSkeletons.lean`, `Gen/WriteSkeletonsFW.lean`).
Harness: C12DUR (harness/c12/durable.go) runs the C12 op sequences on a pebble with small memtables / on disk with
flush, compact and reopen at arbitrary points; the driver of the map model ignores them (Driver/DiffDBDur.lean).
-/
import LiskVerif.Model.KeyHistoryMaint
import LiskVerif.Lemmas.KeyHistory
import LiskVerif.Props.C12_Commit2
import LiskVerif.Gen.WriteSkeletons
import LiskVerif.Gen.WriteSkeletonsFW

open LiskVerif LiskVerif.KeyHistory

namespace C12.Durable

/-- the stored histories represent the map `s`: every key reads what the map holds -/
def Rep (h : Store) (s : DiffDB.Store) : Prop := ∀ k, readKey h k = DiffDB.slookup s k

theorem mergeTop_plain (n : Nat) (es : List Entry) (h : Plain es) :
    visible (mergeTop false n es) = visible es ∧ Plain (mergeTop false n es) := by
  cases n with
  | zero => cases es <;> exact ⟨rfl, h⟩
  | succ n =>
    cases es with
    | nil => exact ⟨rfl, h⟩
    | cons e rest =>
      cases e with
      | set _ | del =>
        refine ⟨rfl, ?_⟩
        intro x hx
        simp only [mergeTop] at hx
        rcases List.mem_cons.mp hx with rfl | hx
        · intro c; cases c
        · exact h x (List.mem_cons_of_mem _ (List.mem_of_mem_drop hx))
      | sdel => exact absurd rfl (h .sdel (by simp))

theorem maint_plain (m : Maint) (s : Store) (hp : AllPlain s) :
    (∀ k, readKey (m.apply s) k = readKey s k) ∧ AllPlain (m.apply s) := by
  cases m with
  | flush f =>
    exact ⟨fun k => (mergeTop_plain (f k) (s k) (hp k)).1, fun k => (mergeTop_plain (f k) (s k) (hp k)).2⟩
  | compact g =>
    refine ⟨fun k => ?_, fun k => ?_⟩
    · simp only [readKey, Maint.apply]
      split
      · exact (compact_plain (s k) (hp k)).1
      · rfl
    · simp only [Maint.apply]
      split
      · exact (compact_plain (s k) (hp k)).2
      · exact hp k

theorem runMaint_plain (ms : List Maint) : ∀ (s : Store), AllPlain s →
    (∀ k, readKey (runMaint s ms) k = readKey s k) ∧ AllPlain (runMaint s ms) := by
  induction ms with
  | nil => intro s hp; exact ⟨fun _ => rfl, hp⟩
  | cons m ms ih =>
    intro s hp
    have h1 := maint_plain m s hp
    have h2 := ih (m.apply s) h1.2
    exact ⟨fun k => (h2.1 k).trans (h1.1 k), h2.2⟩

theorem runMaint_rep (ms : List Maint) (h : Store) (s : DiffDB.Store) (hr : Rep h s) (hp : AllPlain h) :
    Rep (runMaint h ms) s ∧ AllPlain (runMaint h ms) :=
  ⟨fun k => ((runMaint_plain ms h hp).1 k).trans (hr k), (runMaint_plain ms h hp).2⟩

theorem push_rep {h : Store} {s s' : DiffDB.Store} (hr : Rep h s) (k : Bytes) (e : Entry)
    (hs' : ∀ k', DiffDB.slookup s' k' = if k = k' then visible [e] else DiffDB.slookup s k') :
    Rep (push k e h) s' := by
  intro k'
  rw [hs', readKey, push]
  by_cases hk : k' = k
  · rw [if_pos hk, if_pos hk.symm]; cases e <;> rfl
  · rw [if_neg hk, if_neg (Ne.symm hk)]; exact hr k'

theorem applyOp_rep (h : Store) (s : DiffDB.Store) (hr : Rep h s) (hp : AllPlain h) (o : DiffDB.BOp) :
    Rep (applyOpH false h o) (DiffDB.applyOp s o) ∧ AllPlain (applyOpH false h o) := by
  cases o with
  | set k v => exact ⟨push_rep hr k (.set v) (DiffDB.slookup_sset s k v), push_plain hp k Entry.noConfusion⟩
  | del k => exact ⟨push_rep hr k .del (DiffDB.slookup_sdel s k), push_plain hp k Entry.noConfusion⟩

theorem applyBatch_rep (b : DiffDB.Batch) (h : Store) (s : DiffDB.Store) (hr : Rep h s) (hp : AllPlain h) :
    Rep (applyBatchH false h b) (DiffDB.applyBatch s b) ∧ AllPlain (applyBatchH false h b) :=
  List.foldl_rel (r := fun (h : Store) (s : DiffDB.Store) => Rep h s ∧ AllPlain h) ⟨hr, hp⟩
    fun o _ h s hh => applyOp_rep h s hh.1 hh.2 o

theorem applyBatch_revertBatch (s : DiffDB.Store) (d : DiffDB.Diff) :
    DiffDB.applyBatch s (revertBatch d) = DiffDB.revertDiff s d := by
  simp only [DiffDB.applyBatch, revertBatch, DiffDB.revertDiff, List.foldl_append, List.foldl_map, DiffDB.applyOp]

theorem nodup_mapRun (devs : List DEv) : ∀ (s : DiffDB.Store), DiffDB.NoDupKeys s → DiffDB.NoDupKeys (mapRun s devs) := by
  induction devs with
  | nil => intro s h; exact h
  | cons e es ih =>
    intro s h
    cases e with
    | round ops =>
      apply ih
      apply DiffDB.nodup_commit
      rw [DiffDB.run_store]
      exact h
    | maint m => exact ih s h

end C12.Durable

open C12.Durable

/-! ### (i) storage maintenance is invisible, the map-level theorems lift -/

/-- one maintenance step - a flush / upper-level compaction of ANY number of newest entries of any keys, a
compaction of ANY key set to the bottom level - changes no read of a store written with `Set` / `Delete`, and
leaves such a store -/
theorem C12_durable_maint_invisible (m : Maint) (s : Store) (hp : ∀ k, Plain (s k)) (k : Bytes) :
    readKey (m.apply s) k = readKey s k ∧ Plain (m.apply s k) :=
  ⟨(maint_plain m s hp).1 k, (maint_plain m s hp).2 k⟩

/-- **every history, every placement of maintenance**: batches of `Set` / plain `Delete` over any keys, maintenance
steps of any extent anywhere in between - every read returns what the map with the batches applied in order holds -/
theorem C12_durable_history_refines (evs : List Ev) : ∀ (h : Store) (s : DiffDB.Store),
    (∀ k, readKey h k = DiffDB.slookup s k) → (∀ k, Plain (h k)) →
    (∀ k, readKey (runEv false h evs) k = DiffDB.slookup (mapEv s evs) k) ∧ ∀ k, Plain (runEv false h evs k) := by
  induction evs with
  | nil => intro h s hr hp; exact ⟨hr, hp⟩
  | cons e es ih =>
    intro h s hr hp
    cases e with
    | write b =>
      have h1 := applyBatch_rep b h s hr hp
      exact ih _ _ h1.1 h1.2
    | maint m =>
      have h1 := maint_plain m h hp
      exact ih _ s (fun k => (h1.1 k).trans (hr k)) h1.2

/-- **`C12_commit_exact` on the stored database**: maintenance `pre`, the batch of `Commit` written, maintenance
`post` - every key reads its effective (staged) value -/
theorem C12_durable_commit_exact (st : DiffDB.St) (hinv : C12Inv st) (phys : Store)
    (hr : ∀ k, readKey phys k = DiffDB.slookup st.store k) (hp : ∀ k, Plain (phys k)) (pre post : List Maint)
    (k : Bytes) :
    readKey (runMaint (applyBatchH false (runMaint phys pre) (DiffDB.commitKeep st).2.1) post) k = DiffDB.eff st k := by
  have h1 := runMaint_rep pre phys st.store hr hp
  have h2 := applyBatch_rep (DiffDB.commitKeep st).2.1 _ _ h1.1 h1.2
  have h3 := runMaint_rep post _ _ h2.1 h2.2
  rw [h3.1 k]
  exact C12_commit_batch_final_state st hinv k

/-- **`C12_revert_exact` on the stored database**: the batch of `Commit` written, later the batch of `RevertDiff`
with the returned diff written, maintenance before, between and after - every key reads what it read before the
commit, byte for byte -/
theorem C12_durable_revert_exact (st : DiffDB.St) (hinv : C12Inv st) (phys : Store)
    (hr : ∀ k, readKey phys k = DiffDB.slookup st.store k) (hp : ∀ k, Plain (phys k)) (m1 m2 m3 : List Maint)
    (k : Bytes) :
    readKey (runMaint (applyBatchH false (runMaint (applyBatchH false (runMaint phys m1)
      (DiffDB.commitKeep st).2.1) m2) (revertBatch (DiffDB.commitKeep st).2.2)) m3) k = DiffDB.slookup st.store k := by
  have h1 := runMaint_rep m1 phys st.store hr hp
  have h2 := applyBatch_rep (DiffDB.commitKeep st).2.1 _ _ h1.1 h1.2
  have h3 := runMaint_rep m2 _ _ h2.1 h2.2
  have h4 := applyBatch_rep (revertBatch (DiffDB.commitKeep st).2.2) _ _ h3.1 h3.2
  have h5 := runMaint_rep m3 _ _ h4.1 h4.2
  rw [h5.1 k, applyBatch_revertBatch]
  exact C12_commit_batch_revert_exact st hinv k

/-- **histories of commits**: any number of rounds (a fresh staged store over the database, any sequence of
set / del / get / range / iterate / snapshot / restore, `Commit`, the batch written) with maintenance steps anywhere in
between: the database of the map model is the one of `DiffDB.commit` applied round by round (maintenance does not
exist there), and at the end - hence at every point - every read of the stored database returns what that map holds -/
theorem C12_durable_commit_history (devs : List DEv) : ∀ (p : Dur),
    (∀ k, readKey p.phys k = DiffDB.slookup p.view k) → (∀ k, Plain (p.phys k)) →
    (durRun false p devs).view = mapRun p.view devs ∧
    (∀ k, readKey (durRun false p devs).phys k = DiffDB.slookup (mapRun p.view devs) k) ∧
    ∀ k, Plain ((durRun false p devs).phys k) := by
  induction devs with
  | nil => intro p hr hp; exact ⟨rfl, hr, hp⟩
  | cons e es ih =>
    intro p hr hp
    cases e with
    | round ops =>
      have h1 := applyBatch_rep (roundBatch p.view ops) p.phys p.view hr hp
      have hv : DiffDB.applyBatch p.view (roundBatch p.view ops)
          = (DiffDB.commit (DiffDB.run { store := p.view } ops)).1.store := by
        have := (C12_commit_batch_is_commit (DiffDB.run { store := p.view } ops)).1
        rw [DiffDB.run_store] at this
        exact this
      rw [hv] at h1
      have hs : durStep false p (.round ops) = ⟨applyBatchH false p.phys (roundBatch p.view ops),
          (DiffDB.commit (DiffDB.run { store := p.view } ops)).1.store⟩ := by
        simp only [durStep, hv]
      have h2 := ih ⟨applyBatchH false p.phys (roundBatch p.view ops),
          (DiffDB.commit (DiffDB.run { store := p.view } ops)).1.store⟩ h1.1 h1.2
      simp only [durRun, mapRun]
      rw [hs]
      exact h2
    | maint m =>
      have h1 := maint_plain m p.phys hp
      have h2 := ih (durStep false p (.maint m)) (fun k => (h1.1 k).trans (hr k)) h1.2
      simp only [durRun, mapRun]
      exact h2

/-- **the refinement theorem inside a history**: after any history of commits and maintenance, one more round and any
maintenance after its write: every key of the stored database reads its effective value in the staged store of that
round over the map-model database -/
theorem C12_durable_commit_exact_after_history (p : Dur) (hr : ∀ k, readKey p.phys k = DiffDB.slookup p.view k)
    (hp : ∀ k, Plain (p.phys k)) (hnd : DiffDB.NoDupKeys p.view) (devs : List DEv) (ops : List DiffDB.Op)
    (ms : List Maint) (k : Bytes) :
    readKey (runMaint (durRun false p (devs ++ [.round ops])).phys ms) k
      = DiffDB.eff (DiffDB.run { store := mapRun p.view devs } ops) k := by
  have hd : ∀ (l : List DEv) (q : Dur) (e : DEv), durRun false q (l ++ [e]) = durStep false (durRun false q l) e := by
    intro l
    induction l with
    | nil => intro q e; rfl
    | cons x l ih => intro q e; exact ih (durStep false q x) e
  have h0 := C12_durable_commit_history devs p hr hp
  rw [hd]
  generalize durRun false p devs = q at h0 ⊢
  obtain ⟨hv, hrq, hpq⟩ := h0
  have hnd' := nodup_mapRun devs p.view hnd
  rw [← hv] at hnd' hrq ⊢
  have hinv := C12_cache_invariant { store := q.view } (C12_inv_init q.view hnd') ops
  have hst : (DiffDB.run { store := q.view } ops).store = q.view := DiffDB.run_store _ ops
  have := C12_durable_commit_exact (DiffDB.run { store := q.view } ops) hinv q.phys (by rw [hst]; exact hrq) hpq [] ms k
  simpa [durStep, roundBatch, runMaint] using this

/-! ### (ii) with single-delete tombstones the lifted theorem is false -/

/-- three commits over an empty database: set K, update K, delete K - with `Del` issuing a SingleDelete. Right after
the third write every read is right (K is absent in the stored database as in the map model). After a memtable flush
that merges the three entries, or after a compaction, K is back with the value of the FIRST commit; with plain
deletes it stays absent. -/
theorem C12_durable_single_delete_counterexample :
    let k : Bytes := [7]
    let devs : List DEv := [.round [.set k [0xa1]], .round [.set k [0xa2]], .round [.del k]]
    let p : Dur := { phys := emptyStore, view := [] }
    readKey (durRun true p devs).phys k = none ∧ DiffDB.slookup (mapRun [] devs) k = none ∧
    readKey (durRun true p (devs ++ [.maint (.flush fun _ => 3)])).phys k = some [0xa1] ∧
    readKey (durRun true p (devs ++ [.maint (.compact fun _ => true)])).phys k = some [0xa1] ∧
    readKey (durRun false p (devs ++ [.maint (.flush fun _ => 3)])).phys k = none ∧
    readKey (durRun false p (devs ++ [.maint (.compact fun _ => true)])).phys k = none := by decide +kernel

/-- in general: a key written by two batches and single-deleted by a third reads absent until the entries are
merged - then the value of the first batch is back, whatever the store held before -/
theorem C12_durable_single_delete_resurrects (h : Store) (k a b : Bytes) :
    let h3 := applyBatchH true (applyBatchH true (applyBatchH true h [.set k a]) [.set k b]) [.del k]
    readKey h3 k = none ∧
    readKey ((Maint.flush fun _ => 3).apply h3) k = some a ∧
    readKey ((Maint.compact fun _ => true).apply h3) k = some a := by
  simp [applyBatchH, applyOpH, readKey, singleDeleteKey, putKey, Maint.apply, mergeTop, compact, compactAux, visible]

/-- the same three batches with plain deletes, for comparison (instance of `C12_durable_history_refines`) -/
theorem C12_durable_plain_delete_stays_deleted (h : Store) (hp : ∀ k, Plain (h k)) (k a b : Bytes) (ms : List Maint) :
    readKey (runMaint (applyBatchH false (applyBatchH false (applyBatchH false h [.set k a]) [.set k b]) [.del k]) ms) k
      = none := by
  have h1 : AllPlain (applyBatchH false (applyBatchH false (applyBatchH false h [.set k a]) [.set k b]) [.del k]) :=
    push_plain (push_plain (push_plain hp k (e := .set a) Entry.noConfusion) k (e := .set b) Entry.noConfusion)
      k (e := .del) Entry.noConfusion
  rw [(runMaint_plain ms _ h1).1 k]
  simp [applyBatchH, applyOpH, readKey, deleteKey, visible]

/-! ### (iii) tie to the source: regenerated facts of pkg/db and pkg/db/diffdb -/

namespace C12.Durable
open LiskVerif.Crash

/-- all leaves of a skeleton; a call that was not inlined counts as not understood -/
def acts : Stmt → List Act
  | .act a => [a]
  | .seq s t => acts s ++ acts t
  | .choice s t => acts s ++ acts t
  | .loop s => acts s
  | .scope s => acts s
  | .call f _ => [.unknown ("call " ++ f)]
  | .tryCall c a b => acts c ++ acts a ++ acts b
  | _ => []

/-- the function does nothing to a database but `Set` / `Del` on the writer `b` -/
def onlyStages (b : String) (s : Stmt) : Bool :=
  (acts s).all fun a => a == .batchSet b || a == .batchDel b

/-- `onlyStages` above compares with the `BEq` that `DecidableEq Act` gives; this instance is the same
test, and it is the one `contains` resolves to in `C12_durable_commit_only_stages` -/
instance : BEq Act := ⟨fun a b => decide (a = b)⟩

end C12.Durable

/-- `db.Batch.Del` issues a plain (history-erasing) `pebble.Batch.Delete`, `db.Batch.Set` a `Set`; `db.DB.Del` /
`db.DB.Set` the synced `Delete` / `Set` of the pebble handle - in both regenerated copies of the facts (`Gen.WS`,
`Gen.WSFW`; the Go sources are pkg/db/batch.go and pkg/db/db.go) -/
theorem C12_durable_del_is_plain_delete :
    Gen.WS.batchMethods.lookup "Del" = some ["Delete"] ∧ Gen.WS.batchMethods.lookup "Set" = some ["Set"] ∧
    Gen.WS.dbWriteMethods.lookup "Del" = some "Delete:pebble.Sync" ∧
    Gen.WS.dbWriteMethods.lookup "Set" = some "Set:pebble.Sync" ∧
    Gen.WSFW.batchMethods = Gen.WS.batchMethods ∧ Gen.WSFW.dbWriteMethods = Gen.WS.dbWriteMethods := by decide +kernel

/-- every pebble call a method of `db.Batch` issues appends a history-erasing entry (`Set` / `Delete`; no
`SingleDelete`, `DeleteRange`, `Merge`), the batch type has no other methods, and the mutating methods of `db.DB`
are exactly `Del`, `DropAll`, `Set`, `Write`, none of them a `SingleDelete` / `Merge` -/
theorem C12_durable_write_calls_erase_history :
    Gen.WS.batchMethods.all (fun m => m.2.all plainCall) = true ∧
    Gen.WS.batchMethods.map (·.1) = ["Del", "Set"] ∧
    Gen.WS.dbWriteMethods.map (·.1) = ["Del", "DropAll", "Set", "Write"] ∧
    Gen.WS.dbWriteMethods.all (fun m => m.2 ∈ ["Delete:pebble.Sync", "Set:pebble.Sync", "Apply:pebble.Sync",
      "DeleteRange:pebble.NoSync"]) = true := by decide +kernel

/-- `Database.Commit` (with `cacheDB.commit` inlined) and `Database.RevertDiff` do nothing to a database but `Set` /
`Del` calls on the writer they are handed - in the skeletons regenerated for the engine (C13) and for the application
side (C16) -/
theorem C12_durable_commit_only_stages :
    onlyStages "batch" (Crash.inlineN Gen.WSFW.fns 2 Gen.WSFW.diffdb_Database_Commit) = true ∧
    onlyStages "batch" (Crash.inlineN Gen.WSFW.fns 2 Gen.WSFW.diffdb_Database_RevertDiff) = true ∧
    onlyStages "writer" Gen.WSFW.diffdb_cacheDB_commit = true ∧
    onlyStages "batch" (Crash.inlineN Gen.WS.fns 2 Gen.WS.Database_Commit) = true ∧
    onlyStages "batch" (Crash.inlineN Gen.WS.fns 2 Gen.WS.Database_RevertDiff) = true ∧
    (acts (Crash.inlineN Gen.WSFW.fns 2 Gen.WSFW.diffdb_Database_Commit)).contains (.batchDel "batch") = true ∧
    (acts (Crash.inlineN Gen.WSFW.fns 2 Gen.WSFW.diffdb_Database_RevertDiff)).contains (.batchDel "batch") = true := by
  decide +kernel

/-- a batch reaches the database only through `DB.Write`, which is `pebble.Apply(batch, pebble.Sync)`: the batch of
`Commit` / `RevertDiff` is applied synced (the methods of `db.Batch` only stage, see above) -/
theorem C12_durable_batch_applied_with_sync :
    Gen.WS.dbWriteMethods = [("Del", "Delete:pebble.Sync"), ("DropAll", "DeleteRange:pebble.NoSync"),
      ("Set", "Set:pebble.Sync"), ("Write", "Apply:pebble.Sync")] ∧
    Gen.WS.dbWriteMethods.lookup "Write" = some "Apply:pebble.Sync" := by decide +kernel

/-- the entries these calls append (`Model/KeyHistory.entryOfCall`): what `applyOpH false` models is what the code issues -/
theorem C12_durable_entries_of_code (v : Bytes) :
    (Gen.WS.batchMethods.lookup "Del").map (fun cs => cs.map (entryOfCall · v)) = some [some .del] ∧
    (Gen.WS.batchMethods.lookup "Set").map (fun cs => cs.map (entryOfCall · v)) = some [some (.set v)] := by
  refine ⟨?_, ?_⟩ <;> rfl

/-! ### non-vacuity -/

/-- a history with updates, a delete, a re-creation and maintenance at several points, evaluated: the stored database
reads like the map at the end, and the reads are not trivial -/
example :
    let k : Bytes := [7]
    let devs : List DEv := [.round [.set k [1], .set [8] [9]], .maint (.flush fun _ => 1), .round [.set k [2]],
      .round [.del k], .maint (.compact fun x => x == k), .round [.set k [3]], .maint (.flush fun _ => 2)]
    let p : Dur := { phys := emptyStore, view := [] }
    readKey (durRun false p devs).phys k = some [3] ∧ DiffDB.slookup (mapRun [] devs) k = some [3] ∧
    readKey (durRun false p devs).phys [8] = some [9] ∧
    readKey (durRun false p (devs.take 5)).phys k = none := by decide +kernel

example : Gen.WS.batchMethods.lookup "Del" ≠ some ["SingleDelete"] := by decide +kernel
