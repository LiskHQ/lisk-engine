/-
C19 (method) — which synchroniser `Syncer.Sync` runs, and the first request of the fast synchroniser.

The choice depends on the received height and the own tip only through their absolute difference: a block below the own
tip (a better but shorter chain) is treated like one above it.  The difference, the two / three rounds and the
comparisons of `shouldFastSync` / `shouldSync` are regenerated from the Go source by tools/fngen with exact `uint32` /
`int` semantics (`int(math.Abs(float64(a) - float64(b)))` as the exact |a-b|) and proved equal to the model's
`chooseMode` / `shouldSync` for all `uint32` heights; a difference computed in `uint32` would wrap for a block below the
tip (catches seeded/C19-7).  `Syncer.Sync` as a whole ends on the honest peer's chain when the received block is within
two rounds above, at or below the own tip.  The one case in which an honest better chain is legitimately not followed:
the block is farther away (or its generator not active) while the finalized block is at most three rounds old.

`fastCommon`, the first request of `fastSync`, offers the ids of the last `2n-1` own heights whatever the finalized height
is; the honest peer names the fork point whenever it is among them, also when it IS the finalized block (catches
seeded/C19-8, which dropped the finalized height from the offered ids).
-/
import LiskVerif.Props.C19_Geometry
import LiskVerif.Lemmas.GenInt

open LiskVerif LiskVerif.Sync

set_option linter.unusedSectionVars false

/-! ## Tie of the arithmetic to the Go source -/

/-- **`shouldSync`, regenerated = model** for slot numbers within ±2^32 (slots are
`(uint32 time - genesis) / blockTime`) and validator counts `< 2^61`. -/
theorem C19_gen_should_sync_eq (n : Nat) (cur fin : Int) (hn : n < 2305843009213693952)
    (hc : -4294967296 ≤ cur ∧ cur ≤ 4294967296) (hf : -4294967296 ≤ fin ∧ fin ≤ 4294967296) :
    Gen.shouldSyncStale cur fin (Gen.shouldSyncThreeRounds (n : Int)) = shouldSync n cur fin := by
  have h3 : Gen.shouldSyncThreeRounds (n : Int) = 3 * (n : Int) := by
    unfold Gen.shouldSyncThreeRounds
    rw [Gen.i64_eq (by omega) (by omega)]; omega
  unfold Gen.shouldSyncStale shouldSync
  rw [h3, Gen.i64_eq (by omega) (by omega)]

/-! ## The choice -/

/-- **Sign symmetry.**  The choice depends on the received height and the own tip height only through
their absolute difference: a block `d` below the tip is treated like a block `d` above it. -/
theorem C19_mode_symmetric (n a b : Nat) (genIn stale : Bool) :
    chooseMode n a b genIn stale = chooseMode n b a genIn stale := by
  unfold chooseMode
  by_cases h1 : b ≥ a <;> by_cases h2 : a ≥ b <;> simp only [h1, h2, if_true, if_false]
  · have : a = b := by omega
    subst this; rfl
  · omega

/-- **What `Syncer.Sync` runs, every case.**  With `d = |blockH - tipH|`:
fast sync iff `d ≤ 2n` and the generator is active; otherwise block sync iff the finalized block is
stale; otherwise nothing — the one situation in which the protocol does not follow a better chain
(it waits for further blocks). -/
theorem C19_mode_cases (n tipH blockH : Nat) (genIn stale : Bool) :
    (chooseMode n tipH blockH genIn stale = .fast ↔
      (Int.natAbs ((blockH : Int) - (tipH : Int)) ≤ 2 * n ∧ genIn = true)) ∧
    (chooseMode n tipH blockH genIn stale = .block ↔
      (¬ (Int.natAbs ((blockH : Int) - (tipH : Int)) ≤ 2 * n ∧ genIn = true) ∧ stale = true)) ∧
    (chooseMode n tipH blockH genIn stale = .none ↔
      (¬ (Int.natAbs ((blockH : Int) - (tipH : Int)) ≤ 2 * n ∧ genIn = true) ∧ stale = false)) := by
  have hd : (if blockH ≥ tipH then blockH - tipH else tipH - blockH) = Int.natAbs ((blockH : Int) - (tipH : Int)) := by
    split <;> omega
  unfold chooseMode
  simp only [hd]
  by_cases h : Int.natAbs ((blockH : Int) - (tipH : Int)) ≤ 2 * n ∧ genIn = true
  · simp [h]
  · cases stale <;> simp [h]

/-- **`shouldFastSync`, regenerated = model, for all `uint32` heights.**  With the regenerated
difference, two-rounds value and comparison (Go `uint32` / `int` semantics), for every received height,
own tip height (`< 2^32`) and validator count (`< 2^62`): the function answers `true` exactly when the
model chooses the fast synchroniser. -/
theorem C19_gen_should_fast_sync_eq (blockH tipH n : Nat) (genIn stale : Bool)
    (hb : blockH < 4294967296) (ht : tipH < 4294967296) (hn : n < 4611686018427387904) :
    (!(Gen.shouldFastSyncTooFar (Gen.shouldFastSyncDiff blockH tipH) (Gen.shouldFastSyncTwoRounds (n : Int))) && genIn)
      = decide (chooseMode n tipH blockH genIn stale = .fast) := by
  have h2 : Gen.shouldFastSyncTwoRounds (n : Int) = 2 * (n : Int) := by
    unfold Gen.shouldFastSyncTwoRounds
    rw [Gen.i64_eq (by omega) (by omega)]; omega
  rw [Gen.shouldFastSyncTooFar, Gen.shouldFastSyncDiff, h2, Bool.eq_iff_iff]
  simp only [Bool.and_eq_true, Bool.not_eq_true', decide_eq_false_iff_not, decide_eq_true_eq,
    (C19_mode_cases n tipH blockH genIn stale).1, Int.ofNat_eq_natCast]
  constructor <;> rintro ⟨h, g⟩ <;> exact ⟨by omega, g⟩

/-- non-vacuity / the C19-7 situation: own tip 10, received block 9, 5 validators, finalized block recent -/
example : chooseMode 5 10 9 true false = .fast := by decide
example : Gen.shouldFastSyncDiff 9 10 = 1 := by decide
example : chooseMode 5 30 9 true false = .none ∧ chooseMode 5 30 9 true true = .block := by decide

/-! ## The first request of fast sync -/

section FastCommon
variable {ι : Type} [DecidableEq ι]

/-- **`fastSync` starts with `fastCommon`.**  A failed request / no common block / an unknown block end
`fastSync` with that error and the original chain (the peer is banned exactly for "no common block");
a common block below the finalized height is refused and the peer banned. -/
theorem C19_fast_sync_starts_with_fast_common (applies : List (Blk ι) → Blk ι → Bool)
    (finAfter : List (Blk ι) → Nat) (n fin : Nat) (q : List (Blk ι)) (target : Blk ι) (peer : Peer ι) :
    (∀ e, fastCommon n q peer = .error e →
      fastSync applies finAfter n fin q target peer = ⟨q, [], decide (e = .noCommon), some e⟩) ∧
    (∀ ch, fastCommon n q peer = .ok ch → ch < fin →
      fastSync applies finAfter n fin q target peer = ⟨q, [], true, some .belowFinalized⟩) := by
  unfold fastCommon fastSync
  dsimp only
  cases peer.common (idsAt q (getLastHeights (q.length - 1) (2 * n))) with
  | none => exact ⟨fun e he => by cases he; rfl, fun _ => nofun⟩
  | some o =>
    cases o with
    | none => exact ⟨fun e he => by cases he; rfl, fun _ => nofun⟩
    | some cid =>
      dsimp only
      cases heightOf q cid with
      | none => exact ⟨fun e he => by cases he; rfl, fun _ => nofun⟩
      | some ch => exact ⟨fun _ => nofun, fun ch' h hlt => by cases h; exact if_pos hlt⟩

/-- **The honest peer names the fork point — wherever the finalized block is.**  Requester on
`init ++ last :: qOwn`, honest peer on `init ++ last :: pOwn` (`last` is the fork point: unique ids, no
block of `qOwn` on the peer's chain).  When the fork point is among the last `2n-1` blocks of the own
chain (`qOwn.length ≤ 2n-2`) the request returns its height.  The statement does not mention the
finalized height: the ids offered are those of the last `2n-1` heights whether the finalized block is
the fork point itself, above it, below it or the tip. -/
theorem C19_fast_common_fork_point (n mhp : Nat) (init : List (Blk ι)) (last : Blk ι) (qOwn pOwn : List (Blk ι))
    (hndp : ((init ++ last :: pOwn).map (·.id)).Nodup)
    (hndq : ((init ++ last :: qOwn).map (·.id)).Nodup)
    (hdisj : ∀ y ∈ qOwn, ∀ x ∈ init ++ last :: pOwn, x.id ≠ y.id)
    (hn : 1 ≤ n) (hwq : qOwn.length ≤ 2 * n - 2)
    (hbq : init.length + 1 + qOwn.length ≤ two32) (hbn : 2 * n ≤ two32) :
    fastCommon n (init ++ last :: qOwn) (honest (init ++ last :: pOwn) mhp) = .ok init.length := by
  have hch : heightOf (init ++ last :: qOwn) last.id = some init.length :=
    heightOf_split init last qOwn (fun x hx => nodup_split_ne init (last :: qOwn) hndq x hx last List.mem_cons_self)
  unfold fastCommon
  rw [honest_common_fork_point n mhp init last qOwn pOwn hndp hdisj hn hwq hbq hbn]
  dsimp only
  rw [hch]

end FastCommon

/-- non-vacuity: requester `g b1 q2`, finalized height 1 = the fork point `b1`; two validators -/
example : (match fastCommon 2 [C19g, C19b1, C19q2] (honest [C19g, C19b1, C19b2, C19b3] 1) with
    | .ok ch => ch == 1 | .error _ => false) = true := by decide
/-- the own tip is the fork point (and could be the finalized block): one id is offered, it is common -/
example : (match fastCommon 1 [C19g, C19b1] (honest [C19g, C19b1, C19b2, C19b3] 1) with
    | .ok ch => ch == 1 | .error _ => false) = true := by decide

/-! ## `Syncer.Sync` as a whole, received block above, at or below the own tip -/

section Top
variable {ι : Type} [DecidableEq ι]

/-- **`Syncer.Sync` converges for every sign of the height difference.**  In the situation of
`C19_fast_sync_peer_tip_above_target` (fork point not below the finalized block — possibly AT it —,
own part of at most `2n-2` blocks, the peer's part up to the received block `e` of at most `2n` blocks,
generator of `e` active) `Syncer.Sync` chooses the fast synchroniser and ends on exactly the peer's
chain up to `e` — whether `e` is above, at or BELOW the own tip (`s.length + 1` may be smaller than
`qOwn.length`: the better chain is the shorter one) and whether or not the finalized block is old. -/
theorem C19_sync_top_converges_any_sign (applies : List (Blk ι) → Blk ι → Bool)
    (finAfter : List (Blk ι) → Nat) (n fin mhp myMhp targetMhp : Nat) (stale : Bool)
    (init : List (Blk ι)) (last : Blk ι) (qOwn s : List (Blk ι)) (e : Blk ι) (rest : List (Blk ι))
    (hndp : ((init ++ last :: (s ++ e :: rest)).map (·.id)).Nodup)
    (hndq : ((init ++ last :: qOwn).map (·.id)).Nodup)
    (hdisj : ∀ y ∈ qOwn, ∀ x ∈ init ++ last :: (s ++ e :: rest), x.id ≠ y.id)
    (hheight : last.height = init.length)
    (hlinked : Linked last.id last.height (s ++ e :: rest))
    (hok : ∀ b ∈ s ++ [e], b.ok = true)
    (hvalid : ValidChain applies (init ++ last :: (s ++ [e])))
    (hfin : fin ≤ init.length)
    (hn : 1 ≤ n) (hwq : qOwn.length ≤ 2 * n - 2) (hwp : s.length + 1 ≤ 2 * n)
    (hbq : init.length + 1 + qOwn.length ≤ two32) (hbp : init.length + 1 + s.length + 1 ≤ two32)
    (hbn : 2 * n ≤ two32) :
    syncTop applies finAfter n fin myMhp (init ++ last :: qOwn) e targetMhp true stale
        (honest (init ++ last :: (s ++ e :: rest)) mhp)
      = ⟨init ++ last :: (s ++ [e]), [], false, none⟩ := by
  have heh := linked_end_height _ _ s e rest hlinked
  have hmode : chooseMode n ((init ++ last :: qOwn).length - 1) e.height true stale = .fast := by
    rw [(C19_mode_cases n _ _ true stale).1, heh, hheight, List.length_append, List.length_cons]
    exact ⟨by omega, rfl⟩
  unfold syncTop
  rw [hok e (by simp), if_neg (by decide), hmode]
  exact C19_fast_sync_peer_tip_above_target applies finAfter n fin mhp init last qOwn s e rest hndp hndq hdisj
    hheight hlinked hok hvalid hfin hn hwq hwp hbq hbp hbn

end Top

/-- non-vacuity: own chain `g b1 q2` (tip 2), the peer announced `b2` (height 2, AT the own tip); in the second example
the own chain has one block more, so the announced block is BELOW the own tip -/
example : C19outcome (syncTop C19applies (fun _ => 0) 2 0 0 [C19g, C19b1, C19q2] C19b2 1 true false
      (honest [C19g, C19b1, C19b2, C19b3] 1))
    = ([C19g, C19b1, C19b2], [], false, none) := by decide
example : C19outcome (syncTop C19applies (fun _ => 0) 2 0 0
      [C19g, C19b1, C19q2, { id := 13, prev := 12, height := 3 }] C19b2 1 true false
      (honest [C19g, C19b1, C19b2, C19b3] 1))
    = ([C19g, C19b1, C19b2], [], false, none) := by decide
