/-
C18 — the WINDOW semantics of the rate limiter over many windows.

"Request rates above the limit lead to penalties; well-formed traffic within the limits never does."
The limit is per rate-limiting window. In the model (`Model/RateLimit.lean`) the window boundary is the
event `Ev.tick` (one pass of the reset in `rateLimiterHandler`); `Props/C18_Rate.lean` proves
`C18_legal_traffic_never_penalised` for every event list in which each (procedure, peer) stays within the
limit BETWEEN TWO TICKS. That theorem says nothing unless the real handler goroutine does produce a tick
at every window boundary — for ever, not only once. This file states that obligation:

  (a) the model side, for ANY number of windows: traffic given as a list of windows, each within the limit
      when counted from zero, with one tick between consecutive windows, is never penalised
      (`C18_window_many_windows_never_penalised`, `C18_window_legal_concat`), e.g. exactly `limit`
      messages per window for k windows (`C18_window_limit_per_window_never_penalised`);
  (b) why the tick has to RECUR: the same traffic with the ticks after the first one missing (a handler
      whose timer fires once and is not re-armed) is penalised although no window holds more than `limit`
      messages (`C18_window_missing_tick_penalises_legal_traffic`), and with all ticks it is not
      (`C18_window_with_ticks_not_penalised`);
  (c) what the REGENERATED skeleton of `rateLimiterHandler` (tools/skelgen, Gen/SkeletonsP2P.lean) can
      express about it: the handler is one endless loop around a `select`; the branch taken on the
      timer channel writes the counter maps (directly or through a called function of the package) and
      does not leave the loop; the only way out of the loop is the branch on `ctx.Done()`
      (`C18_window_reset_inside_endless_loop`), so a `return` / `break` after the first reset, or a reset
      moved out of the loop, is reported here.

NOT expressible on the skeleton: that the timer channel fires again. skelgen drops calls into other
packages (`time.NewTicker`, `time.NewTimer`, `(*time.Timer).Reset`, `time.After`), and `Locks.Act` has
no action for creating / re-arming a timer; `recv "t.C"` is just a receive that may block. A handler
built on `time.NewTimer` without `t.Reset` on the tick path has the same skeleton as the correct one.
Left out here, therefore: "the timer is re-armed on every path of the loop body".  That part of the obligation is
discharged on the real goroutine by the model-free pseudo-property C18WIN
(harness/c18/window.go), which runs `rateLimiterHandler` over many windows on the wall clock.
-/
import LiskVerif.Props.C18_Rate
import LiskVerif.Gen.SkeletonsP2P

open LiskVerif LiskVerif.ConnGater LiskVerif.RateLimit

/-! ## (a) any number of windows -/

/-- the traffic of consecutive windows, the handler's tick between two windows -/
def C18windows : List (List Ev) → List Ev
  | [] => []
  | w :: r => w ++ (match r with | [] => [] | _ :: _ => Ev.tick :: C18windows r)

private theorem C18Legal_tick (lim : String → Option Int) (c : C18Cnt) (r : List Ev) :
    C18Legal lim c (.tick :: r) = C18Legal lim (fun _ _ => 0) r := rfl

/-- a window that is within the limits, followed by a tick and traffic that is legal from zero counts -/
theorem C18_window_legal_concat (lim : String → Option Int) (w rest : List Ev) (c : C18Cnt)
    (hw : C18Legal lim c w) (hr : C18Legal lim (fun _ _ => 0) rest) :
    C18Legal lim c (w ++ Ev.tick :: rest) := by
  induction w generalizing c with
  | nil => exact hr
  | cons ev w ih =>
    cases ev with
    | tick =>
      have hw' : C18Legal lim (fun _ _ => 0) w := hw
      exact ih (fun _ _ => 0) hw'
    | msg now isReq remote pid k =>
      cases k with
      | malformed => exact absurd hw (by intro h; exact h)
      | proc name =>
        have hw' : (∃ L, lim name = some L ∧ ((c name pid + 1 : Nat) : Int) ≤ L) ∧
            C18Legal lim (C18inc c name pid) w := hw
        exact ⟨hw'.1, ih (C18inc c name pid) hw'.2⟩

/-- every window within the limits (counted from zero) ⇒ the whole traffic is legal -/
theorem C18_window_all_legal (lim : String → Option Int) (ws : List (List Ev))
    (h : ∀ w ∈ ws, C18Legal lim (fun _ _ => 0) w) :
    C18Legal lim (fun _ _ => 0) (C18windows ws) := by
  induction ws with
  | nil => exact True.intro
  | cons w r ih =>
    cases r with
    | nil =>
      have : C18windows [w] = w := by simp [C18windows]
      rw [this]
      exact h w List.mem_cons_self
    | cons w' r' =>
      have hrest := ih (fun x hx => h x (List.mem_cons_of_mem _ hx))
      have : C18windows (w :: w' :: r') = w ++ Ev.tick :: C18windows (w' :: r') := by
        simp [C18windows]
      rw [this]
      exact C18_window_legal_concat lim w _ _ (h w List.mem_cons_self) hrest

/-- **Traffic within the limit in every window is never penalised, however many windows it lasts.**
From a node at the start of a window, any list of windows each of which stays within every
(procedure, peer) limit, separated by the handler's ticks, leaves the gater untouched, closes no
connection and every request reaches its handler. -/
theorem C18_window_many_windows_never_penalised (n : Node) (hmp : n.mpStarted = true)
    (hz : ∀ name pid, count n name pid = 0) (ws : List (List Ev))
    (h : ∀ w ∈ ws, C18Legal (C18limitOf n) (fun _ _ => 0) w) :
    (runEv n (C18windows ws)).g = n.g ∧ (runEv n (C18windows ws)).conns = n.conns ∧
      (runEv n (C18windows ws)).closed = n.closed ∧
      (runEv n (C18windows ws)).handled = n.handled + C18requests (C18windows ws) :=
  C18_legal_traffic_never_penalised n hmp hz (C18windows ws) (C18_window_all_legal _ ws h)

/-- the same window repeated `k` times (e.g. exactly `limit` messages per window) -/
theorem C18_window_limit_per_window_never_penalised (n : Node) (hmp : n.mpStarted = true)
    (hz : ∀ name pid, count n name pid = 0) (w : List Ev)
    (hw : C18Legal (C18limitOf n) (fun _ _ => 0) w) (k : Nat) :
    (runEv n (C18windows (List.replicate k w))).g = n.g := by
  refine (C18_window_many_windows_never_penalised n hmp hz (List.replicate k w) ?_).1
  intro x hx
  rw [List.eq_of_mem_replicate hx]
  exact hw

/-! ## (b) the tick has to recur -/

/-- two requests of peer 0 for the procedure of `C18exampleNode` (limit 2, penalty 50) -/
def C18fullWindow : List Ev :=
  [.msg 1 true ⟨some [1, 2, 3, 4], none⟩ 0 (.proc "blk"), .msg 1 true ⟨some [1, 2, 3, 4], none⟩ 0 (.proc "blk")]

example : C18Legal (C18limitOf C18exampleNode) (fun _ _ => 0) C18fullWindow :=
  ⟨⟨2, by decide, by decide⟩, ⟨2, by decide, by decide⟩, trivial⟩

/-- four windows with exactly `limit` messages each and a tick at every boundary: no score -/
theorem C18_window_with_ticks_not_penalised :
    (runEv C18exampleNode (C18windows [C18fullWindow, C18fullWindow, C18fullWindow, C18fullWindow])).g.peerScore = [] := by
  decide

/-- the same four windows when the handler ticks once and never again (a one-shot timer that is not
re-armed): the first message of the third window and the second of the fourth are penalised (2 x 50: the
IP is banned), although no window holds more than `limit` messages -/
theorem C18_window_missing_tick_penalises_legal_traffic :
    (runEv C18exampleNode (C18fullWindow ++ Ev.tick :: (C18fullWindow ++ C18fullWindow ++ C18fullWindow))).g.peerScore
      = [([1, 2, 3, 4], ⟨100, 11⟩)] := by
  decide

/-! ## (c) the regenerated skeleton of `rateLimiterHandler` -/

namespace C18Win
open LiskVerif.Locks

def counters : String := "rpcMessageCounter.counters"
def done : String := "ctx.Done()"

/-- some action of the list (calls of package functions inlined through the table, `fuel` deep)
satisfies `p`; running out of fuel answers `false` -/
def anyAct (tbl : Table) (p : Act → Bool) : Nat → List Act → Bool
  | 0, _ => false
  | _, [] => false
  | n + 1, a :: r =>
    p a ||
    (match a with
      | .call f => (match tbl.find f with | some b => anyAct tbl p n b | none => false)
      | .go b => anyAct tbl p n b
      | .loop b => anyAct tbl p n b
      | .choice alts => alts.any (fun alt => anyAct tbl p n alt)
      | _ => false) ||
    anyAct tbl p n r

/-- no action of the list (calls inlined) satisfies `p`; running out of fuel, an unresolved call or an
`unknown` construct answer `false` -/
def noAct (tbl : Table) (p : Act → Bool) : Nat → List Act → Bool
  | 0, _ => false
  | _, [] => true
  | n + 1, a :: r =>
    !p a &&
    (match a with
      | .call f => (match tbl.find f with | some b => noAct tbl p n b | none => false)
      | .go b => noAct tbl p n b
      | .loop b => noAct tbl p n b
      | .choice alts => alts.all (fun alt => noAct tbl p n alt)
      | .unknown _ => false
      | _ => true) &&
    noAct tbl p n r

def isRet : Act → Bool
  | .ret => true
  | _ => false

def writesCounters : Act → Bool
  | .write x => x == counters
  | .del x => x == counters
  | _ => false

/-- the branch waits on a channel other than `ctx.Done()` (the timer / ticker channel) -/
def timerBranch : List Act → Bool
  | .recv ch :: _ => ch != done
  | _ => false

def doneBranch : List Act → Bool
  | .recv ch :: _ => ch == done
  | _ => false

/-- the handler is one endless loop around a select; a timer branch resets the counters and stays in
the loop; only the `ctx.Done()` branch may leave -/
def windowShape (tbl : Table) (s : Skel) : Bool :=
  match s with
  | [.loop [.choice alts]] =>
    alts.any (fun alt => timerBranch alt && anyAct tbl writesCounters 40 alt && noAct tbl isRet 40 alt) &&
    alts.all (fun alt => doneBranch alt || noAct tbl isRet 40 alt)
  | _ => false

end C18Win

/-- **(c)** on the skeleton regenerated from pkg/p2p/ratelimit.go -/
theorem C18_window_reset_inside_endless_loop :
    C18Win.windowShape Gen.SkeletonsP2P.table Gen.SkeletonsP2P.rateLimiterHandler = true := by
  decide

open LiskVerif.Locks in
/-- the obligation is not vacuous: a handler that returns after its first reset, and one that resets
before entering the loop, are rejected; one that resets inside the loop through a call of a helper is accepted -/
theorem C18_window_shape_rejects_single_pass :
    C18Win.windowShape [] [.loop [.choice [[.recv "t.C", .lock "m", .write C18Win.counters, .unlock "m", .ret],
        [.recv "ctx.Done()", .ret]]]] = false ∧
    C18Win.windowShape [] [.recv "t.C", .write C18Win.counters,
        .loop [.choice [[.recv "ctx.Done()", .ret]]]] = false ∧
    C18Win.windowShape [("reset", [.lock "m", .write C18Win.counters, .unlock "m"])]
        [.loop [.choice [[.recv "t.C", .call "reset"], [.recv "ctx.Done()", .ret]]]] = true := by
  decide
