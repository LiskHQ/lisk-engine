/-
C10 — Sparse Merkle trie: the root commits to exactly the map; proofs are sound and complete.

Specification: `LiskVerif.SMT` (Model/SMTSpec.lean) — the LIP-0039 root as pkg/trie/smt computes it
(prefixes 0x00 / 0x01, `emptyHash = H ""`, keys read MSB first).  `trie.Update` is tied to `SMT.mapRoot`,
`Prove` / `Verify` to Model/SMTVerify.lean by the correspondence harness (harness/c10).  The hash function is
a parameter; soundness assumes outputs of one fixed length and no collision between the finitely many inputs hashed by
the verifier and those hashed for the tree (`NoColl`; injectivity is the corollary `C10_verify_sound_injective`).
-/
import LiskVerif.Lemmas.SMT

open LiskVerif LiskVerif.SMT

/-! ### the root is a function of the map -/

/-- the empty map has the empty hash as root (`H ""`, i.e. SHA-256 of the empty string in the engine) -/
theorem C10_empty_root (H : HashFn) (keyLen : Nat) : mapRoot H keyLen (finalMap []) = H [] := by
  simp [mapRoot, finalMap, entriesOf, emptyHash]

/-- what a history of update batches leaves in the map: a batch sets each of its keys to the value of the
key's FIRST occurrence in the batch (`trie.Update` drops later duplicates), an empty value deletes. -/
theorem C10_batch_lookup (m : List KV) (b : List KV) (k : Bytes) :
    mget (applyBatch m b) k =
      match mget b k with
      | none => mget m k
      | some v => if v = [] then none else some v :=
  mget_applyBatch m b k

/-- **History independence of the specification**: two histories of update batches (any order, any batching,
overwrites, deletions, delete-then-reinsert, duplicate keys inside a batch) that leave the same key→value
map have the same root. -/
theorem C10_root_function_of_map (H : HashFn) (keyLen : Nat) (h₁ h₂ : List (List KV))
    (hsame : ∀ k, mget (finalMap h₁) k = mget (finalMap h₂) k) :
    mapRoot H keyLen (finalMap h₁) = mapRoot H keyLen (finalMap h₂) :=
  mapRoot_perm H keyLen (perm_of_mget_eq (nodupKeys_finalMap h₁) (nodupKeys_finalMap h₂) hsame)

/-- the same for any two listings of one map: only the set of pairs matters -/
theorem C10_root_order_independent (H : HashFn) (keyLen : Nat) (m₁ m₂ : List KV) (h : m₁.Perm m₂) :
    mapRoot H keyLen m₁ = mapRoot H keyLen m₂ := mapRoot_perm H keyLen h

/-! ### the incremental algorithm computes the declarative root -/

/-- **LIP-0039 one-key-at-a-time update = declarative root**: starting from the empty tree, inserting /
overwriting / deleting one key at a time (a leaf in the way is pushed down, a lone leaf is lifted after a
deletion) yields, for EVERY operation sequence, the canonical tree of the resulting map — hence its hash
is `mapRoot` of the resulting map. -/
theorem C10_incremental_tree (keyLen : Nat) (ops : List Op) (hlen : ∀ op ∈ ops, op.key.length = keyLen) :
    ops.foldl applyOpTree .empty = build (8 * keyLen) (entriesOf (ops.foldl applyOp [])) := by
  have := foldl_applyOpTree_build ops hlen [] (by simp [NoDupKeys]) (by simp [KeysLen])
  simpa [entriesOf] using this

theorem C10_incremental_eq_declarative (H : HashFn) (keyLen : Nat) (ops : List Op)
    (hlen : ∀ op ∈ ops, op.key.length = keyLen) :
    (ops.foldl applyOpTree .empty).hash H = mapRoot H keyLen (ops.foldl applyOp []) := by
  rw [C10_incremental_tree keyLen ops hlen, hash_build]; rfl

/-- a history of update batches, replayed one key at a time, gives the root of `finalMap` -/
theorem C10_incremental_history (H : HashFn) (keyLen : Nat) (bs : List (List KV))
    (hlen : ∀ b ∈ bs, ∀ kv ∈ b, kv.1.length = keyLen) :
    ((bs.flatMap batchOps).foldl applyOpTree .empty).hash H = mapRoot H keyLen (finalMap bs) := by
  have hops : ∀ op ∈ bs.flatMap batchOps, op.key.length = keyLen := by
    intro op hop
    obtain ⟨b, hb, hop⟩ := List.mem_flatMap.mp hop
    exact (batchOps_ok (hlen b hb) op hop).1
  rw [C10_incremental_eq_declarative H keyLen _ hops]
  congr 1
  exact List.foldl_flatMap

/-! ### single-key proofs -/

/-- a stored map: no duplicate keys, keys of `keyLen` bytes, no empty values (an empty value is a deletion) -/
structure C10Map (keyLen : Nat) (m : List KV) : Prop where
  nodup : NoDupKeys m
  keys : KeysLen keyLen m
  values : ValuesNonempty m

/-- every map reached by a history of update batches with keys of the right length is a stored map -/
theorem C10_finalMap_wellformed (keyLen : Nat) (bs : List (List KV))
    (hlen : ∀ b ∈ bs, ∀ kv ∈ b, kv.1.length = keyLen) : C10Map keyLen (finalMap bs) :=
  ⟨nodupKeys_finalMap bs, (finalMap_inv bs hlen).1, (finalMap_inv bs hlen).2⟩

/-- the entry of the queried key (if stored) lies below the node reached by any prefix of its bits -/
private theorem mem_descend_of_mem {m : List KV} {qk v : Bytes} (hm : (qk, v) ∈ m) (h : Nat) :
    (⟨(keyBits qk).drop h, qk, v⟩ : Entry) ∈ descend (entriesOf m) ((keyBits qk).take h) := by
  rw [mem_descend]
  refine ⟨⟨keyBits qk, qk, v⟩, ?_, by simp, rfl, rfl⟩
  simp only [entriesOf, List.mem_map]
  exact ⟨(qk, v), hm, rfl⟩

private theorem key_of_mem_descend {m : List KV} {dirs : Bits} {e : Entry}
    (he : e ∈ descend (entriesOf m) dirs) : (e.key, e.value) ∈ m ∧ keyBits e.key = dirs ++ e.path := by
  exact ⟨kv_descend (P := fun k v => (k, v) ∈ m) (forall_mem_entriesOf.mpr fun _ h => h) dirs e he,
    keyBits_mem_descend (forall_mem_entriesOf.mpr fun _ _ => rfl) he⟩

/-- **what a proven node says about the queried key**: when the node reached by the first `h` bits of the queried
key `qk` is empty, or holds the single leaf `key ↦ value`, then "`value` if `key = qk`, else absent" is what the map
holds for `qk` -/
theorem C10_claim_of_node {keyLen : Nat} {m : List KV} (hm : C10Map keyLen m) {qk key value : Bytes} {h : Nat}
    (hnode : (value = [] ∧ descend (entriesOf m) ((keyBits qk).take h) = []) ∨
      ∃ e, descend (entriesOf m) ((keyBits qk).take h) = [e] ∧ key = e.key ∧ value = e.value) :
    (if key = qk ∧ value ≠ [] then some value else none) = mget m qk := by
  have habsent : (∀ v, (qk, v) ∉ m) → none = mget m qk := by
    intro hno
    symm
    rw [mget_eq_none_iff]
    intro hmem
    obtain ⟨kv, hkv, hk⟩ := List.mem_map.mp hmem
    exact hno kv.2 (by rw [← hk]; exact hkv)
  rcases hnode with ⟨hv, hd⟩ | ⟨e, hd, hk, hv⟩
  · rw [if_neg (fun hc => hc.2 hv)]
    refine habsent fun v hmem => ?_
    have := mem_descend_of_mem hmem h
    rw [hd] at this
    simp at this
  · have hmem := (key_of_mem_descend (show e ∈ descend (entriesOf m) ((keyBits qk).take h) by rw [hd]; simp)).1
    by_cases hkq : e.key = qk
    · rw [hk, hv, if_pos ⟨hkq, hm.values _ hmem⟩]
      rw [hkq] at hmem
      exact (mget_eq_some_of_mem hm.nodup hmem).symm
    · rw [hk, if_neg (fun hc => hkq hc.1)]
      refine habsent fun v hmem' => ?_
      have := mem_descend_of_mem hmem' h
      rw [hd, List.mem_singleton] at this
      exact hkq (by rw [← this])

/-- **Completeness**: the proof generated for any key of the right length verifies against the root of the
map and shows exactly what the map holds for that key (its value, or absence). -/
theorem C10_prove_complete (H : HashFn) (keyLen : Nat) (m : List KV) (hm : C10Map keyLen m)
    (qk : Bytes) (hq : qk.length = keyLen) :
    let p := prove1 H qk (8 * keyLen) (entriesOf m) (keyBits qk)
    verify1 H keyLen qk p (mapRoot H keyLen m) = true ∧ claim1 qk p = mget m qk := by
  intro p
  have hw := wfe_entriesOf hm.nodup hm.keys
  have hql : (keyBits qk).length = 8 * keyLen := by rw [keyBits_length, hq]
  have hv : ∀ e ∈ entriesOf m, e.value ≠ [] := forall_mem_entriesOf.mpr hm.values
  obtain ⟨h1, h2, h3⟩ : p.bitmap.length ≤ 8 * keyLen ∧
      recon H ((keyBits qk).take p.bitmap.length) p.bitmap p.siblings (p.nodeHash H) = some (mapRoot H keyLen m) ∧
      ((p.value = [] ∧ p.key = qk ∧ descend (entriesOf m) ((keyBits qk).take p.bitmap.length) = []) ∨
       (∃ e, descend (entriesOf m) ((keyBits qk).take p.bitmap.length) = [e] ∧ p.key = e.key ∧ p.value = e.value)) :=
    prove1_spec H qk (8 * keyLen) (entriesOf m) (keyBits qk) hw hql hv
  refine ⟨?_, C10_claim_of_node hm (h3.imp (fun h => ⟨h.1, h.2.2⟩) id)⟩
  -- the proven key shares the bits of the queried key down to the proven node
  have hpre : p.key.length = keyLen ∧ (p.key = qk ∨ p.bitmap.length ≤ commonPrefixLen (keyBits qk) (keyBits p.key)) ∧
      (keyBits p.key).take p.bitmap.length = (keyBits qk).take p.bitmap.length := by
    rcases h3 with ⟨-, hkey, -⟩ | ⟨e, hdesc, hkey, -⟩
    · rw [hkey]; exact ⟨hq, Or.inl rfl, rfl⟩
    · obtain ⟨hmem, hbits⟩ := key_of_mem_descend
        (show e ∈ descend (entriesOf m) ((keyBits qk).take p.bitmap.length) by rw [hdesc]; simp)
      have htl : ((keyBits qk).take p.bitmap.length).length = p.bitmap.length := by
        rw [List.length_take, hql]; omega
      rw [hkey]
      refine ⟨hm.keys _ hmem, Or.inr ?_, ?_⟩
      · have := commonPrefixLen_append ((keyBits qk).take p.bitmap.length) ((keyBits qk).drop p.bitmap.length) e.path
        rwa [List.take_append_drop, ← hbits, htl] at this
      · rw [hbits, List.take_append_of_le_length (by omega)]
        exact List.take_of_length_le (by omega)
  simp only [verify1, hq, hpre.1, decide_true, h1, Bool.true_and, Bool.and_eq_true, Bool.or_eq_true,
    decide_eq_true_eq]
  exact ⟨hpre.2.1, by rw [hpre.2.2]; exact h2⟩

/-- the input whose hash is the proven node -/
def C10NodeInput (p : Proof1) : Bytes := if p.value = [] then [] else 0 :: (p.key ++ p.value)

/-- every input the verifier hashes while checking the single-key proof `p` -/
def C10VerifyInputs (H : HashFn) (p : Proof1) : List Bytes :=
  C10NodeInput p :: reconInputs H ((keyBits p.key).take p.bitmap.length) p.bitmap p.siblings (p.nodeHash H)

/-- **Soundness**: let `H` have outputs of one length and NO COLLISION between the (finitely many) inputs the
verifier hashes for this proof and the inputs hashed to compute the root of the map.  Then a single-key proof
that verifies against the root of the map shows what the map holds for the queried key — the stored value if
present, absence if absent.  Equivalently: a verifying proof with a wrong claim exhibits a hash collision. -/
theorem C10_verify_sound (H : HashFn) (n : Nat) (hlen : ∀ x, (H x).length = n) (keyLen : Nat) (m : List KV)
    (hm : C10Map keyLen m) (qk : Bytes) (p : Proof1)
    (hnc : NoColl H (C10VerifyInputs H p) (treeInputs H (8 * keyLen) (entriesOf m)))
    (hv : verify1 H keyLen qk p (mapRoot H keyLen m) = true) : claim1 qk p = mget m qk := by
  simp only [verify1, Bool.and_eq_true, decide_eq_true_eq, Bool.or_eq_true] at hv
  obtain ⟨⟨⟨⟨hq, hpk⟩, hh⟩, hpre⟩, hrec⟩ := hv
  have hw := wfe_entriesOf hm.nodup hm.keys
  have hnode_pre : p.nodeHash H = H (C10NodeInput p) := by
    unfold Proof1.nodeHash C10NodeInput; split <;> rfl
  have hx : (p.nodeHash H).length = n := by rw [hnode_pre]; exact hlen _
  have hdl : ((keyBits p.key).take p.bitmap.length).length = p.bitmap.length := by
    rw [List.length_take, keyBits_length, hpk]; omega
  obtain ⟨_, hnode, hsubset⟩ := recon_sound hlen _ _ _ _ hx _ _ hw
    (hnc.mono (fun a ha => List.mem_cons_of_mem _ ha) (fun _ hb => hb)) hrec
  rw [hdl] at hnode hsubset
  have hwd := wfe_descend ((keyBits p.key).take p.bitmap.length) hw (by rw [hdl]; exact hh)
  rw [hdl] at hwd
  have hnc' : NoColl H [C10NodeInput p]
      (treeInputs H (8 * keyLen - p.bitmap.length)
        (descend (entriesOf m) ((keyBits p.key).take p.bitmap.length))) :=
    hnc.mono (fun a ha => by rw [List.mem_singleton.mp ha]; simp [C10VerifyInputs]) hsubset
  -- the queried key runs through the proven node
  have htake : (keyBits qk).take p.bitmap.length = (keyBits p.key).take p.bitmap.length := by
    rcases hpre with h | h
    · rw [h]
    · exact take_eq_of_le_commonPrefixLen _ _ _ h
  refine C10_claim_of_node hm (h := p.bitmap.length) ?_
  rw [htake]
  by_cases hval : p.value = []
  · -- empty node: nothing below it
    have hni : C10NodeInput p = [] := by simp [C10NodeInput, hval]
    rw [hni] at hnc'
    exact Or.inl ⟨hval, root_eq_empty hwd hnc' (by rw [← hnode, hnode_pre, hni])⟩
  · -- leaf: it is the only entry below the node
    have hni : C10NodeInput p = 0 :: (p.key ++ p.value) := by simp [C10NodeInput, hval]
    rw [hni] at hnc'
    have hkl : ∀ e ∈ descend (entriesOf m) ((keyBits p.key).take p.bitmap.length), e.key.length = p.key.length := by
      intro e he
      rw [hpk]
      exact hm.keys _ (key_of_mem_descend he).1
    obtain ⟨e, hdesc, hek, hev⟩ := root_eq_leaf hwd hnc' hkl (by rw [← hnode, hnode_pre, hni])
    exact Or.inr ⟨e, hdesc, hek.symm, hev.symm⟩

/-- the idealised form: for an injective `H` (no collisions at all) every verifying proof is right -/
theorem C10_verify_sound_injective (H : HashFn) (n : Nat) (hlen : ∀ x, (H x).length = n)
    (hinj : ∀ a b, H a = H b → a = b) (keyLen : Nat) (m : List KV) (hm : C10Map keyLen m) (qk : Bytes)
    (p : Proof1) (hv : verify1 H keyLen qk p (mapRoot H keyLen m) = true) : claim1 qk p = mget m qk :=
  C10_verify_sound H n hlen keyLen m hm qk p (noColl_of_injective hinj _ _) hv

/-- a proof determines the root it verifies against: it cannot verify against two different roots -/
theorem C10_verify_root_unique (H : HashFn) (keyLen : Nat) (qk : Bytes) (p : Proof1) (r₁ r₂ : Bytes)
    (h₁ : verify1 H keyLen qk p r₁ = true) (h₂ : verify1 H keyLen qk p r₂ = true) : r₁ = r₂ := by
  simp only [verify1, Bool.and_eq_true, decide_eq_true_eq] at h₁ h₂
  have := h₁.2.symm.trans h₂.2
  simpa using this

/-- corollary: a proof whose claim disagrees with the map does not verify against the root of the map
(unless it exhibits a collision of `H`) -/
theorem C10_no_false_claim (H : HashFn) (n : Nat) (hlen : ∀ x, (H x).length = n) (keyLen : Nat) (m : List KV)
    (hm : C10Map keyLen m) (qk : Bytes) (p : Proof1)
    (hnc : NoColl H (C10VerifyInputs H p) (treeInputs H (8 * keyLen) (entriesOf m)))
    (hne : claim1 qk p ≠ mget m qk) :
    verify1 H keyLen qk p (mapRoot H keyLen m) = false := by
  cases hv : verify1 H keyLen qk p (mapRoot H keyLen m)
  · rfl
  · exact absurd (C10_verify_sound H n hlen keyLen m hm qk p hnc hv) hne

/-! ### non-vacuity: the hypotheses of the theorems are satisfiable

`C10toyH` is a 2-byte polynomial checksum: outputs of one length, and collision free on the handful of inputs of
the examples (checked by kernel evaluation). -/

def C10toyH (x : Bytes) : Bytes :=
  let acc := x.foldl (fun a b => (a * 257 + b.toNat + 1) % 65521) 7
  [UInt8.ofNat (acc / 256), UInt8.ofNat (acc % 256)]

theorem C10toyH_length (x : Bytes) : (C10toyH x).length = 2 := rfl

/-- a map with keys parting at bit 0 and at bit 7 -/
def C10exMap : List KV := [([0x40], [1]), ([0xC0], [2]), ([0x41], [3])]

theorem C10exMap_ok : C10Map 1 C10exMap :=
  ⟨by show (C10exMap.map Prod.fst).Nodup; decide, by show ∀ kv ∈ C10exMap, kv.1.length = 1; decide,
   by show ∀ kv ∈ C10exMap, kv.2 ≠ []; decide⟩

example : mapRoot C10toyH 1 (finalMap []) = C10toyH [] := C10_empty_root C10toyH 1

-- two different histories (different order and batching, a delete-then-reinsert, a deletion of an absent key, a
-- key twice in one batch) with the same final map
example : mapRoot C10toyH 1 (finalMap [[([0x40], [9]), ([0xC0], [2])], [([0x40], []), ([7], [])], [([0x40], [1])]]) =
    mapRoot C10toyH 1 (finalMap [[([0xC0], [2]), ([0x40], [1]), ([0x40], [5])]]) := by
  apply C10_root_function_of_map
  intro k
  have h1 : finalMap [[([0x40], [9]), ([0xC0], [2])], [([0x40], []), ([7], [])], [([0x40], [1])]] =
      [([0x40], [1]), ([0xC0], [2])] := by decide
  have h2 : finalMap [[([0xC0], [2]), ([0x40], [1]), ([0x40], [5])]] = [([0x40], [1]), ([0xC0], [2])] := by decide
  rw [h1, h2]

example : ([Op.set [0x40] [1], .set [0x41] [7], .set [0xC0] [2], .del [0x41], .set [0x41] [3]].foldl applyOpTree .empty).hash C10toyH =
    mapRoot C10toyH 1 ([Op.set [0x40] [1], .set [0x41] [7], .set [0xC0] [2], .del [0x41], .set [0x41] [3]].foldl applyOp []) :=
  C10_incremental_eq_declarative C10toyH 1 _ (by decide)

-- inclusion proof of a stored key and an exclusion proof ending in another leaf (one ending in an empty node, key 0x43,
-- is among the soundness examples below)
example : verify1 C10toyH 1 [0x41] (prove1 C10toyH [0x41] 8 (entriesOf C10exMap) (keyBits [0x41])) (mapRoot C10toyH 1 C10exMap) = true ∧
    claim1 [0x41] (prove1 C10toyH [0x41] 8 (entriesOf C10exMap) (keyBits [0x41])) = some [3] :=
  C10_prove_complete C10toyH 1 C10exMap C10exMap_ok [0x41] rfl

example : claim1 [0xC1] (prove1 C10toyH [0xC1] 8 (entriesOf C10exMap) (keyBits [0xC1])) = none :=
  (C10_prove_complete C10toyH 1 C10exMap C10exMap_ok [0xC1] rfl).2

-- soundness: all hypotheses (fixed output length, no collision between verifier and tree inputs, accepted)
-- hold for the honest inclusion proof of 0x41 and for the honest exclusion proof of 0x43
example : claim1 [0x41] (prove1 C10toyH [0x41] 8 (entriesOf C10exMap) (keyBits [0x41])) = mget C10exMap [0x41] :=
  C10_verify_sound C10toyH 2 C10toyH_length 1 C10exMap C10exMap_ok [0x41] _
    (noColl_of_check (by decide +kernel)) (C10_prove_complete C10toyH 1 C10exMap C10exMap_ok [0x41] rfl).1

example : claim1 [0x43] (prove1 C10toyH [0x43] 8 (entriesOf C10exMap) (keyBits [0x43])) = mget C10exMap [0x43] :=
  C10_verify_sound C10toyH 2 C10toyH_length 1 C10exMap C10exMap_ok [0x43] _
    (noColl_of_check (by decide +kernel)) (C10_prove_complete C10toyH 1 C10exMap C10exMap_ok [0x43] rfl).1

-- and a forged inclusion claim (value 9 for key 0x41, honest bitmap and siblings) is rejected
example : verify1 C10toyH 1 [0x41]
    { prove1 C10toyH [0x41] 8 (entriesOf C10exMap) (keyBits [0x41]) with value := [9] } (mapRoot C10toyH 1 C10exMap) = false :=
  C10_no_false_claim C10toyH 2 C10toyH_length 1 C10exMap C10exMap_ok [0x41] _
    (noColl_of_check (by decide +kernel)) (by decide +kernel)

/-! ### state tree keys (pkg/framework/state_batch.go `getTreeKey`)

A state store key is `dbPrefix(1) ‖ storePrefix(6) ‖ key`; its tree key is `storePrefix ‖ H(key)` (38 bytes).
Two different store keys (of one database prefix) never share a tree key unless `H` collides on their key parts. -/

def C10getTreeKey (H : HashFn) (k : Bytes) : Bytes := (k.drop 1).take 6 ++ H (k.drop 7)

theorem C10_state_key_mapping (H : HashFn) (k₁ k₂ : Bytes) (h₁ : 7 ≤ k₁.length) (h₂ : 7 ≤ k₂.length)
    (hdb : k₁.take 1 = k₂.take 1) (hnc : H (k₁.drop 7) = H (k₂.drop 7) → k₁.drop 7 = k₂.drop 7)
    (h : C10getTreeKey H k₁ = C10getTreeKey H k₂) : k₁ = k₂ := by
  unfold C10getTreeKey at h
  have hl : ((k₁.drop 1).take 6).length = ((k₂.drop 1).take 6).length := by
    simp only [List.length_take, List.length_drop]; omega
  obtain ⟨hp, hh⟩ := List.append_inj h hl
  have hrest := hnc hh
  have e₁ : k₁ = k₁.take 1 ++ ((k₁.drop 1).take 6 ++ k₁.drop 7) := by
    have : (k₁.drop 1).drop 6 = k₁.drop 7 := by simp
    rw [← this, List.take_append_drop, List.take_append_drop]
  have e₂ : k₂ = k₂.take 1 ++ ((k₂.drop 1).take 6 ++ k₂.drop 7) := by
    have : (k₂.drop 1).drop 6 = k₂.drop 7 := by simp
    rw [← this, List.take_append_drop, List.take_append_drop]
  rw [e₁, e₂, hdb, hp, hrest]

example : C10getTreeKey C10toyH [0, 1, 2, 3, 4, 5, 6, 7, 8] ≠ C10getTreeKey C10toyH [0, 1, 2, 3, 4, 5, 6, 7, 9] := by
  decide +kernel
