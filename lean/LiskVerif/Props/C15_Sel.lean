/-
C15 (part 1) — transaction selection of the block generator.

Theorems about `LiskVerif.Model.Generator` part 1: `Run` is the relation "possible result of the loop
of `selectTransactionsByFee`" for ANY tie-break among heads of equal fee priority. For every pool,
`selectByFee` and `select` (deterministic tie-break, printed by the driver) are runs
(`Generator.selectByFee_run`, `Generator.select_run` in Lemmas/Generator.lean; `C15_select_is_run`), and
`checkSel` (the driver applies it to outputs of the real generator for pools with ties) accepts
exactly the runs (`C15_checkSel_sound`, `C15_checkSel_complete`); so everything proved about `Run` holds
for them. These three, the size bound, `C15_limit_is_identity` and `C15_selection_greedy_priority` hold
for every pool (the hypothesis `txs.Nodup` of the first three is not used); nonce order, "selected at
most once" and the statements about a sender's list are proved for sender lists that are well formed
(`GroupsWF`), which `initGroups` gives for a pool without duplicate entries. Every size limit and
every verify/execute verdict function `ok` (which may depend on what was selected before) is covered.
-/
import LiskVerif.Lemmas.Generator

open LiskVerif LiskVerif.Generator

theorem C15_init_groups_wf (txs : List Tx) (hnd : txs.Nodup) : GroupsWF (initGroups txs) :=
  initGroups_wf hnd

theorem C15_init_groups_lookup (txs : List Tx) (s : Nat) (l : List Tx) (h : (s, l) ∈ initGroups txs) :
    l = isort nonceLe (txs.filter fun t => t.sender == s) :=
  (initGroups_mem h).1

/-- The deterministic function is a run of the loop (`hnd` is not used: `Generator.selectByFee_run`). -/
theorem C15_select_is_run (ok : List Tx → Tx → Bool) (maxSize : Nat) (txs : List Tx) (hnd : txs.Nodup) :
    ∃ evs, Run ok maxSize (initGroups txs) 0 [] (selectByFee ok maxSize txs) evs := by
  have _ := hnd
  exact selectByFee_run ok maxSize txs

/-- Every claimed result accepted by the validator is a run of the loop (mock verdicts; `hnd` is not used). -/
theorem C15_checkSel_sound (maxSize : Nat) (txs R : List Tx) (hnd : txs.Nodup)
    (h : checkSel maxSize txs R = true) :
    ∃ evs, Run okMock maxSize (initGroups txs) 0 [] R evs := by
  have _ := hnd
  exact checkLoop_run (fun t => t.vok && t.eok) maxSize _ _ 0 R [] h

/-- ... and the validator accepts every run of the loop: `checkSel` decides "possible result" (`hnd` is not used). -/
theorem C15_checkSel_complete (maxSize : Nat) (txs R : List Tx) (evs : List Ev) (hnd : txs.Nodup)
    (h : Run okMock maxSize (initGroups txs) 0 [] R evs) : checkSel maxSize txs R = true :=
  have _ := hnd
  run_checkLoop (fun t => t.vok && t.eok) maxSize h _ (initGroups_ok txs)
    (by rw [txCount_initGroups]; exact Nat.lt_succ_self _)

/-- Nonce order: per sender, the selected transactions are a prefix of the sender's nonce-sorted
transactions of the pool (and that list is sorted by nonce). -/
theorem C15_selection_nonce_order (ok : List Tx → Tx → Bool) (maxSize : Nat) (txs R : List Tx)
    (evs : List Ev) (hnd : txs.Nodup) (h : Run ok maxSize (initGroups txs) 0 [] R evs) (s : Nat) :
    (R.filter fun t => t.sender == s) <+: isort nonceLe (txs.filter fun t => t.sender == s) ∧
    (isort nonceLe (txs.filter fun t => t.sender == s)).Pairwise (fun a b => a.nonce ≤ b.nonce) := by
  exact ⟨getD_initGroups s txs ▸ h.filter_prefix (initGroups_wf hnd) s, isort_nonce_sorted _⟩

/-- Selected transactions come from the pool and none is selected twice. -/
theorem C15_selection_from_pool (ok : List Tx → Tx → Bool) (maxSize : Nat) (txs R : List Tx)
    (evs : List Ev) (hnd : txs.Nodup) (h : Run ok maxSize (initGroups txs) 0 [] R evs) :
    R.Nodup ∧ ∀ t ∈ R, t ∈ txs := by
  have hwf := initGroups_wf hnd
  refine ⟨h.nodup hwf, ?_⟩
  intro t ht
  have := h.mem_getD hwf ht
  rw [getD_initGroups] at this
  exact (List.mem_filter.mp ((mem_isort _ _ _).mp this)).1

/-- Size bound: the selected transactions fit into the payload limit. -/
theorem C15_selection_size_bound (ok : List Tx → Tx → Bool) (maxSize : Nat) (g : Groups)
    (total : Nat) (acc R : List Tx) (evs : List Ev) (h : Run ok maxSize g total acc R evs)
    (ht : total ≤ maxSize) : total + (R.map (·.size)).sum ≤ maxSize :=
  h.size_bound ht

/-- `limitTransactionsWithSize` never removes anything from a selection result. -/
theorem C15_limit_is_identity (ok : List Tx → Tx → Bool) (maxSize : Nat) (g : Groups)
    (total : Nat) (acc R : List Tx) (evs : List Ev) (h : Run ok maxSize g total acc R evs) :
    limitBySize maxSize total R = R :=
  h.limit_id

/-- the transaction an iteration popped, and the heads at that moment -/
def C15EvTx : Ev → Tx × List Tx
  | .take t hs => (t, hs)
  | .skip t hs => (t, hs)
  | .cut t hs => (t, hs)

/-- the transaction an iteration put into the result, if any -/
def C15Taken : Ev → Option Tx
  | .take t _ => some t
  | _ => none

/-- Greedy priority: every popped transaction is one of the heads (the senders' next
transactions) and has maximal fee priority among them, and the result is the sequence of the
successfully executed pops. (That a taken pop passed verification and execution and fitted into the
limit, and that the loop only ends on an exhausted pool or a pop that does not fit, is in the
constructors of `Run`; see `Run.ok_of_mem`, `C15_selection_size_bound`, `C15_boundary_run_cut_is_rejected`.) -/
theorem C15_selection_greedy_priority (ok : List Tx → Tx → Bool) (maxSize : Nat) (g : Groups)
    (total : Nat) (acc R : List Tx) (evs : List Ev) (h : Run ok maxSize g total acc R evs) :
    (∀ e ∈ evs, (C15EvTx e).1 ∈ (C15EvTx e).2 ∧ ∀ x ∈ (C15EvTx e).2, x.prio ≤ (C15EvTx e).1.prio) ∧
    R = evs.filterMap C15Taken := by
  induction h with
  | done total acc => exact ⟨fun e he => (by cases he), rfl⟩
  | cut hmax hsz =>
    refine ⟨?_, rfl⟩
    intro e he
    rw [List.mem_singleton] at he
    subst he
    exact ⟨mem_heads.mpr ⟨_, _, hmax.1⟩, hmax.2⟩
  | skip hmax hsz hok hrun ih =>
    refine ⟨?_, ?_⟩
    · intro e he
      rcases List.mem_cons.mp he with rfl | he
      · exact ⟨mem_heads.mpr ⟨_, _, hmax.1⟩, hmax.2⟩
      · exact ih.1 e he
    · simp only [List.filterMap_cons, C15Taken]
      exact ih.2
  | take hmax hsz hok hrun ih =>
    refine ⟨?_, ?_⟩
    · intro e he
      rcases List.mem_cons.mp he with rfl | he
      · exact ⟨mem_heads.mpr ⟨_, _, hmax.1⟩, hmax.2⟩
      · exact ih.1 e he
    · simp only [List.filterMap_cons, C15Taken]
      rw [← ih.2]

/-- Descending priority in closed form: if `u` is selected after `t` and `u` was already its
sender's next transaction when `t` was selected (everything before `u` in the sender's list was
selected before `t`), then `u`'s fee priority is not larger than `t`'s. -/
theorem C15_selection_priority_order (ok : List Tx → Tx → Bool) (maxSize : Nat) (g : Groups)
    (total : Nat) (acc R : List Tx) (evs : List Ev) (hwf : GroupsWF g)
    (h : Run ok maxSize g total acc R evs)
    (pre post : List Tx) (t u : Tx) (hR : R = pre ++ t :: post) (hu : u ∈ post)
    (s : Nat) (l l1 l2 : List Tx) (hl : (s, l) ∈ g) (hsplit : l = l1 ++ u :: l2)
    (hbefore : ∀ w ∈ l1, w ∈ pre) : u.prio ≤ t.prio := by
  -- the split `l = l1 ++ u :: l2` of the sender's list is carried through `erase` / `advance`: a pick
  -- before `t` from the same sender takes the head of `l1` (never `u`: it is selected later), other
  -- picks leave the list alone; when `t` itself is picked, `l1` is used up and `u` is a head
  induction h generalizing pre post t u s l l1 l2 with
  | done total acc => cases pre <;> cases hR
  | cut hmax hsz => cases pre <;> cases hR
  | @skip g total acc s0 t0 rest0 R evs hmax hsz hok hrun ih =>
    have huR : u ∈ R := by rw [hR]; simp [hu]
    have hs : s ≠ s0 := by
      intro hs
      subst hs
      have hus : u.sender = s := hwf.sender hl (by rw [hsplit]; simp)
      have := hrun.sender_mem_keys (hwf.erase _) huR
      rw [hus] at this
      exact not_mem_keys_erase hwf.keys s this
    exact ih (hwf.erase _) pre post t u hR hu s l l1 l2
      ((mem_erase_iff hwf.keys s0 s l).mpr ⟨hl, hs⟩) hsplit hbefore
  | @take g total acc s0 t0 rest0 R evs hmax hsz hok hrun ih =>
    have ht0 : t0.sender = s0 := hwf.sender hmax.1 List.mem_cons_self
    cases pre with
    | nil =>
      simp only [List.nil_append, List.cons.injEq] at hR
      rw [← hR.1]
      cases l1 with
      | nil =>
        rw [hsplit] at hl
        exact hmax.2 u (mem_heads.mpr ⟨s, l2, hl⟩)
      | cons w l1' => exact absurd (hbefore w List.mem_cons_self) List.not_mem_nil
    | cons p pre' =>
      simp only [List.cons_append, List.cons.injEq] at hR
      obtain ⟨hp, hR⟩ := hR
      rw [← hp] at hbefore
      by_cases hs : s = s0
      · subst hs
        have hl' : l = t0 :: rest0 := (Prod.mk.inj (inj_of_nodup_map Prod.fst hwf.keys hl hmax.1 rfl)).2
        rw [hl'] at hsplit
        cases l1 with
        | nil =>
          simp only [List.nil_append, List.cons.injEq] at hsplit
          exfalso
          apply Run.head_not_mem hwf hmax.1 hrun
          rw [hR, hsplit.1]
          simp [hu]
        | cons w l1' =>
          simp only [List.cons_append, List.cons.injEq] at hsplit
          obtain ⟨hw, hrest⟩ := hsplit
          have hmem : (s, rest0) ∈ advance s rest0 g := by
            cases rest0 with
            | nil => cases l1' <;> cases hrest
            | cons a r => exact mem_advance_self hwf.keys hmax.1
          refine ih (hwf.advance hmax.1) pre' post t u hR hu s rest0 l1' l2 hmem hrest ?_
          intro x hx
          rcases List.mem_cons.mp (hbefore x (List.mem_cons_of_mem _ hx)) with h1 | h1
          · exfalso
            apply (List.nodup_cons.mp (hwf.nodup hmax.1)).1
            rw [← h1, hrest]
            simp [hx]
          · exact h1
      · refine ih (hwf.advance hmax.1) pre' post t u hR hu s l l1 l2
          (mem_advance_of_ne hwf.keys hmax.1 hs hl) hsplit ?_
        intro x hx
        rcases List.mem_cons.mp (hbefore x hx) with h1 | h1
        · exfalso
          have hxs : x.sender = s := hwf.sender hl (by rw [hsplit]; simp [hx])
          exact hs (by rw [← hxs, h1, ht0])
        · exact h1

private theorem skips_aux {ok : List Tx → Tx → Bool} {maxSize : Nat} {g : Groups} {total : Nat}
    {acc R : List Tx} {evs : List Ev} (h : Run ok maxSize g total acc R evs) :
    GroupsWF g → ∀ (e1 e2 : List Ev) (t : Tx) (hs : List Tx), evs = e1 ++ Ev.skip t hs :: e2 →
      ∀ u hs', Ev.take u hs' ∈ e2 → u.sender ≠ t.sender := by
  induction h with
  | done total acc => intro _ e1 e2 t hs he; cases e1 <;> cases he
  | cut hmax hsz =>
    intro _ e1 e2 t hs he
    cases e1 with
    | nil => cases he
    | cons x e1' =>
      simp only [List.cons_append, List.cons.injEq] at he
      cases e1' <;> cases he.2
  | @skip g total acc s0 t0 rest0 R evs hmax hsz hok hrun ih =>
    intro hwf e1 e2 t hs he
    cases e1 with
    | nil =>
      simp only [List.nil_append, List.cons.injEq, Ev.skip.injEq] at he
      obtain ⟨⟨ht, _⟩, he2⟩ := he
      intro u hs' hu
      rw [← he2] at hu
      have huR : u ∈ R := by
        rw [(C15_selection_greedy_priority _ _ _ _ _ _ _ hrun).2]
        exact List.mem_filterMap.mpr ⟨_, hu, rfl⟩
      have hk := hrun.sender_mem_keys (hwf.erase _) huR
      have ht0 : t0.sender = s0 := hwf.sender hmax.1 List.mem_cons_self
      intro hcontra
      rw [hcontra, ← ht, ht0] at hk
      exact not_mem_keys_erase hwf.keys s0 hk
    | cons x e1' =>
      simp only [List.cons_append, List.cons.injEq] at he
      exact ih (hwf.erase _) e1' e2 t hs he.2
  | @take g total acc s0 t0 rest0 R evs hmax hsz hok hrun ih =>
    intro hwf e1 e2 t hs he
    cases e1 with
    | nil => simp at he
    | cons x e1' =>
      simp only [List.cons_append, List.cons.injEq] at he
      exact ih (hwf.advance hmax.1) e1' e2 t hs he.2

/-- A sender is skipped once one of its transactions fails: after an iteration that popped a
failing transaction, no transaction of that sender is selected. -/
theorem C15_selection_skips_failed_sender (ok : List Tx → Tx → Bool) (maxSize : Nat) (g : Groups)
    (total : Nat) (acc R : List Tx) (evs : List Ev) (hwf : GroupsWF g)
    (h : Run ok maxSize g total acc R evs)
    (e1 e2 : List Ev) (t : Tx) (hs : List Tx) (hsplit : evs = e1 ++ Ev.skip t hs :: e2) :
    ∀ e ∈ e2, ∀ u, C15Taken e = some u → u.sender ≠ t.sender := by
  intro e he u hu
  cases e with
  | take u' hs' =>
    simp only [C15Taken, Option.some.injEq] at hu
    subst hu
    exact skips_aux h hwf e1 e2 t hs hsplit u' hs' he
  | skip _ _ => simp [C15Taken] at hu
  | cut _ _ => simp [C15Taken] at hu

/-- The same in closed form for verdicts that do not depend on the state: nothing at or after a
failing transaction in its sender's list is selected (for `initGroups` that list is the nonce-sorted
one: `C15_init_groups_lookup`). -/
theorem C15_selection_stops_at_failure (okb : Tx → Bool) (maxSize : Nat) (g : Groups)
    (total : Nat) (acc R : List Tx) (evs : List Ev) (hwf : GroupsWF g)
    (h : Run (fun _ t => okb t) maxSize g total acc R evs)
    (s : Nat) (l l1 l2 : List Tx) (u : Tx) (hl : (s, l) ∈ g) (hsplit : l = l1 ++ u :: l2)
    (hfail : okb u = false) : ∀ w ∈ R, w.sender = s → w ∈ l1 := by
  intro w hw hws
  have hpre := h.filter_prefix hwf s
  rw [getD_of_mem hwf.keys hl, hsplit] at hpre
  have hu : u ∉ R.filter (fun t => t.sender == s) := by
    intro hu
    have := h.ok_of_mem u (List.mem_filter.mp hu).1
    rw [hfail] at this
    cases this
  exact prefix_mem_left hpre hu w (List.mem_filter.mpr ⟨hw, by simp [hws]⟩)

/-! ### non-vacuity -/

private def p0 : List Tx :=
  [ { id := 0, sender := 0, nonce := 1, fee := 500, size := 40 },
    { id := 1, sender := 0, nonce := 2, fee := 900, size := 40 },
    { id := 2, sender := 1, nonce := 5, fee := 300, size := 30 },
    { id := 3, sender := 2, nonce := 1, fee := 1000, size := 50, vok := false } ]

example : (select okMock 100 p0).map (·.id) = [0, 1] := by decide
example : checkSel 100 p0 (select okMock 100 p0) = true := by decide
example : checkSel 100 p0 [] = false := by decide

-- two senders with equal fee priority: both orders are possible results, the empty list is not
private def p1 : List Tx :=
  [ { id := 0, sender := 0, nonce := 1, fee := 80, size := 40 },
    { id := 1, sender := 1, nonce := 1, fee := 80, size := 40 } ]
example : checkSel 100 p1 p1 = true ∧ checkSel 100 p1 p1.reverse = true ∧ checkSel 100 p1 [] = false := by decide
-- the order in which tied heads are popped matters: a failing head that still fits is dropped and
-- the loop goes on, the same head popped later ends the loop
private def p2 : List Tx :=
  [ { id := 0, sender := 0, nonce := 1, fee := 252, size := 126, vok := false },
    { id := 1, sender := 1, nonce := 1, fee := 252, size := 126 },
    { id := 2, sender := 1, nonce := 2, fee := 125, size := 125 } ]
example : checkSel 251 p2 [p2[1], p2[2]] = true ∧ checkSel 251 p2 [p2[1]] = true ∧ checkSel 251 p2 [p2[2]] = false := by
  decide
