/-
C12 (library part) — the byte-string helpers of `pkg/collection/bytes` that the database layer relies
on: big-endian integer keys (`FromUint16/32/64`, `ToUint32/64`) and key concatenation
(`Join`, `JoinSize`).  Model: `LiskVerif/Model/Collection.lean` (tied to the Go code by the LIBCOLL
correspondence harness).  Helper lemmas: `LiskVerif/Lemmas/Collection.lean`.

The ORDER ISOMORPHISM `C12_lib_fromUint32_order` is what makes a height-keyed range scan of the
database (keys compared with `bytes.Compare`, model `bcmp`) return the blocks in height order.
-/
import LiskVerif.Lemmas.Collection

open LiskVerif LiskVerif.Collection

/-! ### fixed output lengths -/

theorem C12_lib_fromUint16_length (v : UInt16) : (fromUint16 v).length = 2 := rfl
theorem C12_lib_fromUint32_length (v : UInt32) : (fromUint32 v).length = 4 := rfl
theorem C12_lib_fromUint64_length (v : UInt64) : (fromUint64 v).length = 8 := rfl

/-! ### round trips -/

theorem C12_lib_toUint32_fromUint32 (v : UInt32) : toUint32 (fromUint32 v) = .ok v := by
  obtain ⟨w, e, hw⟩ := toUint32_toNat (fromUint32 v) (Nat.le_refl 4)
  rw [e, UInt32.toNat_inj.mp (hw.trans (beVal_fromUint32 v))]

theorem C12_lib_toUint64_fromUint64 (v : UInt64) : toUint64 (fromUint64 v) = .ok v := by
  obtain ⟨w, e, hw⟩ := toUint64_toNat (fromUint64 v) (Nat.le_refl 8)
  rw [e, UInt64.toNat_inj.mp (hw.trans (beVal_fromUint64 v))]

/-- `ToUint32` panics exactly on fewer than 4 bytes. -/
theorem C12_lib_toUint32_panics_iff (b : Bytes) : (∃ e, toUint32 b = .error e) ↔ b.length < 4 := by
  match b with
  | [] | [_] | [_, _] | [_, _, _] => simp [toUint32]
  | _ :: _ :: _ :: _ :: r => simp [toUint32]

/-- `ToUint64` panics exactly on fewer than 8 bytes. -/
theorem C12_lib_toUint64_panics_iff (b : Bytes) : (∃ e, toUint64 b = .error e) ↔ b.length < 8 := by
  match b with
  | [] | [_] | [_, _] | [_, _, _] | [_, _, _, _] | [_, _, _, _, _] | [_, _, _, _, _, _]
  | [_, _, _, _, _, _, _] => simp [toUint64]
  | _ :: _ :: _ :: _ :: _ :: _ :: _ :: _ :: r => simp [toUint64]

/-- `FromUint32(ToUint32(b)) = b[:4]`: on at least 4 bytes `ToUint32` succeeds, ignores `b[4:]`, and
re-encoding gives the first four bytes back (so on exactly 4 bytes it is the identity). -/
theorem C12_lib_fromUint32_toUint32 (b : Bytes) (h : 4 ≤ b.length) :
    ∃ v, toUint32 b = .ok v ∧ fromUint32 v = b.take 4 := by
  obtain ⟨v, e, hv⟩ := toUint32_toNat b h
  refine ⟨v, e, ?_⟩
  rw [fromUint32_eq, hv, beBytes_beVal _ (List.length_take.trans (Nat.min_eq_left h))]

/-- `FromUint64(ToUint64(b)) = b[:8]`. -/
theorem C12_lib_fromUint64_toUint64 (b : Bytes) (h : 8 ≤ b.length) :
    ∃ v, toUint64 b = .ok v ∧ fromUint64 v = b.take 8 := by
  obtain ⟨v, e, hv⟩ := toUint64_toNat b h
  refine ⟨v, e, ?_⟩
  rw [fromUint64_eq, hv, beBytes_beVal _ (List.length_take.trans (Nat.min_eq_left h))]

/-- The package has no `ToUint16`; the decoder of the standard library (`b[1] | b[0]<<8`, here as the
big-endian value) inverts `FromUint16`, and `FromUint16` is injective. -/
theorem C12_lib_fromUint16_value (v : UInt16) : beVal (fromUint16 v) = v.toNat := beVal_fromUint16 v

theorem C12_lib_fromUint16_inj (a b : UInt16) (h : fromUint16 a = fromUint16 b) : a = b := by
  apply UInt16.toNat_inj.mp
  rw [← beVal_fromUint16 a, ← beVal_fromUint16 b, h]

theorem C12_lib_fromUint32_inj (a b : UInt32) (h : fromUint32 a = fromUint32 b) : a = b := by
  apply UInt32.toNat_inj.mp
  rw [← beVal_fromUint32 a, ← beVal_fromUint32 b, h]

theorem C12_lib_fromUint64_inj (a b : UInt64) (h : fromUint64 a = fromUint64 b) : a = b := by
  apply UInt64.toNat_inj.mp
  rw [← beVal_fromUint64 a, ← beVal_fromUint64 b, h]

/-! ### order isomorphism -/

/-- Lexicographic byte order (`bytes.Compare`) of `FromUint32 a` vs `FromUint32 b` = numeric order of
`a` vs `b`, for all `uint32` values. -/
theorem C12_lib_fromUint32_order (a b : UInt32) :
    bcmp (fromUint32 a) (fromUint32 b) = compare a.toNat b.toNat :=
  bcmp_beBytes 4 a.toNat_lt b.toNat_lt

theorem C12_lib_fromUint16_order (a b : UInt16) :
    bcmp (fromUint16 a) (fromUint16 b) = compare a.toNat b.toNat :=
  bcmp_beBytes 2 a.toNat_lt b.toNat_lt

theorem C12_lib_fromUint64_order (a b : UInt64) :
    bcmp (fromUint64 a) (fromUint64 b) = compare a.toNat b.toNat :=
  bcmp_beBytes 8 a.toNat_lt b.toNat_lt

/-- The same on natural numbers (heights) with the width as an explicit hypothesis: for
`a, b < 2^32` the keys `FromUint32(uint32(a))`, `FromUint32(uint32(b))` compare as `a`, `b`. -/
theorem C12_lib_height_key_order (a b : Nat) (ha : a < 2 ^ 32) (hb : b < 2 ^ 32) :
    bcmp (fromUint32 a.toUInt32) (fromUint32 b.toUInt32) = compare a b := by
  rw [C12_lib_fromUint32_order]
  simp [Nat.mod_eq_of_lt ha, Nat.mod_eq_of_lt hb]

theorem C12_lib_key16_order (a b : Nat) (ha : a < 2 ^ 16) (hb : b < 2 ^ 16) :
    bcmp (fromUint16 a.toUInt16) (fromUint16 b.toUInt16) = compare a b := by
  rw [C12_lib_fromUint16_order]
  simp [Nat.mod_eq_of_lt ha, Nat.mod_eq_of_lt hb]

theorem C12_lib_key64_order (a b : Nat) (ha : a < 2 ^ 64) (hb : b < 2 ^ 64) :
    bcmp (fromUint64 a.toUInt64) (fromUint64 b.toUInt64) = compare a b := by
  rw [C12_lib_fromUint64_order]
  simp [Nat.mod_eq_of_lt ha, Nat.mod_eq_of_lt hb]

/-- Beyond the width the conversion `uint32(h)` wraps and the order is lost: the key of `2^32` sorts
BEFORE the key of `1`. -/
theorem C12_lib_height_key_order_wraps :
    (1 : Nat) < 2 ^ 32 ∧ bcmp (fromUint32 (2 ^ 32 : Nat).toUInt32) (fromUint32 (1 : Nat).toUInt32) = .lt := by
  decide

theorem C12_lib_fromUint32_lt_iff (a b : UInt32) : blt (fromUint32 a) (fromUint32 b) = true ↔ a < b := by
  unfold blt
  rw [C12_lib_fromUint32_order, UInt32.lt_iff_toNat_lt]
  simp [Nat.compare_eq_lt]

theorem C12_lib_fromUint32_le_iff (a b : UInt32) : ble (fromUint32 a) (fromUint32 b) = true ↔ a ≤ b := by
  unfold ble
  rw [C12_lib_fromUint32_order, UInt32.le_iff_toNat_le]
  simp [Nat.compare_eq_gt]

/-- a common prefix does not change the comparison (`Join(prefix, key)` keys of one bucket) -/
theorem C12_lib_bcmp_append_left (p x y : Bytes) : bcmp (p ++ x) (p ++ y) = bcmp x y :=
  bcmp_append_left p x y

/-- Height-keyed scans: sorting the keys `prefix ++ FromUint32(h)` byte-wise (what the database
iterator does) lists them in ascending height order. -/
theorem C12_lib_height_keys_sorted (p : Bytes) (hs : List UInt32) :
    bytesSort (hs.map fun h => join [p, fromUint32 h])
      = (isort (fun a b => decide (a ≤ b)) hs).map fun h => join [p, fromUint32 h] := by
  unfold bytesSort
  apply isort_mapEmbed
  intro a _ b _
  simp only [join_eq, List.flatten_cons, List.flatten_nil, List.append_nil]
  unfold ble
  rw [bcmp_append_left, C12_lib_fromUint32_order]
  rcases Nat.lt_trichotomy a.toNat b.toNat with h | h | h
  · rw [Nat.compare_eq_lt.mpr h, decide_eq_true (UInt32.le_iff_toNat_le.mpr (by omega))]; rfl
  · rw [h, decide_eq_true (UInt32.le_iff_toNat_le.mpr (by omega))]; simp
  · rw [Nat.compare_eq_gt.mpr h, decide_eq_false (fun hle => by have := UInt32.le_iff_toNat_le.mp hle; omega)]; rfl

/-! ### Join / JoinSize -/

/-- `Join(s...)` is the concatenation of its arguments. -/
theorem C12_lib_join_eq_concat (s : List Bytes) : join s = s.flatten := join_eq s

/-- its length is the sum of the lengths -/
theorem C12_lib_join_length (s : List Bytes) : (join s).length = (s.map List.length).sum := by
  rw [join_eq, List.length_flatten]

/-- `Join(p, k)` has prefix `p`, said with `bytes.HasPrefix` and with the list relation -/
theorem C12_lib_join_prefix' (p k : Bytes) : p <+: join [p, k] := by
  rw [join_eq]; simp

theorem C12_lib_join_prefix (p k : Bytes) : hasPrefix (join [p, k]) p = true :=
  (hasPrefix_iff_prefix _ p).mpr (C12_lib_join_prefix' p k)

/-- for a fixed prefix, `Join(p, ·)` is injective (distinct keys of a bucket stay distinct) -/
theorem C12_lib_join_inj (p k k' : Bytes) (h : join [p, k] = join [p, k']) : k = k' := by
  rw [join_eq, join_eq] at h
  simpa using h

/-- prefixes of the same length never collide either: `Join(p, k) = Join(p', k')` with
`len p = len p'` forces `p = p'` and `k = k'` (module/store prefixes have fixed length). -/
theorem C12_lib_join_inj_prefix (p p' k k' : Bytes) (hl : p.length = p'.length)
    (h : join [p, k] = join [p', k']) : p = p' ∧ k = k' := by
  rw [join_eq, join_eq] at h
  simp only [List.flatten_cons, List.flatten_nil, List.append_nil] at h
  exact List.append_inj h hl

/-- `JoinSize(size, s...)`: panics for a negative size; otherwise the first `size` bytes of the
concatenation, zero-padded on the right when the arguments are shorter. -/
theorem C12_lib_joinSize_spec (size : Nat) (s : List Bytes) :
    joinSize size s = .ok (s.flatten.take size ++ List.replicate (size - s.flatten.length) 0) :=
  joinSize_eq size s

theorem C12_lib_joinSize_negative (size : Int) (h : size < 0) (s : List Bytes) :
    joinSize size s = .error .negativeLen := by
  simp [joinSize, h]

/-- with the exact size (every call site in /repo) `JoinSize` = `Join` = concatenation -/
theorem C12_lib_joinSize_exact (s : List Bytes) :
    joinSize (s.flatten.length : Nat) s = .ok s.flatten := by
  rw [joinSize_eq]
  simp only [List.take_length, Nat.sub_self, List.replicate_zero, List.append_nil]

/-- with a size that is too small `JoinSize` silently truncates (no error, no panic) -/
theorem C12_lib_joinSize_truncates : joinSize 3 [[1, 2], [3, 4]] = .ok [1, 2, 3] := by decide

/-! ### non-vacuity -/

example : toUint32 (fromUint32 0x01020304) = .ok 0x01020304 := C12_lib_toUint32_fromUint32 _
example : fromUint32 0x01020304 = [1, 2, 3, 4] := by decide
example : fromUint64 0x0102030405060708 = [1, 2, 3, 4, 5, 6, 7, 8] := by decide
example : fromUint16 0x0102 = [1, 2] := by decide
example : toUint32 [1, 2, 3] = .error .indexOutOfRange := by decide
example : toUint32 [0, 0, 1, 0, 9] = .ok 256 := by decide
example : toUint64 [0, 0, 0, 0, 0, 0, 1, 0] = .ok 256 := by decide
example : bcmp (fromUint32 255) (fromUint32 256) = .lt := by
  rw [C12_lib_fromUint32_order]; decide
example : bcmp (fromUint32 65536) (fromUint32 65535) = .gt := by
  rw [C12_lib_fromUint32_order]; decide
example : bytesSort ([256, 1, 255].map fun h => join [[7], fromUint32 h])
    = [[7, 0, 0, 0, 1], [7, 0, 0, 0, 255], [7, 0, 0, 1, 0]] := by decide
example : join [[1, 2], [], [3]] = [1, 2, 3] := by decide
example : joinSize 5 [[1, 2], [3]] = .ok [1, 2, 3, 0, 0] := by decide
example : joinSize (-1) [[1]] = .error .negativeLen := by decide
example : join [[1], [2, 3]] = join [[1, 2], [3]] := by decide  -- prefixes of different length do collide
