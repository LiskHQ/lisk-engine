/-
C09 — the fork choice `Executer.process` runs on every block taken from the postBlock queue never panics,
in particular not in a node STATE in which an optional piece of state is absent.

`Executer.process` builds `forkchoice.NewForkChoice(tip header, block header, slot calculator,
c.lastBlockReceived)` for every block a peer gossips (or an RPC client posts) and asks
`IsIdenticalBlock → IsValidBlock → IsDoubleForging → IsTieBreak → IsDifferentChain`. `c.lastBlockReceived` is a
`*time.Time` that is nil after every (re)start and stays nil while the tip comes from the synchroniser; the
block reaching this code is attacker-chosen (a statelessly valid block of any shape). Seeded change C09-15
merged the two received-within-slot helpers and lost the nil case: a competing block of tie-break shape then
crashes the consensus goroutine.

Model: `Model/ForkChoiceNil.lean` — every pointer of `forkChoice` is an `Option`, every dereference has the
explicit outcome `Res.panic`, so that "never panics" is a statement about the model and not a convention.

Tie A (regenerated on every run by tools/fngen, typed translation with the NIL DISCIPLINE of tools/fngen/nil.go):
`Gen.fcnIsIdenticalBlock, fcnIsValidBlock, fcnIsDuplicateBlock, fcnIsDoubleForging, fcnLastReceivedInSlot,
fcnIsTieBreak, fcnIsDifferentChainFn, fcnIsDifferentChain` — every fork-choice predicate `process` evaluates; the
receive time of the tip is an `Option` parameter, the nil case is part of the generated definition
(`match lastReceivedAt with | none => true | some t => …`), and the translator REFUSES a dereference of
`c.lastBlockReceivedAt` that is not dominated by a nil check (`Gen.nilDiscipline` lists what it checked and
what it assumes). `Gen.processOrder` / `Gen.VS.Executer_process`: the order of the questions and where
`lastBlockReceived` is written.

Idea: on the records `process` builds (`C09fc`: the three pointers present) every predicate of the model
returns `ok` of the regenerated definition, so the classification is `ok` of a total function
(`C09_fc_classify_eq`) and cannot panic; for arbitrary records a panic needs one of the three pointers
to be nil. A tip without receive time counts as received within its slot (LIP-0014). With the merged
helper of C09-15 in the fourth place (`classifyWith` for any helper) the classification panics exactly
for a duplicate-height competitor of a later slot at a tip without receive time. The section before the
non-vacuity examples holds the obligations on the regenerated tables (nil discipline, order of the
questions, where `process` writes the receive time).
-/
import LiskVerif.Model.ForkChoiceNil
import LiskVerif.Gen.Fns
import LiskVerif.Gen.Fns2
import LiskVerif.Gen.VerifySkeleton
import LiskVerif.Props.C07_Slot

open LiskVerif LiskVerif.Gen
open LiskVerif.FCN hiding FC isDifferentChain

/-! ### evaluation lemmas of the outcome type -/

namespace LiskVerif.FCN

@[simp] theorem Res.bind_ok {α β : Type} (a : α) (f : α → Res β) : (Res.ok a).bind f = f a := rfl
@[simp] theorem Res.bind_panic {α β : Type} (f : α → Res β) : (Res.panic : Res α).bind f = .panic := rfl
@[simp] theorem Res.map_ok {α β : Type} (a : α) (f : α → β) : (Res.ok a).map f = .ok (f a) := rfl
@[simp] theorem Res.map_panic {α β : Type} (f : α → β) : (Res.panic : Res α).map f = .panic := rfl
@[simp] theorem Res.and_ok (a b : Bool) : (Res.ok a).and (.ok b) = .ok (a && b) := by cases a <;> rfl
@[simp] theorem Res.and_false (b : Res Bool) : (Res.ok false).and b = .ok false := rfl
@[simp] theorem Res.and_true (b : Res Bool) : (Res.ok true).and b = b := rfl
@[simp] theorem Res.and_panic (b : Res Bool) : (Res.panic).and b = .panic := rfl
@[simp] theorem Res.not_ok (a : Bool) : (Res.ok a).not = .ok (!a) := rfl
@[simp] theorem Res.not_panic : (Res.panic : Res Bool).not = .panic := rfl
@[simp] theorem deref_some {α : Type} (a : α) : deref (some a) = .ok a := rfl
@[simp] theorem deref_none {α : Type} : deref (none : Option α) = .panic := rfl
@[simp] theorem eqR_ok {α : Type} [DecidableEq α] (a b : α) : eqR (.ok a) (.ok b) = .ok (decide (a = b)) := rfl
@[simp] theorem eqR_panic {α : Type} [DecidableEq α] (b : Res α) : eqR (.panic) b = .panic := rfl
@[simp] theorem ltR_ok (a b : Int) : ltR (.ok a) (.ok b) = .ok (decide (a < b)) := rfl

end LiskVerif.FCN

/-- the slot-number method of the model is the regenerated `(*BlockSlot).GetSlotNumber` -/
abbrev C09sn : Nat → Nat → Nat → Int := getSlotNumber

/-- the `forkChoice` value `Executer.process` builds: tip header, block header and slot calculator are there
(`Gen.nilDiscipline`: the three `nonnil-assumed` pointers), the receive time of the tip may be absent -/
def C09fc (tip cur : Hdr) (g bt : Nat) (recvTip : Option Nat) (now : Nat) : FCN.FC :=
  { lastHeader := some tip, currentHeader := some cur, slot := some (g, bt), lastBlockReceivedAt := recvTip,
    currentBlockReceivedAt := now }

/-- the duplicate test on two headers through the regenerated definition -/
def C09dup (tip cur : Hdr) : Bool :=
  fcnIsDuplicateBlock tip.height cur.height tip.maxHeightPrevoted cur.maxHeightPrevoted
    (decide (tip.previousBlockID = cur.previousBlockID))

/-- `IsTieBreak` through the regenerated definition -/
def C09tie (tip cur : Hdr) (g bt : Nat) (recvTip : Option Nat) (now : Nat) : Bool :=
  fcnIsTieBreak tip.height cur.height tip.maxHeightPrevoted cur.maxHeightPrevoted
    (decide (tip.previousBlockID = cur.previousBlockID)) tip.timestamp cur.timestamp recvTip now g bt

/-! ### the model is the regenerated code -/

theorem C09_fc_model_is_generated_identical (tip cur : Hdr) (g bt : Nat) (r : Option Nat) (now : Nat) :
    isIdenticalBlock (C09fc tip cur g bt r now) = .ok (fcnIsIdenticalBlock (decide (tip.id = cur.id))) := rfl

theorem C09_fc_model_is_generated_valid (tip cur : Hdr) (g bt : Nat) (r : Option Nat) (now : Nat) :
    isValidBlock (C09fc tip cur g bt r now) =
      .ok (fcnIsValidBlock tip.height cur.height (decide (tip.id = cur.previousBlockID))) := by
  simp [isValidBlock, C09fc, lastF, curF, fcnIsValidBlock]

theorem C09_fc_model_is_generated_duplicate (tip cur : Hdr) (g bt : Nat) (r : Option Nat) (now : Nat) :
    isDuplicateBlock (C09fc tip cur g bt r now) = .ok (C09dup tip cur) := by
  simp [isDuplicateBlock, C09fc, lastF, curF, C09dup, fcnIsDuplicateBlock]

theorem C09_fc_model_is_generated_double_forging (tip cur : Hdr) (g bt : Nat) (r : Option Nat) (now : Nat) :
    isDoubleForging (C09fc tip cur g bt r now) =
      .ok (fcnIsDoubleForging tip.height cur.height tip.maxHeightPrevoted cur.maxHeightPrevoted
        (decide (tip.previousBlockID = cur.previousBlockID)) (decide (tip.generatorAddress = cur.generatorAddress))) := by
  unfold isDoubleForging
  rw [C09_fc_model_is_generated_duplicate]
  simp [C09fc, lastF, curF, C09dup, fcnIsDoubleForging]

/-- the helper with the nil check: the model's `match` on the pointer is the generated `match` on the `Option` -/
theorem C09_fc_model_is_generated_received_last (tip cur : Hdr) (g bt : Nat) (r : Option Nat) (now : Nat) :
    receivedLastBlockWithinForgingSlot C09sn (C09fc tip cur g bt r now) = .ok (fcnLastReceivedInSlot r tip.timestamp g bt) := by
  cases r <;> simp [receivedLastBlockWithinForgingSlot, C09fc, lastF, slotOf, fcnLastReceivedInSlot]

theorem C09_fc_model_is_generated_received (tip cur : Hdr) (g bt : Nat) (r : Option Nat) (now : Nat) :
    receivedBlockWithinForgingSlot C09sn (C09fc tip cur g bt r now) =
      .ok (fcReceivedBlockWithinForgingSlot now cur.timestamp g bt) := by
  simp [receivedBlockWithinForgingSlot, C09fc, curF, slotOf, fcReceivedBlockWithinForgingSlot]

theorem C09_fc_model_is_generated_tiebreak (tip cur : Hdr) (g bt : Nat) (r : Option Nat) (now : Nat) :
    isTieBreak C09sn (C09fc tip cur g bt r now) = .ok (C09tie tip cur g bt r now) := by
  unfold isTieBreak
  rw [C09_fc_model_is_generated_duplicate, C09_fc_model_is_generated_received_last, C09_fc_model_is_generated_received]
  simp [C09fc, lastF, curF, slotOf, C09tie, fcnIsTieBreak, C09dup]

theorem C09_fc_model_is_generated_different_chain (tip cur : Hdr) (g bt : Nat) (r : Option Nat) (now : Nat) :
    FCN.isDifferentChain (C09fc tip cur g bt r now) =
      .ok (fcnIsDifferentChain tip.height cur.height tip.maxHeightPrevoted cur.maxHeightPrevoted) := by
  simp [FCN.isDifferentChain, C09fc, lastF, curF, fcnIsDifferentChain, fcnIsDifferentChainFn, isDifferentChainFn]

/-! ### totality -/

/-- **none of the predicates `Executer.process` evaluates panics** — for all headers (any heights, ids of any
length incl. empty, timestamps before the genesis timestamp, …), any slot calculator (block time 0 included), any
receive time of the block, and an ABSENT or present receive time of the tip -/
theorem C09_fc_predicates_total (tip cur : Hdr) (g bt : Nat) (r : Option Nat) (now : Nat) :
    let c := C09fc tip cur g bt r now
    (isIdenticalBlock c).isOk ∧ (isValidBlock c).isOk ∧ (isDuplicateBlock c).isOk ∧ (isDoubleForging c).isOk ∧
    (receivedLastBlockWithinForgingSlot C09sn c).isOk ∧ (receivedBlockWithinForgingSlot C09sn c).isOk ∧
    (isTieBreak C09sn c).isOk ∧ (FCN.isDifferentChain c).isOk := by
  exact ⟨rfl, congrArg Res.isOk (C09_fc_model_is_generated_valid tip cur g bt r now),
    congrArg Res.isOk (C09_fc_model_is_generated_duplicate tip cur g bt r now),
    congrArg Res.isOk (C09_fc_model_is_generated_double_forging tip cur g bt r now),
    congrArg Res.isOk (C09_fc_model_is_generated_received_last tip cur g bt r now),
    congrArg Res.isOk (C09_fc_model_is_generated_received tip cur g bt r now),
    congrArg Res.isOk (C09_fc_model_is_generated_tiebreak tip cur g bt r now),
    congrArg Res.isOk (C09_fc_model_is_generated_different_chain tip cur g bt r now)⟩

/-- the classification `process` makes, computed from the regenerated definitions -/
def C09class (tip cur : Hdr) (tie : Bool) : Class :=
  if fcnIsIdenticalBlock (decide (tip.id = cur.id)) then .identical
  else if fcnIsValidBlock tip.height cur.height (decide (tip.id = cur.previousBlockID)) then .validSuccessor
  else if fcnIsDoubleForging tip.height cur.height tip.maxHeightPrevoted cur.maxHeightPrevoted
      (decide (tip.previousBlockID = cur.previousBlockID)) (decide (tip.generatorAddress = cur.generatorAddress)) then .doubleForging
  else if tie then .tieBreak
  else if fcnIsDifferentChain tip.height cur.height tip.maxHeightPrevoted cur.maxHeightPrevoted then .differentChain
  else .discard

theorem C09_fc_classify_eq (tip cur : Hdr) (g bt : Nat) (r : Option Nat) (now : Nat) :
    classify C09sn (C09fc tip cur g bt r now) = .ok (C09class tip cur (C09tie tip cur g bt r now)) := by
  unfold classify classifyWith C09class
  rw [C09_fc_model_is_generated_identical, C09_fc_model_is_generated_valid, C09_fc_model_is_generated_double_forging,
    C09_fc_model_is_generated_tiebreak, C09_fc_model_is_generated_different_chain]
  simp only [Res.bind_ok, apply_ite Res.ok]

/-- with any tie-break helper in the fourth place: the classification panics exactly when the helper
is reached (the block is not identical, not the successor, not double forging) and panics -/
theorem C09_fc_classifyWith_panic_iff (tie : FCN.FC → Res Bool) (tip cur : Hdr) (g bt : Nat) (r : Option Nat) (now : Nat) :
    classifyWith tie (C09fc tip cur g bt r now) = .panic ↔
      (fcnIsIdenticalBlock (decide (tip.id = cur.id)) = false ∧
       fcnIsValidBlock tip.height cur.height (decide (tip.id = cur.previousBlockID)) = false ∧
       fcnIsDoubleForging tip.height cur.height tip.maxHeightPrevoted cur.maxHeightPrevoted
        (decide (tip.previousBlockID = cur.previousBlockID)) (decide (tip.generatorAddress = cur.generatorAddress)) = false) ∧
      tie (C09fc tip cur g bt r now) = .panic := by
  unfold classifyWith
  rw [C09_fc_model_is_generated_identical, C09_fc_model_is_generated_valid, C09_fc_model_is_generated_double_forging,
    C09_fc_model_is_generated_different_chain]
  simp only [Res.bind_ok]
  cases fcnIsIdenticalBlock _ <;> cases fcnIsValidBlock _ _ _ <;> cases fcnIsDoubleForging _ _ _ _ _ _ <;>
    try simp
  cases tie (C09fc tip cur g bt r now) with
  | panic => simp
  | ok b => cases b <;> simp <;> split <;> simp

/-- the clause of C09 for this code: whatever block a peer sends and whatever the node knows about its tip, the
fork choice of `Executer.process` answers -/
def C09NeverPanics (classifier : FCN.FC → Res Class) : Prop :=
  ∀ (tip cur : Hdr) (g bt : Nat) (recvTip : Option Nat) (now : Nat), classifier (C09fc tip cur g bt recvTip now) ≠ .panic

/-- **the fork choice of `Executer.process` never panics** -/
theorem C09_fc_never_panics : C09NeverPanics (classify C09sn) := by
  intro tip cur g bt r now h
  rw [C09_fc_classify_eq] at h
  cases h

/-- **for arbitrary `forkChoice` values (any pointer nil): a panic of the classification means that the tip
header, the block header or the slot calculator is nil** — the three pointers `process` always supplies; the
receive time of the tip (`lastBlockReceivedAt`) can be nil or not -/
theorem C09_fc_panic_needs_nil_required (c : FCN.FC) (h : classify C09sn c = .panic) :
    c.lastHeader = none ∨ c.currentHeader = none ∨ c.slot = none := by
  obtain ⟨l, cu, s, r, now⟩ := c
  cases l with
  | none => exact Or.inl rfl
  | some tip =>
    cases cu with
    | none => exact Or.inr (Or.inl rfl)
    | some cur =>
      cases s with
      | none => exact Or.inr (Or.inr rfl)
      | some p =>
        obtain ⟨g, bt⟩ := p
        exact absurd h (C09_fc_never_panics tip cur g bt r now)

/-! ### LIP-0014: a tip without receive time counts as received within its slot -/

/-- the nil case of the regenerated helper -/
theorem C09_fc_absent_receive_time_is_in_slot (ts g bt : Nat) : fcnLastReceivedInSlot none ts g bt = true := rfl

/-- **no tie break against a tip without receive time** (just restarted / tip from the synchroniser) -/
theorem C09_fc_tiebreak_absent_receive_time (tip cur : Hdr) (g bt now : Nat) :
    isTieBreak C09sn (C09fc tip cur g bt none now) = .ok false := by
  rw [C09_fc_model_is_generated_tiebreak]
  simp [C09tie, fcnIsTieBreak, fcnLastReceivedInSlot]

/-- **an absent receive time gives the answers of ANY receive time inside the tip's slot** (same slot number as
the tip's timestamp): tie-break verdict and classification -/
theorem C09_fc_absent_time_eq_received_in_slot (tip cur : Hdr) (g bt t now : Nat)
    (h : getSlotNumber t g bt = getSlotNumber tip.timestamp g bt) :
    isTieBreak C09sn (C09fc tip cur g bt none now) = isTieBreak C09sn (C09fc tip cur g bt (some t) now) ∧
    classify C09sn (C09fc tip cur g bt none now) = classify C09sn (C09fc tip cur g bt (some t) now) := by
  have e : C09tie tip cur g bt none now = C09tie tip cur g bt (some t) now := by
    simp [C09tie, fcnIsTieBreak, fcnLastReceivedInSlot, h]
  exact ⟨by rw [C09_fc_model_is_generated_tiebreak, C09_fc_model_is_generated_tiebreak, e],
    by rw [C09_fc_classify_eq, C09_fc_classify_eq, e]⟩

/-- … stated on the LIP-0014 grid (slot `k` = `[g + k·bt, g + (k+1)·bt)`, Props/C07_Slot.lean): a receive time in
the slot of the tip's timestamp -/
theorem C09_fc_absent_time_lip14 (tip cur : Hdr) (g bt t now k : Nat) (hbt : 0 < bt)
    (h1 : g ≤ tip.timestamp ∧ tip.timestamp < 4294967296) (h2 : g ≤ t ∧ t < 4294967296)
    (hk : C07SlotSpec g bt tip.timestamp k) (ht : C07SlotSpec g bt t k) :
    classify C09sn (C09fc tip cur g bt none now) = classify C09sn (C09fc tip cur g bt (some t) now) := by
  refine (C09_fc_absent_time_eq_received_in_slot tip cur g bt t now ?_).2
  rw [(C07_slot_number_iff g bt t k hbt h2.1 h2.2).mpr ht, (C07_slot_number_iff g bt _ k hbt h1.1 h1.2).mpr hk]

/-- the regenerated `Option` form is the C07 form (`fromSync` flag + receive time) of the same Go function, and
`IsTieBreak` over the `Option` is the timed `IsTieBreak` of Props/C07_Slot.lean, so the C07 theorems about the
tie break (`C07_slot_tiebreak_lip14` …) speak about the tie-break definition used here. (The other four
questions are tied to the regenerated code by `C09_fc_model_is_generated_*` only, not to `C07classify`.) -/
theorem C09_fc_gen_tiebreak_eq_c07 (tip cur : Hdr) (g bt : Nat) (r : Option Nat) (now : Nat) :
    fcnLastReceivedInSlot r tip.timestamp g bt =
      fcReceivedLastBlockWithinForgingSlot r.isNone (r.getD 0) tip.timestamp g bt ∧
    C09tie tip cur g bt r now =
      fcIsTieBreakTimed (C09dup tip cur) tip.timestamp cur.timestamp
        (fcReceivedLastBlockWithinForgingSlot r.isNone (r.getD 0) tip.timestamp g bt)
        (fcReceivedBlockWithinForgingSlot now cur.timestamp g bt) g bt := by
  cases r <;> exact ⟨rfl, rfl⟩

/-! ### the merged helper of seeded change C09-15 -/

/-- the merged helper on a header that is there: it panics without a receive time and compares slots otherwise -/
private theorem merged_eq (tip cur : Hdr) (g bt : Nat) (r : Option Nat) (now : Nat) (h : Hdr) (ra : Option Nat) :
    receivedWithinMerged C09sn (C09fc tip cur g bt r now) (some h) ra =
      match ra with
      | none => .panic
      | some t => .ok (decide (getSlotNumber t g bt = getSlotNumber h.timestamp g bt)) := by
  cases ra <;> simp [receivedWithinMerged, C09fc, slotOf]

theorem C09_fc_merged_tiebreak_eq (tip cur : Hdr) (g bt : Nat) (r : Option Nat) (now : Nat) :
    isTieBreakMerged C09sn (C09fc tip cur g bt r now) =
      if C09dup tip cur && decide (getSlotNumber tip.timestamp g bt < getSlotNumber cur.timestamp g bt) then
        match r with
        | none => .panic
        | some _ => .ok (C09tie tip cur g bt r now)
      else .ok false := by
  unfold isTieBreakMerged
  rw [C09_fc_model_is_generated_duplicate]
  have hl := merged_eq tip cur g bt r now tip r
  have hc := merged_eq tip cur g bt r now cur (some now)
  simp only [C09fc] at hl hc ⊢
  rw [hl, hc]
  cases hd : C09dup tip cur <;> cases hs : decide (getSlotNumber tip.timestamp g bt < getSlotNumber cur.timestamp g bt) <;>
    cases r <;> simp [lastF, curF, slotOf, hs, C09tie, fcnIsTieBreak, fcnLastReceivedInSlot,
      fcReceivedBlockWithinForgingSlot] <;>
    simp_all [C09dup]

/-- **the merged helper panics EXACTLY when the tip has no receive time and the incoming block is a duplicate-height
competitor (same height, maxHeightPrevoted, parent) of a LATER slot** -/
theorem C09_fc_merged_panics_iff (tip cur : Hdr) (g bt : Nat) (r : Option Nat) (now : Nat) :
    isTieBreakMerged C09sn (C09fc tip cur g bt r now) = .panic ↔
      r = none ∧ C09dup tip cur = true ∧ getSlotNumber tip.timestamp g bt < getSlotNumber cur.timestamp g bt := by
  rw [C09_fc_merged_tiebreak_eq]
  cases hd : C09dup tip cur <;> cases hs : decide (getSlotNumber tip.timestamp g bt < getSlotNumber cur.timestamp g bt) <;>
    cases r <;> simp_all

/-- with a receive time the merged helper IS the old code (the change is invisible once a block was applied
through the valid-successor path) -/
theorem C09_fc_merged_agrees_otherwise (tip cur : Hdr) (g bt t now : Nat) :
    isTieBreakMerged C09sn (C09fc tip cur g bt (some t) now) = isTieBreak C09sn (C09fc tip cur g bt (some t) now) := by
  rw [C09_fc_merged_tiebreak_eq, C09_fc_model_is_generated_tiebreak]
  cases hd : C09dup tip cur <;> cases hs : decide (getSlotNumber tip.timestamp g bt < getSlotNumber cur.timestamp g bt) <;>
    simp_all [C09tie, fcnIsTieBreak, C09dup] <;>
    -- left: a duplicate whose slot is not later (`hs`): the old test asks for a later slot too, against `hs`
    (intro h; omega)

/-- **`Executer.process` with the merged helper panics exactly for**: tip without receive time ∧ block not
identical ∧ not the successor ∧ not double forging (another generator) ∧ duplicate-height competitor ∧ later slot -/
theorem C09_fc_merged_classify_panics_iff (tip cur : Hdr) (g bt : Nat) (r : Option Nat) (now : Nat) :
    classifyMerged C09sn (C09fc tip cur g bt r now) = .panic ↔
      r = none ∧ tip.id ≠ cur.id ∧
      fcnIsValidBlock tip.height cur.height (decide (tip.id = cur.previousBlockID)) = false ∧
      tip.generatorAddress ≠ cur.generatorAddress ∧
      C09dup tip cur = true ∧ getSlotNumber tip.timestamp g bt < getSlotNumber cur.timestamp g bt := by
  rw [classifyMerged, C09_fc_classifyWith_panic_iff, C09_fc_merged_panics_iff]
  have hd : fcnIsDoubleForging tip.height cur.height tip.maxHeightPrevoted cur.maxHeightPrevoted
      (decide (tip.previousBlockID = cur.previousBlockID)) (decide (tip.generatorAddress = cur.generatorAddress)) =
      (C09dup tip cur && decide (tip.generatorAddress = cur.generatorAddress)) := rfl
  simp only [fcnIsIdenticalBlock, hd, decide_eq_false_iff_not, ne_eq]
  constructor
  · rintro ⟨⟨h1, h2, h3⟩, hr, h4, h5⟩
    exact ⟨hr, h1, h2, by simpa [h4] using h3, h4, h5⟩
  · rintro ⟨hr, h1, h2, h3, h4, h5⟩
    exact ⟨⟨h1, h2, by simp [h3]⟩, hr, h4, h5⟩

/-- a concrete scenario (block time 10, genesis 1000003, tip of slot 999 and competing block of slot 1000 by
another generator, same height / parent / maxHeightPrevoted): without a receive time of the tip (node just
restarted) the merged code panics and the real code answers "discard"; with a receive time of the tip outside
its slot the merged code answers "tie break" -/
theorem C09_fc_merged_counterexample :
    let tip : Hdr := { height := 500, generatorAddress := [0xa], maxHeightGenerated := 0, maxHeightPrevoted := 430,
                       id := [1], previousBlockID := [7], timestamp := 1009993 }
    let cur : Hdr := { height := 500, generatorAddress := [0xb], maxHeightGenerated := 0, maxHeightPrevoted := 430,
                       id := [2], previousBlockID := [7], timestamp := 1010003 }
    classifyMerged C09sn (C09fc tip cur 1000003 10 none 1010005) = .panic ∧
    classify C09sn (C09fc tip cur 1000003 10 none 1010005) = .ok .discard ∧
    classifyMerged C09sn (C09fc tip cur 1000003 10 (some 1010004) 1010005) = .ok .tieBreak := by
  decide +kernel

/-- **the merged helper violates the clause** -/
theorem C09_fc_merged_violates : ¬ C09NeverPanics (classifyMerged C09sn) := by
  intro h
  exact h _ _ _ _ _ _ C09_fc_merged_counterexample.1

/-! ### obligations on the regenerated tables -/

/-- the nil discipline the translator checked on the current source (`tools/fngen/nil.go`):
* every dereference of `c.lastBlockReceivedAt` is dominated by a nil check (status `nil-checked`; an undominated
  one is a translator error), and both translations of `receivedLastBlockWithinForgingSlot` contain that check;
* the pointers ASSUMED non-nil are exactly the three `Executer.process` supplies;
* the seven `fcn…` definitions of the last list and the three C07 definitions were translated under the
  discipline (`fcnIsDifferentChainFn`, a comparison of four numbers, has no entry in `nilDiscipline`) -/
theorem C09_fc_gen_nil_discipline :
    (nilDiscipline.filter (fun e => e.2.2.1 == "c.lastBlockReceivedAt")).all (fun e => e.2.2.2.1 == "nil-checked") = true ∧
    (nilDiscipline.filter (fun e => e.2.2.1 == "c.lastBlockReceivedAt")).map (fun e => e.1) =
      ["fcReceivedLastBlockWithinForgingSlot", "fcnLastReceivedInSlot"] ∧
    ((nilDiscipline.filter (fun e => e.2.2.2.1 == "nonnil-assumed")).map (fun e => e.2.2.1)).eraseDups =
      ["c.slot", "c.currentHeader", "c.lastHeader"] ∧
    (nilDiscipline.map (fun e => e.1)).eraseDups =
      ["fcReceivedBlockWithinForgingSlot", "fcReceivedLastBlockWithinForgingSlot", "fcIsTieBreakTimed", "fcnIsIdenticalBlock",
       "fcnIsValidBlock", "fcnIsDuplicateBlock", "fcnIsDoubleForging", "fcnLastReceivedInSlot", "fcnIsTieBreak",
       "fcnIsDifferentChain"] := by
  decide +kernel

/-- `classifyWith` asks in the order of `Executer.process` (the untyped translation of fngen, Gen/Fns.lean: the method names in the
order of the `if` statements; vskelgen: the checks and branches of the body) -/
theorem C09_fc_gen_process_order :
    processOrder = ["IsIdenticalBlock", "IsValidBlock", "IsDoubleForging", "IsTieBreak", "IsDifferentChain"] ∧
    (VS.Executer_process.filter (fun i => i.ctx == [] && (i.kind == "check" || i.kind == "branch") && i.op == "is")).map (fun i => i.lhs) =
      ["fc.IsIdenticalBlock()", "fc.IsValidBlock()", "fc.IsDoubleForging()", "fc.IsTieBreak()", "fc.IsDifferentChain()"] :=
  ⟨C07_process_order, by decide +kernel⟩

/-- **why the receive time is absent in reachable states**: `process` hands `self.lastBlockReceived` to
`NewForkChoice`, and the only assignments to it INSIDE `process` are at the end of the valid-successor and the
tie-break branch — not on the different-chain branch (tip applied by the synchroniser). The statement is about the
skeleton of `Executer.process` alone: that no other function (`Init` at a restart, …) assigns it is not part of it.
A node that has not yet applied a block through one of the two branches evaluates the fork choice with a nil
receive time. -/
theorem C09_fc_gen_receive_time_written_only_on_apply :
    (VS.Executer_process.filter (fun i => i.kind == "call" && i.lhs.startsWith "forkchoice.NewForkChoice")).map (fun i => i.lhs) =
      ["forkchoice.NewForkChoice(self.chain.LastBlock().Header, ctx.block.Header, self.blockSlot, self.lastBlockReceived)"] ∧
    (VS.Executer_process.filter (fun i => i.kind == "set" && i.lhs == "self.lastBlockReceived")).map (fun i => (i.ctx, i.rhs)) =
      [(["fc.IsValidBlock()"], "&time.Now()"), (["fc.IsTieBreak()"], "&time.Now()")] := by
  decide +kernel

/-! ### non-vacuity -/

/-- a tie-break competitor at a tip WITH a receive time outside its slot wins the tie break; at a tip without
receive time it is discarded; an absent receive time and a zero block time do not panic -/
example :
    let tip : Hdr := { height := 7, generatorAddress := [1], maxHeightGenerated := 0, maxHeightPrevoted := 2, id := [1], previousBlockID := [9], timestamp := 1000053 }
    let cur : Hdr := { height := 7, generatorAddress := [2], maxHeightGenerated := 0, maxHeightPrevoted := 2, id := [2], previousBlockID := [9], timestamp := 1000063 }
    classify C09sn (C09fc tip cur 1000003 10 (some 1000063) 1000071) = .ok .tieBreak ∧
    classify C09sn (C09fc tip cur 1000003 10 none 1000071) = .ok .discard ∧
    classify C09sn (C09fc tip cur 1000003 10 (some 1000055) 1000071) = .ok .discard ∧
    classify C09sn (C09fc tip cur 1000003 0 none 1000071) = .ok .discard ∧
    classify C09sn { lastHeader := some tip, currentHeader := some cur, slot := none, lastBlockReceivedAt := none, currentBlockReceivedAt := 0 } = .panic ∧
    classify C09sn { lastHeader := none, currentHeader := some cur, slot := some (1, 1), lastBlockReceivedAt := some 5, currentBlockReceivedAt := 0 } = .panic := by
  decide +kernel

example : C09NeverPanics (classify C09sn) ∧ ¬ C09NeverPanics (classifyMerged C09sn) :=
  ⟨C09_fc_never_panics, C09_fc_merged_violates⟩
