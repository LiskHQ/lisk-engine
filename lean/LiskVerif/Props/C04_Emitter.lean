/-
C04 — "a finalization event is emitted exactly for those raises": what a subscriber of the consensus events
(the generator certifies the range between `Original` and `Next` of every `EventBlockFinalize`) actually
RECEIVES.  `Props/C04*.lean` prove which events `processValidated` publishes; this file proves, about the
model of `pkg/event` (`Model/Emitter.lean`, tied to the code by the pseudo-property EMITTER), that a
subscriber that keeps receiving gets exactly the messages published on its topic after it subscribed, each
once, in publication order — for publication bursts of ANY length (fast sync, block sync and temp-block
restores raise finality hundreds of times in a row) and whatever other subscribers and topics do.
-/
import LiskVerif.Lemmas.Emitter

open LiskVerif LiskVerif.Emitter

/-- the messages a history publishes on a topic, in order -/
def C04Emitter.msgsOn (t : String) : List Op → List Msg
  | [] => []
  | .publish t' m :: r => if t' == t then m :: msgsOn t r else msgsOn t r
  | _ :: r => msgsOn t r

/-- operations that remove nobody: allocation, further subscribers, publications -/
def C04Emitter.keeps : Op → Bool
  | .newChan | .subscribe _ | .publish _ _ => true
  | _ => false

open C04Emitter

private theorem keeps_fresh {o : Op} (h : keeps o = true) : o.fresh = true := by
  cases o <;> simp [keeps, Op.fresh] at *

/-- main lemma: a channel registered (once — all channels are distinct) under topic `t` receives, during any
history of allocations, further subscriptions and publications, exactly the publications on `t`, in order -/
theorem C04_emitter_registered_channel_receives_exactly (s : St) (t : String) (c : Chan) (hi : Inv s)
    (hr : (t, c) ∈ s.subs) (ops : List Op) (hk : ∀ o ∈ ops, keeps o = true) :
    (ops.foldl step s).recvOf c = s.recvOf c ++ msgsOn t ops ∧ (ops.foldl step s).dead = false := by
  induction ops generalizing s with
  | nil => simp [msgsOn, hi.alive]
  | cons o r ih =>
    have hko := hk o (by simp)
    have hi' := inv_step hi o (keeps_fresh hko)
    have hr' : (t, c) ∈ (step s o).subs := by
      unfold step
      simp only [hi.alive, Bool.false_eq_true, if_false]
      cases o with
      | newChan => exact hr
      | subscribe t' => exact List.mem_append_left _ hr
      | publish t' m =>
        obtain ⟨_, hsubs, _⟩ := sendAll_spec m (s.chansOf t') s hi.alive (hi.chansOf_open t')
        show (t, c) ∈ (sendAll s m (s.chansOf t')).subs
        rw [hsubs]; exact hr
      | on _ _ => simp [keeps] at hko
      | close => simp [keeps] at hko
      | unsubscribeAll _ => simp [keeps] at hko
      | unsubscribe _ _ => simp [keeps] at hko
    have ih' := ih (step s o) hi' hr' (fun x hx => hk x (by simp [hx]))
    rw [List.foldl_cons, ih'.1]
    refine ⟨?_, ih'.2⟩
    cases o with
    | newChan => simp [step, hi.alive, newChan, St.recvOf, msgsOn]
    | subscribe t' => simp [step, hi.alive, subscribe, on, newChan, St.recvOf, msgsOn]
    | publish t' m =>
      rw [hi.step_publish_recvOf]
      by_cases ht : t' = t
      · subst ht
        have : (s.chansOf t').count c = 1 := (hi.chansOf_nodup t').count.trans (if_pos (mem_chansOf.mpr hr))
        simp [this, msgsOn]
      · have : (s.chansOf t').count c = 0 :=
          List.count_eq_zero_of_not_mem fun hm => ht (hi.topic_of_mem_chansOf hr hm).symm
        have hne : (t' == t) = false := by simp [ht]
        simp [this, msgsOn, hne]
    | on _ _ => simp [keeps] at hko
    | close => simp [keeps] at hko
    | unsubscribeAll _ => simp [keeps] at hko
    | unsubscribe _ _ => simp [keeps] at hko

/-- a channel id that has not been allocated yet has an empty log: logs only ever belong to allocated channels -/
private theorem recv_alloc (ops : List Op) (h : ∀ o ∈ ops, o.fresh = true) :
    ∀ d, (run ops).next ≤ d → (run ops).recvOf d = [] := by
  suffices H : ∀ (s : St), Inv s → (∀ d, s.next ≤ d → s.recvOf d = []) → ∀ ops : List Op, (∀ o ∈ ops, o.fresh = true) →
      ∀ d, (ops.foldl step s).next ≤ d → (ops.foldl step s).recvOf d = [] by
    exact H {} inv_init (by intro d _; rfl) ops h
  intro s hi hs ops
  induction ops generalizing s with
  | nil => intro _ d hd; exact hs d hd
  | cons o r ih =>
    intro hf
    apply ih (step s o) (inv_step hi o (hf o (by simp))) _ (fun x hx => hf x (by simp [hx]))
    intro d hd
    have hd' : s.next ≤ d := Nat.le_trans (step_frame s o).1 hd
    -- `d` is not allocated, hence not registered
    rw [hi.step_recvOf_unregistered o fun t hm =>
      Nat.lt_irrefl _ (Nat.lt_of_lt_of_le (hi.alloc (t, d) (mem_chansOf.mp hm)) hd')]
    exact hs d hd'

/-- THE statement for the consensus events: after ANY earlier history of an emitter used with `Subscribe`
only, a new subscriber of topic `t` receives, over any later run of publications (of any length, on any
topics) and further subscriptions, exactly the messages published on `t` after it subscribed — each once,
in publication order; nobody panics -/
theorem C04_emitter_subscriber_receives_every_event_in_order (pre post : List Op) (t : String)
    (hpre : ∀ o ∈ pre, o.fresh = true) (hpost : ∀ o ∈ post, keeps o = true) :
    let c := (run pre).next
    (run (pre ++ [.subscribe t] ++ post)).recvOf c = msgsOn t post ∧
    (run (pre ++ [.subscribe t] ++ post)).dead = false := by
  intro c
  have hi : Inv (run pre) := inv_foldl inv_init pre hpre
  have hi1 : Inv (subscribe (run pre) t).1 := inv_subscribe hi t
  have halive : (run pre).dead = false := hi.alive
  have hstep : step (run pre) (.subscribe t) = (subscribe (run pre) t).1 := by
    unfold step; simp [halive]
  have hrun : run (pre ++ [.subscribe t] ++ post) = post.foldl step (subscribe (run pre) t).1 := by
    have e : run (pre ++ [.subscribe t] ++ post) = post.foldl step (step (run pre) (.subscribe t)) := by
      simp only [run, List.foldl_append, List.foldl_cons, List.foldl_nil]
    rw [e, hstep]
  have hreg : (t, c) ∈ (subscribe (run pre) t).1.subs := by
    show (t, c) ∈ (run pre).subs ++ [(t, (run pre).next)]
    simp [c]
  have main := C04_emitter_registered_channel_receives_exactly (subscribe (run pre) t).1 t c hi1 hreg post hpost
  have hempty : (subscribe (run pre) t).1.recvOf c = [] := by
    show (run pre).recvOf c = []
    exact recv_alloc pre hpre c (Nat.le_refl _)
  rw [hrun]
  refine ⟨?_, main.2⟩
  rw [main.1, hempty]; simp

/-- non-vacuity / the burst case: 200 finalize events published back to back after the subscription all
arrive, in order (kernel evaluation of the model, no appeal to the theorem) -/
example :
    (run ([.subscribe "new", .publish "finalize" 0, .subscribe "finalize"] ++
        (List.range 200).map (fun i => Op.publish "finalize" (i + 1)))).recvOf 1 = (List.range 200).map (· + 1) := by
  decide +kernel
