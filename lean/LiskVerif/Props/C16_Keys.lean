/-
C16 — the diff record stored for a committed block names exactly the keys the block changed, for state
keys of ANY length (the model's keys are arbitrary byte strings; the tree key of a key is built from the key
and never replaces it).  The record is what `Revert` and the restart recovery (`Init`) undo the block with
(`C16_revert_restores_state_and_root`, `C16_init_recovers_to_engine_tip`); the correspondence C16WIDE reads
it back from the application database after every Commit (`diff <h>`) for module store keys of 0..70 bytes.
-/
import LiskVerif.Props.C16
import LiskVerif.Props.C12_More

open LiskVerif LiskVerif.DiffDB LiskVerif.Exec

/-- **The stored diff is the diff of the block**: after a successful (non-dry) `Commit` the record found under
the block's height is the diff of the staged overlay of the block (`DiffDB.commit`, property C12) — its keys are
the state keys the module code used, not the keys of the state tree. -/
theorem C16_stored_diff_is_block_diff (P : Params) (a : App) (c : Ctx) (hctx : a.ctx = some c)
    (expected : Option Bytes) (a' : App) (root : Bytes)
    (hc : Exec.commit P a expected false = (a', some root)) :
    findDiff a'.diffs c.height = some (DiffDB.commit (stOf a c)).2 := by
  rw [(commit_ok P a c hctx expected a' root hc).1]
  exact findDiff_putDiff _ _ _

/-- **The stored diff names exactly the keys the block changed** (any key lengths): `Added` are the keys absent
from the committed state before the block and present in the state of the block, `Deleted` the keys present
before and absent after with the value they had, every key whose value changed is in `Updated` with its
previous value, and no key is named twice. -/
theorem C16_stored_diff_names_changed_keys (P : Params) (a : App) (c : Ctx) (hctx : a.ctx = some c)
    (hinv : C12Inv (stOf a c)) (expected : Option Bytes) (a' : App) (root : Bytes)
    (hc : Exec.commit P a expected false = (a', some root)) :
    ∃ d, findDiff a'.diffs c.height = some d ∧
      (∀ k, k ∈ d.added ↔ slookup a.store k = none ∧ (eff (stOf a c) k).isSome = true) ∧
      (∀ k i, (k, i) ∈ d.deleted ↔ slookup a.store k = some i ∧ eff (stOf a c) k = none) ∧
      (∀ k i v, slookup a.store k = some i → eff (stOf a c) k = some v → v ≠ i → (k, i) ∈ d.updated) ∧
      (C12diffKeys d).Nodup :=
  ⟨_, C16_stored_diff_is_block_diff P a c hctx expected a' root hc,
    fun k => C12_diff_added_iff (stOf a c) hinv k,
    fun k i => C12_diff_deleted_iff (stOf a c) hinv k i,
    fun k i v hs he hv => C12_diff_updated_of_changed (stOf a c) hinv k i v hs he hv,
    C12_diff_disjoint (stOf a c) hinv⟩

/-- the tree key of a state key of any length: the (at most) 6 leading bytes followed by the hash of the rest —
a value computed FROM the key; the key itself is what the diff and the database hold -/
theorem C16_tree_key_shape (H : Bytes → Bytes) (k : Bytes) :
    treeKey H k = k.take 6 ++ H (k.drop 6) ∧ (treeKey H k).length = min 6 k.length + (H (k.drop 6)).length := by
  refine ⟨rfl, ?_⟩
  simp [treeKey, List.length_take]

/-- non-vacuity: a block over a 40-byte key (state db key of 41 bytes) -/
example :
    let k : Bytes := [0, 0, 0, 1, 0, 0] ++ List.replicate 34 0xa1
    let a : App := { ctx := some { height := 1, cache := (DiffDB.set { store := [] } k [1]).cache } }
    (findDiff (Exec.commit { H := fun b => b, smtRoot := fun _ => [] } a none false).1.diffs 1).map (·.added) = some [k] := by
  decide
