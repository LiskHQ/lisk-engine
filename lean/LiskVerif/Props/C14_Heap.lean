/-
C14 — the binary heaps of the transaction pool and of the block generator (Go `container/heap` over
pkg/txpool/heap.go `NonceMinHeap` / `FeeMinHeap` / `FeeMaxHeap` and pkg/generator `FeePriorityTransactions`).

`Model/GoHeap.lean` is a line-by-line transcription of `container/heap` (tied to the real package by the
differential harness LIBHEAP).  Here, for ALL arrays and any comparison `less` that is asymmetric and negatively
transitive (a strict weak order; asymmetry follows from irreflexivity + transitivity, `C14_heap_asym_of_irr_trans`;
the two hypotheses `hasym`, `hneg` of the theorems are the fields of `GoHeap.SWO`, which the lemma file takes):

1. multiset: `up`, `down`, `init`, `fix` permute the array, `push` adds one element, `pop` / `remove` take one
   out (the root resp. the element at position `i`); the panics are exactly the out-of-range cases;
2. invariant: `init` establishes it, `push`, `pop`, `remove i`, `fix i` (after any replacement of element `i`)
   keep it;
3. minimum: the root of a heap is a minimum, `pop` returns it, `drain` (heap sort) is sorted and a permutation;
4. instances: `<` / `>` on `Nat`, and the fee min heap in the terms of the pool model (`TxPool.minPrio`).

This justifies the abstraction of Model/TxPool.lean / Model/Generator.lean: a heap = a multiset of which only a
minimum is read.
-/
import LiskVerif.Lemmas.GoHeap
import LiskVerif.Lemmas.TxPool

open LiskVerif LiskVerif.GoHeap

/-! ## hypotheses on `less` -/

/-- irreflexive + transitive gives asymmetric -/
theorem C14_heap_asym_of_irr_trans {α : Type} (less : α → α → Bool) (hirr : ∀ x, less x x = false)
    (htr : ∀ x y z, less x y = true → less y z = true → less x z = true) :
    ∀ x y, less x y = true → less y x = false := asym_of_irr_trans hirr htr

/-! ## 1. multiset -/

theorem C14_heap_up_perm {α : Type} (less : α → α → Bool) (a : Array α) (j : Nat) :
    (up less a j).toList.Perm a.toList := upF_perm less j a j

theorem C14_heap_down_perm {α : Type} (less : α → α → Bool) (a : Array α) (i n : Nat) :
    (down less a i n).1.toList.Perm a.toList := downF_perm less n a i n

theorem C14_heap_init_perm {α : Type} (less : α → α → Bool) (a : Array α) :
    (init less a).toList.Perm a.toList := foldl_down_perm less a.size _ a

theorem C14_heap_push_perm {α : Type} (less : α → α → Bool) (a : Array α) (x : α) :
    (push less a x).toList.Perm (a.toList ++ [x]) := by
  simpa [push, up] using upF_perm less a.size (a.push x) a.size

/-- a successful `Fix` ran `sift` inside the heap, or was `Fix(h, 0)` on the empty heap -/
private theorem fix_some {α : Type} {less : α → α → Bool} {a a' : Array α} {i : Nat} (h : fix less a i = some a') :
    (i < a.size ∧ a' = sift less a i a.size) ∨ (a.size = 0 ∧ a' = a) := by
  by_cases hi : i < a.size
  · rw [fix_of_lt less hi] at h; cases h; exact Or.inl ⟨hi, rfl⟩
  · rw [fix_of_ge less (Nat.le_of_not_lt hi)] at h
    by_cases h0 : i = 0
    · rw [if_pos h0] at h; cases h; exact Or.inr ⟨by omega, rfl⟩
    · rw [if_neg h0] at h; cases h

theorem C14_heap_fix_perm {α : Type} (less : α → α → Bool) (a a' : Array α) (i : Nat)
    (h : fix less a i = some a') : a'.toList.Perm a.toList := by
  rcases fix_some h with ⟨hi, rfl⟩ | ⟨_, rfl⟩
  · exact (sift_below less a hi).1
  · exact List.Perm.refl _

/-- `Fix` panics exactly for an index outside the heap, except `Fix(h, 0)` on the empty heap -/
theorem C14_heap_fix_none_iff {α : Type} (less : α → α → Bool) (a : Array α) (i : Nat) :
    fix less a i = none ↔ (a.size ≤ i ∧ i ≠ 0) := by
  by_cases hi : i < a.size
  · rw [fix_of_lt less hi]; simp; omega
  · rw [fix_of_ge less (Nat.le_of_not_lt hi)]
    by_cases h0 : i = 0
    · rw [if_pos h0]; simp [h0]
    · rw [if_neg h0]; simp [h0]; omega

/-- `Remove` panics exactly for an index outside the heap -/
theorem C14_heap_remove_none_iff {α : Type} (less : α → α → Bool) (a : Array α) (i : Nat) :
    remove less a i = none ↔ a.size ≤ i := remove_eq_none less

theorem C14_heap_remove_perm {α : Type} (less : α → α → Bool) (a a' : Array α) (i : Nat) (x : α)
    (h : remove less a i = some (a', x)) : (x :: a'.toList).Perm a.toList := by
  obtain ⟨hi, hb, rfl⟩ := remove_some less h
  have hp := (removeArr_spec less hi).1
  rw [back_pop_toList _ _ hb] at hp
  exact (List.perm_append_comm (l₁ := [x])).trans hp

/-- `Remove(h, i)` returns the element that was at position `i` -/
theorem C14_heap_remove_elem {α : Type} (less : α → α → Bool) (a a' : Array α) (i : Nat) (x : α)
    (h : remove less a i = some (a', x)) : a[i]? = some x := by
  obtain ⟨hi, hb, _⟩ := remove_some less h
  rw [Array.back?_eq_getElem?, removeArr_size less hi, (removeArr_spec less hi).2] at hb
  exact hb

/-- `Pop` panics exactly on the empty heap -/
theorem C14_heap_pop_none_iff {α : Type} (less : α → α → Bool) (a : Array α) :
    pop less a = none ↔ a.size = 0 := by
  rw [pop_eq_remove, remove_eq_none, Nat.le_zero]

theorem C14_heap_pop_perm {α : Type} (less : α → α → Bool) (a a' : Array α) (x : α)
    (h : pop less a = some (a', x)) : (x :: a'.toList).Perm a.toList :=
  C14_heap_remove_perm less a a' 0 x (pop_eq_remove less a ▸ h)

/-- `Pop` returns the element that was at the root -/
theorem C14_heap_pop_root {α : Type} (less : α → α → Bool) (a a' : Array α) (x : α)
    (h : pop less a = some (a', x)) : a[0]? = some x :=
  C14_heap_remove_elem less a a' 0 x (pop_eq_remove less a ▸ h)

/-! ## 2. invariant -/

/-- the Bool invariant of the model in Prop form: no child is `less` than its parent -/
theorem C14_heap_isHeap_iff {α : Type} (less : α → α → Bool) (a : Array α) :
    isHeap less a = true ↔ ∀ k, 0 < k → k < a.size → lessAt less a k ((k - 1) / 2) = false :=
  isHeapUpTo_iff less a a.size

/-- `heap.Init` establishes the invariant for every array -/
theorem C14_heap_init_isHeap {α : Type} (less : α → α → Bool)
    (hasym : ∀ x y, less x y = true → less y x = false)
    (hneg : ∀ x y z, less x z = true → less x y = true ∨ less y z = true) (a : Array α) :
    isHeap less (init less a) = true := by
  have hs : (init less a).size = a.size := by simpa using (C14_heap_init_perm less a).length_eq
  rw [isHeap, isHeapUpTo_iff_heapFrom, hs]
  exact init_loop ⟨hasym, hneg⟩ a.size (a.size / 2) a rfl (fun i c hc h2 h3 => by omega)

theorem C14_heap_push_isHeap {α : Type} (less : α → α → Bool)
    (hasym : ∀ x y, less x y = true → less y x = false)
    (hneg : ∀ x y z, less x z = true → less x y = true ∨ less y z = true) (a : Array α) (x : α)
    (hh : isHeap less a = true) : isHeap less (push less a x) = true := by
  rw [isHeap, isHeapUpTo_iff_heapFrom] at *
  rw [push, up, upF_size, Array.size_push]
  -- the new last position has no children; every other edge is an edge of `a`
  refine upF_heapFrom ⟨hasym, hneg⟩ _ _ _ _ (by simp) (Nat.lt_succ_self _) (Nat.le_refl _) ⟨?_, ?_⟩ ?_
  · intro i c hc h2 h3 h4 _
    rw [lessAt_congr less a (a.push x) _ _ (by rw [Array.getElem?_push, if_neg h4])
      (by rw [Array.getElem?_push, if_neg (by omega)])]
    exact hh i c hc (by omega) h3
  · intro g c _ hc h2 _; omega
  · intro c hc h2; omega

theorem C14_heap_remove_isHeap {α : Type} (less : α → α → Bool)
    (hasym : ∀ x y, less x y = true → less y x = false)
    (hneg : ∀ x y z, less x z = true → less x y = true ∨ less y z = true) (a a' : Array α) (i : Nat) (x : α)
    (hh : isHeap less a = true) (h : remove less a i = some (a', x)) : isHeap less a' = true := by
  rw [isHeap, isHeapUpTo_iff_heapFrom] at *
  obtain ⟨hi, _, rfl⟩ := remove_some less h
  have hr := removeArr_heap ⟨hasym, hneg⟩ hi hh
  rw [← removeArr_size less hi] at hr
  exact hr.pop

theorem C14_heap_pop_isHeap {α : Type} (less : α → α → Bool)
    (hasym : ∀ x y, less x y = true → less y x = false)
    (hneg : ∀ x y z, less x z = true → less x y = true ∨ less y z = true) (a a' : Array α) (x : α)
    (hh : isHeap less a = true) (h : pop less a = some (a', x)) : isHeap less a' = true :=
  C14_heap_remove_isHeap less hasym hneg a a' 0 x hh (pop_eq_remove less a ▸ h)

/-- `heap.Fix(h, i)` after an ARBITRARY replacement of element `i` of a heap -/
theorem C14_heap_fix_isHeap {α : Type} (less : α → α → Bool)
    (hasym : ∀ x y, less x y = true → less y x = false)
    (hneg : ∀ x y z, less x z = true → less x y = true ∨ less y z = true) (a a' : Array α) (i : Nat) (e : α)
    (hh : isHeap less a = true) (h : fix less (a.setIfInBounds i e) i = some a') : isHeap less a' = true := by
  rw [isHeap, isHeapUpTo_iff_heapFrom] at *
  rcases fix_some h with ⟨hi, rfl⟩ | ⟨h0, rfl⟩
  · rw [Array.size_setIfInBounds] at hi
    rw [(sift_below less _ (by simpa using hi)).size, Array.size_setIfInBounds]
    exact sift_heap ⟨hasym, hneg⟩ a _ a.size i (Nat.le_refl _) (by simp) hi
      (fun k _ h2 => by rw [Array.getElem?_setIfInBounds, if_neg (by omega)]) hh
  · intro i c _ h2; omega

/-! ## 3. minimum -/

/-- the root of a heap is a minimum -/
theorem C14_heap_root_min {α : Type} (less : α → α → Bool)
    (hasym : ∀ x y, less x y = true → less y x = false)
    (hneg : ∀ x y z, less x z = true → less x y = true ∨ less y z = true) (a : Array α) (x : α)
    (hh : isHeap less a = true) (h0 : a[0]? = some x) : ∀ y ∈ a.toList, less y x = false := by
  rw [isHeap, isHeapUpTo_iff_heapFrom] at hh
  intro y hy
  obtain ⟨k, hk, rfl⟩ := List.getElem_of_mem hy
  simp only [Array.length_toList] at hk
  have := hh.root ⟨hasym, hneg⟩ (Nat.le_refl _) k hk
  unfold lessAt at this
  rw [h0] at this
  simpa [hk] using this

/-- `Pop` returns a minimum of the heap: nothing in the heap before (hence nothing left) is `less` -/
theorem C14_heap_pop_min {α : Type} (less : α → α → Bool)
    (hasym : ∀ x y, less x y = true → less y x = false)
    (hneg : ∀ x y z, less x z = true → less x y = true ∨ less y z = true) (a a' : Array α) (x : α)
    (hh : isHeap less a = true) (h : pop less a = some (a', x)) :
    (∀ y ∈ a.toList, less y x = false) ∧ (∀ y ∈ a'.toList, less y x = false) := by
  have h1 := C14_heap_root_min less hasym hneg a x hh (C14_heap_pop_root less a a' x h)
  refine ⟨h1, fun y hy => h1 y ?_⟩
  exact (C14_heap_pop_perm less a a' x h).subset (List.mem_cons_of_mem _ hy)

private theorem drainF_spec {α : Type} (less : α → α → Bool)
    (hasym : ∀ x y, less x y = true → less y x = false)
    (hneg : ∀ x y z, less x z = true → less x y = true ∨ less y z = true) (f : Nat) (a : Array α)
    (hf : a.size = f) (hh : isHeap less a = true) :
    (drainF less f a).Perm a.toList ∧ (drainF less f a).Pairwise (fun x y => less y x = false) := by
  induction f generalizing a with
  | zero =>
    have : a = #[] := Array.size_eq_zero_iff.mp hf
    subst this
    simp [drainF]
  | succ f ih =>
    simp only [drainF]
    split
    · rename_i hp
      rw [C14_heap_pop_none_iff] at hp
      omega
    · rename_i a' x hp
      have hperm := C14_heap_pop_perm less a a' x hp
      have hsz := hperm.length_eq
      simp only [List.length_cons, Array.length_toList] at hsz
      have ih' := ih a' (by omega) (C14_heap_pop_isHeap less hasym hneg a a' x hh hp)
      have hmin := (C14_heap_pop_min less hasym hneg a a' x hh hp).2
      constructor
      · exact (List.Perm.cons x ih'.1).trans hperm
      · rw [List.pairwise_cons]
        exact ⟨fun y hy => hmin y (ih'.1.subset hy), ih'.2⟩

/-- heap sort: popping a heap until it is empty yields all its elements -/
theorem C14_heap_drain_perm {α : Type} (less : α → α → Bool)
    (hasym : ∀ x y, less x y = true → less y x = false)
    (hneg : ∀ x y z, less x z = true → less x y = true ∨ less y z = true) (a : Array α)
    (hh : isHeap less a = true) : (drain less a).Perm a.toList :=
  (drainF_spec less hasym hneg a.size a rfl hh).1

/-- heap sort: … in sorted order (no later element is `less` than an earlier one) -/
theorem C14_heap_drain_sorted {α : Type} (less : α → α → Bool)
    (hasym : ∀ x y, less x y = true → less y x = false)
    (hneg : ∀ x y z, less x z = true → less x y = true ∨ less y z = true) (a : Array α)
    (hh : isHeap less a = true) : (drain less a).Pairwise (fun x y => less y x = false) :=
  (drainF_spec less hasym hneg a.size a rfl hh).2

/-- heap sort of an arbitrary array: `Init` then drain -/
theorem C14_heap_sort {α : Type} (less : α → α → Bool)
    (hasym : ∀ x y, less x y = true → less y x = false)
    (hneg : ∀ x y z, less x z = true → less x y = true ∨ less y z = true) (a : Array α) :
    (drain less (init less a)).Perm a.toList ∧
      (drain less (init less a)).Pairwise (fun x y => less y x = false) :=
  ⟨(C14_heap_drain_perm less hasym hneg _ (C14_heap_init_isHeap less hasym hneg a)).trans
      (C14_heap_init_perm less a),
    C14_heap_drain_sorted less hasym hneg _ (C14_heap_init_isHeap less hasym hneg a)⟩

/-! ## 4. instances -/

/-- comparison through a `Nat` key with `<` (NonceMinHeap: key = nonce; FeeMinHeap: key = fee priority) -/
theorem C14_heap_min_order {α : Type} (key : α → Nat) :
    (∀ x y : α, decide (key x < key y) = true → decide (key y < key x) = false) ∧
    (∀ x y z : α, decide (key x < key z) = true →
      decide (key x < key y) = true ∨ decide (key y < key z) = true) := by
  constructor
  · intro x y h; simp at *; omega
  · intro x y z h; simp at *; omega

/-- comparison through a `Nat` key with `>` (FeeMaxHeap, FeePriorityTransactions) -/
theorem C14_heap_max_order {α : Type} (key : α → Nat) :
    (∀ x y : α, decide (key x > key y) = true → decide (key y > key x) = false) ∧
    (∀ x y z : α, decide (key x > key z) = true →
      decide (key x > key y) = true ∨ decide (key y > key z) = true) :=
  ⟨fun x y => (C14_heap_min_order key).1 y x, fun x y z h => ((C14_heap_min_order key).2 z y x h).symm⟩

/-- `Less` of pkg/txpool/heap.go `FeeMinHeap` on the transactions of the pool model -/
def C14_feeMinLess (x y : TxPool.Tx) : Bool := decide (x.prio < y.prio)

/-- `Less` of `FeeMaxHeap` / `FeePriorityTransactions` -/
def C14_feeMaxLess (x y : TxPool.Tx) : Bool := decide (x.prio > y.prio)

/-- the pool model's abstraction of the fee min heap: the element evicted by `heap.Pop` of a `FeeMinHeap` has
the minimal fee priority of the multiset (`TxPool.minPrio`), and the remaining multiset is the old one minus it -/
theorem C14_heap_feeMin_pop_minPrio (a a' : Array TxPool.Tx) (x : TxPool.Tx)
    (hh : isHeap C14_feeMinLess a = true) (h : pop C14_feeMinLess a = some (a', x)) :
    TxPool.minPrio a.toList = some x.prio ∧ (x :: a'.toList).Perm a.toList ∧
      isHeap C14_feeMinLess a' = true := by
  have ho := C14_heap_min_order TxPool.Tx.prio
  have hp := C14_heap_pop_perm _ a a' x h
  refine ⟨?_, hp, C14_heap_pop_isHeap _ ho.1 ho.2 a a' x hh h⟩
  apply TxPool.minPrio_of_min (hp.subset List.mem_cons_self)
  intro y hy
  have := (C14_heap_pop_min _ ho.1 ho.2 a a' x hh h).1 y hy
  simp at this
  exact this

/-- the generator's `heap.Pop` of `FeePriorityTransactions` (and the pool's `FeeMaxHeap`) yields a transaction of
maximal fee priority -/
theorem C14_heap_feeMax_pop_max (a a' : Array TxPool.Tx) (x : TxPool.Tx)
    (hh : isHeap C14_feeMaxLess a = true) (h : pop C14_feeMaxLess a = some (a', x)) :
    (∀ y ∈ a.toList, y.prio ≤ x.prio) ∧ (x :: a'.toList).Perm a.toList ∧ isHeap C14_feeMaxLess a' = true := by
  have ho := C14_heap_max_order TxPool.Tx.prio
  refine ⟨?_, C14_heap_pop_perm _ a a' x h, C14_heap_pop_isHeap _ ho.1 ho.2 a a' x hh h⟩
  intro y hy
  have := (C14_heap_pop_min _ ho.1 ho.2 a a' x hh h).1 y hy
  simp at this
  exact this

/-! ## non-vacuity -/

private def natLt (x y : Nat) : Bool := decide (x < y)
private def natGt (x y : Nat) : Bool := decide (x > y)

example : isHeap natLt #[5, 3, 8, 1, 9, 2] = false := by decide
example : init natLt #[5, 3, 8, 1, 9, 2] = #[1, 3, 2, 5, 9, 8] := by decide
example : isHeap natLt (init natLt #[5, 3, 8, 1, 9, 2]) = true := by decide
example : push natLt #[1, 3, 2, 5, 9, 8] 0 = #[0, 3, 1, 5, 9, 8, 2] := by decide
example : pop natLt #[1, 3, 2, 5, 9, 8] = some (#[2, 3, 8, 5, 9], 1) := by decide
example : pop natLt (#[] : Array Nat) = none := by decide
example : remove natLt #[1, 3, 2, 5, 9, 8] 1 = some (#[1, 5, 2, 8, 9], 3) := by decide
example : remove natLt #[1, 3, 2, 5, 9, 8] 6 = none := by decide
example : fix natLt (#[1, 3, 2, 5, 9, 8].setIfInBounds 0 7) 0 = some #[2, 3, 7, 5, 9, 8] := by decide
example : fix natLt (#[1, 3, 2, 5, 9, 8].setIfInBounds 4 0) 4 = some #[0, 1, 2, 5, 3, 8] := by decide
example : fix natLt (#[] : Array Nat) 0 = some #[] := by decide
example : fix natLt #[1, 2] 2 = none := by decide
example : drain natLt (init natLt #[5, 3, 8, 1, 9, 2, 3]) = [1, 2, 3, 3, 5, 8, 9] := by decide
example : drain natGt (init natGt #[5, 3, 8, 1, 9, 2, 3]) = [9, 8, 5, 3, 3, 2, 1] := by decide
/-- the hypotheses are satisfiable (and `≤` would not do: it is not asymmetric) -/
example : (∀ x y, natLt x y = true → natLt y x = false) ∧
    (∀ x y z, natLt x z = true → natLt x y = true ∨ natLt y z = true) := C14_heap_min_order id
example : ¬ (∀ x y : Nat, decide (x ≤ y) = true → decide (y ≤ x) = false) := fun h => by
  have := h 0 0; simp at this
example : isHeap C14_feeMinLess #[⟨1, 1, 0, 10, 5⟩, ⟨2, 2, 0, 30, 5⟩, ⟨3, 3, 0, 20, 5⟩] = true := by decide
example : (pop C14_feeMinLess #[⟨1, 1, 0, 10, 5⟩, ⟨2, 2, 0, 30, 5⟩, ⟨3, 3, 0, 20, 5⟩]).map (·.2.prio) = some 2 := by
  decide
