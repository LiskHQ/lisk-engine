/-
C07 — fork-choice classification as a function of the two headers and the two receive flags, the
LIP-0014 order, the tie break, and the contradiction predicate without side conditions.

The fork-choice and contradiction theorems are stated about the definitions REGENERATED from the Go
source (`LiskVerif.Gen.*`, referred to by name only) and about `Node.forkChoice` (Model/Node.lean), the
`if`-chain of `Executer.process` over those predicates that the C04/C05/C07 correspondence runs drive;
it is the classification `C07classify` of Props/C07.lean (`C07_forkChoice_eq_classify`). The receive-time
form of the tie break uses the hand transcription `C07recvFlags`, and the last theorems carry the
double-prevote fact over to `BFTSpec.prevotes` / `HonestR` / `InTree` of the C01 specification.

Ideas. Each raw predicate is a proposition about the two headers (`C07Dup`, `C07Ext`, `C07TieCond`,
`C07BetterHdr`), so each of the six verdicts has a minimal condition (`C07_verdict_characterisation`);
the predicates overlap, hence the order of the tests matters (`C07_raw_overlaps`, `C07_order_df_tb_matters`).
Every tip change strictly increases the key (maxHeightPrevoted, height, slot) lexicographically, so a
node never switches back (`C07_no_switch_back`). A tie break needs a tip received outside its slot and a
block received inside its own; the new tip inherits the block's receive time, so the winner never loses
a tie break (`C07_tiebreak_winner_stable`, for `Node.process`: `C07_process_tiebreak_final`). The
contradiction predicate only compares the six numbers (`C07_contradiction_order_invariant`), is the
LIP-0014 text literally (`C07_lip0014_exact`), and flags every double prevote, also across chains
(`C07_double_prevote_is_contradicting`).
-/
import LiskVerif.Props.C07
import LiskVerif.Lemmas.NodeRef
import LiskVerif.Lemmas.BFTSafety

open LiskVerif LiskVerif.Gen

/-! ### `Node.forkChoice` and `C07classify` -/

/-- the `forkChoice` record `process` builds for tip, incoming header and the two receive flags -/
def C07fc (slot : Slot) (tip cur : Hdr) (f : Node.RecvFlags) : FC :=
  { lastHeader := tip, currentHeader := cur, slot := slot,
    receivedBlockWithinForgingSlot := f.receivedBlockWithinForgingSlot,
    receivedLastBlockWithinForgingSlot := f.receivedLastBlockWithinForgingSlot }

def C07toVerdict : C07Class → Node.Verdict
  | .identical => .identical | .extendsTip => .valid | .doubleForging => .doubleForging
  | .tieBreak => .tieBreak | .betterChain => .differentChain | .discard => .discard

/-- The fork-choice glue of the node model is the classification of Props/C07.lean. -/
theorem C07_forkChoice_eq_classify (slot : Slot) (tip cur : Hdr) (f : Node.RecvFlags) :
    Node.forkChoice slot tip cur f = C07toVerdict (C07classify (C07fc slot tip cur f)) := by
  unfold C07classify
  simp only [apply_ite C07toVerdict]
  rfl

/-! ### the raw predicates as propositions about the two headers -/

/-- same height, same maxHeightPrevoted, same parent (`isDuplicateBlock`) -/
def C07Dup (tip cur : Hdr) : Prop :=
  tip.height = cur.height ∧ tip.maxHeightPrevoted = cur.maxHeightPrevoted ∧
  tip.previousBlockID = cur.previousBlockID

/-- `IsValidBlock`: next height (`uint32` addition) on top of the tip -/
def C07Ext (tip cur : Hdr) : Prop :=
  (tip.height + 1) % 4294967296 = cur.height ∧ tip.id = cur.previousBlockID

/-- the part of `IsTieBreak` besides `isDuplicateBlock`: later slot, the tip was received outside
its slot, the incoming block inside its own -/
def C07TieCond (slot : Slot) (tip cur : Hdr) (f : Node.RecvFlags) : Prop :=
  slot.getSlotNumber tip.timestamp < slot.getSlotNumber cur.timestamp ∧
  f.receivedLastBlockWithinForgingSlot = false ∧ f.receivedBlockWithinForgingSlot = true

/-- `cur` is larger than `tip` in the LIP-0014 order -/
def C07BetterHdr (tip cur : Hdr) : Prop :=
  C07Better tip.maxHeightPrevoted tip.height cur.maxHeightPrevoted cur.height

instance (tip cur : Hdr) : Decidable (C07Dup tip cur) := by unfold C07Dup; infer_instance
instance (tip cur : Hdr) : Decidable (C07Ext tip cur) := by unfold C07Ext; infer_instance
instance (slot : Slot) (tip cur : Hdr) (f : Node.RecvFlags) : Decidable (C07TieCond slot tip cur f) := by
  unfold C07TieCond; infer_instance
instance (a b c d : Nat) : Decidable (C07Better a b c d) := by unfold C07Better; infer_instance
instance (tip cur : Hdr) : Decidable (C07BetterHdr tip cur) := by unfold C07BetterHdr; infer_instance

/-- every `forkChoice` record is one `process` could have built -/
private theorem fc_eta (c : FC) : c = C07fc c.slot c.lastHeader c.currentHeader
    { receivedBlockWithinForgingSlot := c.receivedBlockWithinForgingSlot,
      receivedLastBlockWithinForgingSlot := c.receivedLastBlockWithinForgingSlot } := rfl

private theorem raw_identical (slot : Slot) (tip cur : Hdr) (f : Node.RecvFlags) :
    fcIsIdenticalBlock (C07fc slot tip cur f) = true ↔ tip.id = cur.id := by
  unfold fcIsIdenticalBlock C07fc; simp

private theorem raw_valid (slot : Slot) (tip cur : Hdr) (f : Node.RecvFlags) :
    fcIsValidBlock (C07fc slot tip cur f) = true ↔ C07Ext tip cur := by
  unfold fcIsValidBlock C07fc C07Ext; simp

private theorem raw_dup (slot : Slot) (tip cur : Hdr) (f : Node.RecvFlags) :
    fcIsDuplicateBlock (C07fc slot tip cur f) = true ↔ C07Dup tip cur := by
  unfold fcIsDuplicateBlock C07fc C07Dup; simp [and_assoc]

private theorem raw_df (slot : Slot) (tip cur : Hdr) (f : Node.RecvFlags) :
    fcIsDoubleForging (C07fc slot tip cur f) = true ↔
      (C07Dup tip cur ∧ tip.generatorAddress = cur.generatorAddress) := by
  rw [← raw_dup slot tip cur f]
  unfold fcIsDoubleForging C07fc; simp

theorem C07_raw_tieBreak (slot : Slot) (tip cur : Hdr) (f : Node.RecvFlags) :
    fcIsTieBreak (C07fc slot tip cur f) = true ↔ (C07Dup tip cur ∧ C07TieCond slot tip cur f) := by
  rw [← raw_dup slot tip cur f]
  unfold fcIsTieBreak C07fc C07TieCond; simp [and_assoc]

private theorem raw_dc (slot : Slot) (tip cur : Hdr) (f : Node.RecvFlags) :
    fcIsDifferentChain (C07fc slot tip cur f) = true ↔ C07BetterHdr tip cur := by
  unfold fcIsDifferentChain C07BetterHdr C07fc
  exact C07_different_chain_iff _ _ _ _

/-- `process`'s `if`-chain, written over the propositions above -/
private theorem fc_cases (slot : Slot) (tip cur : Hdr) (f : Node.RecvFlags) :
    Node.forkChoice slot tip cur f =
      if tip.id = cur.id then .identical
      else if C07Ext tip cur then .valid
      else if C07Dup tip cur ∧ tip.generatorAddress = cur.generatorAddress then .doubleForging
      else if C07Dup tip cur ∧ C07TieCond slot tip cur f then .tieBreak
      else if C07BetterHdr tip cur then .differentChain
      else .discard := by
  have e : Node.forkChoice slot tip cur f =
      (if fcIsIdenticalBlock (C07fc slot tip cur f) = true then Node.Verdict.identical
       else if fcIsValidBlock (C07fc slot tip cur f) = true then .valid
       else if fcIsDoubleForging (C07fc slot tip cur f) = true then .doubleForging
       else if fcIsTieBreak (C07fc slot tip cur f) = true then .tieBreak
       else if fcIsDifferentChain (C07fc slot tip cur f) = true then .differentChain
       else .discard) := rfl
  rw [e]
  simp only [raw_identical, raw_valid, raw_df, C07_raw_tieBreak, raw_dc]

private theorem ext_not_dup (tip cur : Hdr) (h : C07Ext tip cur) : ¬ C07Dup tip cur := by
  unfold C07Ext at h; unfold C07Dup; omega

private theorem dup_not_better (tip cur : Hdr) (h : C07Dup tip cur) : ¬ C07BetterHdr tip cur := by
  unfold C07Dup at h; unfold C07BetterHdr C07Better; omega

/-- Which raw predicates exclude each other, for every pair of headers and all receive flags:
a block extending the tip is never a duplicate-height case (so neither `IsDoubleForging` nor
`IsTieBreak` holds for it — also at the `uint32` wrap of `Height+1`), and a duplicate-height case is
never a better chain. Consequently the only overlaps among the five tests of `process` are
identical ∧ anything, valid ∧ differentChain, doubleForging ∧ tieBreak (`C07_raw_overlaps`). -/
theorem C07_raw_exclusions (c : FC) :
    (fcIsValidBlock c = true → fcIsDoubleForging c = false ∧ fcIsTieBreak c = false) ∧
    (fcIsDoubleForging c = true → fcIsDifferentChain c = false) ∧
    (fcIsTieBreak c = true → fcIsDifferentChain c = false) := by
  rw [fc_eta c]
  simp only [← Bool.not_eq_true, raw_valid, raw_df, C07_raw_tieBreak, raw_dc]
  refine ⟨fun h => ⟨fun h' => ext_not_dup _ _ h h'.1, fun h' => ext_not_dup _ _ h h'.1⟩,
    fun h => dup_not_better _ _ h.1, fun h => dup_not_better _ _ h.1⟩

/-! ### the classification as a function of the two headers and the receive flags -/

/-- **Each verdict of `process` ⇔ a minimal condition.** The classification is a function (one
verdict per input); the conditions below are pairwise exclusive and exhaustive, and only contain
the negations of earlier tests that are NOT implied:
* identical: same id;
* valid (extends the tip): different id, next height on the tip;
* double forging: different id, duplicate-height case, same generator (`¬ valid` is implied);
* tie break: different id, duplicate-height case, DIFFERENT generator, later slot, the tip was
  received outside its slot and the incoming block inside its own;
* different chain: different id, does not extend the tip, larger in the LIP-0014 order
  (`¬ doubleForging`, `¬ tieBreak` are implied);
* discard: everything else. -/
theorem C07_verdict_characterisation (slot : Slot) (tip cur : Hdr) (f : Node.RecvFlags) :
    (Node.forkChoice slot tip cur f = .identical ↔ tip.id = cur.id) ∧
    (Node.forkChoice slot tip cur f = .valid ↔ tip.id ≠ cur.id ∧ C07Ext tip cur) ∧
    (Node.forkChoice slot tip cur f = .doubleForging ↔
      tip.id ≠ cur.id ∧ C07Dup tip cur ∧ tip.generatorAddress = cur.generatorAddress) ∧
    (Node.forkChoice slot tip cur f = .tieBreak ↔
      tip.id ≠ cur.id ∧ C07Dup tip cur ∧ tip.generatorAddress ≠ cur.generatorAddress ∧
      C07TieCond slot tip cur f) ∧
    (Node.forkChoice slot tip cur f = .differentChain ↔
      tip.id ≠ cur.id ∧ ¬ C07Ext tip cur ∧ C07BetterHdr tip cur) ∧
    (Node.forkChoice slot tip cur f = .discard ↔
      tip.id ≠ cur.id ∧ ¬ C07Ext tip cur ∧ ¬ C07BetterHdr tip cur ∧
      (C07Dup tip cur → tip.generatorAddress ≠ cur.generatorAddress ∧ ¬ C07TieCond slot tip cur f)) := by
  have hx1 := ext_not_dup tip cur
  have hx2 := dup_not_better tip cur
  rw [fc_cases]
  by_cases h1 : tip.id = cur.id
  · simp [h1]
  by_cases h2 : C07Ext tip cur
  · simp [h1, h2, hx1 h2]
  by_cases h3 : C07Dup tip cur
  · by_cases h4 : tip.generatorAddress = cur.generatorAddress
    · simp [h1, h2, h3, h4, hx2 h3]
    · by_cases h5 : C07TieCond slot tip cur f
      · simp [h1, h2, h3, h4, h5, hx2 h3]
      · simp [h1, h2, h3, h4, h5, hx2 h3]
  · by_cases h6 : C07BetterHdr tip cur
    · simp [h1, h2, h3, h6]
    · simp [h1, h2, h3, h6]

/-- a double forger's second block in a later slot, arriving in its slot after a late tip -/
def C07exDfTb : FC :=
  { lastHeader :=
      { height := 7, generatorAddress := [1], maxHeightGenerated := 0, maxHeightPrevoted := 3,
        id := [1], previousBlockID := [9], timestamp := 10 },
    currentHeader :=
      { height := 7, generatorAddress := [1], maxHeightGenerated := 0, maxHeightPrevoted := 3,
        id := [2], previousBlockID := [9], timestamp := 20 },
    slot := ⟨fun t => ((t / 10 : Nat) : Int)⟩,
    receivedBlockWithinForgingSlot := true,
    receivedLastBlockWithinForgingSlot := false }

/-- The overlaps that remain, by example — hence the order of the tests in `process` matters:
(1) a block identical to the tip satisfies the raw `IsDoubleForging` (only the earlier
`IsIdenticalBlock` keeps a re-broadcast tip from being reported as double forging);
(2) the ordinary successor whose maxHeightPrevoted is not smaller (away from the `uint32` wrap of the
height) satisfies `IsDifferentChain` as well
(only the earlier `IsValidBlock` keeps the node from starting a sync for it);
(3) a block can satisfy `IsDoubleForging` and `IsTieBreak` together (same generator, two slots). -/
theorem C07_raw_overlaps :
    (∀ (c : FC), c.currentHeader = c.lastHeader →
      fcIsIdenticalBlock c = true ∧ fcIsDoubleForging c = true) ∧
    (∀ (c : FC), fcIsValidBlock c = true → c.lastHeader.height + 1 < 4294967296 →
      c.lastHeader.maxHeightPrevoted ≤ c.currentHeader.maxHeightPrevoted →
      fcIsDifferentChain c = true) ∧
    (∃ c : FC, fcIsIdenticalBlock c = false ∧ fcIsValidBlock c = false ∧
      fcIsDoubleForging c = true ∧ fcIsTieBreak c = true) := by
  refine ⟨?_, ?_, ?_⟩
  · intro c hc
    rw [fc_eta c, raw_identical, raw_df, hc]
    exact ⟨rfl, ⟨rfl, rfl, rfl⟩, rfl⟩
  · intro c hv hb hm
    rw [fc_eta c, raw_valid] at hv
    rw [fc_eta c, raw_dc]
    unfold C07Ext at hv
    unfold C07BetterHdr C07Better
    omega
  · exact ⟨C07exDfTb, by decide, by decide, by decide, by decide⟩

/-- `process` with the double-forging and the tie-break test swapped -/
def C07classifySwapped (c : FC) : C07Class :=
  if fcIsIdenticalBlock c then .identical
  else if fcIsValidBlock c then .extendsTip
  else if fcIsTieBreak c then .tieBreak
  else if fcIsDoubleForging c then .doubleForging
  else if fcIsDifferentChain c then .betterChain
  else .discard

/-- Swapping the double-forging and the tie-break test changes the class exactly for the blocks
that satisfy both (not identical, not extending): the code discards them as double forging, the
swapped order would replace the tip with the second block of the double forger. -/
theorem C07_order_df_tb_matters (c : FC) :
    C07classify c ≠ C07classifySwapped c ↔
      (fcIsIdenticalBlock c = false ∧ fcIsValidBlock c = false ∧
       fcIsDoubleForging c = true ∧ fcIsTieBreak c = true) := by
  unfold C07classify C07classifySwapped
  generalize fcIsIdenticalBlock c = i, fcIsValidBlock c = v, fcIsDoubleForging c = d,
    fcIsTieBreak c = t, fcIsDifferentChain c = x
  revert i v d t x
  decide

/-- … and on those blocks the two orders give `doubleForging` resp. `tieBreak`. -/
theorem C07_order_df_tb_values (c : FC) (h : C07classify c ≠ C07classifySwapped c) :
    C07classify c = .doubleForging ∧ C07classifySwapped c = .tieBreak := by
  obtain ⟨h1, h2, h3, h4⟩ := (C07_order_df_tb_matters c).mp h
  unfold C07classify C07classifySwapped
  simp [h1, h2, h3, h4]

/-! ### the LIP-0014 order is a strict weak order; no switching back -/

/-- `IsDifferentChain`, as a relation "`(m₂,h₂)` is better than `(m₁,h₁)`" on
(maxHeightPrevoted, height), is irreflexive, asymmetric, transitive, negatively transitive and
total up to equality of the pair — a strict total order on the pairs, i.e. a strict weak order on
headers whose indifference classes are the headers with equal (maxHeightPrevoted, height). -/
theorem C07_better_strict_weak_order :
    (∀ m h, isDifferentChain m m h h = false) ∧
    (∀ m₁ h₁ m₂ h₂, isDifferentChain m₁ m₂ h₁ h₂ = true → isDifferentChain m₂ m₁ h₂ h₁ = false) ∧
    (∀ m₁ h₁ m₂ h₂ m₃ h₃, isDifferentChain m₁ m₂ h₁ h₂ = true → isDifferentChain m₂ m₃ h₂ h₃ = true →
      isDifferentChain m₁ m₃ h₁ h₃ = true) ∧
    (∀ m₁ h₁ m₂ h₂ m₃ h₃, isDifferentChain m₁ m₂ h₁ h₂ = false → isDifferentChain m₂ m₃ h₂ h₃ = false →
      isDifferentChain m₁ m₃ h₁ h₃ = false) ∧
    (∀ m₁ h₁ m₂ h₂, isDifferentChain m₁ m₂ h₁ h₂ = true ∨ (m₁ = m₂ ∧ h₁ = h₂) ∨
      isDifferentChain m₂ m₁ h₂ h₁ = true) := by
  simp only [← Bool.not_eq_true, C07_different_chain_iff]
  unfold C07Better
  refine ⟨?_, ?_, ?_, ?_, ?_⟩ <;> intros <;> omega

/-- the key that every tip change increases: (maxHeightPrevoted, height, slot of the timestamp),
lexicographically -/
def C07KeyLt (slot : Slot) (a b : Hdr) : Prop :=
  a.maxHeightPrevoted < b.maxHeightPrevoted ∨
  (a.maxHeightPrevoted = b.maxHeightPrevoted ∧ a.height < b.height) ∨
  (a.maxHeightPrevoted = b.maxHeightPrevoted ∧ a.height = b.height ∧
    slot.getSlotNumber a.timestamp < slot.getSlotNumber b.timestamp)

/-- Header `b` makes a node whose tip is `a` leave `a`: `process` classifies it as tie break
(tip replaced by `b`), as a different chain (sync towards `b`), or as a valid successor — for the
last case with what `verifyBlock` guarantees about an applied block (its maxHeightPrevoted is the
node's own value, which never decreases along a chain) and away from the `uint32` wrap. -/
def C07Switch (slot : Slot) (a b : Hdr) : Prop :=
  ∃ f : Node.RecvFlags,
    Node.forkChoice slot a b f = .tieBreak ∨ Node.forkChoice slot a b f = .differentChain ∨
    (Node.forkChoice slot a b f = .valid ∧ a.maxHeightPrevoted ≤ b.maxHeightPrevoted ∧
      a.height + 1 < 4294967296)

/-- Every tip change strictly increases the key. -/
theorem C07_switch_increases (slot : Slot) (a b : Hdr) (h : C07Switch slot a b) : C07KeyLt slot a b := by
  obtain ⟨f, h⟩ := h
  obtain ⟨_, hv, _, ht, hd, _⟩ := C07_verdict_characterisation slot a b f
  rcases h with h | h | ⟨h, hm, hb⟩
  · obtain ⟨_, hdup, _, hs, _⟩ := ht.mp h
    exact Or.inr (Or.inr ⟨hdup.2.1, hdup.1, hs⟩)
  · obtain ⟨_, _, hb | ⟨e, hb⟩⟩ := hd.mp h
    · exact Or.inl hb
    · exact Or.inr (Or.inl ⟨e, hb⟩)
  · obtain ⟨_, he, _⟩ := hv.mp h
    rw [Nat.mod_eq_of_lt hb] at he
    rcases Nat.lt_or_eq_of_le hm with hm | hm
    · exact Or.inl hm
    · exact Or.inr (Or.inl ⟨hm, he ▸ Nat.lt_succ_self _⟩)

theorem C07_keyLt_irrefl (slot : Slot) (a : Hdr) : ¬ C07KeyLt slot a a := by
  unfold C07KeyLt; omega

theorem C07_keyLt_trans (slot : Slot) (a b c : Hdr) (h1 : C07KeyLt slot a b) (h2 : C07KeyLt slot b c) :
    C07KeyLt slot a c := by
  -- a lexicographic order: the first component that differs decides
  rcases h1 with h1 | ⟨e1, h1⟩ | ⟨e1, f1, h1⟩ <;> rcases h2 with h2 | ⟨e2, h2⟩ | ⟨e2, f2, h2⟩
  · exact Or.inl (Nat.lt_trans h1 h2)
  · exact Or.inl (e2 ▸ h1)
  · exact Or.inl (e2 ▸ h1)
  · exact Or.inl (e1 ▸ h2)
  · exact Or.inr (Or.inl ⟨e1.trans e2, Nat.lt_trans h1 h2⟩)
  · exact Or.inr (Or.inl ⟨e1.trans e2, f2 ▸ h1⟩)
  · exact Or.inl (e1 ▸ h2)
  · exact Or.inr (Or.inl ⟨e1.trans e2, f1 ▸ h2⟩)
  · exact Or.inr (Or.inr ⟨e1.trans e2, f1.trans f2, Int.lt_trans h1 h2⟩)

/-- consecutive elements of a list are related -/
def C07Consecutive (R : Hdr → Hdr → Prop) : List Hdr → Prop
  | [] => True
  | [_] => True
  | a :: b :: r => R a b ∧ C07Consecutive R (b :: r)

/-- **A node never switches back.** Let `tips` be the successive tips of a node, each one having
made the node leave the previous one (by extension, tie break or better chain — in any mixture,
for any receive times). Then the key strictly increases between ANY earlier and later tip, so
no header is tip twice (no cycle of "better chain"/tie-break switches), and an earlier tip can
never make the node switch back from a later one. -/
theorem C07_no_switch_back (slot : Slot) (tips : List Hdr) (h : C07Consecutive (C07Switch slot) tips) :
    tips.Pairwise (fun a b => C07KeyLt slot a b ∧ a ≠ b ∧ ¬ C07Switch slot b a) := by
  have key : tips.Pairwise (C07KeyLt slot) := by
    induction tips with
    | nil => exact List.Pairwise.nil
    | cons a r ih =>
      cases r with
      | nil => exact List.pairwise_singleton _ _
      | cons b r' =>
        obtain ⟨hab, hr⟩ := h
        have ihr := ih hr
        have hk := C07_switch_increases slot a b hab
        refine List.pairwise_cons.mpr ⟨?_, ihr⟩
        intro x hx
        rcases List.mem_cons.mp hx with rfl | hx
        · exact hk
        · exact C07_keyLt_trans slot a b x hk ((List.pairwise_cons.mp ihr).1 x hx)
  refine key.imp ?_
  intro a b hab
  refine ⟨hab, ?_, ?_⟩
  · rintro rfl; exact C07_keyLt_irrefl slot a hab
  · intro hba
    exact C07_keyLt_irrefl slot a (C07_keyLt_trans slot a b a hab (C07_switch_increases slot b a hba))

/-! ### tie break: when it fires, and no ping-pong -/

/-- the tie-break clause of `C07_verdict_characterisation`, read in one direction: the part that the
theorems below use -/
theorem C07_tieBreak_cond {slot : Slot} {tip cur : Hdr} {f : Node.RecvFlags}
    (h : Node.forkChoice slot tip cur f = .tieBreak) : C07TieCond slot tip cur f :=
  ((C07_verdict_characterisation slot tip cur f).2.2.2.1.mp h).2.2.2

/-- The replaced block can never win a tie break back: if `b` replaces the tip `a` by tie break,
then — whatever the receive times later are — `a` arriving again on tip `b` is not a tie break
(the slot of `a` is strictly smaller). -/
theorem C07_tiebreak_asymmetric (slot : Slot) (a b : Hdr) (f g : Node.RecvFlags)
    (h : Node.forkChoice slot a b f = .tieBreak) : Node.forkChoice slot b a g ≠ .tieBreak := by
  intro h'
  -- the slot of the incoming block is later than the tip's, both ways
  have := (C07_tieBreak_cond h).1
  have := (C07_tieBreak_cond h').1
  omega

/-- The winner of a tie break is final as far as tie breaks go: a tie break only fires for an
incoming block received INSIDE its own slot; `process` records that receive time as the new tip's
(`g.receivedLastBlockWithinForgingSlot = f.receivedBlockWithinForgingSlot` is this bookkeeping,
the flags themselves are inputs of the node model), and a tip received inside its slot never
loses a tie break — to any block `c`, at any later time. So per (height, parent) there is at most
one tie-break replacement: no ping-pong. -/
theorem C07_tiebreak_winner_stable (slot : Slot) (a b c : Hdr) (f g : Node.RecvFlags)
    (h : Node.forkChoice slot a b f = .tieBreak)
    (hbook : g.receivedLastBlockWithinForgingSlot = f.receivedBlockWithinForgingSlot) :
    Node.forkChoice slot b c g ≠ .tieBreak := by
  intro h'
  have h1 := C07_tieBreak_cond h
  have h2 := C07_tieBreak_cond h'
  unfold C07TieCond at h1 h2
  rw [hbook, h1.2.2] at h2
  exact absurd h2.2.1 (by simp)

/-- `receivedBlockWithinForgingSlot` / `receivedLastBlockWithinForgingSlot` (fork_choice.go:63-73)
written out over receive times; `recvTip = none` is a tip that came from syncing. This is a hand
transcription over an opaque `Slot` (the node model takes the two flags as inputs);
`C07_slot_recvFlags_generated` (Props/C07_Slot.lean) shows that it is the regenerated code. The
theorems above (`C07_tiebreak_asymmetric`, `C07_tiebreak_winner_stable`) do not depend on it. -/
def C07recvFlags (slot : Slot) (tip cur : Hdr) (recvTip : Option Nat) (now : Nat) : Node.RecvFlags :=
  { receivedBlockWithinForgingSlot :=
      decide (slot.getSlotNumber now = slot.getSlotNumber cur.timestamp),
    receivedLastBlockWithinForgingSlot :=
      match recvTip with
      | none => true
      | some r => decide (slot.getSlotNumber r = slot.getSlotNumber tip.timestamp) }

/-- The same over receive times. If `b`, received at `tb`, replaces the tip `a` (received at `ra`)
by tie break, then `a` had a recorded receive time outside its slot, `tb` lies in the slot of `b`,
which is later than the slot of `a`; and once `tb` is recorded as the receive time of the new tip,
NO block received at any time wins a tie break against `b`; `a` itself does not whatever receive
time is recorded for `b`; and if the replacement is reverted (`a` applied again, receive time
`tb` kept), `a` still counts as received outside its slot. -/
theorem C07_tiebreak_no_pingpong_times (slot : Slot) (a b : Hdr) (ra : Option Nat) (tb : Nat)
    (h : Node.forkChoice slot a b (C07recvFlags slot a b ra tb) = .tieBreak) :
    (∃ r, ra = some r ∧ slot.getSlotNumber r ≠ slot.getSlotNumber a.timestamp) ∧
    slot.getSlotNumber tb = slot.getSlotNumber b.timestamp ∧
    slot.getSlotNumber a.timestamp < slot.getSlotNumber b.timestamp ∧
    (∀ c tc, Node.forkChoice slot b c (C07recvFlags slot b c (some tb) tc) ≠ .tieBreak) ∧
    (∀ rb tc, Node.forkChoice slot b a (C07recvFlags slot b a rb tc) ≠ .tieBreak) ∧
    (C07recvFlags slot a b (some tb) tb).receivedLastBlockWithinForgingSlot = false := by
  have h1 := C07_tieBreak_cond h
  unfold C07TieCond C07recvFlags at h1
  simp only [decide_eq_true_eq] at h1
  obtain ⟨hs, hl, hc⟩ := h1
  refine ⟨?_, hc, hs, ?_, ?_, ?_⟩
  · cases ra with
    | none => simp at hl
    | some r => exact ⟨r, rfl, by simpa using hl⟩
  · intro c tc
    exact C07_tiebreak_winner_stable slot a b c _ _ h (by simp [C07recvFlags, hc])
  · intro rb tc
    exact C07_tiebreak_asymmetric slot a b _ _ h
  · simp only [C07recvFlags, decide_eq_false_iff_not]
    omega

/-- A tip that came from syncing (no receive time) never loses a tie break. -/
theorem C07_synced_tip_never_loses_tiebreak (slot : Slot) (a b : Hdr) (tb : Nat) :
    Node.forkChoice slot a b (C07recvFlags slot a b none tb) ≠ .tieBreak := by
  intro h
  obtain ⟨⟨r, hr, _⟩, _⟩ := C07_tiebreak_no_pingpong_times slot a b none tb h
  cases hr

/-- a tie-break result of `Node.process` comes from a tie-break verdict against the cached tip -/
private theorem process_tb_verdict {cd : Node.Codecs} {cfg : Node.Cfg} {slot : Slot} {s : Node.St}
    {j : Node.Incoming}
    (h : (Node.process cd cfg slot s j).2 = .tieBreakApplied ∨
         (Node.process cd cfg slot s j).2 = .tieBreakReverted ∨
         (Node.process cd cfg slot s j).2 = .tieBreakLost) :
    ∃ tip rest, s.cache = tip :: rest ∧
      Node.forkChoice slot tip.hdr j.block.hdr j.flags = .tieBreak := by
  unfold Node.process at h
  cases hc : s.cache with
  | nil => rw [hc] at h; simp at h
  | cons tip rest =>
    rw [hc] at h
    simp only at h
    cases hv : Node.forkChoice slot tip.hdr j.block.hdr j.flags with
    | tieBreak => exact ⟨tip, rest, rfl, hv⟩
    | identical => rw [hv] at h; simp at h
    | doubleForging => rw [hv] at h; simp at h
    | differentChain => rw [hv] at h; simp at h
    | discard => rw [hv] at h; simp at h
    | valid =>
      rw [hv] at h
      simp only at h
      split at h
      · simp at h
      · split at h <;> simp at h

/-- **No ping-pong, for two consecutive `Executer.process` steps of the node model.** If `process`
replaced the tip `tip` by the incoming block `i.block` (result `tieBreakApplied`), then the new
tip is `i.block`, and for EVERY next incoming block `j` whose "tip received within its slot" flag
is the recorded one (the receive time of `i.block`), `j` is not classified as a tie break and
`process` takes none of the tie-break paths; the old tip arriving again is not a tie break for
any flags at all. -/
theorem C07_process_tiebreak_final (cd : Node.Codecs) (cfg : Node.Cfg) (slot : Slot) (s s' : Node.St)
    (i : Node.Incoming) (h : Node.process cd cfg slot s i = (s', .tieBreakApplied)) :
    ∃ tip rest rest', s.cache = tip :: rest ∧ s'.cache = i.block :: rest' ∧
      Node.forkChoice slot tip.hdr i.block.hdr i.flags = .tieBreak ∧
      (∀ j : Node.Incoming,
        j.flags.receivedLastBlockWithinForgingSlot = i.flags.receivedBlockWithinForgingSlot →
        Node.forkChoice slot i.block.hdr j.block.hdr j.flags ≠ .tieBreak ∧
        (Node.process cd cfg slot s' j).2 ≠ .tieBreakApplied ∧
        (Node.process cd cfg slot s' j).2 ≠ .tieBreakReverted ∧
        (Node.process cd cfg slot s' j).2 ≠ .tieBreakLost) ∧
      (∀ j : Node.Incoming, j.block.hdr = tip.hdr →
        Node.forkChoice slot i.block.hdr j.block.hdr j.flags ≠ .tieBreak) := by
  obtain ⟨tip, rest, hc, hv⟩ := process_tb_verdict (Or.inl (by rw [h]))
  have hcache : ∃ rest', s'.cache = i.block :: rest' := by
    unfold Node.process at h
    rw [hc] at h
    simp only [hv] at h
    split at h
    · simp at h
    · split at h
      · split at h
        · rename_i s2 hap
          simp only [Prod.mk.injEq, and_true] at h
          subst h
          obtain ⟨_, _, _, _, _, _, _, _, hs2⟩ := Node.apply_ok_inv hap
          exact ⟨_, by rw [hs2]; rfl⟩
        · split at h <;> simp at h
      · simp at h
      · simp at h
  obtain ⟨rest', hc'⟩ := hcache
  refine ⟨tip, rest, rest', hc, hc', hv, ?_, ?_⟩
  · intro j hj
    have hn := C07_tiebreak_winner_stable slot tip.hdr i.block.hdr j.block.hdr i.flags j.flags hv hj
    have hno : ¬ ((Node.process cd cfg slot s' j).2 = .tieBreakApplied ∨
         (Node.process cd cfg slot s' j).2 = .tieBreakReverted ∨
         (Node.process cd cfg slot s' j).2 = .tieBreakLost) := by
      intro hh
      obtain ⟨t2, r2, hc2, hv2⟩ := process_tb_verdict hh
      rw [hc'] at hc2
      injection hc2 with e1 _
      subst e1
      exact hn hv2
    exact ⟨hn, fun x => hno (Or.inl x), fun x => hno (Or.inr (Or.inl x)), fun x => hno (Or.inr (Or.inr x))⟩
  · intro j hj
    rw [hj]
    exact C07_tiebreak_asymmetric slot tip.hdr i.block.hdr i.flags j.flags hv

/-! ### contradiction: exact LIP-0014 reading, no wrap-around, vote once -/

/-- **The LIP-0014 definition, literally, for all pairs**: two headers are contradicting iff they
have the same generator and, for an ordering of the pair by (maxHeightGenerated,
maxHeightPrevoted, height) (either one when all three are equal), one of the three causes holds.
No hypothesis on the order in which the code is given the headers, nor on the field values. -/
theorem C07_lip0014_exact (a b : Hdr) :
    areDistinctHeadersContradicting a b = true ↔
      (a.generatorAddress = b.generatorAddress ∧
        ((C07LipLe a b ∧ C07LipCauses a b) ∨ (C07LipLe b a ∧ C07LipCauses b a))) := by
  rw [C07_contradicting_iff]
  refine and_congr_right fun _ => ⟨fun h => ?_, ?_⟩
  · have total : C07LipLe a b ∨ C07LipLe b a := by unfold C07LipLe; omega
    exact total.imp (fun o => ⟨o, (C07_ordered_causes o).mpr h⟩)
      (fun o => ⟨o, (C07_ordered_causes o).mpr h.symm⟩)
  · rintro (⟨o, h⟩ | ⟨o, h⟩)
    · exact (C07_ordered_causes o).mp h
    · exact ((C07_ordered_causes o).mp h).symm

/-- relabel the three height fields -/
def C07mapHdr (φ : Nat → Nat) (a : Hdr) : Hdr :=
  { a with height := φ a.height, maxHeightGenerated := φ a.maxHeightGenerated,
           maxHeightPrevoted := φ a.maxHeightPrevoted }

/-- The verdict depends only on the relative ORDER of the six numbers: it is invariant under every
strictly increasing relabelling of heights. In particular there is no arithmetic on heights in
`AreDistinctHeadersContradicting`, hence no special behaviour at the `uint32` boundary (unlike
`IsValidBlock`, whose `Height+1` wraps). -/
theorem C07_contradiction_order_invariant (φ : Nat → Nat) (hφ : ∀ x y, x < y → φ x < φ y)
    (a b : Hdr) :
    areDistinctHeadersContradicting (C07mapHdr φ a) (C07mapHdr φ b) =
      areDistinctHeadersContradicting a b := by
  -- a strictly increasing map preserves and reflects `<`, `=` and `≤`
  have hlt : ∀ x y, φ x < φ y ↔ x < y := fun x y =>
    ⟨fun h => Nat.lt_of_not_le fun hyx => by
      rcases Nat.lt_or_eq_of_le hyx with h1 | h1
      · exact Nat.lt_asymm h (hφ y x h1)
      · exact Nat.lt_irrefl _ (h1 ▸ h), hφ x y⟩
  have hle : ∀ x y, φ x ≤ φ y ↔ x ≤ y := fun x y => by
    rw [← Nat.not_lt, ← Nat.not_lt, hlt]
  have heq : ∀ x y, φ x = φ y ↔ x = y := fun x y => by
    rw [Nat.le_antisymm_iff, Nat.le_antisymm_iff, hle, hle]
  rw [Bool.eq_iff_iff, C07_contradicting_iff, C07_contradicting_iff]
  unfold C07LegitSucc C07mapHdr
  simp only [hlt, heq, hle]

/-- header `x` implies a prevote for height `h` (LIP-0014: the heights above the generator's
maxHeightGenerated up to the header's own height) -/
def C07Prevotes (x : Hdr) (h : Nat) : Prop := x.maxHeightGenerated < h ∧ h ≤ x.height

/-- **Voting twice is always flagged.** Two headers of one generator that both imply a prevote for
the same height are contradicting — for ANY two headers (on one chain or on two different
chains): it is what makes a double vote punishable. (`C01_vote_once` says of two blocks of one generator on one
valid chain that they do not both prevote, nor both precommit, for a height; it does not go through this predicate. The
consequence for honest validators in a block tree is `C07_honest_prevotes_once_in_tree` below.) -/
theorem C07_double_prevote_is_contradicting (a b : Hdr)
    (hg : a.generatorAddress = b.generatorAddress) (h : Nat)
    (ha : C07Prevotes a h) (hb : C07Prevotes b h) : areDistinctHeadersContradicting a b = true := by
  rw [C07_contradicting_iff]
  unfold C07Prevotes at ha hb
  unfold C07LegitSucc
  refine ⟨hg, ?_, ?_⟩ <;> omega

/-- The same for the prevote relation of the BFT specification used by C01 (`BFTSpec.prevotes`):
any two blocks of one generator whose headers prevote for the same height carry contradicting
headers. -/
theorem C07_spec_double_prevote_is_contradicting (cfg : BFTSpec.Cfg) (x y : BFT.Header) (h : Nat)
    (hg : x.gen = y.gen) (hx : BFTSpec.prevotes cfg x h = true) (hy : BFTSpec.prevotes cfg y h = true) :
    areDistinctHeadersContradicting (BFTSpec.toHdr x) (BFTSpec.toHdr y) = true := by
  have h1 := (BFTSpec.prevotes_iff cfg x h).mp hx
  have h2 := (BFTSpec.prevotes_iff cfg y h).mp hy
  apply C07_double_prevote_is_contradicting _ _ hg h
  · exact ⟨h1.2.1, h1.2.2.2⟩
  · exact ⟨h2.2.1, h2.2.2.2⟩

/-- Hence a validator that is honest in the sense of the C01 safety proof (no two distinct blocks
of a block tree generated by it carry contradicting headers, `BFTSpec.HonestR`) prevotes at most
once for every height in the WHOLE tree, not only along one chain. -/
theorem C07_honest_prevotes_once_in_tree (cfg : BFTSpec.Cfg) (Tr : List (List BFT.Header)) (a : Bytes)
    (hon : BFTSpec.HonestR Tr a) (x : BFT.Header) (p : List BFT.Header) (y : BFT.Header)
    (q : List BFT.Header) (hx : BFTSpec.InTree Tr (x :: p)) (hy : BFTSpec.InTree Tr (y :: q))
    (hxg : x.gen = a) (hyg : y.gen = a) (hne : x :: p ≠ y :: q) (h : Nat) :
    ¬ (BFTSpec.prevotes cfg x h = true ∧ BFTSpec.prevotes cfg y h = true) := by
  rintro ⟨h1, h2⟩
  have := C07_spec_double_prevote_is_contradicting cfg x y h (by rw [hxg, hyg]) h1 h2
  rw [hon x p y q hx hy hxg hyg hne] at this
  cases this

/-! ### non-vacuity -/

section
private def hT : Hdr :=
  { height := 7, generatorAddress := [1], maxHeightGenerated := 0, maxHeightPrevoted := 3,
    id := [1], previousBlockID := [9], timestamp := 10 }
private def hU : Hdr :=
  { height := 7, generatorAddress := [2], maxHeightGenerated := 0, maxHeightPrevoted := 3,
    id := [2], previousBlockID := [9], timestamp := 20 }
private def hV : Hdr :=
  { height := 8, generatorAddress := [3], maxHeightGenerated := 0, maxHeightPrevoted := 3,
    id := [3], previousBlockID := [2], timestamp := 30 }
private def hW : Hdr :=
  { height := 6, generatorAddress := [3], maxHeightGenerated := 0, maxHeightPrevoted := 5,
    id := [4], previousBlockID := [8], timestamp := 40 }
private def sl : Slot := ⟨fun t => ((t / 10 : Nat) : Int)⟩
private def late : Node.RecvFlags := ⟨true, false⟩
private def inTime : Node.RecvFlags := ⟨true, true⟩

-- all six verdicts occur
example : Node.forkChoice sl hT hT late = .identical := by decide
example : Node.forkChoice sl hU hV late = .valid := by decide
example : Node.forkChoice sl hT { hT with id := [5], timestamp := 20 } late = .doubleForging := by decide
example : Node.forkChoice sl hT hU late = .tieBreak := by decide
example : Node.forkChoice sl hT hW late = .differentChain := by decide
example : Node.forkChoice sl hW hT late = .discard := by decide
-- the same competitor is discarded when the tip was received inside its slot
example : Node.forkChoice sl hT hU inTime = .discard := by decide
-- `C07_order_df_tb_matters`: the orders disagree on the example
example : C07classify C07exDfTb = .doubleForging ∧ C07classifySwapped C07exDfTb = .tieBreak := by decide
-- `C07_no_switch_back`: a sequence tie break → extension → better chain; hypotheses hold
example : C07Consecutive (C07Switch sl) [hT, hU, hV, hW] :=
  ⟨⟨late, Or.inl (by decide)⟩, ⟨late, Or.inr (Or.inr ⟨by decide, by decide, by decide⟩)⟩,
   ⟨late, Or.inr (Or.inl (by decide))⟩, trivial⟩
-- `C07_tiebreak_no_pingpong_times`: tip received one slot late (t = 25), competitor in its slot
example : Node.forkChoice sl hT hU (C07recvFlags sl hT hU (some 25) 27) = .tieBreak := by decide
example : Node.forkChoice sl hU hT (C07recvFlags sl hU hT (some 27) 28) = .discard := by decide
-- contradiction at the `uint32` boundary: only the order matters
example : areDistinctHeadersContradicting
    { height := 4294967295, generatorAddress := [1], maxHeightGenerated := 4294967294, maxHeightPrevoted := 4294967295 }
    { height := 0, generatorAddress := [1], maxHeightGenerated := 4294967295, maxHeightPrevoted := 4294967295 } = true := by
  decide
example : areDistinctHeadersContradicting
    { height := 4294967294, generatorAddress := [1], maxHeightGenerated := 0, maxHeightPrevoted := 0 }
    { height := 4294967295, generatorAddress := [1], maxHeightGenerated := 4294967294, maxHeightPrevoted := 0 } = false := by
  decide
-- `C07_double_prevote_is_contradicting`: both headers prevote for height 7
example : C07Prevotes hT 7 ∧ C07Prevotes { hU with generatorAddress := [1] } 7 := by
  unfold C07Prevotes; decide
-- `C07_contradiction_order_invariant`: strictly increasing relabellings exist, e.g. `x ↦ 2x + 5`
example : (fun x => 2 * x + 5) 3 < (fun x => 2 * x + 5) 4 := by decide
end
