/-
C17 — lock discipline of the per-procedure rate limiter (pkg/p2p/ratelimit.go), on skeletons
REGENERATED from the Go source.

Every request / response stream handled by `MessageProtocol.onRequest` / `onResponse` first calls
`rateLimit.increaseCounter` and `rateLimit.checkLimit`, which lock the mutex of the procedure's counter
(`rpcMessageCounter.mu`); the goroutine `rateLimiterHandler` resets all counters on a ticker, locking
each counter in a `range` loop. A path that leaves such a mutex locked — a `continue` / `break` /
`return` between `Lock()` and `Unlock()`, a dropped `defer Unlock()` — blocks every later message of
that procedure for ever (no reply is delivered, `Stop()` hangs). `tools/skelgen` (group `p2p`) extracts
the methods of `rateLimit`, the plain function `rateLimiterHandler`, their call sites in
message_protocol.go and what `checkLimit` calls with the mutex held (`Peer.addPenalty` → connection
gater → `Peer.Disconnect`) into `Gen/SkeletonsP2P.lean` on every check run; all counters share the
skeleton mutex name `rpcMessageCounter.mu` (whether reached through `rl.rpcMessageCounters[x].mu`, a
local alias or the range variable). A `continue` / `break` ends the iteration at that point, a `return`
ends the function: the abstract interpreter then sees the lock set at the end of the iteration / at the
return, and `lockBalanced` fails when it is not the one the iteration / the function started with.

  (a) lock balance on every path of every rate-limiter entry      `C17_rate_locks_balanced`
      (+ meaning on paths: `C17_rate_balanced_paths_end_unlocked`, `C17_rate_handler_parks_unlocked`)
  (b) no re-entrant acquisition; order resMu < counter mu < gater `C17_rate_no_reentrant_lock`, `C17_rate_lock_order`
  (c) `counters` only accessed under `mu` (writes exclusively)    `C17_rate_counters_guarded`
  (d) deadlock freedom for any number of goroutines               `C17_rate_deadlock_free`
      (all entry points of the p2p group together, `Peer.Disconnect` taken as a call that returns)
  (e) what `checkLimit` does under the lock (criterion 3 FAILS)   `C17_rate_checkLimit_penalty_under_lock`,
      and the precise statement that does hold                    `C17_rate_penalty_call_confined`
  (f) the seeded variant (`continue` with the mutex held)         `C17_rate_seeded_violates_balance`,
      `C17_rate_seeded_blocks_all_callers`, `C17_rate_seeded_holder_blocks_every_caller`
-/
import LiskVerif.Lemmas.LockCriteria
import LiskVerif.Lemmas.StringChars
import LiskVerif.Gen.SkeletonsP2P

open LiskVerif LiskVerif.Locks

/- Props/C17_Skel.lean (the message protocol, with the rate limiter inlined) imports this file and reads its
table-wide criteria off `C17Rate.all_entries_ok`: a change to the locking anywhere in the p2p group is reported
here, by that name. -/

namespace C17Rate

def cfg : Cfg := ⟨Gen.SkeletonsP2P.table, Gen.SkeletonsP2P.guards, Gen.SkeletonsP2P.lockOrder⟩

def resMu : String := "MessageProtocol.resMu"
def counterMu : String := "rpcMessageCounter.mu"
/-- the network operation called (through `Peer.addPenalty`) with a counter mutex held -/
def disconnect : String := "Peer.Disconnect"

/-- the regenerated configuration in which `Peer.Disconnect` is an ordinary call that returns -/
def cfgE : Cfg :=
  ⟨Gen.SkeletonsP2P.table.eraseBlockingCalls [disconnect], Gen.SkeletonsP2P.guards, Gen.SkeletonsP2P.lockOrder⟩

/-- every regenerated entry point of the p2p group (message protocol, rate limiter, penalty path,
connection gater) -/
def entryTable : Table :=
  Gen.SkeletonsP2P.table.filter (fun e => Gen.SkeletonsP2P.entries.contains e.1)

def entryTableE : Table := cfgE.tbl.filter (fun e => Gen.SkeletonsP2P.entries.contains e.1)

/-- a function of ratelimit.go: a method of `rateLimit` or the plain function `rateLimiterHandler` -/
def isRate (f : String) : Bool := "rateLimit".toList.isPrefixOf f.toList

/-- the entry points that reach `rateLimit.checkLimit`, hence `Peer.Disconnect` under the counter mutex -/
def penaltyUnderLock : List String :=
  ["rateLimit.checkLimit", "MessageProtocol.onRequest", "MessageProtocol.onResponse", "MessageProtocol.start"]

/-- the stream handlers that call the rate limiter for every received message -/
def callers : List String := ["MessageProtocol.onRequest", "MessageProtocol.onResponse"]

/-- the regenerated rate-limiter entry points (quantified obligations range over this table, so a
method added to `rateLimit` is covered automatically) -/
def rateTable : Table := entryTable.filter (fun e => isRate e.1)

/-- … together with their call sites in the message protocol -/
def scopeTable : Table := entryTable.filter (fun e => isRate e.1 || callers.contains e.1)

def gaterMu : String := "connectionGater.mutex"
def counters : String := "rpcMessageCounter.counters"

/-- the functions that must be present -/
def required : List String :=
  ["rateLimit.increaseCounter", "rateLimit.checkLimit", "rateLimit.addRPCMessageCounter", "rateLimit.start",
   "rateLimiterHandler"]

/-- two mutexes are never held together by one goroutine (all observations of the analysis) -/
def neverHeldTogether (c : Cfg) (m1 m2 : String) (s : Skel) : Bool :=
  match analyse c.tbl fuelDefault s with
  | none => false
  | some (obs, _) => obs.all (fun o => !(holds o.1 m1 && holds o.1 m2))

/-- the mutexes a body may acquire, calls inlined. The fuel bounds length plus nesting plus call depth; when it
runs out "?" is listed, so an equation such as `acquired … 30 … = [gaterMu]` fails rather than holds by default. -/
def acquired (tbl : Table) : Nat → List Act → List String
  | 0, _ => ["?"]
  | _ + 1, [] => []
  | n + 1, a :: k =>
    (match a with
     | .lock m => [m]
     | .rlock m => [m]
     | .call f => match tbl.find f with
        | some b => acquired tbl n b
        | none => ["?"]
     | .go b => acquired tbl n b
     | .loop b => acquired tbl n b
     | .choice alts => alts.flatMap (acquired tbl n)
     | _ => []) ++ acquired tbl n k

/-- some observation of the analysis satisfies `p` (non-vacuity of the universally quantified criteria) -/
def someObs (c : Cfg) (p : Obs → Bool) (s : Skel) : Bool :=
  match analyse c.tbl fuelDefault s with
  | none => false
  | some (obs, _) => obs.any p

/-- **every regenerated entry point of the p2p group satisfies every criterion** — the evaluation of the
analysis over the regenerated table of which the obligations below are components. On the table as
regenerated, for exactly the regenerated entry list: well-formedness and criteria (1), (2), (4); criterion (3)
up to `Peer.Disconnect` with a counter mutex alone held; criterion (3) as such for every entry point that does
not reach `checkLimit`; `resMu` and a counter mutex never held together. The table in which `Peer.Disconnect`
is a call that returns (`cfgE`) is not analysed: the first conjunct walks its skeletons and finds no possibly
blocking operation of that name left in them, with fuel `200`, the fuel `Table.eraseBlockingCalls` erases
with; its criteria then follow (`C17_rate_all_entries_ok_modulo_disconnect`). -/
theorem all_entries_ok :
    cfgE.tbl.all (fun e => actsAll (noneNamed [disconnect]) 200 e.2) = true ∧                -- .1
    entryTable.map (·.1) = Gen.SkeletonsP2P.entries ∧                                        -- .2.1
    entryTable.all (fun e => C20.criteriaExceptBlocking cfg e.2) = true ∧                    -- .2.2.1
    entryTable.all (fun e => blockingOnly cfg [disconnect] [counterMu] e.2) = true ∧         -- .2.2.2.1
    entryTable.all (fun e => penaltyUnderLock.contains e.1 || noBlockingInCS cfg e.2) = true ∧  -- .2.2.2.2.1
    entryTable.all (fun e => neverHeldTogether cfg resMu counterMu e.2) = true := by          -- .2.2.2.2.2
  decide +kernel

/-- entry points named in this file and in Props/C17_Skel.lean are found in the table where they stand;
nothing is evaluated -/
theorem named_mem :
    ("rateLimiterHandler", Gen.SkeletonsP2P.rateLimiterHandler) ∈ entryTable ∧                           -- .1
    ("MessageProtocol.onResponse", Gen.SkeletonsP2P.MessageProtocol_onResponse) ∈ entryTable ∧           -- .2.1
    ("MessageProtocol.sendRequestMessage", Gen.SkeletonsP2P.MessageProtocol_sendRequestMessage) ∈ entryTable := by  -- .2.2
  simp only [entryTable, Gen.SkeletonsP2P.table, Gen.SkeletonsP2P.entries, List.mem_filter, List.mem_cons,
    List.contains_eq_mem, true_or, or_true, decide_true, and_self]

end C17Rate

open C17Rate

/-! ## (a) lock balance -/

/-- **meaning of `lockBalanced` on paths**: every complete path of the function — calls inlined to any
depth, loops iterated up to any bound, whichever way it reaches a `return` or its end — and every path
of a goroutine it spawns ends holding no lock. -/
theorem C17_rate_balanced_paths_end_unlocked (c : Cfg) (s : Skel) (h : lockBalanced c s = true)
    (u : Nat) (p : Path) (hp : IsThreadPath c.tbl u s p) : heldAfterPath [] p = [] :=
  balanced_paths_end_unlocked h hp

/-- **(a) every path of every rate-limiter entry releases every lock it acquired**: for each regenerated
entry of ratelimit.go and each stream handler calling them, the analysis succeeds (each loop iteration —
including one left by `continue` / `break` — ends with the lock set it started with), every release
matches a held lock, and every path to a `return` or to the end of the function holds nothing. -/
theorem C17_rate_locks_balanced :
    scopeTable.all (fun e => lockBalanced C17Rate.cfg e.2) = true :=
  Tables.all_filter_of_all <| Tables.all_imp all_entries_ok.2.2.1 fun _ h =>
    lockBalanced_of_wellFormed (criteriaExceptBlocking_iff.mp h).1

/-- the quantification is not vacuous: the rate-limiter functions are regenerated entry points, the
locking ones do acquire the counter mutex, and the handlers do call them -/
theorem C17_rate_required_functions_present :
    C17Rate.required.all (fun f => (rateTable.find f).isSome) = true ∧
    callers.all (fun f => (scopeTable.find f).isSome) = true ∧
    [Gen.SkeletonsP2P.rateLimit_increaseCounter, Gen.SkeletonsP2P.rateLimit_checkLimit,
     Gen.SkeletonsP2P.rateLimiterHandler, Gen.SkeletonsP2P.MessageProtocol_onRequest,
     Gen.SkeletonsP2P.MessageProtocol_onResponse].all
      (fun s => (acquired Gen.SkeletonsP2P.table 30 s).contains counterMu) = true := by
  -- the characters of the names read off their bytes: `String.toList` is slow in the kernel
  simp only [rateTable, scopeTable, isRate, Strings.toList_eq_chars]
  decide +kernel

/-- the reset goroutine parks at its ticker (and at `ctx.Done()`) holding nothing — i.e. no counter
mutex survives one round of the reset loop — and it does lock, write and unlock each counter -/
theorem C17_rate_handler_parks_unlocked :
    noBlockingInCS C17Rate.cfg Gen.SkeletonsP2P.rateLimiterHandler = true ∧
    lockBalanced C17Rate.cfg Gen.SkeletonsP2P.rateLimiterHandler = true ∧
    someObs C17Rate.cfg (fun o => o.2 == Prim.write counters && holdsW o.1 counterMu)
      Gen.SkeletonsP2P.rateLimiterHandler = true ∧
    someObs C17Rate.cfg (fun o => o.2 == Prim.rel counterMu) Gen.SkeletonsP2P.rateLimiterHandler = true := by
  decide +kernel

/-- by name (a failing function is reported by name) -/
theorem C17_rate_increaseCounter_balanced :
    lockBalanced C17Rate.cfg Gen.SkeletonsP2P.rateLimit_increaseCounter = true := by decide +kernel
theorem C17_rate_checkLimit_balanced :
    lockBalanced C17Rate.cfg Gen.SkeletonsP2P.rateLimit_checkLimit = true := by decide +kernel
theorem C17_rate_handler_balanced :
    lockBalanced C17Rate.cfg Gen.SkeletonsP2P.rateLimiterHandler = true :=
  C17_rate_handler_parks_unlocked.2.1

/-! ## (b) re-entrancy and lock order, (c) lockset -/

/-- **(b) no re-entrant acquisition** of a counter mutex (or any other) in the rate limiter and in the
handlers calling it. All counters share one mutex name, so this also excludes holding two counters'
mutexes at once. -/
theorem C17_rate_no_reentrant_lock :
    scopeTable.all (fun e => noReentrantAcquire C17Rate.cfg e.2) = true :=
  Tables.all_filter_of_all <| Tables.all_imp all_entries_ok.2.2.1 fun _ h => (criteriaExceptBlocking_iff.mp h).2.1

/-- **(b) lock order** `resMu` < `rpcMessageCounter.mu` < `connectionGater.mutex`: a counter mutex is
never requested while the gater mutex is held, `resMu` never while a counter mutex is held; in fact
`resMu` and a counter mutex are never held together (the rate-limit check is done before the critical
section of `resMu`), while the gater mutex IS taken under the counter mutex (`checkLimit` → `addPenalty`). -/
theorem C17_rate_lock_order :
    Gen.SkeletonsP2P.lockOrder = [resMu, counterMu, gaterMu] ∧
    scopeTable.all (fun e => lockOrderOk C17Rate.cfg e.2) = true ∧
    entryTable.all (fun e => neverHeldTogether C17Rate.cfg resMu counterMu e.2) = true ∧
    neverHeldTogether C17Rate.cfg counterMu gaterMu Gen.SkeletonsP2P.rateLimit_checkLimit = false :=
  ⟨rfl,
    Tables.all_filter_of_all <| Tables.all_imp all_entries_ok.2.2.1 fun _ h =>
      (criteriaExceptBlocking_iff.mp h).2.2.1,
    all_entries_ok.2.2.2.2.2, by decide +kernel⟩

/-- **(c) `counters` is only accessed under `mu`**: read with the counter mutex held, written with it
held exclusively, in every rate-limiter entry and in the handlers (criterion 4); the guard table does
tie `counters` to `mu` and the accesses exist. -/
theorem C17_rate_counters_guarded :
    Gen.SkeletonsP2P.guards.lookup counters = some counterMu ∧
    scopeTable.all (fun e => locksetOk C17Rate.cfg e.2 && wellFormed C17Rate.cfg e.2) = true ∧
    someObs C17Rate.cfg (fun o => o.2 == Prim.write counters) Gen.SkeletonsP2P.rateLimit_increaseCounter = true ∧
    someObs C17Rate.cfg (fun o => o.2 == Prim.read counters) Gen.SkeletonsP2P.rateLimit_checkLimit = true :=
  ⟨rfl,
    Tables.all_filter_of_all <| Tables.all_imp all_entries_ok.2.2.1 fun _ h =>
      have hc := criteriaExceptBlocking_iff.mp h
      Bool.and_eq_true _ _ ▸ ⟨hc.2.2.2, hc.1⟩,
    by decide +kernel⟩

/-! ## (e) what `checkLimit` does under the lock -/

/-- **FACT (candidate finding): `checkLimit` applies the penalty with the counter mutex held.**
Criterion (3) "no possibly blocking operation inside a critical section" fails on the CURRENT source
for `rateLimit.checkLimit` and hence for `onRequest` / `onResponse`: there is a path of `checkLimit`
on which `Peer.Disconnect` (`host.Network().ClosePeer`, a network operation) is reached with exactly
`rpcMessageCounter.mu` held. While it runs, every other message of the same procedure (any peer) waits
in `increaseCounter`, and so does the reset goroutine. (The statement is false, and `noBlockingInCS … = true`
true, of a source that applies the penalty after releasing the mutex.) -/
theorem C17_rate_checkLimit_penalty_under_lock :
    noBlockingInCS C17Rate.cfg Gen.SkeletonsP2P.rateLimit_checkLimit = false ∧
    noBlockingInCS C17Rate.cfg Gen.SkeletonsP2P.MessageProtocol_onRequest = false ∧
    noBlockingInCS C17Rate.cfg Gen.SkeletonsP2P.MessageProtocol_onResponse = false ∧
    ∃ p ∈ bodyPaths Gen.SkeletonsP2P.table 0 40 Gen.SkeletonsP2P.rateLimit_checkLimit,
      ([(counterMu, Mode.W)], Prim.block disconnect) ∈ trace [] p := by
  decide +kernel

/-- **what does hold.** In every entry point of the p2p group: `Peer.Disconnect` is the ONLY possibly
blocking operation ever performed inside a critical section, and then exactly the counter mutex is held
— never `resMu`, never the gater mutex (it is released when `connectionGater.addPenalty` returns);
nothing reachable from `Peer.addPenalty` acquires a counter mutex or `resMu` again (it acquires the gater
mutex only), so the penalty call cannot self-deadlock or invert the lock order; and with `Peer.Disconnect`
taken as a call that returns, all criteria hold (`C17_rate_all_entries_ok_modulo_disconnect`). -/
theorem C17_rate_penalty_call_confined :
    entryTable.all (fun e => blockingOnly C17Rate.cfg [disconnect] [counterMu] e.2) = true ∧
    entryTable.all (fun e => noBlockingHolding C17Rate.cfg resMu e.2) = true ∧
    entryTable.all (fun e => noBlockingHolding C17Rate.cfg gaterMu e.2) = true ∧
    acquired Gen.SkeletonsP2P.table 30 Gen.SkeletonsP2P.Peer_addPenalty = [gaterMu] ∧
    entryTable.all (fun e => penaltyUnderLock.contains e.1 || noBlockingInCS C17Rate.cfg e.2) = true :=
  have h := all_entries_ok.2.2.2
  -- neither `resMu` nor the gater mutex is the counter mutex, under which alone `Peer.Disconnect` is admitted
  ⟨h.1, Tables.all_imp h.1 fun _ => noBlockingHolding_of_blockingOnly (by decide),
    Tables.all_imp h.1 fun _ => noBlockingHolding_of_blockingOnly (by decide), by decide +kernel, h.2.1⟩

/-! ## (d) deadlock freedom -/

/-- with `Peer.Disconnect` taken as an ordinary call that returns, EVERY entry point of the p2p group
(message protocol, rate limiter, penalty path, connection gater) satisfies all criteria, (3) included -/
theorem C17_rate_all_entries_ok_modulo_disconnect :
    entryTableE.all (fun e => criteria cfgE e.2) = true ∧
    entryTableE.map (·.1) = Gen.SkeletonsP2P.entries :=
  -- erasing the operation only removes observations
  have h := all_entries_ok
  ⟨table_criteria_erase (c := C17Rate.cfg) h.1 h.2.2.1 h.2.2.2.1,
    (map_fst_eraseBlockingCalls_filter _ _ fun f => Gen.SkeletonsP2P.entries.contains f).trans h.2.1⟩

/-- **(d) Deadlock freedom with the rate limiter** (by `table_deadlock_free`, Lemmas/LockCriteria),
`Peer.Disconnect` being a call that returns: any number of goroutines, each running a path of ANY
regenerated entry point of the p2p group — `increaseCounter`, `checkLimit`, the reset goroutine
`rateLimiterHandler`, the stream handlers `onRequest` / `onResponse` calling them, requesters, the
connection gater and its expiry goroutine — under any schedule: no reachable state is deadlocked; in
every reachable state some goroutine can step, or all are finished or parked at a ticker / channel
holding no lock — no goroutine waits for a counter mutex, `resMu` or the gater mutex for ever. -/
theorem C17_rate_deadlock_free (u : Nat) (ps : List Path)
    (hps : ∀ p ∈ ps, ∃ e ∈ entryTableE, IsThreadPath cfgE.tbl u e.2 p)
    (st : State) (hr : Reachable (initState ps) st) :
    deadlocked st = false ∧ (quiescent st = true ∨ ∃ i, canStepInternal st i = true) :=
  table_deadlock_free _ _ C17_rate_all_entries_ok_modulo_disconnect.1 u ps hps st hr

/-- … and race freedom on the guarded tables (`counters`, `resCh`, the gater's `peerScore` /
`blockedAddrs`) under the same hypotheses (by `table_race_free`) -/
theorem C17_rate_race_free (u : Nat) (ps : List Path)
    (hps : ∀ p ∈ ps, ∃ e ∈ entryTableE, IsThreadPath cfgE.tbl u e.2 p)
    (st : State) (hr : Reachable (initState ps) st) (i j : Nat) : raceAt st i j = false :=
  table_race_free _ _ C17_rate_all_entries_ok_modulo_disconnect.1 u ps hps st hr i j

/-! ## (f) the seeded variant: `continue` with the counter mutex held -/

namespace C17Rate.Seeded

/-- `rateLimiterHandler` with the seeded change (hand-written; what skelgen emits for it):
```
for _, rpcMessageCounter := range rl.rpcMessageCounters {
    rpcMessageCounter.mu.Lock()
    if len(rpcMessageCounter.counters) == 0 { continue }   // leaves mu locked
    rpcMessageCounter.counters = make(map[PeerID]int)
    rpcMessageCounter.mu.Unlock()
}
``` -/
def handler : Skel :=
  [.loop [.choice [[.recv "t.C",
            .loop [.lock "rpcMessageCounter.mu",
                .read "rpcMessageCounter.counters",
                .choice [[],
                   [.write "rpcMessageCounter.counters",
                     .unlock "rpcMessageCounter.mu"]]]],
          [.recv "ctx.Done()",
            .ret]]]]

/-- `increaseCounter` of the unchanged source (hand copy, so that the counterexample below does not depend on the
regenerated file) -/
def increaseCounter : Skel :=
  [.lock "rpcMessageCounter.mu", .deferUnlock "rpcMessageCounter.mu", .read "rpcMessageCounter.counters",
   .write "rpcMessageCounter.counters"]

/-- `increaseCounter` without its `defer …Unlock()` (second seeded variant) -/
def increaseNoUnlock : Skel :=
  [.lock "rpcMessageCounter.mu", .read "rpcMessageCounter.counters", .write "rpcMessageCounter.counters"]

def table : Table := [("rateLimiterHandler", handler)] ++ Gen.SkeletonsP2P.table
def cfg : Cfg := ⟨table, Gen.SkeletonsP2P.guards, Gen.SkeletonsP2P.lockOrder⟩

/-- two rounds of the seeded reset goroutine: in the first round the counter is empty (`continue`), the
second round locks a counter again -/
def handlerPath : Path :=
  [.block "t.C", .acq "rpcMessageCounter.mu", .read "rpcMessageCounter.counters",
   .block "t.C", .acq "rpcMessageCounter.mu", .read "rpcMessageCounter.counters",
   .write "rpcMessageCounter.counters", .rel "rpcMessageCounter.mu"]

/-- a stream handler in `increaseCounter` -/
def callerPath : Path :=
  [.acq "rpcMessageCounter.mu", .read "rpcMessageCounter.counters", .write "rpcMessageCounter.counters",
   .rel "rpcMessageCounter.mu"]

end C17Rate.Seeded

/-- **(f) the seeded variant violates (a)**: the analysis rejects the reset loop (an iteration can end
holding `rpcMessageCounter.mu`), so `lockBalanced` — and with it `wellFormed` and every criterion — is
false for it, while the same checks pass on the regenerated handler; likewise for an `increaseCounter`
that lost its deferred unlock (function ends holding the mutex). -/
theorem C17_rate_seeded_violates_balance :
    lockBalanced C17Rate.Seeded.cfg C17Rate.Seeded.handler = false ∧
    (analyse C17Rate.Seeded.table fuelDefault C17Rate.Seeded.handler).isNone = true ∧
    wellFormed C17Rate.Seeded.cfg C17Rate.Seeded.handler = false ∧
    lockBalanced C17Rate.Seeded.cfg C17Rate.Seeded.increaseNoUnlock = false ∧
    lockBalanced C17Rate.cfg Gen.SkeletonsP2P.rateLimiterHandler = true := by
  decide

/-- **(f) … and reaches a state where every `increaseCounter` caller is blocked**: `handlerPath` is a
path of the seeded handler and `callerPath` the path of `increaseCounter`; after the first
tick on an empty counter the handler holds the mutex; the callers (here three) announce their `Lock()`
and wait; at the next tick the handler itself requests the mutex it still holds. No thread can step any
more: the state is deadlocked (and the handler never reaches `ctx.Done()`, so `Stop()` hangs). -/
theorem C17_rate_seeded_blocks_all_callers :
    C17Rate.Seeded.handlerPath ∈ bodyPaths C17Rate.Seeded.table 2 40 C17Rate.Seeded.handler ∧
    C17Rate.Seeded.callerPath ∈ bodyPaths C17Rate.Seeded.table 0 20 C17Rate.Seeded.increaseCounter ∧
    ∃ st, run (initState [C17Rate.Seeded.handlerPath, C17Rate.Seeded.callerPath, C17Rate.Seeded.callerPath,
        C17Rate.Seeded.callerPath]) [0, 0, 0, 0, 1, 2, 3, 0, 0] = some st ∧
      deadlocked st = true ∧
      (st.drop 1).all (fun t => t.waiting == some counterMu && t.held.isEmpty) = true := by
  refine ⟨by decide +kernel, by decide +kernel, _, rfl, ?_, ?_⟩ <;> decide

/-- … for ANY number of callers and whatever else runs: as long as some goroutine holds the counter
mutex (the seeded handler after its `continue`, which never releases it), a goroutine that has called
`Lock()` on it cannot proceed. -/
theorem C17_rate_seeded_holder_blocks_every_caller (s : State) (holder : Thread) (hh : holder ∈ s)
    (hheld : holds holder.held counterMu = true) (t : Thread) (rest : Path)
    (ht : t.prog = Prim.acq counterMu :: rest) (hw : t.waiting = some counterMu) :
    stepThread s t = none := by
  have hany : anyHolds s counterMu = true := by
    unfold anyHolds
    exact List.any_eq_true.mpr ⟨holder, hh, hheld⟩
  simp [stepThread, ht, hw, hany]

/-! ## non-vacuity -/

/-- the hypotheses of `C17_rate_deadlock_free` are satisfiable: complete paths of the regenerated reset
goroutine (one tick over one counter) and of `onResponse` going through `increaseCounter`, `checkLimit`
and the critical section of `resMu` -/
example :
    (∃ e ∈ entryTableE, e.1 = "rateLimiterHandler" ∧
      ∃ p ∈ bodyPaths cfgE.tbl 1 40 e.2,
        p.contains (.acq "rpcMessageCounter.mu") = true ∧ p.contains (.rel "rpcMessageCounter.mu") = true) ∧
    (∃ e ∈ entryTableE, e.1 = "MessageProtocol.onResponse" ∧
      ∃ p ∈ bodyPaths cfgE.tbl 1 60 e.2,
        p.contains (.acq "rpcMessageCounter.mu") = true ∧ p.contains (.acq "MessageProtocol.resMu") = true) :=
  ⟨⟨_, mem_eraseBlockingCalls_filter named_mem.1, rfl, by decide +kernel⟩,
   ⟨_, mem_eraseBlockingCalls_filter named_mem.2.1, rfl, by decide +kernel⟩⟩

/-- `lockBalanced` distinguishes `continue` before and after the unlock on a small hand-made loop -/
example :
    lockBalanced ⟨[], [], []⟩ [.loop [.lock "m", .choice [[], [.unlock "m"]]]] = false ∧
    lockBalanced ⟨[], [], []⟩ [.loop [.lock "m", .choice [[.unlock "m"], [.unlock "m"]]]] = true ∧
    lockBalanced ⟨[], [], []⟩ [.lock "m", .choice [[.ret], []], .unlock "m"] = false ∧
    lockBalanced ⟨[], [], []⟩ [.lock "m", .deferUnlock "m", .choice [[.ret], []]] = true := by
  decide

/-- a holder as the blocked-caller lemma asks for exists: after the seeded handler's first tick (a shorter run
than that of `C17_rate_seeded_blocks_all_callers`, with one caller) some thread holds the counter mutex -/
example : ∃ st, run (initState [C17Rate.Seeded.handlerPath, C17Rate.Seeded.callerPath]) [0, 0, 0, 0, 1] = some st ∧
    ∃ holder ∈ st, holds holder.held counterMu = true := by
  refine ⟨_, rfl, ?_⟩
  decide
