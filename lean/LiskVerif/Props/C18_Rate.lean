/-
C18 — rate limiter and message-protocol clauses: well-formed traffic within the limits is never
penalised; exceeding the limit, malformed envelopes and unknown procedures are penalised, the
penalties accumulate in the gater, and reaching the threshold disconnects the peer.

Theorems about `LiskVerif.Model.RateLimit` (model of pkg/p2p/ratelimit.go and of the penalty paths
of pkg/p2p/message_protocol.go, peer.go).
-/
import LiskVerif.Props.C18
import LiskVerif.Lemmas.GaterMore

open LiskVerif LiskVerif.ConnGater LiskVerif.RateLimit

/-- the configured limit of a procedure (`none` = not registered) -/
def C18limitOf (n : Node) (name : String) : Option Int := (findCounter n.counters name).map (·.limit)

/-- reference message counts per (procedure, peer) in the current interval -/
abbrev C18Cnt := String → Nat → Nat

def C18inc (c : C18Cnt) (name : String) (pid : Nat) : C18Cnt :=
  fun n p => if n = name ∧ p = pid then c n p + 1 else c n p

/-- **Legal traffic**: every envelope is well formed and names a registered procedure, and in every
interval (between two ticks) each (procedure, peer) sends at most `limit` messages. -/
def C18Legal (lim : String → Option Int) : C18Cnt → List Ev → Prop
  | _, [] => True
  | _, .tick :: r => C18Legal lim (fun _ _ => 0) r
  | c, .msg _ _ _ pid (.proc name) :: r =>
    (∃ L, lim name = some L ∧ ((c name pid + 1 : Nat) : Int) ≤ L) ∧ C18Legal lim (C18inc c name pid) r
  | _, .msg _ _ _ _ .malformed :: _ => False

/-- number of requests in a traffic sequence -/
def C18requests : List Ev → Nat
  | [] => 0
  | .msg _ true _ _ _ :: r => C18requests r + 1
  | _ :: r => C18requests r

/-! ### the limits along `Touch`; the handler count -/

/-- the configured limits are among what `Touch` keeps -/
private theorem limitOf_of_touch {n n' : Node} (h : Touch n n') : C18limitOf n' = C18limitOf n := by
  funext name
  have := congrArg (Option.map Prod.fst) (h.cfg name)
  rw [C18cfgOf, C18cfgOf, Option.map_map, Option.map_map] at this
  exact this

/-- the request handler runs -/
def C18bump (n : Node) (isReq : Bool) : Node :=
  { n with handled := n.handled + if isReq then 1 else 0 }

/-! ### legal traffic -/

/-- The induction behind `C18_legal_traffic_never_penalised`, from any start counters `c` that the node's counts agree with:
a legal message is within its limit, so `receive_within` applies (only the counter moves, to `C18inc c`); a tick
resets node and reference alike. -/
private theorem legal_run (lim : String → Option Int) (evs : List Ev) (n : Node) (c : C18Cnt)
    (hmp : n.mpStarted = true) (hlim : C18limitOf n = lim)
    (hcnt : ∀ name pid, count n name pid = c name pid) (hl : C18Legal lim c evs) :
    (runEv n evs).g = n.g ∧ (runEv n evs).conns = n.conns ∧ (runEv n evs).closed = n.closed ∧
      (runEv n evs).handled = n.handled + C18requests evs := by
  induction evs generalizing n c with
  | nil => simp [runEv, C18requests]
  | cons ev r ih =>
    cases ev with
    | tick =>
      have hl : C18Legal lim (fun _ _ => 0) r := hl
      have := ih (tick n) (fun _ _ => 0) hmp ((limitOf_of_touch (touch_applyEv n .tick)).trans hlim)
        (fun name pid => count_tick n name pid) hl
      simp only [runEv, List.foldl, applyEv, C18requests] at this ⊢
      exact this
    | msg now isReq remote pid k =>
      cases k with
      | malformed => exact absurd hl (by intro h; exact h)
      | proc name =>
        have hl : (∃ L, lim name = some L ∧ ((c name pid + 1 : Nat) : Int) ≤ L) ∧
            C18Legal lim (C18inc c name pid) r := hl
        obtain ⟨L, hL, hle⟩ := hl.1
        have hreg : ∃ cfg, findCounter n.counters name = some cfg ∧ cfg.limit = L := by
          have : C18limitOf n name = some L := by rw [hlim]; exact hL
          unfold C18limitOf at this
          cases hf : findCounter n.counters name with
          | none => simp [hf] at this
          | some cfg =>
            simp only [hf, Option.map_some, Option.some.injEq] at this
            exact ⟨cfg, rfl, this⟩
        obtain ⟨cfg, hc, hcl⟩ := hreg
        have hle' : ((count n name pid + 1 : Nat) : Int) ≤ cfg.limit := by
          rw [hcnt, hcl]; exact hle
        have hrec := receive_within n hmp now isReq remote pid name cfg hc hle'
        have hcnt' : ∀ name' pid', count (increase n name pid) name' pid' = C18inc c name pid name' pid' := by
          intro name' pid'
          rw [count_increase n name pid cfg hc]
          unfold C18inc
          by_cases h : name' = name ∧ pid' = pid
          · obtain ⟨h1, h2⟩ := h
            subst h1; subst h2
            simp [hcnt]
          · simp [h, hcnt]
        have hlim' : C18limitOf (increase n name pid) = lim :=
          (limitOf_of_touch ((Touch.refl n).setCounts name _)).trans hlim
        have := ih (C18bump (increase n name pid) isReq) (C18inc c name pid) hmp hlim' hcnt' hl.2
        simp only [runEv, List.foldl, applyEv, hrec] at this ⊢
        refine ⟨this.1, this.2.1, this.2.2.1, this.2.2.2.trans ?_⟩
        cases isReq
        · rfl
        · exact Nat.add_right_comm n.handled 1 (C18requests r)

/-- **Well-formed traffic within the limits is never penalised.** From a node whose counters are
zero (start of an interval), any sequence of well-formed messages for registered procedures and
interval ticks in which every (procedure, peer) stays within its limit per interval leaves the gater
untouched (no score, no ban), closes no connection, and every request reaches its handler. -/
theorem C18_legal_traffic_never_penalised (n : Node) (hmp : n.mpStarted = true)
    (hz : ∀ name pid, count n name pid = 0) (evs : List Ev)
    (hl : C18Legal (C18limitOf n) (fun _ _ => 0) evs) :
    (runEv n evs).g = n.g ∧ (runEv n evs).conns = n.conns ∧ (runEv n evs).closed = n.closed ∧
      (runEv n evs).handled = n.handled + C18requests evs :=
  legal_run (C18limitOf n) evs n (fun _ _ => 0) hmp rfl hz hl

/-- a small concrete node: one procedure with limit 2 and penalty 50 -/
def C18exampleNode : Node :=
  mpStart (register { g := C18fresh 10 } "blk" (some (2, 50))).1

example : C18Legal (C18limitOf C18exampleNode) (fun _ _ => 0)
    [.msg 1 true ⟨some [1, 2, 3, 4], none⟩ 0 (.proc "blk"), .msg 1 true ⟨some [1, 2, 3, 4], none⟩ 0 (.proc "blk"),
     .tick, .msg 2 false ⟨some [1, 2, 3, 4], none⟩ 0 (.proc "blk")] := by
  refine ⟨⟨2, by decide, by decide⟩, ⟨2, by decide, by decide⟩, ⟨2, by decide, by decide⟩, trivial⟩

/-! ### excess, malformed envelopes, unknown procedures -/

/-- **Excess is penalised.** The message that brings the count of (procedure, peer) in the current
interval above the limit makes the rate limiter add the procedure's penalty to the score of the
sender's IP and resets the counter; when the accumulated score thereby reaches the threshold, the IP
is banned and every connection to that peer is closed. -/
theorem C18_excess_penalised (n : Node) (hmp : n.mpStarted = true) (hs : n.g.started = true)
    (name : String) (cfg : Counter) (hc : findCounter n.counters name = some cfg)
    (remote : Addr) (ip : IP) (hip : remote.ip = some ip) (pid now : Nat) (isReq : Bool)
    (hex : ((count n name pid + 1 : Nat) : Int) > cfg.limit) :
    let n' := receive n now isReq remote pid (.proc name)
    let old : Int := match find n.g.peerScore ip with | some i => i.score | none => 0
    (∃ i, find n'.g.peerScore ip = some i ∧ i.score = old + cfg.penalty) ∧
    count n' name pid = 0 ∧
    (old + cfg.penalty ≥ 100 → isBanned n'.g ip = true ∧ ∀ c ∈ n'.conns, c.1 ≠ pid) := by
  intro n' old
  obtain ⟨rip, rpid⟩ := remote
  simp only at hip
  subst hip
  obtain ⟨hg, hcnt, _, _, hconns⟩ :=
    receive_over n hmp hs now isReq ip rpid pid name cfg hc (count_of_find hc pid ▸ hex)
  have hconns' : old + cfg.penalty ≥ maxPenaltyScore → ∀ c ∈ n'.conns, c.1 ≠ pid := by
    intro h
    refine hconns ?_
    cases hf : find n.g.peerScore ip <;> simpa [old, hf] using h
  have hscore : find n'.g.peerScore ip =
      some ⟨old + cfg.penalty, if old + cfg.penalty ≥ maxPenaltyScore then ((now + n.g.expSecs : Nat) : Int)
        else (match find n.g.peerScore ip with | some i => i.expiration | none => -1)⟩ := by
    rw [show n'.g = _ from hg, addPenalty_ok hs]
    simp only [find_put, if_true]
    cases hf : find n.g.peerScore ip <;> simp [old, hf]
  refine ⟨⟨_, hscore, rfl⟩, ?_, fun h100 => ⟨?_, hconns' h100⟩⟩
  · have hfi := find_increase n name pid name
    rw [if_pos rfl, hc] at hfi
    rw [count_setCount (increase n name pid) n' name pid (fun _ => 0) _ hfi hcnt, if_pos ⟨rfl, rfl⟩]
  · have h100' : old + cfg.penalty ≥ maxPenaltyScore := h100
    rw [isBanned, hscore]
    simp only [PeerInfo.banned, h100', if_true, bne_iff_ne, ne_eq]
    omega

example : (receive (increase (increase C18exampleNode "blk" 0) "blk" 0) 5 true ⟨some [1, 2, 3, 4], none⟩ 0
    (.proc "blk")).g.peerScore = [([1, 2, 3, 4], ⟨50, -1⟩)] := by decide

private theorem burst_prefix (name : String) (pid : Nat) (evs : List Ev)
    (hev : ∀ ev ∈ evs, ∃ now r a, ev = Ev.msg now r a pid (.proc name))
    (n : Node) (hmp : n.mpStarted = true) (cfg : Counter)
    (hc : findCounter n.counters name = some cfg)
    (hle : ((count n name pid + evs.length : Nat) : Int) ≤ cfg.limit) :
    (runEv n evs).g = n.g ∧ (runEv n evs).conns = n.conns ∧
    count (runEv n evs) name pid = count n name pid + evs.length := by
  induction evs generalizing n cfg with
  | nil => exact ⟨rfl, rfl, rfl⟩
  | cons ev r ih =>
    obtain ⟨now, isReq, a, hevq⟩ := hev ev List.mem_cons_self
    subst hevq
    simp only [List.length_cons] at hle
    have hrec := receive_within n hmp now isReq a pid name cfg hc (by omega)
    have hfind := find_increase n name pid name
    simp only [if_true, hc, Option.map_some] at hfind
    have hcount := count_increase n name pid cfg hc name pid
    simp only [and_self, if_true] at hcount
    have := ih (fun ev hm => hev ev (List.mem_cons_of_mem _ hm)) (C18bump (increase n name pid) isReq)
      hmp _ hfind (by rw [show count (C18bump (increase n name pid) isReq) name pid = _ from hcount]; simp only; omega)
    simp only [runEv, List.foldl, applyEv, hrec] at this ⊢
    refine ⟨this.1, this.2.1, this.2.2.trans ?_⟩
    rw [show count (C18bump (increase n name pid) isReq) name pid = _ from hcount, List.length_cons]
    omega

/-- **A burst above the limit is penalised once per `limit + 1` messages.** Starting an interval
with a zero counter, `limit` messages of one (procedure, peer) leave the gater untouched and the
next one adds exactly the procedure's penalty to the sender's IP and resets the counter. -/
theorem C18_excess_penalised_burst (n : Node) (hmp : n.mpStarted = true) (hs : n.g.started = true)
    (name : String) (cfg : Counter) (hc : findCounter n.counters name = some cfg) (pid : Nat) (ip : IP)
    (hz : count n name pid = 0) (hL : 0 ≤ cfg.limit)
    (evs : List Ev) (hev : ∀ ev ∈ evs, ∃ now r a, ev = Ev.msg now r a pid (.proc name))
    (hlen : (evs.length : Int) = cfg.limit)
    (now : Nat) (isReq : Bool) (remote : Addr) (hip : remote.ip = some ip) :
    let n' := runEv n (evs ++ [.msg now isReq remote pid (.proc name)])
    let old : Int := match find n.g.peerScore ip with | some i => i.score | none => 0
    (runEv n evs).g = n.g ∧
    (∃ i, find n'.g.peerScore ip = some i ∧ i.score = old + cfg.penalty) ∧ count n' name pid = 0 := by
  intro n' old
  obtain ⟨hg, _, hcnt⟩ := burst_prefix name pid evs hev n hmp cfg hc (by rw [hz]; omega)
  have hmp' := (touch_runEv evs n).started.trans hmp
  obtain ⟨cfg', hc', hl', hp'⟩ := (touch_runEv evs n).find hc
  have hn' : n' = receive (runEv n evs) now isReq remote pid (.proc name) := by
    show runEv n (evs ++ _) = _
    simp [runEv, List.foldl_append, applyEv]
  have hex := C18_excess_penalised (runEv n evs) hmp' (by rw [hg]; exact hs) name cfg' hc' remote ip hip
    pid now isReq (by rw [hcnt, hz, hl']; omega)
  simp only [hg, hp'] at hex
  rw [← hn'] at hex
  exact ⟨hg, hex.1, hex.2.1⟩

/-- **Malformed envelopes and unknown procedures are penalised.** An undecodable envelope or one
naming an unregistered procedure, received from a peer whose address has an IP with non-negative
score, bans that IP (the inbound and the outbound gate sequence refuse it afterwards), closes every
connection to the sending peer and does not reach any handler. -/
theorem C18_bad_message_banned (n : Node) (hs : n.g.started = true) (remote : Addr) (ip : IP)
    (hip : remote.ip = some ip) (pid now : Nat) (isReq : Bool) (k : MsgKind)
    (hk : k = .malformed ∨ ∃ name, k = .proc name ∧ findCounter n.counters name = none)
    (hnonneg : ∀ i, find n.g.peerScore ip = some i → 0 ≤ i.score) (q : Nat) (apid : Option Nat) :
    let n' := receive n now isReq remote pid k
    isBanned n'.g ip = true ∧ (∀ c ∈ n'.conns, c.1 ≠ pid) ∧ n'.handled = n.handled ∧
      inboundAllowed n'.g q ⟨some ip, apid⟩ = false ∧ outboundAllowed n'.g q ⟨some ip, apid⟩ = false := by
  intro n'
  obtain ⟨rip, rpid⟩ := remote
  simp only at hip
  subst hip
  have hn' : n' = disconnect { n with g := (addPenalty n.g now ⟨some ip, some pid⟩ maxPenaltyScore).1 } pid :=
    receive_bad n hs now isReq ip rpid pid k hk
  have hg' : n'.g = (addPenalty n.g now ⟨some ip, some pid⟩ maxPenaltyScore).1 := by rw [hn']; rfl
  have hbanned : isBanned n'.g ip = true := by
    rw [hg', addPenalty_ok hs]
    simp only [isBanned, find_put, if_true, PeerInfo.banned]
    cases hf : find n.g.peerScore ip with
    | none => simp [maxPenaltyScore]; omega
    | some i =>
      have := hnonneg i hf
      have h100 : i.score + maxPenaltyScore ≥ maxPenaltyScore := by simp only [maxPenaltyScore]; omega
      simp only [h100, if_true, bne_iff_ne, ne_eq]
      omega
  have hgates := C18_sequences_refuse n'.g ip apid q (Or.inl hbanned)
  refine ⟨hbanned, ?_, by rw [hn']; rfl, hgates.2, hgates.1⟩
  intro c hcm
  rw [hn'] at hcm
  exact (mem_conns_disconnect hcm).2

example : (receive (connect C18exampleNode true ⟨some [1, 2, 3, 4], none⟩ 3).1 5 true ⟨some [1, 2, 3, 4], none⟩ 3
    .malformed).conns = [] := by decide
