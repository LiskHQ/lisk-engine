/-
C19 — the inputs of the sync state machines are the node's COMMITTED values in every reachable node state:
`Executer.createSyncContext` has to take the height of `SyncContext.FinalizedBlockHeader` from
`DataAccess.GetFinalizedHeight()`, not from the BFT store's `maxHeightPrecommitted` (the defect seeded/C19-17 plants).

Setting: Model/SyncCtx.lean.  The node state holds BOTH candidate sources of a finalized height — the stored marker
(`NodeSt.marker`, monotone, guarded by `deleteBlock`) and the BFT store's `maxHeightPrecommitted`
(`storeMhpc e s = e.mhpc s.chain`, a function of the current chain: `deleteBlock` rolls it back) — and the sync
context is a function `context src e s` of that state.  Histories are arbitrary lists of the operations through
which anything changes the node (`Op`: processValidated, deleteBlock, restart, ClearTempBlocks — `Executer.process`
with its tie break, both synchronisers and the restore of the fast synchroniser are sequences of these; failed ones
included: a refused operation is the identity).

What is proved (no bound on histories, chains, peers):

* the C04 invariants in this model, for every history: the marker never decreases
  (`C19_ctx_marker_monotone`), it is the maximum over the history of the precommitted heights of the chains the
  node held after a successful `processValidated` (`C19_ctx_marker_is_max`), it dominates the BFT store of the
  current chain and of every prefix of it (`C19_ctx_invariant`, `C19_ctx_marker_ge_bft_store`), no block at or
  below it is ever removed or replaced (`C19_ctx_finalized_prefix_stable`); for the transcription of the Go code
  (Model/Node.lean) two of these are restated from Props/C04_More / C04_Restart (`C19_ctx_node_context_height`,
  `C19_ctx_node_marker_ge_bft_store`);
* in every reachable state the context built from the marker exists and names the block of the node's chain at
  the stored finalized height (`C19_ctx_finalized_eq_marker`, `C19_ctx_finalized_eq_marker_history`);
* with this context the synchronisers are the plans of Model/Sync.lean at `fin := marker`
  (`C19_ctx_fast_eq_plan`, `C19_ctx_block_eq_plan`), so every C19 theorem about them holds in every reachable
  state; a common block below the marker is ALWAYS answered by a ban, with the chain untouched and nothing
  downloaded (`C19_ctx_fast_below_marker_banned`); the fast synchroniser never plans a deletion that `deleteBlock`
  refuses (`C19_ctx_fast_no_refused_deletion`: the error path without restore is unreachable) and every failure
  restores the chain (`C19_ctx_fast_failure_restores`), the block
  synchroniser offers only heights at or above the marker (`C19_ctx_block_offers_ge_marker`) and neither ever
  removes a block at or below the marker — whatever the context says (`C19_ctx_sync_keeps_marker_prefix`);
* counterexample (`C19_ctx_bft_store_lags_counterexample`, `C19_ctx_bft_store_source_counterexample`): after
  "apply five blocks, delete one" the BFT store's precommitted height is below the marker; a context built from
  the BFT store then accepts a common block below the marker: nothing is banned, blocks are downloaded, the chain
  is cut down to the marker (the own block above it is lost), no restore — the marker source bans in the same
  state.  The harness reaches exactly this on the seeded tree (`reset P=21 F=14 Q=20 n=4 …; sync rb=d1 …`).
-/
import LiskVerif.Model.SyncCtx
import LiskVerif.Lemmas.SyncMore
import LiskVerif.Props.C19
import LiskVerif.Props.C04_Restart

open LiskVerif LiskVerif.Sync LiskVerif.SyncCtx

namespace C19Ctx

variable {ι : Type} [DecidableEq ι]

/-- the invariant of the persistent state: the chain is not empty, the block at the marker exists, the marker
dominates the precommitted height of every non-empty prefix of the chain -/
def Inv (e : Env ι) (s : NodeSt ι) : Prop :=
  s.marker < s.chain.length ∧ ∀ k, 0 < k → k ≤ s.chain.length → e.mhpc (s.chain.take k) ≤ s.marker

/-- C02 (`mhpc ≤ mhp ≤ height`): the precommitted height of a chain is at most its tip height -/
def EnvOK (e : Env ι) : Prop := ∀ c : List (Blk ι), c ≠ [] → e.mhpc c ≤ c.length - 1

theorem take_dropLast_of_le {α : Type} (c : List α) (k : Nat) (hk : k ≤ c.length - 1) :
    c.dropLast.take k = c.take k := by
  rw [List.dropLast_eq_take, List.take_take]
  congr 1
  omega

/-- what one operation does to chain and marker -/
inductive Step (e : Env ι) (s : NodeSt ι) : NodeSt ι → Prop
  | same (s' : NodeSt ι) (hc : s'.chain = s.chain) (hm : s'.marker = s.marker) : Step e s s'
  | push (b : Blk ι) (s' : NodeSt ι) (hc : s'.chain = s.chain ++ [b])
      (hm : s'.marker = max s.marker (e.mhpc (s.chain ++ [b]))) : Step e s s'
  | pop (s' : NodeSt ι) (hgt : s.marker < s.chain.length - 1) (hc : s'.chain = s.chain.dropLast)
      (hm : s'.marker = s.marker) : Step e s s'

/-- every operation is one of the three moves of `Step` -/
theorem step_cases (e : Env ι) (s : NodeSt ι) (op : Op ι) : Step e s (step e s op) := by
  cases op with
  | apply b rt =>
    show Step e s (applyBlock e s b rt)
    unfold applyBlock
    split
    · exact .push b _ rfl rfl
    · exact .same _ rfl rfl
  | delete st =>
    show Step e s (deleteTip s st)
    unfold deleteTip
    split
    · exact .same _ rfl rfl
    · rename_i hgt
      split
      · exact .same _ rfl rfl
      · exact .pop _ (Nat.lt_of_not_le hgt) rfl rfl
  | restart => exact .same _ rfl rfl
  | clearTemp => exact .same _ rfl rfl

/-- one operation keeps the invariant (a push raises the marker to the new precommitted height, a pop stays above it) -/
theorem inv_step (e : Env ι) (he : EnvOK e) (s : NodeSt ι) (op : Op ι) (h : Inv e s) : Inv e (step e s op) := by
  obtain ⟨h1, h2⟩ := h
  cases step_cases e s op with
  | same s' hc hm => exact ⟨by rw [hc, hm]; exact h1, by rw [hc, hm]; exact h2⟩
  | push b s' hc hm =>
    -- C02: the precommitted height of the longer chain is at most its tip height
    have hb := he (s.chain ++ [b]) (by simp)
    rw [List.length_append, List.length_singleton, Nat.add_sub_cancel] at hb
    refine ⟨by rw [hc, hm, List.length_append, List.length_singleton]; omega, fun k hk0 hk => ?_⟩
    rw [hc, List.length_append, List.length_singleton] at hk
    rw [hc, hm]
    by_cases hkl : k ≤ s.chain.length
    · rw [List.take_append_of_le_length hkl]
      exact Nat.le_trans (h2 k hk0 hkl) (Nat.le_max_left _ _)
    · rw [List.take_of_length_le (by rw [List.length_append, List.length_singleton]; omega)]
      exact Nat.le_max_right _ _
  | pop s' hgt hc hm =>
    refine ⟨by rw [hc, hm, List.length_dropLast]; exact hgt, fun k hk0 hk => ?_⟩
    rw [hc, List.length_dropLast] at hk
    rw [hc, hm, take_dropLast_of_le _ _ hk]
    exact h2 k hk0 (by omega)

theorem run_cons (e : Env ι) (s : NodeSt ι) (op : Op ι) (r : List (Op ι)) :
    run e s (op :: r) = run e (step e s op) r := rfl

/-- no operation lowers the marker -/
theorem marker_step_le (e : Env ι) (s : NodeSt ι) (op : Op ι) : s.marker ≤ (step e s op).marker := by
  cases step_cases e s op with
  | push b s' hc hm => rw [hm]; exact Nat.le_max_left _ _
  | same s' hc hm => exact Nat.le_of_eq hm.symm
  | pop s' hgt hc hm => exact Nat.le_of_eq hm.symm

/-- no operation touches a block at or below the marker -/
theorem prefix_step (e : Env ι) (s : NodeSt ι) (op : Op ι) (f : Nat) (hf : f ≤ s.marker) (hm : s.marker < s.chain.length) :
    (step e s op).chain.take (f + 1) = s.chain.take (f + 1) := by
  cases step_cases e s op with
  | same s' hc _ => rw [hc]
  | push b s' hc _ => rw [hc]; exact List.take_append_of_le_length (by omega)
  | pop s' hgt hc _ => rw [hc]; exact take_dropLast_of_le _ _ (by omega)

end C19Ctx

open C19Ctx

section Histories
variable {ι : Type} [DecidableEq ι]

/-- **The invariant holds in every reachable state**: after ANY history of operations the block at the marker
exists and the marker dominates the BFT store's precommitted height of every prefix of the chain. -/
theorem C19_ctx_invariant (e : Env ι) (he : EnvOK e) (s : NodeSt ι) (ops : List (Op ι)) (h : Inv e s) :
    Inv e (run e s ops) := by
  induction ops generalizing s with
  | nil => exact h
  | cons op r ih => rw [run_cons]; exact ih _ (inv_step e he s op h)

/-- **The marker never decreases**, whatever the history (deletions, restarts, failed operations included). -/
theorem C19_ctx_marker_monotone (e : Env ι) (s : NodeSt ι) (ops : List (Op ι)) :
    s.marker ≤ (run e s ops).marker := by
  induction ops generalizing s with
  | nil => exact Nat.le_refl _
  | cons op r ih => rw [run_cons]; exact Nat.le_trans (marker_step_le e s op) (ih _)

/-- **The marker is the maximum over the history**: its value after any history is the maximum of its start value
and the BFT store's precommitted height of every chain the node held right after a successful `processValidated`
— nothing else (deleteBlock, restart, ClearTempBlocks, refused operations) changes it. -/
theorem C19_ctx_marker_is_max (e : Env ι) (s : NodeSt ι) (ops : List (Op ι)) :
    (run e s ops).marker = (appliedChains e s ops).foldl (fun m c => max m (e.mhpc c)) s.marker := by
  induction ops generalizing s with
  | nil => rfl
  | cons op r ih =>
    rw [run_cons, ih]
    cases op with
    | apply b rt =>
      simp only [appliedChains, step]
      by_cases hb : e.applies s.chain b = true
      · simp only [hb, if_true, List.foldl_cons]
        congr 1
        simp only [applyBlock, hb, if_true]
      · simp only [hb, Bool.false_eq_true, if_false]
        congr 1
        simp only [applyBlock, hb, Bool.false_eq_true, if_false]
    | delete st =>
      simp only [appliedChains, step]
      congr 1
      simp only [deleteTip]
      split
      · rfl
      · split <;> rfl
    | restart => rfl
    | clearTemp => rfl

/-- **The marker dominates the BFT store in every reachable state.**  Only `≤` holds: after a deletion the store
can be strictly lower, as in `C19_ctx_bft_store_lags_counterexample`. -/
theorem C19_ctx_marker_ge_bft_store (e : Env ι) (he : EnvOK e) (s : NodeSt ι) (ops : List (Op ι)) (h : Inv e s) :
    storeMhpc e (run e s ops) ≤ (run e s ops).marker := by
  obtain ⟨h1, h2⟩ := C19_ctx_invariant e he s ops h
  have := h2 (run e s ops).chain.length (by omega) (Nat.le_refl _)
  rw [List.take_length] at this
  exact this

/-- **No block at or below the marker is ever removed or replaced**: after any history the chain still starts
with the blocks up to the finalized height the node had stored at the start. -/
theorem C19_ctx_finalized_prefix_stable (e : Env ι) (he : EnvOK e) (s : NodeSt ι) (ops : List (Op ι)) (h : Inv e s) :
    (run e s ops).chain.take (s.marker + 1) = s.chain.take (s.marker + 1) := by
  induction ops generalizing s with
  | nil => rfl
  | cons op r ih =>
    rw [run_cons]
    have hinv := inv_step e he s op h
    have hmono := marker_step_le e s op
    have h1 := ih _ hinv
    -- the prefix up to the old marker is a prefix of the prefix up to the new marker
    have h2 : (run e (step e s op) r).chain.take (s.marker + 1) = (step e s op).chain.take (s.marker + 1) := by
      have := congrArg (List.take (s.marker + 1)) h1
      rw [List.take_take, List.take_take] at this
      rw [Nat.min_eq_left (Nat.succ_le_succ hmono)] at this
      exact this
    rw [h2]
    exact prefix_step e s op s.marker (Nat.le_refl _) h.1

/-! ### the context -/

/-- **The sync context names the block at the stored finalized height**: in a state satisfying the invariant the
context built from the marker exists, its finalized height IS the marker and its finalized block is the block of
the node's chain at that height. -/
theorem C19_ctx_finalized_eq_marker (e : Env ι) (s : NodeSt ι) (h : Inv e s) :
    ∃ b, s.chain[s.marker]? = some b ∧
      context .marker e s = some { finH := s.marker, fin := b, nvals := e.nvals s.chain } := by
  obtain ⟨h1, _⟩ := h
  refine ⟨s.chain[s.marker], List.getElem?_eq_getElem h1, ?_⟩
  simp only [context, finHeight, List.getElem?_eq_getElem h1, Option.map_some]

/-- … in EVERY reachable state: after any history (apply / delete / restart / failed operations). -/
theorem C19_ctx_finalized_eq_marker_history (e : Env ι) (he : EnvOK e) (s : NodeSt ι) (ops : List (Op ι))
    (h : Inv e s) :
    ∃ ctx, context .marker e (run e s ops) = some ctx ∧ ctx.finH = (run e s ops).marker ∧
      (run e s ops).chain[(run e s ops).marker]? = some ctx.fin ∧ s.marker ≤ ctx.finH ∧
      storeMhpc e (run e s ops) ≤ ctx.finH := by
  obtain ⟨b, hb, hc⟩ := C19_ctx_finalized_eq_marker e (run e s ops) (C19_ctx_invariant e he s ops h)
  exact ⟨_, hc, rfl, hb, C19_ctx_marker_monotone e s ops, C19_ctx_marker_ge_bft_store e he s ops h⟩

/-- The context built from the BFT store names a block at or BELOW the marker (equal exactly when the store has
not been rolled back below it). -/
theorem C19_ctx_bft_store_source_le_marker (e : Env ι) (he : EnvOK e) (s : NodeSt ι) (ops : List (Op ι))
    (h : Inv e s) : finHeight .bftStore e (run e s ops) ≤ finHeight .marker e (run e s ops) :=
  C19_ctx_marker_ge_bft_store e he s ops h

end Histories

/-! ### the synchronisers on the context -/

section Plans
variable {ι : Type} [DecidableEq ι]

/-- **With the committed finalized height the fast synchroniser is the plan of Model/Sync.lean**: when the context
carries the marker, the deletion guard of `deleteBlock` can never fire after the ban check passed, and
`fastSyncG` is `Sync.fastSync` at `fin := marker` — so `C19_fast_sync_failure_restores`,
`C19_converges_to_better_chain`, `C19_fast_sync_outcomes/states` hold in every reachable state. -/
theorem C19_ctx_fast_eq_plan (applies : List (Blk ι) → Blk ι → Bool) (finAfter : List (Blk ι) → Nat)
    (n m : Nat) (q : List (Blk ι)) (target : Blk ι) (peer : Peer ι) :
    fastSyncG applies finAfter n m m q target peer = fastSync applies finAfter n m q target peer :=
  fastSyncG_eq_fastSync applies finAfter n m q target peer

/-- … and the block synchroniser likewise. -/
theorem C19_ctx_block_eq_plan (applies : List (Blk ι) → Blk ι → Bool) (n m myMhp : Nat) (q : List (Blk ι))
    (best : Tip ι) (peer : Peer ι) :
    blockSyncG applies n m m myMhp q best peer = blockSync applies n m myMhp q best peer := rfl

/-- **A common block below the marker is always answered by a ban**: in a state whose context carries the marker,
whatever else the peer does — the chain is untouched, the temp table is not used, nothing is downloaded (the
outcome does not depend on `peer.segment`), the error is "below finalized". -/
theorem C19_ctx_fast_below_marker_banned (applies : List (Blk ι) → Blk ι → Bool) (finAfter : List (Blk ι) → Nat)
    (n m : Nat) (q : List (Blk ι)) (target : Blk ι) (peer : Peer ι) (cid : ι) (ch : Nat)
    (hc : peer.common (idsAt q (getLastHeights (q.length - 1) (2 * n))) = some (some cid))
    (hh : heightOf q cid = some ch) (hlt : ch < m) :
    fastSyncG applies finAfter n m m q target peer = ⟨q, [], true, some .belowFinalized⟩ ∧
    ∀ seg, fastSyncG applies finAfter n m m q target { peer with segment := seg } =
      ⟨q, [], true, some .belowFinalized⟩ := by
  have key : ∀ p : Peer ι, p.common (idsAt q (getLastHeights (q.length - 1) (2 * n))) = some (some cid) →
      fastSyncG applies finAfter n m m q target p = ⟨q, [], true, some .belowFinalized⟩ := by
    intro p hp
    unfold fastSyncG
    dsimp only
    rw [hp]
    dsimp only
    rw [hh]
    exact if_pos hlt
  exact ⟨key peer hc, fun seg => key _ hc⟩

/-- … as a statement about the node: in every state satisfying the invariant, `Executer.process` → fast
synchroniser with a peer naming a common block below the STORED finalized height bans it and changes nothing. -/
theorem C19_ctx_node_fast_below_marker_banned (e : Env ι) (finAfter : List (Blk ι) → Nat) (s : NodeSt ι)
    (h : Inv e s) (myMhp : Nat) (target : Blk ι) (targetMhp : Nat) (genIn stale : Bool) (peer : Peer ι)
    (cid : ι) (ch : Nat)
    (hc : peer.common (idsAt s.chain (getLastHeights (s.chain.length - 1) (2 * e.nvals s.chain))) = some (some cid))
    (hh : heightOf s.chain cid = some ch) (hlt : ch < s.marker) :
    syncNode .marker e finAfter s myMhp target targetMhp genIn stale (some .fast) peer =
      some ⟨s.chain, [], true, some .belowFinalized⟩ := by
  obtain ⟨b, _, hctx⟩ := C19_ctx_finalized_eq_marker e s h
  unfold syncNode
  rw [hctx]
  simp only [Option.isNone_some, Bool.false_and, Bool.false_eq_true, if_false]
  rw [(C19_ctx_fast_below_marker_banned e.applies finAfter _ s.marker s.chain target peer cid ch hc hh hlt).1]

/-- **The fast synchroniser never plans a deletion that `deleteBlock` refuses**: with the committed finalized
height in the context the error path "deleteTillCommonBlock failed" — the one path of `fastSyncer.Sync` that
neither restores nor bans — is unreachable, against every peer. -/
theorem C19_ctx_fast_no_refused_deletion (applies : List (Blk ι) → Blk ι → Bool) (finAfter : List (Blk ι) → Nat)
    (n m : Nat) (q : List (Blk ι)) (target : Blk ι) (peer : Peer ι) :
    (fastSyncG applies finAfter n m m q target peer).err ≠ some .deleteFailed := by
  have h := fastSyncG_end applies finAfter n m m q target peer
  generalize fastSyncG applies finAfter n m m q target peer = o at h ⊢
  cases h with
  | early e b he => intro h; cases h; exact absurd he (by decide)
  | refused => omega
  | _ => nofun

/-- **A failed fast synchronisation restores the chain, in every reachable state**: on the context of the marker
every error outcome except a failed restoration leaves the requester on exactly the chain it started from, and the
restoration cannot fail when the own chain is valid for the processor and the downloaded blocks finalized nothing
above the marker (`C19_fast_sync_failure_restores` at `fin := marker`, through `C19_ctx_fast_eq_plan`).  With the
BFT store as source this is false: `C19_ctx_bft_store_source_counterexample` (error `deleteFailed`, chain cut). -/
theorem C19_ctx_fast_failure_restores (applies : List (Blk ι) → Blk ι → Bool) (finAfter : List (Blk ι) → Nat)
    (n m : Nat) (q : List (Blk ι)) (target : Blk ι) (peer : Peer ι) :
    (∀ e, (fastSyncG applies finAfter n m m q target peer).err = some e → e ≠ .restoreFailed →
      (fastSyncG applies finAfter n m m q target peer).chain = q) ∧
    ((∀ c, finAfter c ≤ m) → ValidChain applies q →
      (fastSyncG applies finAfter n m m q target peer).err ≠ some .restoreFailed) := by
  rw [C19_ctx_fast_eq_plan]
  exact (C19_fast_sync_failure_restores applies finAfter n m q target peer).2

/-- **The block synchroniser offers only heights at or above the marker** (no `uint32` overflow: own tip and
`marker + 10·n` below 2^32): an honest peer, which answers with one of the offered ids, can only name a common
block at or above the stored finalized height. -/
theorem C19_ctx_block_offers_ge_marker (start m n : Nat) (hs : start < two32) (hno : m + 10 * n < two32) :
    ∀ h ∈ getHeightWithGap start m n 10, m ≤ h :=
  fun h hh => (getHeightWithGap_bounds hs hno h hh).1

/-- **Neither synchroniser ever removes a block at or below the marker** — whatever the context says (`ctxFin`
arbitrary: the guard is `deleteBlock`'s, which reads the stored height itself), whatever the peer answers. -/
theorem C19_ctx_sync_keeps_marker_prefix (applies : List (Blk ι) → Blk ι → Bool) (finAfter : List (Blk ι) → Nat)
    (n ctxFin m myMhp : Nat) (q : List (Blk ι)) (target : Blk ι) (best : Tip ι) (peer : Peer ι)
    (hm : m < q.length) :
    (fastSyncG applies finAfter n ctxFin m q target peer).chain.take (m + 1) = q.take (m + 1) ∧
    (blockSyncG applies n ctxFin m myMhp q best peer).chain.take (m + 1) = q.take (m + 1) :=
  ⟨(fastSyncG_end applies finAfter n ctxFin m q target peer).keeps_prefix hm,
    (blockSyncG_end applies n ctxFin m myMhp q best peer).keeps_prefix hm⟩

end Plans

/-! ### counterexample: the BFT store as source -/

namespace C19Ctx.Ex

def blk (i p h : Nat) : Blk Nat := { id := i, prev := p, height := h }

def g : Blk Nat := blk 0 0 0
def b1 : Blk Nat := blk 1 0 1
def b2 : Blk Nat := blk 2 1 2
def b3 : Blk Nat := blk 3 2 3
def b4 : Blk Nat := blk 4 3 4
def b5 : Blk Nat := blk 5 4 5
/-- the peer's blocks above the common block `b2` -/
def p3 : Blk Nat := blk 13 2 3
def p4 : Blk Nat := blk 14 13 4
def p5 : Blk Nat := blk 15 14 5
def p6 : Blk Nat := blk 16 15 6

/-- two validators; a block is applied iff it is linked to the tip; finality lags the tip by two blocks -/
def env : Env Nat where
  applies := fun c x => x.height == c.length && (match c.getLast? with | some t => t.id == x.prev | none => false)
  mhpc := fun c => c.length - 1 - 2
  nvals := fun _ => 2

def s0 : NodeSt Nat := { chain := [g], marker := 0 }

/-- five blocks applied (finality reaches height 3), the tip deleted again (tie break / interrupted synchronisation) -/
def history : List (Op Nat) :=
  [.apply b1 false, .apply b2 false, .apply b3 false, .apply b4 false, .apply b5 false, .delete false]

def peerChain : List (Blk Nat) := [g, b1, b2, p3, p4, p5, p6]

/-- (chain, temp table, peer banned, error) of a synchronisation; `createSyncContext` failing would give the empty chain -/
def outcome (o : Option (Out Nat)) : List (Blk Nat) × List (Blk Nat) × Bool × Option SyncErr :=
  match o with
  | some o => (o.chain, o.temp, o.banned, o.err)
  | none => ([], [], false, none)

theorem envOK : EnvOK env := by
  intro c _
  simp only [env]
  omega

theorem inv0 : Inv env s0 := by
  refine ⟨by decide, ?_⟩
  intro k hk0 hk
  simp only [s0, List.length_singleton] at hk
  have : k = 1 := by omega
  subst this
  decide

end C19Ctx.Ex

open C19Ctx.Ex in
/-- **The BFT store lags behind the marker after a revert**: after "apply five blocks, delete one" the node is on
`g b1 b2 b3 b4`, its stored finalized height is 3, the precommitted height of its (rolled-back) BFT store is 2. -/
theorem C19_ctx_bft_store_lags_counterexample :
    (run env s0 history).chain = [g, b1, b2, b3, b4] ∧ (run env s0 history).marker = 3 ∧
    storeMhpc env (run env s0 history) = 2 ∧
    (context .marker env (run env s0 history)).map (·.finH) = some 3 ∧
    (context .bftStore env (run env s0 history)).map (·.finH) = some 2 := by
  decide

open C19Ctx.Ex in
/-- **With the BFT store as source the fast synchroniser accepts a common block below the marker**: in that state
an honest peer on `g b1 b2 p3 … p6` (fork after height 2, below the stored finalized height 3) announces `p6`.
Context from the marker: the peer is banned, the chain untouched.  Context from the BFT store (finalized height
2): nobody is banned, the blocks are downloaded, `deleteBlock` removes `b4` and refuses `b3`: the node ends on
`g b1 b2 b3` with its own block `b4` only in the temp table — truncated, not restored, peer not banned. -/
theorem C19_ctx_bft_store_source_counterexample :
    outcome (syncNode .marker env (fun _ => 0) (run env s0 history) 0 p6 4 true true (some .fast)
      (honest peerChain 4)) = ([g, b1, b2, b3, b4], [], true, some .belowFinalized) ∧
    outcome (syncNode .bftStore env (fun _ => 0) (run env s0 history) 0 p6 4 true true (some .fast)
      (honest peerChain 4)) = ([g, b1, b2, b3], [b4], false, some .deleteFailed) ∧
    -- the same through `Syncer.Sync`'s own choice of the synchroniser
    outcome (syncNode .bftStore env (fun _ => 0) (run env s0 history) 0 p6 4 true true none
      (honest peerChain 4)) = ([g, b1, b2, b3], [b4], false, some .deleteFailed) := by
  decide

/-- non-vacuity of the history theorems: the example state is reachable, satisfies the invariant, and the
context of the marker names block `b3` -/
example : Inv C19Ctx.Ex.env (run C19Ctx.Ex.env C19Ctx.Ex.s0 C19Ctx.Ex.history) :=
  C19_ctx_invariant _ C19Ctx.Ex.envOK _ _ C19Ctx.Ex.inv0

example : (context .marker C19Ctx.Ex.env (run C19Ctx.Ex.env C19Ctx.Ex.s0 C19Ctx.Ex.history)).map (·.fin) =
    some C19Ctx.Ex.b3 := by decide

example : (appliedChains C19Ctx.Ex.env C19Ctx.Ex.s0 C19Ctx.Ex.history).length = 5 ∧
    (run C19Ctx.Ex.env C19Ctx.Ex.s0 C19Ctx.Ex.history).marker =
      (appliedChains C19Ctx.Ex.env C19Ctx.Ex.s0 C19Ctx.Ex.history).foldl
        (fun m c => max m (C19Ctx.Ex.env.mhpc c)) 0 :=
  ⟨by decide, C19_ctx_marker_is_max _ _ _⟩

/-- a peer whose common block is AT the marker is not banned by the marker source (the guard is strict) -/
example : C19Ctx.Ex.outcome (syncNode .marker C19Ctx.Ex.env (fun _ => 0)
      (run C19Ctx.Ex.env C19Ctx.Ex.s0 C19Ctx.Ex.history) 0 (C19Ctx.Ex.blk 25 24 5) 4 true true (some .fast)
      (honest [C19Ctx.Ex.g, C19Ctx.Ex.b1, C19Ctx.Ex.b2, C19Ctx.Ex.b3, C19Ctx.Ex.blk 24 3 4, C19Ctx.Ex.blk 25 24 5] 4)) =
    ([C19Ctx.Ex.g, C19Ctx.Ex.b1, C19Ctx.Ex.b2, C19Ctx.Ex.b3, C19Ctx.Ex.blk 24 3 4, C19Ctx.Ex.blk 25 24 5], [], false, none) := by
  decide

/-! ### the same facts for the transcription of the Go code (Model/Node.lean) -/

section NodeModel
open LiskVerif.Node
open LiskVerif.DiffDB (Store)

/-- **Transcription level: the sync context carries the stored finalized height after every history**
(`Node.syncFinalized` = `GetBlockHeaderByHeight(GetFinalizedHeight())`, Props/C04_Restart): whatever the history
(processed blocks, deletions, tie breaks, restarts, failed operations), the header `createSyncContext` hands to
the synchronisers has the height `GetFinalizedHeight` reads from the database at that moment. -/
theorem C19_ctx_node_context_height (cd : Codecs) (cfg : Cfg) (slot : Slot) (base : Store) (baseH : Nat)
    (hbase : BaseOK cd base baseH) (s : St) (c : Chain) (ops : List Node.Op) (hR : Ref cd base baseH s c)
    (hok : RunOK cd cfg slot base s c ops) (f : Nat) (hf : finOf (Node.run cd cfg slot s ops).db = some f)
    (hlt : baseH < f) (hd : Hdr) (hs : syncFinalized cd (Node.run cd cfg slot s ops) = some hd) :
    hd.height = f :=
  C04_sync_context_height cd base baseH hbase _ _ (trans_run hbase ops s c hR hok).ref f hf hlt hd hs

/-- **Transcription level: the marker dominates the precommitted height of the tip**, which is what the BFT store
of the node holds (`deleteBlock` reverts the state diff of the deleted block: Props/C05).  From a state whose marker
`f` dominates the precommitted height of every block of the chain, after every history the marker `f'` is at least
`f` and at least the precommitted height of the tip.  (Props/C04_More `C04_fin_ge_chain_mhpc` has it for every block
of the chain; it is narrowed to the tip here.) -/
theorem C19_ctx_node_marker_ge_bft_store (cd : Codecs) (cfg : Cfg) (slot : Slot) (base : Store) (baseH : Nat)
    (hbase : BaseOK cd base baseH) (s : St) (c : Chain) (ops : List Node.Op) (hR : Ref cd base baseH s c)
    (hok : RunOK cd cfg slot base s c ops) (f : Nat) (hf : finOf s.db = some f) (h0 : ∀ bx ∈ c, bx.2.mhpc ≤ f) :
    ∃ f', finOf (Node.run cd cfg slot s ops).db = some f' ∧ f ≤ f' ∧
      ∀ bx, (runC cd cfg slot s c ops).getLast? = some bx → bx.2.mhpc ≤ f' := by
  obtain ⟨f', hf', hall⟩ := C04_fin_ge_chain_mhpc cd cfg slot base baseH hbase s c ops hR hok f hf h0
  refine ⟨f', hf', ?_, fun bx hbx => hall bx (List.mem_of_getLast? hbx)⟩
  obtain ⟨f1, f1', h1, h2, hle⟩ := C04_fin_monotone cd cfg slot base baseH hbase s c ops hR hok
  rw [hf] at h1
  rw [hf'] at h2
  cases h1
  cases h2
  exact hle

end NodeModel
