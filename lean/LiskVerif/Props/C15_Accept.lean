/-
C15 (clause "generated blocks are valid") — composition of the generator model with the block
verification model, and the no-self-contradiction clause at full strength.

The two models use different state records: the generator model (`Model/Generator.lean`, part 2)
works on `GState` (tip height, chain maxHeightPrevoted, generator database), the verification model
(`Model/Verify.lean`, C03) on `Node` (tip, consensus store `BFT.State`, configuration with the
verifier's clock).  `C15gstate` is the explicit correspondence; `C15forge` assembles the block the
way `Generator.forge` / `initBlockHeader` / `sealBlock` do, from
  * the header the generator model prepares (`Generator.mkHeader`: height, generator address,
    maxHeightGenerated from the generator database, maxHeightPrevoted of the node),
  * a payload `f.selected` (a free field; `C15Selection`, a field of `C15Healthy`, ties it to
    `Generator.select` or to any run of the selection loop),
  * what `forge` reads from its environment (`C15Forge`: the two clock reads, the enabled keys and the
    two key maps of the ideal signature, the generator database, the result of `GetAggregateCommit`,
    the pool, the application's verdicts, the size limit) and
  * the facts the verifier will establish when it replays the block (`C15Replay`: the answers of the
    application behind the ABI, root / static-validity facts),
and aborts where `forge` returns without a block.  `C15forge` models the generator after
/verif/fixes/C15-generator-validator-update.patch (the application's parameter update is applied to the
dry-run store before `sealBlock` hashes the parameters of height+1); `C15forgeOrig` is the original code,
which dropped the update (its block is rejected by the own node: `C15_cx_validator_change_rejected`,
confirmed on the real generator + verifier).

Idea. The forged block is accepted by `Block.Validate` + `processValidated` of the SAME node state iff the
environment conditions `C15EnvOK` hold (`C15_forged_accept_iff`): the rules of `accepts_iff` (C03) are
matched one by one, those that need no condition (version, height, previousBlockID, maxHeightPrevoted,
signature length, state-root length, the vote update and `getABIConsensus` succeeding, `validatorsHash`,
admissibility of a validator change, parameters of the next height present) hold by construction, so every
condition is necessary given the others. The conditions
follow from a healthy environment `C15Healthy` and two hypotheses (`C15_forged_block_accepted`), each
discharged from its own model: the generator database covers the own blocks of the BFT window (generator
model, every history: `C15_own_blocks_covered`) and the window lies on the node's chain (`C15ChainInv`, kept
by every accepted block); the field `aggregateCommit` of `C15Healthy` follows from C06 through the view
`C15CertView`. A concrete node shows that the hypotheses can be met, and for `ownBlocks` and nine fields
of `C15Healthy` (all but `idLengths` and `selection`) that dropping it gives a forged block the node rejects
(`C15_cx_*`; there is none for `chain`). Before the concrete node stand no-self-contradiction per pair of
headers, without the global hypothesis of `C15_no_self_contradiction`, and `C15_correspondence_commutes`: the
step `forge v applied` of the generator model and `processValidated` of the accepted forged block agree
through `C15gstate`.
-/
import LiskVerif.Props.C03
import LiskVerif.Props.C06_EndToEnd
import LiskVerif.Props.C02_Inv
import LiskVerif.Props.C15
import LiskVerif.Props.C15_Sel
import LiskVerif.Lemmas.GeneratorAccept

open LiskVerif LiskVerif.Verify LiskVerif.Generator LiskVerif.GenAccept

/-! ## the correspondence and the assembly of the block -/

/-- the generator model's view of a node of the verification model whose generator database is `db` -/
def C15gstate (n : Node) (db : List (Nat × Info)) : GState :=
  { height := n.tipHeight, mhp := n.bft.mhp, infos := db }

/-- what `Generator.forge` reads from its environment -/
structure C15Forge where
  /-- validators (indices of the generator model) whose keys are enabled on this node -/
  enabled : List Nat
  /-- the generator database (`GeneratorInfo` per validator) -/
  db : List (Nat × Info)
  /-- `time.Now()` read by `forge` (used by `shouldForge` and `Generators.AtTimestamp`) -/
  clockSlot : Nat
  /-- `time.Now()` read again by `initBlockHeader` (the header timestamp) -/
  clockHeader : Nat
  /-- result of `consensus.GetAggregateCommit()` (`none` = error), with the fact about its signature -/
  ac : Option AC
  /-- `pool.GetProcessable()` -/
  pool : List Tx
  /-- verdict of VerifyTransaction + ExecuteTransaction during generation -/
  ok : List Tx → Tx → Bool
  /-- what `selectTransactionsByFee` + `limitTransactionsWithSize` returned (see `C15Selection`) -/
  selected : List Tx
  /-- `Genesis.MaxTransactionsSize` as the generator reads it -/
  maxSize : Nat
  /-- ideal signature: public key belonging to the enabled private key of a validator -/
  signerKey : Nat → Bytes
  /-- ideal signature: generator key registered on chain for an address -/
  registeredKey : Bytes → Bytes

/-- what the verifier finds when it replays the block: answers of the application behind the ABI and
facts about pure functions (roots, static validity), as in `Verify.Cand` -/
structure C15Replay where
  id : Bytes
  /-- `Transaction.Validate` -/
  txStatic : Tx → Bool
  /-- verdicts of VerifyTransaction / ExecuteTransaction for a transaction replayed after a prefix -/
  verdict : List Tx → Tx → TxV × TxV
  abiInit : Bool := true
  abiVerifyAssets : Bool := true
  abiBefore : Bool := true
  abiAfter : Bool := true
  assets : AssetsV := .ok
  txRootOK : Bool := true
  assetRootOK : Bool := true
  eventRootOK : Bool := true
  commitOK : Bool := true
  nEvents : Nat := 0
  /-- the parameter update `AfterTransactionsExecute` answers with — during generation and on replay
  (the original generator ignored it: `C15forgeOrig`) -/
  change : Option Change := none

/-- the validator `forge` generates for: the generator of the slot of `clockSlot` at height tip+1,
if its key is enabled (`none`: `forge` returns without a block) -/
def C15slotValidator (addr : Nat → Bytes) (n : Node) (f : C15Forge) : Option Nat :=
  match BFT.getKeys n.bft (n.tipHeight + 1) with
  | none => none
  | some gens =>
    match generatorAt n.cfg gens f.clockSlot with
    | none => none
    | some g => f.enabled.find? (fun v => addr v = g)

/-- the block of validator `v` before `validatorsHash` is known: header fields of `initBlockHeader`
(through `Generator.mkHeader`), the selected payload, Ed25519 signature (64 bytes) by the
enabled key -/
def C15sealed (addr : Nat → Bytes) (n : Node) (f : C15Forge) (r : C15Replay) (v : Nat) (ac : AC) : Cand :=
  let h := mkHeader addr (C15gstate n f.db) v
  let txs := f.selected
  { version := 2, height := h.height, timestamp := f.clockHeader, prevID := n.tipID,
    gen := h.generatorAddress, id := r.id, mhp := h.maxHeightPrevoted, mhg := h.maxHeightGenerated,
    ac := ac, sigLen := 64, sigOK := decide (f.signerKey v = f.registeredKey (addr v)),
    txStatic := txs.map r.txStatic, txRootOK := r.txRootOK, assets := r.assets,
    assetRootOK := r.assetRootOK, payloadSize := (txs.map (·.size)).sum,
    abiInit := r.abiInit, abiVerifyAssets := r.abiVerifyAssets, abiBefore := r.abiBefore,
    abiAfter := r.abiAfter, txs := replayTxs r.verdict [] txs, change := r.change, vhOK := true,
    nEvents := r.nEvents, eventRootOK := r.eventRootOK, commitOK := r.commitOK }

/-- the fact "validatorsHash matches": `sealBlock` hashes (`vh`) the parameters `p` it finds for
height+1 in its dry-run store; the verifier compares with the parameters of height+1 after applying
the application's parameter update `change` to the store `s1` (vote update applied) -/
def C15vhOK (vh : BFT.Params → Bytes) (s1 : BFT.State) (change : Option Change) (height : Nat)
    (p : BFT.Params) : Bool :=
  match applyChange s1 change with
  | none => true
  | some s2 =>
    match BFT.getParams s2 (height + 1) with
    | none => true
    | some p2 => decide (vh p2 = vh p)

/-- the part of `Generator.forge` up to `abi.BeforeTransactionsExecute`: the validator, the aggregate
commit and the dry-run consensus store after the vote update on the block before `validatorsHash` is
known (`C15sealed` of the first two; `none` where the Go function returns without a block) -/
def C15prepare (addr : Nat → Bytes) (n : Node) (f : C15Forge) (r : C15Replay) :
    Option (Nat × AC × BFT.State) :=
  match C15slotValidator addr n f with
  | none => none
  | some v =>
    match f.ac with
    | none => none                                   -- GetAggregateCommit failed
    | some ac =>
      let b := C15sealed addr n f r v ac
      match storeAfterBFT n b with
      | none => none                                 -- BFTBeforeTransactionsExecute failed
      | some s1 => if consensusInfoOK s1 b then some (v, ac, s1) else none   -- getABIConsensus failed

/-- `Generator.forge` on node `n` (`none` where the Go function returns without a block), with
/verif/fixes/C15-generator-validator-update.patch: `AfterTransactionsExecute` applies the
application's parameter update to the dry-run store (`SetBFTParameters` + `SetGeneratorKeys`, as the
block execution does), and `sealBlock` hashes the parameters of height+1 it finds THERE. -/
def C15forge (addr : Nat → Bytes) (vh : BFT.Params → Bytes) (n : Node) (f : C15Forge) (r : C15Replay) :
    Option Cand :=
  match C15prepare addr n f r with
  | none => none
  | some (v, ac, s1) =>
    let b := C15sealed addr n f r v ac
    match applyChange s1 r.change with
    | none => none                                   -- AfterTransactionsExecute: SetBFTParameters failed
    | some s2 =>
      match BFT.getParams s2 (b.height + 1) with
      | none => none                                 -- sealBlock: GetBFTParameters(height+1) failed
      | some p => some { b with vhOK := C15vhOK vh s1 r.change b.height p }

/-- the ORIGINAL code (before the patch): the generator drops the parameter update of
`AfterTransactionsExecute`; `sealBlock` hashes the parameters of height+1 WITHOUT it -/
def C15forgeOrig (addr : Nat → Bytes) (vh : BFT.Params → Bytes) (n : Node) (f : C15Forge) (r : C15Replay) :
    Option Cand :=
  match C15prepare addr n f r with
  | none => none
  | some (v, ac, s1) =>
    let b := C15sealed addr n f r v ac
    match BFT.getParams s1 (b.height + 1) with
    | none => none
    | some p => some { b with vhOK := C15vhOK vh s1 r.change b.height p }

/-- a block info of the BFT window as a header of the contradiction check -/
def C15infoHdr (b : BFT.BlockInfo) : Hdr :=
  { height := b.height, generatorAddress := b.gen, maxHeightGenerated := b.mhg, maxHeightPrevoted := b.mhp }

/-! ## the exact environment conditions -/

/-- The conditions on the environment under which the block forged for validator `v` is accepted.
Nothing is required for: version, height, previousBlockID, maxHeightPrevoted, signature length,
state-root length, success of the vote update and of `getABIConsensus`, admissibility of a validator /
threshold change answered by the application, presence of the parameters of the next height and
`validatorsHash` (they hold by construction). -/
structure C15EnvOK (addr : Nat → Bytes) (n : Node) (f : C15Forge) (r : C15Replay) (v : Nat) (b : Cand) : Prop where
  /-- ids are 32 bytes, addresses 20 bytes -/
  idLengths : n.tipID.length = 32 ∧ (addr v).length = 20
  /-- the header timestamp lies in a later slot than the tip … -/
  slotLater : slotOf n.cfg n.tipTimestamp < slotOf n.cfg f.clockHeader
  /-- … and not in a slot after the one of the verifier's clock -/
  notFuture : slotOf n.cfg f.clockHeader ≤ slotOf n.cfg n.cfg.now
  /-- the second clock read selects the same generator as the first -/
  sameGenerator : ∀ gens, BFT.getKeys n.bft (n.tipHeight + 1) = some gens →
    generatorAt n.cfg gens f.clockHeader = generatorAt n.cfg gens f.clockSlot
  /-- the enabled key is the registered generator key of the address -/
  keyRegistered : f.signerKey v = f.registeredKey (addr v)
  /-- the validator's most recent block in the BFT window and the new header are legitimate
  successors one way or the other -/
  noContradiction : ∀ b0, n.bft.infos.find? (·.gen = addr v) = some b0 →
    C07LegitSucc (C15infoHdr b0) (mkHeader addr (C15gstate n f.db) v) ∨
    C07LegitSucc (mkHeader addr (C15gstate n f.db) v) (C15infoHdr b0)
  /-- what `GetAggregateCommit` returned is a valid aggregate commit for this node -/
  aggregateCommit : ∀ a, f.ac = some a → ACValid n.cfg.acBound n a
  /-- the selected payload fits the limit the verifier applies -/
  payloadSize : (f.selected.map (·.size)).sum ≤ n.cfg.maxTxLen
  /-- the selected transactions are statically valid -/
  static : ∀ t ∈ f.selected, r.txStatic t = true
  /-- replayed by the verifier, every selected transaction is verified Ok and executes without
  error / Invalid -/
  replay : ∀ p ∈ replayTxs r.verdict [] f.selected,
    p.1 = TxV.ok ∧ p.2 ≠ TxV.error ∧ p.2 ≠ TxV.invalid
  /-- the application answers the block-level calls, roots and state root are reproduced -/
  application : r.abiInit = true ∧ r.abiVerifyAssets = true ∧ r.abiBefore = true ∧ r.abiAfter = true ∧
    r.assets = AssetsV.ok ∧ r.txRootOK = true ∧ r.assetRootOK = true ∧ r.eventRootOK = true ∧
    r.commitOK = true ∧ r.nEvents ≤ maxEventsPerBlock

/-! ## unpacking `C15forge` -/

/-- inversion of `C15slotValidator`, `C15prepare`, `C15forge`: what a result `some …` says about each stage -/
theorem C15_slotValidator_some {addr : Nat → Bytes} {n : Node} {f : C15Forge} {v : Nat}
    (h : C15slotValidator addr n f = some v) :
    ∃ gens, BFT.getKeys n.bft (n.tipHeight + 1) = some gens ∧
      generatorAt n.cfg gens f.clockSlot = some (addr v) ∧ v ∈ f.enabled := by
  unfold C15slotValidator at h
  split at h
  · cases h
  · rename_i gens hk
    split at h
    · cases h
    · rename_i g hg
      have h1 := List.find?_some h
      have h2 := List.mem_of_find?_eq_some h
      simp only [decide_eq_true_eq] at h1
      exact ⟨gens, hk, by rw [hg, h1], h2⟩

theorem C15_prepare_some {addr : Nat → Bytes} {n : Node} {f : C15Forge} {r : C15Replay} {v : Nat} {ac : AC}
    {s1 : BFT.State} (h : C15prepare addr n f r = some (v, ac, s1)) :
    C15slotValidator addr n f = some v ∧ f.ac = some ac ∧
      storeAfterBFT n (C15sealed addr n f r v ac) = some s1 ∧
      consensusInfoOK s1 (C15sealed addr n f r v ac) = true := by
  unfold C15prepare at h
  split at h
  · cases h
  · rename_i v' hv
    split at h
    · cases h
    · rename_i ac' hac
      simp only at h
      split at h
      · cases h
      · rename_i s1' hs1
        split at h
        · rename_i hinfo
          simp only [Option.some.injEq, Prod.mk.injEq] at h
          obtain ⟨rfl, rfl, rfl⟩ := h
          exact ⟨hv, hac, hs1, hinfo⟩
        · cases h

theorem C15_forge_some {addr : Nat → Bytes} {vh : BFT.Params → Bytes} {n : Node} {f : C15Forge}
    {r : C15Replay} {b : Cand} (h : C15forge addr vh n f r = some b) :
    ∃ v ac s1 s2 p, C15slotValidator addr n f = some v ∧ f.ac = some ac ∧
      storeAfterBFT n (C15sealed addr n f r v ac) = some s1 ∧
      consensusInfoOK s1 (C15sealed addr n f r v ac) = true ∧
      applyChange s1 r.change = some s2 ∧
      BFT.getParams s2 (n.tipHeight + 1 + 1) = some p ∧
      b = { C15sealed addr n f r v ac with vhOK := C15vhOK vh s1 r.change (n.tipHeight + 1) p } := by
  unfold C15forge at h
  split at h
  · cases h
  · rename_i v ac s1 hprep
    obtain ⟨hv, hac, hs1, hinfo⟩ := C15_prepare_some hprep
    simp only at h
    split at h
    · cases h
    · rename_i s2 hs2
      split at h
      · cases h
      · rename_i p hp
        simp only [Option.some.injEq] at h
        exact ⟨v, ac, s1, s2, p, hv, hac, hs1, hinfo, hs2, hp, h.symm⟩

/-- the validator a forged block was generated for -/
theorem C15_forge_validator {addr : Nat → Bytes} {vh : BFT.Params → Bytes} {n : Node} {f : C15Forge}
    {r : C15Replay} {b : Cand} (h : C15forge addr vh n f r = some b) :
    ∃ v, C15slotValidator addr n f = some v ∧ b.gen = addr v := by
  obtain ⟨v, ac, s1, s2, p, hv, _, _, _, _, _, hb⟩ := C15_forge_some h
  exact ⟨v, hv, by rw [hb]; rfl⟩

/-! ## the contradiction rule of the verifier in terms of the LIP-0014 specification (C07) -/

/-- the header of a candidate block as the contradiction check sees it -/
def C15candHdr (b : Cand) : Hdr :=
  { height := b.height, generatorAddress := b.gen, maxHeightGenerated := b.mhg, maxHeightPrevoted := b.mhp }

/-- `IsHeaderContradictingChain` does not fire iff the generator has no block in the BFT window, or
its most recent one and the new header are legitimate successors one way or the other. -/
theorem C15_verifier_contradiction_rule (s : BFT.State) (b : Cand) :
    isContradicting s b = false ↔
      ∀ b0, s.infos.find? (·.gen = b.gen) = some b0 →
        C07LegitSucc (C15infoHdr b0) (C15candHdr b) ∨ C07LegitSucc (C15candHdr b) (C15infoHdr b0) := by
  unfold isContradicting BFT.contradicting
  have hg : (hdrOf b).gen = b.gen := rfl
  rw [hg]
  cases hf : s.infos.find? (·.gen = b.gen) with
  | none => simp
  | some b0 =>
    have hgen : (C15infoHdr b0).generatorAddress = (C15candHdr b).generatorAddress := by
      have := List.find?_some hf
      simp only [decide_eq_true_eq] at this
      exact this
    have := C07_spec (C15infoHdr b0) (C15candHdr b) hgen
    simp only [Option.some.injEq, forall_eq']
    exact this

/-! ## accepted iff the environment conditions hold -/

private theorem change_ok (vh : BFT.Params → Bytes) (n : Node) (b : Cand) (s1 s2 : BFT.State) (p : BFT.Params)
    (hs : storeAfterBFT n b = some s1) (hc : applyChange s1 b.change = some s2)
    (hp : BFT.getParams s2 (b.height + 1) = some p) :
    changeOK n b = true ∧ nextParamsOK n b = true ∧ C15vhOK vh s1 b.change b.height p = true := by
  refine ⟨?_, ?_, ?_⟩
  · unfold changeOK; rw [hs]; simp only; rw [hc]; rfl
  · unfold nextParamsOK storeAfterExec; rw [hs]; simp only; rw [hc]; simp only; rw [hp]; rfl
  · unfold C15vhOK; rw [hc]; simp only; rw [hp]; simp

/-- **Generated blocks are valid — exact form.**  The block `forge` produces for validator `v` on node
`n` is accepted by `Block.Validate` + `processValidated` of the same node (same consensus store, the
verifier's clock `n.cfg.now`) if and only if the environment conditions `C15EnvOK` hold. -/
theorem C15_forged_accept_iff (addr : Nat → Bytes) (vh : BFT.Params → Bytes) (n : Node) (f : C15Forge)
    (r : C15Replay) (v : Nat) (b : Cand) (hv : C15slotValidator addr n f = some v)
    (hb : C15forge addr vh n f r = some b) : accepts n b ↔ C15EnvOK addr n f r v b := by
  obtain ⟨v', ac, s1, s2, p, hv', hac, hs1, hinfo, hs2, hp, hbeq⟩ := C15_forge_some hb
  cases hv.symm.trans hv'
  obtain ⟨gens, hkeys, hgen, _⟩ := C15_slotValidator_some hv
  -- what `forge` established on its dry-run store, said of the forged block; every other field of
  -- the block is a field of `C15sealed` by reduction
  have hstore : storeAfterBFT n b = some s1 := by rw [hbeq]; exact hs1
  have hpc := change_ok vh n b s1 s2 p hstore (by rw [hbeq]; exact hs2) (by rw [hbeq]; exact hp)
  have hinfo' : infoOKAfterBFT n b = true := by
    unfold infoOKAfterBFT; rw [hstore, hbeq]; exact hinfo
  have hslot : ∀ ts, slotGenerator n n.bft { C15sealed addr n f r v ac with timestamp := ts } =
      generatorAt n.cfg gens ts := by
    intro ts; unfold slotGenerator; exact hkeys ▸ rfl
  subst hbeq
  rw [accepts_iff]
  constructor
  · intro hS
    obtain ⟨e1, e2, e3, e4, e5, _, _, _, _, e10⟩ := hS.executes
    exact
      { idLengths := ⟨hS.lengths.1, hS.lengths.2.1⟩
        slotLater := hS.slotLater
        notFuture := hS.notFuture
        sameGenerator := fun gens' hk' => by
          cases hkeys.symm.trans hk'
          exact ((hslot _).symm.trans hS.generator).trans hgen.symm
        keyRegistered := of_decide_eq_true hS.signature
        noContradiction := (C15_verifier_contradiction_rule n.bft _).mp hS.notContradicting
        aggregateCommit := fun a ha => by cases hac.symm.trans ha; exact hS.aggregateCommit
        payloadSize := hS.payloadSize
        static := fun t ht => hS.transactionsStatic _ (List.mem_map.mpr ⟨t, ht, rfl⟩)
        replay := e5
        application := ⟨e1, e2, e3, e4, hS.assets, hS.transactionRoot, hS.assetRoot, hS.eventRoot,
          hS.stateRoot, e10⟩ }
  · intro hE
    obtain ⟨a1, a2, a3, a4, a5, a6, a7, a8, a9, a10⟩ := hE.application
    exact
      { version := rfl
        height := rfl
        link := rfl
        lengths := ⟨hE.idLengths.1, hE.idLengths.2, rfl⟩
        stateRootLength := rfl
        slotLater := hE.slotLater
        notFuture := hE.notFuture
        generator := ((hslot _).trans (hE.sameGenerator gens hkeys)).trans hgen
        signature := decide_eq_true hE.keyRegistered
        maxHeightPrevoted := rfl
        notContradicting := (C15_verifier_contradiction_rule n.bft _).mpr hE.noContradiction
        aggregateCommit := hE.aggregateCommit ac hac
        transactionRoot := a6
        assets := a5
        assetRoot := a7
        eventRoot := a8
        validatorsHash := hpc.2.2
        stateRoot := a9
        transactionsStatic := fun x hx => by
          obtain ⟨t, ht, rfl⟩ := List.mem_map.mp hx
          exact hE.static t ht
        payloadSize := hE.payloadSize
        executes := ⟨a1, a2, a3, a4, hE.replay, hstore ▸ rfl, hinfo', hpc.1, hpc.2.1, a10⟩ }

/-! ## sufficiency from natural hypotheses -/

/-- The payload is a result of the selection loop of the generator model: the deterministic
function `Generator.select` (any pool), or — for a pool without duplicate entries — ANY possible
result `Generator.Run` of the heap-driven loop, whatever tie-break `heap.Pop` makes. -/
def C15Selection (f : C15Forge) : Prop :=
  f.selected = select f.ok f.maxSize f.pool ∨
  (f.pool.Nodup ∧ ∃ evs, Run f.ok f.maxSize (initGroups f.pool) 0 [] f.selected evs)

/-- what acceptance needs from the selection: the size bound, every pick was answered "ok" in the
state after the picks before it, and only pool transactions are picked -/
theorem C15_selection_facts (f : C15Forge) (h : C15Selection f) :
    (f.selected.map (·.size)).sum ≤ f.maxSize ∧ AllOk f.ok [] f.selected ∧ ∀ t ∈ f.selected, t ∈ f.pool := by
  -- either way the payload is a run of the loop on the pool
  rcases h with h | ⟨_, evs, hrun⟩
  · obtain ⟨evs, hrun⟩ := select_run f.ok f.maxSize f.pool
    exact h ▸ run_facts hrun
  · exact run_facts hrun

/-- A healthy environment of one `forge` call (everything except the two hypotheses about the own
blocks in the BFT window, which are derived below from the generator model and from the chain
invariant). -/
structure C15Healthy (addr : Nat → Bytes) (n : Node) (f : C15Forge) (r : C15Replay) : Prop where
  /-- block ids are 32 bytes, the addresses of the enabled validators 20 bytes -/
  idLengths : n.tipID.length = 32 ∧ ∀ v ∈ f.enabled, (addr v).length = 20
  /-- the clock `forge` reads lies in a later slot than the tip (`shouldForge` tests `≠`; a clock that
  is not behind the tip's slot makes it `<`) -/
  clockAfterTip : slotOf n.cfg n.tipTimestamp < slotOf n.cfg f.clockSlot
  /-- the clock is still in that slot when `initBlockHeader` reads it again … -/
  sameSlot : slotOf n.cfg f.clockHeader = slotOf n.cfg f.clockSlot
  /-- … and the verifier's clock is not in an earlier slot -/
  verifierClock : slotOf n.cfg f.clockSlot ≤ slotOf n.cfg n.cfg.now
  /-- every enabled key is the generator key registered for its address -/
  keysRegistered : ∀ v ∈ f.enabled, f.signerKey v = f.registeredKey (addr v)
  /-- `GetAggregateCommit` returns a valid aggregate commit (C06; see
  `C15_aggregate_commit_from_pool_valid`) -/
  aggregateCommit : ∀ a, f.ac = some a → ACValid n.cfg.acBound n a
  /-- the payload is a result of the selection loop (any tie-break) -/
  selection : C15Selection f
  /-- generator and verifier use the same payload limit -/
  sizeLimit : f.maxSize ≤ n.cfg.maxTxLen
  /-- the pool only holds statically valid transactions -/
  poolStatic : ∀ t ∈ f.pool, r.txStatic t = true
  /-- the application is deterministic: what it accepted during generation it accepts on replay -/
  deterministic : ∀ acc t, f.ok acc t = true →
    (r.verdict acc t).1 = TxV.ok ∧ (r.verdict acc t).2 ≠ TxV.error ∧ (r.verdict acc t).2 ≠ TxV.invalid
  /-- the application answers the block-level calls; roots, events and state root are reproduced -/
  application : r.abiInit = true ∧ r.abiVerifyAssets = true ∧ r.abiBefore = true ∧ r.abiAfter = true ∧
    r.assets = AssetsV.ok ∧ r.txRootOK = true ∧ r.assetRootOK = true ∧ r.eventRootOK = true ∧
    r.commitOK = true ∧ r.nEvents ≤ maxEventsPerBlock

/-- **Generated blocks are valid.**  In a healthy environment, if the generator database covers the
validator's own blocks of the BFT window (`ownBlocks`: stored height ≥ their height and their
maxHeightGenerated) and the window lies on the node's chain (`chain`), every block `forge` produces is
accepted by the same node: all rules of `verifyBlock` / `Block.Validate` / `processValidated` hold. -/
theorem C15_forged_block_accepted (addr : Nat → Bytes) (vh : BFT.Params → Bytes) (n : Node) (f : C15Forge)
    (r : C15Replay) (b : Cand) (hh : C15Healthy addr n f r)
    (ownBlocks : ∀ v ∈ f.enabled, ∀ b0 ∈ n.bft.infos, b0.gen = addr v →
      b0.height ≤ (getInfo f.db v).height ∧ b0.mhg ≤ (getInfo f.db v).height)
    (chain : ∀ b0 ∈ n.bft.infos, b0.height ≤ n.tipHeight ∧ b0.mhp ≤ n.bft.mhp)
    (hb : C15forge addr vh n f r = some b) : accepts n b := by
  obtain ⟨v, hv, _⟩ := C15_forge_validator hb
  obtain ⟨gens, _, _, hen⟩ := C15_slotValidator_some hv
  obtain ⟨sel1, sel2, sel3⟩ := C15_selection_facts f hh.selection
  apply (C15_forged_accept_iff addr vh n f r v b hv hb).mpr
  refine
    { idLengths := ⟨hh.idLengths.1, hh.idLengths.2 v hen⟩
      slotLater := by rw [hh.sameSlot]; exact hh.clockAfterTip
      notFuture := by rw [hh.sameSlot]; exact hh.verifierClock
      sameGenerator := by intro gens _; unfold generatorAt; rw [hh.sameSlot]
      keyRegistered := hh.keysRegistered v hen
      noContradiction := ?_
      aggregateCommit := hh.aggregateCommit
      payloadSize := Nat.le_trans sel1 hh.sizeLimit
      static := fun t ht => hh.poolStatic t (sel3 t ht)
      replay := replayTxs_good f.ok r.verdict _ hh.deterministic _ _ sel2
      application := hh.application }
  intro b0 hf
  have hm := List.mem_of_find?_eq_some hf
  have hg := List.find?_some hf
  simp only [decide_eq_true_eq] at hg
  obtain ⟨o1, o2⟩ := ownBlocks v hen b0 hm hg
  obtain ⟨c1, c2⟩ := chain b0 hm
  left
  unfold C07LegitSucc
  simp only [C15infoHdr, mkHeader, C15gstate]
  omega

/-- **Generated blocks are valid — also when the application changes validators or thresholds.**
(Behaviour after /verif/fixes/C15-generator-validator-update.patch.)  Under the hypotheses of
`C15_forged_block_accepted` (healthy environment, `ownBlocks`, `chain`) — nothing is assumed about the
parameter update `c` the application answers `AfterTransactionsExecute` with — the block `forge`
produces is accepted by the same node, and the node's consensus store
afterwards is the store after the vote update with `c` applied (`SetBFTParameters` +
`SetGeneratorKeys`): the `validatorsHash` the generator put into the header is the hash of the
parameters that are valid from the next height on.  (An inadmissible update makes
`AfterTransactionsExecute` fail in the generator: no block is produced.) -/
theorem C15_forged_block_accepted_with_validator_change (addr : Nat → Bytes) (vh : BFT.Params → Bytes)
    (n : Node) (f : C15Forge) (r : C15Replay) (b : Cand) (c : Change) (hc : r.change = some c)
    (hh : C15Healthy addr n f r)
    (ownBlocks : ∀ v ∈ f.enabled, ∀ b0 ∈ n.bft.infos, b0.gen = addr v →
      b0.height ≤ (getInfo f.db v).height ∧ b0.mhg ≤ (getInfo f.db v).height)
    (chain : ∀ b0 ∈ n.bft.infos, b0.height ≤ n.tipHeight ∧ b0.mhp ≤ n.bft.mhp)
    (hb : C15forge addr vh n f r = some b) :
    accepts n b ∧ b.change = some c ∧ b.vhOK = true ∧
    ∃ s1 s2, storeAfterBFT n b = some s1 ∧ applyChange s1 (some c) = some s2 ∧
      (applyBlock n b).1.bft = s2 := by
  have hacc := C15_forged_block_accepted addr vh n f r b hh ownBlocks chain hb
  obtain ⟨v, ac, s1, s2, p, _, _, hs1, _, hs2, _, hbeq⟩ := C15_forge_some hb
  have hchange : b.change = some c := by rw [hbeq]; exact hc
  have hstore : storeAfterBFT n b = some s1 := by rw [hbeq]; exact hs1
  obtain ⟨s2', hexec, _, _, _, hbft, _⟩ := C03_accept_effect n b hacc
  rw [storeAfterExec, hstore, hchange, ← hc] at hexec
  cases hs2.symm.trans hexec
  exact ⟨hacc, hchange, ((accepts_iff n b).mp hacc).validatorsHash, s1, s2, hstore, hc ▸ hs2, hbft⟩

/-- Where the application changes nothing, the original code and the patched code forge the same
block: everything proved about `C15forge` holds for the original generator on such inputs. -/
theorem C15_forge_orig_eq_of_no_change (addr : Nat → Bytes) (vh : BFT.Params → Bytes) (n : Node)
    (f : C15Forge) (r : C15Replay) (hc : r.change = none) :
    C15forgeOrig addr vh n f r = C15forge addr vh n f r := by
  unfold C15forgeOrig C15forge
  cases C15prepare addr n f r with
  | none => rfl
  | some x =>
    obtain ⟨v, ac, s1⟩ := x
    simp only [hc, applyChange]

/-! ### the generator database covers the own blocks: from the generator model, for every history -/

/-- After ANY history of forge / delete / chain switch / restart / crash (fixed update rule), the
generator database covers every header of validator `v` that was handed to consensus: the stored
height is at least its height and at least the maxHeightGenerated it reported.  (So the hypothesis
`ownBlocks` of `C15_forged_block_accepted` holds whenever the validator's blocks in the BFT window
were generated from this database.) -/
theorem C15_own_blocks_covered (addr : Nat → Bytes) (ops : List Op) (v : Nat) (h : Hdr)
    (hh : (v, h) ∈ (run .fixed addr {} ops).handedOn) :
    h.height ≤ (getInfo (run .fixed addr {} ops).infos v).height ∧
    h.maxHeightGenerated ≤ (getInfo (run .fixed addr {} ops).infos v).height := by
  obtain ⟨h1, h2, h3⟩ := C15_view_init addr ops v
  refine ⟨(C15_persisted_before_handoff addr ops v h hh).1, ?_⟩
  -- the honest generator's headers report at most what it remembers in the end
  rw [h2]
  exact ((C07Gen.run_bounds (addr v) _ {}).2 h (h1 ▸ mem_headersOf (h3 ▸ hh))).2

/-! ### the BFT window lies on the node's chain: an invariant of every reachable node state -/

/-- Chain invariant of a node: the BFT window is consecutive (C02), the finality heights are tied to
it (C02), its newest entry is the tip, before the first block the genesis heights are not above the
tip, and no block of the window reports a larger maxHeightPrevoted than the node has now. -/
def C15ChainInv (n : Node) : Prop :=
  C02WindowOk n.bft ∧ C02HeightsInv n.bft ∧
  (∀ t, n.bft.infos.head? = some t → t.height = n.tipHeight) ∧
  (n.bft.infos = [] → n.bft.mhp ≤ n.tipHeight ∧ n.bft.mhpc ≤ n.tipHeight) ∧
  (∀ b ∈ n.bft.infos, b.mhp ≤ n.bft.mhp)

/-- the invariant provides the hypothesis `chain` of `C15_forged_block_accepted` -/
theorem C15_chain_invariant_window_on_chain (n : Node) (h : C15ChainInv n) :
    ∀ b0 ∈ n.bft.infos, b0.height ≤ n.tipHeight ∧ b0.mhp ≤ n.bft.mhp := by
  obtain ⟨hw, _, hhead, _, hmhp⟩ := h
  intro b0 hb0
  refine ⟨?_, hmhp b0 hb0⟩
  -- the head of the window bounds its members, and the head is the tip
  have hle := BFT.SortedDesc.le_curHeight (C02_window_sorted n.bft hw) b0 hb0
  unfold BFT.curHeight at hle
  split at hle
  · rename_i h0; rw [h0] at hb0; cases hb0
  · rename_i t rest h0; exact hhead t (by rw [h0]; rfl) ▸ hle

/-- a node before its first block (empty window, genesis heights not above the tip) satisfies it -/
theorem C15_chain_invariant_genesis (n : Node) (h0 : n.bft.infos = [])
    (h1 : n.bft.mhp ≤ n.tipHeight) (h2 : n.bft.mhpc ≤ n.tipHeight) : C15ChainInv n := by
  refine ⟨?_, ⟨⟨?_, Or.inl ?_⟩, ⟨?_, Or.inl ?_⟩⟩, ?_, fun _ => ⟨h1, h2⟩, ?_⟩
  · unfold C02WindowOk; rw [h0]; trivial
  all_goals (rw [h0]; intro b hb; cases hb)

private theorem applyChange_keeps {s1 s2 : BFT.State} {c : Option Change} (h : applyChange s1 c = some s2)
    (hw : C02WindowOk s1) (hi : C02HeightsInv s1) :
    s2.infos = s1.infos ∧ s2.mhp = s1.mhp ∧ C02WindowOk s2 ∧ C02HeightsInv s2 := by
  cases c with
  | none =>
    simp only [applyChange, Option.some.injEq] at h
    subst h
    exact ⟨rfl, rfl, hw, hi⟩
  | some c =>
    simp only [applyChange] at h
    split at h
    · cases h
    · rename_i s' hp
      simp only [Option.some.injEq] at h
      subst h
      obtain ⟨e1, hw'⟩ := C02_window_shape_setParams s1 _ _ _ s' hp
      obtain ⟨hi', e2, _⟩ := C02_heights_inv_setParams s1 _ _ _ s' hp hw hi
      exact ⟨e1, e2, hw' hw, hi'⟩

/-- An accepted block preserves the chain invariant. -/
theorem C15_chain_invariant_preserved (n : Node) (b : Cand) (hinv : C15ChainInv n) (hacc : accepts n b) :
    C15ChainInv (applyBlock n b).1 := by
  -- the new store is `BFT.process` of the old one on the block's header, then the parameter update
  -- (which touches neither window nor heights): the window and height invariants are those of C02, the
  -- new head of the window is the block, and every entry's maxHeightPrevoted stays below the node's,
  -- which only grows (`C02_weights_monotone`, `C02_heights_monotone`)
  obtain ⟨hw, hi, hhead, hempty, hmhp⟩ := hinv
  obtain ⟨s2, hs2, hnode⟩ := applyBlock_accepted_node n b hacc
  have hS := (accepts_iff n b).mp hacc
  rw [hnode]
  unfold storeAfterExec storeAfterBFT at hs2
  cases hp : BFT.process n.bft (hdrOf b) with
  | error e => rw [hp] at hs2; cases hs2
  | ok s1 =>
    rw [hp] at hs2
    simp only at hs2
    have hh : (hdrOf b).height = n.tipHeight + 1 := hS.height
    have hheadcond : ∀ t, n.bft.infos.head? = some t → (hdrOf b).height = t.height + 1 :=
      fun t ht => hh.trans (congrArg (· + 1) (hhead t ht).symm)
    have hnext : C02Next n.bft (hdrOf b) := by
      unfold C02Next
      split
      · rename_i h0
        exact ⟨hh ▸ Nat.lt_succ_of_le (hempty h0).1, hh ▸ Nat.lt_succ_of_le (hempty h0).2⟩
      · rename_i t rest h0
        exact hheadcond t (by rw [h0]; rfl)
    have hw1 := C02_window_shape n.bft (hdrOf b) s1 hp hw hheadcond
    have hi1 := C02_heights_inv_preserved n.bft (hdrOf b) s1 hp hw hnext hi
    have hmono := (C02_heights_monotone n.bft (hdrOf b) s1 hp hw hnext hi).1
    obtain ⟨hall, n0, hn0, hmeta⟩ := C02_weights_monotone n.bft (hdrOf b) s1 hp
    obtain ⟨e1, e2, hw2, hi2⟩ := applyChange_keeps hs2 hw1 hi1
    have hbm : (hdrOf b).mhp = n.bft.mhp := hS.maxHeightPrevoted
    refine ⟨hw2, hi2, ?_, ?_, ?_⟩
    · intro t ht
      show t.height = b.height
      have : s2.infos.head? = some t := ht
      rw [e1, hn0] at this
      cases this
      have := hmeta.1
      simp only [BFT.newInfo] at this
      rw [← this]
      rfl
    · intro h0
      have : s2.infos = [] := h0
      rw [e1] at this
      rw [this] at hn0
      cases hn0
    · intro x hx
      have hx' : x ∈ s1.infos := by
        have : x ∈ s2.infos := hx
        rwa [e1] at this
      show x.mhp ≤ s2.mhp
      rw [e2]
      cases hl : s1.infos with
      | nil => rw [hl] at hx'; cases hx'
      | cons y rest =>
        rw [hl] at hx' hn0 hall
        simp only [List.head?_cons, Option.some.injEq] at hn0
        subst hn0
        rcases List.mem_cons.mp hx' with rfl | hxr
        · have := hmeta.2.2.2
          simp only [BFT.newInfo] at this
          omega
        · obtain ⟨a, ha, hle⟩ := BFT.All2.mem_right hall x hxr
          have := hmhp a (List.mem_of_mem_take ha)
          have := hle.1.2.2.2
          omega

/-- The chain invariant holds in every node state reached from a node satisfying it by offering any
sequence of blocks (rejected blocks change nothing, C03). -/
theorem C15_chain_invariant_reachable (bs : List Cand) (n : Node) (hinv : C15ChainInv n) :
    C15ChainInv (runAll n bs) := by
  induction bs generalizing n with
  | nil => exact hinv
  | cons b rest ih =>
    simp only [runAll]
    apply ih
    cases hr : (applyBlock n b).2 with
    | some e => rw [applyBlock_rejected_node n b e hr]; exact hinv
    | none => exact C15_chain_invariant_preserved n b hinv hr

/-- **Generated blocks are valid — composed with the generator model and the chain invariant.**
Node `n` is reachable (chain invariant), its generator database is the one the generator model
produces after ANY history `ops` of forge / delete / switch / restart / crash, and the blocks of the
enabled validators in the BFT window were generated from this database (handed to consensus by this
generator — the key is not used elsewhere).  Then, in a healthy environment, every block `forge`
produces is accepted by the same node. -/
theorem C15_forged_block_accepted_after_history (addr : Nat → Bytes) (vh : BFT.Params → Bytes) (n : Node)
    (f : C15Forge) (r : C15Replay) (b : Cand) (ops : List Op) (hh : C15Healthy addr n f r)
    (hinv : C15ChainInv n) (hdb : f.db = (run .fixed addr {} ops).infos)
    (hown : ∀ v ∈ f.enabled, ∀ b0 ∈ n.bft.infos, b0.gen = addr v →
      ∃ h, (v, h) ∈ (run .fixed addr {} ops).handedOn ∧ h.height = b0.height ∧
        h.maxHeightGenerated = b0.mhg)
    (hb : C15forge addr vh n f r = some b) : accepts n b := by
  apply C15_forged_block_accepted addr vh n f r b hh ?_ (C15_chain_invariant_window_on_chain n hinv) hb
  intro v hv b0 hb0 hg
  obtain ⟨h, hmem, e1, e2⟩ := hown v hv b0 hb0 hg
  have := C15_own_blocks_covered addr ops v h hmem
  rw [hdb, ← e1, ← e2]
  exact this

/-! ### the aggregate commit: from the certificate model (C06) -/

/-- the facts the verification model needs about an aggregate commit of the certificate model
(`Model/Cert.lean`): byte lengths (only emptiness matters: number of bits, 96-byte BLS signature or
nothing) and whether the weighted aggregate signature check passes -/
def C15acFacts (st : Cert.State) (a : Cert.AggCommit) : AC :=
  { height := a.height
    bitsLen := a.bits.length
    sigLen := if a.sig.isSome then 96 else 0
    sigOK := match a.sig with
      | some sig => decide (Cert.verifyCertificate st a sig = Cert.Verdict.accept)
      | none => false }

/-- the chain state the certificate code reads (`Cert.State`) is a view of the node -/
structure C15CertView (n : Node) (st : Cert.State) : Prop where
  mhc : st.mhc = n.bft.mhc
  mhpc : st.mhpc = n.bft.mhpc
  /-- `GetBlockHeaderByHeight` finds blocks of the node's chain only: nothing above the tip -/
  blocks : ∀ h hd, st.blockAt h = some hd → h ≤ n.tipHeight
  /-- both views of the BFT parameter store have the same activation heights -/
  paramKeys : ∀ k, (∃ p, (k, p) ∈ st.params) ↔ (∃ p, (k, p) ∈ n.bft.params)

/-- An aggregate commit accepted by the certificate model's `verifyAggregateCommit` satisfies the
aggregate-commit rule of the verification model for the corresponding node. -/
theorem C15_accepted_commit_valid (n : Node) (st : Cert.State) (a : Cert.AggCommit)
    (hview : C15CertView n st) (hacc : Cert.verifyAggregateCommit st a = Cert.Verdict.accept) :
    ACValid n.cfg.acBound n (C15acFacts st a) := by
  rcases Cert.verifyAggregateCommit_accept hacc with ⟨he, hh⟩ | ⟨sig, hsig, hbits, h1, h2, hcert⟩
  · left
    simp only [Cert.AggCommit.isEmpty, Bool.and_eq_true, List.isEmpty_iff, Option.isNone_iff_eq_none] at he
    exact ⟨by simp [C15acFacts, he.1], by simp [C15acFacts, he.2], hh.trans hview.mhc⟩
  · right
    obtain ⟨h2, h3⟩ := (Cert.gacStart_iff st a.height).mp h2
    obtain ⟨hd, p, hblock, hparams, _⟩ := Cert.verifyCertificate_accept.mp hcert
    refine ⟨⟨fun h0 => hbits (List.length_eq_zero_iff.mp h0), by simp [C15acFacts, hsig]⟩,
      hview.mhc ▸ h1, hview.mhpc ▸ h2, ?_, hview.blocks _ _ hblock, ?_, by simp [C15acFacts, hsig, hcert]⟩
    · show nextBoundViolated n.cfg.acBound n.bft a.height = false
      unfold nextBoundViolated
      cases n.cfg.acBound with
      | false => rfl
      | true =>
        simp only [Bool.true_and]
        split
        · rename_i k hk
          obtain ⟨k1, k2⟩ := BFT.nextHeightParams_mem hk
          obtain ⟨⟨kk, pp⟩, hmem, hkk⟩ := List.mem_map.mp k2
          simp only at hkk
          subst hkk
          obtain ⟨p', hp'⟩ := (hview.paramKeys kk).mpr ⟨pp, hmem⟩
          have := h3 (kk, p') hp' (by simp only; rw [hview.mhc]; exact k1)
          exact decide_eq_false (Nat.not_lt.mpr (Nat.le_sub_one_of_lt this))
        · rfl
    · show (BFT.getParams n.bft a.height).isSome = true
      obtain ⟨k, hk, hle⟩ := Cert.getParams_mem hparams
      obtain ⟨p', hp'⟩ := (hview.paramKeys k).mp ⟨p, hk⟩
      rw [BFT.getParams, Option.isSome_map]
      exact BFT.lookupLE_isSome n.bft.params a.height (k, p') hp' hle

/-- **The aggregate commit of a generated block is valid** (composition with C06): what
`GetAggregateCommit` assembles from a pool satisfying the pool invariant — which every pool reached
by gossip, `Certify` and the pool operations does (`C06_reachable_pool_invariant`) — satisfies the
aggregate-commit rule of the verification model on the corresponding node; this discharges the
hypothesis `aggregateCommit` of `C15Healthy`. -/
theorem C15_aggregate_commit_from_pool_valid (n : Node) (st : Cert.State) (ctx : Cert.BlockCtx)
    (pool : Cert.Pool) (a : Cert.AggCommit) (hview : C15CertView n st) (hwf : Cert.StoreWf st.params)
    (hcons : Cert.Consistent st ctx) (hinv : Cert.PoolInv ctx st.chainId pool)
    (hg : Cert.getAggregateCommit st pool = Cert.GacResult.ok a) :
    ACValid n.cfg.acBound n (C15acFacts st a) :=
  C15_accepted_commit_valid n st a hview (C06_assembled_accepted st ctx pool a hwf hcons hinv hg)

/-- what `initBlockHeader` obtains from `GetAggregateCommit` over chain state `st` and pool `pool`
(`none`: error or panic — `forge` returns without a block) -/
def C15acOfPool (st : Cert.State) (pool : Cert.Pool) : Option AC :=
  match Cert.getAggregateCommit st pool with
  | .ok a => some (C15acFacts st a)
  | _ => none

/-- the field `aggregateCommit` of `C15Healthy`, from the certificate pool invariant (C06) -/
theorem C15_healthy_aggregate_commit_of_pool (n : Node) (f : C15Forge) (st : Cert.State)
    (ctx : Cert.BlockCtx) (pool : Cert.Pool) (hac : f.ac = C15acOfPool st pool) (hview : C15CertView n st)
    (hwf : Cert.StoreWf st.params) (hcons : Cert.Consistent st ctx) (hinv : Cert.PoolInv ctx st.chainId pool) :
    ∀ a, f.ac = some a → ACValid n.cfg.acBound n a := by
  intro a ha
  rw [hac] at ha
  unfold C15acOfPool at ha
  split at ha
  · rename_i a' hg
    cases ha
    exact C15_aggregate_commit_from_pool_valid n st ctx pool a' hview hwf hcons hinv hg
  · cases ha

/-! ## a generator never contradicts itself — without the global fork-choice hypothesis -/

/-- every header validator `v` signs carries its address -/
theorem C15_headers_carry_address (addr : Nat → Bytes) (ops : List Op) (v : Nat) :
    ∀ x ∈ headersOf v (run .fixed addr {} ops).persisted, x.generatorAddress = addr v := by
  rw [C15_refines_honest_generator]
  exact C07Gen.run_address (addr v) _ _

/-- **Exact characterisation, no hypothesis on the history.**  For every sequence of forge / delete /
chain switch / restart / crash (fixed update rule) and any two headers `e` (signed earlier) and `l`
(signed later) of one validator: they do NOT contradict iff the later one was generated on a tip
that is better in the fork-choice order (larger maxHeightPrevoted, or equal and larger height — a
better but shorter chain included), or `e` could legitimately have been signed after `l`.
The `maxHeightGenerated` clauses never cause a contradiction — restarts, crashes and dropped blocks
included; only the node's tip movement can. -/
theorem C15_contradiction_iff (addr : Nat → Bytes) (ops : List Op) (v : Nat) :
    (headersOf v (run .fixed addr {} ops).persisted).Pairwise (fun e l =>
      Gen.areDistinctHeadersContradicting e l = false ↔
        (C07Better e.maxHeightPrevoted e.height l.maxHeightPrevoted l.height ∨ C07LegitSucc l e)) := by
  have hcl := C15_max_height_generated_clauses addr ops v
  have hadr := C15_headers_carry_address addr ops v
  refine List.Pairwise.imp_of_mem ?_ hcl
  intro e l he hl hc
  rw [C07_spec e l (by rw [hadr e he, hadr l hl])]
  have : C07LegitSucc e l ↔ C07Better e.maxHeightPrevoted e.height l.maxHeightPrevoted l.height := by
    unfold C07LegitSucc C07Better
    omega
  rw [this]

/-- **No self-contradiction, pairwise.**  Whenever the later of two headers of a validator was
generated on a better tip than the earlier one, the two do not contradict (in either order) — for
every history, whatever happened between or around them.  (`C15_no_self_contradiction` needs the
fork-choice condition for ALL forging steps of the history to conclude anything; this version
needs it only for the pair in question.) -/
theorem C15_no_self_contradiction_pairwise (addr : Nat → Bytes) (ops : List Op) (v : Nat) :
    (headersOf v (run .fixed addr {} ops).persisted).Pairwise (fun e l =>
      C07Better e.maxHeightPrevoted e.height l.maxHeightPrevoted l.height →
        Gen.areDistinctHeadersContradicting e l = false ∧ Gen.areDistinctHeadersContradicting l e = false) := by
  refine List.Pairwise.imp ?_ (C15_contradiction_iff addr ops v)
  intro e l h hb
  have := h.mpr (Or.inl hb)
  exact ⟨this, by rw [← C07_symmetric]; exact this⟩

/-- … and conversely a contradiction between an earlier and a later header of one validator always
means that the later header was generated on a tip that is NOT better than the earlier one's. -/
theorem C15_contradiction_only_on_worse_tip (addr : Nat → Bytes) (ops : List Op) (v : Nat) :
    (headersOf v (run .fixed addr {} ops).persisted).Pairwise (fun e l =>
      Gen.areDistinctHeadersContradicting e l = true →
        ¬ C07Better e.maxHeightPrevoted e.height l.maxHeightPrevoted l.height) := by
  refine List.Pairwise.imp ?_ (C15_no_self_contradiction_pairwise addr ops v)
  intro e l h hc hb
  rw [(h hb).1] at hc
  cases hc

/-- The fork-choice condition cannot be dropped, also with the fixed rule: a block whose info
reached the generator database but which was never applied (the process died after the write, or
`AddInternal` found the process queue full) followed — after a restart — by forging again on the
SAME tip gives two headers at the same height with the same maxHeightPrevoted: they contradict. -/
theorem C15_reforge_same_tip_contradicts :
    let addr : Nat → Bytes := fun v => [UInt8.ofNat v]
    let hs := headersOf 1 (run .fixed addr {} [.ext 0, .forge 1 .dropped 0, .restart, .forge 1 .applied 0]).persisted
    hs.map (fun h => (h.height, h.maxHeightGenerated, h.maxHeightPrevoted)) = [(2, 0, 0), (2, 2, 0)] ∧
    ∃ a ∈ hs, ∃ b ∈ hs, Gen.areDistinctHeadersContradicting a b = true := by
  refine ⟨by decide, ?_⟩
  exact ⟨{ height := 2, generatorAddress := [1], maxHeightGenerated := 0, maxHeightPrevoted := 0 }, by decide,
    { height := 2, generatorAddress := [1], maxHeightGenerated := 2, maxHeightPrevoted := 0 }, by decide, by decide⟩

/-! ## the correspondence commutes with a step of either model -/

/-- When the node accepts the block forged for validator `v`, the generator model's step
`forge v applied` on the corresponding `GState` lands on the `GState` corresponding to the node
after `processValidated` (with the generator database `forge` wrote), up to the ghost lists, which
`C15gstate` leaves empty. Only this one step is related: no statement ties `ext`, `del`, a dropped or
crashed forge or a restart to the node model, so that the histories `ops` of
`C15_forged_block_accepted_after_history` are histories of the node is not proved. -/
theorem C15_correspondence_commutes (addr : Nat → Bytes) (vh : BFT.Params → Bytes) (n : Node) (f : C15Forge)
    (r : C15Replay) (v : Nat) (b : Cand) (hv : C15slotValidator addr n f = some v)
    (hb : C15forge addr vh n f r = some b) (hacc : accepts n b) :
    let n' := (applyBlock n b).1
    let st' := applyOp .fixed addr (C15gstate n f.db) (.forge v .applied n'.bft.mhp)
    st'.height = n'.tipHeight ∧ st'.mhp = n'.bft.mhp ∧
    st'.infos = setInfo f.db v (nextInfo .fixed (mkHeader addr (C15gstate n f.db) v)) ∧
    C15gstate n' st'.infos = { st' with persisted := [], handedOn := [] } ∧
    st'.handedOn = [(v, C15candHdr b)] := by
  obtain ⟨s2, _, hn'⟩ := C03_accept_effect n b hacc
  obtain ⟨v', ac, s1, s2', p, hv', _, _, _, _, _, rfl⟩ := C15_forge_some hb
  cases hv.symm.trans hv'
  simp only at hn' ⊢
  refine ⟨?_, rfl, rfl, ?_, rfl⟩
  · rw [hn'.1]; rfl
  · simp only [C15gstate, applyOp]
    rw [hn'.1]; rfl

/-! ## a concrete node: non-vacuity, and counterexamples for `ownBlocks` and nine fields of `C15Healthy` -/

/-- two validators, addresses 20 × 0x01 and 20 × 0x02 -/
def C15xAddr (v : Nat) : Bytes := List.replicate 20 (UInt8.ofNat (v + 1))
def C15xBid (k : Nat) : Bytes := List.replicate 32 (UInt8.ofNat k)

/-- stand-in for `ValidatorsHash`: addresses, weights and the certificate threshold, unhashed -/
def C15xVh (p : BFT.Params) : Bytes :=
  p.validators.flatMap (fun v => v.address ++ [UInt8.ofNat v.weight]) ++ [UInt8.ofNat p.certificateThreshold]

/-- the consensus store after the genesis block: both validators with weight 1, thresholds 2 -/
def C15xBFT : BFT.State :=
  match BFT.setParams (BFT.initGenesis 2 0) 2 2 [⟨C15xAddr 0, 1⟩, ⟨C15xAddr 1, 1⟩] with
  | .ok s => BFT.setKeys s [C15xAddr 0, C15xAddr 1]
  | .error _ => BFT.initGenesis 2 0

/-- genesis at t = 1000, 10-second slots, payload limit 1000 bytes; `now` is the verifier's clock -/
def C15xCfg (now : Nat) : Config := { genesisTimestamp := 1000, blockTime := 10, now := now, maxTxLen := 1000 }

def C15xNode (now : Nat) : Node :=
  { cfg := C15xCfg now, tipHeight := 0, tipID := C15xBid 0, tipTimestamp := 1000, chain := [(0, C15xBid 0)],
    bft := C15xBFT, finalized := 0 }

/-- sender 7: nonces 0 (600 bytes) and 1 (verification fails); sender 8: nonce 0 (300 bytes) -/
def C15xPool : List Tx :=
  [ { id := 0, sender := 7, nonce := 0, fee := 6000, size := 600 },
    { id := 1, sender := 8, nonce := 0, fee := 900, size := 300 },
    { id := 2, sender := 7, nonce := 1, fee := 5000, size := 50, vok := false } ]

/-- slot 1 (t ∈ [1010, 1020)) belongs to validator 1; both keys are enabled and registered; empty
generator database; `GetAggregateCommit` returns the empty commit at maxHeightCertified = 0 -/
def C15xForge : C15Forge :=
  { enabled := [0, 1], db := [], clockSlot := 1015, clockHeader := 1016,
    ac := some { height := 0, bitsLen := 0, sigLen := 0, sigOK := false },
    pool := C15xPool, ok := okMock, selected := select okMock 1000 C15xPool, maxSize := 1000,
    signerKey := fun v => [UInt8.ofNat (v + 1)], registeredKey := fun a => a.take 1 }

/-- a deterministic application: the replay verdicts are the ones of generation -/
def C15xReplay : C15Replay :=
  { id := C15xBid 1, txStatic := fun _ => true,
    verdict := fun _ t => (if t.vok then TxV.ok else TxV.invalid, if t.eok then TxV.ok else TxV.invalid) }

/-- verdict of the node on the forged block: `none` = nothing forged, `some none` = accepted -/
def C15xVerdict (n : Node) (f : C15Forge) (r : C15Replay) : Option (Option Err) :=
  (C15forge C15xAddr C15xVh n f r).map fun b => (applyBlock n b).2

/-- non-vacuity of `C15_forged_accept_iff` / `C15_forged_block_accepted`: validator 1 forges a block
with two transactions (900 bytes) in slot 1 and the node accepts it -/
example : C15slotValidator C15xAddr (C15xNode 1017) C15xForge = some 1 ∧
    (C15forge C15xAddr C15xVh (C15xNode 1017) C15xForge C15xReplay).map
      (fun b => [b.height, b.mhg, b.mhp, b.timestamp, b.payloadSize, b.txs.length]) =
      some [1, 0, 0, 1016, 900, 2] ∧
    (C15forge C15xAddr C15xVh (C15xNode 1017) C15xForge C15xReplay).map (·.gen) = some (C15xAddr 1) ∧
    C15xVerdict (C15xNode 1017) C15xForge C15xReplay = some none := by
  decide +kernel

/-- the hypotheses of `C15_forged_block_accepted` are satisfiable: the environment above is healthy,
the window is empty and the node satisfies the chain invariant -/
example : C15Healthy C15xAddr (C15xNode 1017) C15xForge C15xReplay ∧ C15ChainInv (C15xNode 1017) := by
  refine ⟨?_, C15_chain_invariant_genesis _ (by decide +kernel) (by decide +kernel) (by decide +kernel)⟩
  refine
    { idLengths := by decide +kernel
      clockAfterTip := by decide +kernel
      sameSlot := by decide +kernel
      verifierClock := by decide +kernel
      keysRegistered := by decide +kernel
      aggregateCommit := ?_
      selection := Or.inl rfl
      sizeLimit := by decide +kernel
      poolStatic := fun _ _ => rfl
      deterministic := ?_
      application := by decide +kernel }
  · intro a ha
    cases ha
    left
    decide +kernel
  · intro acc t h
    simp only [C15xForge, okMock, Bool.and_eq_true] at h
    simp [C15xReplay, h.1, h.2]

/-- the node after validator 1's block of slot 1 -/
def C15xNode1 (now : Nat) : Node :=
  match C15forge C15xAddr C15xVh (C15xNode 1017) C15xForge C15xReplay with
  | some b => { (applyBlock (C15xNode 1017) b).1 with cfg := C15xCfg now }
  | none => C15xNode now

/-- forging in slot 3 (validator 1 again) with generator database `db` and an empty pool -/
def C15xForge3 (db : List (Nat × Info)) : C15Forge :=
  { C15xForge with db := db, clockSlot := 1035, clockHeader := 1035, pool := [], selected := [] }

/-- non-vacuity of `C15_forged_block_accepted_after_history`: with the database the generator model
writes (`forge 1 applied`), validator 1's next block (height 2, maxHeightGenerated 1) is accepted
although its block of height 1 is in the BFT window -/
example : (C15xNode1 1036).tipHeight = 1 ∧ (C15xNode1 1036).bft.infos.map (fun i => (i.height, i.gen)) = [(1, C15xAddr 1)] ∧
    (run .fixed C15xAddr {} [.forge 1 .applied 0]).handedOn.map (fun p => (p.1, p.2.height, p.2.maxHeightGenerated)) = [(1, 1, 0)] ∧
    C15xVerdict (C15xNode1 1036) (C15xForge3 (run .fixed C15xAddr {} [.forge 1 .applied 0]).infos)
      { C15xReplay with id := C15xBid 2 } = some none := by
  decide +kernel

/-- Hypothesis `ownBlocks` is needed: the same forge with a LOST generator database (empty) reports
maxHeightGenerated 0, contradicts the validator's block of height 1 and is rejected by the own node. -/
theorem C15_cx_generator_database_lost :
    C15xVerdict (C15xNode1 1036) (C15xForge3 []) { C15xReplay with id := C15xBid 2 } = some (some Err.contradicting) := by
  decide +kernel

/-- Hypothesis `sameSlot` is needed: `forge` picks the generator with its first clock read (slot 1,
validator 1); if the clock has moved to slot 2 when `initBlockHeader` reads it again, the header
timestamp belongs to validator 0's slot and the node rejects the block. -/
theorem C15_cx_second_clock_read_in_next_slot :
    C15xVerdict (C15xNode 1021) { C15xForge with clockSlot := 1019, clockHeader := 1020 } C15xReplay =
      some (some Err.generator) := by
  decide +kernel

/-- Hypothesis `verifierClock` is needed (clock read by the verifier in an earlier slot). -/
theorem C15_cx_verifier_clock_behind :
    C15xVerdict (C15xNode 1005) C15xForge C15xReplay = some (some Err.future) := by
  decide +kernel

/-- Hypothesis `clockAfterTip` is needed: `shouldForge` only tests that the current slot DIFFERS from
the tip's slot; with a clock behind the tip (tip in slot 3, clock in slot 1) a block is forged and
rejected. -/
theorem C15_cx_clock_behind_tip :
    C15xVerdict { C15xNode 1017 with tipTimestamp := 1030 } C15xForge C15xReplay = some (some Err.pastSlot) := by
  decide +kernel

/-- Hypothesis `keysRegistered` is needed. -/
theorem C15_cx_unregistered_key :
    C15xVerdict (C15xNode 1017) { C15xForge with signerKey := fun _ => [99] } C15xReplay =
      some (some Err.signature) := by
  decide +kernel

/-- Hypothesis `aggregateCommit` is needed. -/
theorem C15_cx_invalid_aggregate_commit :
    C15xVerdict (C15xNode 1017)
      { C15xForge with ac := some { height := 5, bitsLen := 1, sigLen := 96, sigOK := true } } C15xReplay =
      some (some Err.acHigh) := by
  decide +kernel

/-- Hypothesis `sizeLimit` is needed: a generator limit above the verifier's limit. -/
theorem C15_cx_size_limits_differ :
    C15xVerdict { C15xNode 1017 with cfg := { C15xCfg 1017 with maxTxLen := 800 } } C15xForge C15xReplay =
      some (some Err.payloadSize) := by
  decide +kernel

/-- Hypothesis `poolStatic` is needed. -/
theorem C15_cx_statically_invalid_pool_transaction :
    C15xVerdict (C15xNode 1017) C15xForge { C15xReplay with txStatic := fun t => t.id != 1 } =
      some (some Err.txStatic) := by
  decide +kernel

/-- Hypothesis `deterministic` is needed: the application rejects on replay what it accepted during
generation. -/
theorem C15_cx_nondeterministic_application :
    C15xVerdict (C15xNode 1017) C15xForge
      { C15xReplay with verdict := fun _ t => (if t.id = 1 then TxV.invalid else TxV.ok, TxV.ok) } =
      some (some Err.txVerify) := by
  decide +kernel

/-- Hypothesis `application` is needed (here: the state root is not reproduced). -/
theorem C15_cx_state_root_not_reproduced :
    C15xVerdict (C15xNode 1017) C15xForge { C15xReplay with commitOK := false } = some (some Err.commit) := by
  decide +kernel

/-- a parameter update: weights `w0` and 1, thresholds 2 -/
def C15xChange (w0 : Nat) : Change :=
  { precommit := 2, cert := 2, validators := [⟨C15xAddr 0, w0⟩, ⟨C15xAddr 1, 1⟩],
    generators := [C15xAddr 0, C15xAddr 1] }

/-- verdict of the node on the block the ORIGINAL generator (before
/verif/fixes/C15-generator-validator-update.patch) forges -/
def C15xVerdictOrig (n : Node) (f : C15Forge) (r : C15Replay) : Option (Option Err) :=
  (C15forgeOrig C15xAddr C15xVh n f r).map fun b => (applyBlock n b).2

/-- **The original generator ignores the validator update** (defect repaired by
/verif/fixes/C15-generator-validator-update.patch; confirmed on the real generator + verifier): when
the application answers `AfterTransactionsExecute` with new validator weights (admissible: weights 2
and 1, thresholds 2), the verifier applies them and expects `validatorsHash` to be the hash of the
NEW parameters of height+1; the original `sealBlock` hashed the parameters it found without the
update.  The node rejects its own block … -/
theorem C15_cx_validator_change_rejected :
    C15xVerdictOrig (C15xNode 1017) C15xForge { C15xReplay with change := some (C15xChange 2) } =
      some (some Err.validatorsHash) := by
  decide +kernel

/-- … while the patched generator's block for the same input is accepted, and the node's parameters
of height 2 are then the changed ones (sorted by address, descending: weights 1 and 2). -/
theorem C15_validator_change_accepted_example :
    C15xVerdict (C15xNode 1017) C15xForge { C15xReplay with change := some (C15xChange 2) } = some none ∧
    (C15forge C15xAddr C15xVh (C15xNode 1017) C15xForge { C15xReplay with change := some (C15xChange 2) }).map
      (fun b => ((BFT.getParams (applyBlock (C15xNode 1017) b).1.bft 2).map
        (fun p => p.validators.map (·.weight)))) = some (some [1, 2]) := by
  decide +kernel

/-- For the original code an update that leaves the parameters as they are was harmless. -/
example :
    C15xVerdictOrig (C15xNode 1017) C15xForge { C15xReplay with change := some (C15xChange 1) } = some none := by
  decide +kernel

/-- towards non-vacuity of `C15_aggregate_commit_from_pool_valid` / `C15_accepted_commit_valid`: on the chain
state of the C06 example (height 5 precommitted, nothing certified, parameters from height 1)
`GetAggregateCommit` assembles a commit from three single commits for height 5, and its fact record has
height 5, a passing signature check and 8 bitmap bits (no node and no `C15CertView` is exhibited) -/
example : ∃ a, Cert.getAggregateCommit C06cxState
      (C06run Cert.Pool.empty
        [⟨C06cxState, .gossip [⟨true, 105, 5, 1, Cert.sign 20 ⟨1, 105⟩⟩, ⟨true, 105, 5, 3, Cert.sign 40 ⟨1, 105⟩⟩,
          ⟨true, 105, 5, 2, Cert.sign 30 ⟨1, 105⟩⟩]⟩]) = Cert.GacResult.ok a ∧
    (C15acFacts C06cxState a).height = 5 ∧ (C15acFacts C06cxState a).sigOK = true ∧
    (C15acFacts C06cxState a).bitsLen = 8 := ⟨_, rfl, by decide, by decide, by decide⟩

instance C15decC07Better (a b c d : Nat) : Decidable (C07Better a b c d) := by unfold C07Better; infer_instance

/-- non-vacuity of `C15_no_self_contradiction_pairwise` / `C15_contradiction_iff`: in the history of
`C15counterOps` (forge at 10, switch to a better shorter chain, forge at 8, restart, forge at 9) the
validator signs three headers and every later one is on a better tip than every earlier one -/
example :
    let hs := headersOf 0 (run .fixed (fun v => [UInt8.ofNat v]) {} C15counterOps).persisted
    hs.length = 3 ∧
    hs.Pairwise (fun e l => C07Better e.maxHeightPrevoted e.height l.maxHeightPrevoted l.height) := by
  decide

/-- non-vacuity of the second branch of `C15Selection`: with two heads of equal fee priority the
other tie-break of `heap.Pop` gives a payload different from `Generator.select`; it is covered too -/
example :
    let pool : List Tx := [{ id := 0, sender := 1, nonce := 0, fee := 100, size := 100 },
                           { id := 1, sender := 2, nonce := 0, fee := 100, size := 100 }]
    let f : C15Forge := { C15xForge with pool := pool, selected := pool.reverse }
    C15Selection f ∧ f.selected ≠ select f.ok f.maxSize f.pool := by
  refine ⟨Or.inr ⟨by decide, ?_⟩, by decide⟩
  exact C15_checkSel_sound 1000 _ _ (by decide) (by decide)
