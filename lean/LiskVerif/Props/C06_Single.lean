/-
C06 — aggregate commits assembled from ANY signer subset, singletons included (the defect demonstrated by
seeded/C06-17).

Over `LiskVerif.Model.Cert` (`aggregate` = `SingleCommits.Aggregate`, `verifyWeighted` = `BLSVerifyWeightedAggSig` on
the keys in verification order), for EVERY validator list with distinct keys / addresses and EVERY non-empty list of
commits by validators. Bit `j` of the assembled bitmap is set exactly when the `j`-th validator IN VERIFICATION ORDER
(ascending BLS key) signed, whatever the order in which the BFT parameters list the validators; for ONE commit that
is the signer's position, and the aggregate is accepted when the signer's weight alone reaches the threshold. A
fast path for one commit that takes the bit position from the key pairs AS GIVEN marks another validator and is
rejected (`C06_single_fast_path_counterexample`).
-/
import LiskVerif.Lemmas.Cert
import LiskVerif.Lemmas.CertPool

open LiskVerif LiskVerif.Cert

private theorem signerKeys_mem (kps : List Validator) : ∀ (commits : List Commit) (sk : List Nat),
    signerKeys kps commits = some sk →
    ∀ k, k ∈ sk ↔ ∃ c ∈ commits, ∃ v, findValidator kps c.signer = some v ∧ v.key = k
  | [], sk, h, k => by cases h; simp
  | c :: r, sk, h, k => by
    rw [signerKeys] at h
    cases hv : findValidator kps c.signer <;> cases hr : signerKeys kps r <;> rw [hv, hr] at h <;> cases h
    simp only [List.mem_cons, signerKeys_mem kps r _ hr k, or_and_right, exists_or, exists_eq_left, hv,
      Option.some.injEq, exists_eq_left', eq_comm (a := k)]

/-- **The assembled bitmap marks exactly the signers, in verification order**, for every validator list (in
whatever order the parameters store it) and every non-empty commit list, singletons included. -/
theorem C06_assembled_bits_mark_signers (p : Params) (hwf : ParamsWf p) (commits : List Commit) (ac : AggCommit)
    (h : aggregate commits p.validators = .ok ac) (j : Nat) (hj : j < (sortVals p.validators).length) :
    ac.bits.getD j false =
      decide (∃ c ∈ commits, findValidator p.validators c.signer = some (sortVals p.validators)[j]) := by
  have hkeys := (sortVals_wf hwf).1
  have hfind := findValidator_sortVals hwf
  obtain ⟨c0, rest, sk, -, hsk, rfl⟩ := aggregateOrd_ok h
  change signerKeys (sortVals p.validators) commits = some sk at hsk -- `sortVals` is `isort keyLe`
  have hj' : j < ((sortVals p.validators).map (·.key)).length := by rwa [List.length_map]
  show (createBits ((sortVals p.validators).map (·.key)) sk).getD j false = _
  rw [createBits_getD hkeys sk hj', decide_eq_decide, signerKeys_mem _ _ _ hsk, List.getElem_map]
  refine exists_congr fun c => and_congr_right fun _ => ⟨fun ⟨v, h1, h2⟩ => ?_, fun h1 => ⟨_, (hfind _).trans h1, rfl⟩⟩
  -- the signer and the `j`-th validator have the same key; keys are distinct
  rw [← hfind, h1, inj_of_nodup_map (·.key) hkeys (findValidator_some h1).1 (List.getElem_mem hj) h2]

/-- **Singleton corollary**: the aggregate assembled from ONE commit is that commit's signature with exactly
the bit of the signer's position in verification order. -/
theorem C06_single_commit_bits (p : Params) (hwf : ParamsWf p) (c : Commit) (v : Validator)
    (hv : findValidator p.validators c.signer = some v) :
    ∃ bits, aggregate [c] p.validators = .ok ⟨c.height, bits, some c.sig⟩ ∧
      ∀ j (hj : j < (sortVals p.validators).length),
        bits.getD j false = decide ((sortVals p.validators)[j] = v) := by
  have hfind := findValidator_sortVals hwf c.signer
  obtain ⟨bits, hb⟩ : ∃ bits, aggregate [c] p.validators = .ok ⟨c.height, bits, some c.sig⟩ := by
    have hsk : signerKeys (isort keyLe p.validators) [c] = some [v.key] := by
      rw [signerKeys, show findValidator (isort keyLe p.validators) c.signer = some v from hfind.trans hv]; rfl
    rw [aggregate, aggregateOrd, hsk]
    exact ⟨_, rfl⟩
  refine ⟨bits, hb, fun j hj => ?_⟩
  rw [C06_assembled_bits_mark_signers p hwf [c] _ hb j hj, decide_eq_decide]
  simp only [List.mem_singleton, exists_eq_left', hv, Option.some.injEq, eq_comm]

/-- **Singleton corollary, acceptance**: one correctly signed commit of a validator whose weight alone reaches
the certificate threshold assembles into an aggregate that the weighted verification accepts. -/
theorem C06_single_commit_aggregate_accepted (p : Params) (hwf : ParamsWf p) (m : Msg) (c : Commit) (v : Validator)
    (hv : findValidator p.validators c.signer = some v) (hs : c.sig = sign v.key m) (hw : p.threshold ≤ v.weight) :
    ∃ bits sig, aggregate [c] p.validators = .ok ⟨c.height, bits, some sig⟩ ∧ bits ≠ [] ∧
      verifyWeighted ((sortVals p.validators).map (·.key)) bits sig ((sortVals p.validators).map (·.weight))
        p.threshold m = true := by
  refine aggregate_verifies p hwf m c.height [c] (by simp) (by simp) ?_ (by simp) (v.weight + 0) ?_ (by omega)
  · intro c' hc'
    rw [List.mem_singleton.mp hc']
    exact ⟨v, hv, hs⟩
  · simp [commitsWeight, hv]

/-! ### the fast path for one commit that trusts the order of the key pairs as given -/

/-- `SingleCommits.Aggregate` with the seeded fast path: for ONE commit the bit position is the index of the
signer in the key pairs as handed over (the order of the BFT parameters), the signature is copied -/
def aggregateFastGiven (commits : List Commit) (vals : List Validator) : GacResult :=
  match commits with
  | [c] =>
    match keyIndex (vals.map (·.addr)) c.signer with
    | none => .err
    | some i => .ok ⟨c.height, writeBit (List.replicate (8 * byteLen vals.length) false) i, some c.sig⟩
  | _ => aggregate commits vals

/-- parameters listing three validators by DESCENDING address; the heavy validator (address 1, key 30,
weight 7 = threshold) is second by address and third by key -/
def C06sgParams : Params := ⟨[⟨2, 10, 1⟩, ⟨1, 30, 7⟩, ⟨0, 20, 1⟩], 7⟩

def C06sgCommit : Commit := ⟨105, 5, 1, sign 30 ⟨1, 105⟩, true⟩

theorem C06sg_wf : ParamsWf C06sgParams := by
  unfold ParamsWf C06sgParams
  decide

/-- The defect `c06-own-aggregate-rejected` of the single-commit fast path: the pool holds one commit of the
self-sufficient validator; the fast path marks position 1 (validator with key 20 in verification order, weight
1) and the node's own weighted verification rejects; `aggregate` marks position 2 and is accepted. With this
commit and any second one (exactly two commits) both agree. -/
theorem C06_single_fast_path_counterexample :
    (∃ bits sig, aggregateFastGiven [C06sgCommit] C06sgParams.validators = .ok ⟨5, bits, some sig⟩ ∧
      Bits.toBytes bits = [0x02] ∧
      verifyWeighted ((sortVals C06sgParams.validators).map (·.key)) bits sig
        ((sortVals C06sgParams.validators).map (·.weight)) C06sgParams.threshold ⟨1, 105⟩ = false) ∧
    (∃ bits sig, aggregate [C06sgCommit] C06sgParams.validators = .ok ⟨5, bits, some sig⟩ ∧
      Bits.toBytes bits = [0x04] ∧
      verifyWeighted ((sortVals C06sgParams.validators).map (·.key)) bits sig
        ((sortVals C06sgParams.validators).map (·.weight)) C06sgParams.threshold ⟨1, 105⟩ = true) ∧
    (∀ c2 : Commit, aggregateFastGiven [C06sgCommit, c2] C06sgParams.validators =
      aggregate [C06sgCommit, c2] C06sgParams.validators) := by
  refine ⟨⟨_, _, rfl, by decide, by decide⟩, ⟨_, _, rfl, by decide, by decide⟩, fun _ => rfl⟩

/-- non-vacuity: the general theorems apply to the example (one commit, heavy validator) -/
example : ∃ bits sig, aggregate [C06sgCommit] C06sgParams.validators = .ok ⟨5, bits, some sig⟩ ∧ bits ≠ [] ∧
    verifyWeighted ((sortVals C06sgParams.validators).map (·.key)) bits sig
      ((sortVals C06sgParams.validators).map (·.weight)) C06sgParams.threshold ⟨1, 105⟩ = true :=
  C06_single_commit_aggregate_accepted C06sgParams C06sg_wf ⟨1, 105⟩ C06sgCommit ⟨1, 30, 7⟩ (by decide) rfl (by decide)

example : ∃ bits, aggregate [C06sgCommit] C06sgParams.validators = .ok ⟨5, bits, some C06sgCommit.sig⟩ ∧
    ∀ j (hj : j < (sortVals C06sgParams.validators).length),
      bits.getD j false = decide ((sortVals C06sgParams.validators)[j] = ⟨1, 30, 7⟩) :=
  C06_single_commit_bits C06sgParams C06sg_wf C06sgCommit ⟨1, 30, 7⟩ (by decide)
