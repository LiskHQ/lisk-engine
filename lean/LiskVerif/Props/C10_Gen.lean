/-
C10 — tie of the bit/byte helpers of `Model/SMTSpec.lean` / `Model/SMTVerify.lean` to the Go source:
the integer and boolean helpers of pkg/collection/bytes (bool.go, bit.go) and the guards of
pkg/trie/smt/verify.go are REGENERATED from the Go source on every run by tools/fngen (typed
translation, `LiskVerif/Gen/Fns2.lean`) with the exact semantics of `uint8` shifts (wrap modulo 256),
`int` arithmetic (two's complement, truncated division) and conversions:

* `bytes.ToBools`: `res[8*i+j] = (x<<uint(j))&0x80 == 0x80` (`Gen.toBoolsBit`) — the bits of
  `SMT.byteBits` / `SMT.keyBits`;
* `bytes.IsBitSet` (`Gen.isBitSetByteIndex`, `Gen.isBitSetBit`) — bit `index` of `SMT.keyBits`;
* `bytes.FromBools`: result length `(len+7)/8`, padded length, byte index `i/8` and mask
  `0x80 >> uint(i%8)` — the padding of `SMTVerify.fromBools` and the weights of `SMTVerify.packBits`;
* `smt.Verify`: the five guards on key length, bitmap form and depth (`SMTVerify.checkOne`);
* `smt.CalculateRoot`: the two bitmap/node-type consistency conditions (`SMTVerify.calcLoop`).
-/
import LiskVerif.Model.SMTVerify
import LiskVerif.Lemmas.SMTImplBins
import LiskVerif.Lemmas.GenInt

open LiskVerif LiskVerif.SMT LiskVerif.SMTVerify

/-! ### bytes.ToBools -/

/-- bit 7 of `(x << j) mod 256` is bit `7 - j` of `x` -/
theorem C10_gen_to_bools_bit_testBit (x j : Nat) (hj : j < 8) :
    Gen.toBoolsBit x (j : Int) = x.testBit (7 - j) := by
  unfold Gen.toBoolsBit
  rw [Gen.toNat_emod64 (by omega), Bool.eq_iff_iff, decide_eq_true_iff, Collection.and_two_pow_eq_iff _ 7,
    Nat.testBit_mod_two_pow _ 8, Nat.testBit_shiftLeft]
  simp; omega

/-- **the bit `bytes.ToBools` stores at `res[8*i+j]` is bit `j` of `SMT.byteBits x`** -/
theorem C10_gen_to_bools_bit_eq (x : UInt8) (j : Nat) (hj : j < 8) :
    Gen.toBoolsBit x.toNat (j : Int) = (byteBits x).getD j false := by
  rw [C10_gen_to_bools_bit_testBit _ _ hj]
  unfold byteBits
  rcases j with _ | _ | _ | _ | _ | _ | _ | _ | j
  all_goals first | rfl | omega

/-- **`bytes.ToBools` = `SMT.keyBits`** position by position: element `8*i+j` of `keyBits bs` is the
regenerated bit expression on byte `i` -/
theorem C10_gen_to_bools_eq (bs : Bytes) (i j : Nat) (hi : i < bs.length) (hj : j < 8) :
    (toBools bs).getD (8 * i + j) false = Gen.toBoolsBit (bs.getD i 0).toNat (j : Int) := by
  unfold toBools
  have h1 : (8 * i + j) / 8 = i := by omega
  have h2 : (8 * i + j) % 8 = j := by omega
  rw [C10_gen_to_bools_bit_testBit _ _ hj, List.getD_eq_getElem?_getD, SMTImpl.keyBits_getElem?, h1, h2,
    List.getD_eq_getElem?_getD, List.getElem?_eq_getElem hi]
  rfl

/-! ### bytes.IsBitSet -/

/-- the byte `IsBitSet` looks at: `index/8` (non-negative `int` index) -/
theorem C10_gen_is_bit_set_byte_index_eq (index : Nat) (h : index < 9223372036854775808) :
    Gen.isBitSetByteIndex (index : Int) = ((index / 8 : Nat) : Int) :=
  -- truncated division of non-negative `int`s is the division of naturals, by computation
  Gen.i64_ofNat (n := index / 8) (by omega)

/-- the bit test of `IsBitSet` is the test of `ToBools` at `j = index % 8`; it never panics for a
non-negative index -/
theorem C10_gen_is_bit_set_bit_eq (b index : Nat) :
    Gen.isBitSetBit b (index : Int) = some (Gen.toBoolsBit b ((index % 8 : Nat) : Int)) := by
  have h2 : ¬ (((index % 8 : Nat) : Int) < 0) := by omega
  show (if decide (((index % 8 : Nat) : Int) < 0) then none else _) = _
  rw [if_neg (by simpa using h2)]
  unfold Gen.toBoolsBit
  rw [Gen.toNat_emod64 (by omega)]
  rfl

/-- **`bytes.IsBitSet(bits, index)` = bit `index` of `SMT.keyBits bits`** for every index inside the
byte string (outside it the Go code panics with an index error) -/
theorem C10_gen_is_bit_set_eq (bs : Bytes) (index : Nat) (h : index < 8 * bs.length) :
    Gen.isBitSetBit (bs.getD (index / 8) 0).toNat (index : Int) = some ((keyBits bs).getD index false) := by
  rw [C10_gen_is_bit_set_bit_eq]
  have hi : index / 8 < bs.length := by omega
  have hj : index % 8 < 8 := by omega
  have := C10_gen_to_bools_eq bs (index / 8) (index % 8) hi hj
  unfold toBools at this
  rw [← this]
  congr 2
  omega

/-! ### bytes.FromBools -/

/-- result length `(len(input)+7)/8`, padded bit length (the pad is the `(8 - len % 8) % 8` leading
`false`s of `SMTVerify.fromBools`), byte index `i/8` -/
theorem C10_gen_from_bools_sizes_eq (n : Nat) (h : n < 9223372036854775800) :
    Gen.fromBoolsLen (n : Int) = (((n + 7) / 8 : Nat) : Int) ∧
    Gen.fromBoolsTargetSize (n : Int) = ((n + (8 - n % 8) % 8 : Nat) : Int) ∧
    Gen.fromBoolsByteIndex (n : Int) = ((n / 8 : Nat) : Int) := by
  refine ⟨Gen.i64_byteLen h, ?_, Gen.i64_ofNat (n := n / 8) (by omega)⟩
  show (if decide (((n % 8 : Nat) : Int) ≠ 0) then
        Gen.i64 ((n : Int) + Gen.i64 (8 - ((n % 8 : Nat) : Int))) else (n : Int)) = _
  by_cases h0 : n % 8 = 0
  · rw [if_neg (by rw [h0]; decide)]
    omega
  · rw [if_pos (decide_eq_true (by omega)), Gen.i64_eq (x := 8 - ((n % 8 : Nat) : Int)) (by omega) (by omega),
      Gen.i64_eq (by omega) (by omega)]
    omega

/-- the mask `0x80 >> uint(i%8)` is the weight `SMTVerify.packBits` gives position `i % 8`
(128, 64, …, 1) -/
theorem C10_gen_from_bools_mask_eq (i : Nat) :
    Gen.fromBoolsMask (i : Int) = [128, 64, 32, 16, 8, 4, 2, 1].getD (i % 8) 0 := by
  show 128 >>> Int.toNat (((i % 8 : Nat) : Int) % 18446744073709551616) = _
  rw [Gen.toNat_emod64 (by omega)]
  have : ∀ k < 8, 128 >>> k = [128, 64, 32, 16, 8, 4, 2, 1].getD k 0 := by decide
  exact this (i % 8) (by omega)

/-- the weights are those of `packBits`: a byte whose only set bit is position `k` -/
theorem C10_gen_from_bools_mask_pack (k : Nat) (hk : k < 8) :
    packBits ((List.replicate k false ++ [true]) ++ List.replicate (7 - k) false) =
      [UInt8.ofNat (Gen.fromBoolsMask (k : Int))] := by
  have : ∀ k < 8, packBits ((List.replicate k false ++ [true]) ++ List.replicate (7 - k) false) =
      [UInt8.ofNat ([128, 64, 32, 16, 8, 4, 2, 1].getD (k % 8) 0)] := by decide
  rw [C10_gen_from_bools_mask_eq]
  exact this k hk

/-! ### smt.Verify -/

/-- **`SMTVerify.checkOne` with the regenerated guards** of the first loop of `smt.Verify` (key
lengths below 2^60 so that `8*keyLength` does not wrap) -/
theorem C10_gen_check_one_eq (keyLen : Nat) (key : Bytes) (query : Query) (seen : List Query)
    (hk : keyLen < 1152921504606846976) :
    checkOne keyLen key query seen =
      if Gen.smtVerifyKeyLenBad (key.length : Int) (keyLen : Int) = true then some (.ok false)
      else if Gen.smtVerifyQueryKeyLenBad (query.key.length : Int) (keyLen : Int) = true then some (.ok false)
      else if (seen.find? (fun q => q.key = query.key)).any
          (fun d => d.bitmap != query.bitmap || d.value != query.value) then some .err
      else if Gen.smtVerifyLeadingZero (query.bitmap.length : Int) (query.bitmap.headD 0).toNat = true then some (.ok false)
      else if Gen.smtVerifyTooDeep ((stripPrefixFalse (toBools query.bitmap)).length : Int) (keyLen : Int) = true then
        some (.ok false)
      else if key = query.key then none
      else if Gen.smtVerifyBelowFork ((stripPrefixFalse (toBools query.bitmap)).length : Int)
          ((commonPrefixLen (toBools key) (toBools query.key) : Nat) : Int) = true then some (.ok false)
      else none := by
  have e1 : ∀ a b : Nat, (Gen.smtVerifyKeyLenBad (a : Int) (b : Int) = true) = ((a != b) = true) := by
    intro a b; unfold Gen.smtVerifyKeyLenBad; simp; omega
  have e2 : ∀ a b : Nat, (Gen.smtVerifyQueryKeyLenBad (a : Int) (b : Int) = true) = ((a != b) = true) := by
    intro a b; unfold Gen.smtVerifyQueryKeyLenBad; simp; omega
  have e3 : (Gen.smtVerifyLeadingZero (query.bitmap.length : Int) (query.bitmap.headD 0).toNat = true) =
      ((query.bitmap.headD 1 == 0) = true) := by
    unfold Gen.smtVerifyLeadingZero
    cases query.bitmap with
    | nil => simp
    | cons b r =>
      have : ((b :: r).length : Int) > 0 := by simp
      simp [← UInt8.toNat_inj]
  have e4 : ∀ a : Nat, (Gen.smtVerifyTooDeep (a : Int) (keyLen : Int) = true) = (a > 8 * keyLen) := by
    intro a; unfold Gen.smtVerifyTooDeep
    rw [Gen.i64_eq (by omega) (by omega)]
    simp; omega
  have e5 : ∀ a b : Nat, (Gen.smtVerifyBelowFork (a : Int) (b : Int) = true) = (a > b) := by
    intro a b; unfold Gen.smtVerifyBelowFork; simp
  unfold checkOne
  simp only [e1, e2, e3, e4, e5]

/-! ### smt.CalculateRoot -/

/-- the two consistency conditions of `CalculateRoot` are those of `SMTVerify.calcLoop`
(`(isSiblingEmpty && b0) || (!isSiblingEmpty && !b0)` and the same for the query) -/
theorem C10_gen_bitmap_consistency_eq (e b : Bool) :
    Gen.smtSiblingBitmapBad e b = ((e && b) || (!e && !b)) ∧
    Gen.smtQueryBitmapBad e b = ((e && b) || (!e && !b)) := ⟨rfl, rfl⟩

/-! ### non-vacuity -/

example : Gen.toBoolsBit 0x80 0 = true ∧ Gen.toBoolsBit 0x80 1 = false ∧ Gen.toBoolsBit 1 7 = true ∧
    Gen.isBitSetBit 0x40 9 = some true ∧ Gen.isBitSetBit 0x40 (-1) = none ∧ Gen.isBitSetByteIndex 17 = 2 ∧
    Gen.fromBoolsLen 9 = 2 ∧ Gen.fromBoolsTargetSize 9 = 16 ∧ Gen.fromBoolsTargetSize 16 = 16 ∧
    Gen.fromBoolsMask 9 = 64 ∧ Gen.fromBoolsByteIndex 9 = 1 ∧
    Gen.smtVerifyLeadingZero 2 0 = true ∧ Gen.smtVerifyLeadingZero 0 0 = false ∧
    Gen.smtVerifyTooDeep 257 32 = true ∧ Gen.smtVerifyTooDeep 256 32 = false ∧
    Gen.smtSiblingBitmapBad true true = true ∧ Gen.smtSiblingBitmapBad true false = false := by decide +kernel

example : Gen.isBitSetBit ([0x00, 0x40] : Bytes)[1].toNat 9 = some ((keyBits [0x00, 0x40]).getD 9 false) :=
  C10_gen_is_bit_set_eq [0x00, 0x40] 9 (by decide)
