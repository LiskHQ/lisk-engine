/-
C11 — Regular Merkle tree: incremental, batch and proof computations agree.

Property theorems about `LiskVerif.Model.RMT` (the model of pkg/trie/rmt with the C11 fixes applied): `Append` one by one
gives the LIP-0031 batch root, and the append path is the list of roots of the perfect subtrees of the binary
decomposition of the size; `CalculateRootFromAppendPath` agrees with `Append` on every reachable state; the stored
information reloads to the same tree once a leaf exists; `VerifyProof` (the transcription of `calculatePathNodes` with its
index arithmetic) for one index accepts only the hash of the leaf at that index and consumes the LIP-0031 inclusion path,
and accepts that path for trees whose indexes fit the 32-bit index parser (height ≤ 30); the append path alone
reconstructs the root at the split points 0 and `size`.
The hash functions are parameters; injectivity is an explicit hypothesis where it is needed.
The statements about sets of leaves, proof generation, `Update`, the node store and the right witness at every split
point are written down at the end of this file (`C11_*_Statement`) and settled in `Props/C11_More.lean`:
`C11_store_Statement`, `C11_update_via_proof_Statement` and `C11_proof_sound_multi_Statement` are proved as they stand;
`C11_proof_complete_Statement` and `C11_right_witness_Statement` are refuted as they stand (a tree of height 31; a tree of
`2^64 + 1` leaves) and proved with the bound. The correspondence harness checks all five on the real code as well.
Helper lemmas: `LiskVerif/Lemmas/RMTEdge.lean` (the append path as blocks of the tree, the climb along its right
edge), `LiskVerif/Lemmas/RMTProof.lean` (the LIP-0031 path read off the tree; one index of `VerifyProof` is the
several-leaves case of `RMTSpec.lean` / `RMTCalc.lean` at a single position).
-/
import LiskVerif.Lemmas.RMTEdge
import LiskVerif.Lemmas.RMTProof

open LiskVerif LiskVerif.RMT

/-! ### incremental = batch -/

/-- Appending the leaves one by one to the empty tree never fails and yields the LIP-0031 root of
the list, the append path `peaks` (roots of the perfect subtrees of the binary decomposition of the
size, smallest first) and the size. -/
theorem C11_append_eq_batch (hf : HashFns) (data : List Bytes) :
    appendAll hf (initCore hf) data
      = some ⟨root hf data, peaks hf (data.map hf.leaf), data.length⟩ := by
  rw [initCore_eq, appendAll_blk]; simp [root]

example : appendAll ⟨id, fun l r => l ++ r, []⟩ (initCore ⟨id, fun l r => l ++ r, []⟩) [[1], [2], [3]]
    = some ⟨[1, 2, 3], [[3], [1, 2]], 3⟩ := by
  decide

/-- A successful `Append` of the tree changes (root, append path, size) as `appendCore` does and
stores exactly that. -/
theorem C11_append_core (hf : HashFns) (t : Tree) (v : Bytes) (h : (append hf t v).2 = true) :
    appendCore hf t.core v = some (append hf t v).1.core ∧
    (append hf t v).1.info = some (append hf t v).1.core := by
  obtain ⟨t2, b, -, -, e⟩ := append_eq hf t v
  rw [e] at h ⊢
  generalize appendCore hf t.core v = o at h ⊢
  cases b <;> cases o <;> simp_all

/-- a run of `Append`s on the tree; `none` if one of them returns an error -/
def C11.appendTreeAll (hf : HashFns) (t : Tree) : List Bytes → Option Tree
  | [] => some t
  | v :: vs => if (append hf t v).2 then C11.appendTreeAll hf (append hf t v).1 vs else none

private theorem appendTreeAll_core (hf : HashFns) (t t' : Tree) (data : List Bytes)
    (h : C11.appendTreeAll hf t data = some t') : appendAll hf t.core data = some t'.core := by
  induction data generalizing t with
  | nil => simp [C11.appendTreeAll] at h; simp [appendAll, h]
  | cons v vs ih =>
    simp only [C11.appendTreeAll] at h
    split at h
    · rename_i hok
      have := (C11_append_core hf t v hok).1
      simp only [appendAll, this]
      exact ih _ h
    · cases h

/-- The tree after appending `data` one by one to the empty tree has the batch root of `data`. -/
theorem C11_append_tree (hf : HashFns) (data : List Bytes) (t : Tree)
    (h : C11.appendTreeAll hf (emptyTree hf) data = some t) :
    t.core = ⟨root hf data, peaks hf (data.map hf.leaf), data.length⟩ := by
  have := appendTreeAll_core hf _ _ _ h
  rw [show (emptyTree hf).core = initCore hf from rfl, C11_append_eq_batch] at this
  exact (Option.some.inj this).symm

/-! ### predicted = actual -/

/-- For every state reached by appends, `CalculateRootFromAppendPath` on the current append path
and size returns exactly the root, append path and size that `Append` produces. -/
theorem C11_predicted_append (hf : HashFns) (data : List Bytes) (c : Core) (v : Bytes)
    (h : appendAll hf (initCore hf) data = some c) :
    rootFromAppendPath hf v c.path c.size = appendCore hf c v ∧
    appendCore hf c v = some ⟨root hf (data ++ [v]), peaks hf ((data ++ [v]).map hf.leaf), data.length + 1⟩ := by
  rw [initCore_eq, appendAll_blk, Option.some.injEq] at h
  subst h
  obtain ⟨h1, h2⟩ := appendCore_blk hf ([] ++ data.map hf.leaf) v
  simp only [List.nil_append, List.length_map, List.length_nil, Nat.zero_add] at h1 h2 ⊢
  exact ⟨h2.trans h1.symm, by simpa [root] using h1⟩

example : rootFromAppendPath ⟨id, fun l r => l ++ r, []⟩ [3] [[1, 2]] 2
    = appendCore ⟨id, fun l r => l ++ r, []⟩ ⟨[1, 2], [[1, 2]], 2⟩ [3] := by
  decide

/-- The code before the fix folded the *whole* append path into the first entry of the new path.
For a tree of two leaves (one path entry `p`) `Append` stores `[leaf v, p]`, while the unfixed
prediction was `[branch p (leaf v), p]` — different as soon as a branch hash is not a leaf hash. -/
theorem C11_original_predicted_path_wrong (hf : HashFns) (r p v : Bytes)
    (hsep : ∀ x y z, hf.branch x y ≠ hf.leaf z) :
    (appendCore hf ⟨r, [p], 2⟩ v).map (·.path) = some [hf.leaf v, p] ∧
    foldPath hf (hf.leaf v) [p] :: [p] ≠ [hf.leaf v, p] := by
  have h1 : Nat.log2 1 = 0 := by decide
  constructor
  · simp [appendCore, getHeight, clog2, h1, foldBits, nextPath, trailingOnes, foldPath]
  · simp only [foldPath, List.foldl_cons, List.foldl_nil]
    intro heq
    exact hsep _ _ _ (List.cons.inj heq).1

/-! ### reload -/

/-- the trees reachable by the operations of the API -/
inductive C11.Reach (hf : HashFns) : Tree → Prop
  | init : C11.Reach hf (emptyTree hf)
  | append {t : Tree} (v : Bytes) : C11.Reach hf t → C11.Reach hf (append hf t v).1
  | update {t t' : Tree} (idxs : List Nat) (data : List Bytes) :
      C11.Reach hf t → update hf t idxs data = some t' → C11.Reach hf t'
  | reload {t t' : Tree} : C11.Reach hf t → reload t = some t' → C11.Reach hf t'

private theorem append_fail_core (hf : HashFns) (t : Tree) (v : Bytes) (h : (append hf t v).2 = false) :
    (append hf t v).1.core = t.core ∧ (append hf t v).1.info = t.info := by
  obtain ⟨t2, b, hs, -, e⟩ := append_eq hf t v
  rw [e] at h ⊢
  generalize appendCore hf t.core v = o at h ⊢
  have h1 := hs.core
  have h2 := hs.info
  cases b <;> cases o <;> simp_all [Tree.saveNode]

private theorem update_info (hf : HashFns) (t t' : Tree) (idxs : List Nat) (data : List Bytes)
    (hu : update hf t idxs data = some t') : t'.info = some t'.core := by
  obtain ⟨_hsize, _hvalid, sibs, calcd, t1, r, p, _hsibs, _hcalc, _hsave, _hroot, _hpath, rfl⟩ := update_some hu
  rfl

private theorem reach_info (hf : HashFns) (t : Tree) (h : C11.Reach hf t) :
    (t.core.size = 0 ∧ t.info = none) ∨ t.info = some t.core := by
  induction h with
  | init => left; simp [emptyTree, initCore]
  | @append t v _ ih =>
    by_cases hok : (append hf t v).2 = true
    · right; exact (C11_append_core hf t v hok).2
    · have := append_fail_core hf t v (by simpa using hok)
      rw [this.1, this.2]; exact ih
  | @update t t' idxs data _ hu ih => right; exact update_info hf t t' idxs data hu
  | @reload t t' _ hr ih =>
    unfold RMT.reload at hr
    split at hr
    · cases hr
    · rename_i c hc
      cases hr
      rcases ih with ⟨_, h2⟩ | h2
      · rw [h2] at hc; cases hc
      · right; simp [hc]

/-- Reload: once the tree holds a leaf, the stored information is exactly (root, append path, size):
`NewRegularMerkleTreeWithPastData` over the same database gives back the same tree, after any
sequence of appends (successful or not), updates and reloads. -/
theorem C11_reload (hf : HashFns) (t : Tree) (h : C11.Reach hf t) (hne : t.core.size ≠ 0) :
    reload t = some t := by
  rcases reach_info hf t h with ⟨h0, _⟩ | h1
  · exact absurd h0 hne
  · obtain ⟨c, a, b, i⟩ := t
    simp_all [RMT.reload]

/-- non-vacuity of the hypotheses of `C11_reload`: the tree of one leaf is reachable and is not empty -/
example : ∃ t : Tree, C11.Reach ⟨id, fun l r => l ++ r, []⟩ t ∧ t.core.size ≠ 0 := by
  refine ⟨_, C11.Reach.append [7] C11.Reach.init, ?_⟩
  decide

/-! ### inclusion proofs: the LIP-0031 path -/

/-- Completeness: the inclusion path of leaf `i` folds to the root. -/
theorem C11_path_complete (hf : HashFns) (l : List Bytes) (i : Nat) (h : Bytes)
    (hi : l[i]? = some h) : foldProof hf h (pathSpec hf l i) = rootH hf l :=
  foldProof_pathSpec hf l.length l i h rfl hi

/-- Soundness: if the branch hash is injective, a path with the shape (left/right pattern) of
position `i` that folds from `h` to the root proves that `h` is the `i`-th leaf hash and is the path
of that leaf: no other leaf hash and no other sibling verifies. -/
theorem C11_path_sound (hf : HashFns) (hinj : BranchInj hf) (l : List Bytes) (i : Nat)
    (hi : i < l.length) (h : Bytes) (p : List (Bool × Bytes))
    (hshape : p.map (·.1) = (pathSpec hf l i).map (·.1)) (hfold : foldProof hf h p = rootH hf l) :
    l[i]? = some h ∧ p = pathSpec hf l i :=
  foldProof_sound hf hinj l.length l i h p rfl hi hshape hfold

/-- an element of a mapped list under an injective function -/
private theorem getElem?_of_map_inj {α β : Type} {f : α → β} (hf : ∀ a b, f a = f b → a = b) {l : List α} {i : Nat}
    {d : α} (h : (l.map f)[i]? = some (f d)) : l[i]? = some d := by
  rw [List.getElem?_map] at h
  cases hx : l[i]? with
  | none => rw [hx] at h; cases h
  | some x => rw [hx] at h; rw [hf _ _ (Option.some.inj h)]

/-- In terms of leaf data: with an injective leaf hash, other data at position `i` is rejected. -/
theorem C11_path_other_leaf (hf : HashFns) (hinj : BranchInj hf)
    (hleaf : ∀ a b, hf.leaf a = hf.leaf b → a = b) (data : List Bytes) (i : Nat) (hi : i < data.length)
    (d : Bytes) (hd : data[i]? ≠ some d) :
    foldProof hf (hf.leaf d) (pathSpec hf (data.map hf.leaf) i) ≠ root hf data := by
  intro hfold
  exact hd (getElem?_of_map_inj hleaf
    (C11_path_sound hf hinj (data.map hf.leaf) i (by simpa using hi) (hf.leaf d) _ rfl hfold).1)

/-- A path verifies against exactly one root. -/
theorem C11_path_one_root (hf : HashFns) (l : List Bytes) (i : Nat) (h r : Bytes)
    (hi : l[i]? = some h) : foldProof hf h (pathSpec hf l i) = r ↔ r = rootH hf l := by
  rw [C11_path_complete hf l i h hi]; exact eq_comm

example : foldProof ⟨id, fun l r => l ++ r, []⟩ [2] (pathSpec ⟨id, fun l r => l ++ r, []⟩ [[1], [2], [3]] 1)
    = rootH ⟨id, fun l r => l ++ r, []⟩ [[1], [2], [3]] :=
  C11_path_complete _ _ 1 [2] rfl

/-! ### inclusion proofs: `VerifyProof` with its index arithmetic, one index -/

/-- Soundness of `VerifyProof` for one index: in a tree over the leaf hashes `l`, if the proof
`(size, [2^height + i], siblingHashes)` for the query hash `q` is accepted against the root of `l`,
then `q` is the hash of leaf `i`, and the sibling hashes that were consumed are exactly the LIP-0031
path of that leaf. (Injectivity of the branch hash is the only assumption.) -/
theorem C11_proof_sound (hf : HashFns) (hinj : BranchInj hf) (l : List Bytes) (i : Nat)
    (hi : i < l.length) (q : Bytes) (sibs : List Bytes)
    (h : verifyProof hf [q] ⟨l.length, [2 ^ getHeight l.length + i], sibs⟩ (rootH hf l) = true) :
    l[i]? = some q ∧ (pathSpec hf l i).map (·.2) <+: sibs := by
  -- the set theorems at the single position `i`; the hashes of the LIP-0031 path are the siblings of the specification
  have hlt : ∀ p ∈ [i], p < l.length := by simpa using hi
  have h1 := verify_sound_multi hf hinj l [i] [q] sibs (by simp) hlt rfl h 0 (by simp)
  have h2 := (verify_sound_layer0 hf hinj l [i] [q] sibs (by simp) hlt rfl (by simp) h).2
  rw [layer0_singleton] at h2
  exact ⟨by simpa using h1,
    by rw [pathSpec_map_snd hf l i _ hi (by simpa [getHeight] using le_two_pow_clog2 l.length)]; exact h2⟩

/-- Other leaf data is rejected: a proof accepted for the data `d` at index `i` shows that the
`i`-th leaf is `d` (leaf hash injective). -/
theorem C11_proof_other_leaf (hf : HashFns) (hinj : BranchInj hf)
    (hleaf : ∀ a b, hf.leaf a = hf.leaf b → a = b) (data : List Bytes) (i : Nat) (hi : i < data.length)
    (d : Bytes) (sibs : List Bytes)
    (h : verifyProof hf [hf.leaf d] ⟨data.length, [2 ^ getHeight data.length + i], sibs⟩ (root hf data) = true) :
    data[i]? = some d := by
  have hlen : (data.map hf.leaf).length = data.length := by simp
  exact getElem?_of_map_inj hleaf (C11_proof_sound hf hinj (data.map hf.leaf) i (by simpa using hi) (hf.leaf d) sibs
    (by rw [hlen]; exact h)).1

/-- A proof is accepted for at most one root. -/
theorem C11_proof_one_root (hf : HashFns) (q : List Bytes) (p : Proof) (r r' : Bytes)
    (h : verifyProof hf q p r = true) (h' : verifyProof hf q p r' = true) : r = r' := by
  obtain ⟨_, _, res, h1, h2⟩ := (verifyProof_iff hf q p r).1 h
  obtain ⟨_, _, res', h1', h2'⟩ := (verifyProof_iff hf q p r').1 h'
  rw [h1, Option.some.injEq] at h1'
  rw [← h1', h2, Option.some.injEq] at h2'
  exact h2'

/-- Completeness of `VerifyProof` for one index: the LIP-0031 path of leaf `i` is accepted (for trees
of height at most 30, i.e. at most 2^29 leaves: above, the 32-bit index parser of the implementation
returns an error). -/
theorem C11_proof_complete_partial (hf : HashFns) (l : List Bytes) (i : Nat) (q : Bytes)
    (hi : l[i]? = some q) (hb : getHeight l.length ≤ 30) (extra : List Bytes) :
    verifyProof hf [q] ⟨l.length, [2 ^ getHeight l.length + i], (pathSpec hf l i).map (·.2) ++ extra⟩
      (rootH hf l) = true := by
  have hil : i < l.length := (List.getElem?_eq_some_iff.1 hi).1
  have hn : l.length ≤ 2 ^ (0 + (getHeight l.length - 1)) := by simpa [getHeight] using le_two_pow_clog2 l.length
  apply calcSpec_verify hf l.length (by omega) [i] [q] _ _ (by simp) (by simpa using hil) rfl (by simp) hb
  have := calcSpec_complete hf l (getHeight l.length - 1) 0 [i] extra hn (by simp) (by simpa using hil) (by simp)
  rw [layer0_singleton, pathSpec_map_snd hf l i _ hil (by simpa using hn)]
  simpa [valLay, blk_leaf l i q hi, rootH_singleton] using this

example : verifyProof ⟨id, fun l r => l ++ r, []⟩ [[2]]
    ⟨3, [2 ^ getHeight 3 + 1], (pathSpec ⟨id, fun l r => l ++ r, []⟩ [[1], [2], [3]] 1).map (·.2) ++ []⟩
    (rootH ⟨id, fun l r => l ++ r, []⟩ [[1], [2], [3]]) = true :=
  C11_proof_complete_partial ⟨id, fun l r => l ++ r, []⟩ [[1], [2], [3]] 1 [2] rfl (by decide) []

/-- an injective pairing of byte strings: unary length of the left part, a zero, both parts -/
def C11.pairHash : HashFns :=
  { leaf := id, branch := fun l r => List.replicate l.length 1 ++ 0 :: (l ++ r), empty := [] }

private theorem replicate_prefix_inj : ∀ (n m : Nat) (a b : Bytes),
    List.replicate n (1 : UInt8) ++ 0 :: a = List.replicate m 1 ++ 0 :: b → n = m ∧ a = b := by
  intro n
  induction n with
  | zero =>
    intro m a b h
    cases m with
    | zero => simpa using h
    | succ m => simp [List.replicate_succ] at h
  | succ n ih =>
    intro m a b h
    cases m with
    | zero => simp [List.replicate_succ] at h
    | succ m =>
      simp only [List.replicate_succ, List.cons_append, List.cons.injEq, true_and] at h
      obtain ⟨e1, e2⟩ := ih m a b h
      exact ⟨by omega, e2⟩

theorem C11.pairHash_inj : BranchInj C11.pairHash := by
  intro a b c d h
  simp only [C11.pairHash] at h
  obtain ⟨e1, e2⟩ := replicate_prefix_inj _ _ _ _ h
  have := List.append_inj e2 e1
  exact this

/-- non-vacuity of `C11_proof_sound`: its hypotheses hold for the path of leaf 1 of three leaves -/
example : ([[1], [2], [3]] : List Bytes)[1]? = some [2] ∧
    (pathSpec C11.pairHash [[1], [2], [3]] 1).map (·.2) <+: (pathSpec C11.pairHash [[1], [2], [3]] 1).map (·.2) ++ [] :=
  C11_proof_sound C11.pairHash C11.pairHash_inj [[1], [2], [3]] 1 (by decide) [2] _
    (C11_proof_complete_partial C11.pairHash [[1], [2], [3]] 1 [2] rfl (by decide) [])

/-! ### right witness -/

/-- The append path alone reconstructs the root: for the split points `0` (the witness is the whole
append path, as `GenerateRightWitness(0)` returns it) and `size` (the witness is empty). -/
theorem C11_right_witness_partial (hf : HashFns) (l : List Bytes) :
    rootFromRightWitness hf 0 (peaks hf []) (peaks hf l) = some (rootH hf l) ∧
    rootFromRightWitness hf l.length (peaks hf l) [] = some (rootH hf l) := by
  constructor
  · rw [peaks_nil]; simp [rootFromRightWitness, rootFromPath_peaks]
  · rw [rootFromRightWitness_nil_right, rootFromPath_peaks]

/-- `GenerateRightWitness(0)` on a non-empty tree is the append path. -/
theorem C11_witness_zero (t : Tree) (h : t.core.size ≠ 0) : genWitness t 0 = some t.core.path := by
  simp [genWitness, h]

example : rootFromRightWitness ⟨id, fun l r => l ++ r, []⟩ 3 (peaks ⟨id, fun l r => l ++ r, []⟩ [[1], [2], [3]]) []
    = some (rootH ⟨id, fun l r => l ++ r, []⟩ [[1], [2], [3]]) :=
  (C11_right_witness_partial ⟨id, fun l r => l ++ r, []⟩ [[1], [2], [3]]).2

/-! ### the statements settled in `Props/C11_More.lean` -/

/-- the node store holds every node of the LIP-0031 tree over the current leaves at its location -/
def C11.StoreOK (hf : HashFns) (t : Tree) (hashes : List Bytes) : Prop :=
  ∀ e ∈ nodeList hf hashes 0, t.getHash e.1 = some e.2

/-- `Append` keeps the node store exact (harness: op `nodes` on the model and `stored-node-differs`
oracle on the real code). -/
def C11_store_Statement : Prop :=
  ∀ (hf : HashFns) (data : List Bytes) (t : Tree),
    C11.appendTreeAll hf (emptyTree hf) data = some t → C11.StoreOK hf t (data.map hf.leaf)

/-- Full completeness: for a tree built by appends whose leaf hashes are pairwise distinct, the proof
generated for any list of distinct leaf hashes verifies against the root. -/
def C11_proof_complete_Statement : Prop :=
  ∀ (hf : HashFns) (data : List Bytes) (t : Tree) (q : List Bytes),
    C11.appendTreeAll hf (emptyTree hf) data = some t → (data.map hf.leaf).Nodup →
    q ≠ [] → q.Nodup → (∀ h ∈ q, h ∈ data.map hf.leaf) →
    ∃ p, generateProof t q = some p ∧ verifyProof hf q p t.core.root = true

/-- Soundness for several indexes: an accepted proof for distinct leaf indexes shows that every query
is the hash of the leaf at its index. -/
def C11_proof_sound_multi_Statement : Prop :=
  ∀ (hf : HashFns), BranchInj hf → ∀ (l : List Bytes) (pos : List Nat) (q sibs : List Bytes),
    pos.Nodup → (∀ p ∈ pos, p < l.length) → q.length = pos.length →
    verifyProof hf q ⟨l.length, pos.map (fun p => 2 ^ getHeight l.length + p), sibs⟩ (rootH hf l) = true →
    ∀ k (hk : k < pos.length), l[pos[k]]? = q[k]?

/-- `Update` through a proof yields the tree of the modified list. -/
def C11_update_via_proof_Statement : Prop :=
  ∀ (hf : HashFns) (data : List Bytes) (t t' : Tree) (pos : List Nat) (upd : List Bytes),
    C11.appendTreeAll hf (emptyTree hf) data = some t → pos.Nodup → pos.length = upd.length →
    (∀ p ∈ pos, p < data.length) →
    update hf t (pos.map fun p => 2 ^ getHeight data.length + p) upd = some t' →
    let data' := (pos.zip upd).foldl (fun d pu => d.set pu.1 pu.2) data
    t'.core = ⟨root hf data', peaks hf (data'.map hf.leaf), data.length⟩

/-- every split point: the append path of the first `i` leaves and the right witness generated by
the full tree reconstruct the root. -/
def C11_right_witness_Statement : Prop :=
  ∀ (hf : HashFns) (data : List Bytes) (t : Tree) (i : Nat),
    C11.appendTreeAll hf (emptyTree hf) data = some t → i ≤ data.length →
    ∃ w, genWitness t i = some w ∧
      rootFromRightWitness hf i (peaks hf ((data.take i).map hf.leaf)) w = some (root hf data)
