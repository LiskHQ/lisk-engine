/-
C04 — the single-writer assumption of the consensus path.

Every C04 theorem (Props/C04*.lean) is stated for an operation LIST run by `Node.run`: the finalized height is
monotone, finalized blocks stay, events are the raises … along `ops.foldl step`.  The real
`Executer.process` / `processValidated` / `deleteBlock` take no lock; they read the stored finalized height and
the BFT heights, call the application, and only then write block + `max(current, maxHeightPrecommited)` with
`Chain.AddBlock`.  The list semantics is the semantics of the node only because ONE goroutine ever runs these
functions.  This file states that assumption about the source and connects it to the list theorems.

Part 1 (tie A, table `Gen/SingleWriter.lean`, regenerated from /repo by tools/writergen on every check run; test
files and `verif`-tagged hook files are not part of a production build and are skipped — the hooks
`VerifProcess` … call `process` directly, that is what they are for).  The theorems of Part 1 are evaluations
of the table (`decide +kernel`, two by `rfl`):
  * `process` has exactly one site: the call in the `case ctx := <-c.processCh` clause of the loop of
    `Executer.Start`;
  * `processValidated` / `deleteBlock` are called only by `process`, and handed (as method values) to
    `sync.NewSyncer` in `Init`; the synchronisers store them in `processor` / `reverter` and call them only
    from functions reached from `Syncer.Sync`, which only `process` calls: they run inside `process`;
  * `processGenesisBlock` and `PrepareCache` only in `Init` — and the engine calls `Init` before the single
    `go … consensusExec.Start()`;
  * `Chain.AddBlock` only in `processValidated` / `processGenesisBlock`, `Chain.RemoveBlock` only in
    `deleteBlock`;
  * no site is inside a `go` statement, a function literal or a `defer`; the functions from which a writer is
    reachable inside the two packages have exactly the entry points `Executer.Init` and `Executer.Start`;
  * the process queue: made with capacity 200, received from only in the loop, sent to only by
    `onBlockReceived` and `AddInternal`, each send a clause of a `select` with a `default` (cannot block);
    these two functions make no other call than the listed ones (they ENQUEUE, nothing else).
A new direct call of `process` (e.g. "when the queue is full, process the internal block in the caller's
goroutine") changes the table and breaks `C04_single_writer_process_only_in_start_loop`,
`C04_single_writer_entry_points`, `C04_single_writer_closure` and `C04_single_writer_enqueuers_only_enqueue`.

Part 2 (`Model/SingleWriter.lean`): with a single writer every concurrent execution of enqueuing goroutines and
the loop IS an operation list — `C04_single_writer_schedule_is_run` — so the list theorems hold along every
schedule: `C04_single_writer_fin_monotone_any_schedule`.  `C04_single_writer_two_writers_lose_update` shows
that the assumption is needed: with the read and the write of the finalized height of two goroutines
interleaved the stored height decreases (6 → 5), which is what harness pseudo-property C04WRITER observes on a
tree where a second goroutine enters `process`.

Tie B for this file: harness/c04/writer.go (C04WRITER) runs the real `Executer.Start` loop with an application
that blocks inside a block, fills the queue from other goroutines and checks, model-free, that all application
calls come from the loop's goroutine, that the calls of two blocks never overlap, and that the final database
equals the one of a twin node that processed the accepted blocks as a list.
-/
import LiskVerif.Gen.SingleWriter
import LiskVerif.Model.SingleWriter
import LiskVerif.Props.C04

open LiskVerif LiskVerif.Node
open LiskVerif.DiffDB (Store)
open LiskVerif.Gen.SingleWriter
open LiskVerif.SingleWriter

namespace LiskVerif.SingleWriterFacts

/-- (function, expression, kind, used for, context) of the sites of a tracked name -/
def sitesOf (name : String) : List (String × String × String × String × List String) :=
  (sites.filter (·.name == name)).map (fun s => (s.fn, s.expr, s.kind, s.of, s.ctx))

/-- the functions in which a tracked name occurs -/
def fnsOf (name : String) : List String := (sites.filter (·.name == name)).map (·.fn)

def escapes (s : Site) : Bool := s.ctx.contains "go" || s.ctx.contains "funclit" || s.ctx.contains "defer"

/-- functions of the closure that nothing in the two packages refers to: the ways INTO the writers -/
def entryPoints : List String :=
  (closure.filter (fun c => !(sites.any (fun s => s.name == c.2.2)))).map (fun c => c.2.1)

def enqueuerCallees (fn : String) : List (String × List String) :=
  (enqueuerCalls.filter (·.fn == fn)).map (fun c => (c.callee, c.ctx))

/-- the calls of `name` on `consensusExec` in the engine: (function, position, context); that there is exactly one is
said where it is used (`initBeforeSingleStart`, `C04_single_writer_one_loop`) -/
def engineCall (name : String) : List (String × Nat × List String) :=
  (engineCalls.filter (·.name == name)).map (fun c => (c.fn, c.seq, c.ctx))

def initBeforeSingleStart : Bool :=
  match engineCall "Init", engineCall "Start" with
  | [(f, i, ci)], [(g, j, cj)] =>
    f == "Engine.Start" && g == "Engine.Start" && decide (i < j) && ci == [] && cj.contains "go"
  | _, _ => false

end LiskVerif.SingleWriterFacts

open LiskVerif.SingleWriterFacts

/-! ### Part 1: the source -/

/-- `Executer.process` is entered from exactly one place: the `case ctx := <-c.processCh` clause of the `for`
loop of `Executer.Start`. -/
theorem C04_single_writer_process_only_in_start_loop :
    sitesOf "process" =
      [("Executer.Start", "c.process", "call", "", ["for ", "select ctx := <-c.processCh"])] := by
  decide +kernel

/-- `processValidated` is called by `process` (valid block, tie-break, tie-break revert) and handed to the
synchronisers in `Init`; nowhere else. -/
theorem C04_single_writer_processValidated_sites :
    sitesOf "processValidated" =
      [("Executer.Init", "c.processValidated", "value", "arg of sync.NewSyncer", []),
       ("Executer.process", "c.processValidated", "call", "", ["if forkChocie.IsValidBlock()"]),
       ("Executer.process", "c.processValidated", "call", "", ["if forkChocie.IsTieBreak()"]),
       ("Executer.process", "c.processValidated", "call", "", ["if forkChocie.IsTieBreak()", "if err != nil"])] := by
  decide +kernel

/-- `deleteBlock` is called by `process` (tie-break) and handed to the synchronisers in `Init`. -/
theorem C04_single_writer_deleteBlock_sites :
    sitesOf "deleteBlock" =
      [("Executer.Init", "c.deleteBlock", "value", "arg of sync.NewSyncer", []),
       ("Executer.process", "c.deleteBlock", "call", "", ["if forkChocie.IsTieBreak()"])] := by
  decide +kernel

/-- the genesis block is processed and the block cache is loaded only by `Init`, and the engine runs `Init` on
its own goroutine before the one `go … consensusExec.Start()`: no loop exists yet. -/
theorem C04_single_writer_genesis_before_loop :
    fnsOf "processGenesisBlock" = ["Executer.Init"] ∧ fnsOf "PrepareCache" = ["Executer.Init"] ∧
    fnsOf "NewSyncer" = ["Executer.Init"] ∧ initBeforeSingleStart = true := by
  decide +kernel

/-- the loop is started once -/
theorem C04_single_writer_one_loop :
    (engineCall "Start").map (fun c => (c.1, c.2.2)) = [("Engine.Start", ["go", "funclit"])] := by
  decide +kernel

/-- the chain is written only by the three functions the C04 model transcribes -/
theorem C04_single_writer_chain_writes :
    fnsOf "AddBlock" = ["Executer.processValidated", "Executer.processGenesisBlock"] ∧
    fnsOf "RemoveBlock" = ["Executer.deleteBlock"] ∧
    (fnsOf "ClearTempBlocks").eraseDups = ["blockSyncer.Sync", "fastSyncer.Sync"] := by
  decide +kernel

/-- the synchronisers keep the two method values in `processor` / `reverter` (set once, in the literals of
`NewSyncer`, never stored to afterwards) and call them only in their own apply / delete loops … -/
theorem C04_single_writer_syncer_callbacks :
    sitesOf "processor" =
      [("blockSyncer.downloadAndProcess", "s.processor", "call", "", ["range downloader.downloaded"]),
       ("fastSyncer.Sync", "s.processor", "call", "", ["range downloadedBlocks"]),
       ("fastSyncer.restoreBlocks", "s.processor", "call", "", ["range blocks"]),
       ("NewSyncer", "processor", "value", "field blockSyncer.processor", []),
       ("NewSyncer", "processor", "value", "field fastSyncer.processor", [])] := by
  decide +kernel

/-- the same for the delete callback -/
theorem C04_single_writer_syncer_reverter :
    sitesOf "reverter" =
      [("blockSyncer.deleteTillCommonBlock", "s.reverter", "call", "", ["for lastBlockHeight != commonBlock.Height"]),
       ("fastSyncer.deleteTillCommonBlock", "s.reverter", "call", "", ["for lastBlockHeight != commonBlock.Height"]),
       ("NewSyncer", "reverter", "value", "field blockSyncer.reverter", []),
       ("NewSyncer", "reverter", "value", "field fastSyncer.reverter", [])] := by
  decide +kernel

/-- … and these loops are reached only from `Syncer.Sync`, which only `process` calls (different-chain case):
the callbacks run inside `process`, on the loop's goroutine. -/
theorem C04_single_writer_sync_inside_process :
    sitesOf "Sync" =
      [("Executer.process", "c.syncer.Sync", "call", "", ["if forkChocie.IsDifferentChain()"]),
       ("Syncer.Sync", "s.fastSyncer.Sync", "call", "", ["if s.shouldFastSync(ctx)", "for "]),
       ("Syncer.Sync", "s.blockSyncer.Sync", "call", "", ["if s.shouldSync(ctx)", "for "])] ∧
    fnsOf "downloadAndProcess" = ["blockSyncer.Sync"] ∧
    fnsOf "deleteTillCommonBlock" = ["blockSyncer.Sync", "fastSyncer.Sync", "fastSyncer.restoreBlocks"] ∧
    fnsOf "restoreBlocks" = ["fastSyncer.Sync"] := by
  decide +kernel

/-- no site of a writer (or of a function reaching one) is inside a `go` statement, a function literal or a
`defer`: no writer is started on, or can escape to, another goroutine. -/
theorem C04_single_writer_no_goroutine : sites.all (fun s => !escapes s) = true := by
  decide +kernel

/-- the functions from which a writer is reachable inside pkg/consensus and pkg/consensus/sync … -/
theorem C04_single_writer_closure :
    closure.map (fun c => c.2.1) =
      ["Executer.Init", "Executer.Start", "Executer.process", "Executer.processValidated",
       "Executer.processGenesisBlock", "Executer.deleteBlock", "blockSyncer.Sync",
       "blockSyncer.downloadAndProcess", "blockSyncer.deleteTillCommonBlock", "fastSyncer.Sync",
       "fastSyncer.deleteTillCommonBlock", "fastSyncer.restoreBlocks", "NewSyncer", "Syncer.Sync"] ∧
    tracked =
      ["AddBlock", "ClearTempBlocks", "NewSyncer", "PrepareCache", "RemoveBlock", "Sync", "deleteBlock",
       "deleteTillCommonBlock", "downloadAndProcess", "process", "processGenesisBlock", "processValidated",
       "processor", "restoreBlocks", "reverter"] :=
  ⟨rfl, rfl⟩

/-- … have exactly two entry points: `Init` (genesis, before the loop exists) and the `Start` loop. -/
theorem C04_single_writer_entry_points : entryPoints = ["Executer.Init", "Executer.Start"] := by
  decide +kernel

/-- the process queue: capacity 200; the loop is the only receiver; `onBlockReceived` and `AddInternal` are the
only senders and each send is a clause of a `select` with a `default` clause (it cannot block); there is no
other reference to the channel. -/
theorem C04_single_writer_queue :
    queueOps =
      [⟨"consensus", "NewExecuter", "make", "make(chan *ProcessContext, 200)", some 200, false, []⟩,
       ⟨"consensus", "Executer.Start", "recv", "<-c.processCh", none, false, ["for ", "select ctx := <-c.processCh"]⟩,
       ⟨"consensus", "Executer.onBlockReceived", "send", "c.processCh <- ctx", none, true, ["select c.processCh <- ctx"]⟩,
       ⟨"consensus", "Executer.AddInternal", "send", "c.processCh <- ctx", none, true, ["select c.processCh <- ctx"]⟩] :=
  rfl

/-- `AddInternal` and `onBlockReceived` only ENQUEUE: besides the send they decode the block, publish the
network-block event, build the context and log "queue is full" in the `default` clause — no other call, in
particular none of a tracked name. -/
theorem C04_single_writer_enqueuers_only_enqueue :
    enqueuerCallees "Executer.AddInternal" =
      [("context.Background", []), ("c.logger.Info", ["select default"])] ∧
    enqueuerCallees "Executer.onBlockReceived" =
      [("blockchain.NewBlock", []), ("event.Data", []), ("panic", ["if err != nil"]), ("c.events.Publish", []),
       ("context.Background", []), ("event.PeerID", []), ("c.logger.Info", ["select default"])] ∧
    enqueuerCalls.all (fun c => !(tracked.contains c.name)) = true := by
  decide +kernel

/-! ### Part 2: a single writer makes every schedule a list -/

/-- **Every concurrent execution is an operation list.**  Enqueuing goroutines offer operations in any
interleaving with the loop (queue of any capacity, offers dropped when it is full); the node state reached is
`Node.run` over the operations the loop took, and these are, in order, a sublist of what was offered. -/
theorem C04_single_writer_schedule_is_run (cd : Codecs) (cfg : Cfg) (slot : Slot) (cap : Nat) (s : St)
    (acts : List (Act Op)) :
    ∃ ops, ops.Sublist (offered acts) ∧
      (exec cap (step cd cfg slot) (init s) acts).applied = ops ∧
      (exec cap (step cd cfg slot) (init s) acts).st = run cd cfg slot s ops := by
  refine ⟨(exec cap (step cd cfg slot) (init s) acts).applied, ?_, rfl, ?_⟩
  · have h := exec_sublist cap (step cd cfg slot) acts (init s) [] (by simp [init])
    have h2 : ((exec cap (step cd cfg slot) (init s) acts).applied).Sublist
        ((exec cap (step cd cfg slot) (init s) acts).applied ++ (exec cap (step cd cfg slot) (init s) acts).queue) :=
      List.sublist_append_left _ _
    simpa using h2.trans h
  · exact exec_st cap (step cd cfg slot) s acts (init s) rfl

/-- any invariant of single operations holds along every schedule -/
theorem C04_single_writer_invariant_any_schedule {σ α : Type} (cap : Nat) (f : σ → α → σ) (P : σ → Prop)
    (s : σ) (h0 : P s) (hstep : ∀ t a, P t → P (f t a)) (acts : List (Act α)) :
    P (exec cap f (init s) acts).st := by
  rw [exec_st cap f s acts (init s) rfl]
  exact List.foldlRecOn _ f h0 fun t ht a _ => hstep t a ht

/-- **The finalized height never decreases along any schedule** of enqueuers and the loop, between any two
points of the schedule — `C04_fin_monotone_prefix` transferred.  `hok`: the inputs of the operations the loop
ends up taking satisfy the hypotheses of the list theorem (block execution results well formed, see
Props/C04.lean). -/
theorem C04_single_writer_fin_monotone_any_schedule (cd : Codecs) (cfg : Cfg) (slot : Slot) (base : Store)
    (baseH : Nat) (hbase : BaseOK cd base baseH) (s : St) (c : Chain) (hR : Ref cd base baseH s c) (cap : Nat)
    (a b : List (Act Op))
    (hok : RunOK cd cfg slot base s c (exec cap (step cd cfg slot) (init s) (a ++ b)).applied) :
    ∃ f f', finOf (exec cap (step cd cfg slot) (init s) a).st.db = some f ∧
      finOf (exec cap (step cd cfg slot) (init s) (a ++ b)).st.db = some f' ∧ f ≤ f' := by
  obtain ⟨more, hm⟩ := exec_applied_prefix cap (step cd cfg slot) b (exec cap (step cd cfg slot) (init s) a)
  rw [← exec_append] at hm
  rw [exec_st cap (step cd cfg slot) s a (init s) rfl, exec_st cap (step cd cfg slot) s (a ++ b) (init s) rfl]
  rw [hm] at hok ⊢
  exact C04_fin_monotone_prefix cd cfg slot base baseH hbase s c _ more hR hok

/-- **Two writers lose an update.**  Goroutine 0 (the loop, block X with `maxHeightPrecommited = 5`) reads the
stored finalized height 5; goroutine 1 (a second goroutine inside `process`, block Y with 6) reads 5 and
writes 6; goroutine 0 writes `max 5 5 = 5`: the stored finalized height goes 5, 6, 5.  Run one after the other
(either order) the same halves never decrease it. -/
theorem C04_single_writer_two_writers_lose_update :
    TwoWriters.trace ⟨5, fun _ => 0⟩ [.read 0, .read 1, .write 1 6, .write 0 5] = [5, 5, 6, 5] ∧
    TwoWriters.trace ⟨5, fun _ => 0⟩ [.read 0, .write 0 5, .read 1, .write 1 6] = [5, 5, 5, 6] ∧
    TwoWriters.trace ⟨5, fun _ => 0⟩ [.read 1, .write 1 6, .read 0, .write 0 5] = [5, 6, 6, 6] := by
  decide +kernel

/-! ### non-vacuity -/

/-- a schedule on the example node of Lemmas/NodeExample.lean: four operations (restart, delete tip, restart, restart)
are offered while the loop takes them with a queue of capacity 2 — one offer is dropped (queue full), the rest is
applied in order. -/
example :
    (exec 2 (step Example.cd Example.cfg Example.slot) (init Example.s0)
      [.offer (Op.restart), .offer (Op.deleteTip true), .offer (Op.restart), .take, .offer (Op.restart), .take, .take, .take]).applied.length = 3 := by
  decide +kernel

example : ∃ f f', finOf (exec 200 (step Example.cd Example.cfg Example.slot) (init Example.s0) []).st.db = some f ∧
    finOf (exec 200 (step Example.cd Example.cfg Example.slot) (init Example.s0)
      ([] ++ ((Example.ops1.map Act.offer) ++ [.take, .take, .take, .take]))).st.db = some f' ∧ f ≤ f' :=
  C04_single_writer_fin_monotone_any_schedule _ _ _ _ _ Example.baseOK _ _ Example.ref0 200 [] _
    (by
      have : (exec 200 (step Example.cd Example.cfg Example.slot) (init Example.s0)
          ([] ++ ((Example.ops1.map Act.offer) ++ [.take, .take, .take, .take]))).applied = Example.ops1 := by
        simp [exec, stepAct, init, Example.ops1]
      rw [this]; exact Example.runOK1)
