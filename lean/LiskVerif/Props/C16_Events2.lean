/-
C16 — the TOPICS of the events of a transaction / hook call (`Model/ExecEvents.lean`, the extension of
`Model/Exec.lean` by the topic list of every logged event; driver `Driver/ExecEvents.lean`, pseudo-property
C16WIDE).

* `C16_events2_refines_exec`: forgetting the topic lists, `executeTransactionT` IS `Exec.executeTransaction`
  on the erased script (store, result code, events with module / name / data / number of topics / height /
  index): every theorem of `Props/C16.lean` applies to the run with topics.
* `C16_event_ntopics_is_length`: the number of topics `Model/Exec.lean` records for an event is the length
  of its topic list.
* `C16_event_topics_exact`: for ALL scripts (hooks and command: any sets, deletes, reads, checks, nested
  store snapshots, events with any topics, then success or failure) the topic list of the i-th event of the
  response is the default topic of the call followed by the topics the caller gave for THAT event: the
  events of the before-hook, then the events of the command (all of them after a success, the
  unrevertible ones after a failure), then the events of the after-hook, then the standard event, which
  carries the default topic only.  No event carries a topic of another event.
* `C16_failed_command_topics`, `C16_block_hook_topics_exact`: the same for a transaction without hooks whose
  command fails, and for the block hooks.
-/
import LiskVerif.Model.ExecEvents
import LiskVerif.Props.C16

open LiskVerif LiskVerif.DiffDB LiskVerif.Exec LiskVerif.ExecEvents

/-! ### specification: the events a piece of module code logs -/

/-- (unrevertible?, caller topics) of the events the code logs, in order: one entry per item that logs an
event and succeeds, up to the first item that returns an error. Which items run and whether they succeed
is decided by `Exec.runItem` (store contents, event validity). -/
def C16Emitted (s : SecSt) : List ItemT → List (Bool × List Bytes)
  | [] => []
  | it :: r =>
    let x := runItem s it.erase
    if x.2 then (if logs it.erase then [(it.unrev, it.callerTopics)] else []) ++ C16Emitted x.1 r
    else []

/-- the topic list of an event logged with caller topics `e.2` under the default topic `dt` -/
def C16WithDefault (dt : Bytes) (e : Bool × List Bytes) : List Bytes := dt :: e.2

/-! ### erasure -/

private theorem runSectionT_step (dt : Bytes) (x : SecStT) (it : ItemT) (r : List ItemT) :
    runSectionT dt x (it :: r) =
      if (runItem x.s it.erase).2 = true then runSectionT dt (runItemT dt x it).1 r
      else ((runItemT dt x it).1, false) := rfl

private theorem runSection_step (s : SecSt) (it : Item) (r : List Item) :
    runSection s (it :: r) =
      if (runItem s it).2 = true then runSection (runItem s it).1 r else ((runItem s it).1, false) := rfl

private theorem runSectionT_erase (dt : Bytes) (items : List ItemT) : ∀ (x : SecStT),
    (runSectionT dt x items).1.s = (runSection x.s (items.map ItemT.erase)).1 ∧
      (runSectionT dt x items).2 = (runSection x.s (items.map ItemT.erase)).2 := by
  induction items with
  | nil => intro x; exact ⟨rfl, rfl⟩
  | cons it r ih =>
    intro x
    rw [runSectionT_step, List.map_cons, runSection_step]
    by_cases h : (runItem x.s it.erase).2 = true
    · rw [if_pos h, if_pos h]; exact ih _
    · rw [if_neg h, if_neg h]; exact ⟨rfl, rfl⟩

/-! ### the logger and the topic lists stay consistent -/

/-- one topic list per logged event, as long as the event's number of topics -/
def C16Consistent (a : List Logged) (t : TLog) : Prop :=
  a.map (·.event.ntopics) = t.map List.length

private theorem consistent_length (a : List Logged) (t : TLog) (h : C16Consistent a t) :
    t.length = a.length := by
  simpa using (congrArg List.length h).symm

private theorem consistent_append (a : List Logged) (ta : TLog) (b : List Logged) (tb : TLog)
    (ha : C16Consistent a ta) (hb : C16Consistent b tb) : C16Consistent (a ++ b) (ta ++ tb) := by
  unfold C16Consistent at *
  rw [List.map_append, List.map_append, ha, hb]

private theorem consistent_take (a : List Logged) (t : TLog) (n : Nat) (h : C16Consistent a t) :
    C16Consistent (a.take n) (t.take n) := by
  unfold C16Consistent at *
  rw [List.map_take, List.map_take, h]

private theorem consistent_drop (a : List Logged) (t : TLog) (n : Nat) (h : C16Consistent a t) :
    C16Consistent (a.drop n) (t.drop n) := by
  unfold C16Consistent at *
  rw [List.map_drop, List.map_drop, h]

private theorem consistent_keep : ∀ (a : List Logged) (t : TLog) (n : Nat), C16Consistent a t →
    C16Consistent (reindexFrom n (a.filter (·.noRevert))) (keepTopics a t)
  | [], [], _, _ => rfl
  | [], _ :: _, _, h => nomatch h
  | _ :: _, [], _, h => nomatch h
  | e :: es, t :: ts, n, h => by
    obtain ⟨h1, h2⟩ := List.cons.inj h
    have ih := fun n => consistent_keep es ts n h2
    cases hn : e.noRevert with
    | true =>
      simp only [List.filter_cons, hn, if_true, reindexFrom, keepTopics]
      exact (congrArg (· :: _) h1).trans (congrArg (_ :: ·) (ih (n + 1)))
    | false =>
      simp only [List.filter_cons, hn, Bool.false_eq_true, if_false, keepTopics]
      exact ih n

private theorem consistent_restore (l : EventLogger) (tl : TLog) (h : C16Consistent l.events tl) :
    C16Consistent (restoreSnapshot l).events (restoreTopics l tl) := by
  unfold restoreSnapshot restoreTopics
  cases l.snapshotIndex with
  | none => exact h
  | some n =>
    exact consistent_append _ _ _ _ (consistent_take _ _ n h) (consistent_keep _ _ n (consistent_drop _ _ n h))

/-- the event an item of `Model/Exec.lean` logs is unrevertible -/
private def itemUnrev : Item → Bool
  | .ev u _ _ => u
  | _ => false

/-- number of caller topics of the event an item logs -/
private def itemExtra : Item → Nat
  | .ev _ n _ => n
  | _ => 0

private theorem unrev_erase (it : ItemT) : it.unrev = itemUnrev it.erase := by
  cases it with
  | plain i => cases i <;> rfl
  | ev u ts d => rfl

private theorem stdTopics_length (n : Nat) : (stdTopics n).length = n := by
  simp [stdTopics]

private theorem extra_erase (it : ItemT) : it.callerTopics.length = itemExtra it.erase := by
  cases it with
  | plain i => cases i <;> simp [ItemT.callerTopics, ItemT.erase, itemExtra, stdTopics_length]
  | ev u ts d => rfl

/-- what one item does to the list of logged events: an item that logs and succeeds appends exactly one
event (revertible or not as the item says, with `1 + extra` topics), every other item leaves the list -/
private theorem runItem_logged (s : SecSt) (it : Item) :
    ∃ new, (runItem s it).1.lg.events = s.lg.events ++ new ∧
      (((runItem s it).2 && logs it) = true → ∃ e, new = [e] ∧ e.noRevert = itemUnrev it ∧
        e.event.ntopics = 1 + itemExtra it) ∧
      (((runItem s it).2 && logs it) = false → new = []) := by
  cases it with
  | pop =>
    refine ⟨[], ?_, by simp [logs], fun _ => rfl⟩
    simp only [runItem]
    split <;> simp
  | get k =>
    simp only [runItem]
    split
    · next lg' h =>
      obtain ⟨e, he, hcr, _⟩ := add_spec h
      exact ⟨[_], he, fun _ => ⟨_, rfl, rfl, by simpa [itemExtra] using hcr.ntopics⟩, by simp [logs]⟩
    · exact ⟨[], by simp, by simp, fun _ => rfl⟩
  | badEv =>
    simp only [runItem]
    split
    · next lg' h =>
      obtain ⟨e, he, hcr, _⟩ := add_spec h
      exact ⟨[_], he, fun _ => ⟨_, rfl, rfl, by simpa [itemExtra] using hcr.ntopics⟩, by simp [logs]⟩
    · exact ⟨[], by simp, by simp, fun _ => rfl⟩
  | ev unrev n d =>
    simp only [runItem]
    split
    · next lg' h =>
      cases unrev with
      | false =>
        simp only [Bool.false_eq_true, if_false] at h
        obtain ⟨e, he, hcr, _⟩ := add_spec h
        exact ⟨[_], he, fun _ => ⟨_, rfl, rfl, by simpa [itemExtra] using hcr.ntopics⟩, by simp [logs]⟩
      | true =>
        simp only [if_true] at h
        obtain ⟨e, he, hcr, _⟩ := addUnrevertible_spec h
        exact ⟨[_], he, fun _ => ⟨_, rfl, rfl, by simpa [itemExtra] using hcr.ntopics⟩, by simp [logs]⟩
    · exact ⟨[], by simp, by simp, fun _ => rfl⟩
  | _ => exact ⟨[], by simp [runItem], by simp [logs], fun _ => rfl⟩

/-! ### module code: topic lists, consistency, the new events -/

private theorem emitted_step (s : SecSt) (it : ItemT) (r : List ItemT) :
    C16Emitted s (it :: r) =
      if (runItem s it.erase).2 = true then
        (if logs it.erase = true then [(it.unrev, it.callerTopics)] else []) ++ C16Emitted (runItem s it.erase).1 r
      else [] := rfl

/-- the event (if any) one item logs -/
private def itemEmits (s : SecSt) (it : ItemT) : List (Bool × List Bytes) :=
  if ((runItem s it.erase).2 && logs it.erase) = true then [(it.unrev, it.callerTopics)] else []

private theorem runItemT_spec (dt : Bytes) (x : SecStT) (it : ItemT)
    (h : C16Consistent x.s.lg.events x.tl) :
    (runItemT dt x it).1.tl = x.tl ++ (itemEmits x.s it).map (C16WithDefault dt) ∧
      C16Consistent (runItemT dt x it).1.s.lg.events (runItemT dt x it).1.tl ∧
      ∃ new, (runItemT dt x it).1.s.lg.events = x.s.lg.events ++ new ∧
        new.map (·.noRevert) = (itemEmits x.s it).map (·.1) := by
  obtain ⟨new, he, h1, h2⟩ := runItem_logged x.s it.erase
  have hs : (runItemT dt x it).1.s = (runItem x.s it.erase).1 := rfl
  have ht : (runItemT dt x it).1.tl =
      if ((runItem x.s it.erase).2 && logs it.erase) = true then x.tl ++ [dt :: it.callerTopics] else x.tl := rfl
  cases hc : ((runItem x.s it.erase).2 && logs it.erase) with
  | true =>
    obtain ⟨e, rfl, hu, hn⟩ := h1 hc
    have hem : itemEmits x.s it = [(it.unrev, it.callerTopics)] := by
      unfold itemEmits; rw [if_pos hc]
    rw [ht, if_pos hc, hs, he, hem]
    refine ⟨rfl, ?_, [e], rfl, ?_⟩
    · refine consistent_append _ _ _ _ h (congrArg (· :: []) ?_)
      show e.event.ntopics = _
      rw [hn, List.length_cons, extra_erase]; omega
    · simp [hu, unrev_erase]
  | false =>
    have hnew := h2 hc
    subst hnew
    have hem : itemEmits x.s it = [] := by
      unfold itemEmits; rw [if_neg (by simp [hc])]
    rw [ht, if_neg (by simp [hc]), hs, he, hem]
    refine ⟨by simp, ?_, [], rfl, rfl⟩
    simpa using h

private theorem runSectionT_spec (dt : Bytes) (items : List ItemT) : ∀ (x : SecStT),
    C16Consistent x.s.lg.events x.tl →
    (runSectionT dt x items).1.tl = x.tl ++ (C16Emitted x.s items).map (C16WithDefault dt) ∧
      C16Consistent (runSectionT dt x items).1.s.lg.events (runSectionT dt x items).1.tl ∧
      ∃ new, (runSectionT dt x items).1.s.lg.events = x.s.lg.events ++ new ∧
        new.map (·.noRevert) = (C16Emitted x.s items).map (·.1) := by
  induction items with
  | nil => intro x h; exact ⟨by simp [runSectionT, C16Emitted], h, [], by simp [runSectionT], rfl⟩
  | cons it r ih =>
    intro x h
    obtain ⟨t1, c1, new1, e1, f1⟩ := runItemT_spec dt x it h
    rw [runSectionT_step, emitted_step]
    by_cases hr : (runItem x.s it.erase).2 = true
    · have hem : itemEmits x.s it = if logs it.erase = true then [(it.unrev, it.callerTopics)] else [] := by
        unfold itemEmits; rw [hr, Bool.true_and]
      rw [if_pos hr, if_pos hr]
      obtain ⟨t2, c2, new2, e2, f2⟩ := ih (runItemT dt x it).1 c1
      have hs : (runItemT dt x it).1.s = (runItem x.s it.erase).1 := rfl
      rw [hs] at t2 e2 f2
      refine ⟨?_, c2, new1 ++ new2, ?_, ?_⟩
      · rw [t2, t1, hem, List.map_append, List.append_assoc]
      · rw [e2, ← hs, e1, List.append_assoc]
      · rw [List.map_append, List.map_append, f1, f2, hem]
    · have hem : itemEmits x.s it = [] := by
        unfold itemEmits
        rw [if_neg]
        simp [hr]
      rw [if_neg hr, if_neg hr]
      refine ⟨?_, c1, new1, e1, ?_⟩
      · rw [t1, hem]
      · rw [f1, hem]

/-! ### the command phase -/

private theorem keepTopics_map (f : Bool × List Bytes → List Bytes) :
    ∀ (E : List (Bool × List Bytes)) (new : List Logged),
      new.map (·.noRevert) = E.map (·.1) → keepTopics new (E.map f) = (E.filter (·.1)).map f := by
  intro E
  induction E with
  | nil => intro new _; cases new <;> simp [keepTopics]
  | cons a r ih =>
    intro new h
    cases new with
    | nil => simp at h
    | cons e es =>
      simp only [List.map_cons, List.cons.injEq] at h
      cases ha : a.1 with
      | true =>
        have he : e.noRevert = true := by rw [h.1, ha]
        simp only [List.map_cons, keepTopics, he, if_true, List.filter_cons, ha, ih es h.2]
      | false =>
        have he : e.noRevert = false := by rw [h.1, ha]
        simp only [List.map_cons, keepTopics, he, Bool.false_eq_true, if_false, List.filter_cons, ha, ih es h.2]

/-- the command's code as `commandPhase` runs it: on the snapshot of the store, with the event snapshot taken -/
def C16CmdStart (st : St) (lg : EventLogger) : SecSt :=
  { st := (snapshot st).1, lg := createSnapshot lg }

/-- the two loggers of the command phase, by its outcome (`commandPhase_of_ok`, `commandPhase_fail`) -/
private theorem commandPhase_lg (st : St) (lg : EventLogger) (cmd : List Item) :
    (commandPhase st lg cmd).lgRan = (runSection (C16CmdStart st lg) cmd).1.lg ∧
      (commandPhase st lg cmd).lg =
        if (commandPhase st lg cmd).success = true then (runSection (C16CmdStart st lg) cmd).1.lg
        else restoreSnapshot (runSection (C16CmdStart st lg) cmd).1.lg := by
  cases h : (cmdRun st lg cmd).2 with
  | true => rw [commandPhase_of_ok st lg cmd h]; exact ⟨rfl, rfl⟩
  | false => rw [commandPhase_fail st lg cmd h]; exact ⟨rfl, rfl⟩

private theorem commandPhaseT_spec (dt : Bytes) (st : St) (lg : EventLogger) (tl : TLog) (cmd : List ItemT)
    (h : C16Consistent lg.events tl) :
    C16Consistent (commandPhaseT dt st lg tl cmd).out.lg.events (commandPhaseT dt st lg tl cmd).tl ∧
      (commandPhaseT dt st lg tl cmd).tl = tl ++
        ((if (commandPhaseT dt st lg tl cmd).out.success = true then C16Emitted (C16CmdStart st lg) cmd
          else (C16Emitted (C16CmdStart st lg) cmd).filter (·.1)).map (C16WithDefault dt)) := by
  have hout : (commandPhaseT dt st lg tl cmd).out = commandPhase st lg (cmd.map ItemT.erase) := rfl
  have htl : (commandPhaseT dt st lg tl cmd).tl =
      if ((commandPhaseT dt st lg tl cmd).out.success || (commandPhaseT dt st lg tl cmd).out.restoreFailed) = true
      then (runSectionT dt { s := C16CmdStart st lg, tl := tl } cmd).1.tl
      else restoreTopics (commandPhaseT dt st lg tl cmd).out.lgRan (runSectionT dt { s := C16CmdStart st lg, tl := tl } cmd).1.tl := rfl
  obtain ⟨t, cns, new, e, f⟩ := runSectionT_spec dt cmd { s := C16CmdStart st lg, tl := tl } h
  have her := (runSectionT_erase dt cmd { s := C16CmdStart st lg, tl := tl }).1
  dsimp only at t cns e f her
  obtain ⟨hran, hlg⟩ := commandPhase_lg st lg (cmd.map ItemT.erase)
  have hrf : (commandPhaseT dt st lg tl cmd).out.restoreFailed = false :=
    commandPhase_restoreFailed st lg (cmd.map ItemT.erase)
  rw [← hout, ← her] at hran hlg
  rw [htl, hrf, Bool.or_false, hlg]
  cases hs : (commandPhaseT dt st lg tl cmd).out.success with
  | true => exact ⟨cns, t⟩
  | false =>
      rw [if_neg Bool.false_ne_true, if_neg Bool.false_ne_true, if_neg Bool.false_ne_true, hran]
      refine ⟨consistent_restore _ _ cns, ?_⟩
      have hidx : (runSectionT dt { s := C16CmdStart st lg, tl := tl } cmd).1.s.lg.snapshotIndex = some lg.events.length := by
        rw [her]
        have := (runSection_grows (cmd.map ItemT.erase) (C16CmdStart st lg)).cfg.snapshotIndex
        rw [← this]
        rfl
      have hlen : tl.length = lg.events.length := consistent_length _ _ h
      have hev : (C16CmdStart st lg).lg.events = lg.events := rfl
      rw [hev] at e
      unfold restoreTopics
      rw [hidx]
      dsimp only
      rw [t, e, List.take_left' hlen, List.drop_left' hlen, List.drop_left' rfl, keepTopics_map _ _ _ f]

/-! ### the events returned -/

private theorem outT_spec : ∀ (a : List Logged) (t : TLog), C16Consistent a t →
    (List.zipWith EventT.mk (a.map (·.event)) t).map (·.event) = a.map (·.event) ∧
      (List.zipWith EventT.mk (a.map (·.event)) t).map (·.topics) = t ∧
      ∀ e ∈ List.zipWith EventT.mk (a.map (·.event)) t, e.event.ntopics = e.topics.length := by
  intro a
  induction a with
  | nil => intro t h; cases t with
    | nil => simp
    | cons _ _ => exact nomatch h
  | cons e es ih => intro t h; cases t with
    | nil => exact nomatch h
    | cons t ts =>
      obtain ⟨h0, hr⟩ := List.cons.inj h
      obtain ⟨h1, h2, h3⟩ := ih ts hr
      refine ⟨by simp [h1], by simp [h2], ?_⟩
      intro x hx
      simp only [List.map_cons, List.zipWith_cons_cons, List.mem_cons] at hx
      rcases hx with hx | hx
      · subst hx; exact h0
      · exact h3 x hx

/-- (unrevertible?, caller topics) of the events of the response of `ExecuteTransaction`, the standard event
excepted: the events of `BeforeCommandExecute`, the events of the command — all of them when it succeeded,
the unrevertible ones when it failed —, the events of `AfterCommandExecute` -/
def C16Kept (st : St) (height : Nat) (tx : TxT) : List (Bool × List Bytes) :=
  let s0 : SecSt := { st := st, lg := newLogger height }
  let p := runSection s0 (tx.pre.map ItemT.erase)
  let c := commandPhase p.1.st p.1.lg (tx.cmd.map ItemT.erase)
  C16Emitted s0 tx.pre ++
    (if c.success = true then C16Emitted (C16CmdStart p.1.st p.1.lg) tx.cmd
      else (C16Emitted (C16CmdStart p.1.st p.1.lg) tx.cmd).filter (·.1)) ++
    C16Emitted { st := c.st, lg := c.lg } tx.post

/-! #### `Exec.executeTransaction` in the same stages as `executeTransactionT` -/

private def finishE (success : Bool) (q : SecSt × Bool) : St × Result × List Event :=
  if !q.2 then (q.1.st, .invalid, q.1.lg.out)
  else
    match add q.1.lg modName stdEventName (stdData success) 0 with
    | none => (q.1.st, .invalid, q.1.lg.out)
    | some lg' => (q.1.st, if success then .ok else .fail, lg'.out)

private def afterCommandE (post : List Item) (c : CmdOut) : St × Result × List Event :=
  if c.restoreFailed then (c.st, .invalid, c.lg.out)
  else finishE c.success (runSection { st := c.st, lg := c.lg } post)

private theorem executeTransaction_stages (st : St) (height : Nat) (tx : Tx) :
    executeTransaction st height tx =
      (let p := runSection { st := st, lg := newLogger height } tx.pre
       if !p.2 then (p.1.st, .invalid, p.1.lg.out)
       else if !tx.cmdKnown then (p.1.st, .invalid, p.1.lg.out)
       else afterCommandE tx.post (commandPhase p.1.st p.1.lg tx.cmd)) := rfl

/-- what a stage lemma says about a result `r` of the run with topics and the result `e` of the run without:
`r` shows the events of a logger `lg` with the consistent topic lists `tl`, forgetting the topics gives `e`,
and unless the result is `invalid` the topic lists are `want` -/
private def StageOk (r : St × Result × List EventT) (e : St × Result × List Event) (want : TLog) : Prop :=
  ∃ (lg : EventLogger) (tl : TLog), r.2.2 = outT lg tl ∧ C16Consistent lg.events tl ∧
    (r.1, r.2.1, lg.out) = e ∧ (r.2.1 ≠ .invalid → tl = want)

private theorem finish_spec (dt : Bytes) (success : Bool) (q : SecStT × Bool)
    (hc : C16Consistent q.1.s.lg.events q.1.tl) :
    StageOk (finishT dt success q) (finishE success (q.1.s, q.2)) (q.1.tl ++ [[dt]]) := by
  obtain ⟨x, b⟩ := q
  dsimp only at hc
  cases b with
  | false => exact ⟨x.s.lg, x.tl, rfl, hc, rfl, fun h => absurd rfl h⟩
  | true =>
    unfold finishT finishE
    simp only [Bool.not_true, Bool.false_eq_true, if_false]
    cases ha : add x.s.lg modName stdEventName (stdData success) 0 with
    | none => exact ⟨x.s.lg, x.tl, rfl, hc, rfl, fun h => absurd rfl h⟩
    | some lg' =>
      obtain ⟨e, he, hcr, _⟩ := add_spec ha
      refine ⟨lg', x.tl ++ [[dt]], rfl, ?_, rfl, fun _ => rfl⟩
      rw [he]
      exact consistent_append _ _ _ _ hc (congrArg (· :: []) (by simpa using hcr.ntopics))

private theorem afterCommand_spec (dt : Bytes) (post : List ItemT) (c : CmdOutT)
    (hc : C16Consistent c.out.lg.events c.tl) :
    StageOk (afterCommandT dt post c) (afterCommandE (post.map ItemT.erase) c.out)
      (c.tl ++ (C16Emitted { st := c.out.st, lg := c.out.lg } post).map (C16WithDefault dt) ++ [[dt]]) := by
  unfold afterCommandT afterCommandE
  cases hrf : c.out.restoreFailed with
  | true => exact ⟨c.out.lg, c.tl, rfl, hc, rfl, fun h => absurd rfl h⟩
  | false =>
    simp only [Bool.false_eq_true, if_false]
    have e := runSectionT_erase dt post { s := { st := c.out.st, lg := c.out.lg }, tl := c.tl }
    obtain ⟨t, cns, -⟩ := runSectionT_spec dt post { s := { st := c.out.st, lg := c.out.lg }, tl := c.tl } hc
    dsimp only at e t
    have := finish_spec dt c.out.success _ cns
    rw [e.1, e.2, t] at this
    exact this

private theorem executeTransactionT_stages (st : St) (height : Nat) (dt : Bytes) (tx : TxT) :
    executeTransactionT st height dt tx =
      (let p := runSectionT dt { s := { st := st, lg := newLogger height }, tl := [] } tx.pre
       if !p.2 then (p.1.s.st, .invalid, outT p.1.s.lg p.1.tl)
       else if !tx.cmdKnown then (p.1.s.st, .invalid, outT p.1.s.lg p.1.tl)
       else afterCommandT dt tx.post (commandPhaseT dt p.1.s.st p.1.s.lg p.1.tl tx.cmd)) := rfl

private theorem etxT_master (st : St) (height : Nat) (dt : Bytes) (tx : TxT) :
    StageOk (executeTransactionT st height dt tx) (executeTransaction st height tx.erase)
      ((C16Kept st height tx).map (C16WithDefault dt) ++ [[dt]]) := by
  -- both runs go through the same stages (before-hooks, command phase, after-hooks, standard event); at each
  -- stage erasing the topics of the run with topics gives the plain run, and the topic lists stay consistent
  have e0 := runSectionT_erase dt tx.pre { s := { st := st, lg := newLogger height }, tl := [] }
  obtain ⟨t0, c0, -⟩ := runSectionT_spec dt tx.pre { s := { st := st, lg := newLogger height }, tl := [] } rfl
  dsimp only at e0 t0 c0
  rw [executeTransactionT_stages, executeTransaction_stages]
  have hpre : tx.erase.pre = tx.pre.map ItemT.erase := rfl
  have hcmd : tx.erase.cmd = tx.cmd.map ItemT.erase := rfl
  have hpost : tx.erase.post = tx.post.map ItemT.erase := rfl
  have hknown : tx.erase.cmdKnown = tx.cmdKnown := rfl
  rw [hpre, hcmd, hpost, hknown]
  dsimp only
  generalize hpT : runSectionT dt { s := { st := st, lg := newLogger height }, tl := [] } tx.pre = pT at e0 t0 c0
  generalize hpE : runSection { st := st, lg := newLogger height } (tx.pre.map ItemT.erase) = pE at e0
  obtain ⟨x, b⟩ := pT
  obtain ⟨y, b'⟩ := pE
  dsimp only at e0 t0 c0
  obtain ⟨e1, e2⟩ := e0
  subst e2
  subst e1
  cases b with
  | false => exact ⟨x.s.lg, x.tl, rfl, c0, rfl, fun h => absurd rfl h⟩
  | true =>
    simp only [Bool.not_true, Bool.false_eq_true, if_false]
    cases hk : tx.cmdKnown with
    | false => exact ⟨x.s.lg, x.tl, rfl, c0, rfl, fun h => absurd rfl h⟩
    | true =>
      simp only [Bool.not_true, Bool.false_eq_true, if_false]
      obtain ⟨cc, ct⟩ := commandPhaseT_spec dt x.s.st x.s.lg x.tl tx.cmd c0
      obtain ⟨lg, tl, h1, h2, h3, h4⟩ := afterCommand_spec dt tx.post _ cc
      refine ⟨lg, tl, h1, h2, ?_, ?_⟩
      · rw [h3]; rfl
      · intro hne
        rw [h4 hne]
        have hout : (commandPhaseT dt x.s.st x.s.lg x.tl tx.cmd).out =
            commandPhase x.s.st x.s.lg (tx.cmd.map ItemT.erase) := rfl
        rw [ct, hout, t0]
        unfold C16Kept
        dsimp only
        rw [hpE]
        simp only [List.map_append, List.append_assoc, List.nil_append]

private theorem out_eq (lg : EventLogger) (tl : TLog) :
    outT lg tl = List.zipWith EventT.mk (lg.events.map (·.event)) tl := rfl

/-- **The run with topics refines `Model/Exec.lean`**: forgetting the topic lists, `executeTransactionT` is
`Exec.executeTransaction` on the erased script — same staged store, same result code, the same events
(module, name, data, number of topics, height, index), for all scripts and all stores. Every theorem of
`Props/C16.lean` (atomicity, which events are kept, consecutive indices) holds for the run with topics. -/
theorem C16_events2_refines_exec (st : St) (height : Nat) (dt : Bytes) (tx : TxT) :
    ((executeTransactionT st height dt tx).1, (executeTransactionT st height dt tx).2.1,
      (executeTransactionT st height dt tx).2.2.map (·.event)) = executeTransaction st height tx.erase := by
  obtain ⟨lg, tl, h1, h2, h3, -⟩ := etxT_master st height dt tx
  rw [h1, out_eq, (outT_spec lg.events tl h2).1]
  exact h3

/-- **The number of topics `Model/Exec.lean` records for an event is the length of its topic list.** -/
theorem C16_event_ntopics_is_length (st : St) (height : Nat) (dt : Bytes) (tx : TxT) :
    ∀ e ∈ (executeTransactionT st height dt tx).2.2, e.event.ntopics = e.topics.length := by
  obtain ⟨lg, tl, h1, h2, -, -⟩ := etxT_master st height dt tx
  rw [h1, out_eq]
  exact (outT_spec lg.events tl h2).2.2

/-- **Event topics are exact**: for ALL scripts — any `BeforeCommandExecute` / command / `AfterCommandExecute`
code (sets, deletes, reads, checks, nested store snapshots, events with any topics, then success or failure) on
any staged store — whenever `ExecuteTransaction` answers OK or Fail, the topic lists of the events of the
response are, in order, `defaultTopic :: (the topics the caller passed for THAT event)` for the kept events
(`C16Kept`: hooks' events; the command's events, only the unrevertible ones after a failure), followed by the
standard event with the default topic alone. In particular no kept event carries a topic of a discarded or
of a later event. -/
theorem C16_event_topics_exact (st : St) (height : Nat) (dt : Bytes) (tx : TxT)
    (hres : (executeTransactionT st height dt tx).2.1 ≠ .invalid) :
    (executeTransactionT st height dt tx).2.2.map (·.topics) =
      (C16Kept st height tx).map (C16WithDefault dt) ++ [[dt]] := by
  obtain ⟨lg, tl, h1, h2, -, h4⟩ := etxT_master st height dt tx
  rw [h1, out_eq, (outT_spec lg.events tl h2).2.1]
  exact h4 hres

/-- the same event by event: the i-th event of the response has index i (`C16_event_indices_consecutive`) and
its topics are the default topic followed by the caller topics of the i-th kept event -/
theorem C16_event_topics_ith (st : St) (height : Nat) (dt : Bytes) (tx : TxT)
    (hres : (executeTransactionT st height dt tx).2.1 ≠ .invalid) (i : Nat)
    (hi : i < (C16Kept st height tx).length) :
    ((executeTransactionT st height dt tx).2.2[i]?).map (·.topics) = some (dt :: ((C16Kept st height tx)[i]).2) := by
  have h := C16_event_topics_exact st height dt tx hres
  have h2 : ((executeTransactionT st height dt tx).2.2.map (·.topics))[i]? =
      ((C16Kept st height tx).map (C16WithDefault dt) ++ [[dt]])[i]? := by rw [h]
  rw [List.getElem?_map] at h2
  rw [h2, List.getElem?_append_left (by simpa using hi), List.getElem?_map, List.getElem?_eq_getElem hi]
  rfl

/-- **A failed command** (transaction of a module without command hooks): exactly the unrevertible events of
the command remain, each with the topics it was logged with, then the standard event. -/
theorem C16_failed_command_topics (st : St) (height : Nat) (dt : Bytes) (cmd : List ItemT)
    (hfail : (executeTransactionT st height dt { cmd := cmd }).2.1 = .fail) :
    (executeTransactionT st height dt { cmd := cmd }).2.2.map (·.topics) =
      ((C16Emitted (C16CmdStart st (newLogger height)) cmd).filter (·.1)).map (C16WithDefault dt) ++ [[dt]] := by
  have hne : (executeTransactionT st height dt { cmd := cmd }).2.1 ≠ .invalid := by rw [hfail]; decide
  rw [C16_event_topics_exact st height dt _ hne]
  have href := C16_events2_refines_exec st height dt { cmd := cmd }
  have hcode : (executeTransaction st height (TxT.erase { cmd := cmd })).2.1 = .fail := by
    rw [← href]; exact hfail
  have hsucc : (commandPhase st (newLogger height) (cmd.map ItemT.erase)).success = false := by
    rw [show TxT.erase { cmd := cmd } = { cmd := cmd.map ItemT.erase } from rfl,
      executeTransaction_nohooks] at hcode
    cases hs : (commandPhase st (newLogger height) (cmd.map ItemT.erase)).success with
    | false => rfl
    | true => rw [hs] at hcode; cases hcode
  unfold C16Kept
  simp only [List.map_nil, runSection, C16Emitted, List.nil_append, List.append_nil, hsucc,
    Bool.false_eq_true, if_false]

/-- **Block hooks** (`BeforeTransactionsExecute` / `AfterTransactionsExecute`): the events of the response carry
the constant topic of the hook followed by the topics the caller passed for THAT event; forgetting the topics
gives `Exec.blockHook`. -/
theorem C16_block_hook_topics_exact (a : App) (dt : Bytes) (items : List ItemT) :
    (blockHookT a dt items).1 = (blockHook a (items.map ItemT.erase)).1 ∧
      (blockHookT a dt items).2.map (·.map (·.event)) = (blockHook a (items.map ItemT.erase)).2 ∧
      ∀ c, a.ctx = some c → ∀ evs, (blockHookT a dt items).2 = some evs →
        evs.map (·.topics) =
          (C16Emitted { st := stOf a c, lg := newLogger c.height } items).map (C16WithDefault dt) := by
  unfold blockHookT blockHook
  cases hc : a.ctx with
  | none => exact ⟨rfl, rfl, fun c h => by cases h⟩
  | some c =>
    dsimp only
    have e := runSectionT_erase dt items { s := { st := stOf a c, lg := newLogger c.height }, tl := [] }
    obtain ⟨t, cns, -⟩ := runSectionT_spec dt items { s := { st := stOf a c, lg := newLogger c.height }, tl := [] } rfl
    dsimp only at e t cns
    rw [e.2]
    cases hr : (runSection { st := stOf a c, lg := newLogger c.height } (items.map ItemT.erase)).2 with
    | false =>
      simp only [Bool.false_eq_true, if_false]
      refine ⟨by rw [e.1], rfl, fun c' _ evs h => by cases h⟩
    | true =>
      simp only [if_true]
      refine ⟨by rw [e.1], ?_, ?_⟩
      · simp only [Option.map_some, out_eq, (outT_spec _ _ cns).1]
        rw [e.1]; rfl
      · intro c' hc' evs h
        simp only [Option.some.injEq] at hc' h
        subst hc' h
        rw [out_eq, (outT_spec _ _ cns).2.1, t, List.nil_append]

/-! ### non-vacuity -/

/-- an unrevertible event with topic `aa01`, a revertible one with topics `bb02`, `cc03`, then the command
fails: the kept event carries `aa01` (and not `bb02`), the standard event follows -/
example :
    (executeTransactionT { store := [] } 7 [0xdd]
        { cmd := [.ev true [[0xaa, 0x01]] [1], .ev false [[0xbb, 0x02], [0xcc, 0x03]] [2], .plain .fail] }).2 =
      (.fail,
        [⟨{ module := "scr", name := "unr", data := [1], ntopics := 2, height := 7, index := 0 },
            [[0xdd], [0xaa, 0x01]]⟩,
         ⟨{ module := "scr", name := "commandExecutionResult", data := [8, 0], ntopics := 1, height := 7, index := 1 },
            [[0xdd]]⟩]) := by
  decide +kernel

/-- the same command succeeding: both events with their own topics, then the standard event -/
example :
    ((executeTransactionT { store := [] } 7 [0xdd]
        { cmd := [.ev true [[0xaa, 0x01]] [1], .ev false [[0xbb, 0x02], [0xcc, 0x03]] [2]] }).2.2.map (·.topics)) =
      [[[0xdd], [0xaa, 0x01]], [[0xdd], [0xbb, 0x02], [0xcc, 0x03]], [[0xdd]]] := by
  decide +kernel
