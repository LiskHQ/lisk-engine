/-
C12 — size independence of the staged state store (model `LiskVerif.Model.DiffDB`).

Nothing the staged store returns, and nothing `Commit` writes, may depend on HOW MUCH the overlay or the
database holds: neither on the number of entries the overlay has cached by reading, nor on the number of
reads that happened before, nor on the number of persisted keys the operations never touch.

1. reads are pure: a list of Get / Range / Iterate calls (any bounds, limits, directions, any number of
   them) leaves the effective map, the snapshots and every later observation unchanged;
2. reads can be inserted anywhere: two histories with the same non-read operations are indistinguishable —
   every later observation, the committed database and the Added / Updated / Deleted lists of the diff agree.
   The proof shows what an implementation may forget: overlay entries that only mirror the persisted value
   (`C12mirror`) are irrelevant, every other entry (in particular a new key staged once: `init = none`,
   `dirty = false`) is not;
   `C12_size_release_mirrors` / `C12_size_release_clean_loses_writes`: releasing mirror entries is
   unobservable, releasing every "not dirty, not deleted" entry is not;
3. unrelated persisted keys: two databases that agree outside a key set `u` give, for every history that
   avoids `u`, literally the same overlay, the same observations, the same diff and the same committed
   values outside `u` — however many keys `u` holds;
4. a staged key survives any number of reads (the instance the large-store harness C12BIG looks for).
5. `Updated` in terms of the history (which keys were written), from the equations of the staged content
   under `Set`, `Del` and reads.

The harness family C12BIG (harness/c12/big.go) runs the real code on stores of 2^k ± small keys against the
sorted-map reference.
-/
import LiskVerif.Props.C12_More

open LiskVerif LiskVerif.DiffDB

/-! ## 0. frames -/

/-- the operations that only read -/
def C12IsRead : Op → Bool
  | .get _ => true
  | .range _ _ _ _ => true
  | .iterate _ _ _ => true
  | _ => false

private theorem read_frame (st : St) (op : Op) (hr : C12IsRead op = true) :
    (step st op).snaps = st.snaps ∧ (step st op).snapCount = st.snapCount :=
  (step_frame st op (by cases op <;> first | rfl | cases hr)).2

/-- a read changes the overlay only by entries that mirror the persisted data -/
private theorem read_mirrors (st : St) (hnd : NoDupKeys st.store) (op : Op) (hr : C12IsRead op = true) :
    Mirrors st.store st.cache (step st op).cache := by
  cases op with
  | get k => exact (get_cache st k).1
  | range s e l r => exact (scan_cache st hnd _ l r).1
  | iterate p l r => exact (scan_cache st hnd _ l r).1
  | _ => cases hr

private theorem read_eff (st : St) (h : C12Inv st) (op : Op) (hr : C12IsRead op = true) (k : Bytes) :
    eff (step st op) k = eff st k := by
  rw [eff, step_store]; exact (read_mirrors st h.nodupS op hr).effC k

private theorem restore_ok (st : St) (id : Nat) : (restore st id).2 = (findSnap st.snaps id).isSome := by
  unfold restore
  cases findSnap st.snaps id <;> rfl

/-- what an operation returns depends on the effective map, the snapshot ids and the counter only -/
private theorem obs_congr (st st' : St) (h : C12Inv st) (h' : C12Inv st')
    (he : ∀ k, eff st k = eff st' k)
    (hsn : ∀ id, (findSnap st.snaps id).isSome = (findSnap st'.snaps id).isSome)
    (hc : st.snapCount = st'.snapCount) (op : Op) : C12obs st op = C12obs st' op := by
  cases op with
  | get k =>
    simp only [C12obs]
    rw [(C12_get_refines st h k).1, (C12_get_refines st' h' k).1, he]
  | range s e l r =>
    simp only [C12obs]
    unfold range
    rw [C12_scan_congr st st' h h' _ (fun k _ => he k)]
  | iterate p l r =>
    simp only [C12obs]
    unfold iterate
    rw [C12_scan_congr st st' h h' _ (fun k _ => he k)]
  | snapshot => simp only [C12obs, snapshot, hc]
  | restore id => simp only [C12obs, restore_ok, hsn]
  | set k v => rfl
  | del k => rfl
  | deleteSnapshot id => rfl

/-! ## 1. reads are pure -/

/-- **Reads are pure.**  Any number of Get / Range / Iterate calls — whatever they cache, however many
entries they visit — leave the effective map, the database, the snapshots and the snapshot counter
unchanged, and every operation afterwards returns what it would have returned before them. -/
theorem C12_size_reads_are_pure (st : St) (h : C12Inv st) (reads : List Op)
    (hr : ∀ op ∈ reads, C12IsRead op = true) :
    (∀ k, eff (run st reads) k = eff st k) ∧ (run st reads).store = st.store ∧
    (run st reads).snaps = st.snaps ∧ (run st reads).snapCount = st.snapCount ∧
    ∀ op, C12obs (run st reads) op = C12obs st op := by
  obtain ⟨hinv, k1, k2, k3⟩ : C12Inv (run st reads) ∧ (∀ k, eff (run st reads) k = eff st k) ∧
      (run st reads).snaps = st.snaps ∧ (run st reads).snapCount = st.snapCount :=
    List.foldlRecOn (motive := fun t : St => C12Inv t ∧ (∀ k, eff t k = eff st k) ∧
      t.snaps = st.snaps ∧ t.snapCount = st.snapCount) reads _ ⟨h, fun _ => rfl, rfl, rfl⟩
    fun t ⟨ht, i1, i2, i3⟩ op ho =>
      ⟨C12_inv_step t ht op, fun k => (read_eff t ht op (hr op ho) k).trans (i1 k),
        (read_frame t op (hr op ho)).1.trans i2, (read_frame t op (hr op ho)).2.trans i3⟩
  refine ⟨k1, run_store st reads, k2, k3, fun op => ?_⟩
  exact obs_congr _ _ hinv h k1 (fun id => by rw [k2]) k3 op

private def szS : Store := [([1], [10]), ([2], [20]), ([1, 0], [30]), ([4], [40])]
private def szSt : St := DiffDB.set (del { store := szS } [4]) [3] [33]
private def szReads : List Op :=
  [.iterate [] (-1) false, .get [2], .range [0] [9] 1 true, .iterate [1] 0 false, .get [7]]
example : (run szSt szReads).cache.length = 5 ∧ szSt.cache.length = 2 ∧
    C12obs (run szSt szReads) (.range [0] [9] (-1) false) = C12obs szSt (.range [0] [9] (-1) false) ∧
    C12obs szSt (.range [0] [9] (-1) false) = .kvs [([1], [10]), ([1, 0], [30]), ([2], [20]), ([3], [33])] := by
  decide +kernel

/-! ## 2. what the overlay may forget: entries that only mirror the persisted value -/

/-- the overlay entry a read leaves behind: the persisted value, no staged change -/
def C12mirror (v : Bytes) : CV := { init := some v, value := v, dirty := false, deleted := false }

/-- the staged content of the overlay under `k`: an entry that only mirrors the persisted value counts as
no entry; every other entry — a new key (`init = none`, even when not `dirty`), an update, a tombstone —
counts as it is. -/
def C12core (s : Store) (c : Cache) (k : Bytes) : Option CV :=
  match clookup c k with
  | none => none
  | some cv =>
    match slookup s k with
    | some v => if cv = C12mirror v then none else some cv
    | none => some cv

/-- mirror entries do not count -/
private theorem core_mirrors {s : Store} {c c' : Cache} (h : Mirrors s c c') (k : Bytes) :
    C12core s c' k = C12core s c k := by
  unfold C12core
  rcases h k with e | ⟨n, v, hs, e⟩
  · rw [e]
  · rw [e, n, hs]; simp [C12mirror]

private theorem core_some_iff {s : Store} {c : Cache} {k : Bytes} {cv : CV} :
    C12core s c k = some cv ↔ clookup c k = some cv ∧ ∀ v, slookup s k = some v → cv ≠ C12mirror v := by
  unfold C12core
  cases clookup c k with
  | none => simp
  | some cv' =>
    cases slookup s k with
    | none => simp
    | some v =>
      by_cases hm : cv' = C12mirror v
      · subst hm; simp; exact fun h => h.symm
      · simp [hm]; intro h; exact h ▸ hm

private theorem core_read (st : St) (hnd : NoDupKeys st.store) (op : Op) (hr : C12IsRead op = true)
    (k' : Bytes) : C12core st.store (step st op).cache k' = C12core st.store st.cache k' :=
  core_mirrors (read_mirrors st hnd op hr) k'

/-- `Set` and `Del` treat an entry that mirrors the persisted value like no entry -/
private theorem entry_core (s : Store) (c : Cache) (k v : Bytes) :
    setEntry (C12core s c k) (slookup s k) v = setEntry (clookup c k) (slookup s k) v ∧
      delEntry (C12core s c k) (slookup s k) = delEntry (clookup c k) (slookup s k) := by
  unfold C12core
  cases clookup c k with
  | none => exact ⟨rfl, rfl⟩
  | some cv =>
    cases slookup s k with
    | none => exact ⟨rfl, rfl⟩
    | some v0 =>
      by_cases hm : cv = C12mirror v0
      · subst hm; simp [setEntry, delEntry, C12mirror]
      · simp [hm]

private theorem core_set (st : St) (k v k' : Bytes) :
    C12core st.store (DiffDB.set st k v).cache k' =
      if k = k' then some (setEntry (C12core st.store st.cache k) (slookup st.store k) v)
      else C12core st.store st.cache k' := by
  rw [set_eq, (entry_core st.store st.cache k v).1]
  by_cases hk : k = k'
  · subst hk
    rw [if_pos rfl]
    refine core_some_iff.mpr ⟨by rw [clookup_cput, if_pos rfl], fun v0 hs hm => ?_⟩
    have hd := congrArg CV.dirty hm
    have hi := congrArg CV.init hm
    unfold setEntry at hd hi
    cases hc : clookup st.cache k with
    | some o => rw [hc] at hd; cases hd
    | none => rw [hc, hs] at hd; cases hd
  · rw [if_neg hk, C12core, C12core, clookup_cput, if_neg hk]

private theorem core_del (st : St) (k k' : Bytes) :
    C12core st.store (del st k).cache k' =
      if k = k' then delEntry (C12core st.store st.cache k) (slookup st.store k)
      else C12core st.store st.cache k' := by
  rw [del_eq, (entry_core st.store st.cache k []).2]
  by_cases hk : k = k'
  · subst hk
    rw [if_pos rfl]
    cases hd : delEntry (clookup st.cache k) (slookup st.store k) with
    | some e =>
      refine core_some_iff.mpr ⟨by rw [clookup_cput, if_pos rfl], fun v0 _ hm => ?_⟩
      have := (delEntry_spec hd).1
      rw [hm] at this; cases this
    | none => rw [C12core, clookup_cerase, if_pos rfl]
  · rw [if_neg hk]
    cases delEntry (clookup st.cache k) (slookup st.store k) <;>
      simp only [C12core, clookup_cput, clookup_cerase, if_neg hk]

/-- the effective value is a function of the staged content and the persisted value -/
private theorem effC_of_core (s : Store) (c : Cache) (k : Bytes) :
    effC s c k = match C12core s c k with
      | some cv => if cv.deleted then none else some cv.value
      | none => slookup s k := by
  unfold effC C12core
  cases hc : clookup c k with
  | none => rfl
  | some cv =>
    simp only
    cases hs : slookup s k with
    | none => rfl
    | some v =>
      simp only
      by_cases hm : cv = C12mirror v
      · subst hm; simp [C12mirror]
      · simp [hm]

private theorem dirty_of_core (s : Store) (c : Cache) (k : Bytes) :
    (∃ cv, clookup c k = some cv ∧ cv.dirty = true) ↔
      (∃ cv, C12core s c k = some cv ∧ cv.dirty = true) := by
  refine exists_congr fun cv => ?_
  rw [core_some_iff]
  refine ⟨fun ⟨hc, hd⟩ => ⟨⟨hc, fun v _ hm => ?_⟩, hd⟩, fun ⟨⟨hc, _⟩, hd⟩ => ⟨hc, hd⟩⟩
  rw [hm] at hd; cases hd

/-! ### the relation "same staged content" between two staged stores over one database -/

/-- two staged stores over the same database whose overlays (current and snapshots) differ only in
entries that mirror the persisted data -/
structure C12SameCore (st st' : St) : Prop where
  store : st'.store = st.store
  cache : ∀ k, C12core st.store st.cache k = C12core st.store st'.cache k
  cnt : st'.snapCount = st.snapCount
  /-- the snapshot tables hold, under every id, overlays with the same staged content -/
  snaps : TabRel (fun c c' => ∀ k, C12core st.store c k = C12core st.store c' k) st.snaps st'.snaps

theorem C12_size_sameCore_refl (st : St) : C12SameCore st st :=
  ⟨rfl, fun _ => rfl, rfl, TabRel.refl (fun _ _ => rfl) _⟩

private theorem sameCore_mk {st st' t t' : St} (hs : t.store = st.store) (hs' : t'.store = st'.store)
    (h : C12SameCore st st')
    (hc : ∀ k, C12core st.store t.cache k = C12core st.store t'.cache k)
    (hcnt : t'.snapCount = t.snapCount) 
    (hsn : TabRel (fun c c' => ∀ k, C12core st.store c k = C12core st.store c' k) t.snaps t'.snaps) :
    C12SameCore t t' :=
  ⟨by rw [hs, hs', h.store], by rw [hs]; exact hc, hcnt, by rw [hs]; exact hsn⟩

/-- a read on one side only keeps the relation -/
private theorem sameCore_read_left {st st' : St} (h : C12SameCore st st') (hnd : NoDupKeys st.store)
    (op : Op) (hr : C12IsRead op = true) : C12SameCore (step st op) st' := by
  obtain ⟨f1, f2⟩ := read_frame st op hr
  refine sameCore_mk (step_store st op) rfl h (fun k => ?_) (by rw [f2]; exact h.cnt)
    (by rw [f1]; exact h.snaps)
  rw [core_read st hnd op hr k]
  exact h.cache k

/-- the same operation on both sides keeps the relation -/
private theorem sameCore_step {st st' : St} (h : C12SameCore st st') (hnd : NoDupKeys st.store)
    (op : Op) : C12SameCore (step st op) (step st' op) := by
  refine sameCore_mk (step_store st op) (step_store st' op) h ?_
    (by rw [snapCount_step, snapCount_step, h.cnt]) ?_
  · -- the overlay
    intro k'
    have rd := fun hr => (core_read st hnd op hr k').trans
      ((h.cache k').trans (h.store ▸ core_read st' (h.store ▸ hnd) op hr k').symm)
    cases op with
    | get k => exact rd rfl
    | range s e l r => exact rd rfl
    | iterate p l r => exact rd rfl
    | set k v =>
      have := core_set st' k v k'
      rw [h.store] at this
      rw [step, step, core_set st k v k', this, h.cache k, h.cache k']
    | del k =>
      have := core_del st' k k'
      rw [h.store] at this
      rw [step, step, core_del st k k', this, h.cache k, h.cache k']
    | snapshot => exact h.cache k'
    | restore id =>
      simp only [step, restore, findSnap_eq_get]
      rcases h.snaps id with ⟨h1, h2⟩ | ⟨c, c', h1, h2, h3⟩ <;> rw [h1, h2]
      · exact h.cache k'
      · exact h3 k'
    | deleteSnapshot id => exact h.cache k'
  · -- the snapshot table
    rw [step_snaps, step_snaps]
    cases op with
    | snapshot => rw [h.cnt]; exact h.snaps.cons _ h.cache
    | restore id =>
      dsimp only
      rw [findSnap_eq_get, ← h.snaps.isSome id]
      split
      · exact h.snaps.erase id
      · exact h.snaps
    | deleteSnapshot id => exact h.snaps.erase id
    | _ => exact h.snaps

/-- a history with its reads removed -/
def C12dropReads (ops : List Op) : List Op := ops.filter (fun op => !C12IsRead op)

/-- **Forgetting reads.**  A history and the same history without its reads end in staged stores with
the same staged content (current overlay and every snapshot), whatever the reads cached. -/
theorem C12_size_sameCore_dropReads (ops : List Op) : ∀ (st st' : St), C12SameCore st st' →
    NoDupKeys st.store → C12SameCore (run st ops) (run st' (C12dropReads ops)) := by
  induction ops with
  | nil => intro st st' h _; exact h
  | cons op r ih =>
    intro st st' h hnd
    have hnd1 : NoDupKeys (step st op).store := by rw [step_store]; exact hnd
    by_cases hr : C12IsRead op = true
    · have : C12dropReads (op :: r) = C12dropReads r := by simp [C12dropReads, List.filter, hr]
      rw [this]
      exact ih (step st op) st' (sameCore_read_left h hnd op hr) hnd1
    · have : C12dropReads (op :: r) = op :: C12dropReads r := by simp [C12dropReads, List.filter, hr]
      rw [this]
      exact ih (step st op) (step st' op) (sameCore_step h hnd op) hnd1

/-- what two staged stores with the same staged content agree on -/
structure C12Indist (a b : St) : Prop where
  obs : ∀ op, C12obs a op = C12obs b op
  effEq : ∀ k, eff a k = eff b k
  added : ∀ k, k ∈ (commit a).2.added ↔ k ∈ (commit b).2.added
  updated : ∀ k i, (k, i) ∈ (commit a).2.updated ↔ (k, i) ∈ (commit b).2.updated
  deleted : ∀ k i, (k, i) ∈ (commit a).2.deleted ↔ (k, i) ∈ (commit b).2.deleted
  committed : (commit a).1.store.Perm (commit b).1.store

theorem C12_size_sameCore_indist (a b : St) (h : C12SameCore a b) (ha : C12Inv a) (hb : C12Inv b) :
    C12Indist a b := by
  have he : ∀ k, eff a k = eff b k := by
    intro k
    unfold eff
    rw [h.store, effC_of_core, effC_of_core, h.cache k]
  have hsn : ∀ id, (findSnap a.snaps id).isSome = (findSnap b.snaps id).isSome := by
    intro id
    rw [findSnap_eq_get]
    exact h.snaps.isSome id
  refine ⟨obs_congr a b ha hb he hsn h.cnt.symm, he, ?_, ?_, ?_, ?_⟩
  · intro k
    rw [C12_diff_added_iff a ha, C12_diff_added_iff b hb, h.store, he k]
  · intro k i
    rw [C12_diff_updated_iff a ha, C12_diff_updated_iff b hb, h.store, he k,
      dirty_of_core a.store a.cache k, dirty_of_core a.store b.cache k, h.cache k]
  · intro k i
    rw [C12_diff_deleted_iff a ha, C12_diff_deleted_iff b hb, h.store, he k]
  · exact SameMap.perm
      (fun k => (C12_commit_exact a ha k).trans ((he k).trans (C12_commit_exact b hb k).symm))
      (nodup_commit a ha.nodupS) (nodup_commit b hb.nodupS)

/-- **Reads can be inserted anywhere.**  Two histories with the same writes, deletes and snapshot
operations — differing in any number of Get / Range / Iterate calls at any positions — are
indistinguishable: every later operation returns the same, the effective maps agree, `Commit` writes the
same database and returns the same Added / Updated / Deleted lists. -/
theorem C12_size_reads_insertion (st : St) (h : C12Inv st) (ops ops' : List Op)
    (hsame : C12dropReads ops = C12dropReads ops') : C12Indist (run st ops) (run st ops') := by
  have i0 := C12_cache_invariant st h (C12dropReads ops)
  have i1 := C12_cache_invariant st h ops
  have i2 := C12_cache_invariant st h ops'
  have s1 := C12_size_sameCore_dropReads ops st st (C12_size_sameCore_refl st) h.nodupS
  have s2 := C12_size_sameCore_dropReads ops' st st (C12_size_sameCore_refl st) h.nodupS
  rw [← hsame] at s2
  have a := C12_size_sameCore_indist _ _ s1 i1 i0
  have b := C12_size_sameCore_indist _ _ s2 i2 i0
  refine ⟨fun op => (a.obs op).trans (b.obs op).symm, fun k => (a.effEq k).trans (b.effEq k).symm,
    fun k => (a.added k).trans (b.added k).symm, fun k i => (a.updated k i).trans (b.updated k i).symm,
    fun k i => (a.deleted k i).trans (b.deleted k i).symm, a.committed.trans b.committed.symm⟩

private def szOps : List Op := [.set [5] [55], .snapshot, .del [1], .set [2] [20], .restore 0, .set [6] []]
private def szOpsR : List Op :=
  [.iterate [] (-1) true, .set [5] [55], .get [5], .snapshot, .range [0] [9] 2 false, .del [1],
   .set [2] [20], .iterate [1] (-1) false, .restore 0, .get [1], .set [6] [], .iterate [] 0 false]
example : C12dropReads szOpsR = C12dropReads szOps := by rfl
example : (commit (run { store := szS } szOpsR)).2.added = [[6], [5]] ∧
    (commit (run { store := szS } szOps)).2.added = [[6], [5]] ∧
    (run { store := szS } szOpsR).cache.length = 6 ∧ (run { store := szS } szOps).cache.length = 2 := by
  decide +kernel

/-! ### releasing overlay entries -/

/-- dropping the overlay entries selected by `p` (a bounded read cache releases entries) -/
def C12release (p : Bytes → CV → Bool) (c : Cache) : Cache := c.filter (fun e => !p e.1 e.2)

private theorem clookup_filter (c : Cache) (hnd : NoDupKeys c) (q : Bytes × CV → Bool) (k : Bytes) :
    clookup (c.filter q) k = match clookup c k with
      | some cv => if q (k, cv) = true then some cv else none
      | none => none := by
  rw [clookup_eq_get, AList.get_filter hnd]
  cases AList.get c k <;> rfl

private theorem clookup_release {c : Cache} (hnd : NoDupKeys c) {p : Bytes → CV → Bool} {k : Bytes} {cv : CV}
    (hl : clookup (C12release p c) k = some cv) : clookup c k = some cv ∧ p k cv = false := by
  unfold C12release at hl
  rw [clookup_filter c hnd] at hl
  cases hc : clookup c k with
  | none => rw [hc] at hl; cases hl
  | some cv' =>
    rw [hc] at hl
    simp only at hl
    by_cases hq : p k cv' = true
    · simp [hq] at hl
    · simp [hq] at hl; subst hl; exact ⟨rfl, by simpa using hq⟩

/-- **What a bounded read cache may release.**  Dropping from the overlay any set of entries that only
mirror the persisted value (`init = value =` the stored value, not dirty, not deleted) — at any time, any
number of them — is unobservable: every operation returns the same afterwards and `Commit` writes the
same database and the same diff. -/
theorem C12_size_release_mirrors (st : St) (h : C12Inv st) (p : Bytes → CV → Bool)
    (hp : ∀ k cv, p k cv = true → ∃ v, slookup st.store k = some v ∧ cv = C12mirror v) :
    C12Inv { st with cache := C12release p st.cache } ∧
      C12Indist st { st with cache := C12release p st.cache } := by
  have hinv : C12Inv { st with cache := C12release p st.cache } := by
    refine ⟨h.nodupS, ⟨nodup_filter _ _ h.cacheOk.nodupC, ?_, ?_, ?_⟩, h.snapsOk⟩
    · intro k cv hl; exact h.cacheOk.initOk k cv (clookup_release h.cacheOk.nodupC hl).1
    · intro k cv hl; exact h.cacheOk.delOk k cv (clookup_release h.cacheOk.nodupC hl).1
    · intro k cv hl; exact h.cacheOk.cleanOk k cv (clookup_release h.cacheOk.nodupC hl).1
  refine ⟨hinv, C12_size_sameCore_indist _ _ ⟨rfl, fun k => ?_, rfl, (C12_size_sameCore_refl st).snaps⟩ h hinv⟩
  simp only
  unfold C12core C12release
  rw [clookup_filter _ h.cacheOk.nodupC]
  cases hc : clookup st.cache k with
  | none => rfl
  | some cv =>
    simp only
    by_cases hq : p k cv = true
    · obtain ⟨v, hs, hm⟩ := hp k cv hq
      subst hm
      simp [hq, hs]
    · simp [hq]

/-- the criterion "no staged change" read as "not dirty and not deleted" -/
def C12cleanEntry : Bytes → CV → Bool := fun _ cv => !cv.dirty && !cv.deleted

/-- **… and what it may not.**  An entry that is neither dirty nor deleted is NOT necessarily a mirror of
the persisted data: a key the database does not hold, staged once, has `init = none`, `dirty = false`.
Releasing by that criterion loses the write: `Get` no longer finds the key and `Commit` does not add it. -/
theorem C12_size_release_clean_loses_writes :
    ∃ st : St, C12Inv st ∧
      (DiffDB.get st [1]).2 = some [5] ∧ (commit st).2.added = [[1]] ∧
      (DiffDB.get { st with cache := C12release C12cleanEntry st.cache } [1]).2 = none ∧
      (commit { st with cache := C12release C12cleanEntry st.cache }).2.added = [] := by
  refine ⟨DiffDB.set { store := [] } [1] [5], ?_, ?_⟩
  · exact (C12_set_refines _ (C12_inv_init [] (by simp [NoDupKeys])) [1] [5]).2
  · decide +kernel

example : C12release (fun k cv => decide (slookup szS k = some cv.value) && cv == C12mirror cv.value)
    (run szSt szReads).cache = szSt.cache := by decide +kernel

/-! ## 3. persisted keys the history never touches -/

/-- the operation stays away from the keys selected by `u`: point operations use other keys, scans
select other keys only -/
def C12Avoids (u : Bytes → Bool) : Op → Prop
  | .get k => u k = false
  | .set k _ => u k = false
  | .del k => u k = false
  | .range s e _ _ => ∀ k, inRange s e k = true → u k = false
  | .iterate p _ _ => ∀ k, hasPrefix k p = true → u k = false
  | _ => True

/-- two databases that hold the same values outside `u` (inside `u` they may hold anything, any number
of keys) -/
def C12AgreeOff (u : Bytes → Bool) (s s' : Store) : Prop := ∀ k, u k = false → slookup s k = slookup s' k

/-- appending keys inside `u` — any number of them — does not disturb the agreement outside `u` -/
theorem agreeOff_append (u : Bytes → Bool) (s t : Store) (ht : ∀ e ∈ t, u e.1 = true) :
    C12AgreeOff u s (s ++ t) := by
  intro k hk
  induction s with
  | nil =>
    induction t with
    | nil => rfl
    | cons e r ih =>
      have he : e.1 ≠ k := fun h => by rw [← h, ht e List.mem_cons_self] at hk; cases hk
      simp only [List.nil_append, slookup, if_neg he] at ih ⊢
      exact ih fun e he => ht e (List.mem_cons_of_mem _ he)
  | cons e r ih => simp only [List.cons_append, slookup, ih]

private theorem avoids_reads {u : Bytes → Bool} {op : Op} (h : C12Avoids u op) {k : Bytes}
    (hk : op.reads k) : u k = false := by
  cases op with
  | get k0 => exact hk ▸ h
  | set k0 v => exact hk ▸ h
  | del k0 => exact hk ▸ h
  | range s e l r => exact h k hk
  | iterate p l r => exact h k hk
  | _ => exact hk.elim

/-- what an operation returns depends on the database only through the keys it looks at -/
private theorem obs_store_congr (st : St) (s' : Store) (hs : NoDupKeys st.store) (hs' : NoDupKeys s')
    (op : Op) (h : ∀ k, op.reads k → slookup st.store k = slookup s' k) :
    C12obs { st with store := s' } op = C12obs st op := by
  cases op with
  | get k => simp only [C12obs, get_store_congr st s' k (h k rfl)]
  | range s e l r => simp only [C12obs, range, scan_store_congr st s' hs hs' _ h l r]
  | iterate p l r => simp only [C12obs, iterate, scan_store_congr st s' hs hs' _ h l r]
  | restore id => simp only [C12obs, restore_ok]
  | _ => rfl

/-- **Unrelated persisted keys.**  Let two databases hold the same values outside a key set `u`; inside
`u` one of them may hold any number of additional keys.  For every history that stays away from `u`
(point operations on other keys, scans whose bounds / prefix select other keys only — e.g. all work in
one module store while another module store holds 10^5 accounts) the two staged stores have literally
the same overlay, snapshots and counter; every further operation away from `u` returns the same;
`Commit` returns the same diff, and the committed databases again agree outside `u`. -/
theorem C12_size_unrelated_keys (u : Bytes → Bool) (s s' : Store) (hs : NoDupKeys s) (hs' : NoDupKeys s')
    (hag : C12AgreeOff u s s') (ops : List Op) (hops : ∀ op ∈ ops, C12Avoids u op) :
    (run { store := s' } ops).cache = (run { store := s } ops).cache ∧
    (run { store := s' } ops).snaps = (run { store := s } ops).snaps ∧
    (run { store := s' } ops).snapCount = (run { store := s } ops).snapCount ∧
    (∀ op, C12Avoids u op → C12obs (run { store := s' } ops) op = C12obs (run { store := s } ops) op) ∧
    (commit (run { store := s' } ops)).2 = (commit (run { store := s } ops)).2 ∧
    C12AgreeOff u (commit (run { store := s } ops)).1.store (commit (run { store := s' } ops)).1.store := by
  have h : run { store := s' } ops = { run { store := s } ops with store := s' } :=
    run_store_congr s' hs' ops { store := s } hs fun op hop k hk => hag k (avoids_reads (hops op hop) hk)
  have e1 : (run { store := s } ops).store = s := run_store _ ops
  have i1 := C12_cache_invariant _ (C12_inv_init s hs) ops
  have i2 := C12_cache_invariant _ (C12_inv_init s' hs') ops
  refine ⟨by rw [h], by rw [h], by rw [h], fun op hop => ?_, by rw [commit_diff, commit_diff, h],
    fun k hk => ?_⟩
  · rw [h]
    exact obs_store_congr _ s' (by rw [e1]; exact hs) hs' op fun k hk => by
      rw [e1]; exact hag k (avoids_reads hop hk)
  · rw [C12_commit_exact _ i1 k, C12_commit_exact _ i2 k, h, eff, eff, effC, effC, e1, hag k hk]

private def szU : Bytes → Bool := fun k => hasPrefix k [9]
private def szBig : Store := szS ++ [([9, 0], [1]), ([9, 1], [2]), ([9, 2], []), ([9, 3, 3], [4])]
private def szOpsU : List Op :=
  [.set [2] [21], .iterate [1] (-1) false, .snapshot, .del [4], .range [0] [8] 2 true, .restore 0, .set [7] [70]]
example : (commit (run { store := szBig } szOpsU)).2 = (commit (run { store := szS } szOpsU)).2 ∧
    (commit (run { store := szS } szOpsU)).2 = { added := [[7]], updated := [([2], [20])], deleted := [] } ∧
    C12obs (run { store := szBig } szOpsU) (.range [0] [8] (-1) false) =
      .kvs [([1], [10]), ([1, 0], [30]), ([2], [21]), ([4], [40]), ([7], [70])] := by decide +kernel
example : C12AgreeOff szU szS szBig := agreeOff_append szU szS _ (by decide)

/-! ## 4. a staged key survives any number of reads -/

/-- **A staged write is never lost to reads.**  After `Set k v`, any number of reads of any size later
(scans over the whole database, point reads of other keys): `Get k` returns `v`, `Commit`
writes `v` under `k`, and when the database did not hold `k` the diff lists it as Added — whether the key
was staged once or many times. -/
theorem C12_size_staged_key_survives_reads (st : St) (h : C12Inv st) (k v : Bytes) (reads : List Op)
    (hr : ∀ op ∈ reads, C12IsRead op = true) :
    (DiffDB.get (run (DiffDB.set st k v) reads) k).2 = some v ∧
    slookup (commit (run (DiffDB.set st k v) reads)).1.store k = some v ∧
    (slookup st.store k = none → k ∈ (commit (run (DiffDB.set st k v) reads)).2.added) := by
  obtain ⟨hset, hinv⟩ := C12_set_refines st h k v
  obtain ⟨p1, p2, _, _, _⟩ := C12_size_reads_are_pure (DiffDB.set st k v) hinv reads hr
  have hinv' := C12_cache_invariant _ hinv reads
  have he : eff (run (DiffDB.set st k v) reads) k = some v := by rw [p1 k, hset k]; simp
  refine ⟨by rw [(C12_get_refines _ hinv' k).1, he], by rw [C12_commit_exact _ hinv' k, he], fun hs => ?_⟩
  rw [C12_diff_added_iff _ hinv', he, p2]
  have : (DiffDB.set st k v).store = st.store := step_store st (.set k v)
  rw [this]
  exact ⟨hs, rfl⟩

example : (DiffDB.get (run (DiffDB.set { store := szS } [3] [33]) szReads) [3]).2 = some [33] ∧
    (commit (run (DiffDB.set { store := szS } [3] [33]) szReads)).2.added = [[3]] := by decide +kernel

/-! ## 5. `Updated` in terms of the history (histories without `RestoreSnapshot`) -/

/-- the staged content under `k` is dirty -/
private def CoreDirty (st : St) (k : Bytes) : Prop :=
  ∃ cv, C12core st.store st.cache k = some cv ∧ cv.dirty = true

private theorem setEntry_dirty (o : Option CV) {old : Option Bytes} (v : Bytes) (h : old ≠ none) :
    (setEntry o old v).dirty = true := by
  unfold setEntry
  cases o with
  | some _ => rfl
  | none =>
    cases old with
    | none => exact absurd rfl h
    | some _ => rfl

/-- for a key of the database: `Set k` makes its staged content dirty, and no other operation changes
that flag — a read leaves the staged content alone, `Del` leaves a tombstone that keeps the flag -/
private theorem coreDirty_step (st : St) (h : C12Inv st) (op : Op) (hop : C12NoRestore op) (k : Bytes)
    (hk : slookup st.store k ≠ none) :
    CoreDirty (step st op) k ↔ (∃ v, op = .set k v) ∨ CoreDirty st k := by
  have same : (C12core st.store (step st op).cache k = C12core st.store st.cache k) →
      (∀ v, op ≠ .set k v) → (CoreDirty (step st op) k ↔ (∃ v, op = .set k v) ∨ CoreDirty st k) := by
    intro hc hne
    rw [CoreDirty, step_store, hc]
    exact ⟨Or.inr, fun h => h.elim (fun ⟨v, hv⟩ => absurd hv (hne v)) id⟩
  cases op with
  | get k0 => exact same (core_read st h.nodupS _ rfl k) nofun
  | range s e l rv => exact same (core_read st h.nodupS _ rfl k) nofun
  | iterate p l rv => exact same (core_read st h.nodupS _ rfl k) nofun
  | snapshot => exact same rfl nofun
  | deleteSnapshot id => exact same rfl nofun
  | restore id => exact hop.elim
  | set k0 v0 =>
    by_cases hk0 : k0 = k
    · subst hk0
      rw [CoreDirty, step_store, step, core_set, if_pos rfl]
      exact ⟨fun _ => Or.inl ⟨v0, rfl⟩, fun _ => ⟨_, rfl, setEntry_dirty _ _ hk⟩⟩
    · exact same (by rw [step, core_set, if_neg hk0]) fun v hv => hk0 (Op.set.inj hv).1
  | del k0 =>
    by_cases hk0 : k0 = k
    · subst hk0
      rw [CoreDirty, step_store, step, core_del, if_pos rfl]
      refine ⟨fun ⟨e, he, hd⟩ => Or.inr ?_, fun hx => hx.elim (fun ⟨v, hv⟩ => nomatch hv) fun ⟨cv, hc, hd⟩ => ?_⟩
      · rw [(delEntry_spec he).2] at hd
        cases hc : C12core st.store st.cache k0 with
        | none => rw [hc] at hd; cases hd
        | some cv => rw [hc] at hd; exact ⟨cv, hc, hd⟩
      · have hi := (h.cacheOk.entry (core_some_iff.mp hc).1).1
        rw [hc, delEntry]
        cases hci : cv.init with
        | none => exact absurd (hi ▸ hci) hk
        | some i => exact ⟨_, rfl, hd⟩
    · exact same (by rw [step, core_del, if_neg hk0]) nofun

private theorem coreDirty_run (ops : List Op) (k : Bytes) : ∀ st : St, C12Inv st →
    (∀ op ∈ ops, C12NoRestore op) → slookup st.store k ≠ none →
    (CoreDirty (run st ops) k ↔ (∃ v, Op.set k v ∈ ops) ∨ CoreDirty st k) := by
  induction ops with
  | nil => exact fun _ _ _ _ => ⟨Or.inr, fun h => h.elim (fun ⟨_, hv⟩ => nomatch hv) id⟩
  | cons op r ih =>
    intro st hinv hops hk
    rw [show run st (op :: r) = run (step st op) r from rfl,
      ih _ (C12_inv_step st hinv op) (fun o ho => hops o (List.mem_cons_of_mem _ ho))
        (by rw [step_store]; exact hk),
      coreDirty_step st hinv op (hops op List.mem_cons_self) k hk]
    simp only [List.mem_cons, exists_or, ← or_assoc]
    rw [or_comm (a := ∃ v, Op.set k v ∈ r)]
    simp only [eq_comm]

/-- **`Updated`, in terms of the history.**  For a history without `RestoreSnapshot` on a fresh
overlay: `(k, i)` is in `Updated` iff `k` held `i` before, is present after, and the history contains
a `Set k _` — *rewritten*, not *changed*: writing back the old value, or delete-then-set, counts; a
key that was only read, scanned or cached does not. -/
theorem C12_diff_updated_history (s : Store) (hs : NoDupKeys s) (ops : List Op)
    (hops : ∀ op ∈ ops, C12NoRestore op) (k i : Bytes) :
    (k, i) ∈ (commit (run { store := s } ops)).2.updated ↔
      slookup s k = some i ∧ (eff (run { store := s } ops) k).isSome = true ∧
        ∃ v, Op.set k v ∈ ops := by
  have hinv : C12Inv (run { store := s } ops) := C12_cache_invariant _ (C12_inv_init s hs) ops
  have hst : (run { store := s } ops).store = s := run_store _ ops
  rw [C12_diff_updated_iff _ hinv, hst, dirty_of_core s]
  refine and_congr_right fun h1 => and_congr_right fun _ => ?_
  have := coreDirty_run ops k { store := s } (C12_inv_init s hs) hops (by rw [h1]; nofun)
  rw [CoreDirty, hst] at this
  rw [this]
  exact ⟨fun h => h.elim id fun ⟨_, hc, _⟩ => (nomatch hc), Or.inl⟩
