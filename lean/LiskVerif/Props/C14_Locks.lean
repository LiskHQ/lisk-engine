/-
C14 — lock discipline of the transaction pool, on skeletons REGENERATED from the Go source.

`tools/skelgen` (group `txpool`) extracts on every check run the synchronisation skeleton of every
method of `TransactionPool` (pkg/txpool/txpool.go) and of the per-sender list `addressTransactions`
(pkg/txpool/txlist.go) into `Gen/SkeletonsTxPool.lean`: lock / unlock operations, calls of other
extracted methods, goroutine spawns, channel operations, `Wait`, accesses to the guarded fields, with
the control structure. The obligations below are evaluated on that file, so a change to the locking of
the pool (a helper that locks again, a lock taken in the other order, a lock dropped around an index,
a channel operation moved under the lock, a construct skelgen does not understand) breaks a theorem
here. This file is the tie of the lock clause to the source; the hand-written `fixedTable` of
`Model/TxPool.lean` with `C14_no_reentrant_lock` / `C14_original_self_deadlock` (Props/C14.lean) is the
counterexample for the original code.

Criteria (Model/Locks.lean, computed by the abstract interpreter `an` with calls inlined through the
regenerated table; sound for all paths by Lemmas/LocksSound.lean):
  (1) `noReentrantAcquire`  no mutex is acquired (Lock or RLock) while the goroutine already holds it;
  (2) `lockOrderOk`         acquisitions follow the order TransactionPool.mutex < addressTransactions.mutex;
  (3) `noBlockingInCS`      no channel operation / `Wait` while a mutex is held;
  (4) `locksetOk`           allTransactions / perAccount / feePriorityQueue are read under the pool
                            mutex and written under its write lock; a list's transactions / processables
                            are accessed under the list mutex;
  `wellFormed`              no unknown construct, releases match, loops are lock-balanced, every
                            function and every spawned goroutine ends holding nothing.
All sender lists share one skeleton mutex name, so (1)/(2) also forbid holding two list mutexes at
once (stronger than needed). `addressTransactions.nonces` is not in the guard table: `Size()` reads it
without the list mutex (its writers hold the pool write lock *and* the list mutex, its readers one of
the two — not expressible as a single guard).

Calls that LEAVE the package are not dropped: skelgen (group field `external`) emits every call of a
method of the event emitter (`t.events.*`: Publish / Emit send on unbuffered subscriber channels, the
other methods wait for the emitter mutex), of the application interface `ABI` and of the network
interface `p2pConnection` as `blockingCall "Type.method"` — a possibly blocking operation, exactly
like a channel operation for criterion (3). On the CURRENT source criterion (3) does not hold as such:
`Add` calls `ABI.VerifyTransaction` (through `verifyTransactions`) and `p2pConnection.Publish` with the
pool write lock held (`C14_gen_blocking_calls_under_pool_lock` — the precise set, visible as a fact).
Criterion (3) is therefore stated with exactly these two exceptions (`blockingOnly`): any OTHER possibly
blocking operation reached with the pool mutex held — `EventEmitter.Publish` moved into `Add`, a channel
send, a `Wait` — and any blocking operation at all under a list mutex breaks
`C14_gen_no_blocking_under_lock` / `C14_gen_blocking_calls_under_pool_lock`. Deadlock freedom is proved
for the table in which the two operations are ordinary calls that return (`cfgE`), as for
`Peer.Disconnect` in C17.
-/
import LiskVerif.Lemmas.LockCriteria
import LiskVerif.Gen.SkeletonsTxPool

open LiskVerif LiskVerif.Locks

namespace C14Locks

/-- configuration regenerated from the source: call table, guards, lock order -/
def cfg : Cfg := ⟨Gen.SkeletonsTxPool.table, Gen.SkeletonsTxPool.guards, Gen.SkeletonsTxPool.lockOrder⟩

/-- the regenerated entry points (name, skeleton): every method except the "caller holds the lock" helpers -/
def entryTable : Table :=
  Gen.SkeletonsTxPool.table.filter (fun e => Gen.SkeletonsTxPool.entries.contains e.1)

/-- the methods the property names must be present in the regenerated table (a rename must not make
the quantified obligations vacuous) -/
def required : List String :=
  ["TransactionPool.Add", "TransactionPool.Remove", "TransactionPool.remove", "TransactionPool.Get",
   "TransactionPool.GetAll", "TransactionPool.GetProcessable", "TransactionPool.reorg",
   "TransactionPool.Start", "TransactionPool.onTransactionAnnoucement",
   "TransactionPool.HandleRPCEndpointGetTransaction",
   "addressTransactions.Get", "addressTransactions.GetProcessables", "addressTransactions.GetUnprocessables",
   "addressTransactions.Add", "addressTransactions.Remove", "addressTransactions.Promote",
   "addressTransactions.GetPromotable"]

def poolMu : String := "TransactionPool.mutex"
def listMu : String := "addressTransactions.mutex"
/-- the call into the application (`t.abi.VerifyTransaction`, interface `ABI`) -/
def abiVerify : String := "ABI.VerifyTransaction"
/-- the gossip announcement (`t.conn.Publish`, interface `p2pConnection`) -/
def connPublish : String := "p2pConnection.Publish"

/-- the operations outside the package that the CURRENT source calls with the pool write lock held -/
def underPoolLock : List String := [abiVerify, connPublish]

/-- the regenerated configuration in which these two operations are ordinary calls that return -/
def cfgE : Cfg :=
  ⟨Gen.SkeletonsTxPool.table.eraseBlockingCalls underPoolLock, Gen.SkeletonsTxPool.guards, Gen.SkeletonsTxPool.lockOrder⟩

def entryTableE : Table := cfgE.tbl.filter (fun e => Gen.SkeletonsTxPool.entries.contains e.1)

/-- one skeleton with the two operations erased, as it stands in `cfgE.tbl`: `200` is the fuel
`Table.eraseBlockingCalls` (Model/Locks) erases with -/
def erased (s : Skel) : Skel := Locks.eraseBlockingCalls underPoolLock 200 s

/-- the entry points that reach `Add` (and with it the two operations under the pool lock) -/
def reachAdd : List String := ["TransactionPool.Add", "TransactionPool.onTransactionAnnoucement"]

/-- every possibly blocking operation (channel operation, `Wait`, `blockingCall`) the analysis sees
with a non-empty lock set, together with that lock set — calls inlined, spawned goroutines included -/
def blockedUnder (c : Cfg) (s : Skel) : List (String × Held) :=
  match analyse c.tbl fuelDefault s with
  | none => [("analysis failed", [])]
  | some (obs, _) => obs.foldl (fun acc o =>
      match o with
      | (h, .block w) => if h.isEmpty then acc else insertD (w, h) acc
      | _ => acc) []

/-- what `Add` does under the pool write lock on the current source -/
def addBlockedUnder : List (String × Held) :=
  [(abiVerify, [(poolMu, Mode.W)]), (connPublish, [(poolMu, Mode.W)])]

/-- some possibly blocking operation named `w` occurs in the skeleton (syntactic, nested). The fuel bounds
length plus nesting of what is walked; beyond it nothing is found or (`countAcq`) counted, so `= false` and
`== 0` speak of skeletons within the bound only (`50` below; the longest skeleton of this table needs 25). -/
def mentionsBlocking (w : String) : Nat → List Act → Bool
  | 0, _ => false
  | _ + 1, [] => false
  | n + 1, a :: k =>
    (match a with
     | .blockingCall f => f == w
     | .go b => mentionsBlocking w n b
     | .loop b => mentionsBlocking w n b
     | .choice alts => alts.any (mentionsBlocking w n)
     | _ => false) || mentionsBlocking w n k

/-- number of lock acquisitions in a skeleton (syntactic, nested) -/
def countAcq : Nat → List Act → Nat
  | 0, _ => 0
  | _ + 1, [] => 0
  | n + 1, a :: k =>
    (match a with
     | .lock _ => 1
     | .rlock _ => 1
     | .go b => countAcq n b
     | .loop b => countAcq n b
     | .choice alts => (alts.map (countAcq n)).sum
     | _ => 0) + countAcq n k

/-- `blockedUnder` lists nothing exactly when criterion (3) holds -/
theorem blockedUnder_isEmpty (c : Cfg) (s : Skel) : (blockedUnder c s).isEmpty = noBlockingInCS c s := by
  unfold blockedUnder noBlockingInCS
  cases analyse c.tbl fuelDefault s with
  | none => rfl
  | some r =>
    obtain ⟨obs, ends⟩ := r
    show (List.foldl _ [] obs).isEmpty = (([] : List (String × Held)).isEmpty && obs.all obsNoBlocking)
    generalize ([] : List (String × Held)) = acc
    induction obs generalizing acc with
    | nil => simp
    | cons o obs ih =>
      rw [List.foldl_cons, ih, List.all_cons, ← Bool.and_assoc]
      congr 1
      obtain ⟨h, a⟩ := o
      cases a with
      | block w =>
        -- a blocking operation under a lock is recorded, and `insertD` never returns the empty list
        cases hh : h.isEmpty <;> simp [obsNoBlocking, hh, isEmpty_insertD]
      | _ => simp [obsNoBlocking]

/-- **every regenerated entry point satisfies every criterion** — the evaluation of the analysis over the
regenerated table of which the obligations below are components and instances. On the table as
regenerated, for exactly the regenerated entry list: well-formedness and criteria (1), (2), (4); criterion
(3) up to the two operations of `underPoolLock` with the pool mutex alone held; criterion (3) as such for
every entry point that does not reach `Add`; and what `Add` and its caller do under a lock is exactly the
two operations under the pool write lock. The table in which the two operations are calls that return is
only looked at: no possibly blocking operation of these names is left in it (`erased_entries_ok`). -/
theorem all_entries_ok :
    cfgE.tbl.all (fun e => actsAll (noneNamed underPoolLock) 200 e.2) = true ∧               -- .1
    entryTable.map (·.1) = Gen.SkeletonsTxPool.entries ∧                                     -- .2.1
    entryTable.all (fun e => C20.criteriaExceptBlocking cfg e.2) = true ∧                    -- .2.2.1
    entryTable.all (fun e => blockingOnly cfg underPoolLock [poolMu] e.2) = true ∧           -- .2.2.2.1
    entryTable.all (fun e => reachAdd.contains e.1 || noBlockingInCS cfg e.2) = true ∧       -- .2.2.2.2.1
    blockedUnder cfg Gen.SkeletonsTxPool.TransactionPool_Add = addBlockedUnder ∧             -- .2.2.2.2.2.1
    blockedUnder cfg Gen.SkeletonsTxPool.TransactionPool_onTransactionAnnoucement = addBlockedUnder := by  -- .2.2.2.2.2.2
  decide +kernel

/-- with the two operations taken as calls that return (`cfgE`): all criteria, for exactly the regenerated
entry list — erasing them only removes observations (`table_criteria_erase`) -/
theorem erased_entries_ok :
    entryTableE.all (fun e => criteria cfgE e.2) = true ∧
    entryTableE.map (·.1) = Gen.SkeletonsTxPool.entries :=
  have h := all_entries_ok
  ⟨table_criteria_erase (c := cfg) h.1 h.2.2.1 h.2.2.2.1,
    (map_fst_eraseBlockingCalls_filter _ _ fun f => Gen.SkeletonsTxPool.entries.contains f).trans h.2.1⟩

variable {f : String} {s : Skel}

/-- an entry point that does not reach `Add` satisfies all criteria on the table as regenerated -/
theorem entry_criteria (h : (f, s) ∈ entryTable) (hf : reachAdd.contains f = false) :
    criteria cfg s = true :=
  -- `(… :)` is elaborated before the goal is looked at: unifying the `p a` of `Tables.all_mem` with a goal about
  -- a regenerated skeleton first makes the unifier unfold the skeleton
  criteria_iff.mpr ⟨(Tables.all_mem all_entries_ok.2.2.1 h :),
    by simpa only [hf, Bool.false_or] using Tables.all_mem all_entries_ok.2.2.2.2.1 h⟩

theorem entry_criteriaE (h : (f, s) ∈ entryTable) : criteria cfgE (erased s) = true :=
  (Tables.all_mem erased_entries_ok.1 (mem_eraseBlockingCalls_filter (names := underPoolLock) h :) :)

theorem entry_blockingOnly (h : (f, s) ∈ entryTable) : blockingOnly cfg underPoolLock [poolMu] s = true :=
  (Tables.all_mem all_entries_ok.2.2.2.1 h :)

/-- the entry points named by the property are found in the table where they stand; nothing is evaluated -/
theorem named_mem :
    ("TransactionPool.Add", Gen.SkeletonsTxPool.TransactionPool_Add) ∈ entryTable ∧                -- .1
    ("TransactionPool.onTransactionAnnoucement",
      Gen.SkeletonsTxPool.TransactionPool_onTransactionAnnoucement) ∈ entryTable ∧                 -- .2.1
    ("TransactionPool.Remove", Gen.SkeletonsTxPool.TransactionPool_Remove) ∈ entryTable ∧          -- .2.2.1
    ("TransactionPool.remove", Gen.SkeletonsTxPool.TransactionPool_remove) ∈ entryTable ∧          -- .2.2.2.1
    ("TransactionPool.reorg", Gen.SkeletonsTxPool.TransactionPool_reorg) ∈ entryTable ∧            -- .2.2.2.2.1
    ("TransactionPool.Start", Gen.SkeletonsTxPool.TransactionPool_Start) ∈ entryTable := by        -- .2.2.2.2.2
  simp only [entryTable, Gen.SkeletonsTxPool.table, Gen.SkeletonsTxPool.entries, List.mem_filter, List.mem_cons,
    List.contains_eq_mem, true_or, or_true, decide_true, and_self]

end C14Locks

/-! ## obligations over the regenerated skeletons -/

/-- **(1) no re-entrant acquisition**: no txpool entry point, with its calls inlined to any depth and
including the goroutines it spawns, acquires `TransactionPool.mutex` (in either mode) or a list mutex
while already holding it. This is the property the original `Add → evictUnprocessable → RLock` /
`→ remove → Lock` chain violated. -/
theorem C14_gen_no_reentrant_lock :
    C14Locks.entryTable.all (fun e => noReentrantAcquire C14Locks.cfg e.2) = true :=
  Tables.all_imp C14Locks.all_entries_ok.2.2.1 fun _ h => (criteriaExceptBlocking_iff.mp h).2.1

/-- **(2) lock order**: the pool mutex is never acquired while a list mutex is held. -/
theorem C14_gen_lock_order :
    Gen.SkeletonsTxPool.lockOrder = ["TransactionPool.mutex", "addressTransactions.mutex"] ∧
    C14Locks.entryTable.all (fun e => lockOrderOk C14Locks.cfg e.2) = true :=
  ⟨rfl, Tables.all_imp C14Locks.all_entries_ok.2.2.1 fun _ h => (criteriaExceptBlocking_iff.mp h).2.2.1⟩

/-- **all criteria on every regenerated entry point** — quantified over the regenerated table, so a
method added to `TransactionPool` / `addressTransactions` is covered automatically. Criteria (1), (2),
(4) and well-formedness hold on the table as regenerated; criterion (3) holds with
`ABI.VerifyTransaction` / `p2pConnection.Publish` taken as calls that return (`cfgE`), and on the
table as regenerated these two under the pool mutex are the only exceptions to it. -/
theorem C14_gen_all_entries_ok :
    C14Locks.entryTableE.all (fun e => criteria C14Locks.cfgE e.2) = true ∧
    C14Locks.entryTableE.map (·.1) = Gen.SkeletonsTxPool.entries ∧
    C14Locks.entryTable.all (fun e =>
      wellFormed C14Locks.cfg e.2 && noReentrantAcquire C14Locks.cfg e.2 && lockOrderOk C14Locks.cfg e.2
        && locksetOk C14Locks.cfg e.2
        && blockingOnly C14Locks.cfg C14Locks.underPoolLock [C14Locks.poolMu] e.2) = true :=
  have h := C14Locks.all_entries_ok
  ⟨C14Locks.erased_entries_ok.1, C14Locks.erased_entries_ok.2, Tables.all_and.mpr ⟨h.2.2.1, h.2.2.2.1⟩⟩

/-- the quantification is not vacuous: every method the property names is a regenerated entry point,
and the helpers documented "the caller must hold t.mutex" are in the call table (inlined) -/
theorem C14_gen_required_methods_present :
    C14Locks.required.all (fun f => (C14Locks.entryTable.find f).isSome) = true ∧
    ["TransactionPool.removeLocked", "TransactionPool.evictUnprocessable", "TransactionPool.evictProcessable",
     "TransactionPool.rebuildFeePriorityQueue", "addressTransactions.remove"].all
      (fun f => (Gen.SkeletonsTxPool.table.find f).isSome && !Gen.SkeletonsTxPool.entries.contains f) = true := by
  decide +kernel

/-- no configured function contains a construct the extractor does not understand, and every one
(with the goroutines it spawns) ends holding no lock -/
theorem C14_gen_no_unknown_construct :
    C14Locks.entryTable.all (fun e => wellFormed C14Locks.cfg e.2) = true :=
  Tables.all_imp C14Locks.all_entries_ok.2.2.1 fun _ h => (criteriaExceptBlocking_iff.mp h).1

/-- **(3) no possibly blocking operation inside a critical section**, except the two calls `Add`
makes on the current source: in every regenerated entry point a channel operation, a `Wait` or a call
of a possibly blocking operation outside the package (any method of the event emitter, of `ABI`, of
`p2pConnection`) happens with NO lock held, or it is `ABI.VerifyTransaction` / `p2pConnection.Publish`
and exactly the pool mutex is held; nothing possibly blocking ever happens under a list mutex; every
entry point that does not reach `Add` satisfies criterion (3) without exception — in particular
`reorg` waits for its workers and calls the verifier only after releasing the read lock, `Start`
receives from the ticker holding nothing, and `onTransactionAnnoucement` publishes `EventTransactionNew`
to the subscribers AFTER `Add` has returned (`EventEmitter.Publish` sends on unbuffered channels: under
the pool lock a subscriber that calls the pool, or that stopped receiving, would block the pool for ever). -/
theorem C14_gen_no_blocking_under_lock :
    C14Locks.entryTable.all (fun e =>
      blockingOnly C14Locks.cfg C14Locks.underPoolLock [C14Locks.poolMu] e.2) = true ∧
    C14Locks.entryTable.all (fun e => noBlockingHolding C14Locks.cfg C14Locks.listMu e.2) = true ∧
    C14Locks.entryTable.all (fun e =>
      C14Locks.reachAdd.contains e.1 || noBlockingInCS C14Locks.cfg e.2) = true ∧
    C14Locks.entryTableE.all (fun e => noBlockingInCS C14Locks.cfgE e.2) = true :=
  have h := C14Locks.all_entries_ok
  -- the list mutex is not the pool mutex, under which alone the two operations are admitted
  ⟨h.2.2.2.1, Tables.all_imp h.2.2.2.1 fun _ => noBlockingHolding_of_blockingOnly (by decide), h.2.2.2.2.1,
    Tables.all_imp C14Locks.erased_entries_ok.1 fun _ hc => (criteria_iff.mp hc).2⟩

/-- **FACT (visible, candidate finding): what `Add` calls with the pool write lock held.**
On the CURRENT source the set of possibly blocking operations the analysis sees inside a critical
section of `TransactionPool.Add` (calls inlined) is EXACTLY
  * `ABI.VerifyTransaction` (`verifyTransactions` → `t.abi.VerifyTransaction`, a call into the
    application) with exactly the pool mutex held for writing, and
  * `p2pConnection.Publish` (`t.conn.Publish(t.ctx, …)`, the gossip announcement) likewise;
the only other entry point with any such operation is `onTransactionAnnoucement`, through its call of
`Add`; every other entry point has none. While either call runs, every other pool operation (`Get*`,
`Remove`, the `reorg` round) waits: the pool is live only as long as the application answers and the
p2p layer's `Publish` returns (`C14_gen_deadlock_free` is about `cfgE`, where the two are calls that return). Criterion (3) as
such is false for `Add`; `verifyTransactions` has a path calling the application and `Add` itself
contains the `Publish` call. The emitter's `Publish` is NOT in the set: `onTransactionAnnoucement` calls it holding nothing.
(This theorem breaks when the set changes in either direction — a new blocking call under the pool
lock, or one of the two moved out of the critical section; in the second case shrink `underPoolLock`.) -/
theorem C14_gen_blocking_calls_under_pool_lock :
    C14Locks.blockedUnder C14Locks.cfg Gen.SkeletonsTxPool.TransactionPool_Add = C14Locks.addBlockedUnder ∧
    C14Locks.blockedUnder C14Locks.cfg Gen.SkeletonsTxPool.TransactionPool_onTransactionAnnoucement
      = C14Locks.addBlockedUnder ∧
    C14Locks.entryTable.all (fun e =>
      C14Locks.reachAdd.contains e.1 || (C14Locks.blockedUnder C14Locks.cfg e.2).isEmpty) = true ∧
    noBlockingInCS C14Locks.cfg Gen.SkeletonsTxPool.TransactionPool_Add = false ∧
    (∃ p ∈ bodyPaths Gen.SkeletonsTxPool.table 1 40 Gen.SkeletonsTxPool.TransactionPool_verifyTransactions,
      p.contains (Prim.block C14Locks.abiVerify) = true) ∧
    C14Locks.mentionsBlocking C14Locks.connPublish 50 Gen.SkeletonsTxPool.TransactionPool_Add = true ∧
    C14Locks.mentionsBlocking "EventEmitter.Publish" 50
      Gen.SkeletonsTxPool.TransactionPool_onTransactionAnnoucement = true ∧
    C14Locks.mentionsBlocking "EventEmitter.Publish" 50 Gen.SkeletonsTxPool.TransactionPool_Add = false :=
  have ⟨hnb, hadd, hann⟩ := C14Locks.all_entries_ok.2.2.2.2
  ⟨hadd, hann,
    Tables.all_imp hnb fun e he => by rwa [C14Locks.blockedUnder_isEmpty],
    by rw [← C14Locks.blockedUnder_isEmpty, hadd]; rfl,
    by decide +kernel⟩

theorem C14_gen_add_ok :
    criteria C14Locks.cfgE (C14Locks.erased Gen.SkeletonsTxPool.TransactionPool_Add) = true ∧
    blockingOnly C14Locks.cfg C14Locks.underPoolLock [C14Locks.poolMu]
      Gen.SkeletonsTxPool.TransactionPool_Add = true :=
  ⟨C14Locks.entry_criteriaE C14Locks.named_mem.1, C14Locks.entry_blockingOnly C14Locks.named_mem.1⟩
theorem C14_gen_remove_ok :
    criteria C14Locks.cfg Gen.SkeletonsTxPool.TransactionPool_Remove = true ∧
    criteria C14Locks.cfg Gen.SkeletonsTxPool.TransactionPool_remove = true :=
  ⟨C14Locks.entry_criteria C14Locks.named_mem.2.2.1 (by decide +kernel),
    C14Locks.entry_criteria C14Locks.named_mem.2.2.2.1 (by decide +kernel)⟩
theorem C14_gen_getters_ok :
    [Gen.SkeletonsTxPool.TransactionPool_Get, Gen.SkeletonsTxPool.TransactionPool_GetAll,
     Gen.SkeletonsTxPool.TransactionPool_GetProcessable,
     Gen.SkeletonsTxPool.TransactionPool_HandleRPCEndpointGetTransaction].all (criteria C14Locks.cfg) = true := by
  decide +kernel
theorem C14_gen_reorg_ok :
    criteria C14Locks.cfg Gen.SkeletonsTxPool.TransactionPool_reorg = true ∧
    criteria C14Locks.cfg Gen.SkeletonsTxPool.TransactionPool_Start = true :=
  ⟨C14Locks.entry_criteria C14Locks.named_mem.2.2.2.2.1 (by decide +kernel),
    C14Locks.entry_criteria C14Locks.named_mem.2.2.2.2.2 (by decide +kernel)⟩
theorem C14_gen_announcement_ok :
    criteria C14Locks.cfgE (C14Locks.erased Gen.SkeletonsTxPool.TransactionPool_onTransactionAnnoucement) = true ∧
    blockingOnly C14Locks.cfg C14Locks.underPoolLock [C14Locks.poolMu]
      Gen.SkeletonsTxPool.TransactionPool_onTransactionAnnoucement = true :=
  ⟨C14Locks.entry_criteriaE C14Locks.named_mem.2.1, C14Locks.entry_blockingOnly C14Locks.named_mem.2.1⟩
theorem C14_gen_txlist_ok :
    [Gen.SkeletonsTxPool.addressTransactions_Get, Gen.SkeletonsTxPool.addressTransactions_Size,
     Gen.SkeletonsTxPool.addressTransactions_GetProcessables,
     Gen.SkeletonsTxPool.addressTransactions_GetUnprocessables, Gen.SkeletonsTxPool.addressTransactions_Add,
     Gen.SkeletonsTxPool.addressTransactions_Remove, Gen.SkeletonsTxPool.addressTransactions_Promote,
     Gen.SkeletonsTxPool.addressTransactions_GetPromotable].all (criteria C14Locks.cfg) = true := by
  decide +kernel

/-- the helpers called with the pool write lock held take no pool lock themselves (the fix of the
self-deadlock), and `Add` / `remove` take it exactly once -/
theorem C14_gen_locked_helpers_take_no_pool_lock :
    [Gen.SkeletonsTxPool.TransactionPool_removeLocked, Gen.SkeletonsTxPool.TransactionPool_evictUnprocessable,
     Gen.SkeletonsTxPool.TransactionPool_evictProcessable,
     Gen.SkeletonsTxPool.TransactionPool_rebuildFeePriorityQueue].all (fun s => C14Locks.countAcq 50 s == 0) = true ∧
    C14Locks.countAcq 50 Gen.SkeletonsTxPool.TransactionPool_Add = 1 ∧
    C14Locks.countAcq 50 Gen.SkeletonsTxPool.TransactionPool_remove = 1 := by
  decide

/-! ## deadlock and race freedom for any number of goroutines -/

/-- **Deadlock freedom of the pool** (by `table_deadlock_free`, Lemmas/LockCriteria),
`ABI.VerifyTransaction` and `p2pConnection.Publish` being calls that return: any number of
goroutines, each running a path of a regenerated txpool entry point (calls inlined to any depth, loops
iterated up to any bound `u`) or of a goroutine spawned by one (the `reorg` workers), under any
schedule and Go `sync.RWMutex` semantics with writer preference: every reachable state either lets some
thread take a step that needs no communication partner, or has every thread finished or parked at a
communication (ticker / `Wait` / a call of the emitter, the application or the network) holding no lock
and requesting none; no reachable state is deadlocked. -/
theorem C14_gen_deadlock_free (u : Nat) (ps : List Path)
    (hps : ∀ p ∈ ps, ∃ e ∈ C14Locks.entryTableE, IsThreadPath C14Locks.cfgE.tbl u e.2 p)
    (st : State) (hr : Reachable (initState ps) st) :
    deadlocked st = false ∧ (quiescent st = true ∨ ∃ i, canStepInternal st i = true) :=
  table_deadlock_free _ _ C14Locks.erased_entries_ok.1 u ps hps st hr

/-- **Race freedom on the pool indexes** (by `table_race_free`): under the same
hypotheses no two goroutines are ever simultaneously about to perform conflicting accesses to
`allTransactions`, `perAccount`, `feePriorityQueue` or to a list's `transactions` / `processables`. -/
theorem C14_gen_race_free (u : Nat) (ps : List Path)
    (hps : ∀ p ∈ ps, ∃ e ∈ C14Locks.entryTableE, IsThreadPath C14Locks.cfgE.tbl u e.2 p)
    (st : State) (hr : Reachable (initState ps) st) (i j : Nat) : raceAt st i j = false :=
  table_race_free _ _ C14Locks.erased_entries_ok.1 u ps hps st hr i j

/-! ## a subscriber notification under the pool lock (the class of change criterion (3) excludes) -/

namespace C14Locks.Notify

/-- `Add` publishing `EventTransactionNew` itself, before its deferred unlock runs (what skelgen emits
when `t.events.Publish(...)` is moved from `onTransactionAnnoucement` into `Add`): the regenerated
skeleton of `Add` with the emitter call placed before the final `return` -/
def add : Skel :=
  Gen.SkeletonsTxPool.TransactionPool_Add.dropLast ++ [.blockingCall "EventEmitter.Publish", .ret]

def table : Table := ("TransactionPool.Add", add) :: Gen.SkeletonsTxPool.table
def cfg : Cfg := ⟨table, Gen.SkeletonsTxPool.guards, Gen.SkeletonsTxPool.lockOrder⟩

/-- the publishing `Add`: write lock, the emitter's send to the subscriber, unlock -/
def addPath : Path := [.acq poolMu, .block "EventEmitter.Publish", .rel poolMu]
/-- the subscriber's handler calls `pool.Get` before it receives the next event -/
def subscriberPath : Path := [.racq poolMu, .rrel poolMu, .block "subscriber receives"]

end C14Locks.Notify

/-- such an `Add` is rejected by the obligation above: `EventEmitter.Publish` is reached with the pool
write lock held and is not one of the two admitted operations, for `Add` and for every caller of it
(the regenerated `Add` passes the same check) -/
theorem C14_gen_notify_under_lock_rejected :
    blockingOnly C14Locks.Notify.cfg C14Locks.underPoolLock [C14Locks.poolMu] C14Locks.Notify.add = false ∧
    blockingOnly C14Locks.Notify.cfg C14Locks.underPoolLock [C14Locks.poolMu]
      Gen.SkeletonsTxPool.TransactionPool_onTransactionAnnoucement = false ∧
    (C14Locks.blockedUnder C14Locks.Notify.cfg C14Locks.Notify.add).contains
      ("EventEmitter.Publish", [(C14Locks.poolMu, Mode.W)]) = true ∧
    blockingOnly C14Locks.cfg C14Locks.underPoolLock [C14Locks.poolMu]
      Gen.SkeletonsTxPool.TransactionPool_Add = true :=
  -- the regenerated `Add` is an entry of the table; the rest is one evaluation over the changed table
  and_assoc.mp (and_assoc.mp ⟨by decide +kernel, C14Locks.entry_blockingOnly C14Locks.named_mem.1⟩)

/-- … and it does block the pool: `Add` holds the write lock and waits for the subscriber to receive,
the subscriber's handler waits for the read lock (`pool.Get`) before it receives again — a reachable
state in which no goroutine can take a step on its own, although neither is finished nor parked
outside a critical section (the state the deadlock-freedom theorem excludes) -/
theorem C14_gen_notify_under_lock_blocks_pool :
    ∃ st, run (initState [C14Locks.Notify.addPath, C14Locks.Notify.subscriberPath]) [0, 0] = some st ∧
      quiescent st = false ∧ (List.range st.length).all (fun i => !canStepInternal st i) = true := by
  refine ⟨_, rfl, ?_, ?_⟩ <;> decide

/-! ## the original code in the same skeleton language (counterexample) -/

namespace C14Locks.Orig

/-- `evictUnprocessable` before the fix (pkg/txpool/txpool.go at fbd875b^): called by `Add` with the
write lock held, it read-locks the pool mutex and then calls the locking `remove` -/
def evictUnprocessable : Skel :=
  [.rlock "TransactionPool.mutex",
   .read "TransactionPool.perAccount",
   .loop [.call "addressTransactions.GetUnprocessables"],
   .runlock "TransactionPool.mutex",
   .choice [[.ret], []],
   .call "TransactionPool.remove",
   .ret]

def evictProcessable : Skel :=
  [.rlock "TransactionPool.mutex",
   .read "TransactionPool.perAccount",
   .loop [.call "addressTransactions.GetProcessables"],
   .runlock "TransactionPool.mutex",
   .choice [[.ret], []],
   .call "TransactionPool.remove",
   .ret]

/-- the original `remove`: locks and does the work itself -/
def remove : Skel :=
  [.lock "TransactionPool.mutex",
   .deferUnlock "TransactionPool.mutex",
   .read "TransactionPool.allTransactions",
   .choice [[.ret], []],
   .read "TransactionPool.allTransactions",
   .del "TransactionPool.allTransactions",
   .read "TransactionPool.perAccount",
   .call "addressTransactions.Remove",
   .call "addressTransactions.Size",
   .choice [[.read "TransactionPool.perAccount", .del "TransactionPool.perAccount"], []],
   .read "TransactionPool.allTransactions",
   .write "TransactionPool.feePriorityQueue",
   .ret]

/-- the original table: the three functions above shadow the regenerated ones (`Table.find` returns
the first match); the lock skeleton of `Add` itself is the regenerated one -/
def table : Table :=
  [("TransactionPool.evictUnprocessable", evictUnprocessable),
   ("TransactionPool.evictProcessable", evictProcessable),
   ("TransactionPool.remove", remove)] ++ Gen.SkeletonsTxPool.table

def cfg : Cfg := ⟨table, Gen.SkeletonsTxPool.guards, Gen.SkeletonsTxPool.lockOrder⟩

/-- `Add` on a full pool in the original code: Lock, then RLock of the same mutex -/
def addPath : Path :=
  [.acq "TransactionPool.mutex", .read "TransactionPool.allTransactions", .read "TransactionPool.feePriorityQueue",
   .read "TransactionPool.allTransactions", .read "TransactionPool.allTransactions",
   .racq "TransactionPool.mutex"]

end C14Locks.Orig

/-- the original `Add` violates criterion (1) — the write lock is held when `evictUnprocessable`
read-locks and `remove` locks the same mutex — while the functions that do not go through the evict
helpers pass; the same check on the regenerated (fixed) skeleton of `Add` passes -/
theorem C14_gen_original_add_reenters :
    noReentrantAcquire C14Locks.Orig.cfg Gen.SkeletonsTxPool.TransactionPool_Add = false ∧
    noReentrantAcquire C14Locks.Orig.cfg C14Locks.Orig.remove = true ∧
    noReentrantAcquire C14Locks.Orig.cfg Gen.SkeletonsTxPool.TransactionPool_reorg = true ∧
    noReentrantAcquire C14Locks.cfg Gen.SkeletonsTxPool.TransactionPool_Add = true :=
  and_assoc.mp (and_assoc.mp ⟨by decide +kernel,
    (criteriaExceptBlocking_iff.mp (Tables.all_mem C14Locks.all_entries_ok.2.2.1 C14Locks.named_mem.1 :)).2.1⟩)

/-- … and a single goroutine running that `Add` gets stuck: after `Lock()` it reaches `RLock()` of the
mutex it holds exclusively and can never step again (self-deadlock, no second goroutine needed) -/
theorem C14_gen_original_add_self_deadlock :
    ∃ st, run (initState [C14Locks.Orig.addPath]) [0, 0, 0, 0, 0, 0] = some st ∧ deadlocked st = true := by
  refine ⟨_, rfl, ?_⟩
  decide

/-! ## non-vacuity -/

/-- complete paths of the regenerated `Add` and `Get` exist, and (next) one of a `reorg` worker goroutine — through
the table as regenerated; `C14_gen_deadlock_free` speaks of `cfgE.tbl`, where the paths of `Add` lack the two
erased operations -/
example :
    (∃ p ∈ bodyPaths Gen.SkeletonsTxPool.table 1 60 Gen.SkeletonsTxPool.TransactionPool_Add,
      p.contains (.acq "addressTransactions.mutex") = true) ∧
    (∃ p ∈ bodyPaths Gen.SkeletonsTxPool.table 0 20 Gen.SkeletonsTxPool.TransactionPool_Get,
      p.contains (.racq "TransactionPool.mutex") = true ∧ p.contains (.rrel "TransactionPool.mutex") = true) := by
  decide +kernel

example : ∃ b p, Spawned Gen.SkeletonsTxPool.table 1 Gen.SkeletonsTxPool.TransactionPool_reorg b ∧
    p ∈ bodyPaths Gen.SkeletonsTxPool.table 1 40 b ∧ p ≠ [] := by
  have h : ∃ run ∈ den Gen.SkeletonsTxPool.table 1 40 Gen.SkeletonsTxPool.TransactionPool_reorg,
      ∃ b ∈ run.spawns, ∃ p ∈ bodyPaths Gen.SkeletonsTxPool.table 1 40 b, p ≠ [] := by decide +kernel
  obtain ⟨run, hrun, b, hb, p, hp, hne⟩ := h
  exact ⟨b, p, Spawned.direct hrun hb, hp, hne⟩

/-- two goroutines in the fixed `remove` interleave and finish -/
example :
    let p : Path := [.acq "TransactionPool.mutex", .rel "TransactionPool.mutex"]
    ∃ st, run (initState [p, p]) [0, 1, 0, 0, 1, 1] = some st ∧ st.all finished = true := by
  refine ⟨_, rfl, ?_⟩
  decide
