/-
  C13 — Block commit and removal are crash-atomic: storage-level crash semantics, histories of
  steps, repeated crashes, restart.

  `Props/C13.lean` proves atomicity for ONE step on the model's history machine, where a crash is
  "the durable history at a prefix of the run". This file

  I.   states the assumption on pebble as a `Prop` (`PebbleAssumption`: a synced `Apply` of a batch
       of any size is all-or-nothing, an idle crash loses nothing) and proves from it that every
       state a restart can find — the process may die between any two events or INSIDE `Write` —
       is the state before or after the step (`C13_storage_atomic`); that a write-ahead log with a
       torn tail which recovery discards (and the stricter "unsynced data lost" variant) satisfies
       the assumption (`C13_wal_*`); that the assumption is needed (`C13_assumption_necessary`);
  II.  lifts this over every sequence of steps (`C13_history_storage_atomic`: state before or after
       the step in progress) and over any number of crashes and restarts, including crashes during
       restart (`C13_invariant_lifts`, `C13_reach_whole_batches`);
  III. the node database: over every such execution of block commits / removals / genesis the
       database a restart finds satisfies the restart invariant, `Executer.Init` + `PrepareCache`
       map it to a consistent tip, and restart is idempotent under crashes
       (`C13_node_reach_recoverable`, `C13_restart_consistent`, `C13_crash_during_restart_harmless`);
  IV.  ties all of it to the REGENERATED skeleton data (`Gen.WS`): the three engine steps are
       single-write, every mutation site of every table goes to the one batch, restart writes only
       through the genesis step, and splitting the write (second batch for pruning finalized
       diffs, auto-flushing batch) is rejected and really is non-atomic.

  The `Storage` interface, the WAL store, `Reach`, `restartBatch` are specification-level
  definitions of Lemmas/CrashMore.lean, on top of the model (Model/Crash.lean).
-/
import LiskVerif.Props.C13

open LiskVerif LiskVerif.Crash LiskVerif.C13

namespace LiskVerif.C13

/-- the three steps of the engine that write block data, as regenerated from the Go source, with
    their callees inlined -/
def engineSteps : List Stmt :=
  [step Gen.WS.Executer_processValidated, step Gen.WS.Executer_deleteBlock,
   step Gen.WS.Executer_processGenesisBlock]

/-- a run (with payload) of one of the regenerated engine steps -/
def EnginePath {κ ν : Type} (evs : List (Ev κ ν)) : Prop :=
  ∃ s, s ∈ engineSteps ∧ ∃ o, Exec s (evs.map Ev.abs) o

/-- what the node does as ONE step on a database with content `db` (genesis id `gid`): a run of a
    regenerated engine step which either has no durable effect (it failed before the `Write`), or
    is the genesis step on a database without genesis block (`Executer.Init`), or stages a batch
    with the effect of a block commit / block removal for the tip of `db` (the effect, not the
    list: the engine stages the pruning of finalized diffs before the block, `addBatch` after it) -/
def NodeStep (gid : Nat) (db : NodeDB) (evs : List (Ev Key Val)) : Prop :=
  EnginePath evs ∧
  (delta evs = [] ∨
   (db (.index 0) = none ∧ applyBatch db (stagedOps evs) = applyBatch db (genesisBatch gid)) ∨
   ∃ tip f tip' f' B, NodeInv db tip f ∧ BlockStep db tip f B tip' f' ∧
     applyBatch db (stagedOps evs) = applyBatch db B)

/-- block commit whose finalized-diff pruning goes to a second batch -/
def pruneSecondBatch : Stmt := Stmt.seqs [
  .act (.newBatch "batch"), .act (.batchSet "batch"), .act (.batchSet "batch"), .act (.batchSet "batch"),
  .act (.batchSet "batch"), .act (.batchSet "batch"), .act (.write "batch"), .act .cacheUpdate,
  .act (.newBatch "prune"), .act (.batchDel "prune"), .act (.write "prune"), .ret]

/-- commit block 2 (finalizing height 1) on a chain of genesis + block 1, pruning in a second batch -/
def pruneSecondRun : List (Ev Key Val) :=
  [.newBatch "batch"] ++ (addBatch 1 8 1 []).map (.batchOp "batch") ++ [.write "batch", .other .cacheUpdate,
   .newBatch "prune", .batchOp "prune" (.del (.diff 0)), .write "prune"]

/-- an auto-flushing batch: the batch is written whenever it holds two operations -/
def autoFlush : Stmt := Stmt.seqs [
  .act (.newBatch "batch"), .act (.batchSet "batch"), .act (.batchSet "batch"), .act (.write "batch"),
  .act (.batchSet "batch"), .act (.batchSet "batch"), .act (.write "batch"), .act .cacheUpdate, .ret]

/-- one batch of `n` operations, written once -/
def oneBatchRun {κ ν : Type} (b : String) (ops : List (Op κ ν)) : List (Ev κ ν) :=
  Ev.newBatch b :: ops.map (Ev.batchOp b) ++ [Ev.write b]

/-- the commit of block 1 (id 7) on the genesis database, as one batch -/
def commitRun : List (Ev Key Val) := oneBatchRun "batch" (addBatch 0 7 0 []) ++ [.other .cacheUpdate]

/-- a payload for every action (for non-vacuity: turns a path of a skeleton into a run); the default
    staging payloads do not change the databases of the examples -/
def liftAct : Act → Ev Key Val
  | .newBatch b => .newBatch b
  | .batchSet b => .batchOp b (.set .fin (.num 0))
  | .batchDel b => .batchOp b (.del (.diff 1000))
  | .write b => .write b
  | .directSet => .direct (.set .fin (.num 0))
  | .directDel => .direct (.del (.diff 1000))
  | a => .other a

/-- the run of an auto-flushing commit of block 1 on the genesis database -/
def autoFlushRun : List (Ev Key Val) :=
  [.newBatch "batch", .batchOp "batch" (.set .bftTip (.num 1)), .batchOp "batch" (.set (.diff 1) .blob),
   .write "batch", .batchOp "batch" (.set (.header 7) (.hdr 1)), .batchOp "batch" (.set (.index 1) (.id 7)),
   .write "batch", .other .cacheUpdate]

/-- genesis + block 1 -/
def db2 : NodeDB := applyBatch db1 (addBatch 0 7 0 [])

/-- payloads for the staging actions of a path: the k-th `Set` site on the path gets the k-th
    element of `sets`, the k-th `Del` site the k-th of `dels` (defaults when they run out) -/
def liftWith : List (Op Key Val) → List (Op Key Val) → List Act → List (Ev Key Val)
  | op :: sets, dels, .batchSet b :: tr => .batchOp b op :: liftWith sets dels tr
  | sets, op :: dels, .batchDel b :: tr => .batchOp b op :: liftWith sets dels tr
  | sets, dels, a :: tr => liftAct a :: liftWith sets dels tr
  | _, _, [] => []

/-- (declared inside `namespace LiskVerif.C13`: it is `C13.Act.isUnknown`, so `a.isUnknown` does not resolve) -/
def Act.isUnknown : Act → Bool
  | .unknown _ => true
  | _ => false

/-- a site that is harmless for the single batch `"batch"`: not a direct write, not an unknown
    construct, and if it names a batch then that one -/
def siteOk (a : Act) : Bool :=
  !a.isDirect && !Act.isUnknown a && (a.target == none || a.target == some "batch")

/-- the process dies while `Executer.Init` runs on store `s`: while it only reads
    (`GenesisBlockExist`, `PrepareCache`), or — on a database without genesis block — anywhere in
    or after the genesis step -/
inductive RestartCrash {σ : Type} (S : Storage σ Key Val) (gid : Nat) (s : σ) : σ → Prop where
  | idle {s' : σ} : S.crashIdle s s' → RestartCrash S gid s s'
  | inGenesis {evs : List (Ev Key Val)} {s' : σ} : S.content s (.index 0) = none → EnginePath evs →
      (delta evs = [] ∨
        applyBatch (S.content s) (stagedOps evs) = applyBatch (S.content s) (genesisBatch gid)) →
      CrashAt S ⟨s, []⟩ evs s' →
      RestartCrash S gid s s'

/-- any number of crashed restarts in a row -/
inductive RestartCrashes {σ : Type} (S : Storage σ Key Val) (gid : Nat) (s : σ) : σ → Prop where
  | nil : RestartCrashes S gid s s
  | cons {s' s'' : σ} : RestartCrashes S gid s s' → RestartCrash S gid s' s'' → RestartCrashes S gid s s''

end LiskVerif.C13

/-! ## I. Storage-level crash semantics -/

/-- **Refinement of the crash semantics** (no hypothesis on the run): on any store satisfying the
    assumption on pebble, whatever a restart finds after the process died anywhere in a run — between
    two events, inside a `Write`, inside a direct `Set` — has the content of the store at some event
    boundary of the run. The model's "crash = durable history at a prefix" loses no behaviour. -/
theorem C13_storage_refines {σ κ ν : Type} [DecidableEq κ] (S : Storage σ κ ν) (hS : PebbleAssumption S)
    (m0 : SMach σ κ ν) (evs : List (Ev κ ν)) (s' : σ) (h : CrashAt S m0 evs s') :
    ∃ q, q <+: evs ∧ S.content s' = S.content (SMach.run S m0 q).store ∧
      S.content s' = dbOf (S.content m0.store) ((⟨[], m0.pend⟩ : Mach κ ν).run q).hist := by
  obtain ⟨q, hq, hc⟩ := crashAt_refines hS h
  exact ⟨q, hq, hc, by rw [hc, srun_content hS]⟩

/-- **C13 atomicity on the store.** From the assumption on pebble alone: for any skeleton
    satisfying `singleWrite`, any path with any payload (any batch size), started from any store and
    any process memory, EVERY state a restart can find after the process died in the step has the
    content before the step or that content with the whole staged batch applied; so has the
    complete step, and a step that does not end in an error return has the latter. -/
theorem C13_storage_atomic {σ κ ν : Type} [DecidableEq κ] (S : Storage σ κ ν) (hS : PebbleAssumption S)
    (s : Stmt) (hs : singleWrite s = true) (evs : List (Ev κ ν)) (o : Out)
    (hex : Exec s (evs.map Ev.abs) o) (m : SMach σ κ ν) :
    (∀ s', CrashAt S m evs s' →
      S.content s' = S.content m.store ∨
      S.content s' = applyBatch (S.content m.store) (stagedOps evs)) ∧
    (S.content (SMach.run S m evs).store = S.content m.store ∨
     S.content (SMach.run S m evs).store = applyBatch (S.content m.store) (stagedOps evs)) ∧
    (o ≠ .err →
     S.content (SMach.run S m evs).store = applyBatch (S.content m.store) (stagedOps evs)) := by
  have hok : StepOK evs := stepOK_of_singleWrite hs hex
  have hfin : o ≠ .err →
      S.content (SMach.run S m evs).store = applyBatch (S.content m.store) (stagedOps evs) := by
    intro ho
    rw [srun_step_content hS m hok]
    have hd : delta evs = ((start []).run evs).hist := rfl
    cases (C13_atomic s hs evs o hex []).2 ho with
    | inl h => rw [hd, h]; rfl
    | inr h => rw [hd, h.2, h.1]; rfl
  exact ⟨fun s' hc => crashAt_none_or_all hS m hok hc, srun_step_cases hS m hok, hfin⟩

/-- a write-ahead log — one record per batch whatever its size, a crash inside `Apply` leaves the
    record absent, complete, or torn (followed by anything), recovery replays complete records up to
    the first torn one — satisfies the assumption; so does the stricter reading of the property
    text ("unsynced data lost", no torn tail) -/
theorem C13_wal_satisfies_assumption {κ ν : Type} [DecidableEq κ] (base : DBOf κ ν) :
    PebbleAssumption (walStorage base) ∧ PebbleAssumption (walStorageStrict base) :=
  ⟨wal_assumption base, wal_assumption_strict base⟩

/-- **C13 atomicity on a write-ahead log with torn tail.** Spelled out: the database replayed from
    the log a restart finds is the old database or the old database with the whole batch. -/
theorem C13_wal_atomic {κ ν : Type} [DecidableEq κ] (base : DBOf κ ν)
    (s : Stmt) (hs : singleWrite s = true) (evs : List (Ev κ ν)) (o : Out)
    (hex : Exec s (evs.map Ev.abs) o) (w : List (Rec κ ν)) (pend : List (String × List (Op κ ν)))
    (w' : List (Rec κ ν)) (hc : CrashAt (walStorage base) ⟨w, pend⟩ evs w') :
    dbOf base (recoverWal w') = dbOf base (recoverWal w) ∨
    dbOf base (recoverWal w') = applyBatch (dbOf base (recoverWal w)) (stagedOps evs) :=
  (C13_storage_atomic (walStorage base) (wal_assumption base) s hs evs o hex ⟨w, pend⟩).1 w' hc

/-- the same in the "unsynced data lost" variant -/
theorem C13_wal_atomic_strict {κ ν : Type} [DecidableEq κ] (base : DBOf κ ν)
    (s : Stmt) (hs : singleWrite s = true) (evs : List (Ev κ ν)) (o : Out)
    (hex : Exec s (evs.map Ev.abs) o) (w : List (Rec κ ν)) (pend : List (String × List (Op κ ν)))
    (w' : List (Rec κ ν)) (hc : CrashAt (walStorageStrict base) ⟨w, pend⟩ evs w') :
    dbOf base (recoverWal w') = dbOf base (recoverWal w) ∨
    dbOf base (recoverWal w') = applyBatch (dbOf base (recoverWal w)) (stagedOps evs) :=
  (C13_storage_atomic (walStorageStrict base) (wal_assumption_strict base) s hs evs o hex ⟨w, pend⟩).1 w' hc

/-- recovery of the log is idempotent, and dying during recovery any number of times changes
    nothing that a later recovery sees -/
theorem C13_wal_recovery_idempotent {κ ν : Type} (w : List (Rec κ ν)) :
    recoverWal (cleanWal w) = recoverWal w ∧
    ∀ w' w'', WalCrashIdle w w' → WalCrashIdle w' w'' → recoverWal w'' = recoverWal w := by
  have one : ∀ a b : List (Rec κ ν), WalCrashIdle a b → recoverWal b = recoverWal a := by
    intro a b h
    cases h with
    | same => rfl
    | cleaned => exact recoverWal_clean a
    | junk j => exact recoverWal_append_torn a j
  exact ⟨recoverWal_clean w, fun w' w'' h1 h2 => (one _ _ h2).trans (one _ _ h1)⟩

/-- **Batch size does not matter.** One batch of ANY number of operations, written once, on any
    store satisfying the assumption: a restart finds none or all of the operations. -/
theorem C13_batch_size_irrelevant {σ κ ν : Type} [DecidableEq κ] (S : Storage σ κ ν)
    (hS : PebbleAssumption S) (b : String) (ops : List (Op κ ν)) (m : SMach σ κ ν) (s' : σ)
    (hc : CrashAt S m (oneBatchRun b ops) s') :
    S.content s' = S.content m.store ∨ S.content s' = applyBatch (S.content m.store) ops := by
  -- staging `l` into `b` and writing it is accepted from any monitor state that holds `b` unwritten
  have hrun : ∀ (l : List (Op κ ν)) (stg : Bool), stagedOps (l.map (Ev.batchOp b) ++ [Ev.write b]) = l ∧
      ∃ st', runMon ⟨some b, stg, false⟩ ((l.map (Ev.batchOp b) ++ [Ev.write b]).map Ev.abs) = some st' := by
    intro l
    induction l with
    | nil => exact fun stg => ⟨rfl, ⟨some b, stg, true⟩, by simp [runMon, Ev.abs, stepAct]⟩
    | cons x l ih =>
      intro stg
      obtain ⟨h1, st', h2⟩ := ih true
      refine ⟨congrArg (x :: ·) h1, st', ?_⟩
      cases x <;>
        simpa only [List.map_cons, List.cons_append, runMon, Ev.abs, stepAct, and_self, if_true] using h2
  obtain ⟨hst, st', h⟩ := hrun ops false
  have hok : StepOK (oneBatchRun b ops) := ⟨st', by
    simpa only [oneBatchRun, List.cons_append, List.map_cons, runMon, Ev.abs, stepAct, St.init,
      and_self, if_true] using h⟩
  exact hst ▸ crashAt_none_or_all hS m hok hc

/-- **The assumption is needed.** On a store that applies a batch key by key the assumption fails,
    and the commit of block 1 as ONE batch (a single-write run) can be found half applied: the
    consensus store is at height 1, the height index still ends at the genesis block, and no tip /
    finalized height makes the restart invariant true. -/
theorem C13_assumption_necessary :
    ¬ PebbleAssumption (opwiseStorage (κ := Key) (ν := Val)) ∧
    StepOK commitRun ∧
    ∃ db', CrashAt opwiseStorage ⟨db1, []⟩ commitRun db' ∧
      db' ≠ db1 ∧ db' ≠ applyBatch db1 (stagedOps commitRun) ∧
      db' .bftTip = some (.num 1) ∧ RecoveredTip db' 0 ∧ ∀ T F, ¬ NodeInv db' T F := by
  have hok : StepOK commitRun := ⟨⟨some "batch", true, true⟩, by decide⟩
  -- the process dies inside the `Write` after the first key of the batch
  have hcrash : CrashAt opwiseStorage ⟨db1, []⟩ commitRun (applyBatch db1 ((addBatch 0 7 0 []).take 1)) :=
    CrashAt.inWrite (commitRun.take 6) "batch" _ ⟨[.other .cacheUpdate], rfl⟩ ⟨1, by decide, rfl⟩
  have hrec : RecoveredTip (applyBatch db1 ((addBatch 0 7 0 []).take 1)) 0 :=
    ⟨by decide, fun h hh => dbOf_index_above emptyDB 0 hh [genesisBatch 0, (addBatch 0 7 0 []).take 1] (by decide)⟩
  have hne1 : applyBatch db1 ((addBatch 0 7 0 []).take 1) ≠ db1 :=
    fun h => absurd (congrFun h .bftTip) (by decide)
  have hne2 : applyBatch db1 ((addBatch 0 7 0 []).take 1) ≠ applyBatch db1 (stagedOps commitRun) :=
    fun h => absurd (congrFun h (.index 1)) (by decide)
  -- the consensus store says tip 1, restart finds the height index ending at 0
  refine ⟨fun hS => ?_, hok, _, hcrash, hne1, hne2, rfl, hrec, no_inv_of_tips rfl hrec (by decide)⟩
  cases crashAt_before_or_after hS _ hok hcrash with
  | inl h => exact hne1 h
  | inr h => exact hne2 (h.trans (srun_step_content hS ⟨db1, []⟩ hok))

/-! ## II. Histories of steps, repeated crashes -/

/-- **Histories, model level.** For every sequence of accepted steps and every crash point in it
    the durable history is the one after the completed steps or the one after the step in progress
    has completed as well — never anything in between. -/
theorem C13_history_atomic {κ ν : Type} (steps : List (List (Ev κ ν))) (hne : steps ≠ [])
    (hok : ∀ evs, evs ∈ steps → StepOK evs) (m0 : Mach κ ν) (p : List (Ev κ ν))
    (hp : p <+: steps.flatten) :
    ∃ pre cur post p', steps = pre ++ cur :: post ∧ p = pre.flatten ++ p' ∧ p' <+: cur ∧
      ((m0.run p).hist = (m0.run pre.flatten).hist ∨
       (m0.run p).hist = (m0.run (pre ++ [cur]).flatten).hist) ∧
      (m0.run pre.flatten).hist = m0.hist ++ pre.flatMap delta := by
  obtain ⟨pre, cur, post, p', e1, e2, e3⟩ := prefix_flatten_split steps p hne hp
  refine ⟨pre, cur, post, p', e1, e2, e3, ?_, ?_⟩
  · have hcur : StepOK cur := hok cur (by rw [e1]; simp)
    rw [e2, run_append, List.flatten_append, run_append]
    simp only [List.flatten_cons, List.flatten_nil, List.append_nil]
    exact prefix_hist_cases hcur e3 _
  · exact runs_hist pre (fun e he => hok e (by rw [e1]; exact List.mem_append_left _ he)) m0

/-- **Histories, on the store.** For EVERY sequence of single-write steps, from any store, and
    EVERY point at which the process can die (between events or inside a `Write`), the content a
    restart finds is the content after the completed steps or after the step in progress has
    completed too; and the content after the completed steps is the initial content with their
    whole effects applied. -/
theorem C13_history_storage_atomic {σ κ ν : Type} [DecidableEq κ] (S : Storage σ κ ν)
    (hS : PebbleAssumption S) (steps : List (List (Ev κ ν))) (hne : steps ≠ [])
    (hok : ∀ evs, evs ∈ steps → StepOK evs) (m : SMach σ κ ν) (s' : σ)
    (hc : CrashAt S m steps.flatten s') :
    ∃ pre cur post, steps = pre ++ cur :: post ∧
      (S.content s' = S.content (SMach.run S m pre.flatten).store ∨
       S.content s' = S.content (SMach.run S m (pre ++ [cur]).flatten).store) ∧
      S.content (SMach.run S m pre.flatten).store = dbOf (S.content m.store) (pre.flatMap delta) := by
  -- what a restart finds has the content at an event boundary, and the store runs the history machine
  obtain ⟨q, hq, hcq⟩ := crashAt_refines hS hc
  obtain ⟨pre, cur, post, -, e1, -, -, h, hpre⟩ := C13_history_atomic steps hne hok ⟨[], m.pend⟩ q hq
  refine ⟨pre, cur, post, e1, ?_, ?_⟩
  · rw [hcq, srun_content hS, srun_content hS, srun_content hS]
    exact h.imp (congrArg _) (congrArg _)
  · rw [srun_content hS, hpre]; rfl

/-- **Crash-free invariants are crash invariants.** Let the node perform steps `Step c evs` (each a
    monitor-accepted run), die at any point of any step (or idle), restart with empty process memory,
    die again while restarting, any number of times. Any property of the database content that
    every COMPLETE step preserves holds for what every restart finds. -/
theorem C13_invariant_lifts {σ κ ν : Type} [DecidableEq κ] (S : Storage σ κ ν) (hS : PebbleAssumption S)
    (Step : DBOf κ ν → List (Ev κ ν) → Prop) (hok : ∀ c evs, Step c evs → StepOK evs)
    (I : DBOf κ ν → Prop) (hI : ∀ c evs, I c → Step c evs → I (dbOf c (delta evs)))
    (s0 : σ) (h0 : I (S.content s0)) (m : SMach σ κ ν) (h : Reach S Step s0 m) :
    I (S.content m.store) :=
  reach_invariant hS hok I hI h0 h

/-- **Never a part of a batch.** In every execution with crashes and restarts the database found is
    the initial one with a sequence of WHOLE staged batches of steps applied. -/
theorem C13_reach_whole_batches {σ κ ν : Type} [DecidableEq κ] (S : Storage σ κ ν)
    (hS : PebbleAssumption S) (Step : DBOf κ ν → List (Ev κ ν) → Prop)
    (hok : ∀ c evs, Step c evs → StepOK evs) (s0 : σ) (m : SMach σ κ ν) (h : Reach S Step s0 m) :
    ∃ bs : List (List (Op κ ν)), S.content m.store = dbOf (S.content s0) bs ∧
      ∀ b, b ∈ bs → ∃ c evs, Step c evs ∧ b = stagedOps evs := by
  refine reach_invariant hS hok
    (fun c => ∃ bs : List (List (Op κ ν)), c = dbOf (S.content s0) bs ∧
      ∀ b, b ∈ bs → ∃ c evs, Step c evs ∧ b = stagedOps evs) ?_ ⟨[], rfl, fun _ hb => by cases hb⟩ h
  intro c evs ⟨bs, hc, hbs⟩ hs
  cases delta_cases (hok c evs hs) with
  | inl hd => exact ⟨bs, by rw [hd]; exact hc, hbs⟩
  | inr hd =>
    refine ⟨bs ++ [stagedOps evs], by rw [hd, hc, dbOf_append], fun b hb => ?_⟩
    rw [List.mem_append, List.mem_singleton] at hb
    cases hb with
    | inl hb => exact hbs b hb
    | inr hb => exact ⟨c, evs, hs, hb⟩

/-! ## III. The node database: every history with crashes; restart -/

/-- the three regenerated engine steps satisfy the single-write criterion (from the per-function
    obligations of Props/C13.lean, re-decided on every regeneration) -/
theorem C13_engine_steps_single_write : ∀ s, s ∈ engineSteps → singleWrite s = true := by
  intro s hs
  simp only [engineSteps, List.mem_cons, List.not_mem_nil, or_false] at hs
  rcases hs with rfl | rfl | rfl
  · exact C13_processValidated_single_write
  · exact C13_deleteBlock_single_write
  · exact C13_processGenesisBlock_single_write

/-- every run of a regenerated engine step is accepted by the single-write monitor -/
theorem C13_engine_path_accepted {κ ν : Type} {evs : List (Ev κ ν)} (h : EnginePath evs) : StepOK evs := by
  obtain ⟨s, hs, o, hex⟩ := h
  exact stepOK_of_singleWrite (C13_engine_steps_single_write s hs) hex

/-- **End to end for the regenerated engine steps, on the store.** For any run of
    `processValidated`, `deleteBlock` or `processGenesisBlock` (callees inlined), any store satisfying
    the assumption on pebble, any point at which the process dies: a restart finds the content
    before the step or that content with the whole batch. A change of the Go source that splits
    the write breaks `C13_*_single_write` and with it this theorem. -/
theorem C13_engine_step_storage_atomic {σ κ ν : Type} [DecidableEq κ] (S : Storage σ κ ν)
    (hS : PebbleAssumption S) (evs : List (Ev κ ν)) (hpath : EnginePath evs) (m : SMach σ κ ν)
    (s' : σ) (hc : CrashAt S m evs s') :
    S.content s' = S.content m.store ∨
    S.content s' = applyBatch (S.content m.store) (stagedOps evs) := by
  obtain ⟨s, hs, o, hex⟩ := hpath
  exact (C13_storage_atomic S hS s (C13_engine_steps_single_write s hs) evs o hex m).1 s' hc

/-- a complete node step keeps the database startable -/
theorem C13_node_step_preserves (gid : Nat) (db : NodeDB) (evs : List (Ev Key Val))
    (hrec : Recoverable gid db) (hstep : NodeStep gid db evs) :
    Recoverable gid (dbOf db (delta evs)) := by
  obtain ⟨hpath, hkind⟩ := hstep
  have hok := C13_engine_path_accepted hpath
  cases delta_cases hok with
  | inl hd => rw [hd]; exact hrec
  | inr hd =>
    rw [hd]
    show Recoverable gid (applyBatch db (stagedOps evs))
    rcases hkind with h | ⟨h0, hst⟩ | ⟨tip, f, tip', f', B, hinv, hB, heq⟩
    · rw [hd] at h; cases h
    · rw [hst, hrec.fresh h0]
      exact genesis_recoverable gid
    · have hidx := hrec.index0 hinv
      rw [heq]
      exact .of_inv (blockStep_preserves hinv hB) (blockStep_keeps_genesis hB hidx)

/-- **The node database over every history with crashes.** Start a node (genesis id `gid`) on a fresh
    or a consistent database, on any store satisfying the assumption on pebble. Let it perform any
    sequence of block commits, block removals, failed steps and genesis steps, die at any point of
    any of them — between two events or inside the `Write` —, restart, die again while restarting,
    any number of times. The database every restart finds is fresh or satisfies the restart
    invariant (height index ↔ headers, consensus store at the tip, revert diffs exactly up to the
    tip, finalized height ≤ tip) with the genesis block at the bottom. -/
theorem C13_node_reach_recoverable {σ : Type} (S : Storage σ Key Val) (hS : PebbleAssumption S)
    (gid : Nat) (s0 : σ) (h0 : Recoverable gid (S.content s0)) (m : SMach σ Key Val)
    (h : Reach S (NodeStep gid) s0 m) : Recoverable gid (S.content m.store) :=
  reach_invariant hS (fun _ _ hs => C13_engine_path_accepted hs.1) (Recoverable gid)
    (fun c evs hc hs => C13_node_step_preserves gid c evs hc hs) h0 h

/-- **One step, on the store** (strengthens `C13_recover_consistent` to crashes inside the
    `Write`): the database a restart finds satisfies the restart invariant for the old or for the
    new tip, and the tip `PrepareCache` finds is that one, with its header, the consensus store at
    it, its revert diff (above the finalized height), and no index entry or diff above it. -/
theorem C13_storage_recover_consistent {σ : Type} (S : Storage σ Key Val) (hS : PebbleAssumption S)
    (s : Stmt) (hs : singleWrite s = true) (evs : List (Ev Key Val)) (o : Out)
    (hex : Exec s (evs.map Ev.abs) o) (m : SMach σ Key Val) (tip f tip' f' : Nat)
    (hinv : NodeInv (S.content m.store) tip f)
    (hstep : BlockStep (S.content m.store) tip f (stagedOps evs) tip' f')
    (s' : σ) (hc : CrashAt S m evs s') :
    ∃ T F, (T = tip ∧ F = f ∨ T = tip' ∧ F = f') ∧ NodeInv (S.content s') T F ∧
      RecoveredTip (S.content s') T ∧
      ∀ t, RecoveredTip (S.content s') t →
        t = T ∧ S.content s' .bftTip = some (.num t) ∧
        (∃ id, S.content s' (.index t) = some (.id id) ∧ S.content s' (.header id) = some (.hdr t)) ∧
        (F < t → S.content s' (.diff t) ≠ none) ∧ (∀ h, t < h → S.content s' (.diff h) = none) :=
  recover_cases hinv hstep ((C13_storage_atomic S hS s hs evs o hex m).1 s' hc)

private theorem restart_fix {gid : Nat} {d : NodeDB} (h : d (.index 0) = some (.id gid)) :
    restartDB gid d = some d := by
  simp [restartDB, restartBatch, h, applyBatch]

private theorem restart_empty (gid : Nat) :
    restartDB gid emptyDB = some (applyBatch emptyDB (genesisBatch gid)) := rfl

/-- **Restart.** On every startable database `Executer.Init` succeeds (the genesis check passes or
    the genesis block is processed), leaves a database satisfying the restart invariant, on which
    `PrepareCache` finds exactly one tip — the one the consensus store is at, with its header,
    finalized height ≤ tip, revert diff present above the finalized height, nothing above the
    tip —; a database that already has its genesis block is not written at all, and restarting the
    restarted database writes nothing (idempotent). -/
theorem C13_restart_consistent (gid : Nat) (db : NodeDB) (h : Recoverable gid db) :
    ∃ db', restartDB gid db = some db' ∧ restartDB gid db' = some db' ∧ (db ≠ emptyDB → db' = db) ∧
      ∃ T F, NodeInv db' T F ∧ db' (.index 0) = some (.id gid) ∧ RecoveredTip db' T ∧
        ∀ t, RecoveredTip db' t →
          t = T ∧ db' .bftTip = some (.num t) ∧ db' .fin = some (.num F) ∧ F ≤ t ∧
          (∃ id, db' (.index t) = some (.id id) ∧ db' (.header id) = some (.hdr t)) ∧
          (F < t → db' (.diff t) ≠ none) ∧ (∀ h, t < h → db' (.diff h) = none) := by
  -- the database restart leaves: the genesis state on a fresh one, the database itself otherwise
  obtain ⟨d, T, F, hi, hidx, hr, hsame⟩ : ∃ d T F, NodeInv d T F ∧ d (.index 0) = some (.id gid) ∧
      restartDB gid db = some d ∧ (db ≠ emptyDB → d = db) := by
    rcases h with rfl | ⟨T, F, hi, hidx⟩
    · exact ⟨_, 0, 0, genesis_inv gid, genesis_index0 gid, restart_empty gid, fun hne => absurd rfl hne⟩
    · exact ⟨db, T, F, hi, hidx, restart_fix hidx, fun _ => rfl⟩
  refine ⟨d, hr, restart_fix hidx, hsame, T, F, hi, hidx, recoveredTip_of_inv hi, fun t ht => ?_⟩
  obtain ⟨rfl, a, b, c, d'⟩ := recover_consistent hi ht
  exact ⟨rfl, a, hi.fin, hi.fin_le, b, c, d'⟩

/-- **A crash during restart is harmless.** If the process dies while `Executer.Init` runs — at any
    point, also inside the `Write` of the genesis step — the database the next restart finds is
    again startable and the next restart ends exactly where the undisturbed one would have ended. -/
theorem C13_crash_during_restart_harmless {σ : Type} (S : Storage σ Key Val) (hS : PebbleAssumption S)
    (gid : Nat) (s s' : σ) (hrec : Recoverable gid (S.content s)) (hc : RestartCrash S gid s s') :
    Recoverable gid (S.content s') ∧ restartDB gid (S.content s') = restartDB gid (S.content s) := by
  cases hc with
  | idle h => rw [hS.crash_idle _ _ h]; exact ⟨hrec, rfl⟩
  | @inGenesis evs _ h0 hpath hgen hcr =>
    have hok := C13_engine_path_accepted hpath
    rcases crashAt_before_or_after hS ⟨s, []⟩ hok hcr with h | h
    · rw [h]; exact ⟨hrec, rfl⟩
    rw [h, srun_step_content hS _ hok]
    rcases delta_cases hok with hd | hd <;> rw [hd]
    · exact ⟨hrec, rfl⟩
    · have hst := hgen.resolve_left fun h1 => nomatch h1.symm.trans hd
      show Recoverable gid (applyBatch (S.content s) (stagedOps evs)) ∧
        restartDB gid (applyBatch (S.content s) (stagedOps evs)) = restartDB gid (S.content s)
      rw [hst, hrec.fresh h0]
      exact ⟨genesis_recoverable gid,
        (restart_fix (genesis_index0 gid)).trans (restart_empty gid).symm⟩

/-- any number of crashed restarts in a row: still startable, and the restart that finally runs to
    its end leaves the database the very first one would have left -/
theorem C13_restart_idempotent_under_crashes {σ : Type} (S : Storage σ Key Val)
    (hS : PebbleAssumption S) (gid : Nat) (s s' : σ) (hrec : Recoverable gid (S.content s))
    (hc : RestartCrashes S gid s s') :
    Recoverable gid (S.content s') ∧ restartDB gid (S.content s') = restartDB gid (S.content s) := by
  induction hc with
  | nil => exact ⟨hrec, rfl⟩
  | cons _ h1 ih =>
    obtain ⟨r1, e1⟩ := C13_crash_during_restart_harmless S hS gid _ _ ih.1 h1
    exact ⟨r1, e1.trans ih.2⟩

/-! ## IV. Dependence on the regenerated skeleton data -/

/-- **Every table in the one batch (sites).** In each regenerated engine step every action site is
    harmless for the single batch — no direct `Set`/`Del`, nothing the translator did not
    understand, no call left over, and every `NewBatch`/`Set`/`Del`/`Write` site names the batch
    `"batch"` — there is exactly one `NewBatch` site and exactly one `Write` site. -/
theorem C13_engine_sites_one_batch : ∀ s, s ∈ engineSteps →
    s.sites.all siteOk = true ∧ s.sites.filter Act.isWrite = [.write "batch"] ∧
    s.sites.filter (· == .newBatch "batch") = [.newBatch "batch"] := by decide +kernel

/-- **Every table in the one batch (paths).** On every path of every regenerated engine step, with
    any payload: no direct write happens, every staged operation goes to the batch `"batch"`, only
    that batch is written, and the durable effect is nothing or ONE batch holding every staged
    operation — header, height index, transactions, transaction ids, assets, events, finalized
    height, consensus-store keys, revert diff, pruned diffs, temp-block entry alike. -/
theorem C13_every_mutation_in_the_batch {κ ν : Type} (evs : List (Ev κ ν)) (h : EnginePath evs) :
    (∀ op, Ev.direct op ∉ evs) ∧ (∀ b op, Ev.batchOp b op ∈ evs → b = "batch") ∧
    (∀ b, Ev.write b ∈ evs → b = "batch") ∧ (delta evs = [] ∨ delta evs = [stagedOps evs]) := by
  have hacc := C13_engine_path_accepted h
  obtain ⟨s, hs, o, hex⟩ := h
  have hsite : ∀ e, e ∈ evs → siteOk e.abs = true := by
    intro e he
    have hm : e.abs ∈ s.sites := exec_sub_sites hex _ (List.mem_map.mpr ⟨e, he, rfl⟩)
    exact List.all_eq_true.mp (C13_engine_sites_one_batch s hs).1 _ hm
  refine ⟨fun op hop => ?_, fun b op hop => ?_, fun b hb => ?_, delta_cases hacc⟩
  · have := hsite _ hop
    cases op <;> simp [siteOk, Ev.abs, Act.isDirect] at this
  · have := hsite _ hop
    cases op <;> simpa [siteOk, Ev.abs, Act.isDirect, Act.isUnknown, Act.target] using this
  · have := hsite _ hb
    simpa [siteOk, Ev.abs, Act.isDirect, Act.isUnknown, Act.target] using this

/-- **The tables of `saveBlock` / `removeBlock` / the consensus-store commit.** The regenerated
    skeletons contain (as a sub-sequence of their sites, all on the caller's batch) the staging
    sites the Go source has for: `saveBlock` — header, height index, each transaction, transaction
    ids, events, assets, finalized height, pruned events, temp-block entry; `removeBlock` —
    header, height index, each transaction, transaction ids, assets, events, temp-block entry;
    `processValidated` on top of `saveBlock` — state/BFT-store `Set`, `Del`, `Set`
    (`cacheDB.commit`), revert diff, pruned finalized diffs; `deleteBlock` on top of `removeBlock`
    — the reverted `Del`, `Set`, `Set` (`RevertDiff`) and the diff key; `processGenesisBlock` on top of
    `saveBlock` — state/BFT-store `Set`, `Del`, `Set` and the revert diff. A table that is no longer
    staged, or is staged to another batch, breaks this theorem or `C13_engine_sites_one_batch`. -/
theorem C13_tables_staged :
    [Act.batchSet "batch", .batchSet "batch", .batchSet "batch", .batchSet "batch", .batchSet "batch",
      .batchSet "batch", .batchSet "batch", .batchDel "batch", .batchDel "batch"].isSublist
      (step Gen.WS.DataAccess_saveBlock).sites = true ∧
    [Act.batchDel "batch", .batchDel "batch", .batchDel "batch", .batchDel "batch", .batchDel "batch",
      .batchDel "batch", .batchSet "batch"].isSublist (step Gen.WS.DataAccess_removeBlock).sites = true ∧
    ([Act.newBatch "batch", .batchSet "batch", .batchDel "batch", .batchSet "batch", .batchSet "batch",
      .batchDel "batch"] ++ (step Gen.WS.DataAccess_saveBlock).sites ++ [Act.write "batch", Act.cacheUpdate]).isSublist
      (step Gen.WS.Executer_processValidated).sites = true ∧
    ([Act.newBatch "batch", .batchDel "batch", .batchSet "batch", .batchSet "batch", .batchDel "batch"] ++
      (step Gen.WS.DataAccess_removeBlock).sites ++ [Act.write "batch", Act.cacheUpdate]).isSublist
      (step Gen.WS.Executer_deleteBlock).sites = true ∧
    ([Act.newBatch "batch", .batchSet "batch", .batchDel "batch", .batchSet "batch", .batchSet "batch"] ++
      (step Gen.WS.DataAccess_saveBlock).sites ++ [Act.write "batch", Act.cacheUpdate]).isSublist
      (step Gen.WS.Executer_processGenesisBlock).sites = true := by decide +kernel

/-- **Restart writes only through the genesis step.** In the regenerated data, `Executer.Init`
    reaches a writer only by calling `processGenesisBlock`; `PrepareCache`, `GenesisBlockExist`
    and `getLastBlock` neither create, fill, hand on nor write a batch, nor write directly (they are
    not among the generated skeletons), and `Init` is not a writer itself. -/
theorem C13_restart_writes_only_genesis :
    Gen.WS.callers.lookup "Executer.Init" = some ["Executer.processGenesisBlock"] ∧
    "Executer.Init" ∉ Gen.WS.roots ∧
    ∀ f, f ∈ ["Chain.PrepareCache", "Chain.GenesisBlockExist", "DataAccess.getLastBlock", "Executer.Init"] →
      f ∉ Gen.WS.fns.map (·.1) := by decide +kernel

/-! ### Split writes are rejected and really are not atomic -/

theorem C13_prune_second_batch_rejected : singleWrite pruneSecondBatch = false := by decide
theorem C13_auto_flush_rejected : singleWrite autoFlush = false := by decide

/-- pruning the finalized diffs in a second batch: a real path and a crash point (after the first
    write) where the database is neither the old one (finalized height already advanced) nor the new
    one (the finalized diff of height 0 still there) — a mixture, although the restart invariant
    happens to hold for it -/
theorem C13_prune_second_batch_not_atomic :
    Exec pruneSecondBatch (pruneSecondRun.map Ev.abs) .ret ∧
    ∃ p, p <+: pruneSecondRun ∧
      dbOf db2 ((start []).run p).hist .fin = some (.num 1) ∧
      dbOf db2 ((start []).run p).hist (.diff 0) = some .blob ∧
      dbOf db2 [] .fin = some (.num 0) ∧
      dbOf db2 ((start []).run pruneSecondRun).hist (.diff 0) = none :=
  ⟨okPath_sound _ _ _ (by decide), pruneSecondRun.take 7, ⟨pruneSecondRun.drop 7, rfl⟩, rfl, rfl, rfl, rfl⟩

/-- an auto-flushing batch: a real path and a crash point (after the first flush) where the
    consensus store is at height 1 while the height index ends at the genesis block; no tip /
    finalized height makes the restart invariant true -/
theorem C13_auto_flush_not_atomic :
    Exec autoFlush (autoFlushRun.map Ev.abs) .ret ∧
    ∃ p, p <+: autoFlushRun ∧
      dbOf db1 ((start []).run p).hist .bftTip = some (.num 1) ∧
      RecoveredTip (dbOf db1 ((start []).run p).hist) 0 ∧
      ∀ T F, ¬ NodeInv (dbOf db1 ((start []).run p).hist) T F := by
  have hrec : RecoveredTip (dbOf db1 ((start []).run (autoFlushRun.take 4)).hist) 0 :=
    ⟨by decide, fun h hh => dbOf_index_above emptyDB 0 hh
      (genesisBatch 0 :: ((start []).run (autoFlushRun.take 4)).hist) (by decide)⟩
  -- the consensus store says tip 1, restart finds the height index ending at 0
  exact ⟨okPath_sound _ _ _ (by decide), autoFlushRun.take 4, ⟨autoFlushRun.drop 4, rfl⟩, rfl, hrec,
    no_inv_of_tips rfl hrec (by decide)⟩

/-! ## Non-vacuity -/

namespace LiskVerif.C13

/-- a skeleton of which `commitRun` is a path -/
def commitSkel : Stmt := Stmt.seqs [
  .act (.newBatch "batch"), .act (.batchSet "batch"), .act (.batchSet "batch"), .act (.batchSet "batch"),
  .act (.batchSet "batch"), .act (.batchSet "batch"), .act (.write "batch"), .act .cacheUpdate, .ret]

/-- payloads for the first `Set` sites on the left-most committing path of the regenerated
    `processValidated`: block 1 (id 7) on the genesis database (further sites get the defaults) -/
def pvSets : List (Op Key Val) :=
  [.set .bftTip (.num 1), .set (.diff 1) .blob, .set (.header 7) (.hdr 1), .set (.index 1) (.id 7),
   .set .fin (.num 0)]

/-- the same for `processGenesisBlock` (genesis id 0) -/
def genSets : List (Op Key Val) :=
  [.set .bftTip (.num 0), .set (.diff 0) .blob, .set (.header 0) (.hdr 0), .set (.index 0) (.id 0),
   .set .fin (.num 0)]

/-- payloads for the left-most path of the regenerated `deleteBlock`: removal of block 1 (id 7) -/
def delDels : List (Op Key Val) := [.del (.diff 1), .del (.header 7), .del (.index 1)]
def delSets : List (Op Key Val) := [.set .bftTip (.num 0)]

/-- decidable form of "same effect" (`effect_eq_of_keys`) -/
def sameEffect (db : NodeDB) (L B : List (Op Key Val)) : Prop :=
  ∀ k, k ∈ L.map Op.key ++ B.map Op.key → applyBatch db L k = applyBatch db B k

instance (db : NodeDB) (L B : List (Op Key Val)) : Decidable (sameEffect db L B) := by
  unfold sameEffect; infer_instance

end LiskVerif.C13

/-- `C13_storage_atomic` / `C13_wal_atomic`: a single-write skeleton, a run of it with payload, and
    two states a restart can find on the write-ahead log after the process died INSIDE the `Write`:
    a torn record followed by stale bytes (replayed: nothing), and the complete record (replayed:
    the whole batch) -/
example : singleWrite commitSkel = true ∧ Exec commitSkel (commitRun.map Ev.abs) .ret ∧
    CrashAt (walStorage db1) ⟨[], []⟩ commitRun [Rec.torn, Rec.full []] ∧
    recoverWal [(Rec.torn : Rec Key Val), Rec.full []] = [] ∧
    CrashAt (walStorage db1) ⟨[], []⟩ commitRun [Rec.full (addBatch 0 7 0 [])] ∧
    CrashAt (walStorageStrict db1) ⟨[], []⟩ commitRun [Rec.full (addBatch 0 7 0 [])] :=
  ⟨by decide, okPath_sound _ _ _ (by decide),
   CrashAt.inWrite (commitRun.take 6) "batch" _ ⟨[.other .cacheUpdate], rfl⟩ (WalCrashApply.tornTail [Rec.full []]),
   rfl,
   CrashAt.inWrite (commitRun.take 6) "batch" _ ⟨[.other .cacheUpdate], rfl⟩ WalCrashApply.durable,
   CrashAt.inWrite (commitRun.take 6) "batch" _ ⟨[.other .cacheUpdate], rfl⟩ WalCrashApplyStrict.durable⟩

/-- `C13_history_storage_atomic`, `C13_history_atomic`: a non-empty sequence of accepted steps -/
example : [commitRun, autoFlushRun.take 3 ++ [Ev.write "batch"]] ≠ [] ∧
    ∀ evs, evs ∈ [commitRun, autoFlushRun.take 3 ++ [Ev.write "batch"]] → StepOK evs := by
  refine ⟨by simp, fun evs h => ?_⟩
  simp only [List.mem_cons, List.not_mem_nil, or_false] at h
  rcases h with rfl | rfl
  · exact ⟨⟨some "batch", true, true⟩, by decide⟩
  · exact ⟨⟨some "batch", true, true⟩, by decide⟩

/-- `EnginePath`, `NodeStep`, `C13_node_reach_recoverable`, `C13_engine_step_storage_atomic`: the
    REGENERATED `processValidated` has a run with payload which is a node step on the genesis
    database — it stages (in the engine's order, with the extra keys of the real batch) a batch
    with the effect of committing block 1 — and has a durable effect -/
example : Recoverable 0 db1 ∧ ∃ evs, NodeStep 0 db1 evs ∧ (delta evs).length = 1 := by
  obtain ⟨tr, hex, habs, hdelta, hst⟩ := exec_of_okPath (s := step Gen.WS.Executer_processValidated) (o := .ret)
    (P := fun tr => (liftWith pvSets [] tr).map Ev.abs = tr ∧ (delta (liftWith pvSets [] tr)).length = 1 ∧
      sameEffect db1 (stagedOps (liftWith pvSets [] tr)) (addBatch 0 7 0 [])) (by decide +kernel)
  exact ⟨genesis_recoverable 0, liftWith pvSets [] tr,
    ⟨⟨_, .head _, .ret, habs.symm ▸ hex⟩, Or.inr (Or.inr ⟨0, 0, 1, 0, addBatch 0 7 0 [], genesis_inv 0,
      BlockStep.add 7 0 [] rfl (Nat.le_refl _) (by omega) nofun, effect_eq_of_keys _ _ _ hst⟩)⟩, hdelta⟩

/-- `NodeStep` for a removal: the REGENERATED `deleteBlock` has a run with payload which is a node
    step on the database genesis + block 1 (it stages a batch with the effect of removing block 1) -/
example : Recoverable 0 db2 ∧ ∃ evs, NodeStep 0 db2 evs ∧ (delta evs).length = 1 := by
  have hinv2 : NodeInv db2 1 0 :=
    add_preserves (db := db1) (id := 7) (pruned := []) (genesis_inv 0) rfl (Nat.le_refl _) (by omega) nofun
  obtain ⟨tr, hex, habs, hdelta, hst⟩ := exec_of_okPath (s := step Gen.WS.Executer_deleteBlock) (o := .ret)
    (P := fun tr => (liftWith delSets delDels tr).map Ev.abs = tr ∧
      (delta (liftWith delSets delDels tr)).length = 1 ∧
      sameEffect db2 (stagedOps (liftWith delSets delDels tr)) (removeBatch 1 7)) (by decide +kernel)
  exact ⟨.of_inv hinv2 rfl, liftWith delSets delDels tr,
    ⟨⟨_, .tail _ (.head _), .ret, habs.symm ▸ hex⟩, Or.inr (Or.inr ⟨1, 0, 0, 0, removeBatch 1 7, hinv2,
      BlockStep.remove 7 (by omega) rfl, effect_eq_of_keys _ _ _ hst⟩)⟩, hdelta⟩

/-- `C13_restart_consistent`, `C13_crash_during_restart_harmless`: a fresh database is startable; the
    REGENERATED `processGenesisBlock` has a run with payload that has the effect of the genesis
    batch, and the restart can die inside its `Write` leaving a torn record -/
example : Recoverable 0 emptyDB ∧
    ∃ (evs p : List (Ev Key Val)) (b : String) (w' : List (Rec Key Val)),
      p ++ [Ev.write b] <+: evs ∧ recoverWal w' = [] ∧ w' ≠ [] ∧
      RestartCrash (walStorage emptyDB) 0 [] w' := by
  obtain ⟨tr, hex, habs, hst, hsplit⟩ := exec_of_okPath (s := step Gen.WS.Executer_processGenesisBlock) (o := .ret)
    (P := fun tr => (liftWith genSets [] tr).map Ev.abs = tr ∧
      sameEffect emptyDB (stagedOps (liftWith genSets [] tr)) (genesisBatch 0) ∧
      (splitAtWrite (liftWith genSets [] tr)).any (fun r =>
        decide ((SMach.run (walStorage emptyDB) ⟨[], []⟩ r.1).store = [])) = true) (by decide +kernel)
  cases hs : splitAtWrite (liftWith genSets [] tr) with
  | none => rw [hs] at hsplit; cases hsplit
  | some r =>
    obtain ⟨p, b, q⟩ := r
    rw [hs, Option.any_some, decide_eq_true_eq] at hsplit
    have hpre : p ++ [Ev.write b] <+: liftWith genSets [] tr :=
      ⟨q, by rw [splitAtWrite_sound _ _ _ _ hs, List.append_assoc]; rfl⟩
    exact ⟨.empty 0, liftWith genSets [] tr, p, b, [Rec.torn], hpre, rfl, nofun,
      RestartCrash.inGenesis rfl ⟨_, .tail _ (.tail _ (.head _)), .ret, habs.symm ▸ hex⟩
        (Or.inr (effect_eq_of_keys _ _ _ hst))
        (CrashAt.inWrite p b _ hpre (by rw [hsplit]; exact WalCrashApply.tornTail []))⟩

/-- `C13_invariant_lifts`, `C13_reach_whole_batches`: an execution that dies inside the `Write` of a
    step, restarts on the torn log, dies again while recovering, and then completes the step -/
example : Reach (walStorage db1) (fun _ evs => evs = commitRun) []
    (SMach.run (walStorage db1) ⟨[Rec.torn, Rec.full []], []⟩ commitRun) :=
  Reach.step (Reach.recrash (Reach.crash Reach.init rfl
    (CrashAt.inWrite (commitRun.take 6) "batch" _ ⟨[.other .cacheUpdate], rfl⟩
      (WalCrashApply.tornTail [Rec.full []]))) WalCrashIdle.same) rfl
