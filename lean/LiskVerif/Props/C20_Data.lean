/-
C20 — data-level clause: "concurrent readers always obtain some complete committed tip", and "bulk
lookups return every existing item exactly once".

`Props/C20.lean` proves the lock discipline (criteria ⇒ no deadlock, no race) over the regenerated
skeletons. This file adds what the readers *see*:

(A) Reduction. `C20_critical_sections_atomic`: in every reachable state of the skeleton interleaving
    semantics (any number of goroutines running the regenerated entry points) no goroutine touches a
    `blockCache` field while another one is inside a write section, and none writes one while another is
    inside a read section. Hence the contents of the cache change only by whole write sections, and are
    constant during a read section: sections are atomic on the data.
(B) Data model. `LiskVerif.CacheModel` (`Lemmas/LocksData.lean`) transcribes the section bodies of
    `block_cache.go` line by line. `C20.Data.Step` below interleaves the micro-steps of the single writer
    (`Chain.AddBlock` chain.go:102-106, `Chain.RemoveBlock` chain.go:109-132, including the refill through
    `blockCache.replace`) with any number of readers acquiring / releasing the read lock. Write sections
    are enabled only when no reader holds the lock (that is all of `sync.RWMutex` that matters for the
    data; writer preference only removes schedules).
(C) Theorems: the invariant "cache = non-empty contiguous suffix of the published chain, ending at its
    tip, at most `maxSize` long" holds in every reachable state (`C20_cache_suffix_invariant`); the
    published chain is the database chain, or differs from it by exactly the block in flight
    (`C20_published_is_committed`) and was the database chain at some moment of the run
    (`C20_published_chain_was_database_chain`); `LastBlock` is never nil and is the tip of that chain
    (`C20_readers_observe_committed_tip`); cache hits by height / id are that chain's blocks
    (`C20_cache_hits_are_committed`); during a read section the cache and the published chain do not
    change, whatever else is scheduled (`C20_read_section_sees_one_chain_state`); the writer's sections
    never fail (`C20_writer_sections_never_fail`); the refill is necessary
    (`C20_pop_of_last_cached_block_empties_cache`). The same invariant for any sequence of push / pop / refill
    from any cache that satisfies it (`C20_cache_invariant_all_sequences`), and at start-up
    (`C20_prepare_cache_establishes_invariant`, `Chain.PrepareCache`).
(D) Bulk lookups with per-index slots (`GetBlockHeaders`, `GetBlockHeadersByHeights`,
    `GetTransactions`, `GetBlocksBetweenHeight`, `getTransactions`): for every worker schedule the result
    is the found items in request order, each request answered exactly once
    (`C20_bulk_lookup_request_order`, `C20_bulk_lookup_static`).
Last: the hypotheses that cannot be dropped — distinct ids (`C20_duplicate_id_breaks_height_lookup`), the lock
(`C20_torn_read_without_lock`) — and non-vacuity examples.

Of the model of (B), the cache (`CacheModel`, `Lemmas/LocksData.lean`) is run against `block_cache.go` by
`Driver/Cache.lean`; the writer's micro-steps (`C20.Data.Step`) are not executed: they are tied to `chain.go` only
by being a line-by-line transcription (Go line numbers in the comments).
-/
import LiskVerif.Props.C20
import LiskVerif.Lemmas.LocksData

open LiskVerif LiskVerif.Locks LiskVerif.CacheModel

/-! ## (A) critical sections on the cache fields are atomic -/

/-- **Critical sections on the block cache are atomic.** Any number of goroutines, each executing any
finite sequence of invocations of the regenerated entry points (hypotheses of
`C20_shared_chain_data_deadlock_and_race_free`; the lockset facts come from `C20_all_entries_ok`, the
exclusion from `C20_mutual_exclusion`), under any schedule: while goroutine `i` holds
`blockCache.mutex` exclusively no other goroutine is about to read or write `cachedBlocks`,
`heightIndex`, `size` or `currentHeight`; while it holds the mutex shared no other goroutine is about
to write them. So the cache contents change only by complete write sections and are constant during
every read section — which is what the data model below assumes. -/
theorem C20_critical_sections_atomic (u : Nat) (ps : List Path)
    (hps : ∀ p ∈ ps, ∃ segs : List Path, p = segs.flatten ∧ ∀ q ∈ segs,
      ∃ e ∈ Gen.Skeletons.table, Gen.Skeletons.entries.contains e.1 = true ∧
        C20.knownBlocking.contains e.1 = false ∧ IsThreadPath Gen.Skeletons.table u e.2 q)
    (st : State) (hr : Reachable (initState ps) st)
    (i j : Nat) (ti tj : Thread) (hij : i ≠ j) (hi : st[i]? = some ti) (hj : st[j]? = some tj)
    (x : String) (hx : x ∈ C20.Data.cacheFields) (rest : Path) :
    (("blockCache.mutex", Mode.W) ∈ ti.held →
        tj.prog ≠ Prim.read x :: rest ∧ tj.prog ≠ Prim.write x :: rest) ∧
    (("blockCache.mutex", Mode.R) ∈ ti.held → tj.prog ≠ Prim.write x :: rest) := by
  have hls : ∀ p ∈ ps, pathLs C20.cfg.guards p = true := fun p hp =>
    criteria_invocations_pathLs (C20.entries_criteria (hps p hp))
  have hg : C20.cfg.guards.lookup x = some "blockCache.mutex" := by
    simp only [C20.Data.cacheFields, List.mem_cons, List.mem_nil_iff, or_false] at hx
    rcases hx with rfl | rfl | rfl | rfl <;> decide
  exact atomic_of_inv (allLs_reachable hls st hr) (C20_mutual_exclusion ps st hr) hij hi hj hg rest

/-- non-vacuity: a goroutine in the regenerated `replace` (zero loop iterations) and one in the
regenerated `len`; after the writer has announced, acquired and done its first write it holds the mutex
exclusively, and the reader cannot even enter -/
example :
    let pw : Path := [.acq "blockCache.mutex", .write "blockCache.cachedBlocks",
      .write "blockCache.heightIndex", .write "blockCache.size", .rel "blockCache.mutex"]
    let pr : Path := [.racq "blockCache.mutex", .read "blockCache.size", .rrel "blockCache.mutex"]
    pw ∈ bodyPaths Gen.Skeletons.table 0 10 Gen.Skeletons.blockCache_replace ∧
    pr ∈ bodyPaths Gen.Skeletons.table 0 10 Gen.Skeletons.blockCache_len ∧
    ∃ st ti, run (initState [pw, pr]) [0, 0, 0] = some st ∧ st[0]? = some ti ∧
      ("blockCache.mutex", Mode.W) ∈ ti.held ∧ stepT st 1 = none := by
  refine ⟨by decide, by decide, _, _, rfl, rfl, by decide, by decide⟩

/-! ## (B) the writer's micro-steps interleaved with readers -/

namespace C20.Data

/-- where the (single) consensus goroutine is inside `Chain.AddBlock` / `Chain.RemoveBlock` -/
inductive WPc where
  | idle
  | addWritten (b : Blk)   -- AddBlock: chain.go:103-104 done (block in the database), :105 pending
  | rmRead (l : Blk)       -- RemoveBlock: chain.go:110-113 done (`lastBlock` read from the cache)
  | rmWritten (l : Blk)    -- RemoveBlock: chain.go:114-115 done (block deleted from the database)

/-- shared state -/
structure Sys where
  genesisHeight : Nat        -- c.genesisBlock.Header.Height
  maxBlockCache : Nat        -- c.maxBlockCache (also handed to newBlockCache, data_access.go:57)
  db : List Blk              -- the chain stored in the database, genesis first
  cache : Cache              -- c.dataAccess.cache
  wpc : WPc
  holding : List Nat         -- readers currently holding `cache.mutex.RLock`

/-- data_access.go:199-210 `GetBlockByHeight`: the cache first, then the database -/
def getBlockByHeight (s : Sys) (h : Nat) : Option Blk :=
  match getByHeight s.cache h with        -- :200
  | some b => some b                       -- :201-203
  | none => byHeight s.db h                -- :204-209

/-- slots `blocks[h-from]` for `n` consecutive heights from `h`; `none`: some block missing (error) -/
def fetch (s : Sys) : Nat → Nat → Option (List Blk)
  | _, 0 => some []
  | h, n + 1 =>
    match getBlockByHeight s h, fetch s (h + 1) n with
    | some b, some r => some (b :: r)
    | _, _ => none

/-- data_access.go:213-232 `GetBlocksBetweenHeight` for `from ≤ to + 1` (one slot per height, so the
result does not depend on the worker schedule: `C20_bulk_lookup_request_order`; the final sort of an
already ascending slice is the identity) -/
def getBlocksBetweenHeight (s : Sys) (from_ to : Nat) : Option (List Blk) := fetch s from_ (to + 1 - from_)

/-- chain.go:120-121 -/
def refillFrom (s : Sys) (l : Blk) : Nat :=
  -- :120 newTip := lastBlock.Header.Height - 1; :121 uint32(ints.Max(int(genesis), int(newTip)-maxBlockCache+1))
  (max (s.genesisHeight : Int) (((sub32 l.height 1 : Nat) : Int) - (s.maxBlockCache : Int) + 1)).toNat % u32

/-- chain.go:116-131: what `RemoveBlock` does to the cache -/
def removeFromCache (s : Sys) (l : Blk) : Cache :=
  if len s.cache = 1 then                                                      -- :116
    match getBlocksBetweenHeight s (refillFrom s l) (sub32 l.height 1) with    -- :122
    | none => s.cache                                                          -- :123-125 (error)
    | some blocks => replace s.cache blocks                                    -- :126-127
  else (pop s.cache).1                                                         -- :130

inductive Ev where
  | addDB (b : Blk) | addCache | rmRead | rmDB | rmCache
  | acquire (r : Nat) | release (r : Nat)

/-- One step of the system. Writer steps follow the program order of chain.go; the steps that contain a
write section of the cache (`addCache`, `rmCache`) need the lock free of readers. `rmCache` also
contains the read-only `len()` and `GetBlocksBetweenHeight` of chain.go:116-122: they are executed by
the only goroutine that modifies the cache or the database, so moving them next to the write section
does not change what they return. The block handed to `AddBlock` extends the database chain
(`ChainOK … (db ++ [b])`: next height, fresh id, `uint32` height) — the obligation of the caller. -/
inductive Step : Sys → Ev → Sys → Prop where
  | addDB (s : Sys) (b : Blk) : s.wpc = .idle → ChainOK s.genesisHeight (s.db ++ [b]) →
      Step s (.addDB b) { s with db := s.db ++ [b], wpc := .addWritten b }              -- chain.go:103-104
  | addCache (s : Sys) (b : Blk) : s.wpc = .addWritten b → s.holding = [] →
      Step s .addCache { s with cache := (push s.cache b).1, wpc := .idle }             -- chain.go:105
  | rmReadOk (s : Sys) (l : Blk) : s.wpc = .idle → last s.cache = some l →
      l.height ≠ s.genesisHeight → Step s .rmRead { s with wpc := .rmRead l }           -- chain.go:110-113
  | rmReadGenesis (s : Sys) (l : Blk) : s.wpc = .idle → last s.cache = some l →
      l.height = s.genesisHeight → Step s .rmRead s                                     -- chain.go:111-112
  | rmDB (s : Sys) (l : Blk) : s.wpc = .rmRead l →
      Step s .rmDB { s with db := s.db.erase l, wpc := .rmWritten l }                   -- chain.go:114-115
  | rmCache (s : Sys) (l : Blk) : s.wpc = .rmWritten l → s.holding = [] →
      Step s .rmCache { s with cache := removeFromCache s l, wpc := .idle }             -- chain.go:116-131
  | acquire (s : Sys) (r : Nat) : Step s (.acquire r) { s with holding := r :: s.holding }
  | release (s : Sys) (r : Nat) : r ∈ s.holding →
      Step s (.release r) { s with holding := s.holding.erase r }

inductive Run : Sys → List Ev → Sys → Prop where
  | nil (s : Sys) : Run s [] s
  | cons {s s' s'' : Sys} {e : Ev} {es : List Ev} : Step s e s' → Run s' es s'' → Run s (e :: es) s''

/-- The chain published to the readers: the chain of which the cache shows the end. It is the database
chain except between the two halves of `AddBlock` / `RemoveBlock`. -/
def published (s : Sys) : List Blk :=
  match s.wpc with
  | .idle => s.db
  | .addWritten _ => s.db.dropLast
  | .rmRead _ => s.db
  | .rmWritten l => s.db ++ [l]

/-- the invariant of the system -/
structure Inv (s : Sys) : Prop where
  cap_pos : 1 ≤ s.maxBlockCache
  cap_eq : s.cache.maxSize = s.maxBlockCache
  db_ok : ChainOK s.genesisHeight s.db
  pub_ok : ChainOK s.genesisHeight (published s)
  good : Good (published s) s.cache
  wpc_ok : match s.wpc with
    | .idle => True
    | .addWritten b => ∃ old, s.db = old ++ [b]
    | .rmRead l => ∃ old, s.db = old ++ [l] ∧ old ≠ []
    | .rmWritten _ => s.db ≠ []

/-- the refill fetch reads exactly the end of the database chain -/
theorem fetch_spec {g : Nat} (s : Sys) (hc : ContigFrom g s.db)
    (hmiss : ∀ h, h < g + s.db.length → getByHeight s.cache h = none) :
    ∀ (n from_ : Nat), g ≤ from_ → from_ + n = g + s.db.length →
      fetch s from_ n = some (s.db.drop (from_ - g)) := by
  intro n
  induction n with
  | zero =>
    intro from_ h1 h2
    simp only [fetch]
    rw [List.drop_eq_nil_of_le (by omega)]
  | succ n ih =>
    intro from_ h1 h2
    have hlt : from_ - g < s.db.length := by omega
    have hget : getBlockByHeight s from_ = some (s.db[from_ - g]) := by
      unfold getBlockByHeight
      rw [hmiss from_ (by omega), contig_byHeight hc]
      have : g ≤ from_ ∧ from_ < g + s.db.length := by omega
      simp only [this, and_self, if_true]
      exact List.getElem?_eq_getElem hlt
    have hrest := ih (from_ + 1) (by omega) (by omega)
    simp only [fetch, hget, hrest]
    rw [show from_ + 1 - g = (from_ - g) + 1 by omega]
    exact congrArg some (List.drop_eq_getElem_cons hlt).symm

/-- `RemoveBlock` after its tip lookup returned `l`: `l` ends the database chain, is not its only block, and
erasing it leaves the blocks before it -/
theorem rmRead_db {s : Sys} {l : Blk} (hinv : Inv s) (hw : s.wpc = .rmRead l) :
    ∃ old, s.db = old ++ [l] ∧ old ≠ [] ∧ s.db.erase l = old := by
  have hwpc := hinv.wpc_ok
  simp only [hw] at hwpc
  obtain ⟨old, hdb, hne⟩ := hwpc
  exact ⟨old, hdb, hne, by rw [hdb]; exact erase_last (hdb ▸ hinv.db_ok).ids⟩

/-- `AddBlock` after its database write: the push of the written block succeeds and leaves the cache showing the
end of the database chain -/
theorem addWritten_push {s : Sys} {b : Blk} (hinv : Inv s) (hw : s.wpc = .addWritten b) :
    ∃ c', push s.cache b = (c', none) ∧ Good s.db c' ∧ c'.maxSize = s.cache.maxSize := by
  have hwpc := hinv.wpc_ok
  simp only [hw] at hwpc
  obtain ⟨old, hdb⟩ := hwpc
  have hg := hinv.good
  rw [show published s = old by simp [published, hw, hdb]] at hg
  exact hdb ▸ good_push hg (hdb ▸ hinv.db_ok)

/-- `RemoveBlock` about to remove the only cached block `l`: the refill fetch succeeds and returns the end of
the database chain, at most `maxBlockCache` blocks and at least one -/
theorem refill_fetch {s : Sys} {l : Blk} (hinv : Inv s) (hw : s.wpc = .rmWritten l) (h1 : len s.cache = 1) :
    getBlocksBetweenHeight s (refillFrom s l) (sub32 l.height 1) =
      some (s.db.drop (refillFrom s l - s.genesisHeight)) ∧
    refillFrom s l - s.genesisHeight < s.db.length ∧
    s.db.length ≤ refillFrom s l - s.genesisHeight + s.maxBlockCache := by
  have hne := hinv.wpc_ok
  simp only [hw] at hne
  have hg := hinv.good
  have hpok := hinv.pub_ok
  rw [show published s = s.db ++ [l] by simp [published, hw]] at hg hpok
  have hlh : l.height = s.genesisHeight + s.db.length := contig_last hpok.contig
  have hlb := hpok.bound l (by simp)
  have hlen : 1 ≤ s.db.length := by
    cases hdb : s.db with
    | nil => exact absurd hdb hne
    | cons a r => simp
  have hrep := good_len_one hg h1
  have hmiss : ∀ h, h < s.genesisHeight + s.db.length → getByHeight s.cache h = none := by
    intro h hh'
    have hokl : ChainOK l.height [l] := ⟨⟨rfl, trivial⟩, by simp, by simpa using hlb⟩
    rw [repr_getByHeight hrep hokl, byHeight_cons]
    have : ¬ l.height = h := by omega
    simp [this, byHeight]
  have hsub : sub32 l.height 1 = l.height - 1 := by unfold sub32 u32 at *; omega
  have hfrom : s.genesisHeight ≤ refillFrom s l ∧ refillFrom s l ≤ l.height - 1 ∧
      l.height ≤ refillFrom s l + s.maxBlockCache := by
    unfold refillFrom
    rw [hsub]
    have := hinv.cap_pos
    unfold u32 at *
    omega
  exact ⟨fetch_spec s hinv.db_ok.contig hmiss (sub32 l.height 1 + 1 - refillFrom s l)
    (refillFrom s l) hfrom.1 (by rw [hsub]; omega), by omega, by omega⟩

/-- a write section that leaves the cache showing the end of the database chain, the writer idle again -/
theorem Inv.publish {s : Sys} (hinv : Inv s) {c' : Cache} (hm : c'.maxSize = s.cache.maxSize)
    (hg : Good s.db c') : Inv { s with cache := c', wpc := .idle } :=
  ⟨hinv.cap_pos, hm.trans hinv.cap_eq, hinv.db_ok, hinv.db_ok, hg, trivial⟩

/-- **Every step keeps the invariant.** The steps that do not end a write section leave the cache and the published
chain as they are (`published` absorbs the block in flight), so only the clauses on `db` and `wpc` are new; the two
that end one (`addCache`, `rmCache`) publish the database chain, by `good_push`, or `good_pop` / `good_replace`
according to whether the popped block was the only cached one. -/
theorem inv_step {s s' : Sys} {e : Ev} (hinv : Inv s) (hs : Step s e s') : Inv s' := by
  cases hs with
  | addDB b hw hok =>
    have hp : published s = s.db := by simp [published, hw]
    refine ⟨hinv.cap_pos, hinv.cap_eq, hok, ?_, ?_, ⟨s.db, rfl⟩⟩
    · simpa [published] using hinv.db_ok
    · have := hinv.good
      rw [hp] at this
      simpa [published] using this
  | addCache b hw hh =>
    obtain ⟨c', hpush, hg', hm⟩ := addWritten_push hinv hw
    rw [show (push s.cache b).1 = c' by rw [hpush]]
    exact hinv.publish hm hg'
  | rmReadOk l hw hl hne =>
    have hp : published s = s.db := by simp [published, hw]
    have hg := hinv.good
    rw [hp] at hg
    have hlast := (good_last hg hinv.db_ok).1
    rw [hl] at hlast
    obtain ⟨old, hdb⟩ := List.getLast?_eq_some_iff.mp hlast.symm
    refine ⟨hinv.cap_pos, hinv.cap_eq, hinv.db_ok, ?_, ?_, ⟨old, hdb, ?_⟩⟩
    · simpa [published] using hinv.db_ok
    · simpa [published] using hg
    · rintro rfl
      have hc := hinv.db_ok.contig
      rw [hdb] at hc
      exact hne (by simpa using contig_last hc)
  | rmReadGenesis l hw hl he => exact hinv
  | rmDB l hw =>
    obtain ⟨old, hdb, hne, her⟩ := rmRead_db hinv hw
    have hp : published s = s.db := by simp [published, hw]
    have hok := hinv.db_ok
    rw [hdb] at hok
    refine ⟨hinv.cap_pos, hinv.cap_eq, ?_, ?_, ?_, ?_⟩
    · simp only [her]; exact ChainOK.left hok
    · simp only [published, her]; exact hok
    · have hg := hinv.good
      rw [hp, hdb] at hg
      simp only [published, her]; exact hg
    · simp only [her]; exact hne
  | rmCache l hw hh =>
    have hg := hinv.good
    have hpok := hinv.pub_ok
    rw [show published s = s.db ++ [l] by simp [published, hw]] at hg hpok
    unfold removeFromCache
    by_cases h1 : len s.cache = 1
    · -- refill
      obtain ⟨hgb, hk, _⟩ := refill_fetch hinv hw h1
      simp only [h1, if_true, hgb]
      have hdne : s.db.drop (refillFrom s l - s.genesisHeight) ≠ [] := by
        intro h
        have := congrArg List.length h
        simp only [List.length_drop, List.length_nil] at this
        omega
      obtain ⟨hgood, hmax⟩ := good_replace s.cache (s.db.take (refillFrom s l - s.genesisHeight)) _ hdne
        (by rw [hinv.cap_eq]; exact hinv.cap_pos) (by rw [List.take_append_drop]; exact hinv.db_ok)
      rw [List.take_append_drop] at hgood
      exact hinv.publish hmax hgood
    · -- pop
      obtain ⟨c', tip, hpop, _, hgood, hmax⟩ := good_pop hg hpok h1
      simp only [h1, if_false, show (pop s.cache).1 = c' by rw [hpop]]
      rw [List.dropLast_concat] at hgood
      exact hinv.publish hmax hgood
  | acquire r | release r hr => exact ⟨hinv.cap_pos, hinv.cap_eq, hinv.db_ok, hinv.pub_ok, hinv.good, hinv.wpc_ok⟩

theorem inv_run {s s' : Sys} {es : List Ev} (hinv : Inv s) (hr : Run s es s') : Inv s' := by
  induction hr with
  | nil => exact hinv
  | cons hs _ ih => exact ih (inv_step hinv hs)

/-- What a step does to what the readers can see: nothing — or, no reader holding the lock, it ends a write
section and publishes the database chain. -/
theorem step_visible {s s' : Sys} {e : Ev} (hinv : Inv s) (hs : Step s e s') :
    (s'.cache = s.cache ∧ published s' = published s) ∨ (s.holding = [] ∧ published s' = s'.db) := by
  cases hs with
  | addDB b hw hok => exact .inl ⟨rfl, by simp [published, hw]⟩
  | addCache b hw hnil => exact .inr ⟨hnil, rfl⟩
  | rmReadOk l hw hl hne => exact .inl ⟨rfl, by simp [published, hw]⟩
  | rmReadGenesis l hw hl he => exact .inl ⟨rfl, rfl⟩
  | rmDB l hw =>
    obtain ⟨old, hdb, _, her⟩ := rmRead_db hinv hw
    refine .inl ⟨rfl, ?_⟩
    simp only [published, hw, her]
    exact hdb.symm
  | rmCache l hw hnil => exact .inr ⟨hnil, rfl⟩
  | acquire r => exact .inl ⟨rfl, rfl⟩
  | release r hr => exact .inl ⟨rfl, rfl⟩

theorem published_history {s0 s : Sys} {es : List Ev} (h0 : Inv s0) (hr : Run s0 es s) :
    published s = published s0 ∨
    ∃ es1 es2 s1, es = es1 ++ es2 ∧ Run s0 es1 s1 ∧ Run s1 es2 s ∧ s1.db = published s := by
  induction hr with
  | nil => left; rfl
  | @cons s s1 s2 e es hs hrest ih =>
    rcases ih (inv_step h0 hs) with hp | ⟨es1, es2, sm, rfl, r1, r2, h⟩
    · rcases step_visible h0 hs with ⟨_, hq⟩ | ⟨_, hq⟩
      · left; exact hp.trans hq
      · right
        exact ⟨[e], es, s1, rfl, .cons hs (.nil _), hrest, (hp.trans hq).symm⟩
    · right
      exact ⟨e :: es1, es2, sm, rfl, .cons hs r1, r2, h⟩

end C20.Data

open C20.Data

/-! ## (C) theorems -/

/-- **The cache invariant holds in every reachable state**, for every interleaving of the writer's
`AddBlock` / `RemoveBlock` micro-steps (push, pop and the refill through `replace`) with readers: the
cache holds exactly a window `w` (both maps, `size`, `currentHeight`) that is a non-empty suffix of the
published chain, ending at its tip, of length at most `maxSize = maxBlockCache`; the published chain is
well formed. -/
theorem C20_cache_suffix_invariant (s0 s : Sys) (es : List Ev) (h0 : Inv s0) (hr : Run s0 es s) :
    ∃ pre w, published s = pre ++ w ∧ w ≠ [] ∧ w.length ≤ s.maxBlockCache ∧ Repr w s.cache ∧
      len s.cache = w.length ∧ ChainOK s.genesisHeight (published s) := by
  have hinv := inv_run h0 hr
  obtain ⟨pre, w, h1, h2, h3, h4⟩ := hinv.good
  exact ⟨pre, w, h1, h2, hinv.cap_eq ▸ h3, h4, repr_len h4, hinv.pub_ok⟩

/-- **The published chain is a committed chain**: it is the database chain, or the database chain
without the block `AddBlock` has written but not yet pushed, or the database chain plus the block
`RemoveBlock` has deleted but not yet popped — in each case a state the database was in since the
current writer operation began. -/
theorem C20_published_is_committed (s0 s : Sys) (es : List Ev) (h0 : Inv s0) (hr : Run s0 es s) :
    ChainOK s.genesisHeight s.db ∧
    (published s = s.db ∨ (∃ b, s.wpc = .addWritten b ∧ s.db = published s ++ [b]) ∨
      (∃ l, s.wpc = .rmWritten l ∧ published s = s.db ++ [l])) := by
  have hinv := inv_run h0 hr
  refine ⟨hinv.db_ok, ?_⟩
  have hw := hinv.wpc_ok
  cases hwpc : s.wpc with
  | idle => left; simp [published, hwpc]
  | rmRead l => left; simp [published, hwpc]
  | addWritten b =>
    right; left
    simp only [hwpc] at hw
    obtain ⟨old, hdb⟩ := hw
    exact ⟨b, rfl, by simp [published, hwpc, hdb]⟩
  | rmWritten l => right; right; exact ⟨l, rfl, by simp [published, hwpc]⟩

/-- **The published chain was the database chain at some moment of the run**: starting with the
writer idle, in every reachable state the chain the readers see through the cache is literally the
content the database had after some prefix `es1` of the events executed so far. -/
theorem C20_published_chain_was_database_chain (s0 s : Sys) (es : List Ev) (h0 : Inv s0)
    (hidle : s0.wpc = .idle) (hr : Run s0 es s) :
    ∃ es1 es2 s1, es = es1 ++ es2 ∧ Run s0 es1 s1 ∧ Run s1 es2 s ∧ s1.db = published s := by
  rcases published_history h0 hr with hp | h
  · exact ⟨[], es, s0, rfl, .nil _, hr, by rw [hp]; simp [published, hidle]⟩
  · exact h

/-- **Readers always obtain a complete committed tip.** In every reachable state `blockCache.last()`
(hence `Chain.LastBlock`, `DataAccess.CachedLastBlock`, `GetLastBlock`) returns a block — never nil —
and it is the tip of the published chain; its height is the database tip's height, or one less
(`AddBlock` in flight: the old tip) or one more (`RemoveBlock` in flight: the tip being removed). -/
theorem C20_readers_observe_committed_tip (s0 s : Sys) (es : List Ev) (h0 : Inv s0) (hr : Run s0 es s) :
    ∃ tip dbTip, last s.cache = some tip ∧ (published s).getLast? = some tip ∧
      s.db.getLast? = some dbTip ∧
      tip.height + 1 = s.genesisHeight + (published s).length ∧
      (tip = dbTip ∨ (tip.height + 1 = dbTip.height ∧ ∃ b, s.wpc = .addWritten b) ∨
        (tip.height = dbTip.height + 1 ∧ ∃ l, s.wpc = .rmWritten l)) := by
  have hinv := inv_run h0 hr
  obtain ⟨hl, hsome⟩ := good_last hinv.good hinv.pub_ok
  obtain ⟨tip, htip⟩ := Option.isSome_iff_exists.mp hsome
  have hpl : (published s).getLast? = some tip := by rw [← hl, htip]
  have hth := contig_getLast hinv.pub_ok.contig hpl
  have hdbne : s.db ≠ [] := by
    rcases (C20_published_is_committed s0 s es h0 hr).2 with hp | ⟨b, _, hdb⟩ | ⟨l, hlw, _⟩
    · exact hp ▸ good_ne_nil hinv.good
    · simp [hdb]
    · simpa [hlw] using hinv.wpc_ok
  obtain ⟨dbTip, hdt⟩ : ∃ d, s.db.getLast? = some d := ⟨_, List.getLast?_eq_some_getLast hdbne⟩
  have hdh := contig_getLast hinv.db_ok.contig hdt
  refine ⟨tip, dbTip, htip, hpl, hdt, hth, ?_⟩
  rcases (C20_published_is_committed s0 s es h0 hr).2 with hp | ⟨b, hb, hdb⟩ | ⟨l, hlw, hp⟩
  · left
    rw [hp, hdt] at hpl
    injection hpl with h; exact h.symm
  · right; left
    refine ⟨?_, b, hb⟩
    have := congrArg List.length hdb
    simp only [List.length_append, List.length_singleton] at this
    omega
  · right; right
    refine ⟨?_, l, hlw⟩
    have := congrArg List.length hp
    simp only [List.length_append, List.length_singleton] at this
    omega

/-- **Cache hits are committed blocks.** In every reachable state a hit of `getByHeight` / `get` is the
block of the published chain at that height / with that id, `getByHeight` hits exactly the last
`len()` heights of the published chain, and `len()` is between 1 and `maxBlockCache`. -/
theorem C20_cache_hits_are_committed (s0 s : Sys) (es : List Ev) (h0 : Inv s0) (hr : Run s0 es s) :
    (∀ x b, getByHeight s.cache x = some b → byHeight (published s) x = some b) ∧
    (∀ i b, get s.cache i = some b → byID (published s) i = some b) ∧
    (∀ x, getByHeight s.cache x =
      if s.genesisHeight + (published s).length ≤ x + (len s.cache).toNat ∧
          x < s.genesisHeight + (published s).length then byHeight (published s) x else none) ∧
    1 ≤ len s.cache ∧ len s.cache ≤ s.maxBlockCache := by
  have hinv := inv_run h0 hr
  refine ⟨fun x b h => good_getByHeight_hit hinv.good hinv.pub_ok h,
    fun i b h => good_get_hit hinv.good hinv.pub_ok h,
    fun x => good_getByHeight_window hinv.good hinv.pub_ok x, ?_⟩
  rw [← hinv.cap_eq]
  exact good_len hinv.good

/-- **A read section sees one chain state.** If reader `r` holds the read lock in `s` and does not
release it during `es` — whatever the writer and the other readers do meanwhile — the cache and the
published chain at the end are those at the beginning: every observation made inside the section
(`last`, `getByHeight`, `get`, `len`, in any number and at any point) is an observation of the single
published chain that was current when the lock was acquired, and is still current at the release. -/
theorem C20_read_section_sees_one_chain_state (s s' : Sys) (es : List Ev) (r : Nat) (hinv : Inv s)
    (hr : Run s es s') (hhold : r ∈ s.holding) (hno : Ev.release r ∉ es) :
    s'.cache = s.cache ∧ published s' = published s ∧ r ∈ s'.holding := by
  induction hr with
  | nil => exact ⟨rfl, rfl, hhold⟩
  | @cons s s1 s2 e es hs _ ih =>
    have hne : s.holding ≠ [] := List.ne_nil_of_mem hhold
    obtain ⟨hc, hp⟩ := (step_visible hinv hs).resolve_right fun h => hne h.1
    have hhold1 : r ∈ s1.holding := by
      cases hs with
      | addDB b hw hok => exact hhold
      | addCache b hw hnil => exact absurd hnil hne
      | rmReadOk l hw hl hne' => exact hhold
      | rmReadGenesis l hw hl he => exact hhold
      | rmDB l hw => exact hhold
      | rmCache l hw hnil => exact absurd hnil hne
      | acquire r' => exact List.mem_cons_of_mem _ hhold
      | release r' hr' =>
        have : r ≠ r' := by
          rintro rfl
          exact hno (by simp)
        exact (List.mem_erase_of_ne this).mpr hhold
    obtain ⟨h1, h2, h3⟩ := ih (inv_step hinv hs) hhold1 (fun h => hno (List.mem_cons_of_mem _ h))
    exact ⟨h1.trans hc, h2.trans hp, h3⟩

/-- **The writer's sections never fail** in a reachable state: `push` in `AddBlock` returns no error;
`RemoveBlock` never dereferences a nil `lastBlock` (chain.go:110-111); when the last cached block is
about to be removed the refill fetch succeeds and returns the at most `maxBlockCache` blocks that end
the database chain. -/
theorem C20_writer_sections_never_fail (s0 s : Sys) (es : List Ev) (h0 : Inv s0) (hr : Run s0 es s) :
    (∀ b, s.wpc = .addWritten b → (push s.cache b).2 = none) ∧
    (∃ l, last s.cache = some l) ∧
    (∀ l, s.wpc = .rmWritten l → len s.cache = 1 →
      ∃ k, getBlocksBetweenHeight s (refillFrom s l) (sub32 l.height 1) = some (s.db.drop k) ∧
        k < s.db.length ∧ s.db.length ≤ k + s.maxBlockCache) := by
  have hinv := inv_run h0 hr
  refine ⟨?_, ?_, ?_⟩
  · intro b hw
    obtain ⟨c', hpush, _, _⟩ := addWritten_push hinv hw
    rw [hpush]
  · obtain ⟨tip, _, h, _⟩ := C20_readers_observe_committed_tip s0 s es h0 hr
    exact ⟨tip, h⟩
  · intro l hw h1
    exact ⟨_, refill_fetch hinv hw h1⟩

/-- **The refill is necessary**: popping the only cached block — `RemoveBlock` without the refill through
`replace` — leaves a cache in which `last()` returns nil although the chain still has a tip. -/
theorem C20_pop_of_last_cached_block_empties_cache (g : Nat) (chain : List Blk) (c : Cache)
    (hg : Good chain c) (hok : ChainOK g chain) (h1 : len c = 1) : last (pop c).1 = none := by
  obtain ⟨l, hl⟩ : ∃ l, chain.getLast? = some l := ⟨_, List.getLast?_eq_some_getLast (good_ne_nil hg)⟩
  obtain ⟨old, rfl⟩ := List.getLast?_eq_some_iff.mp hl
  have hrep := good_len_one hg h1
  have hokl : ChainOK (g + old.length) ([] ++ [l]) := by simpa using ChainOK.right hok
  obtain ⟨c', hp, hr', _⟩ := pop_window (w := []) (by simpa using hrep) hokl
  rw [hp]
  simpa using repr_last hr' (ChainOK.nil 0)

/-! ### the same invariant for arbitrary sequences of cache operations, and for start-up -/

namespace C20.Data

/-- an operation on the cache together with its effect on the chain it mirrors -/
inductive COp where
  | push (b : Blk)          -- AddBlock
  | pop                     -- RemoveBlock, more than one block cached
  | refill (bs : List Blk)  -- RemoveBlock, one block cached: `replace` with the blocks below the tip

def COp.valid (g : Nat) (chain : List Blk) (c : Cache) : COp → Prop
  | .push b => ChainOK g (chain ++ [b])
  | .pop => len c ≠ 1
  | .refill bs => bs ≠ [] ∧ ∃ pre, chain.dropLast = pre ++ bs

def COp.apply (chain : List Blk) (c : Cache) : COp → List Blk × Cache
  | .push b => (chain ++ [b], (CacheModel.push c b).1)
  | .pop => (chain.dropLast, (CacheModel.pop c).1)
  | .refill bs => (chain.dropLast, replace c bs)

/-- a sequence of operations, each valid where it is applied -/
inductive CRun (g : Nat) : List Blk → Cache → List COp → List Blk → Cache → Prop where
  | nil (chain : List Blk) (c : Cache) : CRun g chain c [] chain c
  | cons {chain chain' : List Blk} {c c' : Cache} {op : COp} {ops : List COp} :
      op.valid g chain c → CRun g (op.apply chain c).1 (op.apply chain c).2 ops chain' c' →
      CRun g chain c (op :: ops) chain' c'

end C20.Data

/-- **The invariant holds after every sequence of push / pop / refill**, starting from any cache that
satisfies it: the cache stays a non-empty suffix of the chain ending at its tip, of length ≤ `maxSize`,
and `last()` returns the chain's tip. -/
theorem C20_cache_invariant_all_sequences (g : Nat) (chain chain' : List Blk) (c c' : Cache)
    (ops : List COp) (hok : ChainOK g chain) (hg : Good chain c)
    (hrun : CRun g chain c ops chain' c') :
    ChainOK g chain' ∧ Good chain' c' ∧ c'.maxSize = c.maxSize ∧ last c' = chain'.getLast? ∧
      (last c').isSome = true := by
  induction hrun with
  | nil chain c => exact ⟨hok, hg, rfl, (good_last hg hok).1, (good_last hg hok).2⟩
  | @cons chain chain' c c' op ops hv _ ih =>
    -- one valid operation keeps the chain well formed, the invariant and the capacity
    have hstep : ChainOK g (op.apply chain c).1 ∧ Good (op.apply chain c).1 (op.apply chain c).2 ∧
        (op.apply chain c).2.maxSize = c.maxSize := by
      cases op with
      | push b =>
        obtain ⟨c1, hp, hg1, hm⟩ := good_push hg hv
        simp only [COp.apply, hp]
        exact ⟨hv, hg1, hm⟩
      | pop =>
        obtain ⟨c1, tip, hp, _, hg1, hm⟩ := good_pop hg hok hv
        simp only [COp.apply, hp]
        exact ⟨dropLast_ok hok, hg1, hm⟩
      | refill bs =>
        obtain ⟨hne, pre, hpre⟩ := hv
        have hcap : 1 ≤ c.maxSize := by have := good_len hg; omega
        obtain ⟨hg1, hm⟩ := good_replace c pre bs hne hcap (hpre ▸ dropLast_ok hok)
        exact ⟨dropLast_ok hok, by simpa [COp.apply, hpre] using hg1, hm⟩
    obtain ⟨h1, h2, h3, h4⟩ := ih hstep.1 hstep.2.1
    exact ⟨h1, h2, h3.trans hstep.2.2, h4⟩

/-- **Start-up establishes the invariant** (`Chain.PrepareCache`, chain.go:135-160: consecutive blocks
ending at the last block are pushed into the fresh cache, more of them than it holds): after pushing
the non-empty consecutive blocks `bs` that end the chain into `newBlockCache maxSize`, no push has
failed and the invariant holds. -/
theorem C20_prepare_cache_establishes_invariant (g maxSize : Nat) (hcap : 1 ≤ maxSize)
    (pre : List Blk) (b : Blk) (bs : List Blk) (hok : ChainOK g (pre ++ b :: bs)) :
    let r := (b :: bs).foldl (fun (acc : Cache × Bool) x => ((push acc.1 x).1, acc.2 && (push acc.1 x).2.isNone))
      (newBlockCache maxSize, true)
    r.2 = true ∧ Good (pre ++ b :: bs) r.1 ∧ r.1.maxSize = maxSize := by
  have hfirst : ChainOK g ((pre ++ [b]) ++ bs) := by simpa using hok
  obtain ⟨c1, hp1, hg1, hm1⟩ := good_first_push pre b maxSize hcap (ChainOK.left hfirst)
  have key : ∀ (bs : List Blk) (chain : List Blk) (c : Cache), Good chain c → ChainOK g (chain ++ bs) →
      let r := bs.foldl (fun (acc : Cache × Bool) x => ((push acc.1 x).1, acc.2 && (push acc.1 x).2.isNone)) (c, true)
      r.2 = true ∧ Good (chain ++ bs) r.1 ∧ r.1.maxSize = c.maxSize := by
    intro bs
    induction bs with
    | nil => intro chain c hg _; simpa using hg
    | cons x bs ih =>
      intro chain c hg hok
      have hok' : ChainOK g ((chain ++ [x]) ++ bs) := by simpa using hok
      obtain ⟨c2, hp, hg2, hm⟩ := good_push hg (ChainOK.left hok')
      have := ih (chain ++ [x]) c2 hg2 hok'
      simp only [List.foldl_cons, hp, Option.isNone_none, Bool.and_true]
      simp only [List.append_assoc, List.singleton_append] at this
      exact ⟨this.1, this.2.1, this.2.2.trans hm⟩
  have := key bs (pre ++ [b]) c1 hg1 hfirst
  simp only [List.foldl_cons, hp1, Option.isNone_none, Bool.and_true]
  simp only [List.append_assoc, List.singleton_append] at this
  exact ⟨this.1, this.2.1, this.2.2.trans hm1⟩

/-! ## (D) bulk lookups with one result slot per request -/

namespace C20.Data

/-- data_access.go:96-113 (also 127-144, 240-257, 213-226, 367-381): `slots := make([]T, n)`; worker `i`
performs lookup `i` — observing `res i`, whatever the shared state is at that moment — and, if it
found something, stores it into `slots[i]`; `sched` is the order in which the workers get to run. -/
def bulkSlots {α} (n : Nat) (res : Nat → Option α) (sched : List Nat) : List (Option α) :=
  sched.foldl (fun slots i => match res i with
    | some v => slots.set i (some v)
    | none => slots) (List.replicate n none)

/-- data_access.go:117-123: the non-nil slots, in slot order -/
def compact {α} (slots : List (Option α)) : List α := slots.filterMap id

theorem foldl_slots_get {α} (res : Nat → Option α) (sched : List Nat) (slots : List (Option α)) (i : Nat) :
    (sched.foldl (fun slots i => match res i with
      | some v => slots.set i (some v)
      | none => slots) slots)[i]? =
      if i ∈ sched ∧ (res i).isSome ∧ i < slots.length then some (res i) else slots[i]? := by
  induction sched generalizing slots with
  | nil => simp
  | cons j sched ih =>
    simp only [List.foldl_cons, ih]
    cases hj : res j with
    | none =>
      by_cases hij : i = j
      · subst hij; simp [hj]
      · simp [hij]
    | some v =>
      simp only [List.length_set]
      by_cases hij : i = j
      · subst hij
        by_cases hlt : i < slots.length
        · simp [hj, hlt]
        · simp [hlt]
      · have : ¬ j = i := fun h => hij h.symm
        simp [hij, List.getElem?_set_ne this]

end C20.Data

/-- **Bulk lookups return every found item exactly once, in request order, for every worker
schedule.** `n` requests, one worker per request, `res i` what worker `i` observed; if every worker has
run (`sched` contains every index below `n`; running twice or out-of-range indices change nothing) the
slots hold exactly `res 0, …, res (n-1)`, and the compacted result is the found items in request
order. -/
theorem C20_bulk_lookup_request_order {α} (n : Nat) (res : Nat → Option α) (sched : List Nat)
    (hall : ∀ i, i < n → i ∈ sched) :
    bulkSlots n res sched = (List.range n).map res ∧
    compact (bulkSlots n res sched) = (List.range n).filterMap res := by
  have h1 : bulkSlots n res sched = (List.range n).map res := by
    apply List.ext_getElem?
    intro i
    unfold bulkSlots
    rw [foldl_slots_get]
    simp only [List.length_replicate, List.getElem?_map, List.getElem?_replicate]
    by_cases hi : i < n
    · cases hres : res i with
      | none => simp [hi, hres]
      | some v => simp [hi, hall i hi, hres]
    · simp [hi]
  refine ⟨h1, ?_⟩
  rw [h1, compact, List.filterMap_map]
  rfl

/-- the same with the requests as a list and a lookup against an unchanging store: the result is
`ids.filterMap lookup` — each requested id answered once, at its place, missing ones skipped -/
theorem C20_bulk_lookup_static {κ α} (ids : List κ) (lookup : κ → Option α) (sched : List Nat)
    (hall : ∀ i, i < ids.length → i ∈ sched) :
    compact (bulkSlots ids.length (fun i => ids[i]?.bind lookup) sched) = ids.filterMap lookup := by
  rw [(C20_bulk_lookup_request_order ids.length _ sched hall).2]
  have : (List.range ids.length).map (fun i => ids[i]?) = ids.map some := by
    apply List.ext_getElem?
    intro i
    simp only [List.getElem?_map]
    by_cases hi : i < ids.length
    · simp [hi]
    · simp [hi]
  have h2 : (List.range ids.length).filterMap (fun i => ids[i]?.bind lookup) =
      ((List.range ids.length).map (fun i => ids[i]?)).filterMap (fun o => o.bind lookup) := by
    rw [List.filterMap_map]; rfl
  rw [h2, this, List.filterMap_map]
  rfl

/-- all-or-error variant (`GetBlocksBetweenHeight`, `getTransactions`): if every lookup succeeds the
slice is the items in request order -/
theorem C20_bulk_lookup_all_found {α} (n : Nat) (res : Nat → Option α) (item : Nat → α) (sched : List Nat)
    (hall : ∀ i, i < n → i ∈ sched) (hres : ∀ i, i < n → res i = some (item i)) :
    bulkSlots n res sched = (List.range n).map (fun i => some (item i)) := by
  rw [(C20_bulk_lookup_request_order n res sched hall).1]
  apply List.map_congr_left
  intro i hi
  exact hres i (List.mem_range.mp hi)

/-! ## hypotheses that cannot be dropped, non-vacuity -/

namespace C20.Data

def g0 : Blk := ⟨[0], 0, 0⟩
def b1 : Blk := ⟨[1], 1, 10⟩
def b2 : Blk := ⟨[2], 2, 20⟩
def b3 : Blk := ⟨[3], 3, 30⟩

/-- the cache of capacity `n` after pushing the given blocks -/
def cacheOf (n : Nat) (bs : List Blk) : Cache := bs.foldl (fun c b => (push c b).1) (newBlockCache n)

/-- a block whose id repeats the id of a cached block (excluded by `ChainOK.ids`) -/
def b2dup : Blk := ⟨[1], 2, 99⟩

end C20.Data

/-- distinct block ids are needed: with a repeated id `push` succeeds but the height index of the older
block now leads to the newer block -/
theorem C20_duplicate_id_breaks_height_lookup :
    (push (cacheOf 3 [g0, b1]) b2dup).2 = none ∧
    getByHeight (push (cacheOf 3 [g0, b1]) b2dup).1 1 = some b2dup ∧ b2dup.height = 2 := by
  decide

/-- the lock is needed: the two map reads of `last()` (block_cache.go:32 and :36) made on either side of
a `pop` return nil although both the old and the new tip exist -/
theorem C20_torn_read_without_lock :
    let c := cacheOf 3 [g0, b1, b2]
    let c' := (pop c).1
    last c = some b2 ∧ last c' = some b1 ∧
    (match mget c.heightIndex c.currentHeight with
     | none => none
     | some id => mget c'.cachedBlocks id) = none := by
  decide

namespace C20.Data

theorem chainOK3 : ChainOK 0 [g0, b1, b2, b3] :=
  ⟨by simp [ContigFrom, g0, b1, b2, b3], by decide, by simp [u32, g0, b1, b2, b3]⟩

/-- genesis in the database and in a cache of capacity 2 -/
def sys0 : Sys :=
  { genesisHeight := 0, maxBlockCache := 2, db := [g0], cache := cacheOf 2 [g0], wpc := .idle, holding := [] }

theorem sys0_inv : Inv sys0 := by
  have hok : ChainOK 0 ([] ++ [g0]) := ChainOK.left (p := [g0]) (w := [b1, b2, b3]) chainOK3
  obtain ⟨c', hp, hg, hm⟩ := good_first_push [] g0 2 (by omega) hok
  have hc : cacheOf 2 [g0] = c' := by
    simp only [cacheOf, List.foldl_cons, List.foldl_nil, hp]
  refine ⟨by simp [sys0], ?_, hok, hok, ?_, trivial⟩
  · simp only [sys0, hc, hm]
  · simpa [sys0, published, hc] using hg

end C20.Data

/-- non-vacuity of the run theorems: from genesis, `AddBlock b1` with a reader holding the lock between the
database write and the push, `AddBlock b2` (evicting `g0`: the capacity is 2), `AddBlock b3` (evicting `b1`), then
two `RemoveBlock`s — the first
pops (one block stays cached), the second finds a single cached block and refills from the database,
with a reader holding the lock across its database write — all steps are enabled, and the
observations are as computed (the Go code gives the same values on this scenario) -/
example : ∃ s, Run sys0
    [.addDB b1, .acquire 7, .release 7, .addCache, .addDB b2, .addCache, .addDB b3, .addCache,
     .rmRead, .rmDB, .rmCache, .rmRead, .acquire 8, .rmDB, .release 8, .rmCache] s ∧
    s.db = [g0, b1] ∧ last s.cache = some b1 ∧ len s.cache = 2 ∧ getByHeight s.cache 0 = some g0 := by
  exact ⟨_,
    .cons (Step.addDB _ b1 rfl (ChainOK.left (p := [g0, b1]) (w := [b2, b3]) chainOK3)) <|
    .cons (Step.acquire _ 7) <|
    .cons (Step.release _ 7 (by simp)) <|
    .cons (Step.addCache _ b1 rfl (by decide)) <|
    .cons (Step.addDB _ b2 rfl (ChainOK.left (p := [g0, b1, b2]) (w := [b3]) chainOK3)) <|
    .cons (Step.addCache _ b2 rfl rfl) <|
    .cons (Step.addDB _ b3 rfl chainOK3) <|
    .cons (Step.addCache _ b3 rfl rfl) <|
    .cons (Step.rmReadOk _ b3 rfl (by decide) (by decide)) <|
    .cons (Step.rmDB _ b3 rfl) <|
    .cons (Step.rmCache _ b3 rfl rfl) <|
    .cons (Step.rmReadOk _ b2 rfl (by decide) (by decide)) <|
    .cons (Step.acquire _ 8) <|
    .cons (Step.rmDB _ b2 rfl) <|
    .cons (Step.release _ 8 (by simp)) <|
    .cons (Step.rmCache _ b2 rfl (by decide)) <|
    .nil _, by decide⟩

/-- non-vacuity of `C20_cache_invariant_all_sequences`: a valid sequence (a push, then a refill) -/
example : ∃ chain' c', CRun 0 [g0] (cacheOf 1 [g0]) [.push b1, .refill [g0]] chain' c' ∧
    chain' = [g0] ∧ last c' = some g0 := by
  refine ⟨_, _, .cons (ChainOK.left (p := [g0, b1]) (w := [b2, b3]) chainOK3)
    (.cons ⟨by simp, [], by simp [COp.apply]⟩ (.nil _ _)), ?_, ?_⟩ <;> decide

/-- non-vacuity of `C20_pop_of_last_cached_block_empties_cache` -/
example : len (cacheOf 1 [g0, b1]) = 1 ∧ last (pop (cacheOf 1 [g0, b1])).1 = none := by decide

/-- non-vacuity of the bulk lookup theorems: three requests, workers scheduled 2, 0, 1, the second
request not found -/
example : compact (bulkSlots 3 (fun i => if i = 1 then none else some (i * 10)) [2, 0, 1]) = [0, 20] := by
  decide

/-- non-vacuity of `C20_prepare_cache_establishes_invariant`: three blocks pushed into a cache of 2 -/
example : Good [g0, b1, b2, b3] (cacheOf 2 [b1, b2, b3]) ∧ last (cacheOf 2 [b1, b2, b3]) = some b3 ∧
    getByHeight (cacheOf 2 [b1, b2, b3]) 1 = none := by
  have h := C20_prepare_cache_establishes_invariant 0 2 (by omega) [g0] b1 [b2, b3] chainOK3
  refine ⟨?_, by decide, by decide⟩
  have hc : cacheOf 2 [b1, b2, b3] =
      ([b1, b2, b3].foldl (fun (acc : Cache × Bool) x => ((push acc.1 x).1, acc.2 && (push acc.1 x).2.isNone))
        (newBlockCache 2, true)).1 := by rfl
  rw [hc]
  exact h.2.1

/-- non-vacuity of `C20_bulk_lookup_static`: ids 5, 6, 7 with 6 unknown, workers scheduled 1, 2, 0 -/
example : compact (bulkSlots 3 (fun i => [5, 6, 7][i]?.bind (fun k => if k = 6 then none else some (k + 100)))
    [1, 2, 0]) = [105, 107] := by
  decide
