/-
C01 — Finality safety beyond the static, in-window theorem of `Props/C01_Safety.lean`. Four parts, in this order,
except that the node-rule half of the third stands at the end of the file.

Accountability: two conflicting finalized blocks ⇒ the validators that signed contradicting headers (computed,
`C01culprits`, each with an explicit pair of headers) hold at least `τ_pc + τ_pv − W` of the weight.

Thresholds (`C01_threshold_iff`): for total weight `W` and a precommit threshold accepted by `SetBFTParameters`,
safety against every Byzantine set of weight `< W/3` holds for all configurations iff
`⌊(W−1)/3⌋ + W < τ_pc + ⌊2W/3⌋ + 1`. The "only if" part is a parametric family of counterexamples: the specification
sees the weights only through the prevote-quorum decisions (`Lemmas/BFTPattern.lean`), and the family takes them as
the known counterexample does.

The windowed model on chains of any length: the window always holds exactly the specification's weights; the
model's heights are `≤` the specification's (possibly strictly: `C01_model_below_spec_beyond_window`), attained by a
quorum, and equal while the specification's value lies inside the window. Safety of the model follows for chains
that are chain-valid for the specification, and — the safety argument instantiated for the windowed rules,
`finality_safety_w` — for chains valid for the NODE (`C01NodeValid`: the model's own `maxHeightPrevoted` and
windowed contradiction check, beyond the window a different, weaker rule: `C01_node_rules_differ_beyond_window`).

Dynamic parameters (LIP-0058; `BFTSpecDyn` in `Lemmas/BFTDyn.lean`: a change takes effect at the next height, votes
are weighed with the parameters of the voted height, continuing validators keep `minActiveHeight` /
`largestHeightPrecommit`, new ones start at the next height, leaving ones lose their entry): safety holds when the
parameters of every pair of CONFLICTING blocks (lower `B₁`, `B₂` at least as high) satisfy the bounded-change
condition `byzWeight(P₂) + W(P₁) + gain(P₁→P₂) < τ_pc(P₁) + τ_pv(P₂)` — for `P₁ = P₂` this is (H-thr) of the static
theorem. The per-set condition alone is NOT sufficient, even with no Byzantine validator and parameters that depend
on the height only (`C01_dyn_cross_condition_necessary*`). The windowed model of the Go code, driven with the same
`SetBFTParameters` calls, is EVALUATED against `BFTSpecDyn` on the examples (`C01_dyn_model_agrees_on_examples`),
not proved to refine it.
-/
import LiskVerif.Lemmas.BFTDyn
import LiskVerif.Lemmas.BFTPattern
import LiskVerif.Props.C01_Safety

open LiskVerif LiskVerif.BFT LiskVerif.BFTSpec

/-! ## Accountability -/

/-- the validators of `cfg` that signed two contradicting headers somewhere in the tree `T`
(computed by the executable check `C01honestB`) -/
def C01culprits (cfg : Cfg) (T : List (List Header)) : List Bytes :=
  (cfg.validators.map (·.address)).filter fun a => !(C01honestB T a)

/-- Every culprit is a validator and comes with an explicit pair of distinct blocks of the tree,
both generated by it, whose headers contradict (`AreDistinctHeadersContradicting`). -/
theorem C01_culprit_witness (cfg : Cfg) (T : List (List Header)) (a : Bytes)
    (ha : a ∈ C01culprits cfg T) :
    (∃ v ∈ cfg.validators, v.address = a) ∧
    ∃ l₁ ∈ T, ∃ l₂ ∈ T, ∃ (B₁ B₂ : List Header) (x₁ x₂ : Header),
      B₁ ++ [x₁] <+: l₁ ∧ B₂ ++ [x₂] <+: l₂ ∧ x₁.gen = a ∧ x₂.gen = a ∧ B₁ ++ [x₁] ≠ B₂ ++ [x₂] ∧
      Gen.areDistinctHeadersContradicting (BFTSpec.toHdr x₁) (BFTSpec.toHdr x₂) = true := by
  unfold C01culprits at ha
  rw [List.mem_filter, List.mem_map] at ha
  exact ⟨ha.1, C01honestB_false T a (by simpa using ha.2)⟩

/-- **Accountability.** If two chains of a tree of chain-valid chains finalize conflicting blocks
(their finalized prefixes are not prefix-comparable), then the validators that signed contradicting
headers in the tree hold at least `τ_pc + τ_pv − W` of the weight. No assumption on who is honest:
the culprit set is computed from the chains (take `T = [l₁, l₂]`), and `C01_culprit_witness` returns
the two contradicting headers of each culprit. -/
theorem C01_accountability (cfg : Cfg) (T : List (List Header)) (hpc : 0 < cfg.precommitThreshold)
    (hvalid : ∀ l ∈ T, C01ChainValid cfg l) (l₁ l₂ : List Header) (h₁ : l₁ ∈ T) (h₂ : l₂ ∈ T)
    (hconf : ¬ (C01finalizedPrefix cfg l₁ <+: C01finalizedPrefix cfg l₂ ∨
                C01finalizedPrefix cfg l₂ <+: C01finalizedPrefix cfg l₁)) :
    cfg.precommitThreshold + prevoteThreshold cfg ≤
      totalWeight cfg + C01byzWeight cfg (C01culprits cfg T) := by
  apply Classical.byContradiction
  intro hlt
  apply hconf
  apply C01_finality_safety_partial cfg T (C01culprits cfg T) hpc (by omega) hvalid ?_ l₁ l₂ h₁ h₂
  intro v hv hn
  apply C01honestB_sound
  unfold C01culprits at hn
  rw [List.mem_filter] at hn
  cases hb : C01honestB T v.address with
  | true => rfl
  | false => exact absurd ⟨List.mem_map.mpr ⟨v, hv, rfl⟩, by simp [hb]⟩ hn

/-- for the standard thresholds the culprits hold more than one third of the weight -/
theorem C01_accountability_one_third (cfg : Cfg) (T : List (List Header))
    (hstd : totalWeight cfg * 2 / 3 + 1 ≤ cfg.precommitThreshold)
    (hvalid : ∀ l ∈ T, C01ChainValid cfg l) (l₁ l₂ : List Header) (h₁ : l₁ ∈ T) (h₂ : l₂ ∈ T)
    (hconf : ¬ (C01finalizedPrefix cfg l₁ <+: C01finalizedPrefix cfg l₂ ∨
                C01finalizedPrefix cfg l₂ <+: C01finalizedPrefix cfg l₁)) :
    totalWeight cfg < 3 * C01byzWeight cfg (C01culprits cfg T) := by
  have := C01_accountability cfg T (by omega) hvalid l₁ l₂ h₁ h₂ hconf
  unfold prevoteThreshold at this
  omega

/-- non-vacuity: on the low-threshold counterexample (`τ_pc = 2`, `W = 4`, `τ_pv = 3`) the two chains
finalize conflicting blocks, the computed culprit set is `{z}` of weight `1 = τ_pc + τ_pv − W` -/
example : C01culprits C01witnessCfg [C01specChainA, C01specChainB] = [[0x0e]] ∧
    C01witnessCfg.precommitThreshold + prevoteThreshold C01witnessCfg =
      totalWeight C01witnessCfg + C01byzWeight C01witnessCfg (C01culprits C01witnessCfg [C01specChainA, C01specChainB]) ∧
    ¬ (C01finalizedPrefix C01witnessCfg C01specChainA <+: C01finalizedPrefix C01witnessCfg C01specChainB ∨
       C01finalizedPrefix C01witnessCfg C01specChainB <+: C01finalizedPrefix C01witnessCfg C01specChainA) := by
  decide +kernel

/-- in the example tree of `C01_Safety` the double forger `z` is identified -/
example : C01culprits C01exCfg C01exTree = [[0x0e]] := by
  have h := C01exTree_honestB
  simp [C01culprits, C01exCfg, h.2, h.1 [0x0a] (by simp), h.1 [0x0b] (by simp), h.1 [0x0c] (by simp)]

/-! ## The admissible thresholds -/

/-- four validators a, b, c, z with arbitrary weights, genesis height 0 -/
def C01pCfg (wa wb wc wz τ : Nat) : Cfg :=
  ⟨0, [⟨[0x0a], wa⟩, ⟨[0x0b], wb⟩, ⟨[0x0c], wc⟩, ⟨[0x0e], wz⟩], τ⟩

/-- chain B of the counterexample, one block longer (so that `c` precommits as well) -/
def C01pChainB : List Header := C01specChainB ++ [⟨9, [0x0c], 6, 6, none⟩]

/-- the constraints on the weights and the prevote threshold `t = ⌊2W/3⌋+1` of the configuration under
which the two chains `C01specChainA`, `C01pChainB` are chain-valid and finalize conflicting blocks -/
structure C01pCons (wa wb wc wz τ t : Nat) : Prop where
  ht : prevoteThreshold (C01pCfg wa wb wc wz τ) = t
  h1 : wa + wz < t
  h2 : t ≤ wa + wz + wb
  h3 : wz + wb < t
  h4 : wc + wz < t
  h5 : t ≤ wz + wb + wc
  h6 : wb + wc < t
  h7 : τ ≤ wa + wz
  h8 : τ ≤ wz + wb + wc

/-- Chain A under the constraints. The comparisons of `t` with the prevote weights that occur are decided
from `h1`–`h3` beforehand, so that unfolding the specification along the chain leaves no conditional open. -/
private theorem chain_A (wa wb wc wz τ t : Nat) (ht : prevoteThreshold (C01pCfg wa wb wc wz τ) = t)
    (h1 : wa + wz < t) (h2 : t ≤ wa + wz + wb) (h3 : wz + wb < t) :
    C01ChainValid (C01pCfg wa wb wc wz τ) C01specChainA ∧
      pcW (C01pCfg wa wb wc wz τ) C01specChainA.reverse 1 = wz + wa := by
  unfold C01pCfg at ht
  have f0 : t ≠ 0 := by omega
  have f1 : ¬ t ≤ wz := by omega
  have f2 : ¬ t ≤ wb + wz := by omega
  have f3 : ¬ t ≤ wz + wb := by omega
  have f4 : ¬ t ≤ wb := by omega
  have f5 : ¬ t ≤ wa + wz := by omega
  have f6 : ¬ t ≤ wa := by omega
  simp [C01ChainValid, chainValid, mhp, contradictingSpec, C01pCfg, C01specChainA, pcW, precommits, minPc, hnp,
    BFTSpec.hnpLoop, blockAt, lhp, maxWith, pvW, prevotes, weightOf, findValidator, ht, f0, f1, f2, f3, f4, f5,
    f6, h2]
  decide

/-- Chain B under the constraints: the configuration decides the prevote quorums along the chain as the concrete one
with weights 1, 1, 1, 1 does (the voter lists that occur are computed by the kernel, `h3`–`h6` decide each), so
validity and the precommit voters of height 4 are those of the concrete configuration (`spec_congr`, `pcW_congr`). -/
private theorem chain_B (wa wb wc wz τ t : Nat) (ht : prevoteThreshold (C01pCfg wa wb wc wz τ) = t)
    (h3 : wz + wb < t) (h4 : wc + wz < t) (h5 : t ≤ wz + wb + wc) (h6 : wb + wc < t) :
    C01ChainValid (C01pCfg wa wb wc wz τ) C01pChainB ∧
      pcW (C01pCfg wa wb wc wz τ) C01pChainB.reverse 4 = wz + wb + wc := by
  have hS : ∀ l ∈ pvQueries (C01pCfg 1 1 1 1 0) C01pChainB.reverse,
      l ∈ [[], [[0x0e], [0x0c]], [[0x0c], [0x0e]], [[0x0c], [0x0b], [0x0e]], [[0x0e], [0x0c], [0x0b]],
        [[0x0b], [0x0e], [0x0c]], [[0x0c], [0x0b]], [[0x0c]], [[0x0b], [0x0e]], [[0x0b]], [[0x0e]]] := by
    decide +kernel
  have hv : C01ChainValid (C01pCfg 1 1 1 1 0) C01pChainB := by decide +kernel
  have hg : (C01pCfg wa wb wc wz τ).genesis = (C01pCfg 1 1 1 1 0).genesis := rfl
  have wb' : weightIn (C01pCfg wa wb wc wz τ).validators [0x0b] = wb := rfl
  have wc' : weightIn (C01pCfg wa wb wc wz τ).validators [0x0c] = wc := rfl
  have wz' : weightIn (C01pCfg wa wb wc wz τ).validators [0x0e] = wz := rfl
  have H : SamePattern (C01pCfg wa wb wc wz τ) (C01pCfg 1 1 1 1 0) C01pChainB.reverse := by
    refine samePattern_of_queries hg (valid_consec _ hv) fun l hl => ?_
    have h3' : prevoteThreshold (C01pCfg 1 1 1 1 0) = 3 := rfl
    have ub' : weightIn (C01pCfg 1 1 1 1 0).validators [0x0b] = 1 := rfl
    have uc' : weightIn (C01pCfg 1 1 1 1 0).validators [0x0c] = 1 := rfl
    have uz' : weightIn (C01pCfg 1 1 1 1 0).validators [0x0e] = 1 := rfl
    rw [ht, h3']
    have := hS l hl
    simp only [List.mem_cons, List.not_mem_nil, or_false] at this
    rcases this with rfl | rfl | rfl | rfl | rfl | rfl | rfl | rfl | rfl | rfl | rfl <;>
      simp only [List.map_cons, List.map_nil, List.sum_cons, List.sum_nil, wb', wc', wz', ub', uc', uz',
        decide_eq_decide] <;> omega
  refine ⟨?_, ?_⟩
  · unfold C01ChainValid
    rw [(spec_congr hg H).2.2]
    exact hv
  · rw [pcW_congr hg H, show voters (fun p x => precommits (C01pCfg 1 1 1 1 0) p x 4) C01pChainB.reverse =
      [[0x0c], [0x0b], [0x0e]] by decide +kernel]
    simp only [List.map_cons, List.map_nil, List.sum_cons, List.sum_nil, wb', wc', wz']
    omega

/-- the property C01 states of a configuration: safety against every Byzantine set holding less than
one third of the weight, for every tree of chain-valid chains -/
def C01OneThirdSafe (cfg : Cfg) : Prop :=
  ∀ (T : List (List Header)) (byz : List Bytes),
    3 * C01byzWeight cfg byz < totalWeight cfg →
    (∀ l ∈ T, C01ChainValid cfg l) →
    (∀ v ∈ cfg.validators, v.address ∉ byz → C01Honest T v.address) →
    ∀ l₁ ∈ T, ∀ l₂ ∈ T,
      C01finalizedPrefix cfg l₁ <+: C01finalizedPrefix cfg l₂ ∨
      C01finalizedPrefix cfg l₂ <+: C01finalizedPrefix cfg l₁

/-- **Parametric counterexample.** For ANY weights of a, b, c, z and precommit threshold satisfying the
linear constraints `C01pCons` with `3·w(z) < W`, the two chains `a z b z a` / `c z c z b c z b c` are
chain-valid, only `z` ever contradicts itself, and the views finalize conflicting blocks
(`[a]` versus `[c, z, c, z]`). -/
theorem C01_parametric_counterexample (wa wb wc wz τ t : Nat) (H : C01pCons wa wb wc wz τ t)
    (hz : 3 * wz < wa + wb + wc + wz) : ¬ C01OneThirdSafe (C01pCfg wa wb wc wz τ) := by
  intro hs
  obtain ⟨ht, h1, h2, h3, h4, h5, h6, h7, h8⟩ := H
  obtain ⟨vA, pA⟩ := chain_A wa wb wc wz τ t ht h1 h2 h3
  obtain ⟨vB, pB⟩ := chain_B wa wb wc wz τ t ht h3 h4 h5 h6
  have hb : ∀ a ∈ [[0x0a], [0x0b], [0x0c]], C01honestB [C01specChainA, C01pChainB] a = true := by
    decide +kernel
  have hbyz : 3 * C01byzWeight (C01pCfg wa wb wc wz τ) [[0x0e]] < totalWeight (C01pCfg wa wb wc wz τ) := by
    simp [C01byzWeight, wsumB, C01pCfg, totalWeight]
    omega
  have := hs [C01specChainA, C01pChainB] [[0x0e]] hbyz
    (by intro l hl; simp at hl; rcases hl with rfl | rfl
        · exact vA
        · exact vB)
    (fun v hv hn => C01honestB_sound _ _ (hb _ (by
      simp only [C01pCfg, List.mem_cons, List.not_mem_nil, or_false] at hv hn ⊢
      rcases hv with rfl | rfl | rfl | rfl <;> simp at hn ⊢)))
    C01specChainA (by simp) C01pChainB (by simp)
  have hA : 1 ≤ mhpc (C01pCfg wa wb wc wz τ) C01specChainA.reverse :=
    maxWith_ge _ _ _ 1 (by simp only [decide_eq_true_eq]; rw [pA]; show τ ≤ _; omega)
      (by show 0 < 1; omega) (by show 1 ≤ 0 + C01specChainA.reverse.length; decide)
  have hB : 4 ≤ mhpc (C01pCfg wa wb wc wz τ) C01pChainB.reverse :=
    maxWith_ge _ _ _ 4 (by simp only [decide_eq_true_eq]; rw [pB]; exact h8)
      (by show 0 < 4; omega) (by show 4 ≤ 0 + C01pChainB.reverse.length; decide)
  unfold C01finalizedPrefix specHeights at this
  simp only at this
  obtain ⟨n, hn⟩ : ∃ n, mhpc (C01pCfg wa wb wc wz τ) C01specChainA.reverse - (C01pCfg wa wb wc wz τ).genesis = n + 1 :=
    ⟨mhpc (C01pCfg wa wb wc wz τ) C01specChainA.reverse - 1, by simp [C01pCfg] at hA ⊢; omega⟩
  obtain ⟨m, hm⟩ : ∃ m, mhpc (C01pCfg wa wb wc wz τ) C01pChainB.reverse - (C01pCfg wa wb wc wz τ).genesis = m + 1 :=
    ⟨mhpc (C01pCfg wa wb wc wz τ) C01pChainB.reverse - 1, by simp [C01pCfg] at hB ⊢; omega⟩
  rw [hn, hm] at this
  simp [C01specChainA, C01pChainB, C01specChainB, List.take_succ_cons, List.cons_prefix_cons] at this

/-- the weights `a, b, a, r` chosen for total weight `W` with `q = ⌊2W/3⌋`, `r = ⌊(W-1)/3⌋` and an
inadmissible threshold `τ` satisfy the constraints `C01pCons` -/
private theorem pCons_arith {W τ q r a b : Nat} (hq : 3 * q ≤ 2 * W ∧ 2 * W < 3 * q + 3)
    (hr : 3 * r + 1 ≤ W ∧ W < 3 * r + 4) (hlo : W < 3 * τ) (hv : ¬ (r + W < τ + (q + 1)))
    (ha : a + (q + 1) = W) (hb : b + W + r = 2 * (q + 1)) :
    (a + r < q + 1 ∧ q + 1 ≤ a + r + b ∧ r + b < q + 1 ∧ q + 1 ≤ r + b + a ∧ b + a < q + 1 ∧ τ ≤ a + r ∧
      τ ≤ r + b + a) ∧ 3 * r < a + b + a + r ∧ 0 < a ∧ 0 < b ∧ 0 < r ∧ a + (b + (a + r)) = W := by
  omega

/-- **The admissible thresholds.** Let `W` be the total weight and `τ_pc` a precommit threshold in the
range `[⌊W/3⌋+1, W]` accepted by `SetBFTParameters` (`τ_pv = ⌊2W/3⌋+1` is fixed by it). Then EVERY
configuration with these numbers (positive weights, distinct addresses) is safe against every
Byzantine set of weight `< W/3` if and only if `⌊(W−1)/3⌋ + W < τ_pc + τ_pv`. -/
theorem C01_threshold_iff (W τpc : Nat) (hlo : W / 3 + 1 ≤ τpc) (hhi : τpc ≤ W) :
    (∀ cfg : Cfg, totalWeight cfg = W → cfg.precommitThreshold = τpc →
      (∀ v ∈ cfg.validators, 0 < v.weight) → (cfg.validators.map (·.address)).Nodup →
      C01OneThirdSafe cfg) ↔
    (W - 1) / 3 + W < τpc + (W * 2 / 3 + 1) := by
  constructor
  · intro h
    apply Classical.byContradiction
    intro hv
    -- `q = ⌊2W/3⌋`, `r = ⌊(W-1)/3⌋`; the weights `a = c = W - τ_pv`, `b = 2τ_pv - W - r`, `z = r`
    obtain ⟨q, hq⟩ : ∃ q, W * 2 / 3 = q := ⟨_, rfl⟩
    obtain ⟨r, hr⟩ : ∃ r, (W - 1) / 3 = r := ⟨_, rfl⟩
    have hq' : 3 * q ≤ 2 * W ∧ 2 * W < 3 * q + 3 := by omega
    have hr' : 3 * r + 1 ≤ W ∧ W < 3 * r + 4 := by omega
    have hlo' : W < 3 * τpc := by omega
    rw [hq, hr] at hv
    obtain ⟨a, ha⟩ : ∃ a, a + (q + 1) = W := ⟨W - (q + 1), by omega⟩
    obtain ⟨b, hb⟩ : ∃ b, b + W + r = 2 * (q + 1) := ⟨2 * (q + 1) - W - r, by omega⟩
    obtain ⟨⟨h1, h2, h3, h5, h6, h7, h8⟩, hz, ha0, hb0, hr0, hsum⟩ := pCons_arith hq' hr' hlo' hv ha hb
    have hW : totalWeight (C01pCfg a b a r τpc) = W := by simpa [totalWeight, C01pCfg] using hsum
    have ht : prevoteThreshold (C01pCfg a b a r τpc) = q + 1 := by unfold prevoteThreshold; rw [hW, hq]
    refine C01_parametric_counterexample _ _ _ _ _ _ ⟨ht, h1, h2, h3, h1, h5, h6, h7, h8⟩ hz (h _ hW rfl ?_ ?_)
    · intro v hv'
      simp only [C01pCfg, List.mem_cons, List.not_mem_nil, or_false] at hv'
      rcases hv' with rfl | rfl | rfl | rfl <;> assumption
    · simp [C01pCfg]
  · intro hc cfg hW hτ _ _ T byz hbyz hvalid hhon l₁ h₁ l₂ h₂
    refine C01_finality_safety_partial cfg T byz (by omega) ?_ hvalid hhon l₁ l₂ h₁ h₂
    unfold prevoteThreshold
    omega

/-- the same condition as a lower bound on `τ_pc`; in particular the standard `τ_pc = ⌊2W/3⌋+1` is
admissible and no `τ_pc ≤ ⌊2W/3⌋ − 2` is -/
theorem C01_threshold_condition_forms (W τpc : Nat) :
    ((W - 1) / 3 + W < τpc + (W * 2 / 3 + 1) ↔ (W - 1) / 3 + W - W * 2 / 3 ≤ τpc) ∧
    (W * 2 / 3 + 1 ≤ τpc → (W - 1) / 3 + W < τpc + (W * 2 / 3 + 1)) ∧
    (τpc + 2 ≤ W * 2 / 3 → ¬ ((W - 1) / 3 + W < τpc + (W * 2 / 3 + 1))) := by
  refine ⟨by omega, by omega, by omega⟩

/-- The lower bound `⌊W/3⌋+1` that `SetBFTParameters` accepts is inadmissible exactly for
`W ≥ 4, W ≠ 6` (the known finding). -/
theorem C01_lowest_accepted_threshold_inadmissible_iff (W : Nat) :
    ¬ ((W - 1) / 3 + W < (W / 3 + 1) + (W * 2 / 3 + 1)) ↔ (4 ≤ W ∧ W ≠ 6) := by
  obtain ⟨k, hk⟩ : ∃ k, W = 3 * k ∨ W = 3 * k + 1 ∨ W = 3 * k + 2 := ⟨W / 3, by omega⟩
  rcases hk with rfl | rfl | rfl <;> omega

/-- non-vacuity of the "only if" part: `W = 4`, `τ_pc = 2` gives the weights 1, 1, 1, 1 of the
known counterexample; `W = 100`, `τ_pc = 50` gives a = c = 33, b = 1, z = 33 -/
example : ¬ C01OneThirdSafe (C01pCfg 1 1 1 1 2) ∧ ¬ C01OneThirdSafe (C01pCfg 33 1 33 33 50) :=
  ⟨C01_parametric_counterexample 1 1 1 1 2 3 ⟨by decide, by decide, by decide, by decide, by decide, by decide,
      by decide, by decide, by decide⟩ (by decide),
   C01_parametric_counterexample 33 1 33 33 50 67 ⟨by decide, by decide, by decide, by decide, by decide,
      by decide, by decide, by decide, by decide⟩ (by decide)⟩

/-- non-vacuity of the "if" part: the example configuration of `C01_Safety` (`W = 4`, `τ_pc = 3`) -/
example : C01OneThirdSafe C01exCfg :=
  (C01_threshold_iff 4 3 (by decide) (by decide)).mpr (by decide) C01exCfg (by decide) rfl
    (by decide) (by decide)

/-! ## The windowed model on chains of any length -/

/-- **Model versus specification on chains of ANY length.** Start from the state produced by
`SetBFTParameters` on the genesis state. For every chain `l` with heights `g+1, g+2, …` below `2^32`
— however long — the windowed model accepts every header, and in the final state
* the window holds exactly the specification's prevote and precommit weights of the last
  `3·batchSize` blocks,
* `maxHeightPrevoted` / `maxHeightPrecommitted` are `≤` the specification's values,
* they are the genesis height or heights that DO have a prevote / precommit quorum in the
  specification's view of the chain (the model never finalizes what the specification does not),
* they EQUAL the specification's values whenever those lie within the window (less than
  `3·batchSize` below the tip). -/
theorem C01_model_vs_spec_any_length (bs g pcThr certThr : Nat) (vs : List Validator) (s0 : State)
    (l : List Header) (hinit : setParams (initGenesis bs g) pcThr certThr vs = .ok s0)
    (hh : HeightsFrom (g + 1) l) (hu : g + l.length + 1 < 4294967296) :
    ∃ s, C01runChain s0 l = some s ∧
      s.infos = mkInfos (pvW (C01sortedCfg g pcThr vs) l.reverse) (pcW (C01sortedCfg g pcThr vs) l.reverse)
        (l.reverse.take (3 * bs)) ∧
      s.mhp ≤ (specHeights (C01sortedCfg g pcThr vs) l).1 ∧
      s.mhpc ≤ (specHeights (C01sortedCfg g pcThr vs) l).2 ∧
      (s.mhp = g ∨ prevoteThreshold (C01sortedCfg g pcThr vs) ≤ pvW (C01sortedCfg g pcThr vs) l.reverse s.mhp) ∧
      (s.mhpc = g ∨ pcThr ≤ pcW (C01sortedCfg g pcThr vs) l.reverse s.mhpc) ∧
      (g + (l.length - 3 * bs) < (specHeights (C01sortedCfg g pcThr vs) l).1 →
        s.mhp = (specHeights (C01sortedCfg g pcThr vs) l).1) ∧
      (g + (l.length - 3 * bs) < (specHeights (C01sortedCfg g pcThr vs) l).2 →
        s.mhpc = (specHeights (C01sortedCfg g pcThr vs) l).2) := by
  obtain ⟨hbs, P, addrs, hst, hI⟩ := setParams_init_inv bs g pcThr certThr vs s0 hinit
  obtain ⟨s, hs, hIs, _, _⟩ := runChain_window (C01sortedCfg g pcThr vs) bs hbs P addrs hst l [] s0
    (WInv.of_inv hI) trivial hh (by show g + (l.length + 0) + 1 < 4294967296; omega)
  simp only [List.append_nil] at hIs
  have hw := winLo_eq (C01sortedCfg g pcThr vs) bs l.reverse
  simp only [List.length_reverse] at hw
  have hg : (C01sortedCfg g pcThr vs).genesis = g := rfl
  have hp : (C01sortedCfg g pcThr vs).precommitThreshold = pcThr := rfl
  refine ⟨s, hs, hIs.infos, hIs.mhp_le, hIs.mhpc_le, ?_, ?_, ?_, ?_⟩
  · have := hIs.mhp_att; rw [hg] at this; exact this
  · have := hIs.mhpc_att; rw [hg, hp] at this; exact this
  · intro h; exact hIs.mhp_win (by rw [hw, hg]; exact h)
  · intro h; exact hIs.mhpc_win (by rw [hw, hg]; exact h)

/-- Both pairs of heights are monotone along every chain, of any length: the model's
(`maxHeightPrevoted`, `maxHeightPrecommitted` never decrease when blocks are appended) and the
specification's. -/
theorem C01_heights_monotone_any_length (bs g pcThr certThr : Nat) (vs : List Validator) (s0 : State)
    (l₁ l₂ : List Header) (hinit : setParams (initGenesis bs g) pcThr certThr vs = .ok s0)
    (hh : HeightsFrom (g + 1) (l₁ ++ l₂)) (hu : g + (l₁ ++ l₂).length + 1 < 4294967296) :
    ∃ s₁ s, C01runChain s0 l₁ = some s₁ ∧ C01runChain s0 (l₁ ++ l₂) = some s ∧
      s₁.mhp ≤ s.mhp ∧ s₁.mhpc ≤ s.mhpc ∧
      (specHeights (C01sortedCfg g pcThr vs) l₁).1 ≤ (specHeights (C01sortedCfg g pcThr vs) (l₁ ++ l₂)).1 ∧
      (specHeights (C01sortedCfg g pcThr vs) l₁).2 ≤ (specHeights (C01sortedCfg g pcThr vs) (l₁ ++ l₂)).2 := by
  obtain ⟨hbs, P, addrs, hst, hI⟩ := setParams_init_inv bs g pcThr certThr vs s0 hinit
  have hg : (C01sortedCfg g pcThr vs).genesis = g := rfl
  obtain ⟨hh1, hh2⟩ := heightsFrom_append hh
  simp only [List.length_append] at hu
  obtain ⟨s₁, hs₁, hI₁, _, _⟩ := runChain_window (C01sortedCfg g pcThr vs) bs hbs P addrs hst l₁ [] s0
    (WInv.of_inv hI) trivial hh1 (by simp only [List.length_nil, hg]; unfold u32; omega)
  simp only [List.append_nil] at hI₁
  have hc₁ : Consec (C01sortedCfg g pcThr vs).genesis l₁.reverse := by
    have := (consec_reverse_append (g := g) l₁ []).mpr ⟨trivial, by simpa using hh1⟩
    rw [hg]
    simpa using this
  obtain ⟨s, hs, _, hm, hm', _⟩ := runChain_window (C01sortedCfg g pcThr vs) bs hbs P addrs hst l₂ l₁.reverse s₁
    hI₁ hc₁ (by
      simp only [List.length_reverse, hg]
      have e : g + l₁.length + 1 = g + 1 + l₁.length := by omega
      rw [e]; exact hh2)
    (by simp only [List.length_reverse, hg]; unfold u32; omega)
  refine ⟨s₁, s, hs₁, ?_, hm, hm', ?_, ?_⟩
  · rw [runChain_append, hs₁]; exact hs
  · unfold specHeights
    simp only [List.reverse_append]
    exact mhp_mono _ (List.suffix_append _ _)
  · unfold specHeights
    simp only [List.reverse_append]
    exact mhpc_mono _ (List.suffix_append _ _)

/-- **Finality safety of the windowed model for trees of chains of ANY length** (`C01_finality_safety_model_partial`
without `length ≤ 3·batchSize`): with the parameters installed by `SetBFTParameters` on the genesis state, (H-thr),
`0 < τ_pc`, heights below `2^32`, chains that are chain-valid in the sense of the SPECIFICATION (beyond the window the node checks a weaker rule, see
`C01_finality_safety_node_rules_partial`) and honest validators outside `byz`, the finalized prefixes computed by the
MODEL are prefix-comparable. -/
theorem C01_finality_safety_model_any_length_partial (bs g pcThr certThr : Nat) (vs : List Validator)
    (s0 : State) (hinit : setParams (initGenesis bs g) pcThr certThr vs = .ok s0)
    (T : List (List Header)) (byz : List Bytes) (hpc : 0 < pcThr)
    (hthr : C01byzWeight (C01sortedCfg g pcThr vs) byz + totalWeight (C01sortedCfg g pcThr vs) <
      pcThr + prevoteThreshold (C01sortedCfg g pcThr vs))
    (hvalid : ∀ l ∈ T, C01ChainValid (C01sortedCfg g pcThr vs) l)
    (hu : ∀ l ∈ T, g + l.length + 1 < 4294967296)
    (hhon : ∀ v ∈ (C01sortedCfg g pcThr vs).validators, v.address ∉ byz → C01Honest T v.address)
    (l₁ l₂ : List Header) (h₁ : l₁ ∈ T) (h₂ : l₂ ∈ T) :
    ∃ s₁ s₂, C01runChain s0 l₁ = some s₁ ∧ C01runChain s0 l₂ = some s₂ ∧
      (l₁.take (s₁.mhpc - g) <+: l₂.take (s₂.mhpc - g) ∨ l₂.take (s₂.mhpc - g) <+: l₁.take (s₁.mhpc - g)) := by
  obtain ⟨s₁, hr₁, _, _, hm₁, _⟩ := C01_model_vs_spec_any_length bs g pcThr certThr vs s0 l₁ hinit
    (C01_valid_heights _ l₁ (hvalid l₁ h₁)) (hu l₁ h₁)
  obtain ⟨s₂, hr₂, _, _, hm₂, _⟩ := C01_model_vs_spec_any_length bs g pcThr certThr vs s0 l₂ hinit
    (C01_valid_heights _ l₂ (hvalid l₂ h₂)) (hu l₂ h₂)
  refine ⟨s₁, s₂, hr₁, hr₂, ?_⟩
  have hsafe := C01_finality_safety_partial (C01sortedCfg g pcThr vs) T byz hpc hthr hvalid hhon l₁ l₂ h₁ h₂
  unfold C01finalizedPrefix at hsafe
  have hg : (C01sortedCfg g pcThr vs).genesis = g := rfl
  rw [hg] at hsafe
  have p₁ : l₁.take (s₁.mhpc - g) <+: l₁.take ((specHeights (C01sortedCfg g pcThr vs) l₁).2 - g) :=
    List.take_prefix_take_left (by omega)
  have p₂ : l₂.take (s₂.mhpc - g) <+: l₂.take ((specHeights (C01sortedCfg g pcThr vs) l₂).2 - g) :=
    List.take_prefix_take_left (by omega)
  rcases hsafe with h | h
  · exact List.prefix_or_prefix_of_prefix (p₁.trans h) p₂
  · exact List.prefix_or_prefix_of_prefix p₁ (p₂.trans h)

/-- 15 blocks forged alternately by `a` and `b`, longer than the window of 6 (batch size 2). The first example below
applies `C01_model_vs_spec_any_length` to it (the model accepts it and its finalized height is at most the
specification's); the second evaluates both: the chain is chain-valid, the specification's heights are (14, 12), the
model's are the same and its window holds 6 entries. -/
def C01longChain : List Header :=
  (List.range 15).map fun i => ⟨i + 1, [if i % 2 = 0 then 0x0a else 0x0b], i - 1, i - 1, none⟩

example : ∃ s, C01runChain (match setParams (initGenesis 2 0) 2 2 [⟨[0x0a], 1⟩, ⟨[0x0b], 1⟩] with
      | .ok s => s | .error _ => initGenesis 2 0) C01longChain = some s ∧
    s.mhpc ≤ (specHeights (C01sortedCfg 0 2 [⟨[0x0a], 1⟩, ⟨[0x0b], 1⟩]) C01longChain).2 := by
  obtain ⟨s, h1, _, _, h2, _⟩ := C01_model_vs_spec_any_length 2 0 2 2 [⟨[0x0a], 1⟩, ⟨[0x0b], 1⟩]
    (match setParams (initGenesis 2 0) 2 2 [⟨[0x0a], 1⟩, ⟨[0x0b], 1⟩] with
      | .ok s => s | .error _ => initGenesis 2 0) C01longChain (by rfl)
    (C01_valid_heights (C01sortedCfg 0 2 [⟨[0x0a], 1⟩, ⟨[0x0b], 1⟩]) C01longChain (by decide +kernel)) (by decide)
  exact ⟨s, h1, h2⟩

example : C01ChainValid (C01sortedCfg 0 2 [⟨[0x0a], 1⟩, ⟨[0x0b], 1⟩]) C01longChain ∧
    specHeights (C01sortedCfg 0 2 [⟨[0x0a], 1⟩, ⟨[0x0b], 1⟩]) C01longChain = (14, 12) ∧
    ((match setParams (initGenesis 2 0) 2 2 [⟨[0x0a], 1⟩, ⟨[0x0b], 1⟩] with
      | .ok s => C01runChain s C01longChain | .error _ => none).map
        fun (s : State) => (s.mhp, s.mhpc, s.infos.length)) = some (14, 12, 6) := by
  decide +kernel

/-- The chain of `C01_model_below_spec_beyond_window` (the inequality can be strict, already for
`maxHeightPrevoted`): `a` prevotes height 1, then forges
six blocks that imply no votes (`maxHeightGenerated = height`), then `b` (never forged before,
`maxHeightGenerated = 0`) implies prevotes for heights 1…8. In the specification height 1 reaches the
quorum; in the Go code / the model height 1 has left the window of 6 blocks and `maxHeightPrevoted`
stays at the genesis height. A header built on this chain with `maxHeightPrevoted = 0` is valid for
the node and not chain-valid for the specification (and vice versa with 1). -/
def C01strictChain : List Header :=
  [⟨1, [0x0a], 0, 0, none⟩, ⟨2, [0x0a], 2, 0, none⟩, ⟨3, [0x0a], 3, 0, none⟩, ⟨4, [0x0a], 4, 0, none⟩,
   ⟨5, [0x0a], 5, 0, none⟩, ⟨6, [0x0a], 6, 0, none⟩, ⟨7, [0x0a], 7, 0, none⟩, ⟨8, [0x0b], 0, 0, none⟩]

theorem C01_model_below_spec_beyond_window :
    C01ChainValid (C01sortedCfg 0 2 [⟨[0x0a], 1⟩, ⟨[0x0b], 1⟩]) C01strictChain ∧
    specHeights (C01sortedCfg 0 2 [⟨[0x0a], 1⟩, ⟨[0x0b], 1⟩]) C01strictChain = (1, 0) ∧
    ((match setParams (initGenesis 2 0) 2 2 [⟨[0x0a], 1⟩, ⟨[0x0b], 1⟩] with
      | .ok s => C01runChain s C01strictChain | .error _ => none).map
        fun (s : State) => (s.mhp, s.mhpc, s.infos.length)) = some (0, 0, 6) := by
  decide +kernel

/-! ## Dynamic parameters -/

open LiskVerif.BFTSpecDyn (DynCfg PSet)

/-- chain validity (oldest-first chain) for the dynamic specification -/
def C01DynChainValid (D : DynCfg) (l : List Header) : Prop := BFTSpecDyn.Valid D l.reverse

instance (D : DynCfg) (l : List Header) : Decidable (C01DynChainValid D l) := by
  unfold C01DynChainValid BFTSpecDyn.Valid; infer_instance

/-- the finalized prefix of chain `l` in the dynamic specification -/
def C01dynFinalizedPrefix (D : DynCfg) (l : List Header) : List Header :=
  l.take ((BFTSpecDyn.specHeights D l).2 - D.genesis)

/-- total weight in `P` of the validators whose address is in `byz` -/
def C01dynByzWeight (P : PSet) (byz : List Bytes) : Nat := wsumB P.validators (fun a => decide (a ∈ byz))

/-- **Bounded change** between the parameters `P₁` of a block and the parameters `P₂` of a conflicting
block at the same or a greater height: `byzWeight(P₂) + W(P₁) + gain(P₁→P₂) < τ_pc(P₁) + τ_pv(P₂)`, where
`gain` is the weight validators hold in `P₂` beyond their weight in `P₁` (new validators count fully).
For `P₁ = P₂` (distinct addresses) `gain = 0` and this is (H-thr). -/
def C01DynBound (byz : List Bytes) (P₁ P₂ : PSet) : Prop :=
  C01dynByzWeight P₂ byz + P₁.total + BFTSpecDyn.gain P₁ P₂ < P₁.precommitThreshold + P₂.pvThr

instance (byz : List Bytes) (P₁ P₂ : PSet) : Decidable (C01DynBound byz P₁ P₂) := by
  unfold C01DynBound; infer_instance

/-- **Finality safety with dynamic parameters** (LIP-0058 parameter changes along the chains). `D.par B`
is the parameter set in force for the block built on top of the chain `B` (newest first; set by
`SetBFTParameters` while the tip of `B` is executed). Hypotheses, all about blocks of the tree `T` only:
positive precommit thresholds, distinct validator addresses, chain-valid chains, every validator of any
parameter set outside `byz` honest in `T`, and the bounded-change condition `C01DynBound` between the
parameters of every two CONFLICTING blocks `B₁ ++ [x₁]` (lower) and `B₂ ++ [x₂]` (at least as high).
Then the finalized prefixes of any two chains are prefix-comparable. -/
theorem C01_dyn_finality_safety_partial (D : DynCfg) (T : List (List Header)) (byz : List Bytes)
    (hpc : ∀ l ∈ T, ∀ B, B <+: l → 0 < (D.par B.reverse).precommitThreshold)
    (hnd : ∀ l ∈ T, ∀ B, B <+: l → ((D.par B.reverse).validators.map (·.address)).Nodup)
    (hvalid : ∀ l ∈ T, C01DynChainValid D l)
    (hhon : ∀ l ∈ T, ∀ B, B <+: l → ∀ v ∈ (D.par B.reverse).validators, v.address ∉ byz →
      C01Honest T v.address)
    (hcross : ∀ l₁ ∈ T, ∀ l₂ ∈ T, ∀ (B₁ B₂ : List Header) (x₁ x₂ : Header),
      B₁ ++ [x₁] <+: l₁ → B₂ ++ [x₂] <+: l₂ → B₁.length ≤ B₂.length → ¬ (B₁ ++ [x₁] <+: B₂ ++ [x₂]) →
      C01DynBound byz (D.par B₁.reverse) (D.par B₂.reverse))
    (l₁ l₂ : List Header) (h₁ : l₁ ∈ T) (h₂ : l₂ ∈ T) :
    C01dynFinalizedPrefix D l₁ <+: C01dynFinalizedPrefix D l₂ ∨
    C01dynFinalizedPrefix D l₂ <+: C01dynFinalizedPrefix D l₁ := by
  have hX : BFTSpecDyn.CrossOK D (T.map List.reverse) := by
    apply BFTSpecDyn.crossOK_of_bound D _ (fun a => decide (a ∈ byz))
    · intro p hp
      obtain ⟨l, hl, hpre⟩ := inTree_prefix hp
      simpa using hnd l hl p.reverse hpre
    · intro p hp v hv hb
      obtain ⟨l, hl, hpre⟩ := inTree_prefix hp
      exact honestR_of_honest T _ (hhon l hl p.reverse hpre v (by rwa [List.reverse_reverse]) (by simpa using hb))
    · intro y b' z c' hy hz hlen hns
      obtain ⟨l₁, hl₁, hp₁⟩ := inTree_prefix hy
      obtain ⟨l₂, hl₂, hp₂⟩ := inTree_prefix hz
      have e1 : (y :: b').reverse = b'.reverse ++ [y] := by simp
      have e2 : (z :: c').reverse = c'.reverse ++ [z] := by simp
      rw [e1] at hp₁
      rw [e2] at hp₂
      have := hcross l₁ hl₁ l₂ hl₂ b'.reverse c'.reverse y z hp₁ hp₂ (by simpa using hlen) (by
        intro hpre
        apply hns
        rw [← e1, ← e2] at hpre
        exact List.reverse_prefix.mp hpre)
      rw [List.reverse_reverse, List.reverse_reverse] at this
      exact this
  exact C01take_comparable (N := BFTSpecDyn.mhpc D)
    (BFTSpecDyn.finality_safety_rev D (T.map List.reverse) (List.forall_mem_map.mpr hvalid)
      (fun p hp => by obtain ⟨l, hl, hpre⟩ := inTree_prefix hp; simpa using hpc l hl p.reverse hpre) hX)
    h₁ h₂ ⟨BFTSpecDyn.mhpc_ge_genesis _ _, BFTSpecDyn.mhpc_le _ _⟩ ⟨BFTSpecDyn.mhpc_ge_genesis _ _, BFTSpecDyn.mhpc_le _ _⟩

/-- For constant parameters the dynamic specification IS the static one: same chain validity, same
heights, same finalized prefixes; and the bounded-change condition is (H-thr). -/
theorem C01_dyn_static_embedding (cfg : Cfg) (l : List Header) :
    (C01DynChainValid (BFTSpecDyn.ofCfg cfg) l ↔ C01ChainValid cfg l) ∧
    BFTSpecDyn.specHeights (BFTSpecDyn.ofCfg cfg) l = specHeights cfg l ∧
    C01dynFinalizedPrefix (BFTSpecDyn.ofCfg cfg) l = C01finalizedPrefix cfg l ∧
    ∀ byz, (cfg.validators.map (·.address)).Nodup →
      (C01DynBound byz (BFTSpecDyn.psetOf cfg) (BFTSpecDyn.psetOf cfg) ↔
        C01byzWeight cfg byz + totalWeight cfg < cfg.precommitThreshold + prevoteThreshold cfg) := by
  have hs : BFTSpecDyn.specHeights (BFTSpecDyn.ofCfg cfg) l = specHeights cfg l := by
    unfold BFTSpecDyn.specHeights specHeights
    rw [BFTSpecDyn.mhp_ofCfg, BFTSpecDyn.mhpc_ofCfg]
  refine ⟨?_, hs, ?_, ?_⟩
  · unfold C01DynChainValid BFTSpecDyn.Valid C01ChainValid
    rw [BFTSpecDyn.chainValid_ofCfg]
  · unfold C01dynFinalizedPrefix C01finalizedPrefix
    rw [hs]; rfl
  · intro byz hnd
    unfold C01DynBound
    rw [BFTSpecDyn.gain_self _ hnd]
    rfl

/-! ### the per-set threshold condition does not suffice -/

/-- parameters that depend on the HEIGHT only (the same on every branch): validator `a` alone for
heights 1 and 2, validator `d` alone from height 3 on; each set with `W = 1`, `τ_pv = 1`, `τ_pc = 1` -/
def C01schedCfg : DynCfg :=
  ⟨0, fun p => if p.length < 2 then ⟨[⟨[0x0a], 1⟩], 1⟩ else ⟨[⟨[0x0d], 1⟩], 1⟩⟩

/-- `a` forges two blocks and finalizes the first -/
def C01schedA : List Header := [⟨1, [0x0a], 0, 0, none⟩, ⟨2, [0x0a], 1, 1, none⟩]

/-- a generator without BFT weight forges two other blocks, then `d` (active from height 3) forges two
blocks and finalizes height 3 of this branch -/
def C01schedB : List Header :=
  [⟨1, [0x05], 0, 0, none⟩, ⟨2, [0x05], 1, 0, none⟩, ⟨3, [0x0d], 0, 0, none⟩, ⟨4, [0x0d], 3, 3, none⟩]

private theorem honest_of_gens (T : List (List Header)) (gens : List Bytes)
    (hg : ∀ l ∈ T, ∀ x ∈ l, x.gen ∈ gens) (hb : ∀ a ∈ gens, C01honestB T a = true) (a : Bytes) :
    C01Honest T a := by
  by_cases ha : a ∈ gens
  · exact C01honestB_sound T a (hb a ha)
  · intro l₁ hl₁ _ _ B₁ _ x₁ _ hp₁ _ hg₁ _ _
    exfalso
    apply ha
    rw [← hg₁]
    exact hg l₁ hl₁ x₁ (hp₁.subset (by simp))

/-- **Without the cross condition safety fails**, even with NO misbehaving validator and even when the
parameters depend on the height only (so all branches agree on them): every parameter set satisfies the
static threshold condition with Byzantine weight 0 and lies in the range accepted by
`SetBFTParameters`, both chains are chain-valid, no generator ever contradicts itself, and the two views
finalize conflicting blocks (`[a₁]` versus `[s₁, s₂, d₃]`). The validator set is replaced completely
between heights 2 and 3: `gain = 1`, `0 + 1 + 1 ≮ 1 + 1`. -/
theorem C01_dyn_cross_condition_necessary :
    (∀ p, 0 < (C01schedCfg.par p).precommitThreshold ∧
      ((C01schedCfg.par p).validators.map (·.address)).Nodup ∧
      (C01schedCfg.par p).total / 3 + 1 ≤ (C01schedCfg.par p).precommitThreshold ∧
      (C01schedCfg.par p).precommitThreshold ≤ (C01schedCfg.par p).total ∧
      C01DynBound [] (C01schedCfg.par p) (C01schedCfg.par p)) ∧
    (∀ p q : List Header, p.length = q.length → C01schedCfg.par p = C01schedCfg.par q) ∧
    (∀ l ∈ [C01schedA, C01schedB], C01DynChainValid C01schedCfg l) ∧
    (∀ a, C01Honest [C01schedA, C01schedB] a) ∧
    ¬ (C01dynFinalizedPrefix C01schedCfg C01schedA <+: C01dynFinalizedPrefix C01schedCfg C01schedB ∨
       C01dynFinalizedPrefix C01schedCfg C01schedB <+: C01dynFinalizedPrefix C01schedCfg C01schedA) ∧
    ¬ C01DynBound [] (C01schedCfg.par [⟨1, [0x0a], 0, 0, none⟩]) (C01schedCfg.par [⟨2, [0x05], 1, 0, none⟩, ⟨1, [0x05], 0, 0, none⟩]) := by
  refine ⟨?_, ?_, by decide +kernel, ?_, by decide +kernel, by decide +kernel⟩
  · intro p
    unfold C01schedCfg
    simp only
    split <;> decide
  · intro p q h
    unfold C01schedCfg
    simp only [h]
  · exact honest_of_gens _ [[0x0a], [0x05], [0x0d]] (by decide) (by decide +kernel)

/-- parameters decided by the (unfinalized, conflicting) first block: `{a, b}` for height 1, then the
generator of block 1 alone -/
def C01forkCfg : DynCfg :=
  ⟨0, fun p => match p.getLast? with
    | none => ⟨[⟨[0x0a], 1⟩, ⟨[0x0b], 1⟩], 2⟩
    | some x => if x.gen = [0x0a] then ⟨[⟨[0x0a], 1⟩], 1⟩ else ⟨[⟨[0x0b], 1⟩], 1⟩⟩

def C01forkA : List Header := [⟨1, [0x0a], 0, 0, none⟩, ⟨2, [0x0a], 1, 0, none⟩, ⟨3, [0x0a], 2, 2, none⟩]
def C01forkB : List Header := [⟨1, [0x0b], 0, 0, none⟩, ⟨2, [0x0b], 1, 0, none⟩, ⟨3, [0x0b], 2, 2, none⟩]

/-- The same when the new parameters are determined by the conflicting blocks themselves: both
branches fork at genesis, each installs its own generator as the only validator, both finalize. -/
theorem C01_dyn_cross_condition_necessary_fork :
    (∀ p, 0 < (C01forkCfg.par p).precommitThreshold ∧
      ((C01forkCfg.par p).validators.map (·.address)).Nodup ∧
      C01DynBound [] (C01forkCfg.par p) (C01forkCfg.par p)) ∧
    (∀ l ∈ [C01forkA, C01forkB], C01DynChainValid C01forkCfg l) ∧
    (∀ a, C01Honest [C01forkA, C01forkB] a) ∧
    ¬ (C01dynFinalizedPrefix C01forkCfg C01forkA <+: C01dynFinalizedPrefix C01forkCfg C01forkB ∨
       C01dynFinalizedPrefix C01forkCfg C01forkB <+: C01dynFinalizedPrefix C01forkCfg C01forkA) := by
  refine ⟨?_, by decide +kernel, ?_, by decide +kernel⟩
  · intro p
    unfold C01forkCfg
    simp only
    split
    · decide
    · split <;> decide
  · exact honest_of_gens _ [[0x0a], [0x0b]] (by decide) (by decide +kernel)

/-! ### non-vacuity of the dynamic safety theorem: a weight change inside a tree with a double forger -/

def C01dynV0 : PSet := ⟨[⟨[0x0a], 1⟩, ⟨[0x0b], 1⟩, ⟨[0x0c], 1⟩, ⟨[0x0e], 1⟩], 3⟩
def C01dynV1 : PSet := ⟨[⟨[0x0a], 2⟩, ⟨[0x0b], 1⟩, ⟨[0x0c], 1⟩, ⟨[0x0e], 1⟩], 4⟩

/-- weights 1,1,1,1 (`τ_pc = 3`) for heights 1–3; from height 4 on `a` has weight 2 (`W = 5`, `τ_pv = 4`,
`τ_pc = 4`) -/
def C01dynExCfg : DynCfg := ⟨0, fun p => if p.length < 3 then C01dynV0 else C01dynV1⟩

/-- the three branches of `C01exTree` (`z = 0e` forges twice at heights 4 and 8) with the
`maxHeightPrevoted` fields that the changed weights imply -/
def C01dynExTree : List (List Header) :=
  [[⟨1, [0x0a], 0, 0, none⟩, ⟨2, [0x0b], 0, 0, none⟩, ⟨3, [0x0c], 0, 0, none⟩, ⟨4, [0x0e], 0, 1, none⟩,
    ⟨5, [0x0a], 1, 2, none⟩, ⟨6, [0x0b], 2, 3, none⟩, ⟨7, [0x0c], 5, 4, none⟩, ⟨8, [0x0e], 4, 4, none⟩,
    ⟨9, [0x0a], 5, 5, none⟩, ⟨10, [0x0b], 6, 7, none⟩],
   [⟨1, [0x0a], 0, 0, none⟩, ⟨2, [0x0b], 0, 0, none⟩, ⟨3, [0x0c], 0, 0, none⟩, ⟨4, [0x0e], 3, 1, none⟩,
    ⟨5, [0x0c], 3, 1, none⟩],
   [⟨1, [0x0a], 0, 0, none⟩, ⟨2, [0x0b], 0, 0, none⟩, ⟨3, [0x0c], 0, 0, none⟩, ⟨4, [0x0e], 0, 1, none⟩,
    ⟨5, [0x0a], 1, 2, none⟩, ⟨6, [0x0b], 2, 3, none⟩, ⟨7, [0x0c], 5, 4, none⟩, ⟨8, [0x0e], 7, 4, none⟩]]

/-- the hypotheses of `C01_dyn_finality_safety_partial` hold for this tree with `byz = {z}`, the
bounded-change condition even for every pair of parameter sets, and blocks are finalized -/
theorem C01_dyn_example :
    (∀ p, 0 < (C01dynExCfg.par p).precommitThreshold ∧
      ((C01dynExCfg.par p).validators.map (·.address)).Nodup ∧
      (∀ v ∈ (C01dynExCfg.par p).validators, v.address ∉ [[0x0e]] → C01Honest C01dynExTree v.address) ∧
      ∀ q, C01DynBound [[0x0e]] (C01dynExCfg.par p) (C01dynExCfg.par q)) ∧
    (∀ l ∈ C01dynExTree, C01DynChainValid C01dynExCfg l) ∧
    C01honestB C01dynExTree [0x0e] = false ∧
    C01dynExTree.map (BFTSpecDyn.specHeights C01dynExCfg) = [(8, 4), (1, 0), (4, 1)] ∧
    BFTSpecDyn.gain C01dynV0 C01dynV1 = 1 := by
  have hv : (∀ l ∈ C01dynExTree, C01DynChainValid C01dynExCfg l) ∧
      C01dynExTree.map (BFTSpecDyn.specHeights C01dynExCfg) = [(8, 4), (1, 0), (4, 1)] := by decide +kernel
  have hb : (∀ a ∈ [[0x0a], [0x0b], [0x0c]], C01honestB C01dynExTree a = true) ∧
      C01honestB C01dynExTree [0x0e] = false := by decide +kernel
  refine ⟨?_, hv.1, hb.2, hv.2, by decide +kernel⟩
  intro p
  have hh : ∀ P, (P = C01dynV0 ∨ P = C01dynV1) →
      ∀ v ∈ P.validators, v.address ∉ [[0x0e]] → C01Honest C01dynExTree v.address := by
    intro P hP v hv hn
    apply C01honestB_sound
    apply hb.1
    rcases hP with rfl | rfl <;>
    · simp only [C01dynV0, C01dynV1, List.mem_cons, List.not_mem_nil, or_false] at hv
      rcases hv with rfl | rfl | rfl | rfl <;> simp at hn ⊢
  unfold C01dynExCfg
  simp only
  split
  · refine ⟨by decide, by decide, hh _ (Or.inl rfl), fun q => ?_⟩
    split <;> decide
  · refine ⟨by decide, by decide, hh _ (Or.inr rfl), fun q => ?_⟩
    split <;> decide

example : C01dynFinalizedPrefix C01dynExCfg (C01dynExTree.getD 2 []) <+:
      C01dynFinalizedPrefix C01dynExCfg (C01dynExTree.getD 0 []) ∨
    C01dynFinalizedPrefix C01dynExCfg (C01dynExTree.getD 0 []) <+:
      C01dynFinalizedPrefix C01dynExCfg (C01dynExTree.getD 2 []) :=
  C01_dyn_finality_safety_partial C01dynExCfg C01dynExTree [[0x0e]]
    (fun _ _ B _ => (C01_dyn_example.1 B.reverse).1)
    (fun _ _ B _ => (C01_dyn_example.1 B.reverse).2.1)
    C01_dyn_example.2.1
    (fun _ _ B _ => (C01_dyn_example.1 B.reverse).2.2.1)
    (fun _ _ _ _ B₁ B₂ _ _ _ _ _ _ => (C01_dyn_example.1 B₁.reverse).2.2.2 B₂.reverse)
    _ _ (by decide) (by decide)

/-- the static safety theorem is the special case of constant parameters -/
example (cfg : Cfg) (T : List (List Header)) (byz : List Bytes) (hpc : 0 < cfg.precommitThreshold)
    (hnd : (cfg.validators.map (·.address)).Nodup)
    (hthr : C01byzWeight cfg byz + totalWeight cfg < cfg.precommitThreshold + prevoteThreshold cfg)
    (hvalid : ∀ l ∈ T, C01ChainValid cfg l)
    (hhon : ∀ v ∈ cfg.validators, v.address ∉ byz → C01Honest T v.address)
    (l₁ l₂ : List Header) (h₁ : l₁ ∈ T) (h₂ : l₂ ∈ T) :
    C01finalizedPrefix cfg l₁ <+: C01finalizedPrefix cfg l₂ ∨
    C01finalizedPrefix cfg l₂ <+: C01finalizedPrefix cfg l₁ := by
  have := C01_dyn_finality_safety_partial (BFTSpecDyn.ofCfg cfg) T byz (fun _ _ _ _ => hpc)
    (fun _ _ _ _ => hnd) (fun l hl => ((C01_dyn_static_embedding cfg l).1).mpr (hvalid l hl))
    (fun _ _ _ _ => hhon)
    (fun _ _ _ _ _ _ _ _ _ _ _ _ => ((C01_dyn_static_embedding cfg []).2.2.2 byz hnd).mpr hthr)
    l₁ l₂ h₁ h₂
  rw [(C01_dyn_static_embedding cfg l₁).2.2.1, (C01_dyn_static_embedding cfg l₂).2.2.1] at this
  exact this

/-! ### the windowed model of the Go code on the dynamic examples (by kernel evaluation) -/

/-- `SetBFTParameters` with the parameter set `P` (certificate threshold := precommit threshold) -/
def C01setPar (s : State) (P : PSet) : Option State :=
  match setParams s P.precommitThreshold P.precommitThreshold P.validators with
  | .ok s' => some s'
  | .error _ => none

/-- run the windowed model over the chain `rest` (oldest first) on top of the processed chain `p`
(newest first), calling `SetBFTParameters` with `D.par` after every block (a call with unchanged
parameters is a no-op in the code) -/
def C01runDynModel (D : DynCfg) : State → List Header → List Header → Option State
  | s, _, [] => some s
  | s, p, x :: rest =>
    match process s x with
    | .error _ => none
    | .ok s1 =>
      match C01setPar s1 (D.par (x :: p)) with
      | none => none
      | some s2 => C01runDynModel D s2 (x :: p) rest

def C01dynModelHeights (bs : Nat) (D : DynCfg) (l : List Header) : Option (Nat × Nat) :=
  ((C01setPar (initGenesis bs D.genesis) (D.par [])).bind fun s0 => C01runDynModel D s0 [] l).map
    fun s => (s.mhp, s.mhpc)

/-- On every chain of the three dynamic examples the transcription of the Go module, driven with the
same parameter changes, accepts all headers and parameter sets and ends with exactly the heights of
`BFTSpecDyn` — in particular the two counterexamples are counterexamples for the model of the code:
with a complete validator replacement two views finalize conflicting blocks although nobody
misbehaves. -/
theorem C01_dyn_model_agrees_on_examples :
    C01dynExTree.map (C01dynModelHeights 4 C01dynExCfg) =
      C01dynExTree.map (fun l => some (BFTSpecDyn.specHeights C01dynExCfg l)) ∧
    [C01schedA, C01schedB].map (C01dynModelHeights 2 C01schedCfg) = [some (2, 1), some (4, 3)] ∧
    [C01schedA, C01schedB].map (BFTSpecDyn.specHeights C01schedCfg) = [(2, 1), (4, 3)] ∧
    [C01forkA, C01forkB].map (C01dynModelHeights 2 C01forkCfg) = [some (3, 2), some (3, 2)] ∧
    [C01forkA, C01forkB].map (BFTSpecDyn.specHeights C01forkCfg) = [(3, 2), (3, 2)] := by
  decide +kernel

/-! ## The windowed model, continued: the node's own rules

### the chain rules of the model beyond the window -/

/-- For chains of any length the model's `BFTVotes.contradicting` is the specification's check
restricted to the window: it compares with the generator's most recent header among the last
`3·batchSize` blocks. It equals the full check whenever the generator has a block in the window;
a generator that was silent for more than three rounds is not checked by the code at all. -/
theorem C01_model_contradiction_check_any_length (bs g pcThr certThr : Nat) (vs : List Validator)
    (s0 : State) (l : List Header) (hinit : setParams (initGenesis bs g) pcThr certThr vs = .ok s0)
    (hh : HeightsFrom (g + 1) l) (hu : g + l.length + 1 < 4294967296) :
    ∃ s, C01runChain s0 l = some s ∧
      (∀ x, contradicting Gen.areDistinctHeadersContradicting s x =
        contradictingSpec Gen.areDistinctHeadersContradicting (l.reverse.take (3 * bs)) x) ∧
      (∀ x, (∃ b ∈ l.reverse.take (3 * bs), b.gen = x.gen) →
        contradicting Gen.areDistinctHeadersContradicting s x =
          contradictingSpec Gen.areDistinctHeadersContradicting l.reverse x) := by
  obtain ⟨s, h1, h2, _⟩ := C01_model_vs_spec_any_length bs g pcThr certThr vs s0 l hinit hh hu
  have hc : ∀ x, contradicting Gen.areDistinctHeadersContradicting s x =
      contradictingSpec Gen.areDistinctHeadersContradicting (l.reverse.take (3 * bs)) x :=
    fun x => contradicting_mkInfos _ s _ _ _ x h2
  refine ⟨s, h1, hc, ?_⟩
  intro x ⟨b, hb, hbg⟩
  rw [hc x]
  unfold contradictingSpec
  cases hf : (l.reverse.take (3 * bs)).find? (fun b => decide (b.gen = x.gen)) with
  | none =>
    rw [List.find?_eq_none] at hf
    have := hf b hb
    simp [hbg] at this
  | some c => rw [(List.take_prefix _ _).find?_eq_some hf]

/-! ### finality safety of the model under the NODE's own validity rules, chains of any length -/

/-- The chain `l` (oldest first) is valid for a node that starts in state `s0` (genesis height `g`):
every header has the next height, its `maxHeightPrevoted` field equals the node's
`maxHeightPrevoted` after the parent chain, and `IsHeaderContradictingChain` on the node's state after
the parent chain is false — the BFT part of `verifyBlock`, evaluated on the windowed MODEL of the Go
module (not on the specification). -/
def C01NodeValid (s0 : State) (g : Nat) (l : List Header) : Prop :=
  ∀ (B : List Header) (x : Header), B ++ [x] <+: l →
    x.height = g + B.length + 1 ∧
    ∃ s, C01runChain s0 B = some s ∧ x.mhp = s.mhp ∧
      contradicting Gen.areDistinctHeadersContradicting s x = false

/-- a chain valid for the node (`C01NodeValid`, oldest first) is `WValid` for the node's `maxHeightPrevoted`
(newest first): the node's state after each prefix is the one `node_state` describes -/
theorem wvalid_of_nodeValid (cfg : Cfg) (bs : Nat) (hbs : 0 < bs) (P : Params) (addrs : List Bytes)
    (hst : Static cfg P addrs) (s0 : State) (hI : WInv cfg bs P addrs [] s0) :
    ∀ (r : List Header), cfg.genesis + r.length + 1 < u32 → C01NodeValid s0 cfg.genesis r.reverse →
      WValid cfg bs (nodeHeight (·.mhp) s0 cfg.genesis) r := by
  intro r
  induction r with
  | nil => intro _ _; trivial
  | cons x p ih =>
    intro hl hv
    have hvp : C01NodeValid s0 cfg.genesis p.reverse := by
      intro B y hpre
      apply hv B y
      rw [List.reverse_cons]
      exact hpre.trans (List.prefix_append _ _)
    have hwp := ih (by simp only [List.length_cons] at hl; omega) hvp
    have hcp := wvalid_consec hwp
    obtain ⟨hh, s, hs, hm, hcontra⟩ := hv p.reverse x (by rw [List.reverse_cons]; exact List.prefix_refl _)
    obtain ⟨s', hs', hIs⟩ := node_state cfg bs hbs P addrs hst s0 hI p hcp
      (by simp only [List.length_cons] at hl; omega)
    rw [hs] at hs'
    injection hs' with hs'
    subst hs'
    refine ⟨by simpa using hh, ?_, ?_, hwp⟩
    · rw [nodeHeight_eq hs]; exact hm
    · rw [← contradicting_mkInfos _ s _ _ _ x hIs.infos]; exact hcontra

/-- What the start of a node by `SetBFTParameters` on the genesis state provides for the chains it accepts: its two
heights behave as `NodeHeights` says, and a chain valid for the node obeys its rules (`WValid`, newest first). -/
theorem node_rules_of_init (bs g pcThr certThr : Nat) (vs : List Validator) (s0 : State)
    (hinit : setParams (initGenesis bs g) pcThr certThr vs = .ok s0) :
    NodeHeights (C01sortedCfg g pcThr vs) bs (u32 - 1) (nodeHeight (·.mhp) s0 g) (nodeHeight (·.mhpc) s0 g) ∧
    ∀ l, C01NodeValid s0 g l → g + l.length + 1 < 4294967296 →
      WValid (C01sortedCfg g pcThr vs) bs (nodeHeight (·.mhp) s0 g) l.reverse := by
  obtain ⟨hbs, P, addrs, hst, hI⟩ := setParams_init_inv bs g pcThr certThr vs s0 hinit
  exact ⟨nodeHeights_of_init _ bs hbs P addrs hst s0 (WInv.of_inv hI), fun l hv hu =>
    wvalid_of_nodeValid _ bs hbs P addrs hst s0 (WInv.of_inv hI) l.reverse
      (by rw [List.length_reverse]; exact hu) (by rwa [List.reverse_reverse])⟩

/-- **Finality safety of the windowed model under the node's own rules, for trees of chains of any
length.** Hypotheses: the parameters installed by `SetBFTParameters` on the genesis state; (H-thr); `0 < τ_pc`;
every chain of the tree is valid FOR THE NODE (`C01NodeValid`: the model's `maxHeightPrevoted` and the
model's windowed contradiction check — weaker than the specification's `C01ChainValid` beyond the
window); heights below `2^32`; validators outside `byz` honest in the tree. Then the finalized prefixes
computed by the model are prefix-comparable. No bound on the length of the chains. -/
theorem C01_finality_safety_node_rules_partial (bs g pcThr certThr : Nat) (vs : List Validator)
    (s0 : State) (hinit : setParams (initGenesis bs g) pcThr certThr vs = .ok s0)
    (T : List (List Header)) (byz : List Bytes) (hpc : 0 < pcThr)
    (hthr : C01byzWeight (C01sortedCfg g pcThr vs) byz + totalWeight (C01sortedCfg g pcThr vs) <
      pcThr + prevoteThreshold (C01sortedCfg g pcThr vs))
    (hvalid : ∀ l ∈ T, C01NodeValid s0 g l)
    (hu : ∀ l ∈ T, g + l.length + 1 < 4294967296)
    (hhon : ∀ v ∈ (C01sortedCfg g pcThr vs).validators, v.address ∉ byz → C01Honest T v.address)
    (l₁ l₂ : List Header) (h₁ : l₁ ∈ T) (h₂ : l₂ ∈ T) :
    ∃ s₁ s₂, C01runChain s0 l₁ = some s₁ ∧ C01runChain s0 l₂ = some s₂ ∧
      (l₁.take (s₁.mhpc - g) <+: l₂.take (s₂.mhpc - g) ∨ l₂.take (s₂.mhpc - g) <+: l₁.take (s₁.mhpc - g)) := by
  obtain ⟨hbs, P, addrs, hst, hI⟩ := setParams_init_inv bs g pcThr certThr vs s0 hinit
  have hW := WInv.of_inv hI
  have hg : (C01sortedCfg g pcThr vs).genesis = g := rfl
  obtain ⟨hNH, hwv'⟩ := node_rules_of_init bs g pcThr certThr vs s0 hinit
  have hwv : ∀ l ∈ T, WValid (C01sortedCfg g pcThr vs) bs (nodeHeight (·.mhp) s0 g) l.reverse :=
    fun l hl => hwv' l (hvalid l hl) (hu l hl)
  have hstate : ∀ l ∈ T, ∃ s, C01runChain s0 l = some s ∧ nodeHeight (·.mhpc) s0 g l.reverse = s.mhpc ∧
      g ≤ s.mhpc ∧ s.mhpc ≤ g + l.length := by
    intro l hl
    obtain ⟨s, hs, hIs⟩ := node_state (C01sortedCfg g pcThr vs) bs hbs P addrs hst s0 hW l.reverse
      (wvalid_consec (hwv l hl)) (by simp only [List.length_reverse, hg]; exact hu l hl)
    rw [List.reverse_reverse] at hs
    refine ⟨s, hs, ?_, hIs.mhpc_ge, ?_⟩
    · exact nodeHeight_eq (by rwa [List.reverse_reverse])
    · have h1 := hIs.mhpc_le
      have h2 := mhpc_le (C01sortedCfg g pcThr vs) l.reverse
      simp only [List.length_reverse, hg] at h2
      omega
  obtain ⟨s₁, hr₁, hn₁, hge₁, hle₁⟩ := hstate l₁ h₁
  obtain ⟨s₂, hr₂, hn₂, hge₂, hle₂⟩ := hstate l₂ h₂
  refine ⟨s₁, s₂, hr₁, hr₂, ?_⟩
  have hval : ∀ t ∈ T.map List.reverse, WValid (C01sortedCfg g pcThr vs) bs (nodeHeight (·.mhp) s0 g) t :=
    List.forall_mem_map.mpr hwv
  have hlim : ∀ t ∈ T.map List.reverse, (C01sortedCfg g pcThr vs).genesis + t.length < u32 - 1 := by
    intro t ht
    obtain ⟨l, hl, rfl⟩ := List.mem_map.mp ht
    have := hu l hl
    simp only [List.length_reverse, hg]
    unfold u32
    omega
  rw [← hn₁, ← hn₂]
  exact C01take_comparable (N := nodeHeight (·.mhpc) s0 g)
    (finality_safety_w (C01sortedCfg g pcThr vs) bs (u32 - 1) (nodeHeight (·.mhp) s0 g) (nodeHeight (·.mhpc) s0 g) hNH
      (T.map List.reverse) (fun a => decide (a ∈ byz)) hval hlim hpc hthr (honestR_of_not_byz hhon))
    h₁ h₂ (by rw [hn₁, List.length_reverse]; exact ⟨hge₁, hle₁⟩) (by rw [hn₂, List.length_reverse]; exact ⟨hge₂, hle₂⟩)

/-- executable check of `C01NodeValid` -/
def C01nodeValidB (s0 : State) (g : Nat) (l : List Header) : Bool :=
  (List.range l.length).all fun i =>
    match l[i]? with
    | none => true
    | some x =>
      decide (x.height = g + i + 1) &&
        match C01runChain s0 (l.take i) with
        | none => false
        | some s => decide (x.mhp = s.mhp) && !(contradicting Gen.areDistinctHeadersContradicting s x)

theorem C01nodeValidB_sound (s0 : State) (g : Nat) (l : List Header) (h : C01nodeValidB s0 g l = true) :
    C01NodeValid s0 g l := by
  intro B x hpre
  unfold C01nodeValidB at h
  rw [List.all_eq_true] at h
  have hlen : B.length < l.length := by
    have := hpre.length_le
    simp at this
    omega
  have hB : l.take B.length = B := by
    obtain ⟨t, rfl⟩ := hpre
    simp
  have hx : l[B.length]? = some x := by
    obtain ⟨t, rfl⟩ := hpre
    simp
  have := h B.length (List.mem_range.mpr hlen)
  rw [hx, hB] at this
  simp only [Bool.and_eq_true, decide_eq_true_eq] at this
  refine ⟨this.1, ?_⟩
  cases hr : C01runChain s0 B with
  | none => rw [hr] at this; exact absurd this.2 (by simp)
  | some s =>
    rw [hr] at this
    simp only [Bool.and_eq_true, decide_eq_true_eq, Bool.not_eq_true'] at this
    exact ⟨s, rfl, this.2.1, this.2.2⟩

/-- the state after `SetBFTParameters` on the genesis state: batch size 2 (window 6), validators a, b of
weight 1, `τ_pv = 2`, `τ_pc = 2` -/
def C01abInit : State :=
  match setParams (initGenesis 2 0) 2 2 [⟨[0x0a], 1⟩, ⟨[0x0b], 1⟩] with
  | .ok s => s
  | .error _ => initGenesis 2 0

/-- `C01longChain` with another 15th block (by `b`) -/
def C01longChainB : List Header := C01longChain.take 14 ++ [(⟨15, [0x0b], 14, 13, none⟩ : Header)]

theorem C01abInit_eq : setParams (initGenesis 2 0) 2 2 [⟨[0x0a], 1⟩, ⟨[0x0b], 1⟩] = .ok C01abInit := by
  rfl

/-- non-vacuity 1: a tree of two chains of 15 blocks (window 6) that fork at the tip; both are valid for
the node, a and b are honest, and the model finalizes 12 resp. 11 blocks -/
example : ∃ s₁ s₂,
    C01runChain C01abInit C01longChain = some s₁ ∧ C01runChain C01abInit C01longChainB = some s₂ ∧
    (C01longChain.take (s₁.mhpc - 0) <+: C01longChainB.take (s₂.mhpc - 0) ∨
     C01longChainB.take (s₂.mhpc - 0) <+: C01longChain.take (s₁.mhpc - 0)) := by
  have hb : ∀ v ∈ (C01sortedCfg 0 2 [⟨[0x0a], 1⟩, ⟨[0x0b], 1⟩]).validators, v.address ∉ ([] : List Bytes) →
      C01honestB [C01longChain, C01longChainB] v.address = true := by
    decide +kernel
  have hv : ∀ l ∈ [C01longChain, C01longChainB], C01nodeValidB C01abInit 0 l = true := by decide +kernel
  have hthr : C01byzWeight (C01sortedCfg 0 2 [⟨[0x0a], 1⟩, ⟨[0x0b], 1⟩]) [] +
      totalWeight (C01sortedCfg 0 2 [⟨[0x0a], 1⟩, ⟨[0x0b], 1⟩]) <
      2 + prevoteThreshold (C01sortedCfg 0 2 [⟨[0x0a], 1⟩, ⟨[0x0b], 1⟩]) := by decide +kernel
  have hu : ∀ l ∈ [C01longChain, C01longChainB], 0 + l.length + 1 < 4294967296 := by decide +kernel
  exact C01_finality_safety_node_rules_partial 2 0 2 2 [⟨[0x0a], 1⟩, ⟨[0x0b], 1⟩] C01abInit C01abInit_eq
    [C01longChain, C01longChainB] [] (by decide) hthr
    (fun l hl => C01nodeValidB_sound _ _ _ (hv l hl)) hu
    (fun v hv' hn => C01honestB_sound _ _ (hb v hv' hn)) _ _ (by simp) (by simp)

example : ((C01runChain C01abInit C01longChain).map fun (s : State) => s.mhpc) = some 12 ∧
    ((C01runChain C01abInit C01longChainB).map fun (s : State) => s.mhpc) = some 11 := by
  decide +kernel

/-- non-vacuity 2: beyond the window the node's rules really differ from the specification's chain
validity. `C01strictChain` extended by a header with `maxHeightPrevoted = 0` (the node's value) is valid
for the node and NOT chain-valid for the specification (whose value is 1);
`C01_finality_safety_node_rules_partial` covers it, `C01_finality_safety_model_any_length_partial` does not. -/
theorem C01_node_rules_differ_beyond_window :
    C01nodeValidB C01abInit 0 (C01strictChain ++ [⟨9, [0x0a], 9, 0, none⟩]) = true ∧
    ¬ C01ChainValid (C01sortedCfg 0 2 [⟨[0x0a], 1⟩, ⟨[0x0b], 1⟩]) (C01strictChain ++ [⟨9, [0x0a], 9, 0, none⟩]) ∧
    C01nodeValidB C01abInit 0 (C01strictChain ++ [⟨9, [0x0a], 9, 1, none⟩]) = false ∧
    C01ChainValid (C01sortedCfg 0 2 [⟨[0x0a], 1⟩, ⟨[0x0b], 1⟩]) (C01strictChain ++ [⟨9, [0x0a], 9, 1, none⟩]) := by
  decide +kernel
