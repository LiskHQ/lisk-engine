/-
C18 — tie of `Model/ConnGater.lean` and `Model/RateLimit.lean` to the Go source: the integer
decisions of pkg/p2p (conngater.go, peer.go, ratelimit.go) are REGENERATED from the Go source on every
run by tools/fngen (typed translation, `LiskVerif/Gen/Fns2.lean`) with the exact semantics of Go's
`int`/`int64` (two's complement wrap `Gen.i64`):

* constants `MaxPenaltyScore`, `defaultRateLimit`, `defaultRateLimitPenalty`;
* `connectionGater.addPenalty`: the new score `info.score + score` (`Gen.cgNewScore`), the ban
  threshold `newScore >= MaxPenaltyScore` (`Gen.cgBanDue`), the expiry time
  `time.Now().Unix() + int64(cg.expiration.Seconds())` (`Gen.cgExpirationTime`);
* the expiry loop of `connectionGater.start` (`Gen.cgExpired`), `listBannedPeers` (`Gen.cgListed`);
* `Peer.addPenalty`: `newScore >= MaxPenaltyScore` (`Gen.peerDisconnectDue`);
* `rateLimit.checkLimit`: `msgCounter.counters[peerID] > msgCounter.limit` (`Gen.rateLimitExceeded`).

The model uses unbounded `Int`; the theorems state the int64 range in which model and code agree, and
`C18_gen_new_score_wraps` shows what happens outside it (needs an accumulated score of 2^63, not
reachable with the penalties the node applies: each is at most `MaxPenaltyScore`).
-/
import LiskVerif.Model.RateLimit
import LiskVerif.Lemmas.GenInt

open LiskVerif LiskVerif.ConnGater LiskVerif.RateLimit

theorem C18_gen_constants :
    Gen.maxPenaltyScore = ConnGater.maxPenaltyScore ∧
    Gen.defaultRateLimit = RateLimit.defaultRateLimit ∧
    Gen.defaultRateLimitPenalty = RateLimit.defaultRateLimitPenalty := ⟨rfl, rfl, rfl⟩

/-! ### connectionGater.addPenalty -/

/-- the regenerated sum is the model's `i.score + score` whenever that sum is an int64 -/
theorem C18_gen_new_score_eq (old score : Int)
    (h1 : -9223372036854775808 ≤ old + score) (h2 : old + score < 9223372036854775808) :
    Gen.cgNewScore old score = old + score := by
  unfold Gen.cgNewScore
  exact Gen.i64_eq h1 h2

/-- outside the range the Go sum wraps to a negative score (the peer would not be banned), the model
does not: accumulated score `2^63 - 1` plus a penalty of 1 -/
theorem C18_gen_new_score_wraps :
    Gen.cgNewScore 9223372036854775807 1 = -9223372036854775808 ∧
    Gen.cgBanDue (Gen.cgNewScore 9223372036854775807 1) = false ∧
    decide ((9223372036854775807 : Int) + 1 ≥ ConnGater.maxPenaltyScore) = true := by
  refine ⟨by decide +kernel, by decide +kernel, by decide +kernel⟩

/-- the regenerated threshold comparison is the model's `newScore ≥ maxPenaltyScore` -/
theorem C18_gen_ban_due_eq (newScore : Int) :
    Gen.cgBanDue newScore = decide (newScore ≥ ConnGater.maxPenaltyScore) := by
  unfold Gen.cgBanDue ConnGater.maxPenaltyScore
  rfl

/-- the regenerated expiry time is the model's `now + expSecs` while that is an int64 -/
theorem C18_gen_expiration_time_eq (now expSecs : Nat) (h : now + expSecs < 9223372036854775808) :
    Gen.cgExpirationTime (now : Int) (expSecs : Int) = ((now + expSecs : Nat) : Int) := by
  unfold Gen.cgExpirationTime
  rw [Gen.i64_eq (by omega) (by omega)]
  omega

/-- **`ConnGater.addPenalty` is the regenerated arithmetic** around the map update: for a started gater
and an address with an IP, with the accumulated score and the expiry time inside the int64 range. -/
theorem C18_gen_addPenalty_eq (g : Gater) (now : Nat) (addr : Addr) (score : Int) (ip : IP)
    (hs : g.started = true) (hip : addr.ip = some ip)
    (hsc : ∀ i, find g.peerScore ip = some i →
      -9223372036854775808 ≤ i.score + score ∧ i.score + score < 9223372036854775808)
    (ht : now + g.expSecs < 9223372036854775808) :
    addPenalty g now addr score =
      (let old := find g.peerScore ip
       let newScore := match old with | some i => Gen.cgNewScore i.score score | none => score
       let oldExp := match old with | some i => i.expiration | none => -1
       let exp : Int := if Gen.cgBanDue newScore = true then Gen.cgExpirationTime (now : Int) (g.expSecs : Int) else oldExp
       ({ g with peerScore := put g.peerScore ip ⟨newScore, exp⟩ }, .ok newScore)) := by
  unfold addPenalty
  simp only [hs, hip, Bool.not_true, Bool.false_eq_true, ↓reduceIte, C18_gen_ban_due_eq,
    C18_gen_expiration_time_eq now g.expSecs ht, decide_eq_true_eq]
  cases hf : find g.peerScore ip with
  | none => rfl
  | some i =>
    have := hsc i hf
    simp only [C18_gen_new_score_eq i.score score this.1 this.2]

/-! ### expiry loop, listBannedPeers -/

/-- the regenerated condition of the expiry loop is `ConnGater.expired` -/
theorem C18_gen_expired_eq (now : Nat) (i : PeerInfo) :
    Gen.cgExpired (now : Int) i.expiration = expired now i := by
  unfold Gen.cgExpired expired
  by_cases h : i.expiration = -1 <;> simp [h]

/-- the regenerated condition of `listBannedPeers` is `PeerInfo.banned` -/
theorem C18_gen_listed_eq (i : PeerInfo) : Gen.cgListed i.expiration = i.banned := by
  unfold Gen.cgListed PeerInfo.banned
  by_cases h : i.expiration = -1 <;> simp [h]

/-! ### Peer.addPenalty -/

/-- **`ConnGater.peerAddPenalty` disconnects exactly when the regenerated comparison of
`Peer.addPenalty` holds** -/
theorem C18_gen_peerAddPenalty_eq (g : Gater) (now : Nat) (addr : Addr) (score : Int) :
    peerAddPenalty g now addr score =
      match addPenalty g now addr score with
      | (g', .error e) => (g', .err e)
      | (g', .ok newScore) =>
        if Gen.peerDisconnectDue newScore = true then
          match addr.pid with
          | none => (g', .err .noPeerID)
          | some p => (g', .ok (some p))
        else (g', .ok none) := by
  unfold peerAddPenalty
  have h : ∀ s : Int, (Gen.peerDisconnectDue s = true) = (s ≥ ConnGater.maxPenaltyScore) := by
    intro s
    unfold Gen.peerDisconnectDue ConnGater.maxPenaltyScore
    simp
  rcases addPenalty g now addr score with ⟨g', r⟩
  cases r with
  | error e => rfl
  | ok ns =>
    simp only [h]
    by_cases hc : ns ≥ ConnGater.maxPenaltyScore <;> simp only [hc, ↓reduceIte] <;> rfl

/-! ### rateLimit.checkLimit -/

/-- the regenerated comparison of `checkLimit` -/
theorem C18_gen_rate_limit_exceeded_eq (count : Nat) (limit : Int) :
    Gen.rateLimitExceeded (count : Int) limit = decide ((count : Int) > limit) := rfl

/-- **`RateLimit.checkLimit` penalises exactly when the regenerated comparison holds** -/
theorem C18_gen_checkLimit_eq (n : Node) (now : Nat) (proc : String) (pid : Nat) (addr : Addr) :
    checkLimit n now proc pid addr =
      if !n.mpStarted then (n, .notStarted, none) else
      match findCounter n.counters proc with
      | none => (n, .unknownProc, none)
      | some c =>
        if Gen.rateLimitExceeded (getCount c.counts pid : Int) c.limit = true then
          match nodeAddPenalty n now (withPid addr pid) c.penalty with
          | (n', .err e) => (n', .penErr e, some (.err e))
          | (n', o) =>
            ({ n' with counters := updCounter n'.counters proc fun c =>
                { c with counts := setCount c.counts pid 0 } }, .ok, some o)
        else (n, .ok, none) := by
  unfold checkLimit
  simp only [C18_gen_rate_limit_exceeded_eq, decide_eq_true_eq]
  cases n.mpStarted
  · rfl
  · cases findCounter n.counters proc with
    | none => rfl
    | some c =>
      by_cases hc : (getCount c.counts pid : Int) > c.limit <;> simp only [hc, ↓reduceIte] <;> rfl

/-! ### non-vacuity -/

example : Gen.cgBanDue 99 = false ∧ Gen.cgBanDue 100 = true ∧ Gen.cgNewScore 90 10 = 100 ∧
    Gen.cgExpirationTime 1000 60 = 1060 ∧ Gen.cgExpired 1061 1060 = true ∧ Gen.cgExpired 1060 1060 = false ∧
    Gen.cgExpired 5 (-1) = false ∧ Gen.cgListed (-1) = false ∧ Gen.cgListed 7 = true ∧
    Gen.rateLimitExceeded 101 100 = true ∧ Gen.rateLimitExceeded 100 100 = false := by decide +kernel

/-- instance of `C18_gen_addPenalty_eq`: the tenth penalty of 10 bans -/
example : (addPenalty { expSecs := 60, started := true, peerScore := [([1], ⟨90, -1⟩)] } 1000 ⟨some [1], none⟩ 10).2 = .ok 100 := by
  rw [C18_gen_addPenalty_eq _ 1000 ⟨some [1], none⟩ 10 [1] rfl rfl (by
    intro i hi
    have : i = ⟨90, -1⟩ := by
      simp [find] at hi
      exact hi.symm
    subst this
    decide) (by decide)]
  simp [find, Gen.cgNewScore, Gen.i64]
