/-
C04, clause "the stored finalized height is raised ... in the same step that applies the block causing it":
on the write skeletons regenerated from the source (tools/wskelgen, `Gen/WriteSkeletons.lean`) the finalized-height
marker is staged in the block's batch and reaches the disk with the block in ONE synced write - there is no direct
(own, synced) write on the path, no second write, and no unsynced write method.
The obligations are those of C13 (crash atomicity), stated under C04 names because they carry this clause of C04: a change
that writes the marker outside the batch, or commits blocks unsynced, breaks them.
-/
import LiskVerif.Props.C13

open LiskVerif LiskVerif.Crash LiskVerif.C13

/-- `DataAccess.saveBlock` (which stores the finalized height) only stages into the caller's batch: no direct
`database.Set/Del`, no `Write` of its own -/
theorem C04_marker_staged_in_block_batch : stagesOnly "batch" (step Gen.WS.DataAccess_saveBlock) = true :=
  C13_saveBlock_stages_only

/-- the block step (`processValidated`, with `Chain.AddBlock` inlined) performs exactly one database write -/
theorem C04_block_step_one_write :
    singleWrite (step Gen.WS.Executer_processValidated) = true ∧
    singleWriteWith "batch" (step Gen.WS.Chain_AddBlock) = true :=
  ⟨C13_processValidated_single_write, C13_AddBlock_single_write⟩

/-- that write is `pebble.Apply(batch, pebble.Sync)`: the only unsynced mutating method of `db.DB` is `DropAll`, so a
raise of the finalized height announced by an event is durable when the step returns -/
theorem C04_block_write_is_synced : Gen.WS.dbWriteMethods =
    [("Del", "Delete:pebble.Sync"), ("DropAll", "DeleteRange:pebble.NoSync"), ("Set", "Set:pebble.Sync"),
     ("Write", "Apply:pebble.Sync")] :=
  C13_db_write_is_synced_apply

/-- the same for the removal step (the marker is never lowered there: see `C04_fin_monotone`) -/
theorem C04_delete_step_one_write : singleWrite (step Gen.WS.Executer_deleteBlock) = true :=
  C13_deleteBlock_single_write
