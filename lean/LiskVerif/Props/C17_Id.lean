/-
C17 — request ids are fresh: obligation instead of assumption.

The theorems of Props/C17.lean hold because `ReqResp.step` draws every request id from a generator that
never repeats.  That rests on two facts outside that model: the CODE generates ids that way, and ids stay
fresh when the process starts again.  This file states both:

* tie A (`C17_gen_*`): the expression assigned to `Request.ID` in `newRequestMessage`, regenerated from
  the source on every run by tools/reqgen (Gen/ReqFacts.lean), is `uuid.New().String()` from
  github.com/google/uuid, mentions no identifier but the import, depends on no package-level variable
  and on no package-local function; the message that is sent is the one whose id is registered; nothing
  else writes an id; `uuid.New` of the module version the repository builds with reads 16 bytes from
  crypto/rand and fixes 6 of the 128 bits (122 random bits); nothing in the repository replaces that
  random source.
* model (`C17_lives_*`): Model/ReqRespLives.lean adds restarts of the requesting node.  With ids fresh
  across lives the invariant of the fixed protocol survives every restart (pending table cleared,
  responses of the previous life still in flight or produced later), hence correlation, id freshness,
  delivery targets, the exact pending table and "no leak" hold over any number of lives.  With a
  generator that restarts with the process, correlation FAILS: a concrete schedule (evaluated by the
  kernel) delivers the answer to a request of the previous life to an unrelated request of the new
  life and then drops the genuine answer as "unknown request ID".
-/
import LiskVerif.Lemmas.ReqResp
import LiskVerif.Model.ReqRespLives
import LiskVerif.Gen.ReqFacts

open LiskVerif LiskVerif.ReqResp

/-! ### tie A: how the code produces a request id -/

/-- The id of a new request message is `uuid.New().String()`: a call of the package function `New` of
github.com/google/uuid followed by the method `String`, without arguments.  The expression mentions
no identifier besides the import, so it depends on no package-level variable (a counter, a clock
reading kept in a variable, a seeded generator — state that starts again with the process) and on
no package-local function; `newRequestMessage` has one `Request` literal and one return. -/
theorem C17_gen_request_id_is_random_uuid :
    Gen.ReqFacts.idChain = [("pkgfunc", "github.com/google/uuid", "New", ""), ("method", "", "String", "")] ∧
    Gen.ReqFacts.idIdents = [("uuid", "import:github.com/google/uuid")] ∧
    Gen.ReqFacts.idPkgVars = [] ∧
    Gen.ReqFacts.idLocalFuncs = [] ∧
    Gen.ReqFacts.requestLiteralCount = 1 ∧
    Gen.ReqFacts.newRequestMessageReturns = 1 ∧
    Gen.ReqFacts.requestLiteralFields = ["ID", "Timestamp", "PeerID", "Procedure", "Data"] :=
  ⟨rfl, rfl, rfl, rfl, rfl, rfl, rfl⟩

/-- `uuid.New` of the module version resolved by the repository's go.mod is `Must(NewRandom())`;
`NewRandom` reads from the package's random source (directly or through the pool, which is filled
from the same source); that source is `crypto/rand.Reader`; a UUID has 16 bytes, all 16 are read from
the source and exactly the version nibble and the two variant bits are overwritten: 128 - 6 = 122
random bits.  No non-test source of the repository reconfigures the source (uuid.SetRand ...). -/
theorem C17_gen_uuid_has_122_random_bits :
    Gen.ReqFacts.uuidNewBody = "{ return Must(NewRandom()) }" ∧
    Gen.ReqFacts.uuidNewRandomBody =
      "{ if !poolEnabled { return NewRandomFromReader(rander) } return newRandomFromPool() }" ∧
    Gen.ReqFacts.uuidRander = "rand.Reader" ∧
    Gen.ReqFacts.uuidRanderImport = "crypto/rand" ∧
    Gen.ReqFacts.uuidType = "[16]byte" ∧
    Gen.ReqFacts.uuidFromReaderCalls = ["io.ReadFull(r, uuid[:])"] ∧
    Gen.ReqFacts.uuidMasks.map (fun m => (m.1, m.2.1, m.2.2.1)) = [("6", "15", "64"), ("8", "63", "128")] ∧
    16 * 8 - Gen.ReqFacts.uuidFixedBits = 122 ∧
    Gen.ReqFacts.uuidSourceReconfigured = [] :=
  ⟨rfl, rfl, rfl, rfl, rfl, rfl, rfl, rfl, rfl⟩

/-- The id under which `sendRequestMessage` registers the response channel is the id of the message
it sends, created by `newRequestMessage` in that very call: `reqMsg` is defined once from
`newRequestMessage`, is only read through `.ID` and handed to `mp.send`; and the only statements of
the package that write a field named `ID` are the generated decoders (which fill a message from the
wire). -/
theorem C17_gen_registered_id_is_the_generated_id :
    Gen.ReqFacts.reqMsgUses =
      [("assign", "reqMsg := newRequestMessage(mp.peer.ID(), procedure, data)"),
       ("read:ID", ""), ("arg", "mp.send"),
       ("read:ID", ""), ("read:ID", ""), ("read:ID", ""), ("read:ID", "")] ∧
    Gen.ReqFacts.idWrites.all (fun w => w.1 == "message_codec.go" && w.2.2 == "e.ID = val") = true :=
  ⟨rfl, by decide +kernel⟩

/-! ### the model over several lives -/

private theorem handlerOf_zero (P : Nat → Nat) : handlerOf P 0 = P := by
  funext id; simp [handlerOf]

/-- a restart with ids fresh across lives preserves the invariant of the fixed protocol -/
private theorem inv_restart (P : Nat → Nat) (s : State) (hI : Inv P s) : Inv P (restartCur true s) := by
  constructor
  all_goals simp only [restartCur, init, if_true]
  case netOk => exact hI.netOk
  case sentLt => exact hI.sentLt
  case sentNodup => exact hI.sentNodup
  case netSent => exact hI.netSent
  all_goals simp

/-- invariant of the multi-life model when ids are fresh: no identity offset, no separate list of old
requests, and the invariant of the fixed protocol for the current life -/
private theorem linv_reachable (P : Nat → Nat) (s : LState) (h : ReachableL true P s) :
    s.off = 0 ∧ s.old = [] ∧ Inv P s.cur := by
  induction h with
  | init => exact ⟨rfl, rfl, inv_init P⟩
  | step a _ hs ih =>
    obtain ⟨hoff, hold, hI⟩ := ih
    cases a with
    | inner a =>
      rename_i s0 _ _
      simp only [stepL, hoff, handlerOf_zero] at hs
      cases hstep : step P s0.cur a with
      | none => rw [hstep] at hs; simp at hs
      | some c =>
        rw [hstep] at hs
        simp only [Option.map_some, Option.some.injEq] at hs
        subst hs
        exact ⟨rfl, hold, inv_step P _ _ a hI hstep⟩
    | restart =>
      simp only [stepL, if_true, Option.some.injEq] at hs
      subst hs
      exact ⟨hoff, hold, inv_restart P _ hI⟩
    | respondOld k =>
      simp [stepL, hold] at hs

/-- Through any number of restarts (ids fresh across lives) the current life satisfies the inductive
invariant of the fixed protocol — so what Lemmas/ReqResp.lean reads off that invariant for any state that has it
(`Inv.correlation`, `Inv.delivery_target`, `Inv.pending_exact`, `Inv.no_leak`, `Inv.progress`) holds for a node that
crashes and starts again while answers to its earlier requests are still under way; the theorems below state it. -/
theorem C17_lives_invariant_with_fresh_ids (P : Nat → Nat) (s : LState) (hs : ReachableL true P s) :
    Inv P s.cur ∧ s.off = 0 :=
  ⟨(linv_reachable P s hs).2.2, (linv_reachable P s hs).1⟩

/-- Correlation over lives: whatever a requester of the current life receives (or has in its channel)
is the answer the remote handler produced for the request with that requester's identity — never the
answer to a request of an earlier life. -/
theorem C17_lives_correlation_with_fresh_ids (P : Nat → Nat) (s : LState) (hs : ReachableL true P s)
    (i : Nat) (r : Req) (hr : s.cur.reqs[i]? = some r) :
    (∀ m, r.out = some (.got m) → m.rid = r.id ∧ m.payload = expectedPayload P s r) ∧
    (∀ m, r.buf = some m → m.rid = r.id ∧ m.payload = expectedPayload P s r) := by
  obtain ⟨hoff, _, hI⟩ := linv_reachable P s hs
  simp only [expectedPayload, hoff, Nat.zero_add]
  exact hI.correlation hr

/-- Freshness over lives: no id is ever put on the wire twice — over all attempts of all requesters of
ALL lives (`sent` survives restarts) — and every requester of the current life works on an id that
no earlier request used. -/
theorem C17_lives_ids_never_repeat (P : Nat → Nat) (s : LState) (hs : ReachableL true P s) :
    s.cur.sent.Nodup ∧
    (∀ (i : Nat) (r : Req), s.cur.reqs[i]? = some r → r.pc.preSend = true → r.id ∉ s.cur.sent) ∧
    (∀ (i i' : Nat) (r r' : Req), s.cur.reqs[i]? = some r → s.cur.reqs[i']? = some r' → i ≠ i' →
        r.pc ≠ .start → r'.pc ≠ .start → r.id ≠ r'.id) := by
  obtain ⟨_, _, hI⟩ := linv_reachable P s hs
  exact ⟨hI.sentNodup, hI.notSent, hI.uniq⟩

/-- A response — of whatever life — is only ever handed to the channel registered by the requester
that currently works on exactly that id; the pending table holds exactly the attempts in progress of
the current life, and is empty once all its requesters are done. -/
theorem C17_lives_pending_table_exact (P : Nat → Nat) (s : LState) (hs : ReachableL true P s) :
    (∀ (j : Nat) (h : Hdl) (ch : Nat), s.cur.hdls[j]? = some h → h.pc = .deliver ch →
        ∃ r, s.cur.reqs[ch]? = some r ∧ r.id = h.msg.rid ∧ r.pc.registered = true) ∧
    (∀ id ch, s.cur.resCh.lookup id = some ch ↔
        ∃ r, s.cur.reqs[ch]? = some r ∧ r.id = id ∧ r.pc.registered = true) ∧
    ((∀ r ∈ s.cur.reqs, r.pc = .done) → s.cur.resCh = []) :=
  have hI := (linv_reachable P s hs).2.2
  ⟨fun _ _ _ hh hpc => hI.delivery_target hh hpc, hI.pending_exact, hI.no_leak⟩

/-- right after a restart nothing is pending and no thread exists, whatever was going on before; the
responses in flight are still in flight -/
theorem C17_lives_restart_clears_pending_keeps_in_flight (fresh : Bool) (P : Nat → Nat) (s s' : LState)
    (h : stepL fresh P s .restart = some s') :
    s'.cur.resCh = [] ∧ s'.cur.reqs = [] ∧ s'.cur.hdls = [] ∧ s'.cur.lock = none ∧
    s'.cur.net = s.cur.net ∧ s'.lives = s.lives + 1 := by
  simp only [stepL, Option.some.injEq] at h
  subst h
  simp [restartCur, init]

/-! ### evaluated schedules -/

/-- a concrete remote handler: identity `u` is answered with `u + 100` -/
def C17LP (u : Nat) : Nat := u + 100

/-- statements of requester `k` from the top of an attempt up to its `select` -/
def C17toWait (k : Nat) : List LAction :=
  [.inner (.rStep k), .inner (.rStep k), .inner (.rStep k), .inner (.rStep k), .inner (.rSendOk k)]

/-- `onResponse` for the first in-flight response, run to completion by handler thread `j` -/
def C17deliver (j : Nat) : List LAction :=
  [.inner (.nDeliver 0), .inner (.hStep j), .inner (.hStep j), .inner (.hStep j), .inner (.hStep j)]

/-- `onResponse` for the first in-flight response when its id is not pending: Lock, failed lookup, Unlock -/
def C17deliverUnknown (j : Nat) : List LAction :=
  [.inner (.nDeliver 0), .inner (.hStep j), .inner (.hStep j), .inner (.hStep j)]

/-- what the evaluated schedules are compared on, per requester: pc, wire id, outcome, and the payload
the remote produced for THIS request -/
structure C17ReqSum where
  pc : RPc
  id : Nat
  out : Option Outcome
  expected : Nat
deriving DecidableEq, Repr

/-- ... and per state: number of restarts, identity offset, the requesters, the ids dropped as
unknown, the responses still in flight -/
structure C17Sum where
  lives : Nat
  off : Nat
  reqs : List C17ReqSum
  unknown : List Nat
  net : List Resp
deriving DecidableEq, Repr

def C17summary (P : Nat → Nat) (s : LState) : C17Sum :=
  { lives := s.lives, off := s.off,
    reqs := s.cur.reqs.map (fun r => ⟨r.pc, r.id, r.out, expectedPayload P s r⟩),
    unknown := s.cur.unknown, net := s.cur.net }

/-- Two lives with a generator that restarts with the process.  Life 1 sends a request (wire id 0,
identity 0) and crashes while the remote handler is still working on it.  Life 2 sends an unrelated
request: the restarted generator hands out wire id 0 again (identity 1).  Now the remote finishes the
OLD request; its answer is addressed to the same peer id, finds the pending entry 0 of the new life
and is delivered; the requester returns it.  The genuine answer arrives afterwards and is dropped as
"unknown request ID". -/
def C17_idReuseTrace : List LAction :=
  [.inner (.spawn 0)] ++ C17toWait 0 ++        -- life 1: request with wire id 0 is on the wire
  [.restart] ++                                 -- crash and start: the counter starts again
  [.inner (.spawn 0)] ++ C17toWait 0 ++        -- life 2: another request, wire id 0 again
  [.respondOld 0] ++ C17deliver 0 ++            -- the slow handler of life 1's request answers now
  [.inner (.rRecv 0), .inner (.rStep 0), .inner (.rStep 0), .inner (.rStep 0)] ++   -- life 2's request returns it
  [.inner (.nRespond 0)] ++ C17deliverUnknown 1 -- the genuine answer: nobody is waiting for it any more

/-- WITHOUT freshness across lives correlation fails: the schedule above is executable, the request of
the second life ends "successfully" with the payload the remote handler produced for the request of
the FIRST life (identity 0) instead of its own (identity 1), and the answer to its own request is
dropped as unknown.  (The second conjunct: the two payloads differ.) -/
theorem C17_lives_id_reuse_miscorrelates_counterexample :
    (runL false C17LP linit C17_idReuseTrace).map (C17summary C17LP) =
      some ⟨1, 1, [⟨.done, 0, some (.got ⟨0, C17LP 0⟩), C17LP 1⟩], [0], []⟩ ∧
    C17LP 0 ≠ C17LP 1 := by
  decide +kernel

/-- The same behaviour of node, remote and network with ids fresh across lives: the second life's
request gets id 1, the stale answer (id 0) is dropped as unknown, the genuine answer is returned. -/
def C17_freshLivesTrace : List LAction :=
  [.inner (.spawn 0)] ++ C17toWait 0 ++
  [.restart] ++
  [.inner (.spawn 0)] ++ C17toWait 0 ++
  [.inner (.nRespond 0)] ++ C17deliverUnknown 0 ++   -- answer to life 1's request: unknown in life 2
  [.inner (.nRespond 1)] ++ C17deliver 1 ++     -- answer to life 2's request
  [.inner (.rRecv 0), .inner (.rStep 0), .inner (.rStep 0), .inner (.rStep 0)]

private theorem runL_eq_foldlM (fresh : Bool) (P : Nat → Nat) (l : List LAction) :
    ∀ s, runL fresh P s l = l.foldlM (stepL fresh P) s :=
  eq_foldlM (fun _ => rfl) (fun s a l => by rw [runL]; cases stepL fresh P s a <;> rfl) l

private theorem reachableL_of_runL (fresh : Bool) (P : Nat → Nat) (l : List LAction) :
    ∀ s s', ReachableL fresh P s → runL fresh P s l = some s' → ReachableL fresh P s' :=
  fun s s' hs h => foldlM_invariant l (fun a _ _ _ h hs => .step a h hs) s s' hs (runL_eq_foldlM fresh P l s ▸ h)

/-- non-vacuity of the `C17_lives_*` theorems: a reachable two-life state in which a stale answer was
dropped (`0 ∈ unknown`) and the request of the second life returned its own answer -/
example : ∃ s, ReachableL true C17LP s ∧ s.lives = 1 ∧ 0 ∈ s.cur.unknown ∧
    ∃ r, s.cur.reqs[0]? = some r ∧ r.pc = .done ∧ r.id = 1 ∧
      r.out = some (.got ⟨1, expectedPayload C17LP s r⟩) := by
  have h : ∃ s, runL true C17LP linit C17_freshLivesTrace = some s ∧ s.lives = 1 ∧ 0 ∈ s.cur.unknown ∧
      ∃ r, s.cur.reqs[0]? = some r ∧ r.pc = .done ∧ r.id = 1 ∧
        r.out = some (.got ⟨1, expectedPayload C17LP s r⟩) := by decide +kernel
  obtain ⟨s, hr, h⟩ := h
  exact ⟨s, reachableL_of_runL true C17LP _ _ _ .init hr, h⟩
