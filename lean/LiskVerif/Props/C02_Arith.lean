/-
C02 — the integer arithmetic of pkg/consensus/liskbft at the extremes of `uint32` / `uint64`.

The loop-free integer expressions of the vote counting (validator.go: `insertBlockBFTInfo`,
`updatePrevotesPrecommits`, `updateMaxHeight*`, `getHeightNotPrevoted`, `bftParamsCache.cache`;
module.go: `Init`, `BeforeTransactionsExecute`; api.go: `ImpliesMaximalPrevotes`,
`NextHeightBFTParameters`, `SetBFTParameters`, `SetGeneratorKeys`) are REGENERATED from the Go source on
every run by tools/fngen (typed translation, `Gen/Fns2.lean`: `Gen.bft…`, unsigned operations reduced
modulo 2^32 / 2^64, `int` operations wrapped by `i64`). The theorems below state, for ALL inputs of
the Go type, that the regenerated expression is the expression `Model/BFT.lean` uses — or exactly under
which guard it is, with the value beyond the guard (the table in `Model/BFTU32.lean`). One regenerated piece,
`Gen.bftHnpOldestIndex` (the index `len-1` of the oldest entry), has no theorem: the model takes the last entry.
`C02_arith_hnp_loop_eq` puts the pieces of `getHeightNotPrevoted` together: the regenerated loop is the model's
`hnpLoop` whenever `heightPreviousBlock < currentHeight` (which the guard of `updatePrevotesPrecommits` provides). Further parts: what the driver runs (`processU32`, `nextHeightParamsU32`) against `process` /
`nextHeightParams` — equal below the top height, with the behaviour at the top; and the closing section: the guard
`currentHeight < 2^32-1` (`C02BelowTop`) holds in every state the driver reaches, so the next heights of
`SetBFTParameters` / `SetGeneratorKeys` never wrap (`C02_arith_next_height_exact_when_reachable`).

In particular (`C02_arith_no_votes_*`): a header whose `maxHeightGenerated ≥ height` changes no prevote
and no precommit weight, for EVERY `uint32` value of `maxHeightGenerated` including 2^32-1 — and the
"tidier" test through the prevote range (`max(maxHeightGenerated+1, minActiveHeight) > height`) is NOT
equivalent: it is wrong exactly at `maxHeightGenerated = 2^32-1`, where `+1` wraps to 0
(`C02_arith_range_test_unsound_at_max`). If the guard `maxHeightGenerated >= height` disappears from
`updatePrevotesPrecommits`, tools/fngen fails (`bftHeaderImpliesNoVotes`) and this file is not rebuilt.
-/
import LiskVerif.Model.BFTU32
import LiskVerif.Lemmas.BFT
import LiskVerif.Lemmas.GenInt

open LiskVerif LiskVerif.BFT

/-! ### `updatePrevotesPrecommits` -/

/-- the regenerated guard of `updatePrevotesPrecommits` is the guard of `BFT.updateVotes`, for all values -/
theorem C02_arith_no_votes_guard_eq (mhg height : Nat) :
    Gen.bftHeaderImpliesNoVotes mhg height = decide (mhg ≥ height) := rfl

/-- **a header with `maxHeightGenerated ≥ height` casts no vote (model of `updatePrevotesPrecommits`)**:
when the regenerated guard holds for the newest entry of the window, the state is returned unchanged —
whatever the value of `maxHeightGenerated` (no arithmetic is done before the guard). -/
theorem C02_arith_no_votes_update (s : State) (n : BlockInfo) (rest : List BlockInfo) (hs : s.infos = n :: rest)
    (hg : Gen.bftHeaderImpliesNoVotes n.mhg n.height = true) : updateVotes s = .ok s := by
  have hg' : n.mhg ≥ n.height := by simpa [Gen.bftHeaderImpliesNoVotes] using hg
  unfold updateVotes
  rw [hs]
  simp only [hg', ↓reduceIte]

/-- **a header with `maxHeightGenerated ≥ height` changes no prevote and no precommit weight**, for every
value of `maxHeightGenerated` (in particular 2^32-1) and every state: after `process` the window is the
old window with the new entry (weights 0) in front, cut to `3·batchSize`, and no validator's vote
bookkeeping changed. -/
theorem C02_arith_no_votes_for_every_value (s s' : State) (h : Header) (hm : h.mhg ≥ h.height)
    (hp : process s h = .ok s') : s'.infos = insertInfo s h ∧ s'.active = s.active := by
  obtain ⟨k, s1, _, _, hk, hu, _, _, rfl⟩ := process_ok hp
  rw [C02_arith_no_votes_update _ (newInfo h) _ rfl (decide_eq_true hm)] at hu
  cases hu
  exact ⟨by rw [insertInfo, hk, List.take_succ_cons]; rfl, rfl⟩

/-- an accepted `processU32` is an accepted `process` below the top height; window, vote infos and
`maxHeightPrevoted` are those of `process` (only the pruning may be skipped) -/
theorem processU32_ok {s s' : State} {h : Header} (hp : processU32 s h = .ok s') :
    h.height + 1 < u32 ∧ ∃ s1, process s h = .ok s1 ∧ s'.infos = s1.infos ∧ s'.active = s1.active ∧ s'.mhp = s1.mhp := by
  unfold processU32 at hp
  split at hp
  · cases hp
  rename_i hh
  split at hp
  · cases hp
  rename_i s1 hs1
  refine ⟨Nat.lt_of_not_le hh, s1, hs1, ?_⟩
  split at hp <;> cases hp <;> exact ⟨rfl, rfl, rfl⟩

/-- the same for what the driver runs (`processU32`) -/
theorem C02_arith_no_votes_for_every_value_u32 (s s' : State) (h : Header) (hm : h.mhg ≥ h.height)
    (hp : processU32 s h = .ok s') : s'.infos = insertInfo s h ∧ s'.active = s.active := by
  obtain ⟨-, s1, hs1, e1, e2, -⟩ := processU32_ok hp
  rw [e1, e2]
  exact C02_arith_no_votes_for_every_value s s1 h hm hs1

/-- non-vacuity: a header with `maxHeightGenerated = 2^32-1` at height 8 on a hand-written state (batch size 1,
window of the blocks 7 and 6 of the same validator): all weights stay 0 -/
example : (process
    { batchSize := 1, mhp := 7, mhpc := 0, mhc := 0,
      infos := [{ height := 7, gen := [0x10], mhg := 6, mhp := 6 }, { height := 6, gen := [0x10], mhg := 5, mhp := 5 }],
      active := [{ address := [0x10], minActiveHeight := 1, largestHeightPrecommit := 0 }],
      params := [(1, { prevoteThreshold := 2, precommitThreshold := 2, certificateThreshold := 2,
                       validators := [{ address := [0x10], weight := 2 }] })] }
    { height := 8, gen := [0x10], mhg := 4294967295, mhp := 6 }).toOption.map
      (fun s' => (s'.infos.map (·.height), s'.infos.map (·.prevoteWeight), s'.infos.map (·.precommitWeight))) =
    some ([8, 7, 6], [0, 0, 0], [0, 0, 0]) := by decide +kernel

/-- `minPrevoteHeight`: the regenerated expression is the model's, for all values -/
theorem C02_arith_min_prevote_eq (mhg minActive : Nat) :
    Gen.bftMinPrevoteHeight mhg minActive = max ((mhg + 1) % u32) minActive := rfl

/-- behind the guard (`maxHeightGenerated < height`, a `uint32`) the `+1` never wraps -/
theorem C02_arith_min_prevote_no_wrap_behind_guard (mhg height minActive : Nat) (hh : height < 2 ^ 32)
    (hg : Gen.bftHeaderImpliesNoVotes mhg height = false) :
    Gen.bftMinPrevoteHeight mhg minActive = max (mhg + 1) minActive := by
  have hg' : mhg < height := by simpa [Gen.bftHeaderImpliesNoVotes] using hg
  unfold Gen.bftMinPrevoteHeight
  rw [Nat.mod_eq_of_lt (by omega)]

/-- below 2^32-1 the test "the prevote range is empty" (`minPrevoteHeight > height`) is a sound
replacement of the guard: whenever it lets the header vote, the guard does too -/
theorem C02_arith_range_test_sound_below_max (mhg height minActive : Nat) (hm : mhg < 2 ^ 32 - 1)
    (hr : Gen.bftMinPrevoteHeight mhg minActive ≤ height) : Gen.bftHeaderImpliesNoVotes mhg height = false := by
  unfold Gen.bftMinPrevoteHeight at hr
  rw [Nat.mod_eq_of_lt (by omega)] at hr
  have : mhg + 1 ≤ height := Nat.le_trans (Nat.le_max_left _ _) hr
  simp [Gen.bftHeaderImpliesNoVotes]; omega

/-- **counterexample beyond the guard**: at `maxHeightGenerated = 2^32-1` the range test lets the header
vote (`maxHeightGenerated+1` wraps to 0, so `minPrevoteHeight = minActiveHeight ≤ height`) although the
header implies no votes — for every height and every validator active at that height; the prevote range
then starts at `minActiveHeight`: the whole window. -/
theorem C02_arith_range_test_unsound_at_max (height minActive : Nat) (hh : height < 2 ^ 32) (ha : minActive ≤ height) :
    Gen.bftMinPrevoteHeight (2 ^ 32 - 1) minActive = minActive ∧
    decide (Gen.bftMinPrevoteHeight (2 ^ 32 - 1) minActive > height) = false ∧
    Gen.bftHeaderImpliesNoVotes (2 ^ 32 - 1) height = true := by
  have h0 : Gen.bftMinPrevoteHeight (2 ^ 32 - 1) minActive = minActive := by
    unfold Gen.bftMinPrevoteHeight
    have : (2 ^ 32 - 1 + 1) % 4294967296 = 0 := by decide
    rw [this]; exact Nat.max_eq_right (Nat.zero_le _)
  refine ⟨h0, ?_, ?_⟩
  · rw [h0]; simp; omega
  · simp [Gen.bftHeaderImpliesNoVotes]; omega

/-- `minPrecomimtHeight`: the regenerated expression (three-argument `ints.Max`, both `+1` in `uint32`) is
the model's, for all values -/
theorem C02_arith_min_precommit_eq (minActive hnp lhp : Nat) :
    Gen.bftMinPrecommitHeight minActive hnp lhp = max minActive (max ((hnp + 1) % u32) ((lhp + 1) % u32)) := rfl

/-- the `break` conditions of the two vote loops and the quorum tests compare without arithmetic -/
theorem C02_arith_loop_conditions_eq (height minH w thr : Nat) :
    Gen.bftBelowMinPrecommit height minH = decide (height < minH) ∧
    Gen.bftBelowMinPrevote height minH = decide (height < minH) ∧
    Gen.bftHasPrevoteQuorum w thr = decide (w ≥ thr) ∧
    Gen.bftPrevotedQuorum w thr = decide (w ≥ thr) ∧
    Gen.bftPrecommittedQuorum w thr = decide (w ≥ thr) := ⟨rfl, rfl, rfl, rfl, rfl⟩

/-- `prevoteWeight += bftWeight`, `precommitWeight += bftWeight` (`uint64`): the model's `+` exactly when
the sum stays below 2^64 -/
theorem C02_arith_add_weight_eq (w b : Nat) :
    (Gen.bftAddPrevoteWeight w b = w + b ↔ w + b < 2 ^ 64) ∧
    (Gen.bftAddPrecommitWeight w b = w + b ↔ w + b < 2 ^ 64) := by
  unfold Gen.bftAddPrevoteWeight Gen.bftAddPrecommitWeight
  constructor <;> constructor <;> intro h <;> omega

/-! ### `getHeightNotPrevoted` -/

/-- loop condition `int(currentHeight)-int(heightPreviousBlock) < len(v.blockBFTInfos)`: the model's test
on the truncated difference when `heightPreviousBlock ≤ currentHeight` -/
theorem C02_arith_hnp_in_window_eq (cur prev len : Nat) (hc : cur < 2 ^ 32) (hle : prev ≤ cur) :
    Gen.bftHnpInWindow cur prev (Int.ofNat len) = decide (cur - prev < len) := by
  unfold Gen.bftHnpInWindow
  simp only [Int.ofNat_eq_natCast]
  have e : Gen.i64 ((cur : Int) - (prev : Int)) = (cur : Int) - (prev : Int) := Gen.i64_eq (by omega) (by omega)
  simp only [e]
  apply decide_eq_decide.2
  constructor <;> intro h <;> omega

/-- index `int(currentHeight-heightPreviousBlock)` (subtraction in `uint32`) -/
theorem C02_arith_hnp_index_eq (cur prev : Nat) (hc : cur < 2 ^ 32) (hle : prev ≤ cur) :
    Gen.bftHnpIndex cur prev = Int.ofNat (cur - prev) := by
  unfold Gen.bftHnpIndex
  simp only [Int.ofNat_eq_natCast]
  congr 1
  omega

/-- beyond the guard (`heightPreviousBlock > currentHeight`, reachable only without the guard
`maxHeightGenerated >= height`): the signed difference is negative, so the loop condition holds for every
window, while the `uint32` difference wraps to `2^32 - (prev - cur)` — an index outside every window of
at most that length: the Go code panics -/
theorem C02_arith_hnp_wraps_beyond_guard (cur prev len : Nat) (hp : prev < 2 ^ 32) (hlt : cur < prev) :
    Gen.bftHnpInWindow cur prev (Int.ofNat len) = true ∧
    Gen.bftHnpIndex cur prev = Int.ofNat (2 ^ 32 - (prev - cur)) := by
  unfold Gen.bftHnpInWindow Gen.bftHnpIndex
  simp only [Int.ofNat_eq_natCast]
  have e : Gen.i64 ((cur : Int) - (prev : Int)) = (cur : Int) - (prev : Int) := Gen.i64_eq (by omega) (by omega)
  simp only [e]
  refine ⟨by simp only [decide_eq_true_eq]; omega, ?_⟩
  congr 1
  omega

/-- two more pieces of `getHeightNotPrevoted`: the stop test and `oldest.height - 1` (wraps at 0, as in
the model) -/
theorem C02_arith_hnp_stop_fallback_eq (same : Bool) (mhg prev oldest : Nat) :
    Gen.bftHnpStops same mhg prev = (!same || decide (mhg ≥ prev)) ∧
    Gen.bftHnpFallback oldest = (oldest + u32 - 1) % u32 := ⟨rfl, rfl⟩

/-- **the loop of `getHeightNotPrevoted` run with the regenerated Go arithmetic (`hnpLoopGo`, `none` = panic)
is the model's loop** whenever `heightPreviousBlock < currentHeight` initially — which the guard
`maxHeightGenerated < height` provides and the loop preserves (it only continues with a smaller value) -/
theorem C02_arith_hnp_loop_eq (infos : List BlockInfo) (gen : Bytes) (cur : Nat) (hc : cur < 2 ^ 32)
    (hne : infos ≠ []) :
    ∀ (fuel prev : Nat), prev < cur →
      hnpLoopGo Gen.bftHnpInWindow Gen.bftHnpIndex Gen.bftHnpFallback infos gen cur fuel prev =
        some (hnpLoop infos gen cur fuel prev)
  | 0, prev, _ => rfl
  | fuel + 1, prev, hlt => by
    unfold hnpLoopGo hnpLoop
    rw [C02_arith_hnp_in_window_eq cur prev infos.length hc (Nat.le_of_lt hlt)]
    by_cases hw : cur - prev < infos.length
    · simp only [hw, decide_true, ↓reduceIte]
      rw [C02_arith_hnp_index_eq cur prev hc (Nat.le_of_lt hlt)]
      have hnn : ¬ (((cur - prev : Nat) : Int) < 0) := by omega
      simp only [hnn, ↓reduceIte, Int.toNat_natCast, Int.ofNat_eq_natCast]
      have hsome : infos[cur - prev]? = some infos[cur - prev] := List.getElem?_eq_getElem hw
      rw [hsome]
      dsimp only
      by_cases hstop : infos[cur - prev].gen ≠ gen ∨ infos[cur - prev].mhg ≥ prev
      · simp only [hstop, ↓reduceIte]
      · simp only [hstop, ↓reduceIte]
        have : infos[cur - prev].mhg < cur := by
          have : infos[cur - prev].mhg < prev := Nat.lt_of_not_le (fun hh => hstop (Or.inr hh))
          omega
        exact C02_arith_hnp_loop_eq infos gen cur hc hne fuel _ this
    · simp only [hw, decide_false, Bool.false_eq_true, ↓reduceIte]
      cases hl : infos.getLast? with
      | none => exact absurd (List.getLast?_eq_none_iff.1 hl) hne
      | some o => rfl

/-- `getHeightNotPrevoted` as a whole, behind the guard -/
theorem C02_arith_height_not_prevoted_eq (n : BlockInfo) (rest : List BlockInfo) (hh : n.height < 2 ^ 32)
    (hg : Gen.bftHeaderImpliesNoVotes n.mhg n.height = false) :
    hnpLoopGo Gen.bftHnpInWindow Gen.bftHnpIndex Gen.bftHnpFallback (n :: rest) n.gen n.height
        ((n :: rest).length + 1) n.mhg = some (heightNotPrevoted (n :: rest)) := by
  have hg' : n.mhg < n.height := by simpa [Gen.bftHeaderImpliesNoVotes] using hg
  exact C02_arith_hnp_loop_eq (n :: rest) n.gen n.height hh (by simp) _ _ hg'

/-- **beyond the guard the Go loop panics**: with `heightPreviousBlock > currentHeight` (a header claiming
more than its own height that got past the guard) and a window of at most `2^32 - (prev - cur)` entries the
index is out of range -/
theorem C02_arith_hnp_go_panics_beyond_guard (infos : List BlockInfo) (gen : Bytes) (cur prev fuel : Nat)
    (hp : prev < 2 ^ 32) (hlt : cur < prev) (hlen : infos.length + (prev - cur) ≤ 2 ^ 32) :
    hnpLoopGo Gen.bftHnpInWindow Gen.bftHnpIndex Gen.bftHnpFallback infos gen cur (fuel + 1) prev = none := by
  obtain ⟨h1, h2⟩ := C02_arith_hnp_wraps_beyond_guard cur prev infos.length hp hlt
  unfold hnpLoopGo
  rw [h1, h2]
  simp only [Int.ofNat_eq_natCast]
  have hnn : ¬ (((2 ^ 32 - (prev - cur) : Nat) : Int) < 0) := by omega
  simp only [↓reduceIte, hnn, Int.toNat_natCast]
  have : infos[2 ^ 32 - (prev - cur)]? = none := List.getElem?_eq_none (by omega)
  rw [this]

/-- A rewriting of the loop condition of `getHeightNotPrevoted` that looks equivalent and is not (hand transcription,
no such code is in the repository): the window offset computed once as `int(currentHeight - heightPreviousBlock)`
in `uint32` and compared with the window length. -/
def C02offsetOnceInWindow (cur prev : Nat) (len : Int) : Bool :=
  decide (Int.ofNat ((cur + 4294967296 - prev) % 4294967296) < len)

/-- that variant is the original loop condition exactly when `heightPreviousBlock ≤ currentHeight`; beyond
(`prev > cur`) the original condition holds (and the access panics) whereas the variant is false for every
window of at most `2^32 - (prev - cur)` entries: the function silently returns `oldest.height - 1` -/
theorem C02_arith_hnp_offset_once_differs (cur prev len : Nat) (hc : cur < 2 ^ 32) (hp : prev < 2 ^ 32) :
    (prev ≤ cur → C02offsetOnceInWindow cur prev (Int.ofNat len) = Gen.bftHnpInWindow cur prev (Int.ofNat len)) ∧
    (cur < prev → len + (prev - cur) ≤ 2 ^ 32 →
      C02offsetOnceInWindow cur prev (Int.ofNat len) = false ∧ Gen.bftHnpInWindow cur prev (Int.ofNat len) = true) := by
  constructor
  · intro hle
    rw [C02_arith_hnp_in_window_eq cur prev len hc hle]
    unfold C02offsetOnceInWindow
    simp only [Int.ofNat_eq_natCast]
    apply decide_eq_decide.2
    constructor <;> intro h <;> omega
  · intro hlt hlen
    refine ⟨?_, (C02_arith_hnp_wraps_beyond_guard cur prev len hp hlt).1⟩
    unfold C02offsetOnceInWindow
    simp only [Int.ofNat_eq_natCast, decide_eq_false_iff_not]
    omega

/-! ### the parameter cache and pruning (`bftParamsCache.cache`, `BeforeTransactionsExecute`) -/

/-- **the loop `for height := from; height <= to; height++` cannot end by its condition when
`to = 2^32-1`**: the condition holds for every `uint32` and the counter wraps from 2^32-1 to 0. For
`to < 2^32-1` the counter reaches `to+1` without wrapping and the loop ends there. (Last conjunct: the test
`from > 0` before the lookup below `from`, as regenerated.) -/
theorem C02_arith_cache_loop_at_top :
    (∀ height, height < 2 ^ 32 → Gen.bftCacheLoopCond height (2 ^ 32 - 1) = true) ∧
    Gen.bftCacheLoopNext (2 ^ 32 - 1) = 0 ∧
    (∀ height to_, height ≤ to_ → to_ < 2 ^ 32 - 1 → Gen.bftCacheLoopNext height = height + 1) ∧
    (∀ to_, Gen.bftCacheLoopCond (to_ + 1) to_ = false) ∧
    (∀ from_, Gen.bftCacheHasLower from_ = decide (from_ > 0)) := by
  refine ⟨?_, by decide, ?_, ?_, fun _ => rfl⟩
  · intro height hh
    simp only [Gen.bftCacheLoopCond, decide_eq_true_eq]; omega
  · intro height to_ h1 h2
    simp only [Gen.bftCacheLoopNext]; omega
  · intro to_
    simp only [Gen.bftCacheLoopCond, decide_eq_false_iff_not]; omega

/-- the block at height 2^32-1 is always rejected by what the driver runs -/
theorem C02_arith_process_u32_top_rejected (s : State) (h : Header) (ht : h.height + 1 ≥ u32) :
    processU32 s h = .error .paramsNotFound := by
  unfold processU32; simp only [ht, ↓reduceIte]

/-- `ints.Min(oldest.height, maxHeightCertified+1)`: the model's `min oldest (mhc + 1)` below 2^32-1; at
`maxHeightCertified = 2^32-1` the sum wraps and the result is 0 -/
theorem C02_arith_min_params_required_eq (oldest mhc : Nat) :
    (mhc < 2 ^ 32 - 1 → Gen.bftMinHeightParamsRequired oldest mhc = min oldest (mhc + 1)) ∧
    Gen.bftMinHeightParamsRequired oldest (2 ^ 32 - 1) = 0 := by
  constructor
  · intro h
    unfold Gen.bftMinHeightParamsRequired
    rw [Nat.mod_eq_of_lt (by omega)]
  · unfold Gen.bftMinHeightParamsRequired
    have : (2 ^ 32 - 1 + 1) % 4294967296 = 0 := by decide
    rw [this]; exact Nat.min_eq_right (Nat.zero_le _)

/-- pruning at height 0 (`deleteBFTParams(0)` / `deleteGeneratorKeys(0)`) deletes nothing — what
`processU32` does when `maxHeightCertified+1` wrapped -/
theorem C02_arith_prune_zero {α : Type} (l : List (Nat × α)) : prune l 0 = l := by
  unfold prune
  split
  · rfl
  · rename_i keep hk
    have hk0 : keep.1 = 0 := Nat.le_zero.1 (lookupLE_some hk).1
    apply List.filter_eq_self.2
    intro e _
    simp only [hk0, decide_eq_true_eq]
    omega

/-- **`processU32` is `process` below the top of the range**: for every header below height 2^32-1 whose
resulting `maxHeightCertified` (the height of its aggregate commit, or the previous value) is below
2^32-1 -/
theorem C02_arith_process_u32_eq (s : State) (h : Header) (hh : h.height + 1 < u32)
    (hc : h.commitHeight.getD s.mhc + 1 < u32) : processU32 s h = process s h := by
  unfold processU32
  have h1 : ¬ (h.height + 1 ≥ u32) := by omega
  simp only [h1, ↓reduceIte]
  cases hp : process s h with
  | error e => rfl
  | ok s' =>
    have h2 : ¬ (s'.mhc + 1 ≥ u32) := by rw [process_mhc hp]; omega
    simp only [h2, ↓reduceIte]

/-- … and at `maxHeightCertified = 2^32-1` it differs from `process` only in that nothing is pruned -/
theorem C02_arith_process_u32_certified_top (s s1 : State) (h : Header) (hh : h.height + 1 < u32)
    (hp : process s h = .ok s1) (hc : s1.mhc + 1 ≥ u32) :
    processU32 s h = .ok { s1 with params := prune s.params 0, keys := prune s.keys 0 } := by
  unfold processU32
  have h1 : ¬ (h.height + 1 ≥ u32) := by omega
  simp only [h1, ↓reduceIte, hp, hc, C02_arith_prune_zero]

/-! ### the API: `NextHeightBFTParameters`, `SetBFTParameters`, `SetGeneratorKeys`, `ImpliesMaximalPrevotes` -/

/-- `height + 1` in the range start of `NextHeightBFTParameters` wraps exactly at 2^32-1 -/
theorem C02_arith_next_params_start (h : Nat) (hh : h < 2 ^ 32) :
    (Gen.bftNextParamsStart h = h + 1 ↔ h < 2 ^ 32 - 1) ∧ Gen.bftNextParamsStart (2 ^ 32 - 1) = 0 := by
  unfold Gen.bftNextParamsStart
  refine ⟨⟨fun e => ?_, fun e => ?_⟩, by decide⟩ <;> omega

/-- smallest key `≥ start` of the parameter store (`Range(start, MaxUint32, 1, false)`) -/
def C02smallestKeyGE (s : State) (start : Nat) : Option Nat :=
  (s.params.map (·.1)).foldl (fun best k =>
    if k ≥ start then match best with
      | none => some k
      | some b => if k < b then some k else some b
    else best) none

/-- **`nextHeightParamsU32` is the range query with the regenerated start**, for every `uint32` height;
below 2^32-1 it is `nextHeightParams` -/
theorem C02_arith_next_height_params_eq (s : State) (h : Nat) (hh : h < 2 ^ 32) :
    nextHeightParamsU32 s h = C02smallestKeyGE s (Gen.bftNextParamsStart h) ∧
    (h + 1 < u32 → nextHeightParamsU32 s h = nextHeightParams s h) := by
  have hu : u32 = 4294967296 := rfl
  constructor
  · unfold nextHeightParamsU32 C02smallestKeyGE
    by_cases ht : h + 1 ≥ u32
    · have : h = 2 ^ 32 - 1 := by omega
      subst this
      simp only [ht, ↓reduceIte, (C02_arith_next_params_start _ (by omega)).2, firstParamsKey, Nat.zero_le]
      rfl
    · have e : Gen.bftNextParamsStart h = h + 1 := ((C02_arith_next_params_start h hh).1).2 (by omega)
      simp only [ht, ↓reduceIte, e, nextHeightParams]
      rfl
  · intro ht
    unfold nextHeightParamsU32
    have : ¬ (h + 1 ≥ u32) := by omega
    simp only [this, ↓reduceIte]

/-- `nextHeight := currentHeight + 1`, `minActiveHeight: nextHeight`, `largestHeightPrecommit: nextHeight - 1`
(SetBFTParameters) and the two `… + 1` of SetGeneratorKeys: the model's `Nat` expressions exactly when
`currentHeight < 2^32-1`; at 2^32-1 the next height wraps to 0 and `nextHeight - 1` to 2^32-1 -/
theorem C02_arith_next_height_eq (cur : Nat) (hc : cur < 2 ^ 32) :
    (Gen.bftSetParamsNextHeight cur = cur + 1 ↔ cur < 2 ^ 32 - 1) ∧
    (Gen.bftSetKeysNextHeight cur = cur + 1 ↔ cur < 2 ^ 32 - 1) ∧
    (Gen.bftSetKeysNextHeightEmpty cur = cur + 1 ↔ cur < 2 ^ 32 - 1) ∧
    (cur < 2 ^ 32 - 1 → Gen.bftNewValidatorLargestHeightPrecommit (Gen.bftSetParamsNextHeight cur) = cur + 1 - 1) ∧
    Gen.bftNewValidatorMinActiveHeight (Gen.bftSetParamsNextHeight cur) = Gen.bftSetParamsNextHeight cur ∧
    Gen.bftSetParamsNextHeight (2 ^ 32 - 1) = 0 ∧
    Gen.bftNewValidatorLargestHeightPrecommit 0 = 2 ^ 32 - 1 := by
  unfold Gen.bftSetParamsNextHeight Gen.bftSetKeysNextHeight Gen.bftSetKeysNextHeightEmpty
    Gen.bftNewValidatorLargestHeightPrecommit Gen.bftNewValidatorMinActiveHeight
  refine ⟨⟨fun e => ?_, fun e => ?_⟩, ⟨fun e => ?_, fun e => ?_⟩, ⟨fun e => ?_, fun e => ?_⟩, fun e => ?_, rfl, by decide, by decide⟩ <;> omega

/-- `ImpliesMaximalPrevotes`: the tests compare without arithmetic; the offset
`currentHeight - previousHeight - 1` (two `uint32` subtractions) is the model's truncated difference
whenever it is reached, i.e. `previousHeight < height = currentHeight` -/
theorem C02_arith_implies_eq (cur prev height offset len : Nat) (hc : cur < 2 ^ 32) :
    Gen.bftImpliesWrongHeight height cur = decide (height ≠ cur) ∧
    Gen.bftImpliesNoPrevotes prev height = decide (prev ≥ height) ∧
    Gen.bftImpliesInvalidHeights cur prev = decide (cur < prev) ∧
    (prev < cur → Gen.bftImpliesOffset cur prev = cur - prev - 1) ∧
    Gen.bftImpliesBeyondWindow offset (Int.ofNat len) = decide (offset ≥ len) := by
  refine ⟨rfl, rfl, rfl, ?_, ?_⟩
  · intro h
    unfold Gen.bftImpliesOffset
    omega
  · unfold Gen.bftImpliesBeyondWindow
    simp only [Int.ofNat_eq_natCast]
    apply decide_eq_decide.2
    constructor <;> intro h <;> omega

/-! ### the vote window (`Module.Init`, `insertBlockBFTInfo`) -/

/-- `maxLengthBlock = 3 * batchSize` and the length of the new window `ints.Min(len+1, maxLength)` (both `int`)
are the model's `take (3 * batchSize)` for every batch size and window below 2^61 -/
theorem C02_arith_window_eq (s : State) (h : Header) (hb : s.batchSize < 2 ^ 61) (hl : s.infos.length < 2 ^ 61) :
    Gen.bftMaxLengthBlock (Int.ofNat s.batchSize) = Int.ofNat (3 * s.batchSize) ∧
    Gen.bftWindowLen (Int.ofNat s.infos.length) (Gen.bftMaxLengthBlock (Int.ofNat s.batchSize)) =
      Int.ofNat (insertInfo s h).length := by
  have e1 : Gen.bftMaxLengthBlock (Int.ofNat s.batchSize) = Int.ofNat (3 * s.batchSize) := by
    unfold Gen.bftMaxLengthBlock
    simp only [Int.ofNat_eq_natCast]
    rw [Gen.i64_eq (by omega) (by omega)]
    omega
  refine ⟨e1, ?_⟩
  rw [e1]
  unfold Gen.bftWindowLen insertInfo
  simp only [Int.ofNat_eq_natCast, List.length_take, List.length_cons]
  rw [Gen.i64_eq (by omega) (by omega)]
  omega

/-- the `break` test `i+1 == maxLength` of the copy loop -/
theorem C02_arith_window_full_eq (i maxLength : Nat) (hi : i < 2 ^ 61) :
    Gen.bftWindowFull (Int.ofNat i) (Int.ofNat maxLength) = decide (i + 1 = maxLength) := by
  unfold Gen.bftWindowFull
  simp only [Int.ofNat_eq_natCast]
  have e : Gen.i64 ((i : Int) + 1) = (i : Int) + 1 := Gen.i64_eq (by omega) (by omega)
  simp only [e]
  apply decide_eq_decide.2
  constructor <;> intro h <;> omega

/-! ### the guard `currentHeight < 2^32-1` holds in every reachable state

`C02BelowTop s`: every height of the window and `maxHeightPrevoted` are at most 2^32-2. It holds after
`InitGenesisState` with a genesis height `≤ 2^32-2`, and every operation the driver runs preserves it —
`processU32` rejects the block at 2^32-1. Hence `currentHeight + 1` (SetBFTParameters, SetGeneratorKeys)
never wraps and the `Nat` arithmetic of `BFT.setParams` / `BFT.setKeys` is exact. -/

def C02BelowTop (s : State) : Prop := (∀ b ∈ s.infos, b.height + 1 < u32) ∧ s.mhp + 1 < u32

theorem C02_arith_below_top_genesis (batchSize g : Nat) (hg : g + 1 < u32) : C02BelowTop (initGenesis batchSize g) := by
  refine ⟨?_, hg⟩
  intro b hb
  simp [initGenesis] at hb

theorem C02_arith_below_top_set_params (s s' : State) (pc ct : Nat) (vs : List Validator)
    (hs : C02BelowTop s) (h : setParams s pc ct vs = .ok s') : C02BelowTop s' := by
  have hi := (setParams_facts h).infos
  have hm := (setParams_facts h).mhp
  unfold C02BelowTop
  rw [hi, hm]
  exact hs

theorem C02_arith_below_top_set_keys (s : State) (gens : List Bytes) (hs : C02BelowTop s) :
    C02BelowTop (setKeys s gens) := hs

/-- an accepted `processU32` keeps `C02BelowTop` (it rejects a header at the top height): the new window holds old
heights and the new one, and the new `maxHeightPrevoted` is the old one or the height of a window entry (`firstWith`) -/
theorem C02_arith_below_top_process (s s' : State) (h : Header) (hs : C02BelowTop s)
    (hp : processU32 s h = .ok s') : C02BelowTop s' := by
  obtain ⟨hh, s1, hs1, e1, -, e3⟩ := processU32_ok hp
  have key : C02BelowTop s1 := by
    obtain ⟨k, F⟩ := process_facts hs1
    have hrel := F.rel
    obtain ⟨p, hpf, hmhp⟩ := F.pv
    have hwin : ∀ b ∈ s1.infos, b.height + 1 < u32 := by
      intro b hb
      obtain ⟨a, ha, hr⟩ := All2.mem_right hrel b hb
      have hab : a.height = b.height := hr.height
      rw [← hab]
      rcases List.mem_cons.1 ha with rfl | ha
      · simp only [newInfo]; omega
      · exact hs.1 a (List.mem_of_mem_take ha)
    refine ⟨hwin, ?_⟩
    rw [hmhp]
    cases p with
    | none => exact hs.2
    | some q =>
      -- `firstWith` returns the height of an entry of the window
      have : ∃ b ∈ s1.infos, b.height = q := by
        clear hmhp
        generalize s1.infos = l at hpf
        induction l with
        | nil => simp [firstWith] at hpf
        | cons b l ih =>
          simp only [firstWith] at hpf
          split at hpf
          · cases hpf
          · split at hpf
            · cases hpf; exact ⟨b, List.mem_cons_self, rfl⟩
            · obtain ⟨x, hx, hq⟩ := ih hpf
              exact ⟨x, List.mem_cons_of_mem _ hx, hq⟩
      obtain ⟨b, hb, hq⟩ := this
      simp only [Option.getD_some]
      rw [← hq]
      exact hwin b hb
  exact ⟨e1 ▸ key.1, e3 ▸ key.2⟩

/-- **in every state satisfying the invariant the next height of SetBFTParameters / SetGeneratorKeys is the
model's `currentHeight + 1`** (no wrap), and a new validator's `largestHeightPrecommit` is the model's `next - 1` -/
theorem C02_arith_next_height_exact_when_reachable (s : State) (hs : C02BelowTop s) :
    Gen.bftSetParamsNextHeight (curHeight s) = curHeight s + 1 ∧
    Gen.bftNewValidatorLargestHeightPrecommit (Gen.bftSetParamsNextHeight (curHeight s)) = curHeight s + 1 - 1 ∧
    Gen.bftSetKeysNextHeight (curHeight s) = curHeight s + 1 ∧
    Gen.bftSetKeysNextHeightEmpty s.mhp = s.mhp + 1 := by
  have hu : u32 = 4294967296 := rfl
  have hc : curHeight s + 1 < u32 := by
    unfold curHeight
    split
    · exact hs.2
    · rename_i n rest h0
      exact hs.1 n (by rw [h0]; exact List.mem_cons_self)
  have hm := hs.2
  unfold Gen.bftSetParamsNextHeight Gen.bftSetKeysNextHeight Gen.bftSetKeysNextHeightEmpty
    Gen.bftNewValidatorLargestHeightPrecommit
  refine ⟨?_, ?_, ?_, ?_⟩ <;> omega
