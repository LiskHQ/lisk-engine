/-
C18 — configuration conflicts and aliasing.

"... every inbound and outbound connection attempt involving that IP - or a permanently blacklisted IP - is
refused", for all blacklist configurations.  The blacklist is one list of the p2p configuration next to the seed
peers, the fixed peers and the listen addresses; the same IP may stand in several of them.

Model (`Model/ConfigStart.lean`): `startWith gaterFirst pb E cfg` = `newPeer` + `peerbook.init`, parametrised by
the ORDER (is the gater loaded from `cfg.BlacklistedIPs` before the peerbook steps run?) and by what the
peerbook steps do to the ARRAY behind `cfg.BlacklistedIPs` (the peerbook keeps the caller's slice, a view).

Theorems on the model
  * `C18_config_blacklist_wins` — with the gater loaded first (the code), WHATEVER the peerbook steps do and
    whatever else the IP is listed as (seed, fixed, listen address): every blacklisted IP is refused by every
    gate, inbound and outbound, and stays refused along every later operation sequence that does not unblock it.
  * `C18_config_gater_first_ignores_peerbook`, `C18_config_readonly_keeps_config` — the gater of the code order
    does not depend on the peerbook steps; read-only peerbook steps leave the configuration array as it was
    (in either order).
  * `C18_config_restart_blacklist_wins` — the same after every successful Stop()+Start() (`Lifecycle.restart`).
  * `C18_config_inplace_filter_keeps_length`, `C18_config_inplace_filter_corrupts_config`,
    `C18_config_gater_after_filter_loses_ip` — the in-place filter idiom on the peerbook's view leaves the
    caller's slice at its length but overwrites its elements ([A, B] becomes [B, B]); loaded AFTER it, the gater
    lets the conflicting IP through on all gates (counterexamples by kernel evaluation).

Tie A (Gen/Life.lean; its inputs are listed at the head of Props/C18_LifeGen.lean)
  * `C18_config_gater_loaded_first` — in `newPeer`, `connGater.optionWithBlacklist(cfg.BlacklistedIPs)` is
    executed on the straight path (only error returns in front) and NO earlier statement mentions the
    blacklist or passes the configuration on; in `Connection.Start` nothing touches the configuration before
    `newPeer(..., conn.cfg)`;
  * `C18_config_peerbook_reads_only` — no function of peerbook.go assigns to, re-slices, indexes or appends to
    one of the lists it keeps a view of; `optionWithBlacklist` only ranges over its argument;
  * `C18_config_start_is_model` — hence the start-up read off the source IS `startConn` (gater first,
    read-only peerbook).
-/
import LiskVerif.Props.C18_LifeGen
import LiskVerif.Props.C18_Life
import LiskVerif.Model.ConfigStart
import LiskVerif.Lemmas.StringChars

open LiskVerif LiskVerif.ConnGater LiskVerif.ConfigStart LiskVerif.Gen.Life

/-! ## the model -/

private theorem start_gater_first (pb : ListOp) (E : Nat) (cfg : Config) (g : Gater) (arr : List (Option IP))
    (h : startWith true pb E cfg = (some g, arr)) :
    g = start (blockAll (fresh E) cfg.blacklist) := by
  unfold startWith at h
  rw [if_pos rfl] at h
  split at h
  · cases h
  · rename_i g0 hb
    have h2 := (blacklist_ok (g := fresh E) (l := cfg.blacklist) (by rw [hb])).2
    rw [hb] at h2
    cases h
    rw [← h2]

/-- **The blacklist wins.** When the gater is loaded from the configuration before the peerbook steps run (the
order of the code), then for EVERY behaviour `pb` of those steps and EVERY configuration - whether or not the IP
is also a seed peer, a fixed peer or a listen address - every blacklisted IP is refused by `InterceptAddrDial`,
`InterceptAccept` and inbound `InterceptSecured`, hence inbound and outbound, right after Start and after any
later sequence of penalties, expiry passes, block / unblock / blacklist operations that does not unblock that
very IP. -/
theorem C18_config_blacklist_wins (pb : ListOp) (E : Nat) (cfg : Config) (g : Gater) (arr : List (Option IP))
    (h : startWith true pb E cfg = (some g, arr)) (ip : IP) (hip : some ip ∈ cfg.blacklist)
    (ops : List Op) (hno : ∀ ip', Op.unblock ip' ∈ ops → ip' ≠ ip) (pid : Nat) (apid : Option Nat) :
    interceptAddrDial (run g ops) pid ⟨some ip, apid⟩ = false ∧ interceptAccept (run g ops) ⟨some ip, apid⟩ = false ∧
    interceptSecured (run g ops) true pid ⟨some ip, apid⟩ = false ∧
    outboundAllowed (run g ops) pid ⟨some ip, apid⟩ = false ∧ inboundAllowed (run g ops) pid ⟨some ip, apid⟩ = false := by
  have hg := start_gater_first pb E cfg g arr h
  have hb : isBlocked g ip = true := by
    have hm : ip ∈ (start (blockAll (fresh E) cfg.blacklist)).blocked :=
      (mem_blockAll cfg.blacklist (fresh E) ip).2 (Or.inl hip)
    rw [hg]
    simpa [isBlocked] using hm
  exact (C18_gates_refuse_banned_or_blacklisted (run g ops) ip apid pid).1 (Or.inr (isBlocked_run ops g ip hb fun h => hno ip h rfl))

/-- non-vacuity, and the point of the statement: the conflicting IP 10.0.0.1 is first in the blacklist and also a
seed peer and a fixed peer; the peerbook steps may even run the in-place filter - the gater was loaded before. -/
example :
    let cfg : Config := { blacklist := [some [10, 0, 0, 1], some [10, 0, 0, 2]], seeds := [[10, 0, 0, 1]], fixed := [[10, 0, 0, 1]] }
    (startWith true dropConflictsInPlace 86400 cfg).1.map (fun g =>
      (inboundAllowed g 7 ⟨some [10, 0, 0, 1], none⟩, outboundAllowed g 7 ⟨some [10, 0, 0, 1], some 3⟩,
       inboundAllowed g 7 ⟨some [10, 0, 0, 3], none⟩)) = some (false, false, true) := by
  decide +kernel

/-- **With the gater loaded first, the gater does not depend on the peerbook steps at all.** -/
theorem C18_config_gater_first_ignores_peerbook (pb : ListOp) (E : Nat) (cfg : Config) :
    (startWith true pb E cfg).1 = (startConn E cfg).1 := by
  unfold startConn startWith
  simp only [if_true]
  rcases blacklist (fresh E) cfg.blacklist with ⟨g0, ok⟩
  cases ok <;> rfl

/-- **Read-only peerbook steps leave the configuration as it was**, in either order; and then the order does
not matter for the gater either. -/
theorem C18_config_readonly_keeps_config (b : Bool) (E : Nat) (cfg : Config) :
    (startWith b readOnly E cfg).2 = cfg.blacklist ∧ (startWith b readOnly E cfg).1 = (startConn E cfg).1 := by
  cases b <;> simp only [startConn, startWith, readOnly, Bool.false_eq_true, if_false, if_true] <;>
    (rcases blacklist (fresh E) cfg.blacklist with ⟨g0, ok⟩; cases ok <;> simp)

/-- **After every successful Stop()+Start() the configured blacklist wins again**: the new gater refuses every
IP of the blacklist the Connection is restarted with, on all gates. -/
theorem C18_config_restart_blacklist_wins (l : Lifecycle.LNode) (bl : List (Option IP))
    (h : (Lifecycle.restart l bl).2 = true) (ip : IP) (hip : some ip ∈ bl) (pid : Nat) (apid : Option Nat) :
    let g := (Lifecycle.restart l bl).1.node.g
    interceptAddrDial g pid ⟨some ip, apid⟩ = false ∧ interceptAccept g ⟨some ip, apid⟩ = false ∧
    interceptSecured g true pid ⟨some ip, apid⟩ = false ∧
    outboundAllowed g pid ⟨some ip, apid⟩ = false ∧ inboundAllowed g pid ⟨some ip, apid⟩ = false := by
  intro g
  have hpin := (C18_restart_pinned l bl h).2.1
  have hok : (blacklist (Lifecycle.freshGater l) bl).2 = true := restart_snd l bl ▸ h
  have hb : isBlocked g ip = true := by
    simp only [isBlocked, decide_eq_true_eq, g]
    rw [hpin, (blacklist_ok hok).2]
    exact (mem_blockAll bl (Lifecycle.freshGater l) ip).2 (Or.inl hip)
  exact (C18_gates_refuse_banned_or_blacklisted g ip apid pid).1 (Or.inr hb)

/-! ### the in-place filter idiom -/

/-- the caller's slice keeps its length ... -/
theorem C18_config_inplace_filter_keeps_length {α : Type} (keep : α → Bool) (l : List α) :
    (filterInPlace keep l).length = l.length := by
  unfold filterInPlace
  have hle : (l.filter keep).length ≤ l.length := List.length_filter_le keep l
  simp only [List.length_append, List.length_drop]
  omega

/-- ... but not its elements: dropping the conflicting first entry of [A, B] leaves the configuration with
[B, B]; when nothing is dropped nothing changes. -/
theorem C18_config_inplace_filter_corrupts_config :
    (let cfg : Config := { blacklist := [some [10, 0, 0, 1], some [10, 0, 0, 2]], seeds := [[10, 0, 0, 1]] }
     dropConflictsInPlace cfg cfg.blacklist = [some [10, 0, 0, 2], some [10, 0, 0, 2]]) ∧
    (∀ {α : Type} (keep : α → Bool) (l : List α), (∀ x ∈ l, keep x = true) → filterInPlace keep l = l) := by
  refine ⟨by decide +kernel, ?_⟩
  intro α keep l h
  unfold filterInPlace
  rw [List.filter_eq_self.2 h]
  simp

/-- **Loaded after an in-place filter on the peerbook's view, the gater lets the conflicting IP through**: with
blacklist [A, B] and A also a seed peer, A passes every gate inbound and outbound (B is still refused); in the
order of the code the same steps cannot reach the gater (`C18_config_blacklist_wins`) - but they still leave the
caller's configuration corrupted, which is why the peerbook must not write at all
(`C18_config_peerbook_reads_only`). -/
theorem C18_config_gater_after_filter_loses_ip :
    let cfg : Config := { blacklist := [some [10, 0, 0, 1], some [10, 0, 0, 2]], seeds := [[10, 0, 0, 1]] }
    let probe := fun (g : Gater) => (inboundAllowed g 7 ⟨some [10, 0, 0, 1], none⟩, outboundAllowed g 7 ⟨some [10, 0, 0, 1], none⟩,
      inboundAllowed g 7 ⟨some [10, 0, 0, 2], none⟩)
    -- gater loaded after the filter: A is allowed inbound and outbound, B is refused; the configuration is [B, B]
    (startWith false dropConflictsInPlace 86400 cfg).1.map probe = some (true, true, false) ∧
    (startWith false dropConflictsInPlace 86400 cfg).2 = [some [10, 0, 0, 2], some [10, 0, 0, 2]] ∧
    -- gater loaded first: A is refused, but the configuration is [B, B] all the same
    (startWith true dropConflictsInPlace 86400 cfg).1.map probe = some (false, false, false) ∧
    (startWith true dropConflictsInPlace 86400 cfg).2 = [some [10, 0, 0, 2], some [10, 0, 0, 2]] ∧
    -- conflicting entry last: the filter overwrites nothing
    (dropConflictsInPlace { blacklist := [some [10, 0, 0, 2], some [10, 0, 0, 1]], seeds := [[10, 0, 0, 1]] }
        [some [10, 0, 0, 2], some [10, 0, 0, 1]] = [some [10, 0, 0, 2], some [10, 0, 0, 1]]) := by
  decide +kernel

/-! ## tie A: the statement tables regenerated from the source -/

/-- does `needle` occur in the list of characters? (structural, evaluates in the kernel) -/
def C18cfHasSub (needle : List Char) : List Char → Bool
  | [] => needle.isEmpty
  | c :: cs => needle.isPrefixOf (c :: cs) || C18cfHasSub needle cs

def C18cfMentions (needle s : String) : Bool := C18cfHasSub needle.toList s.toList

/-- does one of the needles occur? (one pass over the text) -/
def C18cfAnySub (needles : List (List Char)) : List Char → Bool
  | [] => needles.any List.isEmpty
  | c :: cs => needles.any (fun n => n.isPrefixOf (c :: cs)) || C18cfAnySub needles cs

def C18cfMentionsAny (needles : List String) (s : String) : Bool := C18cfAnySub (needles.map String.toList) s.toList

/-- every text of a statement row: lhs / callee / condition, rhs / arguments, enclosing conditions -/
def C18cfTexts (s : Stmt) : List String := s.a :: (s.b ++ s.guards)

def C18cfStmtMentions (needle : String) (s : Stmt) : Bool := (C18cfTexts s).any (C18cfMentions needle)

/-- an exit that is an error return (`if err != nil { return ..., err }`, possibly nested; wider than the test inside
`C18lgOnStraightPath`, which takes the single guard `if err != nil` and the result `err` only) -/
def C18cfErrorReturn (s : Stmt) : Bool :=
  s.kind == "return" && s.guards.getLast? == some "if err != nil" && (s.a == "err" || s.a == "nil, err")

/-- `callee(args)` is the FIRST use of `needle` in `fn`: it is called exactly once, as a statement of the function
body itself (depth 0, no guard), the only exits in front of it are error returns, and no earlier statement
mentions `needle` - except the assignment rows `x, err := callee(args)` of the very same statement (`rhs`). -/
def C18cfFirstUse (fn callee : String) (args : List String) (rhs needle : String) : Bool :=
  match (C18lgOf fn).filter (fun s => s.kind == "call" && s.a == callee) with
  | [c] =>
    c.b == args && c.depth == 0 && c.guards.isEmpty &&
    (C18lgBefore fn c).all (fun t =>
      (!C18lgExit t || C18cfErrorReturn t) &&
      ((t.kind == "assign" && t.b == [rhs]) || !C18cfStmtMentions needle t))
  | _ => false

/-- **In `newPeer` the gater receives the blacklist before anything else sees it; `Connection.Start` hands the
configuration to `newPeer` untouched.** -/
theorem C18_config_gater_loaded_first :
    C18cfFirstUse "newPeer" "connGater.optionWithBlacklist" ["cfg.BlacklistedIPs"]
      "connGater.optionWithBlacklist(cfg.BlacklistedIPs)" "BlacklistedIPs" = true ∧
    -- nothing in front of it is handed the configuration as a whole either
    (match (C18lgOf "newPeer").filter (fun s => s.kind == "call" && s.a == "connGater.optionWithBlacklist") with
     | [c] => (C18lgBefore "newPeer" c).all (fun t => !(t.b.contains "cfg" || t.b.contains "*cfg" || t.b.contains "&cfg"))
     | _ => false) = true ∧
    C18cfFirstUse "Connection.Start" "newPeer" ["ctx", "&conn.wg", "conn.logger", "seed", "conn.cfg"]
      "newPeer(ctx, &conn.wg, conn.logger, seed, conn.cfg)" "cfg" = true ∧
    C18lgParams "newPeer" = some ["ctx", "wg", "logger", "seed", "cfg"] := by
  unfold C18cfFirstUse C18cfStmtMentions C18cfMentions
  simp only [Strings.toList_eq_chars]
  decide +kernel

/-- the statements of peerbook.go: lifegen emits the files in the order of its target list (... peer.go `newPeer`,
peerbook.go ALL functions, conngater.go `optionWithBlacklist`) and the functions of a file in source order, so
they are the rows between the last row of `newPeer` and the first row of `optionWithBlacklist` - whatever
functions the file holds. -/
def C18cfPeerbookStmts : List Stmt :=
  ((stmts.dropWhile (fun s => s.fn != "newPeer")).dropWhile (fun s => s.fn == "newPeer")).takeWhile
    (fun s => s.fn != "connectionGater.optionWithBlacklist")

/-- the functions of peerbook.go (same argument on the function table) -/
def C18cfPeerbookFns : List String :=
  ((fns.map (·.name)).dropWhile (fun n => n != "newPeer")).drop 1 |>.takeWhile
    (fun n => n != "connectionGater.optionWithBlacklist")

/-- the lists the peerbook keeps a view of (fields of `pb`, and the constructor's parameter) -/
def C18cfListNames : List String := ["pb.permanentlyBlacklistedIPs", "pb.seedPeers", "pb.fixedPeers", "blacklistedIPs"]

/-- Does the statement write to one of the lists the peerbook keeps a view of, or take a second view of one?
In Go a slice is written by an assignment (to the field, to an element, or of an `append` result), by `x[i]++`
and the like, or by handing it to `copy` / `append` / `sort.*` / `slices.*`; a re-slice
`pb.permanentlyBlacklistedIPs[:0]` is a second view of the configuration array.  (Only the texts of these rows
are scanned: string evaluation in the kernel is slow.) -/
def C18cfTouchesLists (s : Stmt) : Bool :=
  if s.kind == "assign" then
    C18cfMentionsAny C18cfListNames s.a ||
    s.b.any (C18cfMentionsAny ["permanentlyBlacklistedIPs[", "pb.seedPeers[", "pb.fixedPeers[", "blacklistedIPs[",
      "append(pb.", "append(blacklistedIPs"])
  else if s.kind == "other" then C18cfMentionsAny C18cfListNames s.a
  else if s.kind == "call" || s.kind == "go-call" || s.kind == "defer-call" then
    (s.a == "append" || s.a == "copy" || C18cfMentionsAny ["sort.", "slices."] s.a) &&
      (match s.b with | t :: _ => C18cfMentionsAny C18cfListNames t | [] => false)
  else false

/-- **The peerbook only reads the lists it keeps a view of** (every function of peerbook.go, `init` included), and
`optionWithBlacklist` only ranges over its argument. -/
theorem C18_config_peerbook_reads_only :
    C18cfPeerbookStmts.all (fun s => !C18cfTouchesLists s) = true ∧
    -- the segment is the whole file: it starts with the constructor, holds `init` and the getters, and every
    -- function of the table between the two markers has its rows in it
    ["newPeerbook", "peerbook.init", "peerbook.PermanentlyBlacklistedIPs", "peerbook.isIPPermanentlyBlacklisted"].all
      (fun f => C18cfPeerbookFns.contains f) = true ∧
    C18cfPeerbookFns.all (fun f => C18cfPeerbookStmts.any (fun s => s.fn == f)) = true ∧
    -- peerbook.init: the one assignment is the logger
    ((C18lgOf "peerbook.init").filter (fun s => s.kind == "assign")).map (·.a) = ["pb.logger"] ∧
    (C18lgOf "connectionGater.optionWithBlacklist").all (fun s =>
      !(s.kind == "assign" && (s.a == "bl" || C18cfMentions "bl[" s.a)) &&
      !(s.a :: s.b).any (C18cfMentionsAny ["bl[", "append(bl,", "append(bl)"])) = true ∧
    C18lgParams "connectionGater.optionWithBlacklist" = some ["bl"] := by
  unfold C18cfTouchesLists C18cfMentionsAny C18cfMentions
  simp only [Strings.toList_eq_chars]
  decide +kernel

/-- the order read off the source -/
def C18cfGaterFirst : Bool :=
  C18cfFirstUse "newPeer" "connGater.optionWithBlacklist" ["cfg.BlacklistedIPs"]
    "connGater.optionWithBlacklist(cfg.BlacklistedIPs)" "BlacklistedIPs"

/-- the peerbook steps read off the source: read-only when no statement of peerbook.go touches the lists, the
in-place filter otherwise (the worst the idiom can do) -/
def C18cfPeerbookSteps : ListOp :=
  if C18cfPeerbookStmts.all (fun s => !C18cfTouchesLists s) then readOnly
  else dropConflictsInPlace

/-- **The start-up of the code as extracted is the model's `startConn`**: gater first, read-only peerbook. Hence
`C18_config_blacklist_wins` and `C18_config_readonly_keeps_config` speak about the current source. -/
theorem C18_config_start_is_model (E : Nat) (cfg : Config) :
    startWith C18cfGaterFirst C18cfPeerbookSteps E cfg = startConn E cfg := by
  have h1 : C18cfGaterFirst = true := C18_config_gater_loaded_first.1
  have h2 : C18cfPeerbookSteps = readOnly := by
    unfold C18cfPeerbookSteps
    rw [C18_config_peerbook_reads_only.1]
    rfl
  rw [h1, h2]
  rfl

/-- the criteria are not vacuous: they reject the two edits they are there for -/
example :
    -- `blacklistedIPs := pb.permanentlyBlacklistedIPs[:0]` and `pb.permanentlyBlacklistedIPs = blacklistedIPs`
    C18cfTouchesLists ⟨"peerbook.init", 1, 0, [], "assign", "blacklistedIPs", ["pb.permanentlyBlacklistedIPs[:0]"]⟩ = true ∧
    C18cfTouchesLists ⟨"peerbook.init", 9, 0, [], "assign", "pb.permanentlyBlacklistedIPs", ["blacklistedIPs"]⟩ = true ∧
    C18cfTouchesLists ⟨"peerbook.init", 5, 2, [], "assign", "blacklistedIPs", ["append(blacklistedIPs, ip)"]⟩ = true ∧
    -- a statement in front of the gater call that mentions the blacklist
    C18cfStmtMentions "BlacklistedIPs"
      ⟨"newPeer", 1, 0, [], "call", "newPeerbook", ["cfg.SeedPeers", "cfg.FixedPeers", "cfg.BlacklistedIPs"]⟩ = true ∧
    C18cfStmtMentions "BlacklistedIPs" ⟨"newPeer", 1, 0, [], "call", "len", ["cfg.Addresses"]⟩ = false := by
  unfold C18cfTouchesLists C18cfStmtMentions C18cfMentionsAny C18cfMentions
  simp only [Strings.toList_eq_chars]
  decide +kernel
