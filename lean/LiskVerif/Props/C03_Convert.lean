/-
C03 — the contract between the APPLICATION's validator list and what the engine stores and uses
("… the slot's assigned generator and its signature …").  Model: `LiskVerif.Convert`
(Model/Convert.lean: `GetBFTValidatorAndGenerators` transcribed statement by statement, the consumers
of its two results, `Generators.AtTimestamp`, `GetLabiValidators`); driver `Driver/Convert.lean`
(pseudo-property C03CONV ties `conv` / `owner` / `back` ops to the real exported functions) and
`Driver/Verify.lean` (the C03 model takes the application's list and converts it itself).

(a) the two results   `C03_convert_generators_every_validator` (every entry, in order, same length),
                      `C03_convert_bft_exactly_positive`, `C03_convert_bft_membership`,
                      `C03_convert_weight_sum` (the sum of the BFT weights is the sum over the application's list),
                      `C03_convert_no_zero_weight`, `C03_convert_set_params_never_weight_error`
(b) slot owner        `C03_convert_slot_owner` — for EVERY list and slot the generator the engine expects is
                      `list[slot % len]` of the APPLICATION's list (address and generator key);
                      `C03_convert_slot_owner_exists`, `C03_convert_stored_generators` (what `SetGeneratorKeys`
                      stores is read back for the activation height), `C03_convert_model_slot_generator`,
                      `C03_convert_only_owner_passes_verify`, `C03_convert_non_owner_rejected`,
                      `C03_convert_accepted_block_by_owner` (the acceptance model of Props/C03.lean accepts a
                      block only from the owner according to the application's list)
(c) validatorsHash    `C03_convert_vhash_covers_positive`, `C03_convert_vhash_ignores_standby`,
                      `C03_convert_vhash_depends_on_key_weight_only`
(d) the way back      `C03_convert_round_trip` (distinct addresses: the application gets its list back, the BLS
                      key of standby entries dropped), `C03_convert_round_trip_length`
(e) the skipping conversion (seeded change C03-16: `if BFTWeight == 0 { continue }` in front of both appends)
                      `C03_convert_skip_counterexample`, `C03_convert_skip_loses_standby_slot` (for EVERY list
                      with a standby validator of its own identity the owners differ on that validator's slot),
                      `C03_convert_skip_shortens`
(f) tie A             `Gen/ConvertFacts.lean` is REGENERATED by tools/convgen on every run; `C03_convert_gen_*`:
                      the loop ranges over the parameter without using the index, the interpreted loop body IS
                      `Convert.step` for every accumulator and entry, constructors / accessors keep the fields,
                      `AtTimestamp` indexes `slot % len` of the receiver, every call site hands result #0 to
                      `SetBFTParameters` and result #1 to `SetGeneratorKeys` and uses them for nothing else.
Core Lean only; hash function and schema table are parameters.
-/
import LiskVerif.Model.Convert
import LiskVerif.Gen.ConvertFacts
import LiskVerif.Lemmas.AList
import LiskVerif.Lemmas.BFT
import LiskVerif.Props.C03

open LiskVerif LiskVerif.Convert

set_option linter.unusedSimpArgs false
set_option linter.unusedVariables false

namespace C03Convert

/-- the entry takes part in the BFT protocol -/
def active (v : AppValidator) : Bool := decide (v.weight > 0)

theorem foldl_step (vs : List AppValidator) (acc : Acc) :
    vs.foldl step acc = (acc.1 ++ (vs.filter active).map newValidator, acc.2 ++ vs.map newGenerator) := by
  induction vs generalizing acc with
  | nil => simp
  | cons v rest ih =>
    rw [List.foldl_cons, ih]
    by_cases h : v.weight > 0
    · simp [step, active, h, List.filter_cons]
    · simp [step, active, h, List.filter_cons]

theorem convert_eq (vs : List AppValidator) :
    convert vs = ((vs.filter active).map newValidator, vs.map newGenerator) := by
  simp [convert, foldl_step]

theorem foldl_stepSkip (vs : List AppValidator) (acc : Acc) :
    vs.foldl stepSkip acc =
      (acc.1 ++ (vs.filter active).map newValidator, acc.2 ++ (vs.filter active).map newGenerator) := by
  induction vs generalizing acc with
  | nil => simp
  | cons v rest ih =>
    rw [List.foldl_cons, ih]
    by_cases h : v.weight = 0
    · have h' : ¬ v.weight > 0 := by omega
      simp [stepSkip, active, h, h', List.filter_cons]
    · have h' : v.weight > 0 := by omega
      simp [stepSkip, active, h, h', List.filter_cons]

theorem convertSkip_eq (vs : List AppValidator) :
    convertSkip vs = ((vs.filter active).map newValidator, (vs.filter active).map newGenerator) := by
  simp [convertSkip, foldl_stepSkip]

theorem sum_filter_active (vs : List AppValidator) :
    (((vs.filter active).map newValidator).map (·.weight)).sum = (vs.map (·.weight)).sum := by
  induction vs with
  | nil => rfl
  | cons v rest ih =>
    by_cases h : v.weight > 0
    · simp [List.filter_cons, active, h, newValidator] at ih ⊢
      omega
    · have h0 : v.weight = 0 := by omega
      simp [List.filter_cons, active, h, newValidator, h0] at ih ⊢
      omega

/-- the projection the validators hash looks at -/
def keyWeight (v : AppValidator) : Bytes × Nat := (v.blsKey, v.weight)

def hashEntry (p : Bytes × Nat) : Option Roots.Validator :=
  if p.2 > 0 then some { key := p.1, weight := p.2 } else none

theorem hashInput_eq (app : List AppValidator) :
    hashInput app = (app.filter active).map fun v => ({ key := v.blsKey, weight := v.weight } : Roots.Validator) := by
  simp [hashInput, convert_eq, newValidator, List.map_map, Function.comp_def]

theorem hashInput_filterMap (app : List AppValidator) :
    hashInput app = (app.map keyWeight).filterMap hashEntry := by
  rw [hashInput_eq]
  induction app with
  | nil => rfl
  | cons v rest ih =>
    by_cases h : v.weight > 0
    · simp [List.filter_cons, active, h, keyWeight, hashEntry] at ih ⊢
      exact ih
    · simp [List.filter_cons, active, h, keyWeight, hashEntry] at ih ⊢
      exact ih

/-- `BFT.lookupLE_cons_filter` at the new key itself: the entry just put in front is found -/
theorem lookupLE_cons_filter_self {α : Type} (l : List (Nat × α)) (next : Nat) (v : α) :
    BFT.lookupLE ((next, v) :: l.filter (·.1 ≠ next)) next = some (next, v) := by
  have hm : (next, v) ∈ (next, v) :: l.filter (·.1 ≠ next) := List.mem_cons_self
  cases he : BFT.lookupLE ((next, v) :: l.filter (·.1 ≠ next)) next with
  | none => have := BFT.lookupLE_isSome _ next _ hm (Nat.le_refl _); rw [he] at this; cases this
  | some e =>
    obtain ⟨h1, h2, h3⟩ := BFT.lookupLE_some he
    have h4 : next ≤ e.1 := h3 _ hm (Nat.le_refl _)
    rcases List.mem_cons.1 h2 with rfl | h2
    · rfl
    · have := (List.mem_filter.1 h2).2
      simp only [ne_eq, decide_not, Bool.not_eq_eq_eq_not, Bool.not_true, decide_eq_false_iff_not] at this
      omega

theorem getKeys_setKeys (s : BFT.State) (gens : List Bytes) :
    BFT.getKeys (BFT.setKeys s gens) (keyHeight s) = some gens := by
  have hk : (BFT.setKeys s gens).keys = (keyHeight s, gens) :: s.keys.filter (·.1 ≠ keyHeight s) := by
    unfold BFT.setKeys keyHeight
    cases s.infos <;> rfl
  unfold BFT.getKeys
  rw [hk, lookupLE_cons_filter_self]
  rfl

/-- `SetBFTParameters` reports the weight error only for a list with an entry of weight 0 -/
theorem setParams_weight_error {s : BFT.State} {pc ct : Nat} {vs : List BFT.Validator}
    (h : BFT.setParams s pc ct vs = .error .weight) : vs.any (·.weight = 0) = true := by
  simp only [BFT.setParams_eq, BFT.ite_error_eq_error, reduceCtorEq, and_false, false_or, and_true, or_false] at h
  exact h.2

end C03Convert

open C03Convert

/-! ## (a) the two results -/

/-- **The generator list is every validator of the application's list, in its order** (address and
generator key of each entry; in particular the same length) — whatever the weights. -/
theorem C03_convert_generators_every_validator (app : List AppValidator) :
    (convert app).2 = app.map newGenerator ∧ (convert app).2.length = app.length := by
  simp [convert_eq]

/-- **The BFT validators are exactly the entries with weight > 0, in the order of the list.** -/
theorem C03_convert_bft_exactly_positive (app : List AppValidator) :
    (convert app).1 = (app.filter fun v => decide (v.weight > 0)).map newValidator := by
  rw [convert_eq]
  rfl

theorem C03_convert_bft_membership (app : List AppValidator) (x : BFTValidator) :
    x ∈ (convert app).1 ↔ ∃ v ∈ app, v.weight > 0 ∧ x = newValidator v := by
  simp only [convert_eq, List.mem_map, List.mem_filter, active, decide_eq_true_eq]
  constructor
  · rintro ⟨v, ⟨hv, hw⟩, rfl⟩
    exact ⟨v, hv, hw, rfl⟩
  · rintro ⟨v, hv, hw, rfl⟩
    exact ⟨v, ⟨hv, hw⟩, rfl⟩

/-- **The sum of the BFT weights is preserved**: what `SetBFTParameters` adds up (and compares the
thresholds with) is the sum over the whole list of the application. -/
theorem C03_convert_weight_sum (app : List AppValidator) :
    ((convert app).1.map (·.weight)).sum = (app.map (·.weight)).sum := by
  rw [convert_eq]
  exact sum_filter_active app

theorem C03_convert_bft_input_weight_sum (app : List AppValidator) :
    ((bftInput app).map (·.weight)).sum = (app.map (·.weight)).sum := by
  rw [← C03_convert_weight_sum app]
  simp [bftInput, List.map_map, Function.comp_def]

/-- no entry handed to `SetBFTParameters` has weight 0 … -/
theorem C03_convert_no_zero_weight (app : List AppValidator) :
    ∀ x ∈ bftInput app, x.weight > 0 := by
  intro x hx
  simp only [bftInput, convert_eq, List.mem_map, List.mem_filter, active, decide_eq_true_eq, newValidator] at hx
  obtain ⟨_, ⟨v, ⟨_, hw⟩, rfl⟩, rfl⟩ := hx
  exact hw

/-- … so its guard "BFTWeight must be a positive integer" never fires for a list of the application:
a standby validator does not make the parameter change fail. -/
theorem C03_convert_set_params_never_weight_error (s : BFT.State) (pc cert : Nat) (app : List AppValidator) :
    BFT.setParams s pc cert (bftInput app) ≠ .error .weight := by
  intro h
  obtain ⟨x, hx, hw⟩ := List.any_eq_true.1 (setParams_weight_error h)
  have := C03_convert_no_zero_weight app x hx
  have : x.weight = 0 := of_decide_eq_true hw
  omega

/-- the batch-size limit of `SetBFTParameters` counts the voting validators only -/
theorem C03_convert_bft_input_length (app : List AppValidator) :
    (bftInput app).length = (app.filter fun v => decide (v.weight > 0)).length := by
  rw [bftInput, convert_eq]
  simp only [List.length_map]
  rfl

/-! ## (b) the slot owner -/

/-- **For every list and every slot the generator the engine expects is `list[slot % len]` of the
APPLICATION's list** — same address, same generator key; an empty list panics on both sides (`none`). -/
theorem C03_convert_slot_owner (app : List AppValidator) (slot : Nat) :
    engineOwner app slot = (slotOwner app slot).map newGenerator := by
  simp only [engineOwner, slotOwner, atSlot, convert_eq, List.length_map]
  split
  · rfl
  · simp [List.getElem?_map]

theorem C03_convert_slot_owner_exists (app : List AppValidator) (slot : Nat) (h : app ≠ []) :
    ∃ v, v ∈ app ∧ slotOwner app slot = some v ∧
      engineOwner app slot = some { address := v.address, generatorKey := v.generatorKey } := by
  have hl : 0 < app.length := List.length_pos_iff.2 h
  have hlt : slot % app.length < app.length := Nat.mod_lt _ hl
  refine ⟨app[slot % app.length], List.getElem_mem hlt, ?_, ?_⟩
  · have : app.length ≠ 0 := by omega
    simp [slotOwner, this, List.getElem?_eq_getElem hlt]
  · rw [C03_convert_slot_owner]
    have : app.length ≠ 0 := by omega
    simp [slotOwner, this, List.getElem?_eq_getElem hlt, newGenerator]

/-- every entry owns the slots congruent to its position — a standby validator too -/
theorem C03_convert_position_owns_slot (app : List AppValidator) (i k : Nat) (hi : i < app.length) :
    engineOwner app (i + k * app.length) = some (newGenerator app[i]) := by
  rw [C03_convert_slot_owner]
  have hne : app.length ≠ 0 := by omega
  have hm : (i + k * app.length) % app.length = i := by
    rw [Nat.add_mul_mod_self_right]
    exact Nat.mod_eq_of_lt hi
  simp [slotOwner, hne, hm, List.getElem?_eq_getElem hi]

/-- **What `SetGeneratorKeys` stores for a list of the application is read back by `GetGeneratorKeys` for
the activation height: the addresses of the whole list in order** (genesis and block execution). -/
theorem C03_convert_stored_generators (s s' : BFT.State) (pc cert : Nat) (app : List AppValidator)
    (h : applyApp s pc cert app = some s') :
    BFT.getKeys s' (keyHeight s) = some (app.map (·.address)) := by
  unfold applyApp Verify.applyChange at h
  simp only [changeOf] at h
  split at h
  · cases h
  · rename_i s2 hs2
    cases h
    have hf := BFT.setParams_facts hs2
    have hkh : keyHeight s2 = keyHeight s := by
      unfold keyHeight
      rw [hf.infos, hf.mhp]
    rw [← hkh, getKeys_setKeys]
    simp [generatorAddrs, convert_eq, newGenerator, List.map_map, Function.comp_def]

/-- **The generator rule of the acceptance model, when the stored list is the converted list of the
application: the expected generator is the address of the application's slot owner.** -/
theorem C03_convert_model_slot_generator (n : Verify.Node) (s : BFT.State) (b : Verify.Cand)
    (app : List AppValidator) (hk : BFT.getKeys s b.height = some (generatorAddrs app)) :
    Verify.slotGenerator n s b = (slotOwner app (Verify.slotOf n.cfg b.timestamp)).map (·.address) := by
  unfold Verify.slotGenerator
  rw [hk]
  simp only [Verify.generatorAt, generatorAddrs, convert_eq, List.length_map, slotOwner, newGenerator,
    List.map_map, Function.comp_def]
  split
  · rename_i h0
    have : app = [] := List.length_eq_zero_iff.1 h0
    subst this
    rfl
  · simp [List.getElem?_map]

/-- a block that meets the generator rule was generated by the application's owner of the slot (the converse of
`C03_convert_owner_passes_generator_rule`) -/
theorem C03Convert.owner_of_generator_rule {n : Verify.Node} {s : BFT.State} {b : Verify.Cand} {app : List AppValidator}
    (hk : BFT.getKeys s b.height = some (generatorAddrs app)) (hg : Verify.slotGenerator n s b = some b.gen) :
    ∃ v, slotOwner app (Verify.slotOf n.cfg b.timestamp) = some v ∧ b.gen = v.address := by
  rw [C03_convert_model_slot_generator n s b app hk] at hg
  cases ho : slotOwner app (Verify.slotOf n.cfg b.timestamp) with
  | none => rw [ho] at hg; cases hg
  | some v =>
    rw [ho] at hg
    exact ⟨v, rfl, (Option.some.inj hg).symm⟩

/-- `verifyBlock` passes only a block whose generator address is the application's owner of the slot -/
theorem C03_convert_only_owner_passes_verify (n : Verify.Node) (s : BFT.State) (b : Verify.Cand)
    (app : List AppValidator) (hk : BFT.getKeys s b.height = some (generatorAddrs app))
    (h : Verify.verifyBlock n s b = none) :
    ∃ v, slotOwner app (Verify.slotOf n.cfg b.timestamp) = some v ∧ b.gen = v.address :=
  owner_of_generator_rule hk (Verify.verifyBlock_none_generator h)

/-- **A block generated by anybody but the application's owner of the slot is rejected** (signed correctly
or not, standby owner or not). -/
theorem C03_convert_non_owner_rejected (n : Verify.Node) (s : BFT.State) (b : Verify.Cand)
    (app : List AppValidator) (hk : BFT.getKeys s b.height = some (generatorAddrs app))
    (v : AppValidator) (ho : slotOwner app (Verify.slotOf n.cfg b.timestamp) = some v) (hne : b.gen ≠ v.address) :
    Verify.verifyBlock n s b ≠ none := by
  intro h
  obtain ⟨v', ho', hb⟩ := C03_convert_only_owner_passes_verify n s b app hk h
  rw [ho] at ho'
  cases ho'
  exact hne hb

/-- the owner's block does not fail the generator rule -/
theorem C03_convert_owner_passes_generator_rule (n : Verify.Node) (s : BFT.State) (b : Verify.Cand)
    (app : List AppValidator) (hk : BFT.getKeys s b.height = some (generatorAddrs app))
    (v : AppValidator) (ho : slotOwner app (Verify.slotOf n.cfg b.timestamp) = some v) (hb : b.gen = v.address) :
    Verify.slotGenerator n s b = some b.gen := by
  rw [C03_convert_model_slot_generator n s b app hk, ho, hb]
  rfl

/-- **Whole acceptance path (`Block.Validate` + `processValidated`, Props/C03.lean): an accepted block was
generated by the owner of its slot according to the application's list.** -/
theorem C03_convert_accepted_block_by_owner (n : Verify.Node) (b : Verify.Cand) (app : List AppValidator)
    (hk : BFT.getKeys n.bft b.height = some (generatorAddrs app)) (h : Verify.accepts n b) :
    ∃ v, slotOwner app (Verify.slotOf n.cfg b.timestamp) = some v ∧ b.gen = v.address :=
  owner_of_generator_rule hk ((Verify.accepts_iff n b).1 h).generator

/-! ## (c) validatorsHash -/

/-- **The validatorsHash the engine stores covers exactly the entries with weight > 0** (their BLS keys and
weights, sorted by key) and the certificate threshold. -/
theorem C03_convert_vhash_covers_positive (t : Codec.Table) (nfc : Codec.NFC) (H : Roots.HashFn)
    (app : List AppValidator) (cert : Nat) :
    engineValidatorsHash t nfc H app cert =
      Roots.validatorsHash t nfc H
        ((app.filter fun v => decide (v.weight > 0)).map fun v => { key := v.blsKey, weight := v.weight }) cert := by
  unfold engineValidatorsHash
  rw [hashInput_eq]
  rfl

/-- a standby validator anywhere in the list does not change the hash -/
theorem C03_convert_vhash_ignores_standby (t : Codec.Table) (nfc : Codec.NFC) (H : Roots.HashFn)
    (l₁ l₂ : List AppValidator) (sb : AppValidator) (hs : sb.weight = 0) (cert : Nat) :
    engineValidatorsHash t nfc H (l₁ ++ sb :: l₂) cert = engineValidatorsHash t nfc H (l₁ ++ l₂) cert := by
  unfold engineValidatorsHash
  rw [hashInput_eq, hashInput_eq]
  have : active sb = false := by simp [active, hs]
  simp [List.filter_append, List.filter_cons, this]

/-- the hash depends on the (BLS key, weight) column only: addresses, generator keys never enter it -/
theorem C03_convert_vhash_depends_on_key_weight_only (t : Codec.Table) (nfc : Codec.NFC) (H : Roots.HashFn)
    (app₁ app₂ : List AppValidator) (cert : Nat)
    (h : app₁.map (fun v => (v.blsKey, v.weight)) = app₂.map (fun v => (v.blsKey, v.weight))) :
    engineValidatorsHash t nfc H app₁ cert = engineValidatorsHash t nfc H app₂ cert := by
  unfold engineValidatorsHash
  rw [hashInput_filterMap, hashInput_filterMap]
  have : app₁.map keyWeight = app₂.map keyWeight := h
  rw [this]

/-! ## (d) the way back -/

theorem C03_convert_round_trip_length (app : List AppValidator) : (roundTrip app).length = app.length := by
  simp [roundTrip, toLabi, convert_eq]

/-- **With pairwise distinct addresses the application gets its own list back** (`CurrentValidators`):
same order, addresses, generator keys and weights; the BLS key of a standby entry is not kept. -/
theorem C03_convert_round_trip (app : List AppValidator) (hd : (app.map (·.address)).Nodup) :
    roundTrip app = normalise app := by
  unfold roundTrip normalise toLabi
  rw [convert_eq]
  simp only [List.map_map]
  apply List.map_congr_left
  intro v hv
  simp only [Function.comp_def, newGenerator]
  have hfind : findBFT ((app.filter active).map newValidator) v.address =
      if v.weight > 0 then some (newValidator v) else none := by
    unfold findBFT
    rw [List.find?_map, List.find?_filter]
    rw [find?_key_of_nodup (f := (·.address)) hd hv active _ fun a =>
      ⟨fun h => ⟨(of_decide_eq_true h).1, of_decide_eq_true (of_decide_eq_true h).2⟩,
        fun h => decide_eq_true ⟨h.1, decide_eq_true h.2⟩⟩]
    by_cases hw : v.weight > 0 <;> simp [active, hw]
  rw [hfind]
  by_cases hw : v.weight > 0
  · simp [hw, newValidator]
  · simp [hw]
    omega

/-! ## (e) the conversion that skips weight 0 (seeded change C03-16) -/

namespace C03Convert
def vA : AppValidator := { address := [0xa], weight := 1, generatorKey := [1], blsKey := [0x1a] }
def vB : AppValidator := { address := [0xb], weight := 1, generatorKey := [2], blsKey := [0x1b] }
def vS : AppValidator := { address := [0x5], weight := 0, generatorKey := [3], blsKey := [0x15] }
def vC : AppValidator := { address := [0xc], weight := 1, generatorKey := [4], blsKey := [0x1c] }
/-- the list of the demonstration: the third entry is a standby validator -/
def demoList : List AppValidator := [vA, vB, vS, vC]
end C03Convert

/-- **Counterexample: with the early `continue` for weight 0 the engine's owner of slot 2 of
`[A, B, standby, C]` is C, the application's owner is the standby validator** — C's block for that slot would be
appended and the owner's block rejected; BFT validators and validatorsHash input are unchanged, so nothing
else notices. -/
theorem C03_convert_skip_counterexample :
    slotOwner demoList 2 = some vS ∧
    engineOwner demoList 2 = some (newGenerator vS) ∧
    engineOwnerSkip demoList 2 = some (newGenerator vC) ∧
    (convertSkip demoList).1 = (convert demoList).1 ∧
    (convertSkip demoList).2.length = 3 ∧ (convert demoList).2.length = 4 := by
  decide

theorem C03_convert_skip_shortens (app : List AppValidator) (sb : AppValidator) (hm : sb ∈ app) (hs : sb.weight = 0) :
    (convertSkip app).2.length < app.length ∧ (convertSkip app).1 = (convert app).1 := by
  rw [convertSkip_eq, convert_eq]
  refine ⟨?_, rfl⟩
  simp only [List.length_map]
  apply List.length_filter_lt_length_iff_exists.2
  exact ⟨sb, hm, by simp [active, hs]⟩

/-- **For EVERY list with a standby validator whose (address, generator key) no voting validator shares, the
skipping conversion names another generator on that validator's own slot.** -/
theorem C03_convert_skip_loses_standby_slot (app : List AppValidator) (i : Nat) (hi : i < app.length)
    (hs : app[i].weight = 0)
    (hid : ∀ v ∈ app, v.weight > 0 → newGenerator v ≠ newGenerator app[i]) :
    engineOwner app i = some (newGenerator app[i]) ∧ engineOwnerSkip app i ≠ engineOwner app i := by
  have h1 : engineOwner app i = some (newGenerator app[i]) := by
    have := C03_convert_position_owns_slot app i 0 hi
    simpa using this
  refine ⟨h1, ?_⟩
  rw [h1]
  intro h
  unfold engineOwnerSkip atSlot at h
  rw [convertSkip_eq] at h
  split at h
  · cases h
  · have hmem := List.mem_of_getElem? h
    simp only [List.mem_map, List.mem_filter, active, decide_eq_true_eq] at hmem
    obtain ⟨v, ⟨hv, hw⟩, hg⟩ := hmem
    exact hid v hv hw hg

/-! ## (f) tie A: the regenerated facts (tools/convgen → Gen/ConvertFacts.lean) -/

namespace C03Convert
open LiskVerif.Gen

/-- what one statement of the loop body does to the two accumulators -/
inductive Effect where
  | bft | gen
deriving DecidableEq, Repr

/-- a guard of the loop body as a function of "the entry has weight > 0" (`BFTWeight` is a `uint64`:
`> 0` and `!= 0` coincide); `none` = a condition this file does not know -/
def guardVal (pos : Bool) (g : String) : Option Bool :=
  if g = "v.BFTWeight > 0" ∨ g = "v.BFTWeight != 0" ∨ g = "0 < v.BFTWeight" ∨ g = "v.BFTWeight >= 1" then some pos
  else if g = "!(v.BFTWeight > 0)" ∨ g = "!(v.BFTWeight != 0)" ∨ g = "v.BFTWeight == 0" ∨ g = "v.BFTWeight <= 0"
      ∨ g = "v.BFTWeight < 1" ∨ g = "0 == v.BFTWeight" then some (!pos)
  else if g = "!(v.BFTWeight == 0)" then some pos
  else none

def guardsVal (pos : Bool) : List String → Option Bool
  | [] => some true
  | g :: rest =>
    match guardVal pos g, guardsVal pos rest with
    | some a, some b => some (a && b)
    | _, _ => none

/-- the appends executed for one entry, in order (`none`: a statement or guard outside the vocabulary) -/
def effects (bftAcc genAcc : String) (pos : Bool) : List Conv.Stmt → Option (List Effect)
  | [] => some []
  | s :: rest =>
    match guardsVal pos s.guards with
    | none => none
    | some false => effects bftAcc genAcc pos rest
    | some true =>
      if s.kind = "continue" then some []
      else if s.kind = "append" ∧ s.target = bftAcc ∧ s.ctor = "NewValidator"
          ∧ s.args = ["v.Address", "v.BFTWeight", "v.BLSKey"] then
        (effects bftAcc genAcc pos rest).map (Effect.bft :: ·)
      else if s.kind = "append" ∧ s.target = genAcc ∧ s.ctor = "NewGenerator"
          ∧ s.args = ["v.Address", "v.GeneratorKey"] then
        (effects bftAcc genAcc pos rest).map (Effect.gen :: ·)
      else none

def applyEffects (acc : Acc) (v : AppValidator) : List Effect → Acc
  | [] => acc
  | .bft :: rest => applyEffects (acc.1 ++ [newValidator v], acc.2) v rest
  | .gen :: rest => applyEffects (acc.1, acc.2 ++ [newGenerator v]) v rest

/-- the regenerated loop body run on one entry: the accumulator returned first is the BFT list, the one
returned second the generator list -/
def genStep (l : Conv.Loop) (acc : Acc) (v : AppValidator) : Option Acc :=
  match l.returns with
  | [b, g] => (effects b g (decide (v.weight > 0)) l.body).map (applyEffects acc v)
  | _ => none

end C03Convert

/-- the loop is `for _, v := range <first parameter>`: every entry once, in order, position not used; the
accumulators start empty and are returned as (BFT validators, generators); nothing else happens in the function -/
theorem C03_convert_gen_loop_shape :
    Gen.Conv.loop.found = true ∧ Gen.Conv.loop.rangeOver = "param:0" ∧ Gen.Conv.loop.usesIndex = false ∧
    Gen.Conv.loop.inits = [("bftValidators", "BFTValidators{}"), ("generators", "Generators{}")] ∧
    Gen.Conv.loop.returns = ["bftValidators", "generators"] ∧ Gen.Conv.loop.other = [] := by
  decide +kernel

/-- the appends of the regenerated body: (BFT, generator) for a voting entry, (generator) alone for a standby entry -/
theorem C03_convert_gen_loop_effects :
    effects "bftValidators" "generators" true Gen.Conv.loop.body = some [Effect.bft, Effect.gen] ∧
    effects "bftValidators" "generators" false Gen.Conv.loop.body = some [Effect.gen] := by
  decide +kernel

/-- **The regenerated loop body IS `Convert.step`** — for every accumulator and every entry: the append to the
generators is unconditional, the append to the BFT validators is guarded by weight > 0. -/
theorem C03_convert_gen_loop_is_step (acc : Acc) (v : AppValidator) :
    genStep Gen.Conv.loop acc v = some (step acc v) := by
  have hr := C03_convert_gen_loop_shape.2.2.2.2.1
  have he := C03_convert_gen_loop_effects
  unfold genStep
  rw [hr]
  simp only
  by_cases hw : v.weight > 0
  · simp only [hw, decide_true, he.1, Option.map_some, applyEffects, step, if_true]
  · simp only [hw, decide_false, he.2, Option.map_some, applyEffects, step, if_false]

/-- the skipping body (seeded change C03-16) is told apart by the same interpreter -/
theorem C03_convert_gen_skip_body_differs :
    effects "bftValidators" "generators" false
      [ { kind := "continue", guards := ["v.BFTWeight == 0"] },
        { kind := "append", target := "bftValidators", ctor := "NewValidator", args := ["v.Address", "v.BFTWeight", "v.BLSKey"] },
        { kind := "append", target := "generators", ctor := "NewGenerator", args := ["v.Address", "v.GeneratorKey"] } ]
      = some [] := by
  decide +kernel

/-- the constructors keep their arguments (address ← 1st, weight / key ← 2nd, BLS key ← 3rd) and the accessors
return the field of their name -/
theorem C03_convert_gen_constructors :
    Gen.Conv.ctorNewValidator = ("BFTValidator", [("address", "param:0"), ("bftWeight", "param:1"), ("blsKey", "param:2")], []) ∧
    Gen.Conv.ctorNewGenerator = ("Generator", [("address", "param:0"), ("generatorKey", "param:1")], []) ∧
    Gen.Conv.gettersBFTValidator = [("Address", "self.address"), ("BFTWeight", "self.bftWeight"), ("BLSKey", "self.blsKey")] ∧
    Gen.Conv.gettersGenerator = [("Address", "self.address"), ("GeneratorKey", "self.generatorKey")] := by
  decide +kernel

/-- `Generators.AtTimestamp` is one index expression: the receiver at `GetSlotNumber(timestamp) % len(receiver)` -/
theorem C03_convert_gen_at_timestamp :
    Gen.Conv.atTimestamp = (["self[(slot.GetSlotNumber(timestamp)) % len(self)]"], []) := by
  decide +kernel

/-- **Every call site hands result #0 to `SetBFTParameters` (its 4th argument) and result #1 to
`SetGeneratorKeys` (its 2nd argument), and uses the results for nothing else** — block execution, genesis
execution and `Executer.SetBFTParameters`. -/
theorem C03_convert_gen_sites :
    Gen.Conv.sites.map (fun s => (s.file, s.fn)) =
      [("pkg/consensus/abi_caller.go", "stateExecuter.Execute"),
       ("pkg/consensus/abi_caller.go", "genesisStateExecuter.ExecuteGenesis"),
       ("pkg/consensus/execute.go", "Executer.SetBFTParameters")] ∧
    ∀ s ∈ Gen.Conv.sites, s.uses =
      [{ callee := "SetBFTParameters", arg := 3, result := 0 }, { callee := "SetGeneratorKeys", arg := 1, result := 1 }] := by
  decide +kernel

/-! ## non-vacuity -/

example : convert demoList = ([newValidator vA, newValidator vB, newValidator vC],
    [newGenerator vA, newGenerator vB, newGenerator vS, newGenerator vC]) := by decide

example : (List.range 8).map (fun s => (engineOwner demoList s).map (·.address)) =
    [some [0xa], some [0xb], some [0x5], some [0xc], some [0xa], some [0xb], some [0x5], some [0xc]] := by decide

example : (List.range 8).map (fun s => (engineOwnerSkip demoList s).map (·.address)) =
    [some [0xa], some [0xb], some [0xc], some [0xa], some [0xb], some [0xc], some [0xa], some [0xb]] := by decide

example : engineOwner [] 5 = none ∧ slotOwner [] 5 = none := by decide

example : roundTrip demoList = [vA, vB, { vS with blsKey := [] }, vC] := by decide

example : ((convert demoList).1.map (·.weight)).sum = 3 := by decide

example : genStep Gen.Conv.loop ([], []) vS = some ([], [newGenerator vS]) := by decide +kernel

example : (applyApp (BFT.initGenesis 4 0) 3 3 demoList).isSome = true := by decide
