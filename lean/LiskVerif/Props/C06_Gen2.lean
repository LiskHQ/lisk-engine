/-
C06 — second tie of `Model/Cert.lean` to the Go source (the first is Props/C06_Gen.lean): the
integer helpers of the certificate pool and of the single-commit handling are REGENERATED from the Go
source on every run by tools/fngen (typed translation, `LiskVerif/Gen/Fns2.lean`) with the exact
semantics of `uint32` (wrap modulo 2^32) and `int`:

* `CommitRangeStored`, `GetMinStoredHeight` (pkg/consensus/certificate/certificate.go);
* `Pool.Select`: `max := 0; if maxHeightPrecommited > CommitRangeStored { max = … - … }` (pool.go);
* `validAggregationBitsLength` (pkg/crypto/bls.go): `len(aggregationBits) == (len(keysList)+7)/8`;
* `Bits.read` / `Bits.write` (pkg/crypto/bls.go): the bit index `i % 8`, the bit test
  `(b[byteIndex]>>bitIndex)%2 == 1` and the mask `1 << bitIndex`;
* `Executer.singleCommitValidator` (pkg/consensus/certificate.go): the discard conditions 2 and 3;
* the cleanup closure of `Executer.broadcastCertificate`: both conditions and the height `h+1`;
* `Executer.GetAggregateCommit`: `nextHeight = ints.Min(heightNextBFTParams-1, maxHeightPrecommited)`.

The model uses unbounded naturals with truncated subtraction; heights are `uint32` in the code. The
theorems hold for every `uint32` height except where stated (`h + 1` must not wrap).
-/
import LiskVerif.Lemmas.Cert
import LiskVerif.Lemmas.GenInt

open LiskVerif LiskVerif.Cert

/-! ### constants, GetMinStoredHeight, Pool.Select -/

theorem C06_gen2_commit_range_stored : Gen.commitRangeStored = Cert.commitRangeStored := rfl

/-- **`GetMinStoredHeight` = `Cert.minStoredHeight`** (saturating subtraction) for every `uint32` -/
theorem C06_gen2_min_stored_height_eq (m : Nat) (h : m < 4294967296) :
    Gen.getMinStoredHeight m = minStoredHeight m := by
  unfold Gen.getMinStoredHeight minStoredHeight Cert.commitRangeStored
  by_cases h1 : m < 100
  · simp [h1]; omega
  · simp only [h1, decide_false, Bool.false_eq_true, ↓reduceIte]; omega

/-- the regenerated `max` of `Pool.Select` -/
theorem C06_gen2_select_max_eq (m : Nat) (h : m < 4294967296) :
    Gen.poolSelectMax m = if m > Cert.commitRangeStored then m - Cert.commitRangeStored else 0 := by
  unfold Gen.poolSelectMax Cert.commitRangeStored
  by_cases h1 : m > 100
  · simp only [h1, decide_true, ↓reduceIte]; omega
  · simp [h1]

/-- **`Pool.select` with the regenerated `max`** -/
theorem C06_gen2_select_eq (p : Pool) (mhpc limit : Nat) (h : mhpc < 4294967296) :
    p.select mhpc limit =
      (let max := Gen.poolSelectMax mhpc
       let ng := isort heightLe p.nonGossiped
       let r1 := getUntil ng max
       if r1.length ≥ limit then (⟨ng, p.gossiped⟩, r1.take limit)
       else
         let g := isort heightLe p.gossiped
         let r2 := r1 ++ getUntil g max
         if r2.length ≥ limit then (⟨ng, g⟩, r2.take limit)
         else
           let r3 := r2 ++ getLargest ng.reverse (limit - r2.length) true []
           if r3.length ≥ limit then (⟨ng, g⟩, r3.take limit)
           else
             let r4 := r3 ++ getLargest ng.reverse (limit - r3.length) false []
             if r4.length ≥ limit then (⟨ng, g⟩, r4.take limit) else (⟨ng, g⟩, r4)) := by
  rw [C06_gen2_select_max_eq mhpc h]
  rfl

/-! ### validAggregationBitsLength -/

/-- the regenerated length check is `nBytes = byteLen nKeys` (the bound is `2^63 - 8`: `nKeys + 7` does not wrap
in a Go `int`) -/
theorem C06_gen2_valid_bits_length_eq (nBytes nKeys : Nat) (h : nKeys < 9223372036854775800) :
    Gen.validAggregationBitsLength (nBytes : Int) (nKeys : Int) = decide (nBytes = byteLen nKeys) := by
  show decide ((nBytes : Int) = Gen.i64 (Int.tdiv (Gen.i64 ((nKeys + 7 : Nat) : Int)) 8)) = _
  simp only [Gen.i64_byteLen h, Int.natCast_inj]
  rfl

/-- **the length guard of `Cert.verifyWeighted`** (on the bits of a byte string) fails exactly when the
regenerated `validAggregationBitsLength` returns false -/
theorem C06_gen2_verify_weighted_guard (bs : Bytes) (keys : List Nat) (h : keys.length < 9223372036854775800) :
    ((Bits.ofBytes bs).length ≠ 8 * byteLen keys.length) ↔
      Gen.validAggregationBitsLength (bs.length : Int) (keys.length : Int) = false := by
  rw [C06_gen2_valid_bits_length_eq _ _ h, length_ofBytes]
  simp only [decide_eq_false_iff_not, ne_eq]
  omega

/-! ### Bits.read / Bits.write (pkg/crypto/bls.go) -/

/-- the bit index `i % 8` of `Bits.read` and `Bits.write` (the byte index is computed in float64 and
is not translated) -/
theorem C06_gen2_bits_bit_index_eq (i : Nat) :
    Gen.bitsReadBitIndex (i : Int) = ((i % 8 : Nat) : Int) ∧ Gen.bitsWriteBitIndex (i : Int) = ((i % 8 : Nat) : Int) := by
  unfold Gen.bitsReadBitIndex Gen.bitsWriteBitIndex
  rw [Int.tmod_eq_emod_of_nonneg (by omega)]
  omega

/-- **`Bits.read` tests bit `j` of the byte as `Cert.bitsOfByte` lists it** (least significant first) -/
theorem C06_gen2_bits_read_eq (x : UInt8) (j : Nat) (hj : j < 8) :
    Gen.bitsReadBit x.toNat (j : Int) = some ((bitsOfByte x).getD j false) := by
  have h : (bitsOfByte x).getD j false = ((x.toNat / 2 ^ j) % 2 == 1) := by
    unfold bitsOfByte
    rcases j with _ | _ | _ | _ | _ | _ | _ | _ | j
    all_goals first | rfl | omega
  have hn : ¬ ((j : Int) < 0) := by omega
  simp only [h, Gen.bitsReadBit, hn, decide_false, Bool.false_eq_true, ↓reduceIte, Int.toNat_natCast,
    Nat.shiftRight_eq_div_pow, Option.some.injEq]
  rfl

/-- **`Bits.write` sets the bit with the weight `2^j` that `Cert.byteOfBits` gives position `j`** -/
theorem C06_gen2_bits_write_mask_eq (j : Nat) (hj : j < 8) :
    Gen.bitsWriteMask (j : Int) = some (2 ^ j) ∧
    byteOfBits ((List.replicate j false ++ [true]) ++ List.replicate (7 - j) false) = UInt8.ofNat (2 ^ j) := by
  have : ∀ j < 8, Gen.bitsWriteMask ((j : Nat) : Int) = some (2 ^ j) ∧
      byteOfBits ((List.replicate j false ++ [true]) ++ List.replicate (7 - j) false) = UInt8.ofNat (2 ^ j) := by
    decide +kernel
  exact this j hj

/-! ### singleCommitValidator, broadcastCertificate -/

/-- the regenerated discard conditions 2 and 3 of `singleCommitValidator` in terms of the model -/
theorem C06_gen2_scv_conditions_eq (height removal mhpc : Nat) (e : Bool) (hm : mhpc < 4294967296) :
    Gen.scvBelowRemoval height removal = decide (height ≤ removal) ∧
    Gen.scvOutsideRange height mhpc e =
      ((decide (height < minStoredHeight mhpc) || decide (height > mhpc)) && !e) := by
  unfold Gen.scvBelowRemoval Gen.scvOutsideRange
  rw [C06_gen2_min_stored_height_eq mhpc hm]
  exact ⟨rfl, rfl⟩

/-- **`Cert.scvOne` with the regenerated conditions** (steps 2 and 3 of the loop body of
`singleCommitValidator`) -/
theorem C06_gen2_scvOne_eq (st : State) (pool : Pool) (m : Incoming) (hm : st.mhpc < 4294967296) :
    scvOne st pool m =
      if !m.wf then (pool, some .reject)
      else if pool.has m.commit then (pool, none)
      else
        match st.blockAt st.mhpc with
        | none => (pool, some .ignore)
        | some fin =>
          if Gen.scvBelowRemoval m.height fin.acHeight = true then (pool, none)
          else if Gen.scvOutsideRange m.height st.mhpc (existParams st.params (m.height + 1)) = true
          then (pool, none)
          else
            match st.blockAt m.height with
            | none => (pool, some .ignore)
            | some hd =>
              if hd.id ≠ m.block then (pool, none)
              else
                match getParams st.params m.height with
                | none => (pool, some .ignore)
                | some p =>
                  match findValidator p.validators m.signer with
                  | none => (pool, some .reject)
                  | some v =>
                    if !verifySingle v.key (certMsg st hd) m.sig then (pool, some .reject)
                    else (pool.add m.commit, none) := by
  have e1 : ∀ a b, (Gen.scvBelowRemoval a b = true) = (a ≤ b) := by
    intro a b; unfold Gen.scvBelowRemoval; simp
  have e2 : ∀ a e, Gen.scvOutsideRange a st.mhpc e =
      ((decide (a < minStoredHeight st.mhpc) || decide (a > st.mhpc)) && !e) :=
    fun a e => (C06_gen2_scv_conditions_eq a 0 st.mhpc e hm).2
  unfold scvOne
  simp only [e1, e2]
  rfl

/-- **`Cert.cleanupKeep` is the regenerated closure of `broadcastCertificate`**: keep unless the
first or the second regenerated condition holds; the parameters are looked up at the regenerated
height `h+1` (no wrap for `h < 2^32 - 1`) -/
theorem C06_gen2_cleanup_keep_eq (st : State) (removal h : Nat) (hm : st.mhpc < 4294967296)
    (hh : h + 1 < 4294967296) :
    cleanupKeep st removal h =
      (!(Gen.cleanupBelowRemoval h removal) &&
       !(Gen.cleanupOutsideRange h st.mhpc (existParams st.params (Gen.cleanupParamsHeight h)))) := by
  unfold cleanupKeep Gen.cleanupBelowRemoval Gen.cleanupOutsideRange Gen.cleanupParamsHeight
  rw [C06_gen2_min_stored_height_eq st.mhpc hm, Nat.mod_eq_of_lt hh]
  by_cases h1 : h ≤ removal
  · simp [h1]
  · simp only [h1, ↓reduceIte, decide_false, Bool.not_false, Bool.true_and]
    cases hc : (!(decide (h ≥ minStoredHeight st.mhpc) && decide (h ≤ st.mhpc)) &&
        !existParams st.params (h + 1)) <;> simp

/-- at `h = 2^32 - 1` the Go closure asks for the parameters of height 0 (`h+1` wraps), the model for
height 2^32; block heights that large are not reachable -/
theorem C06_gen2_cleanup_height_wraps : Gen.cleanupParamsHeight 4294967295 = 0 := by decide +kernel

/-! ### GetAggregateCommit -/

/-- **`Cert.gacStart` with the regenerated `ints.Min(heightNextBFTParams-1, maxHeightPrecommited)`**,
for `uint32` heights (`heightNextBFTParams ≥ 1` because it is above `maxHeightCertified`) -/
theorem C06_gen2_gac_start_eq (st : State)
    (hu : ∀ nh, nextHeightParams st.params (st.mhc + 1) = some nh → nh < 4294967296) :
    gacStart st =
      match nextHeightParams st.params (st.mhc + 1) with
      | some nh => Gen.gacNextHeight nh st.mhpc
      | none => st.mhpc := by
  unfold gacStart
  cases hn : nextHeightParams st.params (st.mhc + 1) with
  | none => rfl
  | some nh =>
    have h1 := (nextHeightParams_some hn).1
    have h2 := hu nh hn
    unfold Gen.gacNextHeight
    have : (nh + 4294967296 - 1) % 4294967296 = nh - 1 := by omega
    simp only [this]

/-! ### non-vacuity -/

example : Gen.getMinStoredHeight 99 = 0 ∧ Gen.getMinStoredHeight 100 = 0 ∧ Gen.getMinStoredHeight 250 = 150 ∧
    Gen.poolSelectMax 100 = 0 ∧ Gen.poolSelectMax 101 = 1 ∧
    Gen.validAggregationBitsLength 2 9 = true ∧ Gen.validAggregationBitsLength 1 9 = false ∧
    Gen.validAggregationBitsLength 1 8 = true ∧ Gen.validAggregationBitsLength 0 0 = true ∧
    Gen.scvBelowRemoval 5 5 = true ∧ Gen.scvOutsideRange 49 150 false = true ∧ Gen.scvOutsideRange 50 150 false = false ∧
    Gen.scvOutsideRange 151 150 false = true ∧ Gen.scvOutsideRange 151 150 true = false ∧
    Gen.cleanupOutsideRange 49 150 false = true ∧ Gen.cleanupOutsideRange 50 150 false = false ∧
    Gen.gacNextHeight 20 15 = 15 ∧ Gen.gacNextHeight 20 30 = 19 ∧
    Gen.bitsReadBit 5 0 = some true ∧ Gen.bitsReadBit 5 1 = some false ∧ Gen.bitsReadBit 5 (-1) = none ∧
    Gen.bitsWriteMask 3 = some 8 ∧ Gen.bitsReadBitIndex 11 = 3 := by decide +kernel
