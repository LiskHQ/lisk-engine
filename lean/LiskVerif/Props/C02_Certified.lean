/-
C02 — `maxHeightCertified` is a function of the header chain too.

C02 reads "BFT heights are a function of the header chain": besides `maxHeightPrevoted` /
`maxHeightPrecommitted` (vote counting, `Props/C02_Inv.lean`) the third height the module keeps,
`maxHeightCertified`, is determined by the aggregate-commit fields of the headers alone — also by those of
headers that imply no votes (generators without BFT weight, `maxHeightGenerated ≥ height`).  The theorems
are those of `Props/C06_Certified.lean` (where they are combined with the certificate model), restated here
as obligations of C02, whose chain families (`bftsim.GenNonVoting`, oracle `c02-certified-height-not-of-chain`)
exercise them on the real module.
-/
import LiskVerif.Props.C06_Certified

open LiskVerif

/-- after every chain of events accepted by the model, `maxHeightCertified` is the height of the newest
non-empty aggregate commit of the chain (the initial value when there is none), whatever generators
produced the headers -/
theorem C02_certified_of_chain (s : BFT.State) (evs : List C02Ev) (hacc : C06accepted s evs) :
    (C02run s evs).mhc = C06certified s.mhc evs :=
  C06_certified_of_chain s evs hacc

/-- two accepted chains with the same aggregate-commit fields end with the same `maxHeightCertified`,
whether the carrying headers imply votes or not -/
theorem C02_certified_independent_of_votes (s₁ s₂ : BFT.State) (evs₁ evs₂ : List C02Ev)
    (h0 : s₁.mhc = s₂.mhc) (hc : evs₁.map C06commitOf = evs₂.map C06commitOf)
    (a₁ : C06accepted s₁ evs₁) (a₂ : C06accepted s₂ evs₂) :
    (C02run s₁ evs₁).mhc = (C02run s₂ evs₂).mhc :=
  C06_certified_independent_of_votes s₁ s₂ evs₁ evs₂ h0 hc a₁ a₂

/-- one header of ANY kind: the certified height after it is its aggregate-commit height, or the old value
for the empty commit; the parameters and generator keys are pruned with the NEW value in the same step -/
theorem C02_certified_step (s s' : BFT.State) (h : BFT.Header) (hp : BFT.process s h = .ok s') :
    s'.mhc = h.commitHeight.getD s.mhc ∧
    s'.params = BFT.prune s.params (min ((s'.infos.getLast?.map (·.height)).getD 0) (s'.mhc + 1)) ∧
    s'.keys = BFT.prune s.keys (min ((s'.infos.getLast?.map (·.height)).getD 0) (s'.mhc + 1)) := by
  obtain ⟨_, F⟩ := BFT.process_facts hp
  exact ⟨F.mhc, F.params, F.keys⟩

/-- non-vacuity: the standby header of the example of `Props/C06_Certified.lean` -/
example : ∃ s', BFT.process (C02run C06cxBFT C06cxChain) C06cxStandbyHdr = .ok s' ∧ s'.mhc = 5 := by
  obtain ⟨s', hstep, hm⟩ := C06_certified_example.2.2.2.2.2.2.2 C06cxStandbyHdr (by simp)
  exact ⟨s', hstep.2.2.2, hm⟩
