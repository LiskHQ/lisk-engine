/-
C10 — `smt.Verify` as a function of the VALUES of its arguments (class "verification entry points must not consume
their inputs"; catches a `Verify` that completes the caller's queries in place and lets `CalculateRoot` rewrite their
exported Bitmap fields, so that a second `Verify` of the same proof, of `Proof.Copy()` or of its re-encoding fails:
demonstrated by seeded change C10-11).

What the model can and cannot say
* The transcription `SMTVerify.verify` is a Lean function: it has no access to the memory of its caller, so
  "does not mutate its arguments" holds BY CONSTRUCTION and is not a theorem.  That clause is checked on the real
  code by the model-free oracle `corr.PureCall` (harness/corr/pure.go, harness/c10/pure.go:
  `c10-verify-mutates-argument`, `c10-verify-not-idempotent`, `c10-verify-copy-differs:*`).
* `C10_verify_deterministic_on_reuse` : the statement callers rely on — verifying the same (keys, proof, root,
  key length) any number of times, interleaved with verifications of other proofs, gives the same verdict.  For
  the model this is TRIVIAL (the answers are a `List.map` of a function); it is stated so that the run-time tie
  has something to refer to: the driver op `reverify <n> same|copy|wire` recomputes the verdict from the recorded
  arguments and the Go runner verifies the very same objects again.
* `C10_verify_refinement_reuse` : any implementation with hidden state (scratch fields, caches) whose every
  single call returns the model's verdict — in whatever state — answers every request sequence as the model does;
  so per-call correspondence in ALL reachable states (what `reverify` adds) is the right thing to check.
* `C10_verify_copy_equiv` (non-trivial) : the verdict depends only on the ENCODED BYTES of the proof: the proof a
  receiver obtains by `Decode` of `proof.Encode()` is the proof itself (`wireClone nfc p = some p`), hence has the
  same verdict.  Uses the C08 round trip for nested messages (`C08_roundtrip_all_schemas`) on the REGENERATED
  schema table: `C10_smtProof_schema`, `C10_smtQueryProof_schema` state what the generated structs are, smt.Proof =
  (siblingHashes [][]byte, queries []*QueryProof) and smt.QueryProof = (key, value, bitmap []byte) — a codec file
  that drops or reorders a field breaks these by kernel evaluation.
* `C10_verify_depends_on_encoding_only` : two proofs with the same encoding are equal, hence verify alike.
* `C10_verify_relay_stable` : for a proof RECEIVED from the wire (any accepted byte string), re-encoding and
  decoding it again returns the same proof: relaying a verified proof hands on a proof with the same verdict
  (`C08_decode_reencode_stable`; smt.Proof has no nested pointer, `C10_smtProof_nilFree`).
-/
import LiskVerif.Model.SMTWire
import LiskVerif.Props.C08_Nested

open LiskVerif LiskVerif.Codec LiskVerif.Gen LiskVerif.SMT LiskVerif.SMTVerify LiskVerif.SMTWire

/-! ### reuse -/

/-- one verification request -/
structure C10Request where
  keys : List Bytes
  proof : Proof
  root : Bytes
  keyLen : Nat

/-- the verdicts of a sequence of requests -/
def C10answers (H : HashFn) (reqs : List C10Request) : List Verdict :=
  reqs.map fun r => verify H r.keys r.proof r.root r.keyLen

/-- **The verdict for a request does not depend on what was verified before or how often**: in any sequence
of requests, two positions holding the same request get the same verdict.  (Trivial for the model — `verify`
is a function; the content is in the tie: Go `Verify` must agree with it on objects that were verified
before.) -/
theorem C10_verify_deterministic_on_reuse (H : HashFn) (reqs : List C10Request) (i j : Nat)
    (h : reqs[i]? = reqs[j]?) : (C10answers H reqs)[i]? = (C10answers H reqs)[j]? := by
  simp only [C10answers, List.getElem?_map, h]

/-- … in particular `n` verifications of one request, with arbitrary other requests in between, all agree
with the first one -/
theorem C10_verify_repeat (H : HashFn) (r : C10Request) (others : List C10Request) (n : Nat) :
    ∀ v ∈ C10answers H ((List.replicate n (others ++ [r])).flatten),
      v ∈ C10answers H others ∨ v = verify H r.keys r.proof r.root r.keyLen := by
  intro v hv
  simp only [C10answers, List.mem_map, List.mem_flatten, List.mem_replicate] at hv
  obtain ⟨q, ⟨l, ⟨_, rfl⟩, hq⟩, rfl⟩ := hv
  rcases List.mem_append.mp hq with hq | hq
  · exact Or.inl (List.mem_map.mpr ⟨q, hq, rfl⟩)
  · simp only [List.mem_singleton] at hq
    subst hq
    exact Or.inr rfl

/-- an implementation of Verify with hidden state `σ`, run over a sequence of requests -/
def C10runImpl {σ : Type} (impl : σ → C10Request → σ × Verdict) : σ → List C10Request → List Verdict
  | _, [] => []
  | s, r :: rs => (impl s r).2 :: C10runImpl impl (impl s r).1 rs

/-- **Per-call agreement in every state gives agreement on every sequence.** -/
theorem C10_verify_refinement_reuse {σ : Type} (H : HashFn) (impl : σ → C10Request → σ × Verdict)
    (href : ∀ s r, (impl s r).2 = verify H r.keys r.proof r.root r.keyLen) (s : σ)
    (reqs : List C10Request) : C10runImpl impl s reqs = C10answers H reqs := by
  induction reqs generalizing s with
  | nil => rfl
  | cons r rs ih =>
    simp only [C10runImpl, C10answers, List.map_cons, href]
    exact congrArg _ (ih _)

/-- the seeded defect as an implementation with state: a verifier that remembers the proofs it has consumed
and rejects them afterwards.  It agrees with the model on every FIRST use, and is refuted by one reuse. -/
def C10consumingImpl (H : HashFn) (used : List (List Query)) (r : C10Request) : List (List Query) × Verdict :=
  if used.contains r.proof.queries then (used, .ok false)
  else (r.proof.queries :: used, verify H r.keys r.proof r.root r.keyLen)

/-! ### the generated structs -/

/-- field list of `smt.Proof`: siblingHashes ([][]byte), queries ([]*QueryProof) -/
def C10proofFields : List Field := [⟨1, .bytesArr, false⟩, ⟨2, .msgArr "smt.QueryProof", false⟩]

/-- field list of `smt.QueryProof`: key, value, bitmap ([]byte) -/
def C10queryFields (st : Bool) : List Field := [⟨1, .bytes, st⟩, ⟨2, .bytes, st⟩, ⟨3, .bytes, st⟩]

/-- the two generated structs of a proof, looked up in the regenerated table (one evaluation: both lookups walk
the same table) -/
theorem C10_smt_schemas :
    (allSchemas.find "smt.Proof").map (fun s => (s.enc, s.dec, s.decStrict)) =
      some (C10proofFields, C10proofFields, C10proofFields) ∧
    (allSchemas.find "smt.QueryProof").map (fun s => (s.enc, s.dec, s.decStrict)) =
      some (C10queryFields false, C10queryFields false, C10queryFields true) := by
  decide +kernel

theorem C10_smtProof_schema :
    (allSchemas.find "smt.Proof").map (fun s => (s.enc, s.dec, s.decStrict)) =
      some (C10proofFields, C10proofFields, C10proofFields) := C10_smt_schemas.1

theorem C10_smtQueryProof_schema :
    (allSchemas.find "smt.QueryProof").map (fun s => (s.enc, s.dec, s.decStrict)) =
      some (C10queryFields false, C10queryFields false, C10queryFields true) := C10_smt_schemas.2

private theorem C10find {name : String} {e d st : List Field}
    (h : (allSchemas.find name).map (fun s => (s.enc, s.dec, s.decStrict)) = some (e, d, st)) :
    ∃ s, allSchemas.find name = some s ∧ s.enc = e ∧ s.dec = d ∧ s.decStrict = st := by
  cases hf : allSchemas.find name with
  | none => rw [hf] at h; simp at h
  | some s =>
    rw [hf] at h
    simp only [Option.map_some, Option.some.injEq, Prod.mk.injEq] at h
    exact ⟨s, rfl, h⟩

/-- no decode of smt.Proof can return a nil pointer (there is no nested pointer field): in any table that holds
this `smt.QueryProof` -/
theorem C10_nilFree_of_queryProof {t : Table} {sq : Schema} (hfq : t.find "smt.QueryProof" = some sq)
    (hdq : sq.dec = C10queryFields false) : C08NilFree t 1 C10proofFields = true := by
  simp [C08NilFree, nilFree, nilFreeField, C10proofFields, hfq, hdq, C10queryFields, flatKind]

theorem C10_smtProof_nilFree : C08NilFree allSchemas 1 C10proofFields = true := by
  obtain ⟨sq, hfq, _, hdq, _⟩ := C10find C10_smtQueryProof_schema
  exact C10_nilFree_of_queryProof hfq hdq

/-! ### value trees of proofs -/

/-- every byte string of the proof is shorter than 2^63 (Go slices always are) -/
def C10ProofSized (p : Proof) : Prop :=
  (∀ s ∈ p.siblings, s.length < 2 ^ 63) ∧
  ∀ q ∈ p.queries, q.key.length < 2 ^ 63 ∧ q.value.length < 2 ^ 63 ∧ q.bitmap.length < 2 ^ 63

private theorem valsQueries_map (qs : List Query) : valsQueries (qs.map queryVals) = some qs := by
  induction qs with
  | nil => rfl
  | cons q qs ih => simp only [List.map_cons, valsQueries, queryVals, valsQuery, ih]

/-- reading the value tree of a proof gives the proof back -/
theorem C10_valsProof_proofVals (p : Proof) : valsProof (proofVals p) = some p := by
  simp only [proofVals, valsProof, valsQueries_map]

private theorem valsQuery_inv {v : List Value} {q : Query} (h : valsQuery v = some q) : v = queryVals q := by
  unfold valsQuery at h
  split at h
  · injection h with h; subst h; rfl
  · exact absurd h (by simp)

private theorem valsQueries_inv : ∀ {l : List (List Value)} {qs : List Query},
    valsQueries l = some qs → l = qs.map queryVals := by
  intro l
  induction l with
  | nil => intro qs h; simp only [valsQueries, Option.some.injEq] at h; subst h; rfl
  | cons v vs ih =>
    intro qs h
    simp only [valsQueries] at h
    split at h
    · rename_i q qs' hq hqs
      injection h with h
      subst h
      simp only [List.map_cons, valsQuery_inv hq, ih hqs]
    · exact absurd h (by simp)

/-- … and only the value tree of `p` reads as `p` -/
theorem C10_valsProof_inv {vals : List Value} {p : Proof} (h : valsProof vals = some p) :
    vals = proofVals p := by
  unfold valsProof at h
  split at h
  · rename_i s l
    split at h
    · rename_i qs hqs
      injection h with h
      subst h
      simp only [proofVals, valsQueries_inv hqs]
    · exact absurd h (by simp)
  · exact absurd h (by simp)

/-- the value tree of a sized proof is well-typed for the generated struct: in any table that holds this
`smt.QueryProof` -/
theorem C10_proofVals_typed {t : Table} {sq : Schema} (hfq : t.find "smt.QueryProof" = some sq)
    (heq : sq.enc = C10queryFields false) (nfc : NFC) (p : Proof) (hp : C10ProofSized p) :
    C08TypedDeep t nfc 1 C10proofFields (proofVals p) = true := by
  simp only [C08TypedDeep, C10proofFields, proofVals, typedWith, typedValDeep, typedVal, hfq, heq,
    Bool.and_true, Bool.and_eq_true, List.all_eq_true, decide_eq_true_eq, List.mem_map,
    forall_exists_index, and_imp, forall_apply_eq_imp_iff₂]
  refine ⟨hp.1, ?_⟩
  intro q hq
  obtain ⟨h1, h2, h3⟩ := hp.2 q hq
  simp only [queryVals, C10queryFields, typedWith, h1, h2, h3, decide_true, Bool.and_self]

/-! ### the verdict depends on the encoded bytes only

`Encode` and `Decode` look the generated struct of `smt.Proof` up in the table. Unfolding any of them (or `wireClone`) makes the kernel
evaluate that lookup, so all three are unfolded in ONE lemma, and the struct enters everything else as a hypothesis
`proofSchema = some s`. -/

private theorem proofCodec_eq (nfc : NFC) :
    (∀ p, encodeProof nfc p = proofSchema.map fun s => encode allSchemas nfc s (proofVals p)) ∧
    (∀ b, decodeProof nfc b = proofSchema.bind fun s =>
      match decode allSchemas nfc s b with
      | .ok vals => valsProof vals
      | .error _ => none) ∧
    (∀ p, wireClone nfc p = (encodeProof nfc p).bind (decodeProof nfc)) := by
  unfold wireClone encodeProof decodeProof
  cases proofSchema <;> exact ⟨fun _ => rfl, fun _ => rfl, fun _ => rfl⟩

private theorem encodeProof_eq {s : Schema} (hfs : proofSchema = some s) (nfc : NFC) (p : Proof) :
    encodeProof nfc p = some (encode allSchemas nfc s (proofVals p)) := by
  rw [(proofCodec_eq nfc).1, hfs]; rfl

/-- a proof whose encoding decodes to its value tree is its own wire clone -/
private theorem wireClone_of_roundtrip {s : Schema} (hfs : proofSchema = some s) {nfc : NFC} {p : Proof}
    (hrt : decode allSchemas nfc s (encode allSchemas nfc s (proofVals p)) = .ok (proofVals p)) :
    wireClone nfc p = some p := by
  rw [(proofCodec_eq nfc).2.2, encodeProof_eq hfs, Option.bind_some, (proofCodec_eq nfc).2.1, hfs]
  simp only [Option.bind_some, hrt, C10_valsProof_proofVals]

private theorem C10_proofSchema : ∃ s, proofSchema = some s ∧ s ∈ allSchemas ∧ s.enc = C10proofFields ∧
    s.dec = C10proofFields := by
  obtain ⟨s, hfs, hes, hds, _⟩ := C10find C10_smtProof_schema
  exact ⟨s, hfs, find_mem hfs, hes, hds⟩

/-- **Encode / Decode returns the proof**: for every sized proof whose encoding is shorter than 2^63 bytes,
`new(Proof).Decode(proof.Encode())` is the proof itself. -/
theorem C10_wireClone_id (nfc : NFC) (p : Proof) (hp : C10ProofSized p)
    (hlen : ∀ b, encodeProof nfc p = some b → b.length < 2 ^ 63) : wireClone nfc p = some p := by
  obtain ⟨s, hfs, hmem, hes, _⟩ := C10_proofSchema
  obtain ⟨sq, hfq, heq, _, _⟩ := C10find C10_smtQueryProof_schema
  exact wireClone_of_roundtrip hfs (C08_roundtrip_all_schemas nfc s hmem 1 (proofVals p)
    (by rw [hes]; exact C10_proofVals_typed hfq heq nfc p hp) (hlen _ (encodeProof_eq hfs nfc p))).1

/-- a proof that is its own wire clone has the verdict of its wire clone -/
private theorem verify_of_clone {nfc : NFC} {p : Proof} (h : wireClone nfc p = some p) (H : HashFn)
    (keys : List Bytes) (rt : Bytes) (keyLen : Nat) :
    wireClone nfc p = some p ∧
    ∀ p', wireClone nfc p = some p' → verify H keys p' rt keyLen = verify H keys p rt keyLen :=
  ⟨h, fun p' hp' => by cases h.symm.trans hp'; rfl⟩

/-- **The verdict of a proof is the verdict of its re-encoding** (`Verify` of `decode (encode proof)`, as
checked on the real code by `c10-verify-copy-differs:decode(encode(proof))-*` and by `reverify <n> wire`).  The content
is the first conjunct, `wireClone nfc p = some p`; the second follows from it at once. -/
theorem C10_verify_copy_equiv (H : HashFn) (nfc : NFC) (keys : List Bytes) (p : Proof) (rt : Bytes)
    (keyLen : Nat) (hp : C10ProofSized p)
    (hlen : ∀ b, encodeProof nfc p = some b → b.length < 2 ^ 63) :
    wireClone nfc p = some p ∧
    ∀ p', wireClone nfc p = some p' → verify H keys p' rt keyLen = verify H keys p rt keyLen :=
  verify_of_clone (C10_wireClone_id nfc p hp hlen) H keys rt keyLen

/-- **Equal encodings, equal verdicts**: `Encode` is injective on proofs, so nothing but the encoded bytes
enters the verdict. -/
theorem C10_verify_depends_on_encoding_only (H : HashFn) (nfc : NFC) (keys : List Bytes)
    (p₁ p₂ : Proof) (rt : Bytes) (keyLen : Nat) (h₁ : C10ProofSized p₁) (h₂ : C10ProofSized p₂)
    (hlen : ∀ b, encodeProof nfc p₁ = some b → b.length < 2 ^ 63)
    (he : encodeProof nfc p₁ = encodeProof nfc p₂) :
    p₁ = p₂ ∧ verify H keys p₁ rt keyLen = verify H keys p₂ rt keyLen := by
  have c1 := C10_wireClone_id nfc p₁ h₁ hlen
  have c2 := C10_wireClone_id nfc p₂ h₂ (by rw [← he]; exact hlen)
  rw [(proofCodec_eq nfc).2.2] at c1 c2
  rw [he, c2] at c1
  cases c1
  exact ⟨rfl, rfl⟩

/-- **Relaying a received proof**: whatever bytes `b` a node accepted as a proof `p`, the bytes it sends on
(`p.Encode()`) decode to `p` again at the next node — same proof, same verdict (the statement about verdicts follows
at once from the one about `wireClone`). -/
theorem C10_verify_relay_stable (H : HashFn) (nfc : NFC) (hlaw : C08NFCLaw nfc) (b : Bytes)
    (hb : b.length < 2 ^ 63) (p : Proof) (hd : decodeProof nfc b = some p)
    (hlen : ∀ b', encodeProof nfc p = some b' → b'.length < 2 ^ 63) (keys : List Bytes) (rt : Bytes)
    (keyLen : Nat) :
    wireClone nfc p = some p ∧
    ∀ p', wireClone nfc p = some p' → verify H keys p' rt keyLen = verify H keys p rt keyLen := by
  obtain ⟨s, hfs, hmem, _, hds⟩ := C10_proofSchema
  refine verify_of_clone ?_ H keys rt keyLen
  rw [(proofCodec_eq nfc).2.1, hfs, Option.bind_some] at hd
  split at hd
  · next vals hvals =>
    cases C10_valsProof_inv hd
    exact wireClone_of_roundtrip hfs (C08_decode_reencode_stable allSchemas C09rank nfc C08_allSchemas_deepWF hlaw s
      hmem 1 (by rw [hds]; exact C10_smtProof_nilFree) b hb (proofVals p) hvals
      (hlen _ (encodeProof_eq hfs nfc p))).1
  · exact absurd hd (by simp)

/-! ### non-vacuity -/

/-- a small proof: one sibling hash, an inclusion claim and an exclusion claim -/
def C10exampleWireProof : Proof :=
  ⟨[[0xaa, 0xbb]], [⟨[0x10], [7, 7], [0x03]⟩, ⟨[0x80], [], []⟩]⟩

/-- it is sized, its encoding is these 25 bytes (computed through the regenerated table), and the receiver
decodes exactly it -/
example :
    C10ProofSized C10exampleWireProof ∧
    encodeProof asciiNFC C10exampleWireProof =
      some [10, 2, 0xaa, 0xbb, 18, 10, 10, 1, 0x10, 18, 2, 7, 7, 26, 1, 3, 18, 7, 10, 1, 0x80, 18, 0, 26, 0] ∧
    wireClone asciiNFC C10exampleWireProof = some C10exampleWireProof := by
  have hs : C10ProofSized C10exampleWireProof := by
    refine ⟨?_, ?_⟩
    · intro s hs
      simp only [C10exampleWireProof, List.mem_singleton] at hs
      subst hs; decide
    · intro q hq
      simp only [C10exampleWireProof, List.mem_cons, List.not_mem_nil, or_false] at hq
      rcases hq with rfl | rfl <;> decide
  have he : encodeProof asciiNFC C10exampleWireProof =
      some [10, 2, 0xaa, 0xbb, 18, 10, 10, 1, 0x10, 18, 2, 7, 7, 26, 1, 3, 18, 7, 10, 1, 0x80, 18, 0, 26, 0] := by
    obtain ⟨s, hfs, _, hes, _⟩ := C10_proofSchema
    obtain ⟨sq, hfq, heq, _, _⟩ := C10find C10_smtQueryProof_schema
    rw [encodeProof_eq hfs]
    generalize allSchemas = t at hfq ⊢
    simp [encode, hes, hfq, heq, C10proofFields, C10queryFields, proofVals, queryVals, C10exampleWireProof,
      encodeFields, writeKey, writeBytes, putUvarint_lt]
  refine ⟨hs, he, ?_⟩
  exact C10_wireClone_id asciiNFC _ hs (by
    intro b hb
    rw [he] at hb
    injection hb with hb
    subst hb
    decide)

/-- reuse: the same request at positions 0 and 2 of a sequence gets the same verdict -/
example (H : HashFn) (r other : C10Request) :
    (C10answers H [r, other, r])[0]? = (C10answers H [r, other, r])[2]? :=
  C10_verify_deterministic_on_reuse H [r, other, r] 0 2 rfl

/-- the consuming verifier agrees with the model on the first use of a proof and is refuted by the second:
whenever the model accepts `r`, running `[r, r]` differs from the model's answers — so the hypothesis of
`C10_verify_refinement_reuse` (agreement in EVERY state) is not implied by agreement on fresh proofs -/
example (H : HashFn) (r : C10Request) (hok : verify H r.keys r.proof r.root r.keyLen = .ok true) :
    (C10consumingImpl H [] r).2 = verify H r.keys r.proof r.root r.keyLen ∧
    C10runImpl (C10consumingImpl H) [] [r, r] ≠ C10answers H [r, r] := by
  refine ⟨by simp [C10consumingImpl], ?_⟩
  intro h
  simp [C10runImpl, C10consumingImpl, C10answers, hok] at h
