/-
  C13 — Block commit and removal are crash-atomic.

  Tie A: `LiskVerif.Gen.WS` (Gen/WriteSkeletons.lean) is regenerated by tools/wskelgen from
  pkg/blockchain, pkg/consensus and pkg/db/diffdb on every check run; the per-function theorems
  below are re-decided on the regenerated skeletons (a second Write, a direct `database.Set`, a cache
  update before the Write, a batch that is filled but not the one written, an unknown construct
  touching the batch … make them fail).

  Generic part (proved once, for every skeleton): `singleWrite s` ⇒ every path of `s`, run on the
  database-history machine, leaves at every crash point the old history or the old history plus
  ONE batch with every operation staged in the step.

  Restart consistency (model level): on the abstract node database a crash anywhere in a block commit, a block removal
  or the genesis step leaves a database on which `PrepareCache` finds a tip the consensus store is at
  (`C13_recover_consistent`, `C13_genesis_consistent`). Counterexamples: what the criterion rejects (two writes, a
  direct write, cache before write, a lost batch, a forgotten write) and that two writes really are not atomic.

  Trusted: one `pebble.Apply(batch, Sync)` is atomic and durable (modelled by the `write` event
  appending the whole batch to the history), the translator, and that the block path reaches the
  database only through the scanned functions (checked dynamically by the harness: one WAL record
  per step, crash enumeration).
-/
import LiskVerif.Lemmas.CrashMore
import LiskVerif.Lemmas.Tables
import LiskVerif.Gen.WriteSkeletons

open LiskVerif LiskVerif.Crash

namespace LiskVerif.C13

/-- skeleton of a function with every callee of the generated table inlined. The longest call chain below an
    engine step in Gen/WriteSkeletons.lean has two calls (`processValidated` → `AddBlock` → `saveBlock`, → `Database.Commit` → `cacheDB.commit`);
    the depth 4 need not be right: a call that is left over is rejected by the criterion, so a deeper chain fails the
    obligation instead of passing unexamined -/
def step (s : Stmt) : Stmt := inlineN Gen.WS.fns 4 s

/-- the machine at the start of a step: some history, no batch in memory -/
def start {κ ν : Type} (h : List (List (Op κ ν))) : Mach κ ν := ⟨h, []⟩

/-- hypothetical engine that writes the block first and the consensus store in a second batch -/
def twoWrite : Stmt := Stmt.seqs [
  .act (.newBatch "blk"), .act (.batchSet "blk"), .act (.batchSet "blk"), .act (.write "blk"),
  .act (.newBatch "state"), .act (.batchSet "state"), .act (.batchSet "state"), .act (.write "state"),
  .act .cacheUpdate, .ret]

def twoWriteRun : List (Ev Key Val) := [
  .newBatch "blk", .batchOp "blk" (.set (.header 7) (.hdr 1)), .batchOp "blk" (.set (.index 1) (.id 7)), .write "blk",
  .newBatch "state", .batchOp "state" (.set .bftTip (.num 1)), .batchOp "state" (.set (.diff 1) .blob), .write "state",
  .other .cacheUpdate]

/-- a block step that writes the finalized height directly (outside the batch) -/
def directFin : Stmt := Stmt.seqs [
  .act (.newBatch "batch"), .act (.batchSet "batch"), .act .directSet, .act (.write "batch"), .ret]

/-- cache updated before the write -/
def cacheFirst : Stmt := Stmt.seqs [
  .act (.newBatch "batch"), .act (.batchSet "batch"), .act .cacheUpdate, .act (.write "batch"), .ret]

/-- a second batch is filled but never written -/
def lostBatch : Stmt := Stmt.seqs [
  .act (.newBatch "batch"), .act (.batchSet "batch"), .act (.newBatch "other"), .act (.batchSet "other"),
  .act (.write "batch"), .ret]

/-- a success path that forgets the write -/
def forgotWrite : Stmt := Stmt.seqs [
  .act (.newBatch "batch"), .act (.batchSet "batch"), .choice (.act (.write "batch")) .skip, .ret]

end LiskVerif.C13

open LiskVerif.C13

/-! ## Generic theorems -/

/-- **C13 atomicity (whole step).** For any skeleton satisfying `singleWrite`, any path through it
    with any payloads, started from any durable history: at EVERY crash point (prefix of the run)
    the durable history is the pre-state or the pre-state plus one batch containing every
    operation staged anywhere in the step; a path that does not end in an error return ends in
    that post-state (or staged nothing at all). -/
theorem C13_atomic {κ ν : Type} (s : Stmt) (hs : singleWrite s = true)
    (evs : List (Ev κ ν)) (o : Out) (hex : Exec s (evs.map Ev.abs) o) (h0 : List (List (Op κ ν))) :
    (∀ p, p <+: evs →
      ((start h0).run p).hist = h0 ∨ ((start h0).run p).hist = h0 ++ [stagedOps evs]) ∧
    (o ≠ .err → ((start h0).run evs).hist = h0 ++ [stagedOps evs] ∨
      (stagedOps evs = [] ∧ ((start h0).run evs).hist = h0)) := by
  obtain ⟨st', hacc, hend⟩ := accept_of_singleWriteFrom hs hex
  refine ⟨fun p hp => (atomic_of_accept evs none st' hacc (start h0) nofun p hp).imp_right (·.1), fun ho => ?_⟩
  have hfin := final_of_accept evs none st' hacc (start h0) nofun
  cases hw : st'.written with
  | true => exact Or.inl (hfin.1 hw)
  | false =>
    right
    have hst : st'.staged = false := by
      cases o with
      | err => exact absurd rfl ho
      | _ => simpa only [endOk, hw, Bool.false_or, Bool.not_eq_true'] using hend
    exact ⟨(no_ops_of_unstaged evs _ st' hacc hst).1, hfin.2 hw⟩

/-- the same for a step that receives its (still empty) batch `b` from the caller
    (Chain.AddBlock / Chain.RemoveBlock taken on their own) -/
theorem C13_atomic_with {κ ν : Type} (b : String) (s : Stmt) (hs : singleWriteWith b s = true)
    (evs : List (Ev κ ν)) (o : Out) (hex : Exec s (evs.map Ev.abs) o) (m0 : Mach κ ν)
    (hb : m0.pendOf b = []) :
    ∀ p, p <+: evs → (m0.run p).hist = m0.hist ∨ (m0.run p).hist = m0.hist ++ [stagedOps evs] := by
  obtain ⟨st', hacc, _⟩ := accept_of_singleWriteFrom hs hex
  exact fun p hp => (atomic_of_accept evs (some b) st' hacc m0 (fun b' h => by cases h; exact hb) p hp).imp_right (·.1)

/-- database content version: every crash point shows the pre-state database or the post-state
    database (pre-state with the whole batch applied) -/
theorem C13_atomic_db {κ ν : Type} [DecidableEq κ] (s : Stmt) (hs : singleWrite s = true)
    (evs : List (Ev κ ν)) (o : Out) (hex : Exec s (evs.map Ev.abs) o)
    (db0 : DBOf κ ν) (h0 : List (List (Op κ ν))) (p : List (Ev κ ν)) (hp : p <+: evs) :
    dbOf db0 ((start h0).run p).hist = dbOf db0 h0 ∨
    dbOf db0 ((start h0).run p).hist = applyBatch (dbOf db0 h0) (stagedOps evs) := by
  cases (C13_atomic s hs evs o hex h0).1 p hp with
  | inl h => left; rw [h]
  | inr h => right; rw [h, dbOf_append_one]

/-- a path without a `write` event (error return before the Write) has no durable effect -/
theorem C13_no_write_no_effect {κ ν : Type} (s : Stmt) (hs : singleWrite s = true)
    (evs : List (Ev κ ν)) (o : Out) (hex : Exec s (evs.map Ev.abs) o) (h0 : List (List (Op κ ν)))
    (hno : ∀ b, Ev.write b ∉ evs) : ((start h0).run evs).hist = h0 := by
  obtain ⟨st', hacc, _⟩ := accept_of_singleWriteFrom hs hex
  exact (final_of_accept evs none st' hacc (start h0) nofun).2
    (no_write_not_written evs _ st' rfl hno hacc)

/-- the in-memory tip (block cache) and the event bus only ever see a block whose batch is durable:
    when a cache update / publication happens, the durable history already is the post-state -/
theorem C13_cache_after_write {κ ν : Type} (s : Stmt) (hs : singleWrite s = true)
    (p q : List (Ev κ ν)) (a : Act) (ha : a = .cacheUpdate ∨ a = .publish) (o : Out)
    (hex : Exec s ((p ++ Ev.other a :: q).map Ev.abs) o) (h0 : List (List (Op κ ν))) :
    ((start h0).run p).hist = h0 ++ [stagedOps (p ++ Ev.other a :: q)] := by
  obtain ⟨st', hacc, _⟩ := accept_of_singleWriteFrom hs hex
  rw [List.map_append] at hacc
  obtain ⟨st1, h1, h2⟩ := runMon_append_iff.mp hacc
  obtain ⟨st2, hs2, -⟩ := runMon_cons h2
  have hw : st1.written = true := (stepAct_ev hs2).2 ha
  rw [(final_of_accept p none st1 h1 (start h0) nofun).1 hw, stagedOps_append,
    (no_staging_after_write _ st1 st' hw h2).1, List.append_nil]
  rfl

/-! ## Per-function obligations on the regenerated skeletons -/

/-- every writer of the regenerated table meets the criterion of its role: the three engine steps
    and `ClearTempBlocks` create and write their own batch; `AddBlock` / `RemoveBlock` write the
    batch they are handed; `saveBlock`, `removeBlock`, the consensus-store commit and revert only
    stage into it. One evaluation of the current table; the obligations below are its entries. -/
theorem C13_writers_criteria :
    ([Gen.WS.Executer_processValidated, Gen.WS.Executer_deleteBlock, Gen.WS.Executer_processGenesisBlock,
      Gen.WS.DataAccess_ClearTempBlocks].all fun s => singleWrite (step s)) = true ∧
    ([Gen.WS.Chain_AddBlock, Gen.WS.Chain_RemoveBlock].all fun s => singleWriteWith "batch" (step s)) = true ∧
    ([Gen.WS.DataAccess_saveBlock, Gen.WS.DataAccess_removeBlock, Gen.WS.Database_Commit,
      Gen.WS.Database_RevertDiff].all fun s => stagesOnly "batch" (step s)) = true := by
  decide +kernel

theorem C13_processValidated_single_write : singleWrite (step Gen.WS.Executer_processValidated) = true :=
  Tables.all_mem C13_writers_criteria.1 (.head _)
theorem C13_deleteBlock_single_write : singleWrite (step Gen.WS.Executer_deleteBlock) = true :=
  Tables.all_mem C13_writers_criteria.1 (.tail _ (.head _))
theorem C13_processGenesisBlock_single_write : singleWrite (step Gen.WS.Executer_processGenesisBlock) = true :=
  Tables.all_mem C13_writers_criteria.1 (.tail _ (.tail _ (.head _)))
theorem C13_ClearTempBlocks_single_write : singleWrite (step Gen.WS.DataAccess_ClearTempBlocks) = true :=
  Tables.all_mem C13_writers_criteria.1 (.tail _ (.tail _ (.tail _ (.head _))))
theorem C13_AddBlock_single_write : singleWriteWith "batch" (step Gen.WS.Chain_AddBlock) = true :=
  Tables.all_mem C13_writers_criteria.2.1 (.head _)
theorem C13_RemoveBlock_single_write : singleWriteWith "batch" (step Gen.WS.Chain_RemoveBlock) = true :=
  Tables.all_mem C13_writers_criteria.2.1 (.tail _ (.head _))
theorem C13_saveBlock_stages_only : stagesOnly "batch" (step Gen.WS.DataAccess_saveBlock) = true :=
  Tables.all_mem C13_writers_criteria.2.2 (.head _)
theorem C13_removeBlock_stages_only : stagesOnly "batch" (step Gen.WS.DataAccess_removeBlock) = true :=
  Tables.all_mem C13_writers_criteria.2.2 (.tail _ (.head _))
theorem C13_storeCommit_stages_only : stagesOnly "batch" (step Gen.WS.Database_Commit) = true :=
  Tables.all_mem C13_writers_criteria.2.2 (.tail _ (.tail _ (.head _)))
theorem C13_revertDiff_stages_only : stagesOnly "batch" (step Gen.WS.Database_RevertDiff) = true :=
  Tables.all_mem C13_writers_criteria.2.2 (.tail _ (.tail _ (.tail _ (.head _))))

/-- the functions of the scanned packages whose own body creates, fills, hands on or writes a batch
    (or writes directly) are these eleven: the ten whose skeletons `C13_writers_criteria` examines and
    `cacheDB.commit`, which has no obligation of its own and is examined only inlined into `Database.Commit`. A new
    writer on the block path changes the regenerated list and breaks this theorem -/
theorem C13_writers_covered : Gen.WS.roots =
    ["Chain.AddBlock", "Chain.RemoveBlock", "DataAccess.ClearTempBlocks", "DataAccess.saveBlock",
     "DataAccess.removeBlock", "Executer.processValidated", "Executer.processGenesisBlock",
     "Executer.deleteBlock", "cacheDB.commit", "Database.Commit", "Database.RevertDiff"] := rfl

/-- block steps are only composed by Executer.Init (genesis) and Executer.process (tie-break:
    deleteBlock then processValidated — two steps, each atomic) inside the scanned packages -/
theorem C13_step_callers : Gen.WS.callers =
    [("Executer.Init", ["Executer.processGenesisBlock"]),
     ("Executer.process", ["Executer.deleteBlock", "Executer.processValidated"])] := rfl

/-- `db.DB.Write` is `pebble.Apply(batch, pebble.Sync)`; `Set`/`Del` are synced single writes;
    these (and the unsynced `DropAll`) are all the mutating methods of db.DB -/
theorem C13_db_write_is_synced_apply : Gen.WS.dbWriteMethods =
    [("Del", "Delete:pebble.Sync"), ("DropAll", "DeleteRange:pebble.NoSync"), ("Set", "Set:pebble.Sync"),
     ("Write", "Apply:pebble.Sync")] := rfl

/-- the methods of `db.Batch` only stage: `Set` calls `pebble.Batch.Set`, `Del` calls `pebble.Batch.Delete`,
    and nothing else of the pebble batch (no `Commit` / `Apply` / `Reset`) or of the batch itself is called, so a
    batch reaches the database only through the single `DB.Write` of the step (regenerated from pkg/db) -/
theorem C13_batch_methods_only_stage : Gen.WS.batchMethods =
    [("Del", ["Delete"]), ("Set", ["Set"])] := rfl

/-- end-to-end for the regenerated `Executer.processValidated` (with AddBlock, saveBlock, the
    consensus-store commit and the application commit inlined) -/
theorem C13_processValidated_atomic {κ ν : Type} (evs : List (Ev κ ν)) (o : Out)
    (hex : Exec (step Gen.WS.Executer_processValidated) (evs.map Ev.abs) o) (h0 : List (List (Op κ ν)))
    (p : List (Ev κ ν)) (hp : p <+: evs) :
    ((start h0).run p).hist = h0 ∨ ((start h0).run p).hist = h0 ++ [stagedOps evs] :=
  (C13_atomic _ C13_processValidated_single_write evs o hex h0).1 p hp

theorem C13_deleteBlock_atomic {κ ν : Type} (evs : List (Ev κ ν)) (o : Out)
    (hex : Exec (step Gen.WS.Executer_deleteBlock) (evs.map Ev.abs) o) (h0 : List (List (Op κ ν)))
    (p : List (Ev κ ν)) (hp : p <+: evs) :
    ((start h0).run p).hist = h0 ∨ ((start h0).run p).hist = h0 ++ [stagedOps evs] :=
  (C13_atomic _ C13_deleteBlock_single_write evs o hex h0).1 p hp

theorem C13_processGenesisBlock_atomic {κ ν : Type} (evs : List (Ev κ ν)) (o : Out)
    (hex : Exec (step Gen.WS.Executer_processGenesisBlock) (evs.map Ev.abs) o) (h0 : List (List (Op κ ν)))
    (p : List (Ev κ ν)) (hp : p <+: evs) :
    ((start h0).run p).hist = h0 ∨ ((start h0).run p).hist = h0 ++ [stagedOps evs] :=
  (C13_atomic _ C13_processGenesisBlock_single_write evs o hex h0).1 p hp

/-! ## Restart consistency (model level) -/

/-- **C13 restart.** Start from a node database satisfying the restart invariant (height index ↔
    headers, consensus store at the tip, revert diffs exactly up to the tip). Run any path of a
    single-write skeleton whose staged operations are a block commit or a block removal. Crash
    anywhere. Then the database found at restart again satisfies the invariant — for the old tip
    or for the new tip — and the tip `PrepareCache` finds (last entry of the height index) is the
    one the consensus store is at, has its header and (above the finalized height) its revert
    diff, and no diff exists above it. -/
theorem C13_recover_consistent (s : Stmt) (hs : singleWrite s = true)
    (evs : List (Ev Key Val)) (o : Out) (hex : Exec s (evs.map Ev.abs) o)
    (db0 : NodeDB) (tip f tip' f' : Nat) (hinv : NodeInv db0 tip f)
    (hstep : BlockStep db0 tip f (stagedOps evs) tip' f')
    (p : List (Ev Key Val)) (hp : p <+: evs) :
    ∃ T F, (T = tip ∧ F = f ∨ T = tip' ∧ F = f') ∧
      NodeInv (dbOf db0 ((start []).run p).hist) T F ∧
      ∀ t, RecoveredTip (dbOf db0 ((start []).run p).hist) t →
        t = T ∧ dbOf db0 ((start []).run p).hist .bftTip = some (.num t) ∧
        (∃ id, dbOf db0 ((start []).run p).hist (.index t) = some (.id id) ∧
               dbOf db0 ((start []).run p).hist (.header id) = some (.hdr t)) ∧
        (F < t → dbOf db0 ((start []).run p).hist (.diff t) ≠ none) ∧
        (∀ h, t < h → dbOf db0 ((start []).run p).hist (.diff h) = none) := by
  obtain ⟨T, F, h1, h2, -, h3⟩ := recover_cases hinv hstep (C13_atomic_db s hs evs o hex db0 [] p hp)
  exact ⟨T, F, h1, h2, h3⟩

/-- genesis: a crash while the genesis block is processed leaves the empty database (no tip: the
    next start processes the genesis block again) or the complete genesis state -/
theorem C13_genesis_consistent (s : Stmt) (hs : singleWrite s = true)
    (evs : List (Ev Key Val)) (o : Out) (hex : Exec s (evs.map Ev.abs) o) (id : Nat)
    (hstep : stagedOps evs = genesisBatch id) (p : List (Ev Key Val)) (hp : p <+: evs) :
    (dbOf emptyDB ((start []).run p).hist = emptyDB ∧ ∀ t, ¬ RecoveredTip emptyDB t) ∨
    NodeInv (dbOf emptyDB ((start []).run p).hist) 0 0 := by
  cases C13_atomic_db s hs evs o hex emptyDB [] p hp with
  | inl h => exact Or.inl ⟨h, empty_no_tip⟩
  | inr h => right; rw [h, hstep]; exact genesis_inv id

/-! ## Counterexamples: what the criterion excludes really is non-atomic -/

theorem C13_two_writes_rejected : singleWrite twoWrite = false := by decide
theorem C13_direct_write_rejected : singleWrite directFin = false := by decide
theorem C13_cache_before_write_rejected : singleWrite cacheFirst = false := by decide
theorem C13_lost_batch_rejected : singleWrite lostBatch = false := by decide
theorem C13_forgotten_write_rejected : singleWrite forgotWrite = false := by decide

/-- genesis-only database -/
def LiskVerif.C13.db1 : NodeDB := applyBatch emptyDB (genesisBatch 0)

/-- the two-write engine has a real path and a crash point on it (after the first write) where the
    durable history is neither the pre- nor the post-state, and the database found at restart
    has a height index ahead of the consensus store: no tip/finalized height makes the restart
    invariant true, and the recovered tip (1) is not the consensus store's (0). -/
theorem C13_two_writes_not_atomic :
    Exec twoWrite (twoWriteRun.map Ev.abs) .ret ∧
    ∃ p, p <+: twoWriteRun ∧
      ((start []).run p).hist ≠ [] ∧ ((start []).run p).hist ≠ ((start []).run twoWriteRun).hist ∧
      RecoveredTip (dbOf db1 ((start []).run p).hist) 1 ∧
      dbOf db1 ((start []).run p).hist .bftTip = some (.num 0) ∧
      ∀ T F, ¬ NodeInv (dbOf db1 ((start []).run p).hist) T F := by
  have hrec : RecoveredTip (dbOf db1 ((start []).run (twoWriteRun.take 4)).hist) 1 :=
    ⟨by decide, fun h hh => dbOf_index_above emptyDB 1 hh
      (genesisBatch 0 :: ((start []).run (twoWriteRun.take 4)).hist) (by decide)⟩
  -- the consensus store says tip 0, restart finds the height index ending at 1
  exact ⟨okPath_sound _ _ _ (by decide), twoWriteRun.take 4, ⟨twoWriteRun.drop 4, rfl⟩, by decide, by decide,
    hrec, rfl, no_inv_of_tips rfl hrec (by decide)⟩

/-! ## Non-vacuity -/

/-- the regenerated processValidated has a real committing path: newBatch, staging, application
    commit, ONE write, cache update, publication, `ret` -/
theorem C13_processValidated_commit_path :
    ∃ tr, Exec (step Gen.WS.Executer_processValidated) tr .ret ∧ Act.write "batch" ∈ tr ∧
      Act.abiCommit ∈ tr ∧ Act.cacheUpdate ∈ tr ∧ Act.publish ∈ tr :=
  exec_of_okPath (by decide +kernel)

theorem C13_deleteBlock_commit_path :
    ∃ tr, Exec (step Gen.WS.Executer_deleteBlock) tr .ret ∧ Act.write "batch" ∈ tr ∧ Act.abiRevert ∈ tr :=
  exec_of_okPath (by decide +kernel)

/-- non-vacuity of `C13_atomic`: a single-write skeleton, a concrete run with payload, its crash
    points -/
example : ∃ (s : Stmt) (evs : List (Ev Key Val)), singleWrite s = true ∧ Exec s (evs.map Ev.abs) .ret ∧
    stagedOps evs ≠ [] ∧ ((start []).run evs).hist = [stagedOps evs] :=
  ⟨Stmt.seqs [.act (.newBatch "b"), .act (.batchSet "b"), .act (.batchDel "b"), .act (.write "b"), .act .cacheUpdate, .ret],
   [.newBatch "b", .batchOp "b" (.set .fin (.num 1)), .batchOp "b" (.del (.diff 0)), .write "b", .other .cacheUpdate],
   by decide, okPath_sound _ _ _ (by decide), by decide, by decide⟩

/-- non-vacuity of `C13_recover_consistent`: the genesis database satisfies the invariant, and
    committing block 1 on it is a `BlockStep` -/
example : NodeInv db1 0 0 ∧ BlockStep db1 0 0 (addBatch 0 7 0 []) 1 0 :=
  ⟨genesis_inv 0, BlockStep.add 7 0 [] (by simp [db1, applyBatch, applyOp, genesisBatch, emptyDB]) (Nat.le_refl _) (by omega)
    (fun _ h => by cases h)⟩

/-- non-vacuity: removal of block 1 is a `BlockStep` on the database after committing it -/
example : BlockStep (applyBatch db1 (addBatch 0 7 0 [])) 1 0 (removeBatch 1 7) 0 0 :=
  BlockStep.remove 7 (by omega) (by rw [add_lookup]; simp)
