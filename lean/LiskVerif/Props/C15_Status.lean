/-
C15 (part 3) — the OTHER writers and readers of the persisted generator information.

Theorems about `LiskVerif.Model.GenStatus`: the generator RPC endpoint (`updateStatus`, `setStatus`,
`getStatus`, `setKeys`), `Generator.Init` (`saveGeneratorsFromFile`, `loadGenerator`) and
`EnableGeneration` / `DisableGeneration`, composed with the forge bookkeeping of
`LiskVerif.Model.Generator` (the model embeds its `GState` and every chain / forge step IS
`Generator.applyOp .fixed`), for ALL sequences of
  ext / del / forge (behind the `enabledKeys` gate) / restart (with or without keys file) /
  updateStatus (all inputs, all answers of `HeaderHasPriority`, all crash points) / setStatus / setKeys.

Results: `updateStatus` never changes a stored record (it only creates the all-zero one); it enables
only when the operator supplied exactly what is stored; without `setStatus` the stored record never
decreases and the run is a run of Model/Generator, so all `C15_*` theorems of Props/C15.lean carry
over (in particular no self-contradiction across restarts and crashes); `setStatus` is the ONLY
operation that lowers a record, and with it the operator can make the generator contradict itself
(operator override: recorded, not a defect); `getStatus` reports exactly the stored records and the
enabled flags. Single steps: a stored record never disappears, a header reaches the database only
through a forge step of an enabled address, and a key becomes enabled only by a successful
`updateStatus` for its address or by `loadGenerator` at a start for plain stored keys.
-/
import LiskVerif.Model.GenStatus
import LiskVerif.Props.C15

open LiskVerif LiskVerif.Gen LiskVerif.Generator LiskVerif.GenStatus

/-! ### definitions used in the statements -/

/-- no `setStatus` in the sequence -/
def C15sNoSetStatus (ops : List SOp) : Prop := ∀ op ∈ ops, op.isSetStatus = false

/-- two generator states that every reader of Model/Generator sees alike: same tip, same ghost lists,
same information for every address (an absent record reads as the all-zero one) -/
structure C15sEquiv (a b : GState) : Prop where
  height : a.height = b.height
  mhp : a.mhp = b.mhp
  persisted : a.persisted = b.persisted
  handedOn : a.handedOn = b.handedOn
  info : ∀ v, getInfo a.infos v = getInfo b.infos v

/-- record order of the property: the height (largest height ever generated, source of the next
`maxHeightGenerated`) and the reported `maxHeightGenerated` do not decrease -/
def C15sInfoLe (a b : Info) : Prop := a.height ≤ b.height ∧ a.mhg ≤ b.mhg

/-! ### two equations of the model -/

private theorem getInfo_cons' (k : Nat) (x : Info) (r : List (Nat × Info)) (v : Nat) :
    getInfo ((k, x) :: r) v = if (k == v) = true then x else getInfo r v := by
  unfold getInfo
  by_cases h : (k == v) = true
  · simp [List.find?, h]
  · simp [List.find?, h]

private theorem restart_gs (addr : Nat → Bytes) (s : SState) (file : List (Nat × KeyKind)) :
    (restart .fixed addr s file).gs = s.gs := rfl

/-! ### `updateStatus` -/

/-- The decision of `verifyAndUpdateGeneratorInfo`: accepted exactly when the input equals the stored
record, or nothing is stored and the input is all-zero (`Equal` / `IsZero`). -/
theorem C15_status_verify_iff (stored : Option Info) (inp : Info) :
    verifyInfo stored inp = none ↔ (stored = some inp ∨ (stored = none ∧ inp = {})) := by
  unfold verifyInfo
  cases stored with
  | none => by_cases h : inp = {} <;> simp [h]
  | some s =>
    by_cases h : inp = s
    · simp [h]
    · have : ¬ s = inp := fun e => h e.symm
      simp [h, this]

private theorem unlock_err {keys : KeyStore} {v pw : Nat} {e : UpdRes} (h : unlock keys v pw = some e) :
    e ≠ .enabled ∧ e ≠ .crashed := by
  unfold unlock at h
  split at h
  · cases h; exact ⟨nofun, nofun⟩
  · cases h
  · split at h <;> cases h; exact ⟨nofun, nofun⟩
  · cases h; exact ⟨nofun, nofun⟩

private theorem verify_err {st : Option Info} {inp : Info} {e : UpdRes} (h : verifyInfo st inp = some e) :
    e ≠ .enabled ∧ e ≠ .crashed := by
  unfold verifyInfo at h
  split at h <;> split at h <;> cases h <;> exact ⟨nofun, nofun⟩

/-- the state in which the record of the request is written -/
private def written (s : SState) (r : UpdReq) : SState :=
  { s with gs := { s.gs with infos := setInfo s.gs.infos r.v (reqInfo r) } }

private theorem isEnabled_iff (s : SState) (v : Nat) : isEnabled s v = true ↔ v ∈ s.enabled := by
  simp [isEnabled]

/-- the decision order of `HandleUpdateStatus`: it refuses or disables — the generator state stays,
no key becomes enabled, the answer is neither `enabled` nor `crashed` — or every check passes and
it writes the record, enables the key, or dies on the way -/
private theorem update_cases (addr : Nat → Bytes) (s : SState) (r : UpdReq) (synced : Bool) (c : CrashPt) :
    ((update .fixed addr s r synced c).1.gs = s.gs ∧
      (∀ v, isEnabled (update .fixed addr s r synced c).1 v = true → isEnabled s v = true) ∧
      (update .fixed addr s r synced c).2 ≠ .enabled ∧ (update .fixed addr s r synced c).2 ≠ .crashed) ∨
    (unlock s.keys r.v r.pw = none ∧ r.enable = true ∧ synced = true ∧
      verifyInfo (lookupInfo s.gs.infos r.v) (reqInfo r) = none ∧
      update .fixed addr s r synced c =
        match c with
        | .beforeWrite => (restart .fixed addr s [], .crashed)
        | .afterWrite => (restart .fixed addr (written s r) [], .crashed)
        | .none => ({ written s r with enabled := enable s.enabled r.v }, .enabled)) := by
  have keep : ∀ e : UpdRes, e ≠ .enabled ∧ e ≠ .crashed →
      (s, e).1.gs = s.gs ∧ (∀ v, isEnabled (s, e).1 v = true → isEnabled s v = true) ∧
        (s, e).2 ≠ .enabled ∧ (s, e).2 ≠ .crashed := fun e he => ⟨rfl, fun _ h => h, he⟩
  rw [update]
  by_cases hp : (!(u32 r.height && u32 r.mhp && u32 r.mhg)) = true
  · rw [if_pos hp]; exact Or.inl (keep _ ⟨nofun, nofun⟩)
  rw [if_neg hp]
  cases hu : unlock s.keys r.v r.pw with
  | some e => exact Or.inl (keep _ (unlock_err hu))
  | none =>
    dsimp only
    cases hen : r.enable with
    | false =>
      refine Or.inl ⟨rfl, fun v h => ?_, nofun, nofun⟩
      exact (isEnabled_iff _ _).mpr (List.mem_filter.mp ((isEnabled_iff _ _).mp h)).1
    | true =>
      cases hs : synced with
      | false => exact Or.inl (keep _ ⟨nofun, nofun⟩)
      | true =>
        cases hv : verifyInfo (lookupInfo s.gs.infos r.v) (reqInfo r) with
        | some e => exact Or.inl (keep _ (verify_err hv))
        | none => refine Or.inr ⟨rfl, rfl, rfl, rfl, ?_⟩; cases c <;> rfl

/-- what `updateStatus` does to the generator state: nothing, or — all checks passed — it writes
the record of the request -/
private theorem update_gs (addr : Nat → Bytes) (s : SState) (r : UpdReq) (synced : Bool) (c : CrashPt) :
    (update .fixed addr s r synced c).1.gs = s.gs ∨
    (verifyInfo (lookupInfo s.gs.infos r.v) (reqInfo r) = none ∧
      (update .fixed addr s r synced c).1.gs = (written s r).gs) := by
  rcases update_cases addr s r synced c with h | ⟨_, _, _, hv, h⟩
  · exact Or.inl h.1
  · rw [h]; cases c
    · exact Or.inr ⟨hv, rfl⟩
    · exact Or.inl rfl
    · exact Or.inr ⟨hv, rfl⟩

/-- `updateStatus` NEVER changes a stored record - for every request, every answer of
`HeaderHasPriority`, every crash point: the record of every address is what it was, except that
the all-zero record is created for the requested address when nothing was stored and the request is
all-zero. -/
theorem C15_status_update_never_changes_record (addr : Nat → Bytes) (s : SState) (r : UpdReq)
    (synced : Bool) (c : CrashPt) (w : Nat) :
    lookupInfo (update .fixed addr s r synced c).1.gs.infos w = lookupInfo s.gs.infos w ∨
    (w = r.v ∧ lookupInfo s.gs.infos w = none ∧ reqInfo r = {} ∧
      lookupInfo (update .fixed addr s r synced c).1.gs.infos w = some {}) := by
  rcases update_gs addr s r synced c with h | ⟨hv, h⟩
  · rw [h]; exact Or.inl rfl
  · rw [h, written, lookupInfo_setInfo]
    by_cases hw : w = r.v
    · subst hw
      rw [if_pos rfl]
      rcases (C15_status_verify_iff _ _).mp hv with h | ⟨h1, h2⟩
      · exact Or.inl h.symm
      · exact Or.inr ⟨rfl, h1, h2, congrArg some h2⟩
    · rw [if_neg hw]; exact Or.inl rfl

/-- in particular: what the generator reads (`initBlockHeader`: an absent record reads as zero) is
never changed by `updateStatus` -/
theorem C15_status_update_preserves_info (addr : Nat → Bytes) (s : SState) (r : UpdReq)
    (synced : Bool) (c : CrashPt) (w : Nat) :
    getInfo (update .fixed addr s r synced c).1.gs.infos w = getInfo s.gs.infos w := by
  rw [getInfo_eq_lookup, getInfo_eq_lookup]
  rcases C15_status_update_never_changes_record addr s r synced c w with h | ⟨_, h1, _, h3⟩
  · rw [h]
  · rw [h1, h3]; rfl

/-- `updateStatus` touches nothing else of the generator state (tip and ghost lists) -/
private theorem update_equiv (addr : Nat → Bytes) (s : SState) (r : UpdReq) (synced : Bool) (c : CrashPt) :
    C15sEquiv (update .fixed addr s r synced c).1.gs s.gs := by
  refine ⟨?_, ?_, ?_, ?_, fun v => C15_status_update_preserves_info addr s r synced c v⟩ <;>
  · rcases update_gs addr s r synced c with h | ⟨_, h⟩ <;> rw [h] <;> rfl

/-- Enabling succeeds ONLY when the node is synced, the keys open, and the operator supplied exactly
the stored record (or nothing is stored and the input is all-zero); afterwards the stored record
IS the supplied one and the key is enabled. -/
theorem C15_status_enable_requires_stored_info (addr : Nat → Bytes) (s : SState) (r : UpdReq)
    (synced : Bool) (c : CrashPt)
    (h : (update .fixed addr s r synced c).2 = .enabled) :
    r.enable = true ∧ synced = true ∧ unlock s.keys r.v r.pw = none ∧ c = .none ∧
    (lookupInfo s.gs.infos r.v = some (reqInfo r) ∨ (lookupInfo s.gs.infos r.v = none ∧ reqInfo r = {})) ∧
    lookupInfo (update .fixed addr s r synced c).1.gs.infos r.v = some (reqInfo r) ∧
    isEnabled (update .fixed addr s r synced c).1 r.v = true := by
  rcases update_cases addr s r synced c with h' | ⟨hu, hen, hs, hv, h'⟩
  · exact absurd h h'.2.2.1
  · cases c with
    | none =>
      rw [h']
      refine ⟨hen, hs, hu, rfl, (C15_status_verify_iff _ _).mp hv, ?_, ?_⟩
      · rw [written, lookupInfo_setInfo, if_pos rfl]
      · simp [isEnabled, enable]
    | _ => rw [h'] at h; cases h

/-- No crash point enables a key or changes what the generator reads: a process that dies inside
`updateStatus` comes back with the enabled set of `loadGenerator` and the same information. (The
write is before `EnableGeneration`: there is no point at which the key is usable and the record
is not durable.) -/
theorem C15_status_crash_points_safe (addr : Nat → Bytes) (s : SState) (r : UpdReq) (synced : Bool)
    (c : CrashPt) (h : (update .fixed addr s r synced c).2 = .crashed) :
    (update .fixed addr s r synced c).1.enabled = loadGenerator s.keys ∧
    (update .fixed addr s r synced c).1.keys = s.keys ∧
    ∀ w, getInfo (update .fixed addr s r synced c).1.gs.infos w = getInfo s.gs.infos w := by
  refine ⟨?_, ?_, fun w => C15_status_update_preserves_info addr s r synced c w⟩ <;>
  · rcases update_cases addr s r synced c with h' | ⟨_, _, _, _, h'⟩
    · exact absurd h h'.2.2.2
    · cases c with
      | none => rw [h'] at h; cases h
      | _ => rw [h']; rfl

/-! ### single steps -/

private theorem equiv_refl (a : GState) : C15sEquiv a a := ⟨rfl, rfl, rfl, rfl, fun _ => rfl⟩

private theorem equiv_trans {a b c : GState} (h1 : C15sEquiv a b) (h2 : C15sEquiv b c) : C15sEquiv a c :=
  ⟨h1.height.trans h2.height, h1.mhp.trans h2.mhp, h1.persisted.trans h2.persisted,
    h1.handedOn.trans h2.handedOn, fun v => (h1.info v).trans (h2.info v)⟩

private theorem mkHeader_congr (addr : Nat → Bytes) (a b : GState) (v : Nat) (h : C15sEquiv a b) :
    mkHeader addr a v = mkHeader addr b v := by
  obtain ⟨h1, h2, _, _, h5⟩ := h
  simp [mkHeader, h1, h2, h5 v]

/-- every step of Model/Generator respects the equivalence -/
private theorem equiv_applyOp (addr : Nat → Bytes) (a b : GState) (op : Op) (h : C15sEquiv a b) :
    C15sEquiv (applyOp .fixed addr a op) (applyOp .fixed addr b op) := by
  have hm := fun v => mkHeader_congr addr a b v h
  obtain ⟨h1, h2, h3, h4, h5⟩ := h
  have hh : (applyOp .fixed addr a op).height = (applyOp .fixed addr b op).height ∧
      (applyOp .fixed addr a op).mhp = (applyOp .fixed addr b op).mhp := by
    cases op with
    | forge w o m => cases o <;> simp [applyOp, h1, h2]
    | _ => simp [applyOp, h1, h2]
  have hinfo : ∀ v, getInfo (applyOp .fixed addr a op).infos v = getInfo (applyOp .fixed addr b op).infos v :=
    fun v => by rw [getInfo_applyOp, getInfo_applyOp, hm v, h5 v]
  cases hs : op.signer with
  | none =>
    obtain ⟨_, a2, a3⟩ := applyOp_db_none .fixed addr a hs
    obtain ⟨_, b2, b3⟩ := applyOp_db_none .fixed addr b hs
    exact ⟨hh.1, hh.2, a2.trans (h3.trans b2.symm), a3.trans (h4.trans b3.symm), hinfo⟩
  | some w =>
    obtain ⟨_, a2, a3⟩ := applyOp_db_some .fixed addr a hs
    obtain ⟨_, b2, b3⟩ := applyOp_db_some .fixed addr b hs
    exact ⟨hh.1, hh.2, by rw [a2, b2, hm w, h3], by rw [a3, b3, hm w, h4], hinfo⟩

/-- a forge step is the step of Model/Generator behind the `enabledKeys` gate -/
private theorem forge_gs (addr : Nat → Bytes) (s : SState) (v : Nat) (o : Outcome) (m : Nat) :
    (applyS .fixed addr s (.forge v o m)).gs =
      if isEnabled s v = true then applyOp .fixed addr s.gs (.forge v o m) else s.gs := by
  simp only [applyS, GenStatus.forge]
  split <;> rfl

/-- what a step of the status model does to the embedded generator state: a step of Model/Generator,
or nothing any reader of Model/Generator can see - unless it is `setStatus` -/
private theorem step_shape (addr : Nat → Bytes) (s : SState) (op : SOp) (h : op.isSetStatus = false) :
    (∃ gop, (applyS .fixed addr s op).gs = applyOp .fixed addr s.gs gop ∧
      (∀ v o m, gop = .forge v o m → op = .forge v o m ∧ isEnabled s v = true)) ∨
    C15sEquiv (applyS .fixed addr s op).gs s.gs := by
  cases op with
  | ext m => exact Or.inl ⟨.ext m, rfl, by intro v o m' e; cases e⟩
  | del k m => exact Or.inl ⟨.del k m, rfl, by intro v o m' e; cases e⟩
  | forge v o m =>
    rw [forge_gs]
    split <;> rename_i hen
    · exact Or.inl ⟨.forge v o m, rfl, fun v' o' m' e => by cases e; exact ⟨rfl, hen⟩⟩
    · exact Or.inr (equiv_refl _)
  | restart file => exact Or.inr (equiv_refl _)
  | update r sy c => exact Or.inr (update_equiv addr s r sy c)
  | setStatus v hh p g => cases h
  | setKeys v pl => exact Or.inr (equiv_refl _)

/-- Without `setStatus` the stored height of every address - the largest height it ever generated,
what the next header reports as `maxHeightGenerated` - never decreases, whatever the step is. -/
theorem C15_status_stored_height_monotone (addr : Nat → Bytes) (s : SState) (op : SOp) (v : Nat)
    (h : op.isSetStatus = false) :
    (getInfo s.gs.infos v).height ≤ (getInfo (applyS .fixed addr s op).gs.infos v).height := by
  rcases step_shape addr s op h with ⟨gop, hg, _⟩ | he
  · rw [hg]; exact C15_stored_height_monotone addr s.gs gop v
  · rw [he.info v]; exact Nat.le_refl _

/-- `setStatus` is the ONLY operation that can lower the stored height of an address - and only of
the address it names. -/
theorem C15_status_only_setStatus_lowers (addr : Nat → Bytes) (s : SState) (op : SOp) (v : Nat)
    (h : (getInfo (applyS .fixed addr s op).gs.infos v).height < (getInfo s.gs.infos v).height) :
    ∃ hh p g, op = .setStatus v hh p g := by
  cases hop : op.isSetStatus with
  | false =>
    have := C15_status_stored_height_monotone addr s op v hop
    omega
  | true =>
    cases op with
    | setStatus w hh p g =>
      by_cases hw : v = w
      · subst hw; exact ⟨hh, p, g, rfl⟩
      · exfalso
        have : getInfo (applyS .fixed addr s (.setStatus w hh p g)).gs.infos v = getInfo s.gs.infos v := by
          simp only [applyS, setStatus]
          split
          · rfl
          · rw [getInfo_setInfo, if_neg hw]
        rw [this] at h
        omega
    | _ => cases hop

/-- A stored record never disappears (no operation deletes one). -/
theorem C15_status_record_never_disappears (addr : Nat → Bytes) (s : SState) (op : SOp) (v : Nat)
    (h : lookupInfo s.gs.infos v ≠ none) :
    lookupInfo (applyS .fixed addr s op).gs.infos v ≠ none := by
  have hset : ∀ (w : Nat) (i : Info), lookupInfo (setInfo s.gs.infos w i) v ≠ none := by
    intro w i
    rw [lookupInfo_setInfo]
    split
    · nofun
    · exact h
  cases op with
  | forge w o m =>
    rw [forge_gs]
    split
    · cases o with
      | crashedBeforeWrite => exact h
      | _ => exact hset _ _
    · exact h
  | update r sy c =>
    rcases C15_status_update_never_changes_record addr s r sy c v with e | ⟨_, _, _, e⟩
    · simp only [applyS]; rw [e]; exact h
    · simp only [applyS]; rw [e]; nofun
  | setStatus w hh p g =>
    simp only [applyS, setStatus]
    split
    · exact h
    · exact hset _ _
  | _ => exact h

/-- A header reaches the generator database (ghost list `persisted`) only through a forge step of an
address whose key is enabled at that moment. -/
theorem C15_status_signs_only_while_enabled (addr : Nat → Bytes) (s : SState) (op : SOp)
    (h : (applyS .fixed addr s op).gs.persisted ≠ s.gs.persisted) :
    ∃ v o m, op = .forge v o m ∧ isEnabled s v = true := by
  cases op with
  | forge w o m =>
    by_cases hen : isEnabled s w = true
    · exact ⟨w, o, m, rfl, hen⟩
    · exact absurd (by rw [forge_gs, if_neg hen]) h
  | update r sy c => exact absurd (update_equiv addr s r sy c).persisted h
  | setStatus w hh p g =>
    exfalso; apply h
    simp only [applyS, setStatus]
    split <;> rfl
  | _ => exact absurd rfl h

/-! ### who enables a key -/

private theorem mem_loadGenerator (keys : KeyStore) (v : Nat) (h : v ∈ loadGenerator keys) :
    getKey keys v = some .plain := by
  unfold loadGenerator at h
  have := (List.mem_filter.mp h).2
  simpa using this

/-- A key becomes enabled only through a successful `updateStatus` for its address, or through
`loadGenerator` at a process start for an address whose stored keys are PLAIN (the operator's
standing consent; no look at the stored information). -/
theorem C15_status_enabled_only_by_update_or_plain_keys (addr : Nat → Bytes) (s : SState) (op : SOp)
    (v : Nat) (h : isEnabled (applyS .fixed addr s op) v = true) :
    isEnabled s v = true ∨
    (∃ r sy c, op = .update r sy c ∧ r.v = v ∧ (update .fixed addr s r sy c).2 = .enabled) ∨
    getKey (applyS .fixed addr s op).keys v = some .plain := by
  cases op with
  | setStatus _ _ _ _ | forge _ _ _ =>
    left
    simp only [applyS, setStatus, GenStatus.forge] at h
    split at h <;> exact h
  | restart f =>
    right; right
    exact mem_loadGenerator _ _ ((isEnabled_iff _ _).mp h)
  | update r sy c =>
    simp only [applyS] at h ⊢
    rcases update_cases addr s r sy c with h' | ⟨_, _, _, _, h'⟩
    · exact Or.inl (h'.2.1 v h)
    · cases c with
      | none =>
        rw [h'] at h
        have hm := (isEnabled_iff _ _).mp h
        simp only [enable, List.mem_cons] at hm
        rcases hm with hm | hm
        · right; left; exact ⟨r, sy, .none, rfl, hm.symm, by rw [h']⟩
        · left; exact (isEnabled_iff _ _).mpr (List.mem_filter.mp hm).1
      | _ =>
        rw [h'] at h ⊢
        right; right
        exact mem_loadGenerator _ _ ((isEnabled_iff _ _).mp h)
  | _ => exact Or.inl h

/-- A restart forgets every enabling: afterwards only addresses with plain stored keys are enabled
(the converse, that every such address is enabled, is the definition of `loadGenerator` and not
stated), and the generator information is untouched (`loadGenerator` never writes the record). -/
theorem C15_status_restart_keeps_info (addr : Nat → Bytes) (s : SState) (file : List (Nat × KeyKind)) :
    (restart .fixed addr s file).gs = s.gs ∧
    ∀ v, isEnabled (restart .fixed addr s file) v = true →
      getKey (restart .fixed addr s file).keys v = some .plain :=
  ⟨rfl, fun v h => mem_loadGenerator _ _ ((isEnabled_iff _ _).mp h)⟩

/-! ### `getStatus` -/

/-- `getStatus` reports exactly the stored records, each with the `IsGenerationEnabled` flag of its
address: nothing else, nothing missing, nothing altered. -/
theorem C15_status_getStatus_exact (s : SState) (v : Nat) (e : Bool) (i : Info) :
    (v, e, i) ∈ getStatus s ↔ ((v, i) ∈ s.gs.infos ∧ e = isEnabled s v) := by
  unfold getStatus
  simp only [List.mem_map]
  constructor
  · rintro ⟨p, hp, he⟩
    obtain ⟨a, b⟩ := p
    simp only [Prod.mk.injEq] at he
    obtain ⟨h1, h2, h3⟩ := he
    subst h1; subst h3
    exact ⟨hp, h2.symm⟩
  · rintro ⟨hm, he⟩
    exact ⟨(v, i), hm, by simp [he]⟩

/-- … and the record `getStatus` shows for an address is the one the generator reads -/
theorem C15_status_getStatus_shows_stored (s : SState) (v : Nat) (i : Info)
    (h : lookupInfo s.gs.infos v = some i) :
    (v, isEnabled s v, i) ∈ getStatus s ∧ getInfo s.gs.infos v = i ∧
    (getStatus s).length = s.gs.infos.length := by
  refine ⟨(C15_status_getStatus_exact s v _ i).mpr ⟨AList.mem_of_get (lookupInfo_eq_get _ v ▸ h), rfl⟩, ?_, by simp [getStatus]⟩
  rw [getInfo_eq_lookup, h]; rfl

/-! ### runs without `setStatus` are runs of Model/Generator -/

/-- Refinement: for every sequence of operations without `setStatus` the embedded generator state
is, for every reader, the state of Model/Generator after the projected operations (chain steps,
the forge steps that passed the `enabledKeys` gate, restarts including those of the crash points). -/
theorem C15_status_refines_generator (addr : Nat → Bytes) (ops : List SOp) :
    ∀ (s : SState) (g : GState), C15sNoSetStatus ops → C15sEquiv s.gs g →
      C15sEquiv (runS .fixed addr s ops).gs (run .fixed addr g (projOps .fixed addr s ops)) := by
  induction ops with
  | nil => intro s g _ he; exact he
  | cons op r ih =>
    intro s g hns he
    have hns' : C15sNoSetStatus r := fun o ho => hns o (List.mem_cons_of_mem _ ho)
    have hop : op.isSetStatus = false := hns op List.mem_cons_self
    simp only [runS, projOps]
    cases op with
    | ext m => exact ih _ _ hns' (equiv_applyOp addr _ _ (.ext m) he)
    | del k m => exact ih _ _ hns' (equiv_applyOp addr _ _ (.del k m) he)
    | restart f => exact ih _ _ hns' he
    | setKeys a pl => exact ih _ _ hns' he
    | setStatus w hh p gg => cases hop
    | forge w o m =>
      by_cases hen : isEnabled s w = true
      · simp only [hen, ↓reduceIte, run]
        refine ih _ _ hns' ?_
        rw [forge_gs, if_pos hen]
        exact equiv_applyOp addr _ _ _ he
      · simp only [hen, Bool.false_eq_true, ↓reduceIte]
        refine ih _ _ hns' ?_
        rw [forge_gs, if_neg hen]; exact he
    | update rq sy c =>
      have hq : C15sEquiv (applyS .fixed addr s (.update rq sy c)).gs g :=
        equiv_trans (update_equiv addr s rq sy c) he
      by_cases hc : (update .fixed addr s rq sy c).2 = .crashed
      · simp only [hc, ↓reduceIte, run]
        exact ih _ _ hns' hq
      · simp only [hc, ↓reduceIte]
        exact ih _ _ hns' hq

/-- Composition with `C15_no_self_contradiction` (Props/C15.lean): for EVERY sequence of chain
steps, forge steps, restarts (with or without keys file), `updateStatus` calls (any input, any crash
point) and `setKeys` - no `setStatus` - a validator that forges only while its key is enabled (the
gate of `Generator.forge`) never signs two contradicting headers, before or after any restart,
provided each time it generates its tip is better in the fork-choice order than the tip it generated
on before. -/
theorem C15_status_no_self_contradiction (addr : Nat → Bytes) (ops : List SOp) (v : Nat)
    (hns : C15sNoSetStatus ops)
    (hall : C07Gen.allowedAll {} (C15steps addr v {} (projOps .fixed addr {} ops))) :
    (headersOf v (runS .fixed addr {} ops).gs.persisted).Pairwise
      (fun a b => areDistinctHeadersContradicting a b = false ∧
        areDistinctHeadersContradicting b a = false) := by
  have he := C15_status_refines_generator addr ops {} {} hns (equiv_refl _)
  rw [he.persisted]
  exact C15_no_self_contradiction addr _ v hall

/-- Composition with `C15_reports_largest_height` and `C15_max_height_generated_clauses`: whatever
the tips are, after any such sequence the next header of a validator reports the largest height of
all its headers that reached the generator database, and no contradiction can come from the
`maxHeightGenerated` clauses. -/
theorem C15_status_reports_largest_height (addr : Nat → Bytes) (ops : List SOp) (v : Nat)
    (hns : C15sNoSetStatus ops) :
    (mkHeader addr (runS .fixed addr {} ops).gs v).maxHeightGenerated =
      C15maxHeight (headersOf v (runS .fixed addr {} ops).gs.persisted) ∧
    (headersOf v (runS .fixed addr {} ops).gs.persisted).Pairwise
      (fun e l => e.height ≤ l.maxHeightGenerated ∧ e.maxHeightGenerated ≤ l.maxHeightGenerated) := by
  have he := C15_status_refines_generator addr ops {} {} hns (equiv_refl _)
  rw [mkHeader_congr addr _ _ v he, he.persisted]
  exact ⟨C15_reports_largest_height addr _ v, C15_max_height_generated_clauses addr _ v⟩

/-- … and everything handed to consensus is covered by the stored record at every moment
(`C15_persisted_before_handoff`) -/
theorem C15_status_persisted_before_handoff (addr : Nat → Bytes) (ops : List SOp) (v : Nat) (h : Hdr)
    (hns : C15sNoSetStatus ops) (hh : (v, h) ∈ (runS .fixed addr {} ops).gs.handedOn) :
    h.height ≤ (getInfo (runS .fixed addr {} ops).gs.infos v).height := by
  have he := C15_status_refines_generator addr ops {} {} hns (equiv_refl _)
  rw [he.handedOn] at hh
  rw [he.info v]
  exact (C15_persisted_before_handoff addr _ v h hh).1

/-! ### the record never decreases along a run -/

private theorem runS_append (addr : Nat → Bytes) (a b : List SOp) : ∀ s : SState,
    runS .fixed addr s (a ++ b) = runS .fixed addr (runS .fixed addr s a) b := by
  induction a with
  | nil => intro s; rfl
  | cons op r ih => intro s; simp only [List.cons_append, runS]; exact ih _

/-- well-formed records: the reported `maxHeightGenerated` is at most the stored height -/
private def WF (g : GState) : Prop := ∀ v, (getInfo g.infos v).mhg ≤ (getInfo g.infos v).height

private theorem applyOp_le (addr : Nat → Bytes) (g : GState) (op : Op) (hwf : WF g) (v : Nat) :
    C15sInfoLe (getInfo g.infos v) (getInfo (applyOp .fixed addr g op).infos v) ∧
    (getInfo (applyOp .fixed addr g op).infos v).mhg ≤ (getInfo (applyOp .fixed addr g op).infos v).height := by
  rw [getInfo_applyOp]
  split
  · have := hwf v
    simp only [C15sInfoLe, nextInfo, mkHeader]
    omega
  · exact ⟨⟨Nat.le_refl _, Nat.le_refl _⟩, hwf v⟩

private theorem step_le (addr : Nat → Bytes) (s : SState) (op : SOp) (h : op.isSetStatus = false)
    (hwf : WF s.gs) :
    (∀ v, C15sInfoLe (getInfo s.gs.infos v) (getInfo (applyS .fixed addr s op).gs.infos v)) ∧
    WF (applyS .fixed addr s op).gs := by
  rcases step_shape addr s op h with ⟨gop, hg, _⟩ | he
  · rw [hg]
    exact ⟨fun v => (applyOp_le addr s.gs gop hwf v).1, fun v => (applyOp_le addr s.gs gop hwf v).2⟩
  · refine ⟨fun v => ?_, fun v => ?_⟩
    · rw [he.info v]; exact ⟨Nat.le_refl _, Nat.le_refl _⟩
    · rw [he.info v]; exact hwf v

private theorem run_le (addr : Nat → Bytes) (ops : List SOp) : ∀ (s : SState), C15sNoSetStatus ops → WF s.gs →
    (∀ v, C15sInfoLe (getInfo s.gs.infos v) (getInfo (runS .fixed addr s ops).gs.infos v)) ∧
    WF (runS .fixed addr s ops).gs := by
  induction ops with
  | nil => intro s _ hwf; exact ⟨fun v => ⟨Nat.le_refl _, Nat.le_refl _⟩, hwf⟩
  | cons op r ih =>
    intro s hns hwf
    have hop : op.isSetStatus = false := hns op List.mem_cons_self
    have hns' : C15sNoSetStatus r := fun o ho => hns o (List.mem_cons_of_mem _ ho)
    obtain ⟨h1, h2⟩ := step_le addr s op hop hwf
    obtain ⟨h3, h4⟩ := ih _ hns' h2
    refine ⟨fun v => ?_, h4⟩
    have a := h1 v
    have b := h3 v
    simp only [runS]
    unfold C15sInfoLe at *
    omega

/-- For ALL operation sequences without `setStatus`: between any two moments of the run the stored
record of an address does not decrease - neither its height (the largest height ever generated,
the next `maxHeightGenerated`) nor the `maxHeightGenerated` it recorded. (`maxHeightPrevoted` of the
record is the chain's value at the last forge: it is monotone exactly when the node only moves to
chains fork choice prefers - the hypothesis of `C15_status_no_self_contradiction`.) -/
theorem C15_status_record_never_decreases (addr : Nat → Bytes) (ops₁ ops₂ : List SOp) (v : Nat)
    (hns : C15sNoSetStatus (ops₁ ++ ops₂)) :
    C15sInfoLe (getInfo (runS .fixed addr {} ops₁).gs.infos v)
      (getInfo (runS .fixed addr {} (ops₁ ++ ops₂)).gs.infos v) := by
  have h1 : C15sNoSetStatus ops₁ := fun o ho => hns o (List.mem_append_left _ ho)
  have h2 : C15sNoSetStatus ops₂ := fun o ho => hns o (List.mem_append_right _ ho)
  have hwf0 : WF ({} : SState).gs := fun _ => Nat.le_refl _
  rw [runS_append]
  exact (run_le addr ops₂ _ h2 (run_le addr ops₁ {} h1 hwf0).2).1 v

/-! ### the operator override: `setStatus` -/

/-- the keys file gives validator 0 plain keys (enabled at every start); ten blocks; validator 0
generates at height 10 on a chain with maxHeightPrevoted 3; THE OPERATOR RESETS THE RECORD with
`setStatus(0,0,0)`; the node moves to a better, shorter chain; validator 0 generates at height 8 -/
def C15sOverrideOps (override : Bool) : List SOp :=
  [.restart [(0, .plain)],
   .ext 0, .ext 0, .ext 0, .ext 0, .ext 0, .ext 0, .ext 1, .ext 2, .ext 3,
   .forge 0 .applied 3] ++
  (if override then [.setStatus 0 0 0 0] else []) ++
  [.del 3 4, .forge 0 .applied 4]

/-- Operator override (recorded, not a defect): `setStatus` writes whatever it is given - no key
lookup, no comparison with the stored record, no look at `enabledKeys` - so an operator who lowers
the record makes the running generator sign a header that contradicts an earlier one although the
node behaved (each forging opportunity on a better tip). Without the `setStatus` call the second
header of the same history reports maxHeightGenerated 10 (fourth conjunct; that the two do not
contradict follows from `C15_status_no_self_contradiction`; of its hypotheses `C15sNoSetStatus` is the last
conjunct and `allowedAll` is stated for the literal step list only, third conjunct). `updateStatus` cannot be used for this
(`C15_status_update_never_changes_record`). The forging opportunities are given as the literal list
`[(10, 3), (8, 4)]` (what `C15steps` yields on this history), not as `C15steps … (projOps …)`. -/
theorem C15_status_operator_override_contradicts :
    let addr : Nat → Bytes := fun v => [UInt8.ofNat v]
    let hs := headersOf 0 (runS .fixed addr {} (C15sOverrideOps true)).gs.persisted
    hs.map (fun h => (h.height, h.maxHeightGenerated, h.maxHeightPrevoted)) = [(10, 0, 3), (8, 0, 4)] ∧
    (∃ a ∈ hs, ∃ b ∈ hs, areDistinctHeadersContradicting a b = true) ∧
    C07Gen.allowedAll {} [(10, 3), (8, 4)] ∧
    (headersOf 0 (runS .fixed addr {} (C15sOverrideOps false)).gs.persisted).map
      (fun h => (h.height, h.maxHeightGenerated, h.maxHeightPrevoted)) = [(10, 0, 3), (8, 10, 4)] ∧
    C15sNoSetStatus (C15sOverrideOps false) := by
  refine ⟨by decide, ?_, ?_, by decide, ?_⟩
  · refine ⟨{ height := 10, generatorAddress := [0], maxHeightGenerated := 0, maxHeightPrevoted := 3 }, by decide,
      { height := 8, generatorAddress := [0], maxHeightGenerated := 0, maxHeightPrevoted := 4 }, by decide, by decide⟩
  · simp [C07Gen.allowedAll, C07Gen.allowed, C07Gen.forge]
  · unfold C15sNoSetStatus; decide

/-! ### non-vacuity -/

private def exAddr : Nat → Bytes := fun v => [UInt8.ofNat v]

/-- the intended life cycle: encrypted keys from the keys file (not enabled at start); enable with
the all-zero information; forge at 3; one more block; restart (nothing enabled); a request with
the stored information enables; forge again (requests with other information are refused: examples
below on the state after the restart) -/
private def exLife : List SOp :=
  [.restart [(0, .encrypted 7)], .ext 0, .ext 0,
   .update { v := 0, pw := 7, enable := true, height := 0, mhp := 0, mhg := 0 } true .none,
   .forge 0 .applied 0, .ext 0, .restart [],
   .update { v := 0, pw := 7, enable := true, height := 3, mhp := 0, mhg := 0 } true .none,
   .forge 0 .applied 0]

example : (runS .fixed exAddr {} exLife).gs.persisted.map (fun p => (p.2.height, p.2.maxHeightGenerated)) =
    [(3, 0), (5, 3)] := by decide
example : C15sNoSetStatus exLife := by unfold C15sNoSetStatus; decide
-- hypotheses of `C15_status_no_self_contradiction` hold on the life cycle
example : C07Gen.allowedAll {} (C15steps exAddr 0 {} (projOps .fixed exAddr {} exLife)) := by
  have : C15steps exAddr 0 {} (projOps .fixed exAddr {} exLife) = [(3, 0), (5, 0)] := by decide
  rw [this]; simp [C07Gen.allowedAll, C07Gen.allowed, C07Gen.forge]
-- after the restart nothing is enabled, a forge step in the validator's slot signs nothing
example : (runS .fixed exAddr {} (exLife.take 7 ++ [.forge 0 .applied 0])).gs.persisted.length = 1 := by decide
-- the decision order of `updateStatus`: on the state after the restart (`exS`, record 3/0/0 stored), and for
-- `notStored` / `noPrevious` / `badKeys` on states where nothing is stored (`{}`, `setKeys {} 0 …`)
private def exS : SState := runS .fixed exAddr {} (exLife.take 7)
example : (update .fixed exAddr exS { v := 1, pw := 7, enable := true, height := 3, mhp := 0, mhg := 0 } true .none).2 = .notStored := by decide
example : (update .fixed exAddr exS { v := 0, pw := 8, enable := true, height := 3, mhp := 0, mhg := 0 } true .none).2 = .badPassword := by decide
example : (update .fixed exAddr exS { v := 0, pw := 8, enable := false, height := 9, mhp := 9, mhg := 9 } false .none).2 = .badPassword := by decide
example : (update .fixed exAddr exS { v := 0, pw := 7, enable := false, height := 9, mhp := 9, mhg := 9 } false .none).2 = .disabled := by decide
example : (update .fixed exAddr exS { v := 0, pw := 7, enable := true, height := 3, mhp := 0, mhg := 0 } false .none).2 = .notSynced := by decide
example : (update .fixed exAddr exS { v := 0, pw := 7, enable := true, height := 2, mhp := 0, mhg := 0 } true .none).2 = .contradicting := by decide
example : (update .fixed exAddr exS { v := 0, pw := 7, enable := true, height := 0, mhp := 0, mhg := 0 } true .none).2 = .contradicting := by decide
example : (update .fixed exAddr exS { v := 0, pw := 7, enable := true, height := 4294967296, mhp := 0, mhg := 0 } true .none).2 = .badParams := by decide
example : (update .fixed exAddr {} { v := 0, pw := 7, enable := true, height := 1, mhp := 0, mhg := 0 } true .none).2 = .notStored := by decide
example : (update .fixed exAddr (setKeys {} 0 true) { v := 0, pw := 0, enable := true, height := 1, mhp := 0, mhg := 0 } true .none).2 = .noPrevious := by decide
example : (update .fixed exAddr (setKeys {} 0 false) { v := 0, pw := 0, enable := true, height := 0, mhp := 0, mhg := 0 } true .none).2 = .badKeys := by decide
example : (update .fixed exAddr exS { v := 0, pw := 7, enable := true, height := 3, mhp := 0, mhg := 0 } true .none).2 = .enabled := by decide
-- crash points: the record survives, the key is not enabled
example : (update .fixed exAddr exS { v := 0, pw := 7, enable := true, height := 3, mhp := 0, mhg := 0 } true .afterWrite).2 = .crashed ∧
    isEnabled (update .fixed exAddr exS { v := 0, pw := 7, enable := true, height := 3, mhp := 0, mhg := 0 } true .afterWrite).1 0 = false := by decide
example : lookupInfo (update .fixed exAddr (setKeys {} 0 true) { v := 0, pw := 0, enable := true, height := 0, mhp := 0, mhg := 0 } true .beforeWrite).1.gs.infos 0 = none ∧
    lookupInfo (update .fixed exAddr (setKeys {} 0 true) { v := 0, pw := 0, enable := true, height := 0, mhp := 0, mhg := 0 } true .afterWrite).1.gs.infos 0 = some {} := by decide
-- plain keys are enabled by `loadGenerator` at every start, whatever is stored
example : isEnabled (restart .fixed exAddr (setKeys exS 0 true) []) 0 = true := by decide
example : getStatus (runS .fixed exAddr {} exLife) = [(0, true, { height := 5, mhp := 0, mhg := 3 })] := by decide
-- setStatus lowers the record (hypothesis of `C15_status_only_setStatus_lowers` is satisfiable)
example : (getInfo (applyS .fixed exAddr exS (.setStatus 0 1 0 0)).gs.infos 0).height < (getInfo exS.gs.infos 0).height := by decide
