/-
C20 / C04 — the event emitter (`pkg/event`) at the data level (C04's subscribers receive consensus events through
it: `Props/C04_Emitter.lean` builds on the same lemmas).  Model: `Model/Emitter.lean` (tied to the code by
the pseudo-property EMITTER: every generated history runs on the real `EventEmitter` with live, partly slow
receivers and on the compiled model; receive logs, results and panics are diffed).

The lock discipline of the emitter is C20's skeleton part (`Props/C20.lean`; `Publish` sends under its lock:
known finding).  Here: WHAT subscribers receive.  With subscribers that keep receiving, a publication is
delivered to every channel registered for the topic, once per registration, in publication order, however far
the publisher runs ahead (the sends are rendezvous sends: there is no buffer that could overflow and no
non-blocking send that could drop); other operations never touch a receive log; an emitter used the way the
engine uses it (`Subscribe` only — every channel registered once) never panics; a closed channel receives
nothing more.  `On` with a channel that is registered twice makes `Close` / `Unsubscribe` panic
(counterexample theorems; the engine never does this).
-/
import LiskVerif.Lemmas.Emitter

open LiskVerif LiskVerif.Emitter

/-- one publication, any emitter state whose channels for the topic are open: nobody panics, the log of
EVERY channel grows by exactly one copy of the message per registration under the topic, registrations,
closed set and allocation are untouched -/
theorem C20_emitter_publish_delivers_per_registration (s : St) (t : String) (m : Msg)
    (hd : s.dead = false) (hc : ∀ c ∈ s.chansOf t, c ∉ s.closed) :
    (publish s t m).dead = false ∧ (publish s t m).subs = s.subs ∧ (publish s t m).closed = s.closed ∧
    ∀ d, (publish s t m).recvOf d = s.recvOf d ++ List.replicate ((s.chansOf t).count d) m := by
  obtain ⟨hdead, hsubs, _, hrecv⟩ := sendAll_spec m (s.chansOf t) s hd hc
  exact ⟨hdead, hsubs, (sendAll_frame m _ s).2, hrecv⟩

/-- no operation other than a publication changes any receive log — in every state, panicking or not -/
theorem C20_emitter_only_publish_changes_logs (s : St) (o : Op) (h : ∀ t m, o ≠ .publish t m) (d : Chan) :
    (step s o).recvOf d = s.recvOf d :=
  step_recvOf_of_ne_publish s o h d

/-- used the way the engine uses it (fresh channels from `Subscribe` only, no `On` at all),
no history of emitter operations ever panics (no double close, no send on a closed channel), whatever the
order of subscribe / publish / unsubscribe / unsubscribe-all / close -/
theorem C20_emitter_subscribe_discipline_never_panics (ops : List Op) (h : ∀ o ∈ ops, o.fresh = true) :
    (run ops).dead = false :=
  (inv_foldl inv_init ops h).alive

/-- … and all its registered channels stay pairwise distinct and open -/
theorem C20_emitter_subscribe_discipline_invariant (ops : List Op) (h : ∀ o ∈ ops, o.fresh = true) :
    Inv (run ops) :=
  inv_foldl inv_init ops h

example : (run [.subscribe "a", .subscribe "a", .publish "a" 1, .unsubscribe "a" 0, .publish "a" 2, .close]).dead = false :=
  C20_emitter_subscribe_discipline_never_panics _ (by decide)

/-- a channel registered under two topics through `On` makes `Close` panic (close of closed channel) -/
theorem C20_emitter_shared_channel_close_panics :
    (run [.newChan, .on "a" 0, .on "b" 0, .close]).dead = true := by decide

/-- … and a channel registered twice under one topic makes `Unsubscribe` panic, while publications to it
are delivered twice -/
theorem C20_emitter_double_registration :
    (run [.newChan, .on "a" 0, .on "a" 0, .publish "a" 7]).recvOf 0 = [7, 7] ∧
    (run [.newChan, .on "a" 0, .on "a" 0, .unsubscribe "a" 0]).dead = true := by decide

/-- a closed channel receives nothing more, whatever happens afterwards -/
theorem C20_emitter_closed_channel_receives_nothing (s : St) (c : Chan) (hi : Inv s) (hc : c ∈ s.closed)
    (ops : List Op) (h : ∀ o ∈ ops, o.fresh = true) :
    (ops.foldl step s).recvOf c = s.recvOf c := by
  induction ops generalizing s with
  | nil => rfl
  | cons o r ih =>
    have hf : o.fresh = true := h o (by simp)
    rw [List.foldl_cons, ih (step s o) (inv_step hi o hf) ((step_frame s o).2 c hc) (fun x hx => h x (by simp [hx]))]
    -- the step itself leaves c's log alone: c is closed, hence not registered
    exact hi.step_recvOf_unregistered o fun t hm => hi.chansOf_open t c hm hc
