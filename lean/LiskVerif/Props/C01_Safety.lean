/-
C01 — Finality safety, proved about the unbounded specification `Model/BFTSpec.lean` of the Lisk-BFT
vote counting (static parameters), and transferred to the windowed transcription `Model/BFT.lean` of
the Go code for chains that fit into the window (`C01_spec_eq_model_within_window`,
`C01_finality_safety_model_partial` at the end of this file). Chains of any length are in
`Props/C01_More.lean` (`C01_model_vs_spec_any_length`).

Reading. A chain is a `List Header`, oldest first, heights `g+1, g+2, …`; a block is the chain that
ends in it, "ancestor" is list prefix; a tree is a list of chains. Hypotheses of the safety theorem:
(H-static) one `Cfg` (validators, weights, `τ_pv = ⌊2W/3⌋+1`, `τ_pc`) for the whole tree, all
validators active from genesis; (H-thr) `byzWeight + W < τ_pc + τ_pv`; `0 < τ_pc`; every chain is chain-valid;
every validator outside `byz` is honest in the tree. The statement with `3·byzWeight < W` in place of (H-thr) is
refuted (`C01_finality_safety_Statement_false`) and proved for `τ_pc ≥ ⌊2W/3⌋+1` (`C01_safety_standard_threshold`).

The lemma proofs of the safety argument are in `Lemmas/BFTSafety.lean` (newest-first chains, suffix order); this
file states them for the record, and converts the result to oldest-first chains and prefixes. About a third of the
file is the example tree `C01exTree` (three branches, a double forger), on which every lemma and the theorem are
instantiated. The transfer to the model rests on `Lemmas/BFTRefine.lean` (`setParams_init_inv`,
`contradicting_mkInfos`) and `Lemmas/BFTDyn.lean` (`runChain_refines`); within the window the model's chain rules are
the specification's (`C01_model_chain_rules_eq_spec`).
-/
import LiskVerif.Lemmas.BFTDyn
import LiskVerif.Props.C01

open LiskVerif LiskVerif.BFT LiskVerif.BFTSpec

/-! ### definitions of the statement -/

/-- Chain `l` (oldest first) is chain-valid for the BFT rules: consecutive heights from `g+1`, the
`maxHeightPrevoted` field equals the value computed for the parent view, and the header does not
contradict the most recent header of its generator on the chain (regenerated
`AreDistinctHeadersContradicting`) — what `verifyBlock` enforces for every generator. -/
def C01ChainValid (cfg : Cfg) (l : List Header) : Prop :=
  chainValid Gen.areDistinctHeadersContradicting cfg l.reverse = true

instance (cfg : Cfg) (l : List Header) : Decidable (C01ChainValid cfg l) := by
  unfold C01ChainValid; infer_instance

/-- Validator `a` is honest in the tree `T`: no two distinct blocks of `T` generated by `a` carry
contradicting headers. (Blocks are non-empty prefixes `B ++ [x]` of the chains of `T`.) This is
implied by the order-based reading of DESIGN.md, see `C01_ordered_honest_is_honest`. -/
def C01Honest (T : List (List Header)) (a : Bytes) : Prop :=
  ∀ l₁ ∈ T, ∀ l₂ ∈ T, ∀ (B₁ B₂ : List Header) (x₁ x₂ : Header),
    B₁ ++ [x₁] <+: l₁ → B₂ ++ [x₂] <+: l₂ → x₁.gen = a → x₂.gen = a → B₁ ++ [x₁] ≠ B₂ ++ [x₂] →
    Gen.areDistinctHeadersContradicting (BFTSpec.toHdr x₁) (BFTSpec.toHdr x₂) = false

/-- The reading of DESIGN.md: the blocks of `a` in `T` carry a total "signed-before" relation that
extends the prefix order and makes every later header a legitimate successor (C07) of every earlier
one. -/
def C01HonestOrdered (T : List (List Header)) (a : Bytes) : Prop :=
  ∃ before : List Header → List Header → Prop,
    ∀ l₁ ∈ T, ∀ l₂ ∈ T, ∀ (B₁ B₂ : List Header) (x₁ x₂ : Header),
      B₁ ++ [x₁] <+: l₁ → B₂ ++ [x₂] <+: l₂ → x₁.gen = a → x₂.gen = a →
      (B₁ ++ [x₁] ≠ B₂ ++ [x₂] → before (B₁ ++ [x₁]) (B₂ ++ [x₂]) ∨ before (B₂ ++ [x₂]) (B₁ ++ [x₁])) ∧
      (B₁ ++ [x₁] <+: B₂ ++ [x₂] → B₁ ++ [x₁] ≠ B₂ ++ [x₂] → before (B₁ ++ [x₁]) (B₂ ++ [x₂])) ∧
      (before (B₁ ++ [x₁]) (B₂ ++ [x₂]) → C07LegitSucc (BFTSpec.toHdr x₁) (BFTSpec.toHdr x₂))

/-- total weight of the validators whose address is in `byz` -/
def C01byzWeight (cfg : Cfg) (byz : List Bytes) : Nat :=
  wsumB cfg.validators (fun a => decide (a ∈ byz))

/-- the finalized prefix of chain `l`: the first `maxHeightPrecommitted − g` blocks -/
def C01finalizedPrefix (cfg : Cfg) (l : List Header) : List Header :=
  l.take ((specHeights cfg l).2 - cfg.genesis)

/-- The property as stated (“less than one third Byzantine weight ⇒ finalized prefixes are
comparable”) for every admissible precommit threshold. It is FALSE (`C01_finality_safety_Statement_false`: the
two chains of `C01_counterexample_low_threshold`, Props/C01.lean, with the `maxHeightPrevoted` fields chain validity
demands, finalize conflicting blocks with `τ_pc = ⌊W/3⌋+1`). What is proved below is the
statement with (H-thr) `byzWeight + W < τ_pc + τ_pv` in place of `3·byzWeight < W`
(`C01_finality_safety_partial`), and the statement itself for `τ_pc ≥ ⌊2W/3⌋+1`
(`C01_safety_standard_threshold`). -/
def C01_finality_safety_Statement : Prop :=
  ∀ (cfg : Cfg) (T : List (List Header)) (byz : List Bytes),
    totalWeight cfg / 3 + 1 ≤ cfg.precommitThreshold → cfg.precommitThreshold ≤ totalWeight cfg →
    3 * C01byzWeight cfg byz < totalWeight cfg →
    (∀ l ∈ T, C01ChainValid cfg l) →
    (∀ v ∈ cfg.validators, v.address ∉ byz → C01Honest T v.address) →
    ∀ l₁ ∈ T, ∀ l₂ ∈ T,
      C01finalizedPrefix cfg l₁ <+: C01finalizedPrefix cfg l₂ ∨
      C01finalizedPrefix cfg l₂ <+: C01finalizedPrefix cfg l₁

/-! ### quorum intersection -/

/-- Two sets of validators (given by predicates on addresses, so every validator counts once) of
weight `≥ τ₁` and `≥ τ₂` inside a validator list of total weight `W` share validators of weight
`≥ τ₁ + τ₂ − W`; hence if `w(byz) + W < τ₁ + τ₂` they share a validator outside `byz`. -/
theorem C01_quorum_intersection (vs : List Validator) (P Q byz : Bytes → Bool) (τ₁ τ₂ : Nat)
    (h1 : τ₁ ≤ wsumB vs P) (h2 : τ₂ ≤ wsumB vs Q) :
    τ₁ + τ₂ ≤ (vs.map (·.weight)).sum + wsumB vs (fun a => P a && Q a) ∧
    (wsumB vs byz + (vs.map (·.weight)).sum < τ₁ + τ₂ →
      ∃ v ∈ vs, P v.address = true ∧ Q v.address = true ∧ byz v.address = false) := by
  refine ⟨?_, fun hthr => quorum_honest vs P Q byz τ₁ τ₂ h1 h2 hthr⟩
  have := wsumB_inter vs P Q
  omega

/-! ### a validator votes at most once per height along a chain -/

/-- Along one chain-valid chain (newest first: `x :: p`), a validator's headers imply at most one
prevote and at most one precommit for a given height `h`: if `x` votes for `h`, no earlier block
`e :: pe` of the chain by the same generator does. -/
theorem C01_vote_once (cfg : Cfg) (x : Header) (p : List Header) (h : Nat)
    (hv : Valid cfg (x :: p)) (e : Header) (pe : List Header) (hs : e :: pe <:+ p) (hg : e.gen = x.gen) :
    ¬ (prevotes cfg x h = true ∧ prevotes cfg e h = true) ∧
    ¬ (precommits cfg p x h = true ∧ precommits cfg pe e h = true) :=
  ⟨fun ⟨h1, h2⟩ => prevote_once cfg hv h1 hs hg h2,
   fun ⟨h1, h2⟩ => precommit_once cfg h1 hs hg h2 (precommit_range cfg
     (valid_suffix cfg hv ((List.suffix_cons e pe).trans (hs.trans (List.suffix_cons x p)))) h2)⟩

/-- Consequently the prevote / precommit weight of a height in a view is bounded by the total weight
of the DISTINCT validators that voted for it along the chain. -/
theorem C01_quorum_weight_distinct (cfg : Cfg) (r : List Header) (h : Nat) (hv : Valid cfg r)
    (P Q : Bytes → Bool)
    (hP : ∀ x p, x :: p <:+ r → prevotes cfg x h = true → P x.gen = true)
    (hQ : ∀ x p, x :: p <:+ r → precommits cfg p x h = true → Q x.gen = true) :
    pvW cfg r h ≤ wsumB cfg.validators P ∧ pcW cfg r h ≤ wsumB cfg.validators Q :=
  ⟨pvW_le_wsum cfg hv h P hP, pcW_le_wsum cfg hv h Q hQ⟩

/-! ### a precommit presupposes a prevote quorum -/

/-- Header `x` on top of chain `p` adds precommit weight for `h` only if `x` is voting
(`mhg < height`), `h` had prevote quorum in the parent view, `h` is above `heightNotPrevoted`, above
the generator's `largestHeightPrecommit` and above genesis; on a valid chain the parent view's
`maxHeightPrevoted` — which chain validity makes the `maxHeightPrevoted` field of `x` — is then `≥ h`. -/
theorem C01_precommit_needs_prevote_quorum (cfg : Cfg) (x : Header) (p : List Header) (h : Nat)
    (hinc : pcW cfg p h < pcW cfg (x :: p) h) :
    x.mhg < x.height ∧ prevoteThreshold cfg ≤ pvW cfg p h ∧ hnp p x < h ∧ lhp cfg p x.gen < h ∧
      cfg.genesis < h ∧ (Valid cfg (x :: p) → h ≤ x.mhp) := by
  rw [pcW_cons] at hinc
  have hx : precommits cfg p x h = true := by
    by_cases hx : precommits cfg p x h = true
    · exact hx
    · rw [if_neg hx] at hinc; omega
  have pcs := (precommits_iff cfg p x h).mp hx
  refine ⟨pcs.1, pcs.2.2.2.2, pcs.2.2.1, pcs.2.2.2.1, pcs.2.1, ?_⟩
  intro hv
  have hvc := (valid_cons cfg x p).mp hv
  rw [hvc.2.1]
  exact mhp_ge cfg hvc.2.2.2 pcs.2.2.2.2

/-! ### Lemma A and Lemma B -/

/-- Lemma A. Let `a` be honest in the tree `Tr` (newest-first chains), `x :: p` a block of `a`, and
`e :: q` another block of `a` that is voting (`mhg < height`), is NOT on the chain `p`, and of which
`x` is a legitimate successor as far as `e.height ≤ x.mhg`. Then `e.height ≤ heightNotPrevoted(x)`. -/
theorem C01_lemmaA_earlier_offchain_below_hnp (Tr : List (List Header)) (a : Bytes)
    (hon : HonestR Tr a) (x : Header) (p : List Header) (hX : InTree Tr (x :: p)) (hxg : x.gen = a)
    (e : Header) (q : List Header) (hE : InTree Tr (e :: q)) (heg : e.gen = a)
    (hoff : ¬ (e :: q <:+ p)) (hvote : e.mhg < e.height) (hbefore : e.height ≤ x.mhg) :
    e.height ≤ hnp p x := by
  have := hnpLoop_ge hon (hX.suffix (List.suffix_cons x p)) hE heg hoff hvote (p.length + 1) x.mhg hbefore
  unfold hnp; rw [hxg]; exact this

/-- Lemma B. If `y` is a legitimate successor of `x` (signed later by an honest validator), then
`y.mhg ≥ x.height`, `y.mhp ≥ x.mhp`, and every height prevoted by `y` is above `x.height`. -/
theorem C01_lemmaB_later_above (cfg : Cfg) (x y : Header)
    (hl : C07LegitSucc (BFTSpec.toHdr x) (BFTSpec.toHdr y)) :
    x.height ≤ y.mhg ∧ x.mhp ≤ y.mhp ∧ ∀ h, prevotes cfg y h = true → x.height < h := by
  unfold C07LegitSucc BFTSpec.toHdr at hl
  simp only at hl
  refine ⟨hl.1, hl.2.2.1, fun h hy => ?_⟩
  have := (prevotes_iff cfg y h).mp hy
  omega

/-! ### the core and the safety theorem -/

/-- Core. In a tree `Tr` (newest-first chains) of chain-valid chains with (H-thr) and all validators
outside `byz` honest: if block `b` has precommit quorum in the view of a block `t₀` of the tree,
then no height `h ≥ height b` has prevote quorum in the view of a block `t₁` of the tree that is not
a descendant-or-self of `b` — i.e. no block conflicting with `b` at or above its height ever reaches
prevote quorum. -/
theorem C01_no_conflicting_prevote_quorum (cfg : Cfg) (Tr : List (List Header)) (byz : Bytes → Bool)
    (hval : ∀ t ∈ Tr, Valid cfg t)
    (hthr : wsumB cfg.validators byz + totalWeight cfg < cfg.precommitThreshold + prevoteThreshold cfg)
    (hhon : ∀ v ∈ cfg.validators, byz v.address = false → HonestR Tr v.address)
    (t₀ b : List Header) (ht₀ : InTree Tr t₀) (hb : b <:+ t₀)
    (hq : cfg.precommitThreshold ≤ pcW cfg t₀ (cfg.genesis + b.length))
    (t₁ : List Header) (ht₁ : InTree Tr t₁) (h : Nat) (hh : cfg.genesis + b.length ≤ h)
    (hpv : prevoteThreshold cfg ≤ pvW cfg t₁ h) : b <:+ t₁ :=
  (safetyRules cfg Tr byz hval hthr hhon).core ht₀ hb hq t₁.length t₁ rfl ht₁ h hh hpv

/-- a block of the tree of the reversed chains is a prefix of a chain of `T` -/
theorem inTree_prefix {T : List (List Header)} {p : List Header}
    (h : InTree (T.map List.reverse) p) : ∃ l ∈ T, p.reverse <+: l := by
  obtain ⟨t, ht, hs⟩ := h
  obtain ⟨l, hl, rfl⟩ := List.mem_map.mp ht
  exact ⟨l, hl, List.reverse_suffix.mp (by simpa using hs)⟩

theorem honestR_of_honest (T : List (List Header)) (a : Bytes) (h : C01Honest T a) :
    HonestR (T.map List.reverse) a := by
  intro x p y q hx hy hxg hyg hne
  obtain ⟨l1, hl1, hp1⟩ := inTree_prefix hx
  obtain ⟨l2, hl2, hp2⟩ := inTree_prefix hy
  rw [List.reverse_cons] at hp1 hp2
  refine h l1 hl1 l2 hl2 p.reverse q.reverse x y hp1 hp2 hxg hyg fun heq => hne ?_
  rw [← List.reverse_cons, ← List.reverse_cons] at heq
  exact List.reverse_inj.mp heq

/-- validators outside the list `byz`, honest in `T`, are honest in the tree of the reversed chains -/
theorem honestR_of_not_byz {T : List (List Header)} {vs : List Validator} {byz : List Bytes}
    (h : ∀ v ∈ vs, v.address ∉ byz → C01Honest T v.address) :
    ∀ v ∈ vs, (fun a => decide (a ∈ byz)) v.address = false → HonestR (T.map List.reverse) v.address :=
  fun v hv hb => honestR_of_honest T _ (h v hv (by simpa using hb))

/-- From the newest-first chains of the safety argument to the oldest-first chains of the statements: if the
blocks at height `N t` of the reversed chains of `T` are comparable, the first `N − g` blocks of the chains are
prefix-comparable. -/
theorem C01take_comparable {T : List (List Header)} {g : Nat} {N : List Header → Nat}
    (hfin : ∀ {t1 t2 b1 b2 : List Header}, t1 ∈ T.map List.reverse → t2 ∈ T.map List.reverse →
      b1 <:+ t1 → g + b1.length = N t1 → b2 <:+ t2 → g + b2.length = N t2 → b1 <:+ b2 ∨ b2 <:+ b1)
    {l₁ l₂ : List Header} (h₁ : l₁ ∈ T) (h₂ : l₂ ∈ T)
    (hb₁ : g ≤ N l₁.reverse ∧ N l₁.reverse ≤ g + l₁.reverse.length)
    (hb₂ : g ≤ N l₂.reverse ∧ N l₂.reverse ≤ g + l₂.reverse.length) :
    l₁.take (N l₁.reverse - g) <+: l₂.take (N l₂.reverse - g) ∨
      l₂.take (N l₂.reverse - g) <+: l₁.take (N l₁.reverse - g) := by
  have key : ∀ l : List Header, g ≤ N l.reverse ∧ N l.reverse ≤ g + l.reverse.length →
      (l.take (N l.reverse - g)).reverse <:+ l.reverse ∧
        g + (l.take (N l.reverse - g)).reverse.length = N l.reverse := fun l hb => by
    refine ⟨List.reverse_suffix.mpr (List.take_prefix _ _), ?_⟩
    simp only [List.length_reverse, List.length_take] at hb ⊢
    omega
  exact (hfin (List.mem_map.mpr ⟨l₁, h₁, rfl⟩) (List.mem_map.mpr ⟨l₂, h₂, rfl⟩) (key l₁ hb₁).1 (key l₁ hb₁).2
    (key l₂ hb₂).1 (key l₂ hb₂).2).imp List.reverse_suffix.mp List.reverse_suffix.mp

/-- The order-based notion of honesty of DESIGN.md implies the one used here. -/
theorem C01_ordered_honest_is_honest (T : List (List Header)) (a : Bytes) (h : C01HonestOrdered T a) :
    C01Honest T a := by
  obtain ⟨before, hb⟩ := h
  intro l₁ hl₁ l₂ hl₂ B₁ B₂ x₁ x₂ hp₁ hp₂ hg₁ hg₂ hne
  have h12 := hb l₁ hl₁ l₂ hl₂ B₁ B₂ x₁ x₂ hp₁ hp₂ hg₁ hg₂
  have h21 := hb l₂ hl₂ l₁ hl₁ B₂ B₁ x₂ x₁ hp₂ hp₁ hg₂ hg₁
  apply (C07_spec (BFTSpec.toHdr x₁) (BFTSpec.toHdr x₂)
    (by rw [toHdr_gen, toHdr_gen, hg₁, hg₂])).mpr
  rcases h12.1 hne with hbf | hbf
  · exact Or.inl (h12.2.2 hbf)
  · exact Or.inr (h21.2.2 hbf)

/-- **Finality safety** under (H-static) and (H-thr): for every tree `T` of chain-valid chains from
a common genesis, `0 < τ_pc`, every set `byz` with `byzWeight + W < τ_pc + τ_pv`, all other validators honest
in `T`, the finalized prefixes of any two chains of `T` are prefix-comparable. -/
theorem C01_finality_safety_partial (cfg : Cfg) (T : List (List Header)) (byz : List Bytes)
    (hpc : 0 < cfg.precommitThreshold)
    (hthr : C01byzWeight cfg byz + totalWeight cfg < cfg.precommitThreshold + prevoteThreshold cfg)
    (hvalid : ∀ l ∈ T, C01ChainValid cfg l)
    (hhon : ∀ v ∈ cfg.validators, v.address ∉ byz → C01Honest T v.address)
    (l₁ l₂ : List Header) (h₁ : l₁ ∈ T) (h₂ : l₂ ∈ T) :
    C01finalizedPrefix cfg l₁ <+: C01finalizedPrefix cfg l₂ ∨
    C01finalizedPrefix cfg l₂ <+: C01finalizedPrefix cfg l₁ := by
  exact C01take_comparable (N := mhpc cfg)
    (finality_safety_rev cfg (T.map List.reverse) (fun a => decide (a ∈ byz)) (List.forall_mem_map.mpr hvalid) hpc hthr
      (honestR_of_not_byz hhon))
    h₁ h₂ ⟨mhpc_ge_genesis _ _, mhpc_le _ _⟩ ⟨mhpc_ge_genesis _ _, mhpc_le _ _⟩

/-- The property as stated, for the standard precommit threshold: if `τ_pc ≥ ⌊2W/3⌋+1`, Byzantine
weight below one third suffices. -/
theorem C01_safety_standard_threshold (cfg : Cfg) (T : List (List Header)) (byz : List Bytes)
    (hstd : totalWeight cfg * 2 / 3 + 1 ≤ cfg.precommitThreshold)
    (hbyz : 3 * C01byzWeight cfg byz < totalWeight cfg)
    (hvalid : ∀ l ∈ T, C01ChainValid cfg l)
    (hhon : ∀ v ∈ cfg.validators, v.address ∉ byz → C01Honest T v.address)
    (l₁ l₂ : List Header) (h₁ : l₁ ∈ T) (h₂ : l₂ ∈ T) :
    C01finalizedPrefix cfg l₁ <+: C01finalizedPrefix cfg l₂ ∨
    C01finalizedPrefix cfg l₂ <+: C01finalizedPrefix cfg l₁ := by
  apply C01_finality_safety_partial cfg T byz (by omega) ?_ hvalid hhon l₁ l₂ h₁ h₂
  unfold prevoteThreshold
  omega

/-! ### non-vacuity: a 3-branch tree with a Byzantine double forger in which blocks are finalized -/

def C01prefixes (l : List Header) : List (List Header) := (List.range (l.length + 1)).map l.take

theorem C01mem_prefixes {B l : List Header} (h : B <+: l) : B ∈ C01prefixes l := by
  unfold C01prefixes
  refine List.mem_map.mpr ⟨B.length, List.mem_range.mpr (by have := h.length_le; omega), ?_⟩
  exact (List.prefix_iff_eq_take.mp h).symm

theorem C01prefixes_prefix {B l : List Header} (h : B ∈ C01prefixes l) : B <+: l := by
  unfold C01prefixes at h
  obtain ⟨k, _, rfl⟩ := List.mem_map.mp h
  exact List.take_prefix _ _

/-- executable check of `C01Honest` -/
def C01honestB (T : List (List Header)) (a : Bytes) : Bool :=
  let blocks := T.flatMap C01prefixes
  blocks.all fun B1 => blocks.all fun B2 =>
    match B1.getLast?, B2.getLast? with
    | some x1, some x2 => !(decide (x1.gen = a) && decide (x2.gen = a) && decide (B1 ≠ B2)) ||
        !(Gen.areDistinctHeadersContradicting (BFTSpec.toHdr x1) (BFTSpec.toHdr x2))
    | _, _ => true

theorem C01honestB_sound (T : List (List Header)) (a : Bytes) (h : C01honestB T a = true) :
    C01Honest T a := by
  intro l₁ hl₁ l₂ hl₂ B₁ B₂ x₁ x₂ hp₁ hp₂ hg₁ hg₂ hne
  unfold C01honestB at h
  simp only [List.all_eq_true] at h
  have m1 : B₁ ++ [x₁] ∈ T.flatMap C01prefixes := List.mem_flatMap.mpr ⟨l₁, hl₁, C01mem_prefixes hp₁⟩
  have m2 : B₂ ++ [x₂] ∈ T.flatMap C01prefixes := List.mem_flatMap.mpr ⟨l₂, hl₂, C01mem_prefixes hp₂⟩
  have := h _ m1 _ m2
  simp [hg₁, hg₂, hne] at this
  exact this

/-- … and complete: when the check fails there are two distinct blocks of `a` in the tree with contradicting headers -/
theorem C01honestB_false (T : List (List Header)) (a : Bytes) (hb' : C01honestB T a = false) :
    ∃ l₁ ∈ T, ∃ l₂ ∈ T, ∃ (B₁ B₂ : List Header) (x₁ x₂ : Header),
      B₁ ++ [x₁] <+: l₁ ∧ B₂ ++ [x₂] <+: l₂ ∧ x₁.gen = a ∧ x₂.gen = a ∧ B₁ ++ [x₁] ≠ B₂ ++ [x₂] ∧
      Gen.areDistinctHeadersContradicting (BFTSpec.toHdr x₁) (BFTSpec.toHdr x₂) = true := by
  unfold C01honestB at hb'
  simp only [List.all_eq_false] at hb'
  obtain ⟨B1, hB1, hb'⟩ := hb'
  simp only [List.all_eq_true, Classical.not_forall] at hb'
  obtain ⟨B2, hB2, hb'⟩ := hb'
  obtain ⟨l₁, hl₁, hm₁⟩ := List.mem_flatMap.mp hB1
  obtain ⟨l₂, hl₂, hm₂⟩ := List.mem_flatMap.mp hB2
  cases h1 : B1.getLast? with
  | none => simp [h1] at hb'
  | some x1 =>
    cases h2 : B2.getLast? with
    | none => simp [h1, h2] at hb'
    | some x2 =>
      simp only [h1, h2] at hb'
      obtain ⟨B₁, rfl⟩ : ∃ B₁, B1 = B₁ ++ [x1] := by
        rw [List.getLast?_eq_some_iff] at h1; exact h1
      obtain ⟨B₂, rfl⟩ : ∃ B₂, B2 = B₂ ++ [x2] := by
        rw [List.getLast?_eq_some_iff] at h2; exact h2
      simp only [Bool.or_eq_true, Bool.not_eq_true', Bool.and_eq_false_iff, decide_eq_false_iff_not,
        not_or, Bool.not_eq_false, Classical.not_not] at hb'
      exact ⟨l₁, hl₁, l₂, hl₂, B₁, B₂, x1, x2, C01prefixes_prefix hm₁, C01prefixes_prefix hm₂, hb'.1.1.1,
        hb'.1.1.2, hb'.1.2, hb'.2⟩

/-- 4 validators a, b, c, z of weight 1, `τ_pv = 3`, `τ_pc = 3`, genesis height 0 -/
def C01exCfg : Cfg :=
  { genesis := 0, validators := [⟨[0x0a], 1⟩, ⟨[0x0b], 1⟩, ⟨[0x0c], 1⟩, ⟨[0x0e], 1⟩], precommitThreshold := 3 }

/-- main branch: round robin a b c z …; `c` reports `mhg = 5` at height 7 because it generated the
block at height 5 of `C01exBranch2` before -/
def C01exBranch1 : List Header :=
  [⟨1, [0x0a], 0, 0, none⟩, ⟨2, [0x0b], 0, 0, none⟩, ⟨3, [0x0c], 0, 0, none⟩, ⟨4, [0x0e], 0, 1, none⟩,
   ⟨5, [0x0a], 1, 2, none⟩, ⟨6, [0x0b], 2, 3, none⟩, ⟨7, [0x0c], 5, 4, none⟩, ⟨8, [0x0e], 4, 4, none⟩,
   ⟨9, [0x0a], 5, 6, none⟩, ⟨10, [0x0b], 6, 7, none⟩]

/-- `z` forges a second block at height 4 (different `mhg`), `c` extends it -/
def C01exBranch2 : List Header :=
  [⟨1, [0x0a], 0, 0, none⟩, ⟨2, [0x0b], 0, 0, none⟩, ⟨3, [0x0c], 0, 0, none⟩, ⟨4, [0x0e], 3, 1, none⟩,
   ⟨5, [0x0c], 3, 1, none⟩]

/-- `z` forges a second block at height 8 -/
def C01exBranch3 : List Header :=
  [⟨1, [0x0a], 0, 0, none⟩, ⟨2, [0x0b], 0, 0, none⟩, ⟨3, [0x0c], 0, 0, none⟩, ⟨4, [0x0e], 0, 1, none⟩,
   ⟨5, [0x0a], 1, 2, none⟩, ⟨6, [0x0b], 2, 3, none⟩, ⟨7, [0x0c], 5, 4, none⟩, ⟨8, [0x0e], 7, 4, none⟩]

def C01exTree : List (List Header) := [C01exBranch1, C01exBranch2, C01exBranch3]

/-- the executable honesty check on the example tree: `a`, `b`, `c` pass, the double forger `z` does not -/
theorem C01exTree_honestB :
    (∀ a ∈ [[0x0a], [0x0b], [0x0c]], C01honestB C01exTree a = true) ∧ C01honestB C01exTree [0x0e] = false := by
  decide +kernel

theorem C01exTree_honest (v : Validator) (hv : v ∈ C01exCfg.validators) (hn : v.address ∉ [[0x0e]]) :
    C01Honest C01exTree v.address := by
  apply C01honestB_sound
  apply C01exTree_honestB.1
  simp only [C01exCfg, List.mem_cons, List.not_mem_nil, or_false] at hv
  rcases hv with rfl | rfl | rfl | rfl <;> simp at hn ⊢

/-- the hypotheses of `C01_finality_safety_partial` hold for the example tree with `byz = {z}` … -/
theorem C01_example_hypotheses :
    0 < C01exCfg.precommitThreshold ∧
    C01byzWeight C01exCfg [[0x0e]] + totalWeight C01exCfg <
      C01exCfg.precommitThreshold + prevoteThreshold C01exCfg ∧
    (∀ l ∈ C01exTree, C01ChainValid C01exCfg l) ∧
    (∀ v ∈ C01exCfg.validators, v.address ∉ [[0x0e]] → C01Honest C01exTree v.address) := by
  exact ⟨by decide, by decide +kernel, by decide +kernel, C01exTree_honest⟩

/-- … `z` really is a double forger (the honesty check fails for it: two of its blocks contradict), blocks ARE finalized
(4 on the main branch, 1 on the third), and the windowed model of the Go code computes the same
heights as the specification on all three branches. -/
theorem C01_example_finalizes :
    C01honestB C01exTree [0x0e] = false ∧
    C01exTree.map (specHeights C01exCfg) = [(8, 4), (1, 0), (4, 1)] ∧
    (C01exTree.map fun l => (C01finalizedPrefix C01exCfg l).length) = [4, 0, 1] ∧
    (C01exTree.map fun l =>
      ((match setParams (initGenesis 4 0) 3 3 C01exCfg.validators with
        | .ok s => some s | .error _ => none).bind fun s => C01runChain s l).map
          fun (s : State) => (s.mhp, s.mhpc)) = [some (8, 4), some (1, 0), some (4, 1)] :=
  ⟨C01exTree_honestB.2, by decide +kernel⟩

example : C01finalizedPrefix C01exCfg C01exBranch3 <+: C01finalizedPrefix C01exCfg C01exBranch1 ∨
    C01finalizedPrefix C01exCfg C01exBranch1 <+: C01finalizedPrefix C01exCfg C01exBranch3 :=
  C01_finality_safety_partial C01exCfg C01exTree [[0x0e]] C01_example_hypotheses.1
    C01_example_hypotheses.2.1 C01_example_hypotheses.2.2.1 C01_example_hypotheses.2.2.2
    _ _ (by decide) (by decide)

/-- an instance of `C01_quorum_intersection` -/
example : ∃ v ∈ C01exCfg.validators, (fun a => a != [0x0a]) v.address = true ∧
    (fun a => a != [0x0b]) v.address = true ∧ (fun a => a == [0x0e]) v.address = false :=
  (C01_quorum_intersection C01exCfg.validators (fun a => a != [0x0a]) (fun a => a != [0x0b])
    (fun a => a == [0x0e]) 3 3 (by decide) (by decide)).2 (by decide)

/-! ### the specification on the chains of the low-threshold counterexample (Props/C01.lean) -/

/-- the witness configuration of `C01witnessInit`: `τ_pc = 2` -/
def C01witnessCfg : Cfg :=
  { genesis := 0, validators := [⟨[0x0a], 1⟩, ⟨[0x0b], 1⟩, ⟨[0x0c], 1⟩, ⟨[0x0e], 1⟩], precommitThreshold := 2 }

/-- The specification agrees with the windowed model (`C01_counterexample_view_A/B`) on the two
chains of the counterexample; there (H-thr) fails: `1 + 4 ≥ 2 + 3`. -/
theorem C01_spec_on_counterexample :
    specHeights C01witnessCfg C01chainA = (3, 1) ∧ specHeights C01witnessCfg C01chainB = (6, 4) ∧
    ¬ (C01byzWeight C01witnessCfg [[0x0e]] + totalWeight C01witnessCfg <
        C01witnessCfg.precommitThreshold + prevoteThreshold C01witnessCfg) := by
  decide +kernel

/-! ### the property as stated is false (chain-valid counterexample at the specification level) -/

/-- chain A of the counterexample with the `maxHeightPrevoted` fields that chain validity demands -/
def C01specChainA : List Header :=
  [⟨1, [0x0a], 0, 0, none⟩, ⟨2, [0x0e], 0, 0, none⟩, ⟨3, [0x0b], 0, 0, none⟩,
   ⟨4, [0x0e], 2, 1, none⟩, ⟨5, [0x0a], 1, 1, none⟩]

def C01specChainB : List Header :=
  [⟨1, [0x0c], 0, 0, none⟩, ⟨2, [0x0e], 0, 0, none⟩, ⟨3, [0x0c], 1, 0, none⟩,
   ⟨4, [0x0e], 2, 0, none⟩, ⟨5, [0x0b], 3, 0, none⟩, ⟨6, [0x0c], 3, 0, none⟩,
   ⟨7, [0x0e], 4, 4, none⟩, ⟨8, [0x0b], 5, 5, none⟩]

/-- With `τ_pc = ⌊W/3⌋+1 = 2` (accepted by `SetBFTParameters`), Byzantine weight 1 of 4, two
chain-valid chains and honest a, b, c: chain A finalizes `[a]`, chain B finalizes `[c, z, c, z]`. -/
theorem C01_finality_safety_Statement_false : ¬ C01_finality_safety_Statement := by
  intro h
  have hb : ∀ v ∈ C01witnessCfg.validators, v.address ∉ [[0x0e]] →
      C01honestB [C01specChainA, C01specChainB] v.address = true := by decide +kernel
  have := h C01witnessCfg [C01specChainA, C01specChainB] [[0x0e]] (by decide +kernel) (by decide +kernel)
    (by decide +kernel) (by decide +kernel) (fun v hv hn => C01honestB_sound _ _ (hb v hv hn))
    C01specChainA (by simp) C01specChainB (by simp)
  revert this
  decide +kernel

/-! ### further non-vacuity instances on the example tree -/

/-- the corollary applies to the example (`τ_pc = 3 = ⌊2·4/3⌋+1`, `3·1 < 4`) -/
example : C01finalizedPrefix C01exCfg C01exBranch2 <+: C01finalizedPrefix C01exCfg C01exBranch1 ∨
    C01finalizedPrefix C01exCfg C01exBranch1 <+: C01finalizedPrefix C01exCfg C01exBranch2 :=
  C01_safety_standard_threshold C01exCfg C01exTree [[0x0e]] (by decide) (by decide +kernel)
    C01_example_hypotheses.2.2.1 C01_example_hypotheses.2.2.2 _ _ (by decide) (by decide)

/-- the situation of `C01_precommit_needs_prevote_quorum` and `C01_vote_once`, evaluated: on the chain-valid main
branch the block at height 10 (by `b`) adds precommit weight for height 4, and `b`'s earlier block (height 6) did not
precommit height 4 -/
example :
    pcW C01exCfg (C01exBranch1.take 9).reverse 4 < pcW C01exCfg (C01exBranch1.take 10).reverse 4 ∧
    precommits C01exCfg (C01exBranch1.take 5).reverse ⟨6, [0x0b], 2, 3, none⟩ 4 = false ∧
    C01ChainValid C01exCfg (C01exBranch1.take 10) := by
  decide +kernel

/-- Lemma A instance: `c` is honest in the example tree; its block at height 7 of the main branch
(`mhg = 5`) was signed after its voting block at height 5 of branch 2, which is not on the main
branch; `heightNotPrevoted` of the former is 5. -/
example : hnp (C01exBranch1.take 6).reverse ⟨7, [0x0c], 5, 4, none⟩ = 5 ∧
    (5 : Nat) ≤ hnp (C01exBranch1.take 6).reverse ⟨7, [0x0c], 5, 4, none⟩ := by
  refine ⟨by decide +kernel, ?_⟩
  have hc : C01Honest C01exTree [0x0c] :=
    C01_example_hypotheses.2.2.2 ⟨[0x0c], 1⟩ (by decide) (by decide)
  exact C01_lemmaA_earlier_offchain_below_hnp (C01exTree.map List.reverse) [0x0c]
    (honestR_of_honest _ _ hc) ⟨7, [0x0c], 5, 4, none⟩ (C01exBranch1.take 6).reverse
    ⟨C01exBranch1.reverse, by decide, by decide +kernel⟩ rfl
    ⟨5, [0x0c], 3, 1, none⟩ (C01exBranch2.take 4).reverse
    ⟨C01exBranch2.reverse, by decide, by decide +kernel⟩ rfl (by decide +kernel) (by decide) (by decide)

/-! ### the windowed model of the Go code equals the specification within the window -/

/-- the configuration with the validators in the (sorted) order in which `SetBFTParameters` stores them -/
def C01sortedCfg (g pcThr : Nat) (vs : List Validator) : Cfg :=
  ⟨g, isort (fun a b => addrGE a.address b.address) vs, pcThr⟩

/-- **Refinement.** Start from the state produced by `SetBFTParameters` on the genesis state
(`initGenesis batchSize g`). For every chain `l` (oldest first) with heights `g+1, g+2, …` that fits
into the window (`length ≤ 3·batchSize`, heights below `2^32`), the windowed model
(`Model/BFT.lean`, the transcription of the Go module) accepts every header and ends with exactly the
specification's `maxHeightPrevoted` / `maxHeightPrecommitted`, prevote and precommit weights of every
block, and `largestHeightPrecommit` of every validator. -/
theorem C01_spec_eq_model_within_window (bs g pcThr certThr : Nat) (vs : List Validator) (s0 : State)
    (l : List Header) (hinit : setParams (initGenesis bs g) pcThr certThr vs = .ok s0)
    (hh : HeightsFrom (g + 1) l) (hwin : l.length ≤ 3 * bs) (hu : g + l.length + 1 < 4294967296) :
    ∃ s, C01runChain s0 l = some s ∧
      (s.mhp, s.mhpc) = specHeights (C01sortedCfg g pcThr vs) l ∧
      s.infos = mkInfos (pvW (C01sortedCfg g pcThr vs) l.reverse) (pcW (C01sortedCfg g pcThr vs) l.reverse) l.reverse ∧
      ∀ a, (findActive s.active a).map (·.largestHeightPrecommit) =
        if (findValidator (C01sortedCfg g pcThr vs).validators a).isSome
        then some (lhp (C01sortedCfg g pcThr vs) l.reverse a) else none := by
  obtain ⟨hbs, P, addrs, hst, hI⟩ := setParams_init_inv bs g pcThr certThr vs s0 hinit
  obtain ⟨s, hs, hIs⟩ := runChain_refines (C01sortedCfg g pcThr vs) bs
    hbs P addrs hst l s0 hI hh hwin hu
  refine ⟨s, hs, ?_, hIs.infos, ?_⟩
  · unfold specHeights
    rw [hIs.mhp, hIs.mhpc]
  · intro a
    rw [hIs.active, findActive_map]
    by_cases ha : a ∈ addrs
    · have hv : (findValidator (C01sortedCfg g pcThr vs).validators a).isSome = true := (hst.act a).mp ha
      rw [if_pos ha, if_pos hv]; rfl
    · have : ¬ ((findValidator (C01sortedCfg g pcThr vs).validators a).isSome = true) :=
        fun h => ha ((hst.act a).mpr h)
      rw [if_neg ha, if_neg this]; rfl

/-- Under the same hypotheses, the two chain rules that `C01ChainValid` imposes on the next header `x`
are the ones evaluated on the model state: the model's `maxHeightPrevoted` is the value the
`maxHeightPrevoted` field is compared with, and `BFTVotes.contradicting` on the model state is the
specification's contradiction check. -/
theorem C01_model_chain_rules_eq_spec (bs g pcThr certThr : Nat) (vs : List Validator) (s0 : State)
    (l : List Header) (hinit : setParams (initGenesis bs g) pcThr certThr vs = .ok s0)
    (hh : HeightsFrom (g + 1) l) (hwin : l.length ≤ 3 * bs) (hu : g + l.length + 1 < 4294967296) :
    ∃ s, C01runChain s0 l = some s ∧ s.mhp = mhp (C01sortedCfg g pcThr vs) l.reverse ∧
      ∀ x, contradicting Gen.areDistinctHeadersContradicting s x =
        contradictingSpec Gen.areDistinctHeadersContradicting l.reverse x := by
  obtain ⟨s, h1, h2, h3, _⟩ := C01_spec_eq_model_within_window bs g pcThr certThr vs s0 l hinit hh hwin hu
  refine ⟨s, h1, ?_, fun x => contradicting_mkInfos _ s _ _ _ x h3⟩
  have := congrArg Prod.fst h2
  simpa [specHeights] using this

/-- chain-valid chains have the heights `g+1, g+2, …` -/
theorem C01_valid_heights (cfg : Cfg) (l : List Header) (h : C01ChainValid cfg l) :
    HeightsFrom (cfg.genesis + 1) l := by
  simpa using ((consec_reverse_append l []).mp (by simpa using valid_consec cfg h)).2

/-- **Finality safety of the windowed model** (the transcription of the Go module), for trees whose
chains fit into the window: with the parameters installed by `SetBFTParameters` on the genesis state,
(H-thr), chain-valid chains and honest validators outside `byz`, the finalized prefixes computed by
the model (`maxHeightPrecommitted` of the state after the chain) are prefix-comparable. -/
theorem C01_finality_safety_model_partial (bs g pcThr certThr : Nat) (vs : List Validator) (s0 : State)
    (hinit : setParams (initGenesis bs g) pcThr certThr vs = .ok s0)
    (T : List (List Header)) (byz : List Bytes) (hpc : 0 < pcThr)
    (hthr : C01byzWeight (C01sortedCfg g pcThr vs) byz + totalWeight (C01sortedCfg g pcThr vs) <
      pcThr + prevoteThreshold (C01sortedCfg g pcThr vs))
    (hvalid : ∀ l ∈ T, C01ChainValid (C01sortedCfg g pcThr vs) l)
    (hwin : ∀ l ∈ T, l.length ≤ 3 * bs ∧ g + l.length + 1 < 4294967296)
    (hhon : ∀ v ∈ (C01sortedCfg g pcThr vs).validators, v.address ∉ byz → C01Honest T v.address)
    (l₁ l₂ : List Header) (h₁ : l₁ ∈ T) (h₂ : l₂ ∈ T) :
    ∃ s₁ s₂, C01runChain s0 l₁ = some s₁ ∧ C01runChain s0 l₂ = some s₂ ∧
      (l₁.take (s₁.mhpc - g) <+: l₂.take (s₂.mhpc - g) ∨ l₂.take (s₂.mhpc - g) <+: l₁.take (s₁.mhpc - g)) := by
  obtain ⟨s₁, hr₁, hm₁, _⟩ := C01_spec_eq_model_within_window bs g pcThr certThr vs s0 l₁ hinit
    (C01_valid_heights _ l₁ (hvalid l₁ h₁)) (hwin l₁ h₁).1 (hwin l₁ h₁).2
  obtain ⟨s₂, hr₂, hm₂, _⟩ := C01_spec_eq_model_within_window bs g pcThr certThr vs s0 l₂ hinit
    (C01_valid_heights _ l₂ (hvalid l₂ h₂)) (hwin l₂ h₂).1 (hwin l₂ h₂).2
  refine ⟨s₁, s₂, hr₁, hr₂, ?_⟩
  have := C01_finality_safety_partial (C01sortedCfg g pcThr vs) T byz hpc hthr hvalid hhon l₁ l₂ h₁ h₂
  unfold C01finalizedPrefix at this
  rw [← hm₁, ← hm₂] at this
  exact this

/-- the refinement theorem applies to the example tree (batch size 4, window 12) -/
example : ∃ s, C01runChain (match setParams (initGenesis 4 0) 3 3 C01exCfg.validators with
      | .ok s => s | .error _ => initGenesis 4 0) C01exBranch1 = some s ∧
    (s.mhp, s.mhpc) = specHeights (C01sortedCfg 0 3 C01exCfg.validators) C01exBranch1 := by
  obtain ⟨s, h1, h2, _⟩ := C01_spec_eq_model_within_window 4 0 3 3 C01exCfg.validators
    (match setParams (initGenesis 4 0) 3 3 C01exCfg.validators with
      | .ok s => s | .error _ => initGenesis 4 0) C01exBranch1 (by rfl)
    (C01_valid_heights C01exCfg C01exBranch1 (by decide +kernel)) (by decide) (by decide)
  exact ⟨s, h1, h2⟩

/-- the model-level safety theorem applies to the example tree -/
example : ∃ s₁ s₂,
    C01runChain (match setParams (initGenesis 4 0) 3 3 C01exCfg.validators with
      | .ok s => s | .error _ => initGenesis 4 0) C01exBranch1 = some s₁ ∧
    C01runChain (match setParams (initGenesis 4 0) 3 3 C01exCfg.validators with
      | .ok s => s | .error _ => initGenesis 4 0) C01exBranch3 = some s₂ ∧
    (C01exBranch1.take (s₁.mhpc - 0) <+: C01exBranch3.take (s₂.mhpc - 0) ∨
     C01exBranch3.take (s₂.mhpc - 0) <+: C01exBranch1.take (s₁.mhpc - 0)) := by
  exact C01_finality_safety_model_partial 4 0 3 3 C01exCfg.validators _ (by rfl) C01exTree [[0x0e]]
    (by decide) (by decide +kernel) (by decide +kernel) (by decide +kernel)
    (fun v hv hn => C01exTree_honest v ((mem_isort _ _ _).mp hv) hn) _ _ (by decide) (by decide)
