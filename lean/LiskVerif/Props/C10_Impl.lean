/-
C10 (implementation level): the batched subtree update algorithm of pkg/trie/smt, transcribed in
Model/SMTImpl.lean (`trie.Update` → `updateSubtree` / `updateNode` / `calculateSubTree`, the stored subtree
records), refines the LIP-0039 specification of Model/SMTSpec.lean.

(a) stored records: decode ∘ encode = id and encode is injective on well-formed subtrees; every subtree the
    refinement talks about is well-formed;
(b) structural invariants for ALL batches, databases and lower levels: the expansion phase returns the flattening
    of a layout tree rooted at the node's position, at most `subtreeHeight` deep (hence Kraft equality and the node
    count bound); the bottom-up `calculateSubTree` with its temp-holder queue is the recursive collapse, whose result
    has no sibling pair left to merge; the bottom-up `treeHasher` is the recursive Merkle hash;
(c) refinement: the bottom-up root of an arranged subtree is the specification root (no assumption on the hash);
    one stored level refines the specification if the level below does (no assumption on the hash);
    `C10_impl_update_root_eq_spec`: for every store representing a map `m` and every batch `b` of well-formed
    keys, `update` returns `mapRoot (applyBatch m b)` and a store representing `applyBatch m b`;
    `C10_impl_history_root_eq_spec`: so does every history of batches from the empty store.
    The store is addressed by hashes (records are looked up, deleted and overwritten by subtree root, and a root equal
    to `H []` is read as the empty tree), so (c) for the store needs a hash with outputs of one length and without
    collisions among the FINITE set of inputs hashed for the trees of the maps involved (`GoodHash c X`, `InX`);
    the hypotheses are satisfiable (examples at the end).
-/
import LiskVerif.Lemmas.SMTImplFull
import LiskVerif.Props.C10

open LiskVerif LiskVerif.SMT LiskVerif.SMTImpl

/-! ### (a) the stored records -/

/-- decode (encode t) = t for every well-formed subtree -/
theorem C10_impl_decode_encode (c : Cfg) (t : SubTree) (h : WFSub c t) : newSubTree c t.encode = .ok t :=
  newSubTree_encode c t h

/-- encode is injective on well-formed subtrees -/
theorem C10_impl_encode_injective (c : Cfg) (t₁ t₂ : SubTree) (h₁ : WFSub c t₁) (h₂ : WFSub c t₂)
    (he : t₁.encode = t₂.encode) : t₁ = t₂ := by
  have e₁ := newSubTree_encode c t₁ h₁
  rw [he, newSubTree_encode c t₂ h₂] at e₁
  exact (Except.ok.inj e₁).symm

/-- every tree that arranges entries of the right key / value lengths (the subtrees of a represented store and the
ones `update` writes) is a well-formed stored subtree: at most 256 nodes, one depth byte per node, node data of
the three kinds, root = bottom-up hash -/
theorem C10_impl_arranged_subtree_wellformed {c : Cfg} {S : Nat → List Entry → Bytes → Prop} {d : Nat} {t : LT}
    {es : List Entry} (h : Arr c.H S c.sth d t es) (hs : c.sth ≤ 8)
    (hk : ∀ e ∈ es, e.key.length = c.keyLen ∧ e.value.length = c.hashSize)
    (hH : ∀ x, (c.H x).length = c.hashSize) : WFSub c ⟨t.depths 0, t.hash c.H, t.nodes⟩ :=
  Arr.wfSub h hs hk hH

/-! ### (b) structural invariants, for all batches -/

/-- `updateNode`, whatever the bins, the database and the level below do: the returned nodes / structure are the
flattening of a layout tree rooted at the node's depth and at most `subtreeHeight` deep -/
theorem C10_impl_updateNode_layout (c : Cfg) (lower : DB → List KV → SubTree → Nat → St SubTree) (height rem : Nat)
    (db : DB) (bins : List (List KV)) (cur : Node) (db' : DB) (r : NS) (hrem : rem ≤ c.sth)
    (h : updateNode c lower height rem db bins cur = (db', .ok r)) :
    ∃ t : LT, t.nodes = r.1 ∧ t.depths (c.sth - rem) = r.2 ∧ t.maxDepth (c.sth - rem) ≤ c.sth :=
  updateNode_tree c lower height rem db bins cur db' r hrem h

/-- the loop of `updateSubtree` over a subtree that is the flattening of a layout tree returns the flattening of a
layout tree again, at most `subtreeHeight` deep, with the bin offset advanced by the width of the tree -/
theorem C10_impl_updateNodes_layout (c : Cfg) (lower : DB → List KV → SubTree → Nat → St SubTree) (height : Nat)
    (t : LT) (db : DB) (bins : List (List KV)) (db' : DB) (on : List Node) (os : List Nat) (off' : Nat)
    (ht : t.maxDepth 0 ≤ c.sth)
    (h : updateNodes c lower height t.nodes (t.depths 0) db bins 0 = (db', .ok ((on, os), off'))) :
    ∃ t' : LT, on = t'.nodes ∧ os = t'.depths 0 ∧ t'.maxDepth 0 ≤ c.sth ∧ off' = 2 ^ c.sth := by
  have h' : updateNodes c lower height (t.nodes ++ []) (t.depths 0 ++ []) db bins 0 = (db', .ok ((on, os), off')) := by
    simpa using h
  obtain ⟨t', db1, on', os', e1, e2, hm, hrest⟩ := updateNodes_tree c lower height t 0 [] [] db bins 0 db' on os off' ht h'
  simp [updateNodes] at hrest
  obtain ⟨_, ⟨h1, h2⟩, h3⟩ := hrest
  subst h1 h2
  exact ⟨t', by simpa using e1, by simpa using e2, hm, h3.symm⟩

/-- Kraft equality and node count of a layout: it fills the subtree exactly -/
theorem C10_impl_layout_kraft (t : LT) (s : Nat) (h : t.maxDepth 0 ≤ s) :
    ((t.depths 0).map fun x => 2 ^ (s - x)).sum = 2 ^ s ∧ t.nodes.length ≤ 2 ^ s ∧
      (t.depths 0).length = t.nodes.length ∧ ∀ x ∈ t.depths 0, x ≤ s := by
  refine ⟨by simpa using LT.kraft t 0 s h, by simpa using LT.nodes_le t 0 s h, LT.length_nodes_depths t 0, ?_⟩
  intro x hx
  exact Nat.le_trans (LT.depths_bounds t 0 x hx).2 h

/-- `calculateSubTree` (level by level, with the temp-holder queue) is the recursive collapse -/
theorem C10_impl_calculateSubTree_collapse (H : HashFn) (t : LT) (ht : t.noTemp) :
    calculateSubTree H (t.maxDepth 0) t.nodes (t.depths 0) [] =
      .ok ⟨t.collapse.depths 0, t.collapse.hash H, t.collapse.nodes⟩ := by
  rw [calculateSubTree_tree H t ht, newSubtreeFromData_tree]

/-- the collapsed tree has no sibling pair (empty, empty) / (empty, leaf) / (leaf, empty) left, is not deeper than
the tree, and collapsing again changes nothing -/
theorem C10_impl_collapse_canonical (t : LT) :
    t.collapse.Canon ∧ t.collapse.collapse = t.collapse ∧ ∀ d, t.collapse.maxDepth d ≤ t.maxDepth d :=
  ⟨LT.collapse_canon t, LT.collapse_idem t, LT.collapse_maxDepth t⟩

/-- `treeHasher` (level by level) is the recursive Merkle hash of the layout tree: the key of a record is the Merkle
root of its layout -/
theorem C10_impl_treeHasher_merkle (H : HashFn) (t : LT) :
    newSubtreeFromData H (t.depths 0) t.nodes = .ok ⟨t.depths 0, t.hash H, t.nodes⟩ :=
  newSubtreeFromData_tree H t

/-! ### (c) refinement -/

/-- the bottom-up root computation is the specification root: if a layout tree arranges the entries `es`
(empty tips nothing, leaf tips one entry, stub tips the root of at least two, branches split by the next key bit),
`calculateSubTree` returns a subtree whose root is `SMT.root` of the entries. No assumption on the hash. -/
theorem C10_impl_calculateSubTree_root_eq_spec (H : HashFn) (d : Nat) (t : LT) (es : List Entry)
    (hw : WFE d es) (ht : t.noTemp) (he : Exp H d t es) :
    ∃ st, calculateSubTree H (t.maxDepth 0) t.nodes (t.depths 0) [] = .ok st ∧ st.root = root H d es := by
  refine ⟨_, C10_impl_calculateSubTree_collapse H t ht, ?_⟩
  exact (collapse_exp H d t es hw he).1

/-- one stored level refines the specification if the level below does (`BottomOK`): `updateSubtree` on a subtree
arranging `es` writes and returns the collapsed tree of `applyE es (writes)`, whose root is the specification root.
No assumption on the hash (the store is abstracted by the world `W`). -/
theorem C10_impl_level_refines_spec (c : Cfg) (W : World) (fuel height dB : Nat)
    (hB : BottomOK c W (updateSubtree c fuel) height dB)
    (hs : (c.sth = 8 ∧ height % 8 = 0) ∨ (c.sth = 4 ∧ (height % 8 = 0 ∨ height % 8 = 4)))
    (d : Nat) (T : LT) (es : List Entry) (db : DB) (rt : Bytes) (pre : Bits) (kvs : List KV)
    (hA : Arr c.H (W.S db) c.sth d T es) (hpre : pre.length = height) (hd : d = c.sth + dB)
    (he : WFE d es) (ho : WFE d (kvs.map (opOf height)))
    (hue : ∀ e ∈ es, Under pre e) (huo : ∀ o ∈ kvs.map (opOf height), Under pre o)
    (hev : ∀ e ∈ es, W.EOK e.key e.value) (hov : ∀ o ∈ kvs.map (opOf height), W.OOK o.key o.value)
    (hie : W.IOK d es) (hia : W.IOK d (applyE es (kvs.map (opOf height))))
    (hk : ∀ kv ∈ kvs, height + c.sth ≤ 8 * kv.1.length) (hne : kvs ≠ []) :
    ∃ db' st, updateSubtree c (fuel + 1) db kvs ⟨T.depths 0, rt, T.nodes⟩ height = (db', .ok st) ∧
      st.root = root c.H d (applyE es (kvs.map (opOf height))) ∧ dbGet db' st.root = some st.encode := by
  obtain ⟨db1, T', h, _, _⟩ := updateSubtree_level c W fuel height dB hB hs d T es db rt pre kvs rfl hA hpre hd
    ⟨he, ho, hue, huo, hev, hov, hie, hia⟩ hk hne
  exact ⟨_, _, h, rfl, dbGet_dbSet_self _ _ _⟩

/-- **main refinement.** For every store that represents a map `m` (`Represents`) and every batch `b` of
well-formed keys (key length, values empty = delete or of the hash size), `update` returns the root
`SMT.mapRoot (applyBatch m b)` and a store that represents `applyBatch m b`.
Hash: outputs of one positive length, no collision among the inputs `X`, which must contain the inputs hashed for the
tree of `m` and for the tree of `applyBatch m b` (and the empty string). -/
theorem C10_impl_update_root_eq_spec (c : Cfg) (X : Bytes → Prop) (hs : c.sth = 8 ∨ c.sth = 4) (g : GoodHash c X)
    (hkl : 0 < c.keyLen) (db : DB) (rt : Bytes) (m b : List KV) (hR : Represents c db rt m)
    (hb : ∀ kv ∈ b, kv.1.length = c.keyLen ∧ (kv.2 = [] ∨ kv.2.length = c.hashSize))
    (hXm : InX c X (8 * c.keyLen) (entriesOf m)) (hXm' : InX c X (8 * c.keyLen) (entriesOf (applyBatch m b))) :
    ∃ db', update c ⟨rt⟩ db (b.map (·.1)) (b.map (·.2)) =
        (⟨mapRoot c.H c.keyLen (applyBatch m b)⟩, db', .ok (mapRoot c.H c.keyLen (applyBatch m b))) ∧
      Represents c db' (mapRoot c.H c.keyLen (applyBatch m b)) (applyBatch m b) := by
  -- `updateSubtree_level` at height 0 in the world of the full trie (`World.trie`), the levels below by `bottomOK_trie`
  -- (there are `L` of them and `fuelFor` gives at least `L + 1`); the rest discharges its hypotheses
  obtain ⟨hm, hrt, hrep⟩ := hR
  by_cases hbn : b = []
  · subst hbn
    have hab : applyBatch m [] = m := rfl
    rw [hab, ← hrt]
    exact ⟨db, by simp [update], hm, hrt, hrep⟩
  -- the entries the store holds (in some order) and the subtree read at the root
  obtain ⟨es, hp, hr⟩ : ∃ es, es.Perm (entriesOf m) ∧ (m ≠ [] → Rep c db (8 * c.keyLen) es rt) := by
    by_cases hmn : m = []
    · exact ⟨entriesOf m, .refl _, fun h => absurd hmn h⟩
    · obtain ⟨es, hp, hr⟩ := hrep hmn
      exact ⟨es, hp, fun _ => hr⟩
  have hwe : WFE (8 * c.keyLen) es := wfe_perm hp (wfe_entriesOf hm.nodup hm.keys)
  have hue : ∀ e ∈ es, Under [] e := fun e he => under_entriesOf m e (hp.mem_iff.mp he)
  have hev : ∀ e ∈ es, (World.trie c g).EOK e.key e.value := by
    intro e he
    obtain ⟨kv, hkv, rfl⟩ := List.mem_map.mp (hp.mem_iff.mp he)
    exact ⟨hm.keys kv hkv, hm.values kv hkv⟩
  have hxe : InX c X (8 * c.keyLen) es := inX_perm c hp hXm
  obtain ⟨T0, hget, hA0⟩ : ∃ T0, getSubtree c db rt = .ok ⟨T0.depths 0, rt, T0.nodes⟩ ∧
      Arr c.H (RepW c X db) c.sth (8 * c.keyLen) T0 es := by
    by_cases hmn : m = []
    · subst hmn
      obtain rfl := hp.eq_nil
      refine ⟨.tip (newEmptyNode c.H), ?_, Arr.tip _ _ _ _ ArrTip.empty⟩
      simp [hrt, mapRoot, entriesOf, getSubtree, newEmptySubTree, LT.depths, LT.nodes]
    · have hne : es ≠ [] := fun h => hmn (List.map_eq_nil_iff.mp (h ▸ hp).symm.eq_nil)
      obtain ⟨T0, hg, hA⟩ := getSubtree_rep c hs g (hr hmn) hwe hne hev hxe
      exact ⟨T0, hg, Arr.toW c g hA hwe (fun e he => (hev e he).1) hxe (by omega)⟩
  have hbk : ∀ kv ∈ b, kv.1.length = c.keyLen := fun kv h => (hb kv h).1
  have hwo := wfe_ops c.keyLen b hbk
  have hov : ∀ o ∈ (uniqueFirst b).map (opOf 0), (World.trie c g).OOK o.key o.value := by
    intro o ho
    obtain ⟨kv, hkv, rfl⟩ := List.mem_map.mp ho
    exact hb kv (mem_uniqueFirst hkv)
  -- the number of levels and the fuel
  obtain ⟨L, hL⟩ : ∃ L, 8 * c.keyLen = c.sth + c.sth * L := by
    rcases hs with h8 | h4
    · exact ⟨c.keyLen - 1, by rw [h8]; omega⟩
    · exact ⟨2 * c.keyLen - 1, by rw [h4]; omega⟩
  have hLle : L ≤ 8 * c.keyLen := by
    have : L ≤ c.sth * L := Nat.le_mul_of_pos_left L (by omega)
    omega
  obtain ⟨N, hN, hNL⟩ : ∃ N, fuelFor c (b.map (·.1)) = N + 1 ∧ L ≤ N := by
    have := foldl_max_ge (b.map (·.1)) c.keyLen
    exact ⟨8 * (List.foldl (fun m k => max m k.length) c.keyLen (b.map (·.1))) + 7, rfl, by omega⟩
  have hal : Aligned c 0 := hs.imp (fun h8 => ⟨h8, rfl⟩) (fun h4 => ⟨h4, Or.inl rfl⟩)
  have hk : ∀ kv ∈ uniqueFirst b, 0 + c.sth ≤ 8 * kv.1.length := by
    intro kv hkv
    rw [hbk kv (mem_uniqueFirst hkv)]
    omega
  have hperm : (applyE es ((uniqueFirst b).map (opOf 0))).Perm (entriesOf (applyBatch m b)) :=
    (applyE_perm_left hp _).trans (applyE_entriesOf m b)
  have hxa : InX c X (8 * c.keyLen) (applyE es ((uniqueFirst b).map (opOf 0))) := inX_perm c hperm hXm'
  obtain ⟨db1, T', hupd, hA', _⟩ := updateSubtree_level c (World.trie c g) N 0 (c.sth * L)
    (bottomOK_trie c hs g L N 0 hNL hal) hal (8 * c.keyLen) T0 es db rt [] (uniqueFirst b) rfl hA0 rfl hL
    ⟨hwe, hwo, hue, under_ops b, hev, hov, hxe, hxa⟩ hk
    (by cases b with
      | nil => exact absurd rfl hbn
      | cons kv r => simp [uniqueFirst])
  -- the new root is the specification root
  have hroot : root c.H (8 * c.keyLen) (applyE es ((uniqueFirst b).map (opOf 0))) =
      mapRoot c.H c.keyLen (applyBatch m b) := root_perm c.H _ hperm
  have hstore := store_rep c hs g hA' (wfe_applyE hwe hwo) hxa
  rw [hroot] at hupd hstore
  have hkv : ∀ kv ∈ applyBatch m b, (World.trie c g).EOK kv.1 kv.2 := fun kv hkv =>
    eok_applyE c g hev hov _ (hperm.mem_iff.mpr (List.mem_map.mpr ⟨kv, hkv, rfl⟩))
  refine ⟨_, ?_, ⟨nodupKeys_applyBatch hm.nodup b, fun kv h => (hkv kv h).1, fun kv h => (hkv kv h).2⟩, rfl,
    fun _ => ⟨_, hperm, hstore⟩⟩
  unfold update
  have hzip : (b.map (·.1)).zip (b.map (·.2)) = b := by rw [← List.unzip_fst, ← List.unzip_snd]; exact List.zip_unzip b
  simp only [List.length_map, ne_eq, not_true_eq_false, if_false, hzip]
  rw [if_neg (by simpa [List.length_eq_zero_iff] using hbn), hget]
  simp only [hN, hupd]


/-- a history of update batches on the transcription; `none` if a batch fails -/
def C10ImplRun (c : Cfg) : Trie × DB → List (List KV) → Option (Trie × DB)
  | s, [] => some s
  | (t, db), b :: bs =>
    match update c t db (b.map (·.1)) (b.map (·.2)) with
    | (t', db', .ok _) => C10ImplRun c (t', db') bs
    | (_, _, .error _) => none

/-- the empty store represents the empty map at the empty root -/
theorem C10_impl_empty_represents (c : Cfg) (db : DB) : Represents c db (emptyHash c.H) [] :=
  ⟨⟨by simp [NoDupKeys], by simp, by simp⟩, by simp [mapRoot, entriesOf], fun h => absurd rfl h⟩

/-- **histories**: from a store representing `m`, every history of well-formed batches succeeds, ends at the root
`mapRoot` of the final map and in a store representing it (in particular: from the empty store the root is
`mapRoot (finalMap bs)`, a function of the final map only). -/
theorem C10_impl_history_root_eq_spec (c : Cfg) (X : Bytes → Prop) (hs : c.sth = 8 ∨ c.sth = 4) (g : GoodHash c X)
    (hkl : 0 < c.keyLen) : ∀ (bs : List (List KV)) (db : DB) (rt : Bytes) (m : List KV), Represents c db rt m →
    (∀ b ∈ bs, ∀ kv ∈ b, kv.1.length = c.keyLen ∧ (kv.2 = [] ∨ kv.2.length = c.hashSize)) →
    (∀ n, InX c X (8 * c.keyLen) (entriesOf ((bs.take n).foldl applyBatch m))) →
    ∃ db', C10ImplRun c (⟨rt⟩, db) bs = some (⟨mapRoot c.H c.keyLen (bs.foldl applyBatch m)⟩, db') ∧
      Represents c db' (mapRoot c.H c.keyLen (bs.foldl applyBatch m)) (bs.foldl applyBatch m)
  | [], db, rt, m, hR, _, _ => by
    obtain ⟨-, hrt, -⟩ := id hR
    refine ⟨db, ?_, ?_⟩
    · simp [C10ImplRun, hrt]
    · simpa [← hrt] using hR
  | b :: bs, db, rt, m, hR, hb, hX => by
    obtain ⟨db1, h1, hR1⟩ := C10_impl_update_root_eq_spec c X hs g hkl db rt m b hR (hb b (by simp)) (by simpa using hX 0)
      (by simpa using hX 1)
    obtain ⟨db2, h2, hR2⟩ := C10_impl_history_root_eq_spec c X hs g hkl bs db1 _ (applyBatch m b) hR1
      (fun b' hb' => hb b' (List.mem_cons_of_mem _ hb')) (fun n => by simpa using hX (n + 1))
    refine ⟨db2, ?_, by simpa using hR2⟩
    simp only [C10ImplRun, h1, List.foldl_cons]
    exact h2

/-- `C10_impl_update_root_eq_spec` in its ideal form, for any hash. It is NOT provable as it stands: the code reads a root
equal to `H []` as the empty tree and addresses, deletes and overwrites records by subtree root, so a collision can
make it read the record of another subtree. `C10_impl_update_root_eq_spec` proves it with the hypothesis that `H` has
outputs of one length and no collision among the finitely many inputs hashed for the two trees involved; what is
proved without any hypothesis on the hash is `C10_impl_level_refines_spec` / `C10_impl_calculateSubTree_root_eq_spec`. -/
def C10_impl_update_root_eq_spec_Statement : Prop :=
  ∀ (c : Cfg) (db : DB) (rt : Bytes) (m b : List KV), (c.sth = 8 ∨ c.sth = 4) → 0 < c.keyLen →
    Represents c db rt m → (∀ kv ∈ b, kv.1.length = c.keyLen ∧ (kv.2 = [] ∨ kv.2.length = c.hashSize)) →
    ∃ db', update c ⟨rt⟩ db (b.map (·.1)) (b.map (·.2)) =
        (⟨mapRoot c.H c.keyLen (applyBatch m b)⟩, db', .ok (mapRoot c.H c.keyLen (applyBatch m b))) ∧
      Represents c db' (mapRoot c.H c.keyLen (applyBatch m b)) (applyBatch m b)

/-! ### non-vacuity

`C10toyH` (Props/C10.lean) is a 2-byte checksum: outputs of one length; it has no collision among the inputs of the
small trees below (kernel evaluation). Key length 1, subtree height 8 (one stored level) and key length 2 (two
stored levels: the keys 0x4000 / 0x4001 share their first byte, so a stub and a lower record are written). -/

def C10implCfg1 : Cfg := ⟨C10toyH, 1, 8⟩
def C10implCfg2 : Cfg := ⟨C10toyH, 2, 8⟩

def C10implB1 : List KV := [([0x40], [1, 1]), ([0xC0], [2, 2]), ([0x41], [3, 3]), ([0x40], [9, 9])]
def C10implB2 : List KV := [([0x40], []), ([0x42], [4, 4])]
def C10implB3 : List KV := [([0x40, 0x00], [1, 1]), ([0x40, 0x01], [2, 2]), ([0xC0, 0x00], [3, 3])]
def C10implB4 : List KV := [([0x40, 0x01], []), ([0x40, 0x80], [4, 4])]

/-- the inputs hashed for the trees of the maps of a history -/
def C10implInputs (c : Cfg) (bs : List (List KV)) : List Bytes :=
  [] :: ((List.range (bs.length + 1)).flatMap fun n => treeInputs c.H (8 * c.keyLen) (entriesOf (finalMap (bs.take n))))

theorem C10impl_good (c : Cfg) (bs : List (List KV)) (hH : c.H = C10toyH)
    (h : ∀ a ∈ C10implInputs c bs, ∀ b ∈ C10implInputs c bs, C10toyH a = C10toyH b → a = b) :
    GoodHash c (· ∈ C10implInputs c bs) :=
  ⟨fun a b ha hb hab => h a ha b hb (by rwa [hH] at hab), fun x => by simp [Cfg.hashSize, emptyHash, hH, C10toyH_length],
   by simp [Cfg.hashSize, emptyHash, hH, C10toyH_length], by simp [C10implInputs]⟩

theorem C10impl_inX (c : Cfg) (bs : List (List KV)) (n : Nat) (hn : n ≤ bs.length) :
    InX c (· ∈ C10implInputs c bs) (8 * c.keyLen) (entriesOf ((bs.take n).foldl applyBatch [])) := by
  intro a ha
  simp only [C10implInputs, List.mem_cons, List.mem_flatMap, List.mem_range]
  exact Or.inr ⟨n, by omega, ha⟩

theorem C10impl_inX_take (c : Cfg) (bs : List (List KV)) (n : Nat) :
    InX c (· ∈ C10implInputs c bs) (8 * c.keyLen) (entriesOf ((bs.take n).foldl applyBatch [])) := by
  by_cases hn : n ≤ bs.length
  · exact C10impl_inX c bs n hn
  · have : bs.take n = bs.take bs.length := by rw [List.take_of_length_le (by omega), List.take_length]
    rw [this]
    exact C10impl_inX c bs bs.length (Nat.le_refl _)

-- (a): a well-formed subtree (two leaves under the root of a one-byte-key trie) and its round trip
example : newSubTree C10implCfg1
      (SubTree.encode ⟨[1, 1], C10toyH (1 :: (C10toyH [0, 0x40, 1, 1] ++ C10toyH [0, 0xC0, 2, 2])),
        [newLeafNode C10toyH [0x40] [1, 1], newLeafNode C10toyH [0xC0] [2, 2]]⟩) =
    .ok ⟨[1, 1], C10toyH (1 :: (C10toyH [0, 0x40, 1, 1] ++ C10toyH [0, 0xC0, 2, 2])),
        [newLeafNode C10toyH [0x40] [1, 1], newLeafNode C10toyH [0xC0] [2, 2]]⟩ :=
  C10_impl_decode_encode _ _
    ⟨rfl, by decide, by decide, by decide,
     by
      intro n hn
      simp only [List.mem_cons, List.not_mem_nil, or_false] at hn
      rcases hn with rfl | rfl
      · exact Or.inr (Or.inl ⟨[0x40], [1, 1], rfl, rfl, rfl⟩)
      · exact Or.inr (Or.inl ⟨[0xC0], [2, 2], rfl, rfl, rfl⟩),
     by rfl⟩

-- (b): the transcription on a concrete batch returns a layout with Kraft sum 2^8 (9 nodes: three leaves, six empty)
example : ((updateSubtree C10implCfg1 4 [] (uniqueFirst C10implB1) (newEmptySubTree C10toyH) 0).2.toOption.map
    fun st => ((st.struct.map fun x => 2 ^ (8 - x)).sum, st.nodes.length)) = some (256, 9) := by decide +kernel

-- (c): one stored level: a history with a duplicate key in a batch, a delete and an insert
example : ∃ db', C10ImplRun C10implCfg1 (⟨emptyHash C10toyH⟩, []) [C10implB1, C10implB2] =
      some (⟨mapRoot C10toyH 1 (finalMap [C10implB1, C10implB2])⟩, db') ∧
    Represents C10implCfg1 db' (mapRoot C10toyH 1 (finalMap [C10implB1, C10implB2])) (finalMap [C10implB1, C10implB2]) :=
  C10_impl_history_root_eq_spec C10implCfg1 _ (Or.inl rfl)
    (C10impl_good C10implCfg1 [C10implB1, C10implB2] rfl (noColl_of_check (by decide +kernel))) (by decide)
    [C10implB1, C10implB2] [] _ [] (C10_impl_empty_represents _ _) (by decide)
    (C10impl_inX_take _ _)

-- (c): two stored levels (a stub and a lower record, then the lower subtree is rewritten)
example : ∃ db', C10ImplRun C10implCfg2 (⟨emptyHash C10toyH⟩, []) [C10implB3, C10implB4] =
      some (⟨mapRoot C10toyH 2 (finalMap [C10implB3, C10implB4])⟩, db') ∧
    Represents C10implCfg2 db' (mapRoot C10toyH 2 (finalMap [C10implB3, C10implB4])) (finalMap [C10implB3, C10implB4]) :=
  C10_impl_history_root_eq_spec C10implCfg2 _ (Or.inl rfl)
    (C10impl_good C10implCfg2 [C10implB3, C10implB4] rfl (noColl_of_check (by decide +kernel))) (by decide)
    [C10implB3, C10implB4] [] _ [] (C10_impl_empty_represents _ _) (by decide)
    (C10impl_inX_take _ _)

-- and the model computes what the theorem says (kernel evaluation of the transcription itself)
example : (update C10implCfg2 ⟨emptyHash C10toyH⟩ [] (C10implB3.map (·.1)) (C10implB3.map (·.2))).2.2.toOption =
    some (mapRoot C10toyH 2 (finalMap [C10implB3])) := by decide +kernel

#print axioms C10_impl_decode_encode
#print axioms C10_impl_encode_injective
#print axioms C10_impl_arranged_subtree_wellformed
#print axioms C10_impl_updateNode_layout
#print axioms C10_impl_updateNodes_layout
#print axioms C10_impl_layout_kraft
#print axioms C10_impl_calculateSubTree_collapse
#print axioms C10_impl_collapse_canonical
#print axioms C10_impl_treeHasher_merkle
#print axioms C10_impl_calculateSubTree_root_eq_spec
#print axioms C10_impl_level_refines_spec
#print axioms C10_impl_update_root_eq_spec
#print axioms C10_impl_empty_represents
#print axioms C10_impl_history_root_eq_spec
