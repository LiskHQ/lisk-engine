/-
C05, clause "restores exactly the PERSISTENT node state": the exactness theorems of `Props/C05.lean` /
`Props/C12.lean` are statements about the database as a finite map. The map is what a read returns; what pebble
keeps is a history of entries per key, reduced by flush / compaction (`Model/KeyHistory.lean`). The map-level
theorems carry over to the durable state (after flush, compaction, reopen) exactly when every entry the write API
appends erases the history of its key:

* tie A (`C05_db_del_is_plain_delete`, `C05_db_write_calls_erase_history`): on the facts tools/wskelgen regenerates
  from pkg/db on every run (`Gen.WS.batchMethods`, `Gen.WS.dbWriteMethods`) `Batch.Del` issues `pebble.Batch.Delete`
  and `DB.Del` issues `pebble.DB.Delete` - not `SingleDelete` (which cancels only the newest `Set`), not a range
  delete, not a merge; `Set` issues `Set`.
* model level: for EVERY history of such writes storage maintenance is invisible
  (`C05_db_flush_invisible_all_histories`), so "delete after any number of writes of a key = the key is absent"
  also durably (`C05_db_delete_apply_identity_durable`: revert of an added key that later blocks updated); with a
  single delete the same history brings an overwritten value back (`C05_db_single_delete_counterexample` by
  evaluation, `C05_db_single_delete_resurrects` in general) - and is fine exactly for write-once keys
  (`C05_db_single_delete_write_once`).
Harness: C05DUR (harness/c05/durable.go) runs the node histories and commit / revert stacks on a pebble with small
memtables and compares the dumps across Flush + Compact + reopen.
-/
import LiskVerif.Lemmas.KeyHistory
import LiskVerif.Gen.WriteSkeletons

open LiskVerif LiskVerif.KeyHistory

/-! ### tie A: which pebble call each write method of pkg/db issues -/

/-- `db.Batch.Del` is a plain (history-erasing) `pebble.Batch.Delete`, `db.Batch.Set` a `Set`; `db.DB.Del` / `Set`
are the synced `Delete` / `Set` of the pebble handle (regenerated from pkg/db/batch.go, pkg/db/db.go) -/
theorem C05_db_del_is_plain_delete :
    Gen.WS.batchMethods.lookup "Del" = some ["Delete"] ∧
    Gen.WS.batchMethods.lookup "Set" = some ["Set"] ∧
    Gen.WS.dbWriteMethods.lookup "Del" = some "Delete:pebble.Sync" ∧
    Gen.WS.dbWriteMethods.lookup "Set" = some "Set:pebble.Sync" := by decide

/-- every pebble call a method of `db.Batch` issues appends a history-erasing entry (no `SingleDelete`,
`DeleteRange`, `Merge`, ...), and the batch type has no other methods -/
theorem C05_db_write_calls_erase_history :
    Gen.WS.batchMethods.all (fun m => m.2.all plainCall) = true ∧
    Gen.WS.batchMethods.map (·.1) = ["Del", "Set"] := by decide

/-- the entries these calls append -/
theorem C05_db_entries_of_calls (v : Bytes) :
    entryOfCall "Set" v = some (.set v) ∧ entryOfCall "Delete" v = some .del ∧
    entryOfCall "SingleDelete" v = some .sdel := ⟨rfl, rfl, rfl⟩

/-! ### model level -/

/-- flush + compaction does not change what a read of a plain history returns -/
theorem C05_db_flush_invisible_key (es : List Entry) (h : Plain es) : visible (compact es) = visible es :=
  (C12.Durable.compact_plain es h).1

private theorem plain_run (os : List Op) : ∀ (s : Store), C12.Durable.AllPlain s → C12.Durable.AllPlain (run s os) := by
  induction os with
  | nil => intro s h; exact h
  | cons o os ih =>
    intro s h
    cases o with
    | put k v => exact ih _ (C12.Durable.push_plain h k (e := .set v) Entry.noConfusion)
    | del k => exact ih _ (C12.Durable.push_plain h k (e := .del) Entry.noConfusion)

/-- for EVERY history of `Set` / `Delete` writes on a store that was written this way, what is read after memtable
flush + compaction of the whole key range is what was read before: the map-level theorems of C05 / C12 hold for
the durable state -/
theorem C05_db_flush_invisible_all_histories (s : Store) (hs : ∀ k, Plain (s k)) (os : List Op) (k : Bytes) :
    readKey (settle (run s os)) k = readKey (run s os) k :=
  C05_db_flush_invisible_key _ (plain_run os s hs k)

private theorem puts_other (k k' : Bytes) (hk : k' ≠ k) (vs : List Bytes) (s : Store) : puts k vs s k' = s k' := by
  induction vs with
  | nil => rfl
  | cons v vs ih => simp [puts, putKey, hk, ih]

/-- the revert of a block that ADDED a key which later blocks updated any number of times (and whose updates were
reverted before: `vs` are all values ever written): after the plain delete the key is absent and every other key
reads as before - also after flush / compaction, whatever the history `s` of the store was.  With
`readKey s k = none` (the key did not exist before the block) this is delete ∘ apply = identity on every key. -/
theorem C05_db_delete_apply_identity_durable (s : Store) (k : Bytes) (vs : List Bytes) :
    readKey (settle (deleteKey k (puts k vs s))) k = none ∧
    ∀ k', k' ≠ k → readKey (deleteKey k (puts k vs s)) k' = readKey s k' ∧
      (Plain (s k') → readKey (settle (deleteKey k (puts k vs s))) k' = readKey s k') := by
  refine ⟨by simp [readKey, settle, deleteKey, compact, compactAux, visible], ?_⟩
  intro k' hk
  have h1 : deleteKey k (puts k vs s) k' = s k' := by
    simp [deleteKey, hk, puts_other k k' hk vs s]
  refine ⟨by simp [readKey, h1], ?_⟩
  intro hp
  simp only [readKey, settle, h1]
  exact C05_db_flush_invisible_key _ hp

/-- the same history with a single delete: block X adds K = v1, block Y updates it to v2, Y is reverted (v1 written
back), X is reverted with a SINGLE delete: right after the write the key reads absent, after flush / compaction it
exists again with the value of the deleted block Y -/
theorem C05_db_single_delete_counterexample :
    let k : Bytes := [10, 7]
    let s := singleDeleteKey k (putKey k [1] (putKey k [2] (putKey k [1] emptyStore)))
    readKey s k = none ∧ readKey (settle s) k = some [2] := by decide

/-- in general: a single delete over two or more writes of a key resurrects the write below the newest one -/
theorem C05_db_single_delete_resurrects (s : Store) (k v v' : Bytes) :
    readKey (singleDeleteKey k (putKey k v' (putKey k v s))) k = none ∧
    readKey (settle (singleDeleteKey k (putKey k v' (putKey k v s)))) k = some v := by
  simp [readKey, settle, singleDeleteKey, putKey, compact, compactAux, visible]

/-- and it is exact for write-once keys (the contract of pebble's SingleDelete): one write on a key that has no history (`s k = []`) -/
theorem C05_db_single_delete_write_once (s : Store) (k v : Bytes) (h : s k = []) :
    readKey (settle (singleDeleteKey k (putKey k v s))) k = none := by
  simp [readKey, settle, singleDeleteKey, putKey, compact, compactAux, visible, h]

/-- non-vacuity: a concrete plain history, read after flush + compaction -/
example : readKey (settle (run emptyStore [.put [1] [5], .put [1] [6], .del [1], .put [2] [7]])) [1] = none ∧
    readKey (settle (run emptyStore [.put [1] [5], .put [1] [6], .del [1], .put [2] [7]])) [2] = some [7] := by decide

example : Gen.WS.batchMethods.lookup "Del" ≠ some ["SingleDelete"] := by decide
