/-
C18 — message SIZES: "well-formed traffic within the limits never [leads to penalties]" holds for every size.

`Props/C18_Envelope.lean` classifies the BYTES a stream delivered with the codec model over the p2p schemas
regenerated from pkg/p2p/message_codec.go.  Here the well-formed side is stated for ALL payload sizes: the
request / response layer has no size limit of its own, so whatever the length of the payload,

  * `C18_size_request_wellformed_any_size`, `C18_size_response_wellformed_any_size` — the node's own encoding
    of a request (id, procedure, data) / response (id, procedure, data, error) is classified as
    `MsgKind.proc <procedure>`, never as malformed (corollaries of the codec round trip `C08_roundtrip_flat`
    on the regenerated schemas; no bound on `data` other than Go's 2^63);
  * `C18_size_wellformed_message_costs_nothing` — such a message to a registered procedure, the first of its
    window, with a limit of at least 1: the gater (penalty table, block list) is unchanged, no connection is
    closed, a request reaches its handler — for every payload size;
  * `C18_size_limited_read_bans_wellformed` — why the stream must be read to its end: a reader that stops after
    `L` bytes (`io.LimitReader`) turns a well-formed envelope longer than `L` into a malformed one; the sender is
    banned and disconnected (kernel evaluation of a concrete instance; the harness C18SIZE sweeps the real
    handlers with sizes 2^k ± 1 up to 4 MiB and with the largest legitimate message, the 103-block answer of
    getBlocksFromId).
-/
import LiskVerif.Props.C18_Envelope
import LiskVerif.Props.C08_Msg

open LiskVerif LiskVerif.Codec LiskVerif.ConnGater LiskVerif.RateLimit LiskVerif.Envelope

/-- a schema of the table with the field lists `fs` (non-strict twice, strict once) is what these lists make it:
its Encode list, flat, without packed integers -/
private theorem flat_of_find {name : String} {fs : Bool → List Field} {s : Schema}
    (h : (Gen.allSchemas.find name).map (fun s => (s.enc, s.dec, s.decStrict)) = some (fs false, fs false, fs true))
    (hs : Gen.allSchemas.find name = some s)
    (hf : C08Flat ⟨name, fs false, fs false, fs true⟩ = true ∧ C08NoUints ⟨name, fs false, fs false, fs true⟩ = true) :
    s.enc = fs false ∧ C08Flat s = true ∧ C08NoUints s = true := by
  rw [hs] at h
  simp only [Option.map_some, Option.some.injEq, Prod.mk.injEq] at h
  unfold C08Flat C08NoUints at *
  rw [h.1, h.2.1, h.2.2]
  exact ⟨rfl, hf⟩

/-- ASCII byte strings (ids are UUIDs, procedure names and error texts of the engine are ASCII) -/
def C18ascii (b : Bytes) : Bool := b.all (fun x => decide (x.toNat < 128))

/-- **A request envelope of ANY payload size is well formed.** The bytes `Request.Encode` produces for
(id, procedure, data) are classified by `onRequest` as a message for `procedure` — there is no payload length
from which on they would count as malformed. -/
theorem C18_size_request_wellformed_any_size (s : Schema) (hs : Gen.allSchemas.find "p2p.Request" = some s)
    (rid proc data : Bytes) (hid : C18ascii rid = true) (hidl : rid.length < 2 ^ 63)
    (hp : C18ascii proc = true) (hpl : proc.length < 2 ^ 63) (hd : data.length < 2 ^ 63) :
    kindOf Gen.allSchemas asciiNFC true
      (encode Gen.allSchemas asciiNFC s [.bytes rid, .bytes proc, .bytes data]) = .proc (nameOf proc) := by
  obtain ⟨henc, hflat, hnu⟩ := flat_of_find C18_size_envelope_schemas.1 hs (by decide)
  exact kindOf_of_decode hs (C08_roundtrip_flat Gen.allSchemas asciiNFC s [.bytes rid, .bytes proc, .bytes data] hflat (by
    rw [henc]
    simp only [C18reqFields, C08Typed, C08TypedVal, Bool.and_eq_true, decide_eq_true_eq, asciiNFC, id,
      C08_ascii_utf8Valid rid hid, C08_ascii_utf8Valid proc hp, and_true]
    exact ⟨hidl, hpl, hd⟩) (Or.inl hnu)).1

/-- **A response envelope of ANY payload size is well formed** (with or without an error text). -/
theorem C18_size_response_wellformed_any_size (s : Schema) (hs : Gen.allSchemas.find "p2p.responseMsg" = some s)
    (rid proc data err : Bytes) (hid : C18ascii rid = true) (hidl : rid.length < 2 ^ 63)
    (hp : C18ascii proc = true) (hpl : proc.length < 2 ^ 63) (hd : data.length < 2 ^ 63)
    (he : C18ascii err = true) (hel : err.length < 2 ^ 63) :
    kindOf Gen.allSchemas asciiNFC false
      (encode Gen.allSchemas asciiNFC s [.bytes rid, .bytes proc, .bytes data, .bytes err]) = .proc (nameOf proc) := by
  obtain ⟨henc, hflat, hnu⟩ := flat_of_find C18_size_envelope_schemas.2 hs (by decide)
  exact kindOf_of_decode hs (C08_roundtrip_flat Gen.allSchemas asciiNFC s [.bytes rid, .bytes proc, .bytes data, .bytes err] hflat (by
    rw [henc]
    simp only [C18resFields, C08Typed, C08TypedVal, Bool.and_eq_true, decide_eq_true_eq, asciiNFC, id,
      C08_ascii_utf8Valid rid hid, C08_ascii_utf8Valid proc hp, C08_ascii_utf8Valid err he, and_true]
    exact ⟨hidl, hpl, hd, hel⟩) (Or.inl hnu)).1

/-- **One well-formed message of any size costs its sender nothing.** On a node whose message protocol is
started and whose counters are at zero (a fresh window), bytes that are classified as a message for a
registered procedure with a limit of at least 1 leave the gater (penalty table and block list), the connections
and the record of closed peers unchanged; a request reaches its handler. By the two theorems above the
hypothesis `hk` holds for the node's own encoding of EVERY payload. -/
theorem C18_size_wellformed_message_costs_nothing (n : Node) (hmp : n.mpStarted = true)
    (hz : ∀ name pid, count n name pid = 0) (now : Nat) (isReq : Bool) (remote : Addr) (pid : Nat)
    (raw : Bytes) (name : String) (hk : kindOf Gen.allSchemas asciiNFC isReq raw = .proc name)
    (L : Int) (hL : C18limitOf n name = some L) (h1 : 1 ≤ L) :
    let n' := receiveStream Gen.allSchemas asciiNFC n now isReq remote pid (.data raw)
    n'.g = n.g ∧ n'.conns = n.conns ∧ n'.closed = n.closed ∧
      n'.handled = n.handled + (if isReq then 1 else 0) := by
  intro n'
  have hrs : n' = receive n now isReq remote pid (.proc name) :=
    C18_wellformed_envelope_not_penalised Gen.allSchemas asciiNFC n now isReq remote pid raw name hk
  have hleg : C18Legal (C18limitOf n) (fun _ _ => 0) [.msg now isReq remote pid (.proc name)] := by
    refine ⟨⟨L, hL, ?_⟩, trivial⟩
    simpa using h1
  have h := C18_legal_traffic_never_penalised n hmp hz [.msg now isReq remote pid (.proc name)] hleg
  have hrun : runEv n [.msg now isReq remote pid (.proc name)] = receive n now isReq remote pid (.proc name) := rfl
  rw [hrun, ← hrs] at h
  refine ⟨h.1, h.2.1, h.2.2.1, ?_⟩
  rw [h.2.2.2]
  cases isReq <;> rfl

/-! ### a reader that stops early -/

/-- what `io.ReadAll(io.LimitReader(s, L))` returns for a stream that delivers `raw`: the first `L` bytes, and no
error -/
def C18limitedRead (L : Nat) (raw : Bytes) : Bytes := raw.take L

/-- the request envelope id "a1", procedure "ping", 24 payload bytes (36 bytes on the wire: 12 of keys, lengths and names, then the payload) -/
def C18sizeEnvelope : Bytes :=
  [0x0a, 0x02, 0x61, 0x31, 0x12, 0x04, 0x70, 0x69, 0x6e, 0x67, 0x1a, 0x18] ++ List.replicate 24 0x55

/-- **A limited read turns a well-formed envelope into a malformed one.** The 36-byte envelope is a message
for "ping"; read through a 32-byte limit it is malformed, and (`C18_degenerate_envelopes_banned`) its honest
sender is banned and disconnected — although the rest of the envelope was on the stream.  Up to the limit the
two readers agree (the third conjunct reads it whole with the limit 38; any limit from 36 on does). -/
theorem C18_size_limited_read_bans_wellformed :
    kindOf Gen.allSchemas asciiNFC true C18sizeEnvelope = .proc "ping" ∧
    kindOf Gen.allSchemas asciiNFC true (C18limitedRead 32 C18sizeEnvelope) = .malformed ∧
    C18limitedRead 38 C18sizeEnvelope = C18sizeEnvelope ∧
    (∀ raw : Bytes, ∀ L, raw.length ≤ L → C18limitedRead L raw = raw) := by
  -- the three closed conjuncts in one evaluation: one lookup of the schema
  exact and_assoc.1 (and_assoc.1 ⟨by decide +kernel, fun raw L h => List.take_of_length_le h⟩)

/-- non-vacuity: the hypotheses of `C18_size_request_wellformed_any_size` are satisfiable, with a payload of
three million bytes -/
example : ∃ s, Gen.allSchemas.find "p2p.Request" = some s ∧
    C18ascii [0x61, 0x31] = true ∧ C18ascii [0x70, 0x69, 0x6e, 0x67] = true ∧
    (List.replicate 3000000 (0x55 : UInt8)).length < 2 ^ 63 := by
  obtain ⟨s, hs, _⟩ := Option.map_eq_some_iff.1 C18_size_envelope_schemas.1
  refine ⟨s, hs, by decide, by decide, ?_⟩
  rw [List.length_replicate]
  omega
