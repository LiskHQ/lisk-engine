/-
C20 — unsynchronised fields: "chain and consensus data read by RPC, P2P and generator goroutines while the
consensus goroutine adds and removes blocks — no data races".

`Props/C20.lean` checks the lockset criterion for an ANCHORED list of guarded fields (the block-cache maps,
the certificate pool lists …). A field that is simply ADDED to one of the shared structures — a memo of the
finalized height kept in `DataAccess`, written by `saveBlock` on the consensus goroutine and read by
`GetFinalizedHeight` on RPC goroutines — is not in that list: every access to it is invisible to the
criterion, and the change passes.

Here the list is DERIVED from the source. `tools/skelgen` (group `c20x`, `Gen/SkeletonsShared.lean`,
regenerated on every check run) examines every field of the shared structures

    blockCache, DataAccess, Chain, certificate.Pool, EventEmitter, diffdb.Database,
    consensus.Executer, liskbft.Module, generator.Generator, and the chain / system / generator RPC endpoints

and makes a shared variable of EVERY field that is assigned (plain / op / index assignment, `++`, `delete`,
address taken) in any function of its package other than a constructor (`New*` / `new*`) or a method named
`Init`; its guard is the struct's own mutex field, or "-" when the struct has none. All reads and writes of
these variables appear in the regenerated skeletons of all methods of these types (145 functions).

Obligations (by kernel evaluation on the regenerated table; the analysis of the table is evaluated once, in
`C20Fields.table_ok`):
  * `C20_fields_derived_exact`   the derived set, with guards, for the current source — a new mutable field
                                 changes it;
  * `C20_fields_guarded_or_listed`  every derived field is accessed under its struct's mutex (exclusively
                                 for writes) from every entry point — the lockset criterion (4) of
                                 `Model/Locks.lean`, evaluated per field with calls inlined — OR is in one
                                 of two explicit lists:
        `singleGoroutine`        fields touched by one goroutine only (justified by
                                 `C20_fields_single_goroutine_justified`);
        `unsynchronisedToday`    fields that ARE shared without synchronisation in the current source —
                                 stated as a visible fact (`C20_fields_unsynchronised_today`), candidate
                                 findings, NOT a justification;
  * `C20_fields_race_free_except_listed`  with the accesses to the listed fields erased, every entry point is
                                 well-formed and satisfies the lockset criterion
                                 (`C20_fields_lockset_except_listed` — not evaluated: it follows from
                                 `C20Fields.table_ok` by `lockset_erase`, section "setting variables aside"), so by
                                 `C20_lockset_implies_race_free` any number of goroutines running any of
                                 these functions never race on any other derived field, for every schedule.
Fields that are NOT derived are assigned only by constructors / `Init`, i.e. before the structure is shared
with other goroutines (`Engine.Start` runs every `Init` before it starts the goroutines: `Props/C04_SingleWriter`,
`Props/C13_Wire`): they are read-only afterwards.

Counterexample (`C20Fields.Memo`): the skeletons skelgen extracts from a `DataAccess` with a memoized
finalized height fail the criterion, and the interleaving semantics reaches a state in which the reader's
read and the writer's write of the memo are enabled together (a data race).
-/
import LiskVerif.Props.C20
import LiskVerif.Lemmas.LockProv
import LiskVerif.Lemmas.LocksFuel
import LiskVerif.Gen.SkeletonsShared

open LiskVerif LiskVerif.Locks

namespace C20Fields

open Gen.SkeletonsShared in
/-- configuration regenerated from the source: call table, DERIVED guards, lock order -/
def cfg : Cfg := ⟨table, guards, lockOrder⟩

open Gen.SkeletonsShared in
def entryTable : Table := table.filter (fun e => entries.contains e.1)

/-- the shared variable an observation accesses in violation of the lockset criterion -/
def badVar (g : List (String × String)) : Obs → Option String
  | (h, .read x) => if obsLockset g (h, .read x) then none else some x
  | (h, .write x) => if obsLockset g (h, .write x) then none else some x
  | _ => none

/-- the variables accessed without their guard somewhere in `s` (calls inlined, spawned goroutines and
deferred bodies included); an analysis that fails reports the pseudo-variable "?analysis" -/
def unguardedIn (c : Cfg) (s : Skel) : List String :=
  match analyse c.tbl fuelDefault s with
  | none => ["?analysis"]
  | some (obs, _) => (obs.filterMap (badVar c.guards)).eraseDups

/-- all variables accessed without their guard from some entry point -/
def unguardedVars (c : Cfg) (t : Table) : List String :=
  (t.flatMap (fun e => unguardedIn c e.2)).eraseDups

/-- syntactic accesses of a body (not through calls): `(isWrite, variable)`. The fuel bounds the nesting (100 and
200 below are far above that of any extracted function); running out yields the pseudo-variable "?fuel", which
fails every equation it appears in. -/
def accesses : Nat → List Act → List (Bool × String)
  | 0, _ => [(true, "?fuel")]
  | _ + 1, [] => []
  | n + 1, a :: k =>
    (match a with
     | .read x => [(false, x)]
     | .write x => [(true, x)]
     | .del x => [(true, x)]
     | .go b => accesses n b
     | .loop b => accesses n b
     | .choice alts => alts.flatMap (accesses n)
     | _ => []) ++ accesses n k

/-- calls / interface calls made by a body (not through calls) -/
def callees : Nat → List Act → List String
  | 0, _ => ["?fuel"]
  | _ + 1, [] => []
  | n + 1, a :: k =>
    (match a with
     | .call f => [f]
     | .blockingCall f => [f]
     | .go b => callees n b
     | .loop b => callees n b
     | .choice alts => alts.flatMap (callees n)
     | _ => []) ++ callees n k

/-- the functions whose own body reads (`w = false`) / writes (`w = true`) the variable -/
def accessors (t : Table) (w : Bool) (x : String) : List String :=
  (t.filter (fun e => (accesses 100 e.2).contains (w, x))).map (·.1)

/-- the functions whose own body calls `f` -/
def callers (t : Table) (f : String) : List String :=
  (t.filter (fun e => (callees 100 e.2).contains f)).map (·.1)

/-- fields touched by one goroutine only -/
def singleGoroutine : List String := ["Executer.lastBlockReceived"]

/-- fields shared between goroutines WITHOUT synchronisation in the current source (facts, see
`C20_fields_unsynchronised_today`) -/
def unsynchronisedToday : List String := ["Executer.syncying", "Generator.enabledKeys"]

def listed : List String := singleGoroutine ++ unsynchronisedToday

/-- the skeleton with every access to one of the variables `xs` removed (written out, as the statements below
mention it; it is `Locks.eraseActs (dropVars xs)`, `eraseVars_eq`) -/
def eraseVars (xs : List String) : Nat → List Act → List Act
  | 0, k => k
  | _ + 1, [] => []
  | n + 1, a :: k =>
    match a with
    | .read x => if xs.contains x then eraseVars xs n k else a :: eraseVars xs n k
    | .write x => if xs.contains x then eraseVars xs n k else a :: eraseVars xs n k
    | .del x => if xs.contains x then eraseVars xs n k else a :: eraseVars xs n k
    | .go b => .go (eraseVars xs n b) :: eraseVars xs n k
    | .loop b => .loop (eraseVars xs n b) :: eraseVars xs n k
    | .choice alts => .choice (alts.map (eraseVars xs n)) :: eraseVars xs n k
    | a => a :: eraseVars xs n k

open Gen.SkeletonsShared in
/-- the regenerated table without the accesses to the listed fields -/
def tableE : Table := table.map fun e => (e.1, eraseVars listed 200 e.2)

open Gen.SkeletonsShared in
def cfgE : Cfg := ⟨tableE, guards.filter (fun g => !listed.contains g.1), lockOrder⟩

open Gen.SkeletonsShared in
def entryTableE : Table := tableE.filter (fun e => entries.contains e.1)

/-! ### setting variables aside

`eraseVars xs` drops actions the analysis executes as one primitive that changes no lock state, so the erased
function passes through the same lock states and observes a part of what the function observes
(`analyse_eraseActs`); what it still observes are primitives of the actions left (`analyse_ok`). Hence the
criteria of the erased table follow from one analysis of the table as it is. -/

/-- the accesses `eraseVars xs` removes -/
def dropVars (xs : List String) : Act → Bool
  | .read x => xs.contains x
  | .write x => xs.contains x
  | .del x => xs.contains x
  | _ => false

theorem neutral_dropVars (xs : List String) : Neutral (dropVars xs) := by
  intro a ha
  cases a <;> try cases ha
  all_goals exact ⟨_, rfl, fun _ => rfl⟩

theorem eraseVars_eq (xs : List String) (n : Nat) (k : List Act) :
    eraseVars xs n k = eraseActs (dropVars xs) n k :=
  eq_eraseActs (fun _ => rfl) (fun _ => rfl) (fun n a k => by
    cases a <;> simp only [eraseVars, eraseAct, dropVars, Bool.false_eq_true, if_false] <;> rfl) n k

theorem lookup_filter_fst {xs : List String} {x : String} (hx : xs.contains x = false)
    (g : List (String × String)) : (g.filter fun e => !xs.contains e.1).lookup x = g.lookup x := by
  rw [← AList.get_eq_lookup, AList.get_filter_key (fun k => !xs.contains k), hx, ← AList.get_eq_lookup]; rfl

/-- **Variables set aside.** A well-formed function whose unguarded accesses all go to variables among `xs`
is, with the accesses to `xs` erased and in the table treated likewise, well-formed and satisfies the lockset
criterion for the remaining guards — provided no access to `xs` is left in the erased table (the fuel `k`, `n` of
the erasure may run out before it reaches one). `cE` is the erased configuration. -/
theorem lockset_erase {c cE : Cfg} {xs : List String} {k n d d' : Nat} {s : Skel}
    (hcE : cE = ⟨c.tbl.map fun e => (e.1, eraseVars xs k e.2), c.guards.filter (fun g => !xs.contains g.1), c.order⟩)
    (hT : cE.tbl.all (fun e => actsAll (fun a => !dropVars xs a) d e.2) = true)
    (hs : actsAll (fun a => !dropVars xs a) d' (eraseVars xs n s) = true)
    (hw : wellFormed c s = true) (hu : (unguardedIn c s).all xs.contains = true) :
    (wellFormed cE (eraseVars xs n s) && locksetOk cE (eraseVars xs n s)) = true := by
  subst hcE
  simp only [eraseVars_eq] at hT hs ⊢
  unfold wellFormed locksetOk
  unfold wellFormed at hw
  unfold unguardedIn at hu
  cases ha : analyse c.tbl fuelDefault s with
  | none => simp [ha] at hw
  | some r =>
    obtain ⟨obs, ends⟩ := r
    obtain ⟨obs', ha', hsub⟩ := analyse_eraseActs (neutral_dropVars xs) c.tbl k n fuelDefault s ha
    have hok := analyse_ok (P := fun p => ∀ x, (p = .read x ∨ p = .write x) → xs.contains x = false)
      (fun _ => ⟨fun _ => nofun, fun _ => nofun, fun _ => nofun⟩)
      (fun a p hq hp x hx => by
        cases a <;> cases hp <;> rcases hx with hx | hx <;> cases hx <;> simpa [dropVars] using hq) hT hs ha'
    simp only [ha, ha', Bool.and_eq_true, List.all_eq_true] at hw hu ⊢
    refine ⟨⟨fun o ho => hw.1 o (hsub ho), hw.2⟩, fun o ho => ?_⟩
    have hbad : ∀ x, badVar c.guards o = some x → xs.contains x = true := fun x hx =>
      hu x (List.mem_eraseDups.mpr (List.mem_filterMap.mpr ⟨o, hsub ho, hx⟩))
    obtain ⟨h, p⟩ := o
    cases p with
    | read x =>
      have hx := hok _ ho x (.inl rfl)
      simp only [obsLockset, lookup_filter_fst hx]
      simp only [badVar] at hbad
      split at hbad
      · assumption
      · have := hbad x rfl; rw [hx] at this; cases this
    | write x =>
      have hx := hok _ ho x (.inr rfl)
      simp only [obsLockset, lookup_filter_fst hx]
      simp only [badVar] at hbad
      split at hbad
      · assumption
      · have := hbad x rfl; rw [hx] at this; cases this
    | _ => rfl

end C20Fields

open C20Fields

/-! ## obligations over the regenerated skeletons -/

open Gen.SkeletonsShared in
/-- the one evaluation of the analysis over the regenerated table: the variables accessed without their guard
from an entry point, well-formedness of the entry points, and that the erasure reaches every access -/
theorem C20Fields.table_ok :
    unguardedVars cfg entryTable = listed ∧
    table.all (fun e => wellFormed cfg e.2 || !entries.contains e.1) = true ∧
    tableE.all (fun e => actsAll (fun a => !dropVars listed a) 200 e.2) = true := by
  -- the functions without unguarded access need not be looked up among the entry points
  rw [unguardedVars, entryTable, Tables.flatMap_filter]
  -- `analyseV` analyses the body of a callee once, not at every call (`Lemmas/LocksFuel.lean`)
  simp only [unguardedIn, wellFormed, analyse_eq_analyseV (F := 40) (L := 10) (by decide)]
  decide +kernel

/-- **The derived shared variables of the current source** (field, guard): the block-cache maps and counters,
the certificate pool lists, the emitter's registration map, the staged store's overlay and snapshots — each
with the mutex of its struct — and three fields of structs that HAVE NO mutex. A field added to one of the
shared structures and assigned outside its constructor / `Init` (a memo, a counter, a "last seen" value)
appears here by itself and breaks this theorem; it then has to be guarded or justified below. -/
theorem C20_fields_derived_exact :
    Gen.SkeletonsShared.derived.map (fun d => (d.1, d.2.1)) =
      [("Database.cache", "Database.mutex"), ("Database.snapshotCount", "Database.mutex"),
       ("Database.snapshots", "Database.mutex"), ("EventEmitter.events", "EventEmitter.rwMutex"),
       ("Executer.lastBlockReceived", "-"), ("Executer.syncying", "-"), ("Generator.enabledKeys", "-"),
       ("Pool.gossiped", "Pool.mutex"), ("Pool.nonGossiped", "Pool.mutex"),
       ("blockCache.cachedBlocks", "blockCache.mutex"), ("blockCache.currentHeight", "blockCache.mutex"),
       ("blockCache.heightIndex", "blockCache.mutex"), ("blockCache.size", "blockCache.mutex")] ∧
    -- every derived variable is in the guard table the criterion uses, with that guard
    Gen.SkeletonsShared.derived.all (fun d => Gen.SkeletonsShared.guards.lookup d.1 == some d.2.1) = true ∧
    -- the structures examined
    Gen.SkeletonsShared.sharedTypes =
      ["blockCache", "DataAccess", "Chain", "Pool", "EventEmitter", "Database", "Executer", "Module",
       "Generator", "chainEndpoint", "systemEndpoint", "generatorEndpoint"] := by
  decide +kernel

/-- **Every written field is guarded by its struct's mutex on all accesses, or explicitly listed.** The
variables some entry point (142 of the 145 regenerated functions, calls inlined) accesses without holding the guard
— for a write: exclusively — are EXACTLY the three listed fields. In particular every access to the other ten
derived fields holds the struct's mutex, and no other unguarded shared variable exists. -/
theorem C20_fields_guarded_or_listed :
    unguardedVars cfg entryTable = ["Executer.lastBlockReceived", "Executer.syncying", "Generator.enabledKeys"] ∧
    (unguardedVars cfg entryTable).all (fun x => listed.contains x) = true ∧
    (Gen.SkeletonsShared.derived.all fun d =>
      listed.contains d.1 || (d.2.1 != "-" && !(unguardedVars cfg entryTable).contains d.1)) = true := by
  have h := C20Fields.table_ok.1
  refine ⟨h, ?_, ?_⟩ <;> rw [h] <;> decide +kernel

/-- **Justification of the single-goroutine list.** `Executer.lastBlockReceived` is read and written by the
body of `Executer.process` only; `process` is called by the loop of `Executer.Start` only (the clause
`case ctx := <-c.processCh`), i.e. by the consensus goroutine (`C04_single_writer_process_only_in_start_loop`
states the same on writergen's table, incl. the syncer callbacks). -/
theorem C20_fields_single_goroutine_justified :
    accessors Gen.SkeletonsShared.table true "Executer.lastBlockReceived" = ["Executer.process"] ∧
    accessors Gen.SkeletonsShared.table false "Executer.lastBlockReceived" = ["Executer.process"] ∧
    callers Gen.SkeletonsShared.table "Executer.process" = ["Executer.Start"] := by
  decide +kernel

/-- **FACT (visible, candidate findings): what the current source shares without synchronisation.**
* `Executer.syncying` (a `bool`): written by `process` on the consensus goroutine (set before `syncer.Sync`,
  cleared by a deferred function), read by `Executer.Syncing()`, which `system_getNodeInfo` calls on an RPC
  goroutine and `Generator.shouldForge` calls (through the `Consensus` interface) on the generator
  goroutine. `Executer` has no mutex.
* `Generator.enabledKeys` (a `map`): written by `EnableGeneration` / `DisableGeneration`, which
  `generator_updateStatus` calls on RPC goroutines, read by `forge` / `onFinalizeBlock` on the generator
  goroutine and by `IsGenerationEnabled` (`generator_getStatus`, RPC). `Generator` has no mutex; for a map the Go runtime may
  abort the process ("concurrent map read and map write").
This theorem breaks when either set of accessors changes, and — together with
`C20_fields_guarded_or_listed` — when one of the two fields becomes guarded (then shrink
`unsynchronisedToday`). -/
theorem C20_fields_unsynchronised_today :
    accessors Gen.SkeletonsShared.table true "Executer.syncying" = ["Executer.process"] ∧
    accessors Gen.SkeletonsShared.table false "Executer.syncying" = ["Executer.Syncing"] ∧
    callers Gen.SkeletonsShared.table "Executer.Syncing" = ["systemEndpoint.HandleGetNodeInfo"] ∧
    callers Gen.SkeletonsShared.table "Consensus.Syncing" = ["Generator.shouldForge"] ∧
    accessors Gen.SkeletonsShared.table true "Generator.enabledKeys" =
      ["Generator.EnableGeneration", "Generator.DisableGeneration"] ∧
    accessors Gen.SkeletonsShared.table false "Generator.enabledKeys" =
      ["Generator.DisableGeneration", "Generator.IsGenerationEnabled", "Generator.forge",
       "Generator.onFinalizeBlock"] ∧
    callers Gen.SkeletonsShared.table "Generator.EnableGeneration" =
      ["Generator.loadGenerator", "generatorEndpoint.HandleUpdateStatus"] ∧
    callers Gen.SkeletonsShared.table "Generator.DisableGeneration" = ["generatorEndpoint.HandleUpdateStatus"] ∧
    callers Gen.SkeletonsShared.table "Generator.IsGenerationEnabled" = ["generatorEndpoint.HandleGetStatus"] ∧
    callers Gen.SkeletonsShared.table "Generator.forge" = ["Generator.Start"] ∧
    callers Gen.SkeletonsShared.table "Generator.onFinalizeBlock" = ["Generator.Start"] := by
  decide +kernel

/-- the finalized height is NOT kept in memory: `GetFinalizedHeight` and `saveBlock` access no shared
variable at all (they go to the database / the batch), and `DataAccess` has no derived field -/
theorem C20_fields_finalized_height_not_memoized :
    accesses 100 Gen.SkeletonsShared.DataAccess_GetFinalizedHeight = [] ∧
    accesses 100 Gen.SkeletonsShared.DataAccess_saveBlock = [] ∧
    (Gen.SkeletonsShared.derived.filter (fun d => d.1.startsWith "DataAccess." || d.1.startsWith "Chain.")) = [] := by
  decide +kernel

/-- with the listed fields set aside, every entry point is well-formed and satisfies the lockset criterion -/
theorem C20_fields_lockset_except_listed :
    entryTableE.all (fun e => wellFormed cfgE e.2 && locksetOk cfgE e.2) = true := by
  refine List.all_eq_true.mpr fun e he => ?_
  obtain ⟨he, hent⟩ := List.mem_filter.mp he
  have hT := C20Fields.table_ok.2.2
  have hs := Tables.all_mem hT he
  obtain ⟨e0, he0, rfl⟩ := List.mem_map.mp he
  have hm : e0 ∈ entryTable := List.mem_filter.mpr ⟨he0, hent⟩
  have hw : wellFormed cfg e0.2 = true := by
    have h1 : (wellFormed cfg e0.2 || !Gen.SkeletonsShared.entries.contains e0.1) = true :=
      Tables.all_mem C20Fields.table_ok.2.1 he0
    rw [show Gen.SkeletonsShared.entries.contains e0.1 = true from hent] at h1
    simpa using h1
  have hu : (unguardedIn cfg e0.2).all listed.contains = true := by
    refine List.all_eq_true.mpr fun x hx => ?_
    have : x ∈ unguardedVars cfg entryTable :=
      List.mem_eraseDups.mpr (List.mem_flatMap.mpr ⟨e0, hm, hx⟩)
    exact Tables.all_mem C20_fields_guarded_or_listed.2.1 this
  exact lockset_erase (c := cfg) (cE := cfgE) (k := 200) rfl hT hs hw hu

/-- **Race freedom on every derived field outside the lists**: any number of goroutines, each executing one
invocation of a regenerated entry point (the accesses to the listed fields set aside) or the body of a goroutine
spawned by one, under any schedule, never have two conflicting accesses to a shared variable enabled together
(by `C20_lockset_implies_race_free`). -/
theorem C20_fields_race_free_except_listed (u : Nat) (ps : List Path)
    (hps : ∀ p ∈ ps, ∃ e ∈ entryTableE, IsThreadPath tableE u e.2 p)
    (st : State) (hr : Reachable (initState ps) st) (i j : Nat) : raceAt st i j = false := by
  have hall := C20_fields_lockset_except_listed
  simp only [List.all_eq_true, Bool.and_eq_true] at hall
  apply C20_lockset_implies_race_free cfgE u (entryTableE.map (·.2)) _ ps _ st hr i j
  · intro s hs
    obtain ⟨e, he, rfl⟩ := List.mem_map.mp hs
    exact hall e he
  · intro p hp
    obtain ⟨e, he, hpath⟩ := hps p hp
    exact ⟨e.2, List.mem_map.mpr ⟨e, he, rfl⟩, hpath⟩

/-! ## counterexample: a memoized finalized height -/

namespace C20Fields.Memo

/-- `GetFinalizedHeight` with a memo, as skelgen extracts it: read the "loaded" flag, return the memo or load
it from the database and store it -/
def getFinalizedHeight : Skel :=
  [.read "DataAccess.finalizedHeightLoaded",
   .choice [[.read "DataAccess.finalizedHeight", .ret], []],
   .choice [[.ret], []],
   .write "DataAccess.finalizedHeight",
   .write "DataAccess.finalizedHeightLoaded",
   .read "DataAccess.finalizedHeight",
   .ret]

/-- `saveBlock` storing the new finalized height into the memo -/
def saveBlock : Skel :=
  [.write "DataAccess.finalizedHeight", .write "DataAccess.finalizedHeightLoaded"]

def table : Table := [("DataAccess.GetFinalizedHeight", getFinalizedHeight), ("DataAccess.saveBlock", saveBlock)]

/-- `DataAccess` has no mutex: the derived guard is "-" -/
def cfg : Cfg :=
  ⟨table, [("DataAccess.finalizedHeight", "-"), ("DataAccess.finalizedHeightLoaded", "-")], []⟩

/-- an RPC goroutine in `GetFinalizedHeight` (memo loaded) and the consensus goroutine in `saveBlock` -/
def readerPath : Path := [.read "DataAccess.finalizedHeightLoaded", .read "DataAccess.finalizedHeight"]
def writerPath : Path := [.write "DataAccess.finalizedHeight", .write "DataAccess.finalizedHeightLoaded"]

end C20Fields.Memo

/-- **Counterexample.** The memo fields are reported as unguarded by the criterion, both paths are paths of
the skeletons, and after the reader's first step the reader's read and the writer's write of
`finalizedHeight` are enabled together: a data race. -/
theorem C20_fields_memo_is_a_race :
    unguardedVars C20Fields.Memo.cfg C20Fields.Memo.table =
      ["DataAccess.finalizedHeightLoaded", "DataAccess.finalizedHeight"] ∧
    C20Fields.Memo.readerPath ∈ bodyPaths C20Fields.Memo.table 0 10 C20Fields.Memo.getFinalizedHeight ∧
    C20Fields.Memo.writerPath ∈ bodyPaths C20Fields.Memo.table 0 10 C20Fields.Memo.saveBlock ∧
    (∃ st, run (initState [C20Fields.Memo.readerPath, C20Fields.Memo.writerPath]) [0] = some st ∧
      raceAt st 0 1 = true) := by
  refine ⟨?_, ?_, ?_, ⟨_, rfl, ?_⟩⟩ <;> decide

/-! ## non-vacuity -/

/-- the race-freedom theorem has instances: the regenerated `last()` is one of the 142 entry points and the
tip reader's path is one of its paths -/
example :
    let p1 : Path := [.racq "blockCache.mutex", .read "blockCache.heightIndex", .read "blockCache.currentHeight",
      .rrel "blockCache.mutex"]
    entryTableE.any (fun e => e.1 == "blockCache.last" && (bodyPaths tableE 0 10 e.2).contains p1) = true ∧
    entryTableE.length = 142 := by
  -- one name comparison per entry (`Tables.filterSeq`)
  rw [entryTableE, ← Tables.filterSeq_eq _ _ Gen.SkeletonsShared.entries fun _ h => h]
  decide +kernel

/-- the erasure only removes accesses to the listed fields: the `Syncing` getter loses its read, `last()`
keeps all of its accesses -/
example :
    accesses 100 Gen.SkeletonsShared.Executer_Syncing = [(false, "Executer.syncying")] ∧
    accesses 100 (eraseVars listed 200 Gen.SkeletonsShared.Executer_Syncing) = [] ∧
    accesses 100 (eraseVars listed 200 Gen.SkeletonsShared.blockCache_last) =
      accesses 100 Gen.SkeletonsShared.blockCache_last ∧
    accesses 100 Gen.SkeletonsShared.blockCache_last ≠ [] := by
  refine ⟨?_, ?_, ?_, ?_⟩ <;> decide
