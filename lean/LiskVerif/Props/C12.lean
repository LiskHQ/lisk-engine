/-
C12 — Staged state store reads equal the database with staged writes applied.

Property theorems about `LiskVerif.Model.DiffDB` (the model of pkg/db/diffdb and the scans of
pkg/db).  The invariant is entry-wise (`C12EntryOk`: `init` records what the database holds, only
stored keys are tombstoned, a clean entry still shows `init`); `C12EntryOk.kinds` lists the four
kinds of entry it admits, which is the case split of every later proof about `Commit` and the diff.
Reads change the overlay only by entries that mirror the database (`Mirrors`, Lemmas/DiffDB), so the
effective map `eff` is what every read returns and what `Commit` writes.
-/
import LiskVerif.Lemmas.DiffDBCommit
import LiskVerif.Lemmas.DiffDBScan

open LiskVerif LiskVerif.DiffDB

/-- Invariant of one overlay w.r.t. the underlying store. -/
structure C12CacheInv (s : Store) (c : Cache) : Prop where
  nodupC : NoDupKeys c
  /-- `init` records exactly what the store holds -/
  initOk : ∀ k cv, clookup c k = some cv → cv.init = slookup s k
  /-- only keys present in the store are ever marked deleted -/
  delOk : ∀ k cv, clookup c k = some cv → cv.deleted = true → cv.init ≠ none
  /-- an entry that is neither dirty nor deleted still carries its initial value -/
  cleanOk : ∀ k cv, clookup c k = some cv → cv.dirty = false → cv.deleted = false →
    cv.init = none ∨ cv.init = some cv.value

/-- Invariant of the staged store: holds initially and is preserved by every operation. -/
structure C12Inv (st : St) : Prop where
  nodupS : NoDupKeys st.store
  cacheOk : C12CacheInv st.store st.cache
  snapsOk : ∀ e ∈ st.snaps, C12CacheInv st.store e.2

theorem C12_inv_init (s : Store) (h : NoDupKeys s) : C12Inv { store := s } :=
  ⟨h, ⟨List.nodup_nil, nofun, nofun, nofun⟩, nofun⟩

/-! ### the invariant, entry by entry -/

/-- what the invariant says about the entry `cv` under the key `k` -/
def C12EntryOk (s : Store) (k : Bytes) (cv : CV) : Prop :=
  cv.init = slookup s k ∧ (cv.deleted = true → cv.init ≠ none) ∧
    (cv.dirty = false → cv.deleted = false → cv.init = none ∨ cv.init = some cv.value)

theorem C12CacheInv.entry {s : Store} {c : Cache} (h : C12CacheInv s c) {k : Bytes} {cv : CV}
    (hl : clookup c k = some cv) : C12EntryOk s k cv :=
  ⟨h.initOk k cv hl, h.delOk k cv hl, h.cleanOk k cv hl⟩

/-- the kinds of entry the invariant admits: a new key, or a key the database holds under `i` —
deleted, written, or still showing `i` -/
theorem C12EntryOk.kinds {s : Store} {k : Bytes} {cv : CV} (h : C12EntryOk s k cv) :
    (slookup s k = none ∧ cv.init = none ∧ cv.deleted = false) ∨
    ∃ i, slookup s k = some i ∧ cv.init = some i ∧
      (cv.deleted = true ∨ cv.deleted = false ∧ (cv.dirty = true ∨ cv.dirty = false ∧ cv.value = i)) := by
  obtain ⟨h1, h2, h3⟩ := h
  cases hi : cv.init with
  | none =>
    refine Or.inl ⟨h1 ▸ hi, rfl, ?_⟩
    cases hd : cv.deleted with
    | false => rfl
    | true => exact absurd hi (h2 hd)
  | some i =>
    refine Or.inr ⟨i, h1 ▸ hi, rfl, ?_⟩
    cases hd : cv.deleted with
    | true => exact Or.inl rfl
    | false =>
      cases hdi : cv.dirty with
      | true => exact Or.inr ⟨rfl, Or.inl rfl⟩
      | false =>
        rcases h3 hdi hd with h | h
        · rw [hi] at h; cases h
        · rw [hi] at h; exact Or.inr ⟨rfl, Or.inr ⟨rfl, (Option.some.inj h).symm⟩⟩

theorem C12CacheInv.of_entries {s : Store} {c : Cache} (hnd : NoDupKeys c)
    (h : ∀ k cv, clookup c k = some cv → C12EntryOk s k cv) : C12CacheInv s c :=
  ⟨hnd, fun k cv hl => (h k cv hl).1, fun k cv hl => (h k cv hl).2.1, fun k cv hl => (h k cv hl).2.2⟩

theorem C12CacheInv.cput {s : Store} {c : Cache} (h : C12CacheInv s c) {k : Bytes} {e : CV}
    (he : C12EntryOk s k e) : C12CacheInv s (cput c k e) := by
  refine .of_entries (nodup_put c k e h.nodupC) fun k' cv hl => ?_
  rw [clookup_cput] at hl
  by_cases hk : k = k'
  · rw [if_pos hk, Option.some.injEq] at hl; exact hl ▸ hk ▸ he
  · rw [if_neg hk] at hl; exact h.entry hl

theorem C12CacheInv.cerase {s : Store} {c : Cache} (h : C12CacheInv s c) (k : Bytes) :
    C12CacheInv s (cerase c k) := by
  refine .of_entries (nodup_filter c _ h.nodupC) fun k' cv hl => ?_
  rw [clookup_cerase] at hl
  by_cases hk : k = k'
  · rw [if_pos hk] at hl; cases hl
  · rw [if_neg hk] at hl; exact h.entry hl

/-- entries that mirror the store satisfy the invariant -/
theorem C12CacheInv.mirrors {s : Store} {c c' : Cache} (h : C12CacheInv s c) (hm : Mirrors s c c')
    (hnd : NoDupKeys c') : C12CacheInv s c' := by
  refine .of_entries hnd fun k cv hl => ?_
  rcases hm k with e | ⟨_, v, hs, e⟩ <;> rw [e] at hl
  · exact h.entry hl
  · cases hl; exact ⟨hs.symm, nofun, fun _ _ => Or.inr rfl⟩

theorem C12Inv.with_cache {st : St} (h : C12Inv st) {c : Cache} (hc : C12CacheInv st.store c) :
    C12Inv { st with cache := c } :=
  ⟨h.nodupS, hc, h.snapsOk⟩

/-! ### point reads and writes refine the overlay map -/

/-- `Get` returns the effective value (store with staged writes applied), leaves the effective map
unchanged (it only caches) and preserves the invariant. -/
theorem C12_get_refines (st : St) (h : C12Inv st) (k : Bytes) :
    (DiffDB.get st k).2 = eff st k ∧ (∀ k', eff (DiffDB.get st k).1 k' = eff st k') ∧
      C12Inv (DiffDB.get st k).1 := by
  have hg := get_cache st k
  rw [get_eq] at hg ⊢
  exact ⟨rfl, hg.1.effC, h.with_cache (h.cacheOk.mirrors hg.1 (hg.2 h.cacheOk.nodupC))⟩

/-- the entry `Set` leaves satisfies the invariant when the entry it replaces did -/
theorem setEntry_ok {s : Store} {k : Bytes} {o : Option CV} (ho : ∀ cv, o = some cv → C12EntryOk s k cv)
    (v : Bytes) : C12EntryOk s k (setEntry o (slookup s k) v) := by
  unfold C12EntryOk setEntry
  cases o with
  | some cv => exact ⟨(ho cv rfl).1, nofun, nofun⟩
  | none =>
    cases slookup s k with
    | some v0 => exact ⟨rfl, nofun, nofun⟩
    | none => exact ⟨rfl, nofun, fun _ _ => Or.inl rfl⟩

/-- `Set` stages `k ↦ v` and nothing else. -/
theorem C12_set_refines (st : St) (h : C12Inv st) (k v : Bytes) :
    (∀ k', eff (DiffDB.set st k v) k' = if k = k' then some v else eff st k') ∧
      C12Inv (DiffDB.set st k v) := by
  rw [set_eq]
  refine ⟨fun k' => ?_, h.with_cache (h.cacheOk.cput (setEntry_ok (fun _ => h.cacheOk.entry) v))⟩
  simp only [eff, effC, clookup_cput]
  by_cases hk : k = k'
  · simp only [if_pos hk, (setEntry_spec _ _ _).1, (setEntry_spec _ _ _).2, Bool.false_eq_true, if_false]
  · simp only [if_neg hk]

/-- the entry `Del` leaves satisfies the invariant; it leaves none only for a key the database does not hold -/
theorem delEntry_ok {s : Store} {k : Bytes} {o : Option CV} (ho : ∀ cv, o = some cv → C12EntryOk s k cv) :
    (∀ e, delEntry o (slookup s k) = some e → C12EntryOk s k e) ∧
      (delEntry o (slookup s k) = none → slookup s k = none) := by
  unfold C12EntryOk delEntry
  cases o with
  | some cv =>
    have h1 := (ho cv rfl).1
    obtain ⟨i, v, d, dl⟩ := cv
    cases i with
    | none => exact ⟨nofun, fun _ => h1.symm⟩
    | some i => exact ⟨fun e he => Option.some.inj he ▸ ⟨h1, fun _ => nofun, fun _ => nofun⟩, nofun⟩
  | none =>
    cases slookup s k with
    | some v0 => exact ⟨fun e he => Option.some.inj he ▸ ⟨rfl, fun _ => nofun, fun _ => nofun⟩, nofun⟩
    | none => exact ⟨nofun, fun _ => rfl⟩

/-- `Del` stages the removal of `k` and nothing else. -/
theorem C12_del_refines (st : St) (h : C12Inv st) (k : Bytes) :
    (∀ k', eff (del st k) k' = if k = k' then none else eff st k') ∧ C12Inv (del st k) := by
  obtain ⟨hsome, hnone⟩ := delEntry_ok (o := clookup st.cache k) fun _ => h.cacheOk.entry
  rw [del_eq]
  cases hd : delEntry (clookup st.cache k) (slookup st.store k) with
  | some e =>
    refine ⟨fun k' => ?_, h.with_cache (h.cacheOk.cput (hsome e hd))⟩
    simp only [eff, effC, clookup_cput]
    by_cases hk : k = k'
    · simp only [if_pos hk, (delEntry_spec hd).1, if_true]
    · simp only [if_neg hk]
  | none =>
    refine ⟨fun k' => ?_, h.with_cache (h.cacheOk.cerase k)⟩
    simp only [eff, effC, clookup_cerase]
    by_cases hk : k = k'
    · subst hk; simp only [if_true, hnone hd]
    · simp only [if_neg hk]

/-! ### scans keep the effective map and the invariant -/

theorem C12_scan_inv (st : St) (h : C12Inv st) (f : Bytes → Bool) (limit : Int) (rev : Bool) :
    (∀ k', eff (scan st f limit rev).1 k' = eff st k') ∧ C12Inv (scan st f limit rev).1 :=
  have hm := scan_cache st h.nodupS f limit rev
  ⟨hm.1.effC, h.with_cache (h.cacheOk.mirrors hm.1 (hm.2 h.cacheOk.nodupC))⟩

theorem C12_inv_step (st : St) (h : C12Inv st) (op : Op) : C12Inv (step st op) := by
  cases op with
  | get k => exact (C12_get_refines st h k).2.2
  | set k v => exact (C12_set_refines st h k v).2
  | del k => exact (C12_del_refines st h k).2
  | range s e l rv => exact (C12_scan_inv st h _ l rv).2
  | iterate p l rv => exact (C12_scan_inv st h _ l rv).2
  | snapshot =>
    refine ⟨h.nodupS, h.cacheOk, fun e he => ?_⟩
    rcases List.mem_cons.mp he with rfl | he
    · exact h.cacheOk
    · exact h.snapsOk e he
  | restore id =>
    simp only [step, restore]
    cases hf : findSnap st.snaps id with
    | none => exact h
    | some c =>
      exact ⟨h.nodupS, h.snapsOk (id, c) (mem_of_findSnap hf),
        fun e he => h.snapsOk e (List.mem_filter.mp he).1⟩
  | deleteSnapshot id => exact ⟨h.nodupS, h.cacheOk, fun e he => h.snapsOk e (List.mem_filter.mp he).1⟩

/-- Every operation sequence (reads, writes, deletes, scans, snapshots, restores, snapshot deletions)
preserves the invariant of the staged store. -/
theorem C12_cache_invariant (st : St) (h : C12Inv st) (ops : List Op) : C12Inv (run st ops) :=
  List.foldlRecOn (motive := C12Inv) ops _ h fun s hs op _ => C12_inv_step s hs op

/-- Reads and scans never change the effective map (they only populate the cache). -/
theorem C12_reads_do_not_change_state (st : St) (h : C12Inv st) :
    (∀ k k', eff (step st (.get k)) k' = eff st k') ∧
    (∀ s e l r k', eff (step st (.range s e l r)) k' = eff st k') ∧
    (∀ p l r k', eff (step st (.iterate p l r)) k' = eff st k') :=
  ⟨fun k k' => (C12_get_refines st h k).2.1 k',
   fun _ _ l r k' => (C12_scan_inv st h _ l r).1 k',
   fun _ l r k' => (C12_scan_inv st h _ l r).1 k'⟩

/-! ### snapshots -/

/-- ops that do not restore or delete snapshot `id` -/
def C12KeepsSnapshot (id : Nat) : Op → Prop
  | .restore i => i ≠ id
  | .deleteSnapshot i => i ≠ id
  | _ => True

/-- the table entry of an issued id survives a step that neither restores nor deletes it; so does
the absence of an entry -/
theorem findSnap_step_of_keeps (s0 : St) (op : Op) (id : Nat) (hlt : id < s0.snapCount)
    (hop : C12KeepsSnapshot id op ∨ findSnap s0.snaps id = none) :
    findSnap (step s0 op).snaps id = findSnap s0.snaps id := by
  rw [findSnap_step]
  cases op with
  | snapshot => exact if_neg (Nat.ne_of_gt hlt)
  | restore i => exact hop.elim (fun h => if_neg h) fun hn => by dsimp only; rw [hn, ite_self]
  | deleteSnapshot i => exact hop.elim (fun h => if_neg h) fun hn => by dsimp only; rw [hn, ite_self]
  | _ => rfl

/-- a snapshot stays in the table, with its content, as long as it is neither restored nor deleted -/
theorem C12_keeps_step (op : Op) (s0 : St) (id : Nat) (c : Cache) (hop : C12KeepsSnapshot id op)
    (hlt : id < s0.snapCount) (hf : findSnap s0.snaps id = some c) :
    id < (step s0 op).snapCount ∧ findSnap (step s0 op).snaps id = some c :=
  ⟨Nat.lt_of_lt_of_le hlt (snapCount_le_run [op] s0), (findSnap_step_of_keeps s0 op id hlt (Or.inl hop)).trans hf⟩

theorem C12_keeps_run (ops : List Op) (id : Nat) (c : Cache) (s0 : St)
    (hk : ∀ op ∈ ops, C12KeepsSnapshot id op) (hlt : id < s0.snapCount) (hf : findSnap s0.snaps id = some c) :
    findSnap (run s0 ops).snaps id = some c :=
  (List.foldlRecOn (motive := fun s : St => id < s.snapCount ∧ findSnap s.snaps id = some c) ops _ ⟨hlt, hf⟩
    fun s h op ho => C12_keeps_step op s id c (hk op ho) h.1 h.2).2

/-- after a history that neither restores nor deletes it, the snapshot just taken is still registered,
with the overlay of its time -/
theorem C12_snapshot_kept (st : St) (ops : List Op)
    (hops : ∀ op ∈ ops, C12KeepsSnapshot (snapshot st).2 op) :
    findSnap (run (snapshot st).1 ops).snaps (snapshot st).2 = some st.cache :=
  C12_keeps_run ops _ _ _ hops (Nat.lt_succ_self _) (if_pos rfl)

/-- Restoring a snapshot returns exactly the staged state at the time of the snapshot, whatever
happened in between (writes, deletes, scans, other snapshots taken / restored / deleted). -/
theorem C12_snapshot_restore (st : St) (ops : List Op)
    (hops : ∀ op ∈ ops, C12KeepsSnapshot (snapshot st).2 op) :
    let st' := run (snapshot st).1 ops
    (restore st' (snapshot st).2).2 = true ∧
    ∀ k, eff (restore st' (snapshot st).2).1 k = eff st k := by
  intro st'
  have hf : findSnap st'.snaps (snapshot st).2 = some st.cache := C12_snapshot_kept st ops hops
  have hs : st'.store = st.store := run_store _ ops
  rw [restore_of_some hf]
  exact ⟨rfl, fun k => by simp only [eff, hs]⟩

/-! ### commit and revert -/

/-- for an entry the invariant admits, what `Commit` writes is the effective value -/
theorem writtenBy_ok {s : Store} {k : Bytes} {cv : CV} (h : C12EntryOk s k cv) :
    writtenBy cv (slookup s k) = if cv.deleted then none else some cv.value := by
  unfold writtenBy
  rcases h.kinds with ⟨_, hi, hd⟩ | ⟨i, hs, hi, hd | ⟨hd, hdi | ⟨hdi, hv⟩⟩⟩ <;> simp [*]

/-- Commit writes exactly the final staged state: after the batch is applied, every key of the
database holds its effective value. -/
theorem C12_commit_exact (st : St) (h : C12Inv st) (k : Bytes) :
    slookup (commit st).1.store k = eff st k := by
  rw [commit, slookup_commitCache st.cache st.store {} h.cacheOk.nodupC k, eff, effC]
  cases hc : clookup st.cache k with
  | none => rfl
  | some cv => exact writtenBy_ok (h.cacheOk.entry hc)

/-- The diff returned by commit reverses it: applying `RevertDiff` to the committed database
restores the previous contents for every key, byte for byte. -/
theorem C12_revert_exact (st : St) (h : C12Inv st) (k : Bytes) :
    slookup (revertDiff (commit st).1.store (commit st).2) k = slookup st.store k := by
  have hnd := h.cacheOk.nodupC
  have hU : NoDupKeys (diffUpdated st.cache) := nodup_filterMap (fun _ => updOld) hnd
  have hD : NoDupKeys (diffDeleted st.cache) := nodup_filterMap (fun _ => delOld) hnd
  rw [commit_diff, revertDiff]
  dsimp only
  rw [slookup_foldl_sset _ _ _ hU, show slookup (diffUpdated st.cache) k = _ from slookup_diffList hnd updOld k,
    slookup_foldl_sset _ _ _ hD, show slookup (diffDeleted st.cache) k = _ from slookup_diffList hnd delOld k,
    slookup_foldl_sdel, C12_commit_exact st h k, eff, effC]
  cases hc : clookup st.cache k with
  | none =>
    have : k ∉ diffAdded st.cache := fun hm => by
      obtain ⟨cv, h1, _⟩ := (mem_diffAdded _ hnd k).mp hm
      rw [hc] at h1; cases h1
    simp [this]
  | some cv =>
    have ha : k ∈ diffAdded st.cache ↔ cv.init = none := by
      rw [mem_diffAdded _ hnd, hc]; simp
    simp only [Option.bind_some, updOld, delOld, ha]
    rcases (h.cacheOk.entry hc).kinds with ⟨hs, hi, hd⟩ | ⟨i, hs, hi, hd | ⟨hd, hdi | ⟨hdi, hv⟩⟩⟩ <;>
      simp [*]

/-! ### the database's own scans -/

/-- `IterateRange start end` returns exactly the entries with `start ≤ key ≤ end` … -/
theorem C12_db_range_mem (s : Store) (a b : Bytes) (rev : Bool) (kv : KV) :
    kv ∈ dbRange s a b (-1) rev ↔ kv ∈ s ∧ ble a kv.1 = true ∧ ble kv.1 b = true := by
  rw [dbRange, applyLimit_neg, mem_sortDir, List.mem_filter, inRange, Bool.and_eq_true]

/-- … in ascending key order (descending when `reverse`), … -/
theorem C12_db_range_sorted (s : Store) (a b : Bytes) :
    (dbRange s a b (-1) false).Pairwise (fun x y => ble x.1 y.1 = true) ∧
    (dbRange s a b (-1) true).Pairwise (fun x y => ble y.1 x.1 = true) :=
  sortDir_sorted _

/-- … and a limit `n ≥ 0` keeps the first `n` of them. -/
theorem C12_db_range_limit (s : Store) (a b : Bytes) (n : Nat) (rev : Bool) :
    dbRange s a b n rev = (dbRange s a b (-1) rev).take n :=
  applyLimit_nat _ n

/-- `Iterate prefix` returns exactly the entries whose key has that prefix (their order:
`C12_db_iterate_sorted_limit` in `Props/C12_More.lean`). -/
theorem C12_db_iterate_mem (s : Store) (p : Bytes) (rev : Bool) (kv : KV) :
    kv ∈ dbIterate s p (-1) rev ↔ kv ∈ s ∧ hasPrefix kv.1 p = true := by
  rw [dbIterate, applyLimit_neg, mem_sortDir, List.mem_filter]

/-! ### non-vacuity: a concrete reachable state satisfying the hypotheses -/

private def exStore : Store := [([1], [10]), ([2], [20]), ([1, 0], [30])]
private def exSt : St := run { store := exStore } [.set [2] [21], .del [1], .set [3] [33], .get [1, 0]]

example : NoDupKeys exStore := by unfold NoDupKeys exStore; decide
example : C12Inv exSt := C12_cache_invariant _ (C12_inv_init exStore (by unfold NoDupKeys exStore; decide)) _
example : (range exSt [0] [9] (-1) false).2 = [([1, 0], [30]), ([2], [21]), ([3], [33])] := by decide +kernel
example : (range exSt [0] [9] 1 true).2 = [([3], [33])] := by decide +kernel
example : eff exSt [1] = none ∧ eff exSt [2] = some [21] := by decide +kernel
example : (dbRange exStore [1] [2] (-1) true) = [([2], [20]), ([1, 0], [30]), ([1], [10])] := by decide +kernel
