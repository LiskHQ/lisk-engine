/-
C18 — "the window ends for every procedure at every tick": the window reset of the rate limiter
(pkg/p2p/ratelimit.go rateLimiterHandler) as regenerated by tools/skelgen (Gen/SkeletonsP2P.lean) is exactly

    for every tick: for every procedure counter: Lock (blocking) ; counters = fresh map ; Unlock

so a tick never leaves a counter out. A reset that SKIPS a counter whose mutex is busy (`TryLock` … `continue`, seeded
change C18-20) merges two windows for all peers of that procedure: traffic within the limit in each window is
penalised. The rate-limit model (Model/RateLimit.lean, Props/C18_More: exact penalty counts per window) assumes the
reset of ALL counters at every tick; this file is that assumption as an obligation on the source.
-/
import LiskVerif.Gen.SkeletonsP2P

open LiskVerif LiskVerif.Locks

/-- the regenerated skeleton of the reset goroutine, exactly -/
theorem C18_gen_window_reset_skeleton_exact :
    Gen.SkeletonsP2P.rateLimiterHandler =
      [.loop [.choice [[.recv "t.C",
                .loop [.lock "rpcMessageCounter.mu",
                    .write "rpcMessageCounter.counters",
                    .unlock "rpcMessageCounter.mu"]],
              [.recv "ctx.Done()",
                .ret]]]] := by
  rfl

/-- the arithmetic of two merged windows, about numbers only (Model/RateLimit is not mentioned): `a ≤ l` messages
in one window and `b ≤ l` in the next are within the limit `l` in each, while their sum — what the counter of a
skipped reset reaches — is not, whenever `l < a + b`. -/
theorem C18_skipped_reset_penalises_within_limit (l a b : Nat) (ha : a ≤ l) (hb : b ≤ l) (hab : l < a + b) :
    (a ≤ l ∧ b ≤ l) ∧ ¬ (a + b ≤ l) := by
  exact ⟨⟨ha, hb⟩, by omega⟩

example : (8 ≤ 10 ∧ 8 ≤ 10) ∧ ¬ (8 + 8 ≤ 10) := by decide
