/-
C17 — "every request ends with either the response ... or an error", for every state of the caller's
context.

Theorems about the sequential model Model/ReqRetry.lean of `MessageProtocol.request` (retry loop),
`RequestFrom` and `Broadcast`.  One attempt (`sendRequestMessage`) is an arbitrary function
`attempt : Nat → AOut` — whatever the network, the remote peer, timers and the caller's context make of
attempt `i` — so the theorems cover every cancellation point (context already cancelled / already
expired when the call is made, ended during a send, during a wait, between two retries, never) and
every retry budget.  `attemptOf` spells the cancellation points out; the harness (pseudo-property
C17CTX) runs the same points on the real code and diffs the outcome class with this model.

`C17_gen_request_loop_is_model_loop` ties the transcription to the source: the normalised text of
`request`, `RequestFrom` and `Broadcast` is regenerated by tools/reqgen on every run.
`C17_retry_loop_agrees_with_interleaving_model` links the loop to the interleaving model: one pass of `loop` decides
as `ReqResp.afterAttempt` does (hence the import of Model/ReqResp).

`C17_context_check_with_break_returns_nil_nil_counterexample` shows what the statement excludes: a loop that checks the context in
front of every attempt and leaves with `break` returns `(nil, nil)` for a caller whose context is
already done; `RequestFrom` then dereferences nil and `Broadcast` reports success without having
asked anybody.
-/
import LiskVerif.Model.ReqRetry
import LiskVerif.Model.ReqResp
import LiskVerif.Gen.ReqFacts

open LiskVerif LiskVerif.ReqRetry

/-! ### tie A -/

/-- The three functions the model transcribes, as regenerated from the current source: the retry loop
runs `i = 0 .. messageMaxRetries` (at least once, the constant is the literal 3), its body is the
optional log line, the attempt that assigns BOTH result variables, the error branch (`continue` on
timeout, `return nil, err` otherwise) and `return res, nil`; it has no `break`, `goto` or label, and
the only statement after the loop is `return nil, err`.  `RequestFrom` dereferences the response
exactly when the error is nil; `Broadcast` is one `request` per connected peer and stops at the
first error. -/
theorem C17_gen_request_loop_is_model_loop :
    Gen.ReqFacts.src_MessageProtocol_request =
      "func(ctx context.Context, id peer.ID, procedure string, data []byte) (*Response, error) { var ( err error res *Response ) for i := 0; i <= messageMaxRetries; i++ { if i > 0 { mp.logger.Debugf(\"Retrying request message to %v. Retry count: %d\", id, i) } res, err = mp.sendRequestMessage(ctx, id, procedure, data) if err != nil { if errors.Is(err, errTimeout) { continue } return nil, err } return res, nil } return nil, err }" ∧
    Gen.ReqFacts.src_MessageProtocol_RequestFrom =
      "func(ctx context.Context, peerID PeerID, procedure string, data []byte) Response { response, err := mp.request(ctx, peerID, procedure, data) if err != nil { return Response{err: err} } return *response }" ∧
    Gen.ReqFacts.src_MessageProtocol_Broadcast =
      "func(ctx context.Context, procedure string, data []byte) error { peers := mp.peer.ConnectedPeers() for _, peerID := range peers { if _, err := mp.request(ctx, peerID, procedure, data); err != nil { return err } } return nil }" ∧
    Gen.ReqFacts.requestBeforeLoop = ["var ( err error res *Response )"] ∧
    Gen.ReqFacts.requestLoopHeader = "for i := 0; i <= messageMaxRetries; i++" ∧
    Gen.ReqFacts.requestLoopCount = 1 ∧
    Gen.ReqFacts.requestAttemptIndex = some 1 ∧
    Gen.ReqFacts.requestLoopBody.length = 4 ∧
    Gen.ReqFacts.requestAfterLoop = ["return nil, err"] ∧
    Gen.ReqFacts.requestLoopHasBreak = false ∧
    Gen.ReqFacts.requestLoopHasGoto = false ∧
    Gen.ReqFacts.requestLoopHasLabel = false ∧
    Gen.ReqFacts.messageMaxRetries = "3" := by
  exact ⟨rfl, rfl, rfl, rfl, rfl, rfl, rfl, rfl, rfl, rfl, rfl, rfl, rfl⟩

/-! ### the retry loop -/

/-- the pair returned when the loop ends at an attempt with result `o` -/
private def retOf : AOut → Ret
  | .resp p => ⟨some p, none⟩
  | .err e => ⟨none, some e⟩

/-- the loop skips the attempts that time out and ends at the first one that does not -/
private theorem loop_at (attempt : Nat → AOut) :
    ∀ (k n i : Nat) (e0 : Option Err), k < n → (∀ j, j < k → attempt (i + j) = .err .timeout) →
      attempt (i + k) ≠ .err .timeout → loop attempt n i e0 = retOf (attempt (i + k))
  | _, 0, _, _, hk, _, _ => absurd hk (Nat.not_lt_zero _)
  | 0, n + 1, i, _, _, _, hne => by
    rw [loop]
    cases h : attempt i with
    | resp p => rfl
    | err e => cases e <;> first | rfl | exact absurd h hne
  | k + 1, n + 1, i, _, hk, hall, hne => by
    have e : ∀ j, i + 1 + j = i + (j + 1) := fun j => by omega
    rw [loop, show attempt i = _ from hall 0 (Nat.zero_lt_succ _)]
    exact e k ▸ loop_at attempt k n (i + 1) _ (Nat.lt_of_succ_lt_succ hk)
      (fun j hj => e j ▸ hall (j + 1) (Nat.succ_lt_succ hj)) (e k ▸ hne)

/-- … and returns the last error when all of them time out -/
private theorem loop_timeouts (attempt : Nat → AOut) :
    ∀ (n i : Nat) (e0 : Option Err), (∀ j, j < n → attempt (i + j) = .err .timeout) →
      loop attempt n i e0 = ⟨none, if n = 0 then e0 else some .timeout⟩
  | 0, _, _, _ => rfl
  | n + 1, i, _, hall => by
    have e : ∀ j, i + 1 + j = i + (j + 1) := fun j => by omega
    rw [loop, show attempt i = _ from hall 0 (Nat.zero_lt_succ _)]
    rw [loop_timeouts attempt n (i + 1) _ fun j hj => e j ▸ hall (j + 1) (Nat.succ_lt_succ hj)]
    cases n <;> rfl

/-- among the first `n` attempts all time out, or there is a first one that does not -/
private theorem first_non_timeout (attempt : Nat → AOut) :
    ∀ n, (∀ j, j < n → attempt j = .err .timeout) ∨
      ∃ k, k < n ∧ (∀ j, j < k → attempt j = .err .timeout) ∧ attempt k ≠ .err .timeout
  | 0 => .inl fun _ h => absurd h (Nat.not_lt_zero _)
  | n + 1 => (first_non_timeout attempt n).elim
    (fun h => (Classical.em (attempt n = .err .timeout)).elim
      (fun hn => .inl fun j hj => (Nat.lt_succ_iff_lt_or_eq.mp hj).elim (h j) (· ▸ hn))
      (fun hn => .inr ⟨n, Nat.lt_succ_self n, h, hn⟩))
    (fun ⟨k, hk, h⟩ => .inr ⟨k, Nat.lt_succ_of_lt hk, h⟩)

/-- the attempt at which `request` ends is determined: the first that does not time out -/
private theorem request_at (budget : Nat) (attempt : Nat → AOut) (k : Nat) (hk : k ≤ budget)
    (hall : ∀ j, j < k → attempt j = .err .timeout) (hne : attempt k ≠ .err .timeout) :
    request budget attempt = retOf (attempt k) := by
  have := loop_at attempt k (budget + 1) 0 none (Nat.lt_succ_of_le hk)
    (fun j hj => (Nat.zero_add j).symm ▸ hall j hj) ((Nat.zero_add k).symm ▸ hne)
  rwa [Nat.zero_add] at this

/-- `request` ends at the first attempt within the budget that does not time out, or with the
timeout error when there is none -/
private theorem request_eq (budget : Nat) (attempt : Nat → AOut) :
    request budget attempt = ⟨none, some .timeout⟩ ∨
    ∃ k, k ≤ budget ∧ (∀ j, j < k → attempt j = .err .timeout) ∧ request budget attempt = retOf (attempt k) :=
  (first_non_timeout attempt (budget + 1)).imp
    (fun h => loop_timeouts attempt _ 0 none fun j hj => (Nat.zero_add j).symm ▸ h j hj)
    fun ⟨k, hk, hall, hne⟩ =>
      ⟨k, Nat.le_of_lt_succ hk, hall, request_at budget attempt k (Nat.le_of_lt_succ hk) hall hne⟩

/-- For every retry budget and every behaviour of the attempts — in particular for every
point at which the caller's context ends — `request` returns `(response, nil)` or `(nil, error)`:
never `(nil, nil)`, never both. -/
theorem C17_request_returns_response_or_error (budget : Nat) (attempt : Nat → AOut) :
    (∃ p, request budget attempt = ⟨some p, none⟩) ∨ (∃ e, request budget attempt = ⟨none, some e⟩) := by
  rcases request_eq budget attempt with h | ⟨k, _, _, h⟩
  · exact .inr ⟨_, h⟩
  · cases hk : attempt k with
    | resp p => exact .inl ⟨p, by rw [h, hk]; rfl⟩
    | err e => exact .inr ⟨e, by rw [h, hk]; rfl⟩

/-- the same statement with the cancellation point explicit -/
theorem C17_request_returns_response_or_error_at_every_cancellation_point (budget : Nat) (c : CancelAt)
    (remote : Nat → Option Nat) (sendFails : Nat → Bool) :
    (∃ p, request budget (attemptOf c remote sendFails) = ⟨some p, none⟩) ∨
    (∃ e, request budget (attemptOf c remote sendFails) = ⟨none, some e⟩) :=
  C17_request_returns_response_or_error budget _

/-- The response `request` returns is the response of the first attempt that did not time out, and
that attempt lies within the budget: `request` succeeds with payload `p` iff some attempt
`k ≤ budget` produced `p` and all earlier attempts timed out. -/
theorem C17_request_response_is_first_non_timeout_attempt (budget : Nat) (attempt : Nat → AOut) (p : Nat) :
    request budget attempt = ⟨some p, none⟩ ↔
      ∃ k, k ≤ budget ∧ attempt k = .resp p ∧ ∀ j, j < k → attempt j = .err .timeout := by
  constructor
  · intro h
    rcases request_eq budget attempt with h' | ⟨k, hk, hall, h'⟩
    · rw [h] at h'; cases h'
    · rw [h] at h'
      cases hr : attempt k with
      | resp q => rw [hr] at h'; cases h'; exact ⟨k, hk, hr, hall⟩
      | err e => rw [hr] at h'; cases h'
  · rintro ⟨k, hk, hr, hall⟩
    rw [request_at budget attempt k hk hall (by rw [hr]; nofun), hr]; rfl

/-- When every attempt of the budget times out the call ends with the timeout error (after exactly
`budget + 1` attempts). -/
theorem C17_request_exhausted_budget_is_timeout (budget : Nat) (attempt : Nat → AOut)
    (hall : ∀ j, j ≤ budget → attempt j = .err .timeout) :
    request budget attempt = ⟨none, some .timeout⟩ :=
  loop_timeouts attempt _ 0 none fun j hj => (Nat.zero_add j).symm ▸ hall j (Nat.le_of_lt_succ hj)

/-- A context that is already done when the call is made (cancelled or expired — `before 0`): for
every budget, every remote behaviour, the call ends with the context's error at the first attempt. -/
theorem C17_request_with_done_context_returns_context_error (budget : Nat)
    (remote : Nat → Option Nat) (sendFails : Nat → Bool) :
    request budget (attemptOf (.before 0) remote sendFails) = ⟨none, some .ctx⟩ := by
  unfold request
  rw [loop]
  simp [attemptOf, CancelAt.doneBefore]

/-- A context that ends at, during or in front of attempt `k ≤ budget` while the remote stays silent
(so the earlier attempts time out): the call ends with the context's error — for every budget and
each of the three kinds of cancellation point. -/
theorem C17_request_cancelled_at_attempt_returns_context_error (budget k : Nat) (hk : k ≤ budget)
    (c : CancelAt) (hc : c = .before k ∨ c = .duringSend k ∨ c = .duringWait k) :
    request budget (attemptOf c (fun _ => none) (fun _ => false)) = ⟨none, some .ctx⟩ := by
  have hat : attemptOf c (fun _ => none) (fun _ => false) k = .err .ctx := by
    rcases hc with rfl | rfl | rfl <;> simp [attemptOf, CancelAt.doneBefore, CancelAt.during]
  rw [request_at budget _ k hk ?_ (by rw [hat]; nofun), hat]; rfl
  intro j hj
  rcases hc with rfl | rfl | rfl <;>
    simp [attemptOf, CancelAt.doneBefore, CancelAt.during]
  · omega
  · rw [if_neg (by omega), if_neg (by omega)]
  · rw [if_neg (by omega), if_neg (by omega)]

/-! ### link to the interleaving model

Model/ReqResp.lean runs the same loop as a requester thread: `afterAttempt` starts another attempt
exactly when the attempt timed out and retries are left.  The sequential loop takes the same
decision, with `retries + 1` iterations left. -/

/-- outcome of an attempt of the interleaving model as a result of `sendRequestMessage` -/
def C17outcomeToAOut : ReqResp.Outcome → AOut
  | .got m => .resp m.payload
  | .timeout => .err .timeout
  | .cancelled => .err .ctx
  | .sendErr => .err .send

/-- what the sequential loop does after an attempt with outcome `o` when `n` further iterations are left -/
def C17loopAfter (attempt : Nat → AOut) (n i : Nat) : ReqResp.Outcome → Ret
  | .got m => ⟨some m.payload, none⟩
  | .timeout => loop attempt n (i + 1) (some .timeout)
  | .cancelled => ⟨none, some .ctx⟩
  | .sendErr => ⟨none, some .send⟩

theorem C17_retry_loop_agrees_with_interleaving_model (r : ReqResp.Req) (o : ReqResp.Outcome)
    (attempt : Nat → AOut) (i : Nat) (e0 : Option Err) (h : attempt i = C17outcomeToAOut o) :
    ((ReqResp.afterAttempt { r with out := some o }).pc = .start ↔ (o = .timeout ∧ 0 < r.retries)) ∧
    ((ReqResp.afterAttempt { r with out := some o }).pc = .done ↔ ¬ (o = .timeout ∧ 0 < r.retries)) ∧
    loop attempt (r.retries + 1) i e0 = C17loopAfter attempt r.retries i o := by
  have hpc : ∀ pc, (ReqResp.afterAttempt { r with out := some o }).pc = pc ↔
      if o = .timeout ∧ 0 < r.retries then pc = .start else pc = .done := fun pc => by
    unfold ReqResp.afterAttempt
    by_cases hc : o = .timeout ∧ 0 < r.retries <;> simp [hc, eq_comm]
  refine ⟨?_, ?_, by rw [loop, h]; cases o <;> rfl⟩ <;> rw [hpc] <;>
    by_cases hc : o = .timeout ∧ 0 < r.retries <;> simp [hc]

/-! ### the callers -/

/-- `RequestFrom` never dereferences a nil response: it returns the response `request` obtained or a
Response carrying the error. -/
theorem C17_RequestFrom_never_dereferences_nil (budget : Nat) (attempt : Nat → AOut) :
    requestFrom (request budget attempt) ≠ .panic ∧
    (∀ p, requestFrom (request budget attempt) = .response p ↔ request budget attempt = ⟨some p, none⟩) := by
  rcases C17_request_returns_response_or_error budget attempt with ⟨p, h⟩ | ⟨e, h⟩ <;>
    simp [h, requestFrom]

/-- `Broadcast` reports success exactly when EVERY connected peer answered (its `request` returned a
response); otherwise it returns an error. -/
theorem C17_Broadcast_success_iff_every_peer_answered (budget : Nat) (peers : List (Nat → AOut)) :
    broadcast (request budget) peers = none ↔
      ∀ a ∈ peers, ∃ p, request budget a = ⟨some p, none⟩ := by
  induction peers with
  | nil => simp [broadcast]
  | cons a rest ih =>
    rw [broadcast]
    rcases C17_request_returns_response_or_error budget a with ⟨p, h⟩ | ⟨e, h⟩
    · simp only [h, ih, List.mem_cons, forall_eq_or_imp]
      constructor
      · intro hr; exact ⟨⟨p, rfl⟩, hr⟩
      · intro hr; exact hr.2
    · simp only [h, List.mem_cons, forall_eq_or_imp]
      constructor
      · intro hn; cases hn
      · rintro ⟨⟨p, hp⟩, _⟩; cases hp

/-- with a context that is already done `Broadcast` to at least one peer reports the context's error -/
theorem C17_Broadcast_with_done_context_returns_error (budget : Nat)
    (remote : Nat → Option Nat) (sendFails : Nat → Bool) (rest : List (Nat → AOut)) :
    broadcast (request budget) (attemptOf (.before 0) remote sendFails :: rest) = some .ctx := by
  rw [broadcast, C17_request_with_done_context_returns_context_error]

/-! ### what the statement excludes -/

/-- A retry loop that checks the context in front of every attempt and leaves with `break`: for a
caller whose context is already done it returns `(nil, nil)` — for every budget and whatever the
attempts would have done. -/
theorem C17_context_check_with_break_returns_nil_nil_counterexample (budget : Nat) (attempt : Nat → AOut) :
    requestChecked budget (fun _ => true) attempt = ⟨none, none⟩ ∧
    requestFrom (requestChecked budget (fun _ => true) attempt) = .panic ∧
    (∀ peers : List (Nat → AOut),
      broadcast (requestChecked budget (fun _ => true)) peers = none) := by
  refine ⟨by simp [requestChecked, loopChecked], by simp [requestChecked, loopChecked, requestFrom], ?_⟩
  intro peers
  induction peers with
  | nil => rfl
  | cons a rest ih => rw [broadcast]; simp [requestChecked, loopChecked, ih]

/-- ... while between retries the same check is harmless (the variable holds the timeout error): the
case such a check is written for -/
example : requestChecked 3 (fun i => decide (1 ≤ i)) (fun _ => .err .timeout) = ⟨none, some .timeout⟩ := by
  decide +kernel

/-! ### non-vacuity -/

example : request 3 (attemptOf .never (fun i => if i = 2 then some 7 else none) (fun _ => false)) = ⟨some 7, none⟩ := by
  decide +kernel
example : request 3 (attemptOf (.duringWait 1) (fun _ => none) (fun _ => false)) = ⟨none, some .ctx⟩ := by
  decide +kernel
example : request 3 (attemptOf (.before 4) (fun _ => none) (fun _ => false)) = ⟨none, some .timeout⟩ := by
  decide +kernel
example : broadcast (request 3) [attemptOf .never (fun _ => some 1) (fun _ => false),
    attemptOf .never (fun _ => none) (fun i => decide (i = 0))] = some .send := by
  decide +kernel
