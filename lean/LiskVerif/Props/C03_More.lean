/-
C03 over every rule and over histories: a rejection at ANY rule (whatever prefix of the rule list the block passes) leaves
the node unchanged; every single alteration of a valid successor is rejected; rejected blocks are invisible in every history
of offered blocks; over operation lists of the node model (deletions, restarts, tie-break replacements and their reverts)
the chain only holds blocks that were offered with all validity flags set; the signed message `tag ‖ chainID ‖ signingBytes`
separates chains (for chain IDs of one length; counterexample without).

Part 1 is about `LiskVerif.Verify` (Model/Verify.lean: `Block.Validate`, `verifyBlock`, `verifyAggregateCommit`, `Execute`,
`processValidated`), part 2 about `LiskVerif.Node` (Model/Node.lean: `Executer.process` with its fork-choice glue,
`processValidated` + `AddBlock`, `deleteBlock`, `PrepareCache`; setting `Ref`, `RunOK`, `BaseOK` of Lemmas/NodeRef.lean,
NodeLoad.lean, NodeTrans.lean), part 3 about the message of `ValidateBlockSignature`.
-/
import LiskVerif.Props.C03
import LiskVerif.Lemmas.NodeMore
import LiskVerif.Lemmas.NodeExample

open LiskVerif

/-! ## Part 1 — the acceptance path (`LiskVerif.Verify`) -/

section VerifyPart
open LiskVerif.Verify

/-- **Rejected ⇒ unchanged, for every rule and every prefix of rules passed.** Split the rule list
(all ~40 rules in code order, `checkList`) at ANY position: if every rule before it holds and the
rule at it fails, `Block.Validate` + `processValidated` return exactly that rule's error and the node
(chain, tip, consensus store, finalized height, published events) exactly as it was — no matter
how much of the staged execution (vote update, transactions, parameter change) already ran. -/
theorem C03_reject_any_prefix (n : Node) (b : Cand) (pre post : List (Err × Bool)) (e : Err)
    (hsplit : checkList n b = pre ++ (e, false) :: post) (hpre : ∀ p ∈ pre, p.2 = true) :
    applyBlock n b = (n, some e) := by
  have h2 : (applyBlock n b).2 = some e :=
    (C03_first_failure_characterisation n b e).mpr ⟨pre, post, hsplit, hpre⟩
  have h1 := C03_reject_leaves_state n b e h2
  exact Prod.ext h1 h2

/-- … and conversely every rejection is of this form. -/
theorem C03_reject_iff_some_rule_fails (n : Node) (b : Cand) :
    (∃ e, applyBlock n b = (n, some e)) ↔ ∃ p ∈ checkList n b, p.2 = false := by
  constructor
  · rintro ⟨e, h⟩
    have h2 : (applyBlock n b).2 = some e := by rw [h]
    obtain ⟨pre, post, hs, _⟩ := (C03_first_failure_characterisation n b e).mp h2
    exact ⟨(e, false), by rw [hs]; simp, rfl⟩
  · rintro ⟨p, hp, hf⟩
    cases h : (applyBlock n b).2 with
    | some e => exact ⟨e, Prod.ext (C03_reject_leaves_state n b e h) h⟩
    | none =>
      rw [C03_first_failure_order, firstFailure_none_iff] at h
      rw [h p hp] at hf
      cases hf

/-- **Dichotomy.** Either the block satisfies every rule and the node afterwards is EXACTLY
`addBlock` of the staged consensus store after execution (all fields, including the tip's
timestamp and the publications), or it violates some rule and the result is the unchanged node with
an error. There is no third outcome. -/
theorem C03_apply_dichotomy (n : Node) (b : Cand) :
    (SpecValid n.cfg.acBound n b ∧
      ∃ s2, storeAfterExec n b = some s2 ∧ applyBlock n b = (addBlock n s2 b, none)) ∨
    (¬ SpecValid n.cfg.acBound n b ∧ ∃ e, applyBlock n b = (n, some e)) := by
  cases h : (applyBlock n b).2 with
  | none =>
    left
    refine ⟨(accepts_iff n b).mp h, ?_⟩
    obtain ⟨s2, h1, h2⟩ := applyBlock_accepted_node n b h
    exact ⟨s2, h1, Prod.ext h2 h⟩
  | some e =>
    right
    refine ⟨fun hs => ?_, e, Prod.ext (C03_reject_leaves_state n b e h) h⟩
    have := (accepts_iff n b).mpr hs
    unfold accepts at this
    rw [this] at h
    cases h

/-- a block that is not `SpecValid` is rejected and leaves the node unchanged -/
theorem C03_invalid_rejected (n : Node) (b : Cand) (h : ¬ SpecValid n.cfg.acBound n b) :
    ∃ e, applyBlock n b = (n, some e) := by
  rcases C03_apply_dichotomy n b with ⟨hs, _⟩ | ⟨_, he⟩
  · exact absurd hs h
  · exact he

/-- Single alterations of a block `b` (the property's quantifier). Facts the model does not compute
(signature validity, root equalities, static validity, application verdicts) are altered as facts.
An alteration of a signed header field keeps `sigOK` here, i.e. the block is re-signed by the
generator: the rule of the altered field itself must reject it. -/
inductive C03Altered (n : Node) (b : Cand) : Cand → Prop where
  | version (v : Nat) (h : v ≠ 2) : C03Altered n b { b with version := v }
  | height (k : Nat) (h : k ≠ b.height) : C03Altered n b { b with height := k }
  | previousBlockID (p : Bytes) (h : p ≠ b.prevID) : C03Altered n b { b with prevID := p }
  | timestampNotLater (t : Nat) (h : slotOf n.cfg t ≤ slotOf n.cfg n.tipTimestamp) :
      C03Altered n b { b with timestamp := t }
  | timestampFuture (t : Nat) (h : slotOf n.cfg t > slotOf n.cfg n.cfg.now) :
      C03Altered n b { b with timestamp := t }
  | timestampOtherSlot (t : Nat) (h : slotGenerator n n.bft { b with timestamp := t } ≠ some b.gen) :
      C03Altered n b { b with timestamp := t }
  | signer (g : Bytes) (h : g ≠ b.gen) : C03Altered n b { b with gen := g }
  | maxHeightPrevoted (m : Nat) (h : m ≠ b.mhp) : C03Altered n b { b with mhp := m }
  | maxHeightGeneratedContradicting (m : Nat) (h : isContradicting n.bft { b with mhg := m } = true) :
      C03Altered n b { b with mhg := m }
  | signatureInvalid : C03Altered n b { b with sigOK := false }
  | signatureLength (l : Nat) (h : l ≠ 64) : C03Altered n b { b with sigLen := l }
  | aggregateCommit (ac : AC) (h : ¬ ACValid n.cfg.acBound n ac) : C03Altered n b { b with ac := ac }
  | transactionRoot : C03Altered n b { b with txRootOK := false }
  | assetRoot : C03Altered n b { b with assetRootOK := false }
  | eventRoot : C03Altered n b { b with eventRootOK := false }
  | validatorsHash : C03Altered n b { b with vhOK := false }
  | stateRoot : C03Altered n b { b with commitOK := false }
  | assets (a : AssetsV) (h : a ≠ .ok) : C03Altered n b { b with assets := a }
  | payloadStatic (l : List Bool) (h : false ∈ l) : C03Altered n b { b with txStatic := l }
  | payloadSize (k : Nat) (h : k > n.cfg.maxTxLen) : C03Altered n b { b with payloadSize := k }
  | payloadVerdict (l : List (TxV × TxV)) (t : TxV × TxV) (ht : t ∈ l)
      (h : t.1 ≠ .ok ∨ t.2 = .error ∨ t.2 = .invalid) : C03Altered n b { b with txs := l }
  | eventCount (k : Nat) (h : k > maxEventsPerBlock) : C03Altered n b { b with nEvents := k }

/-- **Every single alteration of a valid successor is rejected, and the node is unchanged.** -/
theorem C03_single_alteration_rejected (n : Node) (b b' : Cand) (hv : SpecValid n.cfg.acBound n b)
    (ha : C03Altered n b b') : ∃ e, applyBlock n b' = (n, some e) := by
  apply C03_invalid_rejected
  intro hs
  cases ha with
  | version v h => exact h hs.version
  | height k h => exact h (by have := hs.height; have := hv.height; simp only at *; omega)
  | previousBlockID p h => exact h (by have := hs.link; have := hv.link; simp only at *; rw [‹p = n.tipID›, ‹b.prevID = n.tipID›])
  | timestampNotLater t h => have := hs.slotLater; simp only at this; omega
  | timestampFuture t h => have := hs.notFuture; simp only at this; omega
  | timestampOtherSlot t h => exact h hs.generator
  | signer g h =>
    have h1 : slotGenerator n n.bft { b with gen := g } = some g := hs.generator
    have h2 : slotGenerator n n.bft { b with gen := g } = slotGenerator n n.bft b := rfl
    rw [h2, hv.generator] at h1
    exact h (Option.some.inj h1).symm
  | maxHeightPrevoted m h =>
    have h1 : m = n.bft.mhp := hs.maxHeightPrevoted
    exact h (by rw [h1, hv.maxHeightPrevoted])
  | maxHeightGeneratedContradicting m h => have := hs.notContradicting; rw [h] at this; cases this
  | signatureInvalid => have := hs.signature; cases this
  | signatureLength l h => exact h hs.lengths.2.2
  | aggregateCommit ac h => exact h hs.aggregateCommit
  | transactionRoot => have := hs.transactionRoot; cases this
  | assetRoot => have := hs.assetRoot; cases this
  | eventRoot => have := hs.eventRoot; cases this
  | validatorsHash => have := hs.validatorsHash; cases this
  | stateRoot => have := hs.stateRoot; cases this
  | assets a h => exact h hs.assets
  | payloadStatic l h => have := hs.transactionsStatic false h; cases this
  | payloadSize k h => have := hs.payloadSize; simp only at this; omega
  | payloadVerdict l t ht h =>
    have := hs.executes.txs t ht
    rcases h with h | h | h
    · exact h this.1
    · exact this.2.1 h
    · exact this.2.2 h
  | eventCount k h => have := hs.executes.eventCount; simp only at this; omega

/-! ### histories of offered blocks -/

/-- the blocks of a list of offered blocks that get accepted (each offered to the node the
previous ones produced) -/
def C03acceptedOf (n : Node) : List Cand → List Cand
  | [] => []
  | b :: r => (if (applyBlock n b).2 = none then [b] else []) ++ C03acceptedOf (applyBlock n b).1 r

/-- every block of the list is accepted when offered in turn -/
def C03AllAccepted (n : Node) : List Cand → Prop
  | [] => True
  | b :: r => SpecValid n.cfg.acBound n b ∧ C03AllAccepted (applyBlock n b).1 r

/-- **Rejected blocks are invisible.** For ANY list of offered blocks (valid, invalid, repeated,
in any order) the final node — chain, tip, consensus store, finalized height, published events —
is the node reached by offering only the accepted blocks, each of which satisfied every rule
against the state it was offered to. -/
theorem C03_history_rejected_invisible (bs : List Cand) (n : Node) :
    runAll n bs = runAll n (C03acceptedOf n bs) ∧ C03AllAccepted n (C03acceptedOf n bs) := by
  induction bs generalizing n with
  | nil => exact ⟨rfl, trivial⟩
  | cons b r ih =>
    cases h : (applyBlock n b).2 with
    | none =>
      have := ih (applyBlock n b).1
      simp only [C03acceptedOf, h, if_true, List.singleton_append, runAll, C03AllAccepted]
      exact ⟨this.1, (accepts_iff n b).mp h, this.2⟩
    | some e =>
      have hn := C03_reject_leaves_state n b e h
      have := ih n
      simp only [C03acceptedOf, h, runAll, hn]
      simpa using this

/-- What a history of accepted blocks produces: the chain grows by exactly these blocks (newest
first), the configuration is unchanged, the finalized height never decreases, and the published
events only grow. -/
theorem C03_history_state (bs : List Cand) (n : Node) (h : C03AllAccepted n bs) :
    (runAll n bs).chain = (bs.map fun b => (b.height, b.id)).reverse ++ n.chain ∧
    (runAll n bs).cfg = n.cfg ∧ n.finalized ≤ (runAll n bs).finalized ∧
    n.events <+: (runAll n bs).events := by
  induction bs generalizing n with
  | nil => exact ⟨by simp [runAll], rfl, Nat.le_refl _, List.prefix_refl _⟩
  | cons b r ih =>
    obtain ⟨hb, hr⟩ := h
    obtain ⟨s2, _, he⟩ := C03_accept_effect n b ((accepts_iff n b).mpr hb)
    obtain ⟨_, _, hc, _, hf, hcfg, hev⟩ := he
    obtain ⟨i1, i2, i3, i4⟩ := ih (applyBlock n b).1 hr
    refine ⟨?_, ?_, ?_, ?_⟩
    · simp only [runAll, i1, hc, List.map_cons, List.reverse_cons, List.append_assoc,
        List.singleton_append]
    · simp only [runAll, i2, hcfg]
    · simp only [runAll]; rw [hf] at i3; omega
    · simp only [runAll]
      refine List.IsPrefix.trans ?_ i4
      rw [hev]
      simp only [List.append_assoc]
      exact List.prefix_append _ _

/-- the chain index is linked: the heights are consecutive, newest first -/
def C03Linked : List (Nat × Bytes) → Prop
  | [] => True
  | [_] => True
  | a :: b :: r => a.1 = b.1 + 1 ∧ C03Linked (b :: r)

/-- Over any list of offered blocks: if the tip is the head of the chain index and the heights are
consecutive, they still are afterwards — nothing is ever inserted below the tip or with a gap. -/
theorem C03_history_chain_linked (bs : List Cand) (n : Node)
    (h : ∃ rest, n.chain = (n.tipHeight, n.tipID) :: rest ∧ C03Linked n.chain) :
    ∃ rest, (runAll n bs).chain = ((runAll n bs).tipHeight, (runAll n bs).tipID) :: rest ∧
      C03Linked (runAll n bs).chain := by
  induction bs generalizing n with
  | nil => exact h
  | cons b r ih =>
    simp only [runAll]
    apply ih
    rcases C03_apply_dichotomy n b with ⟨hs, s2, _, he⟩ | ⟨_, e, he⟩
    · rw [he]
      obtain ⟨rest, hc, hl⟩ := h
      refine ⟨n.chain, rfl, ?_⟩
      show C03Linked ((b.height, b.id) :: n.chain)
      rw [hc] at hl ⊢
      exact ⟨hs.height, hl⟩
    · rw [he]; exact h

end VerifyPart

/-! ## Part 2 — operation lists with deletions and restarts (`LiskVerif.Node`) -/

section NodePart
open LiskVerif.Node

/-- the block an operation offers with every validity flag set: `processValidated` called with a
block that passes all checks (`apply … valid = true`), or `process` given a block that passes
`Block.Validate` and all checks of `processValidated` -/
def C03OfferedValid : Op → Block → Prop
  | .apply b v _ _, blk => v = true ∧ blk = b
  | .process i, blk => i.staticValid = true ∧ i.valid = true ∧ blk = i.block
  | _, _ => False

/-- if the tip can be deleted it is a block of the (ghost) chain -/
private theorem tip_on_chain {cd : Codecs} {cfg : Cfg} {base : DiffDB.Store} {baseH : Nat} {s : St}
    {c : Chain} {tip : Block} {rest : List Block} (hR : Ref cd base baseH s c)
    (hc : s.cache = tip :: rest) (hd : (deleteTip cd cfg s false).2 = .ok) :
    ∃ e0 ∈ c, e0.1 = tip := by
  obtain ⟨tip', _, f, _, _, hc', hf, hlt, _⟩ := deleteTip_done_inv (s' := (deleteTip cd cfg s false).1) rfl (Or.inl hd)
  obtain rfl : tip = tip' := (List.cons.inj (hc.symm.trans hc')).1
  obtain ⟨x, c', rfl⟩ := hR.tip_cons hc hf hlt
  exact ⟨(tip, x), List.mem_cons_self, rfl⟩

/-- a block that `processValidated` puts on the chain was flagged valid -/
private theorem mem_stepC_apply {cd : Codecs} {cfg : Cfg} {slot : Slot} {s : St} {c : Chain} {b : Block}
    {v : Bool} {x : Exec} {rt : Bool} {e : Block × Exec} (he : e ∈ stepC cd cfg slot s c (.apply b v x rt)) :
    e ∈ c ∨ (e = (b, x) ∧ v = true) := by
  simp only [stepC] at he
  split at he
  · rename_i hok
    rcases List.mem_cons.mp he with rfl | he
    · obtain ⟨_, _, _, _, _, _, hv, _⟩ := apply_ok_inv (s' := (apply cd cfg s b v x rt).1) (Prod.ext rfl hok)
      exact Or.inr ⟨rfl, hv⟩
    · exact Or.inl he
  · exact Or.inl he

private theorem mem_stepC_delete {cd : Codecs} {cfg : Cfg} {slot : Slot} {s : St} {c : Chain} {st : Bool}
    {e : Block × Exec} (he : e ∈ stepC cd cfg slot s c (.deleteTip st)) : e ∈ c := by
  simp only [stepC] at he
  split at he
  · exact List.mem_of_mem_tail he
  · exact he

/-- one operation: every block of the chain afterwards was on it before or is offered as valid -/
private theorem stepC_blocks {cd : Codecs} {cfg : Cfg} {slot : Slot} {base : DiffDB.Store} {baseH : Nat}
    {s : St} {c : Chain} (hR : Ref cd base baseH s c) (op : Op) :
    ∀ e ∈ stepC cd cfg slot s c op, (∃ e0 ∈ c, e0.1 = e.1) ∨ C03OfferedValid op e.1 := by
  have old : ∀ e, e ∈ c → (∃ e0 ∈ c, e0.1 = e.1) ∨ C03OfferedValid op e.1 :=
    fun e he => Or.inl ⟨e, he, rfl⟩
  intro e he
  cases op with
  | apply b v x rt =>
    rcases mem_stepC_apply he with he | ⟨rfl, hv⟩
    · exact old e he
    · exact Or.inr ⟨hv, rfl⟩
  | deleteTip st => exact old e (mem_stepC_delete he)
  | restart => exact old e he
  | clearTemp => exact old e he
  | process i =>
    -- the blocks `process` may put on the chain: the incoming block, and the old tip when the tie-break is reverted
    have new : ∀ {s' : St} {c' : Chain}, (∀ e ∈ c', e ∈ c) → i.staticValid = true →
        e ∈ stepC cd cfg slot s' c' (.apply i.block i.valid i.exec false) →
        (∃ e0 ∈ c, e0.1 = e.1) ∨ C03OfferedValid (.process i) e.1 := by
      intro s' c' hsub hsv he
      rcases mem_stepC_apply he with he | ⟨rfl, hv⟩
      · exact old e (hsub e he)
      · exact Or.inr ⟨hsv, hv, rfl⟩
    simp only [stepC] at he
    rw [(process_run cd cfg slot [] s c i).2.1] at he
    rcases processOps_cases cd cfg slot s i with h | ⟨hsv, h | ⟨tip, rest, hc, h | ⟨hd, h | h⟩⟩⟩ <;> rw [h] at he <;>
      simp only [runC_cons, runC_nil] at he
    · exact old e he
    · exact new (fun _ h => h) hsv he
    · exact old e (mem_stepC_delete he)
    · exact new (fun _ h => mem_stepC_delete h) hsv he
    · rcases mem_stepC_apply he with he | ⟨rfl, _⟩
      · exact new (fun _ h => mem_stepC_delete h) hsv he
      · exact Or.inl (tip_on_chain (cfg := cfg) hR hc hd)

/-- **Only blocks offered as fully valid are on the chain — over arbitrary operation lists.**
Start from a node state `s` that holds the chain `c` (`Ref`, e.g. the state after the genesis block
with `c = []`) and run ANY list of operations: `processValidated` calls with valid and invalid
blocks, `deleteBlock`, restarts (`PrepareCache`), `process` with all its fork-choice branches
(tie-break replacement and its revert included), `ClearTempBlocks`. Then the state afterwards
holds the chain `runC …` (its database and block cache are that chain's, `Ref`), and every block of
that chain was already on the chain at the start or was offered by one of the operations with all
validity flags set. Invalid blocks, blocks deleted again, blocks seen only by fork choice never
appear. (`RunOK`: the standing input hypotheses of the C04/C05 theorems on the blocks that do get
applied.) -/
theorem C03_ops_chain_only_valid (cd : Codecs) (cfg : Cfg) (slot : Slot) (base : DiffDB.Store)
    (baseH : Nat) (hbase : BaseOK cd base baseH) (ops : List Op) (s : St) (c : Chain)
    (hR : Ref cd base baseH s c) (hok : RunOK cd cfg slot base s c ops) :
    Ref cd base baseH (run cd cfg slot s ops) (runC cd cfg slot s c ops) ∧
    ∀ e ∈ runC cd cfg slot s c ops,
      (∃ e0 ∈ c, e0.1 = e.1) ∨ ∃ op ∈ ops, C03OfferedValid op e.1 := by
  induction ops generalizing s c with
  | nil => exact ⟨hR, fun e he => Or.inl ⟨e, he, rfl⟩⟩
  | cons op r ih =>
    have h1 := trans_step (cfg := cfg) (slot := slot) hbase hR op hok.1
    obtain ⟨i1, i2⟩ := ih (step cd cfg slot s op) (stepC cd cfg slot s c op) h1.ref hok.2
    refine ⟨i1, ?_⟩
    intro e he
    rcases i2 e he with ⟨e0, he0, heq⟩ | ⟨op', hop', hov⟩
    · rcases stepC_blocks (cfg := cfg) (slot := slot) hR op e0 he0 with ⟨e1, he1, heq1⟩ | hov
      · exact Or.inl ⟨e1, he1, by rw [heq1, heq]⟩
      · exact Or.inr ⟨op, by simp, by rw [← heq]; exact hov⟩
    · exact Or.inr ⟨op', List.mem_cons_of_mem _ hop', hov⟩

/-- … and `apply` (`processValidated`) itself only ever appends a block flagged valid that is the
successor of the current tip: next height (`uint32`) and the tip's id as previous-block id;
everything else returns an error with the state untouched. -/
theorem C03_apply_only_valid_successor (cd : Codecs) (cfg : Cfg) (s s' : St) (b : Block)
    (valid : Bool) (x : Exec) (rt : Bool) (h : apply cd cfg s b valid x rt = (s', .ok)) :
    valid = true ∧ ∃ tip rest, s.cache = tip :: rest ∧ b.hdr.height = (tip.hdr.height + 1) % u32 ∧
      b.hdr.previousBlockID = tip.hdr.id ∧ s'.cache.head? = some b := by
  obtain ⟨tip, rest, fin, hc, hh, hp, hv, _, hs'⟩ := apply_ok_inv h
  refine ⟨hv, tip, rest, hc, hh, hp, ?_⟩
  rw [hs']
  rfl

theorem C03_apply_invalid_unchanged (cd : Codecs) (cfg : Cfg) (s : St) (b : Block) (x : Exec)
    (rt : Bool) : (apply cd cfg s b false x rt).1 = s ∧ (apply cd cfg s b false x rt).2 ≠ .ok := by
  have h2 : (apply cd cfg s b false x rt).2 ≠ .ok := fun h => by
    obtain ⟨_, _, _, _, _, _, hv, _⟩ := apply_ok_inv (s' := (apply cd cfg s b false x rt).1) (Prod.ext rfl h)
    cases hv
  exact ⟨apply_not_ok rfl h2, h2⟩

end NodePart

/-! ## Part 3 — the signed message -/

/-- the message of `blockchain.ValidateBlockSignature` before hashing:
`bytes.Join(TagBlockHeader, chainID, signingBytes)`. NOTE: hand transcription of one line of
pkg/blockchain/signature.go; the models treat signature validity as a fact (`Cand.sigOK`). -/
def C03signedMessage (tag chainID signingBytes : Bytes) : Bytes := tag ++ chainID ++ signingBytes

/-- For chain IDs of one length (4 bytes on every Lisk chain) the signed message determines the
chain ID and the signing bytes: a signature for one chain is not a signature of the same header
for another chain, and two headers of one chain with the same message have the same signing
bytes. -/
theorem C03_signed_message_injective (tag c₁ c₂ s₁ s₂ : Bytes) (hl : c₁.length = c₂.length)
    (h : C03signedMessage tag c₁ s₁ = C03signedMessage tag c₂ s₂) : c₁ = c₂ ∧ s₁ = s₂ := by
  unfold C03signedMessage at h
  rw [List.append_assoc, List.append_assoc] at h
  exact List.append_inj (List.append_cancel_left h) hl

/-- The length hypothesis is necessary: `ValidateBlockSignature` does not delimit the chain ID, so
chain IDs of different lengths can give the same message for different signing bytes. -/
theorem C03_signed_message_needs_length :
    ∃ tag c₁ c₂ s₁ s₂, C03signedMessage tag c₁ s₁ = C03signedMessage tag c₂ s₂ ∧ c₁ ≠ c₂ ∧ s₁ ≠ s₂ :=
  ⟨[76], [1], [1, 2], [2, 3], [3], by decide, by decide, by decide⟩

/-- Together with `C03_signing_bytes_injective`: the signed message determines the chain ID and
EVERY signed header field (version … aggregateCommit), for all well-typed headers. -/
theorem C03_signed_message_determines_header (sig : Codec.Schema)
    (hs : Gen.allSchemas.find "blockchain.signingBlockHeader" = some sig)
    (tag c₁ c₂ : Bytes) (hl : c₁.length = c₂.length) (v1 v2 : List Codec.Value)
    (h1 : C08Typed1 Gen.allSchemas Codec.asciiNFC sig.enc v1 = true)
    (h2 : C08Typed1 Gen.allSchemas Codec.asciiNFC sig.enc v2 = true)
    (l1 : (Codec.encode Gen.allSchemas Codec.asciiNFC sig v1).length < 2 ^ 63)
    (l2 : (Codec.encode Gen.allSchemas Codec.asciiNFC sig v2).length < 2 ^ 63)
    (heq : C03signedMessage tag c₁ (Codec.encode Gen.allSchemas Codec.asciiNFC sig v1) =
           C03signedMessage tag c₂ (Codec.encode Gen.allSchemas Codec.asciiNFC sig v2)) :
    c₁ = c₂ ∧ v1 = v2 := by
  obtain ⟨hc, hb⟩ := C03_signed_message_injective tag c₁ c₂ _ _ hl heq
  exact ⟨hc, C03_signing_bytes_injective sig hs v1 v2 h1 h2 l1 l2 hb⟩

/-! ## non-vacuity -/

section
open LiskVerif.Verify LiskVerif.Verify.Example

private theorem valid1 : SpecValid (genesis true).cfg.acBound (genesis true) (blk 1 0) :=
  (accepts_iff _ _).mp (by unfold accepts; decide +kernel)

/-- `C03_reject_any_prefix`: a split of the rule list with a passing prefix exists (here the block
passes `Block.Validate` and eight rules of `verifyBlock` before failing the maxHeightPrevoted rule;
in the second example it passes everything up to the event root, i.e. the whole execution ran) -/
example : ∃ pre post, checkList (genesis true) { blk 1 0 with mhp := 7 } = pre ++ (Err.mhp, false) :: post ∧
    (∀ p ∈ pre, p.2 = true) ∧ pre.length = 16 := by
  refine ⟨(checkList (genesis true) { blk 1 0 with mhp := 7 }).take 16,
    (checkList (genesis true) { blk 1 0 with mhp := 7 }).drop 17, ?_, ?_, ?_⟩ <;> decide +kernel
example : ∃ pre post, checkList (genesis true) { blk 1 0 with eventRootOK := false } =
    pre ++ (Err.eventRoot, false) :: post ∧ ∀ p ∈ pre, p.2 = true :=
  (C03_first_failure_characterisation _ _ _).mp (by decide +kernel)

/-- `C03_single_alteration_rejected`: the valid successor exists; some alterations of it -/
example : ∃ e, applyBlock (genesis true) { blk 1 0 with gen := List.replicate 20 2 } = (genesis true, some e) :=
  C03_single_alteration_rejected _ _ _ valid1 (.signer _ (by decide))
example : ∃ e, applyBlock (genesis true) { blk 1 0 with timestamp := 1005 } = (genesis true, some e) :=
  C03_single_alteration_rejected _ _ _ valid1 (.timestampNotLater _ (by decide))
example : ∃ e, applyBlock (genesis true) { blk 1 0 with timestamp := 200000 } = (genesis true, some e) :=
  C03_single_alteration_rejected _ _ _ valid1 (.timestampFuture _ (by decide))
example : ∃ e, applyBlock (genesis true)
    { blk 1 0 with ac := { height := 1, bitsLen := 1, sigLen := 96, sigOK := true } } = (genesis true, some e) :=
  C03_single_alteration_rejected _ _ _ valid1 (.aggregateCommit _ (by decide +kernel))
example : ∃ e, applyBlock (genesis true) { blk 1 0 with txs := [(TxV.ok, TxV.ok), (TxV.fail, TxV.ok)] } =
    (genesis true, some e) :=
  C03_single_alteration_rejected _ _ _ valid1 (.payloadVerdict _ (TxV.fail, TxV.ok) (by decide) (Or.inl (by decide)))

/-- `C03_history_rejected_invisible`: of eight offered blocks (bad signature, future height, a repeat,
a stale block) exactly the four valid successors are accepted -/
example : C03acceptedOf (genesis true)
    [{ blk 1 0 with sigOK := false }, blk 1 0, blk 1 0, blk 3 2, { blk 2 1 with change := some change },
     blk 3 2, blk 1 0, blk 4 3] = history := by decide +kernel

/-- `C03_history_chain_linked`: the hypothesis holds for the genesis node -/
example : ∃ rest, (genesis true).chain = ((genesis true).tipHeight, (genesis true).tipID) :: rest ∧
    C03Linked (genesis true).chain := ⟨[], rfl, trivial⟩
end

section
open LiskVerif.Node

/-- `C03_ops_chain_only_valid`: the hypotheses are satisfiable (apply, restart, delete, restart
after the genesis block) … -/
example : ∀ e ∈ runC Example.cd Example.cfg Example.slot Example.s0 [] Example.ops1,
    (∃ e0 ∈ ([] : Chain), e0.1 = e.1) ∨ ∃ op ∈ Example.ops1, C03OfferedValid op e.1 :=
  (C03_ops_chain_only_valid _ _ _ _ _ Example.baseOK _ _ _ Example.ref0 Example.runOK1).2

/-- … and a block flagged invalid is refused while the same block flagged valid is appended -/
example : (apply Example.cd Example.cfg Example.s0 Example.b1 false Example.x1 false).2 = .err ∧
    (apply Example.cd Example.cfg Example.s0 Example.b1 true Example.x1 false).2 = .ok := by decide
example : C03OfferedValid (.apply Example.b1 true Example.x1 false) Example.b1 := ⟨rfl, rfl⟩
end

/-- `C03_signed_message_injective`: two chains, one header -/
example : C03signedMessage [76, 83, 75] [0, 0, 0, 0] [8, 2] ≠ C03signedMessage [76, 83, 75] [1, 0, 0, 0] [8, 2] := by
  decide
