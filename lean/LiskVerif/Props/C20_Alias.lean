/-
C20 — a value handed out of a lock-protected structure does not share memory with it.

(B) Obligations over the table REGENERATED from the Go source by tools/aliasgen on every check run
    (`Gen/Alias.lean`): for every method of blockCache, certificate.Pool, EventEmitter, diffdb.Database
    (the lock-protected types) and of the DataAccess / Chain facades, every result that can carry memory
    is classified by who owns what the caller receives — `fresh` / `ext` / `param` (the structure keeps
    no access path to it), `record` (a pointer to a shared record: not judged), `view` (a field of the
    receiver, a reslice / element of one, or a local derived from one, followed through calls such as
    Select -> SingleCommits.GetUntil), `unknown`. No result is a view, at the level of the returned
    slice / map (shallow) or of the slices reachable through records built for the result (deep) — with
    one benign exception (`benignViews`) and one listed defect (`knownDeepViews`: the value bytes of the
    entries returned by diffdb Range / Iterate and of the Diff returned by Commit). The classification is
    spelled out method by method, so a new method or a changed classification breaks a named theorem.
(A) Generic theorem over the interleaving semantics of `Model/Locks.lean`: if every region a goroutine
    accesses outside of the lock discipline is OWNED by it (allocated for a result handed to it: the
    `fresh` class) then, together with the lockset discipline for everything else, no reachable state has
    two goroutines about to perform conflicting accesses — for any number of goroutines and any schedule.
(C) Counterexample for the view class (the shape of a Select that returns a prefix of the pool's own
    array): the owner's read after the unlock and the next Select's in-place sort under the lock are
    simultaneously enabled.

What links (B) to (A) is the meaning of the classes (trusted: tools/aliasgen): a `fresh` result names
regions no other goroutine has an access path to, a `view` result names a guarded region. Pointers to
records kept in the structure (*Block, *BlockHeader, *SingleCommit) are shared by design and are not
judged (class `record`); the harness oracle checks that they are not modified after hand-out.
-/
import LiskVerif.Lemmas.Locks
import LiskVerif.Gen.Alias

open LiskVerif LiskVerif.Locks LiskVerif.Alias

namespace C20.Alias

/-- justified exceptions (benign views): `Chain.ChainID` returns the `chainID` field of `Chain`, which is
not lock-protected and is never written after `NewChain` (`C20_alias_chain_id_never_written`). -/
def benignViews : List (String × Nat) := [("Chain.ChainID", 0)]

/-- DEFECT (not benign; harness signatures c20-alias-diffdb-{iterate,range}-value-shared-with-store and
c20-alias-diffdb-commit-diff-shared-with-store, fix: fixes/C20-diffdb-handout-copies.patch): the entries
returned by diffdb `Range` / `Iterate` carry the staged value bytes of the cache itself and the `Diff`
returned by `Commit` the `init` bytes (`Get` copies). For these results the deep class may be `view`; every
other clause below applies to them. With the fix applied the deep classes are `ext` / `ext` / `fresh`, this
list is empty and the three `none` of `C20_alias_guarded_classification` are `some .ext`, `some .ext`,
`some .fresh`. -/
def knownDeepViews : List (String × Nat) :=
  [("Database.Range", 0), ("Database.Iterate", 0), ("Database.Commit", 0)]

/-- **The criterion of this file** for one result of one method: the structure keeps no access path to the memory
the caller receives — the result itself (`shallow.owned`) and what is reachable from it (`deep.owned`) — unless the
result is one of the listed views. `record` ("a shared record, not judged") counts as owned for the shallow class
of pointer results; as a deep class it is refused, since it would leave what is reachable unjudged. -/
def rowOk (r : Row) : Bool :=
  (r.shallow.owned && r.deep != .record &&
      (r.deep.owned || (r.deep == .view && knownDeepViews.contains (r.name, r.result))))
    || benignViews.contains (r.name, r.result)

/-- (method, result, shallow class, deep class — `none` for the results listed in `knownDeepViews`) -/
def summaryOf (r : Row) : String × Nat × Cls × Option Cls :=
  (r.name, r.result, r.shallow, if knownDeepViews.contains (r.name, r.result) then none else some r.deep)

end C20.Alias

/-! ## (B) obligations over the regenerated table -/

/-- **No view escapes**: no method of the C20 types returns memory the structure keeps an access path to
(quantified over the regenerated table: methods added to the types are covered automatically), except
the justified benign view and the deep class of the three results of the listed defect. -/
theorem C20_alias_no_view_escapes : Gen.Alias.table.all C20.Alias.rowOk = true := by
  decide +kernel

/-- no result was classified through a construct the classifier does not understand -/
theorem C20_alias_no_unknown_construct :
    Gen.Alias.table.all (fun r => r.shallow != .unknown && r.deep != .unknown) = true := by
  decide +kernel

/-- the lock-protected types, method by method: (method, result, shallow class, deep class) -/
theorem C20_alias_guarded_classification :
    (Gen.Alias.table.filter (·.guarded)).map C20.Alias.summaryOf =
      [("blockCache.last", 0, .record, some .fresh),
       ("blockCache.get", 0, .record, some .fresh),
       ("blockCache.getByHeight", 0, .record, some .fresh),
       ("blockCache.pop", 0, .record, some .fresh),
       ("Pool.Select", 0, .fresh, some .fresh),
       ("Pool.Get", 0, .fresh, some .fresh),
       ("EventEmitter.Subscribe", 0, .record, some .fresh),
       ("Database.WithPrefix", 0, .record, some .fresh),
       ("Database.Get", 0, .fresh, some .fresh),
       ("Database.Range", 0, .fresh, none),
       ("Database.Iterate", 0, .fresh, none),
       ("Database.Commit", 0, .record, none),
       ("Database.getKey", 0, .fresh, some .fresh),
       ("Database.mergeSortLimit", 0, .fresh, some .param)] := by
  decide +kernel

/-- the facades that hand the cached chain data out -/
theorem C20_alias_facade_classification :
    (Gen.Alias.table.filter (fun r => !r.guarded)).map C20.Alias.summaryOf =
      [("DataAccess.CachedLastBlock", 0, .record, some .fresh),
       ("DataAccess.GetBlockHeader", 0, .record, some .ext),
       ("DataAccess.GetBlockHeaders", 0, .fresh, some .ext),
       ("DataAccess.GetBlockHeadersByHeights", 0, .fresh, some .ext),
       ("DataAccess.GetBlockHeaderByHeight", 0, .record, some .ext),
       ("DataAccess.GetLastBlockHeader", 0, .record, some .fresh),
       ("DataAccess.GetBlock", 0, .record, some .ext),
       ("DataAccess.GetLastBlock", 0, .record, some .fresh),
       ("DataAccess.GetBlockByHeight", 0, .record, some .ext),
       ("DataAccess.GetBlocksBetweenHeight", 0, .fresh, some .ext),
       ("DataAccess.GetTransaction", 0, .record, some .fresh),
       ("DataAccess.GetTransactions", 0, .fresh, some .fresh),
       ("DataAccess.GetTempBlocks", 0, .fresh, some .ext),
       ("DataAccess.GetEvents", 0, .fresh, some .fresh),
       ("DataAccess.getBlock", 0, .record, some .ext),
       ("DataAccess.getBlockHeader", 0, .record, some .ext),
       ("DataAccess.getTransactions", 0, .fresh, some .fresh),
       ("DataAccess.getBlockAssets", 0, .fresh, some .fresh),
       ("DataAccess.getTransaction", 0, .record, some .fresh),
       ("DataAccess.getLastBlock", 0, .record, some .ext),
       ("Chain.LastBlock", 0, .record, some .fresh),
       ("Chain.GetLastNBlocks", 0, .fresh, some .ext),
       ("Chain.ChainID", 0, .view, some .fresh),
       ("Chain.DataAccess", 0, .record, some .fresh)] := by
  decide +kernel

/-- the certificate pool: what `Select` and `Get` return is allocated for the caller (the selection the
gossip loop publishes outside of the pool lock and passes to `Upgrade` afterwards) -/
theorem C20_alias_pool_results_fresh :
    (Gen.Alias.table.filter (fun r => r.name == "Pool.Select" || r.name == "Pool.Get")).map
      (fun r => (r.name, r.shallow, r.deep)) = [("Pool.Select", .fresh, .fresh), ("Pool.Get", .fresh, .fresh)] := by
  decide +kernel

/-- the staged store: `Get` returns a copy, and the slices / records returned by `Range` / `Iterate` /
`Commit` themselves are allocated for the caller (for what is reachable through them see `knownDeepViews`) -/
theorem C20_alias_diffdb_results_not_shared :
    (Gen.Alias.table.filter (fun r => r.name == "Database.Get")).map (fun r => (r.shallow, r.deep)) =
      [(.fresh, .fresh)] ∧
    (Gen.Alias.table.filter (fun r => r.name == "Database.Range" || r.name == "Database.Iterate" ||
        r.name == "Database.Commit")).all (fun r => r.shallow.owned) = true := by
  decide +kernel

/-- the justification of the benign view: no statement of the package writes `Chain.chainID` (it is set by
the composite literal of `NewChain` only) -/
theorem C20_alias_chain_id_never_written :
    Gen.Alias.fieldWrites.filter (fun w => w.1 == "Chain.chainID") = [] := by
  decide +kernel

/-! ## (A) generic theorem -/

/-- **Fresh results never race.** Goroutine `k` runs `ps[k]`. Every access of every goroutine is either
to a region it owns (`own x = some k`: the memory of a result that was allocated for it — class `fresh`)
or obeys the lockset discipline of the guard assignment `g` (reads under the guard, writes under the
guard held exclusively). Then in no reachable state two distinct goroutines are about to perform
conflicting accesses: in particular no access to a handed-out result after the unlock conflicts with an
access made under the lock. -/
theorem C20_alias_fresh_results_race_free (g : List (String × String)) (own : Owner) (ps : List Path)
    (h : ∀ (k : Nat) (p : Path), ps[k]? = some p → pathLsOwned g own k p = true)
    (s : State) (hr : Reachable (initState ps) s) (i j : Nat) : raceAt s i j = false :=
  race_free_owned g own ps h s hr i j

/-- with no owned regions the criterion is the lockset criterion (4) of `Model/Locks.lean` -/
theorem C20_alias_owned_criterion_extends_lockset (g : List (String × String)) (k : Nat) (o : Obs) :
    obsLsOwned g (fun _ => none) k o = obsLockset g o :=
  obsLsOwned_none g k o

/-! ## (C) the view class -/

namespace C20.Alias

def guards : List (String × String) := [("Pool.nonGossiped", "Pool.mutex"), ("Pool.gossiped", "Pool.mutex")]

/-- a selector whose `Select` returned a VIEW of the pool's array: after the unlock it reads the array -/
def selectorView : Path :=
  [.acq "Pool.mutex", .write "Pool.nonGossiped", .read "Pool.nonGossiped", .rel "Pool.mutex",
   .read "Pool.nonGossiped"]

/-- a selector whose `Select` returned a FRESH slice: it is filled under the lock and read afterwards -/
def selectorFresh : Path :=
  [.acq "Pool.mutex", .write "Pool.nonGossiped", .read "Pool.nonGossiped", .write "result#0",
   .rel "Pool.mutex", .read "result#0"]

/-- the next `Select` (another goroutine, or the next gossip round): sorts the array in place -/
def nextSelect : Path :=
  [.acq "Pool.mutex", .write "Pool.nonGossiped", .rel "Pool.mutex"]

def ownFresh : Owner := fun x => if x == "result#0" then some 0 else none

end C20.Alias

open C20.Alias in
/-- **Counterexample (view).** The owner of a view and the next `Select`: after the schedule below the
owner is about to read the array outside of the lock while the other goroutine, holding the lock, is about
to write it — a data race; and the view path violates the criterion whoever owns what. -/
theorem C20_alias_view_result_races :
    (∃ st, run (initState [selectorView, nextSelect]) [0, 0, 0, 0, 0, 1, 1] = some st ∧ raceAt st 0 1 = true) ∧
    pathLsOwned guards (fun _ => none) 0 selectorView = false := by
  refine ⟨⟨_, rfl, ?_⟩, ?_⟩ <;> decide

open C20.Alias in
/-- the same program with a fresh result satisfies the hypotheses of the generic theorem (non-vacuity),
so no schedule of it has a race -/
theorem C20_alias_fresh_result_program_ok :
    (∀ (k : Nat) (p : Path), [selectorFresh, nextSelect][k]? = some p → pathLsOwned guards ownFresh k p = true) ∧
    ∀ st, Reachable (initState [selectorFresh, nextSelect]) st → ∀ i j, raceAt st i j = false := by
  have h : ∀ (k : Nat) (p : Path), [selectorFresh, nextSelect][k]? = some p →
      pathLsOwned guards ownFresh k p = true := by
    intro k p hk
    match k, hk with
    | 0, hk => simp only [List.getElem?_cons_zero, Option.some.injEq] at hk; subst hk; decide
    | 1, hk => simp only [List.getElem?_cons_succ, List.getElem?_cons_zero, Option.some.injEq] at hk; subst hk; decide
    | (n + 2), hk => simp at hk
  exact ⟨h, fun st hr i j => C20_alias_fresh_results_race_free guards ownFresh _ h st hr i j⟩

/-! ## non-vacuity -/

/-- the generic theorem is not vacuous: a state of the fresh-result program reached by a real
interleaving in which the owner reads its result while the other goroutine writes the pool under the lock -/
example : ∃ st, Reachable (initState [C20.Alias.selectorFresh, C20.Alias.nextSelect]) st ∧
    st[0]?.map (·.prog) = some [.read "result#0"] ∧
    st[1]?.map (·.prog) = some [.write "Pool.nonGossiped", .rel "Pool.mutex"] :=
  ⟨_, ⟨[0, 0, 0, 0, 0, 0, 1, 1], rfl⟩, by decide⟩

/-- the table is not empty and contains the pool's selection -/
example : (Gen.Alias.table.filter (fun r => r.name == "Pool.Select")).length = 1 := by decide +kernel

/-- `rowOk` rejects a view: the row aliasgen produces for a `Select` that returns a prefix of the pool's
array -/
example : C20.Alias.rowOk ⟨"Pool.Select", 0, "certificate.SingleCommits", true, true, .view, .fresh,
    "nonGossiped via SingleCommits.GetUntil"⟩ = false := by decide
