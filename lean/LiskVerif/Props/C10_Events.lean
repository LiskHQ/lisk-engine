/-
C10 — the EVENT tree (pkg/blockchain `CalculateEventRoot`): the root of a block's events is the specification root
of the map of its topic pairs, whatever the batching of the pairs.

The pairs of a block are `KeyPairs()` of its events in order: 12-byte keys (8 bytes topic hash ‖ 4 bytes
`index << 2 + topic position`), the value of every pair is the raw encoded event — of ANY length (the state tree
stores 32-byte hashes).  The specification `SMT.mapRoot` (Model/SMTSpec.lean) and the LIP-0039 incremental
algorithm place NO hypothesis on value lengths: `C10_event_root_batching` below holds for values of every length.
The hypothesis that IS needed is on keys: distinct over the whole block (valid event lists: `index < 2^30`,
at most 4 topics — harness ROOTS oracle "roots-event-key-collision-in-bounds"); inside ONE `Update` the first
occurrence of a key wins, across batches the last one, so with repeated keys the batching would show.

What does depend on 32-byte values is the STORAGE of pkg/trie/smt (stored subtrees are read back by `newSubTree`
with 32-byte leaf values; observation of the harness C10EVENTS family "raw": key 0001 = 01 stored, reopen, update
of key 8002 panics / errors).  Therefore the implementation reaches the specification root for the event tree only
through ONE `Update` on a fresh trie (harness/c10 `event:one-batch-raw-values`, `evroot`), and the regenerated
facts `Gen.eventRootUpdateSites` … (tools/fngen/callsites.go; Props/C10_EventsGen.lean) state that shape of the regenerated code: exactly one `Update` call on the one
trie made by `smt.NewTrie`, outside every loop and conditional, no other use of the trie.
-/
import LiskVerif.Props.C10

open LiskVerif LiskVerif.SMT

private theorem mget_foldl_applyBatch (bs : List (List KV)) :
    ∀ (m : List KV) (k : Bytes), (bs.flatten.map Prod.fst).Nodup →
    mget (bs.foldl applyBatch m) k =
      match mget bs.flatten k with
      | none => mget m k
      | some v => if v = [] then none else some v := by
  induction bs with
  | nil => intro m k _; rfl
  | cons b r ih =>
    intro m k hnd
    simp only [List.flatten_cons, List.map_append] at hnd
    have hsplit := List.nodup_append.1 hnd
    rw [List.foldl_cons, List.flatten_cons, ih (applyBatch m b) k hsplit.2.1, mget_applyBatch, mget_append]
    cases hb : mget b k with
    | none => rfl
    | some v =>
      -- the key is written by `b`, so by no later batch
      have hnone : mget r.flatten k = none := mget_eq_none_iff.mpr fun hk =>
        hsplit.2.2 k (List.mem_map_of_mem (f := Prod.fst) (mem_of_mget_eq_some hb)) k hk rfl
      rw [hnone]

/-- **Batching independence for the event tree**: for every list of pairs with distinct keys (values of ANY
length, also longer or shorter than a hash) and EVERY way of cutting it into consecutive batches `bs`
(`bs.flatten = pairs`; empty batches allowed), feeding the batches one after the other leaves the map — hence the
root — of the single batch. -/
theorem C10_event_root_batching (H : HashFn) (keyLen : Nat) (pairs : List KV) (bs : List (List KV))
    (hcut : bs.flatten = pairs) (hkeys : (pairs.map Prod.fst).Nodup) :
    mapRoot H keyLen (finalMap bs) = mapRoot H keyLen (finalMap [pairs]) := by
  apply C10_root_function_of_map
  intro k
  have h1 := mget_foldl_applyBatch bs [] k (by rw [hcut]; exact hkeys)
  have h2 := mget_foldl_applyBatch [pairs] [] k (by simpa using hkeys)
  simp only [finalMap]
  rw [h1, h2, hcut]
  simp

/-- the LIP-0039 one-key-at-a-time algorithm run over ANY batching of a block's pairs gives the specification root
of the single batch (incremental = declarative, `C10_incremental_history`) -/
theorem C10_event_root_incremental (H : HashFn) (keyLen : Nat) (pairs : List KV) (bs : List (List KV))
    (hcut : bs.flatten = pairs) (hkeys : (pairs.map Prod.fst).Nodup)
    (hlen : ∀ kv ∈ pairs, kv.1.length = keyLen) :
    ((bs.flatMap batchOps).foldl applyOpTree .empty).hash H = mapRoot H keyLen (finalMap [pairs]) := by
  rw [← C10_event_root_batching H keyLen pairs bs hcut hkeys]
  apply C10_incremental_history
  intro b hb kv hkv
  exact hlen kv (by rw [← hcut]; exact List.mem_flatten.2 ⟨b, hb, hkv⟩)

/-- the key hypothesis is needed: with a repeated key one batch keeps the first value, two batches the last -/
theorem C10_event_root_batching_needs_distinct_keys :
    mget (finalMap [[([1], [7]), ([1], [8])]]) [1] = some [7] ∧
    mget (finalMap [[([1], [7])], [([1], [8])]]) [1] = some [8] := by decide

/-- non-vacuity: three pairs with values of 1, 40 and 33 bytes, cut in two ways -/
example (H : HashFn) :
    mapRoot H 1 (finalMap [[([0x40], [1])], [([0xC0], List.replicate 40 2), ([0x41], List.replicate 33 3)]]) =
    mapRoot H 1 (finalMap [[([0x40], [1]), ([0xC0], List.replicate 40 2), ([0x41], List.replicate 33 3)]]) :=
  C10_event_root_batching H 1 _ _ rfl (by decide)
