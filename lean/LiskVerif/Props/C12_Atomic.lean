/-
C12 — the concurrency clause of the staged store: "for all interleavings of set / del / get / range /
iterate / snapshot / restore over several prefix views".

All prefix views of one staged store (`diffdb.Database.WithPrefix`) share ONE overlay (`cache`) and ONE
mutex. The sequential theorems of `Props/C12.lean` (every read = the database with the staged writes
applied) carry over to concurrent use through several views exactly when every method is ONE critical
section of that mutex: then every interleaving of method calls is a sequence of complete methods and the
sequential theorems apply to that sequence. A method that gives the mutex up in the middle — a `Get` that
looks the key up, RELEASES the mutex for the read of the underlying database and re-locks to cache what it
read — has no data race and no deadlock and is indistinguishable in every sequential test, yet a
`Set` / `Del` through any view that falls into the gap is overwritten by the stale value (seeded change
C12-13; the same shape as C20-3).

This file restates, for the methods of `diffdb.Database`, the obligations `Props/C20*.lean` discharge for
all shared chain data — over the skeletons REGENERATED from pkg/db/diffdb/db.go on every run of the C12
check (tools/skelgen is a generator of C12). The criteria are the definitions of `Model/Locks.lean`
(`criteria`: balanced locking, no re-entrant acquisition, lock order, nothing blocking under the lock,
every access of a guarded field under its guard) and `Lemmas/LocksAtomic.lean` (`atomicOk`: no lock
operation on the guard between a read of a guarded field and a later write of it), reused, not copied.

(A) obligations by kernel evaluation on the regenerated skeletons, quantified over every entry point whose
    name starts with `Database.` (a method added to the type is covered automatically);
(B) what they mean: on every path of every method no `Lock` / `Unlock` of the store mutex lies between a
    read of the overlay and a later write of it, and — any number of goroutines, any views, any schedule —
    while one goroutine is between such a read and its write no other goroutine can touch the overlay;
(C) the class is not vacuous: the skeleton of a `Get` that re-locks to install the stored value passes
    the lock criteria and is rejected by the atomicity criterion; on the C12 model (`Model/DiffDB.lean`)
    the late install loses a staged `Set` and resurrects a staged `Del`.
-/
import LiskVerif.Props.C20_Atomic
import LiskVerif.Model.DiffDB

open LiskVerif LiskVerif.Locks

namespace C12.Atomic

/-- the methods of the staged store in the regenerated table: extracted entry points named `Database.*` -/
def isStoreMethod (e : String × Skel) : Bool :=
  Gen.Skeletons.entries.contains e.1 && (e.1.toList.take 9 == "Database.".toList)   -- 9 = length of "Database."

/-- the state shared by all prefix views of one staged store -/
def overlayFields : List String := ["Database.cache", "Database.snapshots", "Database.snapshotCount"]

/-- the read methods and the write methods the property quantifies over -/
def readMethods : List String := ["Database.Get", "Database.Has", "Database.Range", "Database.Iterate"]
def writeMethods : List String :=
  ["Database.Set", "Database.Del", "Database.Snapshot", "Database.RestoreSnapshot", "Database.DeleteSnapshot",
   "Database.Commit", "Database.WithPrefix"]

/-- the shape of the class closed here, as skelgen extracts it from such a source: `staged` looks the key
up under the mutex; `Get` calls it, reads the store unlocked and re-locks to install the stored value -/
def stagedLookup : Skel :=
  [.lock "Database.mutex", .deferUnlock "Database.mutex", .read "Database.cache", .write "Database.cache",
   .choice [[.ret], []], .ret]

def splitGet : Skel :=
  [.call "Database.getKey", .call "Database.staged", .choice [[.ret], []], .choice [[.ret], []],
   .choice [[.ret], []], .lock "Database.mutex", .deferUnlock "Database.mutex", .read "Database.cache",
   .write "Database.cache", .ret]

def splitCfg : Cfg :=
  ⟨[("Database.Get", splitGet), ("Database.staged", stagedLookup), ("Database.getKey", [.ret])],
   Gen.Skeletons.guards, Gen.Skeletons.lockOrder⟩

/-- a method of the staged store is an entry point of the regenerated table outside the exceptions of
`C20_all_entries_ok` and `C20_atomic_all_entries_ok` (none of their names starts with `Database.`) -/
theorem store_method_entry {e : String × Skel} (h : isStoreMethod e = true) :
    Gen.Skeletons.entries.contains e.1 = true ∧ C20.knownBlocking.contains e.1 = false ∧
      C20.Atomic.multiSectionWriter.contains e.1 = false := by
  have hx : (C20.knownBlocking ++ C20.Atomic.multiSectionWriter).all
      (fun n => !(n.toList.take 9 == "Database.".toList)) = true := by decide +kernel
  simp only [isStoreMethod, Bool.and_eq_true] at h
  have hn : ∀ n ∈ C20.knownBlocking ++ C20.Atomic.multiSectionWriter, e.1 ≠ n := by
    rintro n hn rfl
    have := Tables.all_mem hx hn
    rw [h.2] at this
    cases this
  refine ⟨h.1, ?_, ?_⟩ <;> rw [List.contains_eq_mem, decide_eq_false_iff_not] <;> intro hm
  · exact hn _ (List.mem_append_left _ hm) rfl
  · exact hn _ (List.mem_append_right _ hm) rfl

end C12.Atomic

/-! ## (A) obligations over the regenerated skeletons -/

/-- the methods C12 quantifies over exist in the regenerated table as extracted entry points (a renamed or
removed method breaks this theorem instead of silently shrinking the quantifiers below), and the three
fields of the shared overlay are guarded by the store mutex -/
theorem C12_atomic_store_methods_present :
    (C12.Atomic.readMethods ++ C12.Atomic.writeMethods).all (fun n =>
      (Gen.Skeletons.table.filter (fun e => e.1 == n && C12.Atomic.isStoreMethod e)).length == 1) = true ∧
    C12.Atomic.overlayFields.all (fun f => Gen.Skeletons.guards.lookup f == some "Database.mutex") = true := by
  decide +kernel

theorem C12.Atomic.overlay_guard {f : String} (hf : f ∈ C12.Atomic.overlayFields) :
    C20.cfg.guards.lookup f = some "Database.mutex" :=
  beq_iff_eq.mp (Tables.all_mem C12_atomic_store_methods_present.2 hf)

/-- **Lock discipline of every method of the staged store**: well formed (nothing the extractor does not
understand, every `Lock` released on every path), no re-entrant acquisition (also through calls), lock
order, nothing blocking while the mutex is held, and EVERY access to the overlay (`cache`, `snapshots`,
`snapshotCount`) under the mutex. -/
theorem C12_atomic_store_methods_lock_criteria :
    (Gen.Skeletons.table.filter C12.Atomic.isStoreMethod).all (fun e => criteria C20.cfg e.2) = true :=
  List.all_eq_true.mpr fun e he =>
    have hm := List.mem_filter.mp he
    have hs := C12.Atomic.store_method_entry hm.2
    C20.entry_ok (f := e.1) hm.1 hs.1 hs.2.1

/-- **Every method of the staged store is a single critical section on the overlay**: no unlock–relock of
the store mutex between a read of an overlay field and a later write of it (calls inlined, deferred
unlocks at function exit, loops any number of times). -/
theorem C12_atomic_store_methods_single_section :
    (Gen.Skeletons.table.filter C12.Atomic.isStoreMethod).all (fun e => atomicOk C20.cfg e.2) = true :=
  List.all_eq_true.mpr fun e he => by
    have hm := List.mem_filter.mp he
    have hs := C12.Atomic.store_method_entry hm.2
    have h := Tables.all_mem C20_atomic_all_entries_ok (List.mem_filter.mpr ⟨hm.1, hs.1⟩)
    rwa [hs.2.2] at h

/-- the read methods, named: `Get`, `Has`, `Range`, `Iterate` (all of them also WRITE the overlay — they
cache what they read from the database — which is why the split matters) -/
theorem C12_atomic_read_methods_ok :
    [Gen.Skeletons.Database_Get, Gen.Skeletons.Database_Has, Gen.Skeletons.Database_Range,
     Gen.Skeletons.Database_Iterate].all (fun s => criteria C20.cfg s && atomicOk C20.cfg s) = true := by
  -- the staged store's methods, both criteria: a component of the evaluation of the table
  apply Tables.all_of_subset C20.table_ok.2.2.1
  simp only [List.forall_mem_cons]
  simp only [List.mem_cons, true_or, or_true, and_true, List.not_mem_nil, false_imp_iff, implies_true]

/-- the write methods, named -/
theorem C12_atomic_write_methods_ok :
    [Gen.Skeletons.Database_Set, Gen.Skeletons.Database_Del, Gen.Skeletons.Database_Snapshot,
     Gen.Skeletons.Database_RestoreSnapshot, Gen.Skeletons.Database_DeleteSnapshot,
     Gen.Skeletons.Database_Commit, Gen.Skeletons.Database_WithPrefix].all
      (fun s => criteria C20.cfg s && atomicOk C20.cfg s) = true := by
  apply Tables.all_of_subset C20.table_ok.2.2.1
  simp only [List.forall_mem_cons]
  simp only [List.mem_cons, true_or, or_true, and_true, List.not_mem_nil, false_imp_iff, implies_true]

/-! ## (B) what the obligations mean -/

/-- **No unlock–relock inside a method.** On every path of every thread of every method of the staged
store (calls inlined to any depth, loops iterated up to any bound `u`), between a read of an overlay field
`f` and any later write of `f` there is no `Lock` / `Unlock` of the store mutex. -/
theorem C12_atomic_no_relock_between_overlay_accesses (u : Nat) (e : String × Skel)
    (he : e ∈ Gen.Skeletons.table) (hm : C12.Atomic.isStoreMethod e = true)
    (q pre mid rest : Path) (f : String) (hq : IsThreadPath Gen.Skeletons.table u e.2 q)
    (hsplit : q = pre ++ Prim.read f :: (mid ++ Prim.write f :: rest))
    (hf : f ∈ C12.Atomic.overlayFields) : ∀ x ∈ mid, lockOf x ≠ some "Database.mutex" := by
  have hall := C12_atomic_store_methods_single_section
  simp only [List.all_eq_true, List.mem_filter] at hall
  have hok : atomicOk C20.cfg e.2 = true := hall e ⟨he, hm⟩
  have hpa : pathAtomic C20.cfg.guards q = true := atomicOk_paths C20.cfg e.2 hok u q hq
  subst hsplit
  exact pathAtomic_quiet hpa (C12.Atomic.overlay_guard hf)

/-- non-vacuity: the cache-miss path of the regenerated `Get` (look-up, store read, install — one section) is a thread
path of the read…write shape `C12_atomic_no_relock_between_overlay_accesses` speaks about -/
example :
    let p : Path := [.acq "Database.mutex", .read "Database.cache", .write "Database.cache",
      .read "Database.cache", .write "Database.cache", .rel "Database.mutex"]
    p ∈ bodyPaths Gen.Skeletons.table 0 40 Gen.Skeletons.Database_Get ∧
    p = [.acq "Database.mutex"] ++ Prim.read "Database.cache" ::
      ([.write "Database.cache", .read "Database.cache"] ++ Prim.write "Database.cache" :: [.rel "Database.mutex"]) := by
  refine ⟨by decide +kernel, rfl⟩

/-- **Methods through different views do not interleave on the overlay.** Any number of goroutines, each
executing any finite sequence of calls of methods of the staged store — through the root or through any
prefix views: they all share the mutex and the overlay — under any schedule. If goroutine `i` is inside a
method on the path `q = pre ++ [read f] ++ mid ++ [write f] ++ rest` (`f` an overlay field), has executed
the read and (part `done` of `mid`) not yet the write, then it holds the store mutex and no other goroutine
is about to read or write `f`: nothing can slip between what a method read and what it writes, so every
interleaving is a sequence of complete methods and the sequential theorems of C12 apply to it. -/
theorem C12_atomic_views_rmw_not_interleaved (u : Nat) (ps : List Path)
    (hps : ∀ p ∈ ps, ∃ segs : List Path, p = segs.flatten ∧ ∀ q ∈ segs,
      ∃ e ∈ Gen.Skeletons.table, C12.Atomic.isStoreMethod e = true ∧ IsThreadPath Gen.Skeletons.table u e.2 q)
    (st : State) (hr : Reachable (initState ps) st)
    (i j : Nat) (ti tj : Thread) (hij : i ≠ j) (hi : st[i]? = some ti) (hj : st[j]? = some tj)
    (e : String × Skel) (he : e ∈ Gen.Skeletons.table) (hm : C12.Atomic.isStoreMethod e = true)
    (q pre mid rest : Path) (f : String) (hq : IsThreadPath Gen.Skeletons.table u e.2 q)
    (hsplit : q = pre ++ Prim.read f :: (mid ++ Prim.write f :: rest))
    (hf : f ∈ C12.Atomic.overlayFields)
    (done mid' later : Path) (hmid : mid = done ++ mid')
    (hprog : ti.prog = mid' ++ Prim.write f :: (rest ++ later)) :
    ("Database.mutex", Mode.W) ∈ ti.held ∧
      ∀ rest', tj.prog ≠ Prim.read f :: rest' ∧ tj.prog ≠ Prim.write f :: rest' := by
  have hls : ∀ p ∈ ps, pathLs C20.cfg.guards p = true := by
    intro p hp
    obtain ⟨segs, hflat, hsegs⟩ := hps p hp
    refine criteria_invocations_pathLs (c := C20.cfg) (u := u) ⟨segs, hflat, fun q hq => ?_⟩
    obtain ⟨e, he, hme, hpath⟩ := hsegs q hq
    exact ⟨e.2, Tables.all_mem C12_atomic_store_methods_lock_criteria (List.mem_filter.mpr ⟨he, hme⟩), hpath⟩
  have hquiet := C12_atomic_no_relock_between_overlay_accesses u e he hm q pre mid rest f hq hsplit hf
  exact rmw_excludes hls hr hij hi hj (C12.Atomic.overlay_guard hf) hprog
    fun x hx => hquiet x (by rw [hmid]; exact List.mem_append.mpr (Or.inr hx))

/-! ## (C) the class is not vacuous -/

/-- the skeleton of a `Get` that looks the key up in one critical section and installs the stored value in
a second one passes every lock-discipline criterion (balanced, every overlay access under the mutex: no
race, no deadlock) and is rejected by the atomicity criterion; the regenerated `Get` passes both -/
theorem C12_atomic_split_get_rejected :
    criteria C12.Atomic.splitCfg C12.Atomic.splitGet = true ∧
    criteria C12.Atomic.splitCfg C12.Atomic.stagedLookup = true ∧
    atomicOk C12.Atomic.splitCfg C12.Atomic.stagedLookup = true ∧
    atomicOk C12.Atomic.splitCfg C12.Atomic.splitGet = false ∧
    criteria C20.cfg Gen.Skeletons.Database_Get = true ∧ atomicOk C20.cfg Gen.Skeletons.Database_Get = true := by
  decide +kernel

namespace C12.Atomic
open LiskVerif.DiffDB

/-- second critical section of the split `Get`: `cache.cache(key, stored value)` without looking at the
overlay again -/
def lateInstall (st : St) (k v : Bytes) : St := { st with cache := ccache st.cache k v }

end C12.Atomic

open LiskVerif.DiffDB in
/-- **On the C12 model**: the key `k` is persisted with value `v` and not in the overlay. Reader section 1
(a miss, the overlay is unchanged), then a complete `Set k new` / `Del k` through any view, then the
reader's late install of `v`: the staged write is gone — reads return the persisted value again (the
deleted key is back) and the diff `Commit` returns is empty (it does not list `k`). -/
theorem C12_atomic_split_get_loses_staged_write (s : Store) (k v new : Bytes) (hs : slookup s k = some v) :
    eff (DiffDB.set { store := s } k new) k = some new ∧
    eff (del { store := s } k) k = none ∧
    eff (C12.Atomic.lateInstall (DiffDB.set { store := s } k new) k v) k = some v ∧
    eff (C12.Atomic.lateInstall (del { store := s } k) k v) k = some v ∧
    (commit (C12.Atomic.lateInstall (DiffDB.set { store := s } k new) k v)).2 = {} ∧
    (commit (C12.Atomic.lateInstall (del { store := s } k) k v)).2 = {} := by
  simp [eff, effC, DiffDB.set, del, ensureCache, hs, clookup, ccache, cset, cdel, cput,
    C12.Atomic.lateInstall, commit, commitCache]

open LiskVerif.DiffDB in
/-- with look-up and install in ONE critical section (the `get` of the model = the regenerated `Get`) the
staged write survives in both orders -/
theorem C12_atomic_get_keeps_staged_write (s : Store) (k v new : Bytes) (hs : slookup s k = some v) :
    eff (DiffDB.set (DiffDB.get { store := s } k).1 k new) k = some new ∧
    eff (DiffDB.get (DiffDB.set { store := s } k new) k).1 k = some new ∧
    eff (del (DiffDB.get { store := s } k).1 k) k = none ∧
    eff (DiffDB.get (del { store := s } k) k).1 k = none := by
  simp [eff, effC, DiffDB.set, del, DiffDB.get, ensureCache, hs, clookup, ccache, cset, cdel, cput]

/-! ## non-vacuity -/

/-- the quantifier of the obligations ranges over (at least) the 11 named methods of `diffdb.Database` -/
example : (C12.Atomic.readMethods ++ C12.Atomic.writeMethods).all (fun n =>
    ((Gen.Skeletons.table.filter C12.Atomic.isStoreMethod).map (·.1)).contains n) = true ∧
    11 ≤ (Gen.Skeletons.table.filter C12.Atomic.isStoreMethod).length := by
  -- each name occurs (once) among the store methods of the table: `C12_atomic_store_methods_present`
  have hsub : ∀ n ∈ C12.Atomic.readMethods ++ C12.Atomic.writeMethods,
      n ∈ (Gen.Skeletons.table.filter C12.Atomic.isStoreMethod).map (·.1) := by
    intro n hn
    have h := beq_iff_eq.mp (Tables.all_mem C12_atomic_store_methods_present.1 hn)
    obtain ⟨e, he⟩ := List.exists_mem_of_length_pos (h ▸ Nat.one_pos)
    simp only [List.mem_filter, Bool.and_eq_true, beq_iff_eq] at he
    exact List.mem_map.mpr ⟨e, List.mem_filter.mpr ⟨he.1, he.2.2⟩, he.2.1⟩
  refine ⟨List.all_eq_true.mpr fun n hn => List.contains_iff_mem.mpr (hsub n hn), ?_⟩
  have := List.Nodup.length_le_of_subset (by decide +kernel) hsub
  rwa [List.length_map] at this

/-- the hypotheses of `C12_atomic_split_get_loses_staged_write` are satisfiable and the conclusion is a
real loss: persisted `[1] ↦ [10]`, `Set [1] [11]` inside the gap -/
example : LiskVerif.DiffDB.eff (C12.Atomic.lateInstall (LiskVerif.DiffDB.set { store := [([1], [10])] } [1] [11]) [1] [10]) [1]
    = some [10] := by decide
