/-
C09 — what the decoders and the handlers behind them can be made to do by a byte string, beyond
not panicking.

* Memory. Whatever `Decode` / `DecodeStrict` return has at most `|input|` dynamically allocated units
  (bytes of byte strings and strings, `[][]byte` elements, packed integers, elements of arrays of
  structs), at ANY nesting depth, for every struct of every table: a length prefix or element count
  cannot make the decoder allocate more than the input it has read. The reader-level form holds for
  every table and every fuel: units ≤ bytes consumed. Counting every node of the returned tree
  (scalars and the default structs of absent fields included): ≤ static size of the struct (< 40 for
  all 95 structs) + 40·|input|.
* Work of the multi-stage validators. `NewBlock` decodes the envelope, then the header, every asset
  and every transaction it carries; the second-stage inputs together (plus one per asset /
  transaction) fit in the first-stage input. One stage makes ≤ 121·(|input|+1) decoder calls
  (`C09_decode_steps_linear`), so the two stages of `NewBlock` make ≤ 242·(|payload|+1), and
  ≤ 363·(|raw|+1) with the `p2p.Message` envelope as a third stage in front.
* Validator ⇒ handler. The event handlers `onBlockReceived` / `onTransactionAnnoucement` `panic(err)`
  when `NewBlock` / `NewTransaction` fails, relying on the gossip validator having decoded the same
  bytes. Safe exactly when the validator's decoder is at least as strict as the handler's:
  strict ⇒ strict and lenient ⇒ lenient trivially (same function), strict ⇒ lenient because the
  lenient field list is the strict one with weaker flags; lenient ⇒ strict is FALSE (a valid
  transaction followed by one byte; a transaction without module/command).
* RPC handlers. For every request byte string, the verdict of the byte-level front
  (`requestVerdict`) is the ban / answer decision of the handler specifications of `Model/Sync.lean`
  on the decoded request, on every chain, duplicates included; the number of ids looked up
  (goroutines started, WaitGroup count) is at most |raw| / 33. NOT modelled: the goroutines /
  WaitGroup / channel of `HandleRPCEndpointGetHighestCommonBlock` — the model is a function of the id
  list, so a hang (fewer `Done` than `Add`) cannot be expressed in it; that obligation is with the
  harness (watchdog).
* Bitmaps. `Bits.read/write(i)` is in range iff `i < 8·len`; the signer-selection loop over `n` keys
  is panic free iff every index is in the bitmap and every SET bit has a key and a weight.
-/
import LiskVerif.Lemmas.C09More
import LiskVerif.Lemmas.SyncMore
import LiskVerif.Props.C09_Validators

open LiskVerif LiskVerif.Codec LiskVerif.Gen LiskVerif.Validators

/-! ## Memory: allocation ≤ input length -/

/-- Dynamically allocated units of a decoded struct (`Value.dynList`): see the unfolding theorem
`C09_allocUnits_unfold`. Scalars and the struct behind a `.msg` pointer have a static size fixed by
the schema (also when the field is absent: `creator()`), so they count 0. -/
def C09allocUnits (vals : List Value) : Nat := Value.dynList vals

theorem C09allocUnits_eq : C09allocUnits = Value.dynList := rfl

/-- what is counted: every byte of a `[]byte` / string; for `[][]byte` one unit per element plus its
bytes; one unit per packed integer; for an array of structs one unit per element (the struct
`creator()` allocates) plus the units of its fields, recursively; a nested struct contributes the
units of its fields. -/
theorem C09_allocUnits_unfold :
    C09allocUnits [] = 0 ∧
    (∀ v vs, C09allocUnits (v :: vs) = Value.dyn v + C09allocUnits vs) ∧
    (∀ n, Value.dyn (.uint n) = 0) ∧ (∀ i, Value.dyn (.int i) = 0) ∧ (∀ b, Value.dyn (.bool b) = 0) ∧
    (∀ b, Value.dyn (.bytes b) = b.length) ∧
    (∀ l, Value.dyn (.bytesArr l) = (l.map List.length).sum + l.length) ∧
    (∀ l, Value.dyn (.uints l) = l.length) ∧
    (∀ p vals, Value.dyn (.msg p vals) = C09allocUnits vals) ∧
    (∀ l, Value.dyn (.msgArr l) = (l.map fun vals => C09allocUnits vals + 1).sum) := by
  refine ⟨rfl, fun _ _ => by simp [C09allocUnits_eq, Value.dynList], fun _ => by simp [Value.dyn],
    fun _ => by simp [Value.dyn], fun _ => by simp [Value.dyn], fun _ => by simp [Value.dyn],
    fun l => by simp [Value.dyn, baSize_eq], fun _ => by simp [Value.dyn],
    fun _ _ => by simp [Value.dyn, C09allocUnits_eq], ?_⟩
  intro l
  simp only [Value.dyn, C09allocUnits_eq]
  induction l with
  | nil => simp [Value.dynLL]
  | cons a r ih => simp only [Value.dynLL, List.map_cons, List.sum_cons, ih]; try omega

/-- **Reader level, no hypotheses.** For every table (ranked or not), NFC implementation, fuel, field
list and reader state — hence inside nested structs at any depth — a successful `decodeFields`
returns at most as many allocation units as it consumed bytes. -/
theorem C09_decodeFields_alloc_le_consumed (t : Table) (nfc : NFC) (fuel : Nat) (fs : List Field)
    (r r' : Reader) (vs : List Value) (h : decodeFields t nfc fuel fs r = .ok (vs, r')) :
    r.index ≤ r'.index ∧ C09allocUnits vs ≤ r'.index - r.index := by
  have := decodeFields_dyn t nfc h
  simp only [C09allocUnits_eq]
  omega

/-- **`readBytes` slices inside the buffer whatever the reader's `end` is.** A nested reader's `end`
(`index + declared size`) is never compared with the buffer, so it may lie beyond it (or be negative);
`readBytes` bounds the declared length by `len(data) - index`, not by `end`, and so the slice
`data[index : index+size]` is in range for EVERY reader state: the result has exactly the bytes
consumed after the length prefix, and the new index is inside the buffer. (Bounding by `end` instead —
seeded change C09-2 — makes `0a 03 0a 01` slice out of range; in the model it is `byteSize`.) -/
theorem C09_readBytes_slice_in_range (r r' : Reader) (b : Bytes) (h : r.readBytes = .ok (b, r')) :
    r.index + 1 + b.length ≤ r'.index ∧ r'.index ≤ r.data.length := by
  have := Reader.readBytes_dyn h
  omega

/-- **Allocation is linear in the input.** On every table, for every struct, every NFC
implementation and every byte string: a successful `Decode` or `DecodeStrict` returns a value tree
with at most `|data|` allocation units. In particular no length prefix, element count or nested size
can make the decoder allocate more than the input is long. -/
theorem C09_decode_alloc_linear (t : Table) (nfc : NFC) (s : Schema) (data : Bytes)
    (vals : List Value) :
    (decode t nfc s data = .ok vals → C09allocUnits vals ≤ data.length) ∧
    (decodeStrict t nfc s data = .ok vals → C09allocUnits vals ≤ data.length) := by
  refine ⟨fun h => ?_, fun h => ?_⟩
  · obtain ⟨r', he⟩ := decode_ok h
    exact Nat.le_trans (decodeFields_dyn t nfc he) (decodeFields_new_le he)
  · obtain ⟨r', he, _⟩ := decodeStrict_ok h
    exact Nat.le_trans (decodeFields_dyn t nfc he) (decodeFields_new_le he)

/-- units of the field at position `i` (0 if there is none) -/
private def dynAt (vs : List Value) (i : Nat) : Nat :=
  match vs[i]? with
  | some v => Value.dyn v
  | none => 0

private theorem dynAt_le (vs : List Value) (i : Nat) : dynAt vs i ≤ Value.dynList vs := by
  unfold dynAt
  split
  · rename_i v h; exact Value.dynList_mem (List.mem_of_getElem? h)
  · omega

private theorem dynAt_three (vs : List Value) :
    dynAt vs 0 + dynAt vs 1 + dynAt vs 2 ≤ Value.dynList vs := by
  match vs with
  | [] => simp [dynAt]
  | [a] => simp [dynAt, Value.dynList]
  | [a, b] => simp [dynAt, Value.dynList]
  | a :: b :: c :: rest => simp [dynAt, Value.dynList]; omega

private theorem fBytes_le_dynAt (vs : List Value) (i : Nat) : (fBytes vs i).length ≤ dynAt vs i := by
  unfold fBytes dynAt
  cases vs[i]? with
  | none => simp
  | some v => cases v <;> simp [Value.dyn]

private theorem fBytesArr_le_dynAt (vs : List Value) (i : Nat) : baSize (fBytesArr vs i) ≤ dynAt vs i := by
  unfold fBytesArr dynAt
  cases vs[i]? with
  | none => simp [baSize]
  | some v => cases v <;> simp [Value.dyn, baSize]

private theorem fMsgArr_le_dynAt (vs : List Value) (i : Nat) : Value.dynLL (fMsgArr vs i) ≤ dynAt vs i := by
  unfold fMsgArr dynAt
  cases vs[i]? with
  | none => simp [Value.dynLL]
  | some v => cases v <;> simp [Value.dyn, Value.dynLL]

/-- `decodeNamed`, the decoder the validators and handlers call -/
private theorem decodeNamed_alloc {t : Table} {nfc : NFC} {strict : Bool} {name : String}
    {data : Bytes} {vals : List Value} (h : decodeNamed t nfc strict name data = .ok vals) :
    Value.dynList vals ≤ data.length := by
  obtain ⟨s, _, h⟩ := decodeNamed_ok h
  have := C09_decode_alloc_linear t nfc s data vals
  cases strict
  · exact this.1 h
  · exact this.2 h

/-- **Every decoded field is bounded by the input**, as the validators and handlers read them
(`fBytes`, `fBytesArr`, `fMsgArr`), for all 95 generated structs, lenient or strict: a byte string
field is not longer than the message; a `[][]byte` field has fewer elements than the message has
bytes, and its elements together (plus one per element) fit in the message; an array of structs has
at most `|data|` elements. -/
theorem C09_decoded_fields_bounded (nfc : NFC) (strict : Bool) (name : String) (data : Bytes)
    (vals : List Value) (h : decodeNamed allSchemas nfc strict name data = .ok vals) (i : Nat) :
    (fBytes vals i).length ≤ data.length ∧
    ((fBytesArr vals i).map List.length).sum + (fBytesArr vals i).length ≤ data.length ∧
    (∀ b ∈ fBytesArr vals i, b.length < data.length) ∧
    (fMsgArr vals i).length ≤ data.length ∧
    (∀ e ∈ fMsgArr vals i, C09allocUnits e < data.length) := by
  have hd := decodeNamed_alloc h
  have hi := dynAt_le vals i
  have h1 := fBytes_le_dynAt vals i
  have h2 := fBytesArr_le_dynAt vals i
  have h3 := fMsgArr_le_dynAt vals i
  refine ⟨by omega, by rw [← baSize_eq]; omega, ?_, ?_, ?_⟩
  · intro b hb
    have := baSize_mem hb
    omega
  · have := Value.dynLL_length_le (fMsgArr vals i)
    omega
  · intro e he
    have := Value.dynLL_mem he
    simp only [C09allocUnits_eq]
    omega

/-! ### the whole tree, static part included -/

/-- the lenient field list of a struct is its strict list with weaker flags (same numbers, same
kinds): a decidable check on the table -/
def C09LenientIsLaxer (t : Table) : Bool := t.all fun s => laxerFields s.dec s.decStrict

/-- true of the regenerated table -/
theorem C09_allSchemas_lenient_is_laxer : C09LenientIsLaxer allSchemas = true :=
  Tables.all_imp C09_allSchemas_checks fun _ h => by
    simp only [Bool.and_eq_true] at h
    exact h.1.2

/-- Number of nodes of the decoded value tree (`Value.nodesList`): one per scalar, per struct (also the
default structs `creator()` returns for absent nested fields), per array, per array element, per
packed integer and per byte. This is the size of what `Decode` leaves on the heap, up to the
constant size of a node. -/
def C09treeSize (vals : List Value) : Nat := Value.nodesList vals

theorem C09treeSize_eq : C09treeSize = Value.nodesList := rfl

theorem C09_treeSize_unfold :
    C09treeSize [] = 0 ∧
    (∀ v vs, C09treeSize (v :: vs) = Value.nodes v + C09treeSize vs) ∧
    (∀ n, Value.nodes (.uint n) = 1) ∧ (∀ i, Value.nodes (.int i) = 1) ∧ (∀ b, Value.nodes (.bool b) = 1) ∧
    (∀ b, Value.nodes (.bytes b) = 1 + b.length) ∧
    (∀ l, Value.nodes (.bytesArr l) = 1 + ((l.map List.length).sum + l.length)) ∧
    (∀ l, Value.nodes (.uints l) = 1 + l.length) ∧
    (∀ p vals, Value.nodes (.msg p vals) = 1 + C09treeSize vals) ∧
    (∀ l, Value.nodes (.msgArr l) = 1 + (l.map fun vals => 1 + C09treeSize vals).sum) := by
  refine ⟨rfl, fun _ _ => by simp [C09treeSize_eq, Value.nodesList], fun _ => by simp [Value.nodes],
    fun _ => by simp [Value.nodes], fun _ => by simp [Value.nodes], fun _ => by simp [Value.nodes],
    fun l => by simp [Value.nodes, baSize_eq], fun _ => by simp [Value.nodes],
    fun _ _ => by simp [Value.nodes, C09treeSize_eq], ?_⟩
  intro l
  simp only [Value.nodes, C09treeSize_eq]
  induction l with
  | nil => simp [Value.nodesLL]
  | cons a r ih =>
    simp only [Value.nodesLL, List.map_cons, List.sum_cons]
    omega

/-- `σ` is a static-size table for `t`: for every struct `s`, the sum over the fields of `s.dec` of
`1` (`1 + σ n` for a `.msg n` field) is at most `σ s.name`, and `σ s.name < 40` (decidable) -/
def C09StaticOK (t : Table) (σ : String → Nat) : Bool := staticOK t σ

theorem C09StaticOK_eq : C09StaticOK = staticOK := rfl

/-- every generated struct has a static size (`C09static`) below 40 nodes (the largest,
`labi.ExecuteTransactionRequest`, has 35) -/
theorem C09_allSchemas_static_ok : C09StaticOK allSchemas C09static = true :=
  Tables.all_imp C09_allSchemas_checks fun _ h => (Bool.and_eq_true_iff.mp h).2

/-- **The whole decoded tree is linear in the input.** On a table with static sizes `σ`
(`< 40`), for every struct and byte string: what `Decode` / `DecodeStrict` return has at most
`σ s.name + 40·|data|` nodes — the static size of the struct plus 40 nodes per input byte (an element
of an array of structs costs ≥ 2 input bytes and brings at most 1 + 39 static nodes; the factor is
not 1: two empty blocks in a 4-byte `GetBlocksFromIDResponse` decode to 39 nodes, see the examples). -/
theorem C09_decode_tree_size_linear (t : Table) (σ : String → Nat) (hσ : C09StaticOK t σ = true)
    (hl : C09LenientIsLaxer t = true) (nfc : NFC) (s : Schema) (hs : s ∈ t) (data : Bytes)
    (vals : List Value) :
    (decode t nfc s data = .ok vals → C09treeSize vals ≤ σ s.name + 40 * data.length) ∧
    (decodeStrict t nfc s data = .ok vals → C09treeSize vals ≤ σ s.name + 40 * data.length) := by
  have hσ : staticOK t σ = true := C09StaticOK_eq ▸ hσ
  have hst := (staticOK_mem hσ hs).1
  have hlax := staticFields_lax σ _ _ (List.all_eq_true.mp hl s hs)
  refine ⟨fun h => ?_, fun h => ?_⟩
  · obtain ⟨r', he⟩ := decode_ok h
    have h1 := decodeFields_nodes t nfc σ hσ he
    have h2 := decodeFields_new_le he
    simp only [Reader.new] at h1
    simp only [C09treeSize_eq]
    omega
  · obtain ⟨r', he, _⟩ := decodeStrict_ok h
    have h1 := decodeFields_nodes t nfc σ hσ he
    have h2 := decodeFields_new_le he
    simp only [Reader.new] at h1
    simp only [C09treeSize_eq]
    omega

/-- for all 95 generated structs, any NFC implementation, lenient or strict: at most
`40·(|data|+1)` nodes -/
theorem C09_decode_all_schemas_tree_size (nfc : NFC) :
    ∀ s ∈ allSchemas, ∀ (data : Bytes) (vals : List Value),
      (decode allSchemas nfc s data = .ok vals ∨ decodeStrict allSchemas nfc s data = .ok vals) →
      C09treeSize vals ≤ 40 * (data.length + 1) := by
  intro s hs data vals h
  have hlt := (staticOK_mem (C09StaticOK_eq ▸ C09_allSchemas_static_ok) hs).2
  have := C09_decode_tree_size_linear allSchemas C09static C09_allSchemas_static_ok
    C09_allSchemas_lenient_is_laxer nfc s hs data vals
  rcases h with h | h
  · have := this.1 h; omega
  · have := this.2 h; omega

/-! ## Work of the multi-stage validators -/

/-- decoder calls (`costFields`, see `C09_decode_steps_linear`) of one `decodeNamed` -/
def C09costNamed (t : Table) (nfc : NFC) (strict : Bool) (name : String) (data : Bytes) : Nat :=
  match t.find name with
  | none => 1
  | some s =>
    costFields t nfc (fuelFor data) (if strict then s.decStrict else s.dec) (Reader.new data)

/-- decoder calls of the loops of `NewBlock` if every element is decoded (the loop stops at the
first error, so this is an upper bound) -/
def C09costMap (t : Table) (nfc : NFC) (strict : Bool) (name : String) : List Bytes → Nat
  | [] => 0
  | b :: rest => C09costNamed t nfc strict name b + C09costMap t nfc strict name rest

/-- decoder calls of `blockchain.NewBlock`, following `Validators.newBlock`: the RawBlock envelope,
then — if it decodes — the header, the assets and the transactions it carries -/
def C09newBlockCost (t : Table) (nfc : NFC) (data : Bytes) : Nat :=
  C09costNamed t nfc true "blockchain.RawBlock" data +
    match decodeNamed t nfc true "blockchain.RawBlock" data with
    | .error _ => 0
    | .ok raw =>
      C09costNamed t nfc false "blockchain.BlockHeader" (fBytes raw 0) +
      C09costMap t nfc true "blockchain.BlockAsset" (fBytesArr raw 2) +
      C09costMap t nfc true "blockchain.Transaction" (fBytesArr raw 1)

/-- decoder calls of the block gossip validator behind the `p2p.Message` envelope -/
def C09blockGossipCost (t : Table) (nfc : NFC) (raw : Bytes) : Nat :=
  C09costNamed t nfc false "p2p.Message" raw +
    match decodeNamed t nfc false "p2p.Message" raw with
    | .error _ => 0
    | .ok m => C09newBlockCost t nfc (fBytes m 0)

/-- decoder calls of `onRequest` + the sync handlers' request decoding, following
`Validators.requestVerdict` (at most one of the two bodies is decoded) -/
def C09requestCost (t : Table) (nfc : NFC) (raw : Bytes) : Nat :=
  C09costNamed t nfc false "p2p.Request" raw +
    match decodeNamed t nfc false "p2p.Request" raw with
    | .error _ => 0
    | .ok r =>
      max (C09costNamed t nfc false "sync.GetHighestCommonBlockRequest" (fBytes r 2))
        (C09costNamed t nfc false "sync.GetBlocksFromIDRequest" (fBytes r 2))

/-- one stage: ≤ 121·(|data|+1), whatever the name -/
theorem C09_costNamed_le (nfc : NFC) (strict : Bool) (name : String) (data : Bytes) :
    C09costNamed allSchemas nfc strict name data ≤ 121 * (data.length + 1) := by
  unfold C09costNamed
  split
  · omega
  · rename_i s hf
    have hs : s ∈ allSchemas := find_mem hf
    have := C09_decode_steps_linear allSchemas C09rank C09_allSchemas_ranked nfc s hs data (fuelFor data)
    cases strict
    · simpa using this.1
    · simpa using this.2

private theorem costMap_le (nfc : NFC) (strict : Bool) (name : String) (l : List Bytes) :
    C09costMap allSchemas nfc strict name l ≤ 121 * baSize l := by
  induction l with
  | nil => simp [C09costMap]
  | cons b rest ih =>
    have := C09_costNamed_le nfc strict name b
    simp only [C09costMap, baSize]
    omega

/-- **The inputs of the second stage fit in the first-stage input**: header, assets and transactions
of a strictly decoded RawBlock (with one unit per asset / transaction) together are at most `|data|`
long. -/
theorem C09_new_block_stage_inputs_bounded (nfc : NFC) (data : Bytes) (raw : List Value)
    (h : decodeNamed allSchemas nfc true "blockchain.RawBlock" data = .ok raw) :
    (fBytes raw 0).length +
      (((fBytesArr raw 1).map List.length).sum + (fBytesArr raw 1).length) +
      (((fBytesArr raw 2).map List.length).sum + (fBytesArr raw 2).length) ≤ data.length := by
  have hd := decodeNamed_alloc h
  have h3 := dynAt_three raw
  have h0 := fBytes_le_dynAt raw 0
  have h1 := fBytesArr_le_dynAt raw 1
  have h2 := fBytesArr_le_dynAt raw 2
  rw [← baSize_eq, ← baSize_eq]
  omega

/-- **`NewBlock` (hence `blockValidator`, `onBlockReceived`, the sync responses) makes at most
`242·(|data|+1)` decoder calls**, for every payload: envelope + header + every asset + every
transaction. -/
theorem C09_new_block_steps_linear (nfc : NFC) (data : Bytes) :
    C09newBlockCost allSchemas nfc data ≤ 242 * (data.length + 1) := by
  unfold C09newBlockCost
  have h0 := C09_costNamed_le nfc true "blockchain.RawBlock" data
  split
  · omega
  · rename_i raw hraw
    have hb := C09_new_block_stage_inputs_bounded nfc data raw hraw
    rw [← baSize_eq, ← baSize_eq] at hb
    have h1 := C09_costNamed_le nfc false "blockchain.BlockHeader" (fBytes raw 0)
    have h2 := costMap_le nfc true "blockchain.BlockAsset" (fBytesArr raw 2)
    have h3 := costMap_le nfc true "blockchain.Transaction" (fBytesArr raw 1)
    exact Nat.le_trans (Nat.add_le_add h0 (Nat.add_le_add (Nat.add_le_add h1 h2) h3)) (by omega)

/-- … and at most `363·(|raw|+1)` from the pubsub bytes (envelope included) -/
theorem C09_block_gossip_steps_linear (nfc : NFC) (raw : Bytes) :
    C09blockGossipCost allSchemas nfc raw ≤ 363 * (raw.length + 1) := by
  unfold C09blockGossipCost
  have h0 := C09_costNamed_le nfc false "p2p.Message" raw
  split
  · omega
  · rename_i m hm
    have hb := (C09_decoded_fields_bounded nfc false _ raw m hm 0).1
    have h1 := C09_new_block_steps_linear nfc (fBytes m 0)
    omega

/-- `onRequest` with the sync handlers' request decoding: at most `242·(|raw|+1)` decoder calls -/
theorem C09_request_steps_linear (nfc : NFC) (raw : Bytes) :
    C09requestCost allSchemas nfc raw ≤ 242 * (raw.length + 1) := by
  unfold C09requestCost
  have h0 := C09_costNamed_le nfc false "p2p.Request" raw
  split
  · omega
  · rename_i r hr
    have hb := (C09_decoded_fields_bounded nfc false _ raw r hr 2).1
    have h1 := C09_costNamed_le nfc false "sync.GetHighestCommonBlockRequest" (fBytes r 2)
    have h2 := C09_costNamed_le nfc false "sync.GetBlocksFromIDRequest" (fBytes r 2)
    have h3 := Nat.max_le.mpr ⟨h1, h2⟩
    exact Nat.le_trans (Nat.add_le_add h0 h3) (by omega)

/-! ## Validator ⇒ handler: which decoder each side uses -/

/-- **`DecodeStrict` accepts ⇒ `Decode` accepts, with the same value** (any table with the check
above, any struct, NFC implementation and input). -/
theorem C09_strict_accept_implies_lenient (t : Table) (hl : C09LenientIsLaxer t = true) (nfc : NFC)
    (s : Schema) (hs : s ∈ t) (data : Bytes) (vals : List Value)
    (h : decodeStrict t nfc s data = .ok vals) : decode t nfc s data = .ok vals :=
  decodeStrict_ok_decode_ok t nfc s data vals (List.all_eq_true.mp hl s hs) h

/-- **The decoder dependency, per message type.** If the validator decodes struct `name` with mode
`sv` and the handler decodes the same bytes with mode `sh`, the handler's decode succeeds (with the
same value) whenever the validator's did, provided the validator is at least as strict:
`sv = strict` or `sh = lenient`. This is what the `panic(err)` in the handlers relies on. Instances in
the engine: PostBlock (`NewBlock` / `NewBlock`: strict / strict on RawBlock, Transaction, BlockAsset;
lenient / lenient on BlockHeader), PostTransactionsAnnouncement (`NewTransaction` / `NewTransaction`:
strict / strict), PostSingleCommits (strict / no decoding: `onSingleCommitsReceived` is empty), the
`p2p.Message` envelope (lenient / lenient, decoded again by the subscription loop). -/
theorem C09_decoder_dependency (nfc : NFC) (name : String) (sv sh : Bool)
    (hdep : sv = true ∨ sh = false) (data : Bytes) (vals : List Value)
    (h : decodeNamed allSchemas nfc sv name data = .ok vals) :
    decodeNamed allSchemas nfc sh name data = .ok vals := by
  cases sv with
  | false =>
    cases sh with
    | false => exact h
    | true => rcases hdep with h' | h' <;> cases h'
  | true =>
    cases sh with
    | true => exact h
    | false =>
      obtain ⟨s, hf, h⟩ := decodeNamed_ok h
      rw [decodeNamed_of_find hf]
      exact C09_strict_accept_implies_lenient allSchemas C09_allSchemas_lenient_is_laxer nfc s
        (find_mem hf) data vals h

/-- **PostBlock.** Whenever `blockValidator` accepts a payload, `NewBlock` of the same payload — what
`onBlockReceived` evaluates before `panic(err)` — succeeds, with a block that passes `Validate`.
(Any table, NFC implementation and hash function: both sides call the same function.) -/
theorem C09_block_accept_handler_decodes (t : Table) (nfc : NFC) (H : Bytes → Bytes) (data : Bytes)
    (h : blockValidator t nfc H data = .accept) :
    ∃ b, newBlock t nfc data = .ok b ∧ blockValid t nfc H b = true := by
  unfold blockValidator at h
  split at h
  · cases h
  · cases h
  · rename_i b hb
    split at h
    · rename_i hv; exact ⟨b, hb, hv⟩
    · cases h

/-- PostBlock from the pubsub bytes: if the registered validator (envelope + `blockValidator`)
accepts, the subscription loop's own lenient decode of the envelope succeeds and `NewBlock` of its
`Data` succeeds: the handler's `panic(err)` is unreachable. -/
theorem C09_block_gossip_accept_handler_decodes (t : Table) (nfc : NFC) (H : Bytes → Bytes)
    (raw : Bytes)
    (h : gossip t nfc Verdict.reject Verdict.panic (blockValidator t nfc H) raw = .accept) :
    ∃ m b, decodeNamed t nfc false "p2p.Message" raw = .ok m ∧ newBlock t nfc (fBytes m 0) = .ok b := by
  unfold gossip at h
  split at h
  · cases h
  · cases h
  · rename_i m hm
    obtain ⟨b, hb, _⟩ := C09_block_accept_handler_decodes t nfc H _ h
    exact ⟨m, b, hm, hb⟩

/-- **PostTransactionsAnnouncement.** Whenever `transactionValidator` accepts a payload,
`NewTransaction` of the same payload (strict decode) — what `onTransactionAnnoucement` evaluates
before `panic(err)` — succeeds. -/
theorem C09_tx_accept_handler_decodes (t : Table) (nfc : NFC) (data : Bytes)
    (h : transactionValidator t nfc data = .accept) :
    ∃ tx, decodeNamed t nfc true "blockchain.Transaction" data = .ok tx ∧ txValid tx = true := by
  unfold transactionValidator at h
  split at h
  · cases h
  · split at h
    · cases h
    · cases h
    · rename_i tx htx
      split at h
      · rename_i hv; exact ⟨tx, htx, hv⟩
      · cases h

theorem C09_tx_gossip_accept_handler_decodes (t : Table) (nfc : NFC) (raw : Bytes)
    (h : gossip t nfc Verdict.reject Verdict.panic (transactionValidator t nfc) raw = .accept) :
    ∃ m tx, decodeNamed t nfc false "p2p.Message" raw = .ok m ∧
      decodeNamed t nfc true "blockchain.Transaction" (fBytes m 0) = .ok tx := by
  unfold gossip at h
  split at h
  · cases h
  · cases h
  · rename_i m hm
    obtain ⟨tx, htx, _⟩ := C09_tx_accept_handler_decodes t nfc _ h
    exact ⟨m, tx, hm, htx⟩

/-- **PostSingleCommits.** `singleCommitValidator` goes past its decoding front (no commits: ignore;
a well-formed first commit: the stateful checks) only if the strict decode succeeded; the event
handler `onSingleCommitsReceived` has an empty body, so nothing depends on it. -/
theorem C09_commits_nonreject_decodes (t : Table) (nfc : NFC) (data : Bytes)
    (h : commitsPrefix t nfc data = .empty ∨ commitsPrefix t nfc data = .stateful) :
    ∃ ev, decodeNamed t nfc true "consensus.EventPostSingleCommits" data = .ok ev := by
  unfold commitsPrefix at h
  split at h
  · rcases h with h | h <;> cases h
  · rcases h with h | h <;> cases h
  · rename_i ev hev; exact ⟨ev, hev⟩

/-- `transactionValidator` with the decoder as a parameter: `strict = true` is the code
(`blockchain.NewTransaction` = `DecodeStrict`), `strict = false` the variant that calls
`Transaction.Decode` -/
def C09txValidatorWith (t : Table) (nfc : NFC) (strict : Bool) (data : Bytes) : Verdict :=
  if data.isEmpty then .reject
  else
    match decodeNamed t nfc strict "blockchain.Transaction" data with
    | .error .panic => .panic
    | .error _ => .reject
    | .ok tx => if txValid tx then .accept else .reject

theorem C09_txValidatorWith_strict (t : Table) (nfc : NFC) (data : Bytes) :
    C09txValidatorWith t nfc true data = transactionValidator t nfc data := rfl

/-- a complete valid transaction (module "a", command "b", nonce 5, fee 7, 32-byte key, empty
params, one 64-byte signature) … -/
def C09txFull : Bytes :=
  [0x0a, 0x01, 0x61, 0x12, 0x01, 0x62, 0x18, 0x05, 0x20, 0x07, 0x2a, 0x20] ++ List.replicate 32 1 ++
    [0x32, 0x00, 0x3a, 0x40] ++ List.replicate 64 2

/-- … and one with the scalar fields omitted (key and signature only) -/
def C09txOmitted : Bytes := [0x2a, 0x20] ++ List.replicate 32 1 ++ [0x3a, 0x40] ++ List.replicate 64 2

/-- **Lenient accept does NOT imply strict accept.** A valid transaction followed by one byte, and a
transaction without module / command / nonce / fee, are accepted by the lenient validator variant
while `NewTransaction` fails on them (`unreadBytes`, `unexpectedFieldNumber`): with that validator
the handler's `panic(err)` is reachable from the network. The real (strict) validator rejects both
and accepts the transaction without the trailing byte. -/
theorem C09_tx_lenient_validator_counterexample :
    C09txValidatorWith allSchemas asciiNFC false (C09txFull ++ [0x00]) = .accept ∧
    decodeNamed allSchemas asciiNFC true "blockchain.Transaction" (C09txFull ++ [0x00])
      = .error .unreadBytes ∧
    C09txValidatorWith allSchemas asciiNFC false C09txOmitted = .accept ∧
    decodeNamed allSchemas asciiNFC true "blockchain.Transaction" C09txOmitted
      = .error .unexpectedFieldNumber ∧
    transactionValidator allSchemas asciiNFC (C09txFull ++ [0x00]) = .reject ∧
    transactionValidator allSchemas asciiNFC C09txOmitted = .reject ∧
    transactionValidator allSchemas asciiNFC C09txFull = .accept := by
  have h : C09txValidatorWith allSchemas asciiNFC false (C09txFull ++ [0x00]) = .accept ∧
      C09isError .unreadBytes
        (decodeNamed allSchemas asciiNFC true "blockchain.Transaction" (C09txFull ++ [0x00])) = true ∧
      C09txValidatorWith allSchemas asciiNFC false C09txOmitted = .accept ∧
      C09isError .unexpectedFieldNumber
        (decodeNamed allSchemas asciiNFC true "blockchain.Transaction" C09txOmitted) = true ∧
      transactionValidator allSchemas asciiNFC (C09txFull ++ [0x00]) = .reject ∧
      transactionValidator allSchemas asciiNFC C09txOmitted = .reject ∧
      transactionValidator allSchemas asciiNFC C09txFull = .accept := by
    decide +kernel
  exact ⟨h.1, (C09_isError_iff _ _).mp h.2.1, h.2.2.1, (C09_isError_iff _ _).mp h.2.2.2.1,
    h.2.2.2.2⟩

/-- validator at least as strict as the handler ⇒ what the validator accepts, the handler decodes
(any NFC implementation) -/
theorem C09_tx_validator_covers_handler (nfc : NFC) (sv sh : Bool) (hdep : sv = true ∨ sh = false)
    (data : Bytes) (h : C09txValidatorWith allSchemas nfc sv data = .accept) :
    ∃ tx, decodeNamed allSchemas nfc sh "blockchain.Transaction" data = .ok tx := by
  unfold C09txValidatorWith at h
  split at h
  · cases h
  · split at h
    · cases h
    · cases h
    · rename_i tx htx
      exact ⟨tx, C09_decoder_dependency nfc _ sv sh hdep data tx htx⟩

/-- **The 2×2 matrix for PostTransactionsAnnouncement.** With the validator decoding in mode `sv` and
the handler in mode `sh`, "validator accepts ⇒ handler decodes" holds for all payloads exactly when
`sv = strict ∨ sh = lenient`; the code is (strict, strict). -/
theorem C09_tx_validator_handler_matrix (sv sh : Bool) :
    (∀ data, C09txValidatorWith allSchemas asciiNFC sv data = .accept →
      ∃ tx, decodeNamed allSchemas asciiNFC sh "blockchain.Transaction" data = .ok tx) ↔
    (sv = true ∨ sh = false) := by
  constructor
  · intro h
    cases sv with
    | true => exact Or.inl rfl
    | false =>
      cases sh with
      | false => exact Or.inr rfl
      | true =>
        obtain ⟨hacc, herr, _⟩ := C09_tx_lenient_validator_counterexample
        obtain ⟨tx, htx⟩ := h _ hacc
        rw [herr] at htx
        cases htx
  · exact fun hdep data h => C09_tx_validator_covers_handler asciiNFC sv sh hdep data h

/-! ## RPC handlers: the byte-level front against the handler specifications -/

/-- the request body as `Sync.handleHighestCommon` takes it: `none` = does not decode -/
def C09hcbRequest (t : Table) (nfc : NFC) (data : Bytes) : Option (List Bytes) :=
  match decodeNamed t nfc false "sync.GetHighestCommonBlockRequest" data with
  | .ok q => some (fBytesArr q 0)
  | .error _ => none

/-- the request body as `Sync.handleBlocksFromID` takes it -/
def C09bfiRequest (t : Table) (nfc : NFC) (data : Bytes) : Option Bytes :=
  match decodeNamed t nfc false "sync.GetBlocksFromIDRequest" data with
  | .ok q => some (fBytes q 0)
  | .error _ => none

/-- `len(id) == 32` -/
def C09okLen (id : Bytes) : Bool := id.length == 32

private theorem hcb_some_ban_iff (c : List (Sync.Blk Bytes)) (ids : List Bytes) :
    Sync.handleHighestCommon C09okLen c (some ids) = .ban ↔
      (ids.isEmpty = true ∨ ids.all C09okLen = false) := by
  rw [Sync.handleHighestCommon_eq_ban_iff, List.isEmpty_iff, List.all_eq_false]
  simp only [Bool.not_eq_true]

private theorem procs_distinct :
    (procGetHighestCommonBlock == procGetLastBlock) = false ∧
    (procGetHighestCommonBlock == procGetTransactions) = false ∧
    (procGetBlocksFromID == procGetLastBlock) = false ∧
    (procGetBlocksFromID == procGetTransactions) = false ∧
    (procGetBlocksFromID == procGetHighestCommonBlock) = false := by
  decide +kernel

/-- the two refinements below hold on every table whose named decoders do not panic (nothing else
about the table is used) -/
private theorem hcb_refines {t : Table} {nfc : NFC} (hT : C09DecodersTotal t nfc) (raw : Bytes)
    (r : List Value) (hr : decodeNamed t nfc false "p2p.Request" raw = .ok r)
    (hp : fBytes r 1 = procGetHighestCommonBlock) (c : List (Sync.Blk Bytes)) :
    (requestVerdict t nfc raw = .ban ↔
      Sync.handleHighestCommon C09okLen c (C09hcbRequest t nfc (fBytes r 2)) = .ban) ∧
    (requestVerdict t nfc raw = .serve ↔
      Sync.handleHighestCommon C09okLen c (C09hcbRequest t nfc (fBytes r 2)) ≠ .ban) := by
  obtain ⟨p1, p2, _⟩ := procs_distinct
  have hnp := hT false "sync.GetHighestCommonBlockRequest" (by simp [C09validatorStructs]) (fBytes r 2)
  unfold requestVerdict C09hcbRequest
  rw [hr]
  simp only [hp, p1, p2, Bool.or_false, Bool.false_eq_true, if_false, beq_self_eq_true, if_true]
  cases hq : decodeNamed t nfc false "sync.GetHighestCommonBlockRequest" (fBytes r 2) with
  | error e =>
    have he : e ≠ .panic := fun hc => hnp (by rw [hq, hc])
    cases e <;> first | exact absurd rfl he | simp [Sync.handleHighestCommon]
  | ok q =>
    simp only [ne_eq]
    rw [hcb_some_ban_iff]
    have hall : (fBytesArr q 0).all (fun id => id.length == 32) = (fBytesArr q 0).all C09okLen := rfl
    rw [hall]
    by_cases he : (fBytesArr q 0).isEmpty = true
    · simp [he]
    · by_cases ha : (fBytesArr q 0).all C09okLen = true
      · simp [he, ha]
      · have ha' : (fBytesArr q 0).all C09okLen = false := by simpa using ha
        simp [he, ha']

private theorem bfi_refines {t : Table} {nfc : NFC} (hT : C09DecodersTotal t nfc) (raw : Bytes)
    (r : List Value) (hr : decodeNamed t nfc false "p2p.Request" raw = .ok r)
    (hp : fBytes r 1 = procGetBlocksFromID) (c : List (Sync.Blk Bytes)) :
    (requestVerdict t nfc raw = .ban ↔
      Sync.handleBlocksFromID C09okLen c (C09bfiRequest t nfc (fBytes r 2)) = .ban) ∧
    (requestVerdict t nfc raw = .serve ↔
      Sync.handleBlocksFromID C09okLen c (C09bfiRequest t nfc (fBytes r 2)) ≠ .ban) := by
  obtain ⟨_, _, p3, p4, p5⟩ := procs_distinct
  have hnp := hT false "sync.GetBlocksFromIDRequest" (by simp [C09validatorStructs]) (fBytes r 2)
  unfold requestVerdict C09bfiRequest
  rw [hr]
  simp only [hp, p3, p4, p5, Bool.or_false, Bool.false_eq_true, if_false, beq_self_eq_true, if_true]
  cases hq : decodeNamed t nfc false "sync.GetBlocksFromIDRequest" (fBytes r 2) with
  | error e =>
    have he : e ≠ .panic := fun hc => hnp (by rw [hq, hc])
    cases e <;> first | exact absurd rfl he | simp [Sync.handleBlocksFromID]
  | ok q =>
    simp only [Sync.handleBlocksFromID, C09okLen]
    by_cases hl : ((fBytes q 0).length == 32) = true
    · simp only [hl, if_true]
      cases Sync.heightOf c (fBytes q 0) <;> simp
    · simp [hl]

/-- **getHighestCommonBlock, every request byte string.** If the envelope decodes and names the
procedure, then for EVERY chain `c` the byte-level front bans exactly when the handler specification
`Sync.handleHighestCommon` bans on the decoded id list (undecodable body, no ids, an id that is not 32
bytes), and serves exactly when the specification answers (`none` or an id) — duplicates, unknown ids
and any order included; it never panics. The answer itself is characterised in
`C19_highest_common_exact` and only depends on the set of ids (`C19_highest_common_order_irrelevant`). -/
theorem C09_hcb_request_refines (nfc : NFC) (raw : Bytes) (r : List Value)
    (hr : decodeNamed allSchemas nfc false "p2p.Request" raw = .ok r)
    (hp : fBytes r 1 = procGetHighestCommonBlock) (c : List (Sync.Blk Bytes)) :
    (requestVerdict allSchemas nfc raw = .ban ↔
      Sync.handleHighestCommon C09okLen c (C09hcbRequest allSchemas nfc (fBytes r 2)) = .ban) ∧
    (requestVerdict allSchemas nfc raw = .serve ↔
      Sync.handleHighestCommon C09okLen c (C09hcbRequest allSchemas nfc (fBytes r 2)) ≠ .ban) :=
  hcb_refines (C09_allSchemas_decoders_total nfc) raw r hr hp c

/-- **getBlocksFromId, every request byte string**: the front bans exactly when
`Sync.handleBlocksFromID` bans on the decoded id (undecodable body or an id that is not 32 bytes), on
every chain, and serves (blocks or an error response) otherwise. -/
theorem C09_bfi_request_refines (nfc : NFC) (raw : Bytes) (r : List Value)
    (hr : decodeNamed allSchemas nfc false "p2p.Request" raw = .ok r)
    (hp : fBytes r 1 = procGetBlocksFromID) (c : List (Sync.Blk Bytes)) :
    (requestVerdict allSchemas nfc raw = .ban ↔
      Sync.handleBlocksFromID C09okLen c (C09bfiRequest allSchemas nfc (fBytes r 2)) = .ban) ∧
    (requestVerdict allSchemas nfc raw = .serve ↔
      Sync.handleBlocksFromID C09okLen c (C09bfiRequest allSchemas nfc (fBytes r 2)) ≠ .ban) :=
  bfi_refines (C09_allSchemas_decoders_total nfc) raw r hr hp c

/-- **The work a getHighestCommonBlock request can cause is bounded by its size**: when the request
is served, every id is 32 bytes long and `33 · #ids ≤ |raw|`, so the number of database look-ups,
goroutines and the WaitGroup count of the handler are at most `|raw| / 33`. -/
theorem C09_hcb_lookups_bounded (nfc : NFC) (raw : Bytes) (r q : List Value)
    (hr : decodeNamed allSchemas nfc false "p2p.Request" raw = .ok r)
    (hq : decodeNamed allSchemas nfc false "sync.GetHighestCommonBlockRequest" (fBytes r 2) = .ok q)
    (hall : (fBytesArr q 0).all C09okLen = true) :
    33 * (fBytesArr q 0).length ≤ raw.length := by
  have h1 := (C09_decoded_fields_bounded nfc false _ raw r hr 2).1
  have h2 := (C09_decoded_fields_bounded nfc false _ _ q hq 0).2.1
  have h3 : ((fBytesArr q 0).map List.length).sum = (fBytesArr q 0).length * 32 := by
    rw [List.map_eq_replicate_iff.mpr fun x hx => by
      simpa [C09okLen] using List.all_eq_true.mp hall x hx, List.sum_replicate_nat]
  omega

/-! ## Bitmaps: the exact index / length conditions -/

/-- `Bits.read(i)` is in range iff `i < 8 · len(bits)` -/
theorem C09_bits_read_iff (bits : Bytes) (i : Nat) :
    (bitsRead bits i).isSome = true ↔ i < 8 * bits.length :=
  bitsRead_isSome_iff bits i

/-- `Bits.write(i, v)` is in range iff `i < 8 · len(bits)`, and then keeps the length -/
theorem C09_bits_write_iff (bits : Bytes) (i : Nat) (v : Bool) :
    ((bitsWrite bits i v).isSome = true ↔ i < 8 * bits.length) ∧
    (∀ b', bitsWrite bits i v = some b' → b'.length = bits.length) :=
  bitsWrite_spec bits i v

/-- **The signer-selection loop, exactly.** The loop of `BLSVerifyAggSig` / `BLSVerifyWeightedAggSig`
over the first `n` keys runs without an index panic iff every index below `n` is inside the bitmap
and every index whose bit is SET has a key and a weight — for every key list, bitmap, weight list
and `n` (no guard assumed). -/
theorem C09_select_signers_iff (keys : List Bytes) (bits : Bytes) (weights : List Nat) (n : Nat) :
    (selectSigners keys bits weights n).isSome = true ↔
      ∀ i, i < n → i < 8 * bits.length ∧
        (bitsRead bits i = some true → i < keys.length ∧ i < weights.length) :=
  selectSigners_isSome_iff keys bits weights n

/-- **The guard is exact.** For a bitmap of `L` bytes, reading all indices below `n` is safe iff
`n ≤ 8·L`; so `len(bits) = ⌈n/8⌉` (the guard of the C06 fix) is sufficient, and any guard that lets
a shorter bitmap through lets a panic through. With all bits set the loop additionally needs `n` keys and weights. -/
theorem C09_bits_guard_exact (bits : Bytes) (n : Nat) :
    ((∀ i, i < n → (bitsRead bits i).isSome = true) ↔ n ≤ 8 * bits.length) ∧
    (bits.length = (n + 7) / 8 → n ≤ 8 * bits.length) ∧
    (bits.length < (n + 7) / 8 → ¬ n ≤ 8 * bits.length) := by
  refine ⟨⟨?_, ?_⟩, by omega, by omega⟩
  · intro h
    cases n with
    | zero => omega
    | succ k =>
      have := (C09_bits_read_iff bits k).mp (h k (by omega))
      omega
  · intro h i hi
    exact (C09_bits_read_iff bits i).mpr (by omega)

/-! ## non-vacuity -/

/-- allocation: a getHighestCommonBlock body with two ids decodes to 2·33 units from 68 bytes; a
length prefix pointing past the buffer, an element count that does not fit and a nested size past
the end are errors, nothing is allocated for them -/
example :
    (match decodeNamed allSchemas asciiNFC false "sync.GetHighestCommonBlockRequest"
        ([0x0a, 0x20] ++ List.replicate 32 7 ++ [0x0a, 0x20] ++ List.replicate 32 7) with
     | .ok q => C09allocUnits q == 66 && (fBytesArr q 0).length == 2
     | .error _ => false) = true ∧
    C09isError .byteSize (decodeNamed allSchemas asciiNFC false "sync.GetHighestCommonBlockRequest"
        [0x0a, 0xff, 0xff, 0xff, 0xff, 0x07, 0x01]) = true ∧
    C09isError .byteSize (decodeNamed allSchemas asciiNFC true "consensus.EventPostSingleCommits"
        [0x0a, 0x03, 0x0a, 0x01]) = true := by
  decide +kernel

/-- tree size: the static part is real — an empty input decodes to the 18 default nodes of a block
(bound: `C09static` = 21), and two empty elements (4 bytes) of an array of blocks / transactions decode
to 39 / 17 nodes while allocating 2 units: the per-byte factor of the tree bound cannot be 1 -/
example :
    (match decodeNamed allSchemas asciiNFC false "blockchain.Block" [] with
     | .ok v => C09treeSize v == 18 && C09allocUnits v == 0
     | .error _ => false) = true ∧
    (match decodeNamed allSchemas asciiNFC false "sync.GetBlocksFromIDResponse" [0x0a, 0x00, 0x0a, 0x00] with
     | .ok v => C09treeSize v == 39 && C09allocUnits v == 2
     | .error _ => false) = true ∧
    (match decodeNamed allSchemas asciiNFC false "txpool.GetTransactionsResponse" [0x0a, 0x00, 0x0a, 0x00] with
     | .ok v => C09treeSize v == 17 && C09allocUnits v == 2
     | .error _ => false) = true ∧
    C09static "blockchain.Block" = 21 ∧ C09static "labi.ExecuteTransactionRequest" = 35 := by
  decide +kernel

/-- the hypotheses of `C09_decode_steps_linear` (a ranked table) and `C09_strict_accept_implies_lenient`
(lenient lists laxer, a struct of the table) are satisfiable -/
example : C09Ranked allSchemas C09rank = true ∧ C09LenientIsLaxer allSchemas = true ∧
    schema9 ∈ allSchemas ∧ schema9.name = "blockchain.Transaction" := by
  refine ⟨C09_allSchemas_ranked, C09_allSchemas_lenient_is_laxer, ?_, rfl⟩
  simp [allSchemas]

/-- the check `C09LenientIsLaxer` is not vacuous: a struct whose lenient list has a stricter flag, or
another kind, fails it — and then strict-accept does not imply lenient-accept -/
example :
    let s : Schema := { name := "A", enc := [], dec := [{ num := 1, kind := .uint, strict := true }],
                        decStrict := [{ num := 1, kind := .uint, strict := false }] }
    C09LenientIsLaxer [s] = false ∧ (decodeStrict [s] asciiNFC s []).toBool = true ∧
      C09isError .fieldNumberNotFound (decode [s] asciiNFC s []) = true := by
  decide +kernel

/-- the cost functions count: the empty payload fails at the first (strict) envelope field; a
RawBlock holding the one-byte header `0x60` costs envelope + header (both stages are counted); the
`p2p.Message` envelope adds its own 3 calls -/
example : C09newBlockCost allSchemas asciiNFC [] = 2 ∧ C09requestCost allSchemas asciiNFC [] = 11 ∧
    C09newBlockCost allSchemas asciiNFC [0x0a, 0x01, 0x60] = 33 ∧
    C09blockGossipCost allSchemas asciiNFC [0x0a, 0x03, 0x0a, 0x01, 0x60] = 36 := by
  decide +kernel

/-- a block header with the four lengths `Validate` checks (previous id, generator address, state
root — the check /repo commit 4d58fae adds —, signature), and the RawBlock carrying only it -/
def C09hdr : Bytes :=
  [0x22, 0x20] ++ List.replicate 32 1 ++ [0x2a, 0x14] ++ List.replicate 20 2 ++ [0x4a, 0x20] ++
    List.replicate 32 4 ++ [0x7a, 0x40] ++ List.replicate 64 3
def C09blk : Bytes := [0x0a, 0x9c, 0x01] ++ C09hdr

/-- the hypotheses of `C09_block_accept_handler_decodes` / `C09_block_gossip_accept_handler_decodes` /
`C09_commits_nonreject_decodes` are satisfiable: with the constant hash function the block above is
accepted, bare and inside the `p2p.Message` envelope; a well-formed single commit reaches the stateful
part, an empty commit is rejected in the stateless front -/
example :
    blockValidator allSchemas asciiNFC (fun _ => []) C09blk = .accept ∧
    gossip allSchemas asciiNFC Verdict.reject Verdict.panic
      (blockValidator allSchemas asciiNFC (fun _ => [])) ([0x0a, 0x9f, 0x01] ++ C09blk) = .accept ∧
    gossip allSchemas asciiNFC Verdict.reject Verdict.panic
      (transactionValidator allSchemas asciiNFC) ([0x0a, 0x70] ++ C09txFull) = .accept ∧
    commitsPrefix allSchemas asciiNFC
      ([0x0a, 0x9c, 0x01] ++ ([0x0a, 0x20] ++ List.replicate 32 1 ++ [0x10, 0x05, 0x1a, 0x14] ++
        List.replicate 20 2 ++ [0x22, 0x60] ++ List.replicate 96 3)) = .stateful ∧
    commitsPrefix allSchemas asciiNFC [0x0a, 0x00] = .reject := by
  decide +kernel

/-- getBlocksFromId: a 32-byte id is served, a 1-byte id banned -/
example :
    requestVerdict allSchemas asciiNFC
      ([0x0a, 0x01, 0x61, 0x12, 0x0f] ++ procGetBlocksFromID ++ [0x1a, 0x22] ++
        ([0x0a, 0x20] ++ List.replicate 32 7)) = .serve ∧
    requestVerdict allSchemas asciiNFC
      ([0x0a, 0x01, 0x61, 0x12, 0x0f] ++ procGetBlocksFromID ++ [0x1a, 0x03, 0x0a, 0x01, 0x07]) = .ban := by
  decide +kernel

/-- requests: two equal ids (the duplicate-id request) are served; 31-byte id banned; no ids banned -/
example :
    requestVerdict allSchemas asciiNFC
      ([0x0a, 0x01, 0x61, 0x12, 0x15] ++ procGetHighestCommonBlock ++ [0x1a, 0x44] ++
        ([0x0a, 0x20] ++ List.replicate 32 7 ++ [0x0a, 0x20] ++ List.replicate 32 7)) = .serve ∧
    requestVerdict allSchemas asciiNFC
      ([0x0a, 0x01, 0x61, 0x12, 0x15] ++ procGetHighestCommonBlock ++ [0x1a, 0x21] ++
        ([0x0a, 0x1f] ++ List.replicate 31 7)) = .ban ∧
    requestVerdict allSchemas asciiNFC
      ([0x0a, 0x01, 0x61, 0x12, 0x15] ++ procGetHighestCommonBlock) = .ban := by
  decide +kernel

/-- … and the specification gives the duplicate-id request the answer of the single-id request -/
example :
    let c : List (Sync.Blk Bytes) := [{ id := [1], prev := [0], height := 0 }, { id := [2], prev := [1], height := 1 }]
    Sync.handleHighestCommon (fun _ => true) c (some [[2], [2], [1]]) = .id [2] ∧
    Sync.handleHighestCommon (fun _ => true) c (some [[2], [1]]) = .id [2] := by
  decide

/-- bitmaps: a 1-byte bitmap covers indices 0..7 only; an unset bit needs no key; a set bit without
weight panics -/
example : (selectSigners [[1]] [0x00] [] 8).isSome = true ∧ (selectSigners [[1]] [0x01] [] 1).isSome = false ∧
    (selectSigners [[1]] [0x01] [5] 1) = some ([[1]], 5) ∧ (selectSigners [[1]] [0x00] [] 9).isSome = false := by
  decide
