/-
C13 / restart — tie A for the start-up path.  `Gen/Wiring.lean` is REGENERATED from /repo on every run by
tools/wiregen (go/ast): configuration defaults, every composite-literal field and receiver-field assignment
of the constructors / Init methods, and every call of `Engine.Start` / `Engine.init` / `Executer.Init` … in
source order with its lexical context.  The node harness (harness/node `start`) re-enacts this sequence by
hand; the theorems below state that the REAL `Engine.Start` has the order the restart theorems of C13 / C04 /
C15 / C16 assume (`Model/Crash.lean` restart = reopen the database, `Chain.Init`, clear the application contexts,
`Executer.Init` (which finds or processes the genesis block and reloads the cache), then `ABI.Init` with the
engine's tip).  A reordered, dropped, duplicated or now-conditional step breaks a named theorem, or the
evaluation of the whole path they are read off (`Wire.engineStart_path`, Lemmas/WireStart.lean).
-/
import LiskVerif.Lemmas.WireStart

open LiskVerif LiskVerif.Wire

/-- every function of the extraction list still exists in the source -/
theorem C13_wire_no_function_missing : missing = [] := by decide +kernel

/-- defaults are inserted and the genesis block is read and initialised before any component is built -/
theorem C13_wire_config_then_genesis_then_components :
    before "Engine.Start" "e.config.InsertDefault" "config.ReadGenesisBlock" = true ∧
    before "Engine.Start" "config.ReadGenesisBlock" "genesisBlock.Init" = true ∧
    before "Engine.Start" "genesisBlock.Init" "e.init" = true ∧
    unconditional "Engine.Start" "e.config.InsertDefault" = true ∧
    unconditional "Engine.Start" "genesisBlock.Init" = true ∧
    unconditional "Engine.Start" "e.init" = true :=
  -- the numbers are positions in the list of `Wire.engineStart_path` (Lemmas/WireStart.lean): 0 `InsertDefault`,
  -- 1 `ReadGenesisBlock`, 2 `genesisBlock.Init`, 3 `e.init`, 4 `chain.Init`, 5 `abi.Clear`, 6 `consensusExec.Init`,
  -- 7 `transactionPool.Init`, 8 `generator.Init`, 9 `abi.Init`
  have p := engineStart_path.1
  ⟨p.before 0 1, p.before 1 2, p.before 2 3,
    p.unconditional 0, p.unconditional 2, p.unconditional 3⟩

/-- the restart order: components built, chain bound to the opened database, application contexts
cleared, consensus initialised (genesis / cache reload), then pool and generator, and only then the
application is told the tip -/
theorem C13_wire_restart_order :
    before "Engine.Start" "e.init" "e.chain.Init" = true ∧
    before "Engine.Start" "e.chain.Init" "e.abi.Clear" = true ∧
    before "Engine.Start" "e.abi.Clear" "e.consensusExec.Init" = true ∧
    before "Engine.Start" "e.consensusExec.Init" "e.transactionPool.Init" = true ∧
    before "Engine.Start" "e.transactionPool.Init" "e.generator.Init" = true ∧
    before "Engine.Start" "e.generator.Init" "e.abi.Init" = true :=
  have p := engineStart_path.1
  ⟨p.before 3 4, p.before 4 5, p.before 5 6, p.before 6 7,
    p.before 7 8, p.before 8 9⟩

/-- none of these steps is conditional or inside a loop -/
theorem C13_wire_restart_steps_unconditional :
    (["e.chain.Init", "e.abi.Clear", "e.consensusExec.Init", "e.transactionPool.Init", "e.generator.Init",
      "e.abi.Init"].all (unconditional "Engine.Start")) = true := by
  have p := engineStart_path.1
  simp only [List.all_cons, List.all_nil, Bool.and_eq_true, and_true]
  exact ⟨p.unconditional 4, p.unconditional 5, p.unconditional 6,
    p.unconditional 7, p.unconditional 8, p.unconditional 9⟩

/-- every goroutine (`p2pConn.Start`, `consensusExec.Start`, `transactionPool.Start`, `generator.Start`, the
RPC server, the event pump) is started only after `e.generator.Init`, the last `Init` of a component, returned (the
application is told the tip afterwards, by `e.abi.Init`): no block can be processed,
forged or served before the chain, the BFT store and the generator information are loaded -/
theorem C13_wire_goroutines_after_init :
    allAsyncAfter "Engine.Start" "e.generator.Init" = true ∧
    ((asyncCalls "Engine.Start").map (·.callee)).filter (fun c => c.endsWith ".Start" || c == "e.handleEvents" || c == "e.server.ListenAndServe")
      = ["e.p2pConn.Start", "e.consensusExec.Start", "e.transactionPool.Start", "e.generator.Start",
         "e.server.ListenAndServe", "e.handleEvents"] := ⟨engineStart_path.2, by decide +kernel⟩

/-- chain, consensus and generator share the ONE blockchain database handle opened by `Start` (the pool gets it as
an argument of `transactionPool.Init`: `C03_wire_one_chain`) -/
theorem C13_wire_one_blockchain_db :
    argsOf "Engine.Start" "e.chain.Init" = some ["genesisBlock", "blockchainDB"] ∧
    wired "Engine.Start" "consensus.ExecuterInitParam" "Database" "blockchainDB" = true ∧
    wired "Engine.Start" "consensus.ExecuterInitParam" "GenesisBlock" "genesisBlock" = true ∧
    wired "Engine.Start" "recv" "blockchainDB" "blockchainDB" = true ∧
    wired "Engine.Start" "generator.GeneratorInitParams" "BlockchainDB" "e.blockchainDB" = true ∧
    wired "Executer.Init" "recv" "database" "param.Database" = true ∧
    wired "Chain.Init" "recv" "database" "db" = true := by decide +kernel

/-- `Executer.Init` sets the BFT window up before it looks for the genesis block, and decides
"fresh or restart" through `GenesisBlockExist` on the given genesis block -/
theorem C13_wire_executer_init_order :
    before "Executer.Init" "c.liskBFT.Init" "c.chain.GenesisBlockExist" = true ∧
    argsOf "Executer.Init" "c.chain.GenesisBlockExist" = some ["param.GenesisBlock"] ∧
    argsOf "Executer.Init" "c.liskBFT.Init" = some ["c.batchSize"] := by decide +kernel

example : (syncCalls "Engine.Start").length > 20 := by decide +kernel
