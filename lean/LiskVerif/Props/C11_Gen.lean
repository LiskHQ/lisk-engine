/-
C11 — tie of the index arithmetic of `Model/RMT.lean` to the Go source: the integer helpers of
pkg/trie/rmt (util.go, rmt.go) are REGENERATED from the Go source on every run by tools/fngen (typed
translation, `LiskVerif/Gen/Fns2.lean`) with the exact semantics of `uint64` (wrap modulo 2^64, shifts,
bitwise operators):

* `isLeft`, `areSiblings`, the constant `rootIndex`;
* `getRightSiblingInfo`: the sibling index `((nodeIndex >> 1) << 1) + ((nodeIndex + 1) % 2)`
  (`Gen.rmtSiblingNodeIndex`), one iteration of the descent loop
  `for siblingNodeIndex >= uint64(structure[siblingLayerIndex]) && siblingLayerIndex > 0 { … }`
  (`Gen.rmtSiblingDescendStep`) and the final range check (`Gen.rmtSiblingOutOfRange`);
* `parentIdx := currentIdx >> 1` of `getSiblingHashes` (all three occurrences) and
  `parentIdx := idx >> 1` of `calculatePathNodes`;
* `dir := (d.size >> h) & 1` of `Append`.

Not translated (reported by the translator as unsupported if tried): `getHeight`,
`getLayerStructure`, `intToBinary` (float64 `math.Log2/Ceil/Floor`), `areSameLayer`/`length`/
`nodeLocation.index`/`newNodeLocation`/`findInsertIndex` (`strconv.FormatInt/ParseInt` strings).
-/
import LiskVerif.Model.RMT
import LiskVerif.Lemmas.GenInt

open LiskVerif LiskVerif.RMT

/-! ### isLeft, areSiblings, rootIndex, parent index, append direction -/

/-- `isLeft(index)` is the model's `index % 2 == 0` (used by `siblingLoop` and `calcLoop`) -/
theorem C11_gen_is_left_eq (index : Nat) : Gen.rmtIsLeft index = (index % 2 == 0) := by
  unfold Gen.rmtIsLeft
  rw [Nat.and_one_is_mod]
  by_cases h : index % 2 = 0 <;> simp [h]

/-- `areSiblings(idx1, idx2)` is the model's `(cur ^^^ nx) == 1` -/
theorem C11_gen_are_siblings_eq (a b : Nat) : Gen.rmtAreSiblings a b = ((a ^^^ b) == 1) := by
  unfold Gen.rmtAreSiblings
  by_cases h : a ^^^ b = 1 <;> simp [h]

/-- the root index the loops of `getSiblingHashes` / `calculatePathNodes` stop at (`cur == 2`, `idx == 2`) -/
theorem C11_gen_root_index : Gen.rmtRootIndex = 2 := rfl

/-- `parentIdx := currentIdx >> 1` (every occurrence in `getSiblingHashes`) and `parentIdx := idx >> 1`
(`calculatePathNodes`) are the model's `cur / 2`, `idx / 2` -/
theorem C11_gen_parent_idx_eq (i : Nat) : Gen.rmtParentIdx i = i / 2 ∧ Gen.rmtPathParentIdx i = i / 2 := by
  unfold Gen.rmtParentIdx Gen.rmtPathParentIdx
  simp [Nat.shiftRight_eq_div_pow]

/-- `dir := (d.size >> h) & 1` of `Append` is bit `h` of the size: the `sz % 2` tested by
`RMT.foldBits` after `h` halvings -/
theorem C11_gen_append_dir_eq (size h : Nat) : Gen.rmtAppendDir size h = (size / 2 ^ h) % 2 := by
  unfold Gen.rmtAppendDir
  rw [Nat.and_one_is_mod, Nat.shiftRight_eq_div_pow]

/-! ### getRightSiblingInfo -/

/-- the regenerated sibling index is the model's `(node / 2) * 2 + (node + 1) % 2` for EVERY `uint64`
(at `2^64 - 1` the wrapped `nodeIndex + 1` is 0, which is even like `2^64`) -/
theorem C11_gen_sibling_node_index_eq (node : Nat) (h : node < 2 ^ 64) :
    Gen.rmtSiblingNodeIndex node = (node / 2) * 2 + (node + 1) % 2 := by
  unfold Gen.rmtSiblingNodeIndex
  -- `2 ∣ 2^64`, so the parity of the wrapped `nodeIndex + 1` is that of `node + 1`; nothing else wraps
  rw [Nat.shiftRight_eq_div_pow, Nat.shiftLeft_eq, Nat.pow_one,
    Nat.mod_mod_of_dvd _ (by decide : 2 ∣ 18446744073709551616),
    Nat.mod_eq_of_lt (a := node / 2 * 2) (by omega), Nat.mod_eq_of_lt (by omega)]

/-- one iteration of the descent loop, for a node index below 2^63 (no wrap of `<<= 1`), a `uint64`
layer index and a non-negative layer size (`structure` is an `[]int` of sizes) -/
theorem C11_gen_descend_step_eq (n l s : Nat) (hn : n < 2 ^ 63) (hl : l < 2 ^ 64) (hs : s < 2 ^ 63) :
    Gen.rmtSiblingDescendStep n l (s : Int) = if n ≥ s && l > 0 then some (n * 2, l - 1) else none := by
  unfold Gen.rmtSiblingDescendStep
  rw [Gen.toNat_emod64 (by omega), Nat.shiftLeft_eq]
  by_cases hc : (decide (n ≥ s) && decide (l > 0)) = true
  · rw [if_pos hc, if_pos hc]
    have hl0 : l > 0 := by
      simp only [Bool.and_eq_true, decide_eq_true_eq] at hc
      exact hc.2
    have ea : n * 2 ^ 1 % 18446744073709551616 = n * 2 := by omega
    have eb : (l + 18446744073709551616 - 1) % 18446744073709551616 = l - 1 := by omega
    show some (n * 2 ^ 1 % 18446744073709551616, (l + 18446744073709551616 - 1) % 18446744073709551616) = _
    rw [ea, eb]
  · rw [if_neg hc, if_neg hc]

/-- **`RMT.descend` is the iteration of the regenerated loop step** (layer sizes below 2^63, which
covers every tree of fewer than 2^63 leaves) -/
theorem C11_gen_descend_eq (st : List Nat) (f n l : Nat) (hn : n < 2 ^ 63) (hl : l < 2 ^ 64)
    (hs : st.getD l 0 < 2 ^ 63) :
    descend st (f + 1) n l =
      match Gen.rmtSiblingDescendStep n l ((st.getD l 0 : Nat) : Int) with
      | some (n', l') => descend st f n' l'
      | none => (l, n) := by
  rw [C11_gen_descend_step_eq n l _ hn hl hs]
  simp only [descend]
  by_cases h : (n ≥ st.getD l 0 && l > 0) = true
  · simp only [h, ↓reduceIte]
  · simp only [h, ↓reduceIte, Bool.false_eq_true]

/-- the wrap outside the range: at node index `2^63` the Go loop doubles to 0, the model to `2^64` -/
theorem C11_gen_descend_step_wraps :
    Gen.rmtSiblingDescendStep (2 ^ 63) 1 1 = some (0, 0) := by decide +kernel

/-- **`RMT.rightSiblingInfo` with the regenerated sibling index and range check** -/
theorem C11_gen_right_sibling_info_eq (st : List Nat) (node layer size : Nat) (h : node < 2 ^ 64) :
    rightSiblingInfo st node layer size =
      (let l := descend st (layer + 1) (Gen.rmtSiblingNodeIndex node) layer
       if Gen.rmtSiblingOutOfRange l.2 size = true then none else some l) := by
  unfold rightSiblingInfo Gen.rmtSiblingOutOfRange
  rw [C11_gen_sibling_node_index_eq node h]
  simp only [decide_eq_true_eq]

/-! ### non-vacuity -/

example : Gen.rmtIsLeft 6 = true ∧ Gen.rmtIsLeft 7 = false ∧ Gen.rmtAreSiblings 6 7 = true ∧
    Gen.rmtAreSiblings 5 6 = false ∧ Gen.rmtSiblingNodeIndex 6 = 7 ∧ Gen.rmtSiblingNodeIndex 7 = 6 ∧
    Gen.rmtSiblingNodeIndex (2 ^ 64 - 1) = 2 ^ 64 - 2 ∧
    Gen.rmtSiblingDescendStep 3 2 3 = some (6, 1) ∧ Gen.rmtSiblingDescendStep 2 2 3 = none ∧
    Gen.rmtSiblingDescendStep 3 0 3 = none ∧ Gen.rmtSiblingOutOfRange 5 5 = true ∧
    Gen.rmtParentIdx 13 = 6 ∧ Gen.rmtAppendDir 5 0 = 1 ∧ Gen.rmtAppendDir 5 1 = 0 ∧ Gen.rmtAppendDir 5 2 = 1 := by
  decide +kernel

/-- under the layer sizes [5, 3, 2, 1] (an input of `rightSiblingInfo`, not the `layerStructure 5 = [5, 2, 1, 1]` of a
tree of 5 leaves) the right sibling of node 2 of layer 0 is node 3 of layer 0 -/
example : rightSiblingInfo [5, 3, 2, 1] 2 0 5 = some (0, 3) := by
  rw [C11_gen_right_sibling_info_eq _ _ _ _ (by decide)]
  decide +kernel
