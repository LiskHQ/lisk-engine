/-
C03 — tie A for the block entry paths of the synchronisers: "every path that appends a block enforces
every rule".

`Executer.processValidated` (the `processor` callback of `pkg/consensus/sync`) checks the rules that need
the chain state and the execution result (`Props/C03_Gen.lean`); the STATIC rules — transaction root and
asset root against the payload, static validity of every transaction, field lengths — are
`Block.Validate`, which every caller of `processValidated` has to run on the very object it hands on.
For `Executer.process` that is `C03_gen_process_valid_validates` / `C03_gen_process_tiebreak_validates`.
For the synchronisers `LiskVerif/Gen/SyncPaths.lean` is REGENERATED from `/repo/pkg/consensus/sync` on
every run by tools/syncpathgen (go/ast): per function, in program order, the `validate` sites
(`if err := X.Validate(); err != nil { … return }`), the `process` sites (`….processor(ctx, B, …)`), the
`append`s, every other assignment, the returns, each with its enclosing `range` / `if` / `for` / `case`
constructs (`ctx`).

This file
* gives the site lists a semantics (`run`: an item executes iff every condition of its `ctx` holds, a
  failing `validate` that `exits` and a `return` end the body) and proves for ALL item lists, condition
  valuations and validity predicates that the syntactic criterion `covered` (an unconditional-relative-to-
  the-consumer `validate` of the same expression precedes every `process` / `append`, no assignment to
  the expression in between) implies: every block that reaches the processor (or the list of blocks
  that will be applied) passed `Validate` (`C03_sync_covered_sound`);
* re-decides on the regenerated lists that both download loops (`blockSyncer.downloadAndProcess`,
  `fastSyncer.downloadAndValidate`) are `covered`, that the list `fastSyncer.Sync` applies is exactly
  the list `downloadAndValidate` built, that `restoreBlocks` applies only the node's own temporary
  blocks, that `Syncer.Sync` validates the announced block first, that there is no other processor
  call, no other consumer of a download channel and no other name for the callback.

A `validate` that sits under a condition the consumer is not under (the shape "skip Validate for the
block whose id is the announced one") makes `covered` false, and `C03_sync_conditional_validate_unsound`
exhibits the run in which the unvalidated block reaches the processor.

Trusted: tools/syncpathgen (syntactic; the receiver is renamed to `self`, expressions are compared as
printed text; conditions are treated as fixed during one pass over a loop body; labels / goto are
refused), and that `Block.Validate` is the function of `Props/C03_Gen.lean` (`C03_gen_validate_*`).
-/
import LiskVerif.Gen.SyncPaths

open LiskVerif.Gen

namespace C03Sync

abbrev Item := SyncPaths.Item
abbrev Fn := SyncPaths.Fn

/-- what one pass over a body does with blocks -/
inductive Ev where
  | validated (s : String)
  | processed (s : String)
  | appended (s : String)
deriving DecidableEq, Repr

/-- an item that hands the block `subj` on: to the processor, or into the list that is applied later -/
def consumes (i : Item) : Bool := i.kind == "process" || i.kind == "append"

/-- one pass over a body: `env` says which conditions hold, `valid` which expressions denote a block
that passes `Block.Validate` -/
def run (env : String → Bool) (valid : String → Bool) : List Item → List Ev
  | [] => []
  | i :: r =>
    if i.ctx.all env then
      if i.kind == "validate" then
        if valid i.subj then .validated i.subj :: run env valid r
        else if i.exits then [] else run env valid r
      else if i.kind == "process" then .processed i.subj :: run env valid r
      else if i.kind == "append" then .appended i.subj :: run env valid r
      else if i.kind == "return" then []
      else run env valid r
    else run env valid r

/-- an assignment to `dst` changes what the expression `s` denotes -/
def kills (dst s : String) : Bool := dst == s || (dst ++ ".").isPrefixOf s

/-- the criterion: `seen` holds the (expression, ctx) pairs of the exiting validates passed so far -/
def coveredAux (seen : List (String × List String)) : List Item → Bool
  | [] => true
  | i :: r =>
    if i.kind == "validate" then
      if i.exits then coveredAux ((i.subj, i.ctx) :: seen) r else coveredAux seen r
    else if i.kind == "assign" then coveredAux (seen.filter (fun p => !kills i.dst p.1)) r
    else if consumes i then
      if seen.any (fun p => p.1 == i.subj && p.2.isPrefixOf i.ctx) then coveredAux seen r else false
    else coveredAux seen r

def covered (l : List Item) : Bool := coveredAux [] l

/-- What one item contributes to a pass: a consumed block comes from the item itself, which then is a consumer
whose conditions hold, or from the rest of the body, and then the item did not end the pass: if it is an exiting
validate whose conditions hold, it has succeeded. -/
theorem run_cons_consumed {env valid : String → Bool} {i : Item} {r : List Item} {s : String}
    (h : Ev.processed s ∈ run env valid (i :: r) ∨ Ev.appended s ∈ run env valid (i :: r)) :
    (consumes i = true ∧ (i.kind == "validate") = false ∧ (i.kind == "assign") = false ∧
      i.ctx.all env = true ∧ s = i.subj) ∨
    ((Ev.processed s ∈ run env valid r ∨ Ev.appended s ∈ run env valid r) ∧
      ((i.kind == "validate") = true → i.exits = true → i.ctx.all env = true → valid i.subj = true)) := by
  unfold run at h
  grind [consumes]

/-- What one item does to the criterion: the rest of the body is checked with a list `seen'` whose members were
seen before or are the item itself, an exiting validate; and a consumer has found its block in `seen`. -/
theorem coveredAux_cons {seen : List (String × List String)} {i : Item} {r : List Item}
    (h : coveredAux seen (i :: r) = true) :
    ∃ seen', coveredAux seen' r = true ∧
      (∀ p ∈ seen', p ∈ seen ∨ p = (i.subj, i.ctx) ∧ (i.kind == "validate") = true ∧ i.exits = true) ∧
      (consumes i = true → (i.kind == "validate") = false → (i.kind == "assign") = false →
        seen.any (fun p => p.1 == i.subj && p.2.isPrefixOf i.ctx) = true) := by
  unfold coveredAux at h
  grind [consumes]

/-- the invariant carried by `seen`: a validate whose conditions hold has succeeded -/
theorem covered_sound_aux (env valid : String → Bool) :
    ∀ (l : List Item) (seen : List (String × List String)),
      (∀ p ∈ seen, p.2.all env = true → valid p.1 = true) → coveredAux seen l = true →
      ∀ s, (Ev.processed s ∈ run env valid l ∨ Ev.appended s ∈ run env valid l) → valid s = true := by
  intro l
  induction l with
  | nil => intro seen _ _ s h; simp [run] at h
  | cons i r ih =>
    intro seen hs hc s h
    obtain ⟨seen', hc', hsub, hany⟩ := coveredAux_cons hc
    rcases run_cons_consumed h with ⟨hcons, hv, ha, hctx, rfl⟩ | ⟨h', hval⟩
    · obtain ⟨p, hp, hpp⟩ := List.any_eq_true.mp (hany hcons hv ha)
      rw [Bool.and_eq_true] at hpp
      -- the conditions of the validate are among those of the consumer, which hold
      exact eq_of_beq hpp.1 ▸ hs p hp (List.all_eq_true.mpr fun x hx =>
        List.all_eq_true.mp hctx x ((List.isPrefixOf_iff_prefix.mp hpp.2).subset hx))
    · refine ih seen' (fun p hp hpc => ?_) hc' s h'
      rcases hsub p hp with hp | ⟨rfl, hv, hx⟩
      · exact hs p hp hpc
      · exact hval hv hx hpc

/-- the function of the table with that name -/
def fn (name : String) : List Item := ((SyncPaths.fns.find? (fun f => f.name == name)).map (·.items)).getD []

/-- every `process` site of the package: function, block expression, enclosing constructs -/
def processSites : List (String × String × List String) :=
  (SyncPaths.fns.map (fun f => (f.items.filter (fun i => i.kind == "process")).map (fun i => (f.name, i.subj, i.ctx)))).flatten

/-- the right-hand sides a local is ever bound to in a function -/
def sources (f : String) (v : String) : List String :=
  ((fn f).filter (fun i => (i.kind == "assign" || i.kind == "append") && i.dst == v)).map
    (fun i => if i.kind == "append" then "append:" ++ i.subj else i.subj)

/-- the first result of every return of a function -/
def firstResults (f : String) : List String :=
  ((fn f).filter (fun i => i.kind == "return")).map (·.subj)

end C03Sync

open C03Sync

/-! ### the criterion is sound, for every body, every valuation of the conditions and every validity predicate -/

/-- if the criterion holds, every block expression that reaches the processor or is appended to a list in a
pass over the body denotes a block that passed `Validate` -/
theorem C03_sync_covered_sound (env valid : String → Bool) (l : List Item) (h : covered l = true) (s : String)
    (hs : Ev.processed s ∈ run env valid l ∨ Ev.appended s ∈ run env valid l) : valid s = true :=
  covered_sound_aux env valid l [] (by intro p hp; cases hp) h s hs

/-- a validate under a condition the consumer is not under is NOT enough: the shape of "skip Validate for
the block whose id equals the announced id" fails the criterion, and there is a run in which the block
that does not pass `Validate` is appended / processed -/
theorem C03_sync_conditional_validate_unsound :
    let body : List Item :=
      [{ kind := "validate", subj := "downloaded.block", ctx := ["range", "if !bytes.Equal(downloaded.block.Header.ID, ctx.Block.Header.ID)"], exits := true },
       { kind := "append", subj := "downloaded.block", dst := "downloadedBlocks", ctx := ["range"] },
       { kind := "process", subj := "downloaded.block", ctx := ["range"] }]
    covered body = false ∧
    Ev.processed "downloaded.block" ∈ run (fun c => c == "range") (fun _ => false) body ∧
    Ev.appended "downloaded.block" ∈ run (fun c => c == "range") (fun _ => false) body := by
  decide +kernel

/-! ### the regenerated sites -/

/-- the processor callback is called at exactly three places: on the element of the download channel
(block synchroniser), on the elements of the list `downloadedBlocks` (fast synchroniser) and on the
elements of the list `blocks` (restore of the temporary blocks) -/
theorem C03_sync_processor_sites :
    processSites =
      [("blockSyncer.downloadAndProcess", "downloaded.block", ["range(downloaded in downloader.downloaded)"]),
       ("fastSyncer.Sync", "block", ["range(block in downloadedBlocks)"]),
       ("fastSyncer.restoreBlocks", "block", ["range(block in blocks)"])] := by
  decide +kernel

/-- the callback has no other name (the selector `.processor` occurs only as callee) and no `Validate` call
is handled in a way the extractor does not classify -/
theorem C03_sync_no_escape :
    (SyncPaths.fns.all fun f => f.items.all fun i => i.kind != "escape" && i.kind != "call") = true := by
  decide +kernel

/-- the download channel is read by the two synchroniser loops only (`Downloader.Start` fills it,
`Downloader.Downloaded` is an accessor nobody in the package calls) -/
theorem C03_sync_download_consumers :
    SyncPaths.downloadedUses =
      ["blockSyncer.downloadAndProcess", "Downloader.Downloaded", "Downloader.Start", "fastSyncer.downloadAndValidate"] ∧
    (SyncPaths.fns.filter fun f => f.items.any fun i => i.ctx.any fun c => c.endsWith ".downloaded)").map (·.name) =
      ["blockSyncer.downloadAndProcess", "fastSyncer.downloadAndValidate"] := by
  decide +kernel

/-- block synchroniser: every downloaded block is validated, on every path, before the processor gets it -/
theorem C03_sync_block_sync_validates_every_download :
    covered (fn "blockSyncer.downloadAndProcess") = true ∧
    ∀ env valid s, Ev.processed s ∈ run env valid (fn "blockSyncer.downloadAndProcess") → valid s = true := by
  have h : covered (fn "blockSyncer.downloadAndProcess") = true := by decide +kernel
  exact ⟨h, fun env valid s hs => C03_sync_covered_sound env valid _ h s (Or.inl hs)⟩

/-- fast synchroniser, download: every block appended to the result list is validated, on every path, before -/
theorem C03_sync_fast_sync_validates_every_download :
    covered (fn "fastSyncer.downloadAndValidate") = true ∧
    ∀ env valid s, Ev.appended s ∈ run env valid (fn "fastSyncer.downloadAndValidate") → valid s = true := by
  have h : covered (fn "fastSyncer.downloadAndValidate") = true := by decide +kernel
  exact ⟨h, fun env valid s hs => C03_sync_covered_sound env valid _ h s (Or.inr hs)⟩

/-- fast synchroniser: the list whose elements go to the processor is the first result of
`downloadAndValidate`, and that result is, at every return, the list that starts empty and only receives
the validated appends -/
theorem C03_sync_fast_sync_applies_validated_list :
    sources "fastSyncer.Sync" "downloadedBlocks" = ["self.downloadAndValidate(ctx, downloader)#0"] ∧
    sources "fastSyncer.Sync" "block" = [] ∧
    firstResults "fastSyncer.downloadAndValidate" = ["downloadedBlocks", "downloadedBlocks", "downloadedBlocks"] ∧
    sources "fastSyncer.downloadAndValidate" "downloadedBlocks" = ["[]*blockchain.Block{}", "append:downloaded.block"] := by
  decide +kernel

/-- restore after a failed fast synchronisation: only the node's own temporary blocks (blocks it had applied
itself) are applied again -/
theorem C03_sync_restore_applies_temp_blocks :
    sources "fastSyncer.restoreBlocks" "blocks" = ["self.chain.DataAccess().GetTempBlocks()#0"] ∧
    sources "fastSyncer.restoreBlocks" "block" = [] := by
  decide +kernel

/-- `Syncer.Sync` validates the announced block before it chooses a synchroniser -/
theorem C03_sync_announced_block_validated :
    (fn "Syncer.Sync").head? = some { kind := "validate", subj := "ctx.Block", exits := true } ∧
    ((fn "Syncer.Sync").filter fun i => i.kind == "assign").map (fun i => (i.subj, i.ctx.head?)) =
      [("self.fastSyncer.Sync(ctx)#0", some "if self.shouldFastSync(ctx)"), ("self.fastSyncer.Sync(ctx)#1", some "if self.shouldFastSync(ctx)"),
       ("self.blockSyncer.Sync(ctx)#0", some "if self.shouldSync(ctx)"), ("self.blockSyncer.Sync(ctx)#1", some "if self.shouldSync(ctx)")] := by
  decide +kernel

/-! ### non-vacuity -/

example : processSites.length = 3 ∧ SyncPaths.scanned ≥ 10 := by decide +kernel

example : run (fun _ => true) (fun _ => true) (fn "blockSyncer.downloadAndProcess") = [] := by decide +kernel

example : run (fun c => c != "if downloaded.err != nil" && c != "if downloaded.block.Validate() != nil" && c != "if err != nil") (fun _ => true)
    (fn "blockSyncer.downloadAndProcess") = [.validated "downloaded.block", .processed "downloaded.block"] := by decide +kernel

example : run (fun c => c != "if downloaded.err != nil") (fun _ => false) (fn "fastSyncer.downloadAndValidate") = [] := by decide +kernel
