/-
C17 — P2P request/response: correct correlation, no lost replies, no deadlock, no leaked entry, and a rank that
every statement of a requester lowers (`C17_within_retry_budget`).

Theorems about the interleaving model `LiskVerif.ReqResp` (Model/ReqResp.lean) of
pkg/p2p/message_protocol.go.  `step` is the FIXED protocol (channel of capacity 1 registered before
the request is sent, non-blocking delivery under `resMu`, entry removed when the send fails); all
theorems about it hold for every reachable state, i.e. for any number of requester threads (each
with any retry budget), any number of response-handler threads, every interleaving, and every
behaviour of the network (responses delivered, delayed, dropped, duplicated, delivered late).
`stepO` is the ORIGINAL skeleton; the two counterexample theorems exhibit a concrete reachable
deadlock and a concrete lost reply; the same two network behaviours are then evaluated on the fixed protocol.
`C17_skeleton_matches_model` ties the program counters of the model to the hand-written skeleton table.

`P : Nat → Nat` is the remote handler (request id ↦ payload of its answer).
The inductive invariant and its preservation are in Lemmas/ReqResp.lean.
-/
import LiskVerif.Lemmas.ReqResp

open LiskVerif LiskVerif.ReqResp

/-! ### correlation -/

/-- A requester only ever receives (and only ever has in its channel) the response the remote
handler produced for the id of its own current attempt. -/
theorem C17_correlation (P : Nat → Nat) (s : State) (hs : Reachable P s)
    (i : Nat) (r : Req) (hr : s.reqs[i]? = some r) :
    (∀ m, r.out = some (.got m) → m.rid = r.id ∧ m.payload = P r.id) ∧
    (∀ m, r.buf = some m → m.rid = r.id ∧ m.payload = P r.id) :=
  (inv_reachable P s hs).correlation hr

/-- Ids are fresh: two different requester threads never work on the same id, no id is ever put on
the wire twice (over all attempts of all requesters), and every response in flight or being handled
answers a request that was actually sent. -/
theorem C17_fresh_ids (P : Nat → Nat) (s : State) (hs : Reachable P s) :
    (∀ (i i' : Nat) (r r' : Req), s.reqs[i]? = some r → s.reqs[i']? = some r' → i ≠ i' →
        r.pc ≠ .start → r'.pc ≠ .start → r.id ≠ r'.id) ∧
    s.sent.Nodup ∧
    (∀ m : Resp, m ∈ s.net → m.rid ∈ s.sent ∧ m.payload = P m.rid) ∧
    (∀ (j : Nat) (h : Hdl), s.hdls[j]? = some h → h.msg.rid ∈ s.sent ∧ h.msg.payload = P h.msg.rid) := by
  have hI := inv_reachable P s hs
  exact ⟨hI.uniq, hI.sentNodup, fun m hm => ⟨hI.netSent m hm, hI.netOk m hm⟩,
    fun j h hh => ⟨hI.msgSent j h hh, hI.msgOk j h hh⟩⟩

/-- A response handler only ever sends on the channel that the requester of that very id
registered, and that requester is still between registration and unregistration. -/
theorem C17_delivery_target (P : Nat → Nat) (s : State) (hs : Reachable P s)
    (j : Nat) (h : Hdl) (ch : Nat) (hh : s.hdls[j]? = some h) (hpc : h.pc = .deliver ch) :
    ∃ r, s.reqs[ch]? = some r ∧ r.id = h.msg.rid ∧ r.pc.registered = true :=
  (inv_reachable P s hs).delivery_target hh hpc

/-! ### no lost reply -/

/-- (a) While a requester sits in its `select` (and already while it sends) its channel is found
under its id, so a response handled now is handed to it; (b) once a response has been handed to the
channel while the requester was in its `select` (`arrived`), the attempt can no longer end by
timeout or send error: the response is in the channel as long as the requester waits, the timeout
branch is disabled, and the outcome is that very response (or the caller's own cancellation). -/
theorem C17_no_lost_reply (P : Nat → Nat) (s : State) (hs : Reachable P s)
    (i : Nat) (r : Req) (hr : s.reqs[i]? = some r) :
    ((r.pc = .send ∨ r.pc = .wait) → s.resCh.lookup r.id = some i) ∧
    (r.arrived = true →
      r.out ≠ some .timeout ∧ r.out ≠ some .sendErr ∧
      (r.pc = .wait → r.buf = some ⟨r.id, P r.id⟩ ∧ step P s (.rTimeout i) = none) ∧
      (∀ m, r.out = some (.got m) → m = ⟨r.id, P r.id⟩)) := by
  have hI := inv_reachable P s hs
  constructor
  · intro hpc
    apply hI.regd i r hr
    rcases hpc with h | h <;> simp [h, RPc.registered]
  · intro ha
    have hn := hI.outNone i r hr
    have hg := hI.ghost i r hr ha
    -- the outcome is still open, or it is the response or the cancellation
    have ho : r.out = none ∨ (∃ m, r.out = some (.got m)) ∨ r.out = some .cancelled :=
      hg.imp_left fun h => hn (by simp [h.1, RPc.preWait])
    refine ⟨?_, ?_, ?_, fun m hm => hI.outOk i r m hr hm⟩
    · rcases ho with h | ⟨m, h⟩ | h <;> simp [h]
    · rcases ho with h | ⟨m, h⟩ | h <;> simp [h]
    · intro hw
      have hno := hn (by simp [hw, RPc.preWait])
      rcases hg with ⟨_, hsome⟩ | ⟨m, hm⟩ | hc
      · cases hbuf : r.buf with
        | none => simp [hbuf] at hsome
        | some m =>
          cases hI.bufOk i r m hr hbuf
          exact ⟨rfl, by simp [step, hr, hbuf]⟩
      · simp [hno] at hm
      · simp [hno] at hc

/-- The delivery step itself: when `onResponse` sends on the channel of a requester that sits in
its `select`, the response handed over (or an identical one already buffered) is in the channel
afterwards and the requester is marked `arrived` — from then on `C17_no_lost_reply` applies. -/
theorem C17_delivery_reaches_waiting_requester (P : Nat → Nat) (s s' : State) (hs : Reachable P s)
    (j : Nat) (h : Hdl) (ch : Nat) (r : Req)
    (hh : s.hdls[j]? = some h) (hpc : h.pc = .deliver ch) (hr : s.reqs[ch]? = some r)
    (hw : r.pc = .wait) (hstep : step P s (.hStep j) = some s') :
    ∃ r', s'.reqs[ch]? = some r' ∧ r'.pc = .wait ∧ r'.id = r.id ∧ r'.arrived = true ∧
      r'.buf = some ⟨r.id, P r.id⟩ ∧ h.msg = ⟨r.id, P r.id⟩ := by
  have hI := inv_reachable P s hs
  obtain ⟨r0, hr0, hid, _⟩ := C17_delivery_target P s hs j h ch hh hpc
  rw [hr] at hr0; cases hr0
  have hlt : ch < s.reqs.length := (List.getElem?_eq_some_iff.mp hr).1
  have hmsg : h.msg = ⟨r.id, P r.id⟩ := by
    have h2 := hI.msgOk j h hh
    cases hm : h.msg with
    | mk rid pl => rw [hm] at h2 hid; simp at h2 hid; rw [h2, hid]
  simp only [step, hh, stepHdl, hpc, hr] at hstep
  cases hstep
  refine ⟨_, List.getElem?_set_self hlt, hw, rfl, by simp [hw], ?_, hmsg⟩
  cases hb : r.buf with
  | none => simp [hmsg]
  | some m => have := hI.bufOk ch r m hr hb; simp [this]

/-! ### deadlock freedom -/

/-- Threads are only ever blocked by `resMu`: every thread that is not done and is not about to
acquire the (currently held) lock can execute a statement. -/
theorem C17_only_the_lock_blocks (P : Nat → Nat) (s : State) :
    (∀ (i : Nat) (r : Req), s.reqs[i]? = some r → r.pc ≠ .done → ¬ (r.pc = .regLock ∨ r.pc = .unLock) →
      ∃ a, a.isThread = true ∧ (step P s a).isSome = true) ∧
    (∀ (j : Nat) (h : Hdl), s.hdls[j]? = some h → h.pc ≠ .done → h.pc ≠ .lock →
      (step P s (.hStep j)).isSome = true) := by
  refine ⟨fun i r hr hnd hnl => ?_, fun j h hh hnd hnl => hdl_can_step P s j h hh hnd fun hl => absurd hl hnl⟩
  obtain ⟨a, ha, _, _, hstep⟩ := req_can_step P s i r hr hnd fun hl => absurd hl hnl
  exact ⟨a, isThread_of_actor ha, hstep⟩

/-- The holder of `resMu` can always execute its next statement: no thread ever waits (on a
channel or on anything else) while it holds the lock. -/
theorem C17_lock_holder_never_blocks (P : Nat → Nat) (s : State) (hs : Reachable P s)
    (t : Tid) (ht : s.lock = some t) :
    match t with
    | .req i => ∃ r, s.reqs[i]? = some r ∧ r.pc.holds = true ∧ (step P s (.rStep i)).isSome = true
    | .hdl j => ∃ h, s.hdls[j]? = some h ∧ h.pc.holds = true ∧ (step P s (.hStep j)).isSome = true :=
  (inv_reachable P s hs).holder_can_step ht

/-- Deadlock freedom: in every reachable state either all threads are done or some thread
(requester or handler — the environment is not needed) can execute a statement. -/
theorem C17_deadlock_free (P : Nat → Nat) (s : State) (hs : Reachable P s) :
    allDone s = true ∨ ∃ a, a.isThread = true ∧ (step P s a).isSome = true := by
  rcases (inv_reachable P s hs).progress with ⟨hr, hh⟩ | ⟨a, ha, h⟩
  · -- no local statement is enabled: a requester inside `mp.send` can still return from it
    by_cases hsend : ∃ r ∈ s.reqs, r.pc = .send
    · obtain ⟨r, hm, hp⟩ := hsend
      obtain ⟨i, hi⟩ := List.getElem?_of_mem hm
      exact .inr ⟨.rSendOk i, rfl, by simp [step, hi, hp]⟩
    · left
      simp only [allDone, Bool.and_eq_true, List.all_eq_true, reqDone, hdlDone, beq_iff_eq]
      exact ⟨fun r hm => (hr r hm).resolve_right fun e => hsend ⟨r, hm, e⟩, hh⟩
  · exact .inr ⟨a, isThread_of_isLocal ha, h⟩

/-! ### no leak -/

/-- The pending map contains exactly the attempts in progress: an entry `(id, ch)` is present iff
requester `ch` currently works on `id` and is between registration and unregistration. -/
theorem C17_pending_exact (P : Nat → Nat) (s : State) (hs : Reachable P s) (id ch : Nat) :
    s.resCh.lookup id = some ch ↔ ∃ r, s.reqs[ch]? = some r ∧ r.id = id ∧ r.pc.registered = true :=
  (inv_reachable P s hs).pending_exact id ch

/-- No leak: once every requester is done, `resCh` is empty (whatever the handlers and the network
still do).  (That the map holds exactly one entry per attempt in progress is `C17_pending_exact` with
`C17_pending_injective`, Props/C17_More.lean.) -/
theorem C17_no_leak (P : Nat → Nat) (s : State) (hs : Reachable P s)
    (hd : ∀ r ∈ s.reqs, r.pc = .done) : s.resCh = [] :=
  (inv_reachable P s hs).no_leak hd

/-! ### termination measure (timeout and retry budget) -/

-- the requester that executes an action: `ReqResp.actor` with the index alone
def C17actor : Action → Option Nat
  | .rStep i | .rSendOk i | .rSendErr i | .rRecv i | .rTimeout i | .rCancel i => some i
  | _ => none

/-- Every statement of requester `i` strictly decreases its rank and nobody else raises it: a
call of `request` with retry budget `b` executes at most `10 * b + 9` statements, i.e. it ends after
at most `b + 1` attempts (each waits in its select for at most the timeout, since the timeout branch
is enabled whenever the channel is empty). -/
theorem C17_within_retry_budget (P : Nat → Nat) (s s' : State) (a : Action)
    (hstep : step P s a = some s') (i : Nat) (r : Req) (hr : s.reqs[i]? = some r) :
    ∃ r', s'.reqs[i]? = some r' ∧ C17rank r' ≤ C17rank r ∧
      (C17actor a = some i → C17rank r' < C17rank r) :=
  (rank_step P s s' a hstep i r hr).imp fun _ h =>
    ⟨h.1, h.2.1, fun e => h.2.2 (by cases a <;> cases e <;> rfl)⟩

/-! ### the original (unfixed) skeleton: concrete counterexamples -/

/-- a concrete remote handler for the evaluated traces -/
def C17P (id : Nat) : Nat := id + 100

/-- a property kept by every action of the original skeleton is kept by its runs -/
private theorem runO_invariant {P : Nat → Nat} {Q : State → Prop}
    (hQ : ∀ s s' a, Q s → stepO P s a = some s' → Q s') (l : List Action) (s s' : State) (h : Q s)
    (hr : runO P s l = some s') : Q s' :=
  foldlM_invariant l (fun a _ s s' => hQ s s' a) s s' h (runO_eq_foldlM P l s ▸ hr)

private theorem reachableO_of_runO (P : Nat → Nat) (l : List Action) :
    ∀ s s', ReachableO P s → runO P s l = some s' → ReachableO P s' :=
  runO_invariant (fun _ _ a h hs => .step a h hs) l

private theorem reachable_of_run (P : Nat → Nat) (l : List Action) :
    ∀ s s', Reachable P s → run P s l = some s' → Reachable P s' :=
  reachable_run P l

/-- Schedule of the original code that deadlocks: one request, whose response is looked up by
`onResponse` (holding `resMu`) at the instant the requester leaves its `select` by timeout. -/
def C17_origDeadlockTrace : List Action :=
  [.spawn 0, .rStep 0, .rSendOk 0,        -- create the message, send it
   .rStep 0, .rStep 0, .rStep 0,          -- Lock, resCh[id] = ch, Unlock (make(chan) has no step of its own): now in the select
   .nRespond 0, .nDeliver 0,              -- the remote handler answers, the response reaches onResponse
   .hStep 0, .hStep 0,                    -- onResponse: Lock, lookup finds the channel
   .rTimeout 0]                           -- the requester's timer fires first

/-- the state reached: the handler holds `resMu` and is about to send on the unbuffered channel, the
requester has left its select and is about to `Lock` in order to unregister -/
def C17_origDeadlockState : State :=
  { lock := some (.hdl 0), resCh := [(0, 0)],
    reqs := [{ pc := .unLock, id := 0, buf := none, out := some .timeout, retries := 0, arrived := false }],
    hdls := [{ pc := .deliver 0, msg := ⟨0, 100⟩ }],
    net := [], sent := [0], nextId := 1, unknown := [] }

/-- invariant of the deadlocked configuration of the ORIGINAL skeleton (`stepO`, a definition of Model/ReqResp.lean; its
twin `StuckW` for the widened-lock variant stands with the definition of `stepW` in Lemmas/ReqRespMore.lean) -/
structure C17Stuck (s : State) : Prop where
  lock : s.lock = some (.hdl 0)
  h0 : ∃ h, s.hdls[0]? = some h ∧ h.pc = .deliver 0
  r0 : ∃ r, s.reqs[0]? = some r ∧ r.pc = .unLock
  hs : ∀ (j : Nat) (h : Hdl), s.hdls[j]? = some h → j ≠ 0 → h.pc = .lock ∨ h.pc = .done
  rs : ∀ (i : Nat) (r : Req), s.reqs[i]? = some r → i ≠ 0 →
    r.pc = .start ∨ r.pc = .send ∨ r.pc = .regLock ∨ r.pc = .done

/-- a requester other than the first moves to one of the pcs it can still be at -/
private theorem C17Stuck.setReq {s s' : State} (hS : C17Stuck s) {i : Nat} {r r' : Req} (hi : i ≠ 0)
    (hr : s.reqs[i]? = some r) (hp : r'.pc = .start ∨ r'.pc = .send ∨ r'.pc = .regLock ∨ r'.pc = .done)
    (hl : s'.lock = s.lock) (hh : s'.hdls = s.hdls) (hq : s'.reqs = s.reqs.set i r') : C17Stuck s' :=
  ⟨hl ▸ hS.lock, hh ▸ hS.h0, by rw [hq, List.getElem?_set_ne hi]; exact hS.r0, hh ▸ hS.hs,
    hq ▸ forall_set hS.rs hr fun _ _ => hp⟩

/-- In the deadlocked configuration the only thread statements that are enabled belong to requesters
other than the first: creating the message (`start`) and the return of `mp.send`. -/
private theorem stuck_thread_step (P : Nat → Nat) (s s' : State) (hS : C17Stuck s) (a : Action)
    (ha : a.isThread = true) (h : stepO P s a = some s') :
    ∃ i r r', i ≠ 0 ∧ s.reqs[i]? = some r ∧ (r'.pc = .send ∨ r'.pc = .regLock ∨ r'.pc = .done) ∧
      s'.lock = s.lock ∧ s'.hdls = s.hdls ∧ s'.reqs = s.reqs.set i r' := by
  obtain ⟨hl, ⟨h0, hh0, hp0⟩, ⟨r0, hr0, hq0⟩, hH, hR⟩ := hS
  have pcs : ∀ i r, s.reqs[i]? = some r → (i = 0 ∧ r.pc = .unLock) ∨
      (i ≠ 0 ∧ (r.pc = .start ∨ r.pc = .send ∨ r.pc = .regLock ∨ r.pc = .done)) := fun i r hr => by
    by_cases hi : i = 0
    · subst hi; cases hr0.symm.trans hr; exact .inl ⟨rfl, hq0⟩
    · exact .inr ⟨hi, hR i r hr hi⟩
  cases a with
  | rStep i =>
    simp only [stepO] at h; split at h <;> try cases h
    next r hr =>
    rcases pcs i r hr with ⟨_, hp⟩ | ⟨hi, hp | hp | hp | hp⟩ <;> simp [stepReqO, hp, hl] at h
    subst h; exact ⟨i, r, _, hi, hr, .inl rfl, hl.symm, rfl, rfl⟩
  | rSendOk i =>
    simp only [stepO] at h; split at h <;> try cases h
    next r hr =>
    rcases pcs i r hr with ⟨_, hp⟩ | ⟨hi, hp | hp | hp | hp⟩ <;> simp [hp] at h
    subst h; exact ⟨i, r, _, hi, hr, .inr (.inl rfl), rfl, rfl, rfl⟩
  | rSendErr i =>
    simp only [stepO] at h; split at h <;> try cases h
    next r hr =>
    rcases pcs i r hr with ⟨_, hp⟩ | ⟨hi, hp | hp | hp | hp⟩ <;> simp [hp] at h
    subst h; exact ⟨i, r, _, hi, hr, .inr (.inr rfl), rfl, rfl, rfl⟩
  | rRecv i => cases h
  | rTimeout i =>
    simp only [stepO] at h; split at h <;> try cases h
    next r hr => rcases pcs i r hr with ⟨_, hp⟩ | ⟨hi, hp | hp | hp | hp⟩ <;> simp [hp] at h
  | rCancel i =>
    simp only [stepO] at h; split at h <;> try cases h
    next r hr => rcases pcs i r hr with ⟨_, hp⟩ | ⟨hi, hp | hp | hp | hp⟩ <;> simp [hp] at h
  | hStep j =>
    simp only [stepO] at h; split at h <;> try cases h
    next x hx =>
    by_cases hj : j = 0
    · subst hj; cases hh0.symm.trans hx; simp [stepHdlO, hp0, hr0, hq0] at h
    · rcases hH j x hx hj with hp | hp <;> simp [stepHdlO, hp, hl] at h
  | _ => cases ha

private theorem stuck_step (P : Nat → Nat) (s s' : State) (a : Action) (hS : C17Stuck s)
    (h : stepO P s a = some s') : C17Stuck s' := by
  cases ha : a.isThread
  · cases a with
    | nRespond id =>
      simp only [stepO, stepEnv] at h; split at h <;> cases h
      exact ⟨hS.lock, hS.h0, hS.r0, hS.hs, hS.rs⟩
    | nDup k =>
      simp only [stepO, stepEnv] at h; split at h <;> cases h
      exact ⟨hS.lock, hS.h0, hS.r0, hS.hs, hS.rs⟩
    | nDrop k =>
      simp only [stepO, stepEnv] at h; split at h <;> cases h
      exact ⟨hS.lock, hS.h0, hS.r0, hS.hs, hS.rs⟩
    | nDeliver k =>
      simp only [stepO, stepEnv] at h; split at h <;> cases h
      obtain ⟨h0, hh0, hp0⟩ := hS.h0
      have hlt := (List.getElem?_eq_some_iff.mp hh0).1
      exact ⟨hS.lock, ⟨h0, (List.getElem?_append_left hlt).trans hh0, hp0⟩, hS.r0,
        forall_push hS.hs fun _ => .inl rfl, hS.rs⟩
    | spawn b =>
      simp only [stepO, stepEnv] at h; cases h
      obtain ⟨r0, hr0, hq0⟩ := hS.r0
      have hlt := (List.getElem?_eq_some_iff.mp hr0).1
      exact ⟨hS.lock, hS.h0, ⟨r0, (List.getElem?_append_left hlt).trans hr0, hq0⟩, hS.hs,
        forall_push hS.rs fun _ => .inl rfl⟩
    | _ => cases ha
  · obtain ⟨i, r, r', hi, hr, hp, hl, hh, hq⟩ := stuck_thread_step P s s' hS a ha h
    exact hS.setReq hi hr (.inr hp) hl hh hq

/-- Deadlock of the ORIGINAL skeleton: the schedule above is executable and leads to
a state in which not all threads are done and NO thread can execute a statement (the handler is
blocked on the unbuffered channel while holding `resMu`, the requester is blocked on `resMu`).
Moreover the deadlock is permanent and contagious: whatever happens afterwards (new requests, new
responses, any schedule), `resMu` stays held by that handler, the first request never returns, no
later `onResponse` gets past `Lock`, and no later request ever reaches its select (it either fails
to send or blocks forever on `resMu.Lock()` after sending). -/
theorem C17_original_deadlocks_counterexample :
    runO C17P init C17_origDeadlockTrace = some C17_origDeadlockState ∧
    ReachableO C17P C17_origDeadlockState ∧
    allDone C17_origDeadlockState = false ∧
    (∀ a, a.isThread = true → stepO C17P C17_origDeadlockState a = none) ∧
    (∀ l s', runO C17P C17_origDeadlockState l = some s' →
      s'.lock = some (.hdl 0) ∧
      (∃ r, s'.reqs[0]? = some r ∧ r.pc = .unLock) ∧
      (∀ j h, j ≠ 0 → s'.hdls[j]? = some h → h.pc = .lock ∨ h.pc = .done) ∧
      (∀ i r, i ≠ 0 → s'.reqs[i]? = some r →
        r.pc = .start ∨ r.pc = .send ∨ r.pc = .regLock ∨ r.pc = .done)) := by
  have hrun : runO C17P init C17_origDeadlockTrace = some C17_origDeadlockState := by decide +kernel
  have hstuck : C17Stuck C17_origDeadlockState := by
    refine ⟨rfl, ⟨_, rfl, rfl⟩, ⟨_, rfl, rfl⟩, ?_, ?_⟩
    · intro j h hh hj
      have : C17_origDeadlockState.hdls[j]? = none := by
        cases j with
        | zero => exact absurd rfl hj
        | succ j => simp [C17_origDeadlockState]
      rw [this] at hh; cases hh
    · intro i r hh hi
      have : C17_origDeadlockState.reqs[i]? = none := by
        cases i with
        | zero => exact absurd rfl hi
        | succ i => simp [C17_origDeadlockState]
      rw [this] at hh; cases hh
  refine ⟨hrun, reachableO_of_runO C17P _ _ _ .init hrun, by decide +kernel, ?_, ?_⟩
  · intro a ha
    cases h : stepO C17P C17_origDeadlockState a with
    | none => rfl
    | some s' =>
      obtain ⟨i, r, _, hi, hr, _⟩ := stuck_thread_step C17P _ s' hstuck a ha h
      cases i with
      | zero => exact absurd rfl hi
      | succ i => simp [C17_origDeadlockState] at hr
  · intro l s' hr
    have hS := runO_invariant (fun s s1 a hS => stuck_step C17P s s1 a hS) l _ s' hstuck hr
    exact ⟨hS.lock, hS.r0, fun j h hj hh => hS.hs j h hh hj, fun i r hi hr => hS.rs i r hr hi⟩

/-- Schedule of the original code that loses a reply: the response overtakes the registration. -/
def C17_origLostReplyTrace : List Action :=
  [.spawn 0, .rStep 0, .rSendOk 0,                -- create the message and send it (nothing registered yet)
   .nRespond 0, .nDeliver 0,                      -- the remote handler answers at once
   .hStep 0, .hStep 0, .hStep 0,                  -- onResponse: Lock, lookup fails ("unknown request ID"), Unlock
   .rStep 0, .rStep 0, .rStep 0,                  -- only now: Lock, resCh[id] = ch, Unlock
   .rTimeout 0, .rStep 0, .rStep 0, .rStep 0]     -- nothing can arrive any more: timeout, unregister, return

def C17_origLostReplyState : State :=
  { lock := none, resCh := [],
    reqs := [{ pc := .done, id := 0, buf := none, out := some .timeout, retries := 0, arrived := false }],
    hdls := [{ pc := .done, msg := ⟨0, 100⟩ }],
    net := [], sent := [0], nextId := 1, unknown := [0] }

/-- Lost reply of the ORIGINAL skeleton: the remote handler answered the request, the
answer was processed by `onResponse` while the call was in progress (long before its deadline) and
was dropped as "unknown request ID"; the call ends with a timeout and nothing is left in flight
that could still answer it. -/
theorem C17_original_loses_reply_counterexample :
    runO C17P init C17_origLostReplyTrace = some C17_origLostReplyState ∧
    ReachableO C17P C17_origLostReplyState ∧
    (∃ r h, C17_origLostReplyState.reqs[0]? = some r ∧ C17_origLostReplyState.hdls[0]? = some h ∧
      r.pc = .done ∧ r.out = some .timeout ∧
      h.pc = .done ∧ h.msg = ⟨r.id, C17P r.id⟩ ∧ r.id ∈ C17_origLostReplyState.unknown) ∧
    C17_origLostReplyState.net = [] := by
  have hrun : runO C17P init C17_origLostReplyTrace = some C17_origLostReplyState := by decide +kernel
  exact ⟨hrun, reachableO_of_runO C17P _ _ _ .init hrun, ⟨_, _, rfl, rfl, rfl, rfl, rfl, rfl, by decide⟩, rfl⟩

/-! ### the same two environment behaviours on the FIXED protocol (evaluation; non-vacuity) -/

/-- the response arrives while the requester waits in its select (the channel was registered before the send): the
first copy is buffered and then received, the duplicate takes the `default` branch -/
def C17_fixedEarlyReplyTrace : List Action :=
  [.spawn 0, .rStep 0, .rStep 0, .rStep 0, .rStep 0, .rSendOk 0,
   .nRespond 0, .nDup 0, .nDeliver 0, .hStep 0, .hStep 0, .hStep 0, .hStep 0,   -- first copy: buffered
   .nDeliver 0, .hStep 1, .hStep 1, .hStep 1, .hStep 1,                         -- duplicate: default branch
   .rRecv 0, .rStep 0, .rStep 0, .rStep 0]

/-- timeout racing with the delivery: the handler holds `resMu` and has found the channel when the requester's timer
fires; the send does not block, the requester then unregisters and returns the timeout -/
def C17_fixedRaceTrace : List Action :=
  [.spawn 0, .rStep 0, .rStep 0, .rStep 0, .rStep 0, .rSendOk 0,
   .nRespond 0, .nDeliver 0, .hStep 0, .hStep 0,
   .rTimeout 0,
   .hStep 0, .hStep 0,
   .rStep 0, .rStep 0, .rStep 0]

example :
    (run C17P init C17_fixedEarlyReplyTrace).map (fun s => (s.reqs.map (fun r => (r.pc, r.out)), s.resCh, allDone s)) =
      some ([(.done, some (.got ⟨0, 100⟩))], [], true) := by decide +kernel

example :
    (run C17P init C17_fixedRaceTrace).map (fun s => (s.reqs.map (fun r => (r.pc, r.out)), s.resCh, allDone s, s.lock)) =
      some ([(.done, some .timeout)], [], true, none) := by decide +kernel

/-- non-vacuity of `C17_correlation` / `C17_no_lost_reply`: a reachable state in which a requester
has received a response and is marked `arrived` -/
example : ∃ s, Reachable C17P s ∧ ∃ r, s.reqs[0]? = some r ∧ r.arrived = true ∧
    r.out = some (.got ⟨r.id, C17P r.id⟩) :=
  reachable_ex C17_fixedEarlyReplyTrace (by decide +kernel)

/-- non-vacuity of `C17_deadlock_free` / `C17_lock_holder_never_blocks`: a reachable state in which
`resMu` is held by a handler that is about to deliver while the requester has already left its
select (the configuration that is fatal for the original code) — here a thread can step -/
example : ∃ s, Reachable C17P s ∧ s.lock = some (.hdl 0) ∧ allDone s = false ∧
    (step C17P s (.hStep 0)).isSome = true :=
  reachable_ex (C17_fixedRaceTrace.take 11) (by decide +kernel)

/-- non-vacuity of `C17_no_leak`: a reachable state with a non-trivial history in which all
requesters are done -/
example : ∃ s, Reachable C17P s ∧ s.reqs ≠ [] ∧ (∀ r ∈ s.reqs, r.pc = .done) ∧ s.resCh = [] :=
  reachable_ex C17_fixedRaceTrace (by decide +kernel)

/-! ### tie of the model's program counters to the skeleton table (written by hand from the Go source, Model/ReqResp.lean) -/

/-- atomic skeleton actions as the labels used by `RPc.acts` / `HPc.acts` -/
def C17atom : SkelAct → Option String
  | .newId => some "newid"
  | .makeChan c => some ("make:" ++ toString c)
  | .lock => some "lock"
  | .unlock => some "unlock"
  | .deferUnlock => some "unlock"   -- the deferred Unlock runs when onResponse returns
  | .store => some "store"
  | .delete => some "delete"
  | .lookup => some "lookup"
  | .netSend => some "send"
  | .chanSend => some "chsend"
  | .ret => some "return"
  | .onErr _ => none
  | .select _ => none

/-- the main path through the skeleton: error branches are skipped, a `select` contributes the
label `select` followed by the body of the branch with the given name -/
def C17mainPath (branch : String) : List SkelAct → List String
  | [] => []
  | .onErr _ :: rest => C17mainPath branch rest
  | .select bs :: rest =>
    "select" :: ((bs.find? (·.1 == branch)).map (fun b => b.2.filterMap C17atom)).getD [] ++ C17mainPath branch rest
  | a :: rest => (C17atom a).toList ++ C17mainPath branch rest

/-- The statements executed by the requester pcs of the model are exactly the main path of the
skeleton table of `sendRequestMessage`, whichever branch of the select is taken; the error branch
of the send and all three select branches run the same unregister sequence (the model's
`unLock; unDelete; unUnlock`). -/
theorem C17_skeleton_matches_model :
    (∀ b ∈ ["recv", "timer", "ctx"], C17mainPath b skelSendRequestMessage =
      [RPc.start, .regLock, .regStore, .regUnlock, .send, .wait, .unLock, .unDelete, .unUnlock].flatMap RPc.acts) ∧
    (skelSendRequestMessage.filterMap (fun a => match a with
        | .onErr b => some (b.filterMap C17atom) | _ => none)) =
      [[RPc.unLock, .unDelete, .unUnlock].flatMap RPc.acts] ∧
    skelOnResponse.filterMap C17atom = ["lock", "unlock", "lookup"] ∧
    (skelOnResponse.filterMap (fun a => match a with
        | .select bs => some (bs.map (·.1)) | _ => none)) = [["send", "default"]] := by
  decide +kernel
