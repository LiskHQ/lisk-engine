/-
C20, "concurrent readers always obtain some complete committed tip": the order of the database write and the
in-memory publication of the tip in `Chain.AddBlock` / `Chain.RemoveBlock`, checked on the write skeletons
regenerated from pkg/blockchain/chain.go by tools/wskelgen (`Gen/WriteSkeletons.lean`).

`Props/C20_Data.lean` proves, for the transcribed block cache and a writer whose steps are "write the batch, then
update the cache", that every reader observation is a committed chain state. This file ties that order to the
source: on every path of the regenerated skeletons the cache update comes after the batch was written.
-/
import LiskVerif.Model.Crash
import LiskVerif.Gen.WriteSkeletons

namespace LiskVerif.C20Publish
open LiskVerif.Crash

/-- abstract run over a skeleton: the flag says whether the step's batch has been written on every path reaching
this point; `none` = some path updates the in-memory tip (`cacheUpdate`) before the database write.
Statements after a `ret` are still visited (conservative). Callees are not followed: wskelgen emits `cacheUpdate`
at the call of `DataAccess.Cache` / `RemoveCache` itself, so an update is in the skeleton of the function that
calls them (if all of them moved into a helper, `hasCacheUpdate` fails). -/
def pubOk : Stmt → Bool → Option Bool
  | .skip, w => some w
  | .act (.write _), _ => some true
  | .act .cacheUpdate, w => if w then some w else none
  | .act _, w => some w
  | .seq s t, w => (pubOk s w).bind (pubOk t)
  | .choice s t, w =>
    match pubOk s w, pubOk t w with
    | some a, some b => some (a && b)
    | _, _ => none
  | .loop s, w => (pubOk s w).map (fun _ => w)
  | .scope s, w => pubOk s w
  | .call _ _, w => some w
  | .tryCall c a b, w =>
    (pubOk c w).bind fun w' =>
      match pubOk a w', pubOk b w' with
      | some x, some y => some (x && y)
      | _, _ => none
  | .ret, w => some w
  | .retErr, w => some w
  | .brk, w => some w
  | .cont, w => some w

/-- does the skeleton update the in-memory tip at all (guards against a vacuous check after a rename) -/
def hasCacheUpdate : Stmt → Bool
  | .act .cacheUpdate => true
  | .seq s t => hasCacheUpdate s || hasCacheUpdate t
  | .choice s t => hasCacheUpdate s || hasCacheUpdate t
  | .loop s => hasCacheUpdate s
  | .scope s => hasCacheUpdate s
  | .tryCall c a b => hasCacheUpdate c || hasCacheUpdate a || hasCacheUpdate b
  | _ => false

end LiskVerif.C20Publish

open LiskVerif LiskVerif.Crash LiskVerif.C20Publish

/-- `Chain.AddBlock`: the new tip is pushed into the block cache only after `database.Write(batch)`, on every path
(regenerated skeleton); a reader that obtains the tip from the cache finds all of its data in the database. -/
theorem C20_addBlock_publishes_after_write :
    (pubOk Gen.WS.Chain_AddBlock false).isSome = true ∧ hasCacheUpdate Gen.WS.Chain_AddBlock = true := by
  decide

/-- `Chain.RemoveBlock`: the cache is popped / refilled only after the removal batch was written -/
theorem C20_removeBlock_publishes_after_write :
    (pubOk Gen.WS.Chain_RemoveBlock false).isSome = true ∧ hasCacheUpdate Gen.WS.Chain_RemoveBlock = true := by
  decide

/-- the check is not vacuous: the reordered step (cache push first, as in a seeded change) is rejected -/
theorem C20_publish_before_write_rejected :
    pubOk (Stmt.seqs [.call "DataAccess.saveBlock" [("batch", "batch")], .act .cacheUpdate,
      .act (.write "batch"), .choice .ret .retErr]) false = none := by
  decide
