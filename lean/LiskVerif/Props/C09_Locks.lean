/-
C09, clause "no message received from a peer or an RPC client can HANG the node" — the lock side.

The network-facing handlers that read chain data (the three sync RPC handlers, run on libp2p stream goroutines;
the read API of `Chain` / `DataAccess` behind the gossip validators and the JSON-RPC endpoints) run WHILE the
node's own block processing adds and removes blocks (`Chain.AddBlock` / `RemoveBlock` / `PrepareCache`, which take
the block-cache write lock). A well-formed request hangs the node for ever when the handler's lock use admits a
cycle with such a writer — e.g. a read lock that is still held while the function waits for goroutines that take the
same read lock (Go's `RWMutex` makes new readers wait behind a pending writer): the seeded change C09-12 in
`DataAccess.GetBlocksBetweenHeight`. No sequence of sequential calls shows it.

This file states the obligation for C09 on the skeletons REGENERATED from the source on every run of the C09 check
(tools/skelgen, group c20: `Gen/Skeletons.lean`; `RLocker().Lock()` is extracted as a read lock). The functions named
here are entry points of the table whose criteria Props/C20 evaluates (`C20.table_ok`), so their lock obligations are
read off that evaluation; the no-hang clause then is `invocations_deadlock_free` (`Lemmas/LockProgress.lean`):
any number of goroutines running any sequence of handler / reader / writer invocations never reaches a state in
which some goroutine is unfinished and none can move.
-/
import LiskVerif.Props.C20

open LiskVerif LiskVerif.Locks

namespace C09L

/-- configuration regenerated from the source: call table, guards, lock order -/
def cfg : Cfg := ⟨Gen.Skeletons.table, Gen.Skeletons.guards, Gen.Skeletons.lockOrder⟩

/-- the sync RPC handlers registered by `Executer.Init` (served to every peer) -/
def handlers : List String :=
  ["Syncer.HandleRPCEndpointGetLastBlock", "Syncer.HandleRPCEndpointGetHighestCommonBlock",
   "Syncer.HandleRPCEndpointGetBlocksFromID"]

/-- the chain read API used by the gossip validators, the handlers above and the JSON-RPC endpoints -/
def readers : List String :=
  ["Chain.LastBlock", "Chain.GetLastNBlocks", "Chain.ChainID", "Chain.MaxTransactionsLength", "Chain.DataAccess",
   "Chain.GenesisBlockExist",
   "DataAccess.CachedLastBlock", "DataAccess.Cached", "DataAccess.GetBlockHeader", "DataAccess.GetBlockHeaders",
   "DataAccess.GetBlockHeadersByHeights", "DataAccess.GetBlockHeaderByHeight", "DataAccess.GetLastBlockHeader",
   "DataAccess.GetBlock", "DataAccess.GetLastBlock", "DataAccess.GetBlockByHeight",
   "DataAccess.GetBlocksBetweenHeight", "DataAccess.GetTransaction", "DataAccess.GetTransactions",
   "DataAccess.GetTempBlocks", "DataAccess.GetEvents", "DataAccess.GetFinalizedHeight"]

/-- what the node's own block processing does to the chain concurrently -/
def writers : List String :=
  ["Chain.AddBlock", "Chain.RemoveBlock", "Chain.PrepareCache", "DataAccess.Cache", "DataAccess.RemoveCache",
   "DataAccess.ClearTempBlocks"]

def roots : List String := handlers ++ readers ++ writers

def inRoots (e : String × Skel) : Bool := roots.contains e.1

/-- the skeleton shape of the class closed here: a read lock held for the whole function while it spawns
goroutines that take the same read lock, and waits for them -/
def rangeUnderReadLock : Skel :=
  [.rlock "blockCache.mutex", .deferRUnlock "blockCache.mutex",
   .loop [.go [.call "blockCache.getByHeight", .ret]],
   .wait "eg", .ret]

def getByHeight : Skel :=
  [.rlock "blockCache.mutex", .deferRUnlock "blockCache.mutex", .read "blockCache.heightIndex",
   .choice [[.ret], []], .read "blockCache.cachedBlocks", .ret]

def badCfg : Cfg :=
  ⟨[("DataAccess.GetBlocksBetweenHeight", rangeUnderReadLock), ("blockCache.getByHeight", getByHeight)],
   Gen.Skeletons.guards, Gen.Skeletons.lockOrder⟩

end C09L

/-! ## obligations over the regenerated skeletons -/

theorem C09L.cfg_eq : C09L.cfg = C20.cfg := rfl

/-- **the named functions** — the evaluation over the regenerated table: every function named above is in the table
exactly once, is an extracted entry point and is none of the emitter functions that `C20.table_ok` excepts from
criterion (3); the entries so selected are as many as the names. Their lock obligations are then those that
`C20.table_ok` evaluates for every entry point of this table. -/
theorem C09L.roots_ok :
    C09L.roots.all (fun n => (Gen.Skeletons.entries.contains n && !C20.knownBlocking.contains n) &&
      (Gen.Skeletons.table.filter (fun e => e.1 == n)).length == 1) = true ∧
    (Gen.Skeletons.table.filter C09L.inRoots).length = C09L.roots.length := by
  decide +kernel

/-- every function named above still exists in the regenerated table and is an extracted entry point (a renamed
or removed handler breaks this theorem instead of silently shrinking the quantifier below) -/
theorem C09_gen_handler_skeletons_present :
    C09L.roots.all (fun n => Gen.Skeletons.entries.contains n &&
      (Gen.Skeletons.table.filter (fun e => e.1 == n)).length == 1) = true :=
  Tables.all_imp C09L.roots_ok.1 fun n h => by
    simp only [Bool.and_eq_true] at h ⊢
    exact ⟨h.1.1, h.2⟩

/-- **Lock obligations of the network-facing chain readers and of the chain writers they run against**:
well-formed (nothing the extractor does not understand, every lock released), (1) no re-entrant acquisition — also
through calls, (2) the fixed lock order, (3) nothing blocking (channel operation, `Wait()` for spawned goroutines,
call into the network or the application) while a lock is held. -/
theorem C09_gen_handlers_lock_criteria :
    (Gen.Skeletons.table.filter C09L.inRoots).all (fun e => deadlockCriteria C09L.cfg e.2) = true :=
  List.all_eq_true.mpr fun e he => by
    have hm := List.mem_filter.mp he
    have hn := Tables.all_mem C09L.roots_ok.1 (List.contains_iff_mem.mp hm.2)
    simp only [Bool.and_eq_true, Bool.not_eq_true'] at hn
    rw [C09L.cfg_eq]
    exact (Bool.and_eq_true_iff.mp (C20.entry_ok (f := e.1) hm.1 hn.1.1 hn.1.2)).1

/-- the specific diagnoses for the bulk range lookup behind `getBlocksFromId` (and behind the cache refill of
`RemoveBlock` / `PrepareCache`): no lock is held while it waits for its workers, and no lock is taken twice -/
theorem C09_gen_bulk_range_holds_no_lock_while_waiting :
    noBlockingInCS C09L.cfg Gen.Skeletons.DataAccess_GetBlocksBetweenHeight = true ∧
    noReentrantAcquire C09L.cfg Gen.Skeletons.DataAccess_GetBlocksBetweenHeight = true ∧
    noBlockingInCS C09L.cfg Gen.Skeletons.Syncer_HandleRPCEndpointGetBlocksFromID = true ∧
    noBlockingInCS C09L.cfg Gen.Skeletons.Chain_RemoveBlock = true ∧
    noBlockingInCS C09L.cfg Gen.Skeletons.Chain_PrepareCache = true := by
  -- the four functions are among those `C20.table_ok` lists by name
  have h : ∀ {s}, criteria C20.cfg s = true →
      noReentrantAcquire C09L.cfg s = true ∧ noBlockingInCS C09L.cfg s = true := fun hc =>
    have h := criteria_iff.mp hc
    ⟨(criteriaExceptBlocking_iff.mp h.1).2.1, h.2⟩
  exact ⟨(h C20_bulk_range_ok).2, (h C20_bulk_range_ok).1, (h C20_sync_blocks_from_id_handler_ok).2,
    (h C20_chain_removeblock_ok).2, (h C20_chain_preparecache_ok).2⟩

/-- the criteria are not vacuous for this class: the shape "read lock held across the fan-out and the `Wait()`"
is rejected (criterion 3), while the worker alone is fine -/
theorem C09_range_under_read_lock_rejected :
    noBlockingInCS C09L.badCfg C09L.rangeUnderReadLock = false ∧
    deadlockCriteria C09L.badCfg C09L.rangeUnderReadLock = false ∧
    deadlockCriteria C09L.badCfg C09L.getByHeight = true := by
  decide +kernel

/-! ## the no-hang clause -/

/-- **Handlers never hang on the chain locks.** Any number of goroutines — peers' requests served by the sync RPC
handlers, validators / endpoints reading the chain, the node's own block processing adding and removing blocks and
refilling the block cache — each running any finite sequence of invocations of the functions in `C09L.roots` (or
the body of a goroutine one of them spawned), under any schedule and with Go's writer-preferring `RWMutex`: in no
reachable state is some goroutine unfinished while none can move. -/
theorem C09_handlers_never_deadlock_with_chain_writer (u : Nat) (ps : List Path)
    (hps : ∀ p ∈ ps, ∃ segs : List Path, p = segs.flatten ∧ ∀ q ∈ segs,
      ∃ e ∈ Gen.Skeletons.table, C09L.inRoots e = true ∧ IsThreadPath Gen.Skeletons.table u e.2 q)
    (st : State) (hr : Reachable (initState ps) st) :
    deadlocked st = false ∧ (quiescent st = true ∨ ∃ i, canStepInternal st i = true) :=
  invocations_deadlock_free C09L.cfg u ps (fun p hp =>
    have ⟨segs, hflat, hsegs⟩ := hps p hp
    ⟨segs, hflat, fun q hq =>
      have ⟨e, he, hin, hpath⟩ := hsegs q hq
      ⟨e.2, Tables.all_mem C09_gen_handlers_lock_criteria (List.mem_filter.mpr ⟨he, hin⟩), hpath⟩⟩) st hr

/-- non-vacuity: the quantifier of `C09_gen_handlers_lock_criteria` ranges over all 31 named functions -/
example : (Gen.Skeletons.table.filter C09L.inRoots).length = C09L.roots.length := C09L.roots_ok.2
