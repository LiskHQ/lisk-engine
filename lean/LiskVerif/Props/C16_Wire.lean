/-
C16 — start-up contract between engine and application (tie A, see Props/C13_Wire.lean for the table).
`C16_init_recovers_*` (Props/C16.lean) assumes that `ABI.Init` is called with the height and state root of the
ENGINE's tip after the engine finished its own recovery, and that stale execution contexts were cleared
before.  These theorems state that `Engine.Start` does exactly that.
-/
import LiskVerif.Lemmas.WireStart

open LiskVerif LiskVerif.Wire

theorem C16_wire_abi_init_gets_engine_tip :
    wired "Engine.Start" "labi.InitRequest" "LastBlockHeight" "e.chain.LastBlock().Header.Height" = true ∧
    wired "Engine.Start" "labi.InitRequest" "LastStateRoot" "e.chain.LastBlock().Header.StateRoot" = true ∧
    wired "Engine.Start" "labi.InitRequest" "ChainID" "e.config.Genesis.ChainID" = true ∧
    fieldsOf "Engine.Start" "labi.InitRequest" = ["ChainID", "LastBlockHeight", "LastStateRoot"] := by decide +kernel

theorem C16_wire_clear_before_consensus_init_before_abi_init :
    before "Engine.Start" "e.abi.Clear" "e.consensusExec.Init" = true ∧
    before "Engine.Start" "e.consensusExec.Init" "e.abi.Init" = true ∧
    argsOf "Engine.Start" "e.abi.Clear" = some ["&labi.ClearRequest{}"] :=
  -- positions 5, 6, 9 of `Wire.engineStart_path`: `e.abi.Clear`, `e.consensusExec.Init`, `e.abi.Init`
  ⟨engineStart_path.1.before 5 6, engineStart_path.1.before 6 9, by decide +kernel⟩

/-- every component talks to the one application handle given to `NewEngine` -/
theorem C16_wire_one_abi :
    wired "NewEngine" "Engine" "abi" "abi" = true ∧
    wired "Engine.init" "consensus.ExecuterConfig" "ABI" "e.abi" = true ∧
    wired "Engine.init" "generator.GeneratorParams" "ABI" "e.abi" = true ∧
    wired "NewExecuter" "Executer" "abi" "config.ABI" = true := by decide +kernel
