/-
C03 — the configuration values the validity rules use reach the components that enforce them (tie A, table
described in Props/C13_Wire.lean): block time → slot arithmetic, chain id → signature domain, payload limit.
-/
import LiskVerif.Lemmas.Wire

open LiskVerif LiskVerif.Wire

theorem C03_wire_block_time_path :
    wired "Engine.init" "consensus.ExecuterConfig" "BlockTime" "e.config.Genesis.BlockTime" = true ∧
    wired "NewExecuter" "Executer" "blockTime" "config.BlockTime" = true ∧
    wired "Executer.Init" "recv" "blockSlot"
      "validator.NewBlockSlot(param.GenesisBlock.Header.Timestamp, c.blockTime)" = true := by decide +kernel

/-- `blockTime > 0` (assumption of the slot rules) holds for the default -/
theorem C03_wire_default_block_time_positive :
    positiveDefault "GenesisConfig.InsertDefault" "BlockTime" "0" = true := by decide +kernel

theorem C03_wire_chain_id_and_payload_limit :
    wired "Engine.init" "blockchain.ChainConfig" "ChainID" "e.config.Genesis.ChainID" = true ∧
    wired "Engine.init" "blockchain.ChainConfig" "MaxTransactionsLength" "e.config.Genesis.MaxTransactionsSize" = true ∧
    wired "NewChain" "Chain" "chainID" "cfg.ChainID" = true ∧
    wired "NewChain" "Chain" "maxTransactionsLength" "cfg.MaxTransactionsLength" = true ∧
    positiveDefault "GenesisConfig.InsertDefault" "MaxTransactionsSize" "0" = true := by decide +kernel

/-- consensus, generator and pool work on the same chain object -/
theorem C03_wire_one_chain :
    wired "Engine.init" "consensus.ExecuterConfig" "Chain" "e.chain" = true ∧
    wired "Engine.init" "generator.GeneratorParams" "Chain" "e.chain" = true ∧
    wired "Engine.init" "generator.GeneratorParams" "Consensus" "e.consensusExec" = true ∧
    wired "NewExecuter" "Executer" "chain" "config.Chain" = true ∧
    (argsOf "Engine.Start" "e.transactionPool.Init").map (fun a => a.drop 2) =
      some ["blockchainDB", "e.chain", "e.p2pConn", "e.abi"] := by decide +kernel

/-- the syncer applies and deletes blocks through the executer's own validated path -/
theorem C03_wire_syncer_uses_validated_path :
    wired "Executer.Init" "recv" "syncer"
      "sync.NewSyncer(c.chain, c.blockSlot, c.conn, c.logger.With(\"module\", \"syncer\"), c.processValidated, c.deleteBlock)" = true := by
  decide +kernel
