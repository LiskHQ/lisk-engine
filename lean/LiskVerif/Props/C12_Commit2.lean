/-
C12 — the staged store AFTER a Commit.

`Database.Commit(writer)` hands `Set` / `Del` calls to the writer it is given and returns the diff. It does
not know whether the writer's batch is ever applied: `framework.ABIHandler.Commit` with `DryRun` (and with
a wrong `ExpectedStateRoot`) throws the batch away and keeps the execution context — the SAME staged store
is read, written and committed again; `consensus.Executer.processValidated` drops its batch when
`abi.Commit` fails afterwards. The property clause "reads always return the database with all staged writes
applied … Commit writes exactly that final state and returns a diff whose reversal restores the previous
database" therefore needs Commit to be an OBSERVATION of the overlay.

`Model/DiffDBCommit.lean` transcribes the commit loop with the batch as a value (`commitKeep`; the op
`commitd` of the correspondence harness runs it against the real `Commit` with a recording writer that is
thrown away, followed by further reads, writes, commits).  Everything follows from one fact: the loop
leaves the overlay as it is (`C12_commit_pure`), and database + batch and the diff are those of `commit`
(`C12_commit_batch_is_commit`).  The variant that makes the handed-out entries the new initial state of
the overlay (`commitRebase`) satisfies the single-commit clauses but is wrong once a batch is discarded
(`C12_rebase_on_commit_breaks_discarded_batch`; this is what seeded change C12-14 does).
-/
import LiskVerif.Props.C12
import LiskVerif.Model.DiffDBCommit

open LiskVerif LiskVerif.DiffDB

namespace C12.Commit2

theorem commitLoop_keep (c : Cache) : ∀ d : Diff, (commitLoop keep c d).1 = c := by
  induction c with
  | nil => intro d; rfl
  | cons e r ih =>
    intro d
    obtain ⟨k, cv⟩ := e
    simp only [commitLoop, keep]
    rw [ih]

/-- batch and diff do not depend on what the loop does to the entries afterwards -/
theorem commitLoop_out (a b : Bytes → CV → Option CV) (c : Cache) : ∀ d : Diff,
    (commitLoop a c d).2 = (commitLoop b c d).2 := by
  induction c with
  | nil => intro d; rfl
  | cons e r ih =>
    intro d
    obtain ⟨k, cv⟩ := e
    simp only [commitLoop, ih]

end C12.Commit2

/-- **Commit is an observation**: the staged store (database, overlay, snapshots) after `Commit` is the
one before. -/
theorem C12_commit_pure (st : St) : (commitKeep st).1 = st := by
  unfold commitKeep commitWith
  simp only [C12.Commit2.commitLoop_keep]

/-- every later state is the one without the Commit, for every sequence of later operations -/
theorem C12_commit_pure_run (st : St) (ops : List Op) : run (commitKeep st).1 ops = run st ops := by
  rw [C12_commit_pure]

/-- every later observation is the one without the Commit: point reads, scans in both directions with
any limit, the effective value of every key, and a later Commit — after any sequence of operations -/
theorem C12_commit_pure_reads (st : St) (ops : List Op) (k a b p : Bytes) (limit : Int) (rev : Bool) :
    (get (run (commitKeep st).1 ops) k).2 = (get (run st ops) k).2 ∧
    (range (run (commitKeep st).1 ops) a b limit rev).2 = (range (run st ops) a b limit rev).2 ∧
    (iterate (run (commitKeep st).1 ops) p limit rev).2 = (iterate (run st ops) p limit rev).2 ∧
    eff (run (commitKeep st).1 ops) k = eff (run st ops) k ∧
    (commitKeep (run (commitKeep st).1 ops)).2 = (commitKeep (run st ops)).2 := by
  rw [C12_commit_pure]
  exact ⟨rfl, rfl, rfl, rfl, rfl⟩

/-- **Committing twice yields equal batches and equal diffs** -/
theorem C12_commit_twice_equal (st : St) :
    (commitKeep (commitKeep st).1).2 = (commitKeep st).2 := by
  rw [C12_commit_pure]

/-- database + batch and the returned diff are exactly those of `commit` (commit + write of the batch) -/
theorem C12_commit_batch_is_commit (st : St) :
    applyBatch st.store (commitKeep st).2.1 = (commit st).1.store ∧ (commitKeep st).2.2 = (commit st).2 := by
  unfold commitKeep commitWith commit
  simp only [commitCache_eq_commitLoop keep st.cache st.store {}]
  exact ⟨trivial, trivial⟩

/-- **The batch is the final state**: applied to the database, every key holds its effective value. -/
theorem C12_commit_batch_final_state (st : St) (h : C12Inv st) (k : Bytes) :
    slookup (applyBatch st.store (commitKeep st).2.1) k = eff st k := by
  rw [(C12_commit_batch_is_commit st).1]
  exact C12_commit_exact st h k

/-- **The diff reverses the batch**, byte for byte. -/
theorem C12_commit_batch_revert_exact (st : St) (h : C12Inv st) (k : Bytes) :
    slookup (revertDiff (applyBatch st.store (commitKeep st).2.1) (commitKeep st).2.2) k = slookup st.store k := by
  rw [(C12_commit_batch_is_commit st).1, (C12_commit_batch_is_commit st).2]
  exact C12_revert_exact st h k

/-- **Dry run, keep working, commit.** A Commit whose batch is discarded, then ANY sequence of reads,
writes, deletes, snapshots and restores, then a Commit whose batch is written: the database holds exactly
the staged state — the same state, batch and diff as without the discarded Commit — and the diff restores
the previous database. -/
theorem C12_commit_discard_then_commit (st : St) (h : C12Inv st) (ops : List Op) (k : Bytes) :
    let st' := run (commitKeep st).1 ops
    (commitKeep st').2 = (commitKeep (run st ops)).2 ∧
    slookup (applyBatch st'.store (commitKeep st').2.1) k = eff (run st ops) k ∧
    slookup (revertDiff (applyBatch st'.store (commitKeep st').2.1) (commitKeep st').2.2) k = slookup st.store k := by
  intro st'
  have hst' : st' = run st ops := by simp only [st', C12_commit_pure]
  rw [hst']
  have hinv := C12_cache_invariant st h ops
  refine ⟨rfl, C12_commit_batch_final_state _ hinv k, ?_⟩
  rw [C12_commit_batch_revert_exact _ hinv k, run_store]

/-- **Writing either batch gives the same database** (and the same diff is returned), for a second Commit
that follows the first directly (with operations in between: `C12_commit_discard_then_commit`). -/
theorem C12_commit_either_batch_same_database (st : St) :
    applyBatch st.store (commitKeep (commitKeep st).1).2.1 = applyBatch st.store (commitKeep st).2.1 ∧
    (commitKeep (commitKeep st).1).2.2 = (commitKeep st).2.2 := by
  rw [C12_commit_twice_equal]
  exact ⟨rfl, rfl⟩

/-! ## the "rebase on commit" variant -/

/-- for a single Commit whose batch is written the variant is indistinguishable: same batch, same diff -/
theorem C12_rebase_same_batch_and_diff (st : St) : (commitRebase st).2 = (commitKeep st).2 := by
  unfold commitRebase commitKeep commitWith
  have h := C12.Commit2.commitLoop_out rebase keep st.cache {}
  simp only [h]

namespace C12.Commit2

/-- database `[1] ↦ [10]`, `[2] ↦ [20]`; staged: `[1]` updated to `[11]`, `[2]` deleted, `[3]` added -/
def exStore : Store := [([1], [10]), ([2], [20])]
def exSt : St := run { store := exStore } [.set [1] [11], .del [2], .set [3] [30]]

end C12.Commit2

/-- **Counterexample: rebasing the overlay on Commit is wrong when the batch is discarded.** On `exSt`
(a state reached by operations from a fresh store, invariant included) the variant returns the right batch
and diff for the first Commit; the batch is thrown away (dry run), the database is unchanged. Then:
the deleted key `[2]` is back in point reads and scans (reads ≠ database + staged writes); a second Commit
hands NOTHING to the writer and returns the empty diff although the staged state differs from the database
in three keys; and after `Del [3]` (the key it added) the overlay holds a tombstone for a key the database
never had, which the next Commit lists as Deleted. The code (`commitKeep`) gets all of these right. -/
theorem C12_rebase_on_commit_breaks_discarded_batch :
    let st := C12.Commit2.exSt
    let sr := (commitRebase st).1
    let sk := (commitKeep st).1
    -- same first batch and diff, database untouched
    (commitRebase st).2 = (commitKeep st).2 ∧ sr.store = st.store ∧
    -- staged state before: [1] ↦ [11], [2] deleted, [3] ↦ [30]
    eff st [1] = some [11] ∧ eff st [2] = none ∧ eff st [3] = some [30] ∧
    -- the deleted key reappears
    eff sr [2] = some [20] ∧ (get sr [2]).2 = some [20] ∧
    (iterate sr [] (-1) false).2 = [([1], [11]), ([2], [20]), ([3], [30])] ∧
    eff sk [2] = none ∧ (iterate sk [] (-1) false).2 = [([1], [11]), ([3], [30])] ∧
    -- the second Commit writes nothing and returns an empty diff
    (commitRebase sr).2 = ([], {}) ∧
    (commitKeep sk).2 = ([.set [3] [30], .del [2], .set [1] [11]], { added := [[3]], updated := [([1], [10])], deleted := [([2], [20])] }) ∧
    -- Del of the key added before the first Commit: a tombstone against a database that never had it
    (commitKeep (del sr [3])).2.2.deleted = [([3], [30])] ∧ slookup sr.store [3] = none ∧
    (commitKeep (del sk [3])).2.2.deleted = [([2], [20])] := by
  decide +kernel

/-! ## non-vacuity -/

example : C12Inv C12.Commit2.exSt :=
  C12_cache_invariant _ (C12_inv_init C12.Commit2.exStore (by unfold NoDupKeys C12.Commit2.exStore; decide)) _

example : (commitKeep C12.Commit2.exSt).2.1 = [.set [3] [30], .del [2], .set [1] [11]] := by decide +kernel

example : applyBatch C12.Commit2.exSt.store (commitKeep C12.Commit2.exSt).2.1 = [([1], [11]), ([3], [30])] := by
  decide +kernel

example : revertDiff (applyBatch C12.Commit2.exSt.store (commitKeep C12.Commit2.exSt).2.1)
    (commitKeep C12.Commit2.exSt).2.2 = [([1], [10]), ([2], [20])] := by decide +kernel
