/-
C18 — the ban clause for every ROLE a peer can have in the configuration (ordinary / fixed / seed / fixed+seed).

"once the total reaches the ban threshold the peer is disconnected and every inbound and outbound connection
attempt involving that IP is refused until the ban expires" has no exception for peers the operator listed in
`FixedPeers` / `SeedPeers`.  In the code the role is simply NOT AN INPUT: `Peer.addPenalty` / `Peer.banPeer` look at
the score the gater returns and then call `Peer.Disconnect`, which closes the peer; none of them reads the peerbook
or the configuration.

Model part: `C18rPenalty` / `C18rBan` are `ConnGater.peerAddPenalty` / `ConnGater.banPeer` followed by the
disconnect they report, on a connection table, parametrised by a disconnect POLICY `keep : Role → Bool`
(`keep r = true`: `Peer.Disconnect` returns without closing for role `r`).  The code's policy is `fun _ => false`.
* `C18_roles_ban_disconnected_refused` / `C18_roles_banPeer_disconnected_refused`: with the code's policy, for EVERY
  role, a penalty that brings the IP's total to the threshold (resp. `banPeer`) leaves the peer not connected, the
  IP banned and every gate closed for it;
* `C18_roles_role_not_an_input`: the outcome is the same for any two roles;
* `C18_roles_keep_policy_violates`: for ANY policy that keeps some role `r`, a peer of role `r` is banned and still
  connected (the seeded refactoring "fixed peers are kept in Disconnect" is `keep = (·.fixed)`);
* `C18_roles_skip_policy_violates`: a ban decision that skips some role leaves a peer of that role unbanned however
  large the penalty (the sibling change "fixed peers are not penalised").

Tie (Gen/Life.lean; its inputs are listed at the head of Props/C18_LifeGen.lean): the theorems state the exact
list of conditions, exits and calls of `Peer.Disconnect`, `Peer.addPenalty`, `Peer.banPeer` (and of the callers
`Connection.ApplyPenalty`, `Connection.BanPeer`, `MessageProtocol.banRemotePeer`).  A role / configuration
dependent early return (`if p.isFixedPeer(peer) { return nil }`) adds a condition, an exit and a call and breaks
`C18_rolegen_Disconnect_closes_unconditionally` / `C18_rolegen_addPenalty_conditions` / `C18_rolegen_banPeer_conditions`.
-/
import LiskVerif.Gen.Life
import LiskVerif.Props.C18
import LiskVerif.Props.C18_LifeGen

open LiskVerif LiskVerif.ConnGater LiskVerif.Gen.Life

/-- the role of a peer in the node's configuration -/
structure C18Role where
  fixed : Bool
  seed : Bool
deriving DecidableEq, Repr

/-- `Peer.Disconnect` under a policy: `keep role` = return without closing -/
def C18rDisconnect (keep : C18Role → Bool) (role : C18Role) (conns : List Nat) (p : Nat) : List Nat :=
  if keep role then conns else conns.filter (· ≠ p)

/-- `Peer.addPenalty` followed by the disconnect it asks for -/
def C18rPenalty (keep : C18Role → Bool) (role : C18Role) (g : Gater) (now : Nat) (addr : Addr) (score : Int)
    (conns : List Nat) : Gater × List Nat :=
  match peerAddPenalty g now addr score with
  | (g', .ok (some p)) => (g', C18rDisconnect keep role conns p)
  | (g', _) => (g', conns)

/-- `Peer.banPeer` followed by the disconnect it asks for -/
def C18rBan (keep : C18Role → Bool) (role : C18Role) (g : Gater) (now : Nat) (addr : Addr)
    (conns : List Nat) : Gater × List Nat :=
  match banPeer g now addr with
  | (g', .ok (some p)) => (g', C18rDisconnect keep role conns p)
  | (g', _) => (g', conns)

/-- a ban decision that skips some roles (`skip role` = return an error before the gater is asked) -/
def C18rPenaltySkipping (skip : C18Role → Bool) (role : C18Role) (g : Gater) (now : Nat) (addr : Addr) (score : Int)
    (conns : List Nat) : Gater × List Nat :=
  if skip role then (g, conns) else C18rPenalty (fun _ => false) role g now addr score conns

/-- the code's policy: nobody is kept -/
def C18rCode : C18Role → Bool := fun _ => false

/-- the IP's total after adding `score` -/
def C18rTotal (g : Gater) (ip : IP) (score : Int) : Int :=
  match find g.peerScore ip with
  | some i => i.score + score
  | none => score

private theorem addPenalty_banned (g : Gater) (hs : g.started = true) (now : Nat) (ip : IP) (apid : Option Nat)
    (score : Int) (h : C18rTotal g ip score ≥ maxPenaltyScore) :
    ∃ g', addPenalty g now ⟨some ip, apid⟩ score = (g', .ok (C18rTotal g ip score)) ∧ isBanned g' ip = true := by
  rw [addPenalty_ok hs]
  refine ⟨_, rfl, ?_⟩
  unfold C18rTotal at h
  cases hf : find g.peerScore ip <;> simp only [hf] at h <;>
    simp only [hf, isBanned, find_put, if_true, PeerInfo.banned, if_pos h, bne_iff_ne, ne_eq] <;> omega

/-- **Ban ⇒ disconnected ∧ refused, for every role.** With the code's disconnect (no role kept): a penalty that
brings the total of the peer's IP to the threshold leaves the peer `p` out of the connection table, the IP banned,
and every gate (`InterceptAddrDial`, `InterceptAccept`, inbound `InterceptSecured`, hence the whole outbound and
inbound gate sequence) closed for that IP whatever peer ID it presents. -/
theorem C18_roles_ban_disconnected_refused (role : C18Role) (g : Gater) (hs : g.started = true) (now : Nat) (ip : IP)
    (p : Nat) (score : Int) (conns : List Nat) (h : C18rTotal g ip score ≥ maxPenaltyScore) (apid : Option Nat) (q : Nat) :
    let r := C18rPenalty C18rCode role g now ⟨some ip, some p⟩ score conns
    p ∉ r.2 ∧ isBanned r.1 ip = true ∧
      interceptAddrDial r.1 q ⟨some ip, apid⟩ = false ∧ interceptAccept r.1 ⟨some ip, apid⟩ = false ∧
      interceptSecured r.1 true q ⟨some ip, apid⟩ = false ∧
      outboundAllowed r.1 q ⟨some ip, apid⟩ = false ∧ inboundAllowed r.1 q ⟨some ip, apid⟩ = false := by
  obtain ⟨g', hg, hb⟩ := addPenalty_banned g hs now ip (some p) score h
  have hr : C18rPenalty C18rCode role g now ⟨some ip, some p⟩ score conns = (g', conns.filter (· ≠ p)) := by
    simp only [C18rPenalty, peerAddPenalty, hg, h, if_true, C18rDisconnect, C18rCode, Bool.false_eq_true, if_false]
  simp only [hr]
  exact ⟨by simp [List.mem_filter], hb, (C18_gates_refuse_banned_or_blacklisted g' ip apid q).1 (Or.inl hb)⟩

/-- the same for `Peer.banPeer` (malformed envelope, unknown procedure, `Connection.BanPeer`), for every role and
provided the IP's earlier total is not negative (`h`) -/
theorem C18_roles_banPeer_disconnected_refused (role : C18Role) (g : Gater) (hs : g.started = true) (now : Nat) (ip : IP)
    (p : Nat) (conns : List Nat) (h : C18rTotal g ip maxPenaltyScore ≥ maxPenaltyScore) (apid : Option Nat) (q : Nat) :
    let r := C18rBan C18rCode role g now ⟨some ip, some p⟩ conns
    p ∉ r.2 ∧ isBanned r.1 ip = true ∧
      outboundAllowed r.1 q ⟨some ip, apid⟩ = false ∧ inboundAllowed r.1 q ⟨some ip, apid⟩ = false := by
  obtain ⟨g', hg, hb⟩ := addPenalty_banned g hs now ip (some p) maxPenaltyScore h
  have hr : C18rBan C18rCode role g now ⟨some ip, some p⟩ conns = (g', conns.filter (· ≠ p)) := by
    simp only [C18rBan, banPeer, hg, C18rDisconnect, C18rCode, Bool.false_eq_true, if_false]
  simp only [hr]
  exact ⟨by simp [List.mem_filter], hb, ((C18_gates_refuse_banned_or_blacklisted g' ip apid q).1 (Or.inl hb)).2.2.2⟩

/-- **The role is not an input** of the ban decision or of the disconnect: any two roles give the same gater and
the same connection table. -/
theorem C18_roles_role_not_an_input (r₁ r₂ : C18Role) (g : Gater) (now : Nat) (addr : Addr) (score : Int)
    (conns : List Nat) :
    C18rPenalty C18rCode r₁ g now addr score conns = C18rPenalty C18rCode r₂ g now addr score conns ∧
    C18rBan C18rCode r₁ g now addr conns = C18rBan C18rCode r₂ g now addr conns := ⟨rfl, rfl⟩

/-- **A role-dependent disconnect violates the clause.** For ANY policy that keeps some role `r`: a connected peer
of role `r` that is banned through `banPeer` is banned in the gater (new connections refused) and STILL in the
connection table. (`keep = (·.fixed)` is the refactoring "fixed peers are kept connected inside Disconnect".) -/
theorem C18_roles_keep_policy_violates (keep : C18Role → Bool) (r : C18Role) (hk : keep r = true)
    (g : Gater) (hs : g.started = true) (now : Nat) (ip : IP) (p : Nat) (conns : List Nat) (hc : p ∈ conns)
    (h : C18rTotal g ip maxPenaltyScore ≥ maxPenaltyScore) :
    let res := C18rBan keep r g now ⟨some ip, some p⟩ conns
    isBanned res.1 ip = true ∧ p ∈ res.2 := by
  obtain ⟨g', hg, hb⟩ := addPenalty_banned g hs now ip (some p) maxPenaltyScore h
  have hr : C18rBan keep r g now ⟨some ip, some p⟩ conns = (g', conns) := by
    simp only [C18rBan, banPeer, hg, C18rDisconnect, hk, if_true]
  simp only [hr]
  exact ⟨hb, hc⟩

/-- **A role-dependent ban decision violates the clause**: a skipped role is never banned, whatever the penalty. -/
theorem C18_roles_skip_policy_violates (skip : C18Role → Bool) (r : C18Role) (hk : skip r = true)
    (g : Gater) (now : Nat) (addr : Addr) (score : Int) (conns : List Nat) :
    C18rPenaltySkipping skip r g now addr score conns = (g, conns) := by
  simp only [C18rPenaltySkipping, hk, if_true]

/-- non-vacuity: a fixed+seed peer with 60 points gets 40 more: gone, banned, refused; under the seeded policy the
same peer stays connected although banned -/
example :
    let g : Gater := { expSecs := 10, started := true, peerScore := [([127, 0, 0, 1], ⟨60, -1⟩)] }
    let r := C18rPenalty C18rCode ⟨true, true⟩ g 5 ⟨some [127, 0, 0, 1], some 7⟩ 40 [3, 7]
    r.2 = [3] ∧ isBanned r.1 [127, 0, 0, 1] = true ∧ inboundAllowed r.1 7 ⟨some [127, 0, 0, 1], none⟩ = false ∧
      (C18rBan (·.fixed) ⟨true, false⟩ g 5 ⟨some [127, 0, 0, 1], some 7⟩ [3, 7]).2 = [3, 7] ∧
      (C18rBan (·.fixed) ⟨false, true⟩ g 5 ⟨some [127, 0, 0, 1], some 7⟩ [3, 7]).2 = [3] := by decide

/-! ### tie: the regenerated statement tables of the ban path -/

/-- the conditions (`if`, loop headers) of a function, in source order -/
def C18rgConds (fn : String) : List String :=
  ((C18lgOf fn).filter (fun s => s.kind == "if" || s.kind == "loop" || s.kind == "other")).map (·.a)

/-- the exits of a function: (guards, returned expression) -/
def C18rgExits (fn : String) : List (List String × String) :=
  ((C18lgOf fn).filter C18lgExit).map (fun s => (s.guards, s.a))

/-- the callees of a function, in source order -/
def C18rgCalls (fn : String) : List String :=
  ((C18lgOf fn).filter (fun s => s.kind == "call" || s.kind == "go-call" || s.kind == "defer-call")).map (·.a)

/-- the ban-path functions of the extraction list exist -/
theorem C18_rolegen_functions_present :
    (["Peer.Disconnect", "Peer.addPenalty", "Peer.banPeer", "Connection.ApplyPenalty", "Connection.BanPeer",
      "MessageProtocol.banRemotePeer"].all fun n => (C18lgParams n).isSome && C18lgParams n != some ["MISSING"]) = true := by
  decide +kernel

/-- **`Peer.Disconnect(peer)` closes the peer on every call**: no condition, a single exit, which returns the
result of `ClosePeer(peer)`; nothing else is called (no peerbook / configuration lookup). -/
theorem C18_rolegen_Disconnect_closes_unconditionally :
    C18rgConds "Peer.Disconnect" = [] ∧
    C18rgExits "Peer.Disconnect" = [([], "p.host.Network().ClosePeer(peer)")] ∧
    C18rgCalls "Peer.Disconnect" = ["p.host.Network().ClosePeer", "p.host.Network"] ∧
    ((C18lgOf "Peer.Disconnect").filter (fun s => s.a == "p.host.Network().ClosePeer")).map (·.b) = [["peer"]] := by
  decide +kernel

/-- **`Peer.addPenalty`: exact conditions, exits and calls.** The gater is asked first and unconditionally; the only
conditions are the two error checks and `newScore >= MaxPenaltyScore`, under which `p.Disconnect(addrInfo.ID)` is
returned. -/
theorem C18_rolegen_addPenalty_conditions :
    C18rgConds "Peer.addPenalty" = ["err != nil", "newScore >= MaxPenaltyScore", "err != nil"] ∧
    C18rgExits "Peer.addPenalty" =
      [(["if err != nil"], "err"), (["if newScore >= MaxPenaltyScore", "if err != nil"], "err"),
       (["if newScore >= MaxPenaltyScore"], "p.Disconnect(addrInfo.ID)"), ([], "nil")] ∧
    C18rgCalls "Peer.addPenalty" = ["p.connGater.addPenalty", "AddrInfoFromMultiAddr", "addr.String", "p.Disconnect"] ∧
    C18lgCallsAlways "Peer.addPenalty" "p.connGater.addPenalty" ["addr", "score"] = true := by
  decide +kernel

/-- **`Peer.banPeer`: exact conditions, exits and calls.** `connGater.addPenalty(addr, MaxPenaltyScore)` first and
unconditionally, two error checks, then `p.Disconnect(addrInfo.ID)` on the straight path. -/
theorem C18_rolegen_banPeer_conditions :
    C18rgConds "Peer.banPeer" = ["err != nil", "err != nil"] ∧
    C18rgExits "Peer.banPeer" = [(["if err != nil"], "err"), (["if err != nil"], "err"), ([], "p.Disconnect(addrInfo.ID)")] ∧
    C18rgCalls "Peer.banPeer" = ["p.connGater.addPenalty", "AddrInfoFromMultiAddr", "addr.String", "p.Disconnect"] ∧
    C18lgCallsAlways "Peer.banPeer" "p.connGater.addPenalty" ["addr", "MaxPenaltyScore"] = true := by
  decide +kernel

/-- **The callers hand every connection of the peer to the ban path**: `Connection.ApplyPenalty` / `BanPeer` loop
over `ConnsToPeer(pid)` with only the multiaddr error check in front of the call (the second `err != nil` is the logged
error of `conn.addPenalty` / `banPeer` after it); `banRemotePeer` has only the multiaddr error check in front of
`mp.peer.banPeer(addr)`. No configuration lookup in any of them. -/
theorem C18_rolegen_callers_conditions :
    C18rgConds "Connection.ApplyPenalty" = ["range conn.Peer.host.Network().ConnsToPeer(pid)", "err != nil", "err != nil"] ∧
    C18rgConds "Connection.BanPeer" = ["range conn.Peer.host.Network().ConnsToPeer(pid)", "err != nil", "err != nil"] ∧
    C18rgConds "MessageProtocol.banRemotePeer" = ["err != nil"] ∧
    C18rgCalls "Connection.ApplyPenalty" =
      ["conn.Peer.host.Network().ConnsToPeer", "conn.Peer.host.Network", "c.RemoteMultiaddr().String", "c.RemoteMultiaddr",
       "pid.String", "ma.NewMultiaddr", "conn.logger.Errorf", "conn.addPenalty", "conn.logger.Errorf"] ∧
    C18rgCalls "Connection.BanPeer" =
      ["conn.Peer.host.Network().ConnsToPeer", "conn.Peer.host.Network", "c.RemoteMultiaddr().String", "c.RemoteMultiaddr",
       "pid.String", "ma.NewMultiaddr", "conn.logger.Errorf", "conn.Peer.banPeer", "conn.logger.Errorf"] ∧
    C18rgExits "MessageProtocol.banRemotePeer" = [(["if err != nil"], "err"), ([], "mp.peer.banPeer(addr)")] := by
  decide +kernel
