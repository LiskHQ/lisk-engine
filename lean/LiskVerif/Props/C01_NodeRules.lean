/-
C01 — the block-acceptance rules OUTSIDE `liskbft` that finality safety rests on.

`Props/C01_Safety.lean` and `C01_More.lean` prove safety for trees of chains that are *chain-valid*
(`C01ChainValid`, `C01NodeValid`): every header carries the chain's own `maxHeightPrevoted` and does
not contradict the generator's latest header in the vote window. Both rules are enforced by
`pkg/consensus` (`Executer.verifyBlock`, modelled in `Model/Verify.lean`), not by the BFT module the
C01 correspondence drives. This file makes the dependency explicit:

(i)   which rules of `Verify.verifyBlock` the safety proof uses (`C01_rules_used_by_safety`,
      `C01_accepted_chain_is_node_valid`, `C01_finality_safety_accepted_chains_partial`), and the key
      lemma behind the one-comparison window scan of `BFTVotes.contradicting`: if every accepted header
      carries the chain's own `maxHeightPrevoted`, then "not contradicting the generator's LATEST
      header in the window" implies "not contradicting ANY of its headers in the window" — for every
      chain, window length and (monotone) chain value (`C01_window_scan_complete`), for the
      specification (`C01_spec_scan_complete`) and for the windowed transcription of the Go module on
      chains of any length (`C01_model_window_scan_complete`);
(ii)  the equality cannot be weakened to the one-sided bound `header.maxHeightPrevoted ≤ chain value`:
      by kernel evaluation of the model, a three-header sequence (an ordinary block, a block that
      implies no votes, a block repeating the first one's `maxHeightGenerated` with an understated
      `maxHeightPrevoted`) passes the scan and adds the generator's prevote weight a second time
      (`C01_one_sided_bound_double_vote`), and with weights 34/34/32 and the standard thresholds 67/67
      two chains accepted under the one-sided rule finalize conflicting blocks although only the
      validator of weight 32 misbehaves (`C01_one_sided_bound_conflicting_finalization`; the two chains
      are a failing input of the node harness, pseudo-property C01NODE, on a tree of real nodes);
(iii) obligations on the regenerated verification skeleton `Gen/VerifySkeleton.lean` (tools/vskelgen):
      `verifyBlock` compares `block.Header.MaxHeightPrevoted` with the first result of
      `GetBFTHeights(consensusStore)` by an equality test (`!=` → error exit), before the contradiction
      check, nothing else on the acceptance path compares that field, and the test runs before the vote
      update and before anything is staged, written or published (`C01_gen_*`).
-/
import LiskVerif.Props.C01_More
import LiskVerif.Model.Verify
import LiskVerif.Lemmas.Verify
import LiskVerif.Gen.VerifySkeleton

open LiskVerif LiskVerif.BFT LiskVerif.BFTSpec


/-! ## (i) the window scan is complete when every header carries the chain's maxHeightPrevoted -/

/-- the full scan: does `x` contradict ANY header of its generator among `win`? -/
def C01scanAll (win : List Header) (x : Header) : Bool :=
  win.any fun b => decide (b.gen = x.gen) && Gen.areDistinctHeadersContradicting (toHdr b) (toHdr x)

/-- The chain `r` (NEWEST first) was accepted header by header by a node with vote window `n`, genesis
height `g` and chain value `cv` (the `maxHeightPrevoted` of the view of a chain) under the rules
* height = height of the parent + 1,
* `mhpOK field (cv parent)` — `verifyBlock` has the equality; the weakened variant of part (ii) has `≤`,
* `BFTVotes.contradicting` over the window of the parent: the comparison with the LATEST header of the
  generator among the last `n` blocks (`contradictingSpec` = first match, newest first). -/
def C01acceptedB (mhpOK : Nat → Nat → Bool) (n g : Nat) (cv : List Header → Nat) : List Header → Bool
  | [] => true
  | x :: p => decide (x.height = g + p.length + 1) && mhpOK x.mhp (cv p) &&
      !(contradictingSpec Gen.areDistinctHeadersContradicting (p.take n) x) && C01acceptedB mhpOK n g cv p

/-- the rule of `verifyBlock` -/
def C01mhpEq (field chain : Nat) : Bool := decide (field = chain)
/-- the one-sided bound -/
def C01mhpLe (field chain : Nat) : Bool := decide (field ≤ chain)

private theorem accepted_cons (mhpOK : Nat → Nat → Bool) (n g : Nat) (cv : List Header → Nat) (x : Header)
    (p : List Header) : C01acceptedB mhpOK n g cv (x :: p) = true ↔
      x.height = g + p.length + 1 ∧ mhpOK x.mhp (cv p) = true ∧
      contradictingSpec Gen.areDistinctHeadersContradicting (p.take n) x = false ∧
      C01acceptedB mhpOK n g cv p = true := by
  simp [C01acceptedB, and_assoc]

private theorem accepted_suffix (mhpOK : Nat → Nat → Bool) (n g : Nat) (cv : List Header → Nat)
    {r s : List Header} (h : C01acceptedB mhpOK n g cv r = true) (hs : s <:+ r) :
    C01acceptedB mhpOK n g cv s = true :=
  suffix_closed (fun y r h => ((accepted_cons mhpOK n g cv y r).mp h).2.2.2) h hs

/-- monotonicity of the chain value along the chain `r` gives monotonicity between any two ancestors -/
private theorem cv_suffix_mono (cv : List Header → Nat) (r : List Header)
    (hmono : ∀ x p, x :: p <:+ r → cv p ≤ cv (x :: p)) {t s : List Header} (ht : t <:+ r) (hs : s <:+ t) :
    cv s ≤ cv t :=
  suffix_mono_on (fun x p h => hmono x p (h.trans ht)) hs

/-- `ChainRules.legit` with the window given as the `k` newest blocks below `x`: heights are consecutive, so a
member of `p.take k` is at most `k` heights below `x`. -/
private theorem legit_of_mem_take {g k : Nat} {M : List Header → Nat} {ok : List Header → Prop}
    (R : ChainRules g k M ok) {r p : List Header} {x e : Header} (hv : ok r) (hs : x :: p <:+ r)
    (he : e ∈ p.take k) (hg : e.gen = x.gen) : C07LegitSucc (toHdr e) (toHdr x) := by
  refine R.legit hv hs e (List.mem_of_mem_take he) hg ?_
  obtain ⟨s, t, hst⟩ := List.append_of_mem he
  have hp : p = s ++ e :: (t ++ p.drop k) := by
    conv => lhs; rw [← List.take_append_drop k p, hst]
    simp
  have hse : e :: (t ++ p.drop k) <:+ r :=
    List.IsSuffix.trans ⟨s, hp.symm⟩ ((List.suffix_cons x p).trans hs)
  have hx := R.height hv hs
  have hey := R.height hv hse
  have hl := congrArg List.length hst
  have hpl := congrArg List.length hp
  simp only [List.length_take, List.length_append, List.length_cons] at hl hpl hey
  omega

/-- The suffixes of a chain accepted header by header obey the chain rules the specification's safety argument
rests on (`ChainRules`, Lemmas/BFTSafety.lean), with the vote window `n` and the chain value `cv`. -/
private theorem accepted_chainRules {n g : Nat} {cv : List Header → Nat} {r : List Header}
    (hmono : ∀ x p, x :: p <:+ r → cv p ≤ cv (x :: p)) (hacc : C01acceptedB C01mhpEq n g cv r = true) :
    ChainRules g n cv (· <:+ r) where
  suffix hr hs := hs.trans hr
  cons hs := by
    obtain ⟨h1, h2, h3, _⟩ := (accepted_cons C01mhpEq n g cv _ _).mp (accepted_suffix C01mhpEq n g cv hacc hs)
    exact ⟨h1, by simpa [C01mhpEq] using h2, h3⟩
  mono hr hs := cv_suffix_mono cv r hmono hr hs

/-- **Every accepted header is a legitimate successor (C07) of every header of its generator in the
window** — provided each accepted header carries the chain's own `maxHeightPrevoted` and the chain value
never decreases along the chain. The scan itself compares with the latest such header only. -/
theorem C01_window_legit (n g : Nat) (cv : List Header → Nat) (r : List Header)
    (hmono : ∀ x p, x :: p <:+ r → cv p ≤ cv (x :: p))
    (hacc : C01acceptedB C01mhpEq n g cv r = true) :
    ∀ (x : Header) (p : List Header), x :: p <:+ r → ∀ e ∈ p.take n, e.gen = x.gen →
      C07LegitSucc (toHdr e) (toHdr x) :=
  fun _ _ hs _ he hg => legit_of_mem_take (accepted_chainRules hmono hacc) (List.suffix_refl r) hs he hg

/-- a header that is a legitimate successor of every header of its generator in the window contradicts none -/
private theorem scanAll_false {win : List Header} {x : Header}
    (h : ∀ e ∈ win, e.gen = x.gen → C07LegitSucc (toHdr e) (toHdr x)) : C01scanAll win x = false := by
  unfold C01scanAll
  rw [List.any_eq_false]
  intro e he
  by_cases hg : e.gen = x.gen
  · simp [hg, (C07_spec (toHdr e) (toHdr x) hg).mpr (Or.inl (h e he hg))]
  · simp [hg]

/-- **Key lemma (the window scan is complete).** For every chain accepted under the rules of
`verifyBlock` (equality of `maxHeightPrevoted`, comparison with the generator's latest header in the
window) no accepted header contradicts ANY header of its generator in its window. -/
theorem C01_window_scan_complete (n g : Nat) (cv : List Header → Nat) (r : List Header)
    (hmono : ∀ x p, x :: p <:+ r → cv p ≤ cv (x :: p))
    (hacc : C01acceptedB C01mhpEq n g cv r = true) :
    ∀ (x : Header) (p : List Header), x :: p <:+ r → C01scanAll (p.take n) x = false :=
  fun x p hs => scanAll_false (C01_window_legit n g cv r hmono hacc x p hs)

/-- … in the form the node uses it: a NEW header `x` that passes the three rules on top of an accepted
chain `p` contradicts none of its generator's headers among the last `n` blocks. -/
theorem C01_latest_scan_suffices (n g : Nat) (cv : List Header → Nat) (x : Header) (p : List Header)
    (hmono : ∀ y q, y :: q <:+ x :: p → cv q ≤ cv (y :: q))
    (hp : C01acceptedB C01mhpEq n g cv p = true)
    (hh : x.height = g + p.length + 1) (hm : x.mhp = cv p)
    (hlatest : contradictingSpec Gen.areDistinctHeadersContradicting (p.take n) x = false) :
    C01scanAll (p.take n) x = false := by
  apply C01_window_scan_complete n g cv (x :: p) hmono ?_ x p (List.suffix_refl _)
  rw [accepted_cons]
  exact ⟨hh, by simp [C01mhpEq, hm], hlatest, hp⟩

/-! ### the specification and the windowed model of the Go module -/

/-- a chain read oldest first (`C01ChainValid`, `C01NodeValid`) and newest first (`C01acceptedB`) -/
private theorem snoc_prefix_iff {α : Type} {B l : List α} {x : α} :
    B ++ [x] <+: l ↔ x :: B.reverse <:+ l.reverse := by
  rw [← List.reverse_suffix, List.reverse_append, List.reverse_singleton, List.singleton_append]

/-- Specification (`Model/BFTSpec.lean`, scan over the whole chain): on a chain-valid chain no header
contradicts any earlier header of its generator. -/
theorem C01_spec_scan_complete (cfg : Cfg) (l : List Header) (hv : C01ChainValid cfg l) :
    ∀ (B : List Header) (x : Header), B ++ [x] <+: l → C01scanAll B x = false := by
  intro B x hpre
  exact scanAll_false fun e he hg => valid_legit cfg hv (snoc_prefix_iff.mp hpre) e (by simpa using he) hg

/-- **The window scan of the Go module is complete on every chain the node accepts**, of any length:
with the parameters installed by `SetBFTParameters` on the genesis state, if the chain `l` is valid for
the node (`C01NodeValid`: the MODEL's `maxHeightPrevoted` in every header, the MODEL's windowed
`BFTVotes.contradicting` false for every header), then no header of `l` contradicts any header of its
generator among the `3·batchSize` blocks before it. -/
theorem C01_model_window_scan_complete (bs g pcThr certThr : Nat) (vs : List Validator) (s0 : State)
    (hinit : setParams (initGenesis bs g) pcThr certThr vs = .ok s0) (l : List Header)
    (hv : C01NodeValid s0 g l) (hu : g + l.length + 1 < 4294967296) :
    ∀ (B : List Header) (x : Header), B ++ [x] <+: l →
      C01scanAll (B.reverse.take (3 * bs)) x = false := by
  -- the node's rules on `l`, newest first, are chain rules with the vote window `3 * bs` (Lemmas/BFTDyn.lean)
  obtain ⟨hNH, hwv⟩ := node_rules_of_init bs g pcThr certThr vs s0 hinit
  have hlim : (C01sortedCfg g pcThr vs).genesis + l.reverse.length < u32 - 1 := by
    show g + l.reverse.length < u32 - 1
    simp only [List.length_reverse, u32]; omega
  exact fun B x hpre => scanAll_false fun e he hg =>
    legit_of_mem_take (chainRules_w hNH) ⟨hwv l hv hu, hlim⟩ (snoc_prefix_iff.mp hpre) he hg

/-! ### which rules of `verifyBlock` the safety theorem uses -/

/-- A block that passes `Executer.verifyBlock` (`Model/Verify.lean`; the store `s` is the consensus
store of the tip) satisfies the three rules the safety proof needs: next height, the header's
`maxHeightPrevoted` EQUALS the store's, `IsHeaderContradictingChain` is false. (The other rules —
slot, generator, signature — make "a header by `v`" a header SIGNED by `v`, the reading of
`C01Honest`.) -/
theorem C01_rules_used_by_safety (n : Verify.Node) (s : State) (b : Verify.Cand)
    (h : Verify.verifyBlock n s b = none) :
    b.height = n.tipHeight + 1 ∧ b.mhp = s.mhp ∧
    contradicting Gen.areDistinctHeadersContradicting s (Verify.hdrOf b) = false ∧
    Verify.slotGenerator n s b = some b.gen ∧ b.sigOK = true := by
  have hg := Verify.verifyBlock_none_generator h
  rw [Verify.verifyBlock_eq, Verify.firstFailure_none_iff] at h
  -- each rule is one of the checks of `Verify.verifyChecks` (Model/Verify.lean), all of which passed
  exact ⟨of_decide_eq_true (h (.height, decide (b.height = n.tipHeight + 1)) (by simp [Verify.verifyChecks])),
    of_decide_eq_true (h (.mhp, decide (b.mhp = s.mhp)) (by simp [Verify.verifyChecks])),
    by simpa [Verify.isContradicting] using h (.contradicting, !Verify.isContradicting s b) (by simp [Verify.verifyChecks]),
    hg, h (.signature, b.sigOK) (by simp [Verify.verifyChecks])⟩

/-- The chain `l` (oldest first) was accepted block by block by `verifyBlock`: for every block `x` on
top of the prefix `B` there are a node whose tip is at height `g + |B|`, the consensus store the model
computes for `B`, and a candidate carrying the header `x`, which `verifyBlock` accepts. -/
def C01VerifyAccepted (s0 : State) (g : Nat) (l : List Header) : Prop :=
  ∀ (B : List Header) (x : Header), B ++ [x] <+: l →
    ∃ (n : Verify.Node) (s : State) (b : Verify.Cand),
      n.tipHeight = g + B.length ∧ C01runChain s0 B = some s ∧ Verify.hdrOf b = x ∧
      Verify.verifyBlock n s b = none

/-- chains accepted by `verifyBlock` are valid for the node in the sense of `C01_More.lean` -/
theorem C01_accepted_chain_is_node_valid (s0 : State) (g : Nat) (l : List Header)
    (h : C01VerifyAccepted s0 g l) : C01NodeValid s0 g l := by
  intro B x hpre
  obtain ⟨n, s, b, hn, hrun, hb, hacc⟩ := h B x hpre
  obtain ⟨h1, h2, h3, _, _⟩ := C01_rules_used_by_safety n s b hacc
  subst hb
  refine ⟨?_, s, hrun, ?_, h3⟩
  · show b.height = g + B.length + 1
    omega
  · exact h2

/-- **Finality safety for trees of chains the node accepted** (`verifyBlock` of `Model/Verify.lean` on
the windowed model of `liskbft`), chains of any length: `C01_finality_safety_node_rules_partial` with
its hypothesis `C01NodeValid` discharged by the acceptance rules. -/
theorem C01_finality_safety_accepted_chains_partial (bs g pcThr certThr : Nat) (vs : List Validator)
    (s0 : State) (hinit : setParams (initGenesis bs g) pcThr certThr vs = .ok s0)
    (T : List (List Header)) (byz : List Bytes) (hpc : 0 < pcThr)
    (hthr : C01byzWeight (C01sortedCfg g pcThr vs) byz + totalWeight (C01sortedCfg g pcThr vs) <
      pcThr + prevoteThreshold (C01sortedCfg g pcThr vs))
    (hacc : ∀ l ∈ T, C01VerifyAccepted s0 g l)
    (hu : ∀ l ∈ T, g + l.length + 1 < 4294967296)
    (hhon : ∀ v ∈ (C01sortedCfg g pcThr vs).validators, v.address ∉ byz → C01Honest T v.address)
    (l₁ l₂ : List Header) (h₁ : l₁ ∈ T) (h₂ : l₂ ∈ T) :
    ∃ s₁ s₂, C01runChain s0 l₁ = some s₁ ∧ C01runChain s0 l₂ = some s₂ ∧
      (l₁.take (s₁.mhpc - g) <+: l₂.take (s₂.mhpc - g) ∨ l₂.take (s₂.mhpc - g) <+: l₁.take (s₁.mhpc - g)) :=
  C01_finality_safety_node_rules_partial bs g pcThr certThr vs s0 hinit T byz hpc hthr
    (fun l hl => C01_accepted_chain_is_node_valid s0 g l (hacc l hl)) hu hhon l₁ l₂ h₁ h₂

/-! ## (ii) the equality cannot be weakened to `header.maxHeightPrevoted ≤ chain value` -/

/-- `C01nodeValidB` with the one-sided bound in place of the equality: heights consecutive, the
header's `maxHeightPrevoted` is AT MOST the model's value after the parent chain, the model's windowed
`BFTVotes.contradicting` is false. -/
def C01nodeValidLeB (s0 : State) (g : Nat) (l : List Header) : Bool :=
  (List.range l.length).all fun i =>
    match l[i]? with
    | none => true
    | some x =>
      decide (x.height = g + i + 1) &&
        match C01runChain s0 (l.take i) with
        | none => false
        | some s => decide (x.mhp ≤ s.mhp) && !(contradicting Gen.areDistinctHeadersContradicting s x)

/-- validators a, b (honest, weight 34 each) and z (weight 32: less than one third of 100) -/
def C01nrVals : List Validator := [⟨[0x0a], 34⟩, ⟨[0x0b], 34⟩, ⟨[0x0e], 32⟩]

/-- the state after `SetBFTParameters(67, 67, …)` on the genesis state: batch size 4 (vote window 12),
prevote threshold `⌊2·100/3⌋+1 = 67`, precommit threshold 67 — the standard thresholds -/
def C01nrInit : State :=
  match setParams (initGenesis 4 0) 67 67 C01nrVals with
  | .ok s => s
  | .error _ => initGenesis 4 0

theorem C01nrInit_eq : setParams (initGenesis 4 0) 67 67 C01nrVals = .ok C01nrInit := by rfl

def C01nrCfg : Cfg := C01sortedCfg 0 67 C01nrVals

/-- "I generated a block far above this one": a header with this `maxHeightGenerated` implies no votes -/
def C01nrFar : Nat := 2147483648

/-- a, b, z, a, then z's ordinary block `b0` (height 5, previous own block 3: prevotes 4..5) and z's block
`b1` (height 6) that implies no votes; every header carries the chain's `maxHeightPrevoted` -/
def C01nrThree : List Header :=
  [⟨1, [0x0a], 0, 0, none⟩, ⟨2, [0x0b], 0, 0, none⟩, ⟨3, [0x0e], 0, 1, none⟩, ⟨4, [0x0a], 1, 1, none⟩,
   ⟨5, [0x0e], 3, 2, none⟩, ⟨6, [0x0e], C01nrFar, 2, none⟩]

/-- z's third header: `maxHeightGenerated = 3` AGAIN (as in `b0`), reporting `mhp` -/
def C01nrH (mhp : Nat) : Header := ⟨7, [0x0e], 3, mhp, none⟩

/-- **The three-header sequence.** On the windowed model of the Go module, parameters 34/34/32, 67/67:
* the chain up to `b1` is valid for the node (real rules);
* `H` with the chain's value 2 contradicts `b1` and is rejected under either rule;
* `H` with the understated value 1 is rejected by the equality and ACCEPTED under the one-sided bound:
  the scan compares it with `b1` only, although it contradicts `b0` (full scan);
* `b0` and `H` both prevote height 4 (per-header rule of the specification), and the vote store counts
  z's 32 twice: the block at height 4 goes from prevote weight 66 to 98 (all three validators together
  hold 100, the voters a and z hold 66) and `maxHeightPrevoted` from 2 to 4 — a prevote quorum (67) that
  no two thirds of the weight stand behind. -/
theorem C01_one_sided_bound_double_vote :
    C01nodeValidB C01nrInit 0 C01nrThree = true ∧
    C01nodeValidB C01nrInit 0 (C01nrThree ++ [C01nrH 2]) = false ∧
    C01nodeValidLeB C01nrInit 0 (C01nrThree ++ [C01nrH 2]) = false ∧
    C01nodeValidB C01nrInit 0 (C01nrThree ++ [C01nrH 1]) = false ∧
    C01nodeValidLeB C01nrInit 0 (C01nrThree ++ [C01nrH 1]) = true ∧
    contradictingSpec Gen.areDistinctHeadersContradicting (C01nrThree.reverse.take 12) (C01nrH 1) = false ∧
    C01scanAll (C01nrThree.reverse.take 12) (C01nrH 1) = true ∧
    (C01nrThree[4]?.map fun b0 => (b0.gen, prevotes C01nrCfg b0 4)) = some ([0x0e], true) ∧
    prevotes C01nrCfg (C01nrH 1) 4 = true ∧
    ((C01runChain C01nrInit C01nrThree).map fun s =>
      (s.mhp, (s.infos.find? (·.height = 4)).map (·.prevoteWeight))) = some (2, some 66) ∧
    ((C01runChain C01nrInit (C01nrThree ++ [C01nrH 1])).map fun s =>
      (s.mhp, (s.infos.find? (·.height = 4)).map (·.prevoteWeight))) = some (4, some 98) := by
  decide +kernel

/-- the common prefix of the two chains below -/
def C01nrPrefix : List Header :=
  [⟨1, [0x0a], 0, 0, none⟩, ⟨2, [0x0b], 0, 0, none⟩, ⟨3, [0x0a], 1, 1, none⟩]

/-- the public chain: a and b alone go on (z is busy elsewhere); 68 ≥ 67 suffices to finalize -/
def C01nrChainA : List Header :=
  C01nrPrefix ++ [⟨4, [0x0a], 3, 2, none⟩, ⟨5, [0x0b], 2, 2, none⟩, ⟨6, [0x0a], 4, 4, none⟩, ⟨7, [0x0b], 5, 5, none⟩]

/-- the private fork of z from block 3: no-vote headers alternate with headers that repeat an earlier
`maxHeightGenerated` (0, 3, 4) under an understated `maxHeightPrevoted`; each repetition adds z's 32
again to the prevote weight of the blocks below. When the fork's `maxHeightPrevoted` is ahead of the
public chain's, a and b — following fork choice, reporting their largest heights 6 and 7 truthfully,
contradicting none of their own headers — move over (heights 19, 20) and precommit what z "prevoted". -/
def C01nrChainB : List Header :=
  C01nrPrefix ++
  [⟨4, [0x0e], C01nrFar, 0, none⟩, ⟨5, [0x0e], C01nrFar, 2, none⟩, ⟨6, [0x0e], 4, 1, none⟩,
   ⟨7, [0x0e], C01nrFar, 2, none⟩, ⟨8, [0x0e], 0, 0, none⟩, ⟨9, [0x0e], C01nrFar, 2, none⟩,
   ⟨10, [0x0e], 0, 1, none⟩, ⟨11, [0x0e], C01nrFar, 6, none⟩, ⟨12, [0x0e], 0, 0, none⟩,
   ⟨13, [0x0e], C01nrFar, 8, none⟩, ⟨14, [0x0e], 0, 1, none⟩, ⟨15, [0x0e], C01nrFar, 10, none⟩,
   ⟨16, [0x0e], 3, 9, none⟩, ⟨17, [0x0e], C01nrFar, 12, none⟩, ⟨18, [0x0e], 4, 9, none⟩,
   ⟨19, [0x0a], 6, 14, none⟩, ⟨20, [0x0b], 7, 16, none⟩]

/-- what the model computes on the two chains: (maxHeightPrevoted, maxHeightPrecommitted) -/
theorem C01_one_sided_bound_views :
    ((C01runChain C01nrInit C01nrChainA).map fun s => (s.mhp, s.mhpc)) = some (6, 4) ∧
    ((C01runChain C01nrInit C01nrChainB).map fun s => (s.mhp, s.mhpc)) = some (19, 14) := by
  decide +kernel

/-- **Conflicting finalization under the one-sided bound, standard thresholds, 32 % Byzantine weight.**
Every hypothesis of `C01_finality_safety_node_rules_partial` holds for the tree `{A, B}` — parameters
installed by `SetBFTParameters`, (H-thr) in its "less than one third" form with the standard threshold,
a and b honest in the tree (no two of their headers contradict), heights small — except that chain B is
accepted under `maxHeightPrevoted ≤ chain value` only (it is NOT valid under the equality). The
conclusion fails: view A finalizes 4 blocks, view B 14, and the blocks at height 4 differ (generated by
a resp. z), so neither finalized prefix is a prefix of the other. -/
theorem C01_one_sided_bound_conflicting_finalization :
    C01nodeValidB C01nrInit 0 C01nrChainA = true ∧
    C01nodeValidLeB C01nrInit 0 C01nrChainA = true ∧
    C01nodeValidLeB C01nrInit 0 C01nrChainB = true ∧
    C01nodeValidB C01nrInit 0 C01nrChainB = false ∧
    3 * C01byzWeight C01nrCfg [[0x0e]] < totalWeight C01nrCfg ∧
    totalWeight C01nrCfg * 2 / 3 + 1 ≤ C01nrCfg.precommitThreshold ∧
    C01byzWeight C01nrCfg [[0x0e]] + totalWeight C01nrCfg < 67 + prevoteThreshold C01nrCfg ∧
    (∀ v ∈ C01nrCfg.validators, v.address ∉ [[0x0e]] → C01Honest [C01nrChainA, C01nrChainB] v.address) ∧
    ∃ sA sB, C01runChain C01nrInit C01nrChainA = some sA ∧ C01runChain C01nrInit C01nrChainB = some sB ∧
      sA.mhpc = 4 ∧ sB.mhpc = 14 ∧
      ¬ (C01nrChainA.take (sA.mhpc - 0) <+: C01nrChainB.take (sB.mhpc - 0)) ∧
      ¬ (C01nrChainB.take (sB.mhpc - 0) <+: C01nrChainA.take (sA.mhpc - 0)) := by
  have hb : ∀ v ∈ C01nrCfg.validators, v.address ∉ [[0x0e]] →
      C01honestB [C01nrChainA, C01nrChainB] v.address = true := by decide +kernel
  refine ⟨by decide +kernel, by decide +kernel, by decide +kernel, by decide +kernel, by decide +kernel,
    by decide +kernel, by decide +kernel, fun v hv hn => C01honestB_sound _ _ (hb v hv hn), ?_⟩
  have hv := C01_one_sided_bound_views
  cases hA : C01runChain C01nrInit C01nrChainA with
  | none => rw [hA] at hv; simp at hv
  | some sA =>
    cases hB : C01runChain C01nrInit C01nrChainB with
    | none => rw [hB] at hv; simp at hv
    | some sB =>
      rw [hA, hB] at hv
      simp only [Option.map_some, Option.some.injEq, Prod.mk.injEq] at hv
      obtain ⟨⟨_, hA4⟩, ⟨_, hB14⟩⟩ := hv
      refine ⟨sA, sB, rfl, rfl, hA4, hB14, ?_, ?_⟩
      · rw [hA4, hB14]; decide +kernel
      · rw [hA4, hB14]; decide +kernel

/-- The same chain B is what the safety theorem excludes: under the node's real rules the first header
of z's fork is already refused (its `maxHeightPrevoted` 0 is not the chain's 2), and so is every
understated header after it. -/
theorem C01_one_sided_bound_chain_refused_by_equality :
    (List.range (C01nrChainB.length + 1)).map (fun i => C01nodeValidB C01nrInit 0 (C01nrChainB.take i)) =
      [true, true, true, true] ++ List.replicate 17 false := by
  decide +kernel

/-- non-vacuity of (i) for the model: on the (valid) public chain the completeness theorem applies — the
last header of b contradicts none of b's headers among the 12 blocks before it -/
example : C01scanAll ((C01nrChainA.take 6).reverse.take (3 * 4)) ⟨7, [0x0b], 5, 5, none⟩ = false :=
  C01_model_window_scan_complete 4 0 67 67 C01nrVals C01nrInit C01nrInit_eq C01nrChainA
    (C01nodeValidB_sound _ _ _ (by decide +kernel)) (by decide) (C01nrChainA.take 6) _ ⟨[], by decide⟩

/-- non-vacuity of the abstract lemma, and the one-sided counterpart: with the specification's chain value
the three-header sequence plus `H` is accepted under `≤`, not under `=`, and its conclusion fails -/
example :
    C01acceptedB C01mhpEq 12 0 (mhp C01nrCfg) C01nrThree.reverse = true ∧
    C01acceptedB C01mhpEq 12 0 (mhp C01nrCfg) (C01nrH 1 :: C01nrThree.reverse) = false ∧
    C01acceptedB C01mhpLe 12 0 (mhp C01nrCfg) (C01nrH 1 :: C01nrThree.reverse) = true ∧
    C01scanAll (C01nrThree.reverse.take 12) (C01nrH 1) = true := by
  decide +kernel

/-! ## (iii) the regenerated skeleton: an equality test, in `verifyBlock`, before anything is written -/

namespace C01Gen
open LiskVerif.Gen

/-- the regenerated skeleton of a function (the look-up `C03Gen.body` of Props/C03_Gen.lean, which this file does not import) -/
def body (f : String) : List VS.Item := (VS.fns.lookup f).getD []

/-- the header field, as the translator prints it -/
def field : String := "block.Header.MaxHeightPrevoted"

/-- every step of every extracted function that reads the field (operand or atom of a comparison) -/
def readers : List (String × VS.Item) :=
  VS.fns.flatMap fun p => (p.2.filter fun i => i.lhs == field || i.rhs == field || i.atoms.contains field).map fun i => (p.1, i)

/-- kinds that change something outside the function's own memory (database, batch, application,
event emitter, receiver fields); `C03Gen.effectKinds` (Props/C03_Gen.lean) is this list without the two
receiver-field kinds `set`, `clear` -/
def effectKinds : List String := ["write", "stage", "appwrite", "publish", "set", "clear"]

def idxOf (f : String) (q : VS.Item → Bool) : Nat := (body f).findIdx q

end C01Gen

open C01Gen LiskVerif.Gen in
/-- **The comparison is an equality test.** On the current source the only step of the whole
acceptance path that reads `block.Header.MaxHeightPrevoted` is one unconditional check of
`Executer.verifyBlock` with operator `!=` against `bftHeights#0`, an error exit; `bftHeights` is
`GetBFTHeights(consensusStore)`; and the generated guard is `a ≠ b` for all values — the block passes
iff the two are EQUAL. (A one-sided comparison, a comparison elsewhere, or none breaks this theorem.) -/
theorem C01_gen_mhp_is_equality_test :
    readers =
      [("Executer.verifyBlock",
        { kind := "check", op := "!=", lhs := "block.Header.MaxHeightPrevoted", rhs := "bftHeights#0", ret := "errorf",
          guard := "g_Executer_verifyBlock_MaxHeightPrevoted",
          atoms := ["block.Header.MaxHeightPrevoted", "bftHeights#0"] })] ∧
    ("Executer.verifyBlock", "bftHeights", "self.liskBFT.API().GetBFTHeights(consensusStore)") ∈ VS.handles ∧
    ∀ a b : Nat, VS.g_Executer_verifyBlock_MaxHeightPrevoted a b = decide (a ≠ b) := by
  refine ⟨by decide +kernel, by decide +kernel, fun a b => rfl⟩

open C01Gen LiskVerif.Gen in
/-- **… executed before the contradiction check**, on the store the heights were just read from:
`GetBFTHeights(consensusStore)`, the equality test, `IsHeaderContradictingChain(consensusStore, header)`
follow each other directly (only the error exit of the read in between), all unconditional — the scan
runs only for headers that carry the chain's own `maxHeightPrevoted` (the premise of
`C01_window_scan_complete`). -/
theorem C01_gen_mhp_before_contradiction_check :
    let i := idxOf "Executer.verifyBlock" (fun i => i.lhs == field)
    ((body "Executer.verifyBlock").drop (i - 2) |>.take 6).map (fun i => (i.kind, i.ctx, i.op, i.lhs)) =
      [("call", [], "", "self.liskBFT.API().GetBFTHeights(consensusStore)"),
       ("check", [], "callerr", "bftHeights"),
       ("check", [], "!=", "block.Header.MaxHeightPrevoted"),
       ("call", [], "", "self.liskBFT.API().IsHeaderContradictingChain(consensusStore, block.Header.Readonly())"),
       ("check", [], "callerr", "self.liskBFT.API().IsHeaderContradictingChain(consensusStore, block.Header.Readonly())"),
       ("check", [], "is", "self.liskBFT.API().IsHeaderContradictingChain(consensusStore, block.Header.Readonly())#0")] := by
  decide +kernel

open C01Gen LiskVerif.Gen in
/-- **… and before any state is written.** `verifyBlock` itself changes nothing (no write, staging,
application call, publication or field assignment); `processValidated` calls it as its first step after
creating the staged store — before the vote update (`abi.Execute`, whose first step is
`bft.BeforeTransactionsExecute` on that store), before anything is staged into the batch, before the
chain write and before every publication — and returns its error unchanged. -/
theorem C01_gen_mhp_before_any_write :
    (body "Executer.verifyBlock").all (fun i => !effectKinds.contains i.kind) = true ∧
    ((body "Executer.processValidated").take 3).map (fun i => (i.kind, i.ctx, i.op, i.lhs, i.ret, i.callee)) =
      [("call", [], "", "diffdb.New(self.database, blockchain.DBPrefixToBytes(blockchain.DBPrefixState))", "", ""),
       ("sub", [], "", "self.verifyBlock(store, block)", "", "Executer.verifyBlock"),
       ("check", [], "callerr", "self.verifyBlock(store, block)", "err", "Executer.verifyBlock")] ∧
    2 < idxOf "Executer.processValidated" (fun i => i.callee == "stateExecuter.Execute") ∧
    2 < idxOf "Executer.processValidated" (fun i => effectKinds.contains i.kind) ∧
    ((body "stateExecuter.Execute").head?.map fun i => (i.kind, i.lhs)) =
      some ("call", "self.bft.BeforeTransactionsExecute(block.Header.Readonly(), diffStore)") := by
  decide +kernel
