/-
C03 — Only fully valid blocks extend the chain; rejected blocks change nothing.

Theorems about `LiskVerif.Verify` (Model/Verify.lean), the model of `Block.Validate`,
`Executer.verifyBlock`, `verifyAggregateCommit`, `stateExecuter.Execute` and
`Executer.processValidated` with the fixes /verif/fixes/C03-*.patch applied.

* `C03_first_failure_order`: the error returned is the error of the first failing entry of the
  declarative rule list `checkList` (the rules in code order); `C03_first_failure_characterisation`
  spells this out.
* `C03_accept_iff_spec`: a block is accepted iff `SpecValid true n b` — the conjunction of EVERY
  rule the property lists (for the repository with the C03 fixes and the aggregate-commit
  bound fix, `Config.acBound = true`).  `C03_accept_iff_spec_partial` is the same statement for both
  values of `Config.acBound`; for the code before the bound fix (`acBound = false`)
  `C03_missing_conjunct_counterexample` exhibits an accepted block that skips a change of BFT
  parameters with its aggregate commit, so `C03_accept_iff_spec_Statement` (no hypothesis on the
  configuration) fails.
* `C03_reject_leaves_state` / `C03_process_not_accepted_leaves_state`: every exit other than
  acceptance returns the node (chain, consensus store, finalized height, published events)
  unchanged: all fallible steps of the staged machine only touch the staged store.
* `C03_accept_effect`, `C03_history_only_valid_blocks`: what acceptance does; over any sequence of
  offered blocks the chain only ever grows by offered blocks that are `SpecValid` against some node state with the
  same configuration (the state is tied to the run in `C03_history_rejected_invisible`, Props/C03_More.lean).
* `C03_signature_covers_all_fields`: by the regenerated schema table, the signed encoding
  (`blockchain.signingBlockHeader`) has every field of `blockchain.BlockHeader` except field 15
  (the signature), with the same number, kind and order; `C03_signing_bytes_injective`: equal
  signing bytes imply equal signed fields.
* `C03_implies_max_prevotes_unchecked`: header field 12 is read by no rule.
-/
import LiskVerif.Lemmas.Verify
import LiskVerif.Gen.Schemas
import LiskVerif.Props.C08_Msg

open LiskVerif LiskVerif.Verify

namespace LiskVerif.Verify
open LiskVerif.BFT

/-! ### the specification: every rule the property lists -/

/-- a valid aggregate commit; `bound` selects whether the next-BFT-parameters bound is part of it -/
def ACValid (bound : Bool) (n : Node) (ac : AC) : Prop :=
  (ac.bitsLen = 0 ∧ ac.sigLen = 0 ∧ ac.height = n.bft.mhc) ∨
  ((ac.bitsLen ≠ 0 ∧ ac.sigLen ≠ 0) ∧ n.bft.mhc < ac.height ∧ ac.height ≤ n.bft.mhpc ∧
    nextBoundViolated bound n.bft ac.height = false ∧
    ac.height ≤ n.tipHeight ∧ (getParams n.bft ac.height).isSome = true ∧ ac.sigOK = true)

/-- the block executes: the vote update and the application succeed, every transaction is
verified Ok and not Invalid on execution, a parameter update (if any) is admissible -/
def ExecOK (n : Node) (b : Cand) : Prop :=
  b.abiInit = true ∧ b.abiVerifyAssets = true ∧ b.abiBefore = true ∧ b.abiAfter = true ∧
  (∀ t ∈ b.txs, t.1 = TxV.ok ∧ t.2 ≠ TxV.error ∧ t.2 ≠ TxV.invalid) ∧
  (storeAfterBFT n b).isSome = true ∧ infoOKAfterBFT n b = true ∧ changeOK n b = true ∧
  nextParamsOK n b = true ∧ b.nEvents ≤ maxEventsPerBlock

/-- two parts of `ExecOK` by name: the verdicts on the transactions, and the event count -/
theorem ExecOK.txs {n : Node} {b : Cand} (h : ExecOK n b) :
    ∀ t ∈ b.txs, t.1 = TxV.ok ∧ t.2 ≠ TxV.error ∧ t.2 ≠ TxV.invalid := h.2.2.2.2.1

theorem ExecOK.eventCount {n : Node} {b : Cand} (h : ExecOK n b) : b.nEvents ≤ maxEventsPerBlock :=
  h.2.2.2.2.2.2.2.2.2

structure SpecValid (bound : Bool) (n : Node) (b : Cand) : Prop where
  version : b.version = 2
  height : b.height = n.tipHeight + 1
  link : b.prevID = n.tipID
  lengths : b.prevID.length = 32 ∧ b.gen.length = 20 ∧ b.sigLen = 64
  /-- the header carries a 32-byte state root (an empty one would switch the application's comparison off) -/
  stateRootLength : b.stateRootLen = 32
  slotLater : slotOf n.cfg n.tipTimestamp < slotOf n.cfg b.timestamp
  notFuture : slotOf n.cfg b.timestamp ≤ slotOf n.cfg n.cfg.now
  /-- the generator assigned to the slot … -/
  generator : slotGenerator n n.bft b = some b.gen
  /-- … signed all header fields for this chain ID -/
  signature : b.sigOK = true
  maxHeightPrevoted : b.mhp = n.bft.mhp
  notContradicting : isContradicting n.bft b = false
  aggregateCommit : ACValid bound n b.ac
  transactionRoot : b.txRootOK = true
  assets : b.assets = AssetsV.ok
  assetRoot : b.assetRootOK = true
  eventRoot : b.eventRootOK = true
  validatorsHash : b.vhOK = true
  stateRoot : b.commitOK = true
  transactionsStatic : ∀ v ∈ b.txStatic, v = true
  payloadSize : b.payloadSize ≤ n.cfg.maxTxLen
  executes : ExecOK n b

/-- the model accepts the block (`Block.Validate` and `processValidated` return nil) -/
def accepts (n : Node) (b : Cand) : Prop := (applyBlock n b).2 = none

/-! ### helper equivalences -/

/-- the error `applyBlock` answers is the first failing rule of `checkList` -/
theorem applyBlock_err (n : Node) (b : Cand) :
    (applyBlock n b).2 = firstFailure (checkList n b) := by
  unfold applyBlock checkList
  rw [List.append_assoc, firstFailure_append, ← validate_eq, ← processValidated_err]
  cases validate b <;> rfl

/-- every rule of `validateChecks` passes iff the static conditions on the block hold (likewise below for the other
parts of `checkList`: all rules of the part pass iff the conditions it tests hold) -/
theorem validateChecks_all (b : Cand) :
    (∀ p ∈ validateChecks b, p.2 = true) ↔
      (b.prevID.length = 32 ∧ b.gen.length = 20 ∧ b.sigLen = 64 ∧ b.stateRootLen = 32) ∧ (∀ v ∈ b.txStatic, v = true) ∧
      b.txRootOK = true ∧ b.assets = AssetsV.ok ∧ b.assetRootOK = true := by
  unfold validateChecks
  simp only [List.cons_append, List.nil_append, List.forall_mem_cons, List.forall_mem_append,
    List.forall_mem_map, decide_eq_true_eq]
  have ha : (b.assets ≠ AssetsV.unsorted ∧ b.assets ≠ AssetsV.duplicate) ↔ b.assets = AssetsV.ok := by
    cases b.assets <;> simp
  constructor
  · rintro ⟨h1, h2, h3, h3', h4, h5, h6, h7, h8, _⟩
    exact ⟨⟨h1, h2, h3, h3'⟩, h4, h5, ha.mp ⟨h6, h7⟩, h8⟩
  · rintro ⟨⟨h1, h2, h3, h3'⟩, h4, h5, h6, h7⟩
    exact ⟨h1, h2, h3, h3', h4, h5, (ha.mpr h6).1, (ha.mpr h6).2, h7, by simp⟩

theorem acChecks_all (n : Node) (ac : AC) :
    (∀ p ∈ acChecks n n.bft ac, p.2 = true) ↔ ACValid n.cfg.acBound n ac := by
  unfold acChecks ACValid
  by_cases h0 : ac.bitsLen = 0 ∧ ac.sigLen = 0 ∧ ac.height = n.bft.mhc
  · simp [h0]
  · simp only [h0, if_false, false_or, List.forall_mem_cons, decide_eq_true_eq, Bool.not_eq_true']
    constructor
    · rintro ⟨h1, h2, h3, h4, h5, h6, h7, _⟩
      exact ⟨h1, h2, h3, h4, h5, h6, h7⟩
    · rintro ⟨h1, h2, h3, h4, h5, h6, h7⟩
      exact ⟨h1, h2, h3, h4, h5, h6, h7, by simp⟩

theorem verifyChecks_all (n : Node) (b : Cand) :
    (∀ p ∈ verifyChecks n n.bft b, p.2 = true) ↔
      b.version = 2 ∧ b.height = n.tipHeight + 1 ∧ b.prevID = n.tipID ∧
      b.payloadSize ≤ n.cfg.maxTxLen ∧ slotOf n.cfg b.timestamp ≤ slotOf n.cfg n.cfg.now ∧
      slotOf n.cfg n.tipTimestamp < slotOf n.cfg b.timestamp ∧
      slotGenerator n n.bft b = some b.gen ∧ b.mhp = n.bft.mhp ∧ isContradicting n.bft b = false ∧
      ACValid n.cfg.acBound n b.ac ∧ b.sigOK = true := by
  rw [← acChecks_all]
  unfold verifyChecks
  simp only [List.cons_append, List.nil_append, List.forall_mem_cons, List.forall_mem_append,
    decide_eq_true_eq, Bool.not_eq_true']
  constructor
  · rintro ⟨h1, h2, h3, h4, h5, h6, _, h7, h8, h9, h10, h11, _⟩
    exact ⟨h1, h2, h3, h4, h5, h6, h7, h8, h9, h10, h11⟩
  · rintro ⟨h1, h2, h3, h4, h5, h6, h7, h8, h9, h10, h11⟩
    exact ⟨h1, h2, h3, h4, h5, h6, by simp [h7], h7, h8, h9, h10, h11, by simp⟩

theorem txChecks_all (l : List (TxV × TxV)) :
    (∀ p ∈ txChecks l, p.2 = true) ↔ ∀ t ∈ l, t.1 = TxV.ok ∧ t.2 ≠ TxV.error ∧ t.2 ≠ TxV.invalid := by
  induction l with
  | nil => simp [txChecks]
  | cons t rest ih =>
    obtain ⟨v, e⟩ := t
    simp only [txChecks, List.cons_append, List.nil_append, List.forall_mem_cons, ih,
      decide_eq_true_eq]
    constructor
    · rintro ⟨_, h2, h3, h4, h5⟩
      exact ⟨⟨h2, h3, h4⟩, h5⟩
    · rintro ⟨⟨h2, h3, h4⟩, h5⟩
      exact ⟨by simp [h2], h2, h3, h4, h5⟩

theorem execChecks_all (n : Node) (b : Cand) :
    (∀ p ∈ execChecks n b, p.2 = true) ↔ (ExecOK n b ∧ b.vhOK = true ∧ b.eventRootOK = true ∧ b.commitOK = true) := by
  unfold execChecks ExecOK
  simp only [List.cons_append, List.nil_append, List.forall_mem_cons, List.forall_mem_append,
    txChecks_all, decide_eq_true_eq]
  constructor
  · rintro ⟨h1, h2, h3, h4, h5, h6, h7, h8, h9, h10, h11, h12, h13, _⟩
    exact ⟨⟨h1, h2, h5, h7, h6, h3, h4, h8, h9, h11⟩, h10, h12, h13⟩
  · rintro ⟨⟨h1, h2, h5, h7, h6, h3, h4, h8, h9, h11⟩, h10, h12, h13⟩
    exact ⟨h1, h2, h3, h4, h5, h6, h7, h8, h9, h10, h11, h12, h13, by simp⟩

/-- The rules of `checkList` stand in the order the code evaluates them, the fields of `SpecValid` in the order of the
property text: this proof, like the five `*_all` lemmas above, is that permutation written out position by position — a
rule moved in `Model/Verify.lean` shows up here. -/
theorem accepts_iff (n : Node) (b : Cand) : accepts n b ↔ SpecValid n.cfg.acBound n b := by
  unfold accepts
  rw [applyBlock_err, firstFailure_none_iff]
  unfold checkList
  simp only [List.forall_mem_append, validateChecks_all, verifyChecks_all, execChecks_all]
  constructor
  · rintro ⟨⟨⟨⟨l1, l2, l3, l4⟩, hs, h3, h4, h5⟩, v1, v2, v3, v4, v5, v6, v7, v8, v9, v10, v11⟩, e1, e2, e3, e4⟩
    exact ⟨v1, v2, v3, ⟨l1, l2, l3⟩, l4, v6, v5, v7, v11, v8, v9, v10, h3, h4, h5, e3, e2, e4, hs, v4, e1⟩
  · intro h
    exact ⟨⟨⟨⟨h.lengths.1, h.lengths.2.1, h.lengths.2.2, h.stateRootLength⟩, h.transactionsStatic, h.transactionRoot, h.assets, h.assetRoot⟩,
      h.version, h.height, h.link, h.payloadSize, h.notFuture, h.slotLater, h.generator,
      h.maxHeightPrevoted, h.notContradicting, h.aggregateCommit, h.signature⟩,
      h.executes, h.validatorsHash, h.eventRoot, h.stateRoot⟩

/-! ### acceptance: the node afterwards -/

/-- a rejected block leaves the node as it was -/
theorem applyBlock_rejected_node (n : Node) (b : Cand) (e : Err) (h : (applyBlock n b).2 = some e) :
    (applyBlock n b).1 = n := by
  unfold applyBlock at h ⊢
  cases hv : validate b with
  | some e' => rfl
  | none =>
    simp only [hv] at h ⊢
    rcases processValidated_cases n b with ⟨e', he, _⟩ | ⟨s2, _, he, _⟩ <;> rw [he] at h ⊢
    cases h

/-- an accepted block is added to the node, with the BFT store that the execution of the block produced -/
theorem applyBlock_accepted_node (n : Node) (b : Cand) (h : (applyBlock n b).2 = none) :
    ∃ s2, storeAfterExec n b = some s2 ∧ (applyBlock n b).1 = addBlock n s2 b := by
  unfold applyBlock at h ⊢
  cases hv : validate b with
  | some e' => simp [hv] at h
  | none =>
    simp only [hv] at h ⊢
    rcases processValidated_cases n b with ⟨e', he, _⟩ | ⟨s2, hs2, he, _⟩ <;> rw [he] at h ⊢
    · cases h
    · exact ⟨s2, hs2, rfl⟩

/-- the blocks offered one after the other (each through `Block.Validate` + `processValidated`) -/
def runAll (n : Node) : List Cand → Node
  | [] => n
  | b :: rest => runAll (applyBlock n b).1 rest

end LiskVerif.Verify

/-! ## property theorems -/

/-- The error returned by `Block.Validate` + `processValidated` is the error of the first failing
rule in code order. -/
theorem C03_first_failure_order (n : Node) (b : Cand) :
    (applyBlock n b).2 = firstFailure (checkList n b) := applyBlock_err n b

/-- … i.e. error `e` is returned iff some rule with error class `e` fails and every rule before it
in `checkList` holds. -/
theorem C03_first_failure_characterisation (n : Node) (b : Cand) (e : Err) :
    (applyBlock n b).2 = some e ↔
      ∃ pre post, checkList n b = pre ++ (e, false) :: post ∧ ∀ p ∈ pre, p.2 = true := by
  rw [applyBlock_err, firstFailure_some_iff]

/-- Accepted ⇔ every rule holds, for both versions of the repository: the next-BFT-parameters bound
of the aggregate commit is part of the conjunction exactly when the code enforces it
(`Config.acBound`). -/
theorem C03_accept_iff_spec_partial (n : Node) (b : Cand) :
    accepts n b ↔ SpecValid n.cfg.acBound n b := accepts_iff n b

/-- **Accepted ⇔ every rule the property lists holds** (repository with the C03 fixes and the
aggregate-commit bound fix). -/
theorem C03_accept_iff_spec (n : Node) (b : Cand) (hb : n.cfg.acBound = true) :
    accepts n b ↔ SpecValid true n b := by
  rw [accepts_iff, hb]

/-- The full statement without a hypothesis on the configuration: false, because the model also
covers the code before the aggregate-commit bound fix (see below). -/
def C03_accept_iff_spec_Statement : Prop := ∀ (n : Node) (b : Cand), accepts n b ↔ SpecValid true n b

/-- Every exit with an error returns the node unchanged: chain, tip, consensus store, finalized
height and the published events. -/
theorem C03_reject_leaves_state (n : Node) (b : Cand) (e : Err) (h : (applyBlock n b).2 = some e) :
    (applyBlock n b).1 = n := applyBlock_rejected_node n b e h

/-- The same for `Executer.process`: an identical block, a rejected block and a block that is not a
successor of the tip leave the node unchanged (nothing is published). -/
theorem C03_process_not_accepted_leaves_state (n : Node) (b : Cand)
    (h : (process n b).2 ≠ Outcome.accepted) : (process n b).1 = n := by
  unfold process at h ⊢
  by_cases h1 : b.id = n.tipID
  · simp [h1]
  · simp only [h1, if_false] at h ⊢
    by_cases h2 : b.height = n.tipHeight + 1 ∧ b.prevID = n.tipID
    · simp only [h2, and_self, if_true] at h ⊢
      have hr := applyBlock_rejected_node n b
      generalize applyBlock n b = r at h hr
      obtain ⟨n', oe⟩ := r
      cases oe with
      | some e => exact hr e rfl
      | none => simp at h
    · simp [h2]

/-- What acceptance does: one block appended, the staged consensus store committed, finalized
height raised to `maxHeightPrecommitted` if that is larger, and the publications in order. -/
theorem C03_accept_effect (n : Node) (b : Cand) (h : accepts n b) :
    ∃ s2, storeAfterExec n b = some s2 ∧
      let n' := (applyBlock n b).1
      n'.tipHeight = b.height ∧ n'.tipID = b.id ∧ n'.chain = (b.height, b.id) :: n.chain ∧
      n'.bft = s2 ∧ n'.finalized = max n.finalized s2.mhpc ∧ n'.cfg = n.cfg ∧
      n'.events = n.events ++
        (if s2.mhpc > n.finalized then [Ev.finalize n.finalized s2.mhpc b.height] else []) ++
        [Ev.newBlock b.height b.id b.nEvents] ++
        (match b.change with
          | some c => [Ev.validators c.generators.length c.precommit c.cert]
          | none => []) := by
  obtain ⟨s2, h1, h2⟩ := applyBlock_accepted_node n b h
  refine ⟨s2, h1, ?_⟩
  simp only [h2, addBlock, decide_eq_true_eq, true_and]
  refine ⟨?_, rfl⟩
  by_cases hm : s2.mhpc > n.finalized
  · simp [hm]; omega
  · simp [hm]; omega

/-- Over any sequence of offered blocks the chain only grows by offered blocks that satisfy every rule against SOME
node state with the configuration of `n` (the statement does not say that this state is the one the block was
offered to; `C03_history_rejected_invisible` in Props/C03_More.lean ties the states to the run); everything else is
still the old chain. -/
theorem C03_history_only_valid_blocks (bs : List Cand) (n : Node) (e : Nat × Bytes)
    (he : e ∈ (runAll n bs).chain) :
    e ∈ n.chain ∨ ∃ n' b, b ∈ bs ∧ n'.cfg = n.cfg ∧ SpecValid n.cfg.acBound n' b ∧ e = (b.height, b.id) := by
  induction bs generalizing n with
  | nil => exact Or.inl he
  | cons b rest ih =>
    simp only [runAll] at he
    cases hr : (applyBlock n b).2 with
    | some err =>
      rw [applyBlock_rejected_node n b err hr] at he
      rcases ih n he with h | ⟨n', b', hb', hc, hs, heq⟩
      · exact Or.inl h
      · exact Or.inr ⟨n', b', List.mem_cons_of_mem _ hb', hc, hs, heq⟩
    | none =>
      obtain ⟨s2, _, hn⟩ := applyBlock_accepted_node n b hr
      have hcfg : (applyBlock n b).1.cfg = n.cfg := by rw [hn]; rfl
      have hchain : (applyBlock n b).1.chain = (b.height, b.id) :: n.chain := by rw [hn]; rfl
      rcases ih (applyBlock n b).1 he with h | ⟨n', b', hb', hc, hs, heq⟩
      · rw [hchain] at h
        rcases List.mem_cons.mp h with h | h
        · exact Or.inr ⟨n, b, by simp, rfl, (accepts_iff n b).mp hr, h⟩
        · exact Or.inl h
      · rw [hcfg] at hc hs
        exact Or.inr ⟨n', b', List.mem_cons_of_mem _ hb', hc, hs, heq⟩

/-! ### the signature covers every header field -/

/-- By the regenerated schema table: the signed encoding of a block header consists of exactly the
fields of `blockchain.BlockHeader` without field 15 (the signature), same numbers, kinds and order.
A header field added without adding it to `signingBlockHeader` breaks this theorem. -/
theorem C03_signature_covers_all_fields :
    ∃ hdr sig, Gen.allSchemas.find "blockchain.BlockHeader" = some hdr ∧
      Gen.allSchemas.find "blockchain.signingBlockHeader" = some sig ∧
      sig.enc = hdr.enc.filter (fun f => f.num != 15) ∧
      (hdr.enc.filter (fun f => f.num == 15)).map (·.kind) = [Codec.Kind.bytes] ∧
      (hdr.enc.map (·.num)) = (List.range 16).drop 1 := by
  refine ⟨_, _, rfl, rfl, ?_, ?_, ?_⟩ <;> decide +kernel

/-- The signed encoding determines every signed field: two well-typed value lists of the
`signingBlockHeader` schema (version … aggregateCommit, the nested aggregate commit present) with the
same signing bytes are equal — no alteration of a header field can keep the signed message.
(From the one-level-nesting round trip of the codec model, `C08_roundtrip_nested1`.) -/
theorem C03_signing_bytes_injective (sig : Codec.Schema)
    (hs : Gen.allSchemas.find "blockchain.signingBlockHeader" = some sig)
    (v1 v2 : List Codec.Value)
    (h1 : C08Typed1 Gen.allSchemas Codec.asciiNFC sig.enc v1 = true)
    (h2 : C08Typed1 Gen.allSchemas Codec.asciiNFC sig.enc v2 = true)
    (l1 : (Codec.encode Gen.allSchemas Codec.asciiNFC sig v1).length < 2 ^ 63)
    (l2 : (Codec.encode Gen.allSchemas Codec.asciiNFC sig v2).length < 2 ^ 63)
    (heq : Codec.encode Gen.allSchemas Codec.asciiNFC sig v1 = Codec.encode Gen.allSchemas Codec.asciiNFC sig v2) :
    v1 = v2 := by
  have hn : C08Nested1 Gen.allSchemas sig = true := by
    have : (Gen.allSchemas.find "blockchain.signingBlockHeader").all (C08Nested1 Gen.allSchemas) = true := by
      decide +kernel
    rw [hs] at this
    exact this
  have r1 := (C08_roundtrip_nested1 Gen.allSchemas Codec.asciiNFC sig v1 hn h1 l1).1
  have r2 := (C08_roundtrip_nested1 Gen.allSchemas Codec.asciiNFC sig v2 hn h2 l2).1
  rw [heq, r2] at r1
  exact (Except.ok.inj r1).symm

/-- Header field 12 (`impliesMaxPrevotes`) is read by no rule: changing it never changes the verdict
(nothing on this path verifies the claim; it is not among the rules the property lists). -/
theorem C03_implies_max_prevotes_unchecked (n : Node) (b : Cand) (x : Bool) :
    (applyBlock n { b with impliesMaxPrevotes := x }).2 = (applyBlock n b).2 := by
  rw [applyBlock_err, applyBlock_err]
  rfl

/-! ### a concrete chain: non-vacuity and the missing conjunct -/

namespace LiskVerif.Verify.Example

def addr : Bytes := List.replicate 20 1
def bid (k : Nat) : Bytes := List.replicate 32 (UInt8.ofNat k)

def cfg (bound : Bool) : Config :=
  { genesisTimestamp := 1000, blockTime := 10, now := 100000, maxTxLen := 15360, acBound := bound }

/-- the consensus store after the genesis block: one validator of weight 1 -/
def genesisBFT : BFT.State :=
  match BFT.setParams (BFT.initGenesis 1 0) 1 1 [{ address := addr, weight := 1 }] with
  | .ok s => BFT.setKeys s [addr]
  | .error _ => BFT.initGenesis 1 0

def genesis (bound : Bool) : Node :=
  { cfg := cfg bound, tipHeight := 0, tipID := bid 0, tipTimestamp := 1000, chain := [(0, bid 0)],
    bft := genesisBFT, finalized := 0 }

/-- the honest block of height `k` (empty payload, empty aggregate commit at height 0) -/
def blk (k mhp : Nat) : Cand :=
  { version := 2, height := k, timestamp := 1000 + 10 * k, prevID := bid (k - 1), gen := addr,
    id := bid k, mhp := mhp, mhg := k - 1,
    ac := { height := 0, bitsLen := 0, sigLen := 0, sigOK := false }, sigLen := 64, sigOK := true }

/-- block 2 changes the BFT parameters (weight 2, thresholds 2): they become active at height 3 -/
def change : Change :=
  { precommit := 2, cert := 2, validators := [{ address := addr, weight := 2 }], generators := [addr] }

def history : List Cand := [blk 1 0, { blk 2 1 with change := some change }, blk 3 2, blk 4 3]

/-- after four blocks: tip 4, maxHeightPrecommitted 3, maxHeightCertified 0, parameters at 1 and 3 -/
def node4 (bound : Bool) : Node := runAll (genesis bound) history

/-- block 5 certifying height 3 although the parameters change at height 3 and nothing is
certified yet: LIP-0061 only allows heights ≤ 2 here -/
def skipping : Cand := { blk 5 4 with ac := { height := 3, bitsLen := 1, sigLen := 96, sigOK := true } }

instance (bound : Bool) (n : Node) (ac : AC) : Decidable (ACValid bound n ac) := by
  unfold ACValid; infer_instance

end LiskVerif.Verify.Example

open LiskVerif.Verify.Example in
/-- The code before the aggregate-commit bound fix (`acBound = false`) accepts a block whose
aggregate commit skips a change of BFT parameters: the conjunct that was missing. -/
theorem C03_missing_conjunct_counterexample :
    accepts (node4 false) skipping ∧ ¬ SpecValid true (node4 false) skipping := by
  refine ⟨by unfold accepts; decide +kernel, fun h => ?_⟩
  have := h.aggregateCommit
  revert this
  decide +kernel

open LiskVerif.Verify.Example in
/-- hence the unrestricted statement does not hold -/
theorem C03_accept_iff_spec_Statement_fails : ¬ C03_accept_iff_spec_Statement := by
  intro h
  exact C03_missing_conjunct_counterexample.2 ((h _ _).mp C03_missing_conjunct_counterexample.1)

open LiskVerif.Verify.Example in
/-- with the bound enforced the same block is rejected with the aggregate-commit error -/
theorem C03_bound_enforced_rejects : (applyBlock (node4 true) skipping).2 = some Err.acNextParams := by
  decide +kernel

/-! ### non-vacuity -/

section
open LiskVerif.Verify.Example

/-- `C03_accept_iff_spec`: a block that is accepted / satisfies the full specification exists -/
example : accepts (genesis true) (blk 1 0) := by unfold accepts; decide +kernel
example : SpecValid true (genesis true) (blk 1 0) :=
  (C03_accept_iff_spec _ _ rfl).mp (by unfold accepts; decide +kernel)
/-- … also with a non-empty aggregate commit inside the window -/
example : accepts (node4 true)
    { blk 5 4 with ac := { height := 2, bitsLen := 1, sigLen := 96, sigOK := true } } := by
  unfold accepts; decide +kernel
/-- `C03_first_failure_order`: with two rules violated the earlier one in code order is reported -/
example : (applyBlock (genesis true) { blk 1 0 with eventRootOK := false, mhp := 7 }).2 = some Err.mhp := by
  decide +kernel
example : (applyBlock (genesis true) { blk 1 0 with eventRootOK := false }).2 = some Err.eventRoot := by
  decide +kernel
example : (applyBlock (genesis true) { blk 1 0 with txs := [(TxV.ok, TxV.invalid)], commitOK := false }).2
    = some Err.txExecute := by decide +kernel
example : (applyBlock (genesis true) { blk 1 0 with txStatic := [true, false], payloadSize := 99999 }).2
    = some Err.txStatic := by decide +kernel
example : (applyBlock (genesis true) { blk 1 0 with payloadSize := 15361 }).2 = some Err.payloadSize := by
  decide +kernel
/-- `C03_signing_bytes_injective`: well-typed value lists of the signing schema exist -/
example : (Gen.allSchemas.find "blockchain.signingBlockHeader").any (fun s =>
    C08Typed1 Gen.allSchemas Codec.asciiNFC s.enc
      [.uint 2, .uint 1010, .uint 1, .bytes (bid 0), .bytes addr, .bytes (bid 9), .bytes (bid 8), .bytes (bid 7),
       .bytes (bid 6), .uint 0, .uint 0, .bool false, .bytes (bid 5), .msg true [.uint 0, .bytes [], .bytes []]]) = true := by
  decide +kernel
/-- `C03_reject_leaves_state`: the hypothesis is satisfiable (a rejected block exists), and
`C03_accept_effect` really changes the node -/
example : ∃ e, (applyBlock (genesis true) { blk 1 0 with sigOK := false }).2 = some e :=
  ⟨Err.signature, by decide +kernel⟩
example : (applyBlock (genesis true) (blk 1 0)).1.tipHeight = 1 ∧
    (applyBlock (genesis true) (blk 1 0)).1.events = [Ev.newBlock 1 (bid 1) 0] := by decide +kernel
/-- `C03_history_only_valid_blocks`: the history above really extends the chain -/
example : (node4 true).chain.map (·.1) = [4, 3, 2, 1, 0] ∧ (node4 true).finalized = 3 := by decide +kernel
/-- `C03_process_not_accepted_leaves_state`: identical block and non-successor are such exits -/
example : (Verify.process (node4 true) (blk 4 3)).2 = Outcome.ignored := by decide +kernel
example : (Verify.process (node4 true) (blk 7 3)).2 = Outcome.other := by decide +kernel

end
