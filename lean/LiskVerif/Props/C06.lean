/-
C06 — Certificates: aggregate commits are sound, bounded and self-consistent.

Theorems about `LiskVerif.Model.Cert` (model of pkg/consensus/certificate.go,
pkg/consensus/certificate/*.go, pkg/crypto/bls.go `Bits`/aggregate functions) under the ideal
aggregate-signature functionality described in the model file.  The pool-invariant theorems
(`singleCommitValidator`, `Certify`, pool operations) and the bitmap range theorems are in
`Props/C06_Pool.lean`.
-/
import LiskVerif.Lemmas.CertPool

open LiskVerif LiskVerif.Cert

/-- Soundness of `verifyAggregateCommit`: an accepted non-empty aggregate commit has a height
strictly above the last certified height, not above the precommitted height and strictly below every
parameter change after `maxHeightCertified + 1`; its signature is the aggregate, over the
certificate of the node's OWN block at that height for this chain id, of exactly a set `vs` of
validators of that height whose weight reaches that height's certificate threshold. -/
theorem C06_verify_sound (st : State) (ac : AggCommit)
    (hacc : verifyAggregateCommit st ac = .accept) (hne : ac.isEmpty = false) :
    st.mhc < ac.height ∧ ac.height ≤ st.mhpc ∧
    (∀ e ∈ st.params, st.mhc + 1 < e.1 → ac.height < e.1) ∧
    ∃ (hd : Header) (p : Params) (signers : List Nat) (vs : List Validator),
      st.blockAt ac.height = some hd ∧ getParams st.params ac.height = some p ∧
      ac.sig = some (.agg signers (certMsg st hd)) ∧
      vs.Sublist (sortVals p.validators) ∧ signers.Perm (vs.map (·.key)) ∧
      p.threshold ≤ (vs.map (·.weight)).sum := by
  rcases verifyAggregateCommit_accept hacc with ⟨he, -⟩ | ⟨sig, hsig, -, h1, h2, hc⟩
  · exact nomatch hne.symm.trans he
  obtain ⟨h2a, h2b⟩ := (gacStart_iff st ac.height).mp h2
  obtain ⟨hd, p, hhd, hp, hw⟩ := verifyCertificate_accept.mp hc
  obtain ⟨-, -, hthr, hfav⟩ := verifyWeighted_iff.mp hw
  obtain ⟨signers, hs, hperm⟩ := fastAggregateVerify_iff.mp hfav
  -- the bitmap selects a sublist of the validators in verification order
  rw [selectedKW_map] at hperm hthr
  simp only [sumWeights, List.map_map, Function.comp_def] at hperm hthr
  exact ⟨h1, h2a, h2b, hd, p, signers, selVals (sortVals p.validators) ac.bits, hhd, hp, by rw [hsig, hs],
    selVals_sublist _ _, hperm, hthr⟩

/-- An accepted aggregate commit is empty iff its height equals `maxHeightCertified`. -/
theorem C06_empty_commit_only_at_mhc (st : State) (ac : AggCommit)
    (hacc : verifyAggregateCommit st ac = .accept) :
    (ac.isEmpty = true ↔ ac.height = st.mhc) := by
  rcases verifyAggregateCommit_accept hacc with ⟨he, hh⟩ | ⟨sig, hsig, -, h1, -⟩
  · exact ⟨fun _ => hh, fun _ => he⟩
  · have hne : ac.isEmpty = false := by rw [AggCommit.isEmpty, hsig, Bool.and_comm]; rfl
    exact ⟨fun he => (nomatch hne.symm.trans he), fun hh => absurd hh (Nat.ne_of_gt h1)⟩

/-- The empty commit at `maxHeightCertified` is always accepted. -/
theorem C06_empty_commit_accepted (st : State) : verifyAggregateCommit st (emptyCommit st) = .accept := by
  simp [verifyAggregateCommit, emptyCommit, AggCommit.isEmpty]

/-- Self-consistency: for every pool satisfying the pool invariant (every entry is a commit for
some block by a validator active at that block's height with a signature that verifies for that
block's certificate; at most one entry per (block, signer) - entries for blocks of abandoned forks
are allowed), every chain state consistent with the block context and every well-formed parameter
store, the aggregate commit assembled by `GetAggregateCommit` is accepted by the node's own
`verifyAggregateCommit` in the same state.  This is where the key ORDER of
`SingleCommits.Aggregate` and of the verification must agree, and where entries of replaced blocks
must be left out. -/
theorem C06_assembled_accepted (st : State) (ctx : BlockCtx) (pool : Pool) (ac : AggCommit)
    (hwf : StoreWf st.params) (hcons : Consistent st ctx) (hinv : PoolInv ctx st.chainId pool)
    (hg : getAggregateCommit st pool = .ok ac) : verifyAggregateCommit st ac = .accept := by
  rcases getAggregateCommit_spec st pool ctx hwf hcons hinv with
    h | ⟨ac', h, hA⟩ | ⟨h, _⟩
  · cases h.symm.trans hg
    exact C06_empty_commit_accepted st
  · cases h.symm.trans hg
    exact hA.accepted
  · cases h.symm.trans hg

/-- Under the same hypotheses, when the chain has a block for every height up to
`maxHeightPrecommited`, `GetAggregateCommit` neither fails nor panics. -/
theorem C06_assembled_total (st : State) (ctx : BlockCtx) (pool : Pool)
    (hwf : StoreWf st.params) (hcons : Consistent st ctx) (hinv : PoolInv ctx st.chainId pool)
    (hblocks : ∀ h, st.mhc < h → h ≤ st.mhpc → st.blockAt h ≠ none) :
    ∃ ac, getAggregateCommit st pool = .ok ac :=
  getAggregateCommit_total hwf hcons hinv fun x h1 h2 =>
    hblocks x h1 (Nat.le_trans h2 (gacStart_le_mhpc st))

/-! ### the order mismatch of the unfixed code -/

/-- four validators (address = index), BLS keys 10 < 20 < 30 < 40, weight 1, threshold 3 -/
def C06cxParams : Params := ⟨[⟨0, 10, 1⟩, ⟨1, 20, 1⟩, ⟨2, 30, 1⟩, ⟨3, 40, 1⟩], 3⟩

/-- chain of 11 blocks, heights 0..10 (block id = 100 + height), height 5 precommitted, nothing certified -/
def C06cxState : State :=
  { chainId := 1
    blockAt := fun h => if h ≤ 10 then some ⟨100 + h, 0⟩ else none
    params := [(1, C06cxParams)]
    mhpc := 5
    mhc := 0 }

/-- validators 1, 2 and 3 (the three largest keys) signed height 5 -/
def C06cxPool : Pool :=
  ⟨[⟨105, 5, 1, sign 20 ⟨1, 105⟩, false⟩, ⟨105, 5, 2, sign 30 ⟨1, 105⟩, false⟩, ⟨105, 5, 3, sign 40 ⟨1, 105⟩, false⟩], []⟩

theorem C06cx_wf : StoreWf C06cxState.params := by
  intro e he
  simp only [C06cxState, List.mem_singleton] at he
  subst he
  constructor <;> decide

/-- the block context of the example: the blocks 101..110 of the example chain -/
def C06cxCtx : BlockCtx := fun b => if 101 ≤ b ∧ b ≤ 110 then some (b - 100, C06cxParams) else none

theorem C06cx_getParams (h : Nat) : getParams C06cxState.params h = if 1 ≤ h then some C06cxParams else none := by
  simp only [C06cxState, getParams, getParamsEntry]
  split <;> simp_all

theorem C06cx_consistent : Consistent C06cxState C06cxCtx := by
  intro h hd hb
  by_cases hle : h ≤ 10
  · cases (if_pos hle).symm.trans hb
    rw [C06cx_getParams]
    by_cases h1 : 1 ≤ h
    · have hctx : C06cxCtx (100 + h) = some (h, C06cxParams) := by
        rw [C06cxCtx, if_pos ⟨by omega, by omega⟩, Nat.add_sub_cancel_left]
      rw [if_pos h1, hctx]
      exact ⟨fun p hp => by cases hp; rfl, fun _ p hp => by cases hp; rfl⟩
    · rw [if_neg h1]
      exact ⟨nofun, fun hlt => absurd hlt h1⟩
  · cases (if_neg hle).symm.trans hb

theorem C06cx_inv : PoolInv C06cxCtx C06cxState.chainId C06cxPool :=
  ⟨List.forall_mem_cons.mpr ⟨⟨C06cxParams, ⟨1, 20, 1⟩, rfl, rfl, rfl⟩,
    List.forall_mem_cons.mpr ⟨⟨C06cxParams, ⟨2, 30, 1⟩, rfl, rfl, rfl⟩,
    List.forall_mem_cons.mpr ⟨⟨C06cxParams, ⟨3, 40, 1⟩, rfl, rfl, rfl⟩, nofun⟩⟩⟩, by decide⟩

/-- The defect `c06-own-aggregate-rejected`: when `SingleCommits.Aggregate` numbers the bits in
DESCENDING key order (`AddressKeyPairs.Sort` of /repo without fixes/C06-*.patch) while the verification sorts ascending, the
aggregate of a 3-of-4 subset reaching the threshold (bits `07` instead of `0e`) is rejected by the
node's own verification, although the pool satisfies the invariant; with the ascending order the same
pool yields an accepted aggregate. -/
theorem C06_order_mismatch_counterexample :
    StoreWf C06cxState.params ∧ Consistent C06cxState C06cxCtx ∧ PoolInv C06cxCtx C06cxState.chainId C06cxPool ∧
    (∃ ac, getAggregateCommitOrd keyGe C06cxState C06cxPool = .ok ac ∧
      Bits.toBytes ac.bits = [0x07] ∧
      verifyAggregateCommit C06cxState ac = .reject .invalidCertificate) ∧
    (∃ ac, getAggregateCommit C06cxState C06cxPool = .ok ac ∧
      Bits.toBytes ac.bits = [0x0e] ∧
      verifyAggregateCommit C06cxState ac = .accept) := by
  refine ⟨C06cx_wf, C06cx_consistent, C06cx_inv, ⟨_, rfl, by decide, by decide⟩, ⟨_, rfl, by decide, by decide⟩⟩

/-! ### non-vacuity -/

/-- `C06_verify_sound` / `C06_assembled_accepted` are not vacuous: the example pool yields a
non-empty accepted aggregate commit for height 5. -/
example : ∃ ac, getAggregateCommit C06cxState C06cxPool = .ok ac ∧ ac.isEmpty = false ∧ ac.height = 5 ∧
    verifyAggregateCommit C06cxState ac = .accept :=
  ⟨_, rfl, by decide, by decide, C06_assembled_accepted _ _ _ _ C06cx_wf C06cx_consistent C06cx_inv rfl⟩

/-- a stale entry (validator 0 signed another block `999` at height 5 before a reorganisation) does
not spoil the aggregate: it is left out -/
example : ∃ ac, getAggregateCommit C06cxState (C06cxPool.add ⟨999, 5, 0, sign 10 ⟨1, 999⟩, false⟩) = .ok ac ∧
    Bits.toBytes ac.bits = [0x0e] ∧ verifyAggregateCommit C06cxState ac = .accept :=
  ⟨_, rfl, by decide, by decide⟩

/-- a tampered variant (one more bit) of the accepted aggregate is rejected -/
example : verifyAggregateCommit C06cxState
    ⟨5, Bits.ofBytes [0x0f], some (.agg [20, 30, 40] ⟨1, 105⟩)⟩ = .reject .invalidCertificate := by decide

/-- the height bounds are enforced: a correctly signed commit above `maxHeightPrecommited` -/
example : verifyAggregateCommit C06cxState
    ⟨6, Bits.ofBytes [0x0e], some (.agg [20, 30, 40] ⟨1, 106⟩)⟩ = .reject .abovePrecommitted := by decide

/-- the next-parameter bound is enforced: with a parameter change stored for height 4 the block 3
authenticating it has to be certified before any later height -/
example : verifyAggregateCommit { C06cxState with params := [(1, C06cxParams), (4, C06cxParams)] }
    ⟨5, Bits.ofBytes [0x0e], some (.agg [20, 30, 40] ⟨1, 105⟩)⟩ = .reject .beyondNextParams := by decide

example : verifyAggregateCommit { C06cxState with params := [(1, C06cxParams), (4, C06cxParams)] }
    ⟨3, Bits.ofBytes [0x0e], some (.agg [20, 30, 40] ⟨1, 103⟩)⟩ = .accept := by decide

/-- `C06_empty_commit_only_at_mhc` is not vacuous -/
example : verifyAggregateCommit C06cxState ⟨0, [], none⟩ = .accept ∧
    verifyAggregateCommit C06cxState ⟨1, [], none⟩ = .reject .emptyField := by decide

/-! ### retention -/

/-- Retention consistency: a single commit that the gossip validator adds to the pool in some state
is kept by the cleanup step of `broadcastCertificate` in the same state (the acceptance range
`(removal height, ..]`, `[maxHeightPrecommited - 100, maxHeightPrecommited]` or "authenticates a
parameter change" is the same in both places).  In /repo without fixes/C06-*.patch the cleanup drops the commits
of `maxHeightPrecommited` itself and the validator tests the parameters of the wrong height. -/
theorem C06_cleanup_keeps_accepted (st : State) (pool : Pool) (m : Incoming) (fin : Header)
    (hfin : st.blockAt st.mhpc = some fin)
    (hadd : (scvOne st pool m).1 ≠ pool) : cleanupKeep st fin.acHeight m.height = true := by
  rcases scvOne_stops_or_checks st pool m with ⟨r, hr, -⟩ | ⟨fin', hd, hg⟩
  · exact absurd (congrArg Prod.fst hr) hadd
  · cases hfin.symm.trans hg.final
    exact (cleanupKeep_iff st _ _).mpr ⟨hg.above, hg.stored⟩

example : (scvOne C06cxState Pool.empty ⟨true, 105, 5, 1, sign 20 ⟨1, 105⟩⟩).1 ≠ Pool.empty ∧
    cleanupKeep C06cxState 0 5 = true := by
  constructor
  · intro h
    have := congrArg Pool.size h
    revert this
    decide
  · decide
