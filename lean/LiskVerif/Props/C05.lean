/-
C05 — Deleting the tip block restores the exact previous node state.

Theorems about `LiskVerif.Model.Node` (the setting `Ref`, `StepOK`, `RunOK`, `BaseOK` is described at the head of
Props/C04.lean and defined in Lemmas/NodeRef.lean, NodeLoad.lean, NodeTrans.lean). The volatile keys `Vol fin` are exactly what the property exempts: the
finalized-height marker, state diffs below and event entries at or below the finalized height
`fin` (pruned by `processValidated` / `saveBlock`), temporary blocks.

The consensus-store part rests on `C12_revert_exact` and on the lookup form of a commit,
`DiffDB.slookup_commitCache` (both through `revert_after_commit`); the index part on the key-set symmetry of `saveBlock` / `removeBlock`.
The hypothesis `StepOK.fresh` contains "no transaction of the block is already stored":
`C05_shared_txid_counterexample` shows that it cannot be dropped (known finding
`c05-shared-txid-lost`, reproduced on the real node by the harness).
-/
import LiskVerif.Lemmas.NodeMore
import LiskVerif.Lemmas.NodeExample

open LiskVerif LiskVerif.Node
open LiskVerif.DiffDB (Store KV CV Cache Diff slookup sset sdel NoDupKeys)

/-- **Key-set symmetry** of `saveBlock` (+ the state-diff write of `processValidated`) and
`removeBlock` (+ the state-diff delete of `deleteBlock`): every key written for a block is deleted
when the block is removed, and the only key deleted without having been written is the event key
of a block that emitted no events (written only if non-empty, deleted unconditionally: harmless). -/
theorem C05_keyset_symmetry (cd : Codecs) (b : Block) (x : Exec) (saveTemp : Bool) :
    (∀ k ∈ (persistOps cd b x).map BOp.key,
      k ∈ (BOp.del (kDiff b.hdr.height) :: removeBlockOps b saveTemp).map BOp.key) ∧
    (∀ k ∈ (BOp.del (kDiff b.hdr.height) :: removeBlockOps b false).map BOp.key,
      k ∈ (persistOps cd b x).map BOp.key ∨ (x.events = [] ∧ k = kEvents b.hdr.height)) :=
  ⟨persist_keys_removed cd b x saveTemp, removed_keys_persist cd b x⟩

/-- **delete ∘ apply = identity** on every key that is not volatile: after applying block `b` to
a state and deleting it again, every key of the database outside `Vol fin'` (`fin'` = the finalized
height after the two steps = `max fin mhpc'`) holds exactly what it held before — consensus (BFT)
store, block / height / transaction / asset / event indexes, state diffs — and the state is again
refined by the same chain (so everything can be repeated: any depth, any contents). -/
theorem C05_delete_apply_identity (cd : Codecs) (cfg : Cfg) (base : Store) (baseH : Nat)
    (hbase : BaseOK cd base baseH) (s s1 s2 : St) (c : Chain) (b : Block) (valid : Bool) (x : Exec)
    (removeTemp saveTemp : Bool) (r : Res)
    (hR : Ref cd base baseH s c) (hstep : StepOK cd base c b x)
    (ha : apply cd cfg s b valid x removeTemp = (s1, .ok))
    (hd : deleteTip cd cfg s1 saveTemp = (s2, r)) (hr : r.removed) :
    Ref cd base baseH s2 c ∧
    ∃ f, finOf s.db = some f ∧ finOf s2.db = some (max f x.mhpc) ∧
      ∀ k, ¬ Vol (max f x.mhpc) k → slookup s2.db k = slookup s.db k := by
  have hR1 := ref_apply hR hstep ha
  obtain ⟨b', x', c', hc, hR2, hfin2, _⟩ := ref_delete hbase hR1 hd hr
  have hce : c' = c := by
    simp only [List.cons.injEq] at hc; exact hc.2.symm
  subst hce
  obtain ⟨f, hf, _, _⟩ := hR.db.finOk
  have hm : x.mhpc < u32 := Nat.lt_of_le_of_lt hstep.mhpcLe hstep.block.heightLt
  have hf1 : finOf s1.db = some (max f x.mhpc) := finOf_apply_ok ha hf hm
  refine ⟨hR2, f, hf, by rw [hfin2]; exact hf1, ?_⟩
  intro k hk
  rw [hR2.db.agree _ (by rw [hfin2]; exact hf1) k hk]
  exact (hR.db.agree f hf k (fun hv => hk (Vol_mono (Nat.le_max_left _ _) hv))).symm

/-- **The persistent state is a function of the chain** (history independence): two states
refined by the same chain — however they were reached: directly, or through any number of
applications, deletions, failed blocks, tie-breaks, restarts — hold the same value under every key
that is not volatile for the larger of their finalized heights. -/
theorem C05_state_function_of_chain (cd : Codecs) (base : Store) (baseH : Nat) (s s' : St) (c : Chain)
    (hR : Ref cd base baseH s c) (hR' : Ref cd base baseH s' c) (f f' : Nat)
    (hf : finOf s.db = some f) (hf' : finOf s'.db = some f') (k : Bytes) (hk : ¬ Vol (max f f') k) :
    slookup s.db k = slookup s'.db k := by
  rw [hR.db.agree f hf k (fun hv => hk (Vol_mono (Nat.le_max_left _ _) hv)),
    hR'.db.agree f' hf' k (fun hv => hk (Vol_mono (Nat.le_max_right _ _) hv))]

/-- Every operation sequence keeps the state a function of the chain: the refinement is an
invariant of all histories (the chain `runC …` is the ghost chain: blocks applied and not removed). -/
theorem C05_refinement_invariant (cd : Codecs) (cfg : Cfg) (slot : Slot) (base : Store) (baseH : Nat)
    (hbase : BaseOK cd base baseH) (s : St) (c : Chain) (ops : List Op)
    (hR : Ref cd base baseH s c) (hok : RunOK cd cfg slot base s c ops) :
    Ref cd base baseH (run cd cfg slot s ops) (runC cd cfg slot s c ops) :=
  (trans_run hbase ops s c hR hok).ref

/-- **Reorganisation is confluent**: applying `b`, deleting it and applying the sibling `b'` ends
in the state reached by applying `b'` directly — on every key outside the volatile set of the
larger finalized height. If neither block advances finality that set is the volatile set of the
unchanged finalized height (nothing new is exempted) and the markers are equal. -/
theorem C05_reorg_confluence (cd : Codecs) (cfg : Cfg) (base : Store) (baseH : Nat)
    (hbase : BaseOK cd base baseH) (s s1 s2 s3 s3' : St) (c : Chain) (b b' : Block) (x x' : Exec)
    (v v' : Bool) (rt rt' rt'' st : Bool) (r : Res)
    (hR : Ref cd base baseH s c) (hstep : StepOK cd base c b x) (hstep' : StepOK cd base c b' x')
    (ha : apply cd cfg s b v x rt = (s1, .ok)) (hd : deleteTip cd cfg s1 st = (s2, r)) (hr : r.removed)
    (ha' : apply cd cfg s2 b' v' x' rt' = (s3, .ok)) (hdirect : apply cd cfg s b' v' x' rt'' = (s3', .ok)) :
    ∃ f, finOf s.db = some f ∧ finOf s3.db = some (max (max f x.mhpc) x'.mhpc) ∧
      finOf s3'.db = some (max f x'.mhpc) ∧
      (∀ k, ¬ Vol (max (max f x.mhpc) x'.mhpc) k → slookup s3.db k = slookup s3'.db k) ∧
      (x.mhpc ≤ f → x'.mhpc ≤ f → finOf s3.db = finOf s3'.db ∧
        ∀ k, ¬ Vol f k → slookup s3.db k = slookup s3'.db k) := by
  obtain ⟨hR2, f, hf, hf2, _⟩ := C05_delete_apply_identity cd cfg base baseH hbase s s1 s2 c b v x
    rt st r hR hstep ha hd hr
  have hm' : x'.mhpc < u32 := Nat.lt_of_le_of_lt hstep'.mhpcLe hstep'.block.heightLt
  have hR3 := ref_apply hR2 hstep' ha'
  have hR3' := ref_apply hR hstep' hdirect
  have hf3 := finOf_apply_ok ha' hf2 hm'
  have hf3' := finOf_apply_ok hdirect hf hm'
  have hmax : max (max (max f x.mhpc) x'.mhpc) (max f x'.mhpc) = max (max f x.mhpc) x'.mhpc := by omega
  refine ⟨f, hf, hf3, hf3', ?_, ?_⟩
  · intro k hk
    exact C05_state_function_of_chain cd base baseH s3 s3' _ hR3 hR3' _ _ hf3 hf3' k (by rw [hmax]; exact hk)
  · intro h1 h2
    have e1 : max (max f x.mhpc) x'.mhpc = f := by omega
    have e2 : max f x'.mhpc = f := by omega
    refine ⟨by rw [hf3, hf3', e1, e2], ?_⟩
    intro k hk
    exact C05_state_function_of_chain cd base baseH s3 s3' _ hR3 hR3' _ _ hf3 hf3' k
      (by rw [hmax, e1]; exact hk)

/-- **Reorganisation without a finality advance is confluent on ALL keys**: if neither block
raises the finalized height and no temporary copies are involved (`deleteBlock(…, false)`, as in the
tie-break path of `Executer.process`), then "apply `b`, delete it, apply the sibling `b'`" and
"apply `b'`" end in databases that agree on every key — marker, temporary blocks, old state diffs
and prunable events included. (`hfe`: the marker holds the 4 bytes `saveBlock` writes.) -/
theorem C05_reorg_confluence_all_keys (cd : Codecs) (cfg : Cfg) (base : Store) (baseH : Nat)
    (hbase : BaseOK cd base baseH) (s s1 s2 s3 s3' : St) (c : Chain) (b b' : Block) (x x' : Exec)
    (v v' : Bool) (rt' : Bool) (r : Res) (f : Nat)
    (hR : Ref cd base baseH s c) (hstep : StepOK cd base c b x) (hstep' : StepOK cd base c b' x')
    (hf : finOf s.db = some f) (hfe : slookup s.db kFin = some (encU32 f))
    (hnr : x.mhpc ≤ f) (hnr' : x'.mhpc ≤ f)
    (ha : apply cd cfg s b v x false = (s1, .ok)) (hd : deleteTip cd cfg s1 false = (s2, r))
    (hr : r.removed)
    (ha' : apply cd cfg s2 b' v' x' rt' = (s3, .ok)) (hdirect : apply cd cfg s b' v' x' rt' = (s3', .ok)) :
    ∀ k, slookup s3.db k = slookup s3'.db k := by
  intro k
  obtain ⟨hR2, f0, hf0, hf2, _⟩ := C05_delete_apply_identity cd cfg base baseH hbase s s1 s2 c b v x
    false false r hR hstep ha hd hr
  obtain rfl : f = f0 := Option.some.inj (hf.symm.trans hf0)
  rw [Nat.max_eq_left hnr] at hf2
  obtain ⟨_, _, fin3, _, _, _, _, hf3, hs3⟩ := apply_ok_inv ha'
  obtain ⟨_, _, fin3', _, _, _, _, hf3', hs3'⟩ := apply_ok_inv hdirect
  have e3 : fin3 = f := by rw [hf2] at hf3; exact (Option.some.inj hf3).symm
  have e3' : fin3' = f := by rw [hf] at hf3'; exact (Option.some.inj hf3').symm
  rw [e3] at hs3
  rw [e3'] at hs3'
  have hnf' : max f x'.mhpc = f := by omega
  have hh : b.hdr.height = tipH baseH c + 1 := (ref_apply hR hstep ha).db.wf.height
  have hh' : b'.hdr.height = tipH baseH c + 1 := (ref_apply hR hstep' hdirect).db.wf.height
  have hflt : f < b'.hdr.height := by
    have := (hR.db.fin_le hf).2
    omega
  have hbl' := hstep'.block.heightLt
  rw [hs3, hs3']
  by_cases hp : Pruned cfg b'.hdr.height f k
  · rw [pruned_none cd cfg s2.db f b' x' rt' hstep'.ov.nodup hstep'.stateKeys hbl'
        (by rw [hnf']; exact hflt) k (by rw [hnf']; exact hp),
      pruned_none cd cfg s.db f b' x' rt' hstep'.ov.nodup hstep'.stateKeys hbl'
        (by rw [hnf']; exact hflt) k (by rw [hnf']; exact hp)]
  · apply applyDb_congr cd cfg s2.db s.db f b' x' rt' hstep'.ov.nodup
    rcases roundTrip_no_raise hR hstep hf hfe hnr ha hd hr k with h | ⟨_, h⟩
    · exact h
    · rw [hh, ← hh'] at h; exact absurd h hp

/-- **The cached tip is restored**: after delete ∘ apply the block cache serves, for the tip height,
the header it served before (the cache is popped or — when it ran empty — loaded again from the
database, see fixes/C05-cache-exhausted.patch). -/
theorem C05_cached_tip_restored (cd : Codecs) (cfg : Cfg) (base : Store) (baseH : Nat)
    (hbase : BaseOK cd base baseH) (s s1 s2 : St) (c : Chain) (b : Block) (valid : Bool) (x : Exec)
    (removeTemp saveTemp : Bool) (r : Res)
    (hR : Ref cd base baseH s c) (hstep : StepOK cd base c b x)
    (ha : apply cd cfg s b valid x removeTemp = (s1, .ok))
    (hd : deleteTip cd cfg s1 saveTemp = (s2, r)) (hr : r.removed) (t t0 : Block)
    (ht : s2.cache.head? = some t) (ht0 : s.cache.head? = some t0) :
    t.hdr = t0.hdr := by
  obtain ⟨hR2, _⟩ := C05_delete_apply_identity cd cfg base baseH hbase s s1 s2 c b valid x
    removeTemp saveTemp r hR hstep ha hd hr
  have h1 := headerAt_tip hR2 ht
  rw [headerAt_congr hbase hR hR2, headerAt_tip hR ht0] at h1
  exact (Option.some.inj h1).symm

/-- **Removed blocks are kept retrievable**: `deleteBlock(tip, saveTemp = true)` stores the
encoded block under `temp|height`, and `GetTempBlocks` returns it (given the block codec round
trip, C08). -/
theorem C05_temp_block_roundtrip (cd : Codecs) (cfg : Cfg) (s s' : St) (r : Res)
    (hnd : NoDupKeys s.db) (hd : deleteTip cd cfg s true = (s', r)) (hr : r.removed) :
    ∃ tip, s.cache.head? = some tip ∧
      slookup s'.db (kTemp tip.hdr.height) = some (encBlock tip) ∧
      (cd.decBlock (encBlock tip) = some tip → ∀ l, tempBlocks cd s' = some l → tip ∈ l) := by
  obtain ⟨tip, rest, fin, bytes, d, hc, _, _, _, _, hdb, _⟩ := deleteTip_done_inv hd hr
  have hl : slookup s'.db (kTemp tip.hdr.height) = some (encBlock tip) := by
    rw [hdb]
    unfold deleteDb deleteDbAt
    rw [slookup_applyBatch, bval_removeOps, if_pos ⟨rfl, rfl⟩]
  have hnd' : NoDupKeys s'.db := by rw [hdb]; exact nodup_deleteDb _ _ _ _ hnd
  exact ⟨tip, by rw [hc]; rfl, hl, tempBlocks_mem hnd' hl⟩

/-! ### the hypothesis on transaction ids cannot be dropped -/

namespace C05Cex
open LiskVerif.Node.Example

/-- the header of the second block -/
def hdr2 : Hdr := { height := 2, generatorAddress := [2], maxHeightGenerated := 0,
                    maxHeightPrevoted := 0, id := [8], previousBlockID := [7], timestamp := 20 }
/-- a second block that includes the transaction of `b1` again -/
def b2 : Block := { hdr := hdr2, hdrBytes := [2], txs := [(txid, [42])], assets := [] }
def x2 : Exec := { overlay := [], mhpc := 0, events := [] }
def cd2 : Codecs := { cd with decDiff := fun _ => some {} }

def sAfter1 : St := (apply cd2 cfg s0 b1 true x2 false).1
def sAfter2 : St := (apply cd2 cfg sAfter1 b2 true x2 false).1
def sBack : St := (deleteTip cd2 cfg sAfter2 false).1

end C05Cex

/-- **Shared transaction ids break the identity**: if block 2 contains a transaction that block 1
also contains (the engine itself never checks this — it relies on the application rejecting the
replay), deleting block 2 removes the `txID → tx` entry of block 1 as well: the state after
delete ∘ apply differs from the state before on a non-volatile key, and block 1 can no longer be
loaded from the database (a restart fails). This is why `StepOK.fresh` demands that no transaction
of a block is already stored. -/
theorem C05_shared_txid_counterexample :
    (apply C05Cex.cd2 Example.cfg C05Cex.sAfter1 C05Cex.b2 true C05Cex.x2 false).2 = .ok ∧
    (deleteTip C05Cex.cd2 Example.cfg C05Cex.sAfter2 false).2 = .ok ∧
    slookup C05Cex.sAfter1.db (kTx Example.txid) = some [42] ∧
    slookup C05Cex.sBack.db (kTx Example.txid) = none ∧
    getBlock C05Cex.cd2 C05Cex.sBack.db [7] = none := by
  decide +kernel

/-! ### non-vacuity -/

/-- the concrete block of `LiskVerif.Node.Example` is applied and deleted successfully … -/
example : (apply Example.cd Example.cfg Example.s0 Example.b1 true Example.x1 false).2 = .ok ∧
    (deleteTip Example.cd Example.cfg
      (apply Example.cd Example.cfg Example.s0 Example.b1 true Example.x1 false).1 false).2 = .ok := by
  decide +kernel

/-- … and the identity theorem applies to it: all its hypotheses hold -/
example (s1 s2 : St)
    (ha : apply Example.cd Example.cfg Example.s0 Example.b1 true Example.x1 false = (s1, .ok))
    (hd : deleteTip Example.cd Example.cfg s1 false = (s2, .ok)) :
    ∀ k, ¬ Vol 0 k → slookup s2.db k = slookup Example.s0.db k := by
  obtain ⟨_, f, hf, _, h⟩ := C05_delete_apply_identity Example.cd Example.cfg Example.base 0
    Example.baseOK Example.s0 s1 s2 [] Example.b1 true Example.x1 false false .ok Example.ref0
    Example.step1 ha hd (Or.inl rfl)
  have : f = 0 := by
    have h0 : finOf Example.s0.db = some 0 := by decide
    rw [h0] at hf; exact (Option.some.inj hf).symm
  subst this
  exact h

example : Ref Example.cd Example.base 0
    (run Example.cd Example.cfg Example.slot Example.s0 Example.ops1)
    (runC Example.cd Example.cfg Example.slot Example.s0 [] Example.ops1) :=
  C05_refinement_invariant _ _ _ _ _ Example.baseOK _ _ _ Example.ref0 Example.runOK1
