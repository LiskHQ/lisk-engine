/-
C18 — tie A for the life cycle: the `start` functions assign their Peer pointer unconditionally.

Gen/Life.lean is regenerated by tools/lifegen on every check run (flat statement table: depth, guards, kind) from
the functions of its target list in pkg/p2p: `rateLimit.start`, `MessageProtocol.start`, `Connection.Start`, `GossipSub.start` (this file; the rows of
`Connection.Stop` are extracted too and no theorem reads them); `newPeer`, every function of peerbook.go, `connectionGater.optionWithBlacklist`
(Props/C18_Config.lean); `Peer.Disconnect`, `Peer.addPenalty`, `Peer.banPeer`, `Connection.ApplyPenalty`,
`Connection.BanPeer`, `MessageProtocol.banRemotePeer` (Props/C18_Roles.lean).  A target function it does not find
gets the parameter list `["MISSING"]`.  The theorems below state exactly what Model/Lifecycle.lean assumes about the code:

* `rateLimit.start(logger, peer)` executes `rl.peer = peer` on EVERY call (statement of the function body
  itself, no `return` / branch / panic in front of it) - the model's `Rebind` for the rate limiter is `always`;
* `MessageProtocol.start(ctx, logger, peer)` executes `mp.peer = peer` and `mp.rateLimit.start(logger, peer)`
  on every call, with the Peer it was given;
* `Connection.Start` builds `peer` with `newPeer`, hands THAT peer to `conn.MessageProtocol.start` and stores it
  in `conn.Peer`; the only ways out of `Start` before those statements are the `if err != nil` error returns
  (a failed Start is a failed restart).
A guard such as `if rl.peer != nil { return }` in front of an assignment falsifies the corresponding theorem.
-/
import LiskVerif.Gen.Life
import LiskVerif.Model.Lifecycle

open LiskVerif LiskVerif.Gen.Life

/-- the statements of one function, in source order -/
def C18lgOf (fn : String) : List Stmt := stmts.filter (·.fn == fn)

/-- can this statement leave the function (or the enclosing loop) before the following ones run? -/
def C18lgExit (s : Stmt) : Bool :=
  s.kind == "return" || s.kind == "branch" ||
    ((s.kind == "call" || s.kind == "defer-call") && (s.a == "panic" || s.a == "os.Exit" || s.a == "runtime.Goexit"))

def C18lgBefore (fn : String) (s : Stmt) : List Stmt := (C18lgOf fn).filter (fun t => decide (t.seq < s.seq))

/-- `lhs = rhs` is executed by every call of `fn`: it is the only assignment to `lhs`, a statement of the
function body itself (depth 0, no guard), and nothing in front of it can leave the function -/
def C18lgAssignsAlways (fn lhs rhs : String) : Bool :=
  match (C18lgOf fn).filter (fun s => s.kind == "assign" && s.a == lhs) with
  | [s] => s.depth == 0 && s.guards.isEmpty && s.b == [rhs] && (C18lgBefore fn s).all (fun t => !C18lgExit t)
  | _ => false

/-- `callee(args)` is executed by every call of `fn` (same conditions) -/
def C18lgCallsAlways (fn callee : String) (args : List String) : Bool :=
  match (C18lgOf fn).filter (fun s => s.kind == "call" && s.a == callee) with
  | [s] => s.depth == 0 && s.guards.isEmpty && s.b == args && (C18lgBefore fn s).all (fun t => !C18lgExit t)
  | _ => false

/-- the statement is on the straight path of `fn` and the only exits in front of it are error returns
(`if err != nil { ...; return err }`) -/
def C18lgOnStraightPath (fn : String) (s : Stmt) : Bool :=
  s.depth == 0 && s.guards.isEmpty &&
    (C18lgBefore fn s).all (fun t => !C18lgExit t || (t.guards == ["if err != nil"] && t.kind == "return" && t.a == "err"))

/-- `lhs = rhs` is executed by every call of `fn` that does not fail with an error return in front of it -/
def C18lgAssignsOnSuccess (fn lhs rhs : String) : Bool :=
  match (C18lgOf fn).filter (fun s => s.kind == "assign" && s.a == lhs) with
  | [s] => s.b == [rhs] && C18lgOnStraightPath fn s
  | _ => false

def C18lgParams (fn : String) : Option (List String) := (fns.find? (·.name == fn)).map (·.params)

/-- the functions of the extraction list all exist -/
theorem C18_lifegen_functions_present :
    C18lgParams "rateLimit.start" = some ["logger", "peer"] ∧
    C18lgParams "MessageProtocol.start" = some ["ctx", "logger", "peer"] ∧
    C18lgParams "Connection.Start" = some ["seed"] ∧
    (fns.filter (·.params == ["MISSING"])) = [] := by decide +kernel

/-- **`rateLimit.start` assigns `rl.peer = peer` unconditionally.** -/
theorem C18_lifegen_ratelimit_start_assigns_always :
    C18lgAssignsAlways "rateLimit.start" "rl.peer" "peer" = true := by decide +kernel

/-- **`MessageProtocol.start` assigns `mp.peer = peer` and starts the rate limiter with the same Peer,
unconditionally.** -/
theorem C18_lifegen_mp_start_assigns_and_forwards :
    C18lgAssignsAlways "MessageProtocol.start" "mp.peer" "peer" = true ∧
    C18lgCallsAlways "MessageProtocol.start" "mp.rateLimit.start" ["logger", "peer"] = true := by decide +kernel

/-- **`Connection.Start` hands the Peer it has just built to the message protocol and keeps it.**
`peer` is assigned once, from `newPeer(...)`; `conn.MessageProtocol.start(ctx, conn.logger, peer)` and
`conn.Peer = peer` come after it on the straight path, with only error returns in front. -/
theorem C18_lifegen_connection_start_passes_new_peer :
    (match (C18lgOf "Connection.Start").filter (fun s => s.kind == "assign" && s.a == "peer"),
           (C18lgOf "Connection.Start").filter (fun s => s.kind == "call" && s.a == "conn.MessageProtocol.start"),
           (C18lgOf "Connection.Start").filter (fun s => s.kind == "assign" && s.a == "conn.Peer") with
     | [p], [c], [a] =>
       p.b == ["newPeer(ctx, &conn.wg, conn.logger, seed, conn.cfg)"] && C18lgOnStraightPath "Connection.Start" p &&
       c.b == ["ctx", "conn.logger", "peer"] && C18lgOnStraightPath "Connection.Start" c && decide (p.seq < c.seq) &&
       a.b == ["peer"] && C18lgOnStraightPath "Connection.Start" a && decide (p.seq < a.seq)
     | _, _, _ => false) = true := by decide +kernel

/-- the `Rebind` behaviour read off the source: a `start` function whose assignment is unconditional re-binds
whatever the present binding is -/
def C18lgRebind (fn lhs rhs : String) : Lifecycle.Rebind := fun _ => C18lgAssignsAlways fn lhs rhs

/-- the same for `Connection.Start` (a successful Start: the error returns in front are failed restarts) -/
def C18lgRebindOnSuccess (fn lhs rhs : String) : Lifecycle.Rebind := fun _ => C18lgAssignsOnSuccess fn lhs rhs

/-- **The model's restart is the restart of the code as extracted**: with the `Rebind`s read off
`MessageProtocol.start`, `rateLimit.start` and `Connection.Start`, `restartWith` is `restart`. -/
theorem C18_lifegen_restart_is_model (l : Lifecycle.LNode) (bl : List (Option ConnGater.IP)) :
    Lifecycle.restartWith (C18lgRebind "MessageProtocol.start" "mp.peer" "peer")
      (C18lgRebind "rateLimit.start" "rl.peer" "peer") (C18lgRebindOnSuccess "Connection.Start" "conn.Peer" "peer") l bl
      = Lifecycle.restart l bl := by
  have h1 : C18lgRebind "MessageProtocol.start" "mp.peer" "peer" = Lifecycle.always := by
    funext b; exact C18_lifegen_mp_start_assigns_and_forwards.1
  have h2 : C18lgRebind "rateLimit.start" "rl.peer" "peer" = Lifecycle.always := by
    funext b; exact C18_lifegen_ratelimit_start_assigns_always
  have h3 : C18lgRebindOnSuccess "Connection.Start" "conn.Peer" "peer" = Lifecycle.always := by
    funext b
    show C18lgAssignsOnSuccess "Connection.Start" "conn.Peer" "peer" = true
    decide +kernel
  rw [h1, h2, h3]
  rfl

/-- `GossipSub.start(ctx, wg, p, sk, cfg)` keeps the Peer it was given (`gs.peer = p`) on every successful
start as well (not a penalty path; the loopback life-cycle scenarios report its binding next to the others). -/
theorem C18_lifegen_gossip_start_rebinds :
    C18lgAssignsOnSuccess "GossipSub.start" "gs.peer" "p" = true ∧
    (match (C18lgOf "Connection.Start").filter (fun s => s.kind == "call" && s.a == "conn.GossipSub.start") with
     | [c] => c.b == ["ctx", "&conn.wg", "peer", "sk", "conn.cfg"] && C18lgOnStraightPath "Connection.Start" c
     | _ => false) = true := by decide +kernel
