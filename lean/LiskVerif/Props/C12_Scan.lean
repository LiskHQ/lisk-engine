/-
C12 — scans through the staged store refine the scans of the committed database.

`Range` / `Iterate` through the staged store (`scan`: store scan, `absorb` into the overlay,
`cacheLive`, `mergeSortLimit`) return exactly what the same scan returns on the database with the
staged writes applied, i.e. on the store that `Commit` would produce — for every filter, limit and
direction.  Helper lemmas: `LiskVerif/Lemmas/DiffDBScan.lean`.
-/
import LiskVerif.Props.C12

open LiskVerif LiskVerif.DiffDB

/-- `Range`/`Iterate` through the staged store equal the same scan on the database with the staged
writes applied (the store that `Commit` would produce), for every filter, limit and direction. -/
theorem C12_scan_refines (st : St) (h : C12Inv st) (f : Bytes → Bool) (limit : Int) (rev : Bool) :
    (scan st f limit rev).2 =
      applyLimit (sortDir ((commit st).1.store.filter (fun kv => f kv.1)) rev) limit := by
  unfold scan mergeSortLimit
  simp only
  -- the store scan
  have hl : ∀ e ∈ sortDir (st.store.filter (fun kv => f kv.1)) rev,
      slookup st.store e.1 = some e.2 := fun e he =>
    (slookup_iff_mem st.store h.nodupS e.1 e.2).mpr (List.mem_filter.mp ((mem_sortDir _ _ _).mp he)).1
  have hlf : ∀ e ∈ sortDir (st.store.filter (fun kv => f kv.1)) rev, f e.1 = true := fun e he =>
    (List.mem_filter.mp ((mem_sortDir _ _ _).mp he)).2
  obtain ⟨hm, hnd, hcov, hout⟩ := absorb_spec _ hl st.cache
  replace hnd := hnd h.cacheOk.nodupC
  generalize absorb st.cache (sortDir (st.store.filter (fun kv => f kv.1)) rev) = ab at *
  obtain ⟨c', stored⟩ := ab
  simp only at hm hnd hout hcov ⊢
  -- membership in the live overlay entries = effective value
  have hmemC : ∀ k v, (k, v) ∈ cacheLive c' f ↔ f k = true ∧ eff st k = some v := by
    intro k v
    rw [mem_cacheLive c' f hnd k v, eff, ← hm.effC k]
    constructor
    · rintro ⟨cv, hc, hd, hf, rfl⟩
      exact ⟨hf, by simp [effC, hc, hd]⟩
    · rintro ⟨hf, he⟩
      cases hc : clookup c' k with
      | some cv =>
        simp only [effC, hc] at he
        by_cases hd : cv.deleted = true
        · simp [hd] at he
        · simp only [hd, Bool.false_eq_true, if_false, Option.some.injEq] at he
          exact ⟨cv, rfl, by simpa using hd, hf, he⟩
      | none =>
        simp only [effC, hc] at he
        exact absurd hc (hcov (k, v) ((mem_sortDir _ _ _).mpr
          (List.mem_filter.mpr ⟨(slookup_iff_mem st.store h.nodupS k v).mp he, hf⟩)))
  -- nothing is left to add from the store scan
  have hextra : stored.filter (fun kv => !((cacheLive c' f).any (fun c => c.1 = kv.1))) = [] := by
    rw [List.filter_eq_nil_iff]
    intro e he
    obtain ⟨h1, e0, he0, h2⟩ := hout e he
    have hany : (cacheLive c' f).any (fun c => c.1 = e.1) = true :=
      List.any_eq_true.mpr ⟨(e.1, e.2), (hmemC e.1 e.2).mpr ⟨h2 ▸ hlf e0 he0, h1⟩, by simp⟩
    simp [hany]
  rw [hextra, List.append_nil]
  congr 1
  apply sortDir_eq_of_mem_iff _ _ (nodup_cacheLive c' f hnd)
    (nodup_filter _ _ (nodup_commit st h.nodupS))
  intro ⟨k, v⟩
  rw [hmemC k v, List.mem_filter, ← slookup_iff_mem _ (nodup_commit st h.nodupS),
    C12_commit_exact st h k]
  simp only [and_comm]

/-- `Database.Range` through the staged store = `IterateRange` on the committed database. -/
theorem C12_range_refines (st : St) (h : C12Inv st) (s e : Bytes) (limit : Int) (rev : Bool) :
    (range st s e limit rev).2 = dbRange (commit st).1.store s e limit rev :=
  C12_scan_refines st h (inRange s e) limit rev

/-- `Database.Iterate` through the staged store = `Iterate` on the committed database. -/
theorem C12_iterate_refines (st : St) (h : C12Inv st) (p : Bytes) (limit : Int) (rev : Bool) :
    (iterate st p limit rev).2 = dbIterate (commit st).1.store p limit rev :=
  C12_scan_refines st h (fun k => hasPrefix k p) limit rev

/-! ### non-vacuity: a concrete reachable state with staged sets, deletes and cached reads -/

private def exStore' : Store := [([1], [10]), ([2], [20]), ([1, 0], [30]), ([4], [40])]
private def exSt' : St :=
  run { store := exStore' } [.set [2] [21], .del [1], .set [3] [33], .get [1, 0], .del [4], .set [4] [44]]

private theorem exInv' : C12Inv exSt' :=
  C12_cache_invariant _ (C12_inv_init exStore' (by unfold NoDupKeys exStore'; decide)) _
example : C12Inv exSt' := exInv'
example : (commit exSt').1.store = [([2], [21]), ([3], [33]), ([4], [44]), ([1, 0], [30])] := by decide +kernel
example : (range exSt' [0] [9] (-1) false).2 = [([1, 0], [30]), ([2], [21]), ([3], [33]), ([4], [44])] ∧
    dbRange (commit exSt').1.store [0] [9] (-1) false = (range exSt' [0] [9] (-1) false).2 :=
  ⟨by decide +kernel, (C12_range_refines exSt' exInv' _ _ _ _).symm⟩
example : (range exSt' [2] [9] 2 true).2 = [([4], [44]), ([3], [33])] ∧
    dbRange (commit exSt').1.store [2] [9] 2 true = (range exSt' [2] [9] 2 true).2 :=
  ⟨by decide +kernel, (C12_range_refines exSt' exInv' _ _ _ _).symm⟩
example : (iterate exSt' [1] (-1) false).2 = [([1, 0], [30])] ∧
    dbIterate (commit exSt').1.store [1] (-1) false = (iterate exSt' [1] (-1) false).2 :=
  ⟨by decide +kernel, (C12_iterate_refines exSt' exInv' _ _ _).symm⟩
/-- the theorem instantiated on the concrete state (its hypothesis is satisfiable) -/
example : (range exSt' [0] [9] 3 true).2 = dbRange (commit exSt').1.store [0] [9] 3 true :=
  C12_range_refines exSt' exInv' _ _ _ _
