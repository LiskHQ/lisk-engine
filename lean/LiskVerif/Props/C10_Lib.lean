/-
C10 (library part) — the helpers of `pkg/collection` that the sparse Merkle tree relies on:
proof bitmaps (`FromBools` / `ToBools` / `IsBitSet`), the sorted query batch (`Sort`, `IsSorted`,
`Unique`, `BinarySearch`, `Insert`), and `Reverse`, `CommonPrefix`, `Equal`, `FindIndex`.
Model: `LiskVerif/Model/Collection.lean` (tied to the Go code by the LIBCOLL correspondence
harness).  Helper lemmas: `LiskVerif/Lemmas/Collection.lean`.
-/
import LiskVerif.Lemmas.Collection

open LiskVerif LiskVerif.Collection

/-! ### FromBools / ToBools -/

theorem C10_lib_fromBools_length (l : List Bool) : (fromBools l).length = (l.length + 7) / 8 :=
  fromBools_length l

theorem C10_lib_toBools_length (b : Bytes) : (toBools b).length = 8 * b.length := toBools_length b

/-- `ToBools(FromBools(l))` = `l` with `(8 - len(l) % 8) % 8` `false` values IN FRONT (the code pads
on the left, so that a bitmap keeps its value as a big-endian number). -/
theorem C10_lib_toBools_fromBools (l : List Bool) :
    toBools (fromBools l) = List.replicate ((8 - l.length % 8) % 8) false ++ l :=
  toBools_fromBools l

/-- without padding when the length is a multiple of 8 -/
theorem C10_lib_toBools_fromBools_mul8 (l : List Bool) (h : l.length % 8 = 0) :
    toBools (fromBools l) = l :=
  (toBools_fromBools l).trans (padFront_of_mul8 l h)

theorem C10_lib_fromBools_toBools (b : Bytes) : fromBools (toBools b) = b := fromBools_toBools b

/-- `FromBools` is injective on lists of one length … -/
theorem C10_lib_fromBools_inj (l l' : List Bool) (hl : l.length = l'.length)
    (h : fromBools l = fromBools l') : l = l' := by
  have := congrArg toBools h
  rw [C10_lib_toBools_fromBools, C10_lib_toBools_fromBools, hl] at this
  exact List.append_cancel_left this

/-- … and leading `false` values do not change the result, so it is NOT injective across lengths
(callers strip / ignore the leading `false` values: `stripPrefixFalse`). -/
theorem C10_lib_fromBools_leading_false (l : List Bool) (k : Nat) :
    toBools (fromBools (List.replicate k false ++ l)) =
      List.replicate ((8 - (k + l.length) % 8) % 8 + k) false ++ l := by
  rw [C10_lib_toBools_fromBools, ← List.append_assoc, List.replicate_append_replicate]
  simp

theorem C10_lib_fromBools_not_injective : fromBools [true] = fromBools [false, true] := by decide

/-! ### IsBitSet -/

/-- `IsBitSet(bits, i)` is element `i` of `ToBools(bits)` for `0 <= i < 8*len(bits)` … -/
theorem C10_lib_isBitSet_spec (bits : Bytes) (i : Nat) (h : i < 8 * bits.length) :
    ∃ v, (toBools bits)[i]? = some v ∧ isBitSet bits (i : Int) = .ok v := by
  have hlt : i / 8 < bits.length := by omega
  refine ⟨bitAt bits i, by rw [toBools_getElem?, if_pos h], ?_⟩
  rw [isBitSet_natCast, bitAt, List.getElem?_eq_getElem hlt]

/-- … and panics exactly outside this range (negative indices included). -/
theorem C10_lib_isBitSet_panics_iff (bits : Bytes) (i : Int) :
    (∃ e, isBitSet bits i = .error e) ↔ (i < 0 ∨ i ≥ 8 * bits.length) := by
  by_cases hneg : i < 0
  · exact ⟨fun _ => Or.inl hneg, fun _ => isBitSet_neg bits i hneg⟩
  · obtain ⟨n, rfl⟩ := Int.eq_ofNat_of_zero_le (Int.not_lt.mp hneg)
    rw [isBitSet_natCast]
    by_cases hlt : n / 8 < bits.length
    · rw [List.getElem?_eq_getElem hlt]
      exact ⟨fun ⟨_, he⟩ => (nomatch he), fun h => by omega⟩
    · rw [List.getElem?_eq_none (by omega)]
      exact ⟨fun _ => by omega, fun _ => ⟨_, rfl⟩⟩

/-! ### Sort / IsSorted -/

/-- `Sort` yields an ascending (`bytes.Compare <= 0`) list … -/
theorem C10_lib_sort_sorted (l : List Bytes) :
    (bytesSort l).Pairwise (fun a b => ble a b = true) :=
  isort_pairwise ble ble_trans (fun a b => by simpa using ble_total a b) l

/-- … that is a permutation of the input. -/
theorem C10_lib_sort_perm (l : List Bytes) : (bytesSort l).Perm l := isort_perm ble l

/-- ANY sorted permutation of the input is the model's result: the outcome of `Sort` does not depend
on the (unstable) algorithm `sort.Sort` uses, so modelling it by insertion sort loses nothing. -/
theorem C10_lib_sort_unique (l r : List Bytes) (hp : r.Perm l)
    (hs : r.Pairwise (fun a b => ble a b = true)) : r = bytesSort l :=
  (hp.trans (C10_lib_sort_perm l).symm).eq_of_pairwise (fun a b _ _ => ble_antisymm a b) hs
    (C10_lib_sort_sorted l)

theorem C10_lib_isSorted_iff (l : List Bytes) :
    bytesIsSorted l = true ↔ l.Pairwise (fun a b => ble a b = true) := bytesIsSorted_iff l

theorem C10_lib_sort_isSorted (l : List Bytes) : bytesIsSorted (bytesSort l) = true :=
  (bytesIsSorted_iff _).mpr (C10_lib_sort_sorted l)

/-- `Sort` is idempotent, and the identity on sorted input. -/
theorem C10_lib_sort_of_sorted (l : List Bytes) (h : bytesIsSorted l = true) : bytesSort l = l :=
  (C10_lib_sort_unique l l (List.Perm.refl l) ((bytesIsSorted_iff l).mp h)).symm

theorem C10_lib_sort_idem (l : List Bytes) : bytesSort (bytesSort l) = bytesSort l :=
  C10_lib_sort_of_sorted _ (C10_lib_sort_isSorted l)

/-- the order is total on keys that are prefixes of one another (different lengths): the shorter key
sorts first -/
theorem C10_lib_sort_prefix_keys (p s : Bytes) (hs : s ≠ []) : bcmp p (p ++ s) = .lt :=
  bcmp_append_lt p s hs

/-! ### Unique / IsUnique -/

/-- What `Unique` returns (in the canonical order of the model): exactly the members of the input,
each once — ALL duplicates are dropped, adjacent or not. -/
theorem C10_lib_unique_spec (l : List Bytes) : IsUniqueOf l (bytesUnique l) :=
  isUniqueOf_isort_dedup ble l

/-- the canonical order is strictly ascending -/
theorem C10_lib_unique_sorted (l : List Bytes) :
    (bytesUnique l).Pairwise (fun a b => blt a b = true) :=
  ((C10_lib_sort_sorted (dedup l)).and (C10_lib_unique_spec l).1).imp
    fun ⟨hle, hne⟩ => blt_of_ble_ne _ _ hle hne

/-- The real `Unique` ranges over a Go map, so its result is SOME list satisfying `IsUniqueOf`;
every such list is a permutation of the model's result (and sorting it gives the model's result). -/
theorem C10_lib_unique_any_result (l r : List Bytes) (h : IsUniqueOf l r) :
    r.Perm (bytesUnique l) ∧ bytesSort r = bytesUnique l := by
  have hp : r.Perm (bytesUnique l) :=
    (List.perm_ext_iff_of_nodup h.1 (C10_lib_unique_spec l).1).mpr
      (fun x => by rw [h.2 x, (C10_lib_unique_spec l).2 x])
  refine ⟨hp, (C10_lib_sort_unique r (bytesUnique l) hp.symm ?_).symm⟩
  exact C10_lib_sort_sorted _

theorem C10_lib_unique_idem (l : List Bytes) : bytesUnique (bytesUnique l) = bytesUnique l := by
  have h := C10_lib_unique_spec l
  exact ((C10_lib_unique_any_result (bytesUnique l) (bytesUnique l)
    ⟨h.1, fun _ => Iff.rfl⟩).2).symm.trans
    (C10_lib_sort_of_sorted _ ((bytesIsSorted_iff _).mpr
      (C10_lib_sort_sorted _)))

/-- `IsUnique(l)` iff `l` has no duplicates -/
theorem C10_lib_isUnique_iff (l : List Bytes) : bytesIsUnique l = true ↔ l.Nodup :=
  isort_dedup_length_beq ble l

/-! ### BinarySearch -/

/-- For EVERY predicate: `BinarySearch` does not panic, its result `r` is in `[0, len]`, the element
at `r` (if any) satisfies the predicate and the element before it (if any) does not. -/
theorem C10_lib_binarySearch_boundary {α : Type} (list : List α) (less : α → Bool) :
    ∃ r : Nat, binarySearch list less = .ok (r : Int) ∧ r ≤ list.length ∧
      (∀ x, list[r]? = some x → less x = true) ∧
      (∀ x, 0 < r → list[r - 1]? = some x → less x = false) :=
  binarySearch_boundary list less

/-- On a monotone predicate (`false … false true … true` along the list) the result is the LEAST
index whose element satisfies it (`len` if there is none): everything before it fails the predicate,
everything from it on satisfies it. -/
theorem C10_lib_binarySearch_least {α : Type} (list : List α) (less : α → Bool)
    (mono : ∀ (i j : Nat) (x y : α), i ≤ j → list[i]? = some x → list[j]? = some y → less x = true → less y = true) :
    ∃ r : Nat, binarySearch list less = .ok (r : Int) ∧ r ≤ list.length ∧
      (∀ i x, i < r → list[i]? = some x → less x = false) ∧
      (∀ i x, r ≤ i → list[i]? = some x → less x = true) := by
  obtain ⟨r, e, hr, h1, h2⟩ := binarySearch_boundary list less
  refine ⟨r, e, hr, ?_, ?_⟩
  · intro i x hi hx
    cases hless : less x with
    | false => rfl
    | true =>
      have hlt : r - 1 < list.length := by omega
      have := mono i (r - 1) x list[r - 1] (by omega) hx (List.getElem?_eq_getElem hlt) hless
      rw [h2 _ (by omega) (List.getElem?_eq_getElem hlt)] at this
      cases this
  · intro i x hi hx
    have hlt : r < list.length := by
      apply Classical.byContradiction; intro hn
      rw [List.getElem?_eq_none (by omega)] at hx; cases hx
    exact mono r i list[r] x hi (List.getElem?_eq_getElem hlt) hx (h1 _ (List.getElem?_eq_getElem hlt))

/-- hence it equals the number of leading elements failing the predicate -/
theorem C10_lib_binarySearch_eq_takeWhile {α : Type} (list : List α) (less : α → Bool)
    (mono : ∀ (i j : Nat) (x y : α), i ≤ j → list[i]? = some x → list[j]? = some y → less x = true → less y = true) :
    binarySearch list less = .ok ((list.takeWhile (fun x => !less x)).length : Int) := by
  obtain ⟨r, e, hr, h1, h2⟩ := C10_lib_binarySearch_least list less mono
  rw [e]
  congr 2
  -- the first `r` elements fail, the next one (if any) passes
  have hsplit : list = list.take r ++ list.drop r := (List.take_append_drop r list).symm
  have hall : ∀ x ∈ list.take r, (!less x) = true := by
    intro x hx
    obtain ⟨i, hi, rfl⟩ := List.getElem_of_mem hx
    have hi' : i < r := by simp at hi; omega
    rw [List.getElem_take]
    simp [h1 i _ hi' (List.getElem?_eq_getElem (by simp at hi; omega))]
  rw [hsplit, List.takeWhile_append_of_pos hall]
  cases hd : list.drop r with
  | nil => simp; omega
  | cons y t =>
    have hy : list[r]? = some y := by
      have := congrArg (fun l => l[0]?) hd
      simpa using this
    have : less y = true := h2 r y (Nat.le_refl _) hy
    simp [this]; omega

/-- a predicate that is not monotone still gives a boundary, but not the least index -/
theorem C10_lib_binarySearch_not_monotone :
    binarySearch [1, 0, 0, 0, 0] (fun x => x == (1 : Nat)) = .ok 5 := by decide

/-! ### Insert -/

/-- `Insert(list, i, v)` for `0 <= i <= len`: a new list of length `len+1` with `v` at index `i`, the
elements before `i` unchanged and the elements from `i` on shifted by one (`i = len` appends). -/
theorem C10_lib_insert_spec {α : Type} (list : List α) (i : Nat) (h : i ≤ list.length) (v : α) :
    ∃ r, insert list (i : Int) v = .ok r ∧ r.length = list.length + 1 ∧ r[i]? = some v ∧
      (∀ j, j < i → r[j]? = list[j]?) ∧ (∀ j, i ≤ j → r[j + 1]? = list[j]?) := by
  refine ⟨_, insert_ok list i h v, List.length_insertIdx_of_le_length h v, ?_,
    fun j hj => List.getElem?_insertIdx_of_lt hj, fun j hj => ?_⟩
  · rw [List.getElem?_insertIdx_self, if_pos h]
  · rw [List.getElem?_insertIdx_of_gt (by omega)]; rfl

/-- beyond the ends (`i < 0` or `i > len`) `Insert` panics (index out of range) -/
theorem C10_lib_insert_panics_iff {α : Type} (list : List α) (index : Int) (v : α) :
    (∃ e, insert list index v = .error e) ↔ (index < 0 ∨ index > list.length) :=
  insert_panics list index v

theorem C10_lib_insert_at_len {α : Type} (list : List α) (v : α) :
    insert list (list.length : Int) v = .ok (list ++ [v]) := by
  rw [insert_ok list list.length (Nat.le_refl _) v, List.insertIdx_length_self]

/-- The SMT batch pattern: inserting `x` at the `BinarySearch` point of "x sorts before the element"
into a sorted list keeps the list sorted. -/
theorem C10_lib_insert_at_search_sorted (l : List Bytes) (x : Bytes)
    (hs : l.Pairwise (fun a b => ble a b = true)) :
    ∃ (i : Nat) (r : List Bytes), binarySearch l (fun v => blt x v) = .ok (i : Int) ∧
      insert l (i : Int) x = .ok r ∧ r.Pairwise (fun a b => ble a b = true) ∧ r.Perm (x :: l) := by
  have mono : ∀ (i j : Nat) (a b : Bytes), i ≤ j → l[i]? = some a → l[j]? = some b →
      (fun v => blt x v) a = true → (fun v => blt x v) b = true := by
    intro i j a b hij ha hb hlt
    obtain ⟨hi, rfl⟩ := List.getElem?_eq_some_iff.mp ha
    obtain ⟨hj, rfl⟩ := List.getElem?_eq_some_iff.mp hb
    rcases Nat.lt_or_eq_of_le hij with h | rfl
    · exact blt_of_blt_of_ble _ _ _ hlt (List.pairwise_iff_getElem.mp hs i j hi hj h)
    · exact hlt
  obtain ⟨i, e, hi, h1, h2⟩ := C10_lib_binarySearch_least l (fun v => blt x v) mono
  refine ⟨i, _, e, insert_ok l i hi x, ?_, ?_⟩
  · rw [← take_cons_drop l i hi]
    rw [← List.take_append_drop i l] at hs
    have hs' := List.pairwise_append.mp hs
    refine List.pairwise_append.mpr ⟨hs'.1, List.pairwise_cons.mpr ⟨?_, hs'.2.1⟩, ?_⟩
    · intro b hb
      obtain ⟨k, hk, rfl⟩ := List.getElem_of_mem hb
      rw [List.getElem_drop]
      have hk' : i + k < l.length := by simp at hk; omega
      have := h2 (i + k) _ (by omega) (List.getElem?_eq_getElem hk')
      simp only [blt, beq_iff_eq] at this
      simp [ble, this]
    · intro a ha b hb
      rcases List.mem_cons.mp hb with rfl | hb
      · obtain ⟨k, hk, rfl⟩ := List.getElem_of_mem ha
        rw [List.getElem_take]
        have hk' : k < i := by simp at hk; omega
        have := h1 k _ hk' (List.getElem?_eq_getElem (by omega))
        rw [← not_blt_eq_ble]; simp [this]
      · exact hs'.2.2 a ha b hb
  · exact List.perm_insertIdx x l hi

/-! ### Reverse -/

/-- the swap loop of `Reverse` computes the reversed list -/
theorem C10_lib_reverse_eq {α : Type} (l : List α) : reverse l = l.reverse := reverse_eq l

theorem C10_lib_reverse_involutive {α : Type} (l : List α) : reverse (reverse l) = l := by
  rw [reverse_eq, reverse_eq, List.reverse_reverse]

theorem C10_lib_reverse_getElem {α : Type} (l : List α) (i : Nat) (h : i < l.length) :
    (reverse l)[i]? = l[l.length - 1 - i]? := by
  rw [reverse_eq, List.getElem?_reverse h]

theorem C10_lib_bytesReverse_eq (b : Bytes) : bytesReverse b = b.reverse := bytesReverse_eq b

/-! ### CommonPrefix -/

/-- `CommonPrefix(a, b)` is a prefix of both lists … -/
theorem C10_lib_commonPrefix_prefix {α : Type} [DecidableEq α] (a b : List α) :
    commonPrefix a b <+: a ∧ commonPrefix a b <+: b := by
  rw [commonPrefix_eq_lcp]
  exact ⟨lcp_prefix_left a b, by rw [lcp_comm]; exact lcp_prefix_left b a⟩

/-- … and the LONGEST one: every common prefix is a prefix of it, -/
theorem C10_lib_commonPrefix_longest {α : Type} [DecidableEq α] (p a b : List α)
    (ha : p <+: a) (hb : p <+: b) : p <+: commonPrefix a b := by
  rw [commonPrefix_eq_lcp]; exact lcp_greatest p a b ha hb

/-- the elements just after it (if both lists continue) differ. -/
theorem C10_lib_commonPrefix_maximal {α : Type} [DecidableEq α] (a b : List α) (x y : α)
    (ha : a[(commonPrefix a b).length]? = some x) (hb : b[(commonPrefix a b).length]? = some y) :
    x ≠ y := by
  rw [commonPrefix_eq_lcp] at ha hb; exact lcp_maximal a b x y ha hb

theorem C10_lib_commonPrefix_comm {α : Type} [DecidableEq α] (a b : List α) :
    commonPrefix a b = commonPrefix b a := by
  rw [commonPrefix_eq_lcp, commonPrefix_eq_lcp, lcp_comm]

/-! ### Equal -/

/-- `Equal(a, b)` iff the two slices have the same elements in the same order.  (The model has one
empty list: Go's `Equal(nil, []T{})` is `true` as well — the code only compares `len` and elements.) -/
theorem C10_lib_equal_iff {α : Type} [DecidableEq α] (a b : List α) : equal a b = true ↔ a = b :=
  equal_iff a b

/-! ### FindIndex / Find -/

/-- `FindIndex` returns `-1` iff no element satisfies the predicate, otherwise the FIRST index whose
element does. -/
theorem C10_lib_findIndex_spec {α : Type} (l : List α) (p : α → Bool) :
    (findIndex l p = -1 ∧ ∀ x ∈ l, p x = false) ∨
    (∃ k, ∃ hk : k < l.length, findIndex l p = (k : Int) ∧ p l[k] = true ∧
      ∀ j, ∀ hj : j < k, p (l[j]'(by omega)) = false) :=
  findIndex_spec l p

theorem C10_lib_findIndex_neg_iff {α : Type} (l : List α) (p : α → Bool) :
    findIndex l p = -1 ↔ ∀ x ∈ l, p x = false :=
  findIndex_neg_iff l p

/-- `Find` returns the first element satisfying the predicate, the zero value if there is none -/
theorem C10_lib_find_spec {α : Type} (zero : α) (l : List α) (p : α → Bool) :
    find zero l p = (l.find? p).getD zero := by
  induction l with
  | nil => rfl
  | cons v r ih =>
    simp only [find, List.find?_cons]
    cases p v <;> simp [ih]

/-! ### non-vacuity -/

example : fromBools [true, false, true] = [0x05] := by decide
example : toBools (fromBools [true, false, true]) = [false, false, false, false, false, true, false, true] := by
  decide
example : fromBools (toBools [0xa5, 0x01]) = [0xa5, 0x01] := C10_lib_fromBools_toBools _
example : fromBools [true, false, false, false, false, false, false, false, true] = [0x01, 0x01] := by decide
example : isBitSet [0xff, 0x00, 0x01] 23 = .ok true := by decide
example : isBitSet [0xff, 0x00, 0x01] 24 = .error .indexOutOfRange := by decide
example : isBitSet [0xff] (-1) = .error .negativeShift := by decide
example : isBitSet [0xff] (-8) = .error .indexOutOfRange := by decide
example : bytesSort [[2], [1, 0], [], [1]] = [[], [1], [1, 0], [2]] := by decide
example : bytesIsSorted [[], [1], [1, 0], [2]] = true := by decide
example : bytesIsSorted [[1, 0], [1]] = false := by decide
example : bytesUnique [[2], [1], [2], [1], [2]] = [[1], [2]] := by decide
example : bytesIsUnique [[2], [1], [2]] = false := by decide
example : binarySearch [1, 3, 5, 7] (fun x => decide (x ≥ (4 : Nat))) = .ok 2 := by decide
example : binarySearch ([] : List Nat) (fun _ => true) = .ok 0 := by decide
example : insert [1, 2, 3] 1 (9 : Nat) = .ok [1, 9, 2, 3] := by decide
example : insert [1, 2, 3] 3 (9 : Nat) = .ok [1, 2, 3, 9] := by decide
example : insert [1, 2, 3] 4 (9 : Nat) = .error .indexOutOfRange := by decide
example : insert [1, 2, 3] (-1) (9 : Nat) = .error .indexOutOfRange := by decide
example : reverse [1, 2, 3, 4, 5] = [5, 4, 3, 2, (1 : Nat)] := by decide
example : commonPrefix [1, 2, 3] [1, 2, 4, (5 : Nat)] = [1, 2] := by decide
example : equal [1, 2] [1, (2 : Nat)] = true ∧ equal [1] [1, (2 : Nat)] = false := by decide
example : findIndex [5, 6, 7, 6] (fun x => x == (6 : Nat)) = 1 := by decide
example : findIndex [5, 6, 7] (fun x => x == (9 : Nat)) = -1 := by decide
