/-
C08 — identity of objects that do NOT come from bytes (Model/CodecLife.lean).

A `Transaction` / `BlockHeader` carries a cached ID (and size) next to its fields. Objects arrive
through `json.Unmarshal` (the RPC endpoints postTransaction / postBlock: the `id` member is a JSON
field, so the client can supply any value), are copied (`Copy` copies the cache), changed (fee,
nonce, a signature appended) and signed. The property "the ID is the hash of exactly the encoded
bytes; IDs are unchanged by store/load and by re-encoding" needs, for those objects:

that after `Init` the ID is H(Encode) and the size |Encode| for EVERY previous state of the cache (a
client-supplied id, a stale id after a change, a copied id), hence after any history of steps that
ends with `Init` (or `Sign`); that the `id` member of a posted JSON object has no influence; that two
objects with the same encoding get the same ID (so the ID survives encode → decode → `Init`).

`CodecLife.init` recomputes unconditionally, as `Transaction.Init` / `BlockHeader.Init` do in
pkg/blockchain; with that transcription most statements below hold by unfolding (`rfl`) — their
content is the transcription, which harness/c08/life.go compares with the real types after every
step of a history. What is
not immediate: the variant of `Init` that returns early when an ID is present
(`CodecLife.initCached`) violates both clauses, for every hash function that separates the two
encodings.
-/
import LiskVerif.Model.CodecLife
import LiskVerif.Gen.Schemas
import LiskVerif.Props.C08_Msg

open LiskVerif LiskVerif.Codec LiskVerif.Gen LiskVerif.Validators LiskVerif.CodecLife

private theorem C08L_enc_init (t : Table) (nfc : NFC) (H : Bytes → Bytes) (o : Obj) :
    encoding t nfc (init t nfc H o) = encoding t nfc o := rfl

/-- **`Init` makes the cache right, whatever it held before.** -/
theorem C08_init_id_is_hash_of_encoding (t : Table) (nfc : NFC) (H : Bytes → Bytes) (o : Obj) :
    IdOk t nfc H (init t nfc H o) ∧ SizeOk t nfc (init t nfc H o) :=
  ⟨rfl, rfl⟩

theorem C08_init_keeps_fields (t : Table) (nfc : NFC) (H : Bytes → Bytes) (o : Obj) :
    (init t nfc H o).vals = o.vals ∧ (init t nfc H o).schema = o.schema := ⟨rfl, rfl⟩

private theorem C08L_run_append (t : Table) (nfc : NFC) (H : Bytes → Bytes) (steps : List Step) (s : Step) :
    ∀ o, run t nfc H o (steps ++ [s]) = step t nfc H (run t nfc H o steps) s := by
  induction steps with
  | nil => intro o; rfl
  | cons a rest ih => intro o; simp only [List.cons_append, run]; exact ih _

/-- **Any history that ends with `Init`**: build / unmarshal, assign fields, copy, sign, `Init` in
any order and number — after the final `Init` the ID is the hash of the encoding and the size its
length. -/
theorem C08_life_init_last (t : Table) (nfc : NFC) (H : Bytes → Bytes) (o : Obj) (steps : List Step) :
    IdOk t nfc H (run t nfc H o (steps ++ [.init])) ∧ SizeOk t nfc (run t nfc H o (steps ++ [.init])) := by
  rw [C08L_run_append]
  exact C08_init_id_is_hash_of_encoding t nfc H _

/-- … and any history that ends with `Sign` (block headers): the ID covers the new signature. -/
theorem C08_life_sign_last (t : Table) (nfc : NFC) (H : Bytes → Bytes) (o : Obj) (steps : List Step)
    (i : Nat) (sig : Bytes) :
    IdOk t nfc H (run t nfc H o (steps ++ [.sign i sig])) := by
  rw [C08L_run_append]
  rfl

/-- `Copy` and field assignment never touch the cache (so a copy of a consistent object is
consistent, and a changed object is stale until the next `Init`). -/
theorem C08_copy_set_keep_cache (t : Table) (nfc : NFC) (H : Bytes → Bytes) (o : Obj) (i : Nat) (v : Value) :
    step t nfc H o .copy = o ∧
    (step t nfc H o (.set i v)).id = o.id ∧ (step t nfc H o (.set i v)).size = o.size :=
  ⟨rfl, rfl, rfl⟩

/-- **The `id` member of a posted JSON object is ignored**: whatever the client supplies, after
`Init` the object is the same as if nothing had been supplied. -/
theorem C08_json_id_ignored (t : Table) (nfc : NFC) (H : Bytes → Bytes) (schema : String)
    (vals : List Value) (supplied : Bytes) :
    init t nfc H (load schema vals supplied) = init t nfc H (load schema vals []) ∧
    (init t nfc H (load schema vals supplied)).id = H (encodeNamed t nfc schema vals) ∧
    (init t nfc H (load schema vals supplied)).size = (encodeNamed t nfc schema vals).length :=
  ⟨rfl, rfl, rfl⟩

theorem C08_init_idempotent (t : Table) (nfc : NFC) (H : Bytes → Bytes) (o : Obj) :
    init t nfc H (init t nfc H o) = init t nfc H o := rfl

/-- the ID assigned by `Init` depends on the encoding only: re-encoding, storing and loading an
object (any way of obtaining an object with the same encoding) gives the same ID and size -/
theorem C08_init_depends_on_encoding_only (t : Table) (nfc : NFC) (H : Bytes → Bytes) (o₁ o₂ : Obj)
    (h : encoding t nfc o₁ = encoding t nfc o₂) :
    (init t nfc H o₁).id = (init t nfc H o₂).id ∧ (init t nfc H o₁).size = (init t nfc H o₂).size := by
  simp only [init, h, and_self]

/-- **`Block.Init`**: the header and every transaction of the block end up with the right cache. -/
theorem C08_blockInit_all_ids (t : Table) (nfc : NFC) (H : Bytes → Bytes) (hdr : Obj) (txs : List Obj) :
    IdOk t nfc H (blockInit t nfc H hdr txs).1 ∧
    ∀ tx ∈ (blockInit t nfc H hdr txs).2, IdOk t nfc H tx ∧ SizeOk t nfc tx := by
  refine ⟨rfl, ?_⟩
  intro tx htx
  simp only [blockInit, List.mem_map] at htx
  obtain ⟨o, _, rfl⟩ := htx
  exact C08_init_id_is_hash_of_encoding t nfc H o

/-! ### the early-return variant is wrong -/

/-- with the early return an object that carries an ID stays as it is -/
private theorem C08L_initCached_of_id (t : Table) (nfc : NFC) (H : Bytes → Bytes) {o : Obj}
    (h : o.id ≠ []) : initCached t nfc H o = o := by
  unfold initCached
  cases hid : o.id with
  | nil => exact absurd hid h
  | cons a r => rfl

/-- **Refutation 1** (`Init` returns when an ID is present): a non-empty client-supplied `id` that
is not the hash of the encoding survives, and the size stays 0. -/
theorem C08_initCached_keeps_supplied_id (t : Table) (nfc : NFC) (H : Bytes → Bytes) (schema : String)
    (vals : List Value) (supplied : Bytes) (hne : supplied ≠ [])
    (hwrong : supplied ≠ H (encodeNamed t nfc schema vals)) :
    (initCached t nfc H (load schema vals supplied)).id = supplied ∧
    (initCached t nfc H (load schema vals supplied)).size = 0 ∧
    ¬ IdOk t nfc H (initCached t nfc H (load schema vals supplied)) := by
  rw [C08L_initCached_of_id t nfc H (o := load schema vals supplied) hne]
  exact ⟨rfl, rfl, hwrong⟩

/-- **Refutation 2**: `Init`, change a field, `Init` again — with the early return the object keeps
the ID of the OLD encoding whenever the hash separates the two encodings (and the old ID is
non-empty, as every real hash value is). -/
theorem C08_initCached_stale_after_change (t : Table) (nfc : NFC) (H : Bytes → Bytes) (o : Obj)
    (i : Nat) (v : Value)
    (hne : H (encoding t nfc o) ≠ [])
    (hsep : H (encoding t nfc o) ≠ H (encoding t nfc (step t nfc H o (.set i v)))) :
    ¬ IdOk t nfc H (initCached t nfc H (step t nfc H (init t nfc H o) (.set i v))) := by
  rw [C08L_initCached_of_id t nfc H (o := step t nfc H (init t nfc H o) (.set i v)) hne]
  exact hsep

/-! ### non-vacuity on the regenerated transaction schema -/

/-- module "a", command "b", nonce 0, fee `fee`, no key, no params, no signature -/
def C08LexampleTx (fee : Nat) : List Value :=
  [.bytes [0x61], .bytes [0x62], .uint 0, .uint fee, .bytes [], .bytes [], .bytesArr []]

/-- its encoding by the regenerated transaction schema (fee below 128: one byte) -/
theorem C08_life_example_encoding (fee : Nat) (hfee : fee < 128) :
    encodeNamed allSchemas asciiNFC "blockchain.Transaction" (C08LexampleTx fee) =
      [0x0a, 1, 0x61, 0x12, 1, 0x62, 0x18, 0, 0x20, UInt8.ofNat fee, 0x2a, 0, 0x32, 0] := by
  simp [encodeNamed, find_eq_of_fields C08_transaction_schema, encode, C08txFields, C08LexampleTx,
    encodeFields, writeKey, writeBytes, putUvarint_lt, hfee, asciiNFC]

/-- with the identity as "hash": a posted transaction with fee 1 and a client-supplied id `dead`
gets, by `Init`, the 14 encoded bytes as ID and size 14; after copying it, raising the fee to 2 and
`Init` again, the ID is the new encoding -/
example :
    let o := init allSchemas asciiNFC id (load "blockchain.Transaction" (C08LexampleTx 1) [0xde, 0xad])
    let o' := run allSchemas asciiNFC id o [.copy, .set 3 (.uint 2), .init]
    o.id = [0x0a, 1, 0x61, 0x12, 1, 0x62, 0x18, 0, 0x20, 1, 0x2a, 0, 0x32, 0] ∧ o.size = 14 ∧
    o'.id = [0x0a, 1, 0x61, 0x12, 1, 0x62, 0x18, 0, 0x20, 2, 0x2a, 0, 0x32, 0] ∧ o'.size = 14 := by
  have e1 := C08_life_example_encoding 1 (by decide)
  have e2 := C08_life_example_encoding 2 (by decide)
  have hset : (C08LexampleTx 1).set 3 (.uint 2) = C08LexampleTx 2 := rfl
  simp only [run, step, init, load, encoding, hset, e1, e2, id]
  exact ⟨rfl, rfl, rfl, rfl⟩

/-- the hypotheses of refutation 1 hold for this transaction and the identity "hash" -/
example :
    ¬ IdOk allSchemas asciiNFC id
      (initCached allSchemas asciiNFC id (load "blockchain.Transaction" (C08LexampleTx 1) [0xde, 0xad])) :=
  (C08_initCached_keeps_supplied_id allSchemas asciiNFC id "blockchain.Transaction" (C08LexampleTx 1) [0xde, 0xad]
    (by decide) (by rw [C08_life_example_encoding 1 (by decide)]; decide)).2.2

/-- … and those of refutation 2 -/
example :
    ¬ IdOk allSchemas asciiNFC id (initCached allSchemas asciiNFC id
      (step allSchemas asciiNFC id
        (init allSchemas asciiNFC id (load "blockchain.Transaction" (C08LexampleTx 1) []))
        (.set 3 (.uint 2)))) := by
  have e1 := C08_life_example_encoding 1 (by decide)
  have e2 := C08_life_example_encoding 2 (by decide)
  have hset : (C08LexampleTx 1).set 3 (.uint 2) = C08LexampleTx 2 := rfl
  apply C08_initCached_stale_after_change
  · simp only [encoding, load, e1, id]; decide
  · simp only [encoding, load, step, hset, e1, e2, id]; decide
