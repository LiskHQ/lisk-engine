/-
C14 — the pool invariant under operations INTERLEAVED into an operation that drops the pool lock.

pkg/txpool has exactly two places where a pool operation is in progress while no pool or list lock is
held (everything else — `Add` including its verifier call and `conn.Publish`, `Remove`, the getters —
runs under the pool mutex from beginning to end, see `Props/C14_Locks.lean`):

* `reorg` (the periodic promotion): each per-sender goroutine takes `GetPromotable()` /
  `GetProcessables()` (a snapshot), then calls the application through `verifyTransactions` WITHOUT a
  lock, then applies the verdicts with `list.Promote(batch)` and `t.remove(id)`;
* `onTransactionAnnoucement`: asks the application without a lock, then calls `Add`.

`Model/TxPoolSplit.lean` models both with the window made explicit: `reorgSplit cfg v p inner` is a
promotion round on pool `p` with the operations `inner` (ANY list of add / remove / block-applied /
block-reverted / nested promotion operations) executed after all snapshots were taken and before any
verdict is applied; it keeps track of sender lists that were unregistered (and possibly re-created) in the
window, on which the goroutine's `Promote` works on an orphan.  The harness runs exactly this schedule on
the real pool (op `reorgx`: the scripted verifier holds every goroutine in its first call until the
inner operations are done) and diffs the result with the compiled model.

Theorems (all for every configuration with limits ≥ 1, every verifier, every inner operation list):
* `C14_reorg_split_preserves_inv` — the split round preserves `C14Inv`; it rests on `C14_reorg_apply_preserves_inv`:
  phase 2 alone is safe from ANY invariant state, for any snapshot whose promotable nonces form a run;
* `C14_announce_split_preserves_inv` — so does an announcement with operations in its window;
* `C14_inv_all_interleaved` — hence `C14Inv` holds after every history built from plain operations,
  split rounds and split announcements (`runX`), with its consequences `C14_interleaved_indexes_agree`,
  `C14_interleaved_bounded`, `C14_interleaved_processable_gapfree`, `C14_interleaved_no_panic`;
* `C14_reorg_split_nil` — with an empty window the split round is the sequential round of `Model/TxPool`
  (same pool), so the earlier theorems about `reorg` are the special case;
* `C14_promote_recheck_sequentially_redundant` — the continuity re-check of the fixed `Promote` never fires
  for a batch that was selected from the current list, i.e. the fix does not change sequential behaviour.

FINDING (fixed by /verif/fixes/C14-promote-stale-batch.patch): `C14_finding_window_gap_original` — with
the `Promote` of the source before the fix (which re-checks only that every batch transaction is still the
one stored at its nonce), replacing or removing a transaction INSIDE the processable run during the window
shortens that run, and the stale batch is appended behind the hole: processable nonces `[0, 3, 4]`.
`C14_window_no_gap_fixed` is the same history with the fixed `Promote`.

Two variants of phase 2 break clauses of `C14Inv` on concrete interleavings: `C14_cx_promote_skip_gap` (a `Promote`
that skips vanished batch members instead of abandoning the batch; seeded/C14-5) and `C14_cx_remove_by_nonce_disagree`
(dropping the invalid suffix from the sender list by nonce instead of by id; seeded/C14-6).
-/
import LiskVerif.Lemmas.TxPoolSplit

open LiskVerif LiskVerif.TxPool

/-- **The promotion round with ANY operations interleaved into its verification window preserves the
invariant** (fixed `Promote`). -/
theorem C14_reorg_split_preserves_inv (cfg : Cfg) (hmax : 1 ≤ cfg.maxTx) (hper : 1 ≤ cfg.maxPerAcct)
    (v : Nat → Verdict) (p : Pool) (h : C14Inv cfg p) (inner : List Op) :
    C14Inv cfg (reorgSplit cfg v p inner) := reorgSplit_inv hmax hper h v inner

/-- Phase 2 alone is safe from ANY invariant state, for any snapshot whose promotable nonces form a run, and
whether or not the goroutine's list object is still the registered one — the fact the theorem above rests
on: nothing that happened in the window has to be assumed. -/
theorem C14_reorg_apply_preserves_inv (cfg : Cfg) (v : Nat → Verdict) (alive : Bool) (p : Pool) (h : C14Inv cfg p)
    (sn : Snap) (hrun : ∃ first m, sn.prom.map (·.nonce) = List.range' first m) :
    C14Inv cfg (reorgApply Acct.promoteChecked v alive p sn) := reorgApply_inv h v alive sn hrun

/-- An announcement from a peer with operations in the window between its verifier call and its `Add`. -/
theorem C14_announce_split_preserves_inv (cfg : Cfg) (hmax : 1 ≤ cfg.maxTx) (hper : 1 ≤ cfg.maxPerAcct)
    (p : Pool) (h : C14Inv cfg p) (x : AddArg) (inner : List Op) :
    C14Inv cfg (announceSplit cfg p x inner) := announceSplit_inv hmax hper h x inner

theorem C14_inv_all_interleaved (cfg : Cfg) (hmax : 1 ≤ cfg.maxTx) (hper : 1 ≤ cfg.maxPerAcct) (ops : List OpX) :
    C14Inv cfg (runX cfg ops) := runX_inv hmax hper ops

theorem C14_reorg_split_nil (cfg : Cfg) (v : Nat → Verdict) (p : Pool) (h : C14Inv cfg p) :
    reorgSplit cfg v p [] = reorg v p := reorgSplit_nil h v

/-- The continuity re-check added to `Promote` never fires on the sequential path: for every prefix of
what is promotable now the fixed and the original `Promote` agree. -/
theorem C14_promote_recheck_sequentially_redundant (a : Acct) (k : Nat) :
    a.promoteChecked (a.promotable.take k) = a.promote (a.promotable.take k) := promoteChecked_promotable a k

theorem C14_interleaved_indexes_agree (cfg : Cfg) (hmax : 1 ≤ cfg.maxTx) (hper : 1 ≤ cfg.maxPerAcct)
    (ops : List OpX) :
    let p := runX cfg ops
    (∀ t ∈ p.all, ∃ a, findAcct p.accts t.sender = some a ∧ a.get t.nonce = some t) ∧
    (∀ e ∈ p.accts, e.2.txs ≠ [] ∧ ∀ t ∈ e.2.txs, t ∈ p.all ∧ t.sender = e.1 ∧ e.2.get t.nonce = some t) ∧
    (p.accts.map (·.1)).Nodup ∧ (p.all.map (·.id)).Nodup ∧ p.heap.Perm p.all :=
  (runX_inv hmax hper ops).indexes_agree

theorem C14_interleaved_bounded (cfg : Cfg) (hmax : 1 ≤ cfg.maxTx) (hper : 1 ≤ cfg.maxPerAcct) (ops : List OpX) :
    (runX cfg ops).all.length ≤ cfg.maxTx ∧ ∀ e ∈ (runX cfg ops).accts, e.2.txs.length ≤ cfg.maxPerAcct :=
  have h := (runX_inv hmax hper ops).sizes
  ⟨h.1, h.2.2⟩

/-- Each sender's processable set is a strictly ascending run without gaps, held by the list, after every
interleaved history. -/
theorem C14_interleaved_processable_gapfree (cfg : Cfg) (hmax : 1 ≤ cfg.maxTx) (hper : 1 ≤ cfg.maxPerAcct)
    (ops : List OpX) :
    ∀ e ∈ (runX cfg ops).accts,
      e.2.proc.Pairwise (· < ·) ∧
      (∀ x ∈ e.2.proc, ∀ y ∈ e.2.proc, ∀ z, x ≤ z → z ≤ y → z ∈ e.2.proc) ∧
      (∀ n ∈ e.2.proc, ∃ t, e.2.get n = some t) :=
  (runX_inv hmax hper ops).processable_gapfree

theorem C14_interleaved_no_panic (cfg : Cfg) (hmax : 1 ≤ cfg.maxTx) (hper : 1 ≤ cfg.maxPerAcct) (ops : List OpX) :
    (runX cfg ops).fault = false := (runX_inv hmax hper ops).noFault

/-! ### the finding and two broken variants of phase 2, on concrete interleavings -/

namespace C14X

def cfg : Cfg := { maxTx := 8, maxPerAcct := 8, minFeeDiff := 10, minEntrance := 0 }
def tx (id nonce fee : Nat) : Tx := { id := id, sender := 1, nonce := nonce, fee := fee, size := 100 }
def arg (t : Tx) : AddArg := { tx := t, v := .ok, pubOk := true, tie := 0 }
def allOk : Nat → Verdict := fun _ => .ok

/-- nonces 0,1,2 processable, 3,4 pooled behind them -/
def base : Pool :=
  run cfg [.add (arg (tx 10 0 1000)), .add (arg (tx 11 1 1000)), .add (arg (tx 12 2 1000)), .reorg allOk,
           .add (arg (tx 13 3 1000)), .add (arg (tx 14 4 1000))]

/-- in the window: nonce 1 is replaced by a better paying transaction -/
def replace1 : List Op := [.add (arg (tx 21 1 5000))]

/-- a `Promote` that skips batch members which vanished instead of abandoning the batch (seeded/C14-5) -/
def promoteSkip (a : Acct) (txs : List Tx) : Acct :=
  let keep := txs.filter (fun t => match a.get t.nonce with | some e => e.id == t.id | none => false)
  if keep.isEmpty then a else { a with proc := sortUniq (a.proc ++ keep.map (·.nonce)) }

/-- nonces 0..3 pooled, nothing processable yet -/
def fresh : Pool :=
  run cfg [.add (arg (tx 10 0 1000)), .add (arg (tx 11 1 1000)), .add (arg (tx 12 2 1000)), .add (arg (tx 13 3 1000))]

/-- phase 2 dropping the invalid suffix from the sender list by NONCE (and from `allTransactions` by id;
seeded/C14-6) -/
def removeByNonce (p : Pool) (t : Tx) : Pool :=
  let all' := p.all.filter (fun x => x.id != t.id)
  match findAcct p.accts t.sender with
  | none => { p with all := all', heap := all' }
  | some a =>
    let a' := (a.remove t.nonce).1
    { p with all := all', heap := all',
             accts := if a'.txs.isEmpty then delAcct p.accts t.sender else setAcct p.accts t.sender a' }

end C14X

open C14X in
/-- FINDING (source before fix C14-promote-stale-batch): a replacement inside the processable run during the
verification window leaves the processable set `[0, 3, 4]` — nonces 1 and 2 are pooled but not processable. -/
theorem C14_finding_window_gap_original :
    (reorgSplitOrig cfg allOk base replace1).accts.map (fun e => (e.2.sortedNonces, e.2.proc)) =
      [([0, 1, 2, 3, 4], [0, 3, 4])] := by decide

open C14X in
/-- the same interleaving with the fixed `Promote`: the stale batch is abandoned; the next round promotes
the whole run again -/
theorem C14_window_no_gap_fixed :
    (reorgSplit cfg allOk base replace1).accts.map (fun e => e.2.proc) = [[0]] ∧
    (reorg allOk (reorgSplit cfg allOk base replace1)).accts.map (fun e => e.2.proc) = [[0, 1, 2, 3, 4]] := by
  decide

open C14X in
/-- `promoteSkip` breaks the gap-free clause: nonce 2 of the batch `0..3` is removed in the window; skipping it
promotes 3 behind the hole. -/
theorem C14_cx_promote_skip_gap :
    (reorgSplitWith promoteSkip cfg allOk fresh [.remove 12]).accts.map (fun e => e.2.proc) = [[0, 1, 3]] ∧
    (reorgSplit cfg allOk fresh [.remove 12]).accts.map (fun e => e.2.proc) = [[]] := by decide

open C14X in
/-- `removeByNonce` breaks the agreement of the indexes: nonce 1 is invalid, nonce 2 is replaced in the window; removing the
suffix by nonce throws the NEW transaction out of the list but leaves it in `allTransactions`, while the
code's removal by id keeps the three indexes in agreement. -/
theorem C14_cx_remove_by_nonce_disagree :
    let v : Nat → Verdict := fun id => if id = 11 then .invalid else .ok
    let q := applyOp cfg fresh (.add (arg (tx 22 2 5000)))
    let bad := [tx 11 1 1000, tx 12 2 1000, tx 13 3 1000].foldl removeByNonce q
    (bad.all.map (·.id) = [22, 10] ∧ bad.accts.map (fun e => e.2.txs.map (·.id)) = [[10]]) ∧
    (let good := reorgSplit cfg v fresh [.add (arg (tx 22 2 5000))]
     good.all.map (·.id) = [22, 10] ∧ good.accts.map (fun e => e.2.txs.map (·.id)) = [[22, 10]]) := by
  decide

/-! ### non-vacuity -/

open C14X in
example : C14Inv cfg base := run_inv (by decide) (by decide) _

open C14X in
/-- a window that unregisters the sender's list and re-creates it: the goroutine promotes on the orphan, the
re-added transactions stay unprocessable (and are promoted by the next round) -/
example :
    let one : Pool := run cfg [.add (arg (tx 10 0 1000))]
    (reorgSplit cfg allOk one [.remove 10, .add (arg (tx 10 0 1000))]).accts.map (fun e => e.2.proc) = [[]] ∧
    (reorgSplit cfg allOk one []).accts.map (fun e => e.2.proc) = [[0]] := by decide

open C14X in
/-- an invalid verdict at nonce 2 while nonce 0 is removed in the window: the batch `[0, 1]` is abandoned (its
first member is gone), the invalid suffix `[2, 3]` is dropped -/
example :
    let v : Nat → Verdict := fun id => if id = 12 then .invalid else .ok
    let q := reorgSplit cfg v fresh [.remove 10]
    q.all.map (·.id) = [11] ∧ q.accts.map (fun e => e.2.proc) = [[]] := by decide

open C14X in
/-- nonce 0 leaves in the window of the announcement of nonce 1 and comes back in the window of the round that
promotes nonce 1: the batch `[1]` taken before is applied, so nonce 1 is processable while the pooled nonce 0 is not
(`C14Inv` asks for a gap-free processable run, not for one that starts at the lowest pooled nonce; cf.
`C14_quirk_low_nonce_blocks_promotion`) -/
example : (runX cfg [.plain (.add (arg (tx 10 0 1000))), .annx (arg (tx 11 1 1000)) [.remove 10],
    .reorgx allOk [.add (arg (tx 10 0 1000))]]).accts.map (fun e => e.2.proc) = [[1]] := by decide
