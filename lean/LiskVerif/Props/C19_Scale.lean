/-
C19 — realistic scale and failure geometry (what seeded/C19-13 and seeded/C19-14 violate).

**Scale.** The handler of `getHighestCommonBlock` refuses a request by its SHAPE only: no ids, or an
id that is not 32 bytes long.  Both conditions are REGENERATED from pkg/consensus/sync/sync.go on
every run (`Gen.hcbRequestRejected`, `Gen.hcbIDRejected`; tools/fngen), and so are the numbers of
heights the two synchronisers ask for: `Gen.fastCommonNum` — the last argument of the
`getLastHeights` call of `fastSyncer.getCommonBlock` (`len(ctx.CurrentValidators)*2`) — and
`Gen.blockCommonNum` — the last argument of the `getHeightWithGap` call of
`blockSyncer.getCommonBlockHeader` (`10`).

* `C19_gen_hcb_guard_eq`, `C19_gen_hcb_ban_iff`: the regenerated shape conditions are exactly the ban
  conditions of `Sync.handleHighestCommon` (no upper bound on the number of ids).
* `C19_gen_request_sizes_eq`: the regenerated request sizes are the ones of `Sync.fastSync` /
  `Sync.commonSearch` (`2n` for `n < 2^62`, where the Go `int` does not wrap; `10`).
* `C19_honest_request_accepted`: for EVERY number of validators `1 ≤ n ≤ 2^31` and EVERY own chain of at most
  `2^32` blocks (heights are `uint32`) the request the fast synchroniser builds carries `min (tip+1) (2n-1)` ids of
  its own blocks, passes the regenerated shape conditions and is not answered with a ban by the handler over any
  responder chain; `C19_honest_block_request_accepted`: the same for every request of the block
  synchroniser's search (1 to 9 ids).
* `C19_gen_hcb_accepts_main_net_sizes`: every size `≥ 1` (so every size `1 … 2·103-1`) passes the regenerated count
  condition; `C19_main_net_request_size`: 205 ids are reached with 103 validators on a chain of at
  least 205 blocks — a handler bound below 205 refuses an honest request.

**Failure geometry.** `C19_fast_sync_failure_restores_all_geometries`: for every requester chain that
is valid for the processor, every peer behaviour and every position of the failing block, when applying
the downloaded blocks finalizes nothing new, ANY error of the fast synchroniser leaves exactly the
original chain — in particular when the common block is the requester's tip (nothing was moved to the
temp table) and blocks of the peer were applied before the failing one: that situation is not a hypothesis of any
statement here (`C19_fast_sync_only_behind` is the `applyFailed` clause on `Blk Nat`); the examples evaluate the six cells
{only behind, own fork} × {first, middle, last downloaded block fails}.
-/
import LiskVerif.Props.C19
import LiskVerif.Lemmas.GenInt

open LiskVerif LiskVerif.Sync

/-! ## The regenerated shape conditions of the handler -/

/-- the handler accepts the SHAPE of a request whose ids have the byte lengths `lens`: neither the
regenerated count condition nor the regenerated id-length condition fires -/
def C19genShapeAccepted (lens : List Nat) : Bool :=
  !(Gen.hcbRequestRejected (lens.length : Int)) && lens.all (fun l => !(Gen.hcbIDRejected (l : Int)))

/-- the regenerated conditions: refused iff there is no id or an id is not 32 bytes long — whatever the
number of ids -/
theorem C19_gen_hcb_guard_eq (lens : List Nat) :
    C19genShapeAccepted lens = (!lens.isEmpty && lens.all (fun l => l == 32)) := by
  unfold C19genShapeAccepted Gen.hcbRequestRejected Gen.hcbIDRejected
  have h1 : decide ((lens.length : Int) = 0) = lens.isEmpty := by
    cases lens with
    | nil => rfl
    | cons a r =>
      simp only [List.length_cons, List.isEmpty_cons]
      apply decide_eq_false
      omega
  rw [h1]
  congr 1
  apply List.all_congr rfl
  intro l
  by_cases h : l = 32
  · subst h; rfl
  · have h2 : ¬ ((l : Int) = 32) := by omega
    simp [h, h2]

/-- every request size `k ≥ 1` passes the regenerated count condition, in particular those of a network with up to 103
validators (the upper bound `_h2` is not needed: the handler has no bound on the number of ids) -/
theorem C19_gen_hcb_accepts_main_net_sizes (k : Nat) (h1 : 1 ≤ k) (_h2 : k ≤ 2 * 103 - 1) :
    Gen.hcbRequestRejected (k : Int) = false := by
  unfold Gen.hcbRequestRejected
  apply decide_eq_false
  omega

section Handler
variable {ι : Type} [DecidableEq ι]

/-- **the model handler bans exactly the shapes the regenerated conditions refuse** (`len` is the byte
length of an id; the driver's `okLen` is `len i == 32`) -/
theorem C19_gen_hcb_ban_iff (len : ι → Nat) (c : List (Blk ι)) (ids : List ι) :
    handleHighestCommon (fun i => len i == 32) c (some ids) = .ban ↔
      C19genShapeAccepted (ids.map len) = false := by
  rw [C19_gen_hcb_guard_eq, handleHighestCommon_eq_ban_iff, List.all_map]
  cases ids with
  | nil => simp
  | cons a r =>
    rw [List.map_cons, List.isEmpty_cons, Bool.not_false, Bool.true_and, List.all_eq_false]
    simp only [reduceCtorEq, false_or, Function.comp, Bool.not_eq_true]

end Handler

/-! ## The regenerated request sizes of the synchronisers -/

/-- the fast synchroniser asks `getLastHeights` for `2n` (the model's `2 * n`; for `n < 2^62`, where the Go `int`
does not wrap), the block synchroniser asks `getHeightWithGap` for `10` -/
theorem C19_gen_request_sizes_eq :
    (∀ n : Nat, n < 4611686018427387904 → (Gen.fastCommonNum (n : Int)).toNat = 2 * n) ∧
    Gen.blockCommonNum.toNat = 10 := by
  refine ⟨?_, rfl⟩
  intro n hn
  unfold Gen.fastCommonNum
  rw [Gen.i64_eq (by omega) (by omega)]
  omega

section Requests
variable {ι : Type} [DecidableEq ι]

/-- the request of `fastSyncer.getCommonBlock` for `n` current validators on the own chain `q`
(`Sync.fastSync` / `Sync.fastCommon` start with it), with the regenerated number of heights -/
def C19fastRequest (n : Nat) (q : List (Blk ι)) : List ι :=
  idsAt q (getLastHeights (q.length - 1) (Gen.fastCommonNum (n : Int)).toNat)

/-- a request of `blockSyncer.getCommonBlockHeader` (`Sync.commonSearch`): round length `n`, finalized
height `fin`, sampling from `start`, with the regenerated number of heights -/
def C19blockRequest (n fin start : Nat) (q : List (Blk ι)) : List ι :=
  idsAt q (getHeightWithGap start fin n Gen.blockCommonNum.toNat)

private theorem idsAt_of_lt (q : List (Blk ι)) (hs : List Nat) (h : ∀ x ∈ hs, x < q.length) :
    (idsAt q hs).length = hs.length ∧ ∀ i ∈ idsAt q hs, ∃ b ∈ q, b.id = i := by
  refine ⟨?_, fun i hi => ?_⟩
  · induction hs with
    | nil => rfl
    | cons a r ih =>
      have ha := h a List.mem_cons_self
      have hget : q[a]? = some q[a] := List.getElem?_eq_getElem ha
      rw [idsAt, List.filterMap_cons, hget, Option.map_some, List.length_cons, List.length_cons]
      exact congrArg (· + 1) (ih fun x hx => h x (List.mem_cons_of_mem _ hx))
  · obtain ⟨_, _, b, hb, hbi⟩ := (mem_idsAt q hs i).mp hi
    exact ⟨b, List.mem_of_getElem? hb, hbi⟩

private theorem accepted_of_own (len : ι → Nat) (q : List (Blk ι)) (hlen : ∀ b ∈ q, len b.id = 32)
    (ids : List ι) (hne : ids ≠ []) (hown : ∀ i ∈ ids, ∃ b ∈ q, b.id = i) (p : List (Blk ι)) :
    C19genShapeAccepted (ids.map len) = true ∧
      handleHighestCommon (fun i => len i == 32) p (some ids) ≠ .ban := by
  have hacc : C19genShapeAccepted (ids.map len) = true := by
    rw [C19_gen_hcb_guard_eq]
    have h1 : (ids.map len).isEmpty = false := by
      cases ids with
      | nil => exact absurd rfl hne
      | cons a r => rfl
    rw [h1]
    simp only [Bool.not_false, Bool.true_and, List.all_map, List.all_eq_true]
    intro i hi
    obtain ⟨b, hb, hbi⟩ := hown i hi
    simp [Function.comp, ← hbi, hlen b hb]
  refine ⟨hacc, ?_⟩
  intro hban
  have := (C19_gen_hcb_ban_iff len p ids).mp hban
  rw [hacc] at this
  cases this

/-- **An honest fast synchroniser's request is never refused.**  For every number of validators
`1 ≤ n ≤ 2^31`, every own chain `q` of at most `2^32` blocks (heights are `uint32`; ids of 32 bytes) and every
responder chain `p`: the
request carries the ids of `min (tip+1) (2n-1)` own blocks, passes the regenerated shape conditions of
the handler and is not answered with a ban. -/
theorem C19_honest_request_accepted (len : ι → Nat) (n : Nat) (hn : 1 ≤ n) (hn2 : n ≤ 2147483648)
    (q : List (Blk ι)) (hq : q ≠ []) (hql : q.length ≤ two32) (hlen : ∀ b ∈ q, len b.id = 32)
    (p : List (Blk ι)) :
    (C19fastRequest n q).length = min q.length (2 * n - 1) ∧
    C19genShapeAccepted ((C19fastRequest n q).map len) = true ∧
    handleHighestCommon (fun i => len i == 32) p (some (C19fastRequest n q)) ≠ .ban := by
  have hpos : 0 < q.length := List.length_pos_iff.mpr hq
  have hnum : (Gen.fastCommonNum (n : Int)).toNat = 2 * n := C19_gen_request_sizes_eq.1 n (by omega)
  have hlast := getLastHeights_eq (start := q.length - 1) (num := 2 * n) (by omega) (Nat.mul_le_mul_left 2 hn2)
  have hall : ∀ x ∈ getLastHeights (q.length - 1) (2 * n), x < q.length := by
    intro x hx
    rw [hlast] at hx
    obtain ⟨j, _, hj⟩ := List.mem_map.mp hx
    omega
  obtain ⟨h1, h2⟩ := idsAt_of_lt q _ hall
  have hlenreq : (C19fastRequest n q).length = min q.length (2 * n - 1) := by
    unfold C19fastRequest
    rw [hnum, h1, hlast, List.length_map, List.length_range, Nat.sub_add_cancel hpos, Nat.min_comm]
  have hne : C19fastRequest n q ≠ [] := by
    intro h
    rw [h] at hlenreq
    simp only [List.length_nil] at hlenreq
    omega
  have hown : ∀ i ∈ C19fastRequest n q, ∃ b ∈ q, b.id = i := by
    unfold C19fastRequest; rw [hnum]; exact h2
  exact ⟨hlenreq, accepted_of_own len q hlen _ hne hown p⟩

/-- **… nor is a request of the block synchroniser's search**: sampling from any height `start` of the
own chain down to any finalized height `fin` of it with any round length, the request carries between
one and nine ids of own blocks and is not answered with a ban. -/
theorem C19_honest_block_request_accepted (len : ι → Nat) (n fin start : Nat) (q : List (Blk ι))
    (hs : start < q.length) (hf : fin < q.length) (hql : q.length ≤ two32) (hno : fin + 10 * n < two32)
    (hlen : ∀ b ∈ q, len b.id = 32) (p : List (Blk ι)) :
    1 ≤ (C19blockRequest n fin start q).length ∧ (C19blockRequest n fin start q).length ≤ 9 ∧
    C19genShapeAccepted ((C19blockRequest n fin start q).map len) = true ∧
    handleHighestCommon (fun i => len i == 32) p (some (C19blockRequest n fin start q)) ≠ .ban := by
  have hnum : Gen.blockCommonNum.toNat = 10 := C19_gen_request_sizes_eq.2
  obtain ⟨hle, hgt, hmem⟩ := C19_heights_arith.1 start fin n 10 (by omega) hno
  have hall : ∀ x ∈ getHeightWithGap start fin n 10, x < q.length := by
    intro x hx
    have := (hmem x hx).2
    omega
  obtain ⟨h1, h2⟩ := idsAt_of_lt q _ hall
  have hcount : 1 ≤ (getHeightWithGap start fin n 10).length ∧ (getHeightWithGap start fin n 10).length ≤ 9 := by
    by_cases hsf : start ≤ fin
    · rw [hle hsf]; simp
    · obtain ⟨k, hk, hlist, _, hstop⟩ := hgt (by omega)
      rw [hlist, List.length_map, List.length_range]
      refine ⟨?_, by omega⟩
      cases k with
      | zero =>
        have := hstop (by omega)
        omega
      | succ k' => omega
  have hlenreq : (C19blockRequest n fin start q).length = (getHeightWithGap start fin n 10).length := by
    unfold C19blockRequest; rw [hnum, h1]
  have hne : C19blockRequest n fin start q ≠ [] := by
    intro h
    rw [h] at hlenreq
    simp only [List.length_nil] at hlenreq
    omega
  have hown : ∀ i ∈ C19blockRequest n fin start q, ∃ b ∈ q, b.id = i := by
    unfold C19blockRequest; rw [hnum]; exact h2
  exact ⟨by omega, by omega, accepted_of_own len q hlen _ hne hown p⟩

/-- with 103 validators and an own chain of at least 205 blocks the request carries exactly
`2·103-1 = 205` ids: any handler bound below 205 would refuse an honest request -/
theorem C19_main_net_request_size (q : List (Blk ι)) (hq : 205 ≤ q.length) (hql : q.length ≤ two32)
    (len : ι → Nat) (hlen : ∀ b ∈ q, len b.id = 32) :
    (C19fastRequest 103 q).length = 205 := by
  have hne : q ≠ [] := by intro h; rw [h] at hq; simp at hq
  rw [(C19_honest_request_accepted len 103 (by omega) (by omega) q hne hql hlen []).1]
  omega

end Requests

/-- non-vacuity: chain of 300 blocks with 32-byte ids (`len := fun _ => 32`), 103 validators -/
example : (C19fastRequest 103 ((List.range 300).map fun h => ({ id := h, prev := h - 1, height := h } : Blk Nat))).length = 205 :=
  C19_main_net_request_size _ (by simp) (by simp [two32]) (fun _ => 32) (fun _ _ => rfl)

/-! ## Failure geometry of the fast synchroniser -/

section Geometry
variable {ι : Type} [DecidableEq ι]

/-- **Every failure of the fast synchroniser restores the original chain, in every geometry.**  The
requester chain `q` is valid for the processor and applying downloaded blocks finalizes nothing above
the finalized height the round started with.  Then for EVERY peer behaviour — whatever common block it
names (the requester's tip: the requester was only behind and nothing goes to the temp table, or a
block below the tip: own fork), however many of its blocks are applied before one fails (none: the
first downloaded block fails; some: a middle or the last one) and whichever request fails — a round
that ends with an error leaves exactly `q`; and when the error is a block the processor refused, the
peer is banned and the temp table is empty. -/
theorem C19_fast_sync_failure_restores_all_geometries (applies : List (Blk ι) → Blk ι → Bool)
    (finAfter : List (Blk ι) → Nat) (n fin : Nat) (q : List (Blk ι)) (target : Blk ι) (peer : Peer ι)
    (hv : ValidChain applies q) (hfa : ∀ c, finAfter c ≤ fin) :
    ((fastSync applies finAfter n fin q target peer).err ≠ none →
      (fastSync applies finAfter n fin q target peer).chain = q) ∧
    ((fastSync applies finAfter n fin q target peer).err = some .applyFailed →
      (fastSync applies finAfter n fin q target peer).banned = true ∧
      (fastSync applies finAfter n fin q target peer).temp = []) := by
  obtain ⟨h1, h2, h3⟩ := C19_fast_sync_failure_restores applies finAfter n fin q target peer
  refine ⟨?_, fun h => (h1 h).2⟩
  intro hne
  cases herr : (fastSync applies finAfter n fin q target peer).err with
  | none => exact absurd herr hne
  | some e =>
    apply h2 e herr
    intro he
    subst he
    exact h3 hfa hv herr

end Geometry

/-! ### The six cells {only behind, own fork} × {first, middle, last block fails}, evaluated

Chains over `Nat` ids: block `h` of the common part has id `h`, the requester's own blocks have ids
`100+h`, the peer's blocks ids `200+h`.  The peer is honest over its chain; the processor refuses the
block with id `bad` (and anything that does not extend the tip). -/

def C19gBlk (id prev h : Nat) : Blk Nat := { id := id, prev := prev, height := h }

/-- common part: heights 0..3 -/
def C19gCom : List (Blk Nat) := [C19gBlk 0 0 0, C19gBlk 1 0 1, C19gBlk 2 1 2, C19gBlk 3 2 3]
/-- the peer's chain: the common part and five blocks of its own -/
def C19gPeer : List (Blk Nat) :=
  C19gCom ++ [C19gBlk 204 3 4, C19gBlk 205 204 5, C19gBlk 206 205 6, C19gBlk 207 206 7, C19gBlk 208 207 8]
/-- requester with an own fork of two blocks -/
def C19gFork : List (Blk Nat) := C19gCom ++ [C19gBlk 104 3 4, C19gBlk 105 104 5]

def C19gApplies (bad : Nat) (c : List (Blk Nat)) (x : Blk Nat) : Bool :=
  x.height == c.length && (match c.getLast? with | some t => t.id == x.prev | none => false) && x.id != bad

/-- one round of fast sync (4 validators, finalized height 1) towards the peer's tip; the result as
(chain ids, temp ids, banned, error) -/
def C19gRun (q : List (Blk Nat)) (bad : Nat) : List Nat × List Nat × Bool × Option SyncErr :=
  let o := fastSync (C19gApplies bad) (fun _ => 0) 4 1 q (C19gBlk 208 207 8) (honest C19gPeer 0)
  (o.chain.map (·.id), o.temp.map (·.id), o.banned, o.err)

-- only behind (the common block is the requester's tip, empty temp table): first / middle / last block fails
example : C19gRun C19gCom 204 = ([0, 1, 2, 3], [], true, some .applyFailed) := by decide
example : C19gRun C19gCom 206 = ([0, 1, 2, 3], [], true, some .applyFailed) := by decide
example : C19gRun C19gCom 208 = ([0, 1, 2, 3], [], true, some .applyFailed) := by decide
-- own fork of two blocks: first / middle / last block fails
example : C19gRun C19gFork 204 = ([0, 1, 2, 3, 104, 105], [], true, some .applyFailed) := by decide
example : C19gRun C19gFork 206 = ([0, 1, 2, 3, 104, 105], [], true, some .applyFailed) := by decide
example : C19gRun C19gFork 208 = ([0, 1, 2, 3, 104, 105], [], true, some .applyFailed) := by decide
-- no failure: both end on the peer's chain
example : C19gRun C19gCom 999 = ([0, 1, 2, 3, 204, 205, 206, 207, 208], [], false, none) := by decide
example : C19gRun C19gFork 999 = ([0, 1, 2, 3, 204, 205, 206, 207, 208], [], false, none) := by decide

/-- A round of the fast synchroniser that ends with a block the processor refused leaves the original chain, an empty
temp table and the peer banned.  The statement says nothing of where the common block lies: it is the first clause of
`C19_fast_sync_failure_restores` on `Blk Nat` (`hv`, `hfa` are not needed).  The situation the name refers to — the
common block is the requester's tip, `k ≥ 1` downloaded blocks were applied before the refused one, and the result is
`q`, not `q ++ applied` as a `restoreBlocks` returning early on an empty temp table would leave — is the evaluated
example below. -/
theorem C19_fast_sync_only_behind (applies : List (Blk Nat) → Blk Nat → Bool)
    (finAfter : List (Blk Nat) → Nat) (n fin : Nat) (q : List (Blk Nat)) (target : Blk Nat) (peer : Peer Nat)
    (hv : ValidChain applies q) (hfa : ∀ c, finAfter c ≤ fin)
    (herr : (fastSync applies finAfter n fin q target peer).err = some .applyFailed) :
    (fastSync applies finAfter n fin q target peer).chain = q ∧
    (fastSync applies finAfter n fin q target peer).temp = [] ∧
    (fastSync applies finAfter n fin q target peer).banned = true := by
  obtain ⟨h1, h2, h3⟩ := (C19_fast_sync_failure_restores applies finAfter n fin q target peer).1 herr
  exact ⟨h1, h3, h2⟩

/-- … and it is not vacuous: in the evaluated only-behind run two blocks of the peer were applied
before block 206 was refused, and the result is still the original chain -/
example : (C19gRun C19gCom 206).1 = C19gCom.map (·.id) := by decide
