/-
C03 — tie A of `Model/Verify.lean` to the Go source.  `LiskVerif/Gen/VerifySkeleton.lean` is
REGENERATED from /repo on every run by tools/vskelgen (go/ast): for `Executer.process`,
`processValidated`, `verifyBlock`, `verifyAggregateCommit`, `newBlockExecuteABI`,
`stateExecuter.Verify/Execute/Commit`, `getABIConsensus`, `Block.Validate`, `BlockHeader.Validate`,
`Transaction.Validate`, `BlockAssets.Valid` it lists, in program order, every error exit
(`if cond { return err }`: operator, both operands as canonical expressions with locals inlined, what
is returned), every call of another function of that set, every staging / write / publish site, and
emits each integer comparison also as a Lean function `VS.g_<function>_<field>`.

This file states that the regenerated skeleton IS the model:
* `clsOf` maps each generated error exit to the rule (`Verify.Err`) it implements; an exit the
  classification does not know (`C03_gen_*_known`) or a rule that no exit implements (`C03_gen_rule_*`:
  a theorem for a rule or a few rules that belong together; the rules without one of their own are covered
  by the order theorems) breaks a named obligation;
* the rules occur in the generated code in exactly the order of the model's rule lists
  `validateChecks`, `verifyChecks`, `acChecks`, `execChecks`, for every node, block and loop count
  (`C03_gen_*_order`, `C03_gen_checkList_order`); `C03_first_failure_order` (Props/C03.lean) then says
  that the model returns the first failing rule of that list;
* the generated arithmetic guards are the negations of the model's predicates for all values
  (`C03_gen_rule_height`, `_future`, `_pastSlot`, `_mhp`, `_payloadSize`, `_vPrevLen`, …);
* no error exit of `processValidated` lies behind the database write, nothing on the verification
  path writes, stages or publishes, the application commit precedes the chain write
  (`C03_gen_no_write_before_error_exit`, `C03_gen_checks_are_pure`, `C03_gen_processValidated_call_order`);
* `process` asks the fork-choice predicates in the model's order and runs `block.Validate()` before
  `processValidated` on the valid-successor and tie-break branches (`C03_gen_process_*`).

NOT covered (stays with the correspondence harness): what the called functions compute — signature
and BLS verification, Merkle roots, `GetSlotNumber`, the liskbft store API and which result of
`GetBFTHeights` is which height, the application behind the ABI, `AddBlock` itself (C13), the
fork-choice predicates (C07); integer widths (guards are compared over `Nat`).
-/
import LiskVerif.Model.Verify
import LiskVerif.Gen.VerifySkeleton

open LiskVerif LiskVerif.Verify LiskVerif.Gen

namespace C03Gen

abbrev Item := VS.Item

/-- what a generated exit stands for in the model -/
inductive Cls where
  /-- a rule of the model's rule list -/
  | rule (e : Err)
  /-- the error of a store / database read that cannot fail in the model (the key exists by
  construction, I/O errors are not modelled) -/
  | infallible
  /-- `return nil` before the end: the shortcut of `verifyAggregateCommit` for the empty commit -/
  | accept
  /-- the error of another function of the table is passed on: its exits are spliced in -/
  | splice (f : String)
  /-- as `splice`, but the callee's rules are a separate family (`acChecks`, `verifyChecks`) -/
  | marker (f : String)
  | unknown
deriving DecidableEq, Repr

def body (f : String) : List Item := (VS.fns.lookup f).getD []

/-- error exits (and accepting shortcuts) of a skeleton, in program order -/
def isExit (i : Item) : Bool := i.kind == "check" || (i.kind == "ret" && i.ret != "nil")
def exits (l : List Item) : List Item := l.filter isExit

def thresholdsChanged : String :=
  "((afterTxs.PreCommitThreshold != 0 || afterTxs.CertificateThreshold != 0) || len(afterTxs.NextValidators) != 0)"

/-- the rule implemented by an exit of function `f` -/
def clsOf (f : String) (i : Item) : Cls :=
  match f, i.op, i.lhs, i.rhs, i.ret with
  -- Block.Validate
  | "Block.Validate", "callerr", "self.Header.Validate()", "", "err" => .splice "BlockHeader.Validate"
  | "Block.Validate", "callerr", "self.Transactions[*].Validate()", "", "err" => .rule .txStatic
  | "Block.Validate", "bytes.ne", "self.Header.TransactionRoot", "rmt.CalculateRoot(mut(make([][]byte, len(self.Transactions))))", "new" => .rule .txRoot
  | "Block.Validate", "callerr", "BlockAssets(self.Assets).Valid()", "", "err" => .splice "BlockAssets.Valid"
  | "Block.Validate", "bytes.ne", "self.Header.AssetRoot", "BlockAssets(self.Assets).GetRoot()", "new" => .rule .assetRoot
  | "BlockHeader.Validate", "!=", "len(self.PreviousBlockID)", "crypto.HashLengh", "errorf" => .rule .vPrevLen
  | "BlockHeader.Validate", "!=", "len(self.GeneratorAddress)", "AddressLength", "errorf" => .rule .vGenLen
  | "BlockHeader.Validate", "!=", "len(self.Signature)", "crypto.EdSignatureLength", "new" => .rule .vSigLen
  | "BlockHeader.Validate", "!=", "len(self.StateRoot)", "crypto.HashLengh", "errorf" => .rule .vStateRootLen
  | "BlockAssets.Valid", "!=", "make(BlockAssets, len(self))[*].Module", "self[*].Module", "new" => .rule .assetsOrder
  | "BlockAssets.Valid", "is", "map[string]bool{}[self[*].Module]#1", "", "new" => .rule .assetsDup
  -- verifyBlock
  | "Executer.verifyBlock", "!=", "block.Header.Version", "2", "errorf" => .rule .version
  | "Executer.verifyBlock", "!=", "block.Header.Height", "self.chain.LastBlock().Header.Height + 1", "errorf" => .rule .height
  | "Executer.verifyBlock", "bytes.ne", "self.chain.LastBlock().Header.ID", "block.Header.PreviousBlockID", "errorf" => .rule .prevID
  | "Executer.verifyBlock", ">", "fold(block.Transactions, 0, ($acc + block.Transactions[*].Size()))", "int(self.chain.MaxTransactionsLength())", "errorf" => .rule .payloadSize
  | "Executer.verifyBlock", ">", "self.blockSlot.GetSlotNumber(block.Header.Timestamp)", "self.blockSlot.GetSlotNumber(uint32(time.Now().Unix()))", "errorf" => .rule .future
  | "Executer.verifyBlock", "<=", "self.blockSlot.GetSlotNumber(block.Header.Timestamp)", "self.blockSlot.GetSlotNumber(self.chain.LastBlock().Header.Timestamp)", "errorf" => .rule .pastSlot
  | "Executer.verifyBlock", "callerr", "generators", "", "err" => .rule .generatorKeys
  | "Executer.verifyBlock", "callerr", "generator", "", "err" => .infallible   -- AtTimestamp never returns an error
  | "Executer.verifyBlock", "bytes.ne", "generator.Address()", "block.Header.GeneratorAddress", "errorf" => .rule .generator
  | "Executer.verifyBlock", "callerr", "bftHeights", "", "err" => .infallible
  | "Executer.verifyBlock", "!=", "block.Header.MaxHeightPrevoted", "bftHeights#0", "errorf" => .rule .mhp
  | "Executer.verifyBlock", "callerr", "self.liskBFT.API().IsHeaderContradictingChain(consensusStore, block.Header.Readonly())", "", "err" => .infallible
  | "Executer.verifyBlock", "is", "self.liskBFT.API().IsHeaderContradictingChain(consensusStore, block.Header.Readonly())#0", "", "errorf" => .rule .contradicting
  | "Executer.verifyBlock", "callerr", "self.verifyAggregateCommit(consensusStore, block.Header.AggregateCommit)", "", "err" => .marker "Executer.verifyAggregateCommit"
  | "Executer.verifyBlock", "not", "block.Header.VerifySignature(self.chain.ChainID(), generator.GeneratorKey())", "", "errorf" => .rule .signature
  -- verifyAggregateCommit
  | "Executer.verifyAggregateCommit", "callerr", "bftHeights", "", "err" => .infallible
  | "Executer.verifyAggregateCommit", "&&", "aggregteCommit.Empty()", "aggregteCommit.Height == bftHeights#2", "nil" => .accept
  | "Executer.verifyAggregateCommit", "||", "len(aggregteCommit.AggregationBits) == 0", "len(aggregteCommit.CertificateSignature) == 0", "errorf" => .rule .acEmpty
  | "Executer.verifyAggregateCommit", "<=", "aggregteCommit.Height", "bftHeights#2", "errorf" => .rule .acLow
  | "Executer.verifyAggregateCommit", ">", "aggregteCommit.Height", "bftHeights#1", "errorf" => .rule .acHigh
  | "Executer.verifyAggregateCommit", "&&", "err(self.liskBFT.API().NextHeightBFTParameters(diffStore, bftHeights#2 + 1)) != nil", "!errors.Is(self.liskBFT.API().NextHeightBFTParameters(diffStore, bftHeights#2 + 1)#1, statemachine.ErrNotFound)", "err" => .infallible
  | "Executer.verifyAggregateCommit", "&&", "err(self.liskBFT.API().NextHeightBFTParameters(diffStore, bftHeights#2 + 1)) == nil", "aggregteCommit.Height > self.liskBFT.API().NextHeightBFTParameters(diffStore, bftHeights#2 + 1)#0 - 1", "errorf" => .rule .acNextParams
  | "Executer.verifyAggregateCommit", "callerr", "acHeader", "", "err" => .rule .acHeader
  | "Executer.verifyAggregateCommit", "callerr", "bftParams", "", "err" => .rule .acParams
  | "Executer.verifyAggregateCommit", "not", "mut(cert).VerifyAggregateCertificateSignature(mut(make([][]byte, len(mut(make(ValidatorsWithBLSKey, len(bftParams.Validators())))))), mut(make([]uint64, len(mut(make(ValidatorsWithBLSKey, len(bftParams.Validators())))))), bftParams.CertificateThreshold(), self.chain.ChainID())", "", "new" => .rule .acSignature
  -- processValidated and the ABI caller
  | "Executer.processValidated", "callerr", "self.verifyBlock(store, block)", "", "err" => .marker "Executer.verifyBlock"
  | "Executer.processValidated", "callerr", "abi", "", "err" => .splice "newBlockExecuteABI"
  | "Executer.processValidated", "callerr", "abi.Verify(block)", "", "err" => .splice "stateExecuter.Verify"
  | "Executer.processValidated", "callerr", "abi.Execute(store, block)", "", "err" => .splice "stateExecuter.Execute"
  | "Executer.processValidated", "callerr", "bftParams", "", "err" => .rule .bft
  | "Executer.processValidated", "bytes.ne", "bftParams.ValidatorsHash()", "block.Header.ValidatorsHash", "errorf" => .rule .validatorsHash
  | "Executer.processValidated", ">", "len(abi.Events())", "int(blockchain.MaxEventsPerBlock)", "errorf" => .rule .eventCount
  | "Executer.processValidated", "callerr", "blockchain.CalculateEventRoot(abi.Events())", "", "err" => .infallible
  | "Executer.processValidated", "bytes.ne", "blockchain.CalculateEventRoot(abi.Events())#0", "block.Header.EventRoot", "errorf" => .rule .eventRoot
  | "Executer.processValidated", "callerr", "finalized", "", "err" => .infallible
  | "Executer.processValidated", "callerr", "bftHeights", "", "err" => .infallible
  | "Executer.processValidated", "callerr", "abi.Commit(self.chain.LastBlock().Header.StateRoot, block.Header.StateRoot)", "", "err" => .splice "stateExecuter.Commit"
  | "Executer.processValidated", "callerr", "self.chain.AddBlock(batch, block, abi.Events(), ite(bftHeights#1 > finalized, bftHeights#1, finalized), removeTemp)", "", "err" => .infallible
  | "newBlockExecuteABI", "callerr", "client.InitStateMachine(&labi.InitStateMachineRequest{Header: header})", "", "err" => .rule .abiInit
  | "stateExecuter.Verify", "callerr", "self.client.VerifyAssets(&labi.VerifyAssetsRequest{ContextID: self.contextID, Assets: block.Assets})", "", "err" => .rule .abiVerifyAssets
  | "stateExecuter.Execute", "callerr", "self.bft.BeforeTransactionsExecute(block.Header.Readonly(), diffStore)", "", "err" => .rule .bft
  | "stateExecuter.Execute", "callerr", "getABIConsensus(self.bft, diffStore, block.Header.Readonly())", "", "err" => .rule .bft
  | "stateExecuter.Execute", "callerr", "beforeTxs", "", "err" => .rule .abiBefore
  | "stateExecuter.Execute", "callerr", "txVerify", "", "err" => .rule .abiVerifyTx
  | "stateExecuter.Execute", "!=", "txVerify.Result", "labi.TxExecuteResultSuccess", "errorf" => .rule .txVerify
  | "stateExecuter.Execute", "callerr", "txExec", "", "err" => .rule .abiExecuteTx
  | "stateExecuter.Execute", "==", "txExec.Result", "labi.TxExecuteResultInvalid", "errorf" => .rule .txExecute
  | "stateExecuter.Execute", "callerr", "afterTxs", "", "err" => .rule .abiAfter
  | "stateExecuter.Execute", "callerr", "self.bft.API().SetBFTParameters(diffStore, afterTxs.PreCommitThreshold, afterTxs.CertificateThreshold, liskbft.GetBFTValidatorAndGenerators(afterTxs.NextValidators)#0)", "", "err" => .rule .params
  | "stateExecuter.Execute", "callerr", "self.bft.API().SetGeneratorKeys(diffStore, liskbft.GetBFTValidatorAndGenerators(afterTxs.NextValidators)#1)", "", "err" => .infallible
  | "stateExecuter.Commit", "", "self.client.Commit(&labi.CommitRequest{ContextID: self.contextID, StateRoot: currentStateRoot, ExpectedStateRoot: expectedStateRoot, DryRun: false})", "", "err" => .rule .commit
  | _, _, _, _, _ => .unknown

/-- the exits of `f` with their context (enclosing loops / conditions) and classification; exits that
pass on the error of a spliced function are replaced by that function's exits -/
def flat : Nat → List String → String → List (List String × Cls)
  | 0, outer, _ => [(outer, .unknown)]
  | k + 1, outer, f => (exits (body f)).flatMap fun i =>
      match clsOf f i with
      | .splice g => flat k (outer ++ i.ctx) g
      | c => [(outer ++ i.ctx, c)]

/-- the range loop an exit sits in / the conditions it sits under -/
def loopOf (ctx : List String) : Option String := ctx.find? (fun c => VS.ranges.contains c)
def condOf (ctx : List String) : List String := ctx.filter (fun c => !VS.ranges.contains c)

def rulesOf (l : List (List String × Cls)) : List (Option String × Err) :=
  l.filterMap fun p => match p.2 with
    | .rule e => some (loopOf p.1, e)
    | _ => none

/-- maximal runs of rules in the same loop -/
def runs : List (Option String × Err) → List (Option String × List Err)
  | [] => []
  | (t, e) :: rest =>
    match runs rest with
    | (t', es) :: more => if t = t' then (t, e :: es) :: more else (t, [e]) :: (t', es) :: more
    | [] => [(t, [e])]

/-- the rule sequence when the loop over `r` runs `cnt r` times -/
def inst (cnt : String → Nat) (l : List (Option String × Err)) : List Err :=
  (runs l).flatMap fun p => match p.1 with
    | none => p.2
    | some r => (List.replicate (cnt r) p.2).flatten

def notMarker (p : List String × Cls) : Bool := match p.2 with | .marker _ => false | _ => true

/-- (guard function, atoms) of the exits of `f` that implement rule `e` -/
def guardOf (f : String) (e : Err) : List (String × List String) :=
  ((exits (body f)).filter (fun i => clsOf f i = .rule e)).map (fun i => (i.guard, i.atoms))

/- the fuel of `flat` is the depth of splicing (`processValidated` → `stateExecuter.Execute` is the deepest chain);
where it runs out `flat` answers `.unknown`, so a further level of splicing fails the `C03_gen_*_known` obligations -/
def flatValidate := flat 3 [] "Block.Validate"
def flatVerify := flat 1 [] "Executer.verifyBlock"
def flatAC := flat 1 [] "Executer.verifyAggregateCommit"
def flatPV := flat 3 [] "Executer.processValidated"

/-- loop counts of a candidate block -/
def cnt (b : Cand) (r : String) : Nat :=
  if r = "range(self.Transactions)" then b.txStatic.length      -- Block.Validate: one static check per transaction
  else if r = "range(block.Transactions)" then b.txs.length     -- Execute: one verify/execute round per transaction
  else if r = "range(self)" then 1                              -- BlockAssets.Valid: the model holds the loop's verdict
  else 0

theorem replicate_singleton_flatten {α} (n : Nat) (a : α) : (List.replicate n [a]).flatten = List.replicate n a :=
  List.flatten_replicate_singleton

theorem txChecks_fst (l : List (TxV × TxV)) :
    (txChecks l).map (·.1) = (List.replicate l.length [Err.abiVerifyTx, .txVerify, .abiExecuteTx, .txExecute]).flatten := by
  induction l with
  | nil => rfl
  | cons p t ih => obtain ⟨v, e⟩ := p; simp [txChecks, List.replicate_succ, ih]

theorem bnot_le (x y : Nat) : (!decide (x ≤ y)) = decide (y < x) := by simp [← Nat.not_le]

theorem bnot_lt (x y : Nat) : (!decide (x < y)) = decide (y ≤ x) := by simp [← Nat.not_lt]

/-- kinds that change something outside the function's own memory -/
def effectKinds : List String := ["write", "stage", "appwrite", "publish"]

/-- position of the chain write of `processValidated` -/
def writeIdx : Nat := (body "Executer.processValidated").findIdx (fun i => i.kind == "write")

/-- the calls of a skeleton (functions of the table and others), in program order -/
def calls (f : String) : List (List String × String × String) :=
  ((body f).filter (fun i => i.kind == "sub" || i.kind == "call")).map (fun i => (i.ctx, i.kind, i.lhs))

/-! ### the classification, evaluated once per function

Every obligation below about `flat*` or `guardOf` rests on the evaluations `cls_*` of the regenerated table: a
change of the table breaks them first. The flattened lists and the guards are read off the exits PAIRED with their
classes (`flat_succ`, `guardOf_eq`), which needs the short `kind` / `ret` strings only: `clsOf` compares five
strings per exit, and equal long strings are what the kernel is slow to compare. For the same reason an equation
whose right side is a literal list of strings is proved by `rfl` (equal literals are then compared as terms). -/

/-- the classes of the exits of `f`, in program order -/
def classes (f : String) : List Cls := (exits (body f)).map (clsOf f)

theorem flat_succ (k : Nat) (outer : List String) (f : String) :
    flat (k + 1) outer f = ((exits (body f)).zip (classes f)).flatMap fun p =>
      match p.2 with
      | .splice g => flat k (outer ++ p.1.ctx) g
      | c => [(outer ++ p.1.ctx, c)] := by
  rw [classes, ← List.map_prod_left_eq_zip, List.flatMap_map, flat]

theorem guardOf_eq (f : String) (e : Err) :
    guardOf f e =
      (((exits (body f)).zip (classes f)).filter fun p => p.2 = .rule e).map fun p => (p.1.guard, p.1.atoms) := by
  rw [classes, ← List.map_prod_left_eq_zip, List.filter_map, List.map_map, guardOf]
  rfl

theorem cls_headerValidate : classes "BlockHeader.Validate" =
    [.rule .vPrevLen, .rule .vGenLen, .rule .vSigLen, .rule .vStateRootLen] := by decide +kernel

theorem cls_verifyBlock : classes "Executer.verifyBlock" =
    [.rule .version, .rule .height, .rule .prevID, .rule .payloadSize, .rule .future, .rule .pastSlot,
     .rule .generatorKeys, .infallible, .rule .generator, .infallible, .rule .mhp, .infallible, .rule .contradicting,
     .marker "Executer.verifyAggregateCommit", .rule .signature] := by decide +kernel

theorem cls_aggregateCommit : classes "Executer.verifyAggregateCommit" =
    [.infallible, .accept, .rule .acEmpty, .rule .acLow, .rule .acHigh, .infallible, .rule .acNextParams,
     .rule .acHeader, .rule .acParams, .rule .acSignature] := by decide +kernel

theorem cls_processValidated : classes "Executer.processValidated" =
    [.marker "Executer.verifyBlock", .splice "newBlockExecuteABI", .splice "stateExecuter.Verify",
     .splice "stateExecuter.Execute", .rule .bft, .rule .validatorsHash, .rule .eventCount, .infallible,
     .rule .eventRoot, .infallible, .infallible, .splice "stateExecuter.Commit", .infallible] := by decide +kernel

theorem flatValidate_eq : flatValidate =
    [([], .rule .vPrevLen), ([], .rule .vGenLen), ([], .rule .vSigLen), ([], .rule .vStateRootLen),
     (["range(self.Transactions)"], .rule .txStatic), ([], .rule .txRoot), (["range(self)"], .rule .assetsOrder),
     (["range(self)"], .rule .assetsDup), ([], .rule .assetRoot)] := by decide +kernel

/-- no exit of `verifyBlock` is spliced or sits in a loop or under a condition -/
theorem flatVerify_eq : flatVerify = (classes "Executer.verifyBlock").map ([], ·) := by
  rw [flatVerify, flat_succ, cls_verifyBlock]
  decide +kernel

theorem flatAC_eq : flatAC = (classes "Executer.verifyAggregateCommit").map ([], ·) := by
  rw [flatAC, flat_succ, cls_aggregateCommit]
  decide +kernel

/-- the exits of `newBlockExecuteABI`, `stateExecuter.Verify/Execute/Commit` are spliced in where they are called -/
theorem flatPV_eq : flatPV =
    [([], .marker "Executer.verifyBlock"), ([], .rule .abiInit), ([], .rule .abiVerifyAssets), ([], .rule .bft),
     ([], .rule .bft), ([], .rule .abiBefore), (["range(block.Transactions)"], .rule .abiVerifyTx),
     (["range(block.Transactions)"], .rule .txVerify), (["range(block.Transactions)"], .rule .abiExecuteTx),
     (["range(block.Transactions)"], .rule .txExecute), ([], .rule .abiAfter), ([thresholdsChanged], .rule .params),
     ([thresholdsChanged], .infallible), ([], .rule .bft), ([], .rule .validatorsHash), ([], .rule .eventCount),
     ([], .infallible), ([], .rule .eventRoot), ([], .infallible), ([], .infallible), ([], .rule .commit),
     ([], .infallible)] := by
  rw [flatPV, flat_succ, cls_processValidated]
  decide +kernel

end C03Gen

open C03Gen

/-- closes `x ∈ l` (and conjunctions of such) for a literal entry of a literal list: the entry is found by
comparing terms, no string is evaluated -/
macro "find_entry" : tactic =>
  `(tactic| simp only [VS.handles, List.map_cons, List.mem_cons, Prod.mk.injEq, true_and, and_true, true_or, or_true,
    and_self])

/-! ### every generated exit is known to the classification -/

/-- no exit of `Block.Validate`, `BlockHeader.Validate`, `BlockAssets.Valid` is unknown to the classification or an
accepting shortcut (that each is a rule of the model is `flatValidate_eq`) -/
theorem C03_gen_validate_known : flatValidate.all (fun p => p.2 != .unknown && p.2 != .accept) = true := by
  rw [flatValidate_eq]; decide +kernel

/-- no exit of `verifyBlock` is unknown to the classification or an accepting shortcut, and none is conditional (they
are rules of the model, reads that cannot fail in it, and the marker of `verifyAggregateCommit`: `cls_verifyBlock`) -/
theorem C03_gen_verifyBlock_known :
    flatVerify.all (fun p => p.2 != .unknown && p.2 != .accept && p.1 == []) = true := by
  rw [flatVerify_eq, cls_verifyBlock]; decide +kernel

/-- every exit of `verifyAggregateCommit` is known; none is conditional or in a loop -/
theorem C03_gen_aggregateCommit_known : flatAC.all (fun p => p.2 != .unknown && p.1 == []) = true := by
  rw [flatAC_eq, cls_aggregateCommit]; decide +kernel

/-- every exit of `processValidated`, `newBlockExecuteABI`, `stateExecuter.Verify/Execute/Commit` is known, and none is
an accepting shortcut -/
theorem C03_gen_processValidated_known : flatPV.all (fun p => p.2 != .unknown && p.2 != .accept) = true := by
  rw [flatPV_eq]; decide +kernel

/-- the only exits that sit under a condition are the two of the parameter update, which `Execute`
performs when the application answered with new thresholds or validators (`Cand.change`) -/
theorem C03_gen_conditional_exits :
    ((flatValidate ++ flatPV).filter (fun p => condOf p.1 != [])).map (fun p => (condOf p.1, p.2))
      = [([thresholdsChanged], .rule .params), ([thresholdsChanged], .infallible)] := by
  rw [flatValidate_eq, flatPV_eq]; rfl

/-! ### `Block.Validate` -/

/-- **Rule order of `Block.Validate` = `validateChecks`**, for every block (one static check per
transaction, in payload order, between the header lengths and the transaction root). -/
theorem C03_gen_validate_order (b : Cand) :
    (validateChecks b).map (·.1) = inst (cnt b) (rulesOf flatValidate) := by
  have h : runs (rulesOf flatValidate) =
      [(none, [.vPrevLen, .vGenLen, .vSigLen, .vStateRootLen]), (some "range(self.Transactions)", [.txStatic]), (none, [.txRoot]),
       (some "range(self)", [.assetsOrder, .assetsDup]), (none, [.assetRoot])] := by
    rw [flatValidate_eq]; decide +kernel
  simp [inst, h, cnt, validateChecks, List.map_append, List.map_map, Function.comp_def, List.map_const']

theorem C03_gen_validate_calls :
    calls "Block.Validate" =
      [([], "sub", "self.Header.Validate()"),
       (["range(self.Transactions)"], "sub", "self.Transactions[*].Validate()"),
       ([], "call", "rmt.CalculateRoot(mut(make([][]byte, len(self.Transactions))))"),
       ([], "sub", "BlockAssets(self.Assets).Valid()"),
       ([], "call", "BlockAssets(self.Assets).GetRoot()")] ∧
    calls "BlockHeader.Validate" = [] ∧ calls "Transaction.Validate" = [] ∧
    calls "BlockAssets.Valid" = [([], "call", "make(BlockAssets, len(self)).Sort()")] :=
  ⟨by rfl, by rfl, by rfl, by rfl⟩

theorem C03_gen_rule_vPrevLen (b : Cand) :
    guardOf "BlockHeader.Validate" .vPrevLen = [("g_BlockHeader_Validate_PreviousBlockID", ["len(self.PreviousBlockID)"])] ∧
    (Err.vPrevLen, !VS.g_BlockHeader_Validate_PreviousBlockID b.prevID.length) ∈ validateChecks b := by
  refine ⟨by rw [guardOf_eq, cls_headerValidate]; rfl, ?_⟩
  simp [validateChecks, VS.g_BlockHeader_Validate_PreviousBlockID]

/-- `AddressLength` is a package *variable* of pkg/blockchain initialised to 20 (`VS.varInits`) -/
theorem C03_gen_rule_vGenLen (b : Cand) :
    guardOf "BlockHeader.Validate" .vGenLen = [("g_BlockHeader_Validate_GeneratorAddress", ["len(self.GeneratorAddress)", "AddressLength"])] ∧
    VS.varInits.lookup "blockchain.AddressLength" = some 20 ∧
    (Err.vGenLen, !VS.g_BlockHeader_Validate_GeneratorAddress b.gen.length 20) ∈ validateChecks b := by
  refine ⟨by rw [guardOf_eq, cls_headerValidate]; rfl, by rfl, ?_⟩
  simp [validateChecks, VS.g_BlockHeader_Validate_GeneratorAddress]

theorem C03_gen_rule_vSigLen (b : Cand) :
    guardOf "BlockHeader.Validate" .vSigLen = [("g_BlockHeader_Validate_Signature", ["len(self.Signature)"])] ∧
    (Err.vSigLen, !VS.g_BlockHeader_Validate_Signature b.sigLen) ∈ validateChecks b := by
  refine ⟨by rw [guardOf_eq, cls_headerValidate]; rfl, ?_⟩
  simp [validateChecks, VS.g_BlockHeader_Validate_Signature]

/-- an empty (or otherwise non-32-byte) `stateRoot` is refused statically — the application's `Commit` skips the
comparison for an empty expected root (the check that /repo's fix 4d58fae added) -/
theorem C03_gen_rule_vStateRootLen (b : Cand) :
    guardOf "BlockHeader.Validate" .vStateRootLen = [("g_BlockHeader_Validate_StateRoot", ["len(self.StateRoot)"])] ∧
    (Err.vStateRootLen, !VS.g_BlockHeader_Validate_StateRoot b.stateRootLen) ∈ validateChecks b := by
  refine ⟨by rw [guardOf_eq, cls_headerValidate]; rfl, ?_⟩
  simp [validateChecks, VS.g_BlockHeader_Validate_StateRoot]

theorem C03_gen_rule_txStatic : (none, Cls.rule .txStatic) ∈ flatValidate.map (fun p => (p.1.find? (· != "range(self.Transactions)"), p.2)) := by
  rw [flatValidate_eq]; decide +kernel
theorem C03_gen_rule_txRoot : ([], Cls.rule .txRoot) ∈ flatValidate := by rw [flatValidate_eq]; decide +kernel
theorem C03_gen_rule_assets :
    (["range(self)"], Cls.rule .assetsOrder) ∈ flatValidate ∧ (["range(self)"], Cls.rule .assetsDup) ∈ flatValidate := by
  rw [flatValidate_eq]; decide +kernel
theorem C03_gen_rule_assetRoot : ([], Cls.rule .assetRoot) ∈ flatValidate := by rw [flatValidate_eq]; decide +kernel

/-- the static checks of one transaction (`Cand.txStatic` is their conjunction, computed by the
harness): module / command names, parameter size ≤ 14336, key length 32, at least one signature,
every signature 64 bytes — exactly these, in this order -/
theorem C03_gen_transaction_validate_checks :
    (exits (body "Transaction.Validate")).map (fun i => (i.ctx, i.op, i.lhs, i.rhs)) =
      [([], "not", "alphanumericRegex.MatchString(self.Module)", ""),
       ([], "not", "alphanumericRegex.MatchString(self.Command)", ""),
       ([], ">", "len(self.Params)", "MaxTransactionParamsSize"),
       ([], "!=", "len(self.SenderPublicKey)", "crypto.EdPublicKeyLength"),
       ([], "==", "len(self.Signatures)", "0"),
       (["range(self.Signatures)"], "!=", "len(self.Signatures[*])", "crypto.EdSignatureLength")] ∧
    (body "Transaction.Validate").all (fun i => i.kind == "check" && i.ret != "nil" || i == { kind := "ret", ret := "nil" }) = true :=
  ⟨by rfl, by decide +kernel⟩

theorem C03_gen_transaction_validate_limits (x : Nat) :
    VS.g_Transaction_Validate_Params x = decide (x > 14336) ∧
    VS.g_Transaction_Validate_SenderPublicKey x = decide (x ≠ 32) ∧
    VS.g_Transaction_Validate_Signatures x = decide (x = 0) ∧
    VS.g_Transaction_Validate_Signatures_2 x = decide (x ≠ 64) := ⟨rfl, rfl, rfl, rfl⟩

/-! ### `verifyBlock` -/

/-- **Rule order of `verifyBlock` = `verifyChecks`**: the rules before the call of
`verifyAggregateCommit`, the rules of the aggregate commit, the rules after it. -/
theorem C03_gen_verifyBlock_order (n : Node) (s : BFT.State) (b : Cand) :
    (verifyChecks n s b).map (·.1) =
      (rulesOf (flatVerify.takeWhile notMarker)).map (·.2) ++ (acChecks n s b.ac).map (·.1) ++
      (rulesOf (flatVerify.dropWhile notMarker)).map (·.2) := by
  have h1 : (rulesOf (flatVerify.takeWhile notMarker)).map (·.2) =
      [.version, .height, .prevID, .payloadSize, .future, .pastSlot, .generatorKeys, .generator, .mhp, .contradicting] := by
    rw [flatVerify_eq, cls_verifyBlock]; decide +kernel
  have h2 : (rulesOf (flatVerify.dropWhile notMarker)).map (·.2) = [.signature] := by
    rw [flatVerify_eq, cls_verifyBlock]; decide +kernel
  simp [h1, h2, verifyChecks]

/-- the aggregate commit is verified by `verifyAggregateCommit`, exactly once: one exit of `verifyBlock` passes on its
error (its place, between the contradiction check and the signature check, is in `C03_gen_verifyBlock_order`) -/
theorem C03_gen_rule_aggregateCommit :
    flatVerify.filter (fun p => !notMarker p) = [([], .marker "Executer.verifyAggregateCommit")] := by
  rw [flatVerify_eq, cls_verifyBlock]; rfl

theorem C03_gen_rule_version (n : Node) (s : BFT.State) (b : Cand) :
    guardOf "Executer.verifyBlock" .version = [("g_Executer_verifyBlock_Version", ["block.Header.Version"])] ∧
    (Err.version, !VS.g_Executer_verifyBlock_Version b.version) ∈ verifyChecks n s b := by
  refine ⟨by rw [guardOf_eq, cls_verifyBlock]; rfl, ?_⟩
  simp [verifyChecks, VS.g_Executer_verifyBlock_Version]

/-- height = height of the tip + 1 -/
theorem C03_gen_rule_height (n : Node) (s : BFT.State) (b : Cand) :
    guardOf "Executer.verifyBlock" .height =
      [("g_Executer_verifyBlock_Height", ["block.Header.Height", "self.chain.LastBlock().Header.Height"])] ∧
    (Err.height, !VS.g_Executer_verifyBlock_Height b.height n.tipHeight) ∈ verifyChecks n s b := by
  refine ⟨by rw [guardOf_eq, cls_verifyBlock]; rfl, ?_⟩
  simp [verifyChecks, VS.g_Executer_verifyBlock_Height]

/-- previousBlockID is compared (bytes) with the id of the tip -/
theorem C03_gen_rule_prevID : ([], Cls.rule .prevID) ∈ flatVerify := by
  rw [flatVerify_eq, cls_verifyBlock]; decide +kernel

/-- the sum of the transaction sizes is compared with `chain.MaxTransactionsLength()` -/
theorem C03_gen_rule_payloadSize (n : Node) (s : BFT.State) (b : Cand) :
    guardOf "Executer.verifyBlock" .payloadSize =
      [("g_Executer_verifyBlock_fold", ["fold(block.Transactions, 0, ($acc + block.Transactions[*].Size()))", "self.chain.MaxTransactionsLength()"])] ∧
    (Err.payloadSize, !VS.g_Executer_verifyBlock_fold b.payloadSize n.cfg.maxTxLen) ∈ verifyChecks n s b := by
  refine ⟨by rw [guardOf_eq, cls_verifyBlock]; rfl, ?_⟩
  simp [verifyChecks, VS.g_Executer_verifyBlock_fold, bnot_lt]

/-- the slot of the block is not later than the slot of the wall clock -/
theorem C03_gen_rule_future (n : Node) (s : BFT.State) (b : Cand) :
    guardOf "Executer.verifyBlock" .future =
      [("g_Executer_verifyBlock_GetSlotNumber", ["self.blockSlot.GetSlotNumber(block.Header.Timestamp)", "self.blockSlot.GetSlotNumber(uint32(time.Now().Unix()))"])] ∧
    (Err.future, !VS.g_Executer_verifyBlock_GetSlotNumber (slotOf n.cfg b.timestamp) (slotOf n.cfg n.cfg.now)) ∈ verifyChecks n s b := by
  refine ⟨by rw [guardOf_eq, cls_verifyBlock]; rfl, ?_⟩
  simp [verifyChecks, VS.g_Executer_verifyBlock_GetSlotNumber, bnot_lt]

/-- the slot of the block is strictly later than the slot of the tip -/
theorem C03_gen_rule_pastSlot (n : Node) (s : BFT.State) (b : Cand) :
    guardOf "Executer.verifyBlock" .pastSlot =
      [("g_Executer_verifyBlock_GetSlotNumber_2", ["self.blockSlot.GetSlotNumber(block.Header.Timestamp)", "self.blockSlot.GetSlotNumber(self.chain.LastBlock().Header.Timestamp)"])] ∧
    (Err.pastSlot, !VS.g_Executer_verifyBlock_GetSlotNumber_2 (slotOf n.cfg b.timestamp) (slotOf n.cfg n.tipTimestamp)) ∈ verifyChecks n s b := by
  refine ⟨by rw [guardOf_eq, cls_verifyBlock]; rfl, ?_⟩
  simp [verifyChecks, VS.g_Executer_verifyBlock_GetSlotNumber_2, bnot_le]

/-- the generator keys of the block's height are read from the consensus store, the generator of the
block's timestamp is taken from them and its address compared with the header's generator address -/
theorem C03_gen_rule_generator :
    ([], Cls.rule .generatorKeys) ∈ flatVerify ∧ ([], Cls.rule .generator) ∈ flatVerify ∧
    ("Executer.verifyBlock", "generators", "self.liskBFT.API().GetGeneratorKeys(consensusStore, block.Header.Height)") ∈ VS.handles ∧
    ("Executer.verifyBlock", "generator", "generators.AtTimestamp(self.blockSlot, block.Header.Timestamp)") ∈ VS.handles := by
  rw [flatVerify_eq, cls_verifyBlock]; find_entry

/-- maxHeightPrevoted equals the first result of `GetBFTHeights` on the consensus store -/
theorem C03_gen_rule_mhp (n : Node) (s : BFT.State) (b : Cand) :
    guardOf "Executer.verifyBlock" .mhp = [("g_Executer_verifyBlock_MaxHeightPrevoted", ["block.Header.MaxHeightPrevoted", "bftHeights#0"])] ∧
    ("Executer.verifyBlock", "bftHeights", "self.liskBFT.API().GetBFTHeights(consensusStore)") ∈ VS.handles ∧
    (Err.mhp, !VS.g_Executer_verifyBlock_MaxHeightPrevoted b.mhp s.mhp) ∈ verifyChecks n s b := by
  refine ⟨by rw [guardOf_eq, cls_verifyBlock]; rfl, by find_entry, ?_⟩
  simp [verifyChecks, VS.g_Executer_verifyBlock_MaxHeightPrevoted]

/-- everything `verifyBlock` calls at statement level, in order (nothing else touches the block or the
store between the checks) -/
theorem C03_gen_verifyBlock_calls :
    calls "Executer.verifyBlock" =
      [(["range(block.Transactions)"], "call", "block.Transactions[*].Size()"),
       ([], "call", "self.blockSlot.GetSlotNumber(block.Header.Timestamp)"),
       ([], "call", "self.blockSlot.GetSlotNumber(uint32(time.Now().Unix()))"),
       ([], "call", "self.blockSlot.GetSlotNumber(self.chain.LastBlock().Header.Timestamp)"),
       ([], "call", "self.liskBFT.API().GetGeneratorKeys(consensusStore, block.Header.Height)"),
       ([], "call", "generators.AtTimestamp(self.blockSlot, block.Header.Timestamp)"),
       ([], "call", "self.liskBFT.API().GetBFTHeights(consensusStore)"),
       ([], "call", "self.liskBFT.API().IsHeaderContradictingChain(consensusStore, block.Header.Readonly())"),
       ([], "sub", "self.verifyAggregateCommit(consensusStore, block.Header.AggregateCommit)"),
       ([], "call", "block.Header.VerifySignature(self.chain.ChainID(), generator.GeneratorKey())")] := by
  rfl

theorem C03_gen_rule_contradicting : ([], Cls.rule .contradicting) ∈ flatVerify := by
  rw [flatVerify_eq, cls_verifyBlock]; decide +kernel

/-- the signature is verified with the chain ID and the generator key of the slot's generator -/
theorem C03_gen_rule_signature : ([], Cls.rule .signature) ∈ flatVerify := by
  rw [flatVerify_eq, cls_verifyBlock]; decide +kernel

/-! ### `verifyAggregateCommit` -/

/-- **Rule order of `verifyAggregateCommit` = `acChecks`**: after reading the heights the only
accepting shortcut (empty commit at `maxHeightCertified`), then the seven rules. -/
theorem C03_gen_aggregateCommit_order (n : Node) (s : BFT.State) (ac : AC) :
    flatAC.map (·.2) = [.infallible, .accept] ++ (flatAC.drop 2).map (·.2) ∧
    (acChecks n s ac).map (·.1) =
      if ac.bitsLen = 0 ∧ ac.sigLen = 0 ∧ ac.height = s.mhc then [] else (rulesOf flatAC).map (·.2) := by
  have h : (rulesOf flatAC).map (·.2) = [.acEmpty, .acLow, .acHigh, .acNextParams, .acHeader, .acParams, .acSignature] := by
    rw [flatAC_eq, cls_aggregateCommit]; decide +kernel
  refine ⟨by rw [flatAC_eq, cls_aggregateCommit]; rfl, ?_⟩
  rw [h]
  unfold acChecks
  split <;> simp

theorem C03_gen_rule_acWindow (n : Node) (s : BFT.State) (ac : AC)
    (h : ¬ (ac.bitsLen = 0 ∧ ac.sigLen = 0 ∧ ac.height = s.mhc)) :
    guardOf "Executer.verifyAggregateCommit" .acLow = [("g_Executer_verifyAggregateCommit_Height", ["aggregteCommit.Height", "bftHeights#2"])] ∧
    guardOf "Executer.verifyAggregateCommit" .acHigh = [("g_Executer_verifyAggregateCommit_Height_2", ["aggregteCommit.Height", "bftHeights#1"])] ∧
    (Err.acLow, !VS.g_Executer_verifyAggregateCommit_Height ac.height s.mhc) ∈ acChecks n s ac ∧
    (Err.acHigh, !VS.g_Executer_verifyAggregateCommit_Height_2 ac.height s.mhpc) ∈ acChecks n s ac := by
  refine ⟨by rw [guardOf_eq, cls_aggregateCommit]; rfl, by rw [guardOf_eq, cls_aggregateCommit]; rfl, ?_, ?_⟩ <;>
    simp [acChecks, h, VS.g_Executer_verifyAggregateCommit_Height, VS.g_Executer_verifyAggregateCommit_Height_2, bnot_le, bnot_lt]

theorem C03_gen_aggregateCommit_calls :
    calls "Executer.verifyAggregateCommit" =
      [([], "call", "self.liskBFT.API().GetBFTHeights(diffStore)"),
       ([], "call", "self.liskBFT.API().NextHeightBFTParameters(diffStore, bftHeights#2 + 1)"),
       ([], "call", "self.chain.DataAccess().GetBlockHeaderByHeight(aggregteCommit.Height)"),
       ([], "call", "certificate.NewCertificateFromBlock(acHeader)"),
       ([], "call", "self.liskBFT.API().GetBFTParameters(diffStore, aggregteCommit.Height)"),
       ([], "call", "mut(make(ValidatorsWithBLSKey, len(bftParams.Validators()))).sort()"),
       ([], "call", "mut(cert).VerifyAggregateCertificateSignature(mut(make([][]byte, len(mut(make(ValidatorsWithBLSKey, len(bftParams.Validators())))))), mut(make([]uint64, len(mut(make(ValidatorsWithBLSKey, len(bftParams.Validators())))))), bftParams.CertificateThreshold(), self.chain.ChainID())")] := by
  rfl

/-- the certificate is rebuilt from the node's own block header at the commit height and checked
against the BFT parameters of that height and this chain ID -/
theorem C03_gen_rule_acCertificate :
    ("Executer.verifyAggregateCommit", "acHeader", "self.chain.DataAccess().GetBlockHeaderByHeight(aggregteCommit.Height)") ∈ VS.handles ∧
    ("Executer.verifyAggregateCommit", "cert", "certificate.NewCertificateFromBlock(acHeader)") ∈ VS.handles ∧
    ("Executer.verifyAggregateCommit", "bftParams", "self.liskBFT.API().GetBFTParameters(diffStore, aggregteCommit.Height)") ∈ VS.handles ∧
    ([], Cls.rule .acSignature) ∈ flatAC := by
  rw [flatAC_eq, cls_aggregateCommit]; find_entry

/-! ### `processValidated`, `Execute` -/

/-- `processValidated` starts with `verifyBlock` on the staged consensus store -/
theorem C03_gen_rule_verify_first :
    flatPV.head? = some ([], .marker "Executer.verifyBlock") ∧
    ("Executer.processValidated", "store", "diffdb.New(self.database, blockchain.DBPrefixToBytes(blockchain.DBPrefixState))") ∈ VS.handles := by
  rw [flatPV_eq]; exact ⟨rfl, by find_entry⟩

/-- **Rule order of `processValidated` after `verifyBlock` = `execChecks`**, for every block (one
verify / execute round per transaction). -/
theorem C03_gen_execute_order (n : Node) (b : Cand) :
    (execChecks n b).map (·.1) = inst (cnt b) (rulesOf (flatPV.tail)) := by
  have h : runs (rulesOf (flatPV.tail)) =
      [(none, [.abiInit, .abiVerifyAssets, .bft, .bft, .abiBefore]),
       (some "range(block.Transactions)", [.abiVerifyTx, .txVerify, .abiExecuteTx, .txExecute]),
       (none, [.abiAfter, .params, .bft, .validatorsHash, .eventCount, .eventRoot, .commit])] := by
    rw [flatPV_eq]; decide +kernel
  simp [inst, h, cnt, execChecks, List.map_append, txChecks_fst]

/-- **The whole acceptance path**: the model's rule list `checkList` (whose first failing entry is
what `applyBlock` returns, `C03_first_failure_order`) is, rule for rule, the sequence of error exits of
`Block.Validate`, `verifyBlock` (with `verifyAggregateCommit`) and `processValidated` in the Go source. -/
theorem C03_gen_checkList_order (n : Node) (b : Cand) :
    (checkList n b).map (·.1) =
      inst (cnt b) (rulesOf flatValidate) ++
      ((rulesOf (flatVerify.takeWhile notMarker)).map (·.2) ++
        (if b.ac.bitsLen = 0 ∧ b.ac.sigLen = 0 ∧ b.ac.height = n.bft.mhc then [] else (rulesOf flatAC).map (·.2)) ++
        (rulesOf (flatVerify.dropWhile notMarker)).map (·.2)) ++
      inst (cnt b) (rulesOf (flatPV.tail)) := by
  rw [← C03_gen_validate_order, ← C03_gen_execute_order n b, ← (C03_gen_aggregateCommit_order n n.bft b.ac).2,
    ← C03_gen_verifyBlock_order]
  simp [checkList]

theorem C03_gen_rule_abi :
    ([], Cls.rule .abiInit) ∈ flatPV ∧ ([], Cls.rule .abiVerifyAssets) ∈ flatPV ∧ ([], Cls.rule .abiBefore) ∈ flatPV ∧
    ([], Cls.rule .abiAfter) ∈ flatPV ∧
    ("Executer.processValidated", "abi", "newBlockExecuteABI(self.abi, self.liskBFT, store, block.Header)") ∈ VS.handles := by
  rw [flatPV_eq]; find_entry

/-- per transaction: `VerifyTransaction` (error, then verdict ≠ 1), `ExecuteTransaction` (error, then
verdict = Invalid) -/
theorem C03_gen_rule_transactions (x y : Nat) :
    flatPV.filter (fun p => loopOf p.1 == some "range(block.Transactions)") =
      [(["range(block.Transactions)"], .rule .abiVerifyTx), (["range(block.Transactions)"], .rule .txVerify),
       (["range(block.Transactions)"], .rule .abiExecuteTx), (["range(block.Transactions)"], .rule .txExecute)] ∧
    VS.g_stateExecuter_Execute_Result x = decide (x ≠ 1) ∧
    VS.g_stateExecuter_Execute_Result_2 x y = decide (x = y) := ⟨by rw [flatPV_eq]; decide +kernel, rfl, rfl⟩

/-- the BFT step (`liskbft.BeforeTransactionsExecute`) and `getABIConsensus` precede the application's
hooks; `getABIConsensus` reads parameters, generator keys and `ImpliesMaximalPrevotes` for the
block's own height (`consensusInfoOK`), and the BFT heights -/
theorem C03_gen_rule_bft :
    ((flatPV.tail).map (·.2)).take 5 = [.rule .abiInit, .rule .abiVerifyAssets, .rule .bft, .rule .bft, .rule .abiBefore] ∧
    (exits (body "getABIConsensus")).map (fun i => (i.ctx, i.op, i.lhs, i.ret)) =
      [([], "callerr", "bft.API().GetBFTParameters(diffStore, header.Height())", "err"),
       ([], "callerr", "bft.API().GetGeneratorKeys(diffStore, header.Height())", "err"),
       ([], "callerr", "bft.API().ImpliesMaximalPrevotes(diffStore, header)", "err"),
       ([], "callerr", "bft.API().GetBFTHeights(diffStore)", "err")] :=
  ⟨by rw [flatPV_eq]; rfl, by rfl⟩

/-- the parameter update answered by the application is applied to the staged store; a refusal rejects the block -/
theorem C03_gen_rule_params : ([thresholdsChanged], Cls.rule .params) ∈ flatPV := by rw [flatPV_eq]; find_entry

/-- validatorsHash is compared (bytes) with the hash of the BFT parameters of height + 1 read from the
staged store after execution -/
theorem C03_gen_rule_validatorsHash :
    ([], Cls.rule .validatorsHash) ∈ flatPV ∧
    ("Executer.processValidated", "bftParams", "self.liskBFT.API().GetBFTParameters(store, block.Header.Height + 1)") ∈ VS.handles := by
  rw [flatPV_eq]; find_entry

theorem C03_gen_rule_eventCount (x y : Nat) :
    guardOf "Executer.processValidated" .eventCount = [("g_Executer_processValidated_Events", ["len(abi.Events())", "blockchain.MaxEventsPerBlock"])] ∧
    VS.g_Executer_processValidated_Events x y = !decide (x ≤ y) := by
  refine ⟨by rw [guardOf_eq, cls_processValidated]; rfl, ?_⟩
  simp [VS.g_Executer_processValidated_Events, bnot_le]

/-- eventRoot is compared (bytes) with the root calculated from the events collected during execution -/
theorem C03_gen_rule_eventRoot : ([], Cls.rule .eventRoot) ∈ flatPV := by rw [flatPV_eq]; decide +kernel

/-- the application's `Commit` is called with the tip's state root and the block's state root as the
expected one; its error rejects the block; it is the last rule -/
theorem C03_gen_rule_commit :
    (rulesOf flatPV).getLast? = some (none, .commit) ∧
    (body "stateExecuter.Commit").map (fun i => (i.kind, i.ret)) = [("appwrite", ""), ("ret", "err")] :=
  ⟨by rw [flatPV_eq]; rfl, by rfl⟩

/-- **Call order of `processValidated`**: verify → ABI init → ABI verify (assets) → [p2p publish of an
internal block] → Execute (BFT step, hooks, transactions) → parameters of height + 1 (validatorsHash,
event checks) → finalized height, BFT heights → batch ← staged consensus store + state diff →
application Commit(current root, expected root) → pruning of finalized diffs → `chain.AddBlock(batch,
block, events, max(finalized, maxHeightPrecommitted))` → event publications. -/
theorem C03_gen_processValidated_call_order :
    ((body "Executer.processValidated").filter (fun i => ["sub", "call", "clear", "stage", "write", "publish"].contains i.kind)).map
        (fun i => (i.kind, i.lhs)) =
      [("call", "diffdb.New(self.database, blockchain.DBPrefixToBytes(blockchain.DBPrefixState))"),
       ("sub", "self.verifyBlock(store, block)"),
       ("sub", "newBlockExecuteABI(self.abi, self.liskBFT, store, block.Header)"),
       ("clear", "abi.Clear()"),
       ("sub", "abi.Verify(block)"),
       ("publish", "self.conn.Publish(ctx, P2PEventPostBlock, block.Encode())"),
       ("sub", "abi.Execute(store, block)"),
       ("call", "self.liskBFT.API().GetBFTParameters(store, block.Header.Height + 1)"),
       ("call", "blockchain.CalculateEventRoot(abi.Events())"),
       ("call", "self.chain.DataAccess().GetFinalizedHeight()"),
       ("call", "self.liskBFT.API().GetBFTHeights(store)"),
       ("call", "self.database.NewBatch()"),
       ("stage", "store.Commit(batch)"),
       ("stage", "batch.Set(bytes.Join(blockchain.DBPrefixToBytes(blockchain.DBPrefixStateDiff), bytes.FromUint32(block.Header.Height)), store.Commit(batch).Encode())"),
       ("sub", "abi.Commit(self.chain.LastBlock().Header.StateRoot, block.Header.StateRoot)"),
       ("call", "self.database.IterateKey(blockchain.DBPrefixToBytes(blockchain.DBPrefixStateDiff), -1, false)"),
       ("call", "bytes.ToUint32(diffKeys[*][1:])"),
       ("stage", "batch.Del(diffKeys[*])"),
       ("write", "self.chain.AddBlock(batch, block, abi.Events(), ite(bftHeights#1 > finalized, bftHeights#1, finalized), removeTemp)"),
       ("publish", "self.events.Publish(EventBlockFinalize, &EventBlockFinalizeMessage{Original: finalized, Next: bftHeights#1, Trigger: block.Header})"),
       ("publish", "self.events.Publish(EventBlockNew, &EventBlockNewMessage{Block: block, Events: abi.Events()})"),
       ("publish", "self.events.Publish(EventValidatorsChange, &EventChangeValidator{NextValidators: abi.Execute(store, block)#0.NextValidators, PrecommitThreshold: abi.Execute(store, block)#0.PrecommitThreshold, CertificateThreshold: abi.Execute(store, block)#0.CertificateThreshold})")] := by
  rfl

/-- the Go steps of `Execute` in the order of the model's `preSteps` (BFT vote update, consensus
info, BeforeTransactionsExecute, per transaction verify + execute, AfterTransactionsExecute, parameter
update) -/
theorem C03_gen_execute_call_order :
    ((body "stateExecuter.Execute").filter (fun i => ["sub", "call"].contains i.kind)).map (fun i => (i.ctx, i.lhs)) =
      [([], "self.bft.BeforeTransactionsExecute(block.Header.Readonly(), diffStore)"),
       ([], "getABIConsensus(self.bft, diffStore, block.Header.Readonly())"),
       ([], "self.client.BeforeTransactionsExecute(&labi.BeforeTransactionsExecuteRequest{ContextID: self.contextID, Assets: block.Assets, Consensus: self.consensus})"),
       (["range(block.Transactions)"], "self.client.VerifyTransaction(&labi.VerifyTransactionRequest{ContextID: self.contextID, Transaction: block.Transactions[*]})"),
       (["range(block.Transactions)"], "self.client.ExecuteTransaction(&labi.ExecuteTransactionRequest{ContextID: self.contextID, Assets: block.Assets, Header: block.Header, Transaction: block.Transactions[*], DryRun: false, Consensus: self.consensus})"),
       ([], "self.client.AfterTransactionsExecute(&labi.AfterTransactionsExecuteRequest{ContextID: self.contextID, Assets: block.Assets, Consensus: self.consensus, Transactions: block.Transactions})"),
       ([], "self.events.UpdateIndex()"),
       ([thresholdsChanged], "liskbft.GetBFTValidatorAndGenerators(afterTxs.NextValidators)"),
       ([thresholdsChanged], "self.bft.API().SetBFTParameters(diffStore, afterTxs.PreCommitThreshold, afterTxs.CertificateThreshold, liskbft.GetBFTValidatorAndGenerators(afterTxs.NextValidators)#0)"),
       ([thresholdsChanged], "self.bft.API().SetGeneratorKeys(diffStore, liskbft.GetBFTValidatorAndGenerators(afterTxs.NextValidators)#1)")] := by
  rfl

/-- finalized-height handling: the finalized height handed to `AddBlock` is raised to
maxHeightPrecommitted exactly when that is larger (`addBlock` of the model), and the finalize event is
published under the same condition -/
theorem C03_gen_finalized_height (x y : Nat) :
    VS.g_Executer_processValidated_bftHeights x y = decide (x > y) ∧
    ((body "Executer.processValidated").filter (fun i => i.guard == "g_Executer_processValidated_bftHeights")).map
        (fun i => (i.kind, i.ctx, i.atoms)) = [("branch", [], ["bftHeights#1", "finalized"])] ∧
    ("Executer.processValidated", "bftHeights", "self.liskBFT.API().GetBFTHeights(store)") ∈ VS.handles ∧
    ("Executer.processValidated", "finalized", "self.chain.DataAccess().GetFinalizedHeight()") ∈ VS.handles :=
  ⟨rfl, by decide +kernel, by find_entry, by find_entry⟩

/-! ### a rejected block writes nothing -/

/-- nothing on the verification path writes to the database, stages into a batch, commits the
application state or publishes: `verifyBlock`, `verifyAggregateCommit`, `newBlockExecuteABI`,
`stateExecuter.Verify/Execute`, `getABIConsensus` and the four `Validate` functions -/
theorem C03_gen_checks_are_pure :
    ["Executer.verifyBlock", "Executer.verifyAggregateCommit", "newBlockExecuteABI", "stateExecuter.Verify",
     "stateExecuter.Execute", "getABIConsensus", "Block.Validate", "BlockHeader.Validate", "Transaction.Validate",
     "BlockAssets.Valid"].all (fun f => !(body f).isEmpty && (body f).all (fun i => !effectKinds.contains i.kind)) = true := by
  decide +kernel

/-- **No error exit of `processValidated` lies behind a write.**  The function contains exactly one
write site, `chain.AddBlock`; before it nothing is written or published on the event emitter (the
only earlier publication is the p2p relay of an internally generated block); after it the only error
exit is the failure of that write itself (one atomic batch, C13); the staging into the batch starts
after the last rule but the application's `Commit`, whose error exit is the last one before the write. -/
theorem C03_gen_no_write_before_error_exit :
    let l := body "Executer.processValidated"
    writeIdx < l.length ∧
    (l.filter (fun i => i.kind == "write")).length = 1 ∧
    ((l.take writeIdx).filter (fun i => i.kind == "publish")).map (fun i => (i.ctx, i.lhs)) =
      [(["publish", "go"], "self.conn.Publish(ctx, P2PEventPostBlock, block.Encode())")] ∧
    (exits (l.drop (writeIdx + 1))).map (fun i => (i.op, some i.lhs, i.ret)) = [("callerr", l[writeIdx]?.map (·.lhs), "err")] ∧
    (exits (l.drop (l.findIdx (fun i => i.kind == "stage")))).map (fun i => clsOf "Executer.processValidated" i) =
      [.splice "stateExecuter.Commit", .infallible] := by
  decide +kernel

/-! ### `process` -/

/-- the fork-choice predicates are asked in the order identical → valid successor → double forging →
tie break → different chain, on `NewForkChoice(tip header, block header, slots, lastBlockReceived)` -/
theorem C03_gen_process_forkchoice_order :
    ((body "Executer.process").filter (fun i => i.ctx == [] && (i.kind == "check" || i.kind == "branch" || i.kind == "ret"))).map
        (fun i => (i.kind, i.op, i.lhs, i.ret)) =
      [("check", "callerr", "fc", "err"),
       ("check", "is", "fc.IsIdenticalBlock()", "nil"),
       ("branch", "is", "fc.IsValidBlock()", ""),
       ("check", "is", "fc.IsDoubleForging()", "nil"),
       ("branch", "is", "fc.IsTieBreak()", ""),
       ("branch", "is", "fc.IsDifferentChain()", ""),
       ("ret", "", "", "nil")] ∧
    ("Executer.process", "fc", "forkchoice.NewForkChoice(self.chain.LastBlock().Header, ctx.block.Header, self.blockSlot, self.lastBlockReceived)") ∈ VS.handles :=
  ⟨by rfl, by find_entry⟩

/-- valid successor: `block.Validate()` (error returned) and only then `processValidated` (error
returned) on the received block -/
theorem C03_gen_process_valid_validates :
    ((body "Executer.process").filter (fun i => i.ctx.head? == some "fc.IsValidBlock()" && i.kind != "set" && i.kind != "call")).map
        (fun i => (i.kind, i.op, i.lhs, i.ret)) =
      [("sub", "", "ctx.block.Validate()", ""),
       ("check", "callerr", "ctx.block.Validate()", "err"),
       ("sub", "", "self.processValidated(ctx.ctx, ctx.block, (ctx.peerID == \"\"), false)", ""),
       ("check", "callerr", "self.processValidated(ctx.ctx, ctx.block, (ctx.peerID == \"\"), false)", "err"),
       ("ret", "", "", "nil")] := by
  rfl

/-- tie break: `block.Validate()` (error returned) before the tip is deleted and before
`processValidated` runs on the received block; on failure the deleted tip is re-applied and nil returned -/
theorem C03_gen_process_tiebreak_validates :
    ((body "Executer.process").filter (fun i => i.ctx.head? == some "fc.IsTieBreak()" && i.kind != "set" && i.kind != "call")).map
        (fun i => (i.kind, i.ctx.length, i.op, i.lhs, i.ret)) =
      [("sub", 1, "", "ctx.block.Validate()", ""),
       ("check", 1, "callerr", "ctx.block.Validate()", "err"),
       ("write", 1, "", "self.deleteBlock(ctx.ctx, self.chain.LastBlock(), false)", ""),
       ("check", 1, "callerr", "self.deleteBlock(ctx.ctx, self.chain.LastBlock(), false)", "err"),
       ("sub", 1, "", "self.processValidated(ctx.ctx, ctx.block, (ctx.peerID == \"\"), false)", ""),
       ("branch", 1, "callerr", "self.processValidated(ctx.ctx, ctx.block, (ctx.peerID == \"\"), false)", ""),
       ("sub", 2, "", "self.processValidated(ctx.ctx, self.chain.LastBlock(), (ctx.peerID == \"\"), false)", ""),
       ("branch", 2, "callerr", "self.processValidated(ctx.ctx, self.chain.LastBlock(), (ctx.peerID == \"\"), false)", ""),
       ("ret", 2, "", "", "nil"),
       ("ret", 1, "", "", "nil")] := by
  rfl

/-- blocks reach the chain only through `processValidated`: the write sites of `process` are the
deletion of the tip (tie break) and the synchroniser (different chain), both behind their predicate -/
theorem C03_gen_process_writes :
    ((body "Executer.process").filter (fun i => effectKinds.contains i.kind)).map (fun i => (i.ctx, i.lhs)) =
      [(["fc.IsTieBreak()"], "self.deleteBlock(ctx.ctx, self.chain.LastBlock(), false)"),
       (["fc.IsDifferentChain()"], "self.syncer.Sync(self.createSyncContext(ctx)#0)")] := by
  rfl

/-! ### non-vacuity -/

example : (rulesOf flatValidate).length = 9 ∧ (rulesOf flatVerify).length = 11 ∧ (rulesOf flatAC).length = 7 ∧
    (rulesOf flatPV).length = 16 := by
  rw [flatValidate_eq, flatVerify_eq, cls_verifyBlock, flatAC_eq, cls_aggregateCommit, flatPV_eq]; decide +kernel

example : inst (fun _ => 2) (rulesOf (flatPV.tail)) =
    [.abiInit, .abiVerifyAssets, .bft, .bft, .abiBefore, .abiVerifyTx, .txVerify, .abiExecuteTx, .txExecute,
     .abiVerifyTx, .txVerify, .abiExecuteTx, .txExecute, .abiAfter, .params, .bft, .validatorsHash, .eventCount,
     .eventRoot, .commit] := by rw [flatPV_eq]; decide +kernel
