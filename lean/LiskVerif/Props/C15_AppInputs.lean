/-
C15 — "a block the node generates is accepted by its own validation", the application-input side.

The application is a parameter of the engine: state root and event root of a block are whatever the application
computes from what the engine tells it (labi.Consensus: current validators, implyMaxPrevote, maxHeightCertified,
certificateThreshold — next to header, assets and transactions). The generator dry-runs the block with inputs
`ig` and writes the resulting roots into the header; validation runs the application with inputs `iv` and compares.

* `C15_app_inputs_accept_all_apps_iff` — the generated block is accepted FOR EVERY application iff the inputs are
  equal (an application telling two inputs apart exists as soon as there are two different roots).
* `C15_app_inputs_stale_certified_height` — a generator that reads maxHeightCertified before the block's own BFT
  hook raised it to the aggregate commit's height (demonstrated by seeded/C15-19): when the block carries an aggregate
  commit above the certified height the inputs differ, and then some application rejects the block;
  `C15_app_inputs_empty_aggregate_agree`: otherwise the two reads of maxHeightCertified give the same number.
Tie: the mock application records every labi.Consensus argument; for every forged block that the node applies the
arguments of generation and validation are compared field by field
(`c15-generation-consensus-argument-differs`, `c15-generation-skips-application-call`).
-/
import LiskVerif.Model.Util

open LiskVerif

/-- what the engine tells the application about the consensus state (`labi.Consensus`) -/
structure C15_ConsensusArg where
  validators : List (Bytes × Nat × Bytes × Bytes)
  implyMaxPrevote : Bool
  maxHeightCertified : Nat
  certificateThreshold : Nat
deriving DecidableEq, Repr

theorem C15_app_inputs_accept_all_apps_iff {I R : Type} [DecidableEq I] (r0 r1 : R) (hr : r0 ≠ r1) (ig iv : I) :
    (∀ app : I → R, app iv = app ig) ↔ iv = ig := by
  constructor
  · intro h
    have := h (fun i => if i = ig then r0 else r1)
    by_cases e : iv = ig
    · exact e
    · simp [e] at this
      exact absurd this.symm hr
  · intro e app; rw [e]

/-- maxHeightCertified as the validator reads it, after the block's BFT hook: the aggregate commit's height when
that is higher than the tip value (a generator that reads BEFORE the hook sees the bare tip value) -/
def C15_certifiedAfterHook (tipCertified aggregateHeight : Nat) : Nat := max tipCertified aggregateHeight

theorem C15_app_inputs_stale_certified_height (a : C15_ConsensusArg) (tipCertified aggregateHeight : Nat)
    (hagg : tipCertified < aggregateHeight) :
    let ig := { a with maxHeightCertified := tipCertified }
    let iv := { a with maxHeightCertified := C15_certifiedAfterHook tipCertified aggregateHeight }
    iv ≠ ig ∧ ∃ app : C15_ConsensusArg → Nat, app iv ≠ app ig := by
  intro ig iv
  have hm : iv.maxHeightCertified ≠ ig.maxHeightCertified := by
    show max tipCertified aggregateHeight ≠ tipCertified
    omega
  exact ⟨fun h => hm (congrArg _ h), fun i => i.maxHeightCertified, hm⟩

/-- with an empty aggregate commit (height not above the certified height) the two reads agree -/
theorem C15_app_inputs_empty_aggregate_agree (tipCertified aggregateHeight : Nat) (h : aggregateHeight ≤ tipCertified) :
    C15_certifiedAfterHook tipCertified aggregateHeight = tipCertified :=
  Nat.max_eq_left h

example : C15_certifiedAfterHook 0 3 = 3 ∧ (0 : Nat) < 3 := by decide
