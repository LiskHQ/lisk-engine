/-
C19 (peers) — block synchronisation with several connected peers of which some fail.

`blockSyncer.Sync` asks EVERY connected peer for its last block, builds the `NodeInfo` list from the answers and selects
the best; `Sync.blockSyncPeers` is that whole round (`blockSync` starts after the selection).  A peer whose request
failed contributes nothing to the list, so it is never selected and never changes who is: with no answer at all the
round ends in a clean "no peer" error; otherwise it is `blockSync` with a peer that answered and whose answer is one of
`possibleBest`; and if every best answer comes from an honest peer on the better chain the requester ends on that chain
whatever the others do.  (seeded/C19-9 keeps a nil slot per failed peer and lets it reach `getBestNodeInfo`.)
-/
import LiskVerif.Props.C19_Method

open LiskVerif LiskVerif.Sync

set_option linter.unusedSectionVars false

section Peers
variable {ι : Type} [DecidableEq ι]

/-- an entry of the `NodeInfo` list comes from a peer that answered, with exactly that answer -/
private theorem mem_answeringFrom (i : Nat) (peers : List (Option (Nat × Nat × ι) × Peer ι)) (t : Tip ι)
    (ht : t ∈ answeringFrom i peers) :
    i ≤ t.peer ∧ ∃ p, peers[t.peer - i]? = some p ∧ p.1 = some (t.height, t.mhp, t.id) := by
  induction peers generalizing i with
  | nil => cases ht
  | cons a r ih =>
    obtain ⟨ans, pr⟩ := a
    -- an entry that comes from the rest of the list
    have later : t ∈ answeringFrom (i + 1) r →
        i ≤ t.peer ∧ ∃ p, ((ans, pr) :: r)[t.peer - i]? = some p ∧ p.1 = some (t.height, t.mhp, t.id) := fun h => by
      obtain ⟨h1, p, hp, hpa⟩ := ih (i + 1) h
      refine ⟨by omega, p, ?_, hpa⟩
      rw [show t.peer - i = (t.peer - (i + 1)) + 1 by omega, List.getElem?_cons_succ]
      exact hp
    cases ans with
    | none => exact later ht
    | some v =>
      rcases List.mem_cons.mp ht with rfl | h
      · exact ⟨Nat.le_refl _, (some v, pr), by simp, rfl⟩
      · exact later h

private theorem answeringFrom_eq_nil (i : Nat) (peers : List (Option (Nat × Nat × ι) × Peer ι))
    (h : ∀ p ∈ peers, p.1 = none) : answeringFrom i peers = [] := by
  refine List.eq_nil_iff_forall_not_mem.mpr fun t ht => ?_
  obtain ⟨_, p, hp, hpa⟩ := mem_answeringFrom i peers t ht
  rw [h p (List.mem_of_getElem? hp)] at hpa
  cases hpa

/-- **Nobody answers.**  Every `getLastBlock` request of the peer selection fails (there may be no
connected peer at all): the round ends with the "no peer" error, the chain and the temp table are
untouched, nobody is banned — for every map order and random value. -/
theorem C19_peers_none_answer (applies : List (Blk ι) → Blk ι → Bool) (n fin myMhp : Nat) (q : List (Blk ι))
    (peers : List (Option (Nat × Nat × ι) × Peer ι)) (order : List ι) (rnd : Nat)
    (h : ∀ p ∈ peers, p.1 = none) :
    blockSyncPeers applies n fin myMhp q peers order rnd = ⟨q, [], false, some .noPeer⟩ := by
  unfold blockSyncPeers
  rw [answeringFrom_eq_nil 0 peers h]
  have hnone : bestWith order rnd ([] : List (Tip ι)) = none := by
    simp only [bestWith, mostFrequentWith, topGroup, largestBy]
    cases pickLoop (countId ([] : List (Tip ι))) order 0 none <;> simp
  simp only [hnone]

/-- **The selected peer answered, and its answer is one of the best.**  When at least one peer
answered, the round is `blockSync` with a peer `p` of the list that answered the request, whose
answer is the selected tip, and the selected tip is in `possibleBest` of the answers.  Peers whose
request failed are never selected and do not influence the choice (they are not in the list
`possibleBest` is computed from). -/
theorem C19_peers_selected_answered (applies : List (Blk ι) → Blk ι → Bool) (n fin myMhp : Nat) (q : List (Blk ι))
    (peers : List (Option (Nat × Nat × ι) × Peer ι)) (order : List ι) (rnd : Nat)
    (hord : ∀ u ∈ answeringFrom 0 peers, u.id ∈ order) (hne : answeringFrom 0 peers ≠ []) :
    ∃ best p, best ∈ possibleBest (answeringFrom 0 peers) ∧ peers[best.peer]? = some p ∧
      p.1 = some (best.height, best.mhp, best.id) ∧
      blockSyncPeers applies n fin myMhp q peers order rnd = blockSync applies n fin myMhp q best p.2 := by
  obtain ⟨best, hb⟩ := C19_best_peer_total (answeringFrom 0 peers) order rnd hne hord
  obtain ⟨hmem, _, _, _, hposs⟩ := C19_best_peer (answeringFrom 0 peers) order rnd best hord hb
  obtain ⟨_, p, hp, hpa⟩ := mem_answeringFrom 0 peers best hmem
  rw [Nat.sub_zero] at hp
  refine ⟨best, p, hposs, hp, hpa, ?_⟩
  unfold blockSyncPeers
  simp only [hb, hp]

/-- **Convergence with failing peers around.**  Requester on `com ++ qOwn`.  Among the connected peers
at least one answered, and every peer whose answer is one of the best is an honest peer on
`com ++ s' ++ [e]` that announced its tip `e` (prevoted height `mhp`) — the other peers may have
failed the request in any way, or be honest peers on worse chains.  With the geometry of
`C19_block_sync_geometry_at_tip` (fork point not below the finalized block, finalized block at most 18
rounds below the start of the search, sync condition for `e`) the requester ends on exactly
`com ++ s' ++ [e]`: no error, nobody banned, no temp block — whichever best peer is drawn. -/
theorem C19_peers_converge (applies : List (Blk ι) → Blk ι → Bool) (n fin myMhp mhp : Nat)
    (com qOwn s' : List (Blk ι)) (e : Blk ι)
    (peers : List (Option (Nat × Nat × ι) × Peer ι)) (order : List ι) (rnd : Nat)
    (hord : ∀ u ∈ answeringFrom 0 peers, u.id ∈ order) (hne : answeringFrom 0 peers ≠ [])
    (hbest : ∀ best ∈ possibleBest (answeringFrom 0 peers), ∀ p, peers[best.peer]? = some p →
      p.2 = honest (com ++ (s' ++ [e])) mhp ∧ best.height = e.height ∧ best.mhp = mhp)
    (hf : Fork com qOwn (s' ++ [e]))
    (hchain : ChainOK (com ++ (s' ++ [e])))
    (hvalid : ValidChain applies (com ++ (s' ++ [e])))
    (hok : ∀ b ∈ com ++ (s' ++ [e]), b.ok = true)
    (hn : 0 < n) (hov : fin + 10 * n < two32) (hlen : (com ++ qOwn).length ≤ two32)
    (hd : isDifferentChain myMhp mhp ((com ++ qOwn).length - 1) e.height = true)
    (hfork : fin < com.length)
    (hreach : getCommonBlockStartSearchHeight ((com ++ qOwn).length - 1) n ≤ fin + 18 * n) :
    blockSyncPeers applies n fin myMhp (com ++ qOwn) peers order rnd
      = ⟨com ++ (s' ++ [e]), [], false, none⟩ := by
  obtain ⟨best, p, hposs, hp, _, heq⟩ :=
    C19_peers_selected_answered applies n fin myMhp (com ++ qOwn) peers order rnd hord hne
  obtain ⟨hpeer, hbh, hbm⟩ := hbest best hposs p hp
  rw [heq, hpeer]
  exact C19_block_sync_geometry_at_tip applies n fin myMhp mhp com qOwn s' e best hf hchain hvalid hok hn hov hlen
    (by rw [hbm, hbh]; exact hd) hd hfork hreach

end Peers

/-- non-vacuity: three connected peers — the first fails the request, the second is honest on
`g b1 b2 b3`, the third is honest on the worse chain `g b1` — the requester `g b1 q2` ends on the
second peer's chain; with only failing peers: the clean error -/
example : C19outcome (blockSyncPeers C19applies 2 0 0 [C19g, C19b1, C19q2]
      [(none, honest [C19g] 0),
       (some (3, 1, 3), honest [C19g, C19b1, C19b2, C19b3] 1),
       (some (1, 0, 1), honest [C19g, C19b1] 0)] [1, 3] 0)
    = ([C19g, C19b1, C19b2, C19b3], [], false, none) := by decide
example : C19outcome (blockSyncPeers C19applies 2 0 0 [C19g, C19b1, C19q2]
      [(none, honest [C19g] 0), (none, honest [C19g] 0)] [] 0)
    = ([C19g, C19b1, C19q2], [], false, some .noPeer) := by decide
