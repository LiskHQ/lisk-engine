/-
C02 — BFT heights are a deterministic function of the header chain (LIP-0058).

Basic theorems about `LiskVerif.Model.BFT` (the transcription of liskbft that the correspondence
harness compares with the real module after every header). The invariants (monotonicity, window shape,
stable parameters) are in `Props/C02_Inv.lean`; the refinement to the specification is C01's
(`Props/C01_Safety.lean`, `Props/C01_More.lean`).
-/
import LiskVerif.Model.BFT

open LiskVerif LiskVerif.BFT

/-- one event of a node's history as far as the BFT store is concerned -/
inductive C02Ev where
  | block (h : Header)
  | setParams (precommitThreshold certThreshold : Nat) (validators : List Validator)
  | setKeys (gens : List Bytes)

/-- apply an event; a rejected block or parameter change leaves the state unchanged (the staged
store is dropped) -/
def C02step (s : State) : C02Ev → State
  | .block h => match process s h with | .ok s' => s' | .error _ => s
  | .setParams pc ct vs => match setParams s pc ct vs with | .ok s' => s' | .error _ => s
  | .setKeys g => setKeys s g

def C02run (s : State) (evs : List C02Ev) : State := evs.foldl C02step s

/-- Determinism as far as a model that is a function can state it: equal event sequences give equal states (this
holds of every function, so the content is that `C02run` is one — the harness compares it with the real module;
history independence proper is `C02_history_independent`, Props/C02_Fork.lean). -/
theorem C02_deterministic (batchSize genesisHeight : Nat) (evs₁ evs₂ : List C02Ev) (h : evs₁ = evs₂) :
    C02run (initGenesis batchSize genesisHeight) evs₁ = C02run (initGenesis batchSize genesisHeight) evs₂ := by
  subst h; rfl

/-- Processing a chain in two batches is the same as processing it at once (no hidden state). -/
theorem C02_run_append (s : State) (a b : List C02Ev) : C02run s (a ++ b) = C02run (C02run s a) b := by
  unfold C02run; exact List.foldl_append


/-- What one event can do (`t` is the state after it): leave the state as it is (a rejected block or parameter
change), or produce the result of an accepted `process`, of an accepted `setParams`, or of `setKeys`. -/
@[elab_as_elim]
theorem C02step_cases {motive : State → Prop} (s : State) (e : C02Ev) (t : State) (ht : C02step s e = t)
    (same : motive s)
    (block : ∀ h s', e = .block h → process s h = .ok s' → motive s')
    (params : ∀ pc ct vs s', e = .setParams pc ct vs → setParams s pc ct vs = .ok s' → motive s')
    (keys : ∀ g, e = .setKeys g → motive (setKeys s g)) : motive t := by
  subst ht
  cases e with
  | block h =>
    simp only [C02step]
    split
    · exact block _ _ rfl ‹_›
    · exact same
  | setParams pc ct vs =>
    simp only [C02step]
    split
    · exact params _ _ _ _ rfl ‹_›
    · exact same
  | setKeys g => exact keys g rfl
