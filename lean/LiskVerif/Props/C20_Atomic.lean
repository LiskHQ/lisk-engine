/-
C20 — atomicity clause: "readers and writers see consistent data" beyond race and deadlock freedom.

`Props/C20.lean` proves the lock discipline over the regenerated skeletons (no deadlock, no data race),
`Props/C20_Data.lean` that critical sections are atomic on the data. Neither notices a function that
*splits* a read-modify-write over two critical sections: it checks a guarded field under the lock,
RELEASES the lock, re-acquires it and writes the field from what it saw before. Every access is under
the guard (no race), the lock order is respected (no deadlock), yet another goroutine's write can fall
between the two sections and is overwritten by the stale value — a lost update. The motivating example
is a `diffdb.Database.Get` that looks up the staged cache under the shared mutex, reads the underlying
store unlocked and re-locks to install the stored value: a `Set`/`Del` of the key through a sibling
prefix view in between is lost.

Criterion ("no unlock–relock between dependent accesses", `Lemmas/LocksAtomic.lean`): along every path
of an entry point (calls inlined, deferred unlocks released at function exit), a write of a guarded
field `f` must not be preceded by a read of `f` with a lock operation on `f`'s guard in between.
The skeletons carry no data flow, so *every* earlier read of `f` counts as feeding the write
(conservative).

(A) Generic theorems: the decidable check `atomicOk` (an abstract interpreter on the skeleton) is sound
    for every thread path of the skeleton — calls inlined to any depth, every loop iterated any number
    of times, spawned goroutines included (`C20_atomic_check_sound`); on a path satisfying the criterion
    there is no lock operation on the guard between a read and a later write of the same field
    (`C20_atomic_no_relock_between_dependent_accesses`); and, under the lockset discipline already
    proved, a goroutine between such a read and its write holds the guard exclusively, so no other
    goroutine can read or write the field in between, for any number of goroutines and every schedule
    (`C20_atomic_rmw_excludes_other_accesses`: it is `rmw_excludes` of `Lemmas/LocksAtomic.lean`, over
    `Locks.mutual_exclusion`, `allLs_reachable` and `atomic_of_inv`).
(B) Obligations over the skeletons REGENERATED from the Go source on every check run: every entry point
    satisfies the criterion, except the two multi-section sequences of the single writer
    (`Chain.RemoveBlock`, `Chain.PrepareCache`: tip lookup, then pop / refill in later sections), which
    violate it on the block-cache fields only and are covered by the assumption "one goroutine adds and
    removes blocks": no other entry point writes a block-cache field at all
    (`C20_atomic_only_the_writer_writes_the_block_cache`). For the entry points that satisfy the criterion,
    any number of goroutines running invocations of entry points one after the other: between a read of a
    guarded field and the later write of it in one invocation no other goroutine is about to access the field
    (`C20_atomic_entries_rmw_not_interleaved`).
(C) Counterexample: the skeleton of the seeded `Get` (as skelgen extracts it from the changed source)
    passes all lock-discipline criteria, fails `atomicOk`, and admits the interleaving
    reader-section-1, complete `Set`, reader-section-2; on the data the staged value is lost.
-/
import LiskVerif.Props.C20_Data
import LiskVerif.Lemmas.LocksAtomic

open LiskVerif LiskVerif.Locks

namespace C20.Atomic

/-- the configuration without the block-cache guards (the criterion then ignores the block-cache fields) -/
def cfgNoCache : Cfg :=
  ⟨Gen.Skeletons.table, Gen.Skeletons.guards.filter (fun e => !C20.Data.cacheFields.contains e.1),
    Gen.Skeletons.lockOrder⟩

end C20.Atomic

/-! ## (A) generic theorems -/

/-- **Soundness of the atomicity check.** If the decidable check passes on a skeleton, every path of
every thread of it — the invoking goroutine or a goroutine spawned (transitively) along some run, calls
inlined to any depth, loops iterated up to any bound `u` — satisfies the path criterion. -/
theorem C20_atomic_check_sound (c : Cfg) (s : Skel) (h : atomicOk c s = true) (u : Nat) (p : Path)
    (hp : IsThreadPath c.tbl u s p) : pathAtomic c.guards p = true :=
  atomicOk_paths c s h u p hp

/-- **What the criterion means on a path**: between a read of a guarded field `f` and any later write
of `f` on the same path there is no `Lock` / `RLock` / `Unlock` / `RUnlock` of `f`'s guard — the two
accesses are in the same critical section. -/
theorem C20_atomic_no_relock_between_dependent_accesses (g : List (String × String)) (pre mid rest : Path)
    (f m : String) (h : pathAtomic g (pre ++ Prim.read f :: (mid ++ Prim.write f :: rest)) = true)
    (hg : g.lookup f = some m) : ∀ q ∈ mid, lockOf q ≠ some m :=
  pathAtomic_quiet h hg

/-- **A read-modify-write inside one critical section is not interleaved with foreign accesses.**
Any number of goroutines run paths satisfying the lockset discipline (criterion 4), under any schedule.
If goroutine `i` still has to execute `mid ++ [write f] ++ …` where `mid` contains no lock operation on
`f`'s guard `m` (it is between a read of `f` and the dependent write, in the same critical section), then
it holds `m` exclusively, and no other goroutine is about to read or to write `f`. -/
theorem C20_atomic_rmw_excludes_other_accesses (g : List (String × String)) (ps : List Path)
    (hls : ∀ p ∈ ps, pathLs g p = true) (st : State) (hr : Reachable (initState ps) st)
    (i j : Nat) (ti tj : Thread) (hij : i ≠ j) (hi : st[i]? = some ti) (hj : st[j]? = some tj)
    (f m : String) (hg : g.lookup f = some m) (mid rest : Path)
    (hprog : ti.prog = mid ++ Prim.write f :: rest) (hq : ∀ q ∈ mid, lockOf q ≠ some m) :
    (m, Mode.W) ∈ ti.held ∧ ∀ rest', tj.prog ≠ Prim.read f :: rest' ∧ tj.prog ≠ Prim.write f :: rest' :=
  rmw_excludes hls hr hij hi hj hg hprog hq

/-- The same from the path criterion: a path `p` that satisfies the criterion reads `f` and later writes `f`, and
what goroutine `i` still has to run is the end of `p` from somewhere between the read and the write. Then no other
goroutine is about to access `f`: the write is applied to the value that was read. (That `i` was started on `p`
is not used: `hprog` alone ties the goroutine to the path.) -/
theorem C20_atomic_path_rmw_not_interleaved (g : List (String × String)) (ps : List Path)
    (hls : ∀ p ∈ ps, pathLs g p = true) (st : State) (hr : Reachable (initState ps) st)
    (i j : Nat) (ti tj : Thread) (hij : i ≠ j) (hi : st[i]? = some ti) (hj : st[j]? = some tj)
    (p pre mid rest : Path) (f m : String) (hp : ps[i]? = some p) (hat : pathAtomic g p = true)
    (hsplit : p = pre ++ Prim.read f :: (mid ++ Prim.write f :: rest)) (hg : g.lookup f = some m)
    (done mid' : Path) (hmid : mid = done ++ mid') (hprog : ti.prog = mid' ++ Prim.write f :: rest) :
    ∀ rest', tj.prog ≠ Prim.read f :: rest' ∧ tj.prog ≠ Prim.write f :: rest' := by
  subst hsplit
  have hq := pathAtomic_quiet hat hg
  have hq' : ∀ q ∈ mid', lockOf q ≠ some m := fun q hq'' => hq q (by rw [hmid]; exact List.mem_append.mpr (Or.inr hq''))
  exact (C20_atomic_rmw_excludes_other_accesses g ps hls st hr i j ti tj hij hi hj f m hg mid' rest hprog hq').2

/-! ## (B) obligations over the regenerated skeletons -/

open Gen.Skeletons C20.Atomic in
/-- both checks of this file over the whole regenerated table (evaluated in `C20.table_ok`): a function that
fails one of them is exempt from it or is not an entry point -/
theorem C20.Atomic.table_ok :
    table.all (fun e =>
      ((multiSectionWriter.contains e.1 || atomicOk C20.cfg e.2) || !entries.contains e.1) &&
      (noCacheWrite e.2 || !(entries.contains e.1 && !cacheWriters.contains e.1))) = true :=
  C20.table_ok.1.2

open Gen.Skeletons in
/-- every extracted entry point satisfies the atomicity criterion, except the multi-section sequences
of the single writer — quantified over the regenerated table, so functions added to the configured
types are covered automatically -/
theorem C20_atomic_all_entries_ok :
    (table.filter (fun e => entries.contains e.1)).all (fun e =>
      C20.Atomic.multiSectionWriter.contains e.1 || atomicOk C20.cfg e.2) = true :=
  Tables.all_filter_of_all_or (Tables.all_and.mp C20.Atomic.table_ok).1

/-- the staged store and its prefix views (one shared mutex and cache): every method is a single
critical section on `cache` / `snapshots` / `snapshotCount` -/
theorem C20_atomic_diffdb_ok :
    [Gen.Skeletons.Database_WithPrefix, Gen.Skeletons.Database_Has, Gen.Skeletons.Database_Get,
     Gen.Skeletons.Database_Range, Gen.Skeletons.Database_Iterate, Gen.Skeletons.Database_Set,
     Gen.Skeletons.Database_Del, Gen.Skeletons.Database_Commit, Gen.Skeletons.Database_RevertDiff,
     Gen.Skeletons.Database_Snapshot, Gen.Skeletons.Database_DeleteSnapshot,
     Gen.Skeletons.Database_RestoreSnapshot].all (atomicOk C20.cfg) = true :=
  (Tables.all_and.mp C20.table_ok.2.2.1).2

/-- block cache and the chain operations built on one cache section -/
theorem C20_atomic_blockcache_ok :
    [Gen.Skeletons.blockCache_last, Gen.Skeletons.blockCache_get, Gen.Skeletons.blockCache_getByHeight,
     Gen.Skeletons.blockCache_push, Gen.Skeletons.blockCache_pop, Gen.Skeletons.blockCache_len,
     Gen.Skeletons.blockCache_replace, Gen.Skeletons.Chain_LastBlock, Gen.Skeletons.Chain_AddBlock].all
      (atomicOk C20.cfg) = true :=
  C20.table_ok.2.2.2.2.1

/-- certificate pool and event emitter -/
theorem C20_atomic_pool_and_emitter_ok :
    [Gen.Skeletons.Pool_Size, Gen.Skeletons.Pool_Has, Gen.Skeletons.Pool_Add, Gen.Skeletons.Pool_Cleanup,
     Gen.Skeletons.Pool_Select, Gen.Skeletons.Pool_Get, Gen.Skeletons.Pool_Upgrade,
     Gen.Skeletons.EventEmitter_On, Gen.Skeletons.EventEmitter_Subscribe, Gen.Skeletons.EventEmitter_Publish,
     Gen.Skeletons.EventEmitter_Emit, Gen.Skeletons.EventEmitter_Close, Gen.Skeletons.EventEmitter_UnsubscribeAll,
     Gen.Skeletons.EventEmitter_Unsubscribe].all (atomicOk C20.cfg) = true :=
  C20.table_ok.2.2.2.2.2.1

/-- the exempt writer sequences violate the criterion (tip lookup and pop / refill are separate
critical sections), but only on the block-cache fields: with those fields ignored they pass. A source in
which they are one critical section fails this theorem: the exemption is then not needed. -/
theorem C20_atomic_writer_sequences_span_sections :
    (Gen.Skeletons.table.filter (fun e => C20.Atomic.multiSectionWriter.contains e.1)).all (fun e =>
      !atomicOk C20.cfg e.2 && atomicOk C20.Atomic.cfgNoCache e.2) = true ∧
    (Gen.Skeletons.table.filter (fun e => C20.Atomic.multiSectionWriter.contains e.1)).length = 2 := by
  decide +kernel

open Gen.Skeletons in
/-- every entry point outside `cacheWriters` never writes a block-cache field (computed on the
observations of the sound analysis `an`) -/
theorem C20_atomic_readers_never_write_the_block_cache :
    (table.filter (fun e => entries.contains e.1 && !C20.Atomic.cacheWriters.contains e.1)).all
      (fun e => C20.Atomic.noCacheWrite e.2) = true :=
  Tables.all_filter_of_all_or (Tables.all_and.mp C20.Atomic.table_ok).2

/-- **Single writer.** Any number of goroutines; every goroutine other than `w` executes finite sequences
of invocations of regenerated entry points outside `cacheWriters` (or bodies of goroutines they spawn).
Then in every reachable state, under any schedule, no goroutine other than `w` is about to write a
block-cache field: the multi-section sequences of the writer (`Chain.RemoveBlock`: tip lookup, pop,
refill; `Chain.PrepareCache`) cannot have a foreign write between their sections. -/
theorem C20_atomic_only_the_writer_writes_the_block_cache (u : Nat) (ps : List Path) (w : Nat)
    (hps : ∀ j p, j ≠ w → ps[j]? = some p → ∃ segs : List Path, p = segs.flatten ∧ ∀ q ∈ segs,
      ∃ e ∈ Gen.Skeletons.table, Gen.Skeletons.entries.contains e.1 = true ∧
        C20.Atomic.cacheWriters.contains e.1 = false ∧ IsThreadPath Gen.Skeletons.table u e.2 q)
    (st : State) (hr : Reachable (initState ps) st) (j : Nat) (tj : Thread) (hjw : j ≠ w)
    (hj : st[j]? = some tj) (x : String) (hx : x ∈ C20.Data.cacheFields) (rest : Path) :
    tj.prog ≠ Prim.write x :: rest := by
  intro hprog
  obtain ⟨done, hd, _⟩ := hist_reachable st hr j tj hj
  obtain ⟨segs, hflat, hsegs⟩ := hps j _ hjw hd
  have hmem : Prim.write x ∈ segs.flatten := by
    rw [← hflat, hprog]; simp
  obtain ⟨q, hq, hxq⟩ := List.mem_flatten.mp hmem
  obtain ⟨e, he, hent, hcw, hpath⟩ := hsegs q hq
  have hno := Tables.all_mem C20_atomic_readers_never_write_the_block_cache
    (List.mem_filter.mpr ⟨he, by rw [hent, hcw]; rfl⟩)
  unfold C20.Atomic.noCacheWrite at hno
  cases ha : analyse C20.cfg.tbl fuelDefault e.2 with
  | none => simp [ha] at hno
  | some r =>
    obtain ⟨obs, ends⟩ := r
    simp only [ha, List.all_eq_true] at hno
    obtain ⟨⟨h', _⟩, hobs, rfl⟩ := List.mem_map.mp (trace_map_snd [] q ▸ hxq)
    have := hno _ (C20_analysis_sound C20.cfg.tbl u fuelDefault e.2 obs ends ha q hpath _ hobs)
    simp only [Bool.not_eq_true', List.contains_eq_mem, decide_eq_false_iff_not] at this
    exact this hx

/-- **Read-modify-write sequences of the regenerated entry points are atomic.** Any number of goroutines,
each executing any finite sequence of invocations of the regenerated entry points other than the
emitter's `Publish` / `Emit` (hypotheses of `C20_critical_sections_atomic`), under any schedule. If
goroutine `i` is inside an invocation of an entry point `e` outside `multiSectionWriter` on the path
`q = pre ++ [read f] ++ mid ++ [write f] ++ rest`, has executed the read and (part `done` of `mid`) not
yet the write, then no other goroutine is about to read or write `f`: nothing can slip between what `e`
read and what it writes — for the staged store in particular, a `Get`/`Set`/`Del`/`Range`/`Iterate`/
`Commit`/`Snapshot`/`RestoreSnapshot` through one prefix view is atomic with respect to all other views. -/
theorem C20_atomic_entries_rmw_not_interleaved (u : Nat) (ps : List Path)
    (hps : ∀ p ∈ ps, ∃ segs : List Path, p = segs.flatten ∧ ∀ q ∈ segs,
      ∃ e ∈ Gen.Skeletons.table, Gen.Skeletons.entries.contains e.1 = true ∧
        C20.knownBlocking.contains e.1 = false ∧ IsThreadPath Gen.Skeletons.table u e.2 q)
    (st : State) (hr : Reachable (initState ps) st)
    (i j : Nat) (ti tj : Thread) (hij : i ≠ j) (hi : st[i]? = some ti) (hj : st[j]? = some tj)
    (e : String × Skel) (he : e ∈ Gen.Skeletons.table) (hent : Gen.Skeletons.entries.contains e.1 = true)
    (hex : C20.Atomic.multiSectionWriter.contains e.1 = false)
    (q pre mid rest : Path) (f m : String) (hq : IsThreadPath Gen.Skeletons.table u e.2 q)
    (hsplit : q = pre ++ Prim.read f :: (mid ++ Prim.write f :: rest))
    (hg : Gen.Skeletons.guards.lookup f = some m)
    (done mid' later : Path) (hmid : mid = done ++ mid')
    (hprog : ti.prog = mid' ++ Prim.write f :: (rest ++ later)) :
    ∀ rest', tj.prog ≠ Prim.read f :: rest' ∧ tj.prog ≠ Prim.write f :: rest' := by
  have hls : ∀ p ∈ ps, pathLs C20.cfg.guards p = true := fun p hp =>
    criteria_invocations_pathLs (C20.entries_criteria (hps p hp))
  have hok : atomicOk C20.cfg e.2 = true := by
    have h := Tables.all_mem C20_atomic_all_entries_ok (List.mem_filter.mpr ⟨he, hent⟩)
    rwa [hex] at h
  have hpa : pathAtomic C20.cfg.guards q = true := C20_atomic_check_sound C20.cfg e.2 hok u q hq
  subst hsplit
  have hquiet := pathAtomic_quiet hpa hg
  have hq' : ∀ x ∈ mid', lockOf x ≠ some m := fun x hx => hquiet x (by rw [hmid]; exact List.mem_append.mpr (Or.inr hx))
  exact (C20_atomic_rmw_excludes_other_accesses C20.cfg.guards ps hls st hr i j ti tj hij hi hj f m hg mid'
    (rest ++ later) hprog hq').2

/-! ## (C) counterexample: a `Get` that re-locks to install the stored value -/

namespace C20.Seeded

/-- `Database.getCached` of the changed source (pkg/db/diffdb/db.go): looks the key up in the staged
cache under the shared mutex — as extracted by skelgen (a method call on the guarded field counts as a
read and a write of it) -/
def getCached : Skel :=
  [.lock "Database.mutex", .deferUnlock "Database.mutex", .read "Database.cache", .write "Database.cache",
   .choice [[.ret], []], .ret]

/-- `Database.Get` of the changed source: `getCached` (first critical section), the store read without
the lock, then `Lock` again and `cache.cache(key, stored value)` (second critical section) — as extracted
by skelgen -/
def get : Skel :=
  [.call "Database.getKey", .call "Database.getCached", .choice [[.ret], []], .choice [[.ret], []],
   .choice [[.ret], []], .lock "Database.mutex", .deferUnlock "Database.mutex", .read "Database.cache",
   .write "Database.cache", .ret]

def table : Table :=
  [("Database.Get", get), ("Database.getCached", getCached), ("Database.getKey", [.ret]),
   ("Database.Set", Gen.Skeletons.Database_Set), ("Database.ensureCache", Gen.Skeletons.Database_ensureCache)]

def cfg : Cfg := ⟨table, Gen.Skeletons.guards, Gen.Skeletons.lockOrder⟩

/-- the reader: cache miss in the first section, install in the second -/
def readerPath : Path :=
  [.acq "Database.mutex", .read "Database.cache", .write "Database.cache", .rel "Database.mutex",
   .acq "Database.mutex", .read "Database.cache", .write "Database.cache", .rel "Database.mutex"]

/-- the writer: `Set` of a key that is already staged (regenerated skeleton, first `return`) -/
def writerPath : Path :=
  [.acq "Database.mutex", .read "Database.cache", .write "Database.cache", .read "Database.cache",
   .write "Database.cache", .rel "Database.mutex"]

/-- the accesses executed under a schedule, in order: `(goroutine, primitive)`; `Lock` announcements
(which consume no primitive) are not logged -/
def execLog (s : State) : List Nat → Option (List (Nat × Prim))
  | [] => some []
  | i :: sched =>
    match stepT s i with
    | none => none
    | some s' =>
      let ev : List (Nat × Prim) :=
        match s[i]?, s'[i]? with
        | some t, some t' =>
          if t'.prog.length < t.prog.length then (t.prog.head?.map (fun a => (i, a))).toList else []
        | _, _ => []
      (execLog s' sched).map (fun l => ev ++ l)

def isCacheAccess : Nat × Prim → Bool
  | (_, .read "Database.cache") => true
  | (_, .write "Database.cache") => true
  | _ => false

/-- reader section 1 (announce, acquire, read, write, release), the complete `Set`, reader section 2 -/
def lostUpdateSchedule : List Nat := [0, 0, 0, 0, 0, 1, 1, 1, 1, 1, 1, 1, 0, 0, 0, 0, 0]

/-! data level: one staged entry (`none` = the key is not in the staged cache) and the reader's
register `miss` -/

structure Cell where
  staged : Option Nat
  miss : Bool
  deriving DecidableEq, Repr

inductive Sec where
  | check                 -- `getCached`: remember whether the key is staged
  | install (stored : Nat) -- second section of the changed `Get`: `cache.cache(key, stored)` if it was a miss
  | set (v : Nat)          -- `Set(key, v)` through a sibling view
  | getAtomic (stored : Nat) -- `Get` of /repo: look up and install in ONE section

def Sec.apply (c : Cell) : Sec → Cell
  | .check => ⟨c.staged, c.staged.isNone⟩
  | .install stored => if c.miss then ⟨some stored, false⟩ else c
  | .set v => ⟨some v, c.miss⟩
  | .getAtomic stored => if c.staged.isNone then ⟨some stored, false⟩ else c

def runSecs (c : Cell) (l : List Sec) : Cell := l.foldl Sec.apply c

end C20.Seeded

/-- the changed `Get` passes every lock-discipline criterion (`criteria` does not see the defect), but not
the atomicity criterion; the regenerated `Get` passes both -/
theorem C20_seeded_get_violates_atomicity :
    criteria C20.Seeded.cfg C20.Seeded.get = true ∧ criteria C20.Seeded.cfg C20.Seeded.getCached = true ∧
    atomicOk C20.Seeded.cfg C20.Seeded.getCached = true ∧
    atomicOk C20.Seeded.cfg C20.Seeded.get = false ∧
    criteria C20.cfg Gen.Skeletons.Database_Get = true ∧ atomicOk C20.cfg Gen.Skeletons.Database_Get = true := by
  decide +kernel

/-- **Counterexample (lost update).** The reader path is a path of the changed `Get`, the writer path a
path of the regenerated `Set`; both satisfy the lockset discipline, the reader path violates the path
criterion. Under `lostUpdateSchedule` both goroutines run to completion (no deadlock, and by
`C20_lockset_implies_race_free` no race), and the complete critical section of the writer — including
its write of the staged cache — is executed between the reader's read in its first section and the
reader's write in its second section. -/
theorem C20_seeded_get_admits_lost_update_interleaving :
    C20.Seeded.readerPath ∈ bodyPaths C20.Seeded.table 0 40 C20.Seeded.get ∧
    C20.Seeded.writerPath ∈ bodyPaths C20.Seeded.table 0 40 Gen.Skeletons.Database_Set ∧
    pathLs Gen.Skeletons.guards C20.Seeded.readerPath = true ∧
    pathLs Gen.Skeletons.guards C20.Seeded.writerPath = true ∧
    pathAtomic Gen.Skeletons.guards C20.Seeded.readerPath = false ∧
    pathAtomic Gen.Skeletons.guards C20.Seeded.writerPath = true ∧
    (∃ st, run (initState [C20.Seeded.readerPath, C20.Seeded.writerPath]) C20.Seeded.lostUpdateSchedule = some st ∧
      st.all finished = true) ∧
    (C20.Seeded.execLog (initState [C20.Seeded.readerPath, C20.Seeded.writerPath])
        C20.Seeded.lostUpdateSchedule).map (·.filter C20.Seeded.isCacheAccess) =
      some [(0, .read "Database.cache"), (0, .write "Database.cache"),
            (1, .read "Database.cache"), (1, .write "Database.cache"),
            (1, .read "Database.cache"), (1, .write "Database.cache"),
            (0, .read "Database.cache"), (0, .write "Database.cache")] := by
  refine ⟨by decide, by decide, by decide, by decide, by decide, by decide, ⟨_, rfl, by decide⟩, by decide⟩

/-- on the data: key not staged, `stored` in the underlying store. Check, then `Set(new)` through a sibling
view, then the late install: the staged value is `stored` again — the `Set` is lost (whenever
`new ≠ stored`). In the two other orders the staged value is `new`. -/
theorem C20_seeded_get_loses_staged_write (stored new : Nat) :
    (C20.Seeded.runSecs ⟨none, false⟩ [.check, .set new, .install stored]).staged = some stored ∧
    (C20.Seeded.runSecs ⟨none, false⟩ [.check, .install stored, .set new]).staged = some new ∧
    (C20.Seeded.runSecs ⟨none, false⟩ [.set new, .check, .install stored]).staged = some new := by
  refine ⟨rfl, rfl, rfl⟩

/-- with the look-up and the install in ONE critical section (the regenerated `Get`, atomic by
`C20_atomic_entries_rmw_not_interleaved`) the staged value after a `Set(new)` is `new` in every order -/
theorem C20_atomic_get_keeps_staged_write (stored new : Nat) :
    (C20.Seeded.runSecs ⟨none, false⟩ [.getAtomic stored, .set new]).staged = some new ∧
    (C20.Seeded.runSecs ⟨none, false⟩ [.set new, .getAtomic stored]).staged = some new := by
  refine ⟨rfl, rfl⟩

/-! ## non-vacuity -/

/-- `C20_atomic_check_sound` / `C20_atomic_no_relock_between_dependent_accesses`: the cache-miss path of
the regenerated `Get` (look-up, store read, install — one section) is a thread path, satisfies the
criterion, and has the read … write shape -/
example :
    let p : Path := [.acq "Database.mutex", .read "Database.cache", .write "Database.cache",
      .read "Database.cache", .write "Database.cache", .rel "Database.mutex"]
    p ∈ bodyPaths Gen.Skeletons.table 0 40 Gen.Skeletons.Database_Get ∧
    pathAtomic Gen.Skeletons.guards p = true ∧
    p = [.acq "Database.mutex"] ++ Prim.read "Database.cache" ::
      ([.write "Database.cache", .read "Database.cache"] ++ Prim.write "Database.cache" :: [.rel "Database.mutex"]) := by
  refine ⟨by decide +kernel, by decide +kernel, rfl⟩

/-- `C20_atomic_rmw_excludes_other_accesses`: reader in the regenerated `Get` after its first read, a
`Set` through a sibling view pending: the state is reachable and the writer cannot enter -/
example :
    let pr : Path := [.acq "Database.mutex", .read "Database.cache", .write "Database.cache",
      .read "Database.cache", .write "Database.cache", .rel "Database.mutex"]
    ∃ st ti, run (initState [pr, C20.Seeded.writerPath]) [0, 0, 0, 1] = some st ∧ st[0]? = some ti ∧
      ti.prog = [] ++ Prim.write "Database.cache" :: [.read "Database.cache", .write "Database.cache", .rel "Database.mutex"] ∧
      ("Database.mutex", Mode.W) ∈ ti.held ∧ stepT st 1 = none := by
  refine ⟨_, _, rfl, rfl, rfl, by decide +kernel, by decide +kernel⟩

/-- `C20_atomic_only_the_writer_writes_the_block_cache`: the reader set is not empty and contains the tip
readers -/
example : Gen.Skeletons.entries.contains "Chain.LastBlock" = true ∧
    Gen.Skeletons.entries.contains "DataAccess.GetBlocksBetweenHeight" = true ∧
    C20.Atomic.cacheWriters.contains "Chain.LastBlock" = false ∧
    C20.Atomic.cacheWriters.contains "DataAccess.GetBlocksBetweenHeight" = false := by
  decide +kernel
