/-
C18 — life cycle: every clause of C18 holds in every run of the same `Connection` object.

`Connection.Start` builds a new Peer (host + connection gater) each time; the MessageProtocol, its
rateLimit and the Connection keep a pointer to "their" Peer (Model/Lifecycle.lean: one generation counter
per component).  Proved here, for ALL op sequences with any number of `restart` ops at any place:

* `C18_restart_rebinds_all`      a successful restart leaves MessageProtocol.peer, rateLimit.peer and
                                 Connection.Peer on the NEW generation, gater and message protocol started;
* `C18_life_bound_invariant`     after every op sequence every started component is bound to the current
                                 generation (so the `stale-binding` branch of Driver/Lifecycle.lean is dead);
* `C18_life_*_current`           under that invariant the life-cycle semantics of every penalty path is the
                                 single-run semantics on the current gater (refinement), hence
* `C18_life_excess_penalised`, `C18_life_bad_message_banned`, `C18_life_conn_ban`
                                 the rate-limit / malformed-envelope / unknown-procedure / BanPeer clauses hold
                                 on the gater of the RUNNING host after any history of restarts;
* `C18_restart_pinned`           what a restart does to the rest (stated as the code does it, not part of
                                 the property): empty score table (earlier bans forgotten), blocked set =
                                 configured blacklist, no connections, counters and handlers kept;
* `C18_stale_ratelimit_loses_penalty`  sensitivity: with an "idempotent" `rateLimit.start`
                                 (`if rl.peer != nil { return }`) the very same flood after one restart
                                 leaves the running gater empty - the model separates the two.
-/
import LiskVerif.Model.Lifecycle
import LiskVerif.Props.C18_Rate

open LiskVerif LiskVerif.ConnGater LiskVerif.RateLimit LiskVerif.Lifecycle

/-- every long-lived component points to the Peer of the current run (or is not started), and the
`mpStarted` flag of the single-run model says the same -/
structure C18Bound (l : LNode) : Prop where
  conn : l.connGen = some l.gen
  mp : l.mpGen = none ∨ l.mpGen = some l.gen
  rl : l.rlGen = l.mpGen
  flag : l.node.mpStarted = l.mpGen.isSome

/-! ### the restart -/

/-- **A restart re-binds everything.** After a successful `Stop`+`Start` the MessageProtocol, the rate
limiter and the Connection point to the Peer of the new generation, whose gater is started, and the
message protocol is started. -/
theorem C18_restart_rebinds_all (l : LNode) (bl : List (Option IP)) (h : (restart l bl).2 = true) :
    (restart l bl).1.gen = l.gen + 1 ∧
    (restart l bl).1.mpGen = some (restart l bl).1.gen ∧
    (restart l bl).1.rlGen = some (restart l bl).1.gen ∧
    (restart l bl).1.connGen = some (restart l bl).1.gen ∧
    (restart l bl).1.node.g.started = true ∧ (restart l bl).1.node.mpStarted = true := by
  rw [restart_ok h]
  simp [startedWith, stopped, mpStartWith, bindTo, always, mpStart, start]

/-- a failed restart (invalid blacklist entry) assigns nothing: the components stay where they were -/
theorem C18_restart_failed_keeps_bindings (l : LNode) (bl : List (Option IP)) (h : (restart l bl).2 = false) :
    (restart l bl).1.gen = l.gen ∧ (restart l bl).1.mpGen = l.mpGen ∧ (restart l bl).1.rlGen = l.rlGen ∧
    (restart l bl).1.connGen = l.connGen ∧ (restart l bl).1.node.g = l.node.g ∧
    (restart l bl).1.node.conns = [] := by
  rw [restart_failed h]
  exact ⟨rfl, rfl, rfl, rfl, rfl, rfl⟩

/-- **What a restart does to the rest of the state, as the code does it.** The new gater knows no
score and no ban (bans taken in an earlier run are forgotten), its blocked set is the configured
blacklist on an empty set, the new host has no connection; the message counters of the current window,
the registry and the handler count survive. -/
theorem C18_restart_pinned (l : LNode) (bl : List (Option IP)) (h : (restart l bl).2 = true) :
    (restart l bl).1.node.g.peerScore = [] ∧
    (restart l bl).1.node.g.blocked = (blacklist (freshGater l) bl).1.blocked ∧
    (restart l bl).1.node.g.expSecs = l.node.g.expSecs ∧
    (restart l bl).1.node.conns = [] ∧
    (restart l bl).1.node.counters = l.node.counters ∧
    (restart l bl).1.node.handled = l.node.handled ∧
    lookup (restart l bl).1.stale l.gen = some l.node.g := by
  rw [restart_ok h]
  simp [startedWith, stopped, mpStartWith, bindTo, always, mpStart, start, lookup, blacklist_frame, freshGater]

/-! ### the invariant -/

private theorem register_mp (n : Node) (name : String) (opt : Option (Int × Int)) :
    (register n name opt).1.mpStarted = n.mpStarted := by
  unfold register
  split
  · rfl
  · split <;> rfl

private theorem connect_mp (n : Node) (i : Bool) (a : Addr) (p : Nat) :
    (connect n i a p).1.mpStarted = n.mpStarted := by
  unfold connect
  simp only
  split <;> (split <;> rfl)

/-- the life-cycle semantics of `checkLimit` with the rate limiter on the current Peer is the single-run one -/
theorem C18_life_checkLimit_current (l : LNode) (hrl : l.rlGen = some l.gen) (hmp : l.node.mpStarted = true)
    (now : Nat) (proc : String) (pid : Nat) (a : Addr) :
    lcheckLimit l now proc pid a =
      ({ l with node := (checkLimit l.node now proc pid a).1 }, (checkLimit l.node now proc pid a).2.1,
        (checkLimit l.node now proc pid a).2.2) := by
  obtain ⟨gen, node, mpGen, rlGen, connGen, stale⟩ := l
  simp only at hrl hmp
  subst hrl
  unfold lcheckLimit checkLimit
  simp only [hmp, Bool.not_true, Bool.false_eq_true, if_false]
  cases hc : findCounter node.counters proc with
  | none => rfl
  | some c =>
    simp only
    by_cases hgt : (getCount c.counts pid : Int) > c.limit
    · simp only [hgt, if_true, penaltyVia]
      rcases hp : nodeAddPenalty node now (withPid a pid) c.penalty with ⟨n', o⟩
      cases o with
      | err e => simp
      | ok d => simp [resetCount]
    · simp only [hgt, if_false]

/-- **Refinement for the message paths.** With MessageProtocol and rate limiter on the current Peer, a
received envelope is handled exactly as in the single-run model, on the current gater. -/
theorem C18_life_receive_current (l : LNode) (hm : l.mpGen = some l.gen) (hrl : l.rlGen = some l.gen)
    (hmp : l.node.mpStarted = true) (now : Nat) (r : Bool) (a : Addr) (p : Nat) (k : MsgKind) :
    lreceive l now r a p k = { l with node := receive l.node now r a p k } := by
  obtain ⟨gen, node, mpGen, rlGen, connGen, stale⟩ := l
  simp only at hm hrl hmp
  subst hm
  subst hrl
  unfold lreceive receive
  cases k with
  | malformed => simp [banVia]
  | proc name =>
    simp only [banVia, if_true]
    by_cases hn : (findCounter node.counters name).isNone = true
    · simp [hn]
    · simp only [hn, Bool.false_eq_true, if_false]
      have hcl := C18_life_checkLimit_current
        ⟨gen, increase node name p, some gen, some gen, connGen, stale⟩ rfl hmp now name p a
      simp only at hcl
      rw [hcl]
      rcases hck : checkLimit (increase node name p) now name p a with ⟨n2, o, po⟩
      cases o <;> cases r <;> simp

/-- **Refinement for Connection.ApplyPenalty / BanPeer.** -/
theorem C18_life_conn_current (l : LNode) (hc : l.connGen = some l.gen) (now pid : Nat) (s : Int) :
    lapplyPenalty l now pid s = { l with node := applyPenalty l.node now pid s } ∧
    lbanPeerID l now pid = { l with node := banPeerID l.node now pid } := by
  unfold lapplyPenalty lbanPeerID
  simp [hc]

private theorem bound_node (l : LNode) (hb : C18Bound l) (n' : Node) (hmp : n'.mpStarted = l.node.mpStarted) :
    C18Bound { l with node := n' } :=
  ⟨hb.conn, hb.mp, hb.rl, by simp only [hmp]; exact hb.flag⟩

private theorem bound_started (l : LNode) (hb : C18Bound l) (hs : l.mpGen.isSome = true) :
    l.mpGen = some l.gen ∧ l.rlGen = some l.gen ∧ l.node.mpStarted = true := by
  rcases hb.mp with h | h
  · rw [h] at hs; simp at hs
  · exact ⟨h, hb.rl.trans h, by rw [hb.flag, h]; rfl⟩

private theorem bound_unstarted (l : LNode) (hb : C18Bound l) (hs : l.mpGen.isSome = false) :
    l.mpGen = none ∧ l.rlGen = none := by
  cases h : l.mpGen with
  | none => exact ⟨rfl, hb.rl.trans h⟩
  | some b => rw [h] at hs; simp at hs

/-- One case per operation: a penalty or message path is first rewritten to the single-run operation on the current
node (the `C18_life_*_current` lemmas; nothing happens when the component is not started), which keeps the flag by
its `touch_*` lemma, so `bound_node` applies; `mpStart` and `restart` set the bindings themselves. -/
private theorem bound_step (l : LNode) (hb : C18Bound l) (op : LOp) : C18Bound (lapply l op) := by
  cases op with
  | gater op => exact bound_node l hb _ rfl
  | ppen now a s => exact bound_node l hb _ (touch_nodeAddPenalty _ _ _ _).started
  | ban now a => exact bound_node l hb _ (touch_nodeBan _ _ _).started
  | register name opt => exact bound_node l hb _ (register_mp _ _ _)
  | mpStart =>
    exact ⟨hb.conn, Or.inr (by simp [lapply, lmpStart, mpStartWith, bindTo, always]),
      by simp [lapply, lmpStart, mpStartWith, bindTo, always],
      by simp [lapply, lmpStart, mpStartWith, bindTo, always, mpStart]⟩
  | connect i a p => exact bound_node l hb _ (connect_mp _ _ _ _)
  | disconnect p => exact bound_node l hb _ rfl
  | msg now r a p k =>
    show C18Bound (lreceive l now r a p k)
    cases hs : l.mpGen.isSome with
    | true =>
      obtain ⟨hm, hrl, hmp⟩ := bound_started l hb hs
      rw [C18_life_receive_current l hm hrl hmp]
      exact bound_node l hb _ (touch_receive _ _ _ _ _ _).started
    | false =>
      obtain ⟨hm, _⟩ := bound_unstarted l hb hs
      unfold lreceive
      rw [hm]
      exact hb
  | check now proc p a =>
    show C18Bound (lcheckLimit l now proc p a).1
    cases hs : l.mpGen.isSome with
    | true =>
      obtain ⟨_, hrl, hmp⟩ := bound_started l hb hs
      rw [C18_life_checkLimit_current l hrl hmp]
      exact bound_node l hb _ (touch_checkLimit _ _ _ _ _).started
    | false =>
      obtain ⟨_, hrl⟩ := bound_unstarted l hb hs
      unfold lcheckLimit
      rw [hrl]
      exact hb
  | applyPen now p s =>
    show C18Bound (lapplyPenalty l now p s)
    rw [(C18_life_conn_current l hb.conn now p s).1]
    exact bound_node l hb _ (touch_applyPenalty _ _ _ _).started
  | banPid now p =>
    show C18Bound (lbanPeerID l now p)
    rw [(C18_life_conn_current l hb.conn now p 0).2]
    exact bound_node l hb _ (touch_banPeerID _ _ _).started
  | tick => exact bound_node l hb _ rfl
  | restart bl =>
    show C18Bound (restart l bl).1
    cases hok : (restart l bl).2 with
    | true =>
      obtain ⟨_, hm, hr, hc, _, hmp⟩ := C18_restart_rebinds_all l bl hok
      exact ⟨hc, Or.inr hm, hr.trans hm.symm, by rw [hmp, hm]; rfl⟩
    | false =>
      obtain ⟨hg, hm, hr, hc, _, _⟩ := C18_restart_failed_keeps_bindings l bl hok
      refine ⟨by rw [hc, hg]; exact hb.conn, by rw [hm, hg]; exact hb.mp, by rw [hr, hm]; exact hb.rl, ?_⟩
      rw [hm, restart_failed hok]
      exact hb.flag

/-- **After every op sequence - any C18 ops, any number of restarts (also failed ones) at any place - every
started component is bound to the Peer of the current run.** -/
theorem C18_life_bound_invariant (g : Gater) (ops : List LOp) : C18Bound (lrun (Lifecycle.init g) ops) :=
  List.foldlRecOn ops lapply (show C18Bound (Lifecycle.init g) from ⟨rfl, Or.inl rfl, rfl, rfl⟩)
    fun l hl op _ => bound_step l hl op

/-! ### the clauses of C18 in every run -/

/-- **Excess is penalised in every run.** After any history (any number of restarts), once the message
protocol is started: the message that brings the count of (procedure, peer) above the limit adds the
procedure's penalty to the score of the sender's IP in the gater of the RUNNING host and resets the
counter; at the threshold the IP is banned there and the peer has no connection left. -/
theorem C18_life_excess_penalised (g : Gater) (ops : List LOp)
    (hst : (lrun (Lifecycle.init g) ops).mpGen.isSome = true)
    (hs : (lrun (Lifecycle.init g) ops).node.g.started = true)
    (name : String) (cfg : Counter)
    (hc : findCounter (lrun (Lifecycle.init g) ops).node.counters name = some cfg)
    (remote : Addr) (ip : IP) (hip : remote.ip = some ip) (pid now : Nat) (isReq : Bool)
    (hex : ((count (lrun (Lifecycle.init g) ops).node name pid + 1 : Nat) : Int) > cfg.limit) :
    let l := lrun (Lifecycle.init g) ops
    let l' := lreceive l now isReq remote pid (.proc name)
    let old : Int := match find l.node.g.peerScore ip with | some i => i.score | none => 0
    l'.gen = l.gen ∧
    (∃ i, find l'.node.g.peerScore ip = some i ∧ i.score = old + cfg.penalty) ∧
    count l'.node name pid = 0 ∧
    (old + cfg.penalty ≥ 100 → isBanned l'.node.g ip = true ∧ ∀ c ∈ l'.node.conns, c.1 ≠ pid) := by
  intro l l' old
  obtain ⟨hm, hrl, hmp⟩ := bound_started l (C18_life_bound_invariant g ops) hst
  have hl' : l' = { l with node := receive l.node now isReq remote pid (.proc name) } :=
    C18_life_receive_current l hm hrl hmp now isReq remote pid (.proc name)
  have := C18_excess_penalised l.node hmp hs name cfg hc remote ip hip pid now isReq hex
  rw [hl']
  exact ⟨rfl, this⟩

/-- **Malformed envelopes and unknown procedures are banned in every run**, on the gater of the running
host: all gates refuse the IP afterwards, the sender has no connection left, no handler ran. -/
theorem C18_life_bad_message_banned (g : Gater) (ops : List LOp)
    (hst : (lrun (Lifecycle.init g) ops).mpGen.isSome = true)
    (hs : (lrun (Lifecycle.init g) ops).node.g.started = true)
    (remote : Addr) (ip : IP) (hip : remote.ip = some ip) (pid now : Nat) (isReq : Bool) (k : MsgKind)
    (hk : k = .malformed ∨ ∃ name, k = .proc name ∧
      findCounter (lrun (Lifecycle.init g) ops).node.counters name = none)
    (hnonneg : ∀ i, find (lrun (Lifecycle.init g) ops).node.g.peerScore ip = some i → 0 ≤ i.score)
    (q : Nat) (apid : Option Nat) :
    let l := lrun (Lifecycle.init g) ops
    let l' := lreceive l now isReq remote pid k
    isBanned l'.node.g ip = true ∧ (∀ c ∈ l'.node.conns, c.1 ≠ pid) ∧ l'.node.handled = l.node.handled ∧
      inboundAllowed l'.node.g q ⟨some ip, apid⟩ = false ∧ outboundAllowed l'.node.g q ⟨some ip, apid⟩ = false := by
  intro l l'
  obtain ⟨hm, hrl, hmp⟩ := bound_started l (C18_life_bound_invariant g ops) hst
  have hl' : l' = { l with node := receive l.node now isReq remote pid k } :=
    C18_life_receive_current l hm hrl hmp now isReq remote pid k
  rw [hl']
  exact C18_bad_message_banned l.node hs remote ip hip pid now isReq k hk hnonneg q apid

/-- **Connection.ApplyPenalty / BanPeer act on the running host in every run.** -/
theorem C18_life_conn_ban (g : Gater) (ops : List LOp) (now pid : Nat) (s : Int) :
    let l := lrun (Lifecycle.init g) ops
    (lapplyPenalty l now pid s).node = applyPenalty l.node now pid s ∧
    (lbanPeerID l now pid).node = banPeerID l.node now pid := by
  intro l
  have h := C18_life_conn_current l (C18_life_bound_invariant g ops).conn now pid s
  rw [h.1, h.2]
  exact ⟨rfl, rfl⟩

/-! ### non-vacuity and sensitivity -/

/-- one procedure (limit 2, penalty 100), started, one restart -/
def C18lifeExample : LNode :=
  lrun (Lifecycle.init (C18fresh 10))
    [.gater .start, .register "blk" (some (2, 100)), .mpStart, .restart []]

example : C18lifeExample.gen = 1 ∧ C18lifeExample.rlGen = some 1 ∧ C18lifeExample.node.g.peerScore = [] := by decide

/-- the flood: three messages of one peer from 1.2.3.4 in one window (limit 2) -/
def C18lifeFlood (l : LNode) : LNode :=
  lrun l [.msg 5 true ⟨some [1, 2, 3, 4], none⟩ 7 (.proc "blk"), .msg 5 true ⟨some [1, 2, 3, 4], none⟩ 7 (.proc "blk"),
    .msg 5 true ⟨some [1, 2, 3, 4], none⟩ 7 (.proc "blk")]

example : isBanned (C18lifeFlood C18lifeExample).node.g [1, 2, 3, 4] = true := by decide

/-- the same history with an "idempotent" `rateLimit.start` (`if rl.peer != nil { return }`): after the
restart the rate limiter still points to generation 0 -/
def C18lifeStale : LNode :=
  (restartWith always onlyWhenNil always
    (lrun (Lifecycle.init (C18fresh 10)) [.gater .start, .register "blk" (some (2, 100)), .mpStart]) []).1

/-- **Sensitivity.** With a rate limiter that keeps the Peer of the previous run, the flood that bans the
sender in the model of the code leaves the gater of the running host EMPTY (the penalty sits in the
gater of generation 0), the sender is not banned and all gates still allow it. -/
theorem C18_stale_ratelimit_loses_penalty :
    C18lifeStale.rlGen = some 0 ∧ C18lifeStale.gen = 1 ∧
    (C18lifeFlood C18lifeStale).node.g.peerScore = [] ∧
    isBanned (C18lifeFlood C18lifeStale).node.g [1, 2, 3, 4] = false ∧
    inboundAllowed (C18lifeFlood C18lifeStale).node.g 7 ⟨some [1, 2, 3, 4], none⟩ = true ∧
    ((lookup (C18lifeFlood C18lifeStale).stale 0).map fun g => isBanned g [1, 2, 3, 4]) = some true ∧
    isBanned (C18lifeFlood C18lifeExample).node.g [1, 2, 3, 4] = true := by decide
