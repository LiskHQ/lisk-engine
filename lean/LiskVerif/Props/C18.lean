/-
C18 — Peer penalties accumulate into bans that are enforced and expire (connection gater part).

Theorems about `LiskVerif.Model.ConnGater` (model of pkg/p2p/conngater.go), for ALL sequences of
operations (penalties of any amount against any address, expiry passes at any time, block /
unblock / blacklist configuration).  The rate limiter and message-protocol clauses are in
`Props/C18_Rate.lean`.

Specification side (independent bookkeeping): for one IP, its *epoch* is the list of penalties
(time, amount) received since its entry was last removed by an expiry pass; the ban threshold is
reached when some chronological prefix of the epoch sums to >= 100, and the ban expires `E`
seconds after the last penalty at which the running total was >= 100.
-/
import LiskVerif.Lemmas.ConnGater

open LiskVerif LiskVerif.ConnGater

/-- penalties (time, amount) received since the entry was last removed; most recent first -/
abbrev C18Epoch := List (Nat × Int)

/-- accumulated score of an epoch -/
def C18total : C18Epoch → Int
  | [] => 0
  | (_, s) :: r => C18total r + s

/-- the expiration implied by an epoch: `-1` while no chronological prefix reached the threshold,
otherwise `E` seconds after the most recent penalty at which the running total was >= 100 -/
def C18expOf (E : Nat) : C18Epoch → Int
  | [] => -1
  | (t, s) :: older =>
    if C18total ((t, s) :: older) ≥ 100 then ((t + E : Nat) : Int) else C18expOf E older

/-- the table entry implied by an epoch -/
def C18specEntry (E : Nat) : C18Epoch → Option PeerInfo
  | [] => none
  | e :: r => some ⟨C18total (e :: r), C18expOf E (e :: r)⟩

/-- the ban threshold was reached by some chronological prefix of the epoch -/
def C18Reached (ep : C18Epoch) : Prop := ∃ k, k < ep.length ∧ C18total (ep.drop k) ≥ 100

/-- evolution of the epoch of `ip`: penalties against an address with that IP are recorded; an expiry
pass after the implied expiration starts a new (empty) epoch; nothing else matters. -/
def C18epochStep (E : Nat) (ip : IP) (ep : C18Epoch) : Op → C18Epoch
  | .pen now a s => if a.ip = some ip then (now, s) :: ep else ep
  | .sweep now => if C18expOf E ep ≠ -1 ∧ (now : Int) > C18expOf E ep then [] else ep
  | _ => ep

def C18epoch (E : Nat) (ip : IP) (ops : List Op) : C18Epoch := ops.foldl (C18epochStep E ip) []

/-- one step of the epoch of `ip`: a penalty against `ip` is recorded, an expiry pass after the expiration empties it,
nothing else changes it -/
theorem C18epochStep_cases (E : Nat) (ip : IP) (ep : C18Epoch) (op : Op) :
    (∃ t a s, op = .pen t a s ∧ a.ip = some ip ∧ C18epochStep E ip ep op = (t, s) :: ep) ∨
    (∃ t, op = .sweep t ∧ C18expOf E ep ≠ -1 ∧ (t : Int) > C18expOf E ep ∧ C18epochStep E ip ep op = []) ∨
    ((∀ t a s, op = .pen t a s → a.ip ≠ some ip) ∧ C18epochStep E ip ep op = ep) := by
  cases op with
  | pen t a s =>
    by_cases ha : a.ip = some ip
    · exact Or.inl ⟨t, a, s, rfl, ha, if_pos ha⟩
    · exact Or.inr (Or.inr ⟨fun _ _ _ h => by cases h; exact ha, if_neg ha⟩)
  | sweep t =>
    by_cases h : C18expOf E ep ≠ -1 ∧ (t : Int) > C18expOf E ep
    · exact Or.inr (Or.inl ⟨t, rfl, h.1, h.2, if_pos h⟩)
    · exact Or.inr (Or.inr ⟨nofun, if_neg h⟩)
  | _ => exact Or.inr (Or.inr ⟨nofun, rfl⟩)

/-- permanent blacklist membership of `ip` as a function of the configuration operations -/
def C18blockedStep (ip : IP) (b : Bool) : Op → Bool
  | .block ip' => b || decide (ip' = ip)
  | .unblock ip' => b && !decide (ip' = ip)
  | .blacklist l => if l.any (·.isNone) then b else b || decide (some ip ∈ l)
  | _ => b

def C18blocked (ip : IP) (ops : List Op) : Bool := ops.foldl (C18blockedStep ip) false

/-- a freshly created and started gater with ban duration `E` seconds -/
def C18fresh (E : Nat) : Gater := { expSecs := E, started := true }

/-! ### the refinement invariant -/

/-- The gater `g` (running, ban duration `E`, a table with one entry per key) carries for `ip` exactly the entry the
epoch `ep` implies.  Every operation keeps the relation when the epoch takes the corresponding `C18epochStep`
(`C18Rel.step`), so everything about the entry of `ip` along a run is a fact about the fold of `C18epochStep`. -/
structure C18Rel (E : Nat) (ip : IP) (g : Gater) (ep : C18Epoch) : Prop where
  started : g.started = true
  exp : g.expSecs = E
  nodup : NoDupKeys g.peerScore
  entry : find g.peerScore ip = C18specEntry E ep

/-- an epoch carries an expiration exactly when some chronological prefix of it reached the threshold -/
theorem C18expOf_ne_iff (E : Nat) (ep : C18Epoch) : C18expOf E ep ≠ -1 ↔ C18Reached ep := by
  induction ep with
  | nil =>
    simp only [C18expOf, ne_eq, not_true_eq_false, C18Reached, List.length_nil, false_iff]
    rintro ⟨k, hk, _⟩
    omega
  | cons e r ih =>
    obtain ⟨t, s⟩ := e
    by_cases h : C18total ((t, s) :: r) ≥ 100
    · simp only [C18expOf, h, if_true]
      constructor
      · intro _
        exact ⟨0, by simp, by simpa using h⟩
      · intro _
        omega
    · simp only [C18expOf, h, if_false]
      rw [ih]
      constructor
      · rintro ⟨k, hk, hk2⟩
        exact ⟨k + 1, by simp; omega, by simpa using hk2⟩
      · rintro ⟨k, hk, hk2⟩
        cases k with
        | zero => exact absurd (by simpa using hk2) h
        | succ k => exact ⟨k, by simp at hk; omega, by simpa using hk2⟩

private theorem expOf_nonneg_or (E : Nat) (ep : C18Epoch) : C18expOf E ep = -1 ∨ 0 ≤ C18expOf E ep := by
  induction ep with
  | nil => left; rfl
  | cons e r ih =>
    obtain ⟨t, s⟩ := e
    by_cases h : C18total ((t, s) :: r) ≥ 100
    · right; simp only [C18expOf, h, if_true]; omega
    · simp only [C18expOf, h, if_false]; exact ih

/-- one operation of the gater is one `C18epochStep` of the epoch -/
theorem C18Rel.step {E : Nat} {ip : IP} {g : Gater} {ep : C18Epoch} (h : C18Rel E ip g ep)
    (op : Op) : C18Rel E ip (apply g op) (C18epochStep E ip ep op) := by
  cases op with
  | start => exact ⟨rfl, h.exp, h.nodup, h.entry⟩
  | pen now a s =>
    have hf := addPenalty_fields g now a s
    refine ⟨by simpa [apply, hf.1] using h.started, by simpa [apply, hf.2.1] using h.exp,
      addPenalty_nodup g now a s h.nodup, ?_⟩
    by_cases ha : a.ip = some ip
    · obtain ⟨aip, apid⟩ := a
      simp only at ha
      subst ha
      simp only [apply, C18epochStep, if_true, addPenalty_ok h.started, find_put]
      have he := h.entry
      cases ep with
      | nil =>
        simp only [C18specEntry] at he
        simp only [he, C18specEntry, C18total, C18expOf, maxPenaltyScore, h.exp]
        simp
      | cons e r =>
        simp only [C18specEntry] at he
        simp only [he, C18specEntry, C18total, C18expOf, maxPenaltyScore, h.exp]
        simp
    · simp only [apply, C18epochStep, ha, if_false]
      rw [addPenalty_find_other g now a s ip ha]
      exact h.entry
  | sweep now =>
    refine ⟨h.started, h.exp, nodup_filter h.nodup _, ?_⟩
    simp only [apply, sweep, C18epochStep]
    rw [find_filter h.nodup (fun i => !expired now i) ip, h.entry]
    cases ep with
    | nil => simp [C18specEntry, C18expOf, Option.filter]
    | cons e r =>
      by_cases hc : C18expOf E (e :: r) ≠ -1 ∧ (now : Int) > C18expOf E (e :: r)
      · rw [if_pos hc]
        have h1 : (C18expOf E (e :: r) != -1) = true := by simpa using hc.1
        have h2 : decide ((now : Int) > C18expOf E (e :: r)) = true := by simpa using hc.2
        simp [C18specEntry, Option.filter, expired, h1, h2]
      · rw [if_neg hc]
        have : (C18expOf E (e :: r) != -1 && decide ((now : Int) > C18expOf E (e :: r))) = false := by
          by_cases h1 : C18expOf E (e :: r) = -1
          · simp [h1]
          · have h2 : ¬ (now : Int) > C18expOf E (e :: r) := fun hh => hc ⟨h1, hh⟩
            simp [h2]
        simp [C18specEntry, Option.filter, expired, this]
  | block ip' =>
    exact ⟨by simpa [apply] using h.started, by simpa [apply] using h.exp,
      by simpa [apply] using h.nodup, by simpa [apply, C18epochStep] using h.entry⟩
  | unblock ip' => exact ⟨h.started, h.exp, h.nodup, h.entry⟩
  | blacklist l =>
    obtain ⟨h1, h2, h3⟩ := blacklist_frame g l
    exact ⟨h2.trans h.started, h3.trans h.exp, h1 ▸ h.nodup, (congrArg (find · ip) h1).trans h.entry⟩

/-- the relation holds along every run, from any related pair -/
theorem C18Rel.run {E : Nat} {ip : IP} (ops : List Op) {g : Gater} {ep : C18Epoch}
    (h : C18Rel E ip g ep) : C18Rel E ip (run g ops) (ops.foldl (C18epochStep E ip) ep) := by
  induction ops generalizing g ep with
  | nil => exact h
  | cons op r ih => exact ih (h.step op)

/-- a freshly created gater carries the empty epoch of every IP -/
theorem C18Rel.fresh (E : Nat) (ip : IP) : C18Rel E ip (C18fresh E) [] :=
  ⟨rfl, rfl, by simp [C18fresh, NoDupKeys, keys], rfl⟩

/-- a related gater bans `ip` exactly when the epoch carries an expiration -/
theorem C18Rel.banned_iff {E : Nat} {ip : IP} {g : Gater} {ep : C18Epoch} (h : C18Rel E ip g ep) :
    isBanned g ip = true ↔ C18expOf E ep ≠ -1 := by
  unfold isBanned
  rw [h.entry]
  cases ep with
  | nil => simp [C18specEntry, C18expOf]
  | cons e r => simp [C18specEntry, PeerInfo.banned]

/-- every reachable gater carries, for every IP, the epoch the operations so far imply -/
theorem C18_rel_reachable (E : Nat) (ops : List Op) (ip : IP) :
    C18Rel E ip (run (C18fresh E) ops) (C18epoch E ip ops) :=
  (C18Rel.fresh E ip).run ops

/-- **Refinement.** After any operation sequence the table entry of every IP is exactly the one
implied by its epoch: absent when it received no penalty since its last expiry, otherwise the sum
of those penalties and the expiration of the last threshold crossing. -/
theorem C18_entry_is_epoch (E : Nat) (ops : List Op) (ip : IP) :
    find (run (C18fresh E) ops).peerScore ip = C18specEntry E (C18epoch E ip ops) :=
  (C18_rel_reachable E ops ip).entry

/-- Every reachable table has unique keys, stays started and keeps its ban duration (the side
conditions of `C18_expiry_clean` / `C18_ban_holds_until_expiry` hold in every reachable state). -/
theorem C18_reachable_wf (E : Nat) (ops : List Op) :
    NoDupKeys (run (C18fresh E) ops).peerScore ∧ (run (C18fresh E) ops).started = true ∧
      (run (C18fresh E) ops).expSecs = E :=
  -- the three facts do not depend on the IP the relation is stated for
  let h := C18_rel_reachable E ops []
  ⟨h.nodup, h.started, h.exp⟩

/-- **Ban iff threshold.** After any operation sequence an IP is banned iff the penalties it
accumulated since its last expiry reached the threshold (some chronological prefix sums to >= 100);
its score is the sum of those penalties; it has no table entry iff there are no such penalties. -/
theorem C18_ban_iff_threshold (E : Nat) (ops : List Op) (ip : IP) :
    (isBanned (run (C18fresh E) ops) ip = true ↔ C18Reached (C18epoch E ip ops)) ∧
    (∀ i, find (run (C18fresh E) ops).peerScore ip = some i → i.score = C18total (C18epoch E ip ops)) ∧
    (find (run (C18fresh E) ops).peerScore ip = none ↔ C18epoch E ip ops = []) := by
  refine ⟨(C18_rel_reachable E ops ip).banned_iff.trans (C18expOf_ne_iff E _), ?_⟩
  have he := C18_entry_is_epoch E ops ip
  generalize C18epoch E ip ops = ep at he
  refine ⟨?_, ?_⟩
  · intro i hi
    rw [he] at hi
    cases ep with
    | nil => simp [C18specEntry] at hi
    | cons e r =>
      simp only [C18specEntry, Option.some.injEq] at hi
      rw [← hi]
  · rw [he]
    cases ep with
    | nil => simp [C18specEntry]
    | cons e r => simp [C18specEntry]

example : isBanned (run (C18fresh 2) [.pen 10 ⟨some [1, 2, 3, 4], some 0⟩ 60,
    .pen 11 ⟨some [1, 2, 3, 4], some 1⟩ 40]) [1, 2, 3, 4] = true := by decide
example : isBanned (run (C18fresh 2) [.pen 10 ⟨some [1, 2, 3, 4], some 0⟩ 60,
    .pen 11 ⟨some [1, 2, 3, 5], some 1⟩ 40]) [1, 2, 3, 4] = false := by decide

/-! ### gates -/

/-- **A banned or blacklisted IP is refused, and only such IPs.** For an address whose IP is
banned or blocked, `InterceptAddrDial`, `InterceptAccept` and inbound `InterceptSecured` return
false, hence no outbound and no inbound connection attempt passes the gate sequence; for any other
IP every gate allows. -/
theorem C18_gates_refuse_banned_or_blacklisted (g : Gater) (ip : IP) (apid : Option Nat) (pid : Nat) :
    ((isBanned g ip = true ∨ isBlocked g ip = true) →
        interceptAddrDial g pid ⟨some ip, apid⟩ = false ∧ interceptAccept g ⟨some ip, apid⟩ = false ∧
        interceptSecured g true pid ⟨some ip, apid⟩ = false ∧
        outboundAllowed g pid ⟨some ip, apid⟩ = false ∧ inboundAllowed g pid ⟨some ip, apid⟩ = false) ∧
    ((isBanned g ip = false ∧ isBlocked g ip = false) →
        interceptPeerDial g pid = true ∧ interceptAddrDial g pid ⟨some ip, apid⟩ = true ∧
        interceptAccept g ⟨some ip, apid⟩ = true ∧ interceptSecured g true pid ⟨some ip, apid⟩ = true ∧
        interceptSecured g false pid ⟨some ip, apid⟩ = true ∧ interceptUpgraded g = true ∧
        outboundAllowed g pid ⟨some ip, apid⟩ = true ∧ inboundAllowed g pid ⟨some ip, apid⟩ = true) := by
  constructor
  · intro h
    have ha : isAllowed g ⟨some ip, apid⟩ = false := by
      simp only [isAllowed]
      rcases h with h | h <;> simp [h]
    simp [interceptAddrDial, interceptAccept, interceptSecured, outboundAllowed, inboundAllowed, ha]
  · rintro ⟨h1, h2⟩
    have ha : isAllowed g ⟨some ip, apid⟩ = true := by simp [isAllowed, h1, h2]
    simp [interceptPeerDial, interceptAddrDial, interceptAccept, interceptSecured, interceptUpgraded,
      outboundAllowed, inboundAllowed, ha]

/-- the two gate sequences refuse a banned or blacklisted IP (last two clauses of the first half of
`C18_gates_refuse_banned_or_blacklisted`) -/
theorem C18_sequences_refuse (g : Gater) (ip : IP) (apid : Option Nat) (pid : Nat)
    (h : isBanned g ip = true ∨ isBlocked g ip = true) :
    outboundAllowed g pid ⟨some ip, apid⟩ = false ∧ inboundAllowed g pid ⟨some ip, apid⟩ = false :=
  ((C18_gates_refuse_banned_or_blacklisted g ip apid pid).1 h).2.2.2

/-- … and admit every other IP (last two clauses of its second half) -/
theorem C18_sequences_admit (g : Gater) (ip : IP) (apid : Option Nat) (pid : Nat)
    (h1 : isBanned g ip = false) (h2 : isBlocked g ip = false) :
    outboundAllowed g pid ⟨some ip, apid⟩ = true ∧ inboundAllowed g pid ⟨some ip, apid⟩ = true :=
  ((C18_gates_refuse_banned_or_blacklisted g ip apid pid).2 ⟨h1, h2⟩).2.2.2.2.2.2

/-- one operation moves the blacklist membership of `ip` as the pure `C18blockedStep` says -/
theorem C18blocked_step (g : Gater) (ip : IP) (op : Op) :
    isBlocked (apply g op) ip = C18blockedStep ip (isBlocked g ip) op := by
  cases op with
  | start => rfl
  | pen now a s =>
    simp only [apply, isBlocked, C18blockedStep, (addPenalty_fields g now a s).2.2]
  | sweep now => rfl
  | block ip' =>
    simp only [apply, isBlocked, C18blockedStep]
    rw [Bool.eq_iff_iff]
    simp only [decide_eq_true_eq, Bool.or_eq_true, mem_blockAddr]
    rw [or_comm, eq_comm]
  | unblock ip' =>
    simp only [apply, isBlocked, C18blockedStep]
    rw [Bool.eq_iff_iff]
    simp only [decide_eq_true_eq, Bool.and_eq_true, Bool.not_eq_true', decide_eq_false_iff_not,
      mem_unblockAddr]
    rw [and_comm, ne_comm]
  | blacklist l =>
    simp only [apply, isBlocked, C18blockedStep, blacklist_eq]
    by_cases hl : l.any (·.isNone) = true
    · simp only [hl, if_true]
    · have hl' : l.any (·.isNone) = false := Bool.eq_false_iff.2 hl
      simp only [hl', Bool.false_eq_true, if_false]
      rw [Bool.eq_iff_iff]
      simp only [decide_eq_true_eq, Bool.or_eq_true, mem_blockAll]
      exact Or.comm

/-- … and a run moves it as the fold of `C18blockedStep` -/
theorem C18blocked_run (ops : List Op) (g : Gater) (ip : IP) :
    isBlocked (run g ops) ip = ops.foldl (C18blockedStep ip) (isBlocked g ip) := by
  induction ops generalizing g with
  | nil => rfl
  | cons op r ih =>
    simp only [run, List.foldl] at ih ⊢
    rw [ih, C18blocked_step]

/-- the configured blacklist keeps `ip` for as long as it is not unblocked -/
theorem C18blocked_keeps (ip : IP) (ops : List Op) (hno : Op.unblock ip ∉ ops) :
    ops.foldl (C18blockedStep ip) true = true := by
  induction ops with
  | nil => rfl
  | cons op r ih =>
    have hr := ih (fun h => hno (List.mem_cons_of_mem _ h))
    cases op with
    | unblock ip' =>
      have : ip' ≠ ip := fun h => hno (h ▸ List.mem_cons_self)
      simpa [C18blockedStep, this] using hr
    | blacklist l =>
      rw [List.foldl_cons, C18blockedStep]
      split <;> simpa using hr
    | _ => exact hr

/-- a blacklisted IP stays blacklisted along every run that does not unblock it.  (A fact about `ConnGater.run` alone, kept
under that namespace; it stands here because it is read off `C18blockedStep`, which Lemmas/ConnGater cannot import.) -/
theorem LiskVerif.ConnGater.isBlocked_run (ops : List Op) (g : Gater) (ip : IP) (hb : isBlocked g ip = true)
    (hno : Op.unblock ip ∉ ops) : isBlocked (run g ops) ip = true := by
  rw [C18blocked_run, hb]
  exact C18blocked_keeps ip ops hno

/-- **Gates along runs.** After any operation sequence, a connection attempt (inbound or outbound)
involving `ip` is refused iff `ip` reached the ban threshold since its last expiry or is on the
permanent blacklist as configured by the block / unblock / blacklist operations. -/
theorem C18_gates_along_runs (E : Nat) (ops : List Op) (ip : IP) (apid : Option Nat) (pid : Nat) :
    (inboundAllowed (run (C18fresh E) ops) pid ⟨some ip, apid⟩ = false ↔
      (C18Reached (C18epoch E ip ops) ∨ C18blocked ip ops = true)) ∧
    (outboundAllowed (run (C18fresh E) ops) pid ⟨some ip, apid⟩ = false ↔
      (C18Reached (C18epoch E ip ops) ∨ C18blocked ip ops = true)) := by
  have hb : isBlocked (run (C18fresh E) ops) ip = C18blocked ip ops := by
    rw [C18blocked_run]; rfl
  have hban := (C18_ban_iff_threshold E ops ip).1
  rw [← hban, ← hb]
  generalize run (C18fresh E) ops = g
  by_cases h1 : isBanned g ip = true
  · have := C18_sequences_refuse g ip apid pid (Or.inl h1)
    simp [h1, this.1, this.2]
  · by_cases h2 : isBlocked g ip = true
    · have := C18_sequences_refuse g ip apid pid (Or.inr h2)
      simp [h2, this.1, this.2]
    · have h1' : isBanned g ip = false := by simpa using h1
      have h2' : isBlocked g ip = false := by simpa using h2
      have := C18_sequences_admit g ip apid pid h1' h2'
      simp [h1', h2', this.1, this.2]

example : inboundAllowed (run (C18fresh 2) [.blacklist [some [9, 9, 9, 9]]]) 0 ⟨some [9, 9, 9, 9], none⟩ = false := by
  decide
example : inboundAllowed (run (C18fresh 2) [.blacklist [some [9, 9, 9, 9], none]]) 0 ⟨some [9, 9, 9, 9], none⟩ = true := by
  decide

/-! ### expiry -/

/-- **Expiry is clean.** For a table with unique keys: the first expiry pass strictly after the
expiration removes the entry — the IP is allowed again (unless blacklisted) and its next penalty
starts from a clean score; passes at or before the expiration leave the entry untouched, and
entries that never reached the threshold are never removed. -/
theorem C18_expiry_clean (g : Gater) (hn : NoDupKeys g.peerScore) (ip : IP) (i : PeerInfo)
    (hi : find g.peerScore ip = some i) (now : Nat) :
    (i.expiration ≠ -1 → (now : Int) > i.expiration →
        find (sweep g now).peerScore ip = none ∧ isBanned (sweep g now) ip = false ∧
        (∀ apid, isBlocked g ip = false → isAllowed (sweep g now) ⟨some ip, apid⟩ = true) ∧
        (∀ t apid s, g.started = true →
          (addPenalty (sweep g now) t ⟨some ip, apid⟩ s).2 = .ok s)) ∧
    (i.expiration ≠ -1 → (now : Int) ≤ i.expiration →
        find (sweep g now).peerScore ip = some i ∧ isBanned (sweep g now) ip = true) ∧
    (i.expiration = -1 → find (sweep g now).peerScore ip = some i) := by
  have hf := find_filter hn (fun i => !expired now i) ip
  rw [hi] at hf
  refine ⟨?_, ?_, ?_⟩
  · intro h1 h2
    have hex : expired now i = true := by simp [expired, h1, h2]
    have hnone : find (sweep g now).peerScore ip = none := by
      simp only [sweep]; rw [hf]; simp [Option.filter, hex]
    refine ⟨hnone, by simp [isBanned, hnone], ?_, ?_⟩
    · intro apid hb
      have hb' : isBlocked (sweep g now) ip = false := hb
      simp [isAllowed, hb', isBanned, hnone]
    · intro t apid s hs
      have hs' : (sweep g now).started = true := hs
      rw [addPenalty_ok hs']
      simp [hnone]
  · intro h1 h2
    have hex : expired now i = false := by
      have : ¬ (now : Int) > i.expiration := by omega
      simp [expired, this]
    have hsome : find (sweep g now).peerScore ip = some i := by
      simp only [sweep]; rw [hf]; simp [Option.filter, hex]
    exact ⟨hsome, by simp [isBanned, hsome, PeerInfo.banned, h1]⟩
  · intro h1
    have hex : expired now i = false := by simp [expired, h1]
    simp only [sweep]; rw [hf]; simp [Option.filter, hex]

/-- time stamp of an operation that reads the clock -/
def C18opTime : Op → Option Nat
  | .pen now _ _ => some now
  | .sweep now => some now
  | _ => none

/-- an expiration not before `m + E` survives the expiry passes that read a clock `≤ m + E` and the penalties
against `ip` stamped `m` or later -/
theorem C18epoch_hold (E : Nat) (ip : IP) (m : Nat) (ops : List Op) (ep : C18Epoch)
    (hJ : C18expOf E ep ≠ -1 ∧ ((m + E : Nat) : Int) ≤ C18expOf E ep)
    (hsw : ∀ t, Op.sweep t ∈ ops → t ≤ m + E)
    (hpn : ∀ t a s', Op.pen t a s' ∈ ops → a.ip = some ip → m ≤ t) :
    C18expOf E (ops.foldl (C18epochStep E ip) ep) ≠ -1 ∧
      ((m + E : Nat) : Int) ≤ C18expOf E (ops.foldl (C18epochStep E ip) ep) := by
  induction ops generalizing ep with
  | nil => exact hJ
  | cons op r ih =>
    rw [List.foldl_cons]
    apply ih _ _ (fun t h => hsw t (List.mem_cons_of_mem _ h)) (fun t a s' h => hpn t a s' (List.mem_cons_of_mem _ h))
    rcases C18epochStep_cases E ip ep op with ⟨t, a, s, rfl, ha, h⟩ | ⟨t, rfl, h1, h2, _⟩ | ⟨_, h⟩
    · have hm := hpn t a s List.mem_cons_self ha
      rw [h]
      by_cases h100 : C18total ((t, s) :: ep) ≥ 100
      · simp only [C18expOf, h100, if_true]
        constructor <;> omega
      · simp only [C18expOf, h100, if_false]
        exact hJ
    · have := hsw t List.mem_cons_self
      omega
    · rw [h]
      exact hJ

/-- **The ban period.**  A gater that carries for `ip` the entry of an epoch whose expiration is not before `m + E`:
after any operations in which every expiry pass reads a clock `≤ m + E` and every penalty against `ip` is stamped
`m` or later, `ip` is banned. -/
theorem C18_ban_period {E : Nat} {ip : IP} {g : Gater} {ep : C18Epoch} (h : C18Rel E ip g ep) (m : Nat)
    (hJ : C18expOf E ep ≠ -1 ∧ ((m + E : Nat) : Int) ≤ C18expOf E ep) (ops : List Op)
    (hsw : ∀ t, Op.sweep t ∈ ops → t ≤ m + E)
    (hpn : ∀ t a s', Op.pen t a s' ∈ ops → a.ip = some ip → m ≤ t) :
    isBanned (run g ops) ip = true :=
  (h.run ops).banned_iff.mpr (C18epoch_hold E ip m ops ep hJ hsw hpn).1

/-- **A ban holds until it expires.** If a penalty at second `tb` brings the total of `ip` to the
threshold, then after any further operations whose clock readings lie in `[tb, tb + E]` (penalties
of any sign to any address, expiry passes, blacklist changes) `ip` is still banned and every
inbound and outbound attempt is refused. -/
theorem C18_ban_holds_until_expiry (g : Gater) (hn : NoDupKeys g.peerScore) (hs : g.started = true)
    (tb : Nat) (ip : IP) (apid : Option Nat) (s ns : Int)
    (hpen : (addPenalty g tb ⟨some ip, apid⟩ s).2 = .ok ns) (hns : ns ≥ 100)
    (ops : List Op)
    (hops : ∀ op ∈ ops, ∀ t, C18opTime op = some t → tb ≤ t ∧ t ≤ tb + g.expSecs)
    (pid : Nat) (apid' : Option Nat) :
    let g' := run (addPenalty g tb ⟨some ip, apid⟩ s).1 ops
    isBanned g' ip = true ∧ inboundAllowed g' pid ⟨some ip, apid'⟩ = false ∧
      outboundAllowed g' pid ⟨some ip, apid'⟩ = false := by
  intro g'
  have hf := addPenalty_fields g tb ⟨some ip, apid⟩ s
  -- after the penalty the entry is the one of the epoch that consists of a single penalty of `ns`
  have hrel : C18Rel g.expSecs ip (addPenalty g tb ⟨some ip, apid⟩ s).1 [(tb, ns)] := by
    refine ⟨hf.1.trans hs, hf.2.1, addPenalty_nodup g tb _ s hn, ?_⟩
    rw [addPenalty_ok hs] at hpen ⊢
    simp only [Except.ok.injEq] at hpen
    have h100 : ns ≥ 100 := hns
    simp only [find_put, if_true, hpen, C18specEntry, C18total, C18expOf, maxPenaltyScore, Int.zero_add, h100]
  have h100 : C18total [(tb, ns)] ≥ 100 := by simpa [C18total] using hns
  have hban : isBanned g' ip = true :=
    C18_ban_period hrel tb (by simp only [C18expOf, h100, if_true]; omega) ops
      (fun t h => (hops _ h t rfl).2) (fun t a s' h _ => (hops _ h t rfl).1)
  have := C18_sequences_refuse g' ip apid' pid (Or.inl hban)
  exact ⟨hban, this.2, this.1⟩

example : isBanned (run (C18fresh 2) [.pen 10 ⟨some [1, 2, 3, 4], none⟩ 100, .sweep 12]) [1, 2, 3, 4] = true := by
  decide
example : find (run (C18fresh 2) [.pen 10 ⟨some [1, 2, 3, 4], none⟩ 100, .sweep 12, .sweep 13,
    .pen 13 ⟨some [1, 2, 3, 4], none⟩ 7]).peerScore [1, 2, 3, 4] = some ⟨7, -1⟩ := by decide

/-! ### per-IP accounting -/

/-- the operations that can influence the entry of `ip` -/
def C18relevant (ip : IP) : Op → Bool
  | .pen _ a _ => decide (a.ip = some ip)
  | .sweep _ => true
  | _ => false

private theorem epoch_filter (E : Nat) (ip : IP) (ops : List Op) (ep : C18Epoch) :
    ops.foldl (C18epochStep E ip) ep = (ops.filter (C18relevant ip)).foldl (C18epochStep E ip) ep := by
  induction ops generalizing ep with
  | nil => rfl
  | cons op r ih =>
    cases op with
    | pen now a s =>
      by_cases ha : a.ip = some ip
      · simp only [List.filter, C18relevant, ha, decide_true, List.foldl]
        exact ih _
      · simp only [List.filter, C18relevant, ha, decide_false, List.foldl, C18epochStep, if_false]
        exact ih _
    | sweep now =>
      simp only [List.filter, C18relevant, List.foldl]
      exact ih _
    | _ => simp only [List.filter, C18relevant, List.foldl, C18epochStep]; exact ih _

/-- **Penalties are accounted per IP.** (1) The peer id and transport part of the penalised address
are irrelevant: peers behind one IP share one score. (2) A penalty against another IP (or an
address without IP) leaves the entry untouched. (3) After any operation sequence the entry of `ip`
is the one obtained from the penalties against `ip` and the expiry passes alone. -/
theorem C18_penalties_per_ip (E : Nat) (ip : IP) :
    (∀ (g : Gater) (now : Nat) (p1 p2 : Option Nat) (s : Int),
        addPenalty g now ⟨some ip, p1⟩ s = addPenalty g now ⟨some ip, p2⟩ s) ∧
    (∀ (g : Gater) (now : Nat) (a : Addr) (s : Int), a.ip ≠ some ip →
        find (addPenalty g now a s).1.peerScore ip = find g.peerScore ip) ∧
    (∀ ops : List Op, find (run (C18fresh E) ops).peerScore ip =
        find (run (C18fresh E) (ops.filter (C18relevant ip))).peerScore ip) := by
  refine ⟨fun g now p1 p2 s => rfl, fun g now a s h => addPenalty_find_other g now a s ip h, ?_⟩
  intro ops
  rw [C18_entry_is_epoch, C18_entry_is_epoch]
  unfold C18epoch
  rw [epoch_filter]

example : find (run (C18fresh 5) [.pen 1 ⟨some [1, 1, 1, 1], some 0⟩ 30, .pen 1 ⟨some [2, 2, 2, 2], some 1⟩ 100,
    .pen 2 ⟨some [1, 1, 1, 1], some 2⟩ 30]).peerScore [1, 1, 1, 1] = some ⟨60, -1⟩ := by decide
