/-
C09 — the stateless front of every network-facing validator and handler returns a verdict for every
byte string: no input makes the decode-then-validate prefix of `blockValidator`,
`transactionValidator`, `singleCommitValidator`, the gossip envelope, `onRequest` (+ the sync RPC
handlers' request checks) or `onResponse` reach a panic. All of it is a corollary of the codec
theorem `C09_decode_no_panic` (Props/C09_Codec.lean): the validators only compose
decoders of structs of the regenerated table and total length / order checks.

Also here: the bounds guard `Bits.read` needs (`C09_bits_read_guarded`, and that it is necessary),
and nil-safety of the fixed JSON RPC handlers `postBlock` / `postTransaction`
(`C09_endpoints_nil_safe`), with the unfixed handlers as counterexamples.
-/
import LiskVerif.Lemmas.Validators
import LiskVerif.Props.C09_Codec

open LiskVerif LiskVerif.Codec LiskVerif.Gen LiskVerif.Validators

/-! ### decoding a struct of the table by name -/

/-- `decodeNamed` on a ranked table never panics, provided the name is in the table -/
theorem C09_decodeNamed_no_panic {t : Table} {rank : String → Nat} (hR : C09Ranked t rank = true)
    (nfc : NFC) (strict : Bool) {name : String} (hn : (t.find name).isSome = true) (data : Bytes) :
    decodeNamed t nfc strict name data ≠ .error .panic := by
  cases hf : t.find name with
  | none => rw [hf] at hn; cases hn
  | some s =>
    have h := C09_decode_no_panic t rank hR nfc s (find_mem hf) data
    rw [decodeNamed_of_find hf]
    cases strict
    · exact h.1
    · exact h.2

/-- the structs the validators and handlers decode by name -/
def C09validatorStructs : List String :=
  ["blockchain.RawBlock", "blockchain.BlockHeader", "blockchain.BlockAsset", "blockchain.Transaction",
   "consensus.EventPostSingleCommits", "p2p.Message", "p2p.Request", "p2p.responseMsg",
   "sync.GetHighestCommonBlockRequest", "sync.GetBlocksFromIDRequest"]

/-- on table `t`, decoding any of these structs never panics: all that the validators below need to
know about the table -/
def C09DecodersTotal (t : Table) (nfc : NFC) : Prop :=
  ∀ (strict : Bool), ∀ name ∈ C09validatorStructs, ∀ data : Bytes,
    decodeNamed t nfc strict name data ≠ .error .panic

/-- the names are all in the regenerated table -/
theorem C09_validator_structs_found :
    C09validatorStructs.all (fun n => (allSchemas.find n).isSome) = true := by
  decide +kernel

theorem C09_allSchemas_decoders_total (nfc : NFC) : C09DecodersTotal allSchemas nfc :=
  fun strict _ hn data => C09_decodeNamed_no_panic C09_allSchemas_ranked nfc strict
    (Tables.all_mem C09_validator_structs_found hn) data

section validators
variable {t : Table} {nfc : NFC} (hT : C09DecodersTotal t nfc)
include hT
attribute [local simp] C09validatorStructs

private theorem mapDecode_no_panic (strict : Bool) {name : String} (hn : name ∈ C09validatorStructs)
    (l : List Bytes) : Safe (fun _ => True) (mapDecode t nfc strict name l) := by
  induction l with
  | nil => trivial
  | cons b rest ih =>
    rw [mapDecode_cons]
    exact (Safe.of_ne_panic (hT strict name hn b)).bind fun _ _ _ => ih.bind fun _ _ _ => trivial

/-! ### blocks -/

/-- `blockchain.NewBlock` (envelope, header, every asset, every transaction) never panics -/
theorem C09_new_block_no_panic (data : Bytes) : newBlock t nfc data ≠ .error .panic := by
  rw [newBlock_eq]
  exact Safe.ne_panic (Q := fun _ => True) <|
    (Safe.of_ne_panic (hT true _ (by simp) data)).bind fun _ _ _ =>
    (Safe.of_ne_panic (hT false _ (by simp) _)).bind fun _ _ _ =>
    (mapDecode_no_panic hT true (by simp) _).bind fun _ _ _ =>
    (mapDecode_no_panic hT true (by simp) _).bind fun _ _ _ => trivial

/-- The gossip validator of blocks returns `accept` or `reject` for every payload, for every hash
function: decoding the RawBlock, then the header, each asset and each transaction never panics, and
`Block.Validate` is a total check. -/
theorem C09_block_validator_total (H : Bytes → Bytes) (data : Bytes) :
    blockValidator t nfc H data = .accept ∨ blockValidator t nfc H data = .reject := by
  unfold blockValidator
  split
  · rename_i he
    exact absurd he (C09_new_block_no_panic hT data)
  · exact Or.inr rfl
  · split <;> simp

/-! ### transactions, single commits -/

theorem C09_transaction_validator_total (data : Bytes) :
    transactionValidator t nfc data = .accept ∨ transactionValidator t nfc data = .reject := by
  unfold transactionValidator
  split
  · exact Or.inr rfl
  split
  · rename_i he
    exact absurd he (hT true _ (by simp) data)
  · exact Or.inr rfl
  · split <;> simp

/-- the front of `singleCommitValidator` (strict decode of the message, `Validate` of the first commit)
never panics and never accepts -/
theorem C09_commits_prefix_total (data : Bytes) : commitsPrefix t nfc data ≠ .panic := by
  unfold commitsPrefix
  split
  · rename_i he
    exact absurd he (hT true _ (by simp) data)
  · decide
  · split
    · decide
    · split <;> decide

/-! ### envelopes -/

/-- the `p2p.Message` envelope in front of a validator adds no panic: if the inner validator never
answers `pn`, neither does the composition -/
theorem C09_gossip_total {α : Type} (rj pn : α) (v : Bytes → α) (hrj : rj ≠ pn)
    (hv : ∀ b, v b ≠ pn) (raw : Bytes) : gossip t nfc rj pn v raw ≠ pn := by
  unfold gossip
  split
  · rename_i he
    exact absurd he (hT false _ (by simp) raw)
  · exact hrj
  · exact hv _

/-- `onRequest` with the engine's four RPC handlers: every stream content is answered by `ban` or
`serve` -/
theorem C09_request_total (raw : Bytes) :
    requestVerdict t nfc raw = .ban ∨ requestVerdict t nfc raw = .serve := by
  unfold requestVerdict
  split
  · rename_i he
    exact absurd he (hT false _ (by simp) raw)
  · exact Or.inl rfl
  simp only
  split
  · exact Or.inr rfl
  split
  · split
    · rename_i he
      exact absurd he (hT false _ (by simp) _)
    · exact Or.inl rfl
    · split
      · exact Or.inl rfl
      · split <;> simp
  split
  · split
    · rename_i he
      exact absurd he (hT false _ (by simp) _)
    · exact Or.inl rfl
    · split <;> simp
  · exact Or.inl rfl

theorem C09_response_total (raw : Bytes) :
    responseVerdict t nfc raw = .ban ∨ responseVerdict t nfc raw = .serve := by
  unfold responseVerdict
  split
  · rename_i he
    exact absurd he (hT false _ (by simp) raw)
  · exact Or.inl rfl
  · split <;> simp

end validators

private theorem Verdict.ne_panic {v : Verdict} (h : v = .accept ∨ v = .reject) : v ≠ .panic := by
  rcases h with h | h <;> rw [h] <;> decide

private theorem RpcVerdict.ne_panic {v : RpcVerdict} (h : v = .ban ∨ v = .serve) : v ≠ .panic := by
  rcases h with h | h <;> rw [h] <;> decide

/-- block gossip end to end: pubsub bytes → envelope → `blockValidator` -/
theorem C09_block_gossip_total (nfc : NFC) (H : Bytes → Bytes) (raw : Bytes) :
    gossip allSchemas nfc Verdict.reject Verdict.panic (blockValidator allSchemas nfc H) raw ≠ .panic :=
  C09_gossip_total (C09_allSchemas_decoders_total nfc) _ _ _ (by decide)
    (fun b => Verdict.ne_panic (C09_block_validator_total (C09_allSchemas_decoders_total nfc) H b)) raw

theorem C09_transaction_gossip_total (nfc : NFC) (raw : Bytes) :
    gossip allSchemas nfc Verdict.reject Verdict.panic (transactionValidator allSchemas nfc) raw ≠ .panic :=
  C09_gossip_total (C09_allSchemas_decoders_total nfc) _ _ _ (by decide)
    (fun b => Verdict.ne_panic (C09_transaction_validator_total (C09_allSchemas_decoders_total nfc) b)) raw

theorem C09_commits_gossip_total (nfc : NFC) (raw : Bytes) :
    gossip allSchemas nfc CommitsPrefix.reject CommitsPrefix.panic (commitsPrefix allSchemas nfc) raw ≠ .panic :=
  C09_gossip_total (C09_allSchemas_decoders_total nfc) _ _ _ (by decide)
    (C09_commits_prefix_total (C09_allSchemas_decoders_total nfc)) raw

/-- all validators at once (the statement DESIGN.md calls `C09_validators_total`) -/
theorem C09_validators_total (nfc : NFC) (H : Bytes → Bytes) (b : Bytes) :
    blockValidator allSchemas nfc H b ≠ .panic ∧ transactionValidator allSchemas nfc b ≠ .panic ∧
    commitsPrefix allSchemas nfc b ≠ .panic ∧ requestVerdict allSchemas nfc b ≠ .panic ∧
    responseVerdict allSchemas nfc b ≠ .panic :=
  have hT := C09_allSchemas_decoders_total nfc
  ⟨Verdict.ne_panic (C09_block_validator_total hT H b),
    Verdict.ne_panic (C09_transaction_validator_total hT b), C09_commits_prefix_total hT b,
    RpcVerdict.ne_panic (C09_request_total hT b), RpcVerdict.ne_panic (C09_response_total hT b)⟩

/-! ### aggregation bitmaps -/

/-- With a bitmap of ⌈n/8⌉ bytes every index below `n` is in range: `Bits.read(i)` does not panic. -/
theorem C09_bits_read_guarded (bits : Bytes) (n i : Nat) (hlen : bits.length = (n + 7) / 8) (hi : i < n) :
    (bitsRead bits i).isSome = true :=
  (bitsRead_isSome_iff bits i).mpr (by omega)

/-- … and `Bits.write(i, v)` neither, and it keeps the length -/
theorem C09_bits_write_guarded (bits : Bytes) (n i : Nat) (v : Bool) (hlen : bits.length = (n + 7) / 8)
    (hi : i < n) : ∃ b', bitsWrite bits i v = some b' ∧ b'.length = bits.length := by
  have h := bitsWrite_spec bits i v
  cases hw : bitsWrite bits i v with
  | none => rw [hw] at h; exact absurd (h.1.mpr (by omega)) (by simp)
  | some b' => exact ⟨b', rfl, h.2 b' hw⟩

/-- The guard is necessary: a bitmap shorter than ⌈n/8⌉ bytes makes `read` panic for some index below
`n` (the last one). This is the crash of the unguarded `BLSVerifyAggSig` / `BLSVerifyWeightedAggSig`
on a block whose aggregate commit carries a short bitmap. -/
theorem C09_bits_read_short_panics (bits : Bytes) (n : Nat) (hlen : bits.length < (n + 7) / 8) :
    ∃ i, i < n ∧ bitsRead bits i = none := by
  refine ⟨n - 1, by omega, ?_⟩
  have h := bitsRead_isSome_iff bits (n - 1)
  cases hr : bitsRead bits (n - 1) with
  | none => rfl
  | some b => rw [hr] at h; have := h.mp rfl; omega

private theorem selectSigners_some (keys : List Bytes) (bits : Bytes) (weights : List Nat)
    (hb : bits.length = (keys.length + 7) / 8) (hw : weights.length = keys.length) (k : Nat)
    (hk : k ≤ keys.length) : (selectSigners keys bits weights k).isSome = true :=
  (selectSigners_isSome_iff keys bits weights k).mpr fun i hi =>
    ⟨by omega, fun _ => ⟨by omega, by omega⟩⟩

/-- The guarded front of the aggregate signature verification (bitmap of exactly ⌈n/8⌉ bytes, one
weight per key — the check the C06 fix puts in front of the loop) never panics, for any keys, bitmap
and weights. -/
theorem C09_agg_sig_front_no_panic (keys : List Bytes) (bits : Bytes) (weights : List Nat) :
    (aggSigFront keys bits weights).isSome = true := by
  unfold aggSigFront
  split
  · rfl
  · rename_i hg
    have hb : bits.length = (keys.length + 7) / 8 := by
      by_cases h : bits.length = (keys.length + 7) / 8
      · exact h
      · exact absurd (Or.inl h) hg
    have hw : weights.length = keys.length := by
      by_cases h : weights.length = keys.length
      · exact h
      · exact absurd (Or.inr h) hg
    have := selectSigners_some keys bits weights hb hw keys.length (Nat.le_refl _)
    cases hs : selectSigners keys bits weights keys.length with
    | none => rw [hs] at this; cases this
    | some r => rfl

/-! ### JSON RPC endpoints -/

private theorem derefAll_ok {α : Type} (l : List (Ptr α)) (h : l.all Option.isSome = true) :
    derefAll l = .ok () := by
  induction l with
  | nil => rfl
  | cons p rest ih =>
    simp only [List.all_cons, Bool.and_eq_true] at h
    cases p with
    | none => cases h.1
    | some a => simp only [derefAll, deref]; exact ih h.2

/-- The fixed handlers check every pointer they (and the block processing behind `postBlock`)
dereference: for every request record — any subset of `block`, `header`, `aggregateCommit`, any
transaction or asset entry `null` — the outcome is an error or a result, never a nil dereference. -/
theorem C09_endpoints_nil_safe :
    (∀ r : PostBlockReq, postBlock r ≠ .panic) ∧ (∀ r : PostTxReq, postTx r ≠ .panic) := by
  constructor
  · intro r
    unfold postBlock
    split
    · -- the guard `validatePostedBlock` passed: read off from it that every pointer is non-nil, then every
      -- `deref` of `postBlockDerefs` succeeds
      rename_i hv
      unfold validatePostedBlock at hv
      cases hb : r.block with
      | none => rw [hb] at hv; cases hv
      | some b =>
        rw [hb] at hv
        simp only [] at hv
        cases hh : b.header with
        | none => rw [hh] at hv; cases hv
        | some h =>
          rw [hh] at hv
          simp only [Bool.and_eq_true] at hv
          obtain ⟨⟨hac, htx⟩, has⟩ := hv
          cases hc : h.aggregateCommit with
          | none => rw [hc] at hac; cases hac
          | some u =>
            have : postBlockDerefs r = .ok () := by
              unfold postBlockDerefs
              simp only [hb, hh, hc, deref, bind, Except.bind, derefAll_ok _ htx, derefAll_ok _ has, pure,
                Except.pure]
            unfold postBlockUnchecked
            rw [this]
            intro hcontra
            cases hcontra
    · intro hc
      cases hc
  · intro r
    unfold postTx
    split
    · rename_i hs
      cases ht : r.transaction with
      | none => rw [ht] at hs; cases hs
      | some u =>
        unfold postTxUnchecked
        simp only [ht, deref, bind, Except.bind, pure, Except.pure, toOut]
        intro hc
        cases hc
    · intro hc
      cases hc

/-! ### non-vacuity and counterexamples -/

/-- the unfixed handlers crash on params `{}` / `{"block":{}}` / a block without `aggregateCommit` /
a `null` transaction entry, and `postTransaction` on `{}` -/
example : postBlockUnchecked ⟨none⟩ = .panic ∧ postBlockUnchecked ⟨some ⟨none, [], []⟩⟩ = .panic ∧
    postBlockUnchecked ⟨some ⟨some ⟨none⟩, [], []⟩⟩ = .panic ∧
    postBlockUnchecked ⟨some ⟨some ⟨some ()⟩, [some (), none], []⟩⟩ = .panic ∧
    postTxUnchecked ⟨none⟩ = .panic := by decide

/-- the fixed handlers answer them with an error, and a complete request goes through -/
example : postBlock ⟨none⟩ = .error ∧ postBlock ⟨some ⟨some ⟨none⟩, [], []⟩⟩ = .error ∧
    postBlock ⟨some ⟨some ⟨some ()⟩, [some ()], [some ()]⟩⟩ = .ok ∧ postTx ⟨none⟩ = .error ∧
    postTx ⟨some ()⟩ = .ok := by decide

/-- bitmaps: 9 validators need 2 bytes; with 1 byte index 8 is out of range, with 2 bytes it is read -/
example : bitsRead [0xff] 8 = none ∧ bitsRead [0xff, 0x01] 8 = some true ∧ bitsRead [0xff, 0x01] 9 = some false ∧
    aggSigFront [[1], [2], [3], [4], [5], [6], [7], [8], [9]] [0xff] [1, 1, 1, 1, 1, 1, 1, 1, 1] = some none ∧
    selectSigners [[1], [2], [3], [4], [5], [6], [7], [8], [9]] [0xff] [1, 1, 1, 1, 1, 1, 1, 1, 1] 9 = none ∧
    aggSigFront [[1], [2]] [0x02] [5, 7] = some (some ([[2]], 7)) := by decide

/-- the validators give every verdict: the empty payload is rejected as a transaction and is an empty
list of commits, a well formed request for the last block is served, an unknown procedure and a
truncated envelope are banned -/
example : transactionValidator allSchemas asciiNFC [] = .reject ∧
    commitsPrefix allSchemas asciiNFC [] = .empty ∧
    requestVerdict allSchemas asciiNFC
      ([0x0a, 0x01, 0x61, 0x12, 0x0c] ++ "getLastBlock".toUTF8.toList) = .serve ∧
    requestVerdict allSchemas asciiNFC ([0x0a, 0x01, 0x61, 0x12, 0x01, 0x78]) = .ban ∧
    requestVerdict allSchemas asciiNFC [0x0a, 0x05, 0x61] = .ban := by
  decide +kernel

/-- a block header cut after the key of field 12 inside a RawBlock is rejected, for any hash function
(the input on which a `readBool` without bounds check indexes out of range) -/
example (H : Bytes → Bytes) : blockValidator allSchemas asciiNFC H [0x0a, 0x01, 0x60] = .reject := by
  have h : newBlock allSchemas asciiNFC [0x0a, 0x01, 0x60] = .error .invalidData := by
    have := (C09_isError_iff (α := Block) Err.invalidData (newBlock allSchemas asciiNFC [0x0a, 0x01, 0x60])).mp
    exact this (by decide +kernel)
  unfold blockValidator
  rw [h]
