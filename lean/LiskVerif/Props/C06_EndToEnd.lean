/-
C06 — end-to-end statement over histories: the certificate pool lives while the chain changes (new
blocks, finality, deleted blocks, reorganisations).  Every pool REACHABLE from the empty pool
through the gossip validator, `Certify` (with the registered key) and the pool operations - each
executed in ITS OWN chain state - yields, in any chain state, an aggregate commit that the node's
own `verifyAggregateCommit` accepts, provided all those chain states are consistent with one block
context (a block id determines the height of the block and the BFT parameters valid at it) and use
the same chain id.
-/
import LiskVerif.Props.C06
import LiskVerif.Props.C06_Pool

open LiskVerif LiskVerif.Cert

/-- the operations that change the certificate pool -/
inductive C06Op
  | gossip (msgs : List Incoming)
  | certify (frm to addr sk : Nat)
  | cleanup (keep : Nat → Bool)
  | select (mhpc limit : Nat)
  | upgrade (sel : List Commit)

def C06apply (st : State) (pool : Pool) : C06Op → Pool
  | .gossip msgs => (singleCommitValidator st pool msgs).1
  | .certify frm to addr sk => (certify st pool frm to addr sk).1
  | .cleanup keep => pool.cleanup keep
  | .select mhpc limit => (pool.select mhpc limit).1
  | .upgrade sel => pool.upgrade sel

/-- `Certify` is called with the BLS key registered for the address (all other ops are unconstrained:
gossip messages are arbitrary, i.e. adversarial) -/
def C06OpOk (st : State) : C06Op → Prop
  | .certify _ _ addr sk =>
    ∀ h p v, getParams st.params h = some p → findValidator p.validators addr = some v → v.key = sk
  | _ => True

/-- one step of a history: the chain is in state `st` when the pool operation `op` happens -/
structure C06Step where
  st : State
  op : C06Op

def C06StepOk (ctx : BlockCtx) (chainId : Nat) (s : C06Step) : Prop :=
  Consistent s.st ctx ∧ s.st.chainId = chainId ∧ C06OpOk s.st s.op

def C06run (pool : Pool) (steps : List C06Step) : Pool :=
  steps.foldl (fun p s => C06apply s.st p s.op) pool

/-- what every step of a history preserves holds after the history -/
theorem C06run_invariant {I : Pool → Prop} (steps : List C06Step)
    (hstep : ∀ s ∈ steps, ∀ pool, I pool → I (C06apply s.st pool s.op)) : ∀ pool, I pool → I (C06run pool steps) :=
  fun _ h => List.foldlRecOn steps _ h fun p hp s hs => hstep s hs p hp

/-- what an operation may add to the pool in chain state `st`: commits verified against that chain -/
def C06Enters (st : State) : C06Op → Commit → Prop
  | .gossip _, c => VerifiedOnChain st c
  | .certify _ _ addr sk, c => CertEntry st addr sk c
  | _, _ => False

/-- after any operation every entry was there before or is one `C06Enters` describes (`Cleanup` may drop entries),
and distinct entries stay distinct - in any chain state, for any arguments -/
theorem C06apply_entries (st : State) (pool : Pool) (op : C06Op) :
    (∀ c ∈ (C06apply st pool op).all, c ∈ pool.all ∨ C06Enters st op c) ∧
    (Distinct pool.all → Distinct (C06apply st pool op).all) := by
  cases op with
  | gossip msgs =>
    have h : Adds (C06Enters st (.gossip msgs)) pool _ := scv_adds (msgs := msgs) (fun _ _ hv _ => hv) pool
    exact ⟨h.mem, h.distinct⟩
  | certify frm to addr sk =>
    have h : Adds (C06Enters st (.certify frm to addr sk)) pool _ :=
      certify_adds (frm := frm) (to := to) (fun _ hv _ _ => hv) pool
    exact ⟨h.mem, h.distinct⟩
  | cleanup keep => exact ⟨fun c hc => .inl ((cleanup_sublist pool keep).subset hc), (·.sublist (cleanup_sublist pool keep))⟩
  | select mhpc limit =>
    exact ⟨fun c hc => .inl ((select_perm pool mhpc limit).mem_iff.mpr hc), (·.perm (select_perm pool mhpc limit))⟩
  | upgrade sel => exact ⟨fun c hc => .inl ((upgrade_perm pool sel).mem_iff.mpr hc), (·.perm (upgrade_perm pool sel))⟩

theorem C06_reachable_pool_invariant (ctx : BlockCtx) (chainId : Nat) (steps : List C06Step)
    (hok : ∀ s ∈ steps, C06StepOk ctx chainId s) (pool : Pool) (h : PoolInv ctx chainId pool) :
    PoolInv ctx chainId (C06run pool steps) := by
  refine C06run_invariant steps (fun s hs pool h => ?_) pool h
  obtain ⟨hc, rfl, hop⟩ := hok s hs
  obtain ⟨st, op⟩ := s
  cases op with
  | gossip msgs => exact C06_pool_invariant_validator st ctx pool msgs hc h
  | certify frm to addr sk => exact C06_pool_invariant_certify st ctx pool frm to addr sk hc hop h
  | cleanup keep => exact C06_pool_invariant_cleanup ctx st.chainId pool keep h
  | select mhpc limit => exact C06_pool_invariant_select ctx st.chainId pool mhpc limit h
  | upgrade sel => exact C06_pool_invariant_upgrade ctx st.chainId pool sel h

/-- **End to end**: after ANY history of gossip messages (arbitrary content), `Certify` calls with
the registered key and pool operations, each in its own chain state (the chain may grow, finalize
and reorganise in between), `GetAggregateCommit` in the final state succeeds and its result is
accepted by `verifyAggregateCommit` in that state. -/
theorem C06_reachable_pool_accepted (ctx : BlockCtx) (st : State) (hwf : StoreWf st.params)
    (hcons : Consistent st ctx)
    (hblocks : ∀ h, st.mhc < h → h ≤ st.mhpc → st.blockAt h ≠ none)
    (steps : List C06Step) (hok : ∀ s ∈ steps, C06StepOk ctx st.chainId s) :
    ∃ ac, getAggregateCommit st (C06run Pool.empty steps) = .ok ac ∧
      verifyAggregateCommit st ac = .accept := by
  have hinv := C06_reachable_pool_invariant ctx st.chainId steps hok Pool.empty (C06_empty_pool_inv ctx st.chainId)
  obtain ⟨ac, hac⟩ := C06_assembled_total st ctx _ hwf hcons hinv hblocks
  exact ⟨ac, hac, C06_assembled_accepted st ctx _ ac hwf hcons hinv hac⟩

/-- non-vacuity: two gossip messages (one with a commit of a non-validator) and a selection lead to
a non-empty accepted aggregate -/
example : ∃ ac, getAggregateCommit C06cxState
      (C06run Pool.empty
        [⟨C06cxState, .gossip [⟨true, 105, 5, 1, sign 20 ⟨1, 105⟩⟩, ⟨true, 105, 5, 9, .garbage⟩]⟩,
         ⟨C06cxState, .gossip [⟨true, 105, 5, 3, sign 40 ⟨1, 105⟩⟩, ⟨true, 105, 5, 2, sign 30 ⟨1, 105⟩⟩]⟩,
         ⟨C06cxState, .select 5 2⟩]) = .ok ac ∧
    ac.height = 5 ∧ Bits.toBytes ac.bits = [0x0e] := ⟨_, rfl, by decide, by decide⟩
