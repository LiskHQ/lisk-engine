/-
C02 — invariants of the Lisk-BFT vote-counting model (`LiskVerif.Model.BFT`, transcription of
pkg/consensus/liskbft), for arbitrary states and parameter changes: the window holds at most `3 · batchSize`
consecutive descending heights and the vote loops only raise weights; `process` (pruning) and `setParams` do not
change the parameters of heights still needed; along every event sequence whose blocks extend the tip
`maxHeightPrevoted` / `maxHeightPrecommited` never decrease and `maxHeightPrecommited ≤ maxHeightPrevoted`
(`C02Inv`, one invariant preserved by every event). Non-vacuity is evaluated by the kernel on a 3-validator chain of
15 blocks with a parameter change, at the end of each part (for the last, in the closing section). The shape lemmas about the model are in `Lemmas/BFT.lean`.
-/
import LiskVerif.Props.C02
import LiskVerif.Lemmas.BFT

open LiskVerif LiskVerif.BFT

/-! ## Example used for the non-vacuity checks -/

def C02exVals : List Validator := [⟨[0x0a], 1⟩, ⟨[0x0b], 1⟩, ⟨[0x0c], 1⟩]

/-- genesis at height 0, batch size 3 (window of 9 blocks), three validators of weight 1:
prevote threshold 3, precommit threshold 2 -/
def C02exInit : State := C02step (initGenesis 3 0) (.setParams 2 2 C02exVals)

def C02exHdr (i : Nat) (g : Bytes) (commit : Option Nat) : Header := ⟨i, g, i - 3, 0, commit⟩

/-- 15 blocks generated round-robin; after block 4 the precommit threshold is raised to 3
(new parameters from height 5); from block 7 on the headers carry aggregate commits -/
def C02exEvents : List C02Ev :=
  [.block (C02exHdr 1 [0x0a] none), .block (C02exHdr 2 [0x0b] none), .block (C02exHdr 3 [0x0c] none),
   .block (C02exHdr 4 [0x0a] none), .setParams 3 3 C02exVals,
   .block (C02exHdr 5 [0x0b] none), .block (C02exHdr 6 [0x0c] none),
   .block (C02exHdr 7 [0x0a] (some 3)), .block (C02exHdr 8 [0x0b] (some 5)), .block (C02exHdr 9 [0x0c] (some 6)),
   .block (C02exHdr 10 [0x0a] (some 7)), .block (C02exHdr 11 [0x0b] (some 8)), .block (C02exHdr 12 [0x0c] (some 9)),
   .block (C02exHdr 13 [0x0a] (some 10)), .block (C02exHdr 14 [0x0b] (some 11)),
   .block (C02exHdr 15 [0x0c] (some 12))]

/-- the state after the first `n` events -/
def C02exState (n : Nat) : State := C02run C02exInit (C02exEvents.take n)

def C02isOk (r : Except Err State) : Bool := match r with | .ok _ => true | .error _ => false

/-- the window of a state as (height, prevoteWeight, precommitWeight) -/
def C02weights (s : State) : List (Nat × Nat × Nat) :=
  s.infos.map (fun b => (b.height, b.prevoteWeight, b.precommitWeight))

/-! ## The window is bounded; the loops only change weights -/

/-- the precommit loop keeps every entry (height, generator, mhg, mhp, prevote weight) and only
increases precommit weights -/
theorem C02_precommitLoop_only_weights (s : State) (gen : Bytes) (minH : Nat) (l : List BlockInfo) (done : Bool)
    (l' : List BlockInfo) (first : Option Nat) (h : precommitLoop s gen minH l done = .ok (l', first)) :
    l'.length = l.length ∧
      All2 (fun a b => SameMeta a b ∧ a.prevoteWeight = b.prevoteWeight ∧ a.precommitWeight ≤ b.precommitWeight) l l' := by
  have hr := precommitLoop_rel s gen minH l done l' first h
  exact ⟨(All2.length_eq hr).symm, All2.imp (fun a b h => ⟨h.1, h.2.1, h.2.2.1⟩) hr⟩

/-- the prevote loop keeps every entry and only increases prevote weights -/
theorem C02_prevoteLoop_only_weights (s : State) (gen : Bytes) (minH : Nat) (l l' : List BlockInfo)
    (h : prevoteLoop s gen minH l = .ok l') :
    l'.length = l.length ∧
      All2 (fun a b => SameMeta a b ∧ a.prevoteWeight ≤ b.prevoteWeight ∧ a.precommitWeight = b.precommitWeight) l l' := by
  have hr := prevoteLoop_rel s gen minH l l' h
  exact ⟨(All2.length_eq hr).symm, hr⟩

/-- After a block is processed the window holds the new block plus at most `3·batchSize − 1` old ones. -/
theorem C02_window_bounded (s : State) (h : Header) (s' : State) (hp : process s h = .ok s') :
    s'.infos.length ≤ 3 * s.batchSize ∧ s'.batchSize = s.batchSize ∧ 0 < s'.infos.length := by
  obtain ⟨k, F⟩ := process_facts hp
  have hk := F.window
  have hl := All2.length_eq F.rel
  simp only [List.length_cons, List.length_take] at hl
  refine ⟨?_, F.batch, ?_⟩ <;> omega

/-- … and this holds along every event sequence. -/
theorem C02_window_bounded_run (s : State) (evs : List C02Ev) (hs : s.infos.length ≤ 3 * s.batchSize) :
    (C02run s evs).infos.length ≤ 3 * (C02run s evs).batchSize := by
  induction evs generalizing s with
  | nil => exact hs
  | cons e evs ih =>
    simp only [C02run, List.foldl_cons]
    apply ih
    refine C02step_cases s e (C02step s e) rfl hs (fun h s' _ hp => ?_) (fun pc ct vs s' _ hp => ?_) (fun _ _ => hs)
    · have := C02_window_bounded s h s' hp
      omega
    · obtain ⟨h1, h2, _⟩ := setParams_facts hp
      rw [h1, h2]; exact hs

example : C02isOk (process (C02exState 12) (C02exHdr 12 [0x0c] (some 9))) = true ∧
    (C02exState 12).infos.length = 9 ∧ (C02exState 13).infos.length = 9 ∧ (C02exState 13).batchSize = 3 := by
  decide +kernel

/-! ## Shape of the window -/

/-- the heights in the window are consecutive and descending: `[top, top-1, top-2, …]` -/
def C02WindowOk (s : State) : Prop := DescN (s.infos.map (·.height))

instance (s : State) : Decidable (C02WindowOk s) := by unfold C02WindowOk; infer_instance

/-- index form of `C02WindowOk`: `infos[i].height = top − i` (additively, hence no truncation) -/
theorem C02_window_index (s : State) (hw : C02WindowOk s) (i : Nat) (b t : BlockInfo)
    (hb : s.infos[i]? = some b) (ht : s.infos.head? = some t) : b.height + i = t.height := by
  apply DescN.index hw i b.height t.height
  · simp [hb]
  · simp [ht]

/-- the window heights are strictly descending, in particular pairwise distinct -/
theorem C02_window_sorted (s : State) (hw : C02WindowOk s) :
    s.infos.Pairwise (fun a b => b.height < a.height) := sortedDesc_of_descN hw

private theorem process_heights {s : State} {h : Header} {s' : State} (hp : process s h = .ok s') :
    ∃ k, 3 * s.batchSize = k + 1 ∧ s'.infos.map (·.height) = h.height :: (s.infos.map (·.height)).take k := by
  obtain ⟨k, F⟩ := process_facts hp
  refine ⟨k, F.window, ?_⟩
  have := All2.map_eq (f := (·.height)) (g := (·.height)) (fun a b (h : Ruv (getParams s) a b) => h.height) F.rel
  rw [← this]
  simp [newInfo, List.map_take]

/-- Processing the block that extends the tip keeps the window consecutive. -/
theorem C02_window_shape (s : State) (h : Header) (s' : State) (hp : process s h = .ok s')
    (hw : C02WindowOk s) (hn : ∀ t, s.infos.head? = some t → h.height = t.height + 1) : C02WindowOk s' := by
  obtain ⟨k, _, hh⟩ := process_heights hp
  unfold C02WindowOk
  rw [hh]
  apply DescN.cons (DescN.take k hw)
  intro t ht
  cases hi : s.infos with
  | nil => simp [hi] at ht
  | cons n rest =>
    have hk : k ≠ 0 := by intro h0; subst h0; simp at ht
    obtain ⟨k', rfl⟩ := Nat.exists_eq_succ_of_ne_zero hk
    simp [hi] at ht
    subst ht
    exact hn n (by simp [hi])

/-- `setParams` does not touch the window. -/
theorem C02_window_shape_setParams (s : State) (pc ct : Nat) (vs : List Validator) (s' : State)
    (hp : setParams s pc ct vs = .ok s') : s'.infos = s.infos ∧ (C02WindowOk s → C02WindowOk s') := by
  obtain ⟨h1, _⟩ := setParams_facts hp
  refine ⟨h1, ?_⟩
  unfold C02WindowOk; rw [h1]; exact id

/-- `setKeys` does not touch the window. -/
theorem C02_window_shape_setKeys (s : State) (g : List Bytes) :
    (setKeys s g).infos = s.infos ∧ (C02WindowOk s → C02WindowOk (setKeys s g)) := ⟨rfl, id⟩

example : C02WindowOk (C02exState 13) ∧ C02isOk (process (C02exState 13) (C02exHdr 13 [0x0a] (some 10))) = true ∧
    (∀ t, (C02exState 13).infos.head? = some t → (C02exHdr 13 [0x0a] (some 10)).height = t.height + 1) ∧
    (C02exState 14).infos.map (·.height) = [13, 12, 11, 10, 9, 8, 7, 6, 5] := by
  have h : (C02WindowOk (C02exState 13) ∧ C02isOk (process (C02exState 13) (C02exHdr 13 [0x0a] (some 10))) = true ∧
      (C02exState 14).infos.map (·.height) = [13, 12, 11, 10, 9, 8, 7, 6, 5]) ∧
      (C02exState 13).infos.head?.map (·.height) = some 12 := by decide +kernel
  refine ⟨h.1.1, h.1.2.1, ?_, h.1.2.2⟩
  intro t ht
  have h2 := h.2
  rw [ht] at h2
  rw [show t.height = 12 from Option.some.inj h2]
  rfl

/-! ## Weights of blocks that stay in the window never decrease -/

/-- The new window is the new block followed by the old window (cut to `3·batchSize − 1` entries), with
identical height / generator / mhg / mhp and weights that did not decrease. -/
theorem C02_weights_monotone (s : State) (h : Header) (s' : State) (hp : process s h = .ok s') :
    All2 InfoLE (s.infos.take (3 * s.batchSize - 1)) s'.infos.tail ∧
      ∃ n, s'.infos.head? = some n ∧ SameMeta (newInfo h) n := by
  obtain ⟨k, F⟩ := process_facts hp
  have hrel := F.rel
  have hk' : 3 * s.batchSize - 1 = k := by have := F.window; omega
  rw [hk']
  cases hi : s'.infos with
  | nil => rw [hi] at hrel; exact hrel.elim
  | cons n rest =>
    rw [hi] at hrel
    exact ⟨All2.imp (fun a b h => h.1) hrel.2, n, rfl, hrel.1.1.1⟩

example : C02isOk (process (C02exState 13) (C02exHdr 13 [0x0a] (some 10))) = true ∧
    ((C02exState 13).infos.take (3 * (C02exState 13).batchSize - 1)).map (fun b => (b.height, b.prevoteWeight, b.precommitWeight))
      = [(12, 1, 0), (11, 2, 0), (10, 3, 0), (9, 3, 1), (8, 3, 2), (7, 3, 3), (6, 3, 3), (5, 3, 3)] ∧
    (C02exState 14).infos.tail.map (fun b => (b.height, b.prevoteWeight, b.precommitWeight))
      = [(12, 2, 0), (11, 3, 0), (10, 3, 1), (9, 3, 2), (8, 3, 3), (7, 3, 3), (6, 3, 3), (5, 3, 3)] := by
  decide +kernel

/-! ## Parameters of heights that are still needed are stable -/

/-- `process` prunes the parameter store at `minReq = min (oldest window height) (maxHeightCertified + 1)`;
lookups at or above `minReq` are unchanged (the newest entry `≤ minReq` and everything above is kept). -/
theorem C02_params_stable (s : State) (h : Header) (s' : State) (hp : process s h = .ok s') (k : Nat)
    (hk : min ((s'.infos.getLast?.map (·.height)).getD 0) (s'.mhc + 1) ≤ k) :
    getParams s' k = getParams s k ∧ getKeys s' k = getKeys s k := by
  obtain ⟨_, F⟩ := process_facts hp
  unfold getParams getKeys
  rw [F.params, F.keys, lookupLE_prune _ hk, lookupLE_prune _ hk]
  exact ⟨rfl, rfl⟩

/-- in particular for the height of every block in the new window -/
theorem C02_params_stable_window (s : State) (h : Header) (s' : State) (hp : process s h = .ok s')
    (hs : s'.infos.Pairwise (fun a b => b.height < a.height)) (b : BlockInfo) (hb : b ∈ s'.infos) :
    getParams s' b.height = getParams s b.height := by
  refine (C02_params_stable s h s' hp b.height ?_).1
  cases hl : s'.infos.getLast? with
  | none => simp
  | some o =>
    have := SortedDesc.getLast_le hs o hl b hb
    simp only [Option.map_some, Option.getD_some]
    omega

/-- `setParams` only adds (or replaces) the entry at `currentHeight + 1`: lookups at heights
`≤ currentHeight` are unchanged. -/
theorem C02_params_stable_setParams (s : State) (pc ct : Nat) (vs : List Validator) (s' : State)
    (hp : setParams s pc ct vs = .ok s') (k : Nat) (hk : k ≤ curHeight s) :
    getParams s' k = getParams s k := setParams_getParams hp hk

theorem C02_params_stable_setKeys (s : State) (g : List Bytes) (k : Nat) :
    getParams (setKeys s g) k = getParams s k := rfl

/-- non-vacuity: block 13 of the example prunes the parameters of height 1 (keys `[5, 1]` become `[5]`),
`minReq` is 5, and the entry removed was in use below `minReq` -/
example : C02isOk (process (C02exState 13) (C02exHdr 13 [0x0a] (some 10))) = true ∧
    (C02exState 13).params.map (·.1) = [5, 1] ∧ (C02exState 14).params.map (·.1) = [5] ∧
    min (((C02exState 14).infos.getLast?.map (·.height)).getD 0) ((C02exState 14).mhc + 1) = 5 ∧
    getParams (C02exState 14) 4 ≠ getParams (C02exState 13) 4 ∧
    getParams (C02exState 14) 5 = getParams (C02exState 13) 5 := by
  decide +kernel

/-- non-vacuity for `setParams`: event 5 of the example adds parameters at height 5 -/
example : curHeight (C02exState 4) = 4 ∧ (C02exState 4).params.map (·.1) = [1] ∧
    (C02exState 5).params.map (·.1) = [5, 1] ∧
    getParams (C02exState 5) 4 = getParams (C02exState 4) 4 ∧
    getParams (C02exState 5) 5 ≠ getParams (C02exState 4) 5 := by
  decide +kernel

/-! ## maxHeightPrevoted and maxHeightPrecommited never decrease -/

/-- The invariant tying the two heights to the window. For prevotes: `mhp` is at least the height of
every window block whose prevote weight reaches the prevote threshold of its height, and `mhp` is
either below the whole window or itself the height of such a block. Likewise for precommits. -/
def C02HeightsInv (s : State) : Prop :=
  HInvL (getParams s) (·.prevoteWeight) (·.prevoteThreshold) s.infos s.mhp ∧
  HInvL (getParams s) (·.precommitWeight) (·.precommitThreshold) s.infos s.mhpc

/-- the header extends the tip; the first block after genesis lies above the genesis heights -/
def C02Next (s : State) (h : Header) : Prop :=
  match s.infos with
  | [] => s.mhp < h.height ∧ s.mhpc < h.height
  | n :: _ => h.height = n.height + 1

instance (s : State) (h : Header) : Decidable (C02Next s h) := by
  unfold C02Next; split <;> infer_instance

private theorem next_head {s : State} {h : Header} (hn : C02Next s h) :
    ∀ t, s.infos.head? = some t → h.height = t.height + 1 := by
  intro t ht
  unfold C02Next at hn
  split at hn
  · rename_i h0; simp [h0] at ht
  · rename_i n rest h0
    simp [h0] at ht; subst ht; exact hn

private theorem next_above {s : State} {h : Header} (hw : C02WindowOk s) (hn : C02Next s h) :
    ∀ b ∈ s.infos, b.height < h.height := by
  intro b hb
  have hle := SortedDesc.le_curHeight (C02_window_sorted s hw) b hb
  unfold C02Next at hn
  unfold curHeight at hle
  cases h0 : s.infos with
  | nil => rw [h0] at hb; cases hb
  | cons n rest => simp only [h0] at hn hle; omega

private theorem next_above_m {s : State} {h : Header} {w : BlockInfo → Nat} {thr : Params → Nat} {m : Nat}
    (habove : ∀ b ∈ s.infos, b.height < h.height) (hempty : s.infos = [] → m < h.height)
    (hi : HInvL (getParams s) w thr s.infos m) : m < h.height := by
  cases h0 : s.infos with
  | nil => exact hempty h0
  | cons n rest =>
    rcases hi.2 with hall | ⟨b, hb, hbm, _⟩
    · have h1 := hall n (by simp [h0])
      have h2 := habove n (by simp [h0])
      omega
    · have := habove b hb; omega

private theorem heights_step {s : State} {h : Header} {s' : State} (hp : process s h = .ok s')
    (hw : C02WindowOk s) (hn : C02Next s h) (hi : C02HeightsInv s) :
    C02HeightsInv s' ∧ s.mhp ≤ s'.mhp ∧ s.mhpc ≤ s'.mhpc := by
  have hw' := C02_window_shape s h s' hp hw (next_head hn)
  have hs := C02_window_sorted s hw
  have hs' := C02_window_sorted s' hw'
  have hg := C02_params_stable_window s h s' hp hs'
  have habove := next_above hw hn
  obtain ⟨k, F⟩ := process_facts hp
  have hrel := F.rel
  obtain ⟨p, hpv, hmhp⟩ := F.pv
  obtain ⟨pc, hpc, hmhpc⟩ := F.pc
  have hm1 : s.mhp < h.height := next_above_m habove (fun h0 => by
    unfold C02Next at hn; rw [h0] at hn; exact hn.1) hi.1
  have hm2 : s.mhpc < h.height := next_above_m habove (fun h0 => by
    unfold C02Next at hn; rw [h0] at hn; exact hn.2) hi.2
  have r1 := HInvL_step (g' := getParams s') (new := newInfo h) (k := k) hs hi.1 hm1
    (All2.imp (fun a b (h : Ruv (getParams s) a b) => ⟨h.height, h.pv_le⟩) hrel)
    (firstWith_spec s _ _ _ _ hpv hs') hg
  have r2 := HInvL_step (g' := getParams s') (new := newInfo h) (k := k) hs hi.2 hm2
    (All2.imp (fun a b (h : Ruv (getParams s) a b) => ⟨h.height, h.pc_le⟩) hrel)
    (firstWith_spec s _ _ _ _ hpc hs') hg
  rw [← hmhp] at r1
  rw [← hmhpc] at r2
  exact ⟨⟨r1.1, r2.1⟩, r1.2, r2.2⟩

/-- `C02HeightsInv` is preserved by processing the next block. -/
theorem C02_heights_inv_preserved (s : State) (h : Header) (s' : State) (hp : process s h = .ok s')
    (hw : C02WindowOk s) (hn : C02Next s h) (hi : C02HeightsInv s) : C02HeightsInv s' :=
  (heights_step hp hw hn hi).1

/-- maxHeightPrevoted and maxHeightPrecommited never decrease when the next block is processed.
(No extra hypothesis on parameter lookups is needed: `process` fails when a lookup it needs fails.) -/
theorem C02_heights_monotone (s : State) (h : Header) (s' : State) (hp : process s h = .ok s')
    (hw : C02WindowOk s) (hn : C02Next s h) (hi : C02HeightsInv s) : s.mhp ≤ s'.mhp ∧ s.mhpc ≤ s'.mhpc :=
  (heights_step hp hw hn hi).2

/-- an unreachable state: `mhp = mhpc = 50` with the single window entry of height 10 -/
def C02cexState : State :=
  { batchSize := 3, mhp := 50, mhpc := 50, mhc := 0,
    infos := [{ height := 10, gen := [0x0b], mhg := 0, mhp := 0 }],
    active := [⟨[0x0a], 0, 0⟩],
    params := [(0, ⟨1, 1, 1, [⟨[0x0a], 1⟩]⟩)] }

/-- The invariant `C02HeightsInv` cannot be dropped: in a (unreachable) state whose `mhp = 50` is not
backed by the window `[10]`, processing block 11 — which reaches the prevote threshold at once with a
single validator — sets `mhp` to 11. Window shape and `h.height = tip + 1` hold. -/
theorem C02_heights_monotone_counterexample :
    ∃ (s : State) (h : Header) (s' : State), process s h = .ok s' ∧ C02WindowOk s ∧ C02Next s h ∧
      s'.mhp < s.mhp := by
  let s0 : State := C02cexState
  let h : Header := ⟨11, [0x0a], 0, 0, none⟩
  have hv : (match process s0 h with | .ok s' => some s'.mhp | .error _ => none) = some 11 := by decide +kernel
  cases hp : process s0 h with
  | error e => rw [hp] at hv; cases hv
  | ok s' =>
    rw [hp] at hv
    simp only [Option.some.injEq] at hv
    refine ⟨s0, h, s', hp, by decide +kernel, by decide +kernel, ?_⟩
    rw [hv]; decide

/-- `setParams` preserves the invariant and does not move the heights (`setKeys` touches neither: that case is
inline in `good_step` / `C02_inv_step`). -/
theorem C02_heights_inv_setParams (s : State) (pc ct : Nat) (vs : List Validator) (s' : State)
    (hp : setParams s pc ct vs = .ok s') (hw : C02WindowOk s) (hi : C02HeightsInv s) :
    C02HeightsInv s' ∧ s'.mhp = s.mhp ∧ s'.mhpc = s.mhpc := by
  have h3 := (setParams_facts hp).mhp
  have h4 := (setParams_facts hp).mhpc
  have hg := setParams_getParams_window hp (C02_window_sorted s hw)
  refine ⟨?_, h3, h4⟩
  unfold C02HeightsInv
  rw [(setParams_facts hp).infos, h3, h4]
  exact ⟨HInvL.congr hg hi.1, HInvL.congr hg hi.2⟩

/-- an event sequence in which every block event extends the tip of the state it is applied to
(rejected blocks leave the state, hence the tip, unchanged) -/
def C02ChainOk (s : State) : List C02Ev → Prop
  | [] => True
  | .block h :: rest => C02Next s h ∧ C02ChainOk (C02step s (.block h)) rest
  | e :: rest => C02ChainOk (C02step s e) rest

def C02decChainOk : (s : State) → (evs : List C02Ev) → Decidable (C02ChainOk s evs)
  | _, [] => isTrue trivial
  | s, .block h :: rest =>
    match (inferInstance : Decidable (C02Next s h)), C02decChainOk (C02step s (.block h)) rest with
    | isTrue h1, isTrue h2 => isTrue ⟨h1, h2⟩
    | isFalse h1, _ => isFalse fun h => h1 h.1
    | _, isFalse h2 => isFalse fun h => h2 h.2
  | s, .setParams pc ct vs :: rest => C02decChainOk (C02step s (.setParams pc ct vs)) rest
  | s, .setKeys g :: rest => C02decChainOk (C02step s (.setKeys g)) rest

instance (s : State) (evs : List C02Ev) : Decidable (C02ChainOk s evs) := C02decChainOk s evs

theorem C02_chainOk_append (s : State) (a b : List C02Ev) :
    C02ChainOk s (a ++ b) ↔ C02ChainOk s a ∧ C02ChainOk (C02run s a) b := by
  induction a generalizing s with
  | nil => simp [C02ChainOk, C02run]
  | cons e a ih =>
    cases e with
    | block h => simp only [List.cons_append, C02ChainOk, C02run, List.foldl_cons, ih, and_assoc]
    | setParams pc ct vs => simp only [List.cons_append, C02ChainOk, C02run, List.foldl_cons, ih]
    | setKeys g => simp only [List.cons_append, C02ChainOk, C02run, List.foldl_cons, ih]

/-- one event preserves window shape and heights invariant and does not lower the heights -/
private theorem good_step {s : State} {e : C02Ev} (hw : C02WindowOk s) (hi : C02HeightsInv s)
    (hn : ∀ h, e = .block h → C02Next s h) :
    C02WindowOk (C02step s e) ∧ C02HeightsInv (C02step s e) ∧ s.mhp ≤ (C02step s e).mhp ∧
      s.mhpc ≤ (C02step s e).mhpc := by
  refine C02step_cases s e (C02step s e) rfl ⟨hw, hi, Nat.le_refl _, Nat.le_refl _⟩ (fun h s' he hp => ?_)
    (fun pc ct vs s' _ hp => ?_) (fun _ _ => ⟨hw, hi, Nat.le_refl _, Nat.le_refl _⟩)
  · have hn' := hn h he
    have := heights_step hp hw hn' hi
    exact ⟨C02_window_shape s h s' hp hw (next_head hn'), this.1, this.2.1, this.2.2⟩
  · obtain ⟨h1, h2, h3⟩ := C02_heights_inv_setParams s pc ct vs s' hp hw hi
    exact ⟨(C02_window_shape_setParams s pc ct vs s' hp).2 hw, h1, by omega, by omega⟩

/-- a property that every event preserves (block events extending the tip) holds along the chain -/
theorem C02_chain_induction {P : State → Prop}
    (hstep : ∀ s e, P s → (∀ h, e = .block h → C02Next s h) → P (C02step s e)) :
    ∀ (s : State) (evs : List C02Ev), P s → C02ChainOk s evs → P (C02run s evs)
  | _, [], hP, _ => hP
  | s, e :: evs, hP, hc => by
    have hs : C02ChainOk (C02step s e) evs ∧ ∀ h, e = .block h → C02Next s h := by
      cases e with
      | block h => exact ⟨hc.2, fun h' he => by cases he; exact hc.1⟩
      | setParams pc ct vs => exact ⟨hc, fun h' he => by cases he⟩
      | setKeys g => exact ⟨hc, fun h' he => by cases he⟩
    simp only [C02run, List.foldl_cons]
    exact C02_chain_induction hstep (C02step s e) evs (hstep s e hP hs.2) hs.1

/-- Along any sequence of events whose blocks extend the tip, the window keeps its shape, the
heights invariant holds, and maxHeightPrevoted / maxHeightPrecommited never decrease. -/
theorem C02_heights_monotone_chain (s : State) (evs : List C02Ev) (hw : C02WindowOk s) (hi : C02HeightsInv s)
    (hc : C02ChainOk s evs) :
    C02WindowOk (C02run s evs) ∧ C02HeightsInv (C02run s evs) ∧ s.mhp ≤ (C02run s evs).mhp ∧
      s.mhpc ≤ (C02run s evs).mhpc :=
  C02_chain_induction (P := fun s' => C02WindowOk s' ∧ C02HeightsInv s' ∧ s.mhp ≤ s'.mhp ∧ s.mhpc ≤ s'.mhpc)
    (fun s' e ⟨w, i, m, c⟩ hn => by
      obtain ⟨g1, g2, g3, g4⟩ := good_step w i hn
      exact ⟨g1, g2, Nat.le_trans m g3, Nat.le_trans c g4⟩)
    s evs ⟨hw, hi, Nat.le_refl _, Nat.le_refl _⟩ hc

/-- the heights after any prefix are below the heights after the whole sequence -/
theorem C02_heights_monotone_prefix (s : State) (a b : List C02Ev) (hw : C02WindowOk s) (hi : C02HeightsInv s)
    (hc : C02ChainOk s (a ++ b)) :
    (C02run s a).mhp ≤ (C02run s (a ++ b)).mhp ∧ (C02run s a).mhpc ≤ (C02run s (a ++ b)).mhpc := by
  obtain ⟨ha, hb⟩ := (C02_chainOk_append s a b).1 hc
  obtain ⟨h1, h2, _, _⟩ := C02_heights_monotone_chain s a hw hi ha
  obtain ⟨_, _, h3, h4⟩ := C02_heights_monotone_chain (C02run s a) b h1 h2 hb
  rw [C02_run_append]
  exact ⟨h3, h4⟩

/-- the genesis state satisfies the invariants -/
theorem C02_genesis_good (batchSize genesisHeight : Nat) :
    C02WindowOk (initGenesis batchSize genesisHeight) ∧ C02HeightsInv (initGenesis batchSize genesisHeight) := by
  refine ⟨trivial, ⟨?_, Or.inl ?_⟩, ⟨?_, Or.inl ?_⟩⟩ <;> (intro b hb; cases hb)

/-- From genesis, finality heights never fall below the genesis height and never regress. -/
theorem C02_heights_monotone_from_genesis (batchSize genesisHeight : Nat) (a b : List C02Ev)
    (hc : C02ChainOk (initGenesis batchSize genesisHeight) (a ++ b)) :
    genesisHeight ≤ (C02run (initGenesis batchSize genesisHeight) a).mhpc ∧
    (C02run (initGenesis batchSize genesisHeight) a).mhp ≤ (C02run (initGenesis batchSize genesisHeight) (a ++ b)).mhp ∧
    (C02run (initGenesis batchSize genesisHeight) a).mhpc ≤ (C02run (initGenesis batchSize genesisHeight) (a ++ b)).mhpc := by
  obtain ⟨hw, hi⟩ := C02_genesis_good batchSize genesisHeight
  have h1 := C02_heights_monotone_prefix _ a b hw hi hc
  have h2 := C02_heights_monotone_chain _ a hw hi ((C02_chainOk_append _ a b).1 hc).1
  exact ⟨h2.2.2.2, h1.1, h1.2⟩

example : C02ChainOk C02exInit C02exEvents ∧ C02WindowOk C02exInit ∧
    (C02exState 4).mhp = 2 ∧ (C02exState 4).mhpc = 0 ∧ (C02exState 16).mhp = 13 ∧ (C02exState 16).mhpc = 10 := by
  decide +kernel

/-! ## maxHeightPrecommited ≤ maxHeightPrevoted -/

/-- a block only carries precommit weight if it has prevote quorum, and every stored precommit
threshold is positive (`SetBFTParameters` enforces `precommitThreshold ≥ ⌊W/3⌋ + 1`) -/
def C02PrecommitInv (s : State) : Prop :=
  (∀ b ∈ s.infos, 0 < b.precommitWeight → PvQ (getParams s) b) ∧
  (∀ e ∈ s.params, 1 ≤ e.2.precommitThreshold)

private theorem getParams_mem {s : State} {k : Nat} {p : Params} (h : getParams s k = some p) :
    ∃ e ∈ s.params, e.2 = p := by
  unfold getParams at h
  cases hl : lookupLE s.params k with
  | none => rw [hl] at h; cases h
  | some e =>
    rw [hl] at h
    simp only [Option.map_some, Option.some.injEq] at h
    exact ⟨e, (lookupLE_some hl).2.1, h⟩

private theorem precommit_step {s : State} {h : Header} {s' : State} (hp : process s h = .ok s')
    (hw : C02WindowOk s) (hn : C02Next s h) (hpi : C02PrecommitInv s) :
    C02PrecommitInv s' ∧ ∀ b ∈ s'.infos, 0 < b.precommitWeight → PvQ (getParams s) b := by
  have hw' := C02_window_shape s h s' hp hw (next_head hn)
  have hs' := C02_window_sorted s' hw'
  have hg := C02_params_stable_window s h s' hp hs'
  obtain ⟨k, F⟩ := process_facts hp
  have hrel := F.rel
  have hpar := F.params
  have hmid : ∀ b' ∈ s'.infos, 0 < b'.precommitWeight → PvQ (getParams s) b' := by
    intro b' hb' hpos
    obtain ⟨a, ha, hab⟩ := All2.mem_right hrel b' hb'
    by_cases hlt : a.precommitWeight < b'.precommitWeight
    · exact Quorum.mono hab.height hab.pv_le (hab.2 hlt)
    · have hle := hab.pc_le
      have hapos : 0 < a.precommitWeight := by omega
      rcases List.mem_cons.1 ha with rfl | ha
      · simp [newInfo] at hapos
      · exact Quorum.mono hab.height hab.pv_le (hpi.1 a (List.mem_of_mem_take ha) hapos)
  refine ⟨⟨fun b hb hpos => (Quorum.congr (hg b hb)).2 (hmid b hb hpos), ?_⟩, hmid⟩
  intro e he
  rw [hpar] at he
  exact hpi.2 e (prune_subset _ _ e he)

/-- `C02PrecommitInv` is preserved by processing the next block. -/
theorem C02_precommit_inv_preserved (s : State) (h : Header) (s' : State) (hp : process s h = .ok s')
    (hw : C02WindowOk s) (hn : C02Next s h) (hpi : C02PrecommitInv s) : C02PrecommitInv s' :=
  (precommit_step hp hw hn hpi).1

/-- maxHeightPrecommited ≤ maxHeightPrevoted is preserved: the highest block with precommit quorum
carries precommit weight, hence has prevote quorum, hence lies at or below the new maxHeightPrevoted. -/
theorem C02_precommitted_le_prevoted (s : State) (h : Header) (s' : State) (hp : process s h = .ok s')
    (hw : C02WindowOk s) (hn : C02Next s h) (hi : C02HeightsInv s) (hpi : C02PrecommitInv s)
    (hle : s.mhpc ≤ s.mhp) : s'.mhpc ≤ s'.mhp := by
  have hw' := C02_window_shape s h s' hp hw (next_head hn)
  have hs' := C02_window_sorted s' hw'
  have hmono := (heights_step hp hw hn hi).2
  have hmid := (precommit_step hp hw hn hpi).2
  obtain ⟨k, F⟩ := process_facts hp
  obtain ⟨p, hpv, hmhp⟩ := F.pv
  obtain ⟨pc, hpc, hmhpc⟩ := F.pc
  have spv := firstWith_spec s _ _ _ _ hpv hs'
  have spc := firstWith_spec s _ _ _ _ hpc hs'
  cases pc with
  | none => simp only [Option.getD_none] at hmhpc; omega
  | some hq =>
    simp only [Option.getD_some] at hmhpc
    obtain ⟨⟨bq, hbq, hh, pp, hpp, hthr⟩, _⟩ := spc.2 hq rfl
    obtain ⟨e, he, hep⟩ := getParams_mem hpp
    have h1 := hpi.2 e he
    rw [hep] at h1
    have hpos : 0 < bq.precommitWeight := by
      have : pp.precommitThreshold ≤ bq.precommitWeight := hthr
      omega
    have hq1 := hmid bq hbq hpos
    cases p with
    | none => exact absurd hq1 (spv.1 rfl bq hbq)
    | some hq2 =>
      simp only [Option.getD_some] at hmhp
      have := (spv.2 hq2 rfl).2 bq hbq hq1
      omega

/-- `SetBFTParameters` preserves `C02PrecommitInv`: lookups at window heights are unchanged and the new entry has a
positive precommit threshold -/
theorem C02_precommit_inv_setParams (s : State) (pc ct : Nat) (vs : List Validator) (s' : State)
    (hp : setParams s pc ct vs = .ok s') (hw : C02WindowOk s) (hpi : C02PrecommitInv s) : C02PrecommitInv s' := by
  have h1 := (setParams_facts hp).infos
  have hpar := (setParams_facts hp).params
  have hs := C02_window_sorted s hw
  refine ⟨?_, ?_⟩
  · rw [h1]
    intro b hb hpos
    exact (Quorum.congr (setParams_getParams_window hp hs b hb)).2 (hpi.1 b hb hpos)
  · intro e he
    rcases hpar with hpar | ⟨p, hpar, hp1⟩
    · rw [hpar] at he; exact hpi.2 e he
    · rw [hpar] at he
      rcases List.mem_cons.1 he with rfl | he
      · exact hp1
      · exact hpi.2 e (List.mem_filter.1 he).1

/-- the full invariant of the BFT state -/
def C02Inv (s : State) : Prop :=
  C02WindowOk s ∧ C02HeightsInv s ∧ C02PrecommitInv s ∧ s.mhpc ≤ s.mhp

theorem C02_genesis_inv (batchSize genesisHeight : Nat) : C02Inv (initGenesis batchSize genesisHeight) := by
  obtain ⟨h1, h2⟩ := C02_genesis_good batchSize genesisHeight
  refine ⟨h1, h2, ⟨?_, ?_⟩, Nat.le_refl _⟩
  · intro b hb; cases hb
  · intro e he; cases he

/-- every event (blocks extending the tip) preserves the full invariant -/
theorem C02_inv_step (s : State) (e : C02Ev) (hinv : C02Inv s) (hn : ∀ h, e = .block h → C02Next s h) :
    C02Inv (C02step s e) := by
  obtain ⟨hw, hi, hpi, hle⟩ := hinv
  obtain ⟨g1, g2, _, _⟩ := good_step hw hi hn
  refine ⟨g1, g2, ?_⟩
  refine C02step_cases s e (C02step s e) rfl ⟨hpi, hle⟩ (fun h s' he hp => ?_) (fun pc ct vs s' _ hp => ?_)
    (fun _ _ => ⟨hpi, hle⟩)
  · exact ⟨C02_precommit_inv_preserved s h s' hp hw (hn h he) hpi,
      C02_precommitted_le_prevoted s h s' hp hw (hn h he) hi hpi hle⟩
  · have h3 := (setParams_facts hp).mhp
    have h4 := (setParams_facts hp).mhpc
    exact ⟨C02_precommit_inv_setParams s pc ct vs s' hp hw hpi, by omega⟩

/-- the full invariant holds along every event sequence whose blocks extend the tip -/
theorem C02_inv_chain (s : State) (evs : List C02Ev) (hinv : C02Inv s) (hc : C02ChainOk s evs) :
    C02Inv (C02run s evs) :=
  C02_chain_induction C02_inv_step s evs hinv hc

/-- On every chain grown from genesis: genesis ≤ maxHeightPrecommited ≤ maxHeightPrevoted. -/
theorem C02_precommitted_le_prevoted_from_genesis (batchSize genesisHeight : Nat) (evs : List C02Ev)
    (hc : C02ChainOk (initGenesis batchSize genesisHeight) evs) :
    genesisHeight ≤ (C02run (initGenesis batchSize genesisHeight) evs).mhpc ∧
      (C02run (initGenesis batchSize genesisHeight) evs).mhpc ≤ (C02run (initGenesis batchSize genesisHeight) evs).mhp := by
  have h1 := C02_inv_chain _ evs (C02_genesis_inv batchSize genesisHeight) hc
  obtain ⟨hw, hi⟩ := C02_genesis_good batchSize genesisHeight
  have h2 := C02_heights_monotone_chain _ evs hw hi hc
  exact ⟨h2.2.2.2, h1.2.2.2⟩

/-! ## Non-vacuity: finality advances on a concrete chain satisfying all hypotheses -/

/-- the example history from genesis: parameter setup, then `C02exEvents` -/
def C02exHistory : List C02Ev := .setParams 2 2 C02exVals :: C02exEvents

/-- The example history satisfies the hypothesis of the chain theorems, every block is accepted (the
tip reaches height 15), finality advances well above genesis (0), the window is full and slides, and
the parameters of height 1 are pruned once they are no longer needed. -/
theorem C02_example_finality_advances :
    C02ChainOk (initGenesis 3 0) C02exHistory ∧
    (List.range 17).map (fun n => ((C02exState n).mhp, (C02exState n).mhpc)) =
      [(0, 0), (0, 0), (0, 0), (1, 0), (2, 0), (2, 0), (3, 1), (4, 2), (5, 3), (6, 4), (7, 4), (8, 5), (9, 6),
       (10, 7), (11, 8), (12, 9), (13, 10)] ∧
    C02weights (C02exState 16) =
      [(15, 1, 0), (14, 2, 0), (13, 3, 0), (12, 3, 1), (11, 3, 2), (10, 3, 3), (9, 3, 3), (8, 3, 3), (7, 3, 3)] ∧
    (C02exState 16).mhc = 12 ∧ (C02exState 16).params.map (·.1) = [5] := by
  decide +kernel

/-- … hence all invariants hold in its final state (instantiating the chain theorems). -/
theorem C02_example_invariants :
    C02Inv (C02run (initGenesis 3 0) C02exHistory) ∧ (C02run (initGenesis 3 0) C02exHistory).mhp = 13 ∧
      (C02run (initGenesis 3 0) C02exHistory).mhpc = 10 :=
  have h : (C02run (initGenesis 3 0) C02exHistory).mhp = 13 ∧ (C02run (initGenesis 3 0) C02exHistory).mhpc = 10 := by
    decide +kernel
  ⟨C02_inv_chain _ _ (C02_genesis_inv 3 0) C02_example_finality_advances.1, h.1, h.2⟩

/-- every single block of the example is accepted, extends the tip (`C02Next`) and meets a consecutive window
(`C02WindowOk`); the remaining hypotheses of the per-block theorems (`C02Inv`) are checked in the next example -/
example : (List.range 16).all (fun n =>
    match C02exEvents[n]? with
    | some (.block h) => C02isOk (process (C02exState n) h) && decide (C02Next (C02exState n) h) &&
        decide (C02WindowOk (C02exState n))
    | _ => true) = true := by
  decide +kernel

/-- a single step of the example instantiating the per-block theorems: all hypotheses of
`C02_heights_monotone` and `C02_precommitted_le_prevoted` hold before block 13, the block is
accepted, and both heights strictly increase -/
example : ∃ s', process (C02exState 13) (C02exHdr 13 [0x0a] (some 10)) = .ok s' ∧
    C02Next (C02exState 13) (C02exHdr 13 [0x0a] (some 10)) ∧ C02Inv (C02exState 13) ∧
    (C02exState 13).mhp < s'.mhp ∧ (C02exState 13).mhpc < s'.mhpc ∧ s'.mhpc ≤ s'.mhp := by
  obtain ⟨hc, hn, hv, h0⟩ : C02ChainOk C02exInit (C02exEvents.take 13) ∧
      C02Next (C02exState 13) (C02exHdr 13 [0x0a] (some 10)) ∧
      (match process (C02exState 13) (C02exHdr 13 [0x0a] (some 10)) with
        | .ok s' => some (s'.mhp, s'.mhpc) | .error _ => none) = some (11, 8) ∧
      (C02exState 13).mhp = 10 ∧ (C02exState 13).mhpc = 7 := by decide +kernel
  have hinv : C02Inv (C02exState 13) :=
    C02_inv_chain C02exInit (C02exEvents.take 13)
      (C02_inv_step _ (.setParams 2 2 C02exVals) (C02_genesis_inv 3 0) (fun _ he => by cases he)) hc
  cases hp : process (C02exState 13) (C02exHdr 13 [0x0a] (some 10)) with
  | error e => rw [hp] at hv; cases hv
  | ok s' =>
    rw [hp] at hv
    simp only [Option.some.injEq, Prod.mk.injEq] at hv
    refine ⟨s', rfl, hn, hinv, by omega, by omega, ?_⟩
    exact C02_precommitted_le_prevoted _ _ s' hp hinv.1 hn hinv.2.1 hinv.2.2.1 hinv.2.2.2
