/-
C19 (geometry) — convergence of the synchronisers against an HONEST peer over the whole geometry of
(own tip, finalized height, fork point, peer tip, download end block, round length, response cap).

The end block may lie anywhere on the peer's chain: what follows it (the peer is longer than the target, or kept growing
after announcing it) is ignored by the downloader, however many responses of 103 blocks the download takes (a downloader
that rejects a response continuing past the end block is what seeded/C19-5 plants).  The common block search — at most
three requests of nine round starts each, the finalized block itself as the last resort — finds a common block whenever
the fork point is not below the finalized block and the finalized block is at most 18 rounds below the start of the
search, also when the fork point lies strictly between the finalized block and the lowest sampled round start (a search
that gives up before sampling the finalized block: seeded/C19-6).  Together: block sync ends on exactly the peer's chain
up to the announced block for every such geometry, and fast sync likewise inside its two-round window.
-/
import LiskVerif.Props.C19_More

open LiskVerif LiskVerif.Sync

set_option linter.unusedSectionVars false

/-! ## The downloader: the peer's chain continues past the end block -/

section Download
variable {ι : Type} [DecidableEq ι]

/-- **The downloader against an honest peer whose tip is above the end block.**  The peer's chain is
`pre ++ b :: s ++ e :: rest` (unique ids, linked): `b` is the start block, `e` the end block and
`rest` — ANY continuation: empty, one block, more than a response — what the peer has above it
(it is longer than the target, or kept growing after it announced `e`).  Then the downloader delivers
exactly `s ++ [e]` and completes without an error item, whatever number of responses of at most 103
blocks that takes and although the response that contains `e` also contains blocks of `rest`. -/
theorem C19_download_peer_tip_above_end (p : List (Blk ι)) (mhp : Nat) (hnd : (p.map (·.id)).Nodup)
    (hok : ChainOK p) (pre : List (Blk ι)) (b : Blk ι) (s : List (Blk ι)) (e : Blk ι) (rest : List (Blk ι))
    (hp : p = pre ++ b :: (s ++ e :: rest)) :
    download (honest p mhp).segment b.id pre.length e.id e.height = (s ++ [e], true) :=
  download_honest p mhp hnd hok pre b s e rest hp

end Download

/-- non-vacuity: the peer is on `g b1 b2 b3`, the download ends at `b2`: the response to the request
for the blocks after `g` is `[b1, b2, b3]`, `b3` is ignored -/
example : download (honest [C19g, C19b1, C19b2, C19b3] 0).segment 0 0 2 2 = ([C19b1, C19b2], true) := by decide
example : (honest [C19g, C19b1, C19b2, C19b3] 0).segment 0 = some [C19b1, C19b2, C19b3] := by decide

/-! ## The common block search: the finalized block as the last resort -/

section Search
variable {ι : Type} [DecidableEq ι]

/-- the search only uses the peer's answers to `getHighestCommonBlock` -/
private theorem commonSearch_congr (n fin : Nat) (q : List (Blk ι)) (peer peer' : Peer ι)
    (h : peer.common = peer'.common) (trial start : Nat) :
    commonSearch n fin q peer trial start = commonSearch n fin q peer' trial start := by
  induction trial generalizing start with
  | zero => rfl
  | succ t ih => simp only [commonSearch, h, ih]

/-- a sampled height in the common part is named by the honest responder: its answer is not "none" -/
private theorem honest_common_hit (com qOwn pOwn : List (Blk ι)) (mhp : Nat) (hs : List Nat) (h : Nat)
    (hmem : h ∈ hs) (hlt : h < com.length) :
    (honest (com ++ pOwn) mhp).common (idsAt (com ++ qOwn) hs) ≠ some none ∧
    (honest (com ++ pOwn) mhp).common (idsAt (com ++ qOwn) hs) ≠ none := by
  have hb : (com ++ qOwn)[h]? = some com[h] := by
    rw [List.getElem?_append_left hlt, List.getElem?_eq_getElem hlt]
  have hid : com[h].id ∈ idsAt (com ++ qOwn) hs := (mem_idsAt _ _ _).mpr ⟨h, hmem, _, hb, rfl⟩
  have honp : heightOf (com ++ pOwn) com[h].id ≠ none := by
    intro hn
    exact (heightOf_eq_none_iff _ _).mp hn com[h] (List.mem_append_left _ (List.getElem_mem hlt)) rfl
  constructor
  · intro hc
    exact absurd (((honest_common_some_none_iff _ mhp _).mp hc).2 _ hid) honp
  · intro hc
    have := (honest_common_none_iff _ mhp _).mp hc
    rw [this] at hid; cases hid

/-- **The search reaches the finalized block.**  Requester on `com ++ qOwn`, honest responder on
`com ++ pOwn`; the fork point is not below the finalized block (`fin < com.length`).  A search of
`trial + 1` requests that starts at a round start `start` (a multiple of the round length `n`, on the
requester's chain) at most `9 · n · trial` above the finalized height finds a common block: each
request samples nine round starts going down; a request that has passed the finalized height is
followed by one that samples the finalized block itself (`getHeightWithGap` answers `[fin]` for a
start at or below `fin`), which is common.  In particular a fork point strictly between the
finalized block and the lowest sampled round start is found — by the last-resort request. -/
theorem C19_common_search_reaches_finalized (com qOwn pOwn : List (Blk ι)) (mhp n fin : Nat)
    (hfork : fin < com.length) (hov : fin + 10 * n < two32)
    (hlen : (com ++ qOwn).length ≤ two32) (trial start : Nat)
    (hdiv : n ∣ start) (hstart : start < (com ++ qOwn).length) (hreach : start ≤ fin + 9 * n * trial) :
    ∃ ch, commonSearch n fin (com ++ qOwn) (honest (com ++ pOwn) mhp) (trial + 1) start = .ok ch := by
  induction trial generalizing start with
  | zero =>
    -- the only request samples the finalized block
    exact commonSearch_honest_hit com qOwn pOwn mhp n fin 0 start
      ⟨fin, by rw [getHeightWithGap_of_le n 10 (show start ≤ fin from hreach)]; exact List.mem_singleton.mpr rfl, hfork⟩
  | succ t ih =>
    have hs32 : start < two32 := Nat.lt_of_lt_of_le hstart hlen
    by_cases hle : start ≤ fin
    · exact commonSearch_honest_hit com qOwn pOwn mhp n fin (t + 1) start
        ⟨fin, by rw [getHeightWithGap_of_le n 10 hle]; exact List.mem_singleton.mpr rfl, hfork⟩
    · -- the sampled heights: start, start - n, ... (k of them, 1 ≤ k ≤ 9)
      obtain ⟨k, hk9, hlist, hall, hstop⟩ := getHeightWithGap_of_lt (num := 10) hs32 hov (Nat.lt_of_not_le hle)
      have hkpos : 0 < k := by
        rcases Nat.eq_zero_or_pos k with h0 | h0
        · subst h0
          have := hstop (by decide)
          rw [Nat.zero_mul, Nat.add_zero] at this
          exact absurd (Nat.le_of_lt this) hle
        · exact h0
      obtain ⟨k', rfl⟩ := Nat.exists_eq_succ_of_ne_zero (Nat.ne_of_gt hkpos)
      have hlow : fin + k' * n ≤ start := hall k' (Nat.lt_succ_self _)
      have hlowmem : start - k' * n ∈ getHeightWithGap start fin n 10 := by
        rw [hlist]
        exact List.mem_map.mpr ⟨k', List.mem_range.mpr (Nat.lt_succ_self _), rfl⟩
      have hlast : (getHeightWithGap start fin n 10).getLastD 0 = start - k' * n := by
        rw [hlist, getLastD_map_range]
        simp
      by_cases hhit : ∃ h ∈ getHeightWithGap start fin n 10, h < com.length
      · exact commonSearch_honest_hit com qOwn pOwn mhp n fin (t + 1) start hhit
      · -- no sampled height is common: the responder answers "none", the search continues one round
        -- below the lowest sampled height
        have hnone : ∀ h ∈ getHeightWithGap start fin n 10, com.length ≤ h := by
          intro h hh
          rcases Nat.lt_or_ge h com.length with h1 | h1
          · exact absurd ⟨h, hh, h1⟩ hhit
          · exact h1
        have hlowge : com.length ≤ start - k' * n := hnone _ hlowmem
        -- the lowest sampled height is a positive multiple of n
        have hdvd : n ∣ start - k' * n := Nat.dvd_sub hdiv (Nat.dvd_mul_left n k')
        have hnle : n ≤ start - k' * n := Nat.le_of_dvd (Nat.lt_of_lt_of_le (Nat.zero_lt_of_lt hfork) hlowge) hdvd
        have hsub : u32sub (start - k' * n) n = start - k' * n - n :=
          u32sub_of_le hnle (Nat.lt_of_le_of_lt (Nat.sub_le _ _) hs32)
        have hdvd' : n ∣ start - k' * n - n := Nat.dvd_sub hdvd (Nat.dvd_refl n)
        have hreach' : start - k' * n - n ≤ fin + 9 * n * t := by
          by_cases hk : k' + 1 < 10 - 1
          · have := hstop hk
            rw [Nat.succ_mul] at this
            omega
          · have hk8 : k' = 8 := by omega
            subst hk8
            have : 9 * n * (t + 1) = 9 * n * t + 9 * n := by rw [Nat.mul_succ]
            omega
        obtain ⟨ch, hch⟩ := ih (start - k' * n - n) hdvd'
          (Nat.lt_of_le_of_lt (Nat.le_trans (Nat.sub_le _ _) (Nat.sub_le _ _)) hstart) hreach'
        -- the ids requested in this round are ids of blocks of the requester's chain
        have hstartmem : start ∈ getHeightWithGap start fin n 10 := by
          rcases getHeightWithGap_start_or_minimum start fin n 10 (by decide) hs32 with h | ⟨h, _⟩
          · exact h
          · exact absurd h hle
        rcases commonSearch_honest_succ (com ++ qOwn) (com ++ pOwn) mhp n fin (t + 1) start
          (List.ne_nil_of_mem ((mem_idsAt _ _ _).mpr ⟨start, hstartmem, _, List.getElem?_eq_getElem hstart, rfl⟩))
          with h | ⟨_, h⟩
        · exact h
        · rw [h, hlast, hsub]
          exact ⟨ch, hch⟩

end Search

/-! ## Block sync over the whole geometry -/

/-- an honest peer on chain `p` that announced its block `e` (received block, answer to
`getLastBlock`, prevoted height `mhp`) and serves every other request from `p` — in particular when
`e` is no longer its tip because it kept growing -/
def C19grownPeer {ι : Type} [DecidableEq ι] (p : List (Blk ι)) (e : Blk ι) (mhp : Nat) : Peer ι :=
  { honest p mhp with last := some (e, mhp) }

section BlockGeometry
variable {ι : Type} [DecidableEq ι]

/-- when the announced block is the peer's tip, the grown peer is the honest peer -/
theorem C19_grown_peer_at_tip (p : List (Blk ι)) (e : Blk ι) (mhp : Nat) :
    C19grownPeer (p ++ [e]) e mhp = honest (p ++ [e]) mhp := by
  simp [C19grownPeer, honest, handleLastBlock]

/-- **Block sync converges, whole geometry.**  The requester is on `com ++ qOwn` (tip height
`(com ++ qOwn).length - 1`), the honest peer on `com ++ s' ++ e :: rest` where `e` is the block it announced and `rest`
ANY continuation (its tip may be at, one above or many responses above `e`).  Round length `n ≥ 1`,
finalized height `fin`.  If
* the fork point is not below the finalized block (`fin < com.length`) — anywhere between the
  finalized block and the own tip, also strictly between the finalized block and the lowest sampled
  round start, and
* the finalized block is at most 18 rounds below the start of the search (two requests of nine round
  starts, then the last-resort request for the finalized block itself), and
* the sync condition holds for the reported tip and the announced block,
then one round of the block synchroniser ends with the requester on EXACTLY `com ++ s' ++ [e]` — the
peer's chain up to the announced block —, no error, nobody banned, temp table empty, however many
responses of 103 blocks the download takes. -/
theorem C19_block_sync_geometry (applies : List (Blk ι) → Blk ι → Bool) (n fin myMhp mhp : Nat)
    (com qOwn s' : List (Blk ι)) (e : Blk ι) (rest : List (Blk ι)) (best : Tip ι)
    (hf : Fork com qOwn (s' ++ e :: rest))
    (hchain : ChainOK (com ++ (s' ++ e :: rest)))
    (hvalid : ValidChain applies (com ++ (s' ++ [e])))
    (hok : ∀ b ∈ com ++ (s' ++ [e]), b.ok = true)
    (hn : 0 < n) (hov : fin + 10 * n < two32) (hlen : (com ++ qOwn).length ≤ two32)
    (hd1 : isDifferentChain myMhp best.mhp ((com ++ qOwn).length - 1) best.height = true)
    (hd2 : isDifferentChain myMhp mhp ((com ++ qOwn).length - 1) e.height = true)
    (hfork : fin < com.length)
    (hreach : getCommonBlockStartSearchHeight ((com ++ qOwn).length - 1) n ≤ fin + 18 * n) :
    blockSync applies n fin myMhp (com ++ qOwn) best (C19grownPeer (com ++ (s' ++ e :: rest)) e mhp)
      = ⟨com ++ (s' ++ [e]), [], false, none⟩ := by
  obtain ⟨hs1, hs2, _, _⟩ := startSearch_spec ((com ++ qOwn).length - 1) hn
  have hqpos : 0 < (com ++ qOwn).length :=
    List.length_append ▸ Nat.lt_of_lt_of_le (Nat.zero_lt_of_lt hfork) (Nat.le_add_right _ _)
  have hstart32 := startSearch_lt_two32 n hlen
  obtain ⟨ch, hcs⟩ := C19_common_search_reaches_finalized com qOwn (s' ++ e :: rest) mhp n fin hfork hov hlen 2
    (getCommonBlockStartSearchHeight ((com ++ qOwn).length - 1) n) (Nat.dvd_of_mod_eq_zero hs2)
    (Nat.lt_of_le_of_lt hs1 (Nat.sub_lt hqpos Nat.one_pos)) (by rw [Nat.mul_right_comm]; exact hreach)
  have hcs' : commonSearch n fin (com ++ qOwn) (C19grownPeer (com ++ (s' ++ e :: rest)) e mhp) 3
      (getCommonBlockStartSearchHeight ((com ++ qOwn).length - 1) n) = .ok ch := by
    rw [commonSearch_congr n fin _ (C19grownPeer (com ++ (s' ++ e :: rest)) e mhp)
      (honest (com ++ (s' ++ e :: rest)) mhp) rfl]; exact hcs
  obtain ⟨hlt, hge⟩ := commonSearch_honest_ok com qOwn (s' ++ e :: rest) hf mhp n fin hov 3 _ hstart32 ch hcs
  exact blockSync_honest_of_search applies n fin myMhp mhp com qOwn s' e rest best _ rfl rfl hf hchain hvalid hok
    hd1 hd2 ch hcs' hlt hge

/-- the same for an honest peer whose tip is the announced block: the statement the seeded change
C19-6 (no last-resort request for the finalized block) violates -/
theorem C19_block_sync_geometry_at_tip (applies : List (Blk ι) → Blk ι → Bool) (n fin myMhp mhp : Nat)
    (com qOwn s' : List (Blk ι)) (e : Blk ι) (best : Tip ι)
    (hf : Fork com qOwn (s' ++ [e]))
    (hchain : ChainOK (com ++ (s' ++ [e])))
    (hvalid : ValidChain applies (com ++ (s' ++ [e])))
    (hok : ∀ b ∈ com ++ (s' ++ [e]), b.ok = true)
    (hn : 0 < n) (hov : fin + 10 * n < two32) (hlen : (com ++ qOwn).length ≤ two32)
    (hd1 : isDifferentChain myMhp best.mhp ((com ++ qOwn).length - 1) best.height = true)
    (hd2 : isDifferentChain myMhp mhp ((com ++ qOwn).length - 1) e.height = true)
    (hfork : fin < com.length)
    (hreach : getCommonBlockStartSearchHeight ((com ++ qOwn).length - 1) n ≤ fin + 18 * n) :
    blockSync applies n fin myMhp (com ++ qOwn) best (honest (com ++ (s' ++ [e])) mhp)
      = ⟨com ++ (s' ++ [e]), [], false, none⟩ := by
  have h := C19_block_sync_geometry applies n fin myMhp mhp com qOwn s' e [] best hf hchain hvalid hok hn hov hlen
    hd1 hd2 hfork hreach
  have hp : com ++ (s' ++ [e]) = (com ++ s') ++ [e] := by simp
  rw [hp, C19_grown_peer_at_tip, ← hp] at h
  exact h

end BlockGeometry

/-- non-vacuity.  Requester `g b1 q2` (tip 2), peer `g b1 b2 b3`, round length 2: the search starts at
height 0.  The peer announced `b2` and has grown to `b3`: the requester ends on `g b1 b2`.  The second
example checks hypotheses of `C19_block_sync_geometry` on it: the fork, the peer's chain, the reach of the search. -/
example : C19outcome (blockSync C19applies 2 0 0 [C19g, C19b1, C19q2] ⟨0, 2, 1, 2⟩
      (C19grownPeer [C19g, C19b1, C19b2, C19b3] C19b2 1))
    = ([C19g, C19b1, C19b2], [], false, none) := by decide
example : Fork [C19g, C19b1] [C19q2] [C19b2, C19b3] ∧ ChainOK [C19g, C19b1, C19b2, C19b3] ∧
    getCommonBlockStartSearchHeight 2 2 ≤ 0 + 18 * 2 :=
  ⟨⟨by decide, by decide, by decide⟩, by simp [ChainOK, Linked, C19g, C19b1, C19b2, C19b3], by decide⟩

/-! ## Fast sync: the received block is below the peer's tip -/

section FastGeometry
variable {ι : Type} [DecidableEq ι]

/-- **Fast sync converges when the peer's tip is above the received block.**  The situation of
`C19_converges_to_better_chain` (requester on `init ++ last :: qOwn`, fork point `last` not below the
finalized height, both own parts inside the two-round window), but the honest peer's chain continues
with ANY `rest` after the received block `e`: the requester ends on exactly the peer's chain up to
`e`, no error, nobody banned, no temp block left. -/
theorem C19_fast_sync_peer_tip_above_target (applies : List (Blk ι) → Blk ι → Bool)
    (finAfter : List (Blk ι) → Nat) (n fin mhp : Nat) (init : List (Blk ι)) (last : Blk ι)
    (qOwn s : List (Blk ι)) (e : Blk ι) (rest : List (Blk ι))
    (hndp : ((init ++ last :: (s ++ e :: rest)).map (·.id)).Nodup)
    (hndq : ((init ++ last :: qOwn).map (·.id)).Nodup)
    (hdisj : ∀ y ∈ qOwn, ∀ x ∈ init ++ last :: (s ++ e :: rest), x.id ≠ y.id)
    (hheight : last.height = init.length)
    (hlinked : Linked last.id last.height (s ++ e :: rest))
    (hok : ∀ b ∈ s ++ [e], b.ok = true)
    (hvalid : ValidChain applies (init ++ last :: (s ++ [e])))
    (hfin : fin ≤ init.length)
    (hn : 1 ≤ n) (hwq : qOwn.length ≤ 2 * n - 2) (hwp : s.length + 1 ≤ 2 * n)
    (hbq : init.length + 1 + qOwn.length ≤ two32) (hbp : init.length + 1 + s.length + 1 ≤ two32)
    (hbn : 2 * n ≤ two32) :
    fastSync applies finAfter n fin (init ++ last :: qOwn) e (honest (init ++ last :: (s ++ e :: rest)) mhp)
      = ⟨init ++ last :: (s ++ [e]), [], false, none⟩ :=
  fastSync_honest applies finAfter n fin mhp init last qOwn s e rest hndp hndq hdisj hheight hlinked hok hvalid hfin
    hn hwq hwp hbq hbp hbn

end FastGeometry

/-- non-vacuity: requester `g b1 q2`, the peer `g b1 b2 b3` announced `b2` -/
example : C19outcome (fastSync C19applies (fun _ => 0) 2 0 [C19g, C19b1, C19q2] C19b2
      (honest [C19g, C19b1, C19b2, C19b3] 1))
    = ([C19g, C19b1, C19b2], [], false, none) := by decide
