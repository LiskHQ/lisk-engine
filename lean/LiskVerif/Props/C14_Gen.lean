/-
C14 — tie of `Model/TxPool.lean` to the Go source: the integer decisions of pkg/txpool are
REGENERATED from the Go source on every run by tools/fngen (typed translation,
`LiskVerif/Gen/Fns2.lean`) with the exact semantics of `uint64` (wrap modulo 2^64) and `int`:

* fee.go `calculateFeePriority`: `tx.Fee / uint64(tx.Size())` (`Gen.calculateFeePriority`; `none` = the
  division panics);
* txlist.go `addressTransactions.Add`: the replacement rule
  `incomingTx.Fee < existingTx.Fee || incomingTx.Fee-existingTx.Fee < a.minReplacementFeeDifference`
  (`Gen.txReplacementRejected`), the per-account limit `len(a.nonces)+1 > a.maxSize`
  (`Gen.txAccountFull`) and `incomingTx.Nonce > maxNonce` (`Gen.txNonceAboveMax`);
* txpool.go `TransactionPool.Add`: the entrance rule (`Gen.txBelowEntrance`), the rejection when the
  pool is full (`Gen.txTooCheapWhenFull`) and the eviction trigger (`Gen.txPoolFull`).

The model works on unbounded naturals; the theorems state the ranges (fees and fee differences are
`uint64`, list lengths and limits are non-negative `int`s).
-/
import LiskVerif.Model.TxPool
import LiskVerif.Lemmas.GenInt

open LiskVerif LiskVerif.TxPool

/-! ### fee priority -/

/-- **`calculateFeePriority` = `Tx.prio`** for every transaction of positive size (below 2^63 bytes) -/
theorem C14_gen_fee_priority_eq (t : Tx) (h0 : 0 < t.size) (h1 : t.size < 9223372036854775808) :
    Gen.calculateFeePriority t.fee (t.size : Int) = some t.prio := by
  unfold Gen.calculateFeePriority Tx.prio
  rw [Gen.toNat_emod64 (by omega)]
  have : ¬ t.size = 0 := by omega
  simp [this]

/-- a transaction of size 0 makes the Go code panic (the model's `Tx.prio` is 0 there); every
`Init`-ed transaction has positive size -/
theorem C14_gen_fee_priority_panics (fee : Nat) : Gen.calculateFeePriority fee 0 = none := by
  unfold Gen.calculateFeePriority
  simp

/-! ### sender list: replacement and per-account limit -/

/-- the regenerated replacement rule (with its wrapping `uint64` subtraction behind the `<` guard) is
the model's `fee < old.fee + minFeeDiff`, for all `uint64` fees and differences -/
theorem C14_gen_replacement_eq (inc old d : Nat) (hi : inc < 2 ^ 64) (ho : old < 2 ^ 64) :
    Gen.txReplacementRejected inc old d = decide (inc < old + d) := by
  unfold Gen.txReplacementRejected
  by_cases h : inc < old
  · have : inc < old + d := by omega
    simp [h, this]
  · have h2 : (inc + 18446744073709551616 - old) % 18446744073709551616 = inc - old := by omega
    rw [h2]
    by_cases h3 : inc < old + d
    · have : inc - old < d := by omega
      simp [h, h3, this]
    · have : ¬ (inc - old < d) := by omega
      simp [h, h3, this]

/-- the regenerated per-account limit test is the model's `length + 1 > maxPerAcct` -/
theorem C14_gen_account_full_eq (n m : Nat) (hn : n < 9223372036854775807) :
    Gen.txAccountFull (n : Int) (m : Int) = decide (n + 1 > m) := by
  unfold Gen.txAccountFull
  rw [Gen.i64_eq (by omega) (by omega)]
  exact decide_eq_decide.mpr (by omega)

/-- **`Acct.add` is the regenerated decisions** around the list updates -/
theorem C14_gen_acct_add_eq (cfg : Cfg) (a : Acct) (tx : Tx)
    (hf : tx.fee < 2 ^ 64) (hold : ∀ old, a.get tx.nonce = some old → old.fee < 2 ^ 64)
    (hlen : a.txs.length < 9223372036854775807) :
    a.add cfg tx =
      match a.get tx.nonce with
      | some old =>
        if Gen.txReplacementRejected tx.fee old.fee cfg.minFeeDiff = true then (a, false, none)
        else ({ txs := tx :: a.txs.filter (fun x => x.nonce != tx.nonce), proc := demote a.proc tx.nonce }, true, some old)
      | none =>
        if Gen.txAccountFull (a.txs.length : Int) (cfg.maxPerAcct : Int) = true then
          let mx := a.maxNonce
          if Gen.txNonceAboveMax tx.nonce mx = true then (a, false, none)
          else
            let r := a.remove mx
            ({ r.1 with txs := tx :: r.1.txs }, true, r.2)
        else ({ a with txs := tx :: a.txs }, true, none) := by
  unfold Acct.add
  cases hg : a.get tx.nonce with
  | some old =>
    simp only [C14_gen_replacement_eq tx.fee old.fee cfg.minFeeDiff hf (hold old hg), decide_eq_true_eq]
  | none =>
    simp only [C14_gen_account_full_eq a.txs.length cfg.maxPerAcct hlen, decide_eq_true_eq,
      Gen.txNonceAboveMax]

/-! ### pool: entrance, full pool -/

theorem C14_gen_below_entrance_eq (prio minEntrance : Nat) :
    Gen.txBelowEntrance prio minEntrance = decide (prio < minEntrance) := rfl

/-- the regenerated eviction trigger is `TxPool.isFull` -/
theorem C14_gen_pool_full_eq (cfg : Cfg) (p : Pool) :
    Gen.txPoolFull (p.all.length : Int) (cfg.maxTx : Int) = isFull cfg p := by
  unfold Gen.txPoolFull isFull
  exact decide_eq_decide.mpr (by omega)

/-- the regenerated rejection rule of a full pool is `isFull && tooCheap`: `lowestFeePriorityTx` is
the root of the fee min-heap, i.e. `minPrio` of the model's heap -/
theorem C14_gen_too_cheap_eq (cfg : Cfg) (p : Pool) (tx : Tx) :
    Gen.txTooCheapWhenFull (p.all.length : Int) (cfg.maxTx : Int) (minPrio p.heap).isSome tx.prio
      ((minPrio p.heap).getD 0) = (isFull cfg p && tooCheap p.heap tx) := by
  unfold Gen.txTooCheapWhenFull
  have h := C14_gen_pool_full_eq cfg p
  unfold Gen.txPoolFull at h
  rw [h]
  unfold tooCheap
  cases minPrio p.heap <;> simp

/-- **`TxPool.add` is the regenerated decisions** around the pool updates -/
theorem C14_gen_add_eq (cfg : Cfg) (p : Pool) (tx : Tx) (v : Verdict) (pubOk : Bool) (tie : Nat) :
    add cfg p tx v pubOk tie =
      if p.all.any (fun t => t.id == tx.id) then (p, false)
      else if Gen.txBelowEntrance tx.prio cfg.minEntrance = true then (p, false)
      else if Gen.txTooCheapWhenFull (p.all.length : Int) (cfg.maxTx : Int) (minPrio p.heap).isSome tx.prio
          ((minPrio p.heap).getD 0) = true then (p, false)
      else if v == Verdict.invalid then (p, false)
      else addCore cfg (if Gen.txPoolFull (p.all.length : Int) (cfg.maxTx : Int) = true then evict p tie else p) tx pubOk := by
  unfold add
  rw [C14_gen_too_cheap_eq, C14_gen_pool_full_eq, C14_gen_below_entrance_eq]
  simp only [decide_eq_true_eq]

/-! ### non-vacuity -/

example : Gen.calculateFeePriority 1000 100 = some 10 ∧ Gen.calculateFeePriority 999 100 = some 9 ∧
    Gen.txReplacementRejected 100 100 10 = true ∧ Gen.txReplacementRejected 110 100 10 = false ∧
    Gen.txReplacementRejected 90 100 0 = true ∧ Gen.txAccountFull 63 64 = false ∧ Gen.txAccountFull 64 64 = true ∧
    Gen.txBelowEntrance 9 10 = true ∧ Gen.txTooCheapWhenFull 10 10 true 5 5 = true ∧
    Gen.txTooCheapWhenFull 10 10 true 6 5 = false ∧ Gen.txTooCheapWhenFull 9 10 true 5 5 = false ∧
    Gen.txPoolFull 10 10 = true := by decide +kernel

example : Gen.calculateFeePriority 1000 100 = some (Tx.prio ⟨1, 1, 0, 1000, 100⟩) :=
  C14_gen_fee_priority_eq ⟨1, 1, 0, 1000, 100⟩ (by decide) (by decide)
