/-
C04 — stale and foreign ARGUMENTS: the guard must test the block that is removed.

`Executer.deleteBlock(ctx, deletingBlock, saveTemp)` protects finalized blocks with ONE test,
`deletingBlock.Header.Height <= finalizedHeight`, evaluated on its ARGUMENT, while `Chain.RemoveBlock` removes the
TIP. Props/C04.lean proves irreversibility for `deleteTip` — the call "argument = tip", which is what every in-tree
caller passes. This file treats the class "the guard tests one thing, the operation acts on another; the entry point
is called with an argument that is stale relative to the chain":

* `Model/NodeStale.lean` makes the argument explicit (`deleteBlockArg`, roles separated in `deleteCore`) and says
  what the unchanged code does with ANY argument; the harness runs the real code on such arguments (op `delarg`,
  harness/c04/stale.go) and compares;
* `C04_stale_delete_tip_is_deleteTip`: with the tip as argument `deleteBlockArg` IS `deleteTip` (the theorems
  of C04 / C05 about `deleteTip` are about this function on the call every call site makes);
* `C04_stale_guard_covers_removed_block`: whenever a call with an arbitrary argument removes a block, the height
  the guard tested is at most the height of the block removed: `finalized < argument height ≤ removed height`
  (no state diff is stored above the tip — `deleteBlock` deletes the diff with the block);
  `C04_stale_guard_height_is_removed_height`: with an application that does not revert a block of the chain below
  its tip, guard height = removed height;
* `C04_stale_fin_monotone`, `C04_stale_finalized_prefix_stable`, `C04_stale_finalize_events_chain`: the C04
  invariants over every operation list that also contains `deleteBlock` calls with arbitrary arguments
  (hypotheses: no state diff above the tip in the database the history starts from (`BaseClean`), and the
  application does not answer a revert request for a height strictly between the finalized height and the tip
  height; what happens with an application that reverts whatever it is asked is the observation
  `C04_stale_lenient_reverts_wrong_diff`);
* `C04_stale_guard_arg_action_tip_counterexample`: the variant "guard on the argument, action on the tip" removes
  the finalized block on a duplicate delete request, the unchanged function refuses the same request;
* tie A (`Gen/DeleteArg.lean`, regenerated by tools/delarggen on every run): the finalized guard compares
  `deletingBlock.Header.Height`; every expression of the function that is derived from a block value is derived
  from the SAME variable as the guard, or the function first checks that the argument is the tip
  (`C04_stale_gen_roles_one_variable`); every call site passes a block read with `chain.LastBlock()` in the
  statement before (`C04_stale_gen_callers_pass_tip`).
-/
import LiskVerif.Props.C04_More
import LiskVerif.Gen.DeleteArg

open LiskVerif LiskVerif.Node
open LiskVerif.DiffDB (Store KV CV Cache Diff slookup sset sdel revertDiff)

namespace LiskVerif.Node

/-! ### `deleteBlock` with an arbitrary argument: refused, or the tip is removed -/

/-- an application that refuses: an error, nothing changed -/
theorem deleteCore_app_refused {cd : Codecs} {cfg : Cfg} {s : St} {g r : Nat} {e : Block} {st : Bool} :
    deleteCore cd cfg s g r e st false = (s, .err) := by
  rcases deleteCore_cases cd cfg s g r st false with ⟨res, hres, he⟩ | ⟨_, _, _, _, _, _, _, _, _, _, hok, _⟩
  · rcases hres with rfl | ⟨_, hok⟩
    · exact he e
    · cases hok
  · cases hok

/-- **`deleteBlock`, called with any argument and any application**, on a refined state: it refuses before
anything is written, or every test passed on the ARGUMENT's height, which is then not above the tip (previous
header and state diff are looked up at the argument's height, and no state diff is stored above the tip), and the
tip is removed. -/
theorem deleteBlockArg_cases {cd : Codecs} {cfg : Cfg} {base : Store} {baseH : Nat}
    (hclean : BaseClean base baseH) {s : St} {c : Chain} (hR : Ref cd base baseH s c)
    (arg : Block) (st ok : Bool) (hlt : arg.hdr.height < u32) :
    (∃ res, (res = .err ∨ res = .panic) ∧ deleteBlockArg cd cfg s arg st ok = (s, res)) ∨
    ∃ fin bytes d tip rest, s.cache = tip :: rest ∧ finOf s.db = some fin ∧ fin < arg.hdr.height ∧
      arg.hdr.height ≤ tip.hdr.height ∧ ok = true ∧ slookup s.db (kDiff arg.hdr.height) = some bytes ∧
      cd.decDiff bytes = some d ∧
      deleteBlockArg cd cfg s arg st ok = deleteDone cd cfg s d arg.hdr.height arg tip rest st := by
  unfold deleteBlockArg
  rcases deleteCore_cases cd cfg s arg.hdr.height arg.hdr.height st ok with
    ⟨res, hres, he⟩ | ⟨fin, bytes, d, tip, rest, hf, hlt2, _, hl, hd, hok, hc, _, he⟩
  · exact Or.inl ⟨res, hres.imp_right And.left, he arg⟩
  · refine Or.inr ⟨fin, bytes, d, tip, rest, hc, hf, hlt2, ?_, hok, hl, hd, he arg⟩
    have htip : tip.hdr.height = tipH baseH c := hR.cache.head tip (by rw [hc]; rfl)
    rcases Nat.lt_or_ge tip.hdr.height arg.hdr.height with hgt | hge
    · rw [hR.db.agree fin hf _ (kDiff_not_vol hlt (by omega)),
        spec_diff_above_tip hclean hR.db.wf (by omega) hlt] at hl
      cases hl
    · exact hge

/-! ### operation lists with arbitrary `deleteBlock` arguments -/

/-- the chain after an operation (ghost state, as `stepC`) -/
def stepCS (cd : Codecs) (cfg : Cfg) (slot : Slot) (s : St) (c : Chain) : OpS → Chain
  | .op o => stepC cd cfg slot s c o
  | .deleteArg arg st ok =>
    if (deleteBlockArg cd cfg s arg st ok).2 = .ok ∨ (deleteBlockArg cd cfg s arg st ok).2 = .errWritten
    then c.tail else c

/-- whenever `deleteBlock`, called with any argument and any application, removes a block: the state diff it
found is stored at a height that is not above the tip -/
theorem stale_removed_le_tip {cd : Codecs} {cfg : Cfg} {base : Store} {baseH : Nat}
    (hclean : BaseClean base baseH) {s : St} {c : Chain} (hR : Ref cd base baseH s c)
    {arg : Block} {st ok : Bool} (hlt : arg.hdr.height < u32) {s' : St} {res : Res}
    (h : deleteBlockArg cd cfg s arg st ok = (s', res)) (hrem : res = .ok ∨ res = .errWritten) :
    ∃ tip rest fin, s.cache = tip :: rest ∧ finOf s.db = some fin ∧
      fin < arg.hdr.height ∧ arg.hdr.height ≤ tip.hdr.height ∧ ok = true := by
  rcases deleteBlockArg_cases (cfg := cfg) hclean hR arg st ok hlt with
    ⟨res', hr, he⟩ | ⟨fin, _, _, tip, rest, hc, hf, h1, h2, hok, _⟩
  · obtain ⟨-, rfl⟩ := Prod.mk.inj (he.symm.trans h)
    exact absurd hrem (Res.not_removed hr)
  · exact ⟨tip, rest, fin, hc, hf, h1, h2, hok⟩

/-- hypotheses on the inputs of one operation. For a `deleteBlock` call with an arbitrary argument: its height is
a `uint32`, and the application does not answer (`ok = true` is excluded for) a revert request for a height strictly
between the finalized height and the height of the tip — it refuses to revert a block of the chain that is not its
newest block (the mock application of the harness compares height and state root; `ok` is recorded from the real
run). Nothing else is assumed about the argument: it may be a block removed earlier, a block of another branch at
the height of the tip, a fabricated block above the tip, the finalized block, a block below it. -/
def OpSOK (cd : Codecs) (cfg : Cfg) (slot : Slot) (base : Store) (s : St) (c : Chain) : OpS → Prop
  | .op o => OpOK cd cfg slot base s c o
  | .deleteArg arg _ ok => arg.hdr.height < u32 ∧
      (ok = true → ∀ tip fin, s.cache.head? = some tip → finOf s.db = some fin →
        fin < arg.hdr.height → arg.hdr.height < tip.hdr.height → False)

/-- an application that answers is asked for the height of the tip -/
theorem OpSOK.arg_at_tip {cd : Codecs} {cfg : Cfg} {slot : Slot} {base : Store} {s : St} {c : Chain} {arg tip : Block}
    {rest : List Block} {st ok : Bool} {fin : Nat} (hok : OpSOK cd cfg slot base s c (.deleteArg arg st ok))
    (hokt : ok = true) (hc : s.cache = tip :: rest) (hf : finOf s.db = some fin) (h1 : fin < arg.hdr.height)
    (h2 : arg.hdr.height ≤ tip.hdr.height) : arg.hdr.height = tip.hdr.height := by
  rcases Nat.lt_or_ge arg.hdr.height tip.hdr.height with hlow | hge
  · exact (hok.2 hokt tip fin (by rw [hc]; rfl) hf h1 hlow).elim
  · omega

/-- `deleteBlock` called with any block as argument is a transition between refined states (`Trans`): it refuses and
changes nothing, or removes the tip -/
theorem trans_stale {cd : Codecs} {cfg : Cfg} {slot : Slot} {base : Store} {baseH : Nat} {s : St} {c : Chain}
    (hbase : BaseOK cd base baseH) (hclean : BaseClean base baseH) (hR : Ref cd base baseH s c)
    (arg : Block) (st ok : Bool) (hok : OpSOK cd cfg slot base s c (.deleteArg arg st ok)) :
    Trans cd base baseH s c (deleteBlockArg cd cfg s arg st ok).1
      (stepCS cd cfg slot s c (.deleteArg arg st ok)) := by
  simp only [stepCS]
  rcases deleteBlockArg_cases (cfg := cfg) hclean hR arg st ok hok.1 with
    ⟨res, hr, he⟩ | ⟨fin, bytes, d, tip, rest, hc, hf, h1, h2, hokt, hl, hd, he⟩
  · rw [he]
    have hno : ¬ (res = .ok ∨ res = .errWritten) := Res.not_removed hr
    simp only [hno, if_false]
    exact trans_refl hR
  · -- the application answered, so the argument is at the height of the tip: the tip's own removal,
    -- with the argument named in the event
    have hh : arg.hdr.height = tip.hdr.height := hok.arg_at_tip hokt hc hf h1 h2
    rw [he, hh]
    rw [hh] at h1 hl
    cases hdd : deleteDone cd cfg s d tip.hdr.height arg tip rest st with
    | mk s' res =>
      obtain ⟨x, c', rfl, hR', hfin, _, hlog⟩ := ref_deleteDone hbase hR hc hf h1 hl hd hdd
      have hres : res = .ok ∨ res = .errWritten := (deleteDone_inv hdd).2.imp And.left And.left
      simp only [hres, if_true, List.tail_cons]
      exact trans_removed hbase hR hf h1 hR' hfin hlog (by split <;> rfl)

/-- one operation of a history with stale `deleteBlock` calls is a transition between refined states -/
theorem trans_stepS {cd : Codecs} {cfg : Cfg} {slot : Slot} {base : Store} {baseH : Nat} {s : St}
    {c : Chain} (hbase : BaseOK cd base baseH) (hclean : BaseClean base baseH) (hR : Ref cd base baseH s c)
    (op : OpS) (hok : OpSOK cd cfg slot base s c op) :
    Trans cd base baseH s c (stepS cd cfg slot s op) (stepCS cd cfg slot s c op) := by
  cases op with
  | op o => exact trans_step hbase hR o hok
  | deleteArg arg st ok => exact trans_stale hbase hclean hR arg st ok hok

/-- the ghost chain along an operation sequence with stale `deleteBlock` calls -/
def runCS (cd : Codecs) (cfg : Cfg) (slot : Slot) : St → Chain → List OpS → Chain
  | _, c, [] => c
  | s, c, op :: r => runCS cd cfg slot (stepS cd cfg slot s op) (stepCS cd cfg slot s c op) r

/-- the hypotheses `OpSOK` along an operation sequence -/
def RunSOK (cd : Codecs) (cfg : Cfg) (slot : Slot) (base : Store) : St → Chain → List OpS → Prop
  | _, _, [] => True
  | s, c, op :: r =>
    OpSOK cd cfg slot base s c op ∧
      RunSOK cd cfg slot base (stepS cd cfg slot s op) (stepCS cd cfg slot s c op) r

/-- `runS` at a first operation -/
theorem runS_cons (cd : Codecs) (cfg : Cfg) (slot : Slot) (s : St) (op : OpS) (r : List OpS) :
    runS cd cfg slot s (op :: r) = runS cd cfg slot (stepS cd cfg slot s op) r := rfl

/-- a history with stale `deleteBlock` calls is a transition between refined states -/
theorem trans_runS {cd : Codecs} {cfg : Cfg} {slot : Slot} {base : Store} {baseH : Nat}
    (hbase : BaseOK cd base baseH) (hclean : BaseClean base baseH) : ∀ (ops : List OpS) (s : St) (c : Chain),
    Ref cd base baseH s c → RunSOK cd cfg slot base s c ops →
    Trans cd base baseH s c (runS cd cfg slot s ops) (runCS cd cfg slot s c ops) := by
  intro ops
  induction ops with
  | nil => intro s c hR _; exact trans_refl hR
  | cons op r ih =>
    intro s c hR hok
    have h1 := trans_stepS (cfg := cfg) (slot := slot) hbase hclean hR op hok.1
    rw [runS_cons]
    exact trans_trans h1 (ih _ _ h1.ref hok.2)

/-- `runS` and `RunSOK` at a concatenation -/
theorem runS_append (cd : Codecs) (cfg : Cfg) (slot : Slot) (s : St) (a b : List OpS) :
    runS cd cfg slot s (a ++ b) = runS cd cfg slot (runS cd cfg slot s a) b := by
  unfold runS; rw [List.foldl_append]

theorem runSOK_append (cd : Codecs) (cfg : Cfg) (slot : Slot) (base : Store) :
    ∀ (a b : List OpS) (s : St) (c : Chain), RunSOK cd cfg slot base s c (a ++ b) →
      RunSOK cd cfg slot base s c a ∧
      RunSOK cd cfg slot base (runS cd cfg slot s a) (runCS cd cfg slot s c a) b := by
  intro a
  induction a with
  | nil => intro b s c h; exact ⟨trivial, h⟩
  | cons op r ih =>
    intro b s c h
    simp only [List.cons_append, RunSOK] at h
    obtain ⟨h1, h2⟩ := ih b _ _ h.2
    exact ⟨⟨h.1, h1⟩, h2⟩

/-- ordinary operation lists are operation lists -/
theorem runS_ops (cd : Codecs) (cfg : Cfg) (slot : Slot) : ∀ (ops : List Op) (s : St),
    runS cd cfg slot s (ops.map OpS.op) = run cd cfg slot s ops := by
  intro ops
  induction ops with
  | nil => intro s; rfl
  | cons o r ih => intro s; simp only [List.map_cons, runS_cons, run_cons, stepS]; exact ih _

end LiskVerif.Node

/-! ## the function -/

/-- **The explicit-argument model is `Node.deleteTip` on the in-contract call**: with the tip as argument (what
every call site passes, `C04_stale_gen_callers_pass_tip`) `deleteBlock` is `deleteTip` — with an application that
answers or refuses. -/
theorem C04_stale_delete_tip_is_deleteTip (cd : Codecs) (cfg : Cfg) (s : St) (tip : Block)
    (rest : List Block) (st ok : Bool) (hc : s.cache = tip :: rest) :
    deleteBlockArg cd cfg s tip st ok = deleteTipA cd cfg s st ok := by
  cases ok with
  | true =>
    unfold deleteBlockArg deleteTipA
    rw [← deleteTip_eq_core st hc]
    rfl
  | false =>
    unfold deleteBlockArg deleteTipA
    rw [deleteCore_app_refused]
    simp only [Bool.false_eq_true, if_false, hc]

/-- **First guard**: an argument at or below the finalized height is refused and nothing changes — whatever the
argument is, whatever the rest of the state looks like. -/
theorem C04_stale_refuses_finalized_argument (cd : Codecs) (cfg : Cfg) (s : St) (arg : Block) (st ok : Bool)
    (fin : Nat) (hf : finOf s.db = some fin) (hle : arg.hdr.height ≤ fin) :
    deleteBlockArg cd cfg s arg st ok = (s, .err) := by
  unfold deleteBlockArg deleteCore
  simp only [hf, hle, if_true]

/-- **The guard covers the block that is removed.** Whenever `deleteBlock`, called with ANY argument (stale,
foreign, fabricated) and ANY application, removes a block, the block removed is the tip and
`finalized height < argument height ≤ tip height`: the height the guard tested is not above the height of the block
removed, so the removed block is not finalized. Reason: previous header and state diff are looked up at the
argument's height, and no state diff is stored above the tip (`deleteBlock` deletes the diff together with the
block; `BaseClean`: the same holds for the database the history started from). -/
theorem C04_stale_guard_covers_removed_block (cd : Codecs) (cfg : Cfg) (base : Store) (baseH : Nat)
    (hclean : BaseClean base baseH) (s : St) (c : Chain) (hR : Ref cd base baseH s c)
    (arg : Block) (st ok : Bool) (hlt : arg.hdr.height < u32) (s' : St) (res : Res)
    (h : deleteBlockArg cd cfg s arg st ok = (s', res)) (hrem : res = .ok ∨ res = .errWritten) :
    ∃ tip rest fin, s.cache = tip :: rest ∧ finOf s.db = some fin ∧
      fin < arg.hdr.height ∧ arg.hdr.height ≤ tip.hdr.height ∧ fin < tip.hdr.height := by
  obtain ⟨tip, rest, fin, hc, hf, h1, h2, _⟩ := stale_removed_le_tip hclean hR hlt h hrem
  exact ⟨tip, rest, fin, hc, hf, h1, h2, by omega⟩

/-- … and with an application that does not revert a block of the chain below its tip, **guard height = removed
height**: the guard was evaluated on the height of the block that is actually removed. -/
theorem C04_stale_guard_height_is_removed_height (cd : Codecs) (cfg : Cfg) (slot : Slot) (base : Store)
    (baseH : Nat) (hclean : BaseClean base baseH) (s : St) (c : Chain) (hR : Ref cd base baseH s c)
    (arg : Block) (st ok : Bool)
    (hok : OpSOK cd cfg slot base s c (.deleteArg arg st ok)) (s' : St) (res : Res)
    (h : deleteBlockArg cd cfg s arg st ok = (s', res)) (hrem : res = .ok ∨ res = .errWritten) :
    ∃ tip rest fin, s.cache = tip :: rest ∧ finOf s.db = some fin ∧
      arg.hdr.height = tip.hdr.height ∧ fin < tip.hdr.height := by
  obtain ⟨tip, rest, fin, hc, hf, h1, h2, hokt⟩ := stale_removed_le_tip hclean hR hok.1 h hrem
  have hh := hok.arg_at_tip hokt hc hf h1 h2
  exact ⟨tip, rest, fin, hc, hf, hh, by omega⟩

/-- **A duplicate delete request is refused**: a request for a block above the tip (the block removed last, at
tip + 1, after a roll-back — also when the tip is the finalized block —, a fabricated block, a block of a longer
branch) changes nothing, with any application. -/
theorem C04_stale_request_above_tip_refused (cd : Codecs) (cfg : Cfg) (base : Store) (baseH : Nat)
    (hclean : BaseClean base baseH) (s : St) (c : Chain) (hR : Ref cd base baseH s c)
    (arg : Block) (st ok : Bool) (hlt : arg.hdr.height < u32) (tip : Block) (rest : List Block)
    (hc : s.cache = tip :: rest) (habove : tip.hdr.height < arg.hdr.height) :
    (deleteBlockArg cd cfg s arg st ok).1 = s := by
  rcases deleteBlockArg_cases (cfg := cfg) hclean hR arg st ok hlt with
    ⟨res, _, he⟩ | ⟨_, _, _, tip', _, hc', _, _, hle, _⟩
  · rw [he]
  · obtain ⟨rfl, -⟩ := List.cons.inj (hc.symm.trans hc')
    omega

/-! ## operation lists -/

/-- **The finalized height never decreases** along any operation list that also contains `deleteBlock` calls
with arbitrary arguments. -/
theorem C04_stale_fin_monotone (cd : Codecs) (cfg : Cfg) (slot : Slot) (base : Store) (baseH : Nat)
    (hbase : BaseOK cd base baseH) (hclean : BaseClean base baseH) (s : St) (c : Chain) (ops : List OpS)
    (hR : Ref cd base baseH s c) (hok : RunSOK cd cfg slot base s c ops) :
    ∃ f f', finOf s.db = some f ∧ finOf (runS cd cfg slot s ops).db = some f' ∧ f ≤ f' :=
  (trans_runS hbase hclean ops s c hR hok).fin_le

/-- **Finalize events are exactly the raises** along such lists: a `deleteBlock` call, whatever its argument,
publishes no finalize event and changes the marker in no way. -/
theorem C04_stale_finalize_events_chain (cd : Codecs) (cfg : Cfg) (slot : Slot) (base : Store) (baseH : Nat)
    (hbase : BaseOK cd base baseH) (hclean : BaseClean base baseH) (s : St) (c : Chain) (ops : List OpS)
    (hR : Ref cd base baseH s c) (hok : RunSOK cd cfg slot base s c ops) :
    ∃ f f' evs, finOf s.db = some f ∧ finOf (runS cd cfg slot s ops).db = some f' ∧
      (runS cd cfg slot s ops).log = evs ++ s.log ∧ IsChain f (finPairs evs) f' :=
  (trans_runS hbase hclean ops s c hR hok).fin

/-- **Finalized blocks are irreversible** along such lists: for every history `a ++ b` and every height `h` at
or below the finalized height reached after `a`, the header (and id) served for `h` is the same after `a ++ b` —
`b` may contain delete requests for blocks removed earlier, blocks of other branches, fabricated blocks, the
finalized block itself, blocks below it. -/
theorem C04_stale_finalized_prefix_stable (cd : Codecs) (cfg : Cfg) (slot : Slot) (base : Store) (baseH : Nat)
    (hbase : BaseOK cd base baseH) (hclean : BaseClean base baseH) (s : St) (c : Chain) (a b : List OpS)
    (hR : Ref cd base baseH s c) (hok : RunSOK cd cfg slot base s c (a ++ b))
    (f : Nat) (hf : finOf (runS cd cfg slot s a).db = some f) (h : Nat) (hle : h ≤ f) :
    headerAt cd (runS cd cfg slot s (a ++ b)) h = headerAt cd (runS cd cfg slot s a) h ∧
    idAt cd (runS cd cfg slot s (a ++ b)) h = idAt cd (runS cd cfg slot s a) h := by
  obtain ⟨ha, hb⟩ := runSOK_append cd cfg slot base a b s c hok
  have hRa := (trans_runS hbase hclean a s c hR ha).ref
  rw [runS_append]
  exact (trans_runS hbase hclean b _ _ hRa hb).served hbase hRa hf hle

/-- the stored finalized height stays at or below the tip height along such lists (tip and marker agree) -/
theorem C04_stale_fin_le_tip (cd : Codecs) (cfg : Cfg) (slot : Slot) (base : Store) (baseH : Nat)
    (hbase : BaseOK cd base baseH) (hclean : BaseClean base baseH) (s : St) (c : Chain) (ops : List OpS)
    (hR : Ref cd base baseH s c) (hok : RunSOK cd cfg slot base s c ops) :
    ∃ f, finOf (runS cd cfg slot s ops).db = some f ∧
      ∀ tip, (runS cd cfg slot s ops).cache.head? = some tip → f ≤ tip.hdr.height := by
  obtain ⟨f, hf, _, _, h⟩ := (trans_runS hbase hclean ops s c hR hok).ref.fin_bounds
  exact ⟨f, hf, h⟩

/-! ## composite callers -/

/-- **The tie-break sequence with a last block that went stale is an operation list**: `deleteBlock(old)` with the
remembered block, then at most two `processValidated`. The statement gives the shape of the list only (at most three
operations, each the `deleteBlock` call or a `processValidated`); the proof builds the list itself, an initial part of the
three calls, which is what the list theorems above apply to. -/
theorem C04_stale_tiebreak_is_run (cd : Codecs) (cfg : Cfg) (slot : Slot) (s : St) (old : Block) (i : Incoming)
    (ok : Bool) :
    ∃ ops : List OpS, (tieBreakArg cd cfg s old i ok).1 = runS cd cfg slot s ops ∧ ops.length ≤ 3 ∧
      ∀ o ∈ ops, o = OpS.deleteArg old false ok ∨ ∃ b v x, o = OpS.op (Op.apply b v x false) := by
  -- the calls made are an initial part of the three calls of the sequence
  let L : List OpS := [.deleteArg old false ok, .op (.apply i.block i.valid i.exec false),
    .op (.apply old i.oldValid i.oldExec false)]
  have hmem : ∀ o ∈ L, o = OpS.deleteArg old false ok ∨ ∃ b v x, o = OpS.op (Op.apply b v x false) := by
    intro o ho
    simp only [L, List.mem_cons, List.not_mem_nil, or_false] at ho
    rcases ho with rfl | rfl | rfl
    · exact Or.inl rfl
    · exact Or.inr ⟨_, _, _, rfl⟩
    · exact Or.inr ⟨_, _, _, rfl⟩
  suffices h : ∃ n, (tieBreakArg cd cfg s old i ok).1 = runS cd cfg slot s (L.take n) by
    obtain ⟨n, h⟩ := h
    exact ⟨_, h, List.length_take_le' n L, fun o ho => hmem o (List.mem_of_mem_take ho)⟩
  unfold tieBreakArg
  cases hd : deleteBlockArg cd cfg s old false ok with
  | mk s1 r1 =>
    have e1 : runS cd cfg slot s (L.take 1) = s1 := by simp [L, runS, stepS, hd]
    cases r1 with
    | ok =>
      simp only
      cases ha : apply cd cfg s1 i.block i.valid i.exec false with
      | mk s2 r2 =>
        have e2 : runS cd cfg slot s (L.take 2) = s2 := by simp [L, runS, stepS, step, hd, ha]
        cases r2 with
        | ok => exact ⟨2, e2.symm⟩
        | _ =>
          refine ⟨3, ?_⟩
          simp only
          cases ha3 : apply cd cfg s2 old i.oldValid i.oldExec false with
          | mk s3 r3 => cases r3 <;> simp [L, runS, stepS, step, hd, ha, ha3]
    | _ => exact ⟨1, e1.symm⟩

/-- the repaired shape refuses every argument that is not the tip before anything else happens … -/
theorem C04_stale_checked_refuses_other_blocks (cd : Codecs) (cfg : Cfg) (s : St) (arg tip : Block)
    (rest : List Block) (st ok : Bool) (hc : s.cache = tip :: rest) (hne : arg.hdr.id ≠ tip.hdr.id) :
    deleteBlockChecked cd cfg s arg st ok = (s, .err) := by
  unfold deleteBlockChecked
  rw [hc]
  simp only [hne, ne_eq, not_false_eq_true, if_true]

/-- … and is `deleteTip` for the tip: with the check in front, guard, reads and removal all concern one block -/
theorem C04_stale_checked_tip_is_deleteTip (cd : Codecs) (cfg : Cfg) (s : St) (arg tip : Block)
    (rest : List Block) (st ok : Bool) (hc : s.cache = tip :: rest) (he : arg.hdr.id = tip.hdr.id) :
    deleteBlockChecked cd cfg s arg st ok = deleteTipA cd cfg s st ok := by
  unfold deleteBlockChecked
  rw [hc]
  simp only [he, ne_eq, not_true_eq_false, if_false]
  exact C04_stale_delete_tip_is_deleteTip cd cfg s tip rest st ok hc

/-! ## counterexamples and observations (concrete states) -/

namespace C04Stale
open LiskVerif.Node.Example

/-- the node of `LiskVerif.Node.Example` after block 1 was applied with a result that precommits height 1: the tip
IS the finalized block (what a roll-back to the common block = finalized block leaves behind) -/
def s1 : St := (apply cd cfg s0 b1 true C04More.xr false).1

def hdr2 : Hdr := { height := 2, generatorAddress := [1], maxHeightGenerated := 0, maxHeightPrevoted := 0,
                    id := [8], previousBlockID := [7], timestamp := 20 }
/-- a block at height 2 that is not on the chain (removed earlier / fabricated) -/
def b2 : Block := { hdr := hdr2, hdrBytes := [2], txs := [], assets := [] }
def ov2 : Cache := [([10, 2], { init := none, value := [6], dirty := false, deleted := false })]
def x2 : Exec := { overlay := ov2, mhpc := 0, events := [] }

/-- two blocks above the finalized height 0 -/
def s2 : St :=
  (apply cd cfg (apply cd cfg s0 b1 true x1 false).1 b2 true x2 false).1

/-- `s1` with a state diff left above the tip (what a request for a chain block below the tip, executed by an
application that does not check, leaves behind) -/
def s1dirty : St := { s1 with db := sset s1.db (kDiff 2) [0] }

end C04Stale

/-- **"Guard on the argument, action on the tip" violates C04** (seeded change C04-16): the tip is the finalized
block 1; a delete request names the block at height 2, which is not on the chain. The variant's guard passes
(2 > 1), previous header, state diff and removal concern the tip: the finalized block is removed, nothing is served
for height 1 any more and the stored finalized height (1) is above the tip (0). The function as written refuses the
same request (no state diff is stored for height 2) and keeps serving the finalized block. -/
theorem C04_stale_guard_arg_action_tip_counterexample :
    finOf C04Stale.s1.db = some 1 ∧ idAt Example.cd C04Stale.s1 1 = some [7] ∧
    (deleteBlockGuardArgActTip Example.cd Example.cfg C04Stale.s1 C04Stale.b2 false true).2 = .ok ∧
    idAt Example.cd (deleteBlockGuardArgActTip Example.cd Example.cfg C04Stale.s1 C04Stale.b2 false true).1 1
      = none ∧
    finOf (deleteBlockGuardArgActTip Example.cd Example.cfg C04Stale.s1 C04Stale.b2 false true).1.db = some 1 ∧
    ((deleteBlockGuardArgActTip Example.cd Example.cfg C04Stale.s1 C04Stale.b2 false true).1.cache.map
      (·.hdr.height)) = [0] ∧
    (deleteBlockArg Example.cd Example.cfg C04Stale.s1 C04Stale.b2 false true).2 = .err ∧
    idAt Example.cd (deleteBlockArg Example.cd Example.cfg C04Stale.s1 C04Stale.b2 false true).1 1 = some [7] := by
  decide +kernel

/-- **Observation (unchanged code, no in-tree caller): a request for a chain block below the tip, executed by an
application that reverts whatever it is asked, reverts the wrong state diff.** Chain 0 ← 1 ← 2, nothing finalized
above 0; `deleteBlock(block 1)`: the guard passes (1 > 0), header 0 and the state diff of height 1 are found, the
application answers — the TIP (block 2) is removed while the state diff of height 1 is reverted and deleted; the
diff of height 2 stays in the database above the new tip, block 1 is the tip without its diff (it can no longer be
removed). The finalized block is untouched (`C04_stale_guard_covers_removed_block`). -/
theorem C04_stale_lenient_reverts_wrong_diff :
    (C04Stale.s2.cache.map (·.hdr.height)) = [2, 1, 0] ∧ finOf C04Stale.s2.db = some 0 ∧
    (deleteBlockArg Example.cd Example.cfg C04Stale.s2 Example.b1 false true).2 = .ok ∧
    ((deleteBlockArg Example.cd Example.cfg C04Stale.s2 Example.b1 false true).1.cache.map (·.hdr.height))
      = [1, 0] ∧
    slookup (deleteBlockArg Example.cd Example.cfg C04Stale.s2 Example.b1 false true).1.db (kDiff 1) = none ∧
    (slookup (deleteBlockArg Example.cd Example.cfg C04Stale.s2 Example.b1 false true).1.db (kDiff 2)).isSome ∧
    (deleteBlockArg Example.cd Example.cfg C04Stale.s2 Example.b1 false false).2 = .err ∧
    idAt Example.cd (deleteBlockArg Example.cd Example.cfg C04Stale.s2 Example.b1 false true).1 0 = some [9] := by
  decide +kernel

/-- **The clean-store hypothesis of `C04_stale_guard_covers_removed_block` is needed**: with a state diff left
above the tip (what the call of the previous observation leaves behind) a request for the block at tip + 1 passes
every test of the unchanged function and `Chain.RemoveBlock` removes the finalized tip. (Not reached on the real
node by the harness: after the first such call the BFT store no longer follows the chain.) -/
theorem C04_stale_clean_store_needed :
    finOf C04Stale.s1dirty.db = some 1 ∧ idAt Example.cd C04Stale.s1dirty 1 = some [7] ∧
    (deleteBlockArg Example.cd Example.cfg C04Stale.s1dirty C04Stale.b2 false true).2 = .ok ∧
    idAt Example.cd (deleteBlockArg Example.cd Example.cfg C04Stale.s1dirty C04Stale.b2 false true).1 1 = none := by
  decide +kernel

/-! ## tie A: the roles of the argument in the source (`Gen/DeleteArg.lean`, regenerated on every run) -/

namespace LiskVerif.DeleteArgFacts
open LiskVerif.Gen.DeleteArg

/-- the function first checks that the argument is the tip: a `tipcheck` (error exit; condition derived from the
block parameter AND a read of the tip) precedes every other use of a block value -/
def tipCheckedFirst (fs : List Fact) : Bool :=
  match fs.filter (·.kind == "tipcheck") with
  | [] => false
  | t :: _ => fs.all fun f => f.blockRoots.isEmpty || decide (t.seq ≤ f.seq)

/-- **the obligation**: every condition and call of the function that is derived from a block value is derived
from the block parameter alone (the variable the finalized guard tests) — or the function first checks that the
argument is the tip -/
def rolesOK (fs : List Fact) (param : String) : Bool :=
  (fs.all fun f => f.blockRoots.isEmpty || f.blockRoots == [param]) || tipCheckedFirst fs

/-- (expression, comparison, block roots, error exit) of the finalized guards -/
def guards (fs : List Fact) : List (String × List String × List String × Bool) :=
  (fs.filter (·.kind == "guard")).map fun f => (f.expr, f.args, f.blockRoots, f.errorExit)

/-- the calls that are derived from a block value, with that value -/
def blockCalls (fs : List Fact) : List (String × List String) :=
  (fs.filter fun f => f.kind == "call" && !f.blockRoots.isEmpty).map fun f => (f.expr, f.blockRoots)

/-- the table of the variant "guard on the argument, action on the tip" (seeded change C04-16), abridged -/
def variantFacts : List Fact := [
  ⟨0, "guard", "deletingBlock.Header.Height <= finalizedHeight", ["deletingBlock.Header.Height", "<=", "finalizedHeight"], ["deletingBlock"], true⟩,
  ⟨1, "call", "c.chain.LastBlock", [], [], false⟩,
  ⟨2, "call", "c.chain.DataAccess().GetBlockHeaderByHeight", ["lastBlock.Header.Height - 1"], ["c.chain.LastBlock()"], false⟩,
  ⟨3, "call", "bytes.FromUint32", ["lastBlock.Header.Height"], ["c.chain.LastBlock()"], false⟩,
  ⟨4, "call", "c.chain.RemoveBlock", ["batch", "saveTemp"], [], false⟩]

/-- the table of the repaired shape: a tip check in front, then anything -/
def checkedFacts : List Fact :=
  ⟨0, "tipcheck", "!bytes.Equal(deletingBlock.Header.ID, c.chain.LastBlock().Header.ID)", [], ["c.chain.LastBlock()", "deletingBlock"], true⟩ ::
    variantFacts.map fun f => { f with seq := f.seq + 1 }

end LiskVerif.DeleteArgFacts

open LiskVerif.Gen.DeleteArg LiskVerif.DeleteArgFacts in
/-- **What the finalized guard of `Executer.deleteBlock` compares**: exactly one guard involves the stored
finalized height; it tests `deletingBlock.Header.Height <= finalizedHeight`, is derived from the block PARAMETER
(second parameter, `*blockchain.Block`) and exits with an error. -/
theorem C04_stale_gen_guard_on_argument :
    target = ("pkg/consensus/execute.go", "Executer.deleteBlock") ∧
    params = [("ctx", "context.Context"), ("deletingBlock", "*blockchain.Block"), ("saveTemp", "bool")] ∧
    blockParam = "deletingBlock" ∧
    guards facts = [("deletingBlock.Header.Height <= finalizedHeight",
      ["deletingBlock.Header.Height", "<=", "finalizedHeight"], ["deletingBlock"], true)] := by
  decide +kernel

open LiskVerif.Gen.DeleteArg LiskVerif.DeleteArgFacts in
/-- **Guard and action concern one block**: every condition and every call of the function that is derived from
a block value — previous header, revert request (`newBlockRevertABI`, `abi.Revert`, `abi.Clear`), state-diff key
(`bytes.Join`, `c.database.Get`, `diff.Decode`, `RevertDiff`, `batch.Del`), messages, the delete event — is derived
from the variable the guard tests, and from no read of the tip; or a tip check comes first. A change that moves
the reads to `chain.LastBlock()` while the guard keeps testing the parameter changes the table and breaks this
theorem (`C04_stale_gen_variant_breaks`). -/
theorem C04_stale_gen_roles_one_variable :
    rolesOK facts blockParam = true ∧
    blockCalls facts = [
      ("fmt.Errorf", ["deletingBlock"]),
      ("c.chain.DataAccess().GetBlockHeaderByHeight", ["deletingBlock"]),
      ("newBlockRevertABI", ["deletingBlock"]),
      ("abi.Clear", ["deletingBlock"]),
      ("c.logger.Debugf", ["deletingBlock"]),
      ("bytes.Join", ["deletingBlock"]),
      ("bytes.FromUint32", ["deletingBlock"]),
      ("c.database.Get", ["deletingBlock"]),
      ("fmt.Errorf", ["deletingBlock"]),
      ("diff.Decode", ["deletingBlock"]),
      ("diffStore.RevertDiff", ["deletingBlock"]),
      ("batch.Del", ["deletingBlock"]),
      ("abi.Revert", ["deletingBlock"]),
      ("c.events.Publish", ["deletingBlock"])] := by
  decide +kernel

open LiskVerif.Gen.DeleteArg in
/-- `Chain.RemoveBlock` is given no block (it removes the tip of the block cache): that the block removed is the
block the guard tested is NOT established inside `deleteBlock` — it is established by the call sites
(`C04_stale_gen_callers_pass_tip`) and, for any other argument, by `C04_stale_guard_covers_removed_block`. -/
theorem C04_stale_gen_remove_takes_no_block :
    (facts.filter fun f => f.expr == "c.chain.RemoveBlock").map (fun f => (f.args, f.blockRoots)) =
      [(["batch", "saveTemp"], [])] := by
  decide +kernel

open LiskVerif.Gen.DeleteArg in
/-- **Every in-tree caller passes the current tip**: `deleteBlock` / the synchronisers' `reverter` (the field
`Executer.Init` stores `c.deleteBlock` in, `C04_single_writer_*`) are called at exactly three sites; at each the
block argument is the local `lastBlock`, defined by `<receiver>.chain.LastBlock()` with NO call between that
definition and the call site and inside the same loop iteration (`loops = 0`: the value is read again for every
call, not once before the loop) — and `process` runs on the single writer goroutine, so nothing moves the tip in
between. -/
theorem C04_stale_gen_callers_pass_tip :
    callers.map (fun c => (c.fn, c.callee, c.args, c.blockArgDef, c.between, c.loops)) = [
      ("Executer.process", "c.deleteBlock", ["ctx.ctx", "lastBlock", "false"], "c.chain.LastBlock()", [], 0),
      ("blockSyncer.deleteTillCommonBlock", "s.reverter", ["ctx.Ctx", "lastBlock", "true"], "s.chain.LastBlock()", [], 0),
      ("fastSyncer.deleteTillCommonBlock", "s.reverter", ["ctx.Ctx", "lastBlock", "saveTemp"], "s.chain.LastBlock()", [], 0)] := by
  decide +kernel

open LiskVerif.DeleteArgFacts in
/-- the obligation rejects the table of the variant "guard on the argument, action on the tip" and accepts the
repaired shape with a tip check in front -/
theorem C04_stale_gen_variant_breaks :
    rolesOK variantFacts "deletingBlock" = false ∧ rolesOK checkedFacts "deletingBlock" = true := by
  decide +kernel

/-! ## non-vacuity -/

namespace C04Stale
open LiskVerif.Node.Example

theorem baseClean : BaseClean base 0 := by
  refine ⟨?_, ?_, ?_, ?_⟩
  · intro h _; simp [base, slookup, kDiff, kFin, kHeight, kHeader]
  · intro h _; simp [base, slookup, kEvents, kFin, kHeight, kHeader]
  · intro id v h; simp [base, slookup, kTxs, kFin, kHeight, kHeader] at h
  · intro id v h; simp [base, slookup, kAssets, kFin, kHeight, kHeader] at h

/-- apply block 1 (marker 0 → 1: the tip is the finalized block); a duplicate request for a block above the tip
to an application that would answer; a request for the finalized tip itself (application refusing); a request for
the genesis block; a restart; the duplicate again -/
def opsA : List OpS := [.op (.apply b1 true C04More.xr false)]
def opsB : List OpS :=
  [.deleteArg b2 false true, .deleteArg b1 true false, .deleteArg g false true, .op .restart,
   .deleteArg b2 true true]

def sA : St := stepS cd cfg slot s0 (.op (.apply b1 true C04More.xr false))
def sE : St := stepS cd cfg slot (stepS cd cfg slot (stepS cd cfg slot (stepS cd cfg slot sA
  (.deleteArg b2 false true)) (.deleteArg b1 true false)) (.deleteArg g false true)) (.op .restart)

theorem headA : sA.cache.head? = some b1 := by decide +kernel
theorem headE : sE.cache.head? = some b1 := by decide +kernel

theorem runSOK : RunSOK cd cfg slot base s0 [] (opsA ++ opsB) := by
  refine ⟨fun _ => C04More.stepR, ⟨by decide, ?_⟩, ⟨by decide, fun h => by cases h⟩, ⟨by decide, ?_⟩, trivial,
    ⟨by decide, ?_⟩, trivial⟩
  · intro _ tip fin ht _ _ h2
    have ht' : sA.cache.head? = some tip := ht
    rw [headA] at ht'
    obtain rfl := Option.some.inj ht'
    exact absurd h2 (by decide)
  · intro _ tip fin _ _ h1 _
    exact Nat.not_lt_zero _ h1
  · intro _ tip fin ht _ _ h2
    have ht' : sE.cache.head? = some tip := ht
    rw [headE] at ht'
    obtain rfl := Option.some.inj ht'
    exact absurd h2 (by decide)

end C04Stale

example : ∃ f f', finOf Example.s0.db = some f ∧
    finOf (runS Example.cd Example.cfg Example.slot Example.s0 (C04Stale.opsA ++ C04Stale.opsB)).db = some f' ∧
    f ≤ f' :=
  C04_stale_fin_monotone _ _ _ _ _ Example.baseOK C04Stale.baseClean _ _ _ Example.ref0 C04Stale.runSOK

example : idAt Example.cd (runS Example.cd Example.cfg Example.slot Example.s0 (C04Stale.opsA ++ C04Stale.opsB)) 1 =
    idAt Example.cd (runS Example.cd Example.cfg Example.slot Example.s0 C04Stale.opsA) 1 :=
  (C04_stale_finalized_prefix_stable _ _ _ _ _ Example.baseOK C04Stale.baseClean _ _ C04Stale.opsA C04Stale.opsB
    Example.ref0 C04Stale.runSOK 1 (by decide +kernel) 1 (Nat.le_refl _)).2

/-- the history really contains the finalized tip and refused requests: marker 1, block 1 served, one new-block and
one finalize event, no delete event -/
example : finOf (runS Example.cd Example.cfg Example.slot Example.s0 (C04Stale.opsA ++ C04Stale.opsB)).db = some 1 ∧
    idAt Example.cd (runS Example.cd Example.cfg Example.slot Example.s0 (C04Stale.opsA ++ C04Stale.opsB)) 1
      = some [7] ∧
    (runS Example.cd Example.cfg Example.slot Example.s0 (C04Stale.opsA ++ C04Stale.opsB)).log =
      [Ev.new [7] 1, Ev.finalize 0 1 [7]] := by
  decide +kernel

/-- a request that removes a block: the tip as argument (the in-contract call) on the two-block chain -/
example : (deleteBlockArg Example.cd Example.cfg C04Stale.s2 C04Stale.b2 true true).2 = .ok ∧
    ((deleteBlockArg Example.cd Example.cfg C04Stale.s2 C04Stale.b2 true true).1.cache.map (·.hdr.height)) = [1, 0] ∧
    (deleteBlockArg Example.cd Example.cfg C04Stale.s2 C04Stale.b2 true true).1.log.head? =
      some (Ev.delete [8] 2) := by
  decide +kernel

/-- a block of another branch at the height of the tip: the tip is removed correctly, the event names the argument -/
example : (deleteBlockArg Example.cd Example.cfg C04Stale.s2 { C04Stale.b2 with hdr := { C04Stale.hdr2 with id := [66] } }
      false true).1.log.head? = some (Ev.delete [66] 2) ∧
    ((deleteBlockArg Example.cd Example.cfg C04Stale.s2 { C04Stale.b2 with hdr := { C04Stale.hdr2 with id := [66] } }
      false true).1.cache.map (·.hdr.height)) = [1, 0] := by
  decide +kernel
