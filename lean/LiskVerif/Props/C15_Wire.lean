/-
C15 — the generator is wired to the node's own consensus, pool and chain, gets the generator database the
engine opened, and starts forging only after its stored information was loaded (tie A, table described in
Props/C13_Wire.lean).
-/
import LiskVerif.Lemmas.WireStart

open LiskVerif LiskVerif.Wire

theorem C15_wire_generator_params :
    fieldsOf "Engine.init" "generator.GeneratorParams" = ["ABI", "Consensus", "Pool", "Chain"] ∧
    wired "Engine.init" "generator.GeneratorParams" "Pool" "e.transactionPool" = true ∧
    wired "Engine.init" "generator.GeneratorParams" "Consensus" "e.consensusExec" = true ∧
    wired "NewGenerator" "Generator" "consensus" "params.Consensus" = true ∧
    wired "NewGenerator" "Generator" "pool" "params.Pool" = true ∧
    wired "NewGenerator" "Generator" "chain" "params.Chain" = true ∧
    wired "NewGenerator" "Generator" "abi" "params.ABI" = true := by decide +kernel

theorem C15_wire_generator_databases :
    wired "Engine.Start" "generator.GeneratorInitParams" "GeneratorDB" "e.generatorDB" = true ∧
    wired "Engine.Start" "generator.GeneratorInitParams" "BlockchainDB" "e.blockchainDB" = true ∧
    wired "Engine.Start" "generator.GeneratorInitParams" "Cfg" "e.config" = true ∧
    wired "Engine.Start" "recv" "generatorDB" "generatorDB" = true ∧
    wired "Generator.Init" "recv" "generatorDB" "params.GeneratorDB" = true ∧
    wired "Generator.Init" "recv" "blockchainDB" "params.BlockchainDB" = true := by decide +kernel

/-- the forging loop is started after `Generator.Init` loaded the keys and the stored generator info,
and after consensus is initialised -/
theorem C15_wire_forge_after_load :
    before "Engine.Start" "e.consensusExec.Init" "e.generator.Init" = true ∧
    allAsyncAfter "Engine.Start" "e.generator.Init" = true ∧
    before "Generator.Init" "g.saveGeneratorsFromFile" "g.loadGenerator" = true :=
  -- positions 6, 8 of `Wire.engineStart_path`: `e.consensusExec.Init`, `e.generator.Init`
  ⟨engineStart_path.1.before 6 8, engineStart_path.2, by decide +kernel⟩
