/-
C19 — tie A for the sync context: WHERE the fields of the `sync.SyncContext` handed to the
synchronisers come from, regenerated from the source on every run.

tools/syncpathgen (`-ctxout`) lists the assignments, composite-literal fields and returns of
`Executer.createSyncContext` and `Executer.process` (pkg/consensus/execute.go) in program order into
Gen/SyncCtxSrc.lean, plus every function of pkg/consensus and pkg/consensus/sync that builds a `SyncContext` and
every later write to its `FinalizedBlockHeader` / `CurrentValidators`.  The obligations below are decided by
kernel evaluation of that table; they break when

* the finalized header is no longer read at `DataAccess.GetFinalizedHeight()` through
  `GetBlockHeaderByHeight` (`C19_gen_ctx_finalized_header_read_at_stored_height`, `C19_gen_ctx_source_is_marker`:
  the source expression, mapped to the `FinSrc` of Model/SyncCtx.lean, is `FinSrc.marker` — the source the model
  driver runs and the theorems of Props/C19_Context.lean are about; the seeded change C19-17 maps to
  `FinSrc.bftStore`, for which `C19_ctx_bft_store_source_counterexample` is the failing behaviour);
* the height variable is assigned more than once or under a condition, the validators stop being those of the BFT
  parameters at `tip + 1`, the block / peer are not the received ones, a field is added
  (`C19_gen_ctx_validators`, `C19_gen_ctx_block_and_peer`, `C19_gen_ctx_fields_exact`);
* a second constructor of the context or a later field write appears (`C19_gen_ctx_single_constructor`), or
  `Executer.process` hands something else to `Syncer.Sync` (`C19_gen_ctx_process_hands_it_on`);
* the fast synchroniser's ban check stops reading the context's finalized header
  (`C19_gen_ctx_fast_check_reads_context`, on Gen/SyncPaths.lean).
-/
import LiskVerif.Gen.SyncCtxSrc
import LiskVerif.Gen.SyncPaths
import LiskVerif.Model.SyncCtx

open LiskVerif LiskVerif.Gen.SyncPaths LiskVerif.Gen.SyncCtxSrc

namespace C19CtxGen

/-- the assignments to a name, in program order -/
def assigns (f : Fn) (v : String) : List Item := f.items.filter (fun it => it.kind == "assign" && it.dst == v)

/-- the defining expression of a name that is assigned exactly once, outside every branch / loop -/
def defOf (f : Fn) (v : String) : Option String :=
  match assigns f v with
  | [it] => if it.ctx.isEmpty then some it.subj else none
  | _ => none

/-- the value given to a field of a composite literal (`none`: not exactly one such literal field) -/
def fieldOf (f : Fn) (fld : String) : Option String :=
  match f.items.filter (fun it => it.kind == "field" && it.dst == fld) with
  | [it] => if it.ctx.isEmpty then some it.subj else none
  | _ => none

/-- the candidate sources of a finalized height as expressions of `createSyncContext` -/
def srcOf : String → Option SyncCtx.FinSrc
  | "self.chain.DataAccess().GetFinalizedHeight()#0" => some .marker
  | "self.liskBFT.API().GetBFTHeights(diffStore)#1" => some .bftStore
  | _ => none

def cs : Fn := Executer_createSyncContext

end C19CtxGen

open C19CtxGen

/-- **The finalized header of the sync context is read at the stored finalized height**: the field is the local
`header`, which is `GetBlockHeaderByHeight(finalizedHeight)`, and `finalizedHeight` is assigned exactly once,
unconditionally, from `DataAccess.GetFinalizedHeight()`. -/
theorem C19_gen_ctx_finalized_header_read_at_stored_height :
    fieldOf cs "sync.SyncContext.FinalizedBlockHeader" = some "header" ∧
    defOf cs "header" = some "self.chain.DataAccess().GetBlockHeaderByHeight(finalizedHeight)#0" ∧
    defOf cs "finalizedHeight" = some "self.chain.DataAccess().GetFinalizedHeight()#0" := by
  decide +kernel

/-- **The source of the finalized height is the marker** — the `FinSrc` the model driver builds every sync context
from and the theorems of Props/C19_Context.lean are about. -/
theorem C19_gen_ctx_source_is_marker :
    (defOf cs "finalizedHeight").bind srcOf = some SyncCtx.FinSrc.marker := by
  rw [C19_gen_ctx_finalized_header_read_at_stored_height.2.2]
  decide +kernel

/-- the validators are those of the BFT parameters for the height after the tip, one address per validator -/
theorem C19_gen_ctx_validators :
    fieldOf cs "sync.SyncContext.CurrentValidators" = some "currentValidators" ∧
    defOf cs "currentValidators" = some "make([]codec.Lisk32, len(params.Validators()))" ∧
    (assigns cs "currentValidators[i]").map (fun it => (it.subj, it.ctx)) =
      [("validator.Address()", ["range(validator in params.Validators())"])] ∧
    defOf cs "params" =
      some "self.liskBFT.API().GetBFTParameters(diffStore, self.chain.LastBlock().Header.Height + 1)#0" := by
  decide +kernel

/-- block, sender and Go context are those of the received block -/
theorem C19_gen_ctx_block_and_peer :
    fieldOf cs "sync.SyncContext.Block" = some "pCtx.block" ∧
    fieldOf cs "sync.SyncContext.PeerID" = some "pCtx.peerID" ∧
    fieldOf cs "sync.SyncContext.Ctx" = some "pCtx.ctx" := by
  decide +kernel

/-- the context has exactly these five fields, set in one literal, which is what the function returns -/
theorem C19_gen_ctx_fields_exact :
    ((cs.items.filter (fun it => it.kind == "field")).map (·.dst)) =
      ["sync.SyncContext.Ctx", "sync.SyncContext.Block", "sync.SyncContext.PeerID",
       "sync.SyncContext.CurrentValidators", "sync.SyncContext.FinalizedBlockHeader"] ∧
    defOf cs "ctx" = some "&sync.SyncContext{…}" ∧
    (cs.items.getLast?).map (fun it => (it.kind, it.subj, it.dst, it.ctx)) = some ("return", "ctx", "nil", []) := by
  decide +kernel

/-- `createSyncContext` is the only place that builds a `SyncContext`, and nothing rewrites its finalized header or
validators afterwards -/
theorem C19_gen_ctx_single_constructor :
    contextLiterals = ["Executer.createSyncContext"] ∧ contextFieldWrites = [] ∧
    Gen.SyncCtxSrc.fns.map (·.name) = ["Executer.process", "Executer.createSyncContext"] :=
  ⟨rfl, rfl, rfl⟩

/-- `Executer.process` hands exactly this context to `Syncer.Sync`, on the different-chain branch -/
theorem C19_gen_ctx_process_hands_it_on :
    (assigns Executer_process "sContext").map (fun it => (it.subj, it.ctx)) =
      [("self.createSyncContext(ctx)#0", ["if forkChocie.IsDifferentChain()"])] ∧
    (Executer_process.items.filter (fun it => it.subj == "self.syncer.Sync(sContext)")).map (fun it => (it.kind, it.ctx)) =
      [("assign", ["if forkChocie.IsDifferentChain()"])] := by
  decide +kernel

/-- the fast synchroniser compares the common block with the context's finalized header and leaves on that branch -/
theorem C19_gen_ctx_fast_check_reads_context :
    (fastSyncer_Sync.items.filter (fun it =>
      it.ctx == ["if commonBlockHeader.Height < ctx.FinalizedBlockHeader.Height"])).map (fun it => (it.kind, it.subj)) =
      [("return", "false")] := by
  decide +kernel

/-- non-vacuity: the table is not empty and the query functions distinguish the two sources -/
example : 10 ≤ cs.items.length ∧ srcOf "self.liskBFT.API().GetBFTHeights(diffStore)#1" = some SyncCtx.FinSrc.bftStore ∧
    defOf cs "err" = none := by
  decide +kernel
