/-
C18 — degenerate envelopes on the request / response stream protocols.

"Malformed envelopes, unknown procedures ... lead to these penalties; well-formed traffic within the
limits never does."  `Props/C18_Rate.lean` proves the penalty for a message that is ALREADY classified
(`MsgKind.malformed`, or `MsgKind.proc name` with `name` unregistered: `C18_bad_message_banned`).
Here the classification itself is part of the statement: `Model/Envelope.lean` derives the kind of the
bytes a stream delivered with the codec model (`Model/Codec.lean`) over the p2p schemas REGENERATED
from pkg/p2p/message_codec.go (`Gen/Schemas.lean`).

  * `C18_degenerate_envelopes_banned` — for ALL byte strings: whatever the handlers read from a
    request / response stream that does not decode, or decodes to a procedure name without a registered
    handler, bans the sender's IP, closes every connection to the sending peer, reaches no handler and is
    refused by every gate afterwards.
  * `C18_empty_envelope_is_unknown_procedure` — zero bytes decode (for every NFC instance) to the
    envelope with the empty procedure name: every field of the two envelope schemas as regenerated
    (`C18_size_envelope_schemas`) is absent; `C18_empty_stream_banned`: a stream that is closed without a
    single byte is penalised like any other unknown procedure unless a handler is registered for "".
  * `C18_envelope_table` — the table of harness/c18/envelope.go (single bytes, envelopes cut at and
    inside every field, empty / unregistered / almost-registered names, invalid UTF-8, lengths up to
    2^64-1, odd field orders, trailing bytes, the other protocol's envelope), instantiated for the
    procedure "ping": the verdict of every row is the one the model decoder derives
    (kernel evaluation).  The harness checks the rows on
    the real handlers and diffs the real handlers with this model op by op.
  * `C18_stream_reset_no_effect` — a stream the remote resets (the read fails) delivers no envelope:
    nothing changes.  `C18_wellformed_envelope_not_penalised`: on bytes that decode to a procedure name
    `receiveStream` is `receive` of that procedure, so the theorems about `receive` apply.
-/
import LiskVerif.Props.C18_Rate
import LiskVerif.Model.Envelope
import LiskVerif.Gen.Schemas

open LiskVerif LiskVerif.Codec LiskVerif.ConnGater LiskVerif.RateLimit LiskVerif.Envelope

/-- **Degenerate envelopes are penalised.** For every schema table, NFC instance and byte string:
if the bytes read from the stream do not decode, or name a procedure no handler is registered for,
the sender (an address with an IP of non-negative score) is banned, every connection to it is closed,
no handler runs and all gates refuse the IP. -/
theorem C18_degenerate_envelopes_banned (t : Table) (nfc : NFC) (n : Node) (hs : n.g.started = true)
    (remote : Addr) (ip : IP) (hip : remote.ip = some ip) (pid now : Nat) (isReq : Bool) (raw : Bytes)
    (hk : kindOf t nfc isReq raw = .malformed ∨
      ∃ name, kindOf t nfc isReq raw = .proc name ∧ findCounter n.counters name = none)
    (hnonneg : ∀ i, find n.g.peerScore ip = some i → 0 ≤ i.score) (q : Nat) (apid : Option Nat) :
    let n' := receiveStream t nfc n now isReq remote pid (.data raw)
    isBanned n'.g ip = true ∧ (∀ c ∈ n'.conns, c.1 ≠ pid) ∧ n'.handled = n.handled ∧
      inboundAllowed n'.g q ⟨some ip, apid⟩ = false ∧ outboundAllowed n'.g q ⟨some ip, apid⟩ = false :=
  C18_bad_message_banned n hs remote ip hip pid now isReq (kindOf t nfc isReq raw) hk hnonneg q apid

/-- the classification once the envelope schema is found and the bytes decode -/
theorem kindOf_of_decode {t : Table} {nfc : NFC} {isReq : Bool} {raw : Bytes} {s : Schema} {a : Value} {p : Bytes}
    {rest : List Value} (hs : t.find (schemaName isReq) = some s)
    (hd : decode t nfc s raw = .ok (a :: .bytes p :: rest)) : kindOf t nfc isReq raw = .proc (nameOf p) := by
  simp only [kindOf, hs, hd]

/-- the field lists of `p2p.Request` (id, procedure: string; data: bytes) -/
def C18reqFields (st : Bool) : List Field := [⟨1, .string, st⟩, ⟨2, .string, st⟩, ⟨3, .bytes, st⟩]

/-- the field lists of `p2p.responseMsg` (id, procedure: string; data: bytes; error: string) -/
def C18resFields (st : Bool) : List Field := [⟨1, .string, st⟩, ⟨2, .string, st⟩, ⟨3, .bytes, st⟩, ⟨4, .string, st⟩]

/-- the regenerated table contains the two envelope schemas with exactly these field lists -/
theorem C18_size_envelope_schemas :
    (Gen.allSchemas.find "p2p.Request").map (fun s => (s.enc, s.dec, s.decStrict)) =
      some (C18reqFields false, C18reqFields false, C18reqFields true) ∧
    (Gen.allSchemas.find "p2p.responseMsg").map (fun s => (s.enc, s.dec, s.decStrict)) =
      some (C18resFields false, C18resFields false, C18resFields true) := by
  decide +kernel

/-- zero bytes: every field of the envelope is absent, the procedure name is empty -/
theorem C18_empty_envelope_is_unknown_procedure (nfc : NFC) (isReq : Bool) :
    kindOf Gen.allSchemas nfc isReq [] = .proc "" := by
  cases isReq
  · obtain ⟨s, hs, h⟩ := Option.map_eq_some_iff.1 C18_size_envelope_schemas.2
    apply kindOf_of_decode (isReq := false) (p := []) hs
    unfold decode
    rw [(Prod.mk.inj (Prod.mk.inj h).2).1]
    rfl
  · obtain ⟨s, hs, h⟩ := Option.map_eq_some_iff.1 C18_size_envelope_schemas.1
    apply kindOf_of_decode (isReq := true) (p := []) hs
    unfold decode
    rw [(Prod.mk.inj (Prod.mk.inj h).2).1]
    rfl

/-- **A stream closed without a single byte is penalised** (unless a handler is registered for the
empty procedure name). -/
theorem C18_empty_stream_banned (nfc : NFC) (n : Node) (hs : n.g.started = true)
    (hreg : findCounter n.counters "" = none)
    (remote : Addr) (ip : IP) (hip : remote.ip = some ip) (pid now : Nat) (isReq : Bool)
    (hnonneg : ∀ i, find n.g.peerScore ip = some i → 0 ≤ i.score) (q : Nat) (apid : Option Nat) :
    let n' := receiveStream Gen.allSchemas nfc n now isReq remote pid (.data [])
    isBanned n'.g ip = true ∧ (∀ c ∈ n'.conns, c.1 ≠ pid) ∧ n'.handled = n.handled ∧
      inboundAllowed n'.g q ⟨some ip, apid⟩ = false ∧ outboundAllowed n'.g q ⟨some ip, apid⟩ = false :=
  C18_degenerate_envelopes_banned Gen.allSchemas nfc n hs remote ip hip pid now isReq []
    (Or.inr ⟨"", C18_empty_envelope_is_unknown_procedure nfc isReq, hreg⟩) hnonneg q apid

/-- a stream reset by the remote: `io.ReadAll` fails, nothing is decoded, nothing changes -/
theorem C18_stream_reset_no_effect (t : Table) (nfc : NFC) (n : Node) (now : Nat) (isReq : Bool)
    (remote : Addr) (pid : Nat) :
    receiveStream t nfc n now isReq remote pid .readError = n := rfl

/-- bytes that decode to a procedure name, registered or not, are handled as that procedure: `receiveStream` is
`receive` of it (so for a registered one `C18_legal_traffic_never_penalised` / `C18_excess_penalised` apply) -/
theorem C18_wellformed_envelope_not_penalised (t : Table) (nfc : NFC) (n : Node) (now : Nat) (isReq : Bool)
    (remote : Addr) (pid : Nat) (raw : Bytes) (name : String)
    (hk : kindOf t nfc isReq raw = .proc name) :
    receiveStream t nfc n now isReq remote pid (.data raw) = receive n now isReq remote pid (.proc name) := by
  simp [receiveStream, hk]

/-! ## the table of harness/c18/envelope.go, for the registered procedure "ping" -/

inductive C18Verdict | ban | wellFormed
deriving DecidableEq, Repr

/-- verdict of the model for a kind, given the registered procedure names -/
def C18verdictOf (registered : List String) : MsgKind → C18Verdict
  | .malformed => .ban
  | .proc name => if registered.contains name then .wellFormed else .ban

/-- (request protocol?, row name, bytes delivered by the stream, verdict) — id "a1", procedure "ping",
data 01 02 03, error "e"; the rows with fields of several thousand bytes are checked by the harness only -/
def C18envelopeRows : List (Bool × String × Bytes × C18Verdict) := [
  (true, "empty", [], .ban),
  (true, "key-id-only", [0x0a], .ban),
  (true, "key-proc-only", [0x12], .ban),
  (true, "key-data-only", [0x1a], .ban),
  (true, "byte-00", [0x00], .ban),
  (true, "byte-ff", [0xff], .ban),
  (true, "byte-80", [0x80], .ban),
  (true, "len-varint-truncated", [0x0a, 0x80], .ban),
  (true, "len-past-end", [0x0a, 0xff], .ban),
  (true, "len-2^32", [0x0a, 0x80, 0x80, 0x80, 0x80, 0x10, 0x61, 0x62, 0x63], .ban),
  (true, "len-2^63", [0x0a, 0x80, 0x80, 0x80, 0x80, 0x80, 0x80, 0x80, 0x80, 0x80, 0x01, 0x61, 0x62, 0x63], .ban),
  (true, "len-2^64-1", [0x0a, 0xff, 0xff, 0xff, 0xff, 0xff, 0xff, 0xff, 0xff, 0xff, 0x01, 0x61, 0x62, 0x63], .ban),
  (true, "len-varint-11-bytes", [0x0a, 0x80, 0x80, 0x80, 0x80, 0x80, 0x80, 0x80, 0x80, 0x80, 0x80, 0x01, 0x61, 0x62, 0x63], .ban),
  (true, "len-nonminimal", [0x0a, 0x02, 0x61, 0x31, 0x12, 0x84, 0x00, 0x70, 0x69, 0x6e, 0x67, 0x1a, 0x03, 0x01, 0x02, 0x03], .ban),
  (true, "cut-in-id", [0x0a, 0x02], .ban),
  (true, "cut-after-id", [0x0a, 0x02, 0x61, 0x31], .ban),
  (true, "cut-at-proc-key", [0x0a, 0x02, 0x61, 0x31, 0x12], .ban),
  (true, "cut-in-proc", [0x0a, 0x02, 0x61, 0x31, 0x12, 0x04, 0x70, 0x69, 0x6e], .ban),
  (true, "cut-after-proc", [0x0a, 0x02, 0x61, 0x31, 0x12, 0x04, 0x70, 0x69, 0x6e, 0x67], .wellFormed),
  (true, "cut-at-data-key", [0x0a, 0x02, 0x61, 0x31, 0x12, 0x04, 0x70, 0x69, 0x6e, 0x67, 0x1a], .ban),
  (true, "cut-in-data", [0x0a, 0x02, 0x61, 0x31, 0x12, 0x04, 0x70, 0x69, 0x6e, 0x67, 0x1a, 0x03, 0x01, 0x02], .ban),
  (true, "cut-after-data", [0x0a, 0x02, 0x61, 0x31, 0x12, 0x04, 0x70, 0x69, 0x6e, 0x67, 0x1a, 0x03, 0x01, 0x02, 0x03], .wellFormed),
  (true, "cut-at-error-key", [0x0a, 0x02, 0x61, 0x31, 0x12, 0x04, 0x70, 0x69, 0x6e, 0x67, 0x1a, 0x03, 0x01, 0x02, 0x03, 0x22], .wellFormed),
  (true, "cut-in-error", [0x0a, 0x02, 0x61, 0x31, 0x12, 0x04, 0x70, 0x69, 0x6e, 0x67, 0x1a, 0x03, 0x01, 0x02, 0x03, 0x22, 0x01], .wellFormed),
  (true, "proc-empty", [0x0a, 0x02, 0x61, 0x31, 0x12, 0x00, 0x1a, 0x03, 0x01, 0x02, 0x03], .ban),
  (true, "proc-field-absent", [0x0a, 0x02, 0x61, 0x31, 0x1a, 0x03, 0x01, 0x02, 0x03], .ban),
  (true, "proc-unregistered", [0x0a, 0x02, 0x61, 0x31, 0x12, 0x0f, 0x6e, 0x6f, 0x53, 0x75, 0x63, 0x68, 0x50, 0x72, 0x6f, 0x63, 0x65, 0x64, 0x75, 0x72, 0x65, 0x1a, 0x03, 0x01, 0x02, 0x03], .ban),
  (true, "proc-upper-case", [0x0a, 0x02, 0x61, 0x31, 0x12, 0x04, 0x50, 0x49, 0x4e, 0x47, 0x1a, 0x03, 0x01, 0x02, 0x03], .ban),
  (true, "proc-prefix", [0x0a, 0x02, 0x61, 0x31, 0x12, 0x03, 0x70, 0x69, 0x6e, 0x1a, 0x03, 0x01, 0x02, 0x03], .ban),
  (true, "proc-nul-suffix", [0x0a, 0x02, 0x61, 0x31, 0x12, 0x05, 0x70, 0x69, 0x6e, 0x67, 0x00, 0x1a, 0x03, 0x01, 0x02, 0x03], .ban),
  (true, "proc-space-suffix", [0x0a, 0x02, 0x61, 0x31, 0x12, 0x05, 0x70, 0x69, 0x6e, 0x67, 0x20, 0x1a, 0x03, 0x01, 0x02, 0x03], .ban),
  (true, "proc-invalid-utf8", [0x0a, 0x02, 0x61, 0x31, 0x12, 0x02, 0xc3, 0x28, 0x1a, 0x03, 0x01, 0x02, 0x03], .ban),
  (true, "proc-overlong-utf8", [0x0a, 0x02, 0x61, 0x31, 0x12, 0x02, 0xc0, 0xaf, 0x1a, 0x03, 0x01, 0x02, 0x03], .ban),
  (true, "proc-twice-unregistered-last", [0x0a, 0x02, 0x61, 0x31, 0x12, 0x04, 0x70, 0x69, 0x6e, 0x67, 0x12, 0x0f, 0x6e, 0x6f, 0x53, 0x75, 0x63, 0x68, 0x50, 0x72, 0x6f, 0x63, 0x65, 0x64, 0x75, 0x72, 0x65, 0x1a, 0x03, 0x01, 0x02, 0x03], .wellFormed),
  (true, "proc-twice-unregistered-first", [0x0a, 0x02, 0x61, 0x31, 0x12, 0x0f, 0x6e, 0x6f, 0x53, 0x75, 0x63, 0x68, 0x50, 0x72, 0x6f, 0x63, 0x65, 0x64, 0x75, 0x72, 0x65, 0x12, 0x04, 0x70, 0x69, 0x6e, 0x67, 0x1a, 0x03, 0x01, 0x02, 0x03], .ban),
  (true, "proc-wire-type-varint", [0x0a, 0x02, 0x61, 0x31, 0x10, 0x05, 0x1a, 0x03, 0x01, 0x02, 0x03], .ban),
  (true, "id-invalid-utf8", [0x0a, 0x02, 0xc3, 0x28, 0x12, 0x04, 0x70, 0x69, 0x6e, 0x67, 0x1a, 0x03, 0x01, 0x02, 0x03], .ban),
  (true, "id-empty", [0x0a, 0x00, 0x12, 0x04, 0x70, 0x69, 0x6e, 0x67, 0x1a, 0x03, 0x01, 0x02, 0x03], .wellFormed),
  (true, "id-absent", [0x12, 0x04, 0x70, 0x69, 0x6e, 0x67, 0x1a, 0x03, 0x01, 0x02, 0x03], .wellFormed),
  (true, "fields-reversed", [0x1a, 0x03, 0x01, 0x02, 0x03, 0x12, 0x04, 0x70, 0x69, 0x6e, 0x67, 0x0a, 0x02, 0x61, 0x31], .ban),
  (true, "data-before-proc", [0x0a, 0x02, 0x61, 0x31, 0x1a, 0x03, 0x01, 0x02, 0x03, 0x12, 0x04, 0x70, 0x69, 0x6e, 0x67], .ban),
  (true, "trailing-garbage", [0x0a, 0x02, 0x61, 0x31, 0x12, 0x04, 0x70, 0x69, 0x6e, 0x67, 0x1a, 0x03, 0x01, 0x02, 0x03, 0xff, 0xff], .wellFormed),
  (true, "trailing-unknown-field", [0x0a, 0x02, 0x61, 0x31, 0x12, 0x04, 0x70, 0x69, 0x6e, 0x67, 0x1a, 0x03, 0x01, 0x02, 0x03, 0x2a, 0x01, 0x00], .wellFormed),
  (true, "trailing-second-envelope", [0x0a, 0x02, 0x61, 0x31, 0x12, 0x04, 0x70, 0x69, 0x6e, 0x67, 0x1a, 0x03, 0x01, 0x02, 0x03, 0x0a, 0x02, 0x61, 0x31, 0x12, 0x0f, 0x6e, 0x6f, 0x53, 0x75, 0x63, 0x68, 0x50, 0x72, 0x6f, 0x63, 0x65, 0x64, 0x75, 0x72, 0x65, 0x1a, 0x03, 0x01, 0x02, 0x03], .wellFormed),
  (true, "leading-unknown-field", [0x3a, 0x01, 0x01, 0x0a, 0x02, 0x61, 0x31, 0x12, 0x04, 0x70, 0x69, 0x6e, 0x67, 0x1a, 0x03, 0x01, 0x02, 0x03], .ban),
  (true, "request-envelope", [0x0a, 0x02, 0x61, 0x31, 0x12, 0x04, 0x70, 0x69, 0x6e, 0x67, 0x1a, 0x03, 0x01, 0x02, 0x03], .wellFormed),
  (true, "response-envelope-with-error", [0x0a, 0x02, 0x61, 0x31, 0x12, 0x04, 0x70, 0x69, 0x6e, 0x67, 0x1a, 0x03, 0x01, 0x02, 0x03, 0x22, 0x04, 0x62, 0x6f, 0x6f, 0x6d], .wellFormed),
  (true, "response-error-only", [0x0a, 0x02, 0x61, 0x31, 0x12, 0x04, 0x70, 0x69, 0x6e, 0x67, 0x22, 0x04, 0x62, 0x6f, 0x6f, 0x6d], .wellFormed),
  (true, "error-invalid-utf8", [0x0a, 0x02, 0x61, 0x31, 0x12, 0x04, 0x70, 0x69, 0x6e, 0x67, 0x1a, 0x03, 0x01, 0x02, 0x03, 0x22, 0x02, 0xc3, 0x28], .wellFormed),
  (false, "empty", [], .ban),
  (false, "key-id-only", [0x0a], .ban),
  (false, "key-proc-only", [0x12], .ban),
  (false, "key-data-only", [0x1a], .ban),
  (false, "byte-00", [0x00], .ban),
  (false, "byte-ff", [0xff], .ban),
  (false, "byte-80", [0x80], .ban),
  (false, "len-varint-truncated", [0x0a, 0x80], .ban),
  (false, "len-past-end", [0x0a, 0xff], .ban),
  (false, "len-2^32", [0x0a, 0x80, 0x80, 0x80, 0x80, 0x10, 0x61, 0x62, 0x63], .ban),
  (false, "len-2^63", [0x0a, 0x80, 0x80, 0x80, 0x80, 0x80, 0x80, 0x80, 0x80, 0x80, 0x01, 0x61, 0x62, 0x63], .ban),
  (false, "len-2^64-1", [0x0a, 0xff, 0xff, 0xff, 0xff, 0xff, 0xff, 0xff, 0xff, 0xff, 0x01, 0x61, 0x62, 0x63], .ban),
  (false, "len-varint-11-bytes", [0x0a, 0x80, 0x80, 0x80, 0x80, 0x80, 0x80, 0x80, 0x80, 0x80, 0x80, 0x01, 0x61, 0x62, 0x63], .ban),
  (false, "len-nonminimal", [0x0a, 0x02, 0x61, 0x31, 0x12, 0x84, 0x00, 0x70, 0x69, 0x6e, 0x67, 0x1a, 0x03, 0x01, 0x02, 0x03], .ban),
  (false, "cut-in-id", [0x0a, 0x02], .ban),
  (false, "cut-after-id", [0x0a, 0x02, 0x61, 0x31], .ban),
  (false, "cut-at-proc-key", [0x0a, 0x02, 0x61, 0x31, 0x12], .ban),
  (false, "cut-in-proc", [0x0a, 0x02, 0x61, 0x31, 0x12, 0x04, 0x70, 0x69, 0x6e], .ban),
  (false, "cut-after-proc", [0x0a, 0x02, 0x61, 0x31, 0x12, 0x04, 0x70, 0x69, 0x6e, 0x67], .wellFormed),
  (false, "cut-at-data-key", [0x0a, 0x02, 0x61, 0x31, 0x12, 0x04, 0x70, 0x69, 0x6e, 0x67, 0x1a], .ban),
  (false, "cut-in-data", [0x0a, 0x02, 0x61, 0x31, 0x12, 0x04, 0x70, 0x69, 0x6e, 0x67, 0x1a, 0x03, 0x01, 0x02], .ban),
  (false, "cut-after-data", [0x0a, 0x02, 0x61, 0x31, 0x12, 0x04, 0x70, 0x69, 0x6e, 0x67, 0x1a, 0x03, 0x01, 0x02, 0x03], .wellFormed),
  (false, "cut-at-error-key", [0x0a, 0x02, 0x61, 0x31, 0x12, 0x04, 0x70, 0x69, 0x6e, 0x67, 0x1a, 0x03, 0x01, 0x02, 0x03, 0x22], .ban),
  (false, "cut-in-error", [0x0a, 0x02, 0x61, 0x31, 0x12, 0x04, 0x70, 0x69, 0x6e, 0x67, 0x1a, 0x03, 0x01, 0x02, 0x03, 0x22, 0x01], .ban),
  (false, "proc-empty", [0x0a, 0x02, 0x61, 0x31, 0x12, 0x00, 0x1a, 0x03, 0x01, 0x02, 0x03, 0x22, 0x01, 0x65], .ban),
  (false, "proc-field-absent", [0x0a, 0x02, 0x61, 0x31, 0x1a, 0x03, 0x01, 0x02, 0x03], .ban),
  (false, "proc-unregistered", [0x0a, 0x02, 0x61, 0x31, 0x12, 0x0f, 0x6e, 0x6f, 0x53, 0x75, 0x63, 0x68, 0x50, 0x72, 0x6f, 0x63, 0x65, 0x64, 0x75, 0x72, 0x65, 0x1a, 0x03, 0x01, 0x02, 0x03, 0x22, 0x01, 0x65], .ban),
  (false, "proc-upper-case", [0x0a, 0x02, 0x61, 0x31, 0x12, 0x04, 0x50, 0x49, 0x4e, 0x47, 0x1a, 0x03, 0x01, 0x02, 0x03, 0x22, 0x01, 0x65], .ban),
  (false, "proc-prefix", [0x0a, 0x02, 0x61, 0x31, 0x12, 0x03, 0x70, 0x69, 0x6e, 0x1a, 0x03, 0x01, 0x02, 0x03, 0x22, 0x01, 0x65], .ban),
  (false, "proc-nul-suffix", [0x0a, 0x02, 0x61, 0x31, 0x12, 0x05, 0x70, 0x69, 0x6e, 0x67, 0x00, 0x1a, 0x03, 0x01, 0x02, 0x03, 0x22, 0x01, 0x65], .ban),
  (false, "proc-space-suffix", [0x0a, 0x02, 0x61, 0x31, 0x12, 0x05, 0x70, 0x69, 0x6e, 0x67, 0x20, 0x1a, 0x03, 0x01, 0x02, 0x03, 0x22, 0x01, 0x65], .ban),
  (false, "proc-invalid-utf8", [0x0a, 0x02, 0x61, 0x31, 0x12, 0x02, 0xc3, 0x28, 0x1a, 0x03, 0x01, 0x02, 0x03, 0x22, 0x01, 0x65], .ban),
  (false, "proc-overlong-utf8", [0x0a, 0x02, 0x61, 0x31, 0x12, 0x02, 0xc0, 0xaf, 0x1a, 0x03, 0x01, 0x02, 0x03, 0x22, 0x01, 0x65], .ban),
  (false, "proc-twice-unregistered-last", [0x0a, 0x02, 0x61, 0x31, 0x12, 0x04, 0x70, 0x69, 0x6e, 0x67, 0x12, 0x0f, 0x6e, 0x6f, 0x53, 0x75, 0x63, 0x68, 0x50, 0x72, 0x6f, 0x63, 0x65, 0x64, 0x75, 0x72, 0x65, 0x1a, 0x03, 0x01, 0x02, 0x03], .wellFormed),
  (false, "proc-twice-unregistered-first", [0x0a, 0x02, 0x61, 0x31, 0x12, 0x0f, 0x6e, 0x6f, 0x53, 0x75, 0x63, 0x68, 0x50, 0x72, 0x6f, 0x63, 0x65, 0x64, 0x75, 0x72, 0x65, 0x12, 0x04, 0x70, 0x69, 0x6e, 0x67, 0x1a, 0x03, 0x01, 0x02, 0x03], .ban),
  (false, "proc-wire-type-varint", [0x0a, 0x02, 0x61, 0x31, 0x10, 0x05, 0x1a, 0x03, 0x01, 0x02, 0x03], .ban),
  (false, "id-invalid-utf8", [0x0a, 0x02, 0xc3, 0x28, 0x12, 0x04, 0x70, 0x69, 0x6e, 0x67, 0x1a, 0x03, 0x01, 0x02, 0x03], .ban),
  (false, "id-empty", [0x0a, 0x00, 0x12, 0x04, 0x70, 0x69, 0x6e, 0x67, 0x1a, 0x03, 0x01, 0x02, 0x03, 0x22, 0x01, 0x65], .wellFormed),
  (false, "id-absent", [0x12, 0x04, 0x70, 0x69, 0x6e, 0x67, 0x1a, 0x03, 0x01, 0x02, 0x03], .wellFormed),
  (false, "fields-reversed", [0x1a, 0x03, 0x01, 0x02, 0x03, 0x12, 0x04, 0x70, 0x69, 0x6e, 0x67, 0x0a, 0x02, 0x61, 0x31], .ban),
  (false, "data-before-proc", [0x0a, 0x02, 0x61, 0x31, 0x1a, 0x03, 0x01, 0x02, 0x03, 0x12, 0x04, 0x70, 0x69, 0x6e, 0x67], .ban),
  (false, "trailing-garbage", [0x0a, 0x02, 0x61, 0x31, 0x12, 0x04, 0x70, 0x69, 0x6e, 0x67, 0x1a, 0x03, 0x01, 0x02, 0x03, 0x22, 0x01, 0x65, 0xff, 0xff], .wellFormed),
  (false, "trailing-unknown-field", [0x0a, 0x02, 0x61, 0x31, 0x12, 0x04, 0x70, 0x69, 0x6e, 0x67, 0x1a, 0x03, 0x01, 0x02, 0x03, 0x22, 0x01, 0x65, 0x2a, 0x01, 0x00], .wellFormed),
  (false, "trailing-second-envelope", [0x0a, 0x02, 0x61, 0x31, 0x12, 0x04, 0x70, 0x69, 0x6e, 0x67, 0x1a, 0x03, 0x01, 0x02, 0x03, 0x22, 0x01, 0x65, 0x0a, 0x02, 0x61, 0x31, 0x12, 0x0f, 0x6e, 0x6f, 0x53, 0x75, 0x63, 0x68, 0x50, 0x72, 0x6f, 0x63, 0x65, 0x64, 0x75, 0x72, 0x65, 0x1a, 0x03, 0x01, 0x02, 0x03, 0x22, 0x01, 0x65], .wellFormed),
  (false, "leading-unknown-field", [0x3a, 0x01, 0x01, 0x0a, 0x02, 0x61, 0x31, 0x12, 0x04, 0x70, 0x69, 0x6e, 0x67, 0x1a, 0x03, 0x01, 0x02, 0x03, 0x22, 0x01, 0x65], .ban),
  (false, "request-envelope", [0x0a, 0x02, 0x61, 0x31, 0x12, 0x04, 0x70, 0x69, 0x6e, 0x67, 0x1a, 0x03, 0x01, 0x02, 0x03], .wellFormed),
  (false, "response-envelope-with-error", [0x0a, 0x02, 0x61, 0x31, 0x12, 0x04, 0x70, 0x69, 0x6e, 0x67, 0x1a, 0x03, 0x01, 0x02, 0x03, 0x22, 0x04, 0x62, 0x6f, 0x6f, 0x6d], .wellFormed),
  (false, "response-error-only", [0x0a, 0x02, 0x61, 0x31, 0x12, 0x04, 0x70, 0x69, 0x6e, 0x67, 0x22, 0x04, 0x62, 0x6f, 0x6f, 0x6d], .wellFormed),
  (false, "error-invalid-utf8", [0x0a, 0x02, 0x61, 0x31, 0x12, 0x04, 0x70, 0x69, 0x6e, 0x67, 0x1a, 0x03, 0x01, 0x02, 0x03, 0x22, 0x02, 0xc3, 0x28], .ban)
]

/-- every row's verdict is the one the model decoder derives over the regenerated schemas -/
theorem C18_envelope_table :
    C18envelopeRows.all (fun r =>
      decide (C18verdictOf ["ping"] (kindOf Gen.allSchemas asciiNFC r.1 r.2.2.1) = r.2.2.2)) = true := by
  -- the lookups of the two envelope schemas become closed terms, evaluated once for all rows
  simp only [kindOf, schemaName, apply_ite (Table.find Gen.allSchemas)]
  decide +kernel

/-- the table is not vacuous: it holds both verdicts, and the empty stream is a `ban` row -/
example : (C18envelopeRows.filter (fun r => r.2.2.2 == C18Verdict.wellFormed)).length = 25 ∧
    (C18envelopeRows.filter (fun r => r.2.2.2 == C18Verdict.ban)).length = 73 ∧
    C18envelopeRows.contains (true, "empty", [], C18Verdict.ban) = true := by
  decide +kernel
