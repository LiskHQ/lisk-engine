/-
C19 — tie of the height helpers of `Model/Sync.lean` to the Go source: `getHeightWithGap`
(pkg/consensus/sync/block_sync.go), `getLastHeights` (fast_sync.go) and the `from`/`to` heights of
`HandleRPCEndpointGetBlocksFromID` (sync.go) are REGENERATED from the Go source on every run by
tools/fngen (typed translation, `LiskVerif/Gen/Fns2.lean`) with the exact semantics of `uint32`
(wrap modulo 2^32), `int` (two's complement, `Gen.i64`) and the truncating conversion `uint32(int)`.

The two list-building functions have the shape (checked by the translator, any deviation is a
translation error)

    result := []uint32{}
    [if C { result = append(result, X); return result }]
    for i := 0; i < B; i++ { if G { return result }; next := E; result = append(result, next) }
    return result

and are regenerated as `…Pre` (C ↦ X), `…Bound` (B) and `…Step` (G ↦ none, else E). `C19genLoop` is the
loop of that shape; `C19_gen_height_with_gap_eq` / `C19_gen_last_heights_eq` prove that running it with
the regenerated pieces yields exactly `Sync.getHeightWithGap` / `Sync.getLastHeights`, for every
`uint32` start/minimum and all non-negative `int` gap/num (note that `uint32(i*gap)` is exact modulo
2^32 even when the `int` product wraps).
-/
import LiskVerif.Lemmas.Sync
import LiskVerif.Lemmas.GenInt

open LiskVerif LiskVerif.Sync

/-- the loop `for i := 0; i < bound; i++ { if G { return result }; result = append(result, E) }` of
the shape above, started at counter `i` with `fuel` iterations allowed: the elements appended from
there on -/
def C19genLoop (step : Int → Option Nat) (bound : Int) : Nat → Int → List Nat
  | 0, _ => []
  | f + 1, i =>
    if i < bound then
      match step i with
      | none => []
      | some x => x :: C19genLoop step bound f (Gen.i64 (i + 1))
    else []

/-- `getHeightWithGap` assembled from the regenerated pieces -/
def C19genHeightWithGap (start minimum : Nat) (gap num : Int) (fuel : Nat) : List Nat :=
  match Gen.getHeightWithGapPre start minimum gap num with
  | some x => [x]
  | none => C19genLoop (Gen.getHeightWithGapStep start minimum gap num) (Gen.getHeightWithGapBound start minimum gap num) fuel 0

/-- `getLastHeights` assembled from the regenerated pieces -/
def C19genLastHeights (start : Nat) (num : Int) (fuel : Nat) : List Nat :=
  C19genLoop (Gen.getLastHeightsStep start num) (Gen.getLastHeightsBound start num) fuel 0

/-- `start - uint32(p)` on `uint32`s, as the translation writes it -/
private theorem u32sub_u32 {start : Nat} (hs : start < 4294967296) (p : Nat) :
    u32sub start (u32 p) = (start + 4294967296 - p % 4294967296) % 4294967296 := by
  unfold u32sub u32 two32
  rw [Nat.mod_eq_of_lt hs, Nat.mod_mod]

/-- the regenerated loop body of `getHeightWithGap` is the body of `Sync.gapLoop` — for every
non-negative counter and gap, whether or not the `int` product `i*gap` wraps -/
theorem C19_gen_gap_step_eq (start minimum gap i : Nat) (num : Int) (hs : start < 4294967296) :
    Gen.getHeightWithGapStep start minimum (gap : Int) num (i : Int) =
      if start < u32 (minimum + u32 (i * gap)) then none else some (u32sub start (u32 (i * gap))) := by
  rw [u32sub_u32 hs, Gen.getHeightWithGapStep, ← Int.natCast_mul, Gen.toNat_i64_emod32]
  simp only [u32, two32, decide_eq_true_eq]
  rfl

/-- the regenerated loop body of `getLastHeights` is the body of `Sync.lastLoop` -/
theorem C19_gen_last_step_eq (start i : Nat) (num : Int) (hs : start < 4294967296) :
    Gen.getLastHeightsStep start num (i : Int) =
      if start < u32 i then none else some (u32sub start (u32 i)) := by
  rw [u32sub_u32 hs, Gen.getLastHeightsStep, Gen.toNat_emod32]
  simp only [u32, two32, decide_eq_true_eq]
  rfl

/-- the loop of the fixed shape run with any step function that agrees with the body of a model loop
`mloop` (remaining iterations, counter) on the natural counters -/
private theorem genLoop_generic (step : Int → Option Nat) (bound : Int) (mloop : Nat → Nat → List Nat)
    (body : Nat → Option Nat) (h0 : ∀ i, mloop 0 i = [])
    (hS : ∀ k i, mloop (k + 1) i = match body i with | none => [] | some x => x :: mloop k (i + 1))
    (hstep : ∀ i : Nat, step (i : Int) = body i) :
    ∀ (k fuel i : Nat), (bound - i).toNat = k → k ≤ fuel → i + k < 9223372036854775808 →
      C19genLoop step bound fuel (i : Int) = mloop k i := by
  intro k
  induction k with
  | zero =>
    intro fuel i hb _ _
    rw [h0]
    cases fuel with
    | zero => rfl
    | succ f =>
      have : ¬ ((i : Int) < bound) := by omega
      rw [C19genLoop, if_neg this]
  | succ k ih =>
    intro fuel i hb hf hr
    cases fuel with
    | zero => omega
    | succ f =>
      have hlt : (i : Int) < bound := by omega
      have hi : Gen.i64 ((i : Int) + 1) = ((i + 1 : Nat) : Int) := by
        rw [Gen.i64_eq (by omega) (by omega)]; omega
      rw [C19genLoop, if_pos hlt, hS, hstep, hi]
      cases body i with
      | none => rfl
      | some x =>
        show x :: _ = x :: _
        rw [ih f (i + 1) (by omega) (by omega) (by omega)]

/-- **`getHeightWithGap` regenerated from the Go source = `Sync.getHeightWithGap`** for all `uint32`
`start`, `minimum` and all `int` `gap ≥ 0`, `0 ≤ num < 2^63` (given enough fuel for the `num-1`
iterations) -/
theorem C19_gen_height_with_gap_eq (start minimum gap num fuel : Nat) (hs : start < 4294967296)
    (hm : minimum < 4294967296) (hn : num < 9223372036854775808) (hf : num - 1 ≤ fuel) :
    C19genHeightWithGap start minimum (gap : Int) (num : Int) fuel = getHeightWithGap start minimum gap num := by
  unfold C19genHeightWithGap getHeightWithGap Gen.getHeightWithGapPre
  by_cases h : start ≤ minimum
  · simp [h]
  · simp only [h, decide_false, Bool.false_eq_true, ↓reduceIte]
    have hb : Gen.getHeightWithGapBound start minimum (gap : Int) (num : Int) = (num : Int) - 1 := by
      unfold Gen.getHeightWithGapBound
      exact Gen.i64_eq (by omega) (by omega)
    rw [hb]
    exact genLoop_generic _ _ (gapLoop start minimum gap)
      (fun i => if start < u32 (minimum + u32 (i * gap)) then none else some (u32sub start (u32 (i * gap))))
      (fun _ => rfl) (fun k i => by simp only [gapLoop]; split <;> rfl)
      (fun i => C19_gen_gap_step_eq start minimum gap i num hs) (num - 1) fuel 0 (by omega) hf (by omega)

/-- **`getLastHeights` regenerated from the Go source = `Sync.getLastHeights`** -/
theorem C19_gen_last_heights_eq (start num fuel : Nat) (hs : start < 4294967296)
    (hn : num < 9223372036854775808) (hf : num - 1 ≤ fuel) :
    C19genLastHeights start (num : Int) fuel = getLastHeights start num := by
  unfold C19genLastHeights getLastHeights
  have hb : Gen.getLastHeightsBound start (num : Int) = (num : Int) - 1 := by
    unfold Gen.getLastHeightsBound
    exact Gen.i64_eq (by omega) (by omega)
  rw [hb]
  exact genLoop_generic _ _ (lastLoop start) (fun i => if start < u32 i then none else some (u32sub start (u32 i)))
    (fun _ => rfl) (fun k i => by simp only [lastLoop]; split <;> rfl)
    (fun i => C19_gen_last_step_eq start i num hs) (num - 1) fuel 0 (by omega) hf (by omega)

/-! ### HandleRPCEndpointGetBlocksFromID -/

/-- the regenerated `from` and `to` are the model's `h + 1` and `min (h + 103) tip` while `h + 103`
is a `uint32` -/
theorem C19_gen_blocks_from_to_eq (h last : Nat) (hh : h + 103 < 4294967296) :
    Gen.blocksFromIDFrom h = h + 1 ∧ Gen.blocksFromIDTo h last = min (h + maxBlocksPerResponse) last := by
  unfold Gen.blocksFromIDFrom Gen.blocksFromIDTo maxBlocksPerResponse
  constructor
  · omega
  · rw [Nat.mod_eq_of_lt hh]

/-- **`Sync.handleBlocksFromID` with the regenerated heights** -/
theorem C19_gen_handle_blocks_from_id_eq {ι : Type} [DecidableEq ι] (okLen : ι → Bool) (c : List (Blk ι))
    (i : ι) (h : Nat) (hok : okLen i = true) (hh : heightOf c i = some h) (hr : h + 103 < 4294967296) :
    handleBlocksFromID okLen c (some i) =
      .blocks ((c.drop (Gen.blocksFromIDFrom h)).take
        (Gen.blocksFromIDTo h (c.length - 1) + 1 - Gen.blocksFromIDFrom h)) := by
  obtain ⟨h1, h2⟩ := C19_gen_blocks_from_to_eq h (c.length - 1) hr
  rw [h1, h2]
  simp [handleBlocksFromID, hok, hh]

/-- outside the range the `uint32` sum `Height+103` wraps: for a requested block at height
`2^32 - 103` the Go code computes `to = 0 < from` (no blocks) where the model would return the blocks
up to the tip. Needs a chain of more than 2^32 - 103 blocks. -/
theorem C19_gen_blocks_to_wraps :
    Gen.blocksFromIDTo 4294967193 4294967295 = 0 ∧ min (4294967193 + maxBlocksPerResponse) 4294967295 = 4294967295 := by
  decide +kernel

/-! ### non-vacuity -/

example : C19genHeightWithGap 100 10 7 5 10 = [100, 93, 86, 79] ∧ getHeightWithGap 100 10 7 5 = [100, 93, 86, 79] ∧
    C19genHeightWithGap 5 10 7 5 10 = [10] ∧ C19genHeightWithGap 20 10 7 5 10 = [20, 13] ∧
    C19genLastHeights 3 10 20 = [3, 2, 1, 0] ∧ getLastHeights 3 10 = [3, 2, 1, 0] := by decide +kernel

example : Gen.blocksFromIDFrom 7 = 8 ∧ Gen.blocksFromIDTo 7 50 = 50 ∧ Gen.blocksFromIDTo 7 500 = 110 := by decide +kernel
