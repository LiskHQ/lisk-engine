/-
C06 — the last certified height is a function of the CHAIN.

`verifyAggregateCommit` accepts an aggregate commit only "with a height strictly above the last
certified height", and `GetAggregateCommit` starts its search above it.  Both read that height from the
BFT store (`GetBFTHeights().MaxHeightCertified`), which `liskbft.Module.BeforeTransactionsExecute`
(`Model/BFT.lean`, `process`) updates from the aggregate commit of every header it processes.  This file
proves, for the transcription, that the stored value is exactly the certified height the chain carries —
whatever kind of header carried the information:

After EVERY chain of events accepted by the model (headers of voting and non-voting generators, standby generators,
`maxHeightGenerated ≥ height`, any parameter changes in between) `maxHeightCertified` is the height of the newest
non-empty aggregate commit of the chain, the initial value when there is none; so it depends on nothing but the
sequence of aggregate-commit fields. For chains whose non-empty commits are strictly above the height certified
before them — which is what the node enforces (`C06NodeRun`, with `Model/Cert.lean`: every block's aggregate commit
passed `verifyAggregateCommit` in a view whose certified height is the one of the BFT store) — it is the MAXIMUM of the
commit heights and never decreases, the heights of the accepted non-empty commits are strictly increasing, and a
replay, or a commit for a lower height, is rejected whatever header carried the first one. The counterexample: a step
function that returns early for headers that imply no votes and thereby skips the certified-height update (the seeded
change C06-16) violates all of this — a block of a standby generator carries a valid aggregate commit for height 5,
the certified height stays 0 and the very same aggregate commit is accepted again.

The structural fact that the real `BeforeTransactionsExecute` has no such early return is the obligation
`Props/C06_CertifiedGen.lean` on the regenerated skeleton.
-/
import LiskVerif.Props.C02
import LiskVerif.Props.C06
import LiskVerif.Lemmas.BFT

open LiskVerif

/-! ## the certified height carried by a chain -/

/-- the non-empty aggregate commit (its height) an event puts on the chain -/
def C06commitOf : C02Ev → Option Nat
  | .block h => h.commitHeight
  | _ => none

/-- certified height carried by a chain, read from the chain contents alone: the height of the newest
non-empty aggregate commit, `init` (the genesis height) when there is none -/
def C06certified (init : Nat) (evs : List C02Ev) : Nat :=
  evs.foldl (fun c e => (C06commitOf e).getD c) init

/-- largest height of the non-empty aggregate commits of a chain (`init` when there is none) -/
def C06maxCommit (init : Nat) (evs : List C02Ev) : Nat :=
  evs.foldl (fun m e => match C06commitOf e with | some x => max m x | none => m) init

/-- the block events of the chain are accepted by the model one after the other (a rejected parameter
change leaves the state unchanged and is harmless) -/
def C06accepted : BFT.State → List C02Ev → Prop
  | _, [] => True
  | s, e :: r =>
    (match e with
     | .block h => ∃ s', BFT.process s h = .ok s'
     | _ => True) ∧ C06accepted (C02step s e) r

/-- every non-empty aggregate commit of the chain is strictly above the height certified before it -/
def C06increasing : Nat → List C02Ev → Prop
  | _, [] => True
  | c, e :: r => (∀ x, C06commitOf e = some x → c < x) ∧ C06increasing ((C06commitOf e).getD c) r

/-- one accepted event moves `maxHeightCertified` exactly as the event's aggregate-commit field says —
for a header of ANY generator with ANY `maxHeightGenerated` / `maxHeightPrevoted` -/
theorem C06_step_certified (s : BFT.State) (e : C02Ev)
    (hok : match e with
      | .block h => ∃ s', BFT.process s h = .ok s'
      | _ => True) :
    (C02step s e).mhc = (C06commitOf e).getD s.mhc := by
  cases e with
  | block h =>
    obtain ⟨s', hs'⟩ := hok
    simp only [C02step, hs', C06commitOf]
    exact BFT.process_mhc hs'
  | setParams pc ct vs =>
    simp only [C02step, C06commitOf, Option.getD_none]
    cases hsp : BFT.setParams s pc ct vs with
    | error _ => rfl
    | ok s' => exact (BFT.setParams_facts hsp).mhc
  | setKeys g => rfl

/-- **The certified height is a function of the chain.**  After every chain of events accepted by the
model, `maxHeightCertified` is the height of the newest non-empty aggregate commit in the chain (the
initial value when the chain has none) — no matter which generators produced the carrying headers and
whether those headers implied votes. -/
theorem C06_certified_of_chain (s : BFT.State) (evs : List C02Ev) (hacc : C06accepted s evs) :
    (C02run s evs).mhc = C06certified s.mhc evs := by
  induction evs generalizing s with
  | nil => rfl
  | cons e r ih =>
    obtain ⟨hok, hr⟩ := hacc
    have hstep := C06_step_certified s e hok
    simp only [C02run, C06certified, List.foldl_cons] at ih ⊢
    rw [ih (C02step s e) hr, hstep]

/-- the certified height of a chain depends only on the sequence of its aggregate-commit fields -/
theorem C06_certified_depends_on_commits_only (c : Nat) (evs₁ evs₂ : List C02Ev)
    (h : evs₁.map C06commitOf = evs₂.map C06commitOf) : C06certified c evs₁ = C06certified c evs₂ := by
  have key : ∀ (evs : List C02Ev) (c : Nat),
      C06certified c evs = (evs.map C06commitOf).foldl (fun c o => o.getD c) c := by
    intro evs
    induction evs with
    | nil => intro c; rfl
    | cons e r ih => intro c; simp only [C06certified, List.foldl_cons, List.map_cons] at ih ⊢; exact ih _
  rw [key, key, h]

/-- **Independence of the votes.**  Two chains accepted by the model that carry the same aggregate-commit
fields position by position end with the same `maxHeightCertified`, whatever their generators,
`maxHeightGenerated` and `maxHeightPrevoted` values, parameter sets and windows are — in particular a
chain in which the commits travel in headers of standby generators or in headers declaring
`maxHeightGenerated ≥ height`, and the chain in which the same commits travel in voting headers. -/
theorem C06_certified_independent_of_votes (s₁ s₂ : BFT.State) (evs₁ evs₂ : List C02Ev)
    (h0 : s₁.mhc = s₂.mhc) (hc : evs₁.map C06commitOf = evs₂.map C06commitOf)
    (a₁ : C06accepted s₁ evs₁) (a₂ : C06accepted s₂ evs₂) :
    (C02run s₁ evs₁).mhc = (C02run s₂ evs₂).mhc := by
  rw [C06_certified_of_chain s₁ evs₁ a₁, C06_certified_of_chain s₂ evs₂ a₂, h0]
  exact C06_certified_depends_on_commits_only _ _ _ hc

/-- a single header may be replaced by a header of any other generator with any other vote-related
fields: as long as both chains are accepted and the aggregate-commit field is kept, the certified height
after the chain is the same -/
theorem C06_certified_carrier_irrelevant (s : BFT.State) (pre post : List C02Ev) (h h' : BFT.Header)
    (hc : h.commitHeight = h'.commitHeight)
    (a : C06accepted s (pre ++ .block h :: post)) (a' : C06accepted s (pre ++ .block h' :: post)) :
    (C02run s (pre ++ .block h :: post)).mhc = (C02run s (pre ++ .block h' :: post)).mhc := by
  refine C06_certified_independent_of_votes s s _ _ rfl ?_ a a'
  simp only [List.map_append, List.map_cons, C06commitOf, hc]

private theorem C06increasing_le (c : Nat) (evs : List C02Ev) (h : C06increasing c evs) :
    c ≤ C06certified c evs ∧ C06certified c evs = C06maxCommit c evs := by
  induction evs generalizing c with
  | nil => exact ⟨Nat.le_refl _, rfl⟩
  | cons e r ih =>
    obtain ⟨hx, hr⟩ := h
    simp only [C06certified, C06maxCommit, List.foldl_cons] at ih ⊢
    cases hce : C06commitOf e with
    | none =>
      simp only [hce, Option.getD_none] at hr ⊢
      exact ih c hr
    | some x =>
      have hlt : c < x := hx x hce
      simp only [hce, Option.getD_some] at hr ⊢
      have hmax : max c x = x := by omega
      rw [hmax]
      obtain ⟨h1, h2⟩ := ih x hr
      exact ⟨by omega, h2⟩

private theorem C06increasing_append (c : Nat) (a b : List C02Ev) (h : C06increasing c (a ++ b)) :
    C06increasing (C06certified c a) b := by
  induction a generalizing c with
  | nil => exact h
  | cons e r ih =>
    obtain ⟨_, hr⟩ := h
    simp only [C06certified, List.foldl_cons] at ih ⊢
    exact ih _ hr

/-- **Maximum and monotonicity.**  On a chain whose non-empty aggregate commits are each strictly above
the height certified before them, the certified height is the maximum of the commit heights and never
decreases from a prefix of the chain to the whole chain. -/
theorem C06_certified_is_max_and_monotone (s : BFT.State) (a b : List C02Ev)
    (hacc : C06accepted s (a ++ b)) (hinc : C06increasing s.mhc (a ++ b)) :
    (C02run s (a ++ b)).mhc = C06maxCommit s.mhc (a ++ b) ∧
    s.mhc ≤ (C02run s a).mhc ∧ (C02run s a).mhc ≤ (C02run s (a ++ b)).mhc := by
  have hacc_a : C06accepted s a := by
    clear hinc
    induction a generalizing s with
    | nil => trivial
    | cons e r ih => exact ⟨hacc.1, ih _ hacc.2⟩
  have hinc_a : C06increasing s.mhc a := by
    clear hacc hacc_a
    generalize s.mhc = c at hinc
    induction a generalizing c with
    | nil => trivial
    | cons e r ih => exact ⟨hinc.1, ih _ hinc.2⟩
  rw [C06_certified_of_chain s _ hacc, C06_certified_of_chain s a hacc_a]
  refine ⟨(C06increasing_le _ _ hinc).2, (C06increasing_le _ _ hinc_a).1, ?_⟩
  have hb := C06increasing_append s.mhc a b hinc
  have := (C06increasing_le _ _ hb).1
  simpa [C06certified, List.foldl_append] using this

/-! ## combined with the certificate model: chains of blocks the node accepts -/

/-- a block as far as certification is concerned: the header the BFT module sees, the aggregate commit it
carries, and the verifier's view of the chain at the moment the block is verified (own blocks, BFT
parameters, precommitted and certified height as read from the consensus store) -/
structure C06Block where
  hdr : BFT.Header
  ac : Cert.AggCommit
  view : Cert.State

/-- the block is accepted on top of BFT state `s`, giving `s'`: the header field is the carried aggregate
commit, the verifier's view reads the certified height of the BFT store, `verifyAggregateCommit` accepts,
and `BeforeTransactionsExecute` succeeds.  Nothing is assumed about the generator of the header. -/
def C06nodeStep (s : BFT.State) (b : C06Block) (s' : BFT.State) : Prop :=
  b.hdr.commitHeight = (if b.ac.isEmpty then none else some b.ac.height) ∧
  b.view.mhc = s.mhc ∧
  Cert.verifyAggregateCommit b.view b.ac = .accept ∧
  BFT.process s b.hdr = .ok s'

/-- a chain of blocks accepted one after the other -/
inductive C06NodeRun : BFT.State → List C06Block → BFT.State → Prop
  | nil (s : BFT.State) : C06NodeRun s [] s
  | cons {s s' s'' : BFT.State} {b : C06Block} {r : List C06Block} :
      C06nodeStep s b s' → C06NodeRun s' r s'' → C06NodeRun s (b :: r) s''

/-- certified height carried by a chain of blocks: the largest height of its non-empty aggregate commits -/
def C06certifiedBlocks (init : Nat) (bs : List C06Block) : Nat :=
  bs.foldl (fun m b => if b.ac.isEmpty then m else max m b.ac.height) init

/-- one accepted block: the certified height becomes the height of a non-empty commit, which is strictly
above the old one, and stays for the empty commit -/
theorem C06_node_step_certified (s s' : BFT.State) (b : C06Block) (h : C06nodeStep s b s') :
    s'.mhc = (if b.ac.isEmpty then s.mhc else b.ac.height) ∧ s.mhc ≤ s'.mhc ∧
    (b.ac.isEmpty = false → s.mhc < b.ac.height) := by
  obtain ⟨hf, hv, hacc, hp⟩ := h
  have hm := BFT.process_mhc hp
  cases he : b.ac.isEmpty with
  | true =>
    rw [he] at hf
    have hf' : b.hdr.commitHeight = none := by simpa using hf
    rw [hm, hf']
    exact ⟨by simp, Nat.le_refl _, by intro h; cases h⟩
  | false =>
    have hlt := (C06_verify_sound b.view b.ac hacc he).1
    rw [hv] at hlt
    rw [he] at hf
    have hf' : b.hdr.commitHeight = some b.ac.height := by simpa using hf
    rw [hm, hf']
    exact ⟨by simp, by simp only [Option.getD_some]; omega, fun _ => hlt⟩

/-- one accepted block moves the certified height as one step of `C06certifiedBlocks` -/
theorem C06_node_step_max (s s' : BFT.State) (b : C06Block) (h : C06nodeStep s b s') :
    s'.mhc = (if b.ac.isEmpty then s.mhc else max s.mhc b.ac.height) := by
  obtain ⟨h1, _, h3⟩ := C06_node_step_certified _ _ _ h
  cases he : b.ac.isEmpty with
  | true => rw [he] at h1; simpa using h1
  | false =>
    rw [he] at h1
    simp only [Bool.false_eq_true, if_false] at h1 ⊢
    rw [h1, Nat.max_eq_right (Nat.le_of_lt (h3 he))]

/-- the certified height after a chain of accepted blocks is the certified height the chain carries,
and it never decreases -/
theorem C06_node_run_certified (s s' : BFT.State) (bs : List C06Block) (h : C06NodeRun s bs s') :
    s'.mhc = C06certifiedBlocks s.mhc bs ∧ s.mhc ≤ s'.mhc := by
  induction h with
  | nil s => exact ⟨rfl, Nat.le_refl _⟩
  | @cons s s₁ s₂ b r hstep hrest ih =>
    have h2 := (C06_node_step_certified _ _ _ hstep).2.1
    refine ⟨?_, by omega⟩
    rw [ih.1]
    simp only [C06certifiedBlocks, List.foldl_cons]
    rw [C06_node_step_max _ _ _ hstep]

/-- **An aggregate commit accepted after the chain `pre` has a height strictly above `certified(pre)`** —
for every chain of accepted blocks, whoever generated them. -/
theorem C06_accepted_commit_above_certified_of_chain (s s' : BFT.State) (pre post : List C06Block)
    (b : C06Block) (h : C06NodeRun s (pre ++ b :: post) s') (hne : b.ac.isEmpty = false) :
    C06certifiedBlocks s.mhc pre < b.ac.height := by
  induction pre generalizing s with
  | nil =>
    cases h with
    | cons hstep _ => exact (C06_node_step_certified _ _ _ hstep).2.2 hne
  | cons a r ih =>
    cases h with
    | cons hstep hrest =>
      have := ih _ hrest
      simp only [C06certifiedBlocks, List.foldl_cons] at this ⊢
      rwa [← C06_node_step_max _ _ _ hstep]

private theorem C06_run_all_above (s s' : BFT.State) (bs : List C06Block) (h : C06NodeRun s bs s') :
    ∀ b ∈ bs, b.ac.isEmpty = false → s.mhc < b.ac.height := by
  induction h with
  | nil s => intro b hb; cases hb
  | @cons s s₁ s₂ b r hstep hrest ih =>
    intro c hc hne
    obtain ⟨_, h2, h3⟩ := C06_node_step_certified _ _ _ hstep
    cases hc with
    | head => exact h3 hne
    | tail _ hmem => have := ih c hmem hne; omega

/-- **No aggregate commit is accepted twice.**  Along every chain of accepted blocks the heights of the
non-empty aggregate commits are strictly increasing: the same aggregate commit (a replay copied from an
earlier block), another one for the same height, or one for a lower height is never accepted later — no
matter whether the block that carried the first one implied votes. -/
theorem C06_no_aggregate_commit_accepted_twice (s s' : BFT.State) (bs : List C06Block)
    (h : C06NodeRun s bs s') :
    ((bs.filter (fun b => !b.ac.isEmpty)).map (fun b => b.ac.height)).Pairwise (· < ·) := by
  induction h with
  | nil s => exact List.Pairwise.nil
  | @cons s s₁ s₂ b r hstep hrest ih =>
    cases he : b.ac.isEmpty with
    | true => simpa [List.filter_cons, he] using ih
    | false =>
      have hs := (C06_node_step_certified _ _ _ hstep).1
      rw [he] at hs
      have hs' : s₁.mhc = b.ac.height := by simpa using hs
      have hall := C06_run_all_above _ _ _ hrest
      simp only [List.filter_cons, he, Bool.not_false, if_true, List.map_cons]
      refine List.Pairwise.cons ?_ ih
      intro x hx
      simp only [List.mem_map, List.mem_filter, Bool.not_eq_true'] at hx
      obtain ⟨c, ⟨hc, hce⟩, rfl⟩ := hx
      have := hall c hc hce
      omega

/-- in particular the heights are pairwise different -/
theorem C06_accepted_commit_heights_nodup (s s' : BFT.State) (bs : List C06Block) (h : C06NodeRun s bs s') :
    ((bs.filter (fun b => !b.ac.isEmpty)).map (fun b => b.ac.height)).Nodup := by
  have hp := C06_no_aggregate_commit_accepted_twice s s' bs h
  exact hp.imp (fun hlt => Nat.ne_of_lt hlt)

/-- **Replay rejected after any carrier.**  Once a block — of a voting validator, of a standby generator, of
a validator declaring `maxHeightGenerated ≥ height` — carrying the non-empty aggregate commit `b.ac` has been
accepted, every view that reads the certified height of the resulting BFT store rejects every non-empty
aggregate commit `ac` at or below `b.ac.height` (the same one included), however long the chain continues. -/
theorem C06_replay_rejected_after_any_carrier (s s₁ s₂ : BFT.State) (b : C06Block) (rest : List C06Block)
    (hstep : C06nodeStep s b s₁) (hne : b.ac.isEmpty = false) (hrest : C06NodeRun s₁ rest s₂)
    (view : Cert.State) (hview : view.mhc = s₂.mhc) (ac : Cert.AggCommit) (hac : ac.isEmpty = false)
    (hle : ac.height ≤ b.ac.height) : Cert.verifyAggregateCommit view ac ≠ .accept := by
  intro hacc
  have h1 := (C06_node_step_certified _ _ _ hstep).1
  rw [hne] at h1
  have h1' : s₁.mhc = b.ac.height := by simpa using h1
  have h2 := (C06_node_run_certified _ _ _ hrest).2
  have h3 := (C06_verify_sound view ac hacc hac).1
  omega

/-- the node's chains satisfy the hypothesis of `C06_certified_is_max_and_monotone`: the header chain of
a chain of accepted blocks is accepted by the BFT model and its commits are increasing -/
theorem C06_node_run_increasing (s s' : BFT.State) (bs : List C06Block) (h : C06NodeRun s bs s') :
    C02run s (bs.map (fun b => C02Ev.block b.hdr)) = s' ∧
    C06accepted s (bs.map (fun b => C02Ev.block b.hdr)) ∧
    C06increasing s.mhc (bs.map (fun b => C02Ev.block b.hdr)) := by
  induction h with
  | nil s => exact ⟨rfl, trivial, trivial⟩
  | @cons s s₁ s₂ b r hstep hrest ih =>
    obtain ⟨hf, hv, hacc, hp⟩ := hstep
    have hst : C02step s (.block b.hdr) = s₁ := by simp only [C02step, hp]
    obtain ⟨h1, h2, h3⟩ := C06_node_step_certified _ _ _ ⟨hf, hv, hacc, hp⟩
    refine ⟨?_, ⟨⟨s₁, hp⟩, ?_⟩, ⟨?_, ?_⟩⟩
    · simp only [List.map_cons, C02run, List.foldl_cons, hst]; exact ih.1
    · simp only [hst]; exact ih.2.1
    · intro x hx
      simp only [C06commitOf] at hx
      rw [hf] at hx
      cases he : b.ac.isEmpty with
      | true => rw [he] at hx; simp at hx
      | false =>
        rw [he] at hx
        have hx' : b.ac.height = x := by simpa using hx
        subst hx'
        exact h3 he
    · have hc : (C06commitOf (.block b.hdr)).getD s.mhc = s₁.mhc := by
        simp only [C06commitOf, BFT.process_mhc hp]
      rw [hc]
      exact ih.2.2

/-! ## non-vacuity and the counterexample -/

/-- one BFT validator `0a` (weight 1, thresholds 1), batch size 3, parameters valid from height 1 -/
def C06cxBFT : BFT.State :=
  match BFT.setParams (BFT.initGenesis 3 0) 1 1 [⟨[0x0a], 1⟩] with
  | .ok s => s
  | .error _ => BFT.initGenesis 3 0

/-- blocks 1 .. 6 of the validator (truthful headers, empty aggregate commit): height 5 gets precommitted -/
def C06cxChain : List C02Ev :=
  [.block ⟨1, [0x0a], 0, 0, none⟩, .block ⟨2, [0x0a], 1, 1, none⟩, .block ⟨3, [0x0a], 2, 2, none⟩,
   .block ⟨4, [0x0a], 3, 3, none⟩, .block ⟨5, [0x0a], 4, 4, none⟩, .block ⟨6, [0x0a], 5, 5, none⟩]

/-- block 7 is generated by the standby generator `0b` (no BFT weight) and carries the aggregate commit for
height 5 -/
def C06cxStandbyHdr : BFT.Header := ⟨7, [0x0b], 0, 6, some 5⟩

/-- block 7 generated by the validator, declaring `maxHeightGenerated = height` (implies no votes) -/
def C06cxMhgHdr : BFT.Header := ⟨7, [0x0a], 7, 6, some 5⟩

/-- the aggregate commit for height 5 of `Props/C06.lean` (validators with keys 20, 30, 40 signed block 105) -/
def C06cxAc : Cert.AggCommit := ⟨5, Cert.Bits.ofBytes [0x0e], some (.agg [20, 30, 40] ⟨1, 105⟩)⟩

/-- the header implies votes (what `updatePrevotesPrecommits` tests before it counts anything) -/
def C06impliesVotes (s : BFT.State) (h : BFT.Header) : Bool :=
  decide (h.mhg < h.height) && (BFT.findActive s.active h.gen).isSome

/-- a step function that returns early when the header implies no votes — before the certified-height
update and the pruning (the seeded change C06-16) -/
def C06processSkipping (s : BFT.State) (h : BFT.Header) : Except BFT.Err BFT.State :=
  match BFT.process s h with
  | .error e => .error e
  | .ok s' =>
    if C06impliesVotes s h then .ok s' else .ok { s' with mhc := s.mhc, params := s.params, keys := s.keys }

/-- what a step function does with block 7 after the example chain: certified and precommitted height
afterwards, "the votes of the blocks 1 .. 6 are unchanged", and the verdict on the SAME aggregate commit of a
verifier's view that reads the new certified height (`take 8`: the window of batch size 3 holds 9 entries, the new
one in front) -/
def C06cxCheck (step : BFT.State → BFT.Header → Except BFT.Err BFT.State) (h : BFT.Header) :
    Option (Nat × Nat × Bool × Cert.Verdict) :=
  match step (C02run C06cxBFT C06cxChain) h with
  | .ok s' => some (s'.mhc, s'.mhpc, decide (s'.infos.tail = (C02run C06cxBFT C06cxChain).infos.take 8),
      Cert.verifyAggregateCommit { C06cxState with mhc := s'.mhc } C06cxAc)
  | .error _ => none

private theorem C06cxCheck_elim {step : BFT.State → BFT.Header → Except BFT.Err BFT.State} {h : BFT.Header}
    {r : Nat × Nat × Bool × Cert.Verdict} (hc : C06cxCheck step h = some r) :
    ∃ s', step (C02run C06cxBFT C06cxChain) h = .ok s' ∧ s'.mhc = r.1 ∧ s'.mhpc = r.2.1 ∧
      Cert.verifyAggregateCommit { C06cxState with mhc := s'.mhc } C06cxAc = r.2.2.2 := by
  unfold C06cxCheck at hc
  cases hp : step (C02run C06cxBFT C06cxChain) h with
  | error e => rw [hp] at hc; cases hc
  | ok s' =>
    rw [hp] at hc
    simp only [Option.some.injEq] at hc
    subst hc
    exact ⟨s', rfl, rfl, rfl, rfl⟩

/-- Non-vacuity: the example chain is accepted, height 5 is precommitted and nothing is certified when block
7 arrives; block 7 of the standby generator and block 7 declaring `maxHeightGenerated = height` are accepted
by `process`, change no vote weight and no precommitted height, and set `maxHeightCertified` to 5; the
verifier's view of `Props/C06.lean` (certified height 0, precommitted height 5) accepts the aggregate commit,
so the node step exists; afterwards the view with the new certified height rejects the same commit. -/
theorem C06_certified_example :
    C06accepted C06cxBFT C06cxChain ∧
    (C02run C06cxBFT C06cxChain).mhc = 0 ∧ (C02run C06cxBFT C06cxChain).mhpc = 5 ∧
    C06impliesVotes (C02run C06cxBFT C06cxChain) C06cxStandbyHdr = false ∧
    C06impliesVotes (C02run C06cxBFT C06cxChain) C06cxMhgHdr = false ∧
    C06cxCheck BFT.process C06cxStandbyHdr = some (5, 5, true, .reject .notIncreasing) ∧
    C06cxCheck BFT.process C06cxMhgHdr = some (5, 5, true, .reject .notIncreasing) ∧
    (∀ h ∈ [C06cxStandbyHdr, C06cxMhgHdr], ∃ s',
      C06nodeStep (C02run C06cxBFT C06cxChain) ⟨h, C06cxAc, C06cxState⟩ s' ∧ s'.mhc = 5) := by
  have e1 : (C02run C06cxBFT C06cxChain).mhc = 0 ∧ (C02run C06cxBFT C06cxChain).mhpc = 5 := by decide +kernel
  have c1 : C06cxCheck BFT.process C06cxStandbyHdr = some (5, 5, true, .reject .notIncreasing) := by decide +kernel
  have c2 : C06cxCheck BFT.process C06cxMhgHdr = some (5, 5, true, .reject .notIncreasing) := by decide +kernel
  have hacc : Cert.verifyAggregateCommit C06cxState C06cxAc = .accept := by decide
  have acc : C06accepted C06cxBFT C06cxChain := by
    have hb : ∀ (s : BFT.State) (h : BFT.Header),
        (match BFT.process s h with | .ok _ => true | .error _ => false) = true → ∃ s', BFT.process s h = .ok s' := by
      intro s h hh
      cases hp : BFT.process s h with
      | ok s' => exact ⟨s', rfl⟩
      | error e => rw [hp] at hh; cases hh
    refine ⟨hb _ _ (by decide +kernel), hb _ _ (by decide +kernel), hb _ _ (by decide +kernel),
      hb _ _ (by decide +kernel), hb _ _ (by decide +kernel), hb _ _ (by decide +kernel), trivial⟩
  refine ⟨acc, e1.1, e1.2, by decide +kernel, by decide +kernel, c1, c2, ?_⟩
  intro h hh
  simp only [List.mem_cons, List.not_mem_nil, or_false] at hh
  rcases hh with rfl | rfl
  · obtain ⟨s', hp, hm, _, _⟩ := C06cxCheck_elim c1
    exact ⟨s', ⟨by decide, by rw [e1.1]; rfl, hacc, hp⟩, hm⟩
  · obtain ⟨s', hp, hm, _, _⟩ := C06cxCheck_elim c2
    exact ⟨s', ⟨by decide, by rw [e1.1]; rfl, hacc, hp⟩, hm⟩

/-- **Counterexample.**  With the early return the stored certified height is NOT a function of the chain:
after the example chain, block 7 of the standby generator (and likewise block 7 declaring
`maxHeightGenerated = height`) carries the valid aggregate commit for height 5 and is accepted — by the
skipping step function too —, the chain has certified height 5, yet `maxHeightCertified` stays 0, and the
view that reads it accepts the very same aggregate commit a second time (the real step function makes that
view reject it: `C06_certified_example`).  On headers that imply votes the two step functions agree, which
is why chains of voting validators do not show the difference. -/
theorem C06_skipping_step_counterexample :
    (∀ h ∈ [C06cxStandbyHdr, C06cxMhgHdr],
      h.commitHeight = some 5 ∧
      C06certified 0 (C06cxChain ++ [.block h]) = 5 ∧
      Cert.verifyAggregateCommit C06cxState C06cxAc = .accept ∧
      ∃ s', C06processSkipping (C02run C06cxBFT C06cxChain) h = .ok s' ∧ s'.mhc = 0 ∧
        Cert.verifyAggregateCommit { C06cxState with mhc := s'.mhc } C06cxAc = .accept) ∧
    (∀ (s : BFT.State) (h : BFT.Header), C06impliesVotes s h = true →
      C06processSkipping s h = BFT.process s h) := by
  constructor
  · have c1 : C06cxCheck C06processSkipping C06cxStandbyHdr = some (0, 5, true, .accept) := by decide +kernel
    have c2 : C06cxCheck C06processSkipping C06cxMhgHdr = some (0, 5, true, .accept) := by decide +kernel
    have hacc : Cert.verifyAggregateCommit C06cxState C06cxAc = .accept := by decide
    intro h hh
    simp only [List.mem_cons, List.not_mem_nil, or_false] at hh
    rcases hh with rfl | rfl
    · obtain ⟨s', hp, hm, _, hv⟩ := C06cxCheck_elim c1
      exact ⟨rfl, by decide, hacc, s', hp, hm, hv⟩
    · obtain ⟨s', hp, hm, _, hv⟩ := C06cxCheck_elim c2
      exact ⟨rfl, by decide, hacc, s', hp, hm, hv⟩
  · intro s h hv
    unfold C06processSkipping
    cases BFT.process s h with
    | error e => rfl
    | ok s' => simp only [hv, if_true]
