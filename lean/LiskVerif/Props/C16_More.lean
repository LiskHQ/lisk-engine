/-
C16 — execution refines an interpreter on plain maps, for every script.

Module code (any hooks, any command, `Snapshot` / `RestoreSnapshot` nested to any depth) computes
what a small interpreter on maps `key → Option value` computes, in which a snapshot is a copy of the
map and a failed command is no command (`C16mapRun`, `C16specTx`).  A block is then the fold of that
specification over its transactions, a sequence of blocks the fold over the blocks, and the
committed root a function of the folded map alone: re-batching, dropping failed transactions,
re-ordering or overwriting writes cannot change it, two nodes agree, and restart recovery and block
deletion apply to everything the engine can really process.  The limits are theorems too: an
`Invalid` transaction is not atomic, and a crash between the application's `Revert` and the engine's
`RemoveBlock` is not recovered by `Init`.  The last part models the generator's selection loop on the
application (`C16selectTxs`, `C16generateBlock`) and proves the finding that an `Invalid` transaction in
the pool makes it seal a block with a wrong root (`C16_generation_after_invalid_tx_breaks_root`).

The engine side (`consensus.stateExecuter.Execute`, `Executer.processValidated`) is written here as
the composition `C16processBlock` of the model's ABI calls, in the order the engine issues them.
-/
import LiskVerif.Lemmas.DiffDBScan
import LiskVerif.Props.C16

open LiskVerif LiskVerif.DiffDB LiskVerif.Exec

/-! ### the specification interpreter on maps -/

/-- a state: the value of every key -/
abbrev C16Map := Bytes → Option Bytes

/-- a state and the stack of the copies saved by `ctx.Snapshot()` -/
abbrev C16MS := C16Map × List C16Map

/-- one step of module code on a map; `false` when the code returns an error at this step -/
def C16mapItem (x : C16MS) : Item → C16MS × Bool
  | .set k v => ((fun k' => if k = k' then some v else x.1 k', x.2), true)
  | .del k => ((fun k' => if k = k' then none else x.1 k', x.2), true)
  | .get k => (x, evOk (if (x.1 k).isSome then "read" else "miss") ((x.1 k).getD []) 0)
  | .chk k v => (x, x.1 k == some v)
  | .ev unrev n d => (x, evOk (if unrev then "unr" else "rev") d n)
  | .badEv => (x, evOk "bad_name" [] 0)
  | .push => ((x.1, x.1 :: x.2), true)
  | .pop =>
    match x.2 with
    | [] => (x, true)
    | m :: r => ((m, r), true)
  | .fail => (x, false)

def C16mapRun (x : C16MS) : List Item → C16MS × Bool
  | [] => (x, true)
  | it :: r =>
    let y := C16mapItem x it
    if y.2 then C16mapRun y.1 r else (y.1, false)

/-- the event logger after one step of module code that runs on the map `m`; names and data are
those `Exec.runItem` hands to the logger and have to stay equal to them -/
def C16logItem (m : C16Map) (lg : EventLogger) : Item → EventLogger
  | .get k => (add lg modName (if (m k).isSome then "read" else "miss") ((m k).getD []) 0).getD lg
  | .ev unrev n d =>
    (if unrev then addUnrevertible lg modName "unr" d n else add lg modName "rev" d n).getD lg
  | .badEv => (add lg modName "bad_name" [] 0).getD lg
  | _ => lg

def C16logRun (x : C16MS) (lg : EventLogger) : List Item → EventLogger
  | [] => lg
  | it :: r =>
    let y := C16mapItem x it
    if y.2 then C16logRun y.1 (C16logItem x.1 lg it) r else C16logItem x.1 lg it

/-! ### module code refines the interpreter -/

/-- the map a registered snapshot shows -/
def C16snapMap (st : St) (id : Nat) : Option C16Map := (findSnap st.snaps id).map (effC st.store)

/-- the snapshots taken by the running code hold the saved maps: ids decrease down the stack, each
is registered in the staged store and its overlay copy shows the saved map -/
structure C16StackRel (st : St) (ids : List Nat) (ms : List C16Map) : Prop where
  decreasing : ids.Pairwise (· > ·)
  issued : ∀ id ∈ ids, id < st.snapCount
  maps : ids.map (C16snapMap st) = ms.map some

/-- the running code (staged store, logger, own snapshot ids) and a state of the interpreter -/
structure C16Rel (s : SecSt) (x : C16MS) : Prop where
  inv : C12Inv s.st
  map : ∀ k, eff s.st k = x.1 k
  topic : s.lg.hasTopic = true
  stack : C16StackRel s.st s.stack x.2

private theorem stackRel_of {st st' : St} (hs : st'.store = st.store)
    (hc : st.snapCount ≤ st'.snapCount) {ids : List Nat} {ms : List C16Map}
    (hf : ∀ id ∈ ids, findSnap st'.snaps id = findSnap st.snaps id) (h : C16StackRel st ids ms) :
    C16StackRel st' ids ms :=
  ⟨h.decreasing, fun id hid => Nat.lt_of_lt_of_le (h.issued id hid) hc,
    (List.map_congr_left fun id hid => by rw [C16snapMap, C16snapMap, hf id hid, hs]).trans h.maps⟩

private theorem grows_getD (lg : EventLogger) (o : Option EventLogger)
    (h : ∀ l', o = some l' → Grows lg l') : Grows lg (o.getD lg) := by
  cases o with
  | none => exact grows_refl _
  | some l' => exact h l' rfl

private theorem add_getD_topic (l : EventLogger) (hT : l.hasTopic = true) (o : Option EventLogger)
    (ho : ∀ l', o = some l' → Grows l l') : (o.getD l).hasTopic = true :=
  (grows_getD l o ho).cfg.hasTopic ▸ hT

/-- `Get`, `Set` and `Del` leave the snapshot table alone -/
private theorem stackRel_frame {st st' : St}
    (f : st'.store = st.store ∧ st'.snaps = st.snaps ∧ st'.snapCount = st.snapCount)
    {ids : List Nat} {ms : List C16Map} (h : C16StackRel st ids ms) : C16StackRel st' ids ms :=
  stackRel_of f.1 (Nat.le_of_eq f.2.2.symm) (fun _ _ => by rw [f.2.1]) h

/-- an item that logs an event: it succeeds iff the logger accepts the event (`ok`), and only the
logger changes -/
private theorem logged_refines (s : SecSt) (x : C16MS) (h : C16Rel s x) (o : Option EventLogger)
    (ok : Bool) (hs : o.isSome = ok) (hg : ∀ l', o = some l' → Grows s.lg l') :
    (match o with | some lg' => (({ s with lg := lg' } : SecSt), true) | none => (s, false)).2 = ok ∧
      C16Rel (match o with | some lg' => (({ s with lg := lg' } : SecSt), true) | none => (s, false)).1 x ∧
      (match o with | some lg' => (({ s with lg := lg' } : SecSt), true) | none => (s, false)).1.lg =
        o.getD s.lg := by
  cases o with
  | none => exact ⟨hs, h, rfl⟩
  | some lg' => exact ⟨hs, ⟨h.inv, h.map, (hg lg' rfl).cfg.hasTopic ▸ h.topic, h.stack⟩, rfl⟩

private theorem item_refines (s : SecSt) (x : C16MS) (h : C16Rel s x) (it : Item) :
    (runItem s it).2 = (C16mapItem x it).2 ∧ C16Rel (runItem s it).1 (C16mapItem x it).1 ∧
      (runItem s it).1.lg = C16logItem x.1 s.lg it := by
  -- store items: C12's refinement of `Set` / `Del` / `Get` and a frame for the snapshot table; logging
  -- items: `logged_refines`; `push` registers the counter as a new id above all ids of the stack, `pop`
  -- restores the top id, which no id below it can be, so the rest of the stack is untouched
  cases it with
  | set k v =>
    have r := C12_set_refines s.st h.inv k v
    exact ⟨rfl, ⟨r.2, fun k' => by simp only [runItem, C16mapItem, r.1 k', h.map k'], h.topic,
      stackRel_frame (step_frame s.st (.set k v) rfl) h.stack⟩, rfl⟩
  | del k =>
    have r := C12_del_refines s.st h.inv k
    exact ⟨rfl, ⟨r.2, fun k' => by simp only [runItem, C16mapItem, r.1 k', h.map k'], h.topic,
      stackRel_frame (step_frame s.st (.del k) rfl) h.stack⟩, rfl⟩
  | chk k v =>
    have r := C12_get_refines s.st h.inv k
    exact ⟨by simp only [runItem, C16mapItem, r.1, h.map k], ⟨r.2.2, fun k' => (r.2.1 k').trans (h.map k'),
      h.topic, stackRel_frame (step_frame s.st (.get k) rfl) h.stack⟩, rfl⟩
  | get k =>
    have r := C12_get_refines s.st h.inv k
    have h' : C16Rel { s with st := (DiffDB.get s.st k).1 } x :=
      ⟨r.2.2, fun k' => (r.2.1 k').trans (h.map k'), h.topic, stackRel_frame (step_frame s.st (.get k) rfl) h.stack⟩
    have hv : (DiffDB.get s.st k).2 = x.1 k := by rw [r.1, h.map k]
    simp only [runItem, C16mapItem, C16logItem, hv]
    exact logged_refines _ x h' _ _ (add_isSome s.lg h.topic _ _ 0) fun _ => grows_add
  | ev u n d =>
    simp only [runItem, C16mapItem, C16logItem]
    cases u
    · exact logged_refines s x h _ _ (add_isSome s.lg h.topic "rev" d n) fun _ => grows_add
    · exact logged_refines s x h _ _ (addUnrevertible_isSome s.lg h.topic "unr" d n)
        fun _ => grows_addUnrevertible
  | badEv =>
    simp only [runItem, C16mapItem, C16logItem]
    exact logged_refines s x h _ _ (add_isSome s.lg h.topic "bad_name" [] 0) fun _ => grows_add
  | push =>
    refine ⟨rfl, ⟨C12_inv_step s.st h.inv .snapshot, h.map, h.topic, ?_⟩, rfl⟩
    have hold := stackRel_of (st := s.st) (st' := (snapshot s.st).1) rfl (Nat.le_succ _)
      (fun id hid => if_neg (Nat.ne_of_gt (h.stack.issued id hid))) h.stack
    refine ⟨List.pairwise_cons.mpr ⟨h.stack.issued, hold.decreasing⟩, ?_, ?_⟩
    · intro id hid
      rcases List.mem_cons.mp hid with rfl | hid
      · exact Nat.lt_succ_self _
      · exact hold.issued id hid
    · show C16snapMap (snapshot s.st).1 s.st.snapCount :: s.stack.map (C16snapMap (snapshot s.st).1) =
        some x.1 :: x.2.map some
      rw [hold.maps, C16snapMap, show findSnap (snapshot s.st).1.snaps s.st.snapCount = some s.st.cache from
        if_pos rfl, ← funext h.map]
      rfl
  | pop =>
    obtain ⟨st, lg, stack⟩ := s
    obtain ⟨m, ms⟩ := x
    cases stack with
    | nil =>
      cases ms with
      | nil => exact ⟨rfl, h, rfl⟩
      | cons _ _ => cases h.stack.maps
    | cons id rest =>
      obtain ⟨hord, hlt, hmap⟩ := h.stack
      cases ms with
      | nil => cases hmap
      | cons m' ms' =>
        obtain ⟨hhd, htl⟩ := List.cons.inj hmap
        obtain ⟨c, hf, hc⟩ := Option.map_eq_some_iff.mp hhd
        have hinv' := C12_inv_step st h.inv (.restore id)
        have hr := restore_of_some hf
        rw [step, hr] at hinv'
        simp only [runItem, C16mapItem, C16logItem, hr]
        refine ⟨trivial, ⟨hinv', congrFun hc, h.topic, ?_⟩, trivial⟩
        exact stackRel_of (st := st)
          (st' := { st with cache := c, snaps := st.snaps.filter (fun e => e.1 ≠ id) }) rfl (Nat.le_refl _)
          (fun j hj => (findSnap_filter_ne _ _ _).trans (if_neg (Nat.ne_of_gt ((List.pairwise_cons.mp hord).1 j hj))))
          ⟨(List.pairwise_cons.mp hord).2, fun j hj => hlt j (List.mem_cons_of_mem _ hj), htl⟩
  | fail => exact ⟨rfl, ⟨h.inv, h.map, h.topic, h.stack⟩, rfl⟩

/-- **Module code with arbitrarily nested snapshots refines the interpreter on maps.**  Whatever the
code does — sets, deletes and reads on any module stores, events, `Snapshot()` /
`RestoreSnapshot(id)` nested to any depth, restores without a snapshot, an error at any step — its
success, the effective content of the staged store (C12: what every read returns) and the event
logger are those the interpreter computes, in which a snapshot is a plain copy of the map. -/
theorem C16_section_refines_spec (items : List Item) (s : SecSt) (x : C16MS) (h : C16Rel s x) :
    (runSection s items).2 = (C16mapRun x items).2 ∧
      C16Rel (runSection s items).1 (C16mapRun x items).1 ∧
      (runSection s items).1.lg = C16logRun x s.lg items := by
  induction items generalizing s x with
  | nil => exact ⟨rfl, h, rfl⟩
  | cons it r ih =>
    obtain ⟨h1, h2, h3⟩ := item_refines s x h it
    simp only [runSection, C16mapRun, C16logRun]
    rw [← h1]
    split
    · have := ih _ _ h2
      rw [h3] at this
      exact this
    · exact ⟨rfl, h2, h3⟩

/-- code that starts on a staged store showing the map `m`, with no snapshot of its own -/
theorem C16_rel_start (st : St) (lg : EventLogger) (m : C16Map) (hinv : C12Inv st)
    (hm : ∀ k, eff st k = m k) (hT : lg.hasTopic = true) :
    C16Rel { st := st, lg := lg } (m, []) :=
  ⟨hinv, hm, hT, .nil, nofun, rfl⟩

/-! ### whole transactions -/

/-- `Executer.ExecuteTransaction` on maps: the hooks and the command run on plain maps; **a failed
command is no command** (the hooks after it start from the map the hooks before it left), its
logger loses the revertible events (`restoreSnapshot`), the standard event closes the list. -/
def C16specTx (m : C16Map) (height : Nat) (tx : Tx) : C16Map × Result × List Event :=
  let p := C16mapRun (m, []) tx.pre
  let lgP := C16logRun (m, []) (newLogger height) tx.pre
  if !p.2 then (p.1.1, .invalid, lgP.out)
  else if !tx.cmdKnown then (p.1.1, .invalid, lgP.out)
  else
    let c := C16mapRun (p.1.1, []) tx.cmd
    let lgC := C16logRun (p.1.1, []) (createSnapshot lgP) tx.cmd
    let m1 := if c.2 then c.1.1 else p.1.1
    let lg1 := if c.2 then lgC else restoreSnapshot lgC
    let q := C16mapRun (m1, []) tx.post
    let lgQ := C16logRun (m1, []) lg1 tx.post
    if !q.2 then (q.1.1, .invalid, lgQ.out)
    else (q.1.1, if c.2 then .ok else .fail, lgQ.out ++ [C16StdEvent c.2 height lgQ.events.length])

/-- the command phase on maps -/
private theorem commandPhase_spec (st : St) (lg : EventLogger) (cmd : List Item)
    (hinv : C12Inv st) (hT : lg.hasTopic = true) :
    (commandPhase st lg cmd).success = (C16mapRun (eff st, []) cmd).2 ∧
      C12Inv (commandPhase st lg cmd).st ∧
      (commandPhase st lg cmd).st.store = st.store ∧
      eff (commandPhase st lg cmd).st =
        (if (C16mapRun (eff st, []) cmd).2 then (C16mapRun (eff st, []) cmd).1.1 else eff st) ∧
      (commandPhase st lg cmd).lg =
        (if (C16mapRun (eff st, []) cmd).2 then C16logRun (eff st, []) (createSnapshot lg) cmd
         else restoreSnapshot (C16logRun (eff st, []) (createSnapshot lg) cmd)) := by
  have hstore : (cmdRun st lg cmd).1.st.store = st.store :=
    runSection_store cmd { st := (snapshot st).1, lg := createSnapshot lg }
  obtain ⟨hok, hR, hlg⟩ : (cmdRun st lg cmd).2 = (C16mapRun (eff st, []) cmd).2 ∧
      C16Rel (cmdRun st lg cmd).1 (C16mapRun (eff st, []) cmd).1 ∧
      (cmdRun st lg cmd).1.lg = C16logRun (eff st, []) (createSnapshot lg) cmd :=
    C16_section_refines_spec cmd _ _
      (C16_rel_start (snapshot st).1 (createSnapshot lg) _ (C12_inv_step st hinv .snapshot) (fun _ => rfl) hT)
  rw [← hok, ← hlg]
  cases hx : (cmdRun st lg cmd).2 with
  | true =>
    rw [commandPhase_of_ok st lg cmd hx]
    exact ⟨rfl, C12_inv_step _ hR.inv (.deleteSnapshot _), hstore, funext hR.map, rfl⟩
  | false =>
    have hc := commandPhase_fail st lg cmd hx
    have heff := (C16_failed_command_state_unchanged st lg cmd (by rw [hc])).2
    rw [hc] at heff ⊢
    exact ⟨rfl, C12_cache_invariant _ hR.inv [.restore _, .deleteSnapshot _],
      (restore_frame _ _).1.trans hstore, funext heff, rfl⟩

/-- **A whole transaction refines the interpreter on maps**: for every staged store satisfying the
C12 invariant, every height and every transaction (any `BeforeCommandExecute` / `AfterCommandExecute`
hooks, known or unknown command, any command script with nested snapshots), the effective staged
state after `ExecuteTransaction`, the result code and the list of events of the response are those
of `C16specTx` on the effective state before; the invariant is kept and the database underneath is
not touched. -/
theorem C16_transaction_refines_spec (st : St) (hinv : C12Inv st) (height : Nat) (tx : Tx) :
    (∀ k, eff (executeTransaction st height tx).1 k = (C16specTx (eff st) height tx).1 k) ∧
      (executeTransaction st height tx).2 = (C16specTx (eff st) height tx).2 ∧
      C12Inv (executeTransaction st height tx).1 ∧
      (executeTransaction st height tx).1.store = st.store := by
  -- the specification is rewritten, stage by stage, into what the code computes
  obtain ⟨hpok, hpR, hplg⟩ := C16_section_refines_spec tx.pre _ _
    (C16_rel_start st (newLogger height) _ hinv (fun _ => rfl) rfl)
  have hpstore := runSection_store tx.pre { st := st, lg := newLogger height }
  rw [executeTransaction_eq]
  unfold C16specTx
  dsimp only
  generalize runSection { st := st, lg := newLogger height } tx.pre = p at hpok hpR hplg hpstore
  rw [← hpok, ← hplg, ← funext hpR.map]
  by_cases hp : (!p.2) = true
  · rw [if_pos hp, if_pos hp]; exact ⟨fun _ => rfl, rfl, hpR.inv, hpstore⟩
  rw [if_neg hp, if_neg hp]
  by_cases hk : (!tx.cmdKnown) = true
  · rw [if_pos hk, if_pos hk]; exact ⟨fun _ => rfl, rfl, hpR.inv, hpstore⟩
  rw [if_neg hk, if_neg hk]
  obtain ⟨hsucc, hcinv, hcstore, hcmap, hclg⟩ := commandPhase_spec p.1.st p.1.lg tx.cmd hpR.inv hpR.topic
  have hcT := (commandPhase_cfg p.1.st p.1.lg tx.cmd).1.trans hpR.topic
  generalize commandPhase p.1.st p.1.lg tx.cmd = c at hsucc hcinv hcstore hcmap hclg hcT
  rw [← hcmap, ← hclg, ← hsucc]
  obtain ⟨hqok, hqR, hqlg⟩ := C16_section_refines_spec tx.post _ _
    (C16_rel_start c.st c.lg _ hcinv (fun _ => rfl) hcT)
  have hqstore := runSection_store tx.post { st := c.st, lg := c.lg }
  generalize runSection { st := c.st, lg := c.lg } tx.post = q at hqok hqR hqlg hqstore
  rw [← hqok, ← hqlg, ← funext hqR.map]
  have hstore : q.1.st.store = st.store := hqstore.trans (hcstore.trans hpstore)
  by_cases hq : (!q.2) = true
  · rw [if_pos hq, if_pos hq]; exact ⟨fun _ => rfl, rfl, hqR.inv, hstore⟩
  rw [if_neg hq, if_neg hq]
  exact ⟨fun _ => rfl, rfl, hqR.inv, hstore⟩

/-! ### atomicity of a whole transaction, hooks included -/

private theorem logItem_grows (m : C16Map) (lg : EventLogger) (it : Item) : Grows lg (C16logItem m lg it) := by
  cases it with
  | get k => exact grows_getD _ _ fun _ => grows_add
  | ev u n d =>
    cases u
    · exact grows_getD _ _ fun _ => grows_add
    · exact grows_getD _ _ fun _ => grows_addUnrevertible
  | badEv => exact grows_getD _ _ fun _ => grows_add
  | _ => exact grows_refl _

private theorem logRun_grows (items : List Item) : ∀ (x : C16MS) (lg : EventLogger),
    Grows lg (C16logRun x lg items) := by
  induction items with
  | nil => intro x lg; exact grows_refl _
  | cons it r ih =>
    intro x lg
    simp only [C16logRun]
    split
    · exact grows_trans (logItem_grows x.1 lg it) (ih _ _)
    · exact logItem_grows x.1 lg it

/-- what `C16specTx` is when the result is `Fail` -/
private theorem specTx_fail (m : C16Map) (height : Nat) (tx : Tx)
    (h : (C16specTx m height tx).2.1 = .fail) :
    let mp := (C16mapRun (m, []) tx.pre).1.1
    let lq := C16logRun (mp, []) (restoreSnapshot (C16logRun (mp, [])
      (createSnapshot (C16logRun (m, []) (newLogger height) tx.pre)) tx.cmd)) tx.post
    (C16mapRun (m, []) tx.pre).2 = true ∧ tx.cmdKnown = true ∧ (C16mapRun (mp, []) tx.cmd).2 = false ∧
      (C16mapRun (mp, []) tx.post).2 = true ∧
      C16specTx m height tx =
        ((C16mapRun (mp, []) tx.post).1.1, .fail, lq.out ++ [C16StdEvent false height lq.events.length]) := by
  unfold C16specTx at h ⊢
  dsimp only at h ⊢
  generalize C16mapRun (m, []) tx.pre = p at h ⊢
  by_cases hp : (!p.2) = true
  · rw [if_pos hp] at h; cases h
  rw [if_neg hp] at h ⊢
  by_cases hk : (!tx.cmdKnown) = true
  · rw [if_pos hk] at h; cases h
  rw [if_neg hk] at h ⊢
  generalize C16mapRun (p.1.1, []) tx.cmd = c at h ⊢
  cases hc : c.2 with
  | true =>
    simp only [hc, if_true] at h
    generalize C16mapRun (c.1.1, []) tx.post = q at h
    by_cases hq : (!q.2) = true
    · rw [if_pos hq] at h; cases h
    · rw [if_neg hq] at h; cases h
  | false =>
    simp only [hc, Bool.false_eq_true, if_false] at h ⊢
    generalize C16mapRun (p.1.1, []) tx.post = q at h ⊢
    by_cases hq : (!q.2) = true
    · rw [if_pos hq] at h; cases h
    · rw [if_neg hq]
      exact ⟨by simpa using hp, by simpa using hk, trivial, by simpa using hq, rfl⟩

/-- **Atomicity of a whole transaction.**  When `ExecuteTransaction` answers `Fail` — the command
returned an error, after any sets / deletes / events / nested snapshots — for a transaction of
modules with any `BeforeCommandExecute` and `AfterCommandExecute` hooks (fee and nonce handling):

* the resulting state is exactly the state before the transaction with the writes of the hooks
  applied (the after-hooks run on what the before-hooks left) and nothing of the command;
* it is the state the same transaction leaves when its command fails at once;
* the events are: those of the before-hooks; of the events `new` the command logged exactly the
  unrevertible ones, renumbered consecutively; those of the after-hooks (`evPost`); the standard
  event with `success = false`. -/
theorem C16_failed_transaction_exact (st : St) (hinv : C12Inv st) (height : Nat) (tx : Tx)
    (hres : (executeTransaction st height tx).2.1 = .fail) :
    (∀ k, eff (executeTransaction st height tx).1 k =
        (C16mapRun ((C16mapRun (eff st, []) tx.pre).1.1, []) tx.post).1.1 k) ∧
    (∀ k, eff (executeTransaction st height tx).1 k =
        eff (executeTransaction st height { tx with cmd := [.fail] }).1 k) ∧
    ∃ new evPost : List Logged,
      (C16logRun ((C16mapRun (eff st, []) tx.pre).1.1, [])
        (createSnapshot (C16logRun (eff st, []) (newLogger height) tx.pre)) tx.cmd).events =
          (C16logRun (eff st, []) (newLogger height) tx.pre).events ++ new ∧
      (executeTransaction st height tx).2.2 =
        ((C16logRun (eff st, []) (newLogger height) tx.pre).events ++
          reindexFrom (C16logRun (eff st, []) (newLogger height) tx.pre).events.length
            (new.filter (·.noRevert)) ++ evPost).map (·.event) ++
        [C16StdEvent false height
          (((C16logRun (eff st, []) (newLogger height) tx.pre).events ++
            reindexFrom (C16logRun (eff st, []) (newLogger height) tx.pre).events.length
              (new.filter (·.noRevert)) ++ evPost).length)] := by
  obtain ⟨hmap, hout, _, _⟩ := C16_transaction_refines_spec st hinv height tx
  have hf : (C16specTx (eff st) height tx).2.1 = .fail := by rw [← hout]; exact hres
  obtain ⟨hp, hk, hc, hq, hspec⟩ := specTx_fail (eff st) height tx hf
  refine ⟨fun k => by rw [hmap k, hspec], ?_, ?_⟩
  · intro k
    obtain ⟨hmap', _, _, _⟩ := C16_transaction_refines_spec st hinv height { tx with cmd := [.fail] }
    rw [hmap k, hmap' k, hspec]
    simp [C16specTx, hp, hk, hq, C16mapRun, C16mapItem]
  · obtain ⟨new, hnew, hrs⟩ := restoreSnapshot_grows (logRun_grows tx.cmd
      ((C16mapRun (eff st, []) tx.pre).1.1, []) (createSnapshot (C16logRun (eff st, []) (newLogger height) tx.pre)))
    obtain ⟨evPost, hpost, _⟩ := (logRun_grows tx.post ((C16mapRun (eff st, []) tx.pre).1.1, [])
      (restoreSnapshot (C16logRun ((C16mapRun (eff st, []) tx.pre).1.1, [])
        (createSnapshot (C16logRun (eff st, []) (newLogger height) tx.pre)) tx.cmd))).ext
    rw [hrs] at hpost
    refine ⟨new, evPost, hnew, ?_⟩
    rw [hout, hspec]
    simp only [EventLogger.out, hpost]

/-! ### blocks: the engine's sequence of ABI calls -/

/-- a block as the application sees it: the height of its header, what the modules'
`BeforeTransactionsExecute` / `AfterTransactionsExecute` hooks do, and its transactions -/
structure C16Blk where
  height : Nat
  before : List Item := []
  txs : List Tx := []
  after : List Item := []

/-- the transaction loop of `stateExecuter.Execute` (pkg/consensus/abi_caller.go): `VerifyTransaction`
then `ExecuteTransaction` for each transaction; a verification failure, an ABI error or the result
`Invalid` aborts the block; the events of the responses are collected -/
def C16execTxs (a : App) : List Tx → App × Option (List Event)
  | [] => (a, some [])
  | tx :: r =>
    let v := verifyTransaction a tx
    if !v.2 then (v.1, none)
    else
      let e := executeTx v.1 tx
      match e.2 with
      | none => (e.1, none)
      | some re =>
        if re.1 = .invalid then (e.1, none)
        else
          let t := C16execTxs e.1 r
          (t.1, t.2.map (re.2 ++ ·))

/-- `stateExecuter.Execute`: before-hooks, the transactions, after-hooks -/
def C16execute (a : App) (blk : C16Blk) : App × Option (List Event) :=
  let b := blockHook a blk.before
  match b.2 with
  | none => (b.1, none)
  | some e1 =>
    let t := C16execTxs b.1 blk.txs
    match t.2 with
    | none => (t.1, none)
    | some e2 =>
      let f := blockHook t.1 blk.after
      (f.1, f.2.map (fun e3 => e1 ++ e2 ++ e3))

/-- `Executer.processValidated` (pkg/consensus/execute.go) as far as the application is concerned:
`InitStateMachine`, `Execute`, `Commit` with the state root of the header as the expected root, and
the deferred `Clear` on every path after `InitStateMachine` succeeded.  (The engine's own checks
between `Execute` and `Commit` — validators hash, event root — only add further paths to `Clear`.) -/
def C16processBlock (P : Params) (a : App) (blk : C16Blk) (expected : Option Bytes) :
    App × Option (Bytes × List Event) :=
  let i := initStateMachine a blk.height
  if !i.2 then (a, none)
  else
    let x := C16execute i.1 blk
    match x.2 with
    | none => (clear x.1, none)
    | some evs =>
      let cm := commit P x.1 expected false
      (clear cm.1, cm.2.map (fun root => (root, evs)))

/-! ### a block that fails leaves no trace -/

private theorem blockHook_persist (a : App) (items : List Item) : clear (blockHook a items).1 = clear a := by
  unfold blockHook
  split
  · rfl
  · dsimp only; split <;> rfl

private theorem verifyTransaction_persist (a : App) (tx : Tx) : clear (verifyTransaction a tx).1 = clear a := by
  unfold verifyTransaction
  split
  · rfl
  · split <;> rfl

private theorem executeTx_persist (a : App) (tx : Tx) : clear (executeTx a tx).1 = clear a := by
  unfold executeTx
  split <;> rfl

private theorem execTxs_persist (txs : List Tx) : ∀ a : App, clear (C16execTxs a txs).1 = clear a := by
  induction txs with
  | nil => intro a; rfl
  | cons tx r ih =>
    intro a
    have h1 := verifyTransaction_persist a tx
    have h2 := executeTx_persist (verifyTransaction a tx).1 tx
    simp only [C16execTxs]
    split
    · exact h1
    · split
      · exact h2.trans h1
      · split
        · exact h2.trans h1
        · exact (ih _).trans (h2.trans h1)

private theorem execute_persist (a : App) (blk : C16Blk) : clear (C16execute a blk).1 = clear a := by
  have h1 := blockHook_persist a blk.before
  have h2 := execTxs_persist blk.txs (blockHook a blk.before).1
  have h3 := blockHook_persist (C16execTxs (blockHook a blk.before).1 blk.txs).1 blk.after
  unfold C16execute
  dsimp only
  split
  · exact h1
  · split
    · exact h2.trans h1
    · exact h3.trans (h2.trans h1)

private theorem commit_none_persist (P : Params) (a : App) (e : Option Bytes) (d : Bool)
    (h : (commit P a e d).2 = none) : (commit P a e d).1 = a := by
  unfold Exec.commit at h ⊢
  cases hc : a.ctx with
  | none => rfl
  | some c =>
    simp only [hc] at h ⊢
    split
    · rfl
    · next hne =>
      rw [if_neg hne] at h
      split at h <;> simp at h

private theorem clear_of_ctx_none (a : App) (h : a.ctx = none) : clear a = a := by
  cases a; simp only [clear] at *; simp_all

/-- from an application without open context, `InitStateMachine` succeeds -/
private theorem processBlock_eq (P : Params) (a : App) (blk : C16Blk) (expected : Option Bytes)
    (hctx : a.ctx = none) :
    C16processBlock P a blk expected =
      (let x := C16execute { a with ctx := some { height := blk.height } } blk
       match x.2 with
       | none => (clear x.1, none)
       | some evs =>
         let cm := commit P x.1 expected false
         (clear cm.1, cm.2.map fun root => (root, evs))) := by
  unfold C16processBlock initStateMachine
  rw [hctx]
  rfl

/-- **A block that fails leaves no trace.**  From an application without open context (so the
context of the block is created), whatever goes wrong while the block is processed — a
`BeforeTransactionsExecute` or `AfterTransactionsExecute` hook returns an error after any number of
writes, a transaction does not verify or is `Invalid` after earlier transactions of the block have
been executed, the resulting root is not the expected one — the application (state, state tree,
stored diffs, recorded height and root, no open context) is exactly what it was before the block. -/
theorem C16_failed_block_no_trace (P : Params) (a : App) (hctx : a.ctx = none) (blk : C16Blk)
    (expected : Option Bytes) (hfail : (C16processBlock P a blk expected).2 = none) :
    (C16processBlock P a blk expected).1 = a := by
  have hx := (execute_persist { a with ctx := some { height := blk.height } } blk).trans
    (clear_of_ctx_none a hctx)
  rw [processBlock_eq P a blk expected hctx] at hfail ⊢
  dsimp only at hfail ⊢
  split
  · exact hx
  · next evs hev =>
    rw [hev] at hfail
    rw [commit_none_persist P _ _ _ (Option.map_eq_none_iff.mp hfail)]
    exact hx

/-! ### a block is the fold of the transaction specification -/

/-- `VerifyTransaction` on a map -/
def C16specVerify (m : C16Map) (tx : Tx) : Bool :=
  tx.cmdKnown && (C16mapRun (m, []) (verifyItems tx.verify)).2

/-- the transactions of a block, folded over the map: state and collected events, `none` when the
engine aborts the block -/
def C16specTxs (m : C16Map) (height : Nat) : List Tx → Option (C16Map × List Event)
  | [] => some (m, [])
  | tx :: r =>
    if !C16specVerify m tx then none
    else
      let x := C16specTx m height tx
      if x.2.1 = .invalid then none
      else (C16specTxs x.1 height r).map (fun y => (y.1, x.2.2 ++ y.2))

/-- a whole block on a map -/
def C16specBlock (m : C16Map) (blk : C16Blk) : Option (C16Map × List Event) :=
  let b := C16mapRun (m, []) blk.before
  if !b.2 then none
  else
    match C16specTxs b.1.1 blk.height blk.txs with
    | none => none
    | some t =>
      let f := C16mapRun (t.1, []) blk.after
      if !f.2 then none
      else some (f.1.1, (C16logRun (m, []) (newLogger blk.height) blk.before).out ++ t.2 ++
                   (C16logRun (t.1, []) (newLogger blk.height) blk.after).out)

/-- the open execution context `c` of the application shows the map `m` -/
structure C16AppRel (a : App) (c : Ctx) (m : C16Map) : Prop where
  ctx : a.ctx = some c
  inv : C12Inv (stOf a c)
  map : ∀ k, eff (stOf a c) k = m k

private theorem mapRun_verifyItems (l : List Item) : ∀ x : C16MS, (C16mapRun x (verifyItems l)).1 = x := by
  induction l with
  | nil => intro x; rfl
  | cons it r ih =>
    intro x
    cases it with
    | chk k v =>
      have e : C16mapItem x (.chk k v) = (x, x.1 k == some v) := rfl
      simp only [verifyItems, C16mapRun, e]
      cases (x.1 k == some v) <;> simp [ih]
    | fail => rfl
    | _ => simp only [verifyItems]; exact ih x

/-- the context written back after code ran on the staged store of `c` -/
private theorem appRel_ctxOf (a : App) (c : Ctx) {st : St} {m : C16Map} (hstore : st.store = (stOf a c).store)
    (hinv : C12Inv st) (hmap : ∀ k, eff st k = m k) :
    C16AppRel { a with ctx := some (ctxOf c st) } (ctxOf c st) m := by
  have hst : stOf { a with ctx := some (ctxOf c st) } (ctxOf c st) = st := stOf_ctxOf a c st hstore
  exact ⟨rfl, hst ▸ hinv, fun k => hst ▸ hmap k⟩

private theorem blockHook_refines (a : App) (c : Ctx) (m : C16Map) (h : C16AppRel a c m)
    (items : List Item) :
    (blockHook a items).2 =
      (if (C16mapRun (m, []) items).2 then some (C16logRun (m, []) (newLogger c.height) items).out
       else none) ∧
    ∃ c', C16AppRel (blockHook a items).1 c' (C16mapRun (m, []) items).1.1 ∧ c'.height = c.height := by
  obtain ⟨hok, hR, hlg⟩ := C16_section_refines_spec items _ _
    (C16_rel_start (stOf a c) (newLogger c.height) m h.inv h.map rfl)
  have key := appRel_ctxOf a c (runSection_store items _) hR.inv hR.map
  unfold blockHook
  rw [h.ctx]
  dsimp only
  rw [hok, hlg]
  exact ⟨by split <;> rfl, _, (by split <;> exact key : C16AppRel _ (ctxOf c _) _), rfl⟩

private theorem verifyTransaction_refines (a : App) (c : Ctx) (m : C16Map) (h : C16AppRel a c m) (tx : Tx) :
    (verifyTransaction a tx).2 = C16specVerify m tx ∧
    ∃ c', C16AppRel (verifyTransaction a tx).1 c' m ∧ c'.height = c.height := by
  unfold verifyTransaction C16specVerify
  cases hk : tx.cmdKnown with
  | false => exact ⟨by simp, c, h, rfl⟩
  | true =>
    obtain ⟨hok, hR, _⟩ := C16_section_refines_spec (verifyItems tx.verify) _ _
      (C16_rel_start (stOf a c) (newLogger c.height) m h.inv h.map rfl)
    rw [mapRun_verifyItems] at hR
    simp only [Bool.not_true, Bool.false_eq_true, if_false, h.ctx, Bool.true_and]
    exact ⟨hok, _, appRel_ctxOf a c (runSection_store _ _) hR.inv hR.map, rfl⟩

private theorem executeTx_refines (a : App) (c : Ctx) (m : C16Map) (h : C16AppRel a c m) (tx : Tx) :
    (executeTx a tx).2 = some (C16specTx m c.height tx).2 ∧
    ∃ c', C16AppRel (executeTx a tx).1 c' (C16specTx m c.height tx).1 ∧ c'.height = c.height := by
  obtain ⟨hmap, hout, hinv, hstore⟩ := C16_transaction_refines_spec (stOf a c) h.inv c.height tx
  rw [funext h.map] at hmap hout
  unfold executeTx
  rw [h.ctx]
  dsimp only
  exact ⟨by rw [hout], _, appRel_ctxOf a c hstore hinv hmap, rfl⟩

private theorem execTxs_refines (txs : List Tx) : ∀ (a : App) (c : Ctx) (m : C16Map), C16AppRel a c m →
    (C16execTxs a txs).2 = (C16specTxs m c.height txs).map (·.2) ∧
    ∀ t, C16specTxs m c.height txs = some t →
      ∃ c', C16AppRel (C16execTxs a txs).1 c' t.1 ∧ c'.height = c.height := by
  induction txs with
  | nil =>
    intro a c m h
    refine ⟨rfl, ?_⟩
    intro t ht
    simp only [C16specTxs, Option.some.injEq] at ht
    subst ht
    exact ⟨c, h, rfl⟩
  | cons tx r ih =>
    intro a c m h
    obtain ⟨hv, c1, hR1, hh1⟩ := verifyTransaction_refines a c m h tx
    obtain ⟨he, c2, hR2, hh2⟩ := executeTx_refines _ c1 m hR1 tx
    rw [hh1] at he hR2
    obtain ⟨ih1, ih2⟩ := ih _ c2 _ hR2
    rw [hh2, hh1] at ih1 ih2
    simp only [C16execTxs, C16specTxs, hv, he]
    cases hsv : C16specVerify m tx with
    | false => simp
    | true =>
      simp only [Bool.not_true, Bool.false_eq_true, if_false]
      by_cases hinvd : (C16specTx m c.height tx).2.1 = Result.invalid
      · simp [hinvd]
      · simp only [hinvd, if_false]
        rw [ih1]
        constructor
        · cases C16specTxs (C16specTx m c.height tx).1 c.height r <;> rfl
        · intro t ht
          cases hs : C16specTxs (C16specTx m c.height tx).1 c.height r with
          | none => rw [hs] at ht; simp at ht
          | some y =>
            rw [hs] at ht
            simp only [Option.map_some, Option.some.injEq] at ht
            subst ht
            obtain ⟨c', hR', hh'⟩ := ih2 y hs
            exact ⟨c', hR', by omega⟩

private theorem execute_refines (a : App) (c : Ctx) (m : C16Map) (h : C16AppRel a c m) (blk : C16Blk)
    (hh : c.height = blk.height) :
    (C16execute a blk).2 = (C16specBlock m blk).map (·.2) ∧
    ∀ t, C16specBlock m blk = some t → ∃ c', C16AppRel (C16execute a blk).1 c' t.1 ∧ c'.height = blk.height := by
  obtain ⟨hb, c1, hR1, hh1⟩ := blockHook_refines a c m h blk.before
  obtain ⟨ht1, ht2⟩ := execTxs_refines blk.txs _ c1 _ hR1
  rw [hh1, hh] at ht1 ht2
  rw [hh] at hb
  unfold C16execute C16specBlock
  dsimp only
  rw [hb]
  cases hbo : (C16mapRun (m, []) blk.before).2 with
  | false => simp
  | true =>
    simp only [if_true, Bool.not_true, Bool.false_eq_true, if_false]
    rw [ht1]
    cases hs : C16specTxs (C16mapRun (m, []) blk.before).1.1 blk.height blk.txs with
    | none => simp
    | some t =>
      obtain ⟨c2, hR2, hh2⟩ := ht2 t hs
      obtain ⟨hf, c3, hR3, hh3⟩ := blockHook_refines _ c2 _ hR2 blk.after
      rw [hh2] at hf
      simp only [Option.map_some]
      rw [hf]
      cases hfo : (C16mapRun (t.1, []) blk.after).2 with
      | false => simp
      | true =>
        simp only [if_true, Bool.not_true, Bool.false_eq_true, if_false, Option.map_some]
        refine ⟨trivial, ?_⟩
        intro t' ht'
        simp only [Option.some.injEq] at ht'
        subst ht'
        exact ⟨c3, hR3, by omega⟩

private theorem app_eq_of_clear (x a : App) (c : Ctx) (h1 : clear x = a) (h2 : x.ctx = some c) :
    x = { a with ctx := some c } := by
  cases x
  simp only [clear] at h1
  simp only at h2
  subst h1 h2
  rfl

/-- an application database between blocks: no open context, unique keys, the tree holds the image
of the state -/
structure C16NodeOk (P : Params) (a : App) : Prop where
  ctx : a.ctx = none
  nodup : NoDupKeys a.store
  leaf : LeafInv P.H a.store a.leaves

/-- what an accepted block leaves: `a'` is the application after it, `root` the returned root, `c` the
execution context that was committed, `m'` and `evs` the folded map and the collected events -/
structure C16Accepted (P : Params) (a : App) (blk : C16Blk) (m' : C16Map) (evs : List Event)
    (a' : App) (root : Bytes) (c : Ctx) : Prop where
  run : C16processBlock P a blk none = (a', some (root, evs))
  withExpected : ∀ expected, C16processBlock P a blk expected =
    if expected.isSome && expected != some root then (a, none) else (a', some (root, evs))
  state : ∀ k, slookup a'.store k = m' k
  ok : C16NodeOk P a'
  rootEq : root = P.smtRoot a'.leaves
  treeState : a'.treeState = some (blk.height, root)
  height : c.height = blk.height
  inv : C12Inv (stOf a c)
  block : a' = C16Block P a c

/-- **Processing a block is folding the transaction specification over its transactions**, between
the two block hooks.  For an application between blocks (`C16NodeOk`: no open context, distinct keys
in the database, the tree holds the image of the state) and an injective tree key: when the fold
aborts (`none`: a hook fails, a transaction does not verify or is invalid) the block is rejected
without trace whatever root is expected; otherwise, with `m'` the folded map and
`evs` the collected events, the block is accepted (when no root or the right root is expected), the
stored state is exactly `m'`, the tree holds exactly its image, the returned and recorded root is the
root of that tree, and the new application database is the commit `C16Block` of an overlay that
satisfies the staged-store invariant (so `C16Chain` / recovery applies to processed blocks). -/
theorem C16_block_refines_fold (P : Params) (hTK : TreeKeyInj P.H) (a : App) (hctx : a.ctx = none)
    (hnd : NoDupKeys a.store) (hleaf : LeafInv P.H a.store a.leaves) (blk : C16Blk) :
    (C16specBlock (slookup a.store) blk = none →
      ∀ expected, C16processBlock P a blk expected = (a, none)) ∧
    ∀ m' evs, C16specBlock (slookup a.store) blk = some (m', evs) →
      ∃ a' root c, C16Accepted P a blk m' evs a' root c := by
  -- executing the block on the opened context refines the fold (`execute_refines`), and whatever it
  -- did, closing the context gives `a` back (`execute_persist`)
  have hrel0 : C16AppRel { a with ctx := some { height := blk.height } } { height := blk.height }
      (slookup a.store) :=
    ⟨rfl, C12_inv_init a.store hnd, fun _ => rfl⟩
  obtain ⟨hx, hx2⟩ := execute_refines _ _ _ hrel0 blk rfl
  have hpers : clear (C16execute { a with ctx := some { height := blk.height } } blk).1 = a :=
    (execute_persist _ blk).trans (clear_of_ctx_none a hctx)
  constructor
  · -- the fold aborts: so does the execution, and the context is dropped
    intro hs expected
    rw [hs, Option.map_none] at hx
    rw [processBlock_eq P a blk expected hctx]
    dsimp only
    rw [hx]
    exact Prod.ext hpers rfl
  · -- the fold gives `m'`: the execution ends in `a` with an open context `c` whose overlay satisfies
    -- the invariant and has `m'` as its effective map; what `commit` makes of such an overlay is
    -- `C16_state_root_is_root_of_state`
    intro m' evs hs
    rw [hs, Option.map_some] at hx
    obtain ⟨c, hR, hh⟩ := hx2 _ hs
    have hxe := app_eq_of_clear _ _ _ hpers hR.ctx
    have hinv : C12Inv (stOf a c) := by
      have := hR.inv; rw [hxe] at this; exact this
    have hmap : ∀ k, eff (stOf a c) k = m' k := by
      have := hR.map; rw [hxe] at this; exact this
    have hc : commit P { a with ctx := some c } none false =
        ((commit P { a with ctx := some c } none false).1,
         some (P.smtRoot (applyLeaves P.H a.leaves (batchOfCache c.cache)))) := rfl
    obtain ⟨h1, h2, _, h4, h5, _⟩ := C16_state_root_is_root_of_state P { a with ctx := some c } c rfl
      hinv hleaf hTK none _ _ hc
    -- an expected root changes one thing: `commit` refuses when it is not the root it computed
    have hall : ∀ expected, C16processBlock P a blk expected =
        if expected.isSome && expected != some (P.smtRoot (applyLeaves P.H a.leaves (batchOfCache c.cache)))
        then (a, none)
        else (C16Block P a c, some (P.smtRoot (applyLeaves P.H a.leaves (batchOfCache c.cache)), evs)) := by
      intro expected
      rw [processBlock_eq P a blk expected hctx]
      dsimp only
      rw [hx, hxe]
      dsimp only
      by_cases hcond : (expected.isSome &&
          expected != some (P.smtRoot (applyLeaves P.H a.leaves (batchOfCache c.cache)))) = true
      · rw [if_pos hcond]
        have : commit P { a with ctx := some c } expected false = ({ a with ctx := some c }, none) := by
          simp only [Exec.commit, hcond, if_true]
        rw [this]; exact Prod.ext (clear_of_ctx_none a hctx) rfl
      · rw [if_neg hcond]
        have : commit P { a with ctx := some c } expected false =
            commit P { a with ctx := some c } none false := by
          simp only [Exec.commit, hcond, Bool.false_eq_true, if_false, Option.isSome_none, Bool.false_and]
        rw [this]; rfl
    refine ⟨C16Block P a c, P.smtRoot (applyLeaves P.H a.leaves (batchOfCache c.cache)), c,
      hall none, hall, fun k => (h1 k).trans (hmap k), ⟨rfl, nodup_applyStore _ _ hnd, h2⟩, h4, ?_, hh, hinv, rfl⟩
    have : (C16Block P a c).treeState =
        (commit P { a with ctx := some c } none false).1.treeState := rfl
    rw [this, h5, hh]

/-! ### sequences of blocks; the root is a function of the final map -/

/-- the engine processes blocks one after the other; the roots returned by the commits -/
def C16processChain (P : Params) (a : App) : List C16Blk → App × Option (List Bytes)
  | [] => (a, some [])
  | b :: r =>
    let x := C16processBlock P a b none
    match x.2 with
    | none => (x.1, none)
    | some re =>
      let y := C16processChain P x.1 r
      (y.1, y.2.map (re.1 :: ·))

/-- the blocks folded over the map -/
def C16specChain (m : C16Map) : List C16Blk → Option C16Map
  | [] => some m
  | b :: r =>
    match C16specBlock m b with
    | none => none
    | some t => C16specChain t.1 r

/-- **A sequence of blocks refines the fold**: it is accepted exactly when the fold over the initial
state succeeds; then the stored state is the folded map, the application is again between blocks,
and the last root returned is the root of the tree that holds the image of that state. -/
theorem C16_chain_refines_fold (P : Params) (hTK : TreeKeyInj P.H) (blks : List C16Blk) :
    ∀ (a : App), C16NodeOk P a →
      (C16specChain (slookup a.store) blks = none → (C16processChain P a blks).2 = none) ∧
      ∀ m', C16specChain (slookup a.store) blks = some m' →
        ∃ a' roots, C16processChain P a blks = (a', some roots) ∧ roots.length = blks.length ∧
          (∀ k, slookup a'.store k = m' k) ∧ C16NodeOk P a' ∧
          roots.getLast? = if blks.isEmpty then none else some (P.smtRoot a'.leaves) := by
  -- one block is `C16_block_refines_fold`; it leaves an application between blocks whose state is the
  -- folded map, so the induction hypothesis applies to the rest; the last root is that of the last block
  induction blks with
  | nil =>
    intro a hok
    refine ⟨fun h => by simp [C16specChain] at h, ?_⟩
    intro m' hm
    simp only [C16specChain, Option.some.injEq] at hm
    subst hm
    exact ⟨a, [], rfl, rfl, fun _ => rfl, hok, rfl⟩
  | cons b rest ih =>
    intro a hok
    obtain ⟨hnone, hsome⟩ := C16_block_refines_fold P hTK a hok.ctx hok.nodup hok.leaf b
    cases hs : C16specBlock (slookup a.store) b with
    | none =>
      refine ⟨fun _ => ?_, fun m' hm => by simp [C16specChain, hs] at hm⟩
      simp only [C16processChain, hnone hs none]
    | some t =>
      obtain ⟨a1, root, c, acc⟩ := hsome t.1 t.2 hs
      have hfun : slookup a1.store = t.1 := funext acc.state
      obtain ⟨ih1, ih2⟩ := ih a1 acc.ok
      rw [hfun] at ih1 ih2
      constructor
      · intro hm
        simp only [C16specChain, hs] at hm
        simp only [C16processChain, acc.run, ih1 hm, Option.map_none]
      · intro m' hm
        simp only [C16specChain, hs] at hm
        obtain ⟨a', roots, hpc, hlen, hmap', hok', hlast⟩ := ih2 m' hm
        refine ⟨a', root :: roots, ?_, by simp [hlen], hmap', hok', ?_⟩
        · simp only [C16processChain, acc.run, hpc, Option.map_some]
        · cases roots with
          | nil =>
            obtain rfl : rest = [] := List.eq_nil_of_length_eq_zero hlen.symm
            simp only [C16processChain, Prod.mk.injEq] at hpc
            rw [List.getLast?_singleton, acc.rootEq, hpc.1]; rfl
          | cons r0 rs =>
            obtain ⟨c, rest', rfl⟩ := List.exists_cons_of_length_eq_add_one hlen.symm
            rw [List.getLast?_cons_cons, hlast]; rfl

/-- **The committed root is a function of the final key → value map only.**  Two nodes — whatever
their databases hold and however differently they are laid out — process two sequences of blocks,
of possibly different lengths, with different transactions, hooks, orders of writes, overwritten
and deleted intermediate values, failed transactions in between.  If the two folds end in the same
map, both sequences are accepted, the two states and state trees are the same maps, and the last
roots returned are equal. -/
theorem C16_chain_root_depends_on_final_map_only (P : Params) (hTK : TreeKeyInj P.H)
    (hExt : C16SmtRootExt P.smtRoot) (a b : App) (ha : C16NodeOk P a) (hb : C16NodeOk P b)
    (blksA blksB : List C16Blk) (mA mB : C16Map)
    (hA : C16specChain (slookup a.store) blksA = some mA)
    (hB : C16specChain (slookup b.store) blksB = some mB) (heq : ∀ k, mA k = mB k) :
    ∃ a' b' rootsA rootsB, C16processChain P a blksA = (a', some rootsA) ∧
      C16processChain P b blksB = (b', some rootsB) ∧ C16SameMaps a' b' ∧
      C16NodeOk P a' ∧ C16NodeOk P b' ∧ P.smtRoot a'.leaves = P.smtRoot b'.leaves ∧
      ∀ ra rb, rootsA.getLast? = some ra → rootsB.getLast? = some rb → ra = rb := by
  obtain ⟨a', rootsA, hpa, _, hma, hoka, hla⟩ := (C16_chain_refines_fold P hTK blksA a ha).2 mA hA
  obtain ⟨b', rootsB, hpb, _, hmb, hokb, hlb⟩ := (C16_chain_refines_fold P hTK blksB b hb).2 mB hB
  have hst : ∀ k, slookup a'.store k = slookup b'.store k := fun k => by rw [hma, hmb, heq]
  have hlv := leafInv_unique hoka.leaf hokb.leaf hst
  have hr : P.smtRoot a'.leaves = P.smtRoot b'.leaves := hExt _ _ hlv
  refine ⟨a', b', rootsA, rootsB, hpa, hpb, ⟨hst, hlv⟩, hoka, hokb, hr, ?_⟩
  intro ra rb h1 h2
  rw [hla] at h1; rw [hlb] at h2
  split at h1
  · cases h1
  · split at h2
    · cases h2
    · rw [← Option.some.inj h1, ← Option.some.inj h2, hr]

/-- **Two nodes agree.**  Two nodes whose states and trees are the same maps (reached by whatever
histories) process the same block with the same expected root: both accept or both reject, they
return the same root and the same events, and their states and trees are again the same maps, so
the agreement carries over to the next block. -/
theorem C16_two_nodes_deterministic (P : Params) (hTK : TreeKeyInj P.H)
    (hExt : C16SmtRootExt P.smtRoot) (a b : App) (ha : C16NodeOk P a) (hb : C16NodeOk P b)
    (hsame : C16SameMaps a b) (blk : C16Blk) (expected : Option Bytes) :
    (C16processBlock P a blk expected).2 = (C16processBlock P b blk expected).2 ∧
      C16SameMaps (C16processBlock P a blk expected).1 (C16processBlock P b blk expected).1 ∧
      C16NodeOk P (C16processBlock P a blk expected).1 ∧
      C16NodeOk P (C16processBlock P b blk expected).1 := by
  obtain ⟨han, has⟩ := C16_block_refines_fold P hTK a ha.ctx ha.nodup ha.leaf blk
  obtain ⟨hbn, hbs⟩ := C16_block_refines_fold P hTK b hb.ctx hb.nodup hb.leaf blk
  have hfun : slookup a.store = slookup b.store := funext hsame.store
  rw [hfun] at han has
  cases hs : C16specBlock (slookup b.store) blk with
  | none =>
    rw [han hs expected, hbn hs expected]
    exact ⟨rfl, hsame, ha, hb⟩
  | some t =>
    obtain ⟨a', ra, _, xa⟩ := has t.1 t.2 hs
    obtain ⟨b', rb, _, xb⟩ := hbs t.1 t.2 hs
    have hst : ∀ k, slookup a'.store k = slookup b'.store k := fun k => by rw [xa.state, xb.state]
    have hlv := leafInv_unique xa.ok.leaf xb.ok.leaf hst
    have hr : ra = rb := by rw [xa.rootEq, xb.rootEq]; exact hExt _ _ hlv
    subst hr
    rw [xa.withExpected expected, xb.withExpected expected]
    split
    · exact ⟨rfl, hsame, ha, hb⟩
    · exact ⟨rfl, ⟨hst, hlv⟩, xa.ok, xb.ok⟩

/-! ### the state part of the fold: no height, no logger -/

/-- the state and result of a transaction on a map: it looks neither at the height nor at events -/
def C16mapTx (m : C16Map) (tx : Tx) : C16Map × Result :=
  let p := C16mapRun (m, []) tx.pre
  if !p.2 then (p.1.1, .invalid)
  else if !tx.cmdKnown then (p.1.1, .invalid)
  else
    let c := C16mapRun (p.1.1, []) tx.cmd
    let q := C16mapRun (if c.2 then c.1.1 else p.1.1, []) tx.post
    if !q.2 then (q.1.1, .invalid) else (q.1.1, if c.2 then .ok else .fail)

def C16mapTxs (m : C16Map) : List Tx → Option C16Map
  | [] => some m
  | tx :: r =>
    if !C16specVerify m tx then none
    else if (C16mapTx m tx).2 = .invalid then none
    else C16mapTxs (C16mapTx m tx).1 r

def C16mapBlock (m : C16Map) (blk : C16Blk) : Option C16Map :=
  let b := C16mapRun (m, []) blk.before
  if !b.2 then none
  else
    match C16mapTxs b.1.1 blk.txs with
    | none => none
    | some m2 =>
      let f := C16mapRun (m2, []) blk.after
      if !f.2 then none else some f.1.1

private theorem specTx_state (m : C16Map) (h : Nat) (tx : Tx) :
    (C16specTx m h tx).1 = (C16mapTx m tx).1 ∧ (C16specTx m h tx).2.1 = (C16mapTx m tx).2 := by
  unfold C16specTx C16mapTx
  dsimp only
  generalize C16mapRun (m, []) tx.pre = p
  by_cases h1 : (!p.2) = true
  · rw [if_pos h1, if_pos h1]; exact ⟨rfl, rfl⟩
  rw [if_neg h1, if_neg h1]
  by_cases h2 : (!tx.cmdKnown) = true
  · rw [if_pos h2, if_pos h2]; exact ⟨rfl, rfl⟩
  rw [if_neg h2, if_neg h2]
  generalize C16mapRun (p.1.1, []) tx.cmd = c
  generalize C16mapRun (if c.2 = true then c.1.1 else p.1.1, []) tx.post = q
  by_cases h3 : (!q.2) = true
  · rw [if_pos h3, if_pos h3]; exact ⟨rfl, rfl⟩
  · rw [if_neg h3, if_neg h3]; exact ⟨rfl, rfl⟩

private theorem specTxs_state (h : Nat) (l : List Tx) : ∀ m : C16Map,
    (C16specTxs m h l).map (·.1) = C16mapTxs m l := by
  induction l with
  | nil => intro m; rfl
  | cons tx r ih =>
    intro m
    obtain ⟨h1, h2⟩ := specTx_state m h tx
    simp only [C16specTxs, C16mapTxs, h2]
    split
    · rfl
    · split
      · rfl
      · rw [Option.map_map, ← ih, h1]
        rfl

/-- **The state part of the specification of a block does not depend on the height or on events**:
it is `C16mapBlock`, a function of the map before the block, the hooks and the transactions. -/
theorem C16_spec_state_part (m : C16Map) (blk : C16Blk) :
    (C16specBlock m blk).map (·.1) = C16mapBlock m blk := by
  unfold C16specBlock C16mapBlock
  dsimp only
  rw [← specTxs_state blk.height]
  split
  · rfl
  · cases C16specTxs (C16mapRun (m, []) blk.before).1.1 blk.height blk.txs with
    | none => rfl
    | some t =>
      simp only [Option.map_some]
      split <;> rfl

private theorem specChain_cons (m : C16Map) (b : C16Blk) (r : List C16Blk) :
    C16specChain m (b :: r) = (C16mapBlock m b).bind (fun m1 => C16specChain m1 r) := by
  rw [← C16_spec_state_part]
  simp only [C16specChain]
  cases C16specBlock m b <;> rfl

private theorem mapTxs_append (l1 l2 : List Tx) : ∀ m : C16Map,
    C16mapTxs m (l1 ++ l2) = (C16mapTxs m l1).bind (fun m1 => C16mapTxs m1 l2) := by
  induction l1 with
  | nil => intro m; rfl
  | cons tx r ih =>
    intro m
    simp only [List.cons_append, C16mapTxs]
    split
    · rfl
    · split
      · rfl
      · exact ih _

/-- **Batching does not matter** (specification level): the transactions `l1 ++ l2` in one block,
or `l1` in one block and `l2` in the next (at any heights, modules without block hooks), fold to the
same state. -/
theorem C16_spec_batching (m : C16Map) (h h1 h2 : Nat) (l1 l2 : List Tx) :
    C16specChain m [{ height := h, txs := l1 ++ l2 }] =
      C16specChain m [{ height := h1, txs := l1 }, { height := h2, txs := l2 }] := by
  simp only [specChain_cons]
  simp only [C16specChain, C16mapBlock, C16mapRun, Bool.not_true, Bool.false_eq_true,
    if_false, mapTxs_append]
  cases C16mapTxs m l1 with
  | none => rfl
  | some m1 =>
    simp only [Option.bind_some]

/-- **A failed transaction of a module without command hooks is a no-op on the state**
(specification level): it can be dropped from a block, wherever it stands, without changing the
folded state — provided the block with it is not rejected (it verifies where it stands). -/
theorem C16_spec_failed_tx_dropped (m : C16Map) (l1 l2 : List Tx) (tx : Tx) (hpre : tx.pre = [])
    (hpost : tx.post = []) (hk : tx.cmdKnown = true)
    (hfail : ∀ m1, C16mapTxs m l1 = some m1 →
      C16specVerify m1 tx = true ∧ (C16mapRun (m1, []) tx.cmd).2 = false) :
    C16mapTxs m (l1 ++ tx :: l2) = C16mapTxs m (l1 ++ l2) := by
  rw [mapTxs_append, mapTxs_append]
  cases h1 : C16mapTxs m l1 with
  | none => rfl
  | some m1 =>
    obtain ⟨hv, hf⟩ := hfail m1 h1
    have htx : C16mapTx m1 tx = (m1, .fail) := by
      simp [C16mapTx, hpre, hpost, hk, C16mapRun, hf]
    simp only [Option.bind_some, C16mapTxs, hv, htx]
    simp

/-- the command that performs a list of store writes -/
def C16writeItems : List Write → List Item
  | [] => []
  | (k, some v) :: r => .set k v :: C16writeItems r
  | (k, none) :: r => .del k :: C16writeItems r

/-- the last write to `k` in a list of writes -/
def C16lastWrite (k : Bytes) : List Write → Option (Option Bytes)
  | [] => none
  | (k', o) :: r =>
    match C16lastWrite k r with
    | some x => some x
    | none => if k' = k then some o else none

/-- **Last write wins** (specification level): after a command made of any list of sets and deletes
every key holds the value of the last write to it (absent when that was a delete) or its old value
when the command never wrote it.  Hence the resulting state — and by
`C16_chain_root_depends_on_final_map_only` the root — does not depend on the order of writes to
different keys, nor on values that are overwritten or deleted later. -/
theorem C16_spec_last_write_wins (ws : List Write) : ∀ (m : C16Map) (stk : List C16Map),
    (C16mapRun (m, stk) (C16writeItems ws)).2 = true ∧
    (C16mapRun (m, stk) (C16writeItems ws)).1.2 = stk ∧
    ∀ k, (C16mapRun (m, stk) (C16writeItems ws)).1.1 k =
      match C16lastWrite k ws with
      | some o => o
      | none => m k := by
  induction ws with
  | nil => exact fun m stk => ⟨rfl, rfl, fun _ => rfl⟩
  | cons w r ih =>
    intro m stk
    obtain ⟨k0, o⟩ := w
    obtain ⟨h1, h2, h3⟩ := ih (fun k' => if k0 = k' then o else m k') stk
    have hstep : C16mapRun (m, stk) (C16writeItems ((k0, o) :: r)) =
        C16mapRun (fun k' => if k0 = k' then o else m k', stk) (C16writeItems r) := by
      cases o <;> rfl
    rw [hstep]
    refine ⟨h1, h2, fun k => ?_⟩
    rw [h3 k, C16lastWrite]
    cases C16lastWrite k r with
    | some x => rfl
    | none => by_cases hk : k0 = k <;> simp [hk]

/-! ### the independence claims, for the roots really committed -/

/-- **Same fold, same root.**  Two nodes holding the same maps process two different sequences of
blocks.  If the specification folds of the two sequences agree (as `C16_spec_batching`,
`C16_spec_failed_tx_dropped_block`, `C16_spec_write_order_block` establish for re-batched blocks,
dropped failed transactions, and re-ordered / overwritten writes), then either both sequences are
rejected, or both are accepted, end in the same state and tree, and return the same last root. -/
theorem C16_same_fold_same_root (P : Params) (hTK : TreeKeyInj P.H) (hExt : C16SmtRootExt P.smtRoot)
    (a b : App) (ha : C16NodeOk P a) (hb : C16NodeOk P b) (hsame : C16SameMaps a b)
    (blksA blksB : List C16Blk)
    (hfold : C16specChain (slookup a.store) blksA = C16specChain (slookup a.store) blksB) :
    ((C16processChain P a blksA).2 = none ∧ (C16processChain P b blksB).2 = none) ∨
    ∃ a' b' rootsA rootsB, C16processChain P a blksA = (a', some rootsA) ∧
      C16processChain P b blksB = (b', some rootsB) ∧ C16SameMaps a' b' ∧
      C16NodeOk P a' ∧ C16NodeOk P b' ∧
      ∀ ra rb, rootsA.getLast? = some ra → rootsB.getLast? = some rb → ra = rb := by
  have hfun : slookup a.store = slookup b.store := funext hsame.store
  cases hs : C16specChain (slookup a.store) blksA with
  | none =>
    left
    refine ⟨(C16_chain_refines_fold P hTK blksA a ha).1 hs, (C16_chain_refines_fold P hTK blksB b hb).1 ?_⟩
    rw [← hfun, ← hfold, hs]
  | some m =>
    right
    obtain ⟨a', b', ra, rb, h1, h2, h3, h4, h5, _, h7⟩ :=
      C16_chain_root_depends_on_final_map_only P hTK hExt a b ha hb blksA blksB m m hs
        (by rw [← hfun, ← hfold, hs]) (fun _ => rfl)
    exact ⟨a', b', ra, rb, h1, h2, h3, h4, h5, h7⟩

private theorem specChain_congr_txs (m : C16Map) (hA hB : Nat) (bef aft : List Item) (txsA txsB : List Tx)
    (rest : List C16Blk)
    (h : C16mapTxs (C16mapRun (m, []) bef).1.1 txsA = C16mapTxs (C16mapRun (m, []) bef).1.1 txsB) :
    C16specChain m ({ height := hA, before := bef, txs := txsA, after := aft } :: rest) =
      C16specChain m ({ height := hB, before := bef, txs := txsB, after := aft } :: rest) := by
  rw [specChain_cons, specChain_cons]
  simp only [C16mapBlock, h]

/-- dropping a failed transaction of a module without command hooks, block level -/
theorem C16_spec_failed_tx_dropped_block (m : C16Map) (h : Nat) (bef aft : List Item) (l1 l2 : List Tx)
    (tx : Tx) (rest : List C16Blk) (hpre : tx.pre = []) (hpost : tx.post = []) (hk : tx.cmdKnown = true)
    (hfail : ∀ m1, C16mapTxs (C16mapRun (m, []) bef).1.1 l1 = some m1 →
      C16specVerify m1 tx = true ∧ (C16mapRun (m1, []) tx.cmd).2 = false) :
    C16specChain m ({ height := h, before := bef, txs := l1 ++ tx :: l2, after := aft } :: rest) =
      C16specChain m ({ height := h, before := bef, txs := l1 ++ l2, after := aft } :: rest) :=
  specChain_congr_txs m h h bef aft _ _ rest
    (C16_spec_failed_tx_dropped _ l1 l2 tx hpre hpost hk hfail)

private theorem mapRun_writeItems_eq (ws1 ws2 : List Write)
    (h : ∀ k, C16lastWrite k ws1 = C16lastWrite k ws2) (x : C16MS) :
    C16mapRun x (C16writeItems ws1) = C16mapRun x (C16writeItems ws2) := by
  obtain ⟨a1, b1, c1⟩ := C16_spec_last_write_wins ws1 x.1 x.2
  obtain ⟨a2, b2, c2⟩ := C16_spec_last_write_wins ws2 x.1 x.2
  refine Prod.ext (Prod.ext (funext fun k => ?_) (b1.trans b2.symm)) (a1.trans a2.symm)
  rw [c1 k, c2 k, h k]

/-- re-ordering writes to different keys, dropping writes that are overwritten or deleted later,
in the command of any transaction of a block — block level -/
theorem C16_spec_write_order_block (m : C16Map) (h : Nat) (bef aft : List Item) (l1 l2 : List Tx)
    (tx : Tx) (ws1 ws2 : List Write) (rest : List C16Blk)
    (hw : ∀ k, C16lastWrite k ws1 = C16lastWrite k ws2) :
    C16specChain m ({ height := h, before := bef, after := aft,
                      txs := l1 ++ ({ tx with cmd := C16writeItems ws1 } : Tx) :: l2 } :: rest) =
      C16specChain m ({ height := h, before := bef, after := aft,
                        txs := l1 ++ ({ tx with cmd := C16writeItems ws2 } : Tx) :: l2 } :: rest) := by
  apply specChain_congr_txs
  rw [mapTxs_append, mapTxs_append]
  have htx : ∀ m1, C16mapTx m1 { tx with cmd := C16writeItems ws1 } =
      C16mapTx m1 { tx with cmd := C16writeItems ws2 } := by
    intro m1
    simp only [C16mapTx, mapRun_writeItems_eq ws1 ws2 hw]
  have hv : ∀ m1, C16specVerify m1 { tx with cmd := C16writeItems ws1 } =
      C16specVerify m1 { tx with cmd := C16writeItems ws2 } := fun _ => rfl
  simp only [C16mapTxs, htx, hv]

/-! ### restart recovery applies to processed blocks -/

/-- the blocks carry the heights `h0 + 1, h0 + 2, …` -/
def C16Consecutive (h0 : Nat) : List C16Blk → Prop
  | [] => True
  | b :: r => b.height = h0 + 1 ∧ C16Consecutive (h0 + 1) r

private theorem chain_trans {P : Params} {a0 a1 a2 : App} {h0 h1 h2 : Nat}
    (c1 : C16Chain P a0 h0 a1 h1) (c2 : C16Chain P a1 h1 a2 h2) : C16Chain P a0 h0 a2 h2 := by
  induction c2 with
  | base => exact c1
  | block c _ hh hinv ih => exact C16Chain.block c ih hh hinv

private theorem processChain_chain (P : Params) (hTK : TreeKeyInj P.H) (blks : List C16Blk) :
    ∀ (a : App) (h0 : Nat), C16NodeOk P a → C16Consecutive h0 blks →
      ∀ a' roots, C16processChain P a blks = (a', some roots) →
        C16Chain P a h0 a' (h0 + blks.length) := by
  induction blks with
  | nil =>
    intro a h0 _ _ a' roots hp
    simp only [C16processChain, Prod.mk.injEq] at hp
    rw [← hp.1]
    exact C16Chain.base
  | cons b rest ih =>
    intro a h0 hok hcons a' roots hp
    obtain ⟨hnone, hsome⟩ := C16_block_refines_fold P hTK a hok.ctx hok.nodup hok.leaf b
    cases hs : C16specBlock (slookup a.store) b with
    | none =>
      simp only [C16processChain, hnone hs none] at hp
      cases hp
    | some t =>
      obtain ⟨a1, root, c, acc⟩ := hsome t.1 t.2 hs
      simp only [C16processChain, acc.run] at hp
      cases hr : (C16processChain P a1 rest).2 with
      | none => rw [hr] at hp; simp at hp
      | some rs =>
        have hp' : C16processChain P a1 rest = (a', some rs) := by
          rw [hr] at hp
          simp only [Option.map_some, Prod.mk.injEq] at hp
          exact Prod.ext hp.1 hr
        have c2 := ih a1 (h0 + 1) acc.ok hcons.2 a' rs hp'
        have c1 : C16Chain P a h0 a1 (h0 + 1) := by
          rw [acc.block]
          exact C16Chain.block c C16Chain.base (by rw [acc.height, hcons.1]) acc.inv
        have hl : h0 + (b :: rest).length = h0 + 1 + rest.length := by simp; omega
        rw [hl]
        exact chain_trans c1 c2

/-- **Restart recovery after really processed blocks.**  The engine's tip is the application `a0`
at height `h0`; the application then processes any blocks `h0+1 … h` (any hooks, any transactions —
successful, failed — the blocks being accepted) and the process stops before the engine has stored
them.  `Init` with the engine's tip succeeds and the state and the tree are again the maps of the
engine's tip.  (`C16_init_recovers_to_engine_tip` assumed an abstract chain of committed overlays;
this theorem discharges that assumption for everything `C16processBlock` can produce.) -/
theorem C16_processed_blocks_recoverable (P : Params) (hTK : TreeKeyInj P.H)
    (hExt : C16SmtRootExt P.smtRoot) (a0 : App) (h0 : Nat) (hok : C16NodeOk P a0)
    (hts0 : a0.treeState.getD (0, P.smtRoot []) = (h0, P.smtRoot a0.leaves))
    (blks : List C16Blk) (hcons : C16Consecutive h0 blks) (hb : h0 + blks.length < 4294967296)
    (a : App) (roots : List Bytes) (hp : C16processChain P a0 blks = (a, some roots)) :
    ∃ a', init P a h0 (P.smtRoot a0.leaves) = (a', true) ∧ C16SameMaps a' a0 ∧
      (0 < blks.length → a'.treeState = some (h0, P.smtRoot a0.leaves)) := by
  have hc := processChain_chain P hTK blks a0 h0 hok hcons a roots hp
  obtain ⟨a', h1, h2, h3⟩ := C16_init_recovers_to_engine_tip P hTK hExt a0 h0 a (h0 + blks.length) hc
    hok.leaf hts0 hb
  exact ⟨a', h1, h2, fun hpos => h3 (by omega)⟩

/-! ### deleting a block; a crash point that is not recovered -/

/-- `Executer.deleteBlock` (pkg/consensus/execute.go) as far as the application is concerned:
`InitStateMachine` with the header of the block to delete, `Revert`, and the deferred `Clear` -/
def C16revertBlock (P : Params) (a : App) (height : Nat) (expected : Option Bytes) : App × Option Bytes :=
  let i := initStateMachine a height
  if !i.2 then (a, none)
  else
    let r := revert P i.1 expected
    (clear r.1, r.2)

private theorem revert_nodup (P : Params) (a : App) (e : Option Bytes) (h : NoDupKeys a.store) :
    NoDupKeys (revert P a e).1.store := by
  unfold Exec.revert revertAt
  split
  · exact h
  · split
    · exact h
    · dsimp only
      split
      · exact h
      · exact nodup_applyStore _ _ h

/-- **Deleting a processed block restores the previous state and root.**  For every accepted block
(any hooks and transactions), the engine's delete sequence succeeds, returns the root the tree had
before the block, and leaves state and tree holding the maps they held before the block, the
application again between blocks, with the recorded height decreased by one. -/
theorem C16_process_then_revert_restores (P : Params) (hTK : TreeKeyInj P.H)
    (hExt : C16SmtRootExt P.smtRoot) (a : App) (hok : C16NodeOk P a) (blk : C16Blk)
    (a' : App) (root : Bytes) (evs : List Event)
    (hp : C16processBlock P a blk none = (a', some (root, evs))) :
    ∃ a'', C16revertBlock P a' blk.height none = (a'', some (P.smtRoot a.leaves)) ∧
      C16SameMaps a'' a ∧ C16NodeOk P a'' ∧
      a''.treeState = some (pred32 blk.height, P.smtRoot a.leaves) := by
  obtain ⟨hnone, hsome⟩ := C16_block_refines_fold P hTK a hok.ctx hok.nodup hok.leaf blk
  cases hs : C16specBlock (slookup a.store) blk with
  | none => rw [hnone hs none] at hp; cases hp
  | some t =>
    -- the accepted block is the commit `C16Block P a c` of a context satisfying the staged-store
    -- invariant, so `C16_revert_restores_state_and_root` applies to the delete sequence run on it
    obtain ⟨a1, root1, c, acc⟩ := hsome t.1 t.2 hs
    rw [acc.run] at hp
    simp only [Prod.mk.injEq] at hp
    have ha' : a' = C16Block P a c := by rw [← hp.1, acc.block]
    have hc : commit P { a with ctx := some c } none false =
        ((commit P { a with ctx := some c } none false).1,
         some (P.smtRoot (applyLeaves P.H a.leaves (batchOfCache c.cache)))) := rfl
    obtain ⟨a2, root2, hrev, hst, hlv, hleaf2, hr2, hts2, hroot⟩ :=
      C16_revert_restores_state_and_root P { a with ctx := some c } c rfl acc.inv hok.leaf hTK none _ _ hc
        { height := blk.height } acc.height.symm
    have hi : initStateMachine a' blk.height = ({ a' with ctx := some { height := blk.height } }, true) := by
      unfold initStateMachine
      rw [ha']
      rfl
    have hX : ({ a' with ctx := some { height := blk.height } } : App) =
        { (commit P { a with ctx := some c } none false).1 with ctx := some { height := blk.height } } := by
      rw [ha']; rfl
    have hnd2 : NoDupKeys a2.store := by
      have := revert_nodup P
        { (commit P { a with ctx := some c } none false).1 with ctx := some { height := blk.height } } none
        (by rw [← hX, ha', ← acc.block]; exact acc.ok.nodup)
      rw [hrev] at this
      exact this
    refine ⟨clear a2, ?_, ⟨hst, hlv⟩, ⟨rfl, hnd2, hleaf2⟩, ?_⟩
    · unfold C16revertBlock
      simp only [hi, Bool.not_true, Bool.false_eq_true, if_false]
      rw [hX, hrev, hroot hExt]
    · show a2.treeState = _
      rw [hts2, hroot hExt, acc.height]

/-- **A crash point that restart recovery does not cover** (necessity of "application ahead").
`deleteBlock` applies `Revert` to the application database *before* the engine removes the block
from its own database.  If the process stops in between, the engine's tip is still the deleted
block `(blk.height, root)` while the application is one block behind; `Init` then answers with an
error on every restart (it only rolls back, never forward). -/
theorem C16_crash_after_revert_not_recovered (P : Params) (hTK : TreeKeyInj P.H)
    (hExt : C16SmtRootExt P.smtRoot) (a : App) (hok : C16NodeOk P a) (blk : C16Blk)
    (hpos : 0 < blk.height) (hb : blk.height < 4294967296)
    (a' : App) (root : Bytes) (evs : List Event)
    (hp : C16processBlock P a blk none = (a', some (root, evs))) :
    (init P (C16revertBlock P a' blk.height none).1 blk.height root).2 = false := by
  obtain ⟨a'', hrev, _, _, hts⟩ := C16_process_then_revert_restores P hTK hExt a hok blk a' root evs hp
  rw [hrev]
  unfold init
  simp only [hts, Option.getD_some]
  have : pred32 blk.height < blk.height := by unfold pred32; omega
  rw [if_pos this]

/-! ### acceptance and last root, read off the fold

Corollaries of the refinement in the form the concrete runs below use: each run is checked as an
instance of the theorem it illustrates, with the fold evaluated in place of the engine. -/

private theorem block_accepted_iff (P : Params) (hTK : TreeKeyInj P.H) (a : App) (hok : C16NodeOk P a)
    (blk : C16Blk) :
    (C16processBlock P a blk none).2.isSome = (C16specBlock (slookup a.store) blk).isSome := by
  obtain ⟨hn, hs⟩ := C16_block_refines_fold P hTK a hok.ctx hok.nodup hok.leaf blk
  cases h : C16specBlock (slookup a.store) blk with
  | none => rw [hn h none]; rfl
  | some t => obtain ⟨_, _, _, acc⟩ := hs t.1 t.2 h; rw [acc.run]; rfl

private theorem chain_accepted_iff (P : Params) (hTK : TreeKeyInj P.H) (a : App) (hok : C16NodeOk P a)
    (blks : List C16Blk) :
    (C16processChain P a blks).2.isSome = (C16specChain (slookup a.store) blks).isSome := by
  obtain ⟨hn, hs⟩ := C16_chain_refines_fold P hTK blks a hok
  cases h : C16specChain (slookup a.store) blks with
  | none => rw [hn h]; rfl
  | some m => obtain ⟨_, _, hp, _⟩ := hs m h; rw [hp]; rfl

private theorem block_run (P : Params) (a : App) (blk : C16Blk)
    (h : (C16processBlock P a blk none).2.isSome = true) :
    ∃ a' root evs, C16processBlock P a blk none = (a', some (root, evs)) := by
  cases hp : C16processBlock P a blk none with
  | mk a' o =>
    cases o with
    | none => rw [hp] at h; cases h
    | some re => exact ⟨a', re.1, re.2, rfl⟩

/-- `C16_same_fold_same_root` as an equation between the last roots -/
private theorem same_fold_last_root (P : Params) (hTK : TreeKeyInj P.H) (hExt : C16SmtRootExt P.smtRoot)
    (a b : App) (ha : C16NodeOk P a) (hb : C16NodeOk P b) (hsame : C16SameMaps a b)
    (blksA blksB : List C16Blk) (hne : blksA.isEmpty = blksB.isEmpty)
    (hfold : C16specChain (slookup a.store) blksA = C16specChain (slookup a.store) blksB) :
    (C16processChain P a blksA).2.map List.getLast? = (C16processChain P b blksB).2.map List.getLast? := by
  have hfun : slookup a.store = slookup b.store := funext hsame.store
  obtain ⟨hnA, hsA⟩ := C16_chain_refines_fold P hTK blksA a ha
  obtain ⟨hnB, hsB⟩ := C16_chain_refines_fold P hTK blksB b hb
  rw [← hfun, ← hfold] at hnB hsB
  cases hs : C16specChain (slookup a.store) blksA with
  | none => rw [hnA hs, hnB hs]
  | some m =>
    obtain ⟨a', ra, hpa, _, hma, hoka, hra⟩ := hsA m hs
    obtain ⟨b', rb, hpb, _, hmb, hokb, hrb⟩ := hsB m hs
    rw [hpa, hpb, Option.map_some, Option.map_some, hra, hrb, hne,
      hExt _ _ (leafInv_unique hoka.leaf hokb.leaf fun k => (hma k).trans (hmb k).symm)]

/-- for single blocks the whole answer agrees -/
private theorem same_fold_single (P : Params) (hTK : TreeKeyInj P.H) (hExt : C16SmtRootExt P.smtRoot)
    (a : App) (ha : C16NodeOk P a) (b1 b2 : C16Blk)
    (hfold : C16specChain (slookup a.store) [b1] = C16specChain (slookup a.store) [b2]) :
    (C16processChain P a [b1]).2 = (C16processChain P a [b2]).2 := by
  have h := same_fold_last_root P hTK hExt a a ha ha ⟨fun _ => rfl, fun _ => rfl⟩ [b1] [b2] rfl hfold
  obtain ⟨hn1, hs1⟩ := C16_chain_refines_fold P hTK [b1] a ha
  obtain ⟨hn2, hs2⟩ := C16_chain_refines_fold P hTK [b2] a ha
  rw [← hfold] at hn2 hs2
  cases hs : C16specChain (slookup a.store) [b1] with
  | none => rw [hn1 hs, hn2 hs]
  | some m =>
    obtain ⟨_, r1, hp1, hl1, _⟩ := hs1 m hs
    obtain ⟨_, r2, hp2, hl2, _⟩ := hs2 m hs
    rw [hp1, hp2] at h ⊢
    match r1, r2, hl1, hl2, h with
    | [x], [y], _, _, h => simp only [Option.map_some, List.getLast?_singleton, Option.some.injEq] at h; rw [h]

private theorem mapTxs_single {m m1 : C16Map} {tx : Tx} (h : C16mapTxs m [tx] = some m1) :
    m1 = (C16mapTx m tx).1 := by
  simp only [C16mapTxs] at h
  split at h
  · cases h
  · split at h
    · cases h
    · exact (Option.some.inj h).symm

/-! ### non-vacuity: parameters that satisfy the assumptions, and concrete runs -/

/-- the map held by a tree as a list with unique keys -/
private def canon : Leaves → Leaves
  | [] => []
  | (k, v) :: r => sset (canon r) k v

private theorem canon_spec (l : Leaves) : NoDupKeys (canon l) ∧ ∀ k, slookup (canon l) k = slookup l k := by
  induction l with
  | nil => exact ⟨by simp [NoDupKeys, canon], fun _ => rfl⟩
  | cons e r ih =>
    obtain ⟨k0, v0⟩ := e
    refine ⟨nodup_sset _ _ _ ih.1, fun k => ?_⟩
    simp only [canon, slookup_sset, slookup, ih.2 k]

/-- identity "hash", and a root that lists the sorted content of the map held by the tree -/
private def exP : Params :=
  { H := fun b => b
    smtRoot := fun l => (sortDir (canon l) false).foldr (fun kv acc => kv.1 ++ kv.2 ++ acc) [] }

private theorem exTK : TreeKeyInj exP.H := by
  intro a b h
  simpa [treeKey, exP] using h

/-- `exP` satisfies the assumption on the sparse Merkle root (it depends on the map only) -/
private theorem exExt : C16SmtRootExt exP.smtRoot := by
  intro l1 l2 h
  have e : sortDir (canon l1) false = sortDir (canon l2) false := by
    apply sortDir_eq_of_mem_iff _ _ (canon_spec l1).1 (canon_spec l2).1
    intro e
    obtain ⟨k, v⟩ := e
    rw [← slookup_iff_mem _ (canon_spec l1).1, ← slookup_iff_mem _ (canon_spec l2).1,
      (canon_spec l1).2, (canon_spec l2).2, h]
  simp only [exP, e]

private def exK1 : Bytes := [0, 0, 0, 1, 0, 0, 1]
private def exK2 : Bytes := [0, 0, 0, 1, 0, 0, 2]
private def exFee : Bytes := [0, 0, 0, 2, 0, 0]
private def exNonce : Bytes := [0, 0, 0, 3, 0, 0]
private def exStore : Store := [(exK1, [10]), (exK2, [20]), (exFee, [100])]
private def exSt : St := { store := exStore }
private theorem exInv : C12Inv exSt := C12_inv_init exStore (by unfold NoDupKeys exStore; decide)

/-- snapshots nested two deep, a restore without snapshot, reads in between -/
private def exNested : List Item :=
  [.set exK1 [1], .push, .set exK1 [2], .push, .del exK1, .del exK2, .pop, .get exK1, .pop, .pop, .get exK1]

-- hypothesis of C16_section_refines_spec, and both sides of its conclusion on this script
example : C16Rel { st := exSt, lg := newLogger 7 } (eff exSt, []) :=
  C16_rel_start exSt _ _ exInv (fun _ => rfl) rfl
example : (runSection { st := exSt, lg := newLogger 7 } exNested).2 = true ∧
    eff (runSection { st := exSt, lg := newLogger 7 } exNested).1.st exK1 = some [1] ∧
    eff (runSection { st := exSt, lg := newLogger 7 } exNested).1.st exK2 = some [20] := by decide +kernel
example : (C16mapRun (eff exSt, []) exNested).2 = true ∧
    (C16mapRun (eff exSt, []) exNested).1.1 exK1 = some [1] ∧
    (C16mapRun (eff exSt, []) exNested).1.1 exK2 = some [20] := by decide +kernel
example : (C16logRun (eff exSt, []) (newLogger 7) exNested).out.map (fun e => (e.name, e.data)) =
    [("read", [2]), ("read", [1])] := by decide +kernel

/-- a transaction with a fee hook before and a nonce hook after a command that writes, logs both
kinds of events, nests a snapshot and then fails -/
private def exTxFail : Tx :=
  { pre := [.set exFee [99], .ev false 0 [7]]
    cmd := [.set exK1 [11], .del exK2, .ev false 1 [1], .ev true 0 [2], .push, .set exK2 [5], .pop, .fail]
    post := [.set exNonce [1], .ev true 0 [3]] }

-- hypothesis of C16_failed_transaction_exact …
example : (executeTransaction exSt 7 exTxFail).2.1 = .fail := by
  rw [(C16_transaction_refines_spec exSt exInv 7 exTxFail).2.1]; decide +kernel
-- … the state is the hooks' writes only, and the events are as stated
example : eff (executeTransaction exSt 7 exTxFail).1 exK1 = some [10] ∧
    eff (executeTransaction exSt 7 exTxFail).1 exK2 = some [20] ∧
    eff (executeTransaction exSt 7 exTxFail).1 exFee = some [99] ∧
    eff (executeTransaction exSt 7 exTxFail).1 exNonce = some [1] := by
  simp only [(C16_transaction_refines_spec exSt exInv 7 exTxFail).1]; decide +kernel
example : (executeTransaction exSt 7 exTxFail).2.2.map (fun e => (e.name, e.data, e.index)) =
    [("rev", [7], 0), ("unr", [2], 1), ("unr", [3], 2), ("commandExecutionResult", [8, 0], 3)] := by
  rw [(C16_transaction_refines_spec exSt exInv 7 exTxFail).2.1]; decide +kernel
example : (C16specTx (eff exSt) 7 exTxFail).2 = (executeTransaction exSt 7 exTxFail).2 :=
  (C16_transaction_refines_spec exSt exInv 7 exTxFail).2.1.symm

private def exTxOk : Tx := { cmd := [.set exK1 [11], .del exK2, .set exK1 [12]] }
private def exTxOk2 : Tx := { cmd := [.set exK2 [21]] }

/-- a node between blocks -/
private def exApp : App :=
  { store := exStore, leaves := leavesOf exP.H exStore,
    treeState := some (3, exP.smtRoot (leavesOf exP.H exStore)) }

private theorem exOk : C16NodeOk exP exApp :=
  ⟨rfl, by unfold NoDupKeys exApp exStore; decide,
   leafInv_leavesOf exTK exStore⟩

/-- the same maps laid out differently: the database and the leaves in the reverse order -/
private def exApp' : App :=
  { store := exStore.reverse,
    leaves := leavesOf exP.H exStore.reverse,
    treeState := some (3, exP.smtRoot (leavesOf exP.H exStore)) }

private theorem exOk' : C16NodeOk exP exApp' :=
  ⟨rfl, by unfold NoDupKeys exApp' exStore; decide,
   leafInv_leavesOf exTK exStore.reverse⟩

private theorem exSame : C16SameMaps exApp exApp' := by
  have hs : ∀ k, slookup exApp.store k = slookup exApp'.store k :=
    fun k => by rw [slookup_eq_get]; exact AList.get_perm (List.reverse_perm _).symm exOk.nodup.alist k
  exact ⟨hs, leafInv_unique exOk.leaf exOk'.leaf hs⟩

/-- a block with a failed transaction in the middle and block hooks -/
private def exBlk : C16Blk :=
  { height := 4, before := [.set exNonce [0]], txs := [exTxOk, exTxFail, exTxOk2], after := [.get exK1] }

-- the block is accepted (second part of C16_block_refines_fold) …
private theorem exFold : (C16specBlock (slookup exApp.store) exBlk).isSome = true := by decide +kernel
private theorem exAccepted : (C16processBlock exP exApp exBlk none).2.isSome = true :=
  (block_accepted_iff exP exTK exApp exOk exBlk).trans exFold
example : (C16processBlock exP exApp exBlk none).2.isSome = true := exAccepted
example : (C16specBlock (slookup exApp.store) exBlk).isSome = true := exFold
example : (C16specBlock (slookup exApp.store) exBlk).map (·.2) =
    (C16processBlock exP exApp exBlk none).2.map (·.2) := by
  obtain ⟨hn, hs⟩ := C16_block_refines_fold exP exTK exApp exOk.ctx exOk.nodup exOk.leaf exBlk
  cases h : C16specBlock (slookup exApp.store) exBlk with
  | none => rw [hn h none]; rfl
  | some t => obtain ⟨_, _, _, acc⟩ := hs t.1 t.2 h; rw [acc.run]; rfl
-- … the two nodes return the same root for it (C16_two_nodes_deterministic) …
example : (C16processBlock exP exApp exBlk none).2 = (C16processBlock exP exApp' exBlk none).2 :=
  (C16_two_nodes_deterministic exP exTK exExt exApp exApp' exOk exOk' exSame exBlk none).1
-- … a wrong expected root, a failing after-hook and an invalid transaction leave no trace
-- (hypothesis of C16_failed_block_no_trace, first part of C16_block_refines_fold)
example : (C16processBlock exP exApp exBlk (some [1, 2, 3])).2 = none := by decide +kernel
private theorem exRejected (blk : C16Blk) (h : (C16specBlock (slookup exApp.store) blk).isSome = false) :
    (C16processBlock exP exApp blk none).2 = none :=
  Option.not_isSome_iff_eq_none.mp (by rw [block_accepted_iff exP exTK exApp exOk, h]; decide)
private theorem exFoldAfter :
    (C16specBlock (slookup exApp.store) { exBlk with after := [.set exK1 [0], .fail] }).isSome = false := by
  decide +kernel
example : (C16processBlock exP exApp { exBlk with after := [.set exK1 [0], .fail] } none).2 = none :=
  exRejected _ exFoldAfter
example : (C16specBlock (slookup exApp.store) { exBlk with after := [.set exK1 [0], .fail] }).isSome = false :=
  exFoldAfter
example : (C16processBlock exP exApp { exBlk with txs := [exTxOk, { exTxOk2 with post := [.fail] }] } none).2 = none :=
  exRejected _ (by decide +kernel)

-- C16_spec_batching / C16_same_fold_same_root: one block or two blocks, same last root
example : C16specChain (slookup exApp.store) [{ height := 4, txs := [exTxOk, exTxFail] ++ [exTxOk2] }] =
    C16specChain (slookup exApp.store) [{ height := 4, txs := [exTxOk, exTxFail] }, { height := 5, txs := [exTxOk2] }] :=
  C16_spec_batching _ 4 4 5 _ _
example : (C16processChain exP exApp [{ height := 4, txs := [exTxOk, exTxFail] ++ [exTxOk2] }]).2.map List.getLast? =
    (C16processChain exP exApp' [{ height := 4, txs := [exTxOk, exTxFail] }, { height := 5, txs := [exTxOk2] }]).2.map
      List.getLast? :=
  same_fold_last_root exP exTK exExt exApp exApp' exOk exOk' exSame _ _ rfl (C16_spec_batching _ 4 4 5 _ _)
example : (C16processChain exP exApp [{ height := 4, txs := [exTxOk, exTxFail] ++ [exTxOk2] }]).2.isSome = true :=
  (chain_accepted_iff exP exTK exApp exOk _).trans (by decide +kernel)

-- C16_spec_failed_tx_dropped: its hypotheses for a hook-free failing transaction after `exTxOk`
private def exTxFail0 : Tx := { cmd := [.set exK1 [77], .push, .del exFee, .fail] }
private theorem exFail0 : C16specVerify (C16mapTx (slookup exStore) exTxOk).1 exTxFail0 = true ∧
    (C16mapRun ((C16mapTx (slookup exStore) exTxOk).1, []) exTxFail0.cmd).2 = false := by decide +kernel
example : C16specVerify (C16mapTx (slookup exStore) exTxOk).1 exTxFail0 = true ∧
    (C16mapRun ((C16mapTx (slookup exStore) exTxOk).1, []) exTxFail0.cmd).2 = false := exFail0
example : (C16processChain exP exApp [{ height := 4, txs := [exTxOk] ++ exTxFail0 :: [exTxOk2] }]).2 =
    (C16processChain exP exApp [{ height := 4, txs := [exTxOk] ++ [exTxOk2] }]).2 :=
  same_fold_single exP exTK exExt exApp exOk _ _
    (C16_spec_failed_tx_dropped_block (slookup exStore) 4 [] [] [exTxOk] [exTxOk2] exTxFail0 [] rfl rfl rfl
      fun _ h => mapTxs_single h ▸ exFail0)

-- C16_spec_last_write_wins / C16_spec_write_order_block: two write lists with the same last writes
private def exWs1 : List Write := [(exK1, some [1]), (exK2, some [2]), (exK1, none), (exK1, some [3])]
private def exWs2 : List Write := [(exK2, some [2]), (exK1, some [3])]
private theorem exLast : ∀ k, C16lastWrite k exWs1 = C16lastWrite k exWs2 := by
  intro k
  simp only [C16lastWrite, exWs1, exWs2]
  by_cases h1 : exK1 = k
  · by_cases h2 : exK2 = k
    · exact absurd (h1.trans h2.symm) (by decide)
    · simp [h1]
  · by_cases h2 : exK2 = k <;> simp [h1, h2]
example : ∀ k, C16lastWrite k exWs1 = C16lastWrite k exWs2 := exLast
example : (C16processChain exP exApp [{ height := 4, txs := [{ cmd := C16writeItems exWs1 }] }]).2 =
    (C16processChain exP exApp [{ height := 4, txs := [{ cmd := C16writeItems exWs2 }] }]).2 :=
  same_fold_single exP exTK exExt exApp exOk _ _
    (C16_spec_write_order_block (slookup exStore) 4 [] [] [] [] {} exWs1 exWs2 [] exLast)

-- C16_processed_blocks_recoverable: its hypotheses and its conclusion on two processed blocks
example : exApp.treeState.getD (0, exP.smtRoot []) = (3, exP.smtRoot exApp.leaves) := by decide +kernel
example : C16Consecutive 3 [exBlk, { height := 5, txs := [exTxOk2] }] := ⟨rfl, rfl, trivial⟩
private theorem exChainAccepted :
    (C16processChain exP exApp [exBlk, { height := 5, txs := [exTxOk2] }]).2.isSome = true :=
  (chain_accepted_iff exP exTK exApp exOk _).trans (by decide +kernel)
example : (C16processChain exP exApp [exBlk, { height := 5, txs := [exTxOk2] }]).2.isSome = true := exChainAccepted
example : (init exP (C16processChain exP exApp [exBlk, { height := 5, txs := [exTxOk2] }]).1 3
    (exP.smtRoot exApp.leaves)).2 = true := by
  have hacc := exChainAccepted
  cases hp : C16processChain exP exApp [exBlk, { height := 5, txs := [exTxOk2] }] with
  | mk a o =>
    cases o with
    | none => rw [hp] at hacc; cases hacc
    | some roots =>
      obtain ⟨a', h, _⟩ := C16_processed_blocks_recoverable exP exTK exExt exApp 3 exOk (by decide +kernel)
        [exBlk, { height := 5, txs := [exTxOk2] }] ⟨rfl, rfl, trivial⟩ (by decide) a roots hp
      rw [h]

-- C16_process_then_revert_restores / C16_crash_after_revert_not_recovered on `exBlk`
example : (C16revertBlock exP (C16processBlock exP exApp exBlk none).1 4 none).2 = some (exP.smtRoot exApp.leaves) := by
  obtain ⟨a', root, evs, hp⟩ := block_run exP exApp exBlk exAccepted
  obtain ⟨a'', h, _⟩ := C16_process_then_revert_restores exP exTK exExt exApp exOk exBlk a' root evs hp
  rw [hp]; exact congrArg Prod.snd h
example : (init exP (C16revertBlock exP (C16processBlock exP exApp exBlk none).1 4 none).1 4
    ((C16processBlock exP exApp exBlk none).2.map (·.1)).get!).2 = false := by
  obtain ⟨a', root, evs, hp⟩ := block_run exP exApp exBlk exAccepted
  rw [hp]
  exact C16_crash_after_revert_not_recovered exP exTK exExt exApp exOk exBlk (by decide) (by decide) a' root evs hp

/-! ### what is *not* atomic: `Invalid` transactions (and a finding about block generation) -/

/-- **Atomicity stops at `Fail`.**  A transaction answered with `Invalid` (here: the command
succeeds and an `AfterCommandExecute` hook returns an error) leaves the writes of its hooks and of
its command in the staged store: no snapshot surrounds the whole transaction.  The caller has to
give up the whole staged store — as `stateExecuter.Execute` does, see `C16_failed_block_no_trace`. -/
theorem C16_invalid_transaction_not_atomic :
    ∃ (st : St) (tx : Tx) (k1 k2 : Bytes), C12Inv st ∧ (executeTransaction st 7 tx).2.1 = .invalid ∧
      eff (executeTransaction st 7 tx).1 k1 ≠ eff st k1 ∧
      eff (executeTransaction st 7 tx).1 k2 ≠ eff st k2 :=
  ⟨exSt, { pre := [.set exFee [99]], cmd := [.set exK1 [11]], post := [.fail] }, exFee, exK1, exInv,
    by decide +kernel, by decide +kernel, by decide +kernel⟩

/-- the selection loop of `Generator.selectTransactionsByFee` (pkg/generator/generator.go) as far as
the application is concerned: `VerifyTransaction`, `ExecuteTransaction`; a transaction that does not
verify or is `Invalid` is skipped and the loop goes on *with the same staged store* (the pool is a
list of transactions of different senders, in the order the fee heap yields them) -/
def C16selectTxs (a : App) : List Tx → App × List Tx
  | [] => (a, [])
  | tx :: r =>
    let v := verifyTransaction a tx
    if !v.2 then C16selectTxs v.1 r
    else
      let e := executeTx v.1 tx
      match e.2 with
      | none => C16selectTxs e.1 r
      | some re =>
        if re.1 = .invalid then C16selectTxs e.1 r
        else
          let t := C16selectTxs e.1 r
          (t.1, tx :: t.2)

/-- `Generator.generate` as far as the application is concerned: context, before-hooks, selection,
after-hooks, `Commit` with `DryRun` for the state root of the header, `Clear` -/
def C16generateBlock (P : Params) (a : App) (height : Nat) (before after : List Item) (pool : List Tx) :
    Option (C16Blk × Bytes) :=
  let i := initStateMachine a height
  if !i.2 then none
  else
    let b := blockHook i.1 before
    if b.2.isNone then none
    else
      let s := C16selectTxs b.1 pool
      let f := blockHook s.1 after
      if f.2.isNone then none
      else (commit P f.1 none true).2.map
        (fun root => ({ height := height, before := before, txs := s.2, after := after }, root))

/-- **Finding (block generation).**  Because an `Invalid` transaction is not atomic and the selection
loop continues on the same staged store, one such transaction in the pool makes the generator seal
a block whose state root contains writes of a transaction that is not in the block: the block is
well-formed and would be accepted with its true root, but with the root the generator put into the
header every node — the generator included — rejects it. -/
theorem C16_generation_after_invalid_tx_breaks_root :
    ∃ (P : Params) (a : App) (pool : List Tx), TreeKeyInj P.H ∧ C16SmtRootExt P.smtRoot ∧ C16NodeOk P a ∧
      (C16generateBlock P a 4 [] [] pool).map
        (fun g => ((C16processBlock P a g.1 (some g.2)).2.isSome, (C16processBlock P a g.1 none).2.isSome,
                   g.1.txs.length)) = some (false, true, 1) :=
  ⟨exP, exApp, [{ pre := [.set exFee [99]], cmd := [.set exK1 [11]], post := [.fail] }, exTxOk2],
    exTK, exExt, exOk, by decide +kernel⟩
