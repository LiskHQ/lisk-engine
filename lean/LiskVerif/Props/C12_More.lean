/-
C12 — further theorems about the staged state store (model `LiskVerif.Model.DiffDB`).

The staged store is a trace refinement of a plain sorted map in which a snapshot is a copy of the map
(`C12Sim`, `C12_reads_refine_spec`).  On top of that: the Added / Updated / Deleted lists of the diff
are characterised exactly; scans are functions of the effective map alone; a prefix view behaves as
the database restricted to its keys (the view operations `C12v…` are the driver's, the model has no
view objects); `revert ∘ commit` is the identity on the database, also along chains of commits;
snapshot ids are never reused and a consumed, deleted or unknown id cannot be restored.  At the end:
histories without `RestoreSnapshot` (`C12NoRestore`, used by `Props/C12_Size.lean`), the counterexample
that shows the scan theorem needs the invariant, and the database's own prefix scan and reverse seek.
-/
import LiskVerif.Props.C12_Scan
import LiskVerif.Lemmas.DiffDBMore

open LiskVerif LiskVerif.DiffDB

/-! ## 0. the scans leave store, snapshots and counter alone -/

private theorem scan_frame (st : St) (f : Bytes → Bool) (l : Int) (rv : Bool) :
    (scan st f l rv).1.store = st.store ∧ (scan st f l rv).1.snaps = st.snaps ∧
      (scan st f l rv).1.snapCount = st.snapCount := ⟨rfl, rfl, rfl⟩

/-- the staged store never writes to the database before `Commit` -/
theorem C12_store_untouched (st : St) (ops : List Op) : (run st ops).store = st.store :=
  run_store st ops

/-! ## 1. trace refinement to a sorted map with snapshot copies -/

/-- The reference: the database contents with all staged writes applied, as a plain map; a
snapshot is a copy of the map. -/
structure C12Ref where
  m : Store
  snaps : List (Nat × Store) := []
  cnt : Nat := 0

def C12find {β : Type} (l : List (Nat × β)) (id : Nat) : Option β :=
  match l with
  | [] => none
  | (i, c) :: r => if i = id then some c else C12find r id

def C12refStep (r : C12Ref) : Op → C12Ref
  | .set k v => { r with m := sset r.m k v }
  | .del k => { r with m := sdel r.m k }
  | .snapshot => { r with snaps := (r.cnt, r.m) :: r.snaps, cnt := r.cnt + 1 }
  | .restore id =>
    match C12find r.snaps id with
    | none => r
    | some m => { r with m := m, snaps := r.snaps.filter (fun e => e.1 ≠ id) }
  | .deleteSnapshot id => { r with snaps := r.snaps.filter (fun e => e.1 ≠ id) }
  | _ => r

def C12refRun (r : C12Ref) (ops : List Op) : C12Ref := ops.foldl C12refStep r

/-- what an operation returns to the caller -/
inductive C12Obs where
  | val (o : Option Bytes)
  | kvs (l : List KV)
  | id (n : Nat)
  | ok (b : Bool)
  | unit
deriving DecidableEq

/-- the observation of the staged store -/
def C12obs (st : St) : Op → C12Obs
  | .get k => .val (DiffDB.get st k).2
  | .range s e l r => .kvs (range st s e l r).2
  | .iterate p l r => .kvs (iterate st p l r).2
  | .snapshot => .id (snapshot st).2
  | .restore id => .ok (restore st id).2
  | _ => .unit

/-- the observation of the reference: the database's own lookups and scans on the map -/
def C12refObs (r : C12Ref) : Op → C12Obs
  | .get k => .val (slookup r.m k)
  | .range s e l rv => .kvs (dbRange r.m s e l rv)
  | .iterate p l rv => .kvs (dbIterate r.m p l rv)
  | .snapshot => .id r.cnt
  | .restore id => .ok (C12find r.snaps id).isSome
  | _ => .unit

private theorem C12find_eq_get {β : Type} : @C12find β = AList.get := by
  funext l id; induction l <;> simp only [C12find, AList.get, *]

/-- the simulation relation between the staged store and the reference -/
structure C12Sim (st : St) (r : C12Ref) : Prop where
  inv : C12Inv st
  nodupM : NoDupKeys r.m
  effOk : ∀ k, eff st k = slookup r.m k
  cntOk : st.snapCount = r.cnt
  snapsOk : TabRel (fun c m => NoDupKeys m ∧ ∀ k, effC st.store c k = slookup m k) st.snaps r.snaps

theorem C12_sim_init (s : Store) (h : NoDupKeys s) : C12Sim { store := s } { m := s } :=
  ⟨C12_inv_init s h, h, fun _ => rfl, rfl, TabRel.nil⟩

private theorem sim_frame {st st' : St} {r r' : C12Ref} (h : C12Sim st r) (hinv : C12Inv st')
    (hs : st'.store = st.store) (hsn : st'.snaps = st.snaps) (hc : st'.snapCount = st.snapCount)
    (hr1 : r'.snaps = r.snaps) (hr2 : r'.cnt = r.cnt) (hnd : NoDupKeys r'.m)
    (he : ∀ k, eff st' k = slookup r'.m k) : C12Sim st' r' := by
  refine ⟨hinv, hnd, he, by rw [hc, hr2]; exact h.cntOk, ?_⟩
  rw [hsn, hr1, hs]
  exact h.snapsOk

theorem C12_sim_step (st : St) (r : C12Ref) (h : C12Sim st r) (op : Op) :
    C12Sim (step st op) (C12refStep r op) := by
  have hinv := C12_inv_step st h.inv op
  cases op with
  | get k =>
    obtain ⟨f1, f2, f3⟩ := step_frame st (.get k) rfl
    exact sim_frame h hinv f1 f2 f3 rfl rfl h.nodupM
      (fun k' => ((C12_get_refines st h.inv k).2.1 k').trans (h.effOk k'))
  | set k v =>
    obtain ⟨f1, f2, f3⟩ := step_frame st (.set k v) rfl
    refine sim_frame h hinv f1 f2 f3 rfl rfl (nodup_sset _ _ _ h.nodupM) (fun k' => ?_)
    simp only [step, C12refStep]
    rw [(C12_set_refines st h.inv k v).1 k', slookup_sset, h.effOk k']
  | del k =>
    obtain ⟨f1, f2, f3⟩ := step_frame st (.del k) rfl
    refine sim_frame h hinv f1 f2 f3 rfl rfl (nodup_sdel _ _ h.nodupM) (fun k' => ?_)
    simp only [step, C12refStep]
    rw [(C12_del_refines st h.inv k).1 k', slookup_sdel, h.effOk k']
  | range s e l rv =>
    exact sim_frame h hinv rfl rfl rfl rfl rfl h.nodupM
      (fun k' => ((C12_reads_do_not_change_state st h.inv).2.1 s e l rv k').trans (h.effOk k'))
  | iterate p l rv =>
    exact sim_frame h hinv rfl rfl rfl rfl rfl h.nodupM
      (fun k' => ((C12_reads_do_not_change_state st h.inv).2.2 p l rv k').trans (h.effOk k'))
  | snapshot =>
    refine ⟨hinv, h.nodupM, h.effOk, ?_, ?_⟩ <;> simp only [step, snapshot, C12refStep] <;> rw [h.cntOk]
    exact h.snapsOk.cons _ ⟨h.nodupM, h.effOk⟩
  | restore id =>
    simp only [step, restore, C12refStep, findSnap_eq_get, C12find_eq_get] at hinv ⊢
    rcases h.snapsOk id with ⟨h1, h2⟩ | ⟨c, m, h1, h2, h3, h4⟩ <;> rw [h1] at hinv ⊢ <;> rw [h2]
    · exact h
    · exact ⟨hinv, h3, h4, h.cntOk, h.snapsOk.erase id⟩
  | deleteSnapshot id => exact ⟨hinv, h.nodupM, h.effOk, h.cntOk, h.snapsOk.erase id⟩

theorem C12_sim_run (st : St) (r : C12Ref) (h : C12Sim st r) (ops : List Op) :
    C12Sim (run st ops) (C12refRun r ops) :=
  List.foldl_rel (r := C12Sim) h fun op _ st r h => C12_sim_step st r h op

/-- related states return the same thing for every operation -/
theorem C12_sim_obs (st : St) (r : C12Ref) (h : C12Sim st r) (op : Op) :
    C12obs st op = C12refObs r op := by
  have hsame : SameMap (commit st).1.store r.m :=
    fun k => (C12_commit_exact st h.inv k).trans (h.effOk k)
  have hndc := nodup_commit st h.inv.nodupS
  cases op with
  | get k =>
    simp only [C12obs, C12refObs]
    rw [(C12_get_refines st h.inv k).1, h.effOk k]
  | range s e l rv =>
    simp only [C12obs, C12refObs]
    rw [C12_range_refines st h.inv]
    unfold dbRange
    rw [sortDir_filter_sameMap hsame hndc h.nodupM]
  | iterate p l rv =>
    simp only [C12obs, C12refObs]
    rw [C12_iterate_refines st h.inv]
    unfold dbIterate
    rw [sortDir_filter_sameMap hsame hndc h.nodupM]
  | snapshot => simp only [C12obs, C12refObs, snapshot, h.cntOk]
  | restore id =>
    simp only [C12obs, C12refObs, restore, findSnap_eq_get, C12find_eq_get]
    rcases h.snapsOk id with ⟨h1, h2⟩ | ⟨c, m, h1, h2, _, _⟩ <;> simp [h1, h2]
  | set k v => rfl
  | del k => rfl
  | deleteSnapshot id => rfl

/-- **Trace refinement.**  For every initial database, every history of
get / set / del / range / iterate / snapshot / restore / deleteSnapshot (full keys, i.e. through any
prefix views) and every next operation, the staged store returns exactly what the sorted-map
reference returns: the value under the key, the database's own scan of the map (every bound, limit
and direction), the snapshot id, and whether the restored id exists. -/
theorem C12_reads_refine_spec (s : Store) (hs : NoDupKeys s) (ops : List Op) (op : Op) :
    C12obs (run { store := s } ops) op = C12refObs (C12refRun { m := s } ops) op :=
  C12_sim_obs _ _ (C12_sim_run _ _ (C12_sim_init s hs) ops) op

/-- … and `Commit` after the history writes exactly the reference map. -/
theorem C12_commit_refines_spec (s : Store) (hs : NoDupKeys s) (ops : List Op) :
    (commit (run { store := s } ops)).1.store.Perm (C12refRun { m := s } ops).m := by
  have h := C12_sim_run _ _ (C12_sim_init s hs) ops
  exact SameMap.perm (fun k => (C12_commit_exact _ h.inv k).trans (h.effOk k))
    (nodup_commit _ h.inv.nodupS) h.nodupM

private def exS : Store := [([1], [10]), ([2], [20]), ([1, 0], [30]), ([4], [40])]
private def exOps : List Op :=
  [.set [2] [21], .snapshot, .del [1], .range [0] [9] 1 false, .snapshot, .set [3] [33], .restore 0,
   .set [5] [], .restore 0, .deleteSnapshot 1, .restore 1, .del [4]]
example : NoDupKeys exS := by unfold NoDupKeys exS; decide
example : C12obs (run { store := exS } exOps) (.range [0] [9] 2 true) = .kvs [([5], []), ([2], [21])] ∧
    C12refObs (C12refRun { m := exS } exOps) (.range [0] [9] 2 true) = .kvs [([5], []), ([2], [21])] := by
  decide +kernel

/-! ## 2. commit classification: the Added / Updated / Deleted lists, exactly -/

/-- the keys named by a diff -/
def C12diffKeys (d : Diff) : List Bytes := d.added ++ d.updated.map (·.1) ++ d.deleted.map (·.1)

/-- `Added` = the keys absent from the database before and present after the commit (a key that is
created and deleted again inside the overlay, in any order and any number of times, is in no list). -/
theorem C12_diff_added_iff (st : St) (h : C12Inv st) (k : Bytes) :
    k ∈ (commit st).2.added ↔ slookup st.store k = none ∧ (eff st k).isSome = true := by
  rw [commit_diff, mem_diffAdded _ h.cacheOk.nodupC, eff, effC]
  cases hl : clookup st.cache k with
  | none => simp
  | some cv =>
    rcases (h.cacheOk.entry hl).kinds with ⟨hs, hi, hd⟩ | ⟨i, hs, hi, _⟩ <;> simp [*]

/-- `Deleted` = the keys present before and absent after, each with its value before (set-then-delete
and delete-set-delete of a stored key end here, never in `Updated`). -/
theorem C12_diff_deleted_iff (st : St) (h : C12Inv st) (k i : Bytes) :
    (k, i) ∈ (commit st).2.deleted ↔ slookup st.store k = some i ∧ eff st k = none := by
  rw [commit_diff, mem_diffDeleted _ h.cacheOk.nodupC, eff, effC]
  cases hl : clookup st.cache k with
  | none => simp; intro hs; simp [hs]
  | some cv =>
    rcases (h.cacheOk.entry hl).kinds with ⟨hs, hi, hd⟩ | ⟨j, hs, hi, hd | ⟨hd, _⟩⟩ <;> simp [*]

/-- `Updated` = the keys present before and after whose overlay entry is dirty, i.e. that were
*written* in this overlay — whether or not the final value differs from the old one — each with its
value before. -/
theorem C12_diff_updated_iff (st : St) (h : C12Inv st) (k i : Bytes) :
    (k, i) ∈ (commit st).2.updated ↔
      slookup st.store k = some i ∧ (eff st k).isSome = true ∧
        ∃ cv, clookup st.cache k = some cv ∧ cv.dirty = true := by
  rw [commit_diff, mem_diffUpdated _ h.cacheOk.nodupC, eff, effC]
  cases hl : clookup st.cache k with
  | none => simp
  | some cv =>
    rcases (h.cacheOk.entry hl).kinds with ⟨hs, hi, hd⟩ | ⟨j, hs, hi, hd | ⟨hd, _⟩⟩ <;> simp [*]

/-- every key whose value really changed is in `Updated` … -/
theorem C12_diff_updated_of_changed (st : St) (h : C12Inv st) (k i v : Bytes)
    (hs : slookup st.store k = some i) (he : eff st k = some v) (hne : v ≠ i) :
    (k, i) ∈ (commit st).2.updated := by
  rw [C12_diff_updated_iff st h]
  refine ⟨hs, by simp [he], ?_⟩
  rw [eff, effC] at he
  cases hl : clookup st.cache k with
  | none => rw [hl, hs] at he; exact absurd (Option.some.inj he).symm hne
  | some cv =>
    rw [hl] at he
    rcases (h.cacheOk.entry hl).kinds with ⟨hs', _⟩ | ⟨j, hs', hi, hd | ⟨hd, hdi | ⟨hdi, hv⟩⟩⟩
    · rw [hs] at hs'; cases hs'
    · simp [hd] at he
    · exact ⟨cv, rfl, hdi⟩
    · rw [hs] at hs'; cases hs'
      simp [hd, hv] at he
      exact absurd he.symm hne

/-- … the diff is complete: a key named by no list holds the same value before and after. -/
theorem C12_diff_complete (st : St) (h : C12Inv st) (k : Bytes)
    (hk : k ∉ C12diffKeys (commit st).2) :
    slookup (commit st).1.store k = slookup st.store k := by
  rw [C12_commit_exact st h k]
  simp only [C12diffKeys, List.mem_append, List.mem_map, not_or, not_exists, not_and] at hk
  obtain ⟨⟨ha, hu⟩, hd⟩ := hk
  cases hs : slookup st.store k with
  | none =>
    cases he : eff st k with
    | none => rfl
    | some v => exact absurd ((C12_diff_added_iff st h k).mpr ⟨hs, by simp [he]⟩) ha
  | some i =>
    cases he : eff st k with
    | none => exact absurd rfl (hd (k, i) ((C12_diff_deleted_iff st h k i).mpr ⟨hs, he⟩))
    | some v =>
      by_cases hv : v = i
      · rw [hv]
      · exact absurd rfl (hu (k, i) (C12_diff_updated_of_changed st h k i v hs he hv))

/-- The three lists name pairwise different keys, each at most once. -/
theorem C12_diff_disjoint (st : St) (h : C12Inv st) : (C12diffKeys (commit st).2).Nodup := by
  unfold C12diffKeys
  rw [commit_diff]
  exact diff_keys_nodup st.cache h.cacheOk.nodupC

/-- The diff determines the state before the commit on its keys (added: absent; updated / deleted:
the recorded value) and the state after it (added / updated: present; deleted: absent). -/
theorem C12_diff_determines_states (st : St) (h : C12Inv st) (k : Bytes) :
    (k ∈ (commit st).2.added →
      slookup st.store k = none ∧ (slookup (commit st).1.store k).isSome = true) ∧
    (∀ i, (k, i) ∈ (commit st).2.updated →
      slookup st.store k = some i ∧ (slookup (commit st).1.store k).isSome = true) ∧
    (∀ i, (k, i) ∈ (commit st).2.deleted →
      slookup st.store k = some i ∧ slookup (commit st).1.store k = none) := by
  rw [C12_commit_exact st h k]
  refine ⟨fun hm => (C12_diff_added_iff st h k).mp hm, fun i hm => ?_,
    fun i hm => (C12_diff_deleted_iff st h k i).mp hm⟩
  have := (C12_diff_updated_iff st h k i).mp hm
  exact ⟨this.1, this.2.1⟩

/-! the classifying sequences on a concrete database: key `[1]`, `[2]`, `[4]` stored, `[7]`, `[8]`
absent -/
private def exClass : St :=
  run { store := exS }
    [.set [1] [11], .del [1],                 -- stored: set then delete        → Deleted (old value)
     .del [2], .set [2] [22],                 -- stored: delete then set        → Updated (old value)
     .set [4] [40],                           -- stored: rewritten, same value  → Updated
     .set [7] [70], .del [7],                 -- absent: set then delete        → nowhere
     .del [8], .set [8] [80], .del [8], .set [8] [81],   -- absent: recreated    → Added
     .get [1, 0]]                             -- only read                      → nowhere
example : C12Inv exClass :=
  C12_cache_invariant _ (C12_inv_init exS (by unfold NoDupKeys exS; decide)) _
example : (commit exClass).2 =
    { added := [[8]], updated := [([4], [40]), ([2], [20])], deleted := [([1], [10])] } := by decide +kernel
/-- the converse of `C12_diff_updated_of_changed` fails: a rewritten key is in `Updated` although
its value did not change -/
example : ([4], [40]) ∈ (commit exClass).2.updated ∧ eff exClass [4] = slookup exClass.store [4] := by
  decide +kernel

/-! ## 3. scans in terms of the effective map only -/

/-- The result of a staged scan depends only on the effective values of the keys the filter
selects — not on what is cached, on the history, or on any other key. -/
theorem C12_scan_congr (st st' : St) (h : C12Inv st) (h' : C12Inv st') (f : Bytes → Bool)
    (he : ∀ k, f k = true → eff st k = eff st' k) (limit : Int) (rev : Bool) :
    (scan st f limit rev).2 = (scan st' f limit rev).2 := by
  rw [C12_scan_refines st h f limit rev, C12_scan_refines st' h' f limit rev,
    sortDir_filter_congr (nodup_commit st h.nodupS) (nodup_commit st' h'.nodupS) (fun kv => f kv.1)
      (fun k _ hk => by rw [C12_commit_exact st h k, C12_commit_exact st' h' k, he k hk])]

/-- An unlimited staged scan returns exactly the selected keys that are effectively present, each
with its effective value … -/
theorem C12_scan_mem_iff (st : St) (h : C12Inv st) (f : Bytes → Bool) (rev : Bool) (k v : Bytes) :
    (k, v) ∈ (scan st f (-1) rev).2 ↔ f k = true ∧ eff st k = some v := by
  rw [C12_scan_refines st h f (-1) rev]
  simp only [applyLimit, Int.reduceNeg, Int.reduceLT, if_true, mem_sortDir, List.mem_filter]
  rw [← slookup_iff_mem _ (nodup_commit st h.nodupS), C12_commit_exact st h k]
  exact and_comm

private theorem isort_strict (le : KV → KV → Bool)
    (htr : ∀ a b c, le a b = true → le b c = true → le a c = true)
    (htot : ∀ a b, (le a b || le b a) = true) (l : List KV) (hnd : NoDupKeys l) :
    (isort le l).Pairwise (fun x y => le x y = true ∧ x.1 ≠ y.1) :=
  (isort_pairwise le htr htot l).and (List.pairwise_map.mp
    (show NoDupKeys (isort le l) from ((isort_perm le l).map _).nodup_iff.mpr hnd))

/-- … in strictly ascending key order (strictly descending when `reverse`), for every limit … -/
theorem C12_scan_sorted (st : St) (h : C12Inv st) (f : Bytes → Bool) (limit : Int) :
    ((scan st f limit false).2).Pairwise (fun x y => blt x.1 y.1 = true) ∧
    ((scan st f limit true).2).Pairwise (fun x y => blt y.1 x.1 = true) := by
  have hnd := nodup_filter _ (fun kv => f kv.1) (nodup_commit st h.nodupS)
  have hsub : ∀ (l : List KV), (applyLimit l limit).Sublist l := by
    intro l; unfold applyLimit; split
    · exact List.Sublist.refl _
    · exact List.take_sublist _ _
  constructor
  · rw [C12_scan_refines st h f limit false]
    refine List.Pairwise.sublist (hsub _) ?_
    simp only [sortDir, Bool.false_eq_true, if_false]
    exact (isort_strict kvLE kvLE_trans kvLE_total _ hnd).imp
      (fun hxy => blt_of_ble_ne _ _ hxy.1 hxy.2)
  · rw [C12_scan_refines st h f limit true]
    refine List.Pairwise.sublist (hsub _) ?_
    simp only [sortDir, if_true]
    exact (isort_strict kvGE kvGE_trans kvGE_total _ hnd).imp
      (fun hxy => blt_of_ble_ne _ _ hxy.1 (Ne.symm hxy.2))

/-- … and a limit `n ≥ 0` keeps the first `n` entries of the unlimited result (in particular limit
`0` returns nothing; deleted keys never consume the limit).  No hypothesis on the state. -/
theorem C12_scan_limit (st : St) (f : Bytes → Bool) (n : Nat) (rev : Bool) :
    (scan st f n rev).2 = ((scan st f (-1) rev).2).take n ∧ (scan st f 0 rev).2 = [] := by
  unfold scan mergeSortLimit applyLimit
  have : ¬ ((n : Int) < 0) := by omega
  simp [this]

/-- A scan whose filter selects no key (`start > end`, an impossible prefix) is empty — for every
state, limit and direction. -/
theorem C12_scan_empty (st : St) (f : Bytes → Bool) (hf : ∀ k, f k = false) (limit : Int) (rev : Bool) :
    (scan st f limit rev).2 = [] := by
  have h1 : st.store.filter (fun kv => f kv.1) = [] := by
    rw [List.filter_eq_nil_iff]; intro e _; simp [hf e.1]
  have h2 : ∀ l : List KV, sortDir [] rev = ([] : List KV) := by
    intro _; unfold sortDir; cases rev <;> rfl
  have h3 : ∀ c : Cache, cacheLive c f = [] := by
    intro c; unfold cacheLive
    rw [List.filterMap_eq_nil_iff]; intro e _; simp [hf e.1]
  unfold scan mergeSortLimit
  simp only [h1, h2 [], absorb, h3, List.filter_nil, List.append_nil]
  unfold applyLimit; split <;> simp

theorem C12_range_empty (st : St) (s e : Bytes) (hse : ble s e = false) (limit : Int) (rev : Bool) :
    (range st s e limit rev).2 = [] := by
  apply C12_scan_empty
  intro k
  unfold inRange
  cases h1 : ble s k with
  | false => rfl
  | true =>
    cases h2 : ble k e with
    | false => rfl
    | true => rw [ble_trans _ _ _ h1 h2] at hse; cases hse

example : (scan exClass (inRange [0] [9]) (-1) false).2 =
    [([1, 0], [30]), ([2], [22]), ([4], [40]), ([8], [81])] := by decide +kernel
example : (range exClass [9] [0] (-1) false).2 = [] := C12_range_empty _ _ _ (by decide) _ _

/-! ## 4. prefix views

The model has no view objects: a view `WithPrefix p` (nested: `WithPrefix p₁ … WithPrefix pₙ`,
`p = p₁ ++ … ++ pₙ`) shares the overlay of the root, and the driver — as `Database.getKey` — performs
every operation of the view on the full key `p ++ key` and strips `p` from the keys a scan returns.
The definitions below are exactly these driver operations.  (Aliasing of the Go slices passed in and
out, and views that outlive a `RestoreSnapshot` of the root, are outside the model.) -/

def C12vget (p : Bytes) (st : St) (k : Bytes) : St × Option Bytes := DiffDB.get st (p ++ k)
def C12vset (p : Bytes) (st : St) (k v : Bytes) : St := DiffDB.set st (p ++ k) v
def C12vdel (p : Bytes) (st : St) (k : Bytes) : St := del st (p ++ k)
/-- `key[prefixLength:]` -/
def C12strip (p : Bytes) (l : List KV) : List KV := l.map fun kv => (kv.1.drop p.length, kv.2)
def C12vrange (p : Bytes) (st : St) (s e : Bytes) (limit : Int) (rev : Bool) : St × List KV :=
  ((range st (p ++ s) (p ++ e) limit rev).1, C12strip p (range st (p ++ s) (p ++ e) limit rev).2)
def C12viterate (p : Bytes) (st : St) (q : Bytes) (limit : Int) (rev : Bool) : St × List KV :=
  ((iterate st (p ++ q) limit rev).1, C12strip p (iterate st (p ++ q) limit rev).2)

/-- the database as seen through the view: the entries whose key has the prefix, prefix removed -/
def C12restrict (p : Bytes) (s : Store) : Store :=
  s.filterMap fun kv => if hasPrefix kv.1 p then some (kv.1.drop p.length, kv.2) else none

private theorem strip_append (p q : Bytes) (l : List KV) :
    C12strip (p ++ q) l = C12strip q (C12strip p l) := by
  unfold C12strip
  simp only [List.map_map]
  congr 1; funext kv
  simp only [Function.comp, List.length_append, List.drop_drop]

/-- **View algebra**: the view of a view is the view of the concatenated prefix, for every
operation, at any nesting depth; and the same holds for the restricted database. -/
theorem C12_view_nesting (p q : Bytes) (st : St) :
    (∀ k, C12vget (p ++ q) st k = C12vget p st (q ++ k)) ∧
    (∀ k v, C12vset (p ++ q) st k v = C12vset p st (q ++ k) v) ∧
    (∀ k, C12vdel (p ++ q) st k = C12vdel p st (q ++ k)) ∧
    (∀ s e l r, C12vrange (p ++ q) st s e l r =
      ((C12vrange p st (q ++ s) (q ++ e) l r).1, C12strip q (C12vrange p st (q ++ s) (q ++ e) l r).2)) ∧
    (∀ x l r, C12viterate (p ++ q) st x l r =
      ((C12viterate p st (q ++ x) l r).1, C12strip q (C12viterate p st (q ++ x) l r).2)) ∧
    (∀ s, C12restrict (p ++ q) s = C12restrict q (C12restrict p s)) := by
  refine ⟨fun k => ?_, fun k v => ?_, fun k => ?_, fun s e l r => ?_, fun x l r => ?_, fun s => ?_⟩
  · simp only [C12vget, List.append_assoc]
  · simp only [C12vset, List.append_assoc]
  · simp only [C12vdel, List.append_assoc]
  · simp only [C12vrange, List.append_assoc, strip_append]
  · simp only [C12viterate, List.append_assoc, strip_append]
  · unfold C12restrict
    rw [List.filterMap_filterMap]
    congr 1; funext kv
    by_cases h1 : hasPrefix kv.1 p = true
    · by_cases h2 : hasPrefix (kv.1.drop p.length) q = true
      · have := (hasPrefix_append_iff kv.1 p q).mpr ⟨h1, h2⟩
        simp [h1, h2, this, List.drop_drop]
      · have : ¬ hasPrefix kv.1 (p ++ q) = true := fun h => h2 ((hasPrefix_append_iff kv.1 p q).mp h).2
        simp [h1, h2, this]
    · have : ¬ hasPrefix kv.1 (p ++ q) = true := fun h => h1 ((hasPrefix_append_iff kv.1 p q).mp h).1
      simp [h1, this]

private theorem restrict_lookup (p : Bytes) (s : Store) (k : Bytes) :
    slookup (C12restrict p s) k = slookup s (p ++ k) := by
  induction s with
  | nil => rfl
  | cons e r ih =>
    obtain ⟨a, b⟩ := e
    unfold C12restrict at ih ⊢
    simp only [List.filterMap_cons]
    by_cases h1 : hasPrefix a p = true
    · simp only [h1, if_true, slookup]
      have ha := hasPrefix_eq_append a p h1
      by_cases h2 : a.drop p.length = k
      · have : a = p ++ k := by rw [← h2]; exact ha
        simp [this]
      · have : ¬ a = p ++ k := by
          intro h; apply h2; rw [h]; simp
        simp only [h2, this, if_false]
        exact ih
    · have : ¬ a = p ++ k := by
        intro h; apply h1; rw [h]; exact hasPrefix_append p k
      simp only [h1, slookup, this, if_false]
      exact ih

/-- the scan of a view: strip ∘ (scan of the full keys) = scan of the restricted database, whenever
the full-key filter `g` selects only keys of the view and agrees with the view's filter `g'` -/
private theorem restrict_scan (p : Bytes) (g g' : Bytes → Bool)
    (hg : ∀ a, g a = true → hasPrefix a p = true) (hgg : ∀ a, g (p ++ a) = g' a)
    (s : Store) (limit : Int) (rev : Bool) :
    C12strip p (applyLimit (sortDir (s.filter fun kv => g kv.1) rev) limit) =
      applyLimit (sortDir ((C12restrict p s).filter fun kv => g' kv.1) rev) limit := by
  unfold C12strip
  rw [← applyLimit_map, ← sortDir_strip p _ rev
    (fun e he => hg e.1 (by simpa using (List.mem_filter.mp he).2))]
  congr 2
  induction s with
  | nil => rfl
  | cons e r ih =>
    obtain ⟨a, b⟩ := e
    unfold C12restrict at ih ⊢
    simp only [List.filterMap_cons, List.filter_cons]
    by_cases h1 : hasPrefix a p = true
    · have ha := hasPrefix_eq_append a p h1
      have hga : g a = g' (a.drop p.length) := by
        conv => lhs; rw [ha]
        exact hgg _
      simp only [h1, if_true, List.filter_cons, hga]
      split
      · simp only [List.map_cons, ih]
      · exact ih
    · have hga : g a = false := by
        cases h : g a with
        | false => rfl
        | true => exact absurd (hg a h) h1
      simp only [h1, hga]
      exact ih

/-- **A view reads the restricted database**: `Get` through the view `p` returns what the database
restricted to the keys with prefix `p` (with the staged writes applied) holds under the key. -/
theorem C12_view_get_refines (p : Bytes) (st : St) (h : C12Inv st) (k : Bytes) :
    (C12vget p st k).2 = slookup (C12restrict p (commit st).1.store) k := by
  rw [restrict_lookup, C12_commit_exact st h]
  exact (C12_get_refines st h (p ++ k)).1

/-- `Range` through the view `p` = `IterateRange` of the restricted database: every returned key
had the prefix (so stripping it is well defined), and bounds, order, limit and direction commute
with the restriction. -/
theorem C12_view_range_refines (p : Bytes) (st : St) (h : C12Inv st) (s e : Bytes) (limit : Int)
    (rev : Bool) :
    (C12vrange p st s e limit rev).2 = dbRange (C12restrict p (commit st).1.store) s e limit rev := by
  unfold C12vrange
  simp only
  rw [C12_range_refines st h]
  unfold dbRange
  apply restrict_scan p (inRange (p ++ s) (p ++ e)) (inRange s e)
  · intro a ha
    unfold inRange at ha
    simp only [Bool.and_eq_true] at ha
    exact hasPrefix_of_between p s e a ha.1 ha.2
  · intro a
    simp only [inRange, ble_append_left]

/-- `Iterate` through the view `p` = `Iterate` of the restricted database. -/
theorem C12_view_iterate_refines (p : Bytes) (st : St) (h : C12Inv st) (q : Bytes) (limit : Int)
    (rev : Bool) :
    (C12viterate p st q limit rev).2 = dbIterate (C12restrict p (commit st).1.store) q limit rev := by
  unfold C12viterate
  simp only
  rw [C12_iterate_refines st h]
  unfold dbIterate
  apply restrict_scan p (fun k => hasPrefix k (p ++ q)) (fun k => hasPrefix k q)
  · intro a ha
    exact ((hasPrefix_append_iff a p q).mp ha).1
  · intro a
    exact hasPrefix_append_left p a q

/-- **Writes through one view are visible through every view and the root** (`q = []`): after
`Set k v` through view `p`, `Get k'` through any view `q` returns `v` when both name the same full
key and is unchanged otherwise; likewise for `Del`. -/
theorem C12_view_write_visible (p : Bytes) (st : St) (h : C12Inv st) (k v : Bytes) (q k' : Bytes) :
    (C12vget q (C12vset p st k v) k').2 =
      (if p ++ k = q ++ k' then some v else (C12vget q st k').2) ∧
    (C12vget q (C12vdel p st k) k').2 =
      (if p ++ k = q ++ k' then none else (C12vget q st k').2) := by
  unfold C12vget C12vset C12vdel
  have hs := C12_set_refines st h (p ++ k) v
  have hd := C12_del_refines st h (p ++ k)
  rw [(C12_get_refines _ hs.2 (q ++ k')).1, (C12_get_refines _ hd.2 (q ++ k')).1,
    (C12_get_refines st h (q ++ k')).1, hs.1, hd.1]
  exact ⟨rfl, rfl⟩

/-- sibling views (neither prefix extends the other) never name the same full key -/
theorem C12_view_siblings_disjoint (p q : Bytes) (hpq : hasPrefix p q = false)
    (hqp : hasPrefix q p = false) (k k' : Bytes) : p ++ k ≠ q ++ k' := by
  induction p generalizing q with
  | nil => simp [hasPrefix_nil] at hqp
  | cons x xs ih =>
    cases q with
    | nil => simp [hasPrefix_nil] at hpq
    | cons y ys =>
      simp only [hasPrefix] at hpq hqp
      intro heq
      simp only [List.cons_append, List.cons.injEq] at heq
      obtain ⟨rfl, h2⟩ := heq
      simp only [beq_self_eq_true, Bool.true_and] at hpq hqp
      exact ih ys hpq hqp h2

/-- **Sibling views are isolated**: a write or delete through view `p` changes no point read and no
scan (any bounds, limit, direction) through a sibling view `q`. -/
theorem C12_view_siblings_isolated (p q : Bytes) (hpq : hasPrefix p q = false)
    (hqp : hasPrefix q p = false) (st : St) (h : C12Inv st) (k v : Bytes) :
    (∀ k', (C12vget q (C12vset p st k v) k').2 = (C12vget q st k').2 ∧
           (C12vget q (C12vdel p st k) k').2 = (C12vget q st k').2) ∧
    (∀ s e l r, (C12vrange q (C12vset p st k v) s e l r).2 = (C12vrange q st s e l r).2 ∧
                (C12vrange q (C12vdel p st k) s e l r).2 = (C12vrange q st s e l r).2) ∧
    (∀ x l r, (C12viterate q (C12vset p st k v) x l r).2 = (C12viterate q st x l r).2 ∧
              (C12viterate q (C12vdel p st k) x l r).2 = (C12viterate q st x l r).2) := by
  have hs := C12_set_refines st h (p ++ k) v
  have hd := C12_del_refines st h (p ++ k)
  have hne : ∀ a, hasPrefix a q = true → p ++ k ≠ a := by
    intro a ha heq
    rw [hasPrefix_eq_append a q ha] at heq
    exact C12_view_siblings_disjoint p q hpq hqp _ _ heq
  refine ⟨fun k' => ?_, fun s e l r => ?_, fun x l r => ?_⟩
  · have := C12_view_write_visible p st h k v q k'
    rw [this.1, this.2]
    simp [C12_view_siblings_disjoint p q hpq hqp k k']
  · unfold C12vrange C12vset C12vdel range
    simp only
    have hsel : ∀ a, inRange (q ++ s) (q ++ e) a = true → p ++ k ≠ a := by
      intro a ha
      unfold inRange at ha
      simp only [Bool.and_eq_true] at ha
      exact hne a (hasPrefix_of_between q s e a ha.1 ha.2)
    rw [C12_scan_congr _ st hs.2 h _ (fun a ha => by rw [hs.1 a, if_neg (hsel a ha)]),
      C12_scan_congr _ st hd.2 h _ (fun a ha => by rw [hd.1 a, if_neg (hsel a ha)])]
    exact ⟨rfl, rfl⟩
  · unfold C12viterate C12vset C12vdel iterate
    simp only
    have hsel : ∀ a, hasPrefix a (q ++ x) = true → p ++ k ≠ a :=
      fun a ha => hne a ((hasPrefix_append_iff a q x).mp ha).1
    rw [C12_scan_congr _ st hs.2 h _ (fun a ha => by rw [hs.1 a, if_neg (hsel a ha)]),
      C12_scan_congr _ st hd.2 h _ (fun a ha => by rw [hd.1 a, if_neg (hsel a ha)])]
    exact ⟨rfl, rfl⟩

/-! views `[1]`, `[1,0]` (nested in `[1]`) and `[2]` over one overlay -/
private def exV : St :=
  C12vdel [2] (C12vset [1, 0] (C12vset [1] { store := exS } [5] [55]) [] [31]) []
example : C12Inv exV := by
  unfold exV C12vdel C12vset
  exact (C12_del_refines _ (C12_set_refines _ (C12_set_refines _
    (C12_inv_init exS (by unfold NoDupKeys exS; decide)) _ _).2 _ _).2 _).2
example : (C12vrange [1] exV [] [9] (-1) false).2 = [([], [10]), ([0], [31]), ([5], [55])] ∧
    dbRange (C12restrict [1] (commit exV).1.store) [] [9] (-1) false =
      [([], [10]), ([0], [31]), ([5], [55])] := by decide +kernel
example : (C12viterate [1] exV [0] 5 true).2 = [([0], [31])] ∧ (C12vget [] exV [1, 5]).2 = some [55] ∧
    (C12vget [2] exV []).2 = none := by decide +kernel
example : hasPrefix [1] [2] = false ∧ hasPrefix [2] [1] = false := by decide +kernel

/-! ## 5. revert ∘ commit is the identity on the database -/

/-- `RevertDiff` after `Commit` restores the database itself: the same entries (as a permutation of
the association list — pebble has no entry order other than the key order), hence … -/
theorem C12_revert_perm (st : St) (h : C12Inv st) :
    (revertDiff (commit st).1.store (commit st).2).Perm st.store :=
  SameMap.perm (fun k => C12_revert_exact st h k)
    (nodup_revertDiff (nodup_commit st h.nodupS) _) h.nodupS

/-- … every scan of the reverted database equals the scan of the database before the commit. -/
theorem C12_revert_scans (st : St) (h : C12Inv st) :
    (∀ a b l r, dbRange (revertDiff (commit st).1.store (commit st).2) a b l r = dbRange st.store a b l r) ∧
    (∀ p l r, dbIterate (revertDiff (commit st).1.store (commit st).2) p l r = dbIterate st.store p l r) := by
  have hsm : SameMap (revertDiff (commit st).1.store (commit st).2) st.store :=
    fun k => C12_revert_exact st h k
  have hnd := nodup_revertDiff (nodup_commit st h.nodupS) (commit st).2
  constructor
  · intro a b l r; unfold dbRange; rw [sortDir_filter_sameMap hsm hnd h.nodupS]
  · intro p l r; unfold dbIterate; rw [sortDir_filter_sameMap hsm hnd h.nodupS]

/-- **Re-applying after a revert** (`commit ∘ revert ∘ commit`): running the same history on the
reverted database and committing again returns the same diff and the same database as the first
commit. -/
theorem C12_reapply_after_revert (s : Store) (hs : NoDupKeys s) (ops : List Op) :
    let c1 := commit (run { store := s } ops)
    let c2 := commit (run { store := revertDiff c1.1.store c1.2 } ops)
    c2.2 = c1.2 ∧ c2.1.store.Perm c1.1.store := by
  intro c1 c2
  have hinv : C12Inv (run { store := s } ops) := C12_cache_invariant _ (C12_inv_init s hs) ops
  have hst : (run { store := s } ops).store = s := run_store _ ops
  have hsm : SameMap s (revertDiff c1.1.store c1.2) := by
    intro k
    have := C12_revert_exact _ hinv k
    rw [hst] at this
    exact this.symm
  have hnd' : NoDupKeys (revertDiff c1.1.store c1.2) :=
    nodup_revertDiff (nodup_commit _ hinv.nodupS) _
  have hrun := run_store_congr (revertDiff c1.1.store c1.2) hnd' ops { store := s } hs
    (fun _ _ k _ => hsm k)
  have hrun' : run { store := revertDiff c1.1.store c1.2 } ops =
      { run { store := s } ops with store := revertDiff c1.1.store c1.2 } := hrun
  refine ⟨?_, ?_⟩
  · show (commit (run { store := revertDiff c1.1.store c1.2 } ops)).2 = (commit (run { store := s } ops)).2
    rw [hrun']
    exact (commit_diff _).trans (commit_diff (run { store := s } ops)).symm
  · apply SameMap.perm
    · intro k
      show slookup (commit (run { store := revertDiff c1.1.store c1.2 } ops)).1.store k =
        slookup (commit (run { store := s } ops)).1.store k
      rw [hrun']
      unfold commit
      simp only
      rw [slookup_commitCache _ _ _ hinv.cacheOk.nodupC, slookup_commitCache _ _ _ hinv.cacheOk.nodupC,
        hst, hsm k]
    · show NoDupKeys (commit (run { store := revertDiff c1.1.store c1.2 } ops)).1.store
      apply nodup_commit
      rw [hrun']
      exact hnd'
    · exact nodup_commit _ hinv.nodupS

/-- `k` blocks: each history runs on a fresh overlay over the current database and is committed.
Returns the final database and the diffs, latest first. -/
def C12rounds : Store → List (List Op) → Store × List Diff
  | s, [] => (s, [])
  | s, ops :: rest =>
    ((C12rounds (commit (run { store := s } ops)).1.store rest).1,
     (C12rounds (commit (run { store := s } ops)).1.store rest).2 ++ [(commit (run { store := s } ops)).2])

def C12revertAll (s : Store) (ds : List Diff) : Store := ds.foldl revertDiff s

private theorem rounds_spec (hist : List (List Op)) : ∀ (s : Store), NoDupKeys s →
    NoDupKeys (C12rounds s hist).1 ∧
      SameMap (C12revertAll (C12rounds s hist).1 (C12rounds s hist).2) s := by
  induction hist with
  | nil => intro s h; exact ⟨h, fun _ => rfl⟩
  | cons ops rest ih =>
    intro s hs
    have hinv : C12Inv (run { store := s } ops) := C12_cache_invariant _ (C12_inv_init s hs) ops
    have hst : (run { store := s } ops).store = s := run_store _ ops
    obtain ⟨h1, h2⟩ := ih (commit (run { store := s } ops)).1.store (nodup_commit _ hinv.nodupS)
    refine ⟨h1, ?_⟩
    have hfold : ∀ (x : Store) (ds : List Diff) (d : Diff),
        C12revertAll x (ds ++ [d]) = revertDiff (C12revertAll x ds) d := by
      intro x ds d; simp [C12revertAll, List.foldl_append]
    simp only [C12rounds, hfold]
    intro k
    rw [sameMap_revertDiff h2 _ k]
    have := C12_revert_exact _ hinv k
    rw [hst] at this
    exact this

/-- **Chains of commits**: applying the diffs of `k` successive commits in reverse order restores
the database the chain started from. -/
theorem C12_revert_chain (s : Store) (hs : NoDupKeys s) (hist : List (List Op)) :
    (C12revertAll (C12rounds s hist).1 (C12rounds s hist).2).Perm s := by
  obtain ⟨h1, h2⟩ := rounds_spec hist s hs
  exact SameMap.perm h2 (List.foldlRecOn (motive := NoDupKeys) _ _ h1 fun _ h d _ => nodup_revertDiff h d) hs

private def exHist : List (List Op) :=
  [[.set [7] [70], .del [1]], [.del [7], .set [1] [12], .set [2] [23]], [.set [7] [71], .del [2]]]
example : (C12rounds exS exHist).2.length = 3 ∧
    dbRange (C12revertAll (C12rounds exS exHist).1 (C12rounds exS exHist).2) [] [255] (-1) false =
      dbRange exS [] [255] (-1) false ∧
    dbRange (C12rounds exS exHist).1 [] [255] (-1) false =
      [([1], [12]), ([1, 0], [30]), ([4], [40]), ([7], [71])] := by decide +kernel
/-- the order matters: the same diffs applied oldest first do not restore the database -/
example : slookup (C12revertAll (C12rounds exS exHist).1 (C12rounds exS exHist).2.reverse) [2] ≠
    slookup exS [2] := by decide +kernel
example : (commit (run { store := revertDiff (commit exClass).1.store (commit exClass).2 }
    [.set [1] [11], .del [1]])).2 = (commit (run { store := exS } [.set [1] [11], .del [1]])).2 := by
  decide +kernel

/-! ## 6. snapshots: exact restore, ids, consumed / deleted / unknown ids -/

/-- live snapshot ids are distinct and below the counter (ids are never recycled) -/
def C12SnapIds (st : St) : Prop :=
  (st.snaps.map (·.1)).Nodup ∧ ∀ e ∈ st.snaps, e.1 < st.snapCount

theorem C12SnapIds.nodup {st : St} (h : C12SnapIds st) : (st.snaps.map (·.1)).Nodup := h.1
theorem C12SnapIds.below {st : St} (h : C12SnapIds st) : ∀ e ∈ st.snaps, e.1 < st.snapCount := h.2

theorem C12_snapIds_init (s : Store) : C12SnapIds { store := s } := by
  simp [C12SnapIds]

private theorem snapIds_step (st : St) (h : C12SnapIds st) (op : Op) :
    C12SnapIds (step st op) ∧ st.snapCount ≤ (step st op).snapCount := by
  have hfilter : ∀ id, ((st.snaps.filter (fun e => e.1 ≠ id)).map (·.1)).Nodup ∧
      ∀ e ∈ st.snaps.filter (fun e => e.1 ≠ id), e.1 < st.snapCount :=
    fun id => ⟨List.Sublist.nodup (List.Sublist.map _ List.filter_sublist) h.nodup,
      fun e he => h.below e (List.mem_filter.mp he).1⟩
  rw [C12SnapIds, step_snaps, snapCount_step]
  cases op with
  | snapshot =>
    refine ⟨⟨List.nodup_cons.mpr ⟨fun hm => ?_, h.nodup⟩, fun e he => ?_⟩, Nat.le_succ _⟩
    · obtain ⟨e, he, heq⟩ := List.mem_map.mp hm
      exact Nat.lt_irrefl _ (heq ▸ h.below e he)
    · rcases List.mem_cons.mp he with rfl | he
      · exact Nat.lt_succ_self _
      · exact Nat.lt_succ_of_lt (h.below e he)
  | restore id =>
    dsimp only
    split
    · exact ⟨hfilter id, Nat.le_refl _⟩
    · exact ⟨h, Nat.le_refl _⟩
  | deleteSnapshot id => exact ⟨hfilter id, Nat.le_refl _⟩
  | _ => exact ⟨h, Nat.le_refl _⟩

/-- **Snapshot ids** over every history: live ids stay distinct and below the counter, the counter
never decreases — so the id returned by `Snapshot` after any history (including restores and
deletions) is different from every live id and from every id issued before. -/
theorem C12_snapshot_ids (st : St) (h : C12SnapIds st) (ops : List Op) :
    C12SnapIds (run st ops) ∧ st.snapCount ≤ (run st ops).snapCount ∧
    st.snapCount ≤ (snapshot (run st ops)).2 ∧
    findSnap (run st ops).snaps (snapshot (run st ops)).2 = none := by
  have key : C12SnapIds (run st ops) ∧ st.snapCount ≤ (run st ops).snapCount :=
    List.foldlRecOn (motive := fun t : St => C12SnapIds t ∧ st.snapCount ≤ t.snapCount) ops _ ⟨h, Nat.le_refl _⟩
      fun t ht op _ => (snapIds_step t ht.1 op).imp_right (Nat.le_trans ht.2)
  refine ⟨key.1, key.2, key.2, Option.eq_none_iff_forall_ne_some.mpr fun c hf => ?_⟩
  exact Nat.lt_irrefl _ (key.1.below _ (mem_of_findSnap hf))

/-- **Exact restore.**  Restoring a snapshot — after any history that does not restore or delete
that id, with other snapshots taken, restored and deleted in between, nested to any depth — succeeds
and gives back exactly the overlay and the database of the snapshot time, not only the same
effective values: a `Commit` after the restore writes the same database and returns the same diff
(same Added / Updated / Deleted classification) as a commit at snapshot time would have. -/
theorem C12_snapshot_restore_exact (st : St) (ops : List Op)
    (hops : ∀ op ∈ ops, C12KeepsSnapshot (snapshot st).2 op) :
    (restore (run (snapshot st).1 ops) (snapshot st).2).2 = true ∧
    (restore (run (snapshot st).1 ops) (snapshot st).2).1.cache = st.cache ∧
    (restore (run (snapshot st).1 ops) (snapshot st).2).1.store = st.store ∧
    commit (restore (run (snapshot st).1 ops) (snapshot st).2).1 = commit st := by
  have hfind := C12_snapshot_kept st ops hops
  have hstore : (run (snapshot st).1 ops).store = st.store := run_store _ ops
  rw [restore_of_some hfind]
  refine ⟨rfl, rfl, hstore, ?_⟩
  unfold commit
  dsimp only
  rw [hstore]

/-- an id that was issued and is no longer live never comes back: after any history, restoring it
fails and changes nothing -/
theorem C12_restore_gone (st : St) (id : Nat) (hlt : id < st.snapCount)
    (hf : findSnap st.snaps id = none) (ops : List Op) :
    restore (run st ops) id = (run st ops, false) := by
  have key : id < (run st ops).snapCount ∧ findSnap (run st ops).snaps id = none :=
    List.foldlRecOn (motive := fun t : St => id < t.snapCount ∧ findSnap t.snaps id = none) ops _ ⟨hlt, hf⟩
      fun t ht op _ => ⟨Nat.lt_of_lt_of_le ht.1 (snapCount_le_run [op] t),
        (findSnap_step_of_keeps t op id ht.1 (Or.inr ht.2)).trans ht.2⟩
  exact restore_of_none key.2

/-- **Double restore, restore of a deleted id, restore of an unknown id.**  From a state whose live
ids are below the counter (every reachable state): (a) once a restore of `id` succeeded, every later
restore of `id` — after any history — fails and leaves the state unchanged; (b) the same after
`DeleteSnapshot id` of an issued id; (c) restoring an id that was never issued fails and leaves the
state unchanged. -/
theorem C12_restore_consumed (st : St) (h : C12SnapIds st) (id : Nat) (ops : List Op) :
    ((restore st id).2 = true →
      restore (run (restore st id).1 ops) id = (run (restore st id).1 ops, false)) ∧
    (id < st.snapCount →
      restore (run (deleteSnapshot st id) ops) id = (run (deleteSnapshot st id) ops, false)) ∧
    (st.snapCount ≤ id → restore st id = (st, false)) := by
  have hgone : findSnap (st.snaps.filter (fun e => e.1 ≠ id)) id = none :=
    (findSnap_filter_ne _ _ _).trans (if_pos rfl)
  refine ⟨fun hok => ?_, fun hlt => C12_restore_gone (deleteSnapshot st id) id hlt hgone ops,
    fun hge => ?_⟩
  · cases hf : findSnap st.snaps id with
    | none => rw [restore_of_none hf] at hok; cases hok
    | some c =>
      rw [restore_of_some hf]
      exact C12_restore_gone { st with cache := c, snaps := st.snaps.filter (fun e => e.1 ≠ id) } id
        (h.below _ (mem_of_findSnap hf)) hgone ops
  · cases hf : findSnap st.snaps id with
    | none => exact restore_of_none hf
    | some c => exact absurd (h.below _ (mem_of_findSnap hf)) (Nat.not_lt.mpr hge)

instance (id : Nat) : DecidablePred (C12KeepsSnapshot id) := fun op => by
  cases op <;> simp only [C12KeepsSnapshot] <;> infer_instance

example : C12SnapIds (run { store := exS } exOps) :=
  (C12_snapshot_ids _ (C12_snapIds_init exS) exOps).1

/-! nested snapshots on a concrete history: ids 0 (outer) and 1 (inner), and id 2, taken and deleted.
The inner one is restored within the history; after the history, restoring the outer one gives a
state that commits as the state before the outer snapshot does.  At the end of the history the
restored id 1 and the deleted id 2 cannot be restored, and the snapshot after the outer restore has
id 3. -/
private def exN0 : St := run { store := exS } [.set [2] [21], .del [4]]
private def exNops : List Op :=
  [.set [3] [33], .snapshot, .del [2], .range [0] [9] (-1) true, .restore 1, .set [5] [55], .snapshot,
   .deleteSnapshot 2]
example : (snapshot exN0).2 = 0 ∧ ∀ op ∈ exNops, C12KeepsSnapshot (snapshot exN0).2 op := by decide +kernel
example : commit (restore (run (snapshot exN0).1 exNops) 0).1 = commit exN0 :=
  (C12_snapshot_restore_exact exN0 exNops (by decide)).2.2.2
example : (restore (run (snapshot exN0).1 exNops) 1).2 = false ∧
    (restore (run (snapshot exN0).1 exNops) 2).2 = false ∧
    (snapshot (restore (run (snapshot exN0).1 exNops) 0).1).2 = 3 := by decide +kernel

/-! ## 7. histories without `RestoreSnapshot` (`C12_diff_updated_history` in `Props/C12_Size.lean`) -/

/-- histories without `RestoreSnapshot` -/
def C12NoRestore : Op → Prop
  | .restore _ => False
  | _ => True

instance : DecidablePred C12NoRestore := fun op => by
  cases op <;> simp only [C12NoRestore] <;> infer_instance

example : ∀ op ∈ [Op.del [2], .set [2] [22], .get [4], .set [1] [10], .snapshot], C12NoRestore op := by
  decide +kernel
/-- with a restore the characterisation fails: the write was rolled back with the overlay -/
example : (commit (run { store := exS } [.snapshot, .set [2] [22], .restore 0])).2.updated = [] ∧
    eff (run { store := exS } [.snapshot, .set [2] [22], .restore 0]) [2] = some [20] := by decide +kernel

/-! ## 8. the hypothesis of the scan theorem is needed; the database's own scans -/

/-- `C12_scan_refines` needs the overlay invariant: on an (unreachable) overlay that marks a key
deleted which the database never held, the staged scan and the scan of the committed database
differ — `commit` writes such an entry as `Added`, the scan hides it. -/
theorem C12_scan_refines_needs_inv :
    ∃ st : St, NoDupKeys st.store ∧ NoDupKeys st.cache ∧
      (scan st (fun _ => true) (-1) false).2 ≠
        applyLimit (sortDir ((commit st).1.store.filter fun _ => true) false) (-1) :=
  ⟨{ store := [], cache := [([1], { init := none, value := [9], dirty := false, deleted := true })] },
    by unfold NoDupKeys; decide, by unfold NoDupKeys; decide, by decide⟩

/-- `Iterate prefix` of the database: ordered both ways, and a limit `n ≥ 0` keeps the first `n`
(`C12_db_iterate_mem` gives the membership). -/
theorem C12_db_iterate_sorted_limit (s : Store) (p : Bytes) (n : Nat) (rev : Bool) :
    (dbIterate s p (-1) false).Pairwise (fun x y => ble x.1 y.1 = true) ∧
    (dbIterate s p (-1) true).Pairwise (fun x y => ble y.1 x.1 = true) ∧
    dbIterate s p n rev = (dbIterate s p (-1) rev).take n := by
  unfold dbIterate applyLimit sortDir
  have : ¬ ((n : Int) < 0) := by omega
  simp only [Int.reduceNeg, Int.reduceLT, if_true, Bool.false_eq_true, if_false, this, Int.toNat_natCast]
  exact ⟨isort_pairwise _ kvLE_trans kvLE_total _, isort_pairwise _ kvGE_trans kvGE_total _, trivial⟩

/-- the reverse seek of `iterateRange` (`SeekLT (end ++ [0])`): the keys strictly below
`end ++ [0]` are exactly the keys `≤ end` — which is what the model's `inRange` filter assumes. -/
theorem C12_reverse_seek_bound (k e : Bytes) : blt k (e ++ [0]) = ble k e := by
  induction e generalizing k with
  | nil =>
    cases k with
    | nil => rfl
    | cons x xs =>
      have h0 : ¬ x < 0 := by
        rw [UInt8.lt_iff_toNat_lt]; simp
      cases xs <;> by_cases hx : (0 : UInt8) < x <;> simp [blt, ble, bcmp, h0, hx]
  | cons y ys ih =>
    cases k with
    | nil => rfl
    | cons x xs =>
      have := ih xs
      unfold blt ble at this ⊢
      simp only [List.cons_append, bcmp]
      by_cases h1 : x < y
      · simp [h1]
      · by_cases h2 : y < x
        · simp [h1, h2]
        · simp only [h1, h2, if_false]; exact this

example : dbIterate exS [1] 1 true = [([1, 0], [30])] := by decide +kernel
