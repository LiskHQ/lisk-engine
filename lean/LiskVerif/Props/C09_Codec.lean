/-
C09 — Codec totality: the decoder never panics and does bounded work, for every byte string.

In the model (`LiskVerif.Model.Codec`) every Go panic (index out of range, nil dereference, …) is the
explicit outcome `Err.panic`; running out of the recursion budget (`fuel`) is reported as `panic` too.
The theorems below show that for every schema table without recursion between structs (witnessed by
a rank function), in particular for the table regenerated from the `*_codec.go` files, no input
makes `decode` / `decodeStrict` return `panic`, that the budget `fuelFor data = 3 * |data| + 400` is
never exhausted, and that the answer does not depend on the budget once it is large enough.
-/
import LiskVerif.Lemmas.C09More
import LiskVerif.Lemmas.Tables
import LiskVerif.Gen.Schemas

open LiskVerif LiskVerif.Codec LiskVerif.Gen

/-! ### ranked tables -/

/-- The rank condition on a schema table (a `Bool`, hence decidable): for every struct `m` of the
table, `rank m ≤ 8`; `m` has at most 40 fields (in each of its Encode / Decode / DecodeStrict field
lists); no field has a kind unknown to the translator; every `.msg n` / `.msgArr n` field names a
struct of the table with `rank n < rank m`. -/
def C09Ranked (t : Table) (rank : String → Nat) : Bool := Ranked t rank

theorem C09Ranked_eq : C09Ranked = Ranked := rfl

/-- names of the structs nested directly in `s` -/
def C09nested (s : Schema) : List String :=
  (s.enc ++ s.dec ++ s.decStrict).filterMap fun f =>
    match f.kind with
    | .msg n => some n
    | .msgArr n => some n
    | _ => none

/-- `k` rounds of "1 + max rank of the nested structs" -/
def C09rankIter (t : Table) : Nat → String → Nat
  | 0, _ => 0
  | k + 1, name =>
    match t.find name with
    | none => 0
    | some s => (C09nested s).foldl (fun acc n => max acc (C09rankIter t k n + 1)) 0

/-- the nesting depth of a struct of the regenerated table -/
def C09rank : String → Nat := C09rankIter allSchemas 8

/-- `k` rounds of "sum of the static field sizes" -/
def C09staticIter (t : Table) : Nat → String → Nat
  | 0, _ => 0
  | k + 1, name =>
    match t.find name with
    | none => 0
    | some s => staticFields (C09staticIter t k) s.dec

/-- static size (fields + default nested structs, transitively) of a struct of the regenerated table -/
def C09static : String → Nat := C09staticIter allSchemas 9

/-- Every struct of the regenerated table passes the three static checks the totality theorems rest on:
it is ranked by `C09rank` (`schemaOK`: not recursive, nesting depth ≤ 8, ≤ 40 fields, nested names
resolve, no unknown field kind); its lenient list is the strict one with weaker flags; `C09static`
bounds its static size, below 40. A codec file that violates any of them breaks the build. (One
statement for the three checks, because they look up the same names and the kernel is slow at
comparing strings.) -/
theorem C09_allSchemas_checks :
    allSchemas.all (fun s => schemaOK allSchemas C09rank s &&
      laxerFields s.dec s.decStrict &&
      (decide (staticFields C09static s.dec ≤ C09static s.name) && decide (C09static s.name < 40)))
      = true := by
  decide +kernel

/-- The regenerated table is ranked: structs are not recursive (nesting depth ≤ 8), have ≤ 40
fields, all nested names resolve and no field kind is unknown. -/
theorem C09_allSchemas_ranked : C09Ranked allSchemas C09rank = true :=
  Tables.all_imp C09_allSchemas_checks fun _ h => by
    simp only [Bool.and_eq_true] at h
    exact h.1.1

/-! ### never panics -/

/-- General form: on a ranked table, a field list whose nested structs have rank `< k`, read from any
reader state `r`, does not panic when given fuel `#fields + 42 * k + 1 + unread bytes`
(`Codec.need`); and a successful read only moves the index forward in the same buffer. -/
theorem C09_decodeFields_no_panic (t : Table) (rank : String → Nat) (hR : C09Ranked t rank = true)
    (nfc : NFC) (k : Nat) (fs : List Field) (r : Reader) (hok : fieldsOK t rank k fs = true)
    (fuel : Nat) (hf : need k fs.length (r.data.length - r.index) ≤ fuel) :
    decodeFields t nfc fuel fs r ≠ .error .panic ∧
    ∀ vs r', decodeFields t nfc fuel fs r = .ok (vs, r') →
      r'.data.length = r.data.length ∧ r.index ≤ r'.index ∧
        (r'.index = r.index ∨ r'.index ≤ r.data.length) := by
  replace hR : Ranked t rank = true := C09Ranked_eq ▸ hR
  have h := decodeFields_safe t nfc rank hR k fs r hok fuel hf
  exact ⟨h.ne_panic, fun vs r' he => h.of_ok he⟩

/-- `need ≤ fuelFor`: the budget of `decode` covers every struct of a ranked table -/
theorem C09_need_le_fuelFor (data : Bytes) (k n : Nat) (hk : k ≤ 8) (hn : n ≤ 40) :
    need k n data.length ≤ fuelFor data :=
  need_le_fuelFor data hk hn

/-- Neither `Decode` nor `DecodeStrict` panics, on any ranked table, any struct of it, any NFC
implementation and any byte string. -/
theorem C09_decode_no_panic (t : Table) (rank : String → Nat) (hR : C09Ranked t rank = true)
    (nfc : NFC) (s : Schema) (hs : s ∈ t) (data : Bytes) :
    decode t nfc s data ≠ .error .panic ∧ decodeStrict t nfc s data ≠ .error .panic := by
  replace hR : Ranked t rank = true := C09Ranked_eq ▸ hR
  obtain ⟨hk, hdl, hsl, hdec, hstr⟩ := schemaOK_dec (ranked_mem hR hs)
  have h1 := decodeFields_safe t nfc rank hR (rank s.name) s.dec (Reader.new data) hdec
    (fuelFor data) (need_le_fuelFor data hk hdl)
  have h2 := decodeFields_safe t nfc rank hR (rank s.name) s.decStrict (Reader.new data) hstr
    (fuelFor data) (need_le_fuelFor data hk hsl)
  rw [decode_eq, decodeStrict_eq]
  refine ⟨Safe.ne_panic (Q := fun _ => True) (h1.bind fun _ _ _ => trivial),
    Safe.ne_panic (Q := fun _ => True) (h2.bind fun _ _ _ => ?_)⟩
  split <;> simp

/-- All 95 generated structs — among them every network-facing one (blockchain.RawBlock / Block /
BlockHeader / AggregateCommit / Transaction / BlockAsset, consensus.EventPostSingleCommits,
certificate.SingleCommit, the p2p messages, the sync requests and responses, smt.Proof, rmt.Proof) —
decode any byte string without panicking, leniently and strictly. -/
theorem C09_decode_all_network_schemas_no_panic :
    ∀ s ∈ allSchemas, ∀ data : Bytes,
      decode allSchemas asciiNFC s data ≠ .error .panic ∧
      decodeStrict allSchemas asciiNFC s data ≠ .error .panic :=
  fun s hs data => C09_decode_no_panic allSchemas C09rank C09_allSchemas_ranked asciiNFC s hs data

/-- the same for any NFC implementation (`norm.NFC` is a parameter of the model) -/
theorem C09_decode_all_schemas_no_panic_any_nfc (nfc : NFC) :
    ∀ s ∈ allSchemas, ∀ data : Bytes,
      decode allSchemas nfc s data ≠ .error .panic ∧
      decodeStrict allSchemas nfc s data ≠ .error .panic :=
  fun s hs data => C09_decode_no_panic allSchemas C09rank C09_allSchemas_ranked nfc s hs data

/-! ### the fuel is irrelevant -/

/-- Once the fuel reaches `need`, the result no longer depends on it: the model's answer is the answer
of the fuel-free Go code. -/
theorem C09_decode_fuel_irrelevant (t : Table) (rank : String → Nat) (hR : C09Ranked t rank = true)
    (nfc : NFC) (k : Nat) (fs : List Field) (r : Reader) (hok : fieldsOK t rank k fs = true)
    (f₁ f₂ : Nat) (h₁ : need k fs.length (r.data.length - r.index) ≤ f₁)
    (h₂ : need k fs.length (r.data.length - r.index) ≤ f₂) :
    decodeFields t nfc f₁ fs r = decodeFields t nfc f₂ fs r := by
  replace hR : Ranked t rank = true := C09Ranked_eq ▸ hR
  have h := (decodeFields_safe t nfc rank hR k fs r hok _ (Nat.le_refl _)).ne_panic
  rw [decodeFields_fuel_mono t nfc fs r h₁ h, decodeFields_fuel_mono t nfc fs r h₂ h]

/-- in particular `decode` / `decodeStrict` compute what any larger budget would compute
(`377 = need 8 40 0 = 40 + 42 * 8 + 1`: rank ≤ 8 and ≤ 40 fields, as `schemaOK` checks) -/
theorem C09_decode_fuelFor_irrelevant (t : Table) (rank : String → Nat)
    (hR : C09Ranked t rank = true) (nfc : NFC) (s : Schema) (hs : s ∈ t) (data : Bytes) (fuel : Nat)
    (hf : data.length + 377 ≤ fuel) :
    decodeFields t nfc fuel s.dec (Reader.new data) =
      decodeFields t nfc (fuelFor data) s.dec (Reader.new data) ∧
    decodeFields t nfc fuel s.decStrict (Reader.new data) =
      decodeFields t nfc (fuelFor data) s.decStrict (Reader.new data) := by
  obtain ⟨hk, hdl, hsl, hdec, hstr⟩ := schemaOK_dec (ranked_mem (C09Ranked_eq ▸ hR) hs)
  constructor
  · apply C09_decode_fuel_irrelevant t rank hR nfc (rank s.name) s.dec _ hdec
    · simp only [need, Reader.new]; omega
    · exact need_le_fuelFor data hk hdl
  · apply C09_decode_fuel_irrelevant t rank hR nfc (rank s.name) s.decStrict _ hstr
    · simp only [need, Reader.new]; omega
    · exact need_le_fuelFor data hk hsl

/-! ### linear bound on the recursion / iteration budget -/

/-- The recursion budget actually needed is linear in the input: some fuel `≤ |data| + 377 ≤ 3 * |data| + 400`
already gives a non-panic answer, and that answer is the one for every larger fuel. (Fuel counts the
depth of the call chain `decodeFields → decodeField → decodeNested / decodeMsgArr`, where
every array iteration is one more call.) -/
theorem C09_decode_fuel_linear (t : Table) (rank : String → Nat) (hR : C09Ranked t rank = true)
    (nfc : NFC) (s : Schema) (hs : s ∈ t) (data : Bytes) :
    ∃ fuel, fuel ≤ data.length + 377 ∧ fuel ≤ 3 * data.length + 400 ∧
      decodeFields t nfc fuel s.dec (Reader.new data) ≠ .error .panic ∧
      decodeFields t nfc fuel s.decStrict (Reader.new data) ≠ .error .panic ∧
      ∀ fuel', fuel ≤ fuel' →
        decodeFields t nfc fuel' s.dec (Reader.new data) =
          decodeFields t nfc fuel s.dec (Reader.new data) ∧
        decodeFields t nfc fuel' s.decStrict (Reader.new data) =
          decodeFields t nfc fuel s.decStrict (Reader.new data) := by
  replace hR : Ranked t rank = true := C09Ranked_eq ▸ hR
  obtain ⟨hk, hdl, hsl, hdec, hstr⟩ := schemaOK_dec (ranked_mem hR hs)
  have hn1 : need (rank s.name) s.dec.length
      ((Reader.new data).data.length - (Reader.new data).index) ≤ data.length + 377 := by
    simp only [need, Reader.new]; omega
  have hn2 : need (rank s.name) s.decStrict.length
      ((Reader.new data).data.length - (Reader.new data).index) ≤ data.length + 377 := by
    simp only [need, Reader.new]; omega
  have h1 := (decodeFields_safe t nfc rank hR _ s.dec _ hdec _ hn1).ne_panic
  have h2 := (decodeFields_safe t nfc rank hR _ s.decStrict _ hstr _ hn2).ne_panic
  refine ⟨data.length + 377, Nat.le_refl _, by omega, h1, h2, ?_⟩
  intro fuel' hle
  exact ⟨decodeFields_fuel_mono t nfc _ _ hle h1, decodeFields_fuel_mono t nfc _ _ hle h2⟩

/-! ### linear bound on the total work -/

/-- Total work. `costFields` (defined in `Lemmas/CodecTotal.lean` next to the model, with the model's
own calls as scrutinees) counts every call of `decodeFields` / `decodeField` / `decodeNested` /
`decodeMsgArr` and every iteration of the two primitive array loops made by a decode. For every
ranked table, every struct, every input and EVERY fuel that count is at most `121 * (|data| + 1)`:
each nested struct or array element costs ≤ 1 + 3 * 40 = 121 calls before its fields consume a byte
and consumes ≥ 1 byte of its own (the size prefix), every other loop iteration consumes ≥ 1 byte. Each call performs a bounded
number of primitive reads, each O(1) (a varint of ≤ 10 bytes, a bool) or O(bytes it consumes). -/
theorem C09_decode_steps_linear (t : Table) (rank : String → Nat) (hR : C09Ranked t rank = true)
    (nfc : NFC) (s : Schema) (hs : s ∈ t) (data : Bytes) (fuel : Nat) :
    costFields t nfc fuel s.dec (Reader.new data) ≤ 121 * (data.length + 1) ∧
    costFields t nfc fuel s.decStrict (Reader.new data) ≤ 121 * (data.length + 1) := by
  replace hR : Ranked t rank = true := C09Ranked_eq ▸ hR
  obtain ⟨_, hdl, hsl, hdec, hstr⟩ := schemaOK_dec (ranked_mem hR hs)
  exact ⟨costFields_le t nfc rank hR _ s.dec hdec hdl fuel data,
    costFields_le t nfc rank hR _ s.decStrict hstr hsl fuel data⟩

/-- the work bound for all generated structs, with the budget `decode` / `decodeStrict` use -/
theorem C09_decode_all_schemas_steps_linear :
    ∀ s ∈ allSchemas, ∀ data : Bytes,
      costFields allSchemas asciiNFC (fuelFor data) s.dec (Reader.new data) ≤
        121 * (data.length + 1) ∧
      costFields allSchemas asciiNFC (fuelFor data) s.decStrict (Reader.new data) ≤
        121 * (data.length + 1) :=
  fun s hs data =>
    C09_decode_steps_linear allSchemas C09rank C09_allSchemas_ranked asciiNFC s hs data _

/-! ### non-vacuity -/

/-- a Bool test for "the outcome is the error `e`" (`Value` has no decidable equality) -/
def C09isError {α : Type} (e : Err) : Except Err α → Bool
  | .error e' => decide (e' = e)
  | .ok _ => false

theorem C09_isError_iff {α : Type} (e : Err) (x : Except Err α) :
    C09isError e x = true ↔ x = .error e := by
  cases x with
  | error e' => simp [C09isError]
  | ok a => simp [C09isError]

/-- the hypotheses of `C09_decode_no_panic` are satisfiable: the block header is in the ranked table -/
example : C09Ranked allSchemas C09rank = true ∧ schema2 ∈ allSchemas ∧
    schema2.name = "blockchain.BlockHeader" ∧ C09rank "sync.GetBlocksFromIDResponse" = 3 := by
  refine ⟨C09_allSchemas_ranked, ?_, rfl, by decide +kernel⟩
  simp [allSchemas]

/-- A block header cut right after the key of field 12 (`impliesMaxPrevotes`, a bool): the byte the
reader wants next is out of range. Go's `readBool` indexes `data[index]`: without a bounds check this
input is an index-out-of-range panic of the real reader (the fix of `readBool` adds the check). With
the check, which the model has, the answer is `invalidData`, not `panic`. -/
example : decode allSchemas asciiNFC schema2 [0x60] = .error .invalidData :=
  (C09_isError_iff _ _).mp (by decide +kernel)

/-- the same truncation of a full strict header: fields 1–11 present, then the key of field 12 -/
example : decodeStrict allSchemas asciiNFC schema2
    [0x08, 0x02, 0x10, 0x00, 0x18, 0x00, 0x22, 0x00, 0x2a, 0x00, 0x32, 0x00, 0x3a, 0x00, 0x42, 0x00,
     0x4a, 0x00, 0x50, 0x00, 0x58, 0x00, 0x60] = .error .invalidData :=
  (C09_isError_iff _ _).mp (by decide +kernel)

/-- … and inside a block (nested header of declared size 1 holding only that key) -/
example : decode allSchemas asciiNFC schema1 [0x0a, 0x01, 0x60] = .error .invalidData :=
  (C09_isError_iff _ _).mp (by decide +kernel)

/-- the decoder is not trivially failing: the complete strict header decodes -/
example : (decodeStrict allSchemas asciiNFC schema2
    [0x08, 0x02, 0x10, 0x00, 0x18, 0x00, 0x22, 0x00, 0x2a, 0x00, 0x32, 0x00, 0x3a, 0x00, 0x42, 0x00,
     0x4a, 0x00, 0x50, 0x00, 0x58, 0x00, 0x60, 0x01, 0x6a, 0x00, 0x72, 0x00, 0x7a, 0x00]).toBool
    = true := by
  decide +kernel

/-- the rank hypothesis is not redundant: a table with a dangling nested name does panic -/
example :
    let s : Schema := { name := "A", enc := [], dec := [{ num := 1, kind := .msg "B" }], decStrict := [] }
    decode [s] asciiNFC s [0x0a, 0x00] = .error .panic ∧ C09Ranked [s] (fun _ => 0) = false := by
  refine ⟨(C09_isError_iff _ _).mp (by decide +kernel), by decide +kernel⟩

/-- the step counter counts: the one-byte header above takes 12 field reads + 12 list steps -/
example : costFields allSchemas asciiNFC (fuelFor [0x60]) schema2.dec (Reader.new [0x60]) = 24 := by
  decide +kernel
