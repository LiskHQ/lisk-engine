/-
C08 — round trip, stable IDs and (non-)canonicity for NESTED messages of arbitrary depth
(`LiskVerif.Model.Codec`).

* Own encodings: on every well-formed (ranked) table, `Decode` / `DecodeStrict` of `Encode` return the
  value tree, to any depth; with arbitrary strings the decoded tree is the NFC form. The regenerated
  table of 95 structs is well-formed, so this holds for every generated struct (spelled out for
  `Block` and `BlockHeader`). Excluded, each for a reason shown by a counterexample: nil nested
  pointers, invalid UTF-8, non-normalised strings, integers outside their Go type.
* Every accepted input: whatever a decoder returns is a well-typed value tree, so storing
  `Encode(value)` and loading it returns the same value and the same ID — for the struct lists that
  cannot produce a nil pointer (`C08NilFree`: 85 / 90 of the 95 structs, lenient / strict); the
  exception is a leniently decoded block WITHOUT header.
* Strict decoding is NOT canonical for structs with nested structs: the nested decode is the lenient
  one and the declared nested size is not enforced (pkg/codec/reader.go `ReadDecodable` /
  `ReadDecodables`). The flat envelopes `NewBlock` decodes strictly ARE canonical; every generated
  struct is canonical-flat, or has a truncating / packed field, or has a nested struct.

The nesting rank of the regenerated table (`C09rank`, `C09_allSchemas_ranked`) comes from the
totality development, Props/C09_Codec.lean.
-/
import LiskVerif.Lemmas.CodecNested
import LiskVerif.Props.C08_Msg
import LiskVerif.Props.C09_Codec

open LiskVerif LiskVerif.Codec LiskVerif.Gen

/-! ### well-formed tables and well-typed value trees -/

/-- Decidable well-formedness of a schema table with rank function `rank`:
* `C09Ranked t rank`: every struct has rank ≤ 8 and ≤ 40 fields, no field kind is unknown, every
  `.msg n` / `.msgArr n` field names a struct of the table of strictly smaller rank (no recursion);
* for every struct, field numbers strictly increase from 1 and `num * 8 + 2 < 2^64`;
* Encode, Decode and DecodeStrict agree on field numbers and kinds. -/
def C08DeepWF (t : Table) (rank : String → Nat) : Bool := TableWF t rank

theorem C08DeepWF_eq : C08DeepWF = TableWF := rfl

/-- One value has the Go type of a field of kind `k`, following the table `t` through nested structs
down to depth `d` (see the unfolding theorems `C08_typedDeepVal_*` below):
* depth 0, or a scalar / bytes / string / `[][]byte` / packed `[]uint` kind: `C08TypedVal`
  (64/32-bit ranges, byte strings < 2^63, strings valid UTF-8 and NFC-normalised);
* `.msg n`: a NON-NIL pointer `.msg true vals` with `vals` typed at depth `d - 1` for struct `n`;
* `.msgArr n`: every element typed at depth `d - 1` for struct `n` (the array may be empty). -/
def C08TypedDeepVal (t : Table) (nfc : NFC) (d : Nat) (k : Kind) (v : Value) : Bool :=
  typedValDeep t nfc d k v

theorem C08TypedDeepVal_eq : C08TypedDeepVal = typedValDeep := rfl

/-- the value list is well-typed for the field list (same length, each value `C08TypedDeepVal`) -/
def C08TypedDeep (t : Table) (nfc : NFC) (d : Nat) (fs : List Field) (vals : List Value) : Bool :=
  typedWith (typedValDeep t nfc d) fs vals

theorem C08TypedDeep_eq (t : Table) (nfc : NFC) (d : Nat) :
    C08TypedDeep t nfc d = typedWith (typedValDeep t nfc d) := rfl

theorem C08_typedDeep_nil (t : Table) (nfc : NFC) (d : Nat) : C08TypedDeep t nfc d [] [] = true := rfl

theorem C08_typedDeep_cons (t : Table) (nfc : NFC) (d : Nat) (f : Field) (fs : List Field) (v : Value)
    (vs : List Value) :
    C08TypedDeep t nfc d (f :: fs) (v :: vs) =
      (C08TypedDeepVal t nfc d f.kind v && C08TypedDeep t nfc d fs vs) := rfl

/-- a present nested struct is typed iff its fields are typed, one level down, for the named struct -/
theorem C08_typedDeepVal_msg (t : Table) (nfc : NFC) (d : Nat) (name : String) (vals : List Value) :
    C08TypedDeepVal t nfc (d + 1) (.msg name) (.msg true vals) =
      (match t.find name with
       | some s => C08TypedDeep t nfc d s.enc vals
       | none => false) := rfl

/-- a nil nested pointer is never well-typed -/
theorem C08_typedDeepVal_nil (t : Table) (nfc : NFC) (d : Nat) (name : String) (vals : List Value) :
    C08TypedDeepVal t nfc d (.msg name) (.msg false vals) = false := by
  cases d <;> rfl

/-- an array of structs is typed iff every element is, one level down -/
theorem C08_typedDeepVal_msgArr (t : Table) (nfc : NFC) (d : Nat) (name : String)
    (l : List (List Value)) :
    C08TypedDeepVal t nfc (d + 1) (.msgArr name) (.msgArr l) =
      (match t.find name with
       | some s => l.all (C08TypedDeep t nfc d s.enc)
       | none => false) := rfl

/-- on the kinds of a flat struct the deep typing is `C08TypedVal`, at every depth -/
theorem C08_typedDeepVal_flat (t : Table) (nfc : NFC) (d : Nat) (k : Kind) (v : Value)
    (hk : C08FlatKind k = true) : C08TypedDeepVal t nfc d k v = C08TypedVal nfc k v := by
  rw [C08TypedDeepVal_eq, C08TypedVal_eq]
  exact typedValDeep_flat t nfc d k v (C08FlatKind_eq ▸ hk)

/-! ### the general round trip -/

/-- **Round trip for nested messages of arbitrary depth.** On every well-formed table, for every
struct `s` of the table and every value tree `vals` that is well-typed for `s` (to any depth `d`):
`Decode` and `DecodeStrict` applied to `Encode s vals` return exactly `vals`.

Excluded (and necessarily so, see the counterexamples below): nil nested pointers, strings that are
not valid UTF-8 or not NFC-normalised, integers outside their Go type; and encodings of 2^63 bytes or
more (Go's `int` index arithmetic wraps). Empty arrays, empty byte strings, empty nested structs and
zero scalars are all included. -/
theorem C08_roundtrip_nested (t : Table) (rank : String → Nat) (nfc : NFC)
    (hwf : C08DeepWF t rank = true) (s : Schema) (hs : s ∈ t) (d : Nat) (vals : List Value)
    (hv : C08TypedDeep t nfc d s.enc vals = true)
    (hlen : (encode t nfc s vals).length < 2 ^ 63) :
    decode t nfc s (encode t nfc s vals) = .ok vals ∧
    decodeStrict t nfc s (encode t nfc s vals) = .ok vals :=
  decode_roundtrip_deep t rank nfc (C08DeepWF_eq ▸ hwf) s hs d vals (C08TypedDeep_eq t nfc d ▸ hv) hlen

/-- **Stable IDs under store / load / re-encode**: what `Decode` returns for the node's own encoding
re-encodes to the same bytes, so any hash of the encoding (block ID, transaction ID) is unchanged. -/
theorem C08_reencode_stable_nested (t : Table) (rank : String → Nat) (nfc : NFC)
    (hwf : C08DeepWF t rank = true) (s : Schema) (hs : s ∈ t) (d : Nat) (vals vals' : List Value)
    (hv : C08TypedDeep t nfc d s.enc vals = true) (hlen : (encode t nfc s vals).length < 2 ^ 63)
    {ID : Type} (hash : Bytes → ID)
    (h : decode t nfc s (encode t nfc s vals) = .ok vals' ∨
      decodeStrict t nfc s (encode t nfc s vals) = .ok vals') :
    encode t nfc s vals' = encode t nfc s vals ∧
    hash (encode t nfc s vals') = hash (encode t nfc s vals) := by
  obtain ⟨h1, h2⟩ := C08_roundtrip_nested t rank nfc hwf s hs d vals hv hlen
  have : vals' = vals := by
    rcases h with h | h
    · rw [h1] at h; injection h with h; exact h.symm
    · rw [h2] at h; injection h with h; exact h.symm
  subst this
  exact ⟨rfl, rfl⟩

/-- **Encode is injective on well-typed value trees**: two different values of a struct never share
an encoding, hence never share an ID. -/
theorem C08_encode_injective_nested (t : Table) (rank : String → Nat) (nfc : NFC)
    (hwf : C08DeepWF t rank = true) (s : Schema) (hs : s ∈ t) (d₁ d₂ : Nat) (v₁ v₂ : List Value)
    (h₁ : C08TypedDeep t nfc d₁ s.enc v₁ = true) (h₂ : C08TypedDeep t nfc d₂ s.enc v₂ = true)
    (hlen : (encode t nfc s v₁).length < 2 ^ 63)
    (he : encode t nfc s v₁ = encode t nfc s v₂) : v₁ = v₂ := by
  have r1 := (C08_roundtrip_nested t rank nfc hwf s hs d₁ v₁ h₁ hlen).1
  have r2 := (C08_roundtrip_nested t rank nfc hwf s hs d₂ v₂ h₂ (he ▸ hlen)).1
  rw [he, r2] at r1
  injection r1 with r1
  exact r1.symm

/-- normalise (`norm.NFC.String`) every string of a value tree, following the table to depth `d` -/
def C08NormDeep (t : Table) (nfc : NFC) (d : Nat) (fs : List Field) (vals : List Value) : List Value :=
  normWith (normValDeep t nfc d) fs vals

theorem C08NormDeep_eq (t : Table) (nfc : NFC) (d : Nat) :
    C08NormDeep t nfc d = normWith (normValDeep t nfc d) := rfl

/-- at every depth, a string field is normalised by `nfc.normalize` -/
theorem C08_normDeep_string (t : Table) (nfc : NFC) (d : Nat) (b : Bytes) :
    normValDeep t nfc d .string (.bytes b) = .bytes (nfc.normalize b) := by
  cases d <;> rfl

/-- **Round trip with strings compared in NFC form.** `WriteString` normalises, so for a value tree
whose strings are arbitrary (not yet normalised) both decoders return the tree with every string
replaced by its NFC form — provided that normalised tree is well-typed (normal forms are valid UTF-8,
normal, and fixed by normalisation) and normalisation is idempotent. -/
theorem C08_roundtrip_nested_nfc (t : Table) (rank : String → Nat) (nfc : NFC)
    (hwf : C08DeepWF t rank = true)
    (hidem : ∀ b, nfc.normalize (nfc.normalize b) = nfc.normalize b) (s : Schema) (hs : s ∈ t)
    (d : Nat) (vals : List Value)
    (hv : C08TypedDeep t nfc d s.enc (C08NormDeep t nfc d s.enc vals) = true)
    (hlen : (encode t nfc s vals).length < 2 ^ 63) :
    decode t nfc s (encode t nfc s vals) = .ok (C08NormDeep t nfc d s.enc vals) ∧
    decodeStrict t nfc s (encode t nfc s vals) = .ok (C08NormDeep t nfc d s.enc vals) :=
  C08NormDeep_eq t nfc d ▸
    decode_roundtrip_nfc t rank nfc (C08DeepWF_eq ▸ hwf) hidem s hs d vals
      (C08NormDeep_eq t nfc d ▸ C08TypedDeep_eq t nfc d ▸ hv) hlen

/-! ### coverage: the regenerated table -/

/-- The table regenerated from the `*_codec.go` files is well-formed, with the nesting-depth rank
`C09rank` (`C09_allSchemas_ranked`): a codec file whose Encode / Decode / DecodeStrict disagree, whose
field numbers are not increasing, or which nests recursively breaks it. -/
theorem C08_allSchemas_deepWF : C08DeepWF allSchemas C09rank = true := by
  rw [C08DeepWF_eq, TableWF, Bool.and_eq_true]
  exact ⟨C09_allSchemas_ranked, by decide +kernel⟩

/-- there are (at least) 95 generated structs, all covered -/
theorem C08_allSchemas_count : 95 ≤ allSchemas.length := by
  decide +kernel

/-- **Round trip for every generated struct**, any NFC implementation, any nesting depth. -/
theorem C08_roundtrip_all_schemas (nfc : NFC) (s : Schema) (hs : s ∈ allSchemas) (d : Nat)
    (vals : List Value) (hv : C08TypedDeep allSchemas nfc d s.enc vals = true)
    (hlen : (encode allSchemas nfc s vals).length < 2 ^ 63) :
    decode allSchemas nfc s (encode allSchemas nfc s vals) = .ok vals ∧
    decodeStrict allSchemas nfc s (encode allSchemas nfc s vals) = .ok vals :=
  C08_roundtrip_nested allSchemas C09rank nfc C08_allSchemas_deepWF s hs d vals hv hlen

/-! ### blockchain.Block and blockchain.BlockHeader -/

/-- the field list of `blockchain.BlockHeader`: version, timestamp, height (uint32); previousBlockID,
generatorAddress, transactionRoot, assetRoot, eventRoot, stateRoot (bytes); maxHeightPrevoted,
maxHeightGenerated (uint32); impliesMaxPrevotes (bool); validatorsHash (bytes);
aggregateCommit (*AggregateCommit); signature (bytes) -/
def C08headerFields (st : Bool) : List Field :=
  [⟨1, .uint32, st⟩, ⟨2, .uint32, st⟩, ⟨3, .uint32, st⟩, ⟨4, .bytes, st⟩, ⟨5, .bytes, st⟩,
   ⟨6, .bytes, st⟩, ⟨7, .bytes, st⟩, ⟨8, .bytes, st⟩, ⟨9, .bytes, st⟩, ⟨10, .uint32, st⟩,
   ⟨11, .uint32, st⟩, ⟨12, .bool, st⟩, ⟨13, .bytes, st⟩, ⟨14, .msg "blockchain.AggregateCommit", st⟩,
   ⟨15, .bytes, st⟩]

/-- the field list of `blockchain.Block`: header (*BlockHeader), transactions ([]*Transaction),
assets ([]*BlockAsset) -/
def C08blockFields (st : Bool) : List Field :=
  [⟨1, .msg "blockchain.BlockHeader", st⟩, ⟨2, .msgArr "blockchain.Transaction", false⟩,
   ⟨3, .msgArr "blockchain.BlockAsset", false⟩]

/-- the field list of `blockchain.BlockAsset`: module (string), data (bytes) -/
def C08assetFields (st : Bool) : List Field := [⟨1, .string, st⟩, ⟨2, .bytes, st⟩]

/-- the field list of `blockchain.RawBlock`: header (bytes), transactions, assets ([][]byte) -/
def C08rawBlockFields (st : Bool) : List Field :=
  [⟨1, .bytes, st⟩, ⟨2, .bytesArr, false⟩, ⟨3, .bytesArr, false⟩]

/-- the field list of `labi.VerifyTransactionRequest`: contextID (bytes), transaction (*Transaction) -/
def C08vtrFields (st : Bool) : List Field := [⟨1, .bytes, st⟩, ⟨2, .msg "blockchain.Transaction", st⟩]

/-- the field lists of `consensus.EventPostSingleCommits` (singleCommits: []*SingleCommit) and of
`certificate.SingleCommit` (blockID: bytes, height: uint32, validatorAddress, certificateSignature:
bytes) -/
def C08postCommitsFields : List Field := [⟨1, .msgArr "certificate.SingleCommit", false⟩]
def C08singleCommitFields (st : Bool) : List Field :=
  [⟨1, .bytes, st⟩, ⟨2, .uint32, st⟩, ⟨3, .bytes, st⟩, ⟨4, .bytes, st⟩]

/-- the field lists of `crypto.EncryptedMessage` (version: string; ciphertext, mac: bytes; kdf: string;
kdfparams: *KDFParams; cipher: string; cipherparams: *CipherParams), `crypto.KDFParams` (parallelism,
iterations, memorySize: uint32; salt: bytes) and `crypto.CipherParams` (iv, tag: bytes) -/
def C08encMsgFields (st : Bool) : List Field :=
  [⟨1, .string, st⟩, ⟨2, .bytes, st⟩, ⟨3, .bytes, st⟩, ⟨4, .string, st⟩,
   ⟨5, .msg "crypto.KDFParams", st⟩, ⟨6, .string, st⟩, ⟨7, .msg "crypto.CipherParams", st⟩]
def C08kdfFields (st : Bool) : List Field :=
  [⟨1, .uint32, st⟩, ⟨2, .uint32, st⟩, ⟨3, .uint32, st⟩, ⟨4, .bytes, st⟩]
def C08cipherFields (st : Bool) : List Field := [⟨1, .bytes, st⟩, ⟨2, .bytes, st⟩]

/-- the generated structs that the theorems below spell out, with the field lists of their Encode,
Decode and DecodeStrict -/
def C08spelled : List (String × List Field × List Field × List Field) :=
  [("blockchain.BlockHeader", C08headerFields false, C08headerFields false, C08headerFields true),
   ("blockchain.Block", C08blockFields false, C08blockFields false, C08blockFields true),
   ("blockchain.BlockAsset", C08assetFields false, C08assetFields false, C08assetFields true),
   ("blockchain.RawBlock", C08rawBlockFields false, C08rawBlockFields false, C08rawBlockFields true),
   ("labi.VerifyTransactionRequest", C08vtrFields false, C08vtrFields false, C08vtrFields true),
   ("consensus.EventPostSingleCommits", C08postCommitsFields, C08postCommitsFields,
     C08postCommitsFields),
   ("certificate.SingleCommit", C08singleCommitFields false, C08singleCommitFields false,
     C08singleCommitFields true),
   ("crypto.EncryptedMessage", C08encMsgFields false, C08encMsgFields false, C08encMsgFields true),
   ("crypto.KDFParams", C08kdfFields false, C08kdfFields false, C08kdfFields true),
   ("crypto.CipherParams", C08cipherFields false, C08cipherFields false, C08cipherFields true)]

/-- the generated table holds each of them with exactly these field lists -/
theorem C08_spelled_schemas : C08spelled.all (fun e =>
    decide ((allSchemas.find e.1).map (fun s => (s.enc, s.dec, s.decStrict)) = some e.2)) = true := by
  decide +kernel

/-- entry `i` of the list, as a fact about the table -/
theorem C08_spelled_find (i : Nat) (h : i < C08spelled.length := by decide) :
    (allSchemas.find C08spelled[i].1).map (fun s => (s.enc, s.dec, s.decStrict)) =
      some C08spelled[i].2 :=
  of_decide_eq_true (List.all_eq_true.mp C08_spelled_schemas _ (List.getElem_mem h))

theorem C08_blockHeader_schema :
    (allSchemas.find "blockchain.BlockHeader").map (fun s => (s.enc, s.dec, s.decStrict)) =
      some (C08headerFields false, C08headerFields false, C08headerFields true) :=
  C08_spelled_find 0

theorem C08_block_schema :
    (allSchemas.find "blockchain.Block").map (fun s => (s.enc, s.dec, s.decStrict)) =
      some (C08blockFields false, C08blockFields false, C08blockFields true) :=
  C08_spelled_find 1

theorem C08_blockAsset_schema :
    (allSchemas.find "blockchain.BlockAsset").map (fun s => (s.enc, s.dec, s.decStrict)) =
      some (C08assetFields false, C08assetFields false, C08assetFields true) :=
  C08_spelled_find 2

theorem C08_rawBlock_schema :
    (allSchemas.find "blockchain.RawBlock").map (fun s => (s.enc, s.dec, s.decStrict)) =
      some (C08rawBlockFields false, C08rawBlockFields false, C08rawBlockFields true) :=
  C08_spelled_find 3

theorem C08_verifyTransactionRequest_schema :
    (allSchemas.find "labi.VerifyTransactionRequest").map (fun s => (s.enc, s.dec, s.decStrict)) =
      some (C08vtrFields false, C08vtrFields false, C08vtrFields true) :=
  C08_spelled_find 4

theorem C08_postSingleCommits_schema :
    (allSchemas.find "consensus.EventPostSingleCommits").map (fun s => (s.enc, s.dec, s.decStrict)) =
      some (C08postCommitsFields, C08postCommitsFields, C08postCommitsFields) :=
  C08_spelled_find 5

theorem C08_singleCommit_schema :
    (allSchemas.find "certificate.SingleCommit").map (fun s => (s.enc, s.dec, s.decStrict)) =
      some (C08singleCommitFields false, C08singleCommitFields false, C08singleCommitFields true) :=
  C08_spelled_find 6

theorem C08_encryptedMessage_schema :
    (allSchemas.find "crypto.EncryptedMessage").map (fun s => (s.enc, s.dec, s.decStrict)) =
      some (C08encMsgFields false, C08encMsgFields false, C08encMsgFields true) :=
  C08_spelled_find 7

theorem C08_kdfParams_schema :
    (allSchemas.find "crypto.KDFParams").map (fun s => (s.enc, s.dec, s.decStrict)) =
      some (C08kdfFields false, C08kdfFields false, C08kdfFields true) :=
  C08_spelled_find 8

theorem C08_cipherParams_schema :
    (allSchemas.find "crypto.CipherParams").map (fun s => (s.enc, s.dec, s.decStrict)) =
      some (C08cipherFields false, C08cipherFields false, C08cipherFields true) :=
  C08_spelled_find 9

/-- **Block header round trip**: a header whose 15 fields are well-typed (the AggregateCommit a
non-nil pointer with well-typed height / aggregationBits / certificateSignature) is returned
unchanged by `Decode` and `DecodeStrict` of its `Encode`. -/
theorem C08_blockHeader_roundtrip (nfc : NFC) (s : Schema)
    (hs : allSchemas.find "blockchain.BlockHeader" = some s) (header : List Value)
    (hv : C08TypedDeep allSchemas nfc 1 (C08headerFields false) header = true)
    (hlen : (encode allSchemas nfc s header).length < 2 ^ 63) :
    decode allSchemas nfc s (encode allSchemas nfc s header) = .ok header ∧
    decodeStrict allSchemas nfc s (encode allSchemas nfc s header) = .ok header := by
  cases C08_schema_eq C08_blockHeader_schema hs
  exact C08_roundtrip_all_schemas nfc _ (find_mem hs) 1 header hv hlen

private theorem C08Typed_eq' (nfc : NFC) : ∀ fs vs, C08Typed nfc fs vs = typedVals nfc fs vs :=
  fun fs vs => (C08Typed_eq nfc fs vs).trans (typedVals_eq nfc fs vs).symm

/-- for a flat field list the deep typing is the flat typing `C08Typed` -/
theorem C08_typedDeep_flat (t : Table) (nfc : NFC) (d : Nat) :
    ∀ (fs : List Field) (vs : List Value), fs.all (fun f => C08FlatKind f.kind) = true →
    C08TypedDeep t nfc d fs vs = C08Typed nfc fs vs := by
  intro fs
  induction fs with
  | nil => intro vs _; cases vs <;> rfl
  | cons f fs ih =>
    intro vs hf
    simp only [List.all_cons, Bool.and_eq_true] at hf
    cases vs with
    | nil => rfl
    | cons v vs =>
      have := ih vs hf.2
      simp only [C08TypedDeep_eq] at this
      simp only [C08TypedDeep_eq, typedWith, C08Typed, this]
      congr 1
      exact C08_typedDeepVal_flat t nfc d f.kind v hf.1

/-- what well-typed means for a block: the header is well-typed (depth 1, for its AggregateCommit),
every transaction is well-typed for the (flat) transaction fields, every asset for the asset fields -/
theorem C08_block_typed_iff (nfc : NFC) (st : Bool) (header : List Value)
    (txs assets : List (List Value)) :
    C08TypedDeep allSchemas nfc 2 (C08blockFields st) [.msg true header, .msgArr txs, .msgArr assets]
      = true ↔
    (C08TypedDeep allSchemas nfc 1 (C08headerFields false) header = true ∧
     (∀ tx ∈ txs, C08Typed nfc (C08txFields false) tx = true) ∧
     (∀ a ∈ assets, C08Typed nfc (C08assetFields false) a = true)) := by
  have e1 : ∀ tx, typedWith (typedValDeep allSchemas nfc 1) (C08txFields false) tx =
      C08Typed nfc (C08txFields false) tx :=
    fun tx => C08_typedDeep_flat allSchemas nfc 1 _ tx (by decide)
  have e2 : ∀ a, typedWith (typedValDeep allSchemas nfc 1) (C08assetFields false) a =
      C08Typed nfc (C08assetFields false) a :=
    fun a => C08_typedDeep_flat allSchemas nfc 1 _ a (by decide)
  simp only [C08TypedDeep_eq, C08blockFields, typedWith, typedValDeep,
    find_eq_of_fields C08_blockHeader_schema, find_eq_of_fields C08_transaction_schema,
    find_eq_of_fields C08_blockAsset_schema, Bool.and_eq_true, Bool.and_true, List.all_eq_true, e1, e2]

/-- **Block round trip**: a block — header (with AggregateCommit), any number of transactions, any
number of assets, all well-typed — is returned unchanged by `Decode` and `DecodeStrict` of its
`Encode` (three levels of nesting: Block ⊃ BlockHeader ⊃ AggregateCommit). -/
theorem C08_block_roundtrip (nfc : NFC) (s : Schema) (hs : allSchemas.find "blockchain.Block" = some s)
    (header : List Value) (txs assets : List (List Value))
    (hh : C08TypedDeep allSchemas nfc 1 (C08headerFields false) header = true)
    (ht : ∀ tx ∈ txs, C08Typed nfc (C08txFields false) tx = true)
    (ha : ∀ a ∈ assets, C08Typed nfc (C08assetFields false) a = true)
    (hlen : (encode allSchemas nfc s [.msg true header, .msgArr txs, .msgArr assets]).length < 2 ^ 63) :
    let vals : List Value := [.msg true header, .msgArr txs, .msgArr assets]
    decode allSchemas nfc s (encode allSchemas nfc s vals) = .ok vals ∧
    decodeStrict allSchemas nfc s (encode allSchemas nfc s vals) = .ok vals := by
  intro vals
  cases C08_schema_eq C08_block_schema hs
  exact C08_roundtrip_all_schemas nfc _ (find_mem hs) 2 vals
    ((C08_block_typed_iff nfc false header txs assets).mpr ⟨hh, ht, ha⟩) hlen

/-! ### non-vacuity -/

/-- a concrete header: version 2, timestamp 100, height 7, …, an AggregateCommit (height 3, empty
bits, a 2-byte signature), a 2-byte block signature -/
def C08exampleHeader : List Value :=
  [.uint 2, .uint 100, .uint 7, .bytes [1], .bytes [2], .bytes [], .bytes [], .bytes [], .bytes [],
   .uint 5, .uint 6, .bool true, .bytes [9], .msg true [.uint 3, .bytes [], .bytes [1, 2]],
   .bytes [7, 7]]

/-- a concrete transaction (module "a", command "b", nonce 7, fee 99, two signatures) -/
def C08exampleTx2 : List Value :=
  [.bytes [0x61], .bytes [0x62], .uint 7, .uint 99, .bytes [1, 2, 3], .bytes [0xff, 0x00],
   .bytesArr [[9, 9], []]]

/-- a concrete block: that header, two transactions, one asset -/
def C08exampleBlock : List Value :=
  [.msg true C08exampleHeader, .msgArr [C08exampleTx2, C08exampleTx],
   .msgArr [[.bytes [0x41], .bytes [1]]]]

/-- the hypotheses of `C08_block_roundtrip` hold for `C08exampleBlock` (typing by kernel evaluation;
the length bound is immediate), so the block round-trips -/
example (s : Schema) (hs : allSchemas.find "blockchain.Block" = some s)
    (hlen : (encode allSchemas asciiNFC s C08exampleBlock).length < 2 ^ 63) :
    decode allSchemas asciiNFC s (encode allSchemas asciiNFC s C08exampleBlock) = .ok C08exampleBlock ∧
    decodeStrict allSchemas asciiNFC s (encode allSchemas asciiNFC s C08exampleBlock) =
      .ok C08exampleBlock :=
  C08_block_roundtrip asciiNFC s hs C08exampleHeader [C08exampleTx2, C08exampleTx]
    [[.bytes [0x41], .bytes [1]]] (by decide +kernel) (by decide) (by decide) hlen

/-- the same block with the small transaction only, fully evaluated: its encoding is these 80 bytes
(so the length bound holds) and both decoders return it -/
example (s : Schema) (hs : allSchemas.find "blockchain.Block" = some s) :
    let vals : List Value :=
      [.msg true C08exampleHeader, .msgArr [C08exampleTx2], .msgArr [[.bytes [0x41], .bytes [1]]]]
    encode allSchemas asciiNFC s vals =
      [10, 43, 8, 2, 16, 100, 24, 7, 34, 1, 1, 42, 1, 2, 50, 0, 58, 0, 66, 0, 74, 0, 80, 5, 88, 6, 96, 1,
       106, 1, 9, 114, 8, 8, 3, 18, 0, 26, 2, 1, 2, 122, 2, 7, 7, 18, 25, 10, 1, 97, 18, 1, 98, 24, 7, 32,
       99, 42, 3, 1, 2, 3, 50, 2, 255, 0, 58, 2, 9, 9, 58, 0, 26, 6, 10, 1, 65, 18, 1, 1] ∧
    decode allSchemas asciiNFC s (encode allSchemas asciiNFC s vals) = .ok vals ∧
    decodeStrict allSchemas asciiNFC s (encode allSchemas asciiNFC s vals) = .ok vals := by
  intro vals
  have henc : encode allSchemas asciiNFC s vals =
      [10, 43, 8, 2, 16, 100, 24, 7, 34, 1, 1, 42, 1, 2, 50, 0, 58, 0, 66, 0, 74, 0, 80, 5, 88, 6, 96, 1,
       106, 1, 9, 114, 8, 8, 3, 18, 0, 26, 2, 1, 2, 122, 2, 7, 7, 18, 25, 10, 1, 97, 18, 1, 98, 24, 7, 32,
       99, 42, 3, 1, 2, 3, 50, 2, 255, 0, 58, 2, 9, 9, 58, 0, 26, 6, 10, 1, 65, 18, 1, 1] := by
    cases C08_schema_eq C08_block_schema hs
    simp [vals, encode, find_eq_of_fields C08_blockHeader_schema,
      find_eq_of_fields C08_aggregateCommit_schema, find_eq_of_fields C08_transaction_schema,
      find_eq_of_fields C08_blockAsset_schema, C08blockFields, C08headerFields,
      C08acFields, C08txFields, C08assetFields, C08exampleHeader, C08exampleTx2, encodeFields, writeKey,
      writeBytes, putUvarint_lt, asciiNFC]
  exact ⟨henc, C08_block_roundtrip asciiNFC s hs C08exampleHeader [C08exampleTx2]
    [[.bytes [0x41], .bytes [1]]] (by decide +kernel) (by decide) (by decide)
    (by rw [show encode allSchemas asciiNFC s [.msg true C08exampleHeader, .msgArr [C08exampleTx2],
      .msgArr [[.bytes [0x41], .bytes [1]]]] = _ from henc]; decide)⟩

/-- a synthetic table with arrays of structs inside structs inside arrays (A ⊃ B ⊃ C, ranks 2, 1, 0) -/
def C08exTable : Table :=
  [ { name := "C", enc := [⟨1, .uint, false⟩, ⟨2, .uints, false⟩],
      dec := [⟨1, .uint, false⟩, ⟨2, .uints, false⟩],
      decStrict := [⟨1, .uint, true⟩, ⟨2, .uints, false⟩] },
    { name := "B", enc := [⟨1, .msgArr "C", false⟩, ⟨2, .string, false⟩],
      dec := [⟨1, .msgArr "C", false⟩, ⟨2, .string, false⟩],
      decStrict := [⟨1, .msgArr "C", false⟩, ⟨2, .string, true⟩] },
    { name := "A", enc := [⟨1, .msg "B", false⟩, ⟨3, .bytesArr, false⟩, ⟨4, .msgArr "B", false⟩],
      dec := [⟨1, .msg "B", false⟩, ⟨3, .bytesArr, false⟩, ⟨4, .msgArr "B", false⟩],
      decStrict := [⟨1, .msg "B", true⟩, ⟨3, .bytesArr, false⟩, ⟨4, .msgArr "B", false⟩] } ]

def C08exRank (n : String) : Nat := if n = "A" then 2 else if n = "B" then 1 else 0

def C08exSchemaA : Schema := (C08exTable.find "A").getD ⟨"", [], [], []⟩

/-- a value of `A` using every nested shape: a struct holding an array of structs (one with a packed
array, one all-default), an empty array of structs, an empty string, an empty `[]byte` element -/
def C08exVals : List Value :=
  [.msg true [.msgArr [[.uint 1, .uints [1, 30]], [.uint 0, .uints []]], .bytes [0x41]],
   .bytesArr [[], [1]],
   .msgArr [[.msgArr [], .bytes []], [.msgArr [[.uint 5, .uints [7]]], .bytes [0x42]]]]

/-- the hypotheses of `C08_roundtrip_nested` are satisfiable at depth 2 (table well-formed, value
well-typed, encoding of 38 bytes), and so the value round-trips through both decoders -/
example :
    C08DeepWF C08exTable C08exRank = true ∧ C08exSchemaA ∈ C08exTable ∧
    C08TypedDeep C08exTable asciiNFC 2 C08exSchemaA.enc C08exVals = true ∧
    encode C08exTable asciiNFC C08exSchemaA C08exVals =
      [10, 15, 10, 6, 8, 1, 18, 2, 1, 30, 10, 2, 8, 0, 18, 1, 65, 26, 0, 26, 1, 1, 34, 2, 18, 0, 34, 10,
       10, 5, 8, 5, 18, 1, 7, 18, 1, 66] ∧
    decode C08exTable asciiNFC C08exSchemaA (encode C08exTable asciiNFC C08exSchemaA C08exVals) =
      .ok C08exVals ∧
    decodeStrict C08exTable asciiNFC C08exSchemaA (encode C08exTable asciiNFC C08exSchemaA C08exVals) =
      .ok C08exVals := by
  have h1 : C08DeepWF C08exTable C08exRank = true := by decide
  have h2 : C08exSchemaA ∈ C08exTable := by simp [C08exSchemaA, C08exTable, Table.find]
  have h3 : C08TypedDeep C08exTable asciiNFC 2 C08exSchemaA.enc C08exVals = true := by
    simp [C08TypedDeep, C08exSchemaA, C08exTable, Table.find, C08exVals, typedWith, typedValDeep,
      typedVal, encPacked, putUvarint_lt, asciiNFC, utf8Valid]
  have h4 : encode C08exTable asciiNFC C08exSchemaA C08exVals =
      [10, 15, 10, 6, 8, 1, 18, 2, 1, 30, 10, 2, 8, 0, 18, 1, 65, 26, 0, 26, 1, 1, 34, 2, 18, 0, 34, 10,
       10, 5, 8, 5, 18, 1, 7, 18, 1, 66] := by
    simp [encode, C08exSchemaA, C08exTable, Table.find, C08exVals, encodeFields, writeKey, writeBytes,
      putUvarint_lt, asciiNFC]
  exact ⟨h1, h2, h3, h4,
    C08_roundtrip_nested C08exTable C08exRank asciiNFC h1 C08exSchemaA h2 2 C08exVals h3
      (by rw [h4]; decide)⟩

/-! ### the excluded value shapes are necessarily excluded -/

-- the test vectors below are evaluated by the kernel
attribute [local instance] decEqOk decEqError

/-- the all-default transaction that `ReadDecodable` creates for an absent field -/
def C08zeroTx : List Value :=
  [.bytes [], .bytes [], .uint 0, .uint 0, .bytes [], .bytes [], .bytesArr []]

/-- **A nil nested pointer does not round-trip.** `Encode` omits a nil `*Transaction`; the lenient
`Decode` then returns a NON-nil all-default transaction (absent and empty are identified, but the value
is not the one encoded), and `DecodeStrict` rejects the bytes altogether. -/
theorem C08_nil_pointer_not_roundtrip_counterexample (s : Schema)
    (hs : allSchemas.find "labi.VerifyTransactionRequest" = some s) :
    let vals : List Value := [.bytes [1], .msg false []]
    encode allSchemas asciiNFC s vals = [0x0a, 1, 1] ∧
    decode allSchemas asciiNFC s (encode allSchemas asciiNFC s vals) =
      .ok [.bytes [1], .msg true C08zeroTx] ∧
    decode allSchemas asciiNFC s (encode allSchemas asciiNFC s vals) ≠ .ok vals ∧
    decodeStrict allSchemas asciiNFC s (encode allSchemas asciiNFC s vals) =
      .error .fieldNumberNotFound := by
  intro vals
  cases C08_schema_eq C08_verifyTransactionRequest_schema hs
  simp [vals, encode, C08vtrFields, encodeFields_cons, encField, encodeFields_nil_left, writeKey,
    writeBytes, putUvarint_lt]
  decide +kernel

/-- **A string that is not valid UTF-8 does not round-trip**: the writer emits it, both readers
reject it (`ErrInvalidData` for invalid UTF-8). -/
theorem C08_invalid_utf8_not_roundtrip_counterexample (s : Schema)
    (hs : allSchemas.find "blockchain.BlockAsset" = some s) :
    let vals : List Value := [.bytes [0xff], .bytes []]
    encode allSchemas asciiNFC s vals = [0x0a, 1, 0xff, 0x12, 0] ∧
    decode allSchemas asciiNFC s (encode allSchemas asciiNFC s vals) = .error .utf8 ∧
    decodeStrict allSchemas asciiNFC s (encode allSchemas asciiNFC s vals) = .error .utf8 := by
  intro vals
  cases C08_schema_eq C08_blockAsset_schema hs
  simp [vals, encode, C08assetFields, encodeFields, writeKey, writeBytes, putUvarint_lt, asciiNFC]
  decide +kernel

/-- a toy normal form: the one-byte string "A" is not normal, its normal form is "B" -/
def C08toyNFC : NFC :=
  { normal := fun b => b != [0x41], normalize := fun b => if b = [0x41] then [0x42] else b }

/-- **A string that is not NFC-normalised does not round-trip byte for byte**: `WriteString`
normalises, so the decoded string is the normal form of the original ("strings compared in NFC form"). -/
theorem C08_non_nfc_not_roundtrip_counterexample (s : Schema)
    (hs : allSchemas.find "blockchain.BlockAsset" = some s) :
    let vals : List Value := [.bytes [0x41], .bytes []]
    encode allSchemas C08toyNFC s vals = [0x0a, 1, 0x42, 0x12, 0] ∧
    decode allSchemas C08toyNFC s (encode allSchemas C08toyNFC s vals) =
      .ok [.bytes (C08toyNFC.normalize [0x41]), .bytes []] ∧
    decode allSchemas C08toyNFC s (encode allSchemas C08toyNFC s vals) ≠ .ok vals := by
  intro vals
  cases C08_schema_eq C08_blockAsset_schema hs
  simp [vals, encode, C08assetFields, encodeFields, writeKey, writeBytes, putUvarint_lt, C08toyNFC]
  decide +kernel

/-- … and that is all that happens: by `C08_roundtrip_nested_nfc` the decoded asset is the NFC form of
the encoded one (non-vacuity of that theorem, with the toy normal form) -/
example (s : Schema) (hs : allSchemas.find "blockchain.BlockAsset" = some s) :
    decodeStrict allSchemas C08toyNFC s (encode allSchemas C08toyNFC s [.bytes [0x41], .bytes [5]]) =
      .ok [.bytes [0x42], .bytes [5]] := by
  have hidem : ∀ b, C08toyNFC.normalize (C08toyNFC.normalize b) = C08toyNFC.normalize b := by
    intro b
    by_cases h : b = [0x41] <;> simp [C08toyNFC, h]
  have hm := find_mem hs
  cases C08_schema_eq C08_blockAsset_schema hs
  exact (C08_roundtrip_nested_nfc allSchemas C09rank C08toyNFC C08_allSchemas_deepWF hidem _ hm 0
    [.bytes [0x41], .bytes [5]] (by decide)
    (by simp [encode, C08assetFields, encodeFields, writeKey, writeBytes, putUvarint_lt, C08toyNFC])).2

/-- **An integer outside its Go type does not round-trip**: 2^32 in a `uint32` field is written as a
5-byte varint and read back as 0 (`uint32(val)` truncates). -/
theorem C08_uint32_range_not_roundtrip_counterexample (s : Schema)
    (hs : allSchemas.find "blockchain.AggregateCommit" = some s) :
    let vals : List Value := [.uint (2 ^ 32), .bytes [], .bytes []]
    encode allSchemas asciiNFC s vals = [0x08, 0x80, 0x80, 0x80, 0x80, 0x10, 0x12, 0x00, 0x1a, 0x00] ∧
    decode allSchemas asciiNFC s (encode allSchemas asciiNFC s vals) =
      .ok [.uint 0, .bytes [], .bytes []] := by
  intro vals
  cases C08_schema_eq C08_aggregateCommit_schema hs
  simp [vals, encode, C08acFields, encodeFields, writeKey, writeBytes, putUvarint_lt, putUvarint_ge]
  decide +kernel

/-! ### strict decoding of structs with nested structs is NOT canonical

`ReadDecodable` / `ReadDecodables` (pkg/codec/reader.go) decode a nested struct with the LENIENT
`DecodeFromReader` even when called from `DecodeStrictFromReader`, and afterwards continue at the
index where the nested decode stopped (`r.index = decodableReader.index`) without comparing it with
the declared size. So for a struct with a nested struct, `DecodeStrict` accepts byte strings that
`Encode` never produces: nested fields may be missing, and bytes inside the declared nested size may
be left unread by the nested struct and then be read as fields of the parent. -/

/-- two different accepted byte strings with the same decoded value refute canonicity -/
theorem C08_two_accepted_not_canonical (t : Table) (nfc : NFC) (s : Schema) (b₁ b₂ : Bytes)
    (vals : List Value) (h₁ : decodeStrict t nfc s b₁ = .ok vals)
    (h₂ : decodeStrict t nfc s b₂ = .ok vals) (hne : b₁ ≠ b₂) :
    ∃ b v, decodeStrict t nfc s b = .ok v ∧ encode t nfc s v ≠ b := by
  by_cases h : encode t nfc s vals = b₁
  · exact ⟨b₂, vals, h₂, by rw [h]; exact hne⟩
  · exact ⟨b₁, vals, h₁, h⟩

/-- **Nested structs break canonicity even when every reachable field has a canonical kind.**
`labi.VerifyTransactionRequest` = (contextID: bytes, transaction: *Transaction), and every field of
Transaction is of a kind for which flat strict decoding is canonical. Still `DecodeStrict` accepts
`0a 00 12 00` — an EMPTY transaction body, all of whose fields are missing — and returns the request
with the all-default transaction. That value encodes to 16 bytes (12 of them the transaction), which
`DecodeStrict` reads back to the same value. -/
theorem C08_strict_nested_noncanonical_counterexample (s : Schema)
    (hs : allSchemas.find "labi.VerifyTransactionRequest" = some s) :
    let b : Bytes := [0x0a, 0x00, 0x12, 0x00]
    let vals : List Value := [.bytes [], .msg true C08zeroTx]
    decodeStrict allSchemas asciiNFC s b = .ok vals ∧
    encode allSchemas asciiNFC s vals = [10, 0, 18, 12, 10, 0, 18, 0, 24, 0, 32, 0, 42, 0, 50, 0] ∧
    encode allSchemas asciiNFC s vals ≠ b ∧
    decodeStrict allSchemas asciiNFC s (encode allSchemas asciiNFC s vals) = .ok vals := by
  intro b vals
  cases C08_schema_eq C08_verifyTransactionRequest_schema hs
  simp [vals, encode, find_eq_of_fields C08_transaction_schema, C08vtrFields, C08txFields, C08zeroTx,
    encodeFields, writeKey, writeBytes, putUvarint_lt, asciiNFC]
  decide +kernel

/-- the all-default block header (with an all-default, non-nil AggregateCommit) -/
def C08zeroHeader : List Value :=
  [.uint 0, .uint 0, .uint 0, .bytes [], .bytes [], .bytes [], .bytes [], .bytes [], .bytes [],
   .uint 0, .uint 0, .bool false, .bytes [], .msg true [.uint 0, .bytes [], .bytes []], .bytes []]

/-- **`Block.DecodeStrict` is not canonical**: it accepts the two bytes `0a 00` (a header of declared
size 0, every header field missing) and returns a block whose encoding has 38 bytes. (`NewBlock` does
not use it: it decodes the flat `RawBlock` strictly, see `C08_rawBlock_strict_canonical`.) -/
theorem C08_block_strict_noncanonical_counterexample (s : Schema)
    (hs : allSchemas.find "blockchain.Block" = some s) :
    let b : Bytes := [0x0a, 0x00]
    let vals : List Value := [.msg true C08zeroHeader, .msgArr [], .msgArr []]
    decodeStrict allSchemas asciiNFC s b = .ok vals ∧
    encode allSchemas asciiNFC s vals =
      [10, 36, 8, 0, 16, 0, 24, 0, 34, 0, 42, 0, 50, 0, 58, 0, 66, 0, 74, 0, 80, 0, 88, 0, 96, 0, 106, 0,
       114, 6, 8, 0, 18, 0, 26, 0, 122, 0] ∧
    encode allSchemas asciiNFC s vals ≠ b ∧
    decodeStrict allSchemas asciiNFC s (encode allSchemas asciiNFC s vals) = .ok vals := by
  intro b vals
  cases C08_schema_eq C08_block_schema hs
  simp [vals, encode, find_eq_of_fields C08_blockHeader_schema,
    find_eq_of_fields C08_aggregateCommit_schema, find_eq_of_fields C08_transaction_schema,
    find_eq_of_fields C08_blockAsset_schema, C08blockFields, C08headerFields, C08acFields,
    C08zeroHeader, encodeFields, writeKey, writeBytes, putUvarint_lt]
  decide +kernel

/-- **A network-facing instance**: `singleCommitValidator` (pkg/consensus/certificate.go) applies
`EventPostSingleCommits.DecodeStrict` to gossip data. It accepts `0a 00` — one single commit with
every field missing — although `SingleCommit.DecodeStrict` itself would reject the empty string. -/
theorem C08_postSingleCommits_strict_noncanonical_counterexample (s sc : Schema)
    (hs : allSchemas.find "consensus.EventPostSingleCommits" = some s)
    (hsc : allSchemas.find "certificate.SingleCommit" = some sc) :
    let b : Bytes := [0x0a, 0x00]
    let vals : List Value := [.msgArr [[.bytes [], .uint 0, .bytes [], .bytes []]]]
    decodeStrict allSchemas asciiNFC s b = .ok vals ∧
    encode allSchemas asciiNFC s vals = [10, 8, 10, 0, 16, 0, 26, 0, 34, 0] ∧
    encode allSchemas asciiNFC s vals ≠ b ∧
    decodeStrict allSchemas asciiNFC s (encode allSchemas asciiNFC s vals) = .ok vals ∧
    decodeStrict allSchemas asciiNFC sc [] = .error .fieldNumberNotFound := by
  intro b vals
  cases C08_schema_eq C08_postSingleCommits_schema hs
  cases C08_schema_eq C08_singleCommit_schema hsc
  simp [vals, encode, hsc, C08postCommitsFields, C08singleCommitFields, encodeFields, writeKey,
    writeBytes, putUvarint_lt]
  decide +kernel

/-- **The declared size of a nested struct is not enforced.** In `0a 00 12 00 1a 00 22 00 2a 02 32 00
3a 00` field 5 (kdfparams) declares a body of 2 bytes, `32 00`. KDFParams has no field 6, so its
lenient decode reads nothing and stops at the START of its body; the parent then continues there and
reads the same two bytes `32 00` as ITS field 6 (cipher = ""). `DecodeStrict` accepts, with all of
kdfparams default; the canonical encoding of the result is 26 bytes, not these 14. -/
theorem C08_nested_size_unchecked_counterexample (s : Schema)
    (hs : allSchemas.find "crypto.EncryptedMessage" = some s) :
    let b : Bytes := [0x0a, 0, 0x12, 0, 0x1a, 0, 0x22, 0, 0x2a, 2, 0x32, 0, 0x3a, 0]
    let vals : List Value :=
      [.bytes [], .bytes [], .bytes [], .bytes [], .msg true [.uint 0, .uint 0, .uint 0, .bytes []],
       .bytes [], .msg true [.bytes [], .bytes []]]
    decodeStrict allSchemas asciiNFC s b = .ok vals ∧
    encode allSchemas asciiNFC s vals =
      [10, 0, 18, 0, 26, 0, 34, 0, 42, 8, 8, 0, 16, 0, 24, 0, 34, 0, 50, 0, 58, 4, 10, 0, 18, 0] ∧
    encode allSchemas asciiNFC s vals ≠ b ∧
    decodeStrict allSchemas asciiNFC s (encode allSchemas asciiNFC s vals) = .ok vals := by
  intro b vals
  cases C08_schema_eq C08_encryptedMessage_schema hs
  simp [vals, encode, find_eq_of_fields C08_kdfParams_schema, find_eq_of_fields C08_cipherParams_schema,
    C08encMsgFields, C08kdfFields, C08cipherFields, encodeFields, writeKey, writeBytes, putUvarint_lt,
    asciiNFC]
  decide +kernel

/-! ### what IS canonical: the flat envelopes that `NewBlock` decodes strictly -/

private theorem C08rawBlock_flat {s : Schema} (hs : allSchemas.find "blockchain.RawBlock" = some s) :
    C08Flat s = true ∧ s.enc.all (fun f => C08CanonKind f.kind) = true := by
  cases C08_schema_eq C08_rawBlock_schema hs
  decide

theorem C08asset_flat {s : Schema} (hs : allSchemas.find "blockchain.BlockAsset" = some s) :
    C08Flat s = true ∧ s.enc.all (fun f => C08CanonKind f.kind) = true ∧ C08NoUints s = true := by
  cases C08_schema_eq C08_blockAsset_schema hs
  decide

/-- **`RawBlock.DecodeStrict` (the first step of `NewBlock`) is canonical**: the only byte string it
accepts for a raw block is the `Encode` of the (header bytes, transaction bytes, asset bytes) it
returns — so a block received from the network is split unambiguously. (RawBlock has no string
field; the NFC law is only there because the flat theorem asks for it.) -/
theorem C08_rawBlock_strict_canonical (s : Schema) (hs : allSchemas.find "blockchain.RawBlock" = some s)
    (nfc : NFC) (hlaw : ∀ x, nfc.normal x = true → nfc.normalize x = x) (b : Bytes)
    (vals : List Value) (h : decodeStrict allSchemas nfc s b = .ok vals) :
    encode allSchemas nfc s vals = b :=
  C08_strict_canonical_flat allSchemas nfc s b vals (C08rawBlock_flat hs).1 (C08rawBlock_flat hs).2
    hlaw h

/-- **`BlockAsset.DecodeStrict` (used by `NewBlockAsset`) is canonical.** -/
theorem C08_blockAsset_strict_canonical (s : Schema)
    (hs : allSchemas.find "blockchain.BlockAsset" = some s) (nfc : NFC)
    (hlaw : ∀ x, nfc.normal x = true → nfc.normalize x = x) (b : Bytes) (vals : List Value)
    (h : decodeStrict allSchemas nfc s b = .ok vals) : encode allSchemas nfc s vals = b :=
  C08_strict_canonical_flat allSchemas nfc s b vals (C08asset_flat hs).1 (C08asset_flat hs).2.1 hlaw h

/-- non-vacuity of the two canonical theorems: the strict decoders accept something -/
example (s sa : Schema) (hs : allSchemas.find "blockchain.RawBlock" = some s)
    (hsa : allSchemas.find "blockchain.BlockAsset" = some sa) :
    decodeStrict allSchemas asciiNFC s [0x0a, 2, 7, 7, 0x12, 1, 9, 0x12, 0] =
      .ok [.bytes [7, 7], .bytesArr [[9], []], .bytesArr []] ∧
    decodeStrict allSchemas asciiNFC sa [0x0a, 1, 0x41, 0x12, 0] = .ok [.bytes [0x41], .bytes []] := by
  cases C08_schema_eq C08_rawBlock_schema hs
  cases C08_schema_eq C08_blockAsset_schema hsa
  decide +kernel

/-! ### the exact exception classes of strict canonicity -/

/-- flat with canonical kinds only: `C08_strict_canonical_flat` applies -/
def C08CanonFlat (s : Schema) : Bool := C08Flat s && s.enc.all (fun f => C08CanonKind f.kind)

/-- has a field whose read truncates (`uint32`, `int32`) or a packed array (`uints`), for which a
strictly accepted byte string need not be the canonical one
(`C08_uint32_noncanonical_counterexample`, `C08_uints_noncanonical_counterexample`) -/
def C08HasTruncOrPacked (s : Schema) : Bool :=
  s.enc.any fun f => f.kind == .uint32 || f.kind == .int32 || f.kind == .uints

/-- has a nested struct or an array of structs, which are decoded leniently and without enforcing
the declared size (`C08_strict_nested_noncanonical_counterexample`,
`C08_nested_size_unchecked_counterexample`) -/
def C08HasNested (s : Schema) : Bool :=
  s.enc.any fun f => match f.kind with | .msg _ => true | .msgArr _ => true | _ => false

def C08classOf (name : String) : Option (Bool × Bool × Bool) :=
  (allSchemas.find name).map fun s => (C08CanonFlat s, C08HasTruncOrPacked s, C08HasNested s)

/-- **Classification of all generated structs** with respect to canonical strict decoding: every
struct is either flat with canonical kinds only (then `DecodeStrict` accepts exactly the canonical
encoding), or it has a truncating / packed field, or it has a nested struct — and never both the first
and one of the others. Transaction, BlockAsset and RawBlock (everything `NewBlock` /
`NewTransaction` / `NewBlockAsset` decode strictly) are canonical; BlockHeader (decoded leniently by
`NewBlockHeader`) has uint32 fields and a nested AggregateCommit; Block has nested structs;
SingleCommit has a uint32 field and EventPostSingleCommits a nested array. -/
theorem C08_strict_canonical_classification :
    allSchemas.all (fun s => C08CanonFlat s || C08HasTruncOrPacked s || C08HasNested s) = true ∧
    allSchemas.all (fun s => !(C08CanonFlat s && (C08HasTruncOrPacked s || C08HasNested s))) = true ∧
    41 ≤ (allSchemas.filter C08CanonFlat).length ∧
    C08classOf "blockchain.Transaction" = some (true, false, false) ∧
    C08classOf "blockchain.BlockAsset" = some (true, false, false) ∧
    C08classOf "blockchain.RawBlock" = some (true, false, false) ∧
    C08classOf "blockchain.BlockHeader" = some (false, true, true) ∧
    C08classOf "blockchain.AggregateCommit" = some (false, true, false) ∧
    C08classOf "blockchain.Block" = some (false, false, true) ∧
    C08classOf "certificate.SingleCommit" = some (false, true, false) ∧
    C08classOf "consensus.EventPostSingleCommits" = some (false, false, true) := by
  decide +kernel

/-! ### stable IDs for EVERY accepted input: decoded values are well-typed

The round trip above starts from a value the node encodes. Here we start from an arbitrary byte
string that a decoder accepts (a header or block received from a peer or loaded from the database):
the decoded value is well-typed, so re-encoding it and decoding again returns the same value, and the
ID computed from the re-encoding (`NewBlockHeader`, `Init`) does not change on store / load. The one
obstruction is a nil pointer inside an all-default struct, excluded by `C08NilFree`. -/

/-- `norm.NFC` as far as the model needs it: normal strings are fixed by normalisation, and the
empty string is normal -/
def C08NFCLaw (nfc : NFC) : Prop := NFCLaw nfc

theorem C08NFCLaw_eq : C08NFCLaw = NFCLaw := rfl

theorem C08_asciiNFC_law : C08NFCLaw asciiNFC := asciiNFC_law

/-- No decode of the field list `fs` (followed through the table to depth `d`) can return a nil
pointer: every `.msg n` field is strict — it cannot be absent — or the all-default struct `n` that
`ReadDecodable` creates for an absent field contains no nested struct pointer; and the same holds for
the (always lenient) field lists of all nested structs. Depth 0: flat kinds only. -/
def C08NilFree (t : Table) (d : Nat) (fs : List Field) : Bool := nilFree t d fs

theorem C08NilFree_eq : C08NilFree = nilFree := rfl

/-- **Every value returned by `Decode` / `DecodeStrict` is well-typed**, for any byte string shorter
than 2^63, any struct of a well-formed table whose field list is `C08NilFree`. -/
theorem C08_decoded_values_typed (t : Table) (rank : String → Nat) (nfc : NFC)
    (hwf : C08DeepWF t rank = true) (hlaw : C08NFCLaw nfc) (s : Schema) (hs : s ∈ t) (d : Nat)
    (b : Bytes) (hb : b.length < 2 ^ 63) (vals : List Value) :
    (C08NilFree t d s.dec = true → decode t nfc s b = .ok vals →
      C08TypedDeep t nfc d s.enc vals = true) ∧
    (C08NilFree t d s.decStrict = true → decodeStrict t nfc s b = .ok vals →
      C08TypedDeep t nfc d s.enc vals = true) :=
  ⟨fun hnf h => (reencode_stable t rank nfc (C08DeepWF_eq ▸ hwf) (C08NFCLaw_eq ▸ hlaw) s hs d false
      (C08NilFree_eq ▸ hnf) b hb vals h).1,
   fun hnf h => (reencode_stable t rank nfc (C08DeepWF_eq ▸ hwf) (C08NFCLaw_eq ▸ hlaw) s hs d true
      (C08NilFree_eq ▸ hnf) b hb vals h).1⟩

/-- **IDs are unchanged by store / load / re-encode, for every accepted input.** If `Decode` accepts
`b` and returns `vals`, then `Decode` and `DecodeStrict` of `Encode vals` return `vals` again; hence
`Encode` of the reloaded value equals `Encode vals` and so does any hash of it. -/
theorem C08_decode_reencode_stable (t : Table) (rank : String → Nat) (nfc : NFC)
    (hwf : C08DeepWF t rank = true) (hlaw : C08NFCLaw nfc) (s : Schema) (hs : s ∈ t) (d : Nat)
    (hnf : C08NilFree t d s.dec = true) (b : Bytes) (hb : b.length < 2 ^ 63) (vals : List Value)
    (h : decode t nfc s b = .ok vals) (hlen : (encode t nfc s vals).length < 2 ^ 63) :
    decode t nfc s (encode t nfc s vals) = .ok vals ∧
    decodeStrict t nfc s (encode t nfc s vals) = .ok vals :=
  (reencode_stable t rank nfc (C08DeepWF_eq ▸ hwf) (C08NFCLaw_eq ▸ hlaw) s hs d false
      (C08NilFree_eq ▸ hnf) b hb vals h).2 hlen

/-- the same when the input was accepted by `DecodeStrict` -/
theorem C08_decodeStrict_reencode_stable (t : Table) (rank : String → Nat) (nfc : NFC)
    (hwf : C08DeepWF t rank = true) (hlaw : C08NFCLaw nfc) (s : Schema) (hs : s ∈ t) (d : Nat)
    (hnf : C08NilFree t d s.decStrict = true) (b : Bytes) (hb : b.length < 2 ^ 63)
    (vals : List Value) (h : decodeStrict t nfc s b = .ok vals)
    (hlen : (encode t nfc s vals).length < 2 ^ 63) :
    decode t nfc s (encode t nfc s vals) = .ok vals ∧
    decodeStrict t nfc s (encode t nfc s vals) = .ok vals :=
  (reencode_stable t rank nfc (C08DeepWF_eq ▸ hwf) (C08NFCLaw_eq ▸ hlaw) s hs d true
      (C08NilFree_eq ▸ hnf) b hb vals h).2 hlen

/-- **Coverage**: of the 95 generated structs at least 85 are `C08NilFree` for `Decode` and at least
90 for `DecodeStrict` (all except those that can hold a leniently decoded block, whose header may be
absent); among them BlockHeader, Transaction, BlockAsset, RawBlock, AggregateCommit for both, and
Block for `DecodeStrict`. -/
theorem C08_nilFree_coverage :
    85 ≤ (allSchemas.filter fun s => C08NilFree allSchemas 4 s.dec).length ∧
    90 ≤ (allSchemas.filter fun s => C08NilFree allSchemas 4 s.decStrict).length ∧
    (∀ n ∈ ["blockchain.BlockHeader", "blockchain.Transaction", "blockchain.BlockAsset",
        "blockchain.RawBlock", "blockchain.AggregateCommit", "certificate.SingleCommit",
        "consensus.EventPostSingleCommits"],
      (allSchemas.find n).any (fun s =>
        C08NilFree allSchemas 4 s.dec && C08NilFree allSchemas 4 s.decStrict) = true) ∧
    (allSchemas.find "blockchain.Block").any (fun s =>
      C08NilFree allSchemas 4 s.decStrict && !C08NilFree allSchemas 4 s.dec) = true := by
  decide +kernel

/-- **Block header IDs are stable for every accepted header.** `NewBlockHeader` decodes the received
bytes leniently and sets `ID = hash(Encode(header))`. Whatever bytes were accepted, the header that
comes back from storing `Encode(header)` and loading it again (leniently or strictly) is the same, so
its ID — for any hash function — is the same. (The received bytes themselves need not be canonical:
the ID is a function of the decoded header, not of the wire bytes.) -/
theorem C08_blockHeader_id_stable (nfc : NFC) (hlaw : C08NFCLaw nfc) (s : Schema)
    (hs : allSchemas.find "blockchain.BlockHeader" = some s) (b : Bytes) (hb : b.length < 2 ^ 63)
    (header : List Value) (h : decode allSchemas nfc s b = .ok header)
    (hlen : (encode allSchemas nfc s header).length < 2 ^ 63) {ID : Type} (hash : Bytes → ID) :
    decode allSchemas nfc s (encode allSchemas nfc s header) = .ok header ∧
    decodeStrict allSchemas nfc s (encode allSchemas nfc s header) = .ok header ∧
    ∀ header', decode allSchemas nfc s (encode allSchemas nfc s header) = .ok header' →
      hash (encode allSchemas nfc s header') = hash (encode allSchemas nfc s header) := by
  cases C08_schema_eq C08_blockHeader_schema hs
  obtain ⟨h1, h2⟩ := C08_decode_reencode_stable allSchemas C09rank nfc C08_allSchemas_deepWF hlaw _
    (find_mem hs) 1 (by decide +kernel) b hb header h hlen
  refine ⟨h1, h2, ?_⟩
  intro header' h'
  rw [h1] at h'
  injection h' with h'
  rw [h']

/-- **Transaction IDs**: `NewTransaction` decodes strictly and sets `ID = hash(Encode(tx))`. The
accepted bytes ARE `Encode(tx)` (`C08_transaction_strict_canonical`), so the ID is the hash of exactly
the accepted bytes, and storing / loading the transaction returns the same transaction. -/
theorem C08_transaction_id_stable (s : Schema) (hs : allSchemas.find "blockchain.Transaction" = some s)
    (b : Bytes) (hb : b.length < 2 ^ 63) (tx : List Value)
    (h : decodeStrict allSchemas asciiNFC s b = .ok tx) {ID : Type} (hash : Bytes → ID) :
    hash (encode allSchemas asciiNFC s tx) = hash b ∧
    decode allSchemas asciiNFC s (encode allSchemas asciiNFC s tx) = .ok tx ∧
    decodeStrict allSchemas asciiNFC s (encode allSchemas asciiNFC s tx) = .ok tx := by
  have hcan := C08_transaction_strict_canonical s hs b tx h
  cases C08_schema_eq C08_transaction_schema hs
  obtain ⟨h1, h2⟩ := C08_decodeStrict_reencode_stable allSchemas C09rank asciiNFC
    C08_allSchemas_deepWF C08_asciiNFC_law _ (find_mem hs) 0 (by decide) b hb tx h
    (by rw [hcan]; exact hb)
  exact ⟨by rw [hcan], h1, h2⟩

/-- **Blocks accepted by `Block.DecodeStrict`** (header present, since field 1 is strict) are
well-typed and re-encode stably, although the accepted bytes need not be canonical
(`C08_block_strict_noncanonical_counterexample`). -/
theorem C08_block_strict_reencode_stable (nfc : NFC) (hlaw : C08NFCLaw nfc) (s : Schema)
    (hs : allSchemas.find "blockchain.Block" = some s) (b : Bytes) (hb : b.length < 2 ^ 63)
    (vals : List Value) (h : decodeStrict allSchemas nfc s b = .ok vals)
    (hlen : (encode allSchemas nfc s vals).length < 2 ^ 63) :
    C08TypedDeep allSchemas nfc 2 s.enc vals = true ∧
    decode allSchemas nfc s (encode allSchemas nfc s vals) = .ok vals ∧
    decodeStrict allSchemas nfc s (encode allSchemas nfc s vals) = .ok vals := by
  cases C08_schema_eq C08_block_schema hs
  have hnf : C08NilFree allSchemas 2 (C08blockFields true) = true := by decide +kernel
  exact ⟨(C08_decoded_values_typed allSchemas C09rank nfc C08_allSchemas_deepWF hlaw _
      (find_mem hs) 2 b hb vals).2 hnf h,
    C08_decodeStrict_reencode_stable allSchemas C09rank nfc C08_allSchemas_deepWF hlaw _
      (find_mem hs) 2 hnf b hb vals h hlen⟩

/-- the all-default header that `creator()` returns for an absent header field: its AggregateCommit
pointer is nil -/
def C08nilHeader : List Value :=
  [.uint 0, .uint 0, .uint 0, .bytes [], .bytes [], .bytes [], .bytes [], .bytes [], .bytes [],
   .uint 0, .uint 0, .bool false, .bytes [], .msg false [], .bytes []]

/-- **`C08NilFree` is necessary: a leniently decoded block without header changes its ID on
store / load.** `Block.Decode` of the empty string returns a block whose header is the zero struct
with a NIL AggregateCommit; its encoding `e₁` (30 bytes) omits field 14; decoding `e₁` returns a
header with a NON-nil all-default AggregateCommit, whose encoding `e₂` (38 bytes) differs — so
`hash(Encode(block))` is not preserved by one store / load cycle. (Confirmed on the Go code:
`Block.Decode([]byte{})`, `Encode`, `Decode`, `Encode` gives `0a1c…7a00` then `0a24…7206080012001a007a00`.) -/
theorem C08_block_lenient_nil_header_counterexample (s : Schema)
    (hs : allSchemas.find "blockchain.Block" = some s) :
    let v₁ : List Value := [.msg true C08nilHeader, .msgArr [], .msgArr []]
    let v₂ : List Value := [.msg true C08zeroHeader, .msgArr [], .msgArr []]
    let e₁ : Bytes := [10, 28, 8, 0, 16, 0, 24, 0, 34, 0, 42, 0, 50, 0, 58, 0, 66, 0, 74, 0, 80, 0, 88, 0,
      96, 0, 106, 0, 122, 0]
    let e₂ : Bytes := [10, 36, 8, 0, 16, 0, 24, 0, 34, 0, 42, 0, 50, 0, 58, 0, 66, 0, 74, 0, 80, 0, 88, 0,
      96, 0, 106, 0, 114, 6, 8, 0, 18, 0, 26, 0, 122, 0]
    decode allSchemas asciiNFC s [] = .ok v₁ ∧ encode allSchemas asciiNFC s v₁ = e₁ ∧
    decode allSchemas asciiNFC s e₁ = .ok v₂ ∧ encode allSchemas asciiNFC s v₂ = e₂ ∧ e₁ ≠ e₂ := by
  intro v₁ v₂ e₁ e₂
  cases C08_schema_eq C08_block_schema hs
  simp [v₁, v₂, e₁, e₂, encode, find_eq_of_fields C08_blockHeader_schema,
    find_eq_of_fields C08_aggregateCommit_schema, find_eq_of_fields C08_transaction_schema,
    find_eq_of_fields C08_blockAsset_schema, C08blockFields, C08headerFields, C08acFields,
    C08nilHeader, C08zeroHeader, encodeFields, writeKey, writeBytes, putUvarint_lt]
  decide +kernel

/-- non-vacuity of `C08_blockHeader_id_stable`: `NewBlockHeader` accepts the empty string (every
field absent) — the hypotheses hold with `b = []` and the all-default header -/
example (s : Schema) (hs : allSchemas.find "blockchain.BlockHeader" = some s) :
    decode allSchemas asciiNFC s [] = .ok C08zeroHeader ∧
    encode allSchemas asciiNFC s C08zeroHeader =
      [8, 0, 16, 0, 24, 0, 34, 0, 42, 0, 50, 0, 58, 0, 66, 0, 74, 0, 80, 0, 88, 0, 96, 0, 106, 0, 114, 6,
       8, 0, 18, 0, 26, 0, 122, 0] := by
  cases C08_schema_eq C08_blockHeader_schema hs
  simp [encode, find_eq_of_fields C08_aggregateCommit_schema, C08headerFields, C08acFields,
    C08zeroHeader, encodeFields, writeKey, writeBytes, putUvarint_lt]
  decide +kernel
