/-
C15 — the generator keeps nothing in memory across ticks that a change of the chain underneath it invalidates
(tie A for pkg/generator + the reason).

`Generator.forge` runs every second on a long-lived object, while `Executer` deletes and applies blocks underneath it
(chain switch, tie-break replacement of the tip, sync).  The clause "every block the generator produces is accepted by
the same node at that moment ... across restarts and chain switches" holds for the BEHAVIOUR of the generator only if
a forge step is a function of (block store, clock, enabled keys): a struct field that remembers something derived
from the chain (the generator list of height tip+1 keyed by the height - seeded C15-17 -, the tip, a slot owner, the
last generated height) survives `deleteBlock`, which reverts the database and cannot revert a field.

Part 1 (semantics, all machines and histories): instantiation of `C05_no_hidden_state_confluent`
(Props/C05_NoCache.lean).  The memory `H` of the machine includes the generator's fields; a forge tick is a step that
changes at most the memory (`Hist.candidate`, or a `Hist.block` that is not applied).  If what forge does is not a
function of the memory, then after ANY history of blocks, ticks, deleted tips and restarts it does exactly what a
fresh generator does on a fresh node that was given only the surviving chain.  A toy generator with a height-keyed
memo of the slot owner — the store is restored exactly by every deletion, block validation reads the store — signs a
block for a foreign slot that the same node rejects and skips its own slot after a chain switch that keeps the height;
after a restart it is right again.

Part 2 (tie A): tools/compgen (generator.go) regenerates the tables `gen*` of `Gen/CompState.lean` from pkg/generator
on every check run: the fields of `Generator` with a syntactic kind, its methods, every write to one of its fields with
the function that performs it, constructor initialisers, package-level variables and their writers.  The theorems state
the exact tables: a new field (a memo), a new writer of a field (forge or a helper it calls storing into the receiver),
a package-level memo breaks a named theorem.
Out of scope of the tables (as for C05): writes through an alias of a field, through a method called on the value of a
field, inside a function a field is passed to.  The harness family C15SWITCH (harness/c15/switch.go) observes the
behaviour itself on the real forge.
-/
import LiskVerif.Props.C05_NoCache

/-! ## Part 1: why forge must not remember -/

open LiskVerif.NoHidden in
/-- **forge is history independent if it reads (store, clock, keys) only.**  `m` is the node together with the
generator object (its memory `H` holds the fields of both; ticks are memory-only steps of the history), `forge p h t`
is what a forge tick with clock and enabled keys `t` hands on.  If the persistent effect of the node's steps and the
result of forge are not functions of the memory and deletion restores the store, then after ANY history the generator
does what a fresh generator does on a fresh node that was given only the surviving chain. -/
theorem C15_forge_function_of_store_clock_keys {P H B T O : Type} (m : Machine P H B) (Inv : P → Prop)
    (hro : ReadsPersistedOnly m) (hdi : DeleteInverts m Inv) (p0 : P) (hI : Inv p0)
    (forge : P → H → T → O) (hf : ∀ p h h' t, forge p h t = forge p h' t) (hs : List (Hist B)) (t : T) :
    forge (hrun m (hinit m p0) hs).p (hrun m (hinit m p0) hs).h t =
      forge (fresh m p0 (hrun m (hinit m p0) hs).kept).1 m.h0 t := by
  rw [(C05_no_hidden_state_confluent m Inv hro hdi p0 hI hs).2.1]
  exact hf _ _ _ t

open LiskVerif.NoHidden in
/-- two generators whose nodes ended on the same chain do the same in the same slot, whatever each of them saw -/
theorem C15_same_chain_same_forge {P H B T O : Type} (m : Machine P H B) (Inv : P → Prop)
    (hro : ReadsPersistedOnly m) (hdi : DeleteInverts m Inv) (p0 : P) (hI : Inv p0)
    (forge : P → H → T → O) (hf : ∀ p h h' t, forge p h t = forge p h' t) (hs₁ hs₂ : List (Hist B)) (t : T)
    (h : (hrun m (hinit m p0) hs₁).kept = (hrun m (hinit m p0) hs₂).kept) :
    forge (hrun m (hinit m p0) hs₁).p (hrun m (hinit m p0) hs₁).h t =
      forge (hrun m (hinit m p0) hs₂).p (hrun m (hinit m p0) hs₂).h t := by
  rw [C15_forge_function_of_store_clock_keys m Inv hro hdi p0 hI forge hf hs₁ t,
    C15_forge_function_of_store_clock_keys m Inv hro hdi p0 hI forge hf hs₂ t, h]

namespace LiskVerif.GenNoCache.Toy

open LiskVerif.NoHidden LiskVerif.NoHidden.Toy

/-- steps offered to the node + generator: `some (gen, next)` = a block by `gen` that hands the next slot to `next`
(validated against the STORE, as consensus/verify.go does); `none` = a forge tick (never a block of the chain) -/
abbrev Step := Option (Nat × Nat)

/-- slot owner the generator acts for: the memo if it is for this height, else the store -/
def memoOwner (p : List Nat) (h : Option (Nat × Nat)) : Nat :=
  match h with
  | some (ht, o) => if ht = p.length then o else paramInForce p
  | none => paramInForce p

/-- the generator with the memo of C15-17: the slot owner of height tip+1 is read once per HEIGHT.  Blocks are
validated against the store; a tick refreshes the memo only if it is for another height. -/
def memoGen : Machine (List Nat) (Option (Nat × Nat)) Step where
  apply p h s :=
    match s with
    | some b => (if paramInForce p = b.1 then some (b.2 :: p) else none, h)
    | none => (none, some (p.length, memoOwner p h))
  delete p h := (p.tail, h)
  h0 := none

/-- the generator as it is: nothing is kept -/
def honestGen : Machine (List Nat) Unit Step where
  apply p _ s :=
    match s with
    | some b => (if paramInForce p = b.1 then some (b.2 :: p) else none, ())
    | none => (none, ())
  delete p _ := (p.tail, ())
  h0 := ()

/-- forge with the enabled key `k`: a block by `k` iff `k` is the slot owner the generator believes in -/
def memoForge (p : List Nat) (h : Option (Nat × Nat)) (k : Nat) : Option (Nat × Nat) :=
  if memoOwner p h = k then some (k, k) else none

def honestForge (p : List Nat) (_ : Unit) (k : Nat) : Option (Nat × Nat) :=
  if paramInForce p = k then some (k, k) else none

/-- branch A: block 1 by generator 1 hands over to 3; a forge tick at height 2; the tip is replaced by block 1 of
branch B, which hands over to 2 — the height is the same -/
def switchSameHeight : List (Hist Step) := [.block (some (1, 3)), .block none, .delete, .block (some (1, 2))]

/-- sync-like: two blocks of branch A with a tick on top of the first, both deleted, two blocks of branch B, no tick
in between — the node is back at the height of the tick -/
def syncSameHeight : List (Hist Step) :=
  [.block (some (1, 3)), .block none, .block (some (3, 3)), .delete, .delete, .block (some (1, 2))]

end LiskVerif.GenNoCache.Toy

open LiskVerif.NoHidden LiskVerif.NoHidden.Toy LiskVerif.GenNoCache.Toy in
/-- **THE DEFECT CLASS (C15-17).**  The memo generator restores the store exactly on every deletion and validates
blocks against the store, and after the chain switch the node's store IS the store of the fresh node given only the
surviving chain — yet with key 3 enabled it hands on a block for the slot that belongs to 2 on the current chain, and
the SAME node rejects that block; with key 2 enabled it skips its own slot.  The fresh generator does the opposite in
both cases; so does the memo generator after a restart.  Same for the sync-like history. -/
theorem C15_height_keyed_memo_counterexample :
    DeleteInverts memoGen (fun _ => True) ∧
    ¬ (∀ p h h' k, memoForge p h k = memoForge p h' k) ∧
    (let w := hrun memoGen (hinit memoGen [1]) switchSameHeight
     w.kept = [some (1, 2)] ∧ w.p = (fresh memoGen [1] w.kept).1 ∧
     memoForge w.p w.h 3 = some (3, 3) ∧ (memoGen.apply w.p w.h (some (3, 3))).1 = none ∧
     memoForge w.p w.h 2 = none ∧
     memoForge (fresh memoGen [1] w.kept).1 memoGen.h0 3 = none ∧
     memoForge (fresh memoGen [1] w.kept).1 memoGen.h0 2 = some (2, 2) ∧
     (memoGen.apply w.p w.h (some (2, 2))).1 = some [2, 2, 1]) ∧
    (let w := hrun memoGen (hinit memoGen [1]) syncSameHeight
     w.kept = [some (1, 2)] ∧ memoForge w.p w.h 3 = some (3, 3) ∧ (memoGen.apply w.p w.h (some (3, 3))).1 = none ∧
     memoForge w.p w.h 2 = none) ∧
    (let w := hrun memoGen (hinit memoGen [1]) (switchSameHeight ++ [.restart])
     memoForge w.p w.h 3 = none ∧ memoForge w.p w.h 2 = some (2, 2)) := by
  refine ⟨deleteInverts_of_push memoGen (fun _ _ => rfl) fun p h s p' hp => ?_, ?_, by decide, by decide, by decide⟩
  · cases s with
    | none => cases hp
    | some b => exact tail_of_ite_push hp
  · intro hf
    have := hf [2, 1] none (some (2, 3)) 3
    revert this
    decide

open LiskVerif.NoHidden LiskVerif.NoHidden.Toy LiskVerif.GenNoCache.Toy in
/-- non-vacuity of `C15_forge_function_of_store_clock_keys`: the generator without memory satisfies every hypothesis,
and on the same histories it forges for the owner the store names and only for it -/
example :
    ReadsPersistedOnly honestGen ∧ DeleteInverts honestGen (fun _ => True) ∧
    (∀ p h h' k, honestForge p h k = honestForge p h' k) ∧
    (let w := hrun honestGen (hinit honestGen [1]) switchSameHeight
     honestForge w.p w.h 2 = some (2, 2) ∧ honestForge w.p w.h 3 = none ∧
     (honestGen.apply w.p w.h (some (2, 2))).1 = some [2, 2, 1]) ∧
    (let w := hrun honestGen (hinit honestGen [1]) syncSameHeight
     honestForge w.p w.h 2 = some (2, 2) ∧ honestForge w.p w.h 3 = none) := by
  refine ⟨readsPersistedOnly_of_subsingleton honestGen,
    deleteInverts_of_push honestGen (fun _ _ => rfl) fun p h s p' hp => ?_, fun _ _ _ _ => rfl, by decide, by decide⟩
  cases s with
  | none => cases hp
  | some b => exact tail_of_ite_push hp

/-! ## Part 2: `Generator` holds references, configuration and the enabled keys only (regenerated facts) -/

namespace LiskVerif.GenNoCache

open LiskVerif.Gen.CompState

/-- (name, type, kind) of the fields of a struct of pkg/generator, in declaration order -/
def gFieldsOf (strct : String) : List (String × String × String) :=
  (genFields.filter (fun f => f.pkg == "generator" && f.strct == strct)).map (fun f => (f.name, f.typ, f.kind))

/-- (function, field, how) of every write to a field of `Generator`, in source order -/
def gWrites : List (String × String × String) :=
  (genWrites.filter (fun w => w.pkg == "generator" && w.strct == "Generator")).map (fun w => (w.fn, w.field, w.how))

/-- functions that run once, before the first tick, or on behalf of the operator (RPC enable / disable) -/
def setupFns : List String := ["Generator.Init", "Generator.EnableGeneration", "Generator.DisableGeneration"]

end LiskVerif.GenNoCache

open LiskVerif.GenNoCache LiskVerif.Gen.CompState

theorem C15_generator_component_exact : genComponents = [("generator", "Generator")] := by decide +kernel

/-- **the exact fields of `Generator`**: four references handed to the constructor, what `Init` is given (context,
the two databases, logger, configuration, the wait threshold derived from it), the ticker, and the enabled keys.  A
memo of anything derived from the chain (generator list, height, tip, slot owner, last generated height) would be a
new field. -/
theorem C15_generator_fields_exact :
    gFieldsOf "Generator" =
      [("abi", "labi.ABI", "extern"), ("consensus", "Consensus", "local:interface"),
       ("pool", "*txpool.TransactionPool", "pointer"), ("chain", "*blockchain.Chain", "pointer"),
       ("ctx", "context.Context", "extern"), ("blockchainDB", "*db.DB", "pointer"),
       ("generatorDB", "*db.DB", "pointer"), ("logger", "log.Logger", "extern"),
       ("cfg", "*config.Config", "pointer"), ("waitThreshold", "int", "basic"),
       ("checkLoop", "*time.Ticker", "pointer"), ("enabledKeys", "map[string]*PlainKeys", "map")] := by
  decide +kernel

/-- **the exact (function, field) write table of `Generator`**: `Init` assigns what it is given, the operator's
enable / disable change the key map; the constructor fills the four references and an empty key map.  No other
function - in particular not `forge`, `shouldForge`, `initBlockHeader`, `sealBlock`, the selection helpers, the event
handlers - stores anything in the receiver. -/
theorem C15_generator_writes_exact :
    gWrites =
      [("Generator.Init", "ctx", "assign"), ("Generator.Init", "cfg", "assign"),
       ("Generator.Init", "checkLoop", "assign"), ("Generator.Init", "logger", "assign"),
       ("Generator.Init", "generatorDB", "assign"), ("Generator.Init", "blockchainDB", "assign"),
       ("Generator.Init", "waitThreshold", "assign"),
       ("Generator.EnableGeneration", "enabledKeys", "index-assign"),
       ("Generator.DisableGeneration", "enabledKeys", "delete")] ∧
    (genInits.filter (fun i => i.strct == "Generator")).map (fun i => (i.fn, i.field, i.value)) =
      [("NewGenerator", "consensus", "params.Consensus"), ("NewGenerator", "abi", "params.ABI"),
       ("NewGenerator", "pool", "params.Pool"), ("NewGenerator", "chain", "params.Chain"),
       ("NewGenerator", "enabledKeys", "map[string]*PlainKeys{}")] := by decide +kernel

/-- **nothing on the tick path writes a receiver field**: every write of the table is in `Init` or in the operator's
enable / disable; every other method of `Generator` (the exact list) writes none. -/
theorem C15_forge_writes_no_field :
    (genWrites.all (fun w => setupFns.contains w.fn)) = true ∧
    (genMethods.filter (fun m => m.strct == "Generator")).map (·.name) =
      ["Init", "Start", "EnableGeneration", "DisableGeneration", "IsGenerationEnabled", "forge", "shouldForge",
       "selectTransactionsByFee", "limitTransactionsWithSize", "saveGeneratorsFromFile", "loadGenerator",
       "onNewBlock", "onDeleteBlock", "onFinalizeBlock", "initBlockHeader", "sealBlock"] ∧
    ((genMethods.filter (fun m => m.strct == "Generator" && !setupFns.contains ("Generator." ++ m.name))).all
      (fun m => genWrites.all (fun w => w.fn != "Generator." ++ m.name))) = true := by decide +kernel

/-- **the only container among the fields is the key map, the only plain value the wait threshold**: no slice, no
second map, no struct value, no counter that could hold a decoded list or a height; no field of the generator is handed
to a call as a map / slice that the callee could fill. -/
theorem C15_generator_no_memo_shaped_field :
    ((gFieldsOf "Generator").filter (fun f => f.2.2 == "map" || f.2.2 == "slice" || f.2.2 == "array" ||
        f.2.2 == "chan" || f.2.2 == "func" || f.2.2 == "struct" || f.2.2 == "local:struct")).map (·.1) =
      ["enabledKeys"] ∧
    ((gFieldsOf "Generator").filter (fun f => f.2.2 == "basic" || f.2.2 == "local:basic")).map (·.1) =
      ["waitThreshold"] ∧
    genPasses = [] :=
  ⟨by rw [C15_generator_fields_exact]; decide +kernel, by rw [C15_generator_fields_exact]; decide +kernel,
    by decide +kernel⟩

/-- **no package-level memo in pkg/generator**: the two database prefixes are the only package-level variables and
no function assigns a package-level variable. -/
theorem C15_generator_no_package_level_memo :
    genGlobals.map (fun g => (g.name, g.init)) =
      [("GeneratorDBPrefixGeneratedInfo", "[]byte{0}"), ("GeneratorDBPrefixKeys", "[]byte{1}")] ∧
    genGlobalWrites = [] := by decide +kernel
