/-
C16 — Transaction execution is atomic; the state root is a function of the state.

Property theorems about `LiskVerif.Model.Exec` (the model of pkg/statemachine `ExecuteTransaction`
and `EventLogger`, and of pkg/framework `ABIHandler` Commit / Revert / Init over the staged store
model of C12).  The command phase is a run of staged-store operations that never touches the
snapshot `ExecuteTransaction` took, so C12's snapshot theorem gives atomicity; the closed forms
`commandPhase_fail`, `executeTransaction_eq`, `commit_ok` proved here are what `Props/C16_More.lean`
and `Props/C16_Keys.lean` build on.

The hash `H` and the sparse-Merkle root `smtRoot` are parameters (`Params`); what is assumed about
them is stated in each theorem.  `TreeKeyInj`: no two state keys share a tree key (for keys that
carry the 6-byte store prefix it follows from injectivity of `H`: `treeKey_inj_of_len`).
`C16SmtRootExt`: the root depends on the map held by the tree only; this is what property C10 is
about, but it is a hypothesis here, not derived from the C10 development.
-/
import LiskVerif.Lemmas.Exec
import LiskVerif.Props.C12

open LiskVerif LiskVerif.DiffDB LiskVerif.Exec

/-! ### module code seen as a sequence of staged-store operations -/

private theorem run_append (st : St) (a b : List Op) : run st (a ++ b) = run (run st a) b := by
  unfold run; exact List.foldl_append

/-- the snapshots taken by running module code are younger than the snapshot `sid` taken by
`ExecuteTransaction` -/
private def StackOk (sid : Nat) (s : SecSt) : Prop := sid < s.st.snapCount ∧ ∀ i ∈ s.stack, i ≠ sid

private theorem runItem_trace (sid : Nat) (s : SecSt) (it : Item) (h : StackOk sid s) :
    (∀ op ∈ it.ops s.stack, C12KeepsSnapshot sid op) ∧ StackOk sid (runItem s it).1 := by
  refine ⟨?_, ?_, ?_⟩
  · cases it with
    | pop =>
      cases hs : s.stack with
      | nil => exact fun _ hop => absurd hop List.not_mem_nil
      | cons id rest => exact List.forall_mem_singleton.mpr (h.2 id (hs ▸ List.mem_cons_self))
    | ev _ _ _ | badEv | fail => exact fun _ hop => absurd hop List.not_mem_nil
    | _ => exact List.forall_mem_singleton.mpr trivial
  · rw [runItem_st]
    exact Nat.lt_of_lt_of_le h.1 (snapCount_le_run _ _)
  · rw [(runItem_st_stack s it).2]
    cases it with
    | push =>
      intro i hi
      rcases List.mem_cons.mp hi with rfl | hi
      · exact Nat.ne_of_gt h.1
      · exact h.2 i hi
    | pop => exact fun i hi => h.2 i (List.mem_of_mem_tail hi)
    | _ => exact h.2

private theorem runSection_trace (sid : Nat) (items : List Item) : ∀ (s : SecSt), StackOk sid s →
    ∃ ops, (runSection s items).1.st = run s.st ops ∧ (∀ op ∈ ops, C12KeepsSnapshot sid op) := by
  induction items with
  | nil => intro s _; exact ⟨[], rfl, nofun⟩
  | cons it r ih =>
    intro s h
    obtain ⟨k1, ok1⟩ := runItem_trace sid s it h
    simp only [runSection]
    split
    · obtain ⟨ops2, h2, k2⟩ := ih _ ok1
      refine ⟨it.ops s.stack ++ ops2, ?_, fun op hop => ?_⟩
      · rw [run_append, ← runItem_st, h2]
      · exact (List.mem_append.mp hop).elim (k1 op) (k2 op)
    · exact ⟨_, runItem_st s it, k1⟩

/-! ### the command phase, case by case -/

private theorem ran_restore (st : St) (lg : EventLogger) (cmd : List Item) :
    (restore (cmdRun st lg cmd).1.st (snapshot st).2).2 = true ∧
      ∀ k, eff (restore (cmdRun st lg cmd).1.st (snapshot st).2).1 k = eff st k := by
  have hstack : StackOk (snapshot st).2 { st := (snapshot st).1, lg := createSnapshot lg } :=
    ⟨by simp [snapshot], by simp⟩
  obtain ⟨ops, hrun, hkeep⟩ := runSection_trace (snapshot st).2 cmd _ hstack
  have hres := C12_snapshot_restore st ops hkeep
  dsimp only at hres hrun
  rw [← hrun] at hres
  exact hres

/-- `commandPhase` after a failed command, in closed form: the restore of its own snapshot succeeds
(`ran_restore`), so the branch `restoreFailed` is never taken -/
theorem commandPhase_fail (st : St) (lg : EventLogger) (cmd : List Item)
    (h : (cmdRun st lg cmd).2 = false) :
    commandPhase st lg cmd =
      { st := deleteSnapshot (restore (cmdRun st lg cmd).1.st (snapshot st).2).1 (snapshot st).2,
        lg := restoreSnapshot (cmdRun st lg cmd).1.lg, success := false,
        lgRan := (cmdRun st lg cmd).1.lg } :=
  commandPhase_of_fail st lg cmd h (ran_restore st lg cmd).1

/-- the command phase succeeds exactly when the command's code does -/
theorem commandPhase_success (st : St) (lg : EventLogger) (cmd : List Item) :
    (commandPhase st lg cmd).success = (cmdRun st lg cmd).2 := by
  cases h : (cmdRun st lg cmd).2 with
  | true => rw [commandPhase_of_ok st lg cmd h]
  | false => rw [commandPhase_fail st lg cmd h]

/-! ### atomicity -/

/-- **A failed command leaves the state exactly as it was before the command ran**, whatever the
command did before failing: any sequence of sets, deletes, overwrites and reads on any module
sub-stores, events, nested snapshots taken and restored.  (`commandPhase` is the part of
`ExecuteTransaction` between `Snapshot()` and `DeleteSnapshot`; `st` is the staged store after the
`BeforeCommandExecute` hooks.)  The restore of the snapshot never fails. -/
theorem C16_failed_command_state_unchanged (st : St) (lg : EventLogger) (cmd : List Item)
    (hfail : (commandPhase st lg cmd).success = false) :
    (commandPhase st lg cmd).restoreFailed = false ∧
      ∀ k, eff (commandPhase st lg cmd).st k = eff st k := by
  rw [commandPhase_success] at hfail
  rw [commandPhase_fail st lg cmd hfail]
  refine ⟨rfl, fun k => ?_⟩
  exact (ran_restore st lg cmd).2 k

/-! ### events -/

/-- `Add` registers a revertible event, `AddUnrevertible` an unrevertible one; both give the event
the next index. -/
theorem C16_add_is_revertible (l l' : EventLogger) (m n : String) (d : Bytes) (x : Nat) :
    (add l m n d x = some l' → ∃ e, l'.events = l.events ++ [{ event := e, noRevert := false }] ∧
        e.index = l.events.length) ∧
    (addUnrevertible l m n d x = some l' →
      ∃ e, l'.events = l.events ++ [{ event := e, noRevert := true }] ∧ e.index = l.events.length) := by
  constructor
  · intro h; obtain ⟨e, he, hc, _⟩ := add_spec h; exact ⟨e, he, hc.index⟩
  · intro h; obtain ⟨e, he, hc, _⟩ := addUnrevertible_spec h; exact ⟨e, he, hc.index⟩

/-- **The events of a failed command**: the events logged before the command are untouched; of the
events `new` the command logged, exactly the unrevertible ones remain, in order, renumbered
consecutively after the earlier events; every revertible event of the command is gone. -/
theorem C16_failed_command_events (st : St) (lg : EventLogger) (cmd : List Item)
    (hfail : (commandPhase st lg cmd).success = false) :
    ∃ new, (commandPhase st lg cmd).lgRan.events = lg.events ++ new ∧
      (commandPhase st lg cmd).lg.events =
        lg.events ++ reindexFrom lg.events.length (new.filter (·.noRevert)) ∧
      ∀ e ∈ (commandPhase st lg cmd).lg.events.drop lg.events.length, e.noRevert = true := by
  rw [commandPhase_success] at hfail
  rw [commandPhase_fail st lg cmd hfail]
  obtain ⟨new, he, hr⟩ := restoreSnapshot_grows (cmdRun_grows st lg cmd)
  refine ⟨new, he, hr, ?_⟩
  · dsimp only
    rw [hr, List.drop_left' rfl]
    intro e hm
    obtain ⟨e', he', hn, _⟩ := reindexFrom_fields _ _ e hm
    rw [hn]
    simpa using (List.mem_filter.mp he').2

/-- **A successful command keeps everything**: the staged store is the one the command left
(the snapshot is only dropped) and every event it logged, revertible or not, is kept as logged. -/
theorem C16_success_keeps_all (st : St) (lg : EventLogger) (cmd : List Item)
    (hok : (commandPhase st lg cmd).success = true) :
    (∀ k, eff (commandPhase st lg cmd).st k =
        eff (runSection { st := (snapshot st).1, lg := createSnapshot lg } cmd).1.st k) ∧
      (commandPhase st lg cmd).lg.events =
        (runSection { st := (snapshot st).1, lg := createSnapshot lg } cmd).1.lg.events ∧
      ∃ new, (commandPhase st lg cmd).lg.events = lg.events ++ new := by
  rw [commandPhase_success] at hok
  rw [commandPhase_of_ok st lg cmd hok]
  obtain ⟨new, he, _⟩ := cmdRun_events st lg cmd
  exact ⟨fun k => rfl, rfl, new, he⟩

/-! ### what the kept writes are: code without nested snapshots -/

/-- module code that takes no snapshots of its own -/
def C16NoSnap : List Item → Prop
  | [] => True
  | .push :: _ => False
  | .pop :: _ => False
  | _ :: r => C16NoSnap r

/-- the writes of module code applied to a state map -/
def C16Writes (m : Bytes → Option Bytes) : List Item → Bytes → Option Bytes
  | [] => m
  | .set k v :: r => C16Writes (fun k' => if k = k' then some v else m k') r
  | .del k :: r => C16Writes (fun k' => if k = k' then none else m k') r
  | _ :: r => C16Writes m r

private theorem C16Writes_congr (items : List Item) : ∀ (m m' : Bytes → Option Bytes),
    (∀ k, m k = m' k) → ∀ k, C16Writes m items k = C16Writes m' items k := by
  induction items with
  | nil => intro m m' h k; exact h k
  | cons it r ih =>
    intro m m' h k
    cases it <;> simp only [C16Writes]
    case set a b => exact ih _ _ (fun k' => by simp only [h k']) k
    case del a => exact ih _ _ (fun k' => by simp only [h k']) k
    all_goals exact ih _ _ h k

private theorem runSection_writes (items : List Item) : ∀ (s : SecSt), C16NoSnap items →
    C12Inv s.st → (runSection s items).2 = true →
      C12Inv (runSection s items).1.st ∧
        ∀ k, eff (runSection s items).1.st k = C16Writes (eff s.st) items k := by
  induction items with
  | nil => intro s _ hinv _; exact ⟨hinv, fun _ => rfl⟩
  | cons it r ih =>
    intro s hns hinv hok
    simp only [runSection] at hok ⊢
    split at hok
    · next hit =>
      rw [if_pos hit]
      have step : C16NoSnap r ∧ C12Inv (runItem s it).1.st ∧
          ∀ k, C16Writes (eff (runItem s it).1.st) r k = C16Writes (eff s.st) (it :: r) k := by
        cases it with
        | set a b =>
          have := C12_set_refines s.st hinv a b
          exact ⟨hns, this.2, C16Writes_congr r _ _ this.1⟩
        | del a =>
          have := C12_del_refines s.st hinv a
          exact ⟨hns, this.2, C16Writes_congr r _ _ this.1⟩
        | get a =>
          have := C12_get_refines s.st hinv a
          rw [runItem_st]
          exact ⟨hns, this.2.2, C16Writes_congr r _ _ this.2.1⟩
        | chk a b =>
          have := C12_get_refines s.st hinv a
          exact ⟨hns, this.2.2, C16Writes_congr r _ _ this.2.1⟩
        | ev u n d => rw [runItem_st]; exact ⟨hns, hinv, fun _ => rfl⟩
        | badEv => rw [runItem_st]; exact ⟨hns, hinv, fun _ => rfl⟩
        | push => exact absurd hns (by simp [C16NoSnap])
        | pop => exact absurd hns (by simp [C16NoSnap])
        | fail => simp [runItem] at hit
      obtain ⟨h1, h2⟩ := ih _ step.1 step.2.1 hok
      exact ⟨h1, fun k => (h2 k).trans (step.2.2 k)⟩
    · cases hok

/-- For a successful command that takes no snapshots of its own, the resulting state is the state
before the command with all of the command's sets and deletes applied in order. -/
theorem C16_success_applies_writes (st : St) (hinv : C12Inv st) (lg : EventLogger) (cmd : List Item)
    (hns : C16NoSnap cmd) (hok : (commandPhase st lg cmd).success = true) :
    ∀ k, eff (commandPhase st lg cmd).st k = C16Writes (eff st) cmd k := by
  rw [commandPhase_success] at hok
  rw [commandPhase_of_ok st lg cmd hok]
  have hinv' : C12Inv (snapshot st).1 := C12_cache_invariant st hinv [.snapshot]
  have := runSection_writes cmd { st := (snapshot st).1, lg := createSnapshot lg } hns hinv' hok
  intro k
  exact this.2 k

/-! ### whole transactions -/

/-- the standard event of a transaction (`EventNameDefault`) -/
def C16StdEvent (success : Bool) (height index : Nat) : Event :=
  { module := modName, name := stdEventName, data := stdData success, ntopics := 1,
    height := height, index := index }

private theorem std_names_ok : (alnum modName && alnum stdEventName) = true := by decide +kernel

private theorem std_valid (b : Bool) (h i : Nat) : (C16StdEvent b h i).valid = true := by
  unfold Event.valid C16StdEvent
  dsimp only
  rw [std_names_ok]
  cases b <;> simp [stdData, eventMaxSizeBytes, eventMaxTopics]

/-- the standard event can always be added -/
theorem add_std (l : EventLogger) (hT : l.hasTopic = true) (b : Bool) :
    add l modName stdEventName (stdData b) 0 =
      some { l with events := l.events ++ [⟨C16StdEvent b l.height l.events.length, false⟩] } := by
  unfold add createEvent
  simp only [hT, Bool.not_true, Bool.false_eq_true, if_false]
  have := std_valid b l.height l.events.length
  unfold C16StdEvent at this
  rw [if_pos this]
  rfl

/-- the command phase leaves the logger's default topic and height as they are -/
theorem commandPhase_cfg (st : St) (lg : EventLogger) (cmd : List Item) :
    (commandPhase st lg cmd).lg.hasTopic = lg.hasTopic ∧
      (commandPhase st lg cmd).lg.height = lg.height := by
  obtain ⟨_, _, _, _, hT, hH⟩ := cmdRun_events st lg cmd
  cases h : (cmdRun st lg cmd).2 with
  | true => rw [commandPhase_of_ok st lg cmd h]; exact ⟨hT, hH⟩
  | false =>
    rw [commandPhase_fail st lg cmd h]
    have := restoreSnapshot_cfg (cmdRun st lg cmd).1.lg
    exact ⟨this.1.trans hT, this.2.trans hH⟩

/-- the exit `restoreFailed` of the command phase is never taken -/
theorem commandPhase_restoreFailed (st : St) (lg : EventLogger) (cmd : List Item) :
    (commandPhase st lg cmd).restoreFailed = false := by
  cases h : (cmdRun st lg cmd).2 with
  | true => rw [commandPhase_of_ok st lg cmd h]
  | false => rw [commandPhase_fail st lg cmd h]

/-- `ExecuteTransaction` without its two dead branches: the restore of the command's snapshot never
fails and the logger, which has a default topic throughout, always takes the standard event -/
theorem executeTransaction_eq (st : St) (height : Nat) (tx : Tx) :
    executeTransaction st height tx =
      (let p := runSection { st := st, lg := newLogger height } tx.pre
       if !p.2 then (p.1.st, .invalid, p.1.lg.out)
       else if !tx.cmdKnown then (p.1.st, .invalid, p.1.lg.out)
       else
         let c := commandPhase p.1.st p.1.lg tx.cmd
         let q := runSection { st := c.st, lg := c.lg } tx.post
         if !q.2 then (q.1.st, .invalid, q.1.lg.out)
         else (q.1.st, if c.success then .ok else .fail,
               q.1.lg.out ++ [C16StdEvent c.success height q.1.lg.events.length])) := by
  have hp := (runSection_grows tx.pre { st := st, lg := newLogger height }).cfg
  unfold executeTransaction
  dsimp only
  generalize runSection { st := st, lg := newLogger height } tx.pre = p at hp
  have hc := commandPhase_cfg p.1.st p.1.lg tx.cmd
  rw [commandPhase_restoreFailed]
  generalize commandPhase p.1.st p.1.lg tx.cmd = c at hc
  have hq := (runSection_grows tx.post { st := c.st, lg := c.lg }).cfg
  generalize runSection { st := c.st, lg := c.lg } tx.post = q at hq
  have hT : q.1.lg.hasTopic = true := hq.hasTopic.symm.trans (hc.1.trans hp.hasTopic.symm)
  have hH : q.1.lg.height = height := hq.height.symm.trans (hc.2.trans hp.height.symm)
  simp only [add_std _ hT, EventLogger.out, List.map_append, List.map_cons, List.map_nil, hH,
    Bool.false_eq_true, if_false]

/-- `ExecuteTransaction` for a module without command hooks -/
theorem executeTransaction_nohooks (st : St) (height : Nat) (cmd : List Item) :
    executeTransaction st height { cmd := cmd } =
      ((commandPhase st (newLogger height) cmd).st,
       if (commandPhase st (newLogger height) cmd).success then Result.ok else Result.fail,
       (commandPhase st (newLogger height) cmd).lg.out ++
         [C16StdEvent (commandPhase st (newLogger height) cmd).success height
            (commandPhase st (newLogger height) cmd).lg.events.length]) := by
  rw [executeTransaction_eq]; rfl

/-- **A transaction whose command fails** (module without command hooks): the result is `Fail`,
the staged state is exactly the state before the transaction, and the response holds the
unrevertible events of the command — renumbered from 0 — followed by the standard event with
`success = false`; nothing else. -/
theorem C16_failed_transaction (st : St) (height : Nat) (cmd : List Item)
    (hfail : (commandPhase st (newLogger height) cmd).success = false) :
    (executeTransaction st height { cmd := cmd }).2.1 = .fail ∧
      (∀ k, eff (executeTransaction st height { cmd := cmd }).1 k = eff st k) ∧
      ∃ new, (commandPhase st (newLogger height) cmd).lgRan.events = new ∧
        (executeTransaction st height { cmd := cmd }).2.2 =
          (reindexFrom 0 (new.filter (·.noRevert))).map (·.event) ++
            [C16StdEvent false height (new.filter (·.noRevert)).length] := by
  obtain ⟨_, hs⟩ := C16_failed_command_state_unchanged st (newLogger height) cmd hfail
  obtain ⟨new, h1, h2, _⟩ := C16_failed_command_events st (newLogger height) cmd hfail
  rw [executeTransaction_nohooks]
  refine ⟨by simp [hfail], hs, new, by simpa [newLogger, setDefaultTopic] using h1, ?_⟩
  have h2' : (commandPhase st (newLogger height) cmd).lg.events =
      reindexFrom 0 (new.filter (·.noRevert)) := by
    simpa [newLogger, setDefaultTopic] using h2
  simp only [EventLogger.out, h2', hfail, reindexFrom_length]

/-- **A transaction whose command succeeds** (module without command hooks): the result is `OK`,
the staged state is the one the command left, every event of the command is kept as logged and the
standard event with `success = true` follows. -/
theorem C16_successful_transaction (st : St) (height : Nat) (cmd : List Item)
    (hok : (commandPhase st (newLogger height) cmd).success = true) :
    (executeTransaction st height { cmd := cmd }).2.1 = .ok ∧
      (∀ k, eff (executeTransaction st height { cmd := cmd }).1 k =
        eff (runSection { st := (snapshot st).1, lg := createSnapshot (newLogger height) } cmd).1.st k) ∧
      (executeTransaction st height { cmd := cmd }).2.2 =
        (runSection { st := (snapshot st).1, lg := createSnapshot (newLogger height) } cmd).1.lg.out ++
          [C16StdEvent true height
             (runSection { st := (snapshot st).1,
                           lg := createSnapshot (newLogger height) } cmd).1.lg.events.length] := by
  obtain ⟨h1, h2, _⟩ := C16_success_keeps_all st (newLogger height) cmd hok
  rw [executeTransaction_nohooks]
  refine ⟨by simp [hok], h1, ?_⟩
  simp only [EventLogger.out, h2, hok]

/-- **Transactions of modules with command hooks**: when the `BeforeCommandExecute` hooks, the
lookup of the command and the `AfterCommandExecute` hooks succeed, the result is `OK` / `Fail`
according to the command alone, the final staged store is what the after-hooks left, and a failing
command contributes nothing to it: the after-hooks start from exactly the state the before-hooks
left ("the state before the command ran"). -/
theorem C16_transaction_structure (st : St) (height : Nat) (tx : Tx) (hk : tx.cmdKnown = true)
    (hpre : (runSection { st := st, lg := newLogger height } tx.pre).2 = true)
    (hpost : (runSection
      { st := (commandPhase (runSection { st := st, lg := newLogger height } tx.pre).1.st
                (runSection { st := st, lg := newLogger height } tx.pre).1.lg tx.cmd).st,
        lg := (commandPhase (runSection { st := st, lg := newLogger height } tx.pre).1.st
                (runSection { st := st, lg := newLogger height } tx.pre).1.lg tx.cmd).lg } tx.post).2 = true) :
    (executeTransaction st height tx).1 = (runSection
      { st := (commandPhase (runSection { st := st, lg := newLogger height } tx.pre).1.st
                (runSection { st := st, lg := newLogger height } tx.pre).1.lg tx.cmd).st,
        lg := (commandPhase (runSection { st := st, lg := newLogger height } tx.pre).1.st
                (runSection { st := st, lg := newLogger height } tx.pre).1.lg tx.cmd).lg } tx.post).1.st ∧
    (executeTransaction st height tx).2.1 =
      (if (commandPhase (runSection { st := st, lg := newLogger height } tx.pre).1.st
            (runSection { st := st, lg := newLogger height } tx.pre).1.lg tx.cmd).success
       then Result.ok else Result.fail) ∧
    ((commandPhase (runSection { st := st, lg := newLogger height } tx.pre).1.st
        (runSection { st := st, lg := newLogger height } tx.pre).1.lg tx.cmd).success = false →
      ∀ k, eff (commandPhase (runSection { st := st, lg := newLogger height } tx.pre).1.st
          (runSection { st := st, lg := newLogger height } tx.pre).1.lg tx.cmd).st k =
        eff (runSection { st := st, lg := newLogger height } tx.pre).1.st k) := by
  rw [executeTransaction_eq]
  dsimp only
  simp only [hpre, hk, hpost, Bool.not_true, Bool.false_eq_true, if_false]
  exact ⟨trivial, trivial, fun hf => (C16_failed_command_state_unchanged _ _ _ hf).2⟩

/-! ### event indices -/

private theorem grows_wellIdx {a b : EventLogger} (h : Grows a b) (ha : IdxFrom 0 a.events) :
    IdxFrom 0 b.events := by
  obtain ⟨new, he, hi⟩ := h.ext
  rw [he, idxFrom_append]
  exact ⟨ha, by simpa using hi⟩

private theorem restoreSnapshot_wellIdx (l : EventLogger) (h : IdxFrom 0 l.events) :
    IdxFrom 0 (restoreSnapshot l).events := by
  unfold restoreSnapshot
  split
  · exact h
  · next n _ =>
    dsimp only
    rw [idxFrom_append]
    refine ⟨idxFrom_take _ _ _ h, ?_⟩
    by_cases hn : n ≤ l.events.length
    · have : 0 + (List.take n l.events).length = n := by simp [List.length_take]; omega
      rw [this]
      exact idxFrom_reindexFrom _ _
    · have : List.drop n l.events = [] := List.drop_eq_nil_of_le (by omega)
      rw [this]
      trivial

private theorem commandPhase_wellIdx (st : St) (lg : EventLogger) (cmd : List Item)
    (h : IdxFrom 0 lg.events) : IdxFrom 0 (commandPhase st lg cmd).lg.events := by
  have hg : IdxFrom 0 (cmdRun st lg cmd).1.lg.events := grows_wellIdx (cmdRun_grows st lg cmd) h
  cases hx : (cmdRun st lg cmd).2 with
  | true => rw [commandPhase_of_ok st lg cmd hx]; exact hg
  | false => rw [commandPhase_fail st lg cmd hx]; exact restoreSnapshot_wellIdx _ hg

private theorem executeTransaction_out (st : St) (height : Nat) (tx : Tx) :
    ∃ lg : EventLogger, IdxFrom 0 lg.events ∧ (executeTransaction st height tx).2.2 = lg.out := by
  have wp := grows_wellIdx (runSection_grows tx.pre { st := st, lg := newLogger height })
    (show IdxFrom 0 (newLogger height).events from trivial)
  rw [executeTransaction_eq]
  dsimp only
  generalize runSection { st := st, lg := newLogger height } tx.pre = p at wp
  by_cases h1 : (!p.2) = true
  · rw [if_pos h1]; exact ⟨_, wp, rfl⟩
  rw [if_neg h1]
  by_cases h2 : (!tx.cmdKnown) = true
  · rw [if_pos h2]; exact ⟨_, wp, rfl⟩
  rw [if_neg h2]
  have wc := commandPhase_wellIdx p.1.st p.1.lg tx.cmd wp
  generalize commandPhase p.1.st p.1.lg tx.cmd = c at wc
  have wq := grows_wellIdx (runSection_grows tx.post { st := c.st, lg := c.lg }) wc
  generalize runSection { st := c.st, lg := c.lg } tx.post = q at wq
  by_cases h4 : (!q.2) = true
  · rw [if_pos h4]; exact ⟨_, wq, rfl⟩
  rw [if_neg h4]
  exact ⟨{ q.1.lg with events := q.1.lg.events ++ [⟨C16StdEvent c.success height q.1.lg.events.length, false⟩] },
    (idxFrom_append _ _ 0).mpr ⟨wq, (Nat.zero_add _).symm, trivial⟩,
    by simp only [EventLogger.out, List.map_append, List.map_cons, List.map_nil]⟩

/-- **Events are indexed consecutively**: in the response of every `ExecuteTransaction` — any
hooks, any command, success, failure or invalid — the i-th event carries index i. -/
theorem C16_event_indices_consecutive (st : St) (height : Nat) (tx : Tx) (i : Nat)
    (h : i < (executeTransaction st height tx).2.2.length) :
    ((executeTransaction st height tx).2.2[i]).index = i := by
  obtain ⟨lg, hw, he⟩ := executeTransaction_out st height tx
  have hl : i < lg.events.length := by
    have := h; rw [he] at this; simpa [EventLogger.out] using this
  have := idxFrom_get lg.events 0 hw i hl
  simp only [he, EventLogger.out, List.getElem_map]
  omega

/-- The same for the events of a block hook (`BeforeTransactionsExecute` / `AfterTransactionsExecute`). -/
theorem C16_block_hook_indices_consecutive (a : App) (items : List Item) (evs : List Event)
    (hr : (blockHook a items).2 = some evs) (i : Nat) (h : i < evs.length) : (evs[i]).index = i := by
  unfold blockHook at hr
  split at hr
  · cases hr
  · next c _ =>
    dsimp only at hr
    split at hr
    · simp only [Option.some.injEq] at hr
      subst hr
      have w := grows_wellIdx (runSection_grows items { st := stOf a c, lg := newLogger c.height })
        (show IdxFrom 0 (newLogger c.height).events from trivial)
      have hl : i < (runSection { st := stOf a c, lg := newLogger c.height } items).1.lg.events.length := by
        simpa [EventLogger.out] using h
      have := idxFrom_get _ 0 w i hl
      simp only [EventLogger.out, List.getElem_map]
      omega
    · cases hr

/-! ### the state root -/

/-- the root of the sparse Merkle tree depends only on the map the tree holds: a hypothesis wherever it
appears (property C10 is about such a root, but `Params.smtRoot` is not tied to its tree model) -/
def C16SmtRootExt (smtRoot : Leaves → Bytes) : Prop :=
  ∀ l1 l2 : Leaves, (∀ tk, slookup l1 tk = slookup l2 tk) → smtRoot l1 = smtRoot l2

private theorem commit_store (st : St) :
    (DiffDB.commit st).1.store = (commitCache st.cache st.store {}).1 := rfl

private theorem commit_diff_def (st : St) : (DiffDB.commit st).2 = (commitCache st.cache st.store {}).2 := rfl

/-- what a successful, non-dry `Commit` returns and stores -/
theorem commit_ok (P : Params) (a : App) (c : Ctx) (hctx : a.ctx = some c)
    (expected : Option Bytes) (a' : App) (root : Bytes)
    (hc : commit P a expected false = (a', some root)) :
    a' = { a with store := applyStore a.store (batchOfCache c.cache),
                  leaves := applyLeaves P.H a.leaves (batchOfCache c.cache),
                  diffs := putDiff a.diffs c.height (commitCache c.cache a.store {}).2,
                  treeState := some (c.height, root) } ∧
      root = P.smtRoot (applyLeaves P.H a.leaves (batchOfCache c.cache)) := by
  unfold Exec.commit at hc
  rw [hctx] at hc
  dsimp only at hc
  split at hc
  · simp at hc
  · simp only [Bool.false_eq_true, if_false, Prod.mk.injEq, Option.some.injEq] at hc
    obtain ⟨h1, h2⟩ := hc
    subst h2
    exact ⟨by rw [← h1, hctx], rfl⟩

/-- **The committed state root is the sparse-Merkle root of the resulting state.**  After a block
is committed (any staged overlay `c` satisfying the staged-store invariant, over a state whose tree
holds the image of the state): the stored state is the effective state of the block (C12), the tree
holds exactly one leaf `(treeKey k, H v)` per entry `k ↦ v` of that state — keys deleted by the
block have no leaf — the returned root is the root of that tree and is recorded with the height;
with `C16SmtRootExt` it is the root of the tree built from the resulting state alone. -/
theorem C16_state_root_is_root_of_state (P : Params) (a : App) (c : Ctx) (hctx : a.ctx = some c)
    (hinv : C12Inv (stOf a c)) (hleaf : LeafInv P.H a.store a.leaves) (hTK : TreeKeyInj P.H)
    (expected : Option Bytes) (a' : App) (root : Bytes)
    (hc : commit P a expected false = (a', some root)) :
    (∀ k, slookup a'.store k = eff (stOf a c) k) ∧
      LeafInv P.H a'.store a'.leaves ∧
      (∀ k, eff (stOf a c) k = none → slookup a'.leaves (treeKey P.H k) = none) ∧
      root = P.smtRoot a'.leaves ∧ a'.treeState = some (c.height, root) ∧
      (C16SmtRootExt P.smtRoot → root = P.smtRoot (leavesOf P.H a'.store)) := by
  obtain ⟨ha', hroot⟩ := commit_ok P a c hctx expected a' root hc
  have hstore : ∀ k, slookup a'.store k = eff (stOf a c) k := by
    intro k
    have := C12_commit_exact (stOf a c) hinv k
    rw [commit_store, applyStore_batchOfCache] at this
    rw [ha']; exact this
  have hl : LeafInv P.H a'.store a'.leaves := by
    rw [ha']; exact leafInv_apply hTK _ hleaf
  refine ⟨hstore, hl, ?_, by rw [ha']; exact hroot, by rw [ha'], ?_⟩
  · intro k hk
    cases hlk : slookup a'.leaves (treeKey P.H k) with
    | none => rfl
    | some hv =>
      obtain ⟨k', v, h1, h2, _⟩ := (hl _ _).mp hlk
      have := hTK _ _ h2
      subst this
      rw [hstore, hk] at h1
      cases h1
  · intro hext
    have hnd : NoDupKeys a'.store := by
      rw [ha']; exact nodup_applyStore _ _ hinv.nodupS
    have hl2 := leafInv_leavesOf hTK a'.store
    have : P.smtRoot a'.leaves = P.smtRoot (leavesOf P.H a'.store) :=
      hext _ _ (leafInv_unique hl hl2 (fun _ => rfl))
    rw [← this, ha']; exact hroot

/-- the maps after reverting the diff of a block are the maps before the block -/
private theorem block_revert_maps (P : Params) (a : App) (c : Ctx) (hinv : C12Inv (stOf a c))
    (hleaf : LeafInv P.H a.store a.leaves) (hTK : TreeKeyInj P.H) :
    (∀ k, slookup (applyStore (applyStore a.store (batchOfCache c.cache))
        (batchOfDiff (commitCache c.cache a.store {}).2)) k = slookup a.store k) ∧
    (∀ tk, slookup (applyLeaves P.H (applyLeaves P.H a.leaves (batchOfCache c.cache))
        (batchOfDiff (commitCache c.cache a.store {}).2)) tk = slookup a.leaves tk) ∧
    LeafInv P.H (applyStore a.store (batchOfCache c.cache))
      (applyLeaves P.H a.leaves (batchOfCache c.cache)) := by
  have hs : ∀ k, slookup (applyStore (applyStore a.store (batchOfCache c.cache))
      (batchOfDiff (commitCache c.cache a.store {}).2)) k = slookup a.store k := by
    intro k
    have := C12_revert_exact (stOf a c) hinv k
    rw [commit_store, commit_diff_def, ← applyStore_batchOfDiff, applyStore_batchOfCache] at this
    exact this
  have hl1 := leafInv_apply hTK (batchOfCache c.cache) hleaf
  exact ⟨hs, leafInv_unique (leafInv_apply hTK _ hl1) hleaf hs, hl1⟩

/-- **Reverting the block restores the previous state and root.**  After the commit of a block at
height `h`, `Revert` in a context at height `h` succeeds, every key of the state holds its previous
value again, the tree holds the previous map again, and the recorded tree state is `(h - 1, root)`
with `root` the root of that tree — with `C16SmtRootExt`, the root before the block. -/
theorem C16_revert_restores_state_and_root (P : Params) (a : App) (c : Ctx) (hctx : a.ctx = some c)
    (hinv : C12Inv (stOf a c)) (hleaf : LeafInv P.H a.store a.leaves) (hTK : TreeKeyInj P.H)
    (expected : Option Bytes) (a1 : App) (root1 : Bytes)
    (hc : commit P a expected false = (a1, some root1)) (c' : Ctx) (hh : c'.height = c.height) :
    ∃ a2 root2, revert P { a1 with ctx := some c' } none = (a2, some root2) ∧
      (∀ k, slookup a2.store k = slookup a.store k) ∧
      (∀ tk, slookup a2.leaves tk = slookup a.leaves tk) ∧
      LeafInv P.H a2.store a2.leaves ∧
      root2 = P.smtRoot a2.leaves ∧ a2.treeState = some (pred32 c.height, root2) ∧
      (C16SmtRootExt P.smtRoot → root2 = P.smtRoot a.leaves) := by
  obtain ⟨ha1, _⟩ := commit_ok P a c hctx expected a1 root1 hc
  obtain ⟨hs, hl, _⟩ := block_revert_maps P a c hinv hleaf hTK
  have hfind : findDiff a1.diffs c.height = some (commitCache c.cache a.store {}).2 := by
    rw [ha1]; exact findDiff_putDiff _ _ _
  refine ⟨{ a1 with ctx := some c',
                    store := applyStore a1.store (batchOfDiff (commitCache c.cache a.store {}).2),
                    leaves := applyLeaves P.H a1.leaves (batchOfDiff (commitCache c.cache a.store {}).2),
                    treeState := some (pred32 c.height, P.smtRoot
                      (applyLeaves P.H a1.leaves (batchOfDiff (commitCache c.cache a.store {}).2))) },
    _, ?_, ?_, ?_, ?_, rfl, rfl, fun hext => hext _ _ ?_⟩
  · simp only [Exec.revert, revertAt, hh, hfind, Option.isSome_none, Bool.false_and,
      Bool.false_eq_true, if_false]
  all_goals rw [ha1]
  · exact hs
  · exact hl
  · exact leafInv_apply hTK _ (leafInv_apply hTK _ hleaf)
  · exact hl

/-! ### restart recovery -/

/-- the state and the tree of two application databases are the same maps -/
structure C16SameMaps (a b : App) : Prop where
  store : ∀ k, slookup a.store k = slookup b.store k
  leaves : ∀ tk, slookup a.leaves tk = slookup b.leaves tk

/-- one block as the engine drives it: a fresh context, module code staged into it (represented by
the resulting overlay `c`), `Commit` without an expected root, `Clear` -/
def C16Block (P : Params) (a : App) (c : Ctx) : App :=
  clear (commit P { a with ctx := some c } none false).1

/-- `C16Chain P a0 h0 a h`: the application database `a` at height `h` is reached from `a0` at
height `h0` by executing and committing the blocks `h0+1 … h`, each one any staged overlay that
satisfies the staged-store invariant. -/
inductive C16Chain (P : Params) (a0 : App) (h0 : Nat) : App → Nat → Prop
  | base : C16Chain P a0 h0 a0 h0
  | block {a : App} {h : Nat} (c : Ctx) : C16Chain P a0 h0 a h →
      c.height = h + 1 → C12Inv (stOf a c) → C16Chain P a0 h0 (C16Block P a c) (h + 1)

private theorem block_eq (P : Params) (a : App) (c : Ctx) :
    C16Block P a c =
      { a with store := applyStore a.store (batchOfCache c.cache),
               leaves := applyLeaves P.H a.leaves (batchOfCache c.cache),
               diffs := putDiff a.diffs c.height (commitCache c.cache a.store {}).2,
               treeState := some (c.height, P.smtRoot (applyLeaves P.H a.leaves (batchOfCache c.cache))),
               ctx := none } := by
  simp [C16Block, Exec.commit, clear]

private theorem applyStore_congr (ws : List Write) (s s' : Store) (h : SameMap s s') :
    SameMap (applyStore s ws) (applyStore s' ws) :=
  List.foldl_rel (r := SameMap) h fun w _ _ _ h => by
    obtain ⟨k0, o⟩ := w
    cases o with
    | some v => exact h.sset k0 v
    | none => exact h.sdel k0

/-- the updates of the tree are a batch of writes too: on tree keys, with hashed values -/
private theorem applyLeaves_eq (H : Bytes → Bytes) (ws : List Write) : ∀ l : Leaves,
    applyLeaves H l ws = applyStore l (ws.map fun w => (treeKey H w.1, w.2.map H)) := by
  induction ws with
  | nil => exact fun _ => rfl
  | cons w r ih =>
    intro l
    obtain ⟨k0, o⟩ := w
    cases o <;> exact ih _

private theorem applyLeaves_congr (H : Bytes → Bytes) (ws : List Write) (l l' : Leaves)
    (h : ∀ k, slookup l k = slookup l' k) (k : Bytes) :
    slookup (applyLeaves H l ws) k = slookup (applyLeaves H l' ws) k := by
  rw [applyLeaves_eq, applyLeaves_eq]; exact applyStore_congr _ _ _ h k

private theorem pred32_succ (h : Nat) (hb : h + 1 < 4294967296) : pred32 (h + 1) = h := by
  unfold pred32; omega

/-- the invariants that hold along a chain of blocks -/
private theorem chain_inv (P : Params) (hTK : TreeKeyInj P.H) {a0 : App} {h0 : Nat} {a : App} {h : Nat}
    (hc : C16Chain P a0 h0 a h) (hleaf0 : LeafInv P.H a0.store a0.leaves)
    (hts0 : a0.treeState.getD (0, P.smtRoot []) = (h0, P.smtRoot a0.leaves)) :
    LeafInv P.H a.store a.leaves ∧ h0 ≤ h ∧
      a.treeState.getD (0, P.smtRoot []) = (h, P.smtRoot a.leaves) := by
  induction hc with
  | base => exact ⟨hleaf0, Nat.le_refl _, hts0⟩
  | block c _ hh hinv ih =>
    obtain ⟨hl, hle, _⟩ := ih
    rw [block_eq]
    exact ⟨leafInv_apply hTK _ hl, by omega, by rw [hh]; rfl⟩

/-- the loop of `Init` over a chain of blocks, from any database holding the same maps and diffs -/
private theorem initLoop_chain (P : Params) (hTK : TreeKeyInj P.H) {a0 : App} {h0 : Nat} {a : App}
    {h : Nat} (hc : C16Chain P a0 h0 a h) (hleaf0 : LeafInv P.H a0.store a0.leaves)
    (hts0 : a0.treeState.getD (0, P.smtRoot []) = (h0, P.smtRoot a0.leaves)) (hb : h < 4294967296) :
    ∀ b : App, C16SameMaps b a →
      (∀ i, h0 < i → i ≤ h → findDiff b.diffs i = findDiff a.diffs i) →
      ∃ b', initLoop P (h - h0) b h (P.smtRoot b.leaves) = (b', some (P.smtRoot b'.leaves)) ∧
        C16SameMaps b' a0 ∧ (h0 < h → b'.treeState = some (h0, P.smtRoot b'.leaves)) := by
  induction hc with
  | base =>
    intro b hsame _
    refine ⟨b, ?_, hsame, fun hlt => absurd hlt (Nat.lt_irrefl _)⟩
    simp [initLoop]
  | @block a h c hch hh hinv ih =>
    intro b hsame hdiffs
    obtain ⟨hl, hle, _⟩ := chain_inv P hTK hch hleaf0 hts0
    obtain ⟨hrs, hrl, _⟩ := block_revert_maps P a c hinv hl hTK
    have hfind : findDiff b.diffs (h + 1) = some (commitCache c.cache a.store {}).2 := by
      rw [hdiffs (h + 1) (by omega) (Nat.le_refl _), block_eq, ← hh]
      exact findDiff_putDiff _ _ _
    -- the database after the first revert of the loop
    have hb1 : C16SameMaps
        { b with store := applyStore b.store (batchOfDiff (commitCache c.cache a.store {}).2),
                 leaves := applyLeaves P.H b.leaves (batchOfDiff (commitCache c.cache a.store {}).2),
                 treeState := some (pred32 (h + 1), P.smtRoot (applyLeaves P.H b.leaves
                   (batchOfDiff (commitCache c.cache a.store {}).2))) } a := by
      constructor
      · intro k
        have := applyStore_congr (batchOfDiff (commitCache c.cache a.store {}).2) b.store
          (C16Block P a c).store hsame.store k
        rw [block_eq] at this
        exact this.trans (hrs k)
      · intro k
        have := applyLeaves_congr P.H (batchOfDiff (commitCache c.cache a.store {}).2) b.leaves
          (C16Block P a c).leaves hsame.leaves k
        rw [block_eq] at this
        exact this.trans (hrl k)
    have hd1 : ∀ i, h0 < i → i ≤ h → findDiff b.diffs i = findDiff a.diffs i := by
      intro i h1 h2
      rw [hdiffs i h1 (by omega), block_eq, findDiff_putDiff_eq, if_neg (by omega)]
    obtain ⟨b', hloop, hsame', hts'⟩ := ih (by omega) _ hb1 hd1
    have hn : h + 1 - h0 = (h - h0) + 1 := by omega
    refine ⟨b', ?_, hsame', ?_⟩
    · rw [hn]
      simp only [initLoop, revertAt, hfind, Option.isSome_none, Bool.false_and, Bool.false_eq_true,
        if_false, Nat.add_sub_cancel]
      exact hloop
    · intro _
      by_cases hlt : h0 < h
      · exact hts' hlt
      · have heq : h = h0 := by omega
        subst heq
        simp only [Nat.sub_self, initLoop, Prod.mk.injEq, Option.some.injEq] at hloop
        rw [← hloop.1]
        simp only [pred32_succ h hb]

/-- **Restart recovery rolls the application back to the engine's tip.**  Let the engine's tip be
the application database `a0` at height `h0` (its tree state records `h0` and the root of its tree;
a database without tree state stands for height 0 and the empty tree),
and let the application have executed and committed any further blocks `h0+1 … h` (the chain) before
the process stopped.  Then `Init` with the engine's tip `(h0, root of a0)` succeeds, and afterwards
every key of the state and every leaf of the tree hold what they held at the engine's tip, and
(when blocks were rolled back) the tree state records height `h0` with the root of that tree. -/
theorem C16_init_recovers_to_engine_tip (P : Params) (hTK : TreeKeyInj P.H)
    (hExt : C16SmtRootExt P.smtRoot) (a0 : App) (h0 : Nat) (a : App) (h : Nat)
    (hc : C16Chain P a0 h0 a h) (hleaf0 : LeafInv P.H a0.store a0.leaves)
    (hts0 : a0.treeState.getD (0, P.smtRoot []) = (h0, P.smtRoot a0.leaves)) (hb : h < 4294967296) :
    ∃ a', init P a h0 (P.smtRoot a0.leaves) = (a', true) ∧ C16SameMaps a' a0 ∧
      (h0 < h → a'.treeState = some (h0, P.smtRoot a0.leaves)) := by
  obtain ⟨_, hle, hts⟩ := chain_inv P hTK hc hleaf0 hts0
  obtain ⟨a', hloop, hsame, hts'⟩ := initLoop_chain P hTK hc hleaf0 hts0 hb a
    ⟨fun _ => rfl, fun _ => rfl⟩ (fun _ _ _ => rfl)
  have hroot : P.smtRoot a'.leaves = P.smtRoot a0.leaves := hExt _ _ hsame.leaves
  refine ⟨a', ?_, hsame, fun hlt => by rw [hts' hlt, hroot]⟩
  unfold init
  simp only [hts]
  rw [if_neg (by omega), hloop]
  simp [hroot]

/-! ### non-vacuity: concrete instances of the hypotheses and conclusions -/

private def exP : Params :=
  { H := fun b => b, smtRoot := fun l => (isort kvLE l).foldr (fun kv acc => kv.1 ++ kv.2 ++ acc) [] }

private theorem exTK : TreeKeyInj exP.H := by
  intro a b h
  simpa [treeKey, exP] using h

private def exK1 : Bytes := [0, 0, 0, 1, 0, 0, 1]
private def exK2 : Bytes := [0, 0, 0, 1, 0, 0, 2]
private def exK3 : Bytes := [0, 0, 0, 2, 0, 0]
private def exStore : Store := [(exK1, [10]), (exK2, [20])]
private def exSt : St := { store := exStore }

/-- sets, a delete, both kinds of events, a nested snapshot, then failure -/
private def exCmdFail : List Item :=
  [.set exK1 [11], .del exK2, .ev false 1 [1], .ev true 0 [2], .push, .set exK3 [5], .pop, .get exK1, .fail]
private def exCmdOk : List Item := exCmdFail.dropLast

-- the failing command did stage its writes before failing …
example : eff (runSection { st := (snapshot exSt).1, lg := createSnapshot (newLogger 7) } exCmdFail).1.st exK2 = none ∧
    eff (runSection { st := (snapshot exSt).1, lg := createSnapshot (newLogger 7) } exCmdFail).1.st exK1 = some [11] := by
  decide +kernel
-- … it fails (hypothesis of C16_failed_command_state_unchanged / _events / C16_failed_transaction) …
private theorem exFails : (commandPhase exSt (newLogger 7) exCmdFail).success = false := by decide +kernel
example : (commandPhase exSt (newLogger 7) exCmdFail).success = false := exFails
-- … and the transaction leaves the state alone and reports the unrevertible event and the failure
example : (executeTransaction exSt 7 { cmd := exCmdFail }).2 =
    (.fail, [{ module := "scr", name := "unr", data := [2], ntopics := 1, height := 7, index := 0 },
             C16StdEvent false 7 1]) := by rw [executeTransaction_eq]; decide +kernel
example : eff (executeTransaction exSt 7 { cmd := exCmdFail }).1 exK2 = some [20] :=
  (C16_failed_transaction exSt 7 exCmdFail exFails).2.1 exK2
-- the same command without the failure succeeds (hypothesis of C16_success_keeps_all) and keeps all
example : (commandPhase exSt (newLogger 7) exCmdOk).success = true := by decide +kernel
example : (executeTransaction exSt 7 { cmd := exCmdOk }).2.2.map (fun e => (e.name, e.index)) =
    [("rev", 0), ("unr", 1), ("read", 2), ("commandExecutionResult", 3)] := by
  rw [executeTransaction_eq]; decide +kernel
example : C16NoSnap [Item.set exK1 [11], .del exK2, .get exK3] := by simp [C16NoSnap]
-- a transaction with hooks around a failing command (C16_event_indices_consecutive)
example : (executeTransaction exSt 7 { pre := [.ev false 0 [9]], cmd := exCmdFail, post := [.ev true 2 []] }).2.2.map
    (fun e => (e.name, e.index)) = [("rev", 0), ("unr", 1), ("unr", 2), ("commandExecutionResult", 3)] := by
  rw [executeTransaction_eq]; decide +kernel

/-- a block over `exStore`: one key overwritten, one deleted, one added -/
private def exOverlay : St := run exSt [.set exK1 [11], .del exK2, .set exK3 [5]]
private def exCtx : Ctx := ctxOf { height := 4 } exOverlay
private def exApp : App :=
  { store := exStore, leaves := leavesOf exP.H exStore, treeState := some (3, exP.smtRoot (leavesOf exP.H exStore)),
    ctx := some exCtx }

private theorem exInv : C12Inv (stOf exApp exCtx) := by
  have h : stOf exApp exCtx = exOverlay := rfl
  rw [h]
  exact C12_cache_invariant exSt (C12_inv_init exStore (by unfold NoDupKeys exStore; decide)) _
example : C12Inv (stOf exApp exCtx) := exInv
example : LeafInv exP.H exApp.store exApp.leaves :=
  leafInv_leavesOf exTK exStore
-- the commit succeeds (hypothesis of C16_state_root_is_root_of_state / C16_revert_…), the deleted
-- key has no leaf, and reverting gives back the previous tree
example : (commit exP exApp none false).2.isSome = true := by decide +kernel
example : slookup (commit exP exApp none false).1.leaves (treeKey exP.H exK2) = none ∧
    slookup (commit exP exApp none false).1.leaves (treeKey exP.H exK3) = some [5] := by decide +kernel
example : (revert exP { (commit exP exApp none false).1 with ctx := some { height := 4 } } none).2 =
    some (exP.smtRoot exApp.leaves) := by decide +kernel
-- a chain of one block and the recovery from it (C16_init_recovers_to_engine_tip)
example : C16Chain exP { exApp with ctx := none } 3 (C16Block exP { exApp with ctx := none } exCtx) 4 :=
  C16Chain.block exCtx C16Chain.base rfl exInv
example : (init exP (C16Block exP { exApp with ctx := none } exCtx) 3 (exP.smtRoot exApp.leaves)).2 = true := by
  decide +kernel
-- a database that never committed a block is a valid engine tip at height 0
example : ({} : App).treeState.getD (0, exP.smtRoot []) = (0, exP.smtRoot ({} : App).leaves) := rfl
