/-
C04 — "the block ID served for every finalized height stays the same forever": the by-height lookups read the
database and the block cache, and nothing else.

Props/C04.lean proves for the node model that the header / id stored for every height <= finalized never changes.
What a user of the node (block sync, fast sync, `createSyncContext`, `deleteBlock`, the endpoints) sees is what
`DataAccess.GetBlockHeaderByHeight` & co. SERVE, and that is the stored block only as long as every in-memory
structure between the accessor and the database is kept in sync with the chain on EVERY path that changes the chain:
`Chain.AddBlock` (push), `Chain.RemoveBlock` pop path (`RemoveCache`) and `Chain.RemoveBlock` refill path
(`cache.replace`, taken when removals exhaust the block cache).

Part 1 (tie, regenerated by tools/compgen into Gen/CompState.lean on every run): `DataAccess` / `Chain` have exactly
today's fields, no method writes a field of `DataAccess`, the only container fields of package blockchain's
components are the two maps of `blockCache`, written by `push` / `pop` / `replace` only, and the method table of
`DataAccess` is today's (the accessors the harness oracle C04SERVED enumerates).  A header memo next to the block
cache is a new field (and a new writer) and breaks a named theorem here.

Part 2 (model, all histories): a by-height lookup that reads only (database, block cache) where the block cache is a
prefix of the chain (tip first) serves the block of the CURRENT chain after any history of add / remove (pop path and
refill path) for every cache size.

Part 3 (counterexample): the same lookup with a memo of database reads that is invalidated on the pop path but not
on the refill path serves the REMOVED block for a height of the new chain (cache 2, re-organisation of depth 4).
-/
import LiskVerif.Gen.CompState
import LiskVerif.Lemmas.StringChars

/- (This file deliberately imports only the generated table, not Props/C05_NoCache.lean: when the structure changes,
the named C04 theorems below are the ones that fail.  For the same reason the six query definitions below repeat those of
`LiskVerif.NoHidden` in Props/C05_NoCache.lean.) -/

namespace LiskVerif.C04NoCache

open LiskVerif.Gen.CompState

/-- (name, type, kind) of the fields of a struct, in declaration order -/
def fieldsOf (pkg strct : String) : List (String × String × String) :=
  (fields.filter (fun f => f.pkg == pkg && f.strct == strct)).map (fun f => (f.name, f.typ, f.kind))

/-- (function, field, how) of every write to a field of a component struct, in source order -/
def writesOf (pkg strct : String) : List (String × String × String) :=
  (writes.filter (fun w => w.pkg == pkg && w.strct == strct)).map (fun w => (w.fn, w.field, w.how))

/-- (function, field, value) of every composite-literal element of a component struct -/
def initsOf (pkg strct : String) : List (String × String × String) :=
  (inits.filter (fun i => i.pkg == pkg && i.strct == strct)).map (fun i => (i.fn, i.field, i.value))

def isPrefixL : List Char → List Char → Bool
  | [], _ => true
  | _ :: _, [] => false
  | a :: as, b :: bs => a == b && isPrefixL as bs

def containsL (needle : List Char) : List Char → Bool
  | [] => needle.isEmpty
  | c :: cs => isPrefixL needle (c :: cs) || containsL needle cs

/-- the type text mentions the name -/
def mentions (typ name : String) : Bool := containsL name.toList typ.toList

/-- chain operations of the toy node: apply a block (id), remove the tip, look a height up -/
inductive Op where
  | add (b : Nat)
  | remove
  | look (h : Nat)
deriving Repr, DecidableEq

/-- database = the chain (tip first), cache = what the block cache holds (tip first) -/
structure St where
  db : List Nat
  cache : List Nat
deriving Repr, DecidableEq

/-- `Chain.AddBlock`: the block is stored and pushed (the oldest entry is evicted when the cache is full) -/
def add (c : Nat) (s : St) (b : Nat) : St := { db := b :: s.db, cache := (b :: s.cache).take c }

/-- `Chain.RemoveBlock`: the tip is deleted from the database; one cached block left = refill path (`replace` with
the `c` blocks below), otherwise pop path -/
def remove (c : Nat) (s : St) : St :=
  if s.cache.length = 1 then { db := s.db.tail, cache := s.db.tail.take c }
  else { db := s.db.tail, cache := s.cache.tail }

/-- the block of the chain at a height (height 0 = last element) -/
def chainAt (db : List Nat) (h : Nat) : Option Nat := if h < db.length then db[db.length - 1 - h]? else none

/-- `GetBlockHeaderByHeight`: the cache if it holds the height, the database otherwise -/
def served (s : St) (h : Nat) : Option Nat :=
  if h < s.db.length then
    (if s.db.length - 1 - h < s.cache.length then s.cache[s.db.length - 1 - h]? else s.db[s.db.length - 1 - h]?)
  else none

def step (c : Nat) (s : St) : Op → St
  | .add b => add c s b
  | .remove => remove c s
  | .look _ => s

def run (c : Nat) (s : St) (ops : List Op) : St := ops.foldl (step c) s

/-- the cache is in sync with the chain: it is a prefix of it -/
def InSync (s : St) : Prop := ∃ t, s.db = s.cache ++ t

theorem inSync_step (c : Nat) (s : St) (o : Op) (h : InSync s) : InSync (step c s o) := by
  obtain ⟨t, ht⟩ := h
  cases o with
  | add b =>
    refine ⟨(b :: s.cache).drop c ++ t, ?_⟩
    simp only [step, add]
    rw [← List.append_assoc, List.take_append_drop, ht]
    rfl
  | remove =>
    simp only [step, remove]
    split
    · exact ⟨s.db.tail.drop c, (List.take_append_drop c s.db.tail).symm⟩
    · cases hc : s.cache with
      | nil => exact ⟨s.db.tail, by simp⟩
      | cons x cs =>
        refine ⟨t, ?_⟩
        simp only [List.tail_cons]
        rw [ht, hc]
        rfl
  | look _ => exact ⟨t, ht⟩

theorem inSync_run (c : Nat) (ops : List Op) (s : St) (h : InSync s) : InSync (run c s ops) :=
  List.foldlRecOn ops (step c) h fun s hs o _ => inSync_step c s o hs

theorem served_of_inSync (s : St) (h : InSync s) (k : Nat) : served s k = chainAt s.db k := by
  obtain ⟨t, ht⟩ := h
  unfold served chainAt
  split
  · split
    · rename_i _ hi
      rw [ht, List.getElem?_append_left (by rw [← ht]; exact hi)]
    · rfl
  · rfl

/-! ### the memo of the seeded shape -/

structure MSt where
  db : List Nat
  cache : List Nat
  memo : List (Nat × Nat)   -- height -> block id read from the database
deriving Repr, DecidableEq

/-- pop path: the memo entry of the removed height is dropped (`RemoveCache`); refill path: it is not -/
def mremove (c : Nat) (s : MSt) : MSt :=
  if s.cache.length = 1 then { s with db := s.db.tail, cache := s.db.tail.take c }
  else { db := s.db.tail, cache := s.cache.tail, memo := s.memo.filter (fun e => e.1 != s.db.length - 1) }

/-- the lookup with the memo: cache, then memo, then database (remembering the answer) -/
def mlook (s : MSt) (h : Nat) : MSt × Option Nat :=
  if h < s.db.length then
    (if s.db.length - 1 - h < s.cache.length then (s, s.cache[s.db.length - 1 - h]?)
     else match s.memo.lookup h with
       | some b => (s, some b)
       | none => match s.db[s.db.length - 1 - h]? with
         | some b => ({ s with memo := (h, b) :: s.memo }, some b)
         | none => (s, none))
  else match s.memo.lookup h with
    | some b => (s, some b)
    | none => (s, none)

def mstep (c : Nat) (s : MSt) : Op → MSt
  | .add b => { s with db := b :: s.db, cache := (b :: s.cache).take c }
  | .remove => mremove c s
  | .look h => (mlook s h).1

def mrun (c : Nat) (s : MSt) (ops : List Op) : MSt := ops.foldl (mstep c) s

/-- chain 10..15 (heights 0..5), cache 2; height 2 is looked up below the cache; four removals (pop 5, refill 4,
pop 3, refill 2); the better chain 22..25 -/
def deepReorg : List Op :=
  [.add 11, .add 12, .add 13, .add 14, .add 15, .look 2, .remove, .remove, .remove, .remove,
   .add 22, .add 23, .add 24, .add 25]

end LiskVerif.C04NoCache

open LiskVerif.Gen.CompState LiskVerif.C04NoCache

/-! ## Part 1: the regenerated tables -/

/-- **`DataAccess` and `Chain` have exactly today's fields**: a database handle, the block cache, configuration.  A
memo of headers (or of anything else) next to the block cache is a new field and breaks this theorem. -/
theorem C04_data_access_and_chain_fields_exact :
    fieldsOf "blockchain" "DataAccess" =
      [("database", "*db.DB", "pointer"), ("cache", "*blockCache", "pointer"), ("keepEventsForHeights", "int", "basic")] ∧
    fieldsOf "blockchain" "Chain" =
      [("maxTransactionsLength", "uint32", "basic"), ("maxBlockCache", "int", "basic"), ("chainID", "codec.Hex", "extern"),
       ("keepEventsForHeights", "int", "basic"), ("database", "*db.DB", "pointer"), ("dataAccess", "*DataAccess", "pointer"),
       ("genesisBlock", "*Block", "pointer")] := by decide +kernel

/-- **the (method, field) writers**: no method writes a field of `DataAccess`; `Chain` is written by `Chain.Init`
only; the constructor fills exactly the three fields. -/
theorem C04_data_access_and_chain_writers_exact :
    writesOf "blockchain" "DataAccess" = [] ∧
    writesOf "blockchain" "Chain" =
      [("Chain.Init", "database", "assign"), ("Chain.Init", "dataAccess", "assign"), ("Chain.Init", "genesisBlock", "assign")] ∧
    initsOf "blockchain" "DataAccess" =
      [("NewDataAccess", "database", "db"), ("NewDataAccess", "cache", "newBlockCache(maxCacheSize)"),
       ("NewDataAccess", "keepEventsForHeights", "keepEventsForHeights")] := by decide +kernel

/-- **the only containers below the by-height lookups are the two maps of the block cache**, and the block cache
(all of its fields) is written by `push`, `pop` and `replace` only — the three paths of Part 2. -/
theorem C04_block_cache_is_the_only_memory :
    ((fields.filter (fun f => f.pkg == "blockchain" &&
        (f.strct == "DataAccess" || f.strct == "Chain" || f.strct == "blockCache") &&
        !(f.kind == "basic" || f.kind == "pointer" || f.kind == "extern"))).map (fun f => (f.strct, f.name, f.kind))) =
      [("blockCache", "cachedBlocks", "map"), ("blockCache", "heightIndex", "map")] ∧
    ((writesOf "blockchain" "blockCache").map (fun w => w.1)).eraseDups =
      ["blockCache.push", "blockCache.pop", "blockCache.replace"] ∧
    ((fields.filter (fun f => f.pkg == "blockchain" && mentions f.typ "blockCache")).map (fun f => (f.strct, f.name))) =
      [("DataAccess", "cache")] := by
  simp only [mentions, LiskVerif.Strings.toList_eq_chars]
  decide +kernel

/-- **the accessors**: the method table of `DataAccess` and `Chain` (what the harness oracle C04SERVED enumerates;
a new by-height / by-id accessor shows here). -/
theorem C04_accessors_exact :
    ((methods.filter (fun m => m.pkg == "blockchain" && m.strct == "DataAccess")).map (fun m => m.name)) =
      ["CachedLastBlock", "Cache", "Cached", "RemoveCache", "GetBlockHeader", "GetBlockHeaders", "GetBlockHeadersByHeights",
       "GetBlockHeaderByHeight", "GetLastBlockHeader", "GetBlock", "GetLastBlock", "GetBlockByHeight", "GetBlocksBetweenHeight",
       "GetTransaction", "GetTransactions", "GetTempBlocks", "ClearTempBlocks", "GetEvents", "GetFinalizedHeight", "getBlock",
       "getBlockHeader", "getTransactions", "getBlockAssets", "getTransaction", "getLastBlock", "saveBlock", "removeBlock"] ∧
    ((methods.filter (fun m => m.pkg == "blockchain" && m.strct == "Chain")).map (fun m => m.name)) =
      ["Init", "LastBlock", "GetLastNBlocks", "ChainID", "MaxTransactionsLength", "DataAccess", "GenesisBlockExist", "AddBlock",
       "RemoveBlock", "PrepareCache"] := by decide +kernel

/-! ## Part 2: the lookup over (database, block cache) serves the current chain after any history -/

/-- **after ANY history of add / remove (pop path and refill path) / lookups, for every cache size, the by-height
lookup serves exactly the block of the current chain** (and nothing above the tip). -/
theorem C04_lookup_serves_current_chain (c g : Nat) (ops : List Op) (h : Nat) :
    served (run c { db := [g], cache := [g] } ops) h = chainAt (run c { db := [g], cache := [g] } ops).db h :=
  served_of_inSync _ (inSync_run c ops _ ⟨[], by simp⟩) h

/-- the same from any state in which the cache is in sync (e.g. after `PrepareCache` at a restart) -/
theorem C04_lookup_serves_current_chain_from (c : Nat) (s : St) (hs : InSync s) (ops : List Op) (h : Nat) :
    served (run c s ops) h = chainAt (run c s ops).db h :=
  served_of_inSync _ (inSync_run c ops s hs) h

/-- non-vacuity: on the deep re-organisation (two refills) the lookup serves the block of the better chain -/
example : served (run 2 { db := [10], cache := [10] } deepReorg) 2 = some 22 := by decide

example : (run 2 { db := [10], cache := [10] } deepReorg).db = [25, 24, 23, 22, 11, 10] := by decide

/-! ## Part 3: a memo invalidated on the pop path only -/

/-- **counterexample**: with a memo of database reads that `RemoveCache` (pop path) invalidates and the refill path
does not, the same history ends on the chain 10, 11, 22, 23, 24, 25 while height 2 is served with the REMOVED block 12:
the memo entry of height 2 survived because block 12 was removed on the refill path. -/
theorem C04_memo_not_invalidated_on_refill_counterexample :
    let s := mrun 2 { db := [10], cache := [10], memo := [] } deepReorg
    s.db = [25, 24, 23, 22, 11, 10] ∧ chainAt s.db 2 = some 22 ∧ (mlook s 2).2 = some 12 ∧
    -- right after the second refill the removed block is even served for a height above the tip
    (mlook (mrun 2 { db := [10], cache := [10], memo := [] } (deepReorg.take 10)) 2).2 = some 12 ∧
    chainAt (mrun 2 { db := [10], cache := [10], memo := [] } (deepReorg.take 10)).db 2 = none := by decide

/-- a re-organisation that stays within ONE refill does not show it (why shallow histories never expose the memo) -/
example : (mlook (mrun 2 { db := [10], cache := [10], memo := [] }
    [.add 11, .add 12, .add 13, .add 14, .add 15, .look 2, .look 3, .remove, .remove, .remove, .add 23, .add 24, .add 25]) 3).2
    = some 23 := by decide
