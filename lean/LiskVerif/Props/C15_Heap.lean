/-
C15 — the priority queue of `selectTransactionsByFee` (pkg/generator/generator.go: `heap.Init` of an empty
`FeePriorityTransactions`, one `heap.Push` per sender's lowest nonce, `heap.Pop` per round, `heap.Push` of the sender's
next transaction) on the PROVED transcription of `container/heap` (Model/GoHeap.lean, Props/C14_Heap.lean, tied to the
real package through the repository's heap types by LIBHEAP): the selection model (`Model/Generator.lean`) takes "a
candidate of maximal fee priority" each round — which is what the heap delivers for every history of pushes and pops.
The queue here holds `TxPool.Tx` ordered by `C14_feeMaxLess`; no theorem relates it to `Generator.IsMaxHead` /
`Generator.Run` (another transaction type): that the model's "maximal head" is the heap's pop is read off the Go code.
-/
import LiskVerif.Props.C14_Heap

open LiskVerif LiskVerif.GoHeap

/-- the queue the generator works on: pushes and pops starting from the empty heap -/
inductive C15_QOp where
  | push (x : TxPool.Tx)
  | pop

def C15_qstep (a : Array TxPool.Tx) : C15_QOp → Array TxPool.Tx
  | .push x => push C14_feeMaxLess a x
  | .pop => match pop C14_feeMaxLess a with
    | some (a', _) => a'
    | none => a            -- the generator pops only while a sender is left; an empty heap panics in Go

def C15_qrun (ops : List C15_QOp) : Array TxPool.Tx := ops.foldl C15_qstep #[]

/-- after ANY sequence of pushes and pops the array is a heap -/
theorem C15_heap_invariant_all_histories (ops : List C15_QOp) : isHeap C14_feeMaxLess (C15_qrun ops) = true := by
  have ho := C14_heap_max_order TxPool.Tx.prio
  have key : ∀ (ops : List C15_QOp) (a : Array TxPool.Tx), isHeap C14_feeMaxLess a = true →
      isHeap C14_feeMaxLess (ops.foldl C15_qstep a) = true := by
    intro ops
    induction ops with
    | nil => intro a h; exact h
    | cons o r ih =>
      intro a h
      apply ih
      cases o with
      | push x => exact C14_heap_push_isHeap _ ho.1 ho.2 a x h
      | pop =>
        simp only [C15_qstep]
        cases hp : pop C14_feeMaxLess a with
        | none => exact h
        | some r => exact C14_heap_pop_isHeap _ ho.1 ho.2 a r.1 r.2 h hp
  exact key ops #[] (by decide)

/-- every `heap.Pop` of the generator returns a transaction of MAXIMAL fee priority among those queued, and removes
exactly that one -/
theorem C15_heap_pop_is_max_priority (ops : List C15_QOp) (a' : Array TxPool.Tx) (x : TxPool.Tx)
    (h : pop C14_feeMaxLess (C15_qrun ops) = some (a', x)) :
    (∀ y ∈ (C15_qrun ops).toList, y.prio ≤ x.prio) ∧ (x :: a'.toList).Perm (C15_qrun ops).toList := by
  have := C14_heap_feeMax_pop_max (C15_qrun ops) a' x (C15_heap_invariant_all_histories ops) h
  exact ⟨this.1, this.2.1⟩

/-- Non-vacuity: four senders' transactions with priorities 2, 6, 4 and 4 (a tie) are queued; the pop delivers
priority 6. -/
example :
    (pop C14_feeMaxLess (C15_qrun [.push ⟨1, 1, 0, 10, 5⟩, .push ⟨2, 2, 0, 30, 5⟩, .push ⟨3, 3, 0, 20, 5⟩,
      .push ⟨4, 4, 0, 20, 5⟩])).map (·.2.prio) = some 6 := by decide
