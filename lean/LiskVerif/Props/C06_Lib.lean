/-
C06 (library part) — the helpers of `pkg/collection` behind the certificate code:
`bytes.FindIndex` (the position of a BLS key in the validator key list = the bit of the aggregation
bitmap, pkg/crypto/bls.go), `ints.Min` / `ints.Max` (height windows of certificates and BFT
votes) and `ints.Include` / `ints.Unique` / `ints.IsUnique`.  Model: `LiskVerif/Model/Collection.lean` (tied to the Go code by the LIBCOLL correspondence
harness).  Helper lemmas: `LiskVerif/Lemmas/Collection.lean`.
-/
import LiskVerif.Lemmas.Collection

open LiskVerif LiskVerif.Collection

/-! ### bytes.FindIndex -/

private theorem forall_not_equal_iff (keys : List Bytes) (k : Bytes) :
    (∀ x ∈ keys, bytesEqual x k = false) ↔ k ∉ keys :=
  ⟨fun h hk => of_decide_eq_false (h k hk) rfl, fun h _ hx => decide_eq_false fun e => h (e ▸ hx)⟩

/-- `FindIndex(keys, k)` is `-1` if `k` is not in the list, else the index of its FIRST occurrence. -/
theorem C06_lib_findIndex_spec (keys : List Bytes) (k : Bytes) :
    (bytesFindIndex keys k = -1 ∧ k ∉ keys) ∨
    (∃ i, ∃ hi : i < keys.length, bytesFindIndex keys k = (i : Int) ∧ keys[i] = k ∧
      ∀ j, ∀ hj : j < i, keys[j]'(by omega) ≠ k) :=
  (findIndex_spec keys (fun v => bytesEqual v k)).imp
    (fun h => ⟨h.1, (forall_not_equal_iff keys k).mp h.2⟩)
    (fun ⟨i, hi, h1, h2, h3⟩ => ⟨i, hi, h1, of_decide_eq_true h2, fun j hj => of_decide_eq_false (h3 j hj)⟩)

theorem C06_lib_findIndex_neg_iff (keys : List Bytes) (k : Bytes) :
    bytesFindIndex keys k = -1 ↔ k ∉ keys :=
  (findIndex_neg_iff keys (fun v => bytesEqual v k)).trans (forall_not_equal_iff keys k)

/-- a member is found at an index inside the list, and that index holds the key -/
theorem C06_lib_findIndex_mem (keys : List Bytes) (k : Bytes) (h : k ∈ keys) :
    ∃ i, ∃ hi : i < keys.length, bytesFindIndex keys k = (i : Int) ∧ keys[i] = k := by
  rcases C06_lib_findIndex_spec keys k with ⟨_, h2⟩ | ⟨i, hi, h1, h2, _⟩
  · exact absurd h h2
  · exact ⟨i, hi, h1, h2⟩

/-- Injective on members: two keys of the list with the same index are the same key, so two
different signers never set the same bit of the aggregation bitmap. -/
theorem C06_lib_findIndex_injective (keys : List Bytes) (a b : Bytes) (ha : a ∈ keys) (hb : b ∈ keys)
    (h : bytesFindIndex keys a = bytesFindIndex keys b) : a = b := by
  obtain ⟨i, hi, e1, e2⟩ := C06_lib_findIndex_mem keys a ha
  obtain ⟨j, hj, f1, f2⟩ := C06_lib_findIndex_mem keys b hb
  rw [e1, f1] at h
  have : i = j := by omega
  subst this
  rw [← e2, ← f2]

/-- In a duplicate-free key list every position is the index of its own key (the bitmap position
identifies the validator). -/
theorem C06_lib_findIndex_nodup (keys : List Bytes) (hn : keys.Nodup) (i : Nat) (hi : i < keys.length) :
    bytesFindIndex keys keys[i] = (i : Int) := by
  obtain ⟨j, hj, e1, e2⟩ := C06_lib_findIndex_mem keys keys[i] (List.getElem_mem hi)
  rw [e1]
  have hp := List.pairwise_iff_getElem.mp hn
  rcases Nat.lt_trichotomy j i with h | h | h
  · exact absurd e2 (hp j i hj hi h)
  · rw [h]
  · exact absurd e2.symm (hp i j hi hj h)

/-- With duplicates the later copies are never reported: a duplicated key maps to its first position. -/
theorem C06_lib_findIndex_duplicate : bytesFindIndex [[1], [2], [1]] [1] = 0 := by decide

/-! ### ints.Max / ints.Min -/

private theorem le_trans' (a b c : Int) (h1 : decide (a ≤ b) = true) (h2 : decide (b ≤ c) = true) :
    decide (a ≤ c) = true := by simp at *; omega
private theorem le_total' (a b : Int) : (decide (a ≤ b) || decide (b ≤ a)) = true := by
  simp; omega

/-- with zero arguments `Max` / `Min` panic -/
theorem C06_lib_max_empty : intsMax [] = .error .emptyArgs := rfl
theorem C06_lib_min_empty : intsMin [] = .error .emptyArgs := rfl

/-- For every argument count >= 1, `Max` returns an argument that is >= all arguments. -/
theorem C06_lib_max_spec (nums : List Int) (h : nums ≠ []) :
    ∃ m, intsMax nums = .ok m ∧ m ∈ nums ∧ ∀ x ∈ nums, x ≤ m := by
  -- `≥` is `≤` with the sides exchanged
  obtain ⟨m, r, hs, hm, hall⟩ :=
    isort_first _ (fun a b c h1 h2 => le_trans' c b a h2 h1) (fun a b => le_total' b a) nums h
  refine ⟨m, ?_, hm, fun y hy => by simpa using hall y hy⟩
  rw [intsMax, if_neg (mt List.length_eq_zero_iff.mp h), hs]

/-- For every argument count >= 1, `Min` returns an argument that is <= all arguments. -/
theorem C06_lib_min_spec (nums : List Int) (h : nums ≠ []) :
    ∃ m, intsMin nums = .ok m ∧ m ∈ nums ∧ ∀ x ∈ nums, m ≤ x := by
  obtain ⟨m, r, hs, hm, hall⟩ := isort_first _ le_trans' le_total' nums h
  refine ⟨m, ?_, hm, fun y hy => by simpa using hall y hy⟩
  rw [intsMin, if_neg (mt List.length_eq_zero_iff.mp h), hs]

/-- the value is determined by these two properties, so it does not depend on the (unstable) sort
algorithm used -/
theorem C06_lib_max_unique (nums : List Int) (m m' : Int) (h1 : m ∈ nums) (h2 : ∀ x ∈ nums, x ≤ m)
    (h1' : m' ∈ nums) (h2' : ∀ x ∈ nums, x ≤ m') : m = m' := by
  have := h2 m' h1'; have := h2' m h1; omega

theorem C06_lib_max_pair (a b : Int) : intsMax [a, b] = .ok (if a ≥ b then a else b) := by
  obtain ⟨m, e, hm, hall⟩ := C06_lib_max_spec [a, b] (by simp)
  rw [e]; congr 1
  have h1 := hall a (by simp); have h2 := hall b (by simp)
  simp at hm
  split <;> omega

theorem C06_lib_min_pair (a b : Int) : intsMin [a, b] = .ok (if a ≤ b then a else b) := by
  obtain ⟨m, e, hm, hall⟩ := C06_lib_min_spec [a, b] (by simp)
  rw [e]; congr 1
  have h1 := hall a (by simp); have h2 := hall b (by simp)
  simp at hm
  split <;> omega

/-- a function of the argument list that panics on `[]` and returns on every other list panics
exactly on `[]` -/
private theorem panics_iff_nil {f : List Int → R Int} (h0 : ∃ e, f [] = .error e)
    (h1 : ∀ l, l ≠ [] → ∃ m, f l = .ok m) (l : List Int) : (∃ e, f l = .error e) ↔ l = [] := by
  constructor
  · rintro ⟨e, he⟩
    apply Classical.byContradiction; intro hne
    obtain ⟨m, hm⟩ := h1 l hne
    rw [hm] at he; cases he
  · rintro rfl; exact h0

/-- the panic is exactly the empty argument list -/
theorem C06_lib_max_panics_iff (nums : List Int) : (∃ e, intsMax nums = .error e) ↔ nums = [] :=
  panics_iff_nil ⟨_, rfl⟩ (fun l h => (C06_lib_max_spec l h).imp fun _ h => h.1) nums

theorem C06_lib_min_panics_iff (nums : List Int) : (∃ e, intsMin nums = .error e) ↔ nums = [] :=
  panics_iff_nil ⟨_, rfl⟩ (fun l h => (C06_lib_min_spec l h).imp fun _ h => h.1) nums

/-! ### ints.Include / ints.Unique / ints.IsUnique -/

theorem C06_lib_include_iff (l : List Int) (t : Int) : intsInclude l t = true ↔ t ∈ l := by
  induction l with
  | nil => simp [intsInclude]
  | cons v r ih =>
    simp only [intsInclude, List.mem_cons]
    by_cases h : v = t
    · simp [h]
    · have : ¬ t = v := fun e => h e.symm
      simp [h, this, ih]

theorem C06_lib_intsUnique_spec (l : List Int) : IsUniqueOf l (intsUnique l) :=
  isUniqueOf_isort_dedup _ l

theorem C06_lib_intsIsUnique_iff (l : List Int) : intsIsUnique l = true ↔ l.Nodup :=
  isort_dedup_length_beq _ l

/-! ### non-vacuity -/

example : bytesFindIndex [[1], [2], [3]] [2] = 1 := by decide
example : bytesFindIndex [[1], [2], [3]] [4] = -1 := by decide
example : bytesFindIndex [[1], [2], [3]] [3] = 2 :=
  C06_lib_findIndex_nodup [[1], [2], [3]] (by decide) 2 (by decide)
example : intsMax [3, -4, 9, 9, 0] = .ok 9 := by decide
example : intsMin [3, -4, 9, -4, 0] = .ok (-4) := by decide
example : intsMax [5] = .ok 5 := by decide
example : intsMin [] = .error .emptyArgs := by decide
example : intsUnique [3, 1, 3, 1] = [1, 3] := by decide
