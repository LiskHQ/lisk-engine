/-
C06 — Block certificates: the single-commit pool and the bitmap.

Over `LiskVerif.Model.Cert` (model of pkg/consensus/certificate.go, certificate/pool.go, pkg/crypto/bls.go, with the
changes of fixes/C06-*.patch applied), for ALL states, pools and message lists. The pool invariant `PoolInv ctx chainId`
says every entry is a commit for SOME block (of any fork), signed by a validator active at that block's height with a
valid signature over the block's certificate, and there is one entry per (block id, signer). It does not mention the
chain state: block ids commit to the whole history of their block, so the invariant survives new blocks, deleted
blocks and reorganisations unchanged; the chain state enters only through `Consistent st ctx` when an operation
verifies a commit against the current chain. Everything that changes the pool preserves it; only verified commits
enter; the gossip validator never returns `accept`. The length guard of `BLSVerifyWeightedAggSig`
(fixes/C06-*.patch) keeps the unchecked `Bits.read` loop in range; without it a short bitmap panics.
-/
import LiskVerif.Lemmas.CertPool

open LiskVerif LiskVerif.Cert

/-! ### example state -/

/-- chain id 1, blocks of heights 0..10 (id = height), one parameter set from height 0 with the
validators (address 7, key 70) and (address 8, key 80) -/
def C06exState : State :=
  { chainId := 1
    blockAt := fun h => if h ≤ 10 then some ⟨h, 0⟩ else none
    params := [(0, ⟨[⟨7, 70, 1⟩, ⟨8, 80, 1⟩], 2⟩)]
    mhpc := 5
    mhc := 0 }

/-- a valid single commit of validator 7 for height 3 -/
def C06exMsg : Incoming := ⟨true, 3, 3, 7, sign 70 ⟨1, 3⟩⟩

/-- the block context of the example chain (block id = height, one parameter set) -/
def C06exCtx : BlockCtx := fun b => if b ≤ 10 then some (b, ⟨[⟨7, 70, 1⟩, ⟨8, 80, 1⟩], 2⟩) else none

theorem C06_exState_consistent : Consistent C06exState C06exCtx := by
  intro h hd hb
  have hp : getParams C06exState.params h = some ⟨[⟨7, 70, 1⟩, ⟨8, 80, 1⟩], 2⟩ := by
    simp [getParams, getParamsEntry, C06exState]
  by_cases hle : h ≤ 10
  · cases (if_pos hle).symm.trans hb
    rw [hp, show C06exCtx h = _ from if_pos hle]
    exact ⟨fun p h1 => by cases h1; rfl, fun _ p h1 => by cases h1; rfl⟩
  · cases (if_neg hle).symm.trans hb

theorem C06_empty_pool_inv (ctx : BlockCtx) (chainId : Nat) : PoolInv ctx chainId Pool.empty :=
  ⟨fun _ hc => by simp [Pool.all, Pool.empty] at hc, by simp [Pool.all, Pool.empty]⟩

/-! ### singleCommitValidator -/

/-- **Only verified commits enter the pool**: every entry after the validator ran was there before or
is the commit of a well-formed message, signed by a validator active at its height over the
certificate of the node's own block at that height. -/
theorem C06_pool_only_verified_enter (st : State) (pool : Pool) (msgs : List Incoming) :
    ∀ c ∈ (singleCommitValidator st pool msgs).1.all,
      c ∈ pool.all ∨ (VerifiedOnChain st c ∧ ∃ m ∈ msgs, m.wf = true ∧ c = m.commit) :=
  (scv_adds (fun m hm hv hw => ⟨hv, m, hm, hw, rfl⟩) pool).mem

/-- **The gossip validator preserves the pool invariant**: what it adds is verified against the chain,
and it adds nothing `Pool.has` finds. -/
theorem C06_pool_invariant_validator (st : State) (ctx : BlockCtx) (pool : Pool) (msgs : List Incoming)
    (hc : Consistent st ctx) (h : PoolInv ctx st.chainId pool) :
    PoolInv ctx st.chainId (singleCommitValidator st pool msgs).1 :=
  (scv_adds (fun _ _ hv _ => hv.entryOk hc) pool).poolInv h

example : (singleCommitValidator C06exState Pool.empty [C06exMsg, C06exMsg]).1.all = [C06exMsg.commit] := by
  decide

/-- a commit with a wrong signature (here), for a foreign block id or of a non-validator (next example) does not
enter; the valid one of the same message list does -/
example : (singleCommitValidator C06exState Pool.empty
    [⟨true, 3, 3, 7, sign 80 ⟨1, 3⟩⟩]).1.all = [] := by decide

example : (singleCommitValidator C06exState Pool.empty
    [⟨true, 4, 3, 7, sign 70 ⟨1, 4⟩⟩, C06exMsg, ⟨true, 3, 3, 9, sign 70 ⟨1, 3⟩⟩]).1.all = [C06exMsg.commit] := by
  decide

/-- **The gossip validator never returns `accept`** (single commits are not re-gossiped by pubsub; the
node forwards them itself in `broadcastCertificate`). -/
theorem C06_validator_never_accepts (st : State) (pool : Pool) (msgs : List Incoming) :
    (singleCommitValidator st pool msgs).2 ≠ .accept := by
  induction msgs generalizing pool with
  | nil => simp [singleCommitValidator]
  | cons m r ih =>
    rw [scv_step]
    have h2 := (scvOne_spec st pool m).2
    split
    · exact ih _
    · rename_i v hv
      intro hh
      simp only at hh
      rw [hh] at hv
      exact h2 hv

example : (singleCommitValidator C06exState Pool.empty [C06exMsg]).2 = .ignore := by decide
example : (singleCommitValidator C06exState Pool.empty [C06exMsg, ⟨true, 3, 3, 7, .garbage⟩]).2 = .ignore := by
  decide

example : (singleCommitValidator C06exState Pool.empty [C06exMsg, ⟨true, 3, 3, 8, .garbage⟩]).2 = .reject := by
  decide

/-! ### Certify -/

/-- **Only commits of the node's own active validator enter through `Certify`**: a new entry is signed
by `addr` with the supplied key over the certificate of the node's own block at a height in
`[frm, to]` (more precisely in `(frm, to]`, or `to` itself) at which `addr` is an active validator; it
is flagged internal, and its height is `to` or a height whose successor starts new BFT parameters. -/
theorem C06_certify_only_active_enter (st : State) (pool : Pool) (frm to addr sk : Nat) :
    ∀ c ∈ (certify st pool frm to addr sk).1.all, c ∈ pool.all ∨
      (c.signer = addr ∧ frm ≤ c.height ∧ c.height ≤ to ∧ (frm < c.height ∨ c.height = to) ∧
        (c.height = to ∨ existParams st.params (c.height + 1) = true) ∧ c.internal = true ∧
        ∃ hd p v, st.blockAt c.height = some hd ∧ hd.id = c.block ∧
          getParams st.params c.height = some p ∧ findValidator p.validators addr = some v ∧
          c.sig = sign sk (certMsg st hd)) :=
  (certify_adds (fun _ ⟨h1, h2, h3⟩ hle hh => hh.elim
    (fun ⟨a, b, e⟩ => ⟨h1, Nat.le_of_lt a, b, .inl a, .inr e, h2, h3⟩)
    (fun e => ⟨h1, e ▸ hle, Nat.le_of_eq e, .inr e, .inl e, h2, h3⟩)) pool).mem

/-- **`Certify` preserves the pool invariant** when the supplied BLS key is the one registered for the
address. -/
theorem C06_pool_invariant_certify (st : State) (ctx : BlockCtx) (pool : Pool) (frm to addr sk : Nat)
    (hc : Consistent st ctx)
    (hkey : ∀ h p v, getParams st.params h = some p → findValidator p.validators addr = some v → v.key = sk)
    (h : PoolInv ctx st.chainId pool) : PoolInv ctx st.chainId (certify st pool frm to addr sk).1 :=
  (certify_adds (fun _ hv _ _ => (CertEntry.verified hkey hv).entryOk hc) pool).poolInv h

example : (certify C06exState Pool.empty 3 4 7 70).1.all = [⟨4, 4, 7, sign 70 ⟨1, 4⟩, true⟩] ∧
    (certify C06exState (certify C06exState Pool.empty 3 4 7 70).1 3 4 7 70).1.all =
      [⟨4, 4, 7, sign 70 ⟨1, 4⟩, true⟩] := by decide

/-- an address that is not an active validator creates nothing -/
example : (certify C06exState Pool.empty 3 4 9 70).1.all = [] := by decide

/-! ### pool operations -/

theorem C06_pool_invariant_cleanup (ctx : BlockCtx) (chainId : Nat) (pool : Pool) (keep : Nat → Bool)
    (h : PoolInv ctx chainId pool) : PoolInv ctx chainId (pool.cleanup keep) :=
  h.of_sublist (cleanup_sublist pool keep)

/-- `Select` sorts one or both lists in place (the first exit leaves the gossiped list as it is) -/
theorem C06_pool_invariant_select (ctx : BlockCtx) (chainId : Nat) (pool : Pool) (mhpc limit : Nat)
    (h : PoolInv ctx chainId pool) : PoolInv ctx chainId (pool.select mhpc limit).1 :=
  h.of_perm (select_perm pool mhpc limit)

theorem C06_pool_invariant_upgrade (ctx : BlockCtx) (chainId : Nat) (pool : Pool) (sel : List Commit)
    (h : PoolInv ctx chainId pool) : PoolInv ctx chainId (pool.upgrade sel) :=
  h.of_perm (upgrade_perm pool sel)

theorem C06_pool_invariant_broadcastCleanup (st : State) (ctx : BlockCtx) (chainId : Nat) (pool pool' : Pool)
    (h : PoolInv ctx chainId pool) (hb : broadcastCleanup st pool = some pool') : PoolInv ctx chainId pool' := by
  unfold broadcastCleanup at hb
  split at hb
  · simp at hb
  · simp only [Option.some.injEq] at hb
    rw [← hb]
    exact C06_pool_invariant_cleanup ctx chainId pool _ h

/-- **All pool operations preserve the invariant.** -/
theorem C06_pool_invariant_poolops (st : State) (ctx : BlockCtx) (chainId : Nat) (pool : Pool)
    (h : PoolInv ctx chainId pool) :
    (∀ keep, PoolInv ctx chainId (pool.cleanup keep)) ∧
    (∀ mhpc limit, PoolInv ctx chainId (pool.select mhpc limit).1) ∧
    (∀ sel, PoolInv ctx chainId (pool.upgrade sel)) ∧
    (∀ pool', broadcastCleanup st pool = some pool' → PoolInv ctx chainId pool') :=
  ⟨fun keep => C06_pool_invariant_cleanup ctx chainId pool keep h,
   fun mhpc limit => C06_pool_invariant_select ctx chainId pool mhpc limit h,
   fun sel => C06_pool_invariant_upgrade ctx chainId pool sel h,
   fun pool' hb => C06_pool_invariant_broadcastCleanup st ctx chainId pool pool' h hb⟩

/-- the membership facts behind the preservation: nothing is added by the pool operations, and
`Select` / `Upgrade` lose nothing -/
theorem C06_poolops_entries (pool : Pool) :
    (∀ keep, (pool.cleanup keep).all.Sublist pool.all) ∧
    (∀ mhpc limit, pool.all.Perm (pool.select mhpc limit).1.all) ∧
    (∀ sel, pool.all.Perm (pool.upgrade sel).all) :=
  ⟨cleanup_sublist pool, select_perm pool, upgrade_perm pool⟩

/-- a pool with two entries satisfying the invariant -/
def C06exPool : Pool := (singleCommitValidator C06exState (certify C06exState Pool.empty 3 4 7 70).1 [C06exMsg]).1

example : PoolInv C06exCtx C06exState.chainId C06exPool :=
  C06_pool_invariant_validator _ _ _ _ C06_exState_consistent
    (C06_pool_invariant_certify _ _ _ 3 4 7 70 C06_exState_consistent (by
      intro h p v hp hv
      have : p = ⟨[⟨7, 70, 1⟩, ⟨8, 80, 1⟩], 2⟩ := by
        simp [getParams, getParamsEntry, C06exState] at hp
        exact hp.symm
      subst this
      simp [findValidator] at hv
      rw [← hv]) (C06_empty_pool_inv _ _))

example : C06exPool.all = [⟨4, 4, 7, sign 70 ⟨1, 4⟩, true⟩, C06exMsg.commit] ∧
    (C06exPool.select 5 10).1.all = [C06exMsg.commit, ⟨4, 4, 7, sign 70 ⟨1, 4⟩, true⟩] ∧
    (C06exPool.upgrade [C06exMsg.commit]).all = [C06exMsg.commit, ⟨4, 4, 7, sign 70 ⟨1, 4⟩, true⟩] ∧
    (C06exPool.upgrade [C06exMsg.commit]).gossiped = [C06exMsg.commit] ∧
    (C06exPool.cleanup (fun h => decide (h > 3))).all = [⟨4, 4, 7, sign 70 ⟨1, 4⟩, true⟩] ∧
    (broadcastCleanup C06exState C06exPool).map Pool.all = some [⟨4, 4, 7, sign 70 ⟨1, 4⟩, true⟩, C06exMsg.commit] := by
  decide

/-! ### bitmaps -/

/-- the unchecked `Bits.read` loop started at bit `i` stays in range when the bitmap has at least
`i + len(keys)` bits and there are at least as many weights as keys -/
theorem C06_bits_read_in_range_at (keys weights : List Nat) (bits : Bits) (i : Nat)
    (hw : keys.length ≤ weights.length) (hl : i + keys.length ≤ bits.length) :
    scanBits bits i keys weights = some (selectedKW keys weights (bits.drop i)) := by
  induction keys generalizing weights i with
  | nil => cases weights <;> simp [scanBits, selectedKW]
  | cons k ks ih =>
    cases weights with
    | nil => simp at hw
    | cons w ws =>
      simp only [List.length_cons] at hw hl
      have hi : i < bits.length := by omega
      rw [scanBits, ih ws (i + 1) (by omega) (by omega)]
      simp only [readBit, List.getElem?_eq_getElem hi]
      rw [List.drop_eq_getElem_cons hi, selectedKW]

/-- **With the length guard (fixes/C06-*.patch) the `Bits.read` loop never reads out of range** and computes
the key/weight selection used by `verifyWeighted`. -/
theorem C06_bits_read_in_range (keys weights : List Nat) (bits : Bits)
    (hl : bits.length = 8 * byteLen keys.length) (hw : weights.length = keys.length) :
    scanBits bits 0 keys weights = some (selectedKW keys weights bits) := by
  have := C06_bits_read_in_range_at keys weights bits 0 (by omega) (by have := le_byteLen keys.length; omega)
  simpa using this

example : scanBits [true, false, true, false, false, false, false, false] 0 [70, 80, 90] [1, 2, 3] =
    some [(70, 1), (90, 3)] := by decide

/-- the loop started at an in-range bit `i` with fewer than `len(keys)` bits left reads out of range
(or runs out of weights) -/
theorem C06_bits_short_bitmap_panics_at (keys weights : List Nat) (bits : Bits) (i : Nat)
    (hi : i ≤ bits.length) (hs : bits.length < i + keys.length) :
    scanBits bits i keys weights = none := by
  induction keys generalizing weights i with
  | nil => simp at hs; omega
  | cons k ks ih =>
    cases weights with
    | nil => rw [scanBits]
    | cons w ws =>
      simp only [List.length_cons] at hs
      rw [scanBits]
      cases hr : readBit bits i with
      | none => rfl
      | some b =>
        have hi : i < bits.length := (List.getElem?_eq_some_iff.mp hr).1
        rw [ih ws (i + 1) (by omega) (by omega)]

/-- **Without the length guard a bitmap shorter than the key list makes `Bits.read` panic** (the
`BLSVerifyWeightedAggSig` of /repo does not compare the bitmap length with the number of keys). -/
theorem C06_bits_short_bitmap_panics (keys weights : List Nat) (bits : Bits)
    (hw : keys.length ≤ weights.length) (hs : bits.length < keys.length) :
    scanBits bits 0 keys weights = none := by
  have _ := hw
  exact C06_bits_short_bitmap_panics_at keys weights bits 0 (Nat.zero_le _) (by omega)

example : scanBits [true, false, true, false, false, false, false, false] 0
    [1, 2, 3, 4, 5, 6, 7, 8, 9] [1, 1, 1, 1, 1, 1, 1, 1, 1] = none := by decide

/-- the length guard rejects that bitmap instead -/
example : verifyWeighted [1, 2, 3, 4, 5, 6, 7, 8, 9] [true, false, true, false, false, false, false, false]
    (.agg [1, 3] ⟨1, 1⟩) [1, 1, 1, 1, 1, 1, 1, 1, 1] 2 ⟨1, 1⟩ = false := by decide

/-- **Bits → bytes → bits round trip** for bitmaps of whole bytes. -/
theorem C06_bits_bytes_roundtrip (b : Bits) (h : b.length % 8 = 0) : Bits.ofBytes (Bits.toBytes b) = b :=
  bits_roundtrip_aux (b.length / 8) b (by omega)

example : Bits.toBytes [true, false, true, false, false, false, false, false, false, true, false, false,
    false, false, false, true] = [5, 130] := by decide

/-- **The bitmap of `n` bytes has `8 n` bits.** -/
theorem C06_bits_length (bs : Bytes) : (Bits.ofBytes bs).length = 8 * bs.length :=
  length_ofBytes bs

example : Bits.ofBytes [5, 130] = [true, false, true, false, false, false, false, false, false, true, false,
    false, false, false, false, true] := by decide

/-- the per-byte round trip behind `C06_bits_bytes_roundtrip` (all 256 bytes) -/
theorem C06_byte_roundtrip (b0 b1 b2 b3 b4 b5 b6 b7 : Bool) :
    bitsOfByte (byteOfBits [b0, b1, b2, b3, b4, b5, b6, b7]) = [b0, b1, b2, b3, b4, b5, b6, b7] :=
  byte_roundtrip b0 b1 b2 b3 b4 b5 b6 b7

/-- **C06_pool_invariant.**  The pool invariant (every entry is a commit for some block, of any fork, by a
validator active at that block's height whose signature verifies for that block's certificate; at most one entry
per (block id, signer)) holds for the empty pool and is preserved by the gossip validator
`singleCommitValidator` (any message), by `Certify` (when the supplied key is the registered one) and
by `Cleanup`, `Select` and `Upgrade`; the gossip validator lets only verified commits of active validators enter.
(That it never returns `accept` is `C06_validator_never_accepts`.) -/
theorem C06_pool_invariant (st : State) (ctx : BlockCtx) (hc : Consistent st ctx) :
    PoolInv ctx st.chainId Pool.empty ∧
    (∀ pool msgs, PoolInv ctx st.chainId pool → PoolInv ctx st.chainId (singleCommitValidator st pool msgs).1) ∧
    (∀ pool msgs, ∀ c ∈ (singleCommitValidator st pool msgs).1.all,
      c ∈ pool.all ∨ (VerifiedOnChain st c ∧ ∃ m ∈ msgs, m.wf = true ∧ c = m.commit)) ∧
    (∀ pool frm to addr sk,
      (∀ h p v, getParams st.params h = some p → findValidator p.validators addr = some v → v.key = sk) →
      PoolInv ctx st.chainId pool → PoolInv ctx st.chainId (certify st pool frm to addr sk).1) ∧
    (∀ pool, PoolInv ctx st.chainId pool →
      (∀ keep, PoolInv ctx st.chainId (pool.cleanup keep)) ∧
      (∀ mhpc limit, PoolInv ctx st.chainId (pool.select mhpc limit).1) ∧
      (∀ sel, PoolInv ctx st.chainId (pool.upgrade sel))) :=
  ⟨C06_empty_pool_inv ctx st.chainId,
   fun pool msgs h => C06_pool_invariant_validator st ctx pool msgs hc h,
   fun pool msgs => C06_pool_only_verified_enter st pool msgs,
   fun pool frm to addr sk hk h => C06_pool_invariant_certify st ctx pool frm to addr sk hc hk h,
   fun pool h => ⟨fun keep => C06_pool_invariant_cleanup ctx st.chainId pool keep h,
     fun mhpc limit => C06_pool_invariant_select ctx st.chainId pool mhpc limit h,
     fun sel => C06_pool_invariant_upgrade ctx st.chainId pool sel h⟩⟩
