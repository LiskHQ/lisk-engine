/-
C11 — Regular Merkle tree, continued: the statements that `Props/C11.lean` keeps as `*_Statement`.

Helper lemmas under `LiskVerif/Lemmas/`: `RMTLayers` (exact layer structure, aligned blocks and where they are
stored), `RMTStore` (the node store as the set of proper aligned blocks), `RMTWitness` (right witness),
`RMTSpec` (the layer-by-layer specification `calcSpec` / `sibSpec` of a proof for several leaves), `RMTCalc` /
`RMTGenerate` (`calculatePathNodes` / `getSiblingHashes` compute it), `RMTMore` (`Update`).

Proved in full (the `*_Statement` of `Props/C11.lean`):
* `C11_store : C11_store_Statement` — `Append` keeps the node store exact;
* `C11_update_via_proof : C11_update_via_proof_Statement` — `Update` through a proof gives (root, append
  path, size) of the modified list, for any duplicate-free list of positions (`C11_update_via_proof_single`:
  one position);
* `C11_proof_sound_multi : C11_proof_sound_multi_Statement` — an accepted proof for distinct leaf indexes
  shows that every query is the hash of the leaf at its index (branch hash injective).
Also: `C11_append_total` — `Append` never fails on a tree built by appends, so every list of leaves builds a
tree; `C11_built` — the invariant of such trees.

False as written, with the corrected statements:
* `C11_right_witness_Statement_false` (for `2^64 + 1` leaves `CalculateRootFromRightWitness` runs out of its
  64 layers) and `C11_right_witness_bounded_partial` (every split point, at most `2^63` leaves);
* `C11_proof_complete_Statement_false` (for `2^29 + 1` leaves the 32-bit index parser fails and
  `GenerateProof` returns an error) and `C11_proof_complete_sets_partial` (any duplicate-free list of leaf
  hashes in any order; extra hypotheses: height at most 30 and no branch hash equals a leaf hash — without
  the second one the `hash -> location` index may return an inner node for a queried leaf hash;
  `C11_proof_complete_single_partial`: one query).
-/
import LiskVerif.Props.C11
import LiskVerif.Lemmas.RMTWitness
import LiskVerif.Lemmas.RMTMore

open LiskVerif LiskVerif.RMT

/-! ### trees built by appends -/

/-- what is known about a tree built by appends over the leaf hashes `L`: (root, append path, size)
follow the binary counter of perfect subtrees, every proper block is stored at its location, and the
`hash -> location` index holds every leaf hash at its position and otherwise branch hashes only (`h2l`) -/
structure C11.Built (hf : HashFns) (t : Tree) (L : List Bytes) : Prop where
  root : t.core.root = rootH hf L
  path : t.core.path = peaks hf L
  size : t.core.size = L.length
  stored : Stored hf t L
  h2l : H2L hf t L

/-- a run of appends on a tree that satisfies `C11.Built`: no append fails, and the result satisfies it for the
longer list -/
private theorem appendTreeAll_run (hf : HashFns) : ∀ (data : List Bytes) (t : Tree) (L : List Bytes),
    C11.Built hf t L →
    ∃ t', C11.appendTreeAll hf t data = some t' ∧ C11.Built hf t' (L ++ data.map hf.leaf) := by
  intro data
  induction data with
  | nil => intro t L hb; exact ⟨t, rfl, by simpa using hb⟩
  | cons v vs ih =>
    intro t L hb
    have hcore : t.core = ⟨rootH hf L, peaks hf L, L.length⟩ := by rw [← hb.root, ← hb.path, ← hb.size]
    obtain ⟨hok, h1, h2⟩ := append_stored hf t L v hcore hb.stored
    obtain ⟨t', e, hb'⟩ := ih _ _
      ⟨by rw [h1], by rw [h1], by rw [h1]; simp, h2, append_h2l hf t L v hb.h2l hb.size⟩
    exact ⟨t', by simp only [C11.appendTreeAll, hok, if_true]; exact e, by simpa using hb'⟩

private theorem appendTreeAll_empty (hf : HashFns) (data : List Bytes) :
    ∃ t, C11.appendTreeAll hf (emptyTree hf) data = some t ∧ C11.Built hf t (data.map hf.leaf) := by
  have := appendTreeAll_run hf data (emptyTree hf) []
    ⟨(rootH_nil hf).symm, (peaks_nil hf).symm, rfl,
      fun layer k hp => by have := proper_lt hp; simp at this,
      ⟨fun x loc hm => by simp [emptyTree] at hm, fun k x hk => by simp at hk⟩⟩
  simpa using this

/-- Every tree built by appends from the empty tree satisfies `C11.Built`. -/
theorem C11_built (hf : HashFns) (data : List Bytes) (t : Tree)
    (h : C11.appendTreeAll hf (emptyTree hf) data = some t) : C11.Built hf t (data.map hf.leaf) := by
  obtain ⟨t', h', hb⟩ := appendTreeAll_empty hf data
  rw [h, Option.some.injEq] at h'
  exact h' ▸ hb

/-- `Append` never returns an error on a tree built by appends: every list of leaves builds a tree
(so the hypothesis `C11.appendTreeAll hf (emptyTree hf) data = some t` of the theorems below is
satisfied by exactly one `t` for every `data`). -/
theorem C11_append_total (hf : HashFns) (data : List Bytes) :
    ∃ t, C11.appendTreeAll hf (emptyTree hf) data = some t :=
  let ⟨t, h, _⟩ := appendTreeAll_empty hf data
  ⟨t, h⟩

/-! ### the node store -/

/-- `Append` keeps the node store exact: after any run of successful appends every node of the
LIP-0031 tree over the current leaves is stored at the location the implementation assigns to it
(the newest entry of the `location -> hash` index at that location is the node's hash). -/
theorem C11_store : C11_store_Statement := by
  intro hf data t h e he
  have hb := C11_built hf data t h
  by_cases hnil : data.map hf.leaf = []
  · rw [hnil, nodeList] at he; cases he
  · obtain ⟨layer, k, h1, h2, h3⟩ := nodeList_proper hf (data.map hf.leaf) hnil e he
    rw [h3, ← Stored_iff.1 hb.stored layer k h2, h1]

/-- non-vacuity: a tree of five leaves is built by appends (so its 9 nodes are stored) -/
example : ∃ t, C11.appendTreeAll C11.pairHash (emptyTree C11.pairHash) [[1], [2], [3], [4], [5]] = some t ∧
    (nodeList C11.pairHash ([[1], [2], [3], [4], [5]].map C11.pairHash.leaf) 0).length = 9 := by
  decide +kernel

/-! ### right witness -/

/-- Every split point: the append path of the first `i` leaves and the right witness generated by the
full tree reconstruct the root. The bound on the size is needed: `CalculateRootFromRightWitness`
works on 64 layers with `uint64` arithmetic (for `2^64 + 1` leaves and `i = 3` it returns an error:
`C11_right_witness_Statement_false` below). Extra hypothesis: `data.length ≤ 2^63`. -/
theorem C11_right_witness_bounded_partial (hf : HashFns) (data : List Bytes) (t : Tree) (i : Nat)
    (h : C11.appendTreeAll hf (emptyTree hf) data = some t) (hi : i ≤ data.length)
    (hbound : data.length ≤ 2 ^ 63) :
    ∃ w, genWitness t i = some w ∧
      rootFromRightWitness hf i (peaks hf ((data.take i).map hf.leaf)) w = some (root hf data) := by
  have hb := C11_built hf data t h
  have := rightWitness_correct hf t (data.map hf.leaf) hb.stored hb.size hb.path (by simpa using hbound) i
    (by simpa using hi)
  rw [← List.map_take] at this
  exact this

/-- non-vacuity and a concrete check of all split points of a tree of six leaves -/
example : ∃ t, C11.appendTreeAll C11.pairHash (emptyTree C11.pairHash) [[1], [2], [3], [4], [5], [6]] = some t ∧
    ∀ i ∈ [0, 1, 2, 3, 4, 5, 6], ∃ w, genWitness t i = some w ∧
      rootFromRightWitness C11.pairHash i (peaks C11.pairHash (([[1], [2], [3], [4], [5], [6]].take i).map C11.pairHash.leaf)) w
        = some (root C11.pairHash [[1], [2], [3], [4], [5], [6]]) := by
  obtain ⟨t, ht⟩ := C11_append_total C11.pairHash [[1], [2], [3], [4], [5], [6]]
  refine ⟨t, ht, ?_⟩
  intro i hi
  exact C11_right_witness_bounded_partial C11.pairHash _ t i ht
    (by simp at hi; rcases hi with h | h | h | h | h | h | h <;> subst h <;> decide) (by decide)

/-! ### update through a proof, any set of leaves -/

/-- `Update` through a proof yields the tree of the modified list: the statement of `Props/C11.lean`, in
full (any duplicate-free list of leaf positions in any order; success of `Update` is a hypothesis, so
no bound on the size is needed). -/
theorem C11_update_via_proof : C11_update_via_proof_Statement := by
  intro hf data t t' pos upd h hnd hlen hlt hu
  have hb := C11_built hf data t h
  have hl : (data.map hf.leaf).length = data.length := by simp
  have := update_multi hf t t' (data.map hf.leaf) hb.stored hb.size hb.path pos upd hnd
    (by simpa using hlt) hlen (by rw [hl]; exact hu)
  have hmap : ((pos.zip upd).foldl (fun d pu => d.set pu.1 pu.2) data).map hf.leaf
      = setMany (data.map hf.leaf) (pos.zip (upd.map hf.leaf)) := by
    have := map_setMany hf.leaf (pos.zip upd) data
    simp only [setMany] at this ⊢
    rw [this, List.zip_map_right]
    rfl
  simp only
  rw [this, hl, root, hmap]

/-- non-vacuity: a successful update of the leaves 4, 0 and 2 (in this order) of a tree of five leaves,
and its root is the root of the modified list -/
example : ((C11.appendTreeAll C11.pairHash (emptyTree C11.pairHash) [[1], [2], [3], [4], [5]]).bind
    fun t => update C11.pairHash t ([4, 0, 2].map fun p => 2 ^ getHeight 5 + p) [[9], [8], [7]]).map (·.core.root)
      = some (root C11.pairHash [[8], [2], [7], [4], [9]]) := by
  decide +kernel

/-! ### update through a proof, one leaf -/

/-- `Update` of one leaf through its proof: if it succeeds, (root, append path, size) are those of the
list with that leaf replaced. -/
theorem C11_update_via_proof_single (hf : HashFns) (data : List Bytes) (t t' : Tree) (p : Nat) (u : Bytes)
    (h : C11.appendTreeAll hf (emptyTree hf) data = some t) (hp : p < data.length)
    (hu : update hf t [2 ^ getHeight data.length + p] [u] = some t') :
    t'.core = ⟨root hf (data.set p u), peaks hf ((data.set p u).map hf.leaf), data.length⟩ :=
  C11_update_via_proof hf data t t' [p] [u] h (by simp) rfl (by simpa using hp) hu

/-- non-vacuity: a successful update of leaf 3 of a tree of five leaves -/
example : ((C11.appendTreeAll C11.pairHash (emptyTree C11.pairHash) [[1], [2], [3], [4], [5]]).bind
    fun t => update C11.pairHash t [2 ^ getHeight 5 + 3] [[9]]).isSome = true := by
  decide +kernel

/-- and the result has the root of the modified list -/
example : ((C11.appendTreeAll C11.pairHash (emptyTree C11.pairHash) [[1], [2], [3], [4], [5]]).bind
    fun t => update C11.pairHash t [2 ^ getHeight 5 + 3] [[9]]).map (·.core.root)
      = some (root C11.pairHash [[1], [2], [3], [9], [5]]) := by
  decide +kernel

/-! ### soundness of `VerifyProof` for several indexes -/

/-- Soundness for several indexes: under injectivity of the branch hash, a proof accepted for distinct
leaf indexes against the root of `l` shows that every query is the hash of the leaf at its index
(the statement of `Props/C11.lean`, in full: any order of the indexes, no bound on the size). -/
theorem C11_proof_sound_multi : C11_proof_sound_multi_Statement := by
  intro hf hinj l pos q sibs hnd hlt hlen hv
  exact verify_sound_multi hf hinj l pos q sibs hnd hlt hlen hv

/-- non-vacuity: a proof for the leaves 3 and 1 (in this order) of a tree of five leaves is accepted -/
example : verifyProof C11.pairHash [[4], [2]]
    ⟨5, [3, 1].map (fun p => 2 ^ getHeight 5 + p), [[1], [3], [5]]⟩
    (rootH C11.pairHash [[1], [2], [3], [4], [5]]) = true := by
  decide +kernel

example : ([[1], [2], [3], [4], [5]] : List Bytes)[([3, 1] : List Nat)[0]]? = ([[4], [2]] : List Bytes)[0]? :=
  C11_proof_sound_multi C11.pairHash C11.pairHash_inj [[1], [2], [3], [4], [5]] [3, 1] [[4], [2]] [[1], [3], [5]]
    (by decide) (by decide) rfl (by decide +kernel) 0 (by decide)

/-! ### proof generation and verification, any set of leaves -/

private theorem getElem?_idxOf_mem (L : List Bytes) (x : Bytes) (hx : x ∈ L) : L[L.idxOf x]? = some x := by
  have hlt : L.idxOf x < L.length := List.idxOf_lt_length_iff.mpr hx
  rw [List.getElem?_eq_getElem hlt, List.getElem_idxOf hlt]

private theorem zip_idxOf (L : List Bytes) : ∀ (q : List Bytes), (∀ x ∈ q, x ∈ L) →
    ∀ e ∈ (q.map fun x => L.idxOf x).zip q, L[e.1]? = some e.2 := by
  intro q
  induction q with
  | nil => intro _ e he; cases he
  | cons x xs ih =>
    intro hq e he
    simp only [List.map_cons, List.zip_cons_cons, List.mem_cons] at he
    rcases he with rfl | he
    · exact getElem?_idxOf_mem L x (hq x (by simp))
    · exact ih (fun y hy => hq y (by simp [hy])) e he

/-- Completeness of `GenerateProof` + `VerifyProof` for any duplicate-free list of leaf hashes (in any
order): `C11_proof_complete_Statement` with two extra hypotheses — no branch hash equals a leaf hash
(domain separation; otherwise the `hash -> location` index may return an inner node for a query) and
height at most 30 (the 32-bit index parser of the implementation). -/
theorem C11_proof_complete_sets_partial (hf : HashFns) (data : List Bytes) (t : Tree) (q : List Bytes)
    (h : C11.appendTreeAll hf (emptyTree hf) data = some t) (hnd : (data.map hf.leaf).Nodup)
    (hne : q ≠ []) (hqnd : q.Nodup) (hq : ∀ x ∈ q, x ∈ data.map hf.leaf)
    (hsep : ∀ a b x, x ∈ data.map hf.leaf → hf.branch a b ≠ x) (hb : getHeight data.length ≤ 30) :
    ∃ p, generateProof t q = some p ∧ verifyProof hf q p t.core.root = true := by
  have hbt := C11_built hf data t h
  have hb' : getHeight (data.map hf.leaf).length ≤ 30 := by simpa using hb
  rw [hbt.root]
  refine generate_verify_multi hf t _ hbt.stored hbt.size hbt.h2l hnd hsep
    (q.map fun x => (data.map hf.leaf).idxOf x) q ?_ ?_ (by simp) (zip_idxOf _ q hq) hb'
  · rw [List.Nodup, List.pairwise_map]
    refine List.Pairwise.imp_of_mem ?_ hqnd
    intro a b ha hb hab e
    apply hab
    have h1 := getElem?_idxOf_mem _ a (hq a ha)
    have h2 := getElem?_idxOf_mem _ b (hq b hb)
    rw [e, h2] at h1
    exact (Option.some.inj h1).symm
  · intro e
    apply hne
    simpa using e

/-- domain separation of the toy hash on leaves that start with a byte other than 0 and 1 -/
private theorem pairHash_sep (a b x : Bytes) (hx : x ∈ ([[7], [8], [9], [10], [11]] : List Bytes)) :
    C11.pairHash.branch a b ≠ x := by
  intro e
  simp only [C11.pairHash] at e
  cases a with
  | nil =>
    simp only [List.length_nil, List.replicate_zero, List.nil_append] at e
    simp only [List.mem_cons, List.not_mem_nil, or_false] at hx
    rcases hx with rfl | rfl | rfl | rfl | rfl <;> simp at e
  | cons a0 ar =>
    simp only [List.length_cons, List.replicate_succ, List.cons_append] at e
    simp only [List.mem_cons, List.not_mem_nil, or_false] at hx
    rcases hx with rfl | rfl | rfl | rfl | rfl <;> simp at e

/-- non-vacuity: the hypotheses hold for a tree of five leaves and the queries `[10], [7], [9]` -/
example : ∃ t p, C11.appendTreeAll C11.pairHash (emptyTree C11.pairHash) [[7], [8], [9], [10], [11]] = some t ∧
    generateProof t [[10], [7], [9]] = some p ∧ verifyProof C11.pairHash [[10], [7], [9]] p t.core.root = true := by
  obtain ⟨t, ht⟩ := C11_append_total C11.pairHash [[7], [8], [9], [10], [11]]
  obtain ⟨p, h1, h2⟩ := C11_proof_complete_sets_partial C11.pairHash [[7], [8], [9], [10], [11]] t [[10], [7], [9]] ht
    (by decide) (by simp) (by decide) (by decide) (fun a b x hx => pairHash_sep a b x (by simpa [C11.pairHash] using hx))
    (by decide)
  exact ⟨t, p, ht, h1, h2⟩

/-! ### proof generation and verification, one leaf -/

/-- Completeness of `GenerateProof` + `VerifyProof` for one queried leaf hash: in a tree built by appends
whose leaf hashes are pairwise distinct and are not branch hashes (domain separation), the proof
generated for a leaf hash verifies against the root. Extra hypotheses with respect to
`C11_proof_complete_Statement`: one query, no branch hash equals a leaf hash, height at most 30 (the
32-bit index parser). -/
theorem C11_proof_complete_single_partial (hf : HashFns) (data : List Bytes) (t : Tree) (q : Bytes)
    (h : C11.appendTreeAll hf (emptyTree hf) data = some t) (hnd : (data.map hf.leaf).Nodup)
    (hsep : ∀ a b x, x ∈ data.map hf.leaf → hf.branch a b ≠ x)
    (hq : q ∈ data.map hf.leaf) (hb : getHeight data.length ≤ 30) :
    ∃ p, generateProof t [q] = some p ∧ verifyProof hf [q] p t.core.root = true :=
  C11_proof_complete_sets_partial hf data t [q] h hnd (by simp) (by simp) (by simpa using hq) hsep hb

/-- a concrete run: the proof generated for one leaf of a tree of three leaves verifies -/
example : ((C11.appendTreeAll C11.pairHash (emptyTree C11.pairHash) [[7], [8], [9]]).bind
    fun t => (generateProof t [[8]]).map fun p => verifyProof C11.pairHash [[8]] p t.core.root) = some true := by
  decide +kernel

/-! ### the statements of `Props/C11.lean` that are false as written -/

/-- `C11_right_witness_Statement` is false as written: for `2^64 + 1` leaves and the split point 3 the
right witness has 64 hashes, of which `CalculateRootFromRightWitness` can consume only 62 in its 64 layers;
it returns an error. (The bounded statement is `C11_right_witness_bounded_partial`.) -/
theorem C11_right_witness_Statement_false : ¬ C11_right_witness_Statement := by
  intro hS
  obtain ⟨t, ht⟩ := C11_append_total C11.pairHash (List.replicate (2 ^ 64 + 1) [])
  have hb := C11_built C11.pairHash _ t ht
  have hlen : ((List.replicate (2 ^ 64 + 1) ([] : Bytes)).map C11.pairHash.leaf).length = 2 ^ 64 + 1 := by
    rw [List.length_map, List.length_replicate]
  obtain ⟨w, hw1, hw2⟩ := hS C11.pairHash _ t 3 ht (by rw [List.length_replicate]; decide)
  obtain ⟨w', hw1', hw2'⟩ := rightWitness_fails C11.pairHash t _ hb.stored hb.size hlen
  rw [hw1] at hw1'
  have : w = w' := Option.some.inj hw1'
  subst this
  rw [← List.map_take] at hw2'
  rw [hw2'] at hw2
  cases hw2

private theorem pairHash_ne_replicate_two (a b : Bytes) (k : Nat) :
    C11.pairHash.branch a b ≠ List.replicate (k + 1) 2 := by
  intro e
  simp only [C11.pairHash] at e
  cases a with
  | nil => simp [List.replicate_succ] at e
  | cons a0 ar => simp [List.replicate_succ] at e

/-- `N` distinct leaves that are not branch hashes of the toy hash -/
private def bigData (N : Nat) : List Bytes := (List.range N).map fun k => List.replicate (k + 1) 2

private theorem locIndex_none_of_high (h : Nat) (hh : 30 < h) : locIndex (0, 0) h = none := by
  unfold locIndex
  simp only
  rw [if_neg (by omega)]
  have hw : 31 ≤ max (h - 0) (bitLen 0) := by
    have : h - 0 ≤ max (h - 0) (bitLen 0) := Nat.le_max_left _ _
    omega
  have : 2 ^ 31 ≤ 2 ^ max (h - 0) (bitLen 0) := Nat.pow_le_pow_right (by decide) hw
  rw [if_pos (by omega)]

private theorem generateProof_fails (N : Nat) (hN : 1 ≤ N) (hH : 30 < getHeight N) (t : Tree)
    (ht : C11.appendTreeAll C11.pairHash (emptyTree C11.pairHash) (bigData N) = some t) :
    (bigData N).map C11.pairHash.leaf = bigData N ∧ ((bigData N).map C11.pairHash.leaf).Nodup ∧
    [2] ∈ bigData N ∧ generateProof t [[2]] = none := by
  have hlen : (bigData N).length = N := by simp [bigData]
  have hleaf : (bigData N).map C11.pairHash.leaf = bigData N := by simp [C11.pairHash]
  have hnd : (bigData N).Nodup :=
    List.Pairwise.map _ (fun a b (hab : a ≠ b) e => hab (Nat.succ.inj (List.replicate_inj.mp e).1)) List.nodup_range
  have h0 : (bigData N)[0]? = some [2] := by
    unfold bigData
    rw [List.getElem?_map, List.getElem?_range (by omega)]
    rfl
  have hmem : ([2] : Bytes) ∈ bigData N := List.mem_of_getElem? h0
  have hb := C11_built C11.pairHash (bigData N) t ht
  rw [hleaf] at hb
  have hloc : t.getLoc [2] = some (0, 0) :=
    getLoc_leaf C11.pairHash t (bigData N) hb.h2l hnd (by
      intro a b x hx
      simp only [bigData, List.mem_map, List.mem_range] at hx
      obtain ⟨k, _, rfl⟩ := hx
      exact pairHash_ne_replicate_two a b k) 0 [2] h0
  refine ⟨hleaf, by rw [hleaf]; exact hnd, hmem, ?_⟩
  unfold generateProof
  rw [hb.size, hlen, if_neg (by omega)]
  simp only [getIndexes, hloc, locIndex_none_of_high _ hH]

/-- `C11_proof_complete_Statement` is false as written: for a tree of `2^29 + 1` leaves (height 31) the
index of a leaf does not fit the 32-bit index parser and `GenerateProof` returns an error. -/
theorem C11_proof_complete_Statement_false : ¬ C11_proof_complete_Statement := by
  intro hS
  obtain ⟨t, ht⟩ := C11_append_total C11.pairHash (bigData (2 ^ 29 + 1))
  obtain ⟨hleaf, hnd, hmem, hnone⟩ := generateProof_fails (2 ^ 29 + 1) (by omega) (by rw [getHeight_two_pow_succ 29]; decide) t ht
  obtain ⟨p, hp, _⟩ := hS C11.pairHash (bigData (2 ^ 29 + 1)) t [[2]] ht hnd (by simp) (by simp) (by
    intro x hx
    simp only [List.mem_singleton] at hx
    rw [hx, hleaf]; exact hmem)
  rw [hnone] at hp
  cases hp
