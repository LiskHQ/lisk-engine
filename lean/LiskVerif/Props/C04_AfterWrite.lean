/-
C04, class "errors after the point of no return".

"The stored finalized height is raised … in the same step that applies the block causing it, and a finalization
event is emitted exactly for those raises": `Executer.processValidated` stores the block together with the raised
finalized height in ONE batch (`Chain.AddBlock`, `Props/C04_Atomic.lean`) and publishes `EventBlockFinalize` /
`EventBlockNew` afterwards. Whatever the step does BETWEEN that write and the publications must not be able to end
the step: an error-checked call there (`if err := …; err != nil { return err }` - e.g. a call of the application)
leaves the raise stored while its event is never emitted, and reports a stored block as failed.

Tie A (source): on the write skeletons regenerated from /repo by tools/wskelgen (`Gen/WriteSkeletons.lean`; an
error-checked call of ANY callee is the item `choice retErr skip`, an error-checked call of a function of the
skeleton table is `tryCall`), with the callees inlined (`C13.step`), the abstract run `aw` below accepts the step
functions: after the batch may have been written there is no error exit, no early return before an event was
published, no application commit / revert, no call of an untranslated function - with ONE exception, stated by two
theorems of its own: the error result of the write call itself (`Chain.AddBlock` / `Chain.RemoveBlock`: the in-memory block
cache update that follows `database.Write`, `Res.errWritten` of `Model/Node.lean`).

Model: `Model/NodeFail.lean` adds the application's refusal of a removal (the failure-injection histories of
harness/c04/inject.go); a refused step changes nothing, and a history with refusals is an ordinary history of
`Model.Node` in which the refused steps do not occur - every theorem of `Props/C04.lean` / `C04_More.lean` about
histories applies to it.
-/
import LiskVerif.Props.C13
import LiskVerif.Model.NodeFail
import LiskVerif.Lemmas.NodeTrans

namespace LiskVerif.C04AfterWrite
open LiskVerif.Crash

/-- does the statement contain the database write -/
def hasWrite : Stmt → Bool
  | .act (.write _) => true
  | .seq s t => hasWrite s || hasWrite t
  | .choice s t => hasWrite s || hasWrite t
  | .loop s => hasWrite s
  | .scope s => hasWrite s
  | .tryCall c a b => hasWrite c || hasWrite a || hasWrite b
  | _ => false

def hasPublish : Stmt → Bool
  | .act .publish => true
  | .seq s t => hasPublish s || hasPublish t
  | .choice s t => hasPublish s || hasPublish t
  | .loop s => hasPublish s
  | .scope s => hasPublish s
  | .tryCall c a b => hasPublish c || hasPublish a || hasPublish b
  | _ => false

/-- abstract state of the run: `w` = on some path reaching this point the batch has been written (point of no
return passed); `p` = on every such path an event has been published since -/
structure Ph where
  w : Bool
  p : Bool
  deriving DecidableEq, Repr

def Ph.start : Ph := ⟨false, true⟩

def Ph.join (a b : Ph) : Ph := ⟨a.w || b.w, a.p && b.p⟩

def isRetErr : Stmt → Bool
  | .retErr => true
  | _ => false

/-- the abstract run. `top` = the statement belongs to the body of the step function itself (its `ret` / `retErr`
end the step); inside an inlined callee they only end the callee. `none` = rejected.
Statements after a `ret` / `retErr` are still visited (conservative: more is rejected, never less). -/
def aw (top : Bool) : Stmt → Ph → Option Ph
  | .skip, st => some st
  | .act (.write _), _ => some ⟨true, false⟩
  | .act .publish, st => some ⟨st.w, true⟩
  | .act .abiCommit, st => if st.w then none else some st      -- application call after the write
  | .act .abiRevert, st => if st.w then none else some st
  | .act (.unknown _), st => if st.w then none else some st    -- something the translator did not understand
  | .act .directSet, st => if st.w then none else some st      -- a second (own) write: C13 rejects it anywhere
  | .act .directDel, st => if st.w then none else some st
  | .act _, st => some st                                       -- cacheUpdate, netPublish, staging (C13 judges those)
  | .seq s t, st => (aw top s st).bind (aw top t)
  | .choice s t, st =>
    match aw top s st, aw top t st with
    | some a, some b => some (a.join b)
    | _, _ => none
  | .loop s, st => if hasWrite s then none else (aw top s st).map fun _ => st
  | .scope s, st => aw false s st
  | .call _ _, st => if st.w then none else some st             -- a callee that was not inlined
  | .tryCall c a b, st =>
    if hasWrite c then
      -- the write call: its own error result (before or after its write) is the one admitted error exit, and it
      -- must be handed on as it is
      match aw false c st with
      | some st' => if isRetErr a then aw top b st' else none
      | none => none
    else
      match aw false c st with
      | some st' =>
        match aw top a st', aw top b st' with
        | some x, some y => some (x.join y)
        | _, _ => none
      | none => none
  | .ret, st => if top && st.w && !st.p then none else some st  -- success return after the write without any event
  | .retErr, st => if top && st.w then none else some st        -- error exit after the write
  | .brk, st => some st
  | .cont, st => some st

/-- the criterion for a step function: accepted by the abstract run, it does not fall off its end with a written
batch and no event, and it does write and publish (not vacuous after a rename) -/
def afterWriteOk (s : Stmt) : Bool :=
  match aw true s Ph.start with
  | some st => (!st.w || st.p) && hasWrite s && hasPublish s
  | none => false

/-- the statements of a body in order (right-nested `seq` flattened) -/
def flat : Stmt → List Stmt
  | .seq s t => flat s ++ flat t
  | s => [s]

/-- what follows the first `database.Write` of a body -/
def afterFirstWrite : List Stmt → Option (List Stmt)
  | [] => none
  | .act (.write _) :: r => some r
  | _ :: r => afterFirstWrite r

/-- `Chain.AddBlock` after its write: the block cache push, whose error is the function's result -/
def addBlockTail : Option (List Stmt) → Bool
  | some [.act .cacheUpdate, .choice .ret .retErr] => true
  | _ => false

/-- `Chain.RemoveBlock` after its write: refill of an emptied block cache (its read error is returned), else the
cache pop -/
def removeBlockTail : Option (List Stmt) → Bool
  | some [.choice (.seq (.choice .retErr .skip) .ret) .skip, .act .cacheUpdate, .ret] => true
  | _ => false

/-- the seeded shape: an error-checked call between `Chain.AddBlock` and the finalize event -/
def fallibleBeforeFinalizeEvent : Stmt := Stmt.seqs [
  .act (.newBatch "batch"), .act (.batchSet "batch"),
  .tryCall (Stmt.seqs [.act (.write "batch"), .act .cacheUpdate, .choice .ret .retErr]) .retErr .skip,
  .choice (Stmt.seqs [.choice .retErr .skip, .act .publish]) .skip,
  .act .publish, .ret]

/-- the same call with its error swallowed by an early `return nil` -/
def earlyReturnBeforeEvents : Stmt := Stmt.seqs [
  .act (.newBatch "batch"), .act (.batchSet "batch"),
  .tryCall (Stmt.seqs [.act (.write "batch"), .act .cacheUpdate, .choice .ret .retErr]) .retErr .skip,
  .choice .ret .skip,
  .act .publish, .ret]

/-- an error-checked call between the finalize event and the new-block event -/
def fallibleBetweenEvents : Stmt := Stmt.seqs [
  .act (.newBatch "batch"), .act (.batchSet "batch"),
  .tryCall (Stmt.seqs [.act (.write "batch"), .act .cacheUpdate, .choice .ret .retErr]) .retErr .skip,
  .choice (.act .publish) .skip, .choice .retErr .skip,
  .act .publish, .ret]

/-- the application commit moved behind the engine's write -/
def commitAfterWrite : Stmt := Stmt.seqs [
  .act (.newBatch "batch"), .act (.batchSet "batch"),
  .tryCall (Stmt.seqs [.act (.write "batch"), .act .cacheUpdate, .choice .ret .retErr]) .retErr .skip,
  .tryCall (Stmt.seqs [.act .abiCommit, .choice .ret .retErr]) .retErr .skip,
  .act .publish, .ret]

/-- the error of the write call handled by anything else than handing it on -/
def writeErrorSwallowed : Stmt := Stmt.seqs [
  .act (.newBatch "batch"), .act (.batchSet "batch"),
  .tryCall (Stmt.seqs [.act (.write "batch"), .act .cacheUpdate, .choice .ret .retErr]) .skip .skip,
  .act .publish, .ret]

/-- the shape of the step as it is (for the non-vacuity example) -/
def plainStep : Stmt := Stmt.seqs [
  .choice .retErr .skip,
  .act (.newBatch "batch"), .act (.batchSet "batch"),
  .tryCall (Stmt.seqs [.act .abiCommit, .choice .ret .retErr]) .retErr .skip,
  .tryCall (Stmt.seqs [.act (.write "batch"), .act .cacheUpdate, .choice .ret .retErr]) .retErr .skip,
  .choice (.act .publish) .skip,
  .act .publish, .ret]

end LiskVerif.C04AfterWrite

section Skeletons
open LiskVerif LiskVerif.Crash LiskVerif.C13 LiskVerif.C04AfterWrite

/-! ## Tie A: the regenerated skeletons -/

/-- **No fallible call between the write and the finalize event.** In `Executer.processValidated` (regenerated
skeleton, callees inlined) nothing that can end the step lies between the `Write` of the block batch and the
publication of `EventBlockFinalize` / `EventBlockNew`: after the point of no return there is no error-checked call
(an action whose error makes the function return), no early return before an event was published, no application
commit / revert, no untranslated call; the step writes and publishes. The only admitted error exit is the result of
the write call `Chain.AddBlock` itself, handed on as it is (`C04_addBlock_only_post_write_error_is_cache_push`). -/
theorem C04_no_fallible_call_between_write_and_finalize_event :
    afterWriteOk (step Gen.WS.Executer_processValidated) = true := by
  decide +kernel

/-- the same for the removal step: between `Chain.RemoveBlock`'s write and `EventBlockDelete` nothing can fail -/
theorem C04_no_fallible_call_between_write_and_delete_event :
    afterWriteOk (step Gen.WS.Executer_deleteBlock) = true := by
  decide +kernel

/-- `Chain.AddBlock` after `database.Write(batch)`: exactly the block cache push, whose error is the result
(`blockCache.push` fails only for a non-consecutive height or a cache index hole - `Res.errWritten` of the model,
excluded by the chain invariant). A further fallible call inside `AddBlock` after the write changes this shape. -/
theorem C04_addBlock_only_post_write_error_is_cache_push :
    addBlockTail (afterFirstWrite (flat Gen.WS.Chain_AddBlock)) = true := by
  decide +kernel

/-- `Chain.RemoveBlock` after its write: the refill of an emptied block cache (read error returned) or the pop -/
theorem C04_removeBlock_only_post_write_error_is_cache_refill :
    removeBlockTail (afterFirstWrite (flat Gen.WS.Chain_RemoveBlock)) = true := by
  decide +kernel

/-- the step functions that write block batches, by caller: `Executer.process` composes `deleteBlock` and
`processValidated`, the two the criterion above is evaluated on; `Executer.Init` composes `processGenesisBlock`, which
stores a finalized height too and on which no `afterWriteOk` theorem of this file is evaluated -/
theorem C04_after_write_steps_covered : Gen.WS.callers =
    [("Executer.Init", ["Executer.processGenesisBlock"]),
     ("Executer.process", ["Executer.deleteBlock", "Executer.processValidated"])] :=
  C13_step_callers

/-! ### the criterion is not vacuous -/

/-- the present shape is accepted … -/
theorem C04_after_write_accepts_plain_step : afterWriteOk plainStep = true := by decide +kernel

/-- … an error-checked call between `AddBlock` and the finalize event (the seeded change: `abi.Finalize` with an
ordinary error return) is rejected -/
theorem C04_fallible_call_after_write_rejected : afterWriteOk fallibleBeforeFinalizeEvent = false := by decide +kernel

/-- … also when its error is swallowed by a `return nil` that skips the events -/
theorem C04_early_return_after_write_rejected : afterWriteOk earlyReturnBeforeEvents = false := by decide +kernel

/-- … also between the two events -/
theorem C04_fallible_call_between_events_rejected : afterWriteOk fallibleBetweenEvents = false := by decide +kernel

/-- … an application commit behind the engine's write is rejected -/
theorem C04_commit_after_write_rejected : afterWriteOk commitAfterWrite = false := by decide +kernel

/-- … and so is a write call whose error is not handed on -/
theorem C04_write_error_swallowed_rejected : afterWriteOk writeErrorSwallowed = false := by decide +kernel

end Skeletons

/-! ## The model under an application that refuses -/

namespace LiskVerif.Node

/-- with an application that answers (`true`) `deleteTipA` and `processA` are `deleteTip` and `process`; with one that
refuses (`false`) `deleteTipA` and `deleteTillA` leave the state as it was, and `processA` does so or runs as
`process` -/
theorem deleteTipA_ok (cd : Codecs) (cfg : Cfg) (s : St) (st : Bool) :
    deleteTipA cd cfg s st true = deleteTip cd cfg s st := by
  simp [deleteTipA]

theorem deleteTipA_refused (cd : Codecs) (cfg : Cfg) (s : St) (st : Bool) :
    (deleteTipA cd cfg s st false).1 = s ∧
      ((deleteTipA cd cfg s st false).2 = .err ∨ (deleteTipA cd cfg s st false).2 = .panic) := by
  unfold deleteTipA
  cases hc : s.cache <;> simp

theorem processA_ok (cd : Codecs) (cfg : Cfg) (slot : Slot) (s : St) (i : Incoming) :
    processA cd cfg slot s i true = process cd cfg slot s i := by
  simp [processA]

theorem processA_refused (cd : Codecs) (cfg : Cfg) (slot : Slot) (s : St) (i : Incoming) :
    processA cd cfg slot s i false = process cd cfg slot s i ∨ (processA cd cfg slot s i false).1 = s := by
  unfold processA
  simp only [Bool.false_eq_true, if_false]
  cases hc : s.cache with
  | nil => right; rfl
  | cons tip rest =>
    simp only
    cases hf : forkChoice slot tip.hdr i.block.hdr i.flags <;> simp

end LiskVerif.Node

section Model
open LiskVerif LiskVerif.Node
open LiskVerif.DiffDB (Store)

/-- **A refused removal changes nothing**: when the application fails `InitStateMachine` / `Revert` of
`Executer.deleteBlock` (both before `Chain.RemoveBlock`), database, block cache and event log are what they were
and an error is reported; with an application that answers, the step is `deleteTip`. -/
theorem C04_refused_removal_changes_nothing (cd : Codecs) (cfg : Cfg) (s : St) (st : Bool) :
    (deleteTipA cd cfg s st false).1 = s ∧
      ((deleteTipA cd cfg s st false).2 = .err ∨ (deleteTipA cd cfg s st false).2 = .panic) ∧
      deleteTipA cd cfg s st true = deleteTip cd cfg s st :=
  ⟨(deleteTipA_refused cd cfg s st).1, (deleteTipA_refused cd cfg s st).2, deleteTipA_ok cd cfg s st⟩

/-- the same for `deleteTillCommonBlock` whose first removal is refused -/
theorem C04_refused_deleteTill_changes_nothing (cd : Codecs) (cfg : Cfg) (fuel : Nat) (s : St) (target : Nat) :
    (deleteTillA cd cfg fuel s target false).1 = s := by
  unfold deleteTillA
  simp only [Bool.false_eq_true, if_false]
  cases fuel with
  | zero => rfl
  | succ n =>
    cases hc : s.cache with
    | nil => rfl
    | cons tip rest =>
      simp only
      split <;> rfl

/-- **A step that reports a failure has no effect** (model side of "no error after the point of no return"):
`processValidated` that does not answer `ok` leaves database, cache and event log untouched; in particular no
finalized height is stored without its event. (Every result other than `.ok` is covered, `Res.errWritten` included;
this is `apply_not_ok` of Lemmas/NodeRef.lean.) -/
theorem C04_failed_apply_has_no_effect (cd : Codecs) (cfg : Cfg) (s s' : St) (b : Block) (valid : Bool) (x : Exec)
    (rt : Bool) (r : Res) (h : apply cd cfg s b valid x rt = (s', r)) (hr : r ≠ .ok) : s' = s :=
  apply_not_ok h hr

/-- **Histories with refusals are ordinary histories.** Every run with refused removals / refused tie-breaks
(`runA`) ends in the state of a run of `Model.Node` over at most as many ordinary operations - the refused steps
drop out. Hence finalized-height monotonicity, `fin = max`, "finalize events = exactly the raises", the stable
finalized prefix (`Props/C04.lean`, `C04_More.lean`) hold for the failure-injection histories as they are stated. -/
theorem C04_history_with_refusals_is_history (cd : Codecs) (cfg : Cfg) (slot : Slot) :
    ∀ (opsA : List OpA) (s : St), ∃ ops : List Op,
      runA cd cfg slot s opsA = run cd cfg slot s ops ∧ ops.length ≤ opsA.length := by
  intro opsA
  induction opsA with
  | nil => intro s; exact ⟨[], rfl, Nat.le_refl _⟩
  | cons a rest ih =>
    intro s
    have hstep : (∃ o : Op, stepA cd cfg slot s a = step cd cfg slot s o) ∨ stepA cd cfg slot s a = s := by
      cases a with
      | op o => exact Or.inl ⟨o, rfl⟩
      | deleteTip st ok =>
        cases ok with
        | true => exact Or.inl ⟨.deleteTip st, congrArg Prod.fst (deleteTipA_ok cd cfg s st)⟩
        | false => exact Or.inr (deleteTipA_refused cd cfg s st).1
      | process i ok =>
        cases ok with
        | true => exact Or.inl ⟨.process i, congrArg Prod.fst (processA_ok cd cfg slot s i)⟩
        | false =>
          rcases processA_refused cd cfg slot s i with h | h
          · exact Or.inl ⟨.process i, by simp [stepA, step, h]⟩
          · exact Or.inr h
    rcases hstep with ⟨o, ho⟩ | hs
    · obtain ⟨ops, h1, h2⟩ := ih (step cd cfg slot s o)
      refine ⟨o :: ops, ?_, by simp; omega⟩
      simp only [runA, run, List.foldl_cons] at h1 ⊢
      rw [ho]; exact h1
    · obtain ⟨ops, h1, h2⟩ := ih s
      refine ⟨ops, ?_, by simp; omega⟩
      simp only [runA, List.foldl_cons] at h1 ⊢
      rw [hs]; exact h1

/-- non-vacuity: a refused removal on a node with a tip reports `err` and keeps the tip -/
example (cd : Codecs) (cfg : Cfg) (tip : Block) (rest : List Block) (db : Store) (log : List Ev) :
    deleteTipA cd cfg { db := db, cache := tip :: rest, log := log } true false
      = ({ db := db, cache := tip :: rest, log := log }, .err) := rfl

end Model

example : LiskVerif.C04AfterWrite.afterWriteOk LiskVerif.C04AfterWrite.fallibleBeforeFinalizeEvent = false ∧
    LiskVerif.C04AfterWrite.afterWriteOk LiskVerif.C04AfterWrite.plainStep = true := by decide +kernel
