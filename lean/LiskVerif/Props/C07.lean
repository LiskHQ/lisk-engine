/-
C07 — Header contradiction and fork-choice classification follow LIP-0014.

The theorems about the contradiction predicate, the fork-choice predicates, `HeaderHasPriority` and the
order of the questions are about the definitions REGENERATED from the Go source on every run
(`LiskVerif.Gen.*`, produced by tools/fngen), so a change to
`contradiction.AreDistinctHeadersContradicting`, the `forkChoice` predicates,
`API.HeaderHasPriority` or the predicate order of `Executer.process` changes the proof obligations.
The specification side is written here by hand: `C07LegitSucc` (when one header may follow another),
the honest generator `C07Gen` (it remembers the largest height it signed; its headers are pairwise
legitimate successors when every forging opportunity is on a better tip) and `C07_window_detection`
(comparing with the generator's most recent header in the window suffices).
-/
import LiskVerif.Gen.Fns

open LiskVerif LiskVerif.Gen

/-- `l` may legitimately follow `e` for a generator that reports its largest generated height and
only moves to chains preferred by fork choice. -/
def C07LegitSucc (e l : Hdr) : Prop :=
  e.height ≤ l.maxHeightGenerated ∧ e.maxHeightGenerated ≤ l.maxHeightGenerated ∧
  e.maxHeightPrevoted ≤ l.maxHeightPrevoted ∧
  (e.maxHeightPrevoted = l.maxHeightPrevoted → e.height < l.height)

instance (e l : Hdr) : Decidable (C07LegitSucc e l) := by unfold C07LegitSucc; infer_instance

/-- LIP-0014 orders the pair by (maxHeightGenerated, maxHeightPrevoted, height) … -/
def C07LipLe (a b : Hdr) : Prop :=
  a.maxHeightGenerated < b.maxHeightGenerated ∨
  (a.maxHeightGenerated = b.maxHeightGenerated ∧ a.maxHeightPrevoted < b.maxHeightPrevoted) ∨
  (a.maxHeightGenerated = b.maxHeightGenerated ∧ a.maxHeightPrevoted = b.maxHeightPrevoted ∧
    a.height ≤ b.height)

/-- … and then names three causes for the ordered pair (`e` earlier, `l` later) -/
def C07LipCauses (e l : Hdr) : Prop :=
  (e.maxHeightPrevoted = l.maxHeightPrevoted ∧ l.height ≤ e.height) ∨
  l.maxHeightGenerated < e.height ∨ l.maxHeightPrevoted < e.maxHeightPrevoted

instance (a b : Hdr) : Decidable (C07LipLe a b) := by unfold C07LipLe; infer_instance
instance (a b : Hdr) : Decidable (C07LipCauses a b) := by unfold C07LipCauses; infer_instance

/-- On an ordered pair one of the three causes holds exactly when neither header may legitimately
follow the other (the later one never precedes the earlier one). -/
theorem C07_ordered_causes {e l : Hdr} (h : C07LipLe e l) :
    C07LipCauses e l ↔ ¬ C07LegitSucc e l ∧ ¬ C07LegitSucc l e := by
  unfold C07LipLe at h; unfold C07LipCauses C07LegitSucc; omega

/-- Without any side condition, for all header pairs: contradicting ⇔ same generator and neither
header is a legitimate successor of the other. The code swaps the pair when it is not ordered and
tests the three causes on the ordered pair. -/
theorem C07_contradicting_iff (a b : Hdr) :
    areDistinctHeadersContradicting a b = true ↔
      (a.generatorAddress = b.generatorAddress ∧ ¬ C07LegitSucc a b ∧ ¬ C07LegitSucc b a) := by
  unfold areDistinctHeadersContradicting
  dsimp only
  -- the test on which the code swaps the pair
  generalize hc : (_ || _ || _ : Bool) = swap
  cases swap <;>
    simp only [Bool.false_eq_true, if_false, if_true, Bool.if_true_left, Bool.if_false_left,
      Bool.if_false_right, Bool.or_eq_true, Bool.and_eq_true, Bool.not_eq_true', decide_eq_true_eq,
      decide_eq_false_iff_not, gt_iff_lt, ge_iff_le, Classical.not_not, and_true, Bool.or_eq_false_iff,
      Bool.and_eq_false_iff] at *
  · exact and_congr_right fun _ => C07_ordered_causes (by unfold C07LipLe; omega)
  · rw [and_comm (a := ¬ C07LegitSucc a b)]
    exact and_congr eq_comm (C07_ordered_causes (by unfold C07LipLe; omega))

/-- Contradiction is a symmetric relation. -/
theorem C07_symmetric (a b : Hdr) :
    areDistinctHeadersContradicting a b = areDistinctHeadersContradicting b a := by
  rw [Bool.eq_iff_iff, C07_contradicting_iff, C07_contradicting_iff, eq_comm,
    and_comm (a := ¬ C07LegitSucc a b)]

/-- Headers by different generators never contradict. -/
theorem C07_diff_generator_never (a b : Hdr) (h : a.generatorAddress ≠ b.generatorAddress) :
    areDistinctHeadersContradicting a b = false :=
  Bool.eq_false_iff.mpr fun hc => h ((C07_contradicting_iff a b).mp hc).1

/-- Two headers of one generator do NOT contradict exactly when one of them is a legitimate
successor of the other. -/
theorem C07_spec (a b : Hdr) (h : a.generatorAddress = b.generatorAddress) :
    areDistinctHeadersContradicting a b = false ↔ (C07LegitSucc a b ∨ C07LegitSucc b a) := by
  rw [← Bool.not_eq_true, C07_contradicting_iff, and_iff_right h, ← not_or, Classical.not_not]

/-- The three causes of a contradiction, for the pair ordered as the code orders it
(`e` before `l` by (maxHeightGenerated, maxHeightPrevoted, height)):
double forging / not moving forward on equal maxHeightPrevoted, violating the own
maxHeightGenerated, or building on a chain with lower maxHeightPrevoted. -/
theorem C07_three_causes (e l : Hdr) (h : e.generatorAddress = l.generatorAddress)
    (hord : e.maxHeightGenerated < l.maxHeightGenerated ∨
      (e.maxHeightGenerated = l.maxHeightGenerated ∧ e.maxHeightPrevoted < l.maxHeightPrevoted) ∨
      (e.maxHeightGenerated = l.maxHeightGenerated ∧ e.maxHeightPrevoted = l.maxHeightPrevoted ∧
        e.height ≤ l.height)) :
    areDistinctHeadersContradicting e l = true ↔
      ((e.maxHeightPrevoted = l.maxHeightPrevoted ∧ l.height ≤ e.height) ∨
       l.maxHeightGenerated < e.height ∨ l.maxHeightPrevoted < e.maxHeightPrevoted) := by
  rw [C07_contradicting_iff, and_iff_right h]
  exact (C07_ordered_causes hord).symm

/-- `C07LegitSucc` is transitive: a generator's headers form a chain. -/
theorem C07_legit_trans (a b c : Hdr) (h1 : C07LegitSucc a b) (h2 : C07LegitSucc b c) :
    C07LegitSucc a c := by
  unfold C07LegitSucc at *
  omega

/-- A generator that follows the protocol is never flagged: if its headers, in signing order, are
each a legitimate successor of all earlier ones, no two of them contradict. -/
theorem C07_protocol_follower_never_flagged (hs : List Hdr) (g : Bytes)
    (hgen : ∀ x ∈ hs, x.generatorAddress = g) (hon : hs.Pairwise C07LegitSucc) :
    hs.Pairwise (fun a b => areDistinctHeadersContradicting a b = false ∧
      areDistinctHeadersContradicting b a = false) := by
  induction hs with
  | nil => exact List.Pairwise.nil
  | cons x r ih =>
    have hp := List.pairwise_cons.mp hon
    refine List.pairwise_cons.mpr ⟨?_, ih (fun y hy => hgen y (List.mem_cons_of_mem _ hy)) hp.2⟩
    intro y hy
    have hxy : x.generatorAddress = y.generatorAddress := by
      rw [hgen x List.mem_cons_self, hgen y (List.mem_cons_of_mem _ hy)]
    have := (C07_spec x y hxy).mpr (Or.inl (hp.1 y hy))
    exact ⟨this, by rw [← C07_symmetric]; exact this⟩

/-- The honest generator of LIP-0014: it remembers the largest height it generated; each new header
reports it, and is built on a tip that fork choice prefers to the previous one
(larger maxHeightPrevoted, or equal and larger height). -/
structure C07Gen where
  maxGen : Nat := 0
  lastMhp : Nat := 0
  lastHeight : Nat := 0

/-- one forging step at `height` on a chain whose maxHeightPrevoted is `mhp` -/
def C07Gen.forge (s : C07Gen) (g : Bytes) (height mhp : Nat) : C07Gen × Hdr :=
  ({ maxGen := max s.maxGen height, lastMhp := mhp, lastHeight := height },
   { height := height, generatorAddress := g, maxHeightGenerated := s.maxGen, maxHeightPrevoted := mhp })

def C07Gen.allowed (s : C07Gen) (height mhp : Nat) : Prop :=
  s.lastMhp < mhp ∨ (s.lastMhp = mhp ∧ s.lastHeight < height)

/-- run of the honest generator over a list of (height, mhp) forging opportunities -/
def C07Gen.run (g : Bytes) : C07Gen → List (Nat × Nat) → List Hdr
  | _, [] => []
  | s, (h, p) :: r => (s.forge g h p).2 :: C07Gen.run g (s.forge g h p).1 r

-- the address goes into the header only: the next state of `forge` does not depend on it, and
-- `allowedAll` and `final` follow the states with the address `[]`
def C07Gen.allowedAll : C07Gen → List (Nat × Nat) → Prop
  | _, [] => True
  | s, (h, p) :: r => s.allowed h p ∧ C07Gen.allowedAll (s.forge (g := []) h p).1 r

/-- every header of the honest generator carries its address -/
theorem C07Gen.run_address (g : Bytes) (steps : List (Nat × Nat)) (s : C07Gen) :
    ∀ x ∈ C07Gen.run g s steps, x.generatorAddress = g := by
  induction steps generalizing s with
  | nil => intro x hx; cases hx
  | cons st r ih =>
    intro x hx
    rcases List.mem_cons.mp hx with rfl | hx
    · rfl
    · exact ih _ x hx

/-- the state `s` accounts for the header `x`: whatever the honest generator forges from `s` on
legitimately succeeds `x` -/
private def C07Gen.Covers (s : C07Gen) (x : Hdr) : Prop :=
  x.height ≤ s.maxGen ∧ x.maxHeightGenerated ≤ s.maxGen ∧
  (x.maxHeightPrevoted < s.lastMhp ∨ (x.maxHeightPrevoted = s.lastMhp ∧ x.height ≤ s.lastHeight))

private theorem covers_forge (s : C07Gen) (g : Bytes) (h p : Nat) :
    (s.forge g h p).1.Covers (s.forge g h p).2 := by
  unfold C07Gen.Covers C07Gen.forge; dsimp only; omega

private theorem covers_step {s : C07Gen} {x : Hdr} (g : Bytes) {h p : Nat} (hx : s.Covers x)
    (ha : s.allowed h p) : C07LegitSucc x (s.forge g h p).2 ∧ (s.forge g h p).1.Covers x := by
  unfold C07Gen.Covers C07Gen.allowed at *; unfold C07LegitSucc C07Gen.forge; dsimp only; omega

private theorem gen_run_succ (g : Bytes) (x : Hdr) (steps : List (Nat × Nat)) (s : C07Gen)
    (hall : C07Gen.allowedAll s steps) (hx : s.Covers x) :
    ∀ y ∈ C07Gen.run g s steps, C07LegitSucc x y := by
  induction steps generalizing s with
  | nil => intro y hy; cases hy
  | cons st r ih =>
    intro y hy
    have hs := covers_step g hx hall.1
    rcases List.mem_cons.mp hy with rfl | hy
    · exact hs.1
    · exact ih _ hall.2 hs.2 y hy

/-- The honest generator's headers are pairwise legitimate successors — for every sequence of forging
opportunities each of which is on a better tip than the one before (`allowedAll`), including forging at
a lower height after switching to a better, shorter chain. (That such headers are never flagged as
contradicting is `C07_protocol_follower_never_flagged`.) -/
theorem C07_honest_generator_chain (g : Bytes) (steps : List (Nat × Nat)) (s : C07Gen)
    (hall : C07Gen.allowedAll s steps) : (C07Gen.run g s steps).Pairwise C07LegitSucc := by
  induction steps generalizing s with
  | nil => exact List.Pairwise.nil
  | cons st r ih =>
    exact List.pairwise_cons.mpr
      ⟨gen_run_succ g _ r _ hall.2 (covers_forge s g st.1 st.2), ih _ hall.2⟩

/-! ### what the honest generator remembers -/

/-- state of the honest generator after a list of forging opportunities -/
def C07Gen.final : C07Gen → List (Nat × Nat) → C07Gen
  | s, [] => s
  | s, (h, p) :: r => C07Gen.final (s.forge (g := []) h p).1 r

/-- the largest height never decreases, and every header reports a value between the one the
generator started from and the one it ends with -/
theorem C07Gen.run_bounds (g : Bytes) (steps : List (Nat × Nat)) (s : C07Gen) :
    s.maxGen ≤ (C07Gen.final s steps).maxGen ∧
    ∀ y ∈ C07Gen.run g s steps, s.maxGen ≤ y.maxHeightGenerated ∧
      y.maxHeightGenerated ≤ (C07Gen.final s steps).maxGen := by
  induction steps generalizing s with
  | nil => exact ⟨Nat.le_refl _, fun y hy => by cases hy⟩
  | cons st r ih =>
    obtain ⟨h1, h2⟩ := ih (s.forge (g := []) st.1 st.2).1
    have h0 : s.maxGen ≤ (s.forge (g := []) st.1 st.2).1.maxGen := Nat.le_max_left _ _
    refine ⟨Nat.le_trans h0 h1, fun y hm => ?_⟩
    rcases List.mem_cons.mp hm with rfl | hm
    · exact ⟨Nat.le_refl _, Nat.le_trans h0 h1⟩
    · exact ⟨Nat.le_trans h0 (h2 y hm).1, (h2 y hm).2⟩

/-- a later header reports at least the height and the reported value of every earlier one:
the `maxHeightGenerated` clauses of `C07LegitSucc` hold whatever the tips are -/
theorem C07Gen.run_clauses (g : Bytes) (steps : List (Nat × Nat)) (s : C07Gen) :
    (C07Gen.run g s steps).Pairwise
      (fun e l => e.height ≤ l.maxHeightGenerated ∧ e.maxHeightGenerated ≤ l.maxHeightGenerated) := by
  induction steps generalizing s with
  | nil => exact List.Pairwise.nil
  | cons st r ih =>
    obtain ⟨h, p⟩ := st
    refine List.pairwise_cons.mpr ⟨fun y hy => ?_, ih _⟩
    have := ((C07Gen.run_bounds g r (s.forge g h p).1).2 y hy).1
    simp only [C07Gen.forge] at this ⊢
    omega

/-- Detection inside the window: `BFTVotes.contradicting` compares a new header only with the most
recent header of the same generator. If the generator's headers already on the chain (oldest
first) form a legitimate chain and the new header `y` extends the chain (larger height, chain
maxHeightPrevoted not smaller), then `y` contradicting ANY of them implies `y` contradicts the most
recent one — so the single comparison flags it. -/
theorem C07_window_detection (xs : List Hdr) (last y : Hdr)
    (hgen : ∀ x ∈ xs ++ [last], x.generatorAddress = y.generatorAddress)
    (hchain : (xs ++ [last]).Pairwise C07LegitSucc)
    (hh : last.height < y.height) (hp : last.maxHeightPrevoted ≤ y.maxHeightPrevoted)
    (x : Hdr) (hx : x ∈ xs ++ [last]) (hc : areDistinctHeadersContradicting x y = true) :
    areDistinctHeadersContradicting last y = true := by
  cases hl : areDistinctHeadersContradicting last y with
  | true => rfl
  | false =>
    exfalso
    have hlast : last ∈ xs ++ [last] := by simp
    have hs := (C07_spec last y (hgen last hlast)).mp hl
    have hly : C07LegitSucc last y := by
      rcases hs with h1 | h1
      · exact h1
      · unfold C07LegitSucc at h1; omega
    have hxl : x = last ∨ C07LegitSucc x last := by
      rw [List.mem_append] at hx
      rcases hx with hx | hx
      · right
        exact (List.pairwise_append.mp hchain).2.2 x hx last (by simp)
      · left; simpa using hx
    have hxy : C07LegitSucc x y := by
      rcases hxl with rfl | h1
      · exact hly
      · exact C07_legit_trans x last y h1 hly
    have := (C07_spec x y (hgen x hx)).mpr (Or.inl hxy)
    rw [this] at hc
    cases hc

/-! ### fork-choice classification -/

/-- LIP-0014 order on (maxHeightPrevoted, height) -/
def C07Better (mhp h mhp' h' : Nat) : Prop := mhp < mhp' ∨ (mhp = mhp' ∧ h < h')

theorem C07_different_chain_iff (lm m lh h : Nat) :
    isDifferentChain lm m lh h = true ↔ C07Better lm lh m h := by
  unfold isDifferentChain C07Better
  simp
  omega

/-- the predicate order used by `Executer.process` -/
theorem C07_process_order :
    processOrder = ["IsIdenticalBlock", "IsValidBlock", "IsDoubleForging", "IsTieBreak", "IsDifferentChain"] := rfl

inductive C07Class | identical | extendsTip | doubleForging | tieBreak | betterChain | discard
deriving DecidableEq, Repr

/-- classification of an incoming block, in the order of `process` -/
def C07classify (c : FC) : C07Class :=
  if fcIsIdenticalBlock c then .identical
  else if fcIsValidBlock c then .extendsTip
  else if fcIsDoubleForging c then .doubleForging
  else if fcIsTieBreak c then .tieBreak
  else if fcIsDifferentChain c then .betterChain
  else .discard

/-- the class as a function of the answers to the five questions of `process` -/
private theorem classify_by_answers (c : FC) :
    (C07classify c = .betterChain ↔ fcIsIdenticalBlock c = false ∧ fcIsValidBlock c = false ∧
      fcIsDoubleForging c = false ∧ fcIsTieBreak c = false ∧ fcIsDifferentChain c = true) ∧
    (C07classify c = .discard ↔ fcIsIdenticalBlock c = false ∧ fcIsValidBlock c = false ∧
      fcIsDoubleForging c = false ∧ fcIsTieBreak c = false ∧ fcIsDifferentChain c = false) ∧
    (C07classify c = .doubleForging ∨ C07classify c = .tieBreak →
      fcIsDoubleForging c = true ∨ fcIsTieBreak c = true) := by
  unfold C07classify
  generalize fcIsIdenticalBlock c = i, fcIsValidBlock c = v, fcIsDoubleForging c = d,
    fcIsTieBreak c = t, fcIsDifferentChain c = x
  revert i v d t x
  decide

/-- both duplicate-height questions ask `isDuplicateBlock` first -/
private theorem not_dup {c : FC} (h : fcIsDuplicateBlock c = false) :
    fcIsDoubleForging c = false ∧ fcIsTieBreak c = false := by
  unfold fcIsDoubleForging fcIsTieBreak
  rw [h]
  exact ⟨rfl, rfl⟩

private theorem differentChain_iff (c : FC) : fcIsDifferentChain c = true ↔
    C07Better c.lastHeader.maxHeightPrevoted c.lastHeader.height
      c.currentHeader.maxHeightPrevoted c.currentHeader.height :=
  C07_different_chain_iff _ _ _ _

/-- An incoming block is classified as a better chain exactly when it is not identical, does not
extend the tip, and is larger in the LIP-0014 order (such a block is never a duplicate-height special
case: derived in the proof). -/
theorem C07_classification_better (c : FC) :
    C07classify c = .betterChain ↔
      (c.lastHeader.id ≠ c.currentHeader.id ∧ fcIsValidBlock c = false ∧
       C07Better c.lastHeader.maxHeightPrevoted c.lastHeader.height
         c.currentHeader.maxHeightPrevoted c.currentHeader.height) := by
  rw [(classify_by_answers c).1, differentChain_iff, fcIsIdenticalBlock, decide_eq_false_iff_not]
  refine ⟨fun ⟨h1, h2, _, _, h5⟩ => ⟨h1, h2, h5⟩, fun ⟨h1, h2, h5⟩ => ?_⟩
  -- a better block is no duplicate-height case
  have hd : fcIsDuplicateBlock c = false := by
    unfold C07Better at h5
    simp only [fcIsDuplicateBlock, Bool.and_eq_false_iff, decide_eq_false_iff_not]
    omega
  exact ⟨h1, h2, (not_dup hd).1, (not_dup hd).2, h5⟩

/-- A block that is neither identical, extending, a duplicate-height case, nor better is discarded. -/
theorem C07_classification_discard (c : FC) (h1 : fcIsIdenticalBlock c = false)
    (h2 : fcIsValidBlock c = false) (h3 : fcIsDuplicateBlock c = false)
    (h4 : ¬ C07Better c.lastHeader.maxHeightPrevoted c.lastHeader.height
      c.currentHeader.maxHeightPrevoted c.currentHeader.height) :
    C07classify c = .discard :=
  (classify_by_answers c).2.1.mpr ⟨h1, h2, (not_dup h3).1, (not_dup h3).2,
    Bool.eq_false_iff.mpr (mt (differentChain_iff c).mp h4)⟩

/-- Double forging and tie break only concern a block at the same height, with the same
maxHeightPrevoted and the same parent as the tip. -/
theorem C07_duplicate_cases (c : FC) (h : C07classify c = .doubleForging ∨ C07classify c = .tieBreak) :
    c.lastHeader.height = c.currentHeader.height ∧
    c.lastHeader.maxHeightPrevoted = c.currentHeader.maxHeightPrevoted ∧
    c.lastHeader.previousBlockID = c.currentHeader.previousBlockID := by
  have : fcIsDuplicateBlock c = true := by
    cases hd : fcIsDuplicateBlock c with
    | true => rfl
    | false => rcases (classify_by_answers c).2.2 h with h | h <;> simp [not_dup hd] at h
  unfold fcIsDuplicateBlock at this
  simpa [and_assoc] using this

/-- `HeaderHasPriority` (used when generating) is the same LIP-0014 order, for a header of version ≠ 0
(for version 0 the code takes another branch); the argument `mhg` plays no part. -/
theorem C07_header_priority_order (hd : Hdr) (height mhp mhg : Nat) (hv : hd.version ≠ 0) :
    headerHasPriority hd height mhp mhg = true ↔
      C07Better mhp height hd.maxHeightPrevoted hd.height := by
  unfold headerHasPriority C07Better
  simp [hv]

/-! ### non-vacuity -/

private def hA : Hdr := { height := 10, generatorAddress := [1], maxHeightGenerated := 5, maxHeightPrevoted := 3 }
private def hB : Hdr := { height := 8, generatorAddress := [1], maxHeightGenerated := 10, maxHeightPrevoted := 4 }
private def hC : Hdr := { height := 9, generatorAddress := [1], maxHeightGenerated := 8, maxHeightPrevoted := 4 }

example : C07LegitSucc hA hB := by decide
example : areDistinctHeadersContradicting hA hB = false := by decide
-- reporting the LAST generated height (8) instead of the largest (10) contradicts the header at 10
example : areDistinctHeadersContradicting hA hC = true := by decide
example : (C07Gen.run [1] {} [(10, 3), (8, 4), (9, 4)]).map (·.maxHeightGenerated) = [0, 10, 10] := by decide
