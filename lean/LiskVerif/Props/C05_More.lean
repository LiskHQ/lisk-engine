/-
C05 on every key and over histories (setting `Ref`, `StepOK`, `RunOK`, `BaseOK`, the volatile keys `Vol fin`:
Lemmas/NodeRef.lean, NodeLoad.lean, NodeTrans.lean). Key tables as in Model/Node.lean: `some 51` is the table of state diffs
(`kDiff`), `some 7` the table of temporary blocks (`kTemp`), `pState` the consensus store.

* `delete ∘ apply` on the FULL database, every key, every block (also blocks that raise the finalized height, with or without
  temporary copies), for an arbitrary database — no refinement, no freshness hypothesis: exactly which keys may differ and how.
  The identity outside the volatile keys holds iff the keys `deleteBlock` deletes for the block were free before, and for a
  block at height tip + 1 with an unused id that is iff none of its transactions is already stored: the shared transaction id
  of `C05_shared_txid_counterexample` is the only exception;
* above the finalized height `deleteBlock` always succeeds, so `delete ∘ apply = id` needs no hypothesis on the deletion;
* the block cache after `delete ∘ apply`: the old cache minus its oldest entry if it was full (evicted by `blockCache.push`),
  same tip block, the same header served for EVERY height;
* every history that ends with the ghost chain it started with restores the state, in particular `k` deletions after `k`
  applications;
* temporary blocks: the table `temp|height` after any history is a function of the effect trace; `deleteTillCommonBlock`
  leaves every removed block retrievable; re-applying a removed block with `removeTemp` (the restore path of the
  synchronisers) is the inverse of `deleteBlock(…, saveTemp)`;
* the volatile keys are not inputs of the abstraction: changing them arbitrarily (marker value kept) leaves the refinement
  intact, and a volatile state diff belongs to a height no `deleteBlock` will ever accept again.
-/
import LiskVerif.Props.C04
import LiskVerif.Props.C05

open LiskVerif LiskVerif.Node
open LiskVerif.DiffDB (Store KV CV Cache Diff slookup sset sdel clookup NoDupKeys)

/-! ### delete ∘ apply, every key -/

/-- the keys `deleteBlock` / `removeBlock` delete for a block: state diff, header, height index,
transactions and their id list (if any), assets (if any), events -/
theorem C05_removed_keys (b : Block) (k : Bytes) :
    k ∈ removedKeys b ↔
      k = kDiff b.hdr.height ∨ k = kHeader b.hdr.id ∨ k = kHeight b.hdr.height ∨
      (b.txs ≠ [] ∧ ((∃ t ∈ b.txs, k = kTx t.1) ∨ k = kTxs b.hdr.id)) ∨
      (b.assets ≠ [] ∧ k = kAssets b.hdr.id) ∨ k = kEvents b.hdr.height :=
  mem_removedKeys b k

/-- **`delete ∘ apply` on the full database, key by key.** For ANY database `s.db` (distinct keys),
any block and any execution result whose overlay was read from this database (`hinit`; overlay keys
under the consensus-store prefix), after a successful `processValidated(b)` followed by a
`deleteBlock(b)` that removed it, with `f` the finalized height before and `max f mhpc` after:

1. the marker holds `max f mhpc`;
2. the temporary entry of the block's height holds the encoded block if `saveTemp`, is absent if
   `removeTemp` (and not `saveTemp`), and is unchanged otherwise;
3. every key `deleteBlock` deletes for the block (`C05_removed_keys`) is absent;
4. every other key — consensus store, indexes of other blocks, other diffs / events / temporary
   blocks — holds what it held before, except that state diffs of heights below a *raised* marker
   and the events in the pruning range of `saveBlock` are absent. -/
theorem C05_delete_apply_exact (cd : Codecs) (cfg : Cfg) (s s1 s2 : St) (b : Block) (valid : Bool)
    (x : Exec) (rt st : Bool) (r : Res)
    (hnd : NoDupKeys s.db) (hov : OverlayOK x.overlay)
    (hsk : ∀ e ∈ x.overlay, e.1.head? = some pState)
    (hinit : ∀ k cv, clookup x.overlay k = some cv → cv.init = slookup s.db k)
    (hrt : cd.decDiff (cd.encDiff (diffOf x.overlay)) = some (diffOf x.overlay))
    (hb : b.hdr.height < u32) (hm : x.mhpc ≤ b.hdr.height)
    (ha : apply cd cfg s b valid x rt = (s1, .ok)) (hd : deleteTip cd cfg s1 st = (s2, r))
    (hr : r.removed) :
    ∃ f, finOf s.db = some f ∧ max f x.mhpc < b.hdr.height ∧
      slookup s2.db kFin = some (encU32 (max f x.mhpc)) ∧
      slookup s2.db (kTemp b.hdr.height) =
        (if st = true then some (encBlock b) else if rt = true then none
         else slookup s.db (kTemp b.hdr.height)) ∧
      (∀ k ∈ removedKeys b, slookup s2.db k = none) ∧
      (∀ k, k ≠ kFin → k ≠ kTemp b.hdr.height → k ∉ removedKeys b →
        (((f < x.mhpc ∧ k.head? = some 51 ∧ decU32 (k.drop 1) < x.mhpc) ∨
            Pruned cfg b.hdr.height (max f x.mhpc) k) → slookup s2.db k = none) ∧
        (¬ ((f < x.mhpc ∧ k.head? = some 51 ∧ decU32 (k.drop 1) < x.mhpc) ∨
            Pruned cfg b.hdr.height (max f x.mhpc) k) → slookup s2.db k = slookup s.db k)) := by
  obtain ⟨f, hf, hdb, hlt⟩ := roundTrip_db hov.nodup hrt hb hm ha hd hr
  have h := roundTrip_exact cd cfg s.db f b x rt st hnd hov hsk hinit
  rw [← hdb] at h
  exact ⟨f, hf, hlt, h⟩

/-- **The identity holds iff the block's keys were free.** In the situation of
`C05_delete_apply_exact`: every key outside the volatile set holds after `delete ∘ apply` what it
held before **iff** every key `deleteBlock` deletes for the block was absent before. (A key of the
block that was in use — the id of a transaction included in an earlier block — is deleted with the
block: `C05_shared_txid_counterexample`.) -/
theorem C05_identity_iff_fresh (cd : Codecs) (cfg : Cfg) (s s1 s2 : St) (b : Block) (valid : Bool)
    (x : Exec) (rt st : Bool) (r : Res)
    (hnd : NoDupKeys s.db) (hov : OverlayOK x.overlay)
    (hsk : ∀ e ∈ x.overlay, e.1.head? = some pState)
    (hinit : ∀ k cv, clookup x.overlay k = some cv → cv.init = slookup s.db k)
    (hrt : cd.decDiff (cd.encDiff (diffOf x.overlay)) = some (diffOf x.overlay))
    (hb : b.hdr.height < u32) (hm : x.mhpc ≤ b.hdr.height)
    (ha : apply cd cfg s b valid x rt = (s1, .ok)) (hd : deleteTip cd cfg s1 st = (s2, r))
    (hr : r.removed) :
    ∃ f, finOf s.db = some f ∧
      ((∀ k, ¬ Vol (max f x.mhpc) k → slookup s2.db k = slookup s.db k) ↔
        (∀ k ∈ removedKeys b, slookup s.db k = none)) := by
  obtain ⟨f, hf, hlt, _, _, h3, h4⟩ := C05_delete_apply_exact cd cfg s s1 s2 b valid x rt st r hnd hov
    hsk hinit hrt hb hm ha hd hr
  refine ⟨f, hf, ?_, ?_⟩
  · intro hid k hk
    have hnv : ¬ Vol (max f x.mhpc) k := allKeys_not_vol hb hlt (removedKeys_allKeys b k hk)
    rw [← hid k hnv]
    exact h3 k hk
  · intro hfree k hnv
    by_cases hk : k ∈ removedKeys b
    · rw [h3 k hk, hfree k hk]
    · have h1 : k ≠ kFin := fun h => hnv (h ▸ Or.inl rfl)
      have h2 : k ≠ kTemp b.hdr.height := fun h => hnv (h ▸ kTemp_vol _ _)
      apply (h4 k h1 h2 hk).2
      rintro (⟨hr', hh, hlt'⟩ | hp)
      · exact hnv (Or.inr (Or.inr (Or.inl ⟨hh, by omega⟩)))
      · exact hnv hp.vol

/-- **… and the block's keys are free iff none of its transactions is already stored.** For a
refined state, a block at height tip + 1 whose id is not in use, over a base database without
left-overs above its tip: the freshness hypothesis `StepOK.fresh` of the identity theorems
(`C05_delete_apply_identity`, `C05_reorg_confluence`, …) is equivalent to "no transaction of the
block is stored" — a shared transaction id is the only way to violate it. -/
theorem C05_fresh_is_tx_freshness (cd : Codecs) (base : Store) (baseH : Nat)
    (hbase : BaseOK cd base baseH) (hclean : BaseClean base baseH) (s : St) (c : Chain)
    (hR : Ref cd base baseH s c) (b : Block) (hh : b.hdr.height = tipH baseH c + 1)
    (hb : b.hdr.height < u32) (hid : slookup s.db (kHeader b.hdr.id) = none) :
    (∀ k ∈ allKeys b, spec cd base c k = none) ↔ (∀ t ∈ b.txs, slookup s.db (kTx t.1) = none) := by
  obtain ⟨f, hf, _, _⟩ := hR.db.finOk
  have hid' : spec cd base c (kHeader b.hdr.id) = none := by
    rw [← hR.db.agree f hf _ (kHeader_not_vol f _)]; exact hid
  rw [fresh_iff_no_shared_tx hbase hclean hR.db.wf b hh hb hid']
  constructor
  · intro h t ht; rw [hR.db.agree f hf _ (kTx_not_vol f _)]; exact h t ht
  · intro h t ht; rw [← hR.db.agree f hf _ (kTx_not_vol f _)]; exact h t ht

/-- **The shared transaction id is the only exception.** For a reachable state (refined by a chain
over a base database without left-overs), a block at height tip + 1 whose id is not in use and an
execution result built over the state's consensus store — nothing is assumed about the block's
transactions —: `delete ∘ apply` restores every key outside the volatile set **iff** no transaction
of the block is already stored. (If one is, `deleteBlock` deletes the stored copy together with the
block: `C05_shared_txid_counterexample`, known finding `c05-shared-txid-lost`.) -/
theorem C05_identity_iff_no_shared_tx (cd : Codecs) (cfg : Cfg) (base : Store) (baseH : Nat)
    (hbase : BaseOK cd base baseH) (hclean : BaseClean base baseH) (s s1 s2 : St) (c : Chain)
    (b : Block) (valid : Bool) (x : Exec) (rt st : Bool) (r : Res)
    (hR : Ref cd base baseH s c) (hb : b.hdr.height < u32)
    (hid : slookup s.db (kHeader b.hdr.id) = none)
    (hov : OverlayOK x.overlay) (hsk : ∀ e ∈ x.overlay, e.1.head? = some pState)
    (hinit : ∀ k cv, clookup x.overlay k = some cv → cv.init = spec cd base c k)
    (hrt : cd.decDiff (cd.encDiff (diffOf x.overlay)) = some (diffOf x.overlay))
    (hm : x.mhpc ≤ b.hdr.height)
    (ha : apply cd cfg s b valid x rt = (s1, .ok)) (hd : deleteTip cd cfg s1 st = (s2, r))
    (hr : r.removed) :
    ∃ f, finOf s.db = some f ∧
      ((∀ k, ¬ Vol (max f x.mhpc) k → slookup s2.db k = slookup s.db k) ↔
        (∀ t ∈ b.txs, slookup s.db (kTx t.1) = none)) := by
  obtain ⟨f0, hf0, _, hle0⟩ := hR.db.finOk
  have hinit' := hR.db.initOk hsk hinit
  obtain ⟨f, hf, hiff⟩ := C05_identity_iff_fresh cd cfg s s1 s2 b valid x rt st r hR.db.nodup hov hsk
    hinit' hrt hb hm ha hd hr
  have hfe : f = f0 := by rw [hf0] at hf; exact (Option.some.inj hf).symm
  subst hfe
  -- only `hlt'` is wanted: the block is above the finalized height, so its height is not 0 (no wrap-around)
  obtain ⟨f', _, hlt', _⟩ := C05_delete_apply_exact cd cfg s s1 s2 b valid x rt st r hR.db.nodup hov hsk
    hinit' hrt hb hm ha hd hr
  have hheight := apply_ok_height hR ha (by omega)
  refine ⟨f, hf, hiff.trans ?_⟩
  have hfresh := C05_fresh_is_tx_freshness cd base baseH hbase hclean s c hR b hheight hb hid
  constructor
  · intro hfree t ht
    apply hfree
    rw [mem_removedKeys]
    have hne : b.txs ≠ [] := by intro h; rw [h] at ht; cases ht
    exact Or.inr (Or.inr (Or.inr (Or.inl ⟨hne, Or.inl ⟨t, ht, rfl⟩⟩)))
  · intro htx k hk
    have hak := removedKeys_allKeys b k hk
    have hnv : ¬ Vol f k := allKeys_not_vol hb (by omega) hak
    rw [hR.db.agree f hf k hnv]
    exact hfresh.mpr htx k hak

/-- `C05_delete_apply_exact` for a reachable state and a block that satisfies the hypotheses of the
identity theorems (`StepOK`): all four clauses, now for every key of a real node's database. -/
theorem C05_delete_apply_all_keys (cd : Codecs) (cfg : Cfg) (base : Store) (baseH : Nat)
    (s s1 s2 : St) (c : Chain) (b : Block) (valid : Bool) (x : Exec) (rt st : Bool) (r : Res)
    (hR : Ref cd base baseH s c) (hstep : StepOK cd base c b x)
    (ha : apply cd cfg s b valid x rt = (s1, .ok)) (hd : deleteTip cd cfg s1 st = (s2, r))
    (hr : r.removed) :
    ∃ f, finOf s.db = some f ∧ max f x.mhpc < b.hdr.height ∧
      slookup s2.db kFin = some (encU32 (max f x.mhpc)) ∧
      slookup s2.db (kTemp b.hdr.height) =
        (if st = true then some (encBlock b) else if rt = true then none
         else slookup s.db (kTemp b.hdr.height)) ∧
      (∀ k ∈ removedKeys b, slookup s2.db k = none ∧ slookup s.db k = none) ∧
      (∀ k, k ≠ kFin → k ≠ kTemp b.hdr.height → k ∉ removedKeys b →
        (((f < x.mhpc ∧ k.head? = some 51 ∧ decU32 (k.drop 1) < x.mhpc) ∨
            Pruned cfg b.hdr.height (max f x.mhpc) k) → slookup s2.db k = none) ∧
        (¬ ((f < x.mhpc ∧ k.head? = some 51 ∧ decU32 (k.drop 1) < x.mhpc) ∨
            Pruned cfg b.hdr.height (max f x.mhpc) k) → slookup s2.db k = slookup s.db k)) := by
  obtain ⟨f0, hf0, _, _⟩ := hR.db.finOk
  have hinit' := hR.db.initOk hstep.stateKeys hstep.initOk
  obtain ⟨f, hf, hlt, h1, h2, h3, h4⟩ := C05_delete_apply_exact cd cfg s s1 s2 b valid x rt st r
    hR.db.nodup hstep.ov hstep.stateKeys hinit' hstep.diffRt hstep.block.heightLt hstep.mhpcLe ha hd hr
  refine ⟨f, hf, hlt, h1, h2, ?_, h4⟩
  intro k hk
  refine ⟨h3 k hk, ?_⟩
  have hak := removedKeys_allKeys b k hk
  rw [hR.db.agree f hf k (allKeys_not_vol hstep.block.heightLt (by omega) hak)]
  exact hstep.fresh k hak

/-! ### the deletion always succeeds above the finalized height -/

/-- **`deleteBlock` of the tip succeeds whenever the tip is above the finalized height** (and is
not the genesis block): in every reachable state the previous header, the state diff of the tip and
its decoding are there — the finality guard is the only reason to refuse. (`hb0`: if the chain below
the tip is the base itself, the header of the base tip decodes.) -/
theorem C05_delete_always_succeeds (cd : Codecs) (cfg : Cfg) (base : Store) (baseH : Nat)
    (hbase : BaseOK cd base baseH) (s : St) (c : Chain) (b : Block) (x : Exec) (st : Bool)
    (hR : Ref cd base baseH s ((b, x) :: c)) (hne : s.cache ≠ []) (f : Nat)
    (hf : finOf s.db = some f) (hg : b.hdr.height ≠ cfg.genesisHeight)
    (hb0 : c = [] → ∃ hd, hdrDB cd base baseH = some hd) :
    (deleteTip cd cfg s st).2.removed ↔ f < b.hdr.height := by
  constructor
  · intro hr
    cases hd : deleteTip cd cfg s st with | mk s' r => ?_
    rw [hd] at hr
    obtain ⟨b', x', c', hc, _, _, _, hlt, _⟩ := ref_delete hbase hR hd hr
    obtain ⟨⟨rfl, rfl⟩, rfl⟩ := List.cons.inj hc
    exact hlt f hf
  · intro hlt
    exact delete_succeeds st hbase hR hne hf hlt hg hb0

/-- **`delete ∘ apply = identity`, without assuming that the deletion succeeds**: after a
successful `processValidated` of a block that does not finalize itself (`mhpc < height`; a block
that does can never be removed — C04), `deleteBlock` removes it again and the state is restored
outside the volatile keys, cache and served headers included. -/
theorem C05_delete_apply_total (cd : Codecs) (cfg : Cfg) (base : Store) (baseH : Nat)
    (hbase : BaseOK cd base baseH) (s s1 : St) (c : Chain) (b : Block) (valid : Bool) (x : Exec)
    (removeTemp saveTemp : Bool)
    (hR : Ref cd base baseH s c) (hstep : StepOK cd base c b x)
    (ha : apply cd cfg s b valid x removeTemp = (s1, .ok))
    (hself : x.mhpc < b.hdr.height) (hg : b.hdr.height ≠ cfg.genesisHeight)
    (hb0 : c = [] → ∃ hd, hdrDB cd base baseH = some hd) :
    (deleteTip cd cfg s1 saveTemp).2.removed ∧
    Ref cd base baseH (deleteTip cd cfg s1 saveTemp).1 c ∧
    ∃ f, finOf s.db = some f ∧
      finOf (deleteTip cd cfg s1 saveTemp).1.db = some (max f x.mhpc) ∧
      (∀ k, ¬ Vol (max f x.mhpc) k →
        slookup (deleteTip cd cfg s1 saveTemp).1.db k = slookup s.db k) ∧
      ∀ h, headerAt cd (deleteTip cd cfg s1 saveTemp).1 h = headerAt cd s h := by
  have hR1 := ref_apply hR hstep ha
  obtain ⟨tip, rest, f, hc, _, _, _, hf, hs1⟩ := apply_ok_inv ha
  obtain ⟨_, hf1⟩ := dbRef_apply (cfg := cfg) (rt := removeTemp) hR.db hstep hf hR1.db.wf.height
  have hf1' : finOf s1.db = some (max f x.mhpc) := by rw [hs1]; exact hf1
  have hlt : max f x.mhpc < b.hdr.height := by
    have := (hR.db.fin_le hf).2
    have := hR1.db.wf.height
    omega
  have hne : s1.cache ≠ [] := by rw [hs1]; simp [applyCache]
  have hrem := delete_succeeds (cfg := cfg) saveTemp hbase hR1 hne hf1' hlt hg hb0
  cases hd : deleteTip cd cfg s1 saveTemp with | mk s2 r => ?_
  rw [hd] at hrem
  obtain ⟨hR2, f0, hf0, hf2, hid⟩ := C05_delete_apply_identity cd cfg base baseH hbase s s1
    s2 c b valid x removeTemp saveTemp r hR hstep ha hd hrem
  refine ⟨hrem, hR2, f0, hf0, hf2, hid, ?_⟩
  exact headerAt_congr hbase hR hR2

/-! ### the block cache -/

/-- **The block cache after `delete ∘ apply`** is the cache before, minus its oldest entry if it
was full (`blockCache.push` evicts the oldest block when the cache holds `maxCache` blocks; `pop`
does not bring it back) — `rest` below; if that is not empty the tip block is the same block, and
(in a refined state) the header served for EVERY height is the same: an evicted block is read from
the database instead. (If `rest` is empty — `maxCache ≤ 1` — the cache is loaded again from the
database: `C05_cached_tip_restored`.) -/
theorem C05_cache_restored (cd : Codecs) (cfg : Cfg) (base : Store) (baseH : Nat)
    (hbase : BaseOK cd base baseH) (s s1 s2 : St) (c : Chain) (b : Block) (valid : Bool) (x : Exec)
    (removeTemp saveTemp : Bool) (r : Res)
    (hR : Ref cd base baseH s c) (hstep : StepOK cd base c b x)
    (ha : apply cd cfg s b valid x removeTemp = (s1, .ok))
    (hd : deleteTip cd cfg s1 saveTemp = (s2, r)) (hr : r.removed) :
    (∀ h, headerAt cd s2 h = headerAt cd s h ∧ idAt cd s2 h = idAt cd s h) ∧
    ((if s.cache.length ≥ cfg.maxCache then s.cache.dropLast else s.cache) ≠ [] →
      s2.cache = (if s.cache.length ≥ cfg.maxCache then s.cache.dropLast else s.cache) ∧
      s2.cache.head? = s.cache.head? ∧ r = .ok) := by
  obtain ⟨hR2, _⟩ := C05_delete_apply_identity cd cfg base baseH hbase s s1 s2 c b valid x
    removeTemp saveTemp r hR hstep ha hd hr
  have hh : ∀ h, headerAt cd s2 h = headerAt cd s h := headerAt_congr hbase hR hR2
  refine ⟨fun h => ⟨hh h, by unfold idAt; rw [hh h]⟩, ?_⟩
  intro hne
  obtain ⟨tip, rest, f, hc, _, _, _, _, hs1⟩ := apply_ok_inv ha
  obtain ⟨tip1, rest1, _, _, _, hc1, _, _, _, _, _, hrest⟩ := deleteTip_done_inv hd hr
  have hre : rest1 = (if s.cache.length ≥ cfg.maxCache then s.cache.dropLast else s.cache) := by
    rw [hs1] at hc1
    simp only [applyCache, List.cons.injEq] at hc1
    exact hc1.2.symm
  have hhead : (if s.cache.length ≥ cfg.maxCache then s.cache.dropLast else s.cache).head? =
      s.cache.head? := by
    split
    · rename_i hge
      rw [if_pos hge] at hne
      rw [hc] at hne ⊢
      cases rest with
      | nil => simp at hne
      | cons a l => simp
    · rfl
  rcases hrest with ⟨hrok, _, ⟨_, hce⟩ | ⟨hnil, _⟩⟩ | ⟨_, _, _, hnil⟩
  · rw [hce, hre]; exact ⟨rfl, hhead, hrok⟩
  · exact absurd (hre ▸ hnil) hne
  · -- the error after the write only arises when the popped cache is empty
    exact absurd (hre ▸ hnil) hne

/-! ### any number of steps -/

/-- **Every history that ends with the chain it started with restores the state**: whatever the
operations in between (applications, deletions, failed blocks, tie-breaks, restarts — any number,
any depth above the finalized height), if the ghost chain after the history is the chain before it,
then every key outside the volatile set of the final finalized height holds what it held before,
the header served for every height is the same, and the finalized height is the maximum of the old
one and the precommitted heights of the blocks applied in between. -/
theorem C05_history_restores (cd : Codecs) (cfg : Cfg) (slot : Slot) (base : Store) (baseH : Nat)
    (hbase : BaseOK cd base baseH) (s : St) (c : Chain) (ops : List Op)
    (hR : Ref cd base baseH s c) (hok : RunOK cd cfg slot base s c ops)
    (hback : runC cd cfg slot s c ops = c) :
    Ref cd base baseH (run cd cfg slot s ops) c ∧
    ∃ f, finOf s.db = some f ∧
      finOf (run cd cfg slot s ops).db = some (finAfter f (trace cd cfg slot s ops)) ∧
      (∀ k, ¬ Vol (finAfter f (trace cd cfg slot s ops)) k →
        slookup (run cd cfg slot s ops).db k = slookup s.db k) ∧
      ∀ h, headerAt cd (run cd cfg slot s ops) h = headerAt cd s h := by
  have hR' := (trans_run hbase ops s c hR hok).ref
  rw [hback] at hR'
  obtain ⟨f, hf, _, _⟩ := hR.db.finOk
  have hfin := (hist_run hbase ops s c f hR hf hok).fin
  refine ⟨hR', f, hf, hfin, ?_, ?_⟩
  · intro k hk
    rw [hR'.db.agree _ hfin k hk]
    exact (hR.db.agree f hf k (fun hv => hk (Vol_mono (le_finAfter _ f) hv))).symm
  · exact headerAt_congr hbase hR hR'

/-- **Deleting `k` blocks after applying `k` blocks restores the state**, for every `k` and all
block contents: if `k` `processValidated` calls succeed and then `k` `deleteBlock` calls remove the
tip (`Succ`), the ghost chain is back where it was, so `C05_history_restores` applies. -/
theorem C05_delete_k_apply_k (cd : Codecs) (cfg : Cfg) (slot : Slot) (base : Store) (baseH : Nat)
    (hbase : BaseOK cd base baseH) (s : St) (c : Chain)
    (bs : List (Block × Bool × Exec × Bool)) (sts : List Bool) (hlen : sts.length = bs.length)
    (hR : Ref cd base baseH s c)
    (hok : RunOK cd cfg slot base s c
      ((bs.map fun a => Op.apply a.1 a.2.1 a.2.2.1 a.2.2.2) ++ sts.map Op.deleteTip))
    (hsucc : Succ cd cfg slot s
      ((bs.map fun a => Op.apply a.1 a.2.1 a.2.2.1 a.2.2.2) ++ sts.map Op.deleteTip)) :
    let ops := (bs.map fun a => Op.apply a.1 a.2.1 a.2.2.1 a.2.2.2) ++ sts.map Op.deleteTip
    runC cd cfg slot s c ops = c ∧
    Ref cd base baseH (run cd cfg slot s ops) c ∧
    ∃ f, finOf s.db = some f ∧
      finOf (run cd cfg slot s ops).db = some ((bs.map (·.2.2.1.mhpc)).foldl max f) ∧
      (∀ k, ¬ Vol ((bs.map (·.2.2.1.mhpc)).foldl max f) k →
        slookup (run cd cfg slot s ops).db k = slookup s.db k) ∧
      ∀ h, headerAt cd (run cd cfg slot s ops) h = headerAt cd s h := by
  intro ops
  obtain ⟨hs1, hs2⟩ := (succ_append cd cfg slot _ _ s).mp hsucc
  have hback : runC cd cfg slot s c ops = c := by
    show runC cd cfg slot s c (_ ++ _) = c
    rw [runC_append, runC_applies cd cfg slot bs s c hs1, runC_deletes cd cfg slot sts _ _ hs2, hlen]
    have : bs.length = ((bs.map fun a => (a.1, a.2.2.1)).reverse).length := by simp
    rw [this, List.drop_left]
  obtain ⟨h1, f, hf, h2, h3, h4⟩ := C05_history_restores cd cfg slot base baseH hbase s c ops hR hok hback
  -- only the applications count for the finalized height, and their trace lists `bs`
  have hfa : finAfter f (trace cd cfg slot s ops) = (bs.map (·.2.2.1.mhpc)).foldl max f := by
    show finAfter f (trace cd cfg slot s (_ ++ _)) = _
    rw [finAfter_eq_foldl, trace_append, appliedOf_append, trace_applies cd cfg slot bs s hs1,
      appliedOf_trace_deletes, List.append_nil, appliedOf_applied, List.map_map]
    rfl
  rw [hfa] at h2 h3
  exact ⟨hback, h1, f, hf, h2, h3, h4⟩

/-! ### temporary blocks -/

/-- **The table of temporary blocks is a function of the effect trace**: after any history the
entry under a key `temp|…` is what `tempAfter` computes from the entries before — a successful
`processValidated(…, removeTemp = true)` deletes the entry of the block's height, a
`deleteBlock(…, saveTemp = true)` that removed the tip stores the encoded block under its height,
`ClearTempBlocks` empties the table; nothing else (failed operations, restarts, `removeTemp = false`,
`saveTemp = false`) touches it. -/
theorem C05_temp_table_exact (cd : Codecs) (cfg : Cfg) (slot : Slot) (base : Store) (baseH : Nat)
    (hbase : BaseOK cd base baseH) (s : St) (c : Chain) (ops : List Op)
    (hR : Ref cd base baseH s c) (hok : RunOK cd cfg slot base s c ops) (k : Bytes)
    (hk : k.head? = some 7) :
    slookup (run cd cfg slot s ops).db k = tempAfter (slookup s.db) (trace cd cfg slot s ops) k :=
  temp_run hbase ops s c hR hok k hk

/-- **Restoring a removed block is the inverse of removing it with a temporary copy**:
`deleteBlock(tip, saveTemp = true)` followed by `processValidated(tip, removeTemp = true)` with the
same execution result (the restore path of the synchronisers) ends in a state refined by the same
chain, with the same value under every non-volatile key, no temporary entry for the block's height
and all other temporary entries unchanged. -/
theorem C05_restore_roundtrip (cd : Codecs) (cfg : Cfg) (base : Store) (baseH : Nat)
    (hbase : BaseOK cd base baseH) (s s1 s2 : St) (c : Chain) (b : Block) (x : Exec) (valid : Bool)
    (r : Res) (hR : Ref cd base baseH s ((b, x) :: c))
    (hd : deleteTip cd cfg s true = (s1, r)) (hr : r.removed)
    (ha : apply cd cfg s1 b valid x true = (s2, .ok)) :
    Ref cd base baseH s2 ((b, x) :: c) ∧
    slookup s1.db (kTemp b.hdr.height) = some (encBlock b) ∧
    slookup s2.db (kTemp b.hdr.height) = none ∧
    (∀ k, k.head? = some 7 → k ≠ kTemp b.hdr.height → slookup s2.db k = slookup s.db k) ∧
    ∃ f, finOf s.db = some f ∧ finOf s2.db = some (max f x.mhpc) ∧
      ∀ k, ¬ Vol (max f x.mhpc) k → slookup s2.db k = slookup s.db k := by
  obtain ⟨hstep, _, _⟩ := hR.db.wf
  obtain ⟨b', x', c', hc0, hR1, hfin1, _, _, _, hdb1⟩ := ref_delete hbase hR hd hr
  obtain ⟨⟨rfl, rfl⟩, rfl⟩ := List.cons.inj hc0
  have hR2 := ref_apply hR1 hstep ha
  obtain ⟨f, hf, _, _⟩ := hR.db.finOk
  obtain ⟨_, _, f1, _, _, _, _, hf1, hs2⟩ := apply_ok_inv ha
  have hfe : f1 = f := by rw [hfin1, hf] at hf1; exact (Option.some.inj hf1).symm
  subst hfe
  have hml : x.mhpc < u32 := Nat.lt_of_le_of_lt hstep.mhpcLe hstep.block.heightLt
  have hf2 : finOf s2.db = some (max f1 x.mhpc) := by
    rw [hs2]
    exact finOf_applyDb cd cfg s1.db f1 b x true (finOf_lt hf1) hml
  have ht1 : ∀ k, k.head? = some 7 → slookup s1.db k =
      if (true = true ∧ k = kTemp b.hdr.height) then some (encBlock b) else slookup s.db k := by
    intro k hk; rw [hdb1]; exact delete_temp true hR.db hf k hk
  have ht2 : ∀ k, k.head? = some 7 → slookup s2.db k =
      if (true = true ∧ k = kTemp b.hdr.height) then none else slookup s1.db k := by
    intro k hk; rw [hs2]
    exact apply_temp cd cfg s1.db f1 b x true hstep.ov.nodup hstep.stateKeys k hk
  have hkt : (kTemp b.hdr.height).head? = some 7 := by simp [kTemp]
  refine ⟨hR2, ?_, ?_, ?_, f1, hf, hf2, ?_⟩
  · rw [ht1 _ hkt]; simp
  · rw [ht2 _ hkt]; simp
  · intro k hk hne
    rw [ht2 k hk, ht1 k hk]; simp [hne]
  · intro k hk
    rw [hR2.db.agree _ hf2 k hk]
    exact (hR.db.agree f1 hf k (fun hv => hk (Vol_mono (Nat.le_max_left _ _) hv))).symm

/-- the loop of `deleteTillCommonBlock` and the temporary copies: copies above the tip are left alone, and when the
common block is reached every removed block has its copy -/
private theorem deleteTill_temp {cd : Codecs} {cfg : Cfg} {base : Store} {baseH : Nat}
    (hbase : BaseOK cd base baseH) (fuel : Nat) (s : St) (target : Nat) : ∀ c, Ref cd base baseH s c →
    (∀ h, tipH baseH c < h → h < u32 →
      slookup (deleteTill cd cfg fuel s target).1.db (kTemp h) = slookup s.db (kTemp h)) ∧
    ((deleteTill cd cfg fuel s target).2 = .ok →
      ∃ k, Ref cd base baseH (deleteTill cd cfg fuel s target).1 (c.drop k) ∧
        ∀ bx ∈ c.take k,
          slookup (deleteTill cd cfg fuel s target).1.db (kTemp bx.1.hdr.height) = some (encBlock bx.1) ∧
          (cd.decBlock (encBlock bx.1) = some bx.1 →
            ∀ l, tempBlocks cd (deleteTill cd cfg fuel s target).1 = some l → bx.1 ∈ l)) := by
  -- one `deleteBlock(tip, saveTemp = true)` that removed the tip
  have del1 : ∀ (s s' : St) (r : Res) (c : Chain), deleteTip cd cfg s true = (s', r) → r.removed →
      Ref cd base baseH s c → ∃ b x c', c = (b, x) :: c' ∧ Ref cd base baseH s' c' ∧
        slookup s'.db (kTemp b.hdr.height) = some (encBlock b) ∧ b.hdr.height < u32 ∧
        tipH baseH c' < b.hdr.height ∧
        ∀ h, b.hdr.height < h → h < u32 → slookup s'.db (kTemp h) = slookup s.db (kTemp h) := by
    intro s s' r c hd hr hR
    obtain ⟨b, x, c', rfl, hR', _, _, _, _, hdb⟩ := ref_delete hbase hR hd hr
    obtain ⟨f, hf, _, _⟩ := hR.db.finOk
    obtain ⟨hstep, hheight, _⟩ := hR.db.wf
    refine ⟨b, x, c', rfl, hR', ?_, hstep.block.heightLt, by omega, fun h hlt hh => ?_⟩
    · rw [hdb, delete_temp true hR.db hf _ (by simp [kTemp])]; simp
    · have hne : kTemp h ≠ kTemp b.hdr.height := fun he => by
        simp only [kTemp, List.cons.injEq, true_and] at he
        have := encU32_inj hh hstep.block.heightLt he
        omega
      rw [hdb, delete_temp true hR.db hf _ (by simp [kTemp])]
      simp [hne]
  refine deleteTill_induction (cfg := cfg) (P := fun s out => ∀ c, Ref cd base baseH s c →
      (∀ h, tipH baseH c < h → h < u32 → slookup out.1.db (kTemp h) = slookup s.db (kTemp h)) ∧
      (out.2 = .ok → ∃ k, Ref cd base baseH out.1 (c.drop k) ∧ ∀ bx ∈ c.take k,
        slookup out.1.db (kTemp bx.1.hdr.height) = some (encBlock bx.1) ∧
        (cd.decBlock (encBlock bx.1) = some bx.1 → ∀ l, tempBlocks cd out.1 = some l → bx.1 ∈ l)))
    (fun s c _ => ⟨fun _ _ _ => rfl, fun h => by cases h⟩)
    (fun s _ c _ => ⟨fun _ _ _ => rfl, fun h => by cases h⟩)
    (fun s _ _ _ _ c hR => ⟨fun _ _ _ => rfl, fun _ => ⟨0, by simpa using hR, fun bx hbx => by simp at hbx⟩⟩)
    ?_ ?_ fuel s
  · intro s s' r hd hr c hR
    refine ⟨fun h hlt hh => ?_, fun h => absurd h hr⟩
    by_cases hrem : r.removed
    · obtain ⟨b, x, c', rfl, _, _, _, _, hkeep⟩ := del1 s s' r c hd hrem hR
      exact hkeep h hlt hh
    · rw [deleteTip_not_removed hd hrem]
  · intro s s1 out hd ih c hR
    obtain ⟨b, x, c', rfl, hR1, hcopy, hb, htip, hkeep⟩ := del1 s s1 _ c hd (Or.inl rfl) hR
    obtain ⟨keep1, complete1⟩ := ih c' hR1
    refine ⟨fun h hlt hh => by rw [keep1 h (by simp only [tipH] at hlt; omega) hh, hkeep h hlt hh], fun hok => ?_⟩
    obtain ⟨k, hRk, hk⟩ := complete1 hok
    refine ⟨k + 1, by simpa using hRk, fun bx hbx => ?_⟩
    simp only [List.take_succ_cons, List.mem_cons] at hbx
    rcases hbx with rfl | hbx
    · have h2 : slookup out.1.db (kTemp b.hdr.height) = some (encBlock b) := by
        rw [keep1 _ htip hb, hcopy]
      exact ⟨h2, tempBlocks_mem hRk.db.nodup h2⟩
    · exact hk bx hbx

/-- **`deleteTillCommonBlock` keeps every removed block retrievable**: when the loop of the
synchronisers has reached the common block, the chain lost its `k` newest blocks, and each of them
is stored under `temp|height` (later deletions do not overwrite earlier copies) and is returned by
`GetTempBlocks` (given the block codec round trip, C08). -/
theorem C05_deleteTill_temp_complete (cd : Codecs) (cfg : Cfg) (base : Store) (baseH : Nat)
    (hbase : BaseOK cd base baseH) : ∀ (fuel : Nat) (s s' : St) (c : Chain) (target : Nat),
    Ref cd base baseH s c → deleteTill cd cfg fuel s target = (s', .ok) →
    ∃ k, Ref cd base baseH s' (c.drop k) ∧
      ∀ bx ∈ c.take k,
        slookup s'.db (kTemp bx.1.hdr.height) = some (encBlock bx.1) ∧
        (cd.decBlock (encBlock bx.1) = some bx.1 → ∀ l, tempBlocks cd s' = some l → bx.1 ∈ l) := by
  intro fuel s s' c target hR h
  have := (deleteTill_temp (cfg := cfg) hbase fuel s target c hR).2
  rw [h] at this
  exact this rfl

/-! ### the volatile keys are harmless -/

/-- **The volatile keys are not inputs of the abstraction**: replace the database of a reachable
state by any database (distinct keys) that holds the same finalized-height marker value and agrees
outside the volatile keys — arbitrary content under the temporary prefix, the state diffs below the
finalized height and the prunable events — and the state is refined by the same chain. Every
theorem of C04 / C05 about the future of a state (finality monotone, finalized blocks irreversible,
`delete ∘ apply = id`, confluence, …) has the refinement as its only hypothesis on the state, so
none of them can be affected by what the volatile keys hold. -/
theorem C05_volatile_irrelevant (cd : Codecs) (base : Store) (baseH : Nat) (s : St) (c : Chain)
    (hR : Ref cd base baseH s c) (db' : Store) (hnd : NoDupKeys db') (f : Nat)
    (hf : finOf s.db = some f) (hf' : finOf db' = some f)
    (hsame : ∀ k, ¬ Vol f k → slookup db' k = slookup s.db k) :
    Ref cd base baseH { s with db := db' } c ∧
    (BaseOK cd base baseH → ∀ h : Nat, headerAt cd { s with db := db' } h = headerAt cd s h) := by
  have hR' : Ref cd base baseH { s with db := db' } c := by
    refine ⟨⟨hnd, ?_, ?_, hR.db.wf, hR.db.tipLt⟩, hR.cache⟩
    · exact ⟨f, hf', hR.db.fin_le hf⟩
    · intro f1 hf1 k hk
      simp only at hf1
      rw [hf'] at hf1
      have : f1 = f := (Option.some.inj hf1).symm
      subst this
      show slookup db' k = _
      rw [hsame k hk]
      exact hR.db.agree f1 hf k hk
  refine ⟨hR', ?_⟩
  exact fun hbase => headerAt_congr hbase hR hR'

/-- **A volatile state diff is one that can never be used again**: if the diff key of height `h`
is volatile for the finalized height reached after a history `a`, then after every continuation `b`
a `deleteBlock` of a tip at height `h` is refused (the diff is only read by `deleteBlock` of that
height). -/
theorem C05_volatile_diff_unreachable (cd : Codecs) (cfg : Cfg) (slot : Slot) (base : Store)
    (baseH : Nat) (hbase : BaseOK cd base baseH) (s : St) (c : Chain) (a b : List Op)
    (hR : Ref cd base baseH s c) (hok : RunOK cd cfg slot base s c (a ++ b))
    (f : Nat) (hf : finOf (run cd cfg slot s a).db = some f) (h : Nat) (hh : h < u32)
    (hv : Vol f (kDiff h)) (tip : Block) (rest : List Block) (st : Bool)
    (hc : (run cd cfg slot s (a ++ b)).cache = tip :: rest) (hth : tip.hdr.height = h) :
    h < f ∧ deleteTip cd cfg (run cd cfg slot s (a ++ b)) st = (run cd cfg slot s (a ++ b), .err) := by
  have hlt : h < f := Nat.lt_of_not_le fun hle => kDiff_not_vol hh hle hv
  obtain ⟨f0, f', hf0, hf', hle⟩ := C04_fin_monotone_prefix cd cfg slot base baseH hbase s c a b hR hok
  rw [hf] at hf0
  have : f0 = f := (Option.some.inj hf0).symm
  subst this
  exact ⟨hlt, C04_delete_refuses_finalized cd cfg _ tip rest st f' hc hf' (by omega)⟩

/-! ### non-vacuity -/

namespace C05More
open LiskVerif.Node.Example

def sA : St := (apply cd cfg s0 b1 true x1 false).1
def sB : St := (deleteTip cd cfg sA true).1

theorem applyA : apply cd cfg s0 b1 true x1 false = (sA, .ok) := by
  have h : (apply cd cfg s0 b1 true x1 false).2 = .ok := by decide +kernel
  exact Prod.ext rfl h

theorem deleteB : deleteTip cd cfg sA true = (sB, .ok) := by
  have h : (deleteTip cd cfg sA true).2 = .ok := by decide +kernel
  exact Prod.ext rfl h

theorem fin_s0 {f : Nat} (hf : finOf s0.db = some f) : f = 0 :=
  (Option.some.inj ((by decide : finOf s0.db = some 0).symm.trans hf)).symm

end C05More

/-- the hypotheses of `C05_delete_apply_exact` hold for the example block: the temporary copy is
there, the block's keys are gone, the marker is unchanged -/
example : slookup C05More.sB.db kFin = some (encU32 0) ∧
    slookup C05More.sB.db (kTemp Example.b1.hdr.height) = some (encBlock Example.b1) ∧
    ∀ k ∈ removedKeys Example.b1, slookup C05More.sB.db k = none := by
  obtain ⟨f, hf, _, h1, h2, h3, _⟩ := C05_delete_apply_exact Example.cd Example.cfg Example.s0
    C05More.sA C05More.sB Example.b1 true Example.x1 false true .ok Example.ref0.db.nodup
    Example.step1.ov Example.step1.stateKeys
    (fun k cv h => Example.step1.initOk k cv h)
    Example.step1.diffRt (by decide) (by decide) C05More.applyA C05More.deleteB (Or.inl rfl)
  obtain rfl := C05More.fin_s0 hf
  exact ⟨h1, by simpa using h2, h3⟩

example : (deleteTip Example.cd Example.cfg C05More.sA false).2.removed :=
  (C05_delete_apply_total Example.cd Example.cfg Example.base 0 Example.baseOK Example.s0 C05More.sA []
    Example.b1 true Example.x1 false false Example.ref0 Example.step1 C05More.applyA (by decide)
    (by decide) (fun _ => ⟨Example.hdr0, by decide⟩)).1

/-- one application followed by one deletion, as an instance of the `k`-fold theorem -/
example : runC Example.cd Example.cfg Example.slot Example.s0 []
    ([Op.apply Example.b1 true Example.x1 false] ++ [Op.deleteTip true]) = [] :=
  (C05_delete_k_apply_k Example.cd Example.cfg Example.slot Example.base 0 Example.baseOK Example.s0 []
    [(Example.b1, true, Example.x1, false)] [true] rfl Example.ref0
    ⟨fun _ => Example.step1, trivial, trivial⟩
    ⟨by
      show (apply Example.cd Example.cfg Example.s0 Example.b1 true Example.x1 false).2 = .ok
      decide +kernel,
     by
      show (deleteTip Example.cd Example.cfg _ true).2.removed
      exact Or.inl (by decide +kernel), trivial⟩).1

example : ∀ l, tempBlocks Example.cd C05More.sB = some l → Example.b1 ∈ l := by
  have hc' : C05More.sB.cache = [Example.g] := by decide +kernel
  have h : deleteTill Example.cd Example.cfg 5 C05More.sA 0 = (C05More.sB, .ok) := by
    have h2 : (deleteTill Example.cd Example.cfg 5 C05More.sA 0).2 = .ok := by decide +kernel
    have h1 : (deleteTill Example.cd Example.cfg 5 C05More.sA 0).1 = C05More.sB := by
      unfold deleteTill
      have hc : C05More.sA.cache = [Example.b1, Example.g] := by decide +kernel
      rw [hc]
      simp only [C05More.deleteB]
      have : ¬ Example.b1.hdr.height = 0 := by decide
      simp only [this, if_false]
      unfold deleteTill
      rw [hc']
      simp [Example.g, Example.hdr0]
    exact Prod.ext h1 h2
  obtain ⟨k, hRk, hk⟩ := C05_deleteTill_temp_complete Example.cd Example.cfg Example.base 0
    Example.baseOK 5 C05More.sA C05More.sB [(Example.b1, Example.x1)] 0
    (ref_apply Example.ref0 Example.step1 C05More.applyA) h
  have hk0 : k ≠ 0 := by
    intro h0
    subst h0
    have := hRk.cache.head Example.g (by rw [hc']; rfl)
    simp [tipH, Example.g, Example.hdr0, Example.b1, Example.hdr1] at this
  have hmem : (Example.b1, Example.x1) ∈ List.take k [(Example.b1, Example.x1)] := by
    cases k with
    | zero => exact absurd rfl hk0
    | succ n => simp
  exact (hk (Example.b1, Example.x1) hmem).2 (by decide +kernel)

/-! #### the only-exception theorem on both sides -/

namespace C05More
open LiskVerif.Node.Example

theorem baseClean : BaseClean base 0 := by
  refine ⟨?_, ?_, ?_, ?_⟩
  · intro h _; simp [base, slookup, kDiff, kFin, kHeight, kHeader]
  · intro h _; simp [base, slookup, kEvents, kFin, kHeight, kHeader]
  · intro id v h; simp [base, slookup, kTxs, kFin, kHeight, kHeader] at h
  · intro id v h; simp [base, slookup, kAssets, kFin, kHeight, kHeader] at h

/-- the base state is consistent also under `cd2`, the codecs of the shared-transaction counterexample of
Props/C05.lean -/
theorem baseOK2 : BaseOK C05Cex.cd2 base 0 :=
  ⟨baseOK.idxShape, baseOK.idxHasHdr, baseOK.idxHdrHeight, baseOK.tipIdx⟩

theorem ref2 : Ref C05Cex.cd2 base 0 s0 [] :=
  ⟨⟨ref0.db.nodup, ref0.db.finOk, ref0.db.agree, trivial, ref0.db.tipLt⟩,
   ⟨ref0.cache.head, ref0.cache.consec, (fun t _ bx hbx => by cases hbx), ref0.cache.baseHdr⟩⟩

theorem ovNil : OverlayOK C05Cex.x2.overlay :=
  ⟨(by unfold NoDupKeys; decide), (fun k cv h => by simp [C05Cex.x2, clookup] at h),
    (fun k cv h => by simp [C05Cex.x2, clookup] at h)⟩

theorem step2 : StepOK C05Cex.cd2 base [] b1 C05Cex.x2 :=
  ⟨⟨step1.block.hdrOk, step1.block.heightPos, step1.block.heightLt, step1.block.txIdLen,
      step1.block.txConsistent, step1.block.assetsRt⟩,
    ovNil, (fun e he => by cases he), (fun k cv h => by simp [C05Cex.x2, clookup] at h),
    (by decide), step1.fresh, rfl⟩

theorem apply1 : apply C05Cex.cd2 cfg s0 b1 true C05Cex.x2 false = (C05Cex.sAfter1, .ok) := by
  have h : (apply C05Cex.cd2 cfg s0 b1 true C05Cex.x2 false).2 = .ok := by decide +kernel
  exact Prod.ext rfl h

theorem apply2 : apply C05Cex.cd2 cfg C05Cex.sAfter1 C05Cex.b2 true C05Cex.x2 false =
    (C05Cex.sAfter2, .ok) :=
  Prod.ext rfl C05_shared_txid_counterexample.1

theorem delete2 : deleteTip C05Cex.cd2 cfg C05Cex.sAfter2 false = (C05Cex.sBack, .ok) :=
  Prod.ext rfl C05_shared_txid_counterexample.2.1

end C05More

/-- positive side: the block of `LiskVerif.Node.Example` shares no transaction, the identity holds -/
example : ∀ k, ¬ Vol 0 k → slookup C05More.sB.db k = slookup Example.s0.db k := by
  obtain ⟨f, hf, hiff⟩ := C05_identity_iff_no_shared_tx Example.cd Example.cfg Example.base 0
    Example.baseOK C05More.baseClean Example.s0 C05More.sA C05More.sB [] Example.b1 true Example.x1
    false true .ok Example.ref0 (by decide) (by decide) Example.step1.ov Example.step1.stateKeys
    Example.step1.initOk Example.step1.diffRt (by decide) C05More.applyA C05More.deleteB (Or.inl rfl)
  obtain rfl := C05More.fin_s0 hf
  have hm : max 0 Example.x1.mhpc = 0 := by decide
  rw [hm] at hiff
  exact hiff.mpr (by
    intro t ht
    simp only [Example.b1, List.mem_cons, List.not_mem_nil, or_false] at ht
    subst ht
    decide)

/-- negative side: the theorem applies to the shared-transaction history of
`C05_shared_txid_counterexample` (all hypotheses hold — nothing is assumed about transaction ids),
and since the transaction of block 2 is stored, `delete ∘ apply` is NOT the identity there -/
example : ¬ ∀ k, ¬ Vol 0 k → slookup C05Cex.sBack.db k = slookup C05Cex.sAfter1.db k := by
  have hR1 := ref_apply C05More.ref2 C05More.step2 C05More.apply1
  obtain ⟨f, hf, hiff⟩ := C05_identity_iff_no_shared_tx C05Cex.cd2 Example.cfg Example.base 0
    C05More.baseOK2 C05More.baseClean C05Cex.sAfter1 C05Cex.sAfter2 C05Cex.sBack
    [(Example.b1, C05Cex.x2)] C05Cex.b2 true C05Cex.x2 false false .ok hR1 (by decide)
    (by decide +kernel)
    C05More.ovNil
    (fun e he => by cases he) (fun k cv h => by simp [C05Cex.x2, clookup] at h) rfl (by decide)
    C05More.apply2
    C05More.delete2 (Or.inl rfl)
  have : f = 0 := by
    have h0 : finOf C05Cex.sAfter1.db = some 0 := by decide +kernel
    rw [h0] at hf; exact (Option.some.inj hf).symm
  subst this
  have hm : max 0 C05Cex.x2.mhpc = 0 := by decide
  rw [hm] at hiff
  intro hall
  have := hiff.mp hall (Example.txid, [42]) (by simp [C05Cex.b2])
  rw [C05_shared_txid_counterexample.2.2.1] at this
  cases this
