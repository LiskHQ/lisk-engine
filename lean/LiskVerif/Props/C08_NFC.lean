/-
C08 — strings that are NOT in NFC form (`LiskVerif.Model.Codec`, NFC a parameter of the model).

`Writer.WriteString` writes the NORMAL FORM of the string: key, then the byte length of the normal
form, then the normal form. For a string whose normal form has another byte length (e + U+0301,
U+2126, U+0958, Hangul jamo …) a length prefix taken from the string itself does not describe the
payload that follows it.

Stated here: the encoding of a string field is key ++ varint(|nfc s|) ++ nfc s, for every string,
every NFC function and every table; under the two laws `normal (nfc s)` and `normal s → nfc s = s`
such a field reads back (leniently or strictly) as `nfc s`, whole flat structs and every regenerated
struct at any nesting depth round-trip to the value with every string normalised, and the ID of a
transaction does not depend on whether its names were normalised. A writer that takes the length from
the string itself never produces the right bytes when |nfc s| ≠ |s|; on its output the decoders
mis-parse (lenient: another string, the following field lost) or reject.

The harness side is the pseudo-property C08NFC (harness/c08/nfc.go, Driver/CodecNFC.lean): the model
runs with `nfc` instantiated by the table raw ↦ nfc that x/text computed for the generated strings.
-/
import LiskVerif.Lemmas.CodecNested
import LiskVerif.Props.C08
import LiskVerif.Props.C08_Nested

open LiskVerif LiskVerif.Codec LiskVerif.Gen

/-! ### the wire format of a string field -/

/-- **The length prefix of a string field is the byte length of the normal form**: for every string
`s`, every NFC function, every table, every field number and whatever fields follow, `Encode` writes
key, `varint |nfc s|`, `nfc s`. -/
theorem C08_nfc_string_field_length_is_of_normal_form (t : Table) (nfc : NFC) (fuel num : Nat)
    (st : Bool) (s : Bytes) (fs : List Field) (vs : List Value) :
    encodeFields t nfc fuel (⟨num, .string, st⟩ :: fs) (.bytes s :: vs) =
      writeKey 2 num ++ putUvarint (nfc.normalize s).length ++ nfc.normalize s ++
        encodeFields t nfc fuel fs vs := by
  rw [encodeFields_cons]
  simp only [encField, writeBytes, List.append_assoc]

/-- the two laws of `norm.NFC` the round trip of strings relies on: a normal form is normal, and a
normal string is its own normal form -/
structure C08NFCLaws (nfc : NFC) : Prop where
  normal_normalize : ∀ b, nfc.normal (nfc.normalize b) = true
  fix : ∀ b, nfc.normal b = true → nfc.normalize b = b

theorem C08_nfc_normalize_idempotent (nfc : NFC) (h : C08NFCLaws nfc) (b : Bytes) :
    nfc.normalize (nfc.normalize b) = nfc.normalize b :=
  h.fix _ (h.normal_normalize b)

/-- **Round trip of one string field**: a reader standing before key ++ varint |nfc s| ++ nfc s
(followed by the end or a later field) reads — leniently or strictly — the string `nfc s` and stops
exactly behind the payload. -/
theorem C08_nfc_string_field_roundtrip (t : Table) (nfc : NFC) (hlaw : C08NFCLaws nfc)
    (fuel num : Nat) (st : Bool) (s tail : Bytes) (r : Reader)
    (hnum : num * 8 + 2 < 2 ^ 64) (hu : utf8Valid (nfc.normalize s) = true)
    (hl : (nfc.normalize s).length < 2 ^ 63) (ht : TailOK num tail)
    (h : r.Holds (writeKey 2 num ++ putUvarint (nfc.normalize s).length ++ nfc.normalize s ++ tail)) :
    decodeField t nfc (fuel + 1) ⟨num, .string, st⟩ r =
      .ok (.bytes (nfc.normalize s),
        r.adv (writeKey 2 num ++ putUvarint (nfc.normalize s).length ++ nfc.normalize s).length) := by
  have hid := C08_nfc_normalize_idempotent nfc hlaw s
  have henc : encField t nfc 0 ⟨num, .string, st⟩ (.bytes (nfc.normalize s)) =
      writeKey 2 num ++ putUvarint (nfc.normalize s).length ++ nfc.normalize s := by
    simp only [encField, writeBytes, hid, List.append_assoc]
  have hty : typedVal nfc (Field.kind ⟨num, .string, st⟩) (.bytes (nfc.normalize s)) = true := by
    simp only [typedVal, Bool.and_eq_true, decide_eq_true_eq]
    exact ⟨⟨⟨hl, hu⟩, hlaw.normal_normalize s⟩, hid⟩
  have := decodeField_put t nfc 0 fuel ⟨num, .string, st⟩ (.bytes (nfc.normalize s)) r tail rfl hnum
    hty (fun hk => by simp at hk) ht (by rw [henc]; exact h)
  rw [henc] at this
  exact this

/-! ### whole structs with arbitrary strings -/

/-- like `C08TypedVal`, but a string only has to HAVE a valid normal form shorter than 2^63 bytes — it
need not be normal itself -/
def C08RawTypedVal (nfc : NFC) : Kind → Value → Bool
  | .string, .bytes b => decide ((nfc.normalize b).length < 2 ^ 63) && utf8Valid (nfc.normalize b)
  | k, v => C08TypedVal nfc k v

def C08RawTyped (nfc : NFC) : List Field → List Value → Bool
  | [], [] => true
  | f :: fs, v :: vs => C08RawTypedVal nfc f.kind v && C08RawTyped nfc fs vs
  | _, _ => false

private theorem C08rawTyped_norm (t : Table) (nfc : NFC) (hlaw : C08NFCLaws nfc) :
    ∀ (fs : List Field) (vs : List Value), C08RawTyped nfc fs vs = true →
      C08Typed nfc fs (C08NormDeep t nfc 0 fs vs) = true := by
  intro fs
  induction fs with
  | nil => intro vs h; cases vs with
    | nil => rfl
    | cons _ _ => simp [C08RawTyped] at h
  | cons f fs ih =>
    intro vs h
    cases vs with
    | nil => simp [C08RawTyped] at h
    | cons v vs =>
      simp only [C08RawTyped, Bool.and_eq_true] at h
      have ih' := ih vs h.2
      unfold C08NormDeep at ih' ⊢
      simp only [normWith, C08Typed, Bool.and_eq_true]
      refine ⟨?_, ih'⟩
      obtain ⟨num, kind, st⟩ := f
      have h1 := h.1
      simp only at h1 ⊢
      -- only a string field with a byte-string value is touched by either side; all other pairs of
      -- kind and value are typed alike and left alone by the normalisation
      cases kind <;> cases v <;>
        first
        | (simpa [C08RawTypedVal, normValDeep] using h1)
        | (simp only [C08RawTypedVal, Bool.and_eq_true, decide_eq_true_eq] at h1
           simp only [normValDeep, C08TypedVal, Bool.and_eq_true, decide_eq_true_eq]
           exact ⟨⟨⟨h1.1, h1.2⟩, hlaw.normal_normalize _⟩, C08_nfc_normalize_idempotent nfc hlaw _⟩)

/-- **Round trip of flat structs with arbitrary strings** (any table, any NFC function obeying the two
laws): both decoders accept `Encode(v)` and return `v` with every string replaced by its normal form. -/
theorem C08_nfc_roundtrip_flat (t : Table) (nfc : NFC) (hlaw : C08NFCLaws nfc) (s : Schema)
    (vals : List Value) (hs : C08Flat s = true) (hv : C08RawTyped nfc s.enc vals = true)
    (hlen : C08NoUints s = true ∨ (encode t nfc s vals).length < 2 ^ 63) :
    decode t nfc s (encode t nfc s vals) = .ok (C08NormDeep t nfc 0 s.enc vals) ∧
    decodeStrict t nfc s (encode t nfc s vals) = .ok (C08NormDeep t nfc 0 s.enc vals) := by
  have e : encode t nfc s (C08NormDeep t nfc 0 s.enc vals) = encode t nfc s vals :=
    encode_norm t nfc (C08_nfc_normalize_idempotent nfc hlaw) s 0 vals
  have := C08_roundtrip_flat t nfc s (C08NormDeep t nfc 0 s.enc vals) hs
    (C08rawTyped_norm t nfc hlaw s.enc vals hv) (by rw [e]; exact hlen)
  rw [e] at this
  exact this

/-- … and re-encoding what was decoded gives the same bytes, hence the same hash: IDs computed over a
value with raw strings are the IDs of the decoded value. -/
theorem C08_nfc_reencode_stable_flat (t : Table) (nfc : NFC) (hlaw : C08NFCLaws nfc) (s : Schema)
    (vals vals' : List Value) (hs : C08Flat s = true) (hv : C08RawTyped nfc s.enc vals = true)
    (hlen : C08NoUints s = true ∨ (encode t nfc s vals).length < 2 ^ 63) (hash : Bytes → Bytes)
    (h : decode t nfc s (encode t nfc s vals) = .ok vals' ∨
      decodeStrict t nfc s (encode t nfc s vals) = .ok vals') :
    hash (encode t nfc s vals') = hash (encode t nfc s vals) := by
  obtain ⟨h1, h2⟩ := C08_nfc_roundtrip_flat t nfc hlaw s vals hs hv hlen
  have e : encode t nfc s (C08NormDeep t nfc 0 s.enc vals) = encode t nfc s vals :=
    encode_norm t nfc (C08_nfc_normalize_idempotent nfc hlaw) s 0 vals
  rcases h with h | h
  · rw [h1] at h; injection h with h; rw [← h, e]
  · rw [h2] at h; injection h with h; rw [← h, e]

/-- **Every regenerated struct, any nesting depth**: if the normalised value tree is well-typed,
decoding the encoding of the raw tree returns the normalised tree (the two laws give the idempotence
`C08_roundtrip_nested_nfc` asks for). -/
theorem C08_nfc_roundtrip_all_schemas (nfc : NFC) (hlaw : C08NFCLaws nfc) (s : Schema)
    (hs : s ∈ allSchemas) (d : Nat) (vals : List Value)
    (hv : C08TypedDeep allSchemas nfc d s.enc (C08NormDeep allSchemas nfc d s.enc vals) = true)
    (hlen : (encode allSchemas nfc s vals).length < 2 ^ 63) :
    decode allSchemas nfc s (encode allSchemas nfc s vals) =
      .ok (C08NormDeep allSchemas nfc d s.enc vals) ∧
    decodeStrict allSchemas nfc s (encode allSchemas nfc s vals) =
      .ok (C08NormDeep allSchemas nfc d s.enc vals) :=
  C08_roundtrip_nested_nfc allSchemas C09rank nfc C08_allSchemas_deepWF
    (C08_nfc_normalize_idempotent nfc hlaw) s hs d vals hv hlen

/-! ### blockchain.Transaction and blockchain.BlockAsset -/

/-- **Transaction round trip with arbitrary module / command strings**: whatever valid strings the
two names are (normal or not, normal form shorter, longer or as long), `Decode` and `DecodeStrict` of
`Encode` return the transaction with the two names normalised. -/
theorem C08_nfc_transaction_roundtrip (nfc : NFC) (hlaw : C08NFCLaws nfc) (s : Schema)
    (hs : allSchemas.find "blockchain.Transaction" = some s)
    (module command : Bytes) (nonce fee : Nat) (senderPublicKey params : Bytes) (signatures : List Bytes)
    (hm : utf8Valid (nfc.normalize module) = true) (hml : (nfc.normalize module).length < 2 ^ 63)
    (hc : utf8Valid (nfc.normalize command) = true) (hcl : (nfc.normalize command).length < 2 ^ 63)
    (hn : nonce < 2 ^ 64) (hf : fee < 2 ^ 64)
    (hk : senderPublicKey.length < 2 ^ 63) (hp : params.length < 2 ^ 63)
    (hsig : ∀ x ∈ signatures, x.length < 2 ^ 63) :
    let vals := [.bytes module, .bytes command, .uint nonce, .uint fee, .bytes senderPublicKey,
      .bytes params, .bytesArr signatures]
    let normal := [.bytes (nfc.normalize module), .bytes (nfc.normalize command), .uint nonce, .uint fee,
      .bytes senderPublicKey, .bytes params, .bytesArr signatures]
    decode allSchemas nfc s (encode allSchemas nfc s vals) = .ok normal ∧
    decodeStrict allSchemas nfc s (encode allSchemas nfc s vals) = .ok normal := by
  intro vals normal
  obtain ⟨hflat, _, hnu⟩ := C08tx_flat hs
  cases C08_schema_eq C08_transaction_schema hs
  have hv : C08RawTyped nfc (C08txFields false) vals = true := by
    simp only [vals, C08txFields, C08RawTyped, C08RawTypedVal, C08TypedVal, Bool.and_eq_true,
      decide_eq_true_eq, List.all_eq_true, hm, hc]
    exact ⟨⟨hml, trivial⟩, ⟨hcl, trivial⟩, hn, hf, hk, hp, hsig, trivial⟩
  exact C08_nfc_roundtrip_flat allSchemas nfc hlaw _ vals hflat hv (Or.inl hnu)

/-- **The transaction ID does not depend on whether the names were normalised**: the hash of the
encoding of the raw transaction is the hash of the encoding of what the decoders return for it. -/
theorem C08_nfc_transaction_id_stable (nfc : NFC) (hlaw : C08NFCLaws nfc) (s : Schema)
    (hs : allSchemas.find "blockchain.Transaction" = some s) (hash : Bytes → Bytes)
    (module command : Bytes) (nonce fee : Nat) (senderPublicKey params : Bytes) (signatures : List Bytes)
    (hm : utf8Valid (nfc.normalize module) = true) (hml : (nfc.normalize module).length < 2 ^ 63)
    (hc : utf8Valid (nfc.normalize command) = true) (hcl : (nfc.normalize command).length < 2 ^ 63)
    (hn : nonce < 2 ^ 64) (hf : fee < 2 ^ 64)
    (hk : senderPublicKey.length < 2 ^ 63) (hp : params.length < 2 ^ 63)
    (hsig : ∀ x ∈ signatures, x.length < 2 ^ 63) (vals' : List Value)
    (h : decodeStrict allSchemas nfc s (encode allSchemas nfc s
      [.bytes module, .bytes command, .uint nonce, .uint fee, .bytes senderPublicKey, .bytes params,
       .bytesArr signatures]) = .ok vals') :
    hash (encode allSchemas nfc s vals') = hash (encode allSchemas nfc s
      [.bytes module, .bytes command, .uint nonce, .uint fee, .bytes senderPublicKey, .bytes params,
       .bytesArr signatures]) := by
  obtain ⟨_, h2⟩ := C08_nfc_transaction_roundtrip nfc hlaw s hs module command nonce fee senderPublicKey
    params signatures hm hml hc hcl hn hf hk hp hsig
  rw [h2] at h
  cases h
  cases C08_schema_eq C08_transaction_schema hs
  exact congrArg hash (encode_norm allSchemas nfc (C08_nfc_normalize_idempotent nfc hlaw) _ 0
    [.bytes module, .bytes command, .uint nonce, .uint fee, .bytes senderPublicKey, .bytes params,
     .bytesArr signatures])

/-- the same for a block asset (module name: string, data: bytes) -/
theorem C08_nfc_blockAsset_roundtrip (nfc : NFC) (hlaw : C08NFCLaws nfc) (s : Schema)
    (hs : allSchemas.find "blockchain.BlockAsset" = some s) (module data : Bytes)
    (hm : utf8Valid (nfc.normalize module) = true) (hml : (nfc.normalize module).length < 2 ^ 63)
    (hd : data.length < 2 ^ 63) :
    decode allSchemas nfc s (encode allSchemas nfc s [.bytes module, .bytes data]) =
      .ok [.bytes (nfc.normalize module), .bytes data] ∧
    decodeStrict allSchemas nfc s (encode allSchemas nfc s [.bytes module, .bytes data]) =
      .ok [.bytes (nfc.normalize module), .bytes data] := by
  obtain ⟨hflat, _, hnu⟩ := C08asset_flat hs
  cases C08_schema_eq C08_blockAsset_schema hs
  have hv : C08RawTyped nfc (C08assetFields false) [.bytes module, .bytes data] = true := by
    simp only [C08assetFields, C08RawTyped, C08RawTypedVal, C08TypedVal, Bool.and_eq_true,
      decide_eq_true_eq, hm]
    exact ⟨⟨hml, trivial⟩, hd, trivial⟩
  exact C08_nfc_roundtrip_flat allSchemas nfc hlaw _ _ hflat hv (Or.inl hnu)

/-! ### a writer that takes the length from the string itself -/

/-- the writer of the defect class: key, the byte length of the string AS GIVEN, then the normal form -/
def C08badWriteString (nfc : NFC) (num : Nat) (s : Bytes) : Bytes :=
  writeKey 2 num ++ putUvarint s.length ++ nfc.normalize s

/-- **Such a writer is wrong for every string whose normal form has another byte length**: its output
differs from the encoding of the string field (`C08_nfc_string_field_length_is_of_normal_form`). -/
theorem C08_nfc_length_from_raw_string_differs (nfc : NFC) (num : Nat) (s : Bytes)
    (hs : s.length < 2 ^ 64) (hn : (nfc.normalize s).length < 2 ^ 64)
    (hne : (nfc.normalize s).length ≠ s.length) :
    C08badWriteString nfc num s ≠
      writeKey 2 num ++ putUvarint (nfc.normalize s).length ++ nfc.normalize s := by
  intro h
  unfold C08badWriteString at h
  have h1 := List.append_cancel_right h
  have h2 := List.append_cancel_left h1
  exact hne (C08_varint_injective _ _ hn hs h2.symm)

/-- a fragment of NFC: e + U+0301 COMBINING ACUTE ACCENT (65 CC 81) ↦ U+00E9 (C3 A9), and
U+0344 (CD 84) ↦ U+0308 U+0301 (CC 88 CC 81); every other string is left alone -/
def C08fragmentNFC : NFC :=
  { normal := fun b => b != [0x65, 0xCC, 0x81] && b != [0xCD, 0x84],
    normalize := fun b =>
      if b = [0x65, 0xCC, 0x81] then [0xC3, 0xA9]
      else if b = [0xCD, 0x84] then [0xCC, 0x88, 0xCC, 0x81] else b }

theorem C08_nfc_fragment_laws : C08NFCLaws C08fragmentNFC := by
  constructor
  · intro b
    simp only [C08fragmentNFC]
    by_cases h1 : b = [0x65, 0xCC, 0x81]
    · simp [h1]
    · by_cases h2 : b = [0xCD, 0x84]
      · simp [h2]
      · simp [h1, h2]
  · intro b h
    simp only [C08fragmentNFC, Bool.and_eq_true, bne_iff_ne, ne_eq] at h ⊢
    simp [h.1, h.2]

-- the test vectors below are evaluated by the kernel
attribute [local instance] decEqOk decEqError

/-- **Shorter normal form.** Block asset with module name e + U+0301 (3 bytes, normal form 2 bytes)
and empty data, written with the length of the raw string: the lenient decoder silently returns
ANOTHER module name (the normal form plus the key byte of the next field) and loses the data field,
the strict decoder rejects the bytes; with one byte of data both reject. The right encoding
round-trips. -/
theorem C08_nfc_length_from_raw_string_counterexample (s : Schema)
    (hs : allSchemas.find "blockchain.BlockAsset" = some s) :
    let nfc := C08fragmentNFC
    let name : Bytes := [0x65, 0xCC, 0x81]
    let bad (data : Bytes) : Bytes := C08badWriteString nfc 1 name ++ writeKey 2 2 ++ writeBytes data
    (nfc.normalize name).length ≠ name.length ∧
    bad [] = [0x0a, 3, 0xC3, 0xA9, 0x12, 0] ∧
    encode allSchemas nfc s [.bytes name, .bytes []] = [0x0a, 2, 0xC3, 0xA9, 0x12, 0] ∧
    decode allSchemas nfc s (bad []) = .ok [.bytes [0xC3, 0xA9, 0x12], .bytes []] ∧
    decodeStrict allSchemas nfc s (bad []) = .error .unexpectedFieldNumber ∧
    decode allSchemas nfc s (bad [7]) = .error .invalidData ∧
    decodeStrict allSchemas nfc s (bad [7]) = .error .invalidData ∧
    decodeStrict allSchemas nfc s (encode allSchemas nfc s [.bytes name, .bytes []]) =
      .ok [.bytes [0xC3, 0xA9], .bytes []] := by
  intro nfc name bad
  cases C08_schema_eq C08_blockAsset_schema hs
  simp [bad, name, nfc, C08badWriteString, C08fragmentNFC, encode, C08assetFields, encodeFields,
    writeKey, writeBytes, putUvarint_lt]
  decide +kernel

/-- **Longer normal form.** Module name U+0344 (2 bytes, normal form 4 bytes) written with the length
of the raw string: the decoders read half of the normal form as the name and fail on the rest. -/
theorem C08_nfc_length_from_raw_string_longer_counterexample (s : Schema)
    (hs : allSchemas.find "blockchain.BlockAsset" = some s) :
    let nfc := C08fragmentNFC
    let name : Bytes := [0xCD, 0x84]
    let bad : Bytes := C08badWriteString nfc 1 name ++ writeKey 2 2 ++ writeBytes []
    (nfc.normalize name).length ≠ name.length ∧
    bad = [0x0a, 2, 0xCC, 0x88, 0xCC, 0x81, 0x12, 0] ∧
    decode allSchemas nfc s bad = .error .invalidData ∧
    decodeStrict allSchemas nfc s bad = .error .invalidData ∧
    decodeStrict allSchemas nfc s (encode allSchemas nfc s [.bytes name, .bytes []]) =
      .ok [.bytes [0xCC, 0x88, 0xCC, 0x81], .bytes []] := by
  intro nfc name bad
  cases C08_schema_eq C08_blockAsset_schema hs
  simp [bad, name, nfc, C08badWriteString, C08fragmentNFC, encode, C08assetFields, encodeFields,
    writeKey, writeBytes, putUvarint_lt]
  decide +kernel

/-! ### non-vacuity -/

/-- `C08_nfc_string_field_length_is_of_normal_form` on a concrete transaction head: module e + U+0301 -/
example : encodeFields allSchemas C08fragmentNFC 8 (C08txFields false)
    [.bytes [0x65, 0xCC, 0x81], .bytes [0x63], .uint 1, .uint 2, .bytes [], .bytes [], .bytesArr []] =
    [0x0a, 2, 0xC3, 0xA9, 0x12, 1, 0x63, 0x18, 1, 0x20, 2, 0x2a, 0, 0x32, 0] := by
  rw [C08txFields, C08_nfc_string_field_length_is_of_normal_form]
  simp [encodeFields, writeKey, writeBytes, putUvarint_lt, C08fragmentNFC]

/-- `C08_nfc_blockAsset_roundtrip` / `C08_nfc_roundtrip_flat` with the fragment: the decoded name is é -/
example (s : Schema) (hs : allSchemas.find "blockchain.BlockAsset" = some s) :
    decodeStrict allSchemas C08fragmentNFC s
      (encode allSchemas C08fragmentNFC s [.bytes [0x65, 0xCC, 0x81], .bytes [5]]) =
      .ok [.bytes [0xC3, 0xA9], .bytes [5]] :=
  (C08_nfc_blockAsset_roundtrip C08fragmentNFC C08_nfc_fragment_laws s hs [0x65, 0xCC, 0x81] [5]
    (by decide) (by decide) (by decide)).2

/-- `C08_nfc_transaction_roundtrip`: names e + U+0301 and U+0344 -/
example (s : Schema) (hs : allSchemas.find "blockchain.Transaction" = some s) :
    decode allSchemas C08fragmentNFC s (encode allSchemas C08fragmentNFC s
      [.bytes [0x65, 0xCC, 0x81], .bytes [0xCD, 0x84], .uint 7, .uint 9, .bytes [1], .bytes [], .bytesArr [[2]]]) =
      .ok [.bytes [0xC3, 0xA9], .bytes [0xCC, 0x88, 0xCC, 0x81], .uint 7, .uint 9, .bytes [1], .bytes [],
        .bytesArr [[2]]] :=
  (C08_nfc_transaction_roundtrip C08fragmentNFC C08_nfc_fragment_laws s hs [0x65, 0xCC, 0x81] [0xCD, 0x84]
    7 9 [1] [] [[2]] (by decide) (by decide) (by decide) (by decide) (by decide) (by decide) (by decide)
    (by decide) (by simp)).1

/-- `C08_nfc_string_field_roundtrip`: a reader over key ++ 02 ++ é reads é -/
example : decodeField allSchemas C08fragmentNFC 1 ⟨1, .string, true⟩ (Reader.new [0x0a, 2, 0xC3, 0xA9]) =
    .ok (.bytes [0xC3, 0xA9], (Reader.new [0x0a, 2, 0xC3, 0xA9]).adv 4) := by
  have h := C08_nfc_string_field_roundtrip allSchemas C08fragmentNFC C08_nfc_fragment_laws 0 1 true
    [0x65, 0xCC, 0x81] [] (Reader.new [0x0a, 2, 0xC3, 0xA9]) (by decide) (by decide) (by decide)
    (Or.inl rfl)
    (by
      have : writeKey 2 1 ++ putUvarint (C08fragmentNFC.normalize [0x65, 0xCC, 0x81]).length ++
          C08fragmentNFC.normalize [0x65, 0xCC, 0x81] ++ [] = [0x0a, 2, 0xC3, 0xA9] := by
        simp [writeKey, putUvarint_lt, C08fragmentNFC]
      rw [this]; exact Reader.Holds.new _)
  simpa [writeKey, putUvarint_lt, C08fragmentNFC] using h

/-- `C08_nfc_length_from_raw_string_differs` applies to the fragment -/
example : C08badWriteString C08fragmentNFC 1 [0x65, 0xCC, 0x81] ≠
    writeKey 2 1 ++ putUvarint (C08fragmentNFC.normalize [0x65, 0xCC, 0x81]).length ++
      C08fragmentNFC.normalize [0x65, 0xCC, 0x81] :=
  C08_nfc_length_from_raw_string_differs C08fragmentNFC 1 _ (by decide) (by decide) (by decide)
