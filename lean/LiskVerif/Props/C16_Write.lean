/-
  C16, clause "restart recovery rolls the application state back to the engine's tip" — the WRITE side:
  the application commit of a block (`ABIHandler.Commit`, pkg/framework/handler.go) and its inverse
  (`ABIHandler.revert`, used by `Revert` and by the recovery loop of `Init`) are crash-atomic.

  Recovery (`Init`) compares the record "application state is at (height, root)" (key
  `StateDBPrefixTreeState`) with the engine's tip and reverts block by block using the stored diffs. That is
  only sound if the record, the state entries, the stored diff and the sparse-Merkle-tree nodes of a block
  become durable TOGETHER: a state database holding block h's state while the record still says h−1 is
  taken for "nothing to roll back" and the node continues on a polluted state.

  Tie A: `LiskVerif.Gen.WSFW` (Gen/WriteSkeletonsFW.lean) is regenerated by tools/wskelgen (framework
  mode) from pkg/framework, pkg/db/diffdb, pkg/db/batchdb and pkg/trie/smt on every check run: the write
  skeleton of every function that creates, fills, hands on or writes a `db.Batch` or writes through the
  `*db.DB` handle — `ABIHandler.Commit`, `ABIHandler.revert`, `ABIHandler.Finalize`,
  `Application.GenerateGenesisBlock`, the diff-store commit / revert, the batch views
  (`stateSMTBatch`, `batchdb.Database`: structs wrapping the batch, created by constructors the translator
  checks to do nothing but store it) and the SMT update family (recursive and concurrent: emitted as a
  summary after checking that its writer parameter is only used for Get/Set/Del and handed on within
  the family). The obligations below are re-decided on the regenerated data; the record written by an
  own `stateDB.Set` after `stateDB.Write(batch)`, a second batch, a table staged to another batch, an
  unknown construct touching the batch … make them fail.

  The generic crash theorems are those of C13 (`C13_atomic`, `C13_storage_atomic`,
  `C13_history_storage_atomic`), instantiated for the framework steps.

  Trusted: one `pebble.Apply(batch, Sync)` is atomic and durable (`PebbleAssumption`), the translator
  (views, summaries; the goroutines of the SMT family have finished staging when `Update` returns
  without error — each sends its result after its last `Set`/`Del` and every result is received), and
  that the application reaches the state database only through the scanned packages (checked
  dynamically by harness/c16: crash-point enumeration of the real `Commit` / `Revert`).
-/
import LiskVerif.Props.C13_More
import LiskVerif.Gen.WriteSkeletonsFW

open LiskVerif LiskVerif.Crash

namespace LiskVerif.C16W

/-- skeleton of a function with every callee of the regenerated framework table inlined -/
def step (s : Stmt) : Stmt := inlineN Gen.WSFW.fns 4 s

/-- the application commit of a block (`req.DryRun = false`: the translator emits `ABIHandler.Commit` twice,
    specialised to the two values of the request flag), callees inlined -/
def commit : Stmt := step Gen.WSFW.ABIHandler_Commit
/-- the dry run of the commit (`req.DryRun = true`): computes the root, must not touch the database -/
def commitDry : Stmt := step Gen.WSFW.ABIHandler_Commit_DryRun

/-- no path of the step reaches a `Write` (and every path is accepted by the monitor: no direct write) -/
def neverWrites (s : Stmt) : Bool :=
  match outs s St.init with
  | none => false
  | some O => O.all fun p => !p.2.written
/-- the inverse of `commit` (one block back), callees inlined -/
def revert : Stmt := step Gen.WSFW.ABIHandler_revert
/-- `ABIHandler.Finalize` (pruning of old diffs), callees inlined -/
def finalize : Stmt := step Gen.WSFW.ABIHandler_Finalize

/-- the two steps recovery is made of -/
def appSteps : List Stmt := [commit, revert]

/-- a run (with payload) of the regenerated commit / revert -/
def AppPath {κ ν : Type} (evs : List (Ev κ ν)) : Prop :=
  ∃ s, s ∈ appSteps ∧ ∃ o, Exec s (evs.map Ev.abs) o

/-- rendering of an action / call, as tools/wskelgen (`leafName`) writes it into `tables` -/
def actName : Act → String
  | .newBatch b => "newBatch " ++ b
  | .batchSet b => "batchSet " ++ b
  | .batchDel b => "batchDel " ++ b
  | .directSet => "directSet"
  | .directDel => "directDel"
  | .write b => "write " ++ b
  | .cacheUpdate => "cacheUpdate"
  | .abiCommit => "abiCommit"
  | .abiRevert => "abiRevert"
  | .publish => "publish"
  | .netPublish => "netPublish"
  | .unknown _ => "unknown"

/-- the leaves (actions and calls) of a skeleton in program order -/
def leafNames : Stmt → List String
  | .act a => [actName a]
  | .call f args => ["call " ++ f ++ String.join (args.map fun p => " " ++ p.2)]
  | .seq s t => leafNames s ++ leafNames t
  | .choice s t => leafNames s ++ leafNames t
  | .loop s => leafNames s
  | .scope s => leafNames s
  | .tryCall c a b => leafNames c ++ leafNames a ++ leafNames b
  | _ => []

/-- the regenerated table row of a function -/
def tableOf (f : String) : List (String × String) := (Gen.WSFW.tables.lookup f).getD []

/-- the record "application state is at (height, root)": staged through the view created with the
    prefix `StateDBPrefixTreeState` -/
def recordSite : String × String :=
  ("call batchdb.Database.Set batch", "batchdb.NewWithPrefix(a.stateDB, StateDBPrefixTreeState)")
/-- the sparse-Merkle-tree nodes: staged by the SMT update through the view with prefix `StateDBPrefixTree` -/
def treeSite : String × String :=
  ("call smt.trie.Update batch", "through batchdb.NewWithPrefix(a.stateDB, StateDBPrefixTree)")

/-- a site that is harmless for the single batch `"batch"` -/
def siteOk (a : Act) : Bool :=
  !a.isDirect && !C13.Act.isUnknown a && (a.target == none || a.target == some "batch")

/-- hypothetical commit that writes the record on its own after the batch (what the code must not do) -/
def recordAfterWrite : Stmt := Stmt.seqs [
  .act (.newBatch "batch"), .act (.batchSet "batch"), .act (.batchSet "batch"), .act (.write "batch"),
  .act .directSet, .ret]

/-- a two-table application database: the state (a version number) and the record -/
inductive AKey where
  | state | record
  deriving DecidableEq, Repr

def recordAfterWriteRun : List (Ev AKey Nat) :=
  [.newBatch "batch", .batchOp "batch" (.set .state 1), .batchOp "batch" (.set .state 1), .write "batch",
   .direct (.set .record 1)]

/-- state and record of block 0 -/
def app0 : DBOf AKey Nat := fun _ => some 0

end LiskVerif.C16W

open LiskVerif.C16W LiskVerif.C13

/-! ## Obligations on the regenerated skeletons -/

/-- Both steps recovery is made of, callees inlined: the single-write criterion, and site by site.
    One evaluation, so that each step is inlined once (the inlining looks every callee up by name, which the
    kernel is slow at). -/
theorem LiskVerif.C16W.appSteps_checked : ∀ s, s ∈ appSteps →
    singleWrite s = true ∧
    s.sites.all C16W.siteOk = true ∧ s.sites.filter Act.isWrite = [.write "batch"] ∧
    s.sites.filter (· == .newBatch "batch") = [.newBatch "batch"] ∧
    (s.sites.filter (fun a => a.isWrite || a.isStaging)).getLast? = some (.write "batch") := by
  decide +kernel

/-- **The application commit of a block is ONE synced batch write.** Along every path of the regenerated
    `ABIHandler.Commit` (diff-store commit, diff record, SMT update, (height, root) record inlined): one
    batch is created, every `Set`/`Del` of the step is staged into it, there is no direct `stateDB.Set/Del`,
    no second batch, nothing the translator did not understand, and every path that does not return an
    error ends after exactly one `Write` of that batch. -/
theorem C16_commit_single_write : singleWrite commit = true := (appSteps_checked _ (.head _)).1

/-- the dry run of the commit (`req.DryRun = true`) stages into a batch that is dropped: no path of it writes
    the batch or writes directly — it leaves the database as it was -/
theorem C16_commit_dry_run_never_writes : neverWrites commitDry = true := by decide +kernel

/-- the same for `ABIHandler.revert` (one block back: reverted state entries, tree nodes and the record) -/
theorem C16_revert_single_write : singleWrite revert = true := (appSteps_checked _ (.tail _ (.head _))).1

/-- `Finalize` (pruning of old diffs) is one batch write as well -/
theorem C16_finalize_single_write : singleWrite finalize = true := by decide +kernel

/-- **What Commit / revert call only stages into the caller's batch**: the diff-store commit and revert,
    the SMT update family (summary), and the methods of the two batch views — no batch creation, no
    `Write`, no direct write inside them. -/
theorem C16_callees_stage_only :
    stagesOnly "batch" (C16W.step Gen.WSFW.diffdb_Database_Commit) = true ∧
    stagesOnly "batch" (C16W.step Gen.WSFW.diffdb_Database_RevertDiff) = true ∧
    stagesOnly "db" (C16W.step Gen.WSFW.smt_trie_Update) = true ∧
    stagesOnly "self" (C16W.step Gen.WSFW.stateSMTBatch_Set) = true ∧
    stagesOnly "self" (C16W.step Gen.WSFW.stateSMTBatch_Del) = true ∧
    stagesOnly "self" (C16W.step Gen.WSFW.batchdb_Database_Set) = true ∧
    stagesOnly "self" (C16W.step Gen.WSFW.batchdb_Database_Del) = true := by decide +kernel

/-- **The tables of the commit, naming the record.** The regenerated row of `ABIHandler.Commit` contains,
    in this order and all on the batch `"batch"` created from `a.stateDB`: the state entries (diff-store
    commit through the `stateSMTBatch` view), the stored diff (`StateDBPrefixDiff`), the tree nodes (SMT
    update through the view with prefix `StateDBPrefixTree`), the record "application state is at
    (height, root)" (`Set` through the view with prefix `StateDBPrefixTreeState`), and then the ONE `Write`
    to `a.stateDB`. A table that is no longer staged into the batch before the write — in particular the
    record — breaks this theorem. -/
theorem C16_commit_tables_staged :
    [("newBatch batch", "a.stateDB"),
     ("call diffdb.Database.Commit batch", "through newStateBatch()"),
     ("batchSet batch", "StateDBPrefixDiff"),
     treeSite, recordSite,
     ("write batch", "a.stateDB")].isSublist (tableOf "ABIHandler.Commit") = true ∧
    (tableOf "ABIHandler.Commit").getLast? = some ("write batch", "a.stateDB") := by decide +kernel

/-- the same for revert: reverted state entries, tree nodes, the record, then the one `Write` -/
theorem C16_revert_tables_staged :
    [("newBatch batch", "a.stateDB"),
     ("call diffdb.Database.RevertDiff batch", "through newStateBatch()"),
     treeSite, recordSite,
     ("write batch", "a.stateDB")].isSublist (tableOf "ABIHandler.revert") = true ∧
    (tableOf "ABIHandler.revert").getLast? = some ("write batch", "a.stateDB") := by decide +kernel

/-- the `tables` rows ARE the skeletons: for every regenerated function the first components of its row
    are the leaves (actions and calls, with the batch each names) of its skeleton, in program order -/
theorem C16_tables_match_skeletons :
    Gen.WSFW.fns.all (fun e => (Gen.WSFW.tables.lookup e.1).map (·.map Prod.fst) == some (leafNames e.2)) = true ∧
    Gen.WSFW.tables.map (·.1) = Gen.WSFW.fns.map (·.1) := by decide +kernel

/-- **Every mutation of the step is in the one batch (sites).** With all callees inlined, every action
    site of commit and revert is harmless for the single batch: no direct write, nothing unknown, no call
    left over, every `NewBatch`/`Set`/`Del`/`Write` site names `"batch"`; exactly one `NewBatch` site and
    exactly one `Write` site, the write being the last mutating site. -/
theorem C16_app_sites_one_batch : ∀ s, s ∈ appSteps →
    s.sites.all C16W.siteOk = true ∧ s.sites.filter Act.isWrite = [.write "batch"] ∧
    s.sites.filter (· == .newBatch "batch") = [.newBatch "batch"] ∧
    (s.sites.filter (fun a => a.isWrite || a.isStaging)).getLast? = some (.write "batch") :=
  fun s hs => (appSteps_checked s hs).2

/-- the writers of the scanned packages are exactly the ones examined here: a new function that creates,
    fills, hands on or writes a batch (or writes directly) changes the regenerated list -/
theorem C16_writers_covered : Gen.WSFW.roots =
    ["batchdb.Database.Set", "batchdb.Database.Del", "diffdb.cacheDB.commit", "diffdb.Database.Commit",
     "diffdb.Database.RevertDiff", "Application.GenerateGenesisBlock", "ABIHandler.Commit",
     "ABIHandler.Commit.DryRun", "ABIHandler.Finalize", "ABIHandler.revert", "stateSMTBatch.Set", "stateSMTBatch.Del",
     "smt.trie.Update", "smt.trie.updateSubtree", "smt.trie.updateNode"] := rfl

/-- **Init writes nothing except through revert.** In the regenerated data `ABIHandler.Init` (and the ABI
    method `Revert`) reach a writer only by calling `ABIHandler.revert`; `Init` is no writer itself and has
    no skeleton of its own (it neither creates, fills, hands on nor writes a batch, nor writes directly). -/
theorem C16_init_writes_only_through_revert :
    Gen.WSFW.callers = [("ABIHandler.Init", ["ABIHandler.revert"]), ("ABIHandler.Revert", ["ABIHandler.revert"])] ∧
    "ABIHandler.Init" ∉ Gen.WSFW.roots ∧ "ABIHandler.Init" ∉ Gen.WSFW.fns.map (·.1) :=
  ⟨rfl, by decide +kernel⟩

/-- genesis generation works on a throw-away in-memory database: it stages but never writes -/
theorem C16_genesis_generation_never_writes :
    (C16W.step Gen.WSFW.Application_GenerateGenesisBlock).sites.all
      (fun a => !a.isWrite && !a.isDirect && !C13.Act.isUnknown a) = true := by decide +kernel

/-- `db.DB.Write` is `pebble.Apply(batch, pebble.Sync)`, and the methods of `db.Batch` only stage
    (regenerated from pkg/db together with the framework skeletons) -/
theorem C16_db_write_is_synced_apply :
    Gen.WSFW.dbWriteMethods =
      [("Del", "Delete:pebble.Sync"), ("DropAll", "DeleteRange:pebble.NoSync"), ("Set", "Set:pebble.Sync"),
       ("Write", "Apply:pebble.Sync")] ∧
    Gen.WSFW.batchMethods = [("Del", ["Delete"]), ("Set", ["Set"])] := ⟨rfl, rfl⟩

/-- the SMT update is a checked summary of exactly this family -/
theorem C16_smt_update_summarised :
    Gen.WSFW.summaries.lookup "smt.trie.Update" =
      some ["smt.trie.Update", "smt.trie.updateNode", "smt.trie.updateSubtree"] := by decide +kernel

/-! ## Crash atomicity (instances of the generic C13 theorems) -/

/-- **Commit is crash-atomic (durable history).** Any path of the regenerated commit, any payload, any
    prior history: at EVERY crash point the durable history is the old one or the old one plus ONE batch
    holding every operation staged in the step — state entries, diff, tree nodes AND the record. -/
theorem C16_commit_atomic {κ ν : Type} (evs : List (Ev κ ν)) (o : Out)
    (hex : Exec commit (evs.map Ev.abs) o) (h0 : List (List (Op κ ν)))
    (p : List (Ev κ ν)) (hp : p <+: evs) :
    ((start h0).run p).hist = h0 ∨ ((start h0).run p).hist = h0 ++ [stagedOps evs] :=
  (C13_atomic _ C16_commit_single_write evs o hex h0).1 p hp

theorem C16_revert_atomic {κ ν : Type} (evs : List (Ev κ ν)) (o : Out)
    (hex : Exec revert (evs.map Ev.abs) o) (h0 : List (List (Op κ ν)))
    (p : List (Ev κ ν)) (hp : p <+: evs) :
    ((start h0).run p).hist = h0 ∨ ((start h0).run p).hist = h0 ++ [stagedOps evs] :=
  (C13_atomic _ C16_revert_single_write evs o hex h0).1 p hp

/-- **… on the store** (from the assumption on pebble alone): every state a restart can find after the
    process died anywhere in a commit or a revert — between two events or inside the `Write` — has the
    content before the step or that content with the WHOLE staged batch applied; a step that does not
    return an error has the latter. -/
theorem C16_app_step_storage_atomic {σ κ ν : Type} [DecidableEq κ] (S : Storage σ κ ν)
    (hS : PebbleAssumption S) (evs : List (Ev κ ν)) (h : AppPath evs) (m : SMach σ κ ν) :
    (∀ s', CrashAt S m evs s' →
      S.content s' = S.content m.store ∨
      S.content s' = applyBatch (S.content m.store) (stagedOps evs)) ∧
    (S.content (SMach.run S m evs).store = S.content m.store ∨
     S.content (SMach.run S m evs).store = applyBatch (S.content m.store) (stagedOps evs)) := by
  obtain ⟨s, hs, o, hex⟩ := h
  have := C13_storage_atomic S hS s (appSteps_checked s hs).1 evs o hex m
  exact ⟨this.1, this.2.1⟩

/-- **The record never disagrees with the state.** Any property of the database content — e.g. "the
    (height, root) record describes the stored state and tree" — that holds before a commit / revert and
    for the database with the whole staged batch applied holds for whatever a restart finds after a crash
    anywhere in the step. (Recovery only ever sees complete blocks.) -/
theorem C16_crash_preserves_consistency {σ κ ν : Type} [DecidableEq κ] (S : Storage σ κ ν)
    (hS : PebbleAssumption S) (Inv : DBOf κ ν → Prop) (evs : List (Ev κ ν)) (h : AppPath evs)
    (m : SMach σ κ ν) (hpre : Inv (S.content m.store))
    (hpost : Inv (applyBatch (S.content m.store) (stagedOps evs)))
    (s' : σ) (hc : CrashAt S m evs s') : Inv (S.content s') := by
  rcases (C16_app_step_storage_atomic S hS evs h m).1 s' hc with e | e <;> rw [e] <;> assumption

/-- **Recovery itself may crash.** `Init` is a sequence of reverts (one per block the application is
    ahead), a chain of commits is a sequence of commits: for EVERY sequence of regenerated commit / revert
    runs and EVERY point at which the process can die, the content a restart finds is the content after
    the completed steps or after the step in progress has completed too — whole blocks only. -/
theorem C16_history_storage_atomic {σ κ ν : Type} [DecidableEq κ] (S : Storage σ κ ν)
    (hS : PebbleAssumption S) (steps : List (List (Ev κ ν))) (hne : steps ≠ [])
    (hsteps : ∀ evs, evs ∈ steps → AppPath evs) (m : SMach σ κ ν) (s' : σ)
    (hc : CrashAt S m steps.flatten s') :
    ∃ pre cur post, steps = pre ++ cur :: post ∧
      (S.content s' = S.content (SMach.run S m pre.flatten).store ∨
       S.content s' = S.content (SMach.run S m (pre ++ [cur]).flatten).store) := by
  have hok : ∀ evs, evs ∈ steps → StepOK evs := by
    intro evs he
    obtain ⟨s, hs, o, hex⟩ := hsteps evs he
    exact stepOK_of_singleWrite (appSteps_checked s hs).1 hex
  obtain ⟨pre, cur, post, e, hcase, _⟩ := C13_history_storage_atomic S hS steps hne hok m s' hc
  exact ⟨pre, cur, post, e, hcase⟩

/-! ## What the criterion excludes really is not atomic -/

/-- a commit that writes the record with an own `Set` after the batch is rejected … -/
theorem C16_record_after_write_rejected : singleWrite recordAfterWrite = false := by decide +kernel

/-- … and has a real path with a crash point (after the `Write`, before the `Set`) at which the database
    holds the new state under the old record — neither the pre- nor the post-state; on the two-table
    database: state 1, record 0. -/
theorem C16_record_after_write_not_atomic :
    Exec recordAfterWrite (recordAfterWriteRun.map Ev.abs) .ret ∧
    ∃ p, p <+: recordAfterWriteRun ∧
      dbOf app0 ((start []).run p).hist .state = some 1 ∧
      dbOf app0 ((start []).run p).hist .record = some 0 ∧
      dbOf app0 ((start []).run recordAfterWriteRun).hist .record = some 1 := by
  refine ⟨okPath_sound _ _ _ (by decide +kernel), recordAfterWriteRun.take 4,
    ⟨recordAfterWriteRun.drop 4, List.take_append_drop 4 _⟩, ?_, ?_, ?_⟩ <;>
  simp [dbOf, applyBatch, applyOp, app0, start, Mach.run, Mach.step, Mach.pendOf, recordAfterWriteRun,
    List.lookup]

/-! ## Non-vacuity -/

/-- the regenerated commit has a real committing path: `NewBatch`, staging, ONE `Write`, `ret` — and the
    staging before the write includes a `Set` (the record is a `Set`) -/
theorem C16_commit_path_exists :
    ∃ tr, Exec commit tr .ret ∧ Act.newBatch "batch" ∈ tr ∧ Act.batchSet "batch" ∈ tr ∧
      tr.getLast? = some (Act.write "batch") := by
  have h : (okPath commit).any (fun r => r.2 = .ret ∧ Act.newBatch "batch" ∈ r.1 ∧
      Act.batchSet "batch" ∈ r.1 ∧ r.1.getLast? = some (Act.write "batch")) = true := by decide +kernel
  obtain ⟨⟨tr, o⟩, hr, hp⟩ := (Option.any_eq_true _ _).mp h
  obtain ⟨rfl, hp⟩ := of_decide_eq_true hp
  exact ⟨tr, okPath_sound _ _ _ hr, hp⟩

/-- `AppPath` is inhabited (the hypothesis of the storage theorems is satisfiable) -/
example : ∃ evs : List (Ev AKey Nat), AppPath evs ∧ stagedOps evs ≠ [] :=
  ⟨[.newBatch "batch", .batchOp "batch" (.set .record 1), .write "batch"],
    ⟨revert, .tail _ (.head _), .ret, okPath_sound _ _ _ (by decide +kernel)⟩, by simp [stagedOps]⟩
