/-
C06 — gossip messages with SEVERAL single commits across a change of the validator set (the defect demonstrated by
seeded/C09-17).

Over `LiskVerif.Model.Cert` (`singleCommitValidator` = the gossip validator of `postSingleCommits`), for ALL chain
states, parameter histories (`ParamStore`), pools and messages. Each commit of a message is judged under the BFT
parameters of ITS OWN height (`ownHeightOk`: signer in `getParams h`, signature verifies against the key registered
there): a message is rejected only for a commit that is malformed or invalid under its own height, never because of
a neighbouring commit; what a message adds to the pool is signed by validators of the commits' own heights; so the
pool invariant survives any message and `GetAggregateCommit` never reaches the "Validator address must exist in
params" panic. A per-message memo of the parameters (`scvMemo off`) is only evaluated, on one message
(`C06_message_memo_off_by_one_counterexample`): with its range ending at `NextHeightBFTParameters(h+1)` it skips a
change stored at `h+1`, pools the commit of a validator dropped there, and `GetAggregateCommit` panics; with the range
ending at `NextHeightBFTParameters(h)` the same message is rejected. No general theorem about the memo is stated; the
exact lookup is the validator itself (`C06_message_exact_lookup`).
-/
import LiskVerif.Lemmas.Cert
import LiskVerif.Lemmas.CertPool
import LiskVerif.Props.C06_Pool

open LiskVerif LiskVerif.Cert

/-- steps 5 and 6 of the gossip validator for ONE commit, under the BFT parameters of the commit's own height -/
def ownHeightOk (st : State) (m : Incoming) : Bool :=
  match st.blockAt m.height, getParams st.params m.height with
  | some hd, some p =>
    match findValidator p.validators m.signer with
    | some v => verifySingle v.key (certMsg st hd) m.sig
    | none => false
  | _, _ => false

/-- steps 5–7 in terms of `ownHeightOk`, when the parameters of the commit's height exist -/
private theorem scvCheck_eq {st : State} {pool : Pool} {m : Incoming} {hd : Header}
    (hblk : st.blockAt m.height = some hd) (hpar : getParams st.params m.height ≠ none) :
    scvCheck st pool m hd = if ownHeightOk st m then (pool.add m.commit, none) else (pool, some .reject) := by
  rw [scvCheck, ownHeightOk, hblk]
  cases hp : getParams st.params m.height with
  | none => exact absurd hp hpar
  | some p =>
    rcases hv : findValidator p.validators m.signer with _ | v
    · simp only [hv]; rfl
    · simp only [hv]; cases verifySingle v.key (certMsg st hd) m.sig <;> rfl

private theorem scvOne_reject (st : State) (pool : Pool) (m : Incoming)
    (h : (scvOne st pool m).2 = some .reject) : m.wf = false ∨ ownHeightOk st m = false := by
  rcases scvOne_stops_or_checks st pool m with ⟨r, hr, -, hrej⟩ | ⟨fin, hd, hg⟩
  · exact .inl (hrej ((congrArg Prod.snd hr).symm.trans h))
  · rw [scvOne_checks hg] at h
    by_cases hpar : getParams st.params m.height = none
    · rw [scvCheck, hpar] at h; cases h
    · rw [scvCheck_eq hg.block hpar] at h
      cases hok : ownHeightOk st m with
      | false => exact .inr rfl
      | true => rw [hok] at h; cases h

private theorem scvOne_ok_not_reject (st : State) (pool : Pool) (m : Incoming)
    (hwf : m.wf = true) (hok : ownHeightOk st m = true) : (scvOne st pool m).2 ≠ some .reject := by
  intro h
  rcases scvOne_reject st pool m h with h1 | h1
  · rw [hwf] at h1; cases h1
  · rw [hok] at h1; cases h1

/-- **A message is rejected only because of a commit that is invalid under the parameters of its own height.** -/
theorem C06_message_reject_only_for_own_height (st : State) (pool : Pool) (msgs : List Incoming)
    (h : (singleCommitValidator st pool msgs).2 = .reject) :
    ∃ m ∈ msgs, m.wf = false ∨ ownHeightOk st m = false := by
  induction msgs generalizing pool with
  | nil => simp [singleCommitValidator] at h
  | cons m r ih =>
    rw [scv_step] at h
    split at h
    · obtain ⟨m', hm', h'⟩ := ih _ h
      exact ⟨m', List.mem_cons_of_mem _ hm', h'⟩
    · rename_i v hv
      simp only at h
      subst h
      exact ⟨m, List.mem_cons_self, scvOne_reject st pool m hv⟩

/-- **A message all of whose commits are well-formed and valid under their own heights is not rejected** (the
parameters of one commit's height never spoil another commit). -/
theorem C06_message_all_ok_not_rejected (st : State) (pool : Pool) (msgs : List Incoming)
    (h : ∀ m ∈ msgs, m.wf = true ∧ ownHeightOk st m = true) :
    (singleCommitValidator st pool msgs).2 ≠ .reject := by
  intro hr
  obtain ⟨m, hm, h1 | h1⟩ := C06_message_reject_only_for_own_height st pool msgs hr
  · rw [(h m hm).1] at h1; cases h1
  · rw [(h m hm).2] at h1; cases h1

/-- the loop reaches steps 5/6 for the commit: well-formed, not pooled, above the removal height, inside the
stored range (or authenticating a change), for the block of the current chain, and the parameters of the commit's
height are stored (`getParams … ≠ none`, so that step 5 does not end with `ignore`) -/
def reachesCheck (st : State) (pool : Pool) (m : Incoming) : Prop :=
  m.wf = true ∧ pool.has m.commit = false ∧
  ∃ fin hd, st.blockAt st.mhpc = some fin ∧ fin.acHeight < m.height ∧
    ((decide (m.height < minStoredHeight st.mhpc) || decide (m.height > st.mhpc)) && !existParams st.params (m.height + 1)) = false ∧
    st.blockAt m.height = some hd ∧ hd.id = m.block ∧ getParams st.params m.height ≠ none

/-- `reachesCheck` is `PassesGuards` (Lemmas/CertPool.lean) for some headers, with the parameters of the commit's
height stored -/
theorem reachesCheck_iff {st : State} {pool : Pool} {m : Incoming} :
    reachesCheck st pool m ↔ ∃ fin hd, PassesGuards st pool m fin hd ∧ getParams st.params m.height ≠ none :=
  ⟨fun ⟨hwf, hhas, fin, hd, hfin, hrem, hrange, hblk, hid, hpar⟩ => ⟨fin, hd, ⟨hwf, hhas, hfin, hrem, hrange, hblk, hid⟩, hpar⟩,
    fun ⟨fin, hd, hg, hpar⟩ => ⟨hg.wf, hg.fresh, fin, hd, hg.final, hg.above, hg.stored, hg.block, hg.id, hpar⟩⟩

private theorem scvOne_bad_rejects (st : State) (pool : Pool) (m : Incoming) (hr : reachesCheck st pool m)
    (hbad : ownHeightOk st m = false) : scvOne st pool m = (pool, some .reject) := by
  obtain ⟨fin, hd, hg, hpar⟩ := reachesCheck_iff.mp hr
  rw [scvOne_checks hg, scvCheck_eq hg.block hpar, hbad]
  rfl

/-- **An invalid commit that the loop reaches rejects the message**, wherever it stands. That the commits in front
of it do not end the loop is a hypothesis, in the form "the validator on `pre ++ r` continues on `r` from `pool'`"
(third part of `hpre`). The first part, the verdict `ignore` on `pre`, is the third at `r = []`, so it is not used; the
third does not follow from it, since an iteration can also END the loop with `ignore` (no block at
`maxHeightPrecommited`). -/
theorem C06_message_first_bad_rejected (st : State) (pool : Pool) (pre : List Incoming) (m : Incoming)
    (post : List Incoming)
    (hpre : ∃ pool', singleCommitValidator st pool pre = (pool', .ignore) ∧ reachesCheck st pool' m ∧
      ∀ r, singleCommitValidator st pool (pre ++ r) = singleCommitValidator st pool' r)
    (hbad : ownHeightOk st m = false) :
    (singleCommitValidator st pool (pre ++ m :: post)).2 = .reject := by
  obtain ⟨pool', _, hr, hcont⟩ := hpre
  rw [hcont, scv_step, scvOne_bad_rejects st pool' m hr hbad]

/-- **Every commit a message adds to the pool is signed by a validator of the commit's OWN height** and its
signature verifies against the key registered at that height. -/
theorem C06_message_pooled_signers_are_validators (st : State) (pool : Pool) (msgs : List Incoming) :
    ∀ c ∈ (singleCommitValidator st pool msgs).1.all, c ∈ pool.all ∨
      ∃ m ∈ msgs, c = m.commit ∧ ownHeightOk st m = true ∧
        ∃ p v, getParams st.params c.height = some p ∧ findValidator p.validators c.signer = some v := by
  intro c hc
  rcases C06_pool_only_verified_enter st pool msgs c hc with h | ⟨⟨hd, p, v, hb, hid, hp, hf, hs⟩, m, hm, _, hcm⟩
  · exact Or.inl h
  · refine Or.inr ⟨m, hm, hcm, ?_, p, v, hp, hf⟩
    subst hcm
    simp only [Incoming.commit] at hb hp hf hs
    simp [ownHeightOk, hb, hp, hf, verifySingle, hs]

/-- **The invariant survives any message and excludes the missing-address panic**: under the pool invariant
(kept by every message, `C06_pool_invariant_validator`) `GetAggregateCommit` never answers `panic`. -/
theorem C06_message_keeps_invariant_no_panic (st : State) (ctx : BlockCtx) (pool : Pool) (msgs : List Incoming)
    (hwf : StoreWf st.params) (hc : Consistent st ctx) (h : PoolInv ctx st.chainId pool) :
    PoolInv ctx st.chainId (singleCommitValidator st pool msgs).1 ∧
    getAggregateCommit st (singleCommitValidator st pool msgs).1 ≠ .panic := by
  have hinv := C06_pool_invariant_validator st ctx pool msgs hc h
  refine ⟨hinv, ?_⟩
  rcases getAggregateCommit_spec st _ ctx hwf hc hinv with h1 | ⟨_, h1, _⟩ | ⟨h1, _⟩ <;> rw [h1] <;> simp

/-- any number of messages -/
theorem C06_messages_keep_invariant_no_panic (st : State) (ctx : BlockCtx) (hwf : StoreWf st.params)
    (hc : Consistent st ctx) (messages : List (List Incoming)) (pool : Pool) (h : PoolInv ctx st.chainId pool) :
    let pool' := messages.foldl (fun p msgs => (singleCommitValidator st p msgs).1) pool
    PoolInv ctx st.chainId pool' ∧ getAggregateCommit st pool' ≠ .panic := by
  induction messages generalizing pool with
  | nil =>
    refine ⟨h, ?_⟩
    have := (C06_message_keeps_invariant_no_panic st ctx pool [] hwf hc h).2
    simpa [singleCommitValidator] using this
  | cons msgs r ih =>
    exact ih _ (C06_pool_invariant_validator st ctx pool msgs hc h)

/-! ### the per-message memo of the BFT parameters -/

/-- parameters read for height `frm`, taken to be valid for `[frm, til)` (`none` = no bound) -/
structure ParamMemo where
  p : Params
  frm : Nat
  til : Option Nat

/-- `commitParams.get`: the range of a fresh entry ends at `NextHeightBFTParameters(h + off)`; the model's
`nextHeightParams ps x` is the smallest stored height strictly above `x`, so `off = 0` is the exact range and
`off = 1` (the idiom `NextHeightBFTParameters(maxHeightCertified+1)` copied to `h+1`) skips a change stored at `h+1` -/
def memoGet (off : Nat) (ps : ParamStore) (memo : Option ParamMemo) (h : Nat) : Option Params × Option ParamMemo :=
  let fresh : Option Params × Option ParamMemo :=
    match getParams ps h with
    | none => (none, memo)
    | some p => (some p, some ⟨p, h, nextHeightParams ps (h + off)⟩)
  match memo with
  | none => fresh
  | some mm =>
    if decide (mm.frm ≤ h) && (match mm.til with | some u => decide (h < u) | none => true) then (some mm.p, memo)
    else fresh

/-- one iteration of the validator loop with the parameters of step 5 supplied by `lookup` -/
def scvOneWith (lookup : Option Params) (st : State) (pool : Pool) (m : Incoming) : Pool × Option VRes :=
  if !m.wf then (pool, some .reject)
  else if pool.has m.commit then (pool, none)
  else
    match st.blockAt st.mhpc with
    | none => (pool, some .ignore)
    | some fin =>
      if m.height ≤ fin.acHeight then (pool, none)
      else if (decide (m.height < minStoredHeight st.mhpc) || decide (m.height > st.mhpc)) && !existParams st.params (m.height + 1)
      then (pool, none)
      else
        match st.blockAt m.height with
        | none => (pool, some .ignore)
        | some hd =>
          if hd.id ≠ m.block then (pool, none)
          else
            match lookup with
            | none => (pool, some .ignore)
            | some p =>
              match findValidator p.validators m.signer with
              | none => (pool, some .reject)
              | some v =>
                if !verifySingle v.key (certMsg st hd) m.sig then (pool, some .reject)
                else (pool.add m.commit, none)

/-- with the parameters of the commit's own height this is the validator's iteration -/
theorem C06_message_exact_lookup (st : State) (pool : Pool) (m : Incoming) :
    scvOneWith (getParams st.params m.height) st pool m = scvOne st pool m := rfl

/-- the step-5 lookup happens only when steps 1-4 pass -/
def reachesLookup (st : State) (pool : Pool) (m : Incoming) : Bool :=
  m.wf && !pool.has m.commit &&
  (match st.blockAt st.mhpc with
   | none => false
   | some fin => !decide (m.height ≤ fin.acHeight) &&
      !((decide (m.height < minStoredHeight st.mhpc) || decide (m.height > st.mhpc)) && !existParams st.params (m.height + 1)) &&
      (match st.blockAt m.height with
       | none => false
       | some hd => decide (hd.id = m.block)))

/-- the gossip validator with the per-message memo -/
def scvMemo (off : Nat) (st : State) : Pool → Option ParamMemo → List Incoming → Pool × VRes
  | pool, _, [] => (pool, .ignore)
  | pool, memo, m :: r =>
    let (lk, memo') := if reachesLookup st pool m then memoGet off st.params memo m.height else (none, memo)
    match scvOneWith lk st pool m with
    | (p, none) => scvMemo off st p memo' r
    | (p, some v) => (p, v)

/-- validators 0, 1, 2 (keys 10, 20, 30) up to height 5; the block at height 5 authenticates the change to
0, 1, 3 (keys 10, 20, 40) stored at height 6: validator 2 is dropped, 3 added -/
def C06mgOld : Params := ⟨[⟨2, 30, 1⟩, ⟨1, 20, 1⟩, ⟨0, 10, 1⟩], 3⟩
def C06mgNew : Params := ⟨[⟨3, 40, 1⟩, ⟨1, 20, 1⟩, ⟨0, 10, 1⟩], 3⟩

/-- 11 blocks, heights 0..10 (id = 100 + height), height 8 finalized, height 5 certified (not yet by a finalized block) -/
def C06mgState : State :=
  { chainId := 1
    blockAt := fun h => if h ≤ 10 then some ⟨100 + h, 0⟩ else none
    params := [(1, C06mgOld), (6, C06mgNew)]
    mhpc := 8
    mhc := 5 }

/-- one message: the commit of validator 0 for height 5, then the correctly self-signed commit of the DROPPED
validator 2 for height 6 -/
def C06mgMessage : List Incoming :=
  [⟨true, 105, 5, 0, sign 10 ⟨1, 105⟩⟩, ⟨true, 106, 6, 2, sign 30 ⟨1, 106⟩⟩]

/-- The defect `c06-commit-of-non-validator-pooled` / `c09-own-aggregate-panics`: with the off-by-one range the
memo filled for height 5 answers for height 6 as well, the dropped validator's commit is pooled (verdict
`ignore`), and the generator's `GetAggregateCommit` hits the missing-address panic.  The validator itself, and the
memo with the exact range, reject the message, pool only the first commit and `GetAggregateCommit` succeeds. The
second commit alone, or first in the message, is rejected by the off-by-one memo too. -/
theorem C06_message_memo_off_by_one_counterexample :
    ((scvMemo 1 C06mgState Pool.empty none C06mgMessage).2 = .ignore ∧
      (scvMemo 1 C06mgState Pool.empty none C06mgMessage).1.all.map (fun c => (c.height, c.signer)) = [(5, 0), (6, 2)] ∧
      getAggregateCommit C06mgState (scvMemo 1 C06mgState Pool.empty none C06mgMessage).1 = .panic) ∧
    ((singleCommitValidator C06mgState Pool.empty C06mgMessage).2 = .reject ∧
      (singleCommitValidator C06mgState Pool.empty C06mgMessage).1.all.map (fun c => (c.height, c.signer)) = [(5, 0)] ∧
      getAggregateCommit C06mgState (singleCommitValidator C06mgState Pool.empty C06mgMessage).1 = .ok (emptyCommit C06mgState)) ∧
    ((scvMemo 0 C06mgState Pool.empty none C06mgMessage).2 = .reject ∧
      (scvMemo 0 C06mgState Pool.empty none C06mgMessage).1.all.map (fun c => (c.height, c.signer)) = [(5, 0)]) ∧
    ((scvMemo 1 C06mgState Pool.empty none C06mgMessage.reverse).2 = .reject ∧
      (scvMemo 1 C06mgState Pool.empty none (C06mgMessage.drop 1)).2 = .reject) := by
  refine ⟨⟨by decide, by decide, by decide⟩, ⟨by decide, by decide, by decide⟩, by decide, by decide, by decide⟩

/-- non-vacuity of the general theorems on the example: the rejected message is rejected because of the commit
that is invalid under ITS height (6), the pooled commit is valid under its height (5) -/
example : ownHeightOk C06mgState ⟨true, 106, 6, 2, sign 30 ⟨1, 106⟩⟩ = false ∧
    ownHeightOk C06mgState ⟨true, 105, 5, 0, sign 10 ⟨1, 105⟩⟩ = true ∧
    ownHeightOk C06mgState ⟨true, 105, 5, 2, sign 30 ⟨1, 105⟩⟩ = true ∧
    ownHeightOk C06mgState ⟨true, 106, 6, 3, sign 40 ⟨1, 106⟩⟩ = true := by decide

example : ∃ m ∈ C06mgMessage, m.wf = false ∨ ownHeightOk C06mgState m = false :=
  C06_message_reject_only_for_own_height C06mgState Pool.empty C06mgMessage (by decide)

/-- the mirror effect of the off-by-one memo: the honest commit of the validator ADDED at height 6 is rejected
when it follows a commit for height 5 -/
example : (scvMemo 1 C06mgState Pool.empty none
      [⟨true, 105, 5, 0, sign 10 ⟨1, 105⟩⟩, ⟨true, 106, 6, 3, sign 40 ⟨1, 106⟩⟩]).2 = .reject ∧
    (singleCommitValidator C06mgState Pool.empty
      [⟨true, 105, 5, 0, sign 10 ⟨1, 105⟩⟩, ⟨true, 106, 6, 3, sign 40 ⟨1, 106⟩⟩]).2 = .ignore := by decide
