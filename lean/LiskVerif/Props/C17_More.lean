/-
C17 — P2P request/response over time and against a hostile network, on the interleaving model `LiskVerif.ReqResp`
(Model/ReqResp.lean; lemmas in Lemmas/ReqRespMore.lean), for ANY number of concurrent requesters and handlers.
Termination: every thread statement lowers one global measure, so threads alone stop, and under strong fairness of the
threads only (nothing is assumed of the environment or of the return of `mp.send`) every `onResponse` returns and every
`request` returns or stays inside `mp.send`.  No lost reply: a response handed to the channel of a waiting requester is
what it returns, in every continuation.  Isolation: `resMu` is never held across `mp.send`; the variant that does hold
it stalls (`C17_widened_lock_stalls_counterexample`).  Correlation survives forged responses with any id and payload.
Cleanup: at quiescence the map is empty, and an unregistered id never comes back.  Two obligations are on the skeleton
regenerated from the Go source, not on the model (`C17_gen_send_outside_resMu`, `C17_gen_send_holds_no_resMu`:
`mp.send` is called outside `resMu`); hence the import of Props/C17_Skel.

`P : Nat → Nat` is the remote handler (request id ↦ payload of its answer).
-/
import LiskVerif.Lemmas.ReqRespMore
import LiskVerif.Props.C17
import LiskVerif.Props.C17_Skel

open LiskVerif LiskVerif.ReqResp

/-! ## 1. termination and liveness -/

/-- What `request` returns: the response the remote handler produced for the id of the last attempt,
or a timeout — only with the retry budget used up and only if no response was handed to the channel
while the last attempt was waiting —, or the caller's cancellation, or the send error. -/
theorem C17_outcome_at_return (P : Nat → Nat) (s : State) (hs : Reachable P s)
    (i : Nat) (r : Req) (hr : s.reqs[i]? = some r) (hd : r.pc = .done) :
    r.out = some (.got ⟨r.id, P r.id⟩) ∨
    (r.out = some .timeout ∧ r.retries = 0 ∧ r.arrived = false) ∨
    r.out = some .cancelled ∨ r.out = some .sendErr := by
  have hI := inv_reachable P s hs
  have hI2 := inv2_reachable P s hs
  have hne := (hI2.out i r hr).postOut (by simp [hd, RPc.post])
  cases ho : r.out with
  | none => exact absurd ho hne
  | some o =>
    cases o with
    | got m => left; rw [hI.outOk i r m hr ho]
    | timeout =>
      right; left
      refine ⟨rfl, (hI2.out i r hr).doneBudget hd ho, ?_⟩
      cases ha : r.arrived with
      | false => rfl
      | true =>
        rcases hI.ghost i r hr ha with ⟨hw, _⟩ | ⟨m, hm⟩ | hc
        · rw [hd] at hw; cases hw
        · rw [ho] at hm; cases hm
        · rw [ho] at hc; cases hc
    | cancelled => right; right; left; rfl
    | sendErr => right; right; right; rfl

/-- **Global measure.**  `gMeasure s` = the sum over all requester threads of
`10 * retries + (statements left in the attempt)` plus the sum over all handler threads of the
statements left in `onResponse`.  EVERY thread statement — of any requester or handler, under any
interleaving — strictly decreases it; an environment action adds exactly its cost (4 for a delivered
response = a new handler thread, `10 * b + 9` for a new call of `request` with budget `b`, 0 for
answering / duplicating / dropping). -/
theorem C17_global_measure (P : Nat → Nat) (s s' : State) (a : Action) (hstep : step P s a = some s') :
    (a.isThread = true → gMeasure s' < gMeasure s) ∧
    (a.isThread = false → gMeasure s' = gMeasure s + envCost a) :=
  gMeasure_step P s s' a hstep

/-- … over whole schedules: the number of thread statements executed in ANY run is bounded by the
measure of its first state plus what the environment added (4 per delivered response, `10 * b + 9`
per new request). -/
theorem C17_thread_steps_bounded (P : Nat → Nat) (s s' : State) (l : List Action)
    (hrun : run P s l = some s') :
    threadSteps l + gMeasure s' ≤ gMeasure s + (l.map envCost).sum :=
  gMeasure_run P l s s' hrun

/-- **Termination under every schedule.**  If the environment is silent, the threads (any number of
requesters with any budgets, any number of handlers) execute at most `gMeasure s` statements
altogether, whatever the interleaving; and a thread-only run that cannot be extended has ended with
every call of `request` and every `onResponse` returned (no thread is left blocked). -/
theorem C17_threads_alone_terminate (P : Nat → Nat) (s s' : State) (hs : Reachable P s)
    (l : List Action) (hl : ∀ a ∈ l, a.isThread = true) (hrun : run P s l = some s') :
    l.length + gMeasure s' ≤ gMeasure s ∧
    ((∀ a, a.isThread = true → step P s' a = none) → allDone s' = true) := by
  constructor
  · have h := gMeasure_run P l s s' hrun
    rwa [threadSteps, List.filter_eq_self.mpr hl, sum_envCost_of_isThread hl] at h
  · intro hno
    rcases C17_deadlock_free P s' (reachable_run P l s s' hs hrun) with h | ⟨a, ha, hsome⟩
    · exact h
    · rw [hno a ha] at hsome; simp at hsome

/-- **Liveness under fairness.**  Consider any infinite execution (stuttering allowed) from a
reachable state that is strongly fair to every requester and handler thread.  Nothing is assumed of
the environment (responses may be delayed, dropped, duplicated, never sent; new requests may keep
arriving) and nothing of `mp.send` (it may block forever).  Then
* every invocation of `onResponse` returns — responses are processed no matter how many requesters
  hang in `mp.send` (isolation);
* every call of `request` returns — with the remote handler's response for its own id, or with a
  timeout after the whole retry budget and only if no response was handed over while the last
  attempt waited, or with the caller's cancellation, or with the send error — unless it stays inside
  `mp.send` forever. -/
theorem C17_fair_liveness (P : Nat → Nat) (e : Exec P) (hf : ∀ t, e.Fair t) (n : Nat) :
    (∀ (j : Nat) (h : Hdl), (e.σ n).hdls[j]? = some h →
      ∃ m h', n ≤ m ∧ (e.σ m).hdls[j]? = some h' ∧ h'.pc = .done ∧ h'.msg = h.msg) ∧
    (∀ (i : Nat) (r : Req), (e.σ n).reqs[i]? = some r →
      (∃ m r', n ≤ m ∧ (e.σ m).reqs[i]? = some r' ∧ r'.pc = .done ∧
        (r'.out = some (.got ⟨r'.id, P r'.id⟩) ∨
         (r'.out = some .timeout ∧ r'.retries = 0 ∧ r'.arrived = false) ∨
         r'.out = some .cancelled ∨ r'.out = some .sendErr)) ∨
      (∃ m, n ≤ m ∧ ∀ k, m ≤ k → ∃ r', (e.σ k).reqs[i]? = some r' ∧ r'.pc = .send)) := by
  constructor
  · intro j h hh
    exact e.hdl_terminates hf n j h hh
  · intro i r hr
    rcases e.req_terminates hf n i r hr with ⟨m, r', hm, hr', hd⟩ | h
    · exact Or.inl ⟨m, r', hm, hr', hd, C17_outcome_at_return P _ (e.reachable m) i r' hr' hd⟩
    · exact Or.inr h

/-- … and if every `mp.send` eventually returns (successfully or with an error), every call of
`request` returns. -/
theorem C17_fair_liveness_all_return (P : Nat → Nat) (e : Exec P) (hf : ∀ t, e.Fair t)
    (hsend : ∀ (i k : Nat) (r : Req), (e.σ k).reqs[i]? = some r → r.pc = .send →
      ∃ k' r', k ≤ k' ∧ (e.σ k').reqs[i]? = some r' ∧ r'.pc ≠ .send)
    (n i : Nat) (r : Req) (hr : (e.σ n).reqs[i]? = some r) :
    ∃ m r', n ≤ m ∧ (e.σ m).reqs[i]? = some r' ∧ r'.pc = .done ∧
      (r'.out = some (.got ⟨r'.id, P r'.id⟩) ∨
       (r'.out = some .timeout ∧ r'.retries = 0 ∧ r'.arrived = false) ∨
       r'.out = some .cancelled ∨ r'.out = some .sendErr) := by
  rcases (C17_fair_liveness P e hf n).2 i r hr with h | ⟨m, _, hm⟩
  · exact h
  · exfalso
    obtain ⟨r1, hr1, hp1⟩ := hm m (Nat.le_refl _)
    obtain ⟨k', r', hk', hr', hne⟩ := hsend i m r1 hr1 hp1
    obtain ⟨r2, hr2, hp2⟩ := hm k' hk'
    rw [hr'] at hr2; cases hr2
    exact hne hp2

/-- once all threads are done no thread statement is enabled -/
private theorem allDone_no_thread_step (P : Nat → Nat) (s : State) (hd : allDone s = true) (a : Action)
    (ha : a.isThread = true) : step P s a = none := by
  simp only [allDone, Bool.and_eq_true, List.all_eq_true] at hd
  cases hs : step P s a with
  | none => rfl
  | some s' =>
    -- a thread statement is a statement of a record that is not at `done`
    rcases step_shape P s s' a hs with ⟨i, r, r', _, hr, _, _, hown⟩ | ⟨j, h, h', _, hh, _, ⟨_, hn⟩, _⟩ |
        ⟨hact, _⟩
    · have hp : r.pc = .done := by simpa [reqDone] using hd.1 r (List.mem_of_getElem? hr)
      unfold ownNext at hown
      simp [hp] at hown
    · have hp : h.pc = .done := by simpa [hdlDone] using hd.2 h (List.mem_of_getElem? hh)
      simp [hp] at hn
    · cases a <;> simp [actor, Action.isThread] at hact ha

private theorem local_isThread (a : Action) (h : a.isLocal = true) : a.isThread = true :=
  isThread_of_isLocal h

/-- three concurrent requests — answered early with a duplicate, timed out with one retry and then
cancelled, failed send — and a late response for an id that is no longer registered -/
def C17_mixedTrace : List Action :=
  [.spawn 0, .spawn 1, .spawn 0,
   .rStep 0, .rStep 1, .rStep 2,                          -- three fresh ids 0, 1, 2
   .rStep 0, .rStep 0, .rStep 0, .rSendOk 0,              -- request 0 registered and on the wire
   .rStep 1, .rStep 1, .rStep 1,                          -- requester 1 registered, inside mp.send
   .nRespond 0, .nDup 0, .nDeliver 0,
   .hStep 0, .hStep 0, .hStep 0, .hStep 0,                -- response 0 buffered while requester 1 is in send
   .rSendOk 1,
   .rStep 2, .rStep 2, .rStep 2, .rSendErr 2,             -- requester 2: the send fails
   .rStep 2, .rStep 2, .rStep 2,                          --   … unregisters and returns the error
   .rRecv 0, .rStep 0, .rStep 0, .rStep 0,                -- requester 0 returns the response
   .nRespond 1,                                           -- the answer to request 1 is slow
   .rTimeout 1, .rStep 1, .rStep 1, .rStep 1,             -- attempt 1 of requester 1 times out, retry
   .nDeliver 0, .hStep 1, .hStep 1, .hStep 1,             -- late response for id 1: unknown request ID
   .rStep 1, .rStep 1, .rStep 1, .rStep 1, .rSendOk 1,    -- second attempt (id 3)
   .rCancel 1, .rStep 1, .rStep 1, .rStep 1,              -- the caller gives up
   .nDeliver 0, .hStep 2, .hStep 2, .hStep 2]             -- the duplicate of response 0: unknown request ID

/-- the run is executable and ends with every thread done, the map empty and the lock free -/
example : ∃ s, run C17P init C17_mixedTrace = some s ∧
    s.reqs.map (fun r => (r.pc, r.out)) =
      [(.done, some (.got ⟨0, 100⟩)), (.done, some .cancelled), (.done, some .sendErr)] ∧
    s.resCh = [] ∧ s.lock = none ∧ s.unknown = [0, 1] ∧ allDone s = true := by decide +kernel

/-- non-vacuity of `C17_outcome_at_return`: reachable states with each of the four outcomes -/
example : ∃ s, Reachable C17P s ∧ ∃ r0, s.reqs[0]? = some r0 ∧ ∃ r1, s.reqs[1]? = some r1 ∧
    ∃ r2, s.reqs[2]? = some r2 ∧ r0.pc = .done ∧ r1.pc = .done ∧ r2.pc = .done ∧
    r0.out = some (.got ⟨r0.id, C17P r0.id⟩) ∧ r1.out = some .cancelled ∧ r2.out = some .sendErr :=
  reachable_ex C17_mixedTrace (by decide +kernel)

example : ∃ s, Reachable C17P s ∧ ∃ r, s.reqs[0]? = some r ∧ r.pc = .done ∧ r.out = some .timeout ∧
    r.retries = 0 ∧ r.arrived = false :=
  reachable_ex C17_fixedRaceTrace (by decide +kernel)

/-- non-vacuity of the measure theorems: the mixed run has 45 thread statements; the environment
contributed `9 + 19 + 9` for the three requests and `3 * 4` for the three delivered responses -/
example : threadSteps C17_mixedTrace = 45 ∧ (C17_mixedTrace.map envCost).sum = 49 ∧
    gMeasure init = 0 ∧ (run C17P init C17_mixedTrace).map gMeasure = some 0 := by decide +kernel

/-- non-vacuity of `C17_fair_liveness`: the mixed run, continued by stuttering, is an execution that
is fair to every thread; it contains requesters and handlers -/
example : ∃ e : Exec C17P, (∀ t, e.Fair t) ∧ ((e.σ 3).reqs[1]?).isSome = true ∧
    ((e.σ 16).hdls[0]?).isSome = true := by
  have h : ∃ s, run C17P init C17_mixedTrace = some s ∧ allDone s = true := by decide +kernel
  obtain ⟨s, hr, hd⟩ := h
  refine ⟨Exec.ofRun C17P _ s hr, ?_, ?_, ?_⟩
  · exact Exec.ofRun_fair C17P _ s hr
      (fun a ha => allDone_no_thread_step C17P s hd a (local_isThread a ha))
  · show ((stateAt C17P init C17_mixedTrace 3).reqs[1]?).isSome = true
    decide +kernel
  · show ((stateAt C17P init C17_mixedTrace 16).hdls[0]?).isSome = true
    decide +kernel

/-! ## 2. no lost reply, trace level -/

/-- **No lost reply, for every continuation.**  Suppose `onResponse` performs its channel send (the
`deliver` statement, under `resMu`) while the requester owning the channel still sits in its
`select`.  Then in EVERY later state of EVERY interleaving with every behaviour of the network and
of the other requests, that requester is still in the same attempt (same id, same retry budget: it
never times out and never retries) and either still waits with exactly that response in its channel
and its timeout branch disabled, or has left the `select` with that response as the result — or with
the caller's own cancellation, and this only if a `ctx.Done()` step of that requester occurred
afterwards.  In particular when it is `done` without such a cancellation it returned the response. -/
theorem C17_delivered_reply_is_returned (P : Nat → Nat) (s s1 : State) (hs : Reachable P s)
    (j ch : Nat) (h : Hdl) (r : Req)
    (hh : s.hdls[j]? = some h) (hpc : h.pc = .deliver ch) (hr : s.reqs[ch]? = some r) (hw : r.pc = .wait)
    (hstep : step P s (.hStep j) = some s1) (l : List Action) (s' : State) (hrun : run P s1 l = some s') :
    ∃ r', s'.reqs[ch]? = some r' ∧ r'.id = r.id ∧ r'.retries = r.retries ∧
      ((r'.pc = .wait ∧ r'.buf = some ⟨r.id, P r.id⟩ ∧ step P s' (.rTimeout ch) = none) ∨
       ((r'.pc = .unLock ∨ r'.pc = .unDelete ∨ r'.pc = .unUnlock ∨ r'.pc = .done) ∧
        (r'.out = some (.got ⟨r.id, P r.id⟩) ∨ (Action.rCancel ch ∈ l ∧ r'.out = some .cancelled)))) := by
  obtain ⟨r1, hr1, hw1, hid1, _, hb1, _⟩ :=
    C17_delivery_reaches_waiting_requester P s s1 hs j h ch r hh hpc hr hw hstep
  have hret1 : r1.retries = r.retries := by
    obtain ⟨r1', hr1', hc⟩ := req_effect P s s1 _ hstep ch r hr
    rw [hr1] at hr1'; cases hr1'
    rcases hc with ⟨hact, _⟩ | ⟨_, rfl | ⟨m, rfl⟩⟩
    · simp [actor] at hact
    · rfl
    · rfl
  have hS1 : Served P r.id r.retries (decide (Action.rCancel ch ∈ l)) r1 :=
    ⟨hid1, hret1, Or.inl ⟨hw1, hb1⟩⟩
  obtain ⟨r', hr', hid, hret, hc⟩ := served_run P l s1 s' hrun ch r.id r.retries _ r1 hr1 hS1 (by simp)
  -- `Served` in the terms of the statement: at `wait` the buffered response disables the timeout branch
  refine ⟨r', hr', hid, hret, ?_⟩
  rcases hc with ⟨hw, hb⟩ | ⟨hp, ho⟩
  · exact .inl ⟨hw, hb, by simp [step, hr', hb]⟩
  · refine .inr ⟨?_, ho.imp_right fun ⟨hc, ho⟩ => ⟨by simpa using hc, ho⟩⟩
    cases hpc : r'.pc <;> simp [hpc, RPc.post] at hp ⊢

/-- **The race "timeout fires while `onResponse` holds `resMu`".**  Let a handler hold `resMu` at its
lookup with a response for the id a waiting requester is working on.  Then the handler's next two
statements can be executed back to back from that state (it does not block), and once they are, the response is in the channel and — by the previous theorem's
argument — is what the requester returns in every continuation: the reply can only be "lost" to a
timeout / cancellation that fired BEFORE the channel send, i.e. before the response arrived. -/
theorem C17_race_timeout_vs_delivery (P : Nat → Nat) (s : State) (hs : Reachable P s)
    (j ch : Nat) (h : Hdl) (r : Req)
    (hh : s.hdls[j]? = some h) (hpc : h.pc = .lookup) (hid : h.msg.rid = r.id)
    (hr : s.reqs[ch]? = some r) (hw : r.pc = .wait) :
    ∃ s2, run P s [.hStep j, .hStep j] = some s2 ∧
      ∀ (l : List Action) (s' : State), run P s2 l = some s' →
        ∃ r', s'.reqs[ch]? = some r' ∧ r'.id = r.id ∧ r'.retries = r.retries ∧
          ((r'.pc = .wait ∧ r'.buf = some ⟨r.id, P r.id⟩ ∧ step P s' (.rTimeout ch) = none) ∨
           ((r'.pc = .unLock ∨ r'.pc = .unDelete ∨ r'.pc = .unUnlock ∨ r'.pc = .done) ∧
            (r'.out = some (.got ⟨r.id, P r.id⟩) ∨ (Action.rCancel ch ∈ l ∧ r'.out = some .cancelled)))) := by
  have hI := inv_reachable P s hs
  have hreg : s.resCh.lookup h.msg.rid = some ch := by
    rw [hid]; exact hI.regd ch r hr (by simp [hw, RPc.registered])
  have hjlt : j < s.hdls.length := (List.getElem?_eq_some_iff.mp hh).1
  -- first statement: the lookup finds the requester's channel
  have hstep1 : step P s (.hStep j) =
      some { s with hdls := s.hdls.set j { h with pc := .deliver ch } } := by
    simp [step, hh, stepHdl, hpc, hreg]
  -- second statement: the non-blocking send
  let s1 : State := { s with hdls := s.hdls.set j { h with pc := .deliver ch } }
  have hs1 : Reachable P s1 := .step _ hs hstep1
  have hh1 : s1.hdls[j]? = some { h with pc := .deliver ch } := List.getElem?_set_self hjlt
  have hr1 : s1.reqs[ch]? = some r := hr
  obtain ⟨s2, hstep2⟩ : ∃ s2, step P s1 (.hStep j) = some s2 := by
    simp [step, hh1, stepHdl, hr1]
  refine ⟨s2, by simp only [run, hstep1]; simp only [s1] at hstep2; simp [hstep2], ?_⟩
  intro l s' hrun
  exact C17_delivered_reply_is_returned P s1 s2 hs1 j ch _ r hh1 rfl hr1 hw hstep2 l s' hrun

/-- non-vacuity: the hypotheses of `C17_race_timeout_vs_delivery` hold after the first 9 actions of
the race schedule of Props/C17 (handler 0 has looked nothing up yet but holds `resMu`; requester 0
waits); in the continuation where the timer stays quiet the requester returns the response, in the
continuation `C17_fixedRaceTrace` (timer first) it returns the timeout -/
example : ∃ s, Reachable C17P s ∧ ∃ h, s.hdls[0]? = some h ∧ ∃ r, s.reqs[0]? = some r ∧
    h.pc = .lookup ∧ h.msg.rid = r.id ∧ r.pc = .wait :=
  reachable_ex (C17_fixedRaceTrace.take 9) (by decide +kernel)

example : ∃ s, run C17P init (C17_fixedRaceTrace.take 9 ++
      [.hStep 0, .hStep 0, .hStep 0, .rRecv 0, .rStep 0, .rStep 0, .rStep 0]) = some s ∧
    s.reqs.map (fun r => (r.pc, r.out)) = [(.done, some (.got ⟨0, 100⟩))] ∧ allDone s = true := by
  decide +kernel

/-! ## 3. isolation: a hanging `mp.send` delays nobody -/

/-- `resMu` is never held across `mp.send` (nor across the `select`): a requester that holds the lock
is at one of the four map statements `resCh[id] = ch` / `Unlock` / `delete(resCh, id)` / `Unlock`,
each of which is enabled (Props/C17 `C17_lock_holder_never_blocks`).  This is the model-level
counterpart of the regenerated skeleton facts `C17_gen_register_before_send` (the registration is
complete — written AND unlocked — when `send` is called) and `C17_gen_requester_waits_outside_lock`. -/
theorem C17_send_outside_critical_section (P : Nat → Nat) (s : State) (hs : Reachable P s)
    (i : Nat) (r : Req) (hr : s.reqs[i]? = some r) :
    (s.lock = some (.req i) →
      r.pc = .regStore ∨ r.pc = .regUnlock ∨ r.pc = .unDelete ∨ r.pc = .unUnlock) ∧
    (r.pc = .send ∨ r.pc = .wait → s.lock ≠ some (.req i)) := by
  have hI := inv_reachable P s hs
  have h1 := hI.lockReq i r hr
  constructor
  · intro hl
    have := h1.mpr hl
    cases hpc : r.pc <;> simp [hpc, RPc.holds] at this ⊢
  · intro hp hl
    have := h1.mpr hl
    rcases hp with hp | hp <;> simp [hp, RPc.holds] at this

/-- **Requests to a slow / hanging peer block nobody.**  In every reachable state, even if NO
`mp.send` ever returns (no `rSendOk` / `rSendErr` is ever taken), either every thread is done or
parked inside `mp.send`, or some thread can execute a statement that does not depend on any send
returning.  Together with the rank bound: all handlers and all requesters that are not themselves
inside `send` finish on their own. -/
theorem C17_hanging_sends_block_nobody (P : Nat → Nat) (s : State) (hs : Reachable P s) :
    ((∀ r ∈ s.reqs, r.pc = .done ∨ r.pc = .send) ∧ (∀ h ∈ s.hdls, h.pc = .done)) ∨
    ∃ a, a.isLocal = true ∧ (step P s a).isSome = true :=
  (inv_reachable P s hs).progress

/-- the schedule that stalls the WIDENED-LOCK variant (`stepW`: `Lock; resCh[id] = ch; send; Unlock`,
seeded/C17-3 makes this change to the code): request 0 is on the wire and waits; request 1 has registered and sits in
`mp.send` to a slow peer — with `resMu`; the response to request 0 arrives -/
def C17_widenedTrace : List Action :=
  [.spawn 0, .spawn 0,
   .rStep 0, .rStep 0, .rStep 0, .rSendOk 0, .rStep 0,   -- request 0: id, Lock, store, send ok, Unlock: select
   .rStep 1, .rStep 1, .rStep 1,                         -- request 1: id, Lock, store — now inside mp.send
   .nRespond 0, .nDeliver 0]                             -- the response to request 0 reaches onResponse

def C17_widenedState : State :=
  { lock := some (.req 1), resCh := [(1, 1), (0, 0)],
    reqs := [{ pc := .wait, id := 0, buf := none, out := none, retries := 0, arrived := false },
             { pc := .send, id := 1, buf := none, out := none, retries := 0, arrived := false }],
    hdls := [{ pc := .lock, msg := ⟨0, 100⟩ }],
    net := [], sent := [0], nextId := 2, unknown := [] }

/-- **Counterexample for the widened lock scope.**  With `resMu` held across `mp.send` the schedule
above is executable and leads to a state in which the response to request 0 has reached `onResponse`
well before request 0's deadline, but as long as the send of request 1 does not return — for ANY
continuation containing no `rSendOk 1` / `rSendErr 1`, however long — `resMu` stays with requester 1,
no invocation of `onResponse` (this one or any later one) gets past `Lock`, nothing is ever put into
request 0's channel, request 0 can only leave its `select` by timeout or cancellation and then
cannot even unregister and return, and no new request gets past its registration.  The continuation
`C17_widenedLostTrace` ends with request 0 returning a timeout although its response was processed. -/
theorem C17_widened_lock_stalls_counterexample :
    runW C17P init C17_widenedTrace = some C17_widenedState ∧
    stepW C17P C17_widenedState (.hStep 0) = none ∧
    (∀ l s', (∀ a ∈ l, a ≠ .rSendOk 1 ∧ a ≠ .rSendErr 1) → runW C17P C17_widenedState l = some s' →
      s'.lock = some (.req 1) ∧
      (∀ (j : Nat) (h : Hdl), s'.hdls[j]? = some h → h.pc = .lock) ∧
      (∃ r, s'.reqs[0]? = some r ∧ r.buf = none ∧ r.pc ≠ .done ∧ ∀ m, r.out ≠ some (.got m)) ∧
      (∀ (i : Nat) (r : Req), i ≠ 0 → i ≠ 1 → s'.reqs[i]? = some r → r.pc = .start ∨ r.pc = .regLock)) := by
  have hS : StuckW C17_widenedState := by
    refine ⟨rfl, ⟨_, rfl, rfl⟩, ⟨_, rfl, rfl, Or.inl ⟨rfl, rfl⟩⟩, ?_, ?_⟩
    · intro j h hh
      cases j with
      | zero => simp [C17_widenedState] at hh; subst hh; rfl
      | succ j => simp [C17_widenedState] at hh
    · intro i r hh h0 h1
      cases i with
      | zero => exact absurd rfl h0
      | succ i =>
        cases i with
        | zero => exact absurd rfl h1
        | succ i => simp [C17_widenedState] at hh
  refine ⟨by decide +kernel, by decide +kernel, ?_⟩
  intro l s' hne hrun
  have hS' := stuckW_run C17P l _ s' hS hne hrun
  obtain ⟨r, hr, hb, hp⟩ := hS'.r0
  refine ⟨hS'.lock, hS'.hs, ⟨r, hr, hb, ?_, ?_⟩, fun i r h0 h1 hr => hS'.rs i r hr h0 h1⟩
  · rcases hp with ⟨hp, _⟩ | ⟨hp, _⟩ <;> simp [hp]
  · intro m
    rcases hp with ⟨_, ho⟩ | ⟨_, ho | ho⟩ <;> simp [ho]

/-- a continuation of the stalled state of the widened-lock variant: request 0's timer fires, only
then the slow send fails and releases `resMu` -/
def C17_widenedLostTrace : List Action :=
  [.rTimeout 0,                                -- request 0 gives up waiting (and blocks on resMu.Lock())
   .rSendErr 1, .rStep 1,                      -- the slow send finally fails: delete, Unlock, return
   .hStep 0, .hStep 0, .hStep 0, .hStep 0,     -- onResponse at last: the entry is still there, send into the void
   .rStep 0, .rStep 0, .rStep 0]               -- request 0 unregisters and returns the timeout

/-- … request 0 returns a timeout although its response was received and processed by `onResponse`
(not even as "unknown request ID") — it reached the node while request 0 was waiting -/
example : ∃ s, runW C17P init (C17_widenedTrace ++ C17_widenedLostTrace) = some s ∧
    s.reqs.map (fun r => (r.pc, r.out)) = [(.done, some .timeout), (.done, some .sendErr)] ∧
    s.hdls.map (fun h => (h.pc, h.msg)) = [(.done, ⟨0, 100⟩)] ∧ s.unknown = [] ∧ s.resCh = [] := by
  decide +kernel

/-- the same situation in the FIXED protocol: requester 1 sits inside `mp.send` (and never returns
from it in this schedule), the response to request 0 is delivered and request 0 returns it -/
example : ∃ s, run C17P init
      [.spawn 0, .spawn 0,
       .rStep 0, .rStep 0, .rStep 0, .rStep 0, .rSendOk 0,
       .rStep 1, .rStep 1, .rStep 1, .rStep 1,
       .nRespond 0, .nDeliver 0, .hStep 0, .hStep 0, .hStep 0, .hStep 0,
       .rRecv 0, .rStep 0, .rStep 0, .rStep 0] = some s ∧
    s.reqs.map (fun r => (r.pc, r.out)) = [(.done, some (.got ⟨0, 100⟩)), (.send, none)] ∧
    s.hdls.map (fun h => h.pc) = [.done] ∧ s.lock = none := by
  decide +kernel

/-- non-vacuity of `C17_send_outside_critical_section` / `C17_hanging_sends_block_nobody`: a reachable
state with a requester inside `send`, `resMu` held by a handler, and a local statement enabled -/
example : ∃ s, Reachable C17P s ∧ ∃ r, s.reqs[1]? = some r ∧ r.pc = .send ∧ s.lock = some (.hdl 0) ∧
    (step C17P s (.hStep 0)).isSome = true :=
  reachable_ex (C17_mixedTrace.take 17) (by decide +kernel)

/-! ### … on the skeleton REGENERATED from the Go source -/

/-- `resMu.Lock()` / `resMu.Unlock()` events of a skeleton (a deferred unlock does NOT release before
the function returns, so it does not count as an unlock here) -/
def C17isLockResMu : Locks.Act → Bool
  | .lock m => m == C17Skel.resMu
  | .rlock m => m == C17Skel.resMu
  | _ => false
def C17isUnlockResMu : Locks.Act → Bool
  | .unlock m => m == C17Skel.resMu
  | _ => false

/-- `sendRequestMessage` with the lock scope widened around `mp.send` (the change of seeded/C17-3),
in the skeleton language of tools/skelgen -/
def C17_widenedSkel : Locks.Skel :=
  [.makeChan "ch" 1,
   .lock "MessageProtocol.resMu",
   .write "MessageProtocol.resCh",
   .call "MessageProtocol.send",
   .choice [[.del "MessageProtocol.resCh", .unlock "MessageProtocol.resMu", .ret], []],
   .unlock "MessageProtocol.resMu",
   .choice [[.recv "ch",
        .lock "MessageProtocol.resMu", .read "MessageProtocol.resCh", .del "MessageProtocol.resCh",
        .unlock "MessageProtocol.resMu", .ret],
      [.recv "time.After(mp.timeout)",
        .lock "MessageProtocol.resMu", .read "MessageProtocol.resCh", .del "MessageProtocol.resCh",
        .unlock "MessageProtocol.resMu", .ret],
      [.recv "ctx.Done()",
        .lock "MessageProtocol.resMu", .read "MessageProtocol.resCh", .del "MessageProtocol.resCh",
        .unlock "MessageProtocol.resMu", .ret]]]

/-- **`mp.send` is called outside `resMu`** — obligation on the skeleton regenerated from the current
source (`Gen/SkeletonsP2P.lean`): on every path of `sendRequestMessage`, whenever the request is
handed to `mp.send`, `resMu` has been unlocked since it was last locked (the registration is a
critical section of its own, closed before the send); `send` is actually called.  The widened-lock
body passes the five other checks evaluated here (register before send, buffered channel, unregister on all
paths, lockset, no blocking channel operation in the critical section; the remaining obligations of Props/C17_Skel are
not evaluated on it) but violates this one — the model-level consequence is `C17_widened_lock_stalls_counterexample`. -/
theorem C17_gen_send_outside_resMu :
    Locks.setWheneverAt C17isUnlockResMu C17isLockResMu C17Skel.isSend 1
      Gen.SkeletonsP2P.MessageProtocol_sendRequestMessage = true ∧
    Locks.someRunHas C17Skel.isSend 1 Gen.SkeletonsP2P.MessageProtocol_sendRequestMessage = true ∧
    Locks.setWheneverAt C17isUnlockResMu C17isLockResMu C17Skel.isSend 1 C17_widenedSkel = false ∧
    (Locks.setWheneverAt C17Skel.isRegister C17Skel.isUnregister C17Skel.isSend 1 C17_widenedSkel = true ∧
     Locks.clearedOnAllPaths C17Skel.isRegister C17Skel.isUnregister 1 C17_widenedSkel = true ∧
     Locks.allEvents (fun a => !C17Skel.isMakeUnbuffered a) 1 C17_widenedSkel = true ∧
     Locks.locksetOk C17Skel.cfg C17_widenedSkel = true ∧
     Locks.noBlockingInCS C17Skel.cfg C17_widenedSkel = true) := by
  decide +kernel

/-- … spelled out: in every run of the regenerated `sendRequestMessage`, before each call of
`mp.send` there is an `Unlock` of `resMu` with no `Lock` of `resMu` after it. -/
theorem C17_gen_send_holds_no_resMu (u : Nat) (r : Locks.EvRun)
    (hr : r ∈ Locks.evRuns u Locks.evFuel Gen.SkeletonsP2P.MessageProtocol_sendRequestMessage)
    (pre post : List Locks.Act) (a : Locks.Act) (he : r.evs = pre ++ a :: post)
    (ha : C17Skel.isSend a = true) :
    ∃ p1 g p2, pre = p1 ++ g :: p2 ∧ C17isUnlockResMu g = true ∧ ∀ b ∈ p2, C17isLockResMu b = false := by
  rw [C17_skel_loopFree_runs_exhaustive u Locks.evFuel _ C17_gen_sendRequestMessage_loop_free,
    ← C17_skel_loopFree_runs_exhaustive 1 Locks.evFuel _ C17_gen_sendRequestMessage_loop_free] at hr
  have hc := C17_gen_send_outside_resMu.1
  simp only [Locks.setWheneverAt, List.all_eq_true, Bool.and_eq_true] at hc
  obtain ⟨p1, g, p2, hp, hg, hall⟩ :=
    C17_skel_setWheneverAt_spec C17isUnlockResMu C17isLockResMu C17Skel.isSend r.evs pre post a
      (hc r hr).2 he ha
  refine ⟨p1, g, p2, hp, hg, fun b hb => (hall b hb).elim (fun hon => ?_) id⟩
  cases b <;> first | rfl | cases hon

/-! ## 4. correlation under an adversarial network -/

/-- **Correlation with forged responses.**  Let the network — besides answering, duplicating,
delaying, reordering and dropping — inject arbitrary responses from a set `F` at any time (any id:
registered, finished, not yet issued; any payload; any number of copies).  Still, in every reachable
state, whatever a requester finds in its channel or returns carries the id of its own current
attempt, and it is the remote handler's answer to that id unless it is itself one of the forged
messages; and `onResponse` only ever sends on the channel registered under the message's id by a
requester that is still between registration and unregistration. -/
theorem C17_correlation_adversarial (P : Nat → Nat) (F : Resp → Prop) (s : State)
    (hs : ReachableA P F s) :
    (∀ (i : Nat) (r : Req) (m : Resp), s.reqs[i]? = some r →
      (r.out = some (.got m) ∨ r.buf = some m) → m.rid = r.id ∧ (m.payload = P r.id ∨ F m)) ∧
    (∀ (j : Nat) (h : Hdl) (ch : Nat), s.hdls[j]? = some h → h.pc = .deliver ch →
      ∃ r, s.reqs[ch]? = some r ∧ r.id = h.msg.rid ∧ r.pc.registered = true) := by
  have hI := invA_reachable P F s hs
  constructor
  · intro i r m hr hm
    obtain ⟨h1, h2⟩ := hI.corr i r hr m hm.symm
    refine ⟨h1, ?_⟩
    rcases h2 with h2 | h2
    · left; rw [h2, h1]
    · exact Or.inr h2
  · intro j h ch hh hpc
    exact hI.chSound _ _ (mem_of_lookup _ _ _ (hI.target j h hh ch hpc))

/-- **Forged / cross-delivered responses for OTHER ids are harmless.**  If none of the injected
responses carries the id `x`, the request with id `x` can only complete with the remote handler's
answer to `x` — never with a payload produced for another request id, and never with a forged one. -/
theorem C17_forged_other_ids_harmless (P : Nat → Nat) (F : Resp → Prop) (x : Nat)
    (hF : ∀ m, F m → m.rid ≠ x) (s : State) (hs : ReachableA P F s)
    (i : Nat) (r : Req) (hr : s.reqs[i]? = some r) (hx : r.id = x) (m : Resp)
    (hm : r.out = some (.got m) ∨ r.buf = some m) : m = ⟨x, P x⟩ := by
  obtain ⟨h1, h2⟩ := (C17_correlation_adversarial P F s hs).1 i r m hr hm
  rcases h2 with h2 | h2
  · cases m with
    | mk rid pl => simp at h1 h2; rw [h1, h2, hx]
  · exact absurd (h1.trans hx) (hF m h2)

private theorem reachableA_run (P : Nat → Nat) (F : Resp → Prop) (l : List Action) :
    ∀ s s', ReachableA P F s → run P s l = some s' → ReachableA P F s' :=
  run_invariant l fun a _ _ _ h hs => .step a h hs

/-- non-vacuity, and necessity of the disjunct `F m`: a forged response that carries the id of a
waiting request IS accepted (`onResponse` looks at the id only — it does not check which peer
answered), so the request returns the forged payload 999 instead of the handler's 100 -/
example : ∃ s, ReachableA C17P (fun m => m = ⟨0, 999⟩) s ∧ ∃ r, s.reqs[0]? = some r ∧ r.id = 0 ∧
    r.out = some (.got ⟨0, 999⟩) := by
  have h : ∃ s1, run C17P init [.spawn 0, .rStep 0, .rStep 0, .rStep 0, .rStep 0, .rSendOk 0] = some s1 ∧
      ∃ s2, run C17P { s1 with net := ⟨0, 999⟩ :: s1.net }
          [.nDeliver 0, .hStep 0, .hStep 0, .hStep 0, .hStep 0, .rRecv 0] = some s2 ∧
        ∃ r, s2.reqs[0]? = some r ∧ r.id = 0 ∧ r.out = some (.got ⟨0, 999⟩) := by decide +kernel
  obtain ⟨s1, h1, s2, h2, h3⟩ := h
  exact ⟨s2, reachableA_run _ _ _ _ _ (.forge _ rfl (reachableA_run _ _ _ _ _ .init h1)) h2, h3⟩

/-- non-vacuity of `C17_forged_other_ids_harmless`: forged responses for the ids 1 (not yet issued)
and 7 are processed while request 0 waits; request 0 still returns the handler's answer -/
example : ∃ s, ReachableA C17P (fun m => m.rid ≠ 0) s ∧ ∃ r, s.reqs[0]? = some r ∧ r.id = 0 ∧
    r.out = some (.got ⟨0, 100⟩) ∧ s.unknown = [7, 1] := by
  have h : ∃ s1, run C17P init [.spawn 0, .rStep 0, .rStep 0, .rStep 0, .rStep 0, .rSendOk 0, .nRespond 0] = some s1 ∧
      ∃ s2, run C17P { s1 with net := ⟨7, 0⟩ :: ⟨1, 100⟩ :: s1.net }
          [.nDeliver 1, .hStep 0, .hStep 0, .hStep 0, .nDeliver 0, .hStep 1, .hStep 1, .hStep 1,
           .nDeliver 0, .hStep 2, .hStep 2, .hStep 2, .hStep 2, .rRecv 0] = some s2 ∧
        ∃ r, s2.reqs[0]? = some r ∧ r.id = 0 ∧ r.out = some (.got ⟨0, 100⟩) ∧ s2.unknown = [7, 1] := by
    decide +kernel
  obtain ⟨s1, h1, s2, h2, h3⟩ := h
  refine ⟨s2, reachableA_run _ _ _ _ _ ?_ h2, h3⟩
  have hA := reachableA_run C17P (fun m => m.rid ≠ 0) _ _ _ .init h1
  exact .forge (s := { s1 with net := ⟨1, 100⟩ :: s1.net }) ⟨7, 0⟩ (by decide +kernel)
    (.forge ⟨1, 100⟩ (by decide) hA)

/-- **Ids are never reused.**  The id the next attempt will draw (`nextId`, the model of `uuid.New()`)
is not registered, was never put on the wire, and no response in flight or being handled carries it;
`resCh` has one entry per id; and a registration never overwrites an entry (at `resCh[id] = ch` the
id is absent).  With `C17_fresh_ids` (Props/C17: two requesters never work on the same id): an id is
used for exactly one attempt of one requester. -/
theorem C17_ids_never_reused (P : Nat → Nat) (s : State) (hs : Reachable P s) :
    (s.resCh.lookup s.nextId = none ∧ s.nextId ∉ s.sent ∧ (∀ m ∈ s.net, m.rid ≠ s.nextId) ∧
      (∀ (j : Nat) (h : Hdl), s.hdls[j]? = some h → h.msg.rid ≠ s.nextId)) ∧
    (s.resCh.map Prod.fst).Nodup ∧
    (∀ (i : Nat) (r : Req), s.reqs[i]? = some r → r.pc = .regStore → s.resCh.lookup r.id = none) := by
  have hI := inv_reachable P s hs
  have hI2 := inv2_reachable P s hs
  have hlt : ∀ id ch, (id, ch) ∈ s.resCh → id < s.nextId := by
    intro id ch hm
    obtain ⟨r, hr, hid, hp⟩ := hI.chSound id ch hm
    exact hid ▸ hI.fresh ch r hr (RPc.ne_start rfl hp)
  refine ⟨⟨?_, ?_, ?_, ?_⟩, hI2.keysNodup, ?_⟩
  · exact lookup_eq_none_of_not_mem _ _ fun ch hm => absurd (hlt _ _ hm) (Nat.lt_irrefl _)
  · intro h; exact absurd (hI.sentLt _ h) (Nat.lt_irrefl _)
  · intro m hm he
    have := hI.sentLt _ (hI.netSent m hm)
    omega
  · intro j h hh he
    have := hI.sentLt _ (hI.msgSent j h hh)
    omega
  · intro i r hr hpc
    refine lookup_eq_none_of_not_mem _ _ fun ch hm => ?_
    obtain ⟨r', hr', hid, hp⟩ := hI.chSound _ _ hm
    by_cases hc : ch = i
    · subst hc
      rw [hr] at hr'; cases hr'
      simp [hpc, RPc.registered] at hp
    · exact hI.uniq ch i r' r hr' hr hc (RPc.ne_start rfl hp) (by simp [hpc]) hid

/-- non-vacuity: a reachable state with a requester at `resCh[id] = ch` while another entry is present -/
example : ∃ s, Reachable C17P s ∧ ∃ r, s.reqs[1]? = some r ∧ r.pc = .regStore ∧ s.resCh = [(0, 0)] :=
  reachable_ex (C17_mixedTrace.take 11) (by decide +kernel)

/-! ## 5. cleanup -/

/-- **Quiescence is clean.**  Once every call of `request` and every `onResponse` has returned —
whatever mixture of responses, timeouts, retries, cancelled contexts, failed sends, late, duplicate
and unknown responses the run contained — `resCh` is empty and `resMu` is free. -/
theorem C17_quiescent_clean (P : Nat → Nat) (s : State) (hs : Reachable P s) (hd : allDone s = true) :
    s.resCh = [] ∧ s.lock = none := by
  constructor
  · apply C17_no_leak P s hs
    intro r hr
    simp only [allDone, Bool.and_eq_true, List.all_eq_true] at hd
    simpa [reqDone] using hd.1 r hr
  · -- the holder of the lock could execute a statement
    cases hl : s.lock with
    | none => rfl
    | some t =>
      obtain ⟨a, hact, _, h⟩ := (inv_reachable P s hs).holder_enabled hl
      rw [allDone_no_thread_step P s hd a (isThread_of_actor hact)] at h; cases h

/-- **One entry per attempt in progress.**  Two entries of `resCh` have the same id iff they have the
same channel (owner): together with `C17_pending_exact` (Props/C17) the entries are in one-to-one
correspondence with the requesters that are between registration and unregistration — the map never
holds more entries than there are attempts in progress. -/
theorem C17_pending_injective (P : Nat → Nat) (s : State) (hs : Reachable P s)
    (id ch id' ch' : Nat) (h : (id, ch) ∈ s.resCh) (h' : (id', ch') ∈ s.resCh) :
    (id = id' ↔ ch = ch') ∧ (s.resCh.map Prod.fst).Nodup := by
  have hI := inv_reachable P s hs
  obtain ⟨r, hr, hid, hp⟩ := hI.chSound id ch h
  obtain ⟨r', hr', hid', hp'⟩ := hI.chSound id' ch' h'
  refine ⟨⟨?_, ?_⟩, (inv2_reachable P s hs).keysNodup⟩
  · intro he
    apply Classical.byContradiction
    intro hne
    exact hI.uniq ch ch' r r' hr hr' hne (RPc.ne_start rfl hp) (RPc.ne_start rfl hp')
      (by rw [hid, hid', he])
  · intro he
    subst he
    rw [hr] at hr'; cases hr'
    rw [← hid, ← hid']

/-- pcs at which a requester will not register the id in its record: top of the retry loop (the
record is stale), just unregistered, returned -/
private def idle : RPc → Bool
  | .start | .unUnlock | .done => true
  | _ => false

/-- the id `x` is finished: it was drawn, and whoever still carries it in its record is not going to
register it -/
private def Dead (x : Nat) (s : State) : Prop :=
  x < s.nextId ∧ ∀ (i : Nat) (r : Req), s.reqs[i]? = some r → r.id = x → idle r.pc = true

private theorem dead_step (P : Nat → Nat) (x : Nat) (s s' : State) (a : Action) (hD : Dead x s)
    (hstep : step P s a = some s') : Dead x s' :=
  step_cases hstep
    (start := fun _ _ hr => ⟨Nat.lt_succ_of_lt hD.1,
      forall_set hD.2 hr fun _ e => absurd (e ▸ hD.1) (Nat.lt_irrefl _)⟩)
    (regLock := fun _ _ hr _ => ⟨hD.1, forall_set hD.2 hr fun h e => nomatch h e⟩)
    (regStore := fun _ _ hr => ⟨hD.1, forall_set hD.2 hr fun h e => nomatch h e⟩)
    (regUnlock := fun _ _ hr => ⟨hD.1, forall_set hD.2 hr fun h e => nomatch h e⟩)
    (unLock := fun _ _ hr _ => ⟨hD.1, forall_set hD.2 hr fun h e => nomatch h e⟩)
    (unDelete := fun _ _ hr => ⟨hD.1, forall_set hD.2 hr fun _ _ => rfl⟩)
    (retry := fun _ _ _ hr => ⟨hD.1, forall_set hD.2 hr fun _ _ => rfl⟩)
    (ret := fun _ _ hr _ => ⟨hD.1, forall_set hD.2 hr fun _ _ => rfl⟩)
    (sendOk := fun _ _ hr => ⟨hD.1, forall_set hD.2 hr fun h e => nomatch h e⟩)
    (sendErr := fun _ _ hr => ⟨hD.1, forall_set hD.2 hr fun h e => nomatch h e⟩)
    (recv := fun _ _ _ hr => ⟨hD.1, forall_set hD.2 hr fun h e => nomatch h e⟩)
    (timeout := fun _ _ hr => ⟨hD.1, forall_set hD.2 hr fun h e => nomatch h e⟩)
    (cancel := fun _ _ hr => ⟨hD.1, forall_set hD.2 hr fun h e => nomatch h e⟩)
    (hLock := fun _ _ _ _ => hD)
    (found := fun _ _ _ _ _ => hD)
    (unknown := fun _ _ _ _ => hD)
    (deliver := fun _ _ _ _ _ hr => ⟨hD.1, forall_set hD.2 hr fun h => h⟩)
    (gone := fun _ _ _ _ _ => hD)
    (hUnlock := fun _ _ _ => hD)
    (respond := fun _ _ => hD)
    (dup := fun _ _ _ => hD)
    (drop := fun _ _ => hD)
    (arrive := fun _ _ _ => hD)
    (spawn := fun _ => ⟨hD.1, forall_push hD.2 fun _ => rfl⟩)

/-- **An entry is gone for good.**  Once an attempt has executed its `delete(resCh, id)` (in any of
the four ways of leaving: response, timeout, cancelled context, failed send), its id is absent from
`resCh` in every later state of every run — the entry is not resurrected by late or duplicate
responses, by retries (which draw fresh ids) or by other requests. -/
theorem C17_entry_gone_for_good (P : Nat → Nat) (s : State) (hs : Reachable P s)
    (i : Nat) (r : Req) (hr : s.reqs[i]? = some r) (hp : r.pc = .unUnlock ∨ r.pc = .done)
    (l : List Action) (s' : State) (hrun : run P s l = some s') :
    s'.resCh.lookup r.id = none := by
  have hI := inv_reachable P s hs
  have hD : Dead r.id s := by
    refine ⟨hI.fresh i r hr (by rcases hp with h | h <;> simp [h]), ?_⟩
    intro i' r' hr' hid
    by_cases hc : i' = i
    · subst hc
      rw [hr] at hr'; cases hr'
      rcases hp with h | h <;> simp [h, idle]
    · apply Classical.byContradiction
      intro hns
      exact hI.uniq i' i r' r hr' hr hc (fun e => hns (by simp [e, idle]))
        (by rcases hp with h | h <;> simp [h]) hid
  have hD' : Dead r.id s' := run_invariant l (fun a _ s s1 => dead_step P _ s s1 a) s s' hD hrun
  have hI' := inv_reachable P s' (reachable_run P l s s' hs hrun)
  refine lookup_eq_none_of_not_mem _ _ fun ch hm => ?_
  obtain ⟨r', hr', hid, hreg⟩ := hI'.chSound _ _ hm
  have := hD'.2 ch r' hr' hid
  cases hp : r'.pc <;> simp [hp, idle, RPc.registered] at this hreg

/-- non-vacuity of the cleanup theorems: the mixed run (response, timeout + retry, cancellation,
failed send, late / duplicate / unknown responses) ends quiescent; in its course requester 2 (failed
send) has executed its `delete` while the entries of requesters 0 and 1 are still present -/
example : ∃ s, Reachable C17P s ∧ allDone s = true ∧ s.reqs.length = 3 ∧ s.hdls.length = 3 :=
  reachable_ex C17_mixedTrace (by decide +kernel)

example : ∃ s, Reachable C17P s ∧ ∃ r, s.reqs[2]? = some r ∧ r.pc = .unUnlock ∧
    s.resCh = [(1, 1), (0, 0)] :=
  reachable_ex (C17_mixedTrace.take 27) (by decide +kernel)
