/-
C06 / C03 / C15 — the non-cryptographic logic of pkg/crypto/bls.go (Model/BLSAgg.lean).

The models of block verification (C03) and of certificates (C06) take "the aggregate certificate
signature is valid" from an ideal aggregate-signature functionality.  Between that functionality and
blst sits ordinary code: which keys the aggregation bits select, which weights are summed, the
threshold comparison, the length checks.  This file states what that code decides, for ALL key lists,
bitmaps, weights, thresholds, signatures and messages, with blst's `FastAggregateVerify` as an
arbitrary parameter `fav` (the only trusted call).

Both verifiers are put in closed form (`weighted_value`, `agg_value`): behind the length guards the loops select
the `flagged` keys and sum the flagged weights modulo 2^64, and no read leaves the bitmap or the weight slice.
The accept / reject / never-panics / padding theorems read that form off; the wrapping sum only loses weight, so
acceptance is sound without a hypothesis on the weights.  The byte-level verdict equals `Cert.verifyWeighted` (the
function the C06 proofs are about) on the bits of the byte string; `BLSCreateAggSig` sets exactly the first positions
of the supplied keys.  Two evaluated counterexamples show what a prefix sum of the weights (seeded change C03-11)
would accept and reject.
-/
import LiskVerif.Lemmas.BLSAgg
import LiskVerif.Lemmas.BLSAggCert
import LiskVerif.Model.Cert

open LiskVerif LiskVerif.BLSAgg

/-! ## BLSVerifyWeightedAggSig -/

private theorem guard_iff (nk nb nw : Nat) :
    ((!validBitsLength nk nb || nw != nk) = false) ↔ (nb = (nk + 7) / 8 ∧ nw = nk) := by
  unfold validBitsLength
  simp only [Bool.or_eq_false_iff, Bool.not_eq_false', beq_iff_eq, bne_eq_false_iff_eq]

/-- the value of the transcription once both guards hold -/
private theorem weighted_value {κ σ μ : Type} {fav : List κ → μ → σ → Bool}
    {keys : List κ} {bits : Bytes} {sig : σ} {weights : List Nat} {thr : Nat} {m : μ}
    (hb : bits.length = (keys.length + 7) / 8) (hw : weights.length = keys.length) :
    verifyWeightedAggSig fav keys bits sig weights thr m =
      if (flagged bits weights).sum % u64 < thr then some false else some (fav (flagged bits keys) m sig) := by
  unfold verifyWeightedAggSig
  have hg : (!validBitsLength keys.length bits.length || weights.length != keys.length) = false :=
    (guard_iff _ _ _).2 ⟨hb, hw⟩
  rw [hg]
  simp only [Bool.false_eq_true, if_false]
  rw [weightedLoop_eq bits weights keys weights 0 [] 0 hw (fun j _ => by simp) (by omega) u64_pos]
  simp only [flagged, List.nil_append, Nat.zero_add]
  rfl

/-- a failing guard rejects -/
private theorem weighted_guard_fails {κ σ μ : Type} {fav : List κ → μ → σ → Bool}
    {keys : List κ} {bits : Bytes} {sig : σ} {weights : List Nat} {thr : Nat} {m : μ}
    (hg : ¬ (bits.length = (keys.length + 7) / 8 ∧ weights.length = keys.length)) :
    verifyWeightedAggSig fav keys bits sig weights thr m = some false := by
  unfold verifyWeightedAggSig
  rw [if_pos (Bool.not_eq_false _ ▸ mt (guard_iff _ _ _).1 hg)]

/-- **BLSVerifyWeightedAggSig accepts iff** the bitmap has one bit per key rounded up to bytes, there is
one weight per key, the uint64 sum of the weights at the FLAGGED positions reaches the threshold, and the
aggregate verifies for exactly the flagged keys. -/
theorem C06_bls_weighted_accept_iff {κ σ μ : Type} (fav : List κ → μ → σ → Bool)
    (keys : List κ) (bits : Bytes) (sig : σ) (weights : List Nat) (thr : Nat) (m : μ) :
    verifyWeightedAggSig fav keys bits sig weights thr m = some true ↔
      bits.length = (keys.length + 7) / 8 ∧ weights.length = keys.length ∧
      thr ≤ (flagged bits weights).sum % u64 ∧ fav (flagged bits keys) m sig = true := by
  by_cases hg : bits.length = (keys.length + 7) / 8 ∧ weights.length = keys.length
  · rw [weighted_value hg.1 hg.2]
    by_cases ht : (flagged bits weights).sum % u64 < thr
    · rw [if_pos ht]
      exact ⟨fun h => (nomatch h), fun h => absurd h.2.2.1 (Nat.not_le.2 ht)⟩
    · rw [if_neg ht, Option.some.injEq]
      exact ⟨fun h => ⟨hg.1, hg.2, Nat.not_lt.1 ht, h⟩, fun h => h.2.2.2⟩
  · rw [weighted_guard_fails hg]
    exact ⟨fun h => (nomatch h), fun h => (hg ⟨h.1, h.2.1⟩).elim⟩

/-- with the two guards the loop never reads outside the bitmap or the weight slice -/
theorem C06_bls_weighted_never_panics {κ σ μ : Type} (fav : List κ → μ → σ → Bool)
    (keys : List κ) (bits : Bytes) (sig : σ) (weights : List Nat) (thr : Nat) (m : μ) :
    verifyWeightedAggSig fav keys bits sig weights thr m ≠ none := by
  by_cases hg : bits.length = (keys.length + 7) / 8 ∧ weights.length = keys.length
  · rw [weighted_value hg.1 hg.2]
    split <;> simp
  · rw [weighted_guard_fails hg]
    simp

/-- **rejection iff one of the four clauses fails** -/
theorem C06_bls_weighted_reject_iff {κ σ μ : Type} (fav : List κ → μ → σ → Bool)
    (keys : List κ) (bits : Bytes) (sig : σ) (weights : List Nat) (thr : Nat) (m : μ) :
    verifyWeightedAggSig fav keys bits sig weights thr m = some false ↔
      ¬ (bits.length = (keys.length + 7) / 8 ∧ weights.length = keys.length ∧
         thr ≤ (flagged bits weights).sum % u64 ∧ fav (flagged bits keys) m sig = true) := by
  rw [← C06_bls_weighted_accept_iff]
  have hp := C06_bls_weighted_never_panics fav keys bits sig weights thr m
  cases h : verifyWeightedAggSig fav keys bits sig weights thr m with
  | none => exact absurd h hp
  | some b => cases b <;> simp

/-- **soundness without any hypothesis on the sizes**: an accepted commit is signed by exactly the flagged
keys and their TRUE (unbounded) weight reaches the threshold — a wrapping sum only loses weight. -/
theorem C06_bls_weighted_sound {κ σ μ : Type} (fav : List κ → μ → σ → Bool)
    (keys : List κ) (bits : Bytes) (sig : σ) (weights : List Nat) (thr : Nat) (m : μ)
    (h : verifyWeightedAggSig fav keys bits sig weights thr m = some true) :
    thr ≤ (flagged bits weights).sum ∧ fav (flagged bits keys) m sig = true := by
  obtain ⟨_, _, ht, hf⟩ := (C06_bls_weighted_accept_iff fav keys bits sig weights thr m).1 h
  exact ⟨Nat.le_trans ht (Nat.mod_le _ _), hf⟩

/-- **no overflow**: when all weights together stay below 2^64 (stored BFT parameters: `SetBFTParameters`
rejects an overflowing total) the comparison is the one of the natural numbers. -/
theorem C06_bls_weighted_accept_iff_nat {κ σ μ : Type} (fav : List κ → μ → σ → Bool)
    (keys : List κ) (bits : Bytes) (sig : σ) (weights : List Nat) (thr : Nat) (m : μ)
    (hsum : weights.sum < u64) :
    verifyWeightedAggSig fav keys bits sig weights thr m = some true ↔
      bits.length = (keys.length + 7) / 8 ∧ weights.length = keys.length ∧
      thr ≤ (flagged bits weights).sum ∧ fav (flagged bits keys) m sig = true := by
  rw [C06_bls_weighted_accept_iff, flagged_sum_mod bits weights hsum]

/-- what the code does when the flagged weights wrap: a commit signed by EVERYBODY (weights 2^63 and
2^63, threshold 1, valid aggregate) is rejected, because the uint64 sum is 0.  Unreachable through the
engine (the stored total is below 2^64), reachable through the exported function. -/
theorem C06_bls_weighted_wrap_rejects_full_commit :
    verifyWeightedAggSig (fun (ks : List Nat) (_ : Nat) (_ : Nat) => ks == [7, 8]) [7, 8] [0x03] 0
      [9223372036854775808, 9223372036854775808] 1 0 = some false ∧
    (flagged [0x03] [9223372036854775808, 9223372036854775808]).sum = 18446744073709551616 := by
  decide +kernel

/-! ## BLSVerifyAggSig -/

private theorem agg_value {κ σ μ : Type} {fav : List κ → μ → σ → Bool}
    {keys : List κ} {bits : Bytes} {sig : σ} {m : μ} (hb : bits.length = (keys.length + 7) / 8) :
    verifyAggSig fav keys bits sig m = some (fav (flagged bits keys) m sig) := by
  unfold verifyAggSig
  have hg : (!validBitsLength keys.length bits.length) = false := by
    unfold validBitsLength; simp [hb]
  rw [hg]
  simp only [Bool.false_eq_true, if_false]
  rw [selectLoop_eq bits keys 0 [] (by omega)]
  simp only [flagged, List.nil_append]

private theorem agg_guard_fails {κ σ μ : Type} {fav : List κ → μ → σ → Bool}
    {keys : List κ} {bits : Bytes} {sig : σ} {m : μ} (hb : bits.length ≠ (keys.length + 7) / 8) :
    verifyAggSig fav keys bits sig m = some false := by
  unfold verifyAggSig validBitsLength
  rw [if_pos (by simpa using hb)]

/-- **BLSVerifyAggSig accepts iff** the bitmap length is right and the aggregate verifies for exactly the
flagged keys -/
theorem C06_bls_agg_accept_iff {κ σ μ : Type} (fav : List κ → μ → σ → Bool)
    (keys : List κ) (bits : Bytes) (sig : σ) (m : μ) :
    verifyAggSig fav keys bits sig m = some true ↔
      bits.length = (keys.length + 7) / 8 ∧ fav (flagged bits keys) m sig = true := by
  by_cases hb : bits.length = (keys.length + 7) / 8
  · rw [agg_value hb]
    simp [hb]
  · rw [agg_guard_fails hb]
    simp [hb]

theorem C06_bls_agg_never_panics {κ σ μ : Type} (fav : List κ → μ → σ → Bool)
    (keys : List κ) (bits : Bytes) (sig : σ) (m : μ) : verifyAggSig fav keys bits sig m ≠ none := by
  by_cases hb : bits.length = (keys.length + 7) / 8
  · rw [agg_value hb]; simp
  · rw [agg_guard_fails hb]; simp

/-! ## padding bits -/

/-- **bits at positions ≥ len(keysList) are never looked at**: two bitmaps of the same length that agree
on the positions of the keys get the same verdicts (the code accepts non-zero padding). -/
theorem C06_bls_padding_ignored {κ σ μ : Type} (fav : List κ → μ → σ → Bool)
    (keys : List κ) (b1 b2 : Bytes) (sig : σ) (weights : List Nat) (thr : Nat) (m : μ)
    (hl : b1.length = b2.length) (hbits : ∀ i, i < keys.length → bitSet b1 i = bitSet b2 i) :
    verifyWeightedAggSig fav keys b1 sig weights thr m = verifyWeightedAggSig fav keys b2 sig weights thr m ∧
    verifyAggSig fav keys b1 sig m = verifyAggSig fav keys b2 sig m := by
  have hk : flagged b1 keys = flagged b2 keys :=
    flaggedFrom_congr b1 b2 keys 0 (fun j _ hj => hbits j (by omega))
  constructor
  · by_cases hg : b1.length = (keys.length + 7) / 8 ∧ weights.length = keys.length
    · obtain ⟨hb, hw⟩ := hg
      have hwf : flagged b1 weights = flagged b2 weights :=
        flaggedFrom_congr b1 b2 weights 0 (fun j _ hj => hbits j (by omega))
      rw [weighted_value hb hw, weighted_value (hl ▸ hb) hw, hk, hwf]
    · rw [weighted_guard_fails hg, weighted_guard_fails (hl ▸ hg)]
  · by_cases hb : b1.length = (keys.length + 7) / 8
    · rw [agg_value hb, agg_value (hl ▸ hb), hk]
    · rw [agg_guard_fails hb, agg_guard_fails (hl ▸ hb)]

/-! ## the seeded shape: a prefix sum -/

/-- **COUNTEREXAMPLE (seeded change C03-11)**: four validators with weights 10, 1, 1, 1 in key order,
certificate threshold 9; a commit flagged and correctly signed by the LAST validator only (true weight 1).
Summing the first `k` weights for `k` selected keys accepts it (it counts the 10 of position 0); the
transcription of the real code rejects it. -/
theorem C06_bls_prefix_sum_accepts_underweight :
    verifyWeightedPrefixSum Cert.fastAggregateVerify [11, 12, 13, 14] [0x08] (Cert.sign 14 ⟨1, 5⟩) [10, 1, 1, 1] 9 ⟨1, 5⟩ = some true ∧
    verifyWeightedAggSig Cert.fastAggregateVerify [11, 12, 13, 14] [0x08] (Cert.sign 14 ⟨1, 5⟩) [10, 1, 1, 1] 9 ⟨1, 5⟩ = some false ∧
    (flagged [0x08] [10, 1, 1, 1]).sum = 1 ∧ flagged [0x08] [11, 12, 13, 14] = [14] := by
  decide +kernel

/-- and the converse damage: a commit signed by the heavy validator alone (weight 10 ≥ 9), which sits at
the last position of the key list, is rejected by the prefix sum and accepted by the real code. -/
theorem C06_bls_prefix_sum_rejects_sufficient :
    verifyWeightedPrefixSum Cert.fastAggregateVerify [11, 12, 13, 14] [0x08] (Cert.sign 14 ⟨1, 5⟩) [1, 1, 1, 10] 9 ⟨1, 5⟩ = some false ∧
    verifyWeightedAggSig Cert.fastAggregateVerify [11, 12, 13, 14] [0x08] (Cert.sign 14 ⟨1, 5⟩) [1, 1, 1, 10] 9 ⟨1, 5⟩ = some true := by
  decide +kernel

/-! ## the bit-list model of the C06 proofs -/

/-- **the byte-level transcription is `Cert.verifyWeighted`** (Model/Cert.lean: the function inside
`verifyAggregateCommit` about which the C06 theorems are proved, over the ideal aggregate-signature
functionality) applied to the bits of the byte string, whenever the weights add up below 2^64. -/
theorem C06_bls_weighted_refines_cert_model (keys : List Nat) (bits : Bytes) (sig : Cert.Sig)
    (weights : List Nat) (thr : Nat) (m : Cert.Msg) (hsum : weights.sum < u64) :
    verifyWeightedAggSig Cert.fastAggregateVerify keys bits sig weights thr m =
      some (Cert.verifyWeighted keys (Cert.Bits.ofBytes bits) sig weights thr m) := by
  unfold Cert.verifyWeighted
  rw [Cert.length_ofBytes]
  by_cases hg : bits.length = (keys.length + 7) / 8 ∧ weights.length = keys.length
  · obtain ⟨hb, hw⟩ := hg
    have hno : ¬ (8 * bits.length ≠ 8 * Cert.byteLen keys.length ∨ weights.length ≠ keys.length) := by
      unfold Cert.byteLen; omega
    rw [if_neg hno, weighted_value hb hw]
    have hsel := selectedKW_drop bits keys weights 0 hw (by omega)
    rw [List.drop_zero] at hsel
    have hlen : (flaggedFrom bits 0 keys).length = (flaggedFrom bits 0 weights).length :=
      flaggedFrom_length_eq bits keys weights 0 hw.symm
    have hfst : (Cert.selectedKW keys weights (Cert.Bits.ofBytes bits)).map (·.1) = flagged bits keys := by
      rw [hsel]; exact List.map_fst_zip (by omega)
    have hsnd : Cert.sumWeights (Cert.selectedKW keys weights (Cert.Bits.ofBytes bits)) = (flagged bits weights).sum := by
      unfold Cert.sumWeights
      rw [hsel]
      show (List.map Prod.snd _).sum = _
      rw [List.map_snd_zip (by omega)]
      rfl
    simp only [hfst, hsnd, flagged_sum_mod bits weights hsum]
    split <;> rfl
  · have hyes : (8 * bits.length ≠ 8 * Cert.byteLen keys.length ∨ weights.length ≠ keys.length) := by
      unfold Cert.byteLen; omega
    rw [if_pos hyes, C06_bls_weighted_reject_iff]
    intro h
    exact hg ⟨h.1, h.2.1⟩

/-! ## BLSCreateAggSig -/

/-- **BLSCreateAggSig**: no panic; the bitmap has `⌈n/8⌉` bytes; bit `j` is set iff `j` is the FIRST
position (`bytes.FindIndex`) of the public key of one of the supplied pairs; the signature is the aggregate
of the signatures of ALL pairs - also of pairs whose public key is not in the key list and therefore not
flagged (such an aggregate fails verification; the callers only pass listed keys, C06 pool invariant). -/
theorem C06_bls_create_bits {κ σ : Type} [DecidableEq κ] (agg : List σ → σ) (keys : List κ) (pairs : List (κ × σ)) :
    ∃ b, createAggSig agg keys pairs = some (b, agg (pairs.map (·.2))) ∧ b.length = (keys.length + 7) / 8 ∧
      ∀ j, bitSet b j = true ↔ ∃ pk, pk ∈ pairs.map (·.1) ∧ findIndex keys pk = some j := by
  unfold createAggSig
  obtain ⟨b, h1, h2, h3⟩ := createBitsLoop_spec keys (pairs.map (·.1)) (List.replicate ((keys.length + 7) / 8) 0)
    (by rw [List.length_replicate]; omega)
  refine ⟨b, by rw [h1], by rw [h2, List.length_replicate], fun j => ?_⟩
  rw [h3 j, bitSet_zero]
  simp

/-- a bit outside the key positions is never set by BLSCreateAggSig (canonical padding) -/
theorem C06_bls_create_padding_zero {κ σ : Type} [DecidableEq κ] (agg : List σ → σ) (keys : List κ) (pairs : List (κ × σ))
    (b : Bytes) (s : σ) (h : createAggSig agg keys pairs = some (b, s)) (j : Nat) (hj : keys.length ≤ j) :
    bitSet b j = false := by
  obtain ⟨b', h1, _, h3⟩ := C06_bls_create_bits agg keys pairs
  rw [h1] at h
  have hb : b' = b := by
    have := Option.some.inj h
    exact (Prod.mk.inj this).1
  subst hb
  cases hbs : bitSet b' j with
  | false => rfl
  | true =>
    obtain ⟨pk, _, hf⟩ := (h3 j).1 hbs
    have := findIndex_lt keys pk j hf
    omega

/-! ## non-vacuity -/

example : verifyWeightedAggSig Cert.fastAggregateVerify [11, 12, 13, 14] [0x0a]
    (Cert.aggSigs (Cert.sign 12 ⟨1, 5⟩) [Cert.sign 14 ⟨1, 5⟩]) [1, 4, 1, 5] 9 ⟨1, 5⟩ = some true := by decide +kernel
example : verifyWeightedAggSig Cert.fastAggregateVerify [11, 12, 13, 14] [0x0a]
    (Cert.aggSigs (Cert.sign 12 ⟨1, 5⟩) [Cert.sign 14 ⟨1, 5⟩]) [1, 4, 1, 5] 10 ⟨1, 5⟩ = some false := by decide +kernel
example : verifyAggSig Cert.fastAggregateVerify [11, 12, 13] [0x05]
    (Cert.aggSigs (Cert.sign 13 ⟨1, 5⟩) [Cert.sign 11 ⟨1, 5⟩]) ⟨1, 5⟩ = some true := by decide +kernel
example : bitsRead [0x05] 8 = none ∧ bitsWrite [0x05] 1 true = some [0x07] ∧ bitsWrite [0x05] 0 false = some [0x04] := by
  decide +kernel
