/-
C20 — wait-for cycles through channels, queues and the event emitter.

`Props/C20.lean` proves deadlock freedom for MUTEXES: channel operations are "communications with the
environment", required to happen outside critical sections and assumed to complete. A cycle that runs through
channels is invisible there: the consensus goroutine (the only one that drains the process queue) waits, inside
`EventEmitter.Publish`, for a subscriber to receive; if that subscriber is at the same time waiting for a free
place in the process queue, both wait for ever — and with them everything that needs the emitter lock.

(A) `Model/WaitFor.lean` gives the wait-for semantics of the consumer loop, the emitter (synchronous delivery on
    unbuffered channels under its lock), event subscribers that also submit jobs, pure producers and the bounded
    queue. Proved here for ANY number of subscribers and producers, any queue capacity, any budgets and numbers
    of events, in EVERY state (hence along every schedule):
      `C20_waitfor_progress`            if every enqueue made by an event subscriber is non-blocking (and pure
                                        producers are non-blocking or the capacity is positive), a state is
                                        terminal or has an enabled step;
      `C20_waitfor_no_reachable_deadlock`  the same as "no reachable state is deadlocked";
      `C20_waitfor_blocking_enqueue_deadlocks`  counterexample for EVERY capacity ≥ 1: with a blocking enqueue
                                        in a subscriber and a full queue a deadlocked state is reachable in six
                                        steps (the subscriber's ticker fires while the queue is full, the
                                        consumer publishes the event of the block it just processed);
      `C20_waitfor_blocking_enqueue_deadlocks_on_event`  the same when the submission is the subscriber's
                                        reaction to an event.
(B) Obligations over the skeletons REGENERATED from the Go source by tools/skelgen (group `c20x`,
    `Gen/SkeletonsShared.lean`): which functions operate on the process queue and how (a send in a `select` with
    `default` is `trySend`), its capacity, who receives, who publishes, what the generator's event loop does,
    and exactly which BLOCKING sends exist in the extracted functions of the current source (the emitter's deliveries).
    `C20WaitFor.sourceCfg` is COMPUTED from the regenerated table; `C20_waitfor_source_deadlock_free`
    instantiates (A) with it. A blocking send to the process queue anywhere outside the consumer breaks
    `C20_waitfor_queue_sends_nonblocking`, `C20_waitfor_blocking_sends_today` and
    `C20_waitfor_source_deadlock_free`.

Not covered: fairness / starvation (a job offered to a full queue is dropped — that is the price of the
non-blocking enqueue); goroutines outside the extracted types that subscribe to the executer's events (the
engine's `handleEvents`, which only forwards to the RPC notifier and never enqueues).
-/
import LiskVerif.Model.WaitFor
import LiskVerif.Model.Locks
import LiskVerif.Gen.SkeletonsShared

open LiskVerif LiskVerif.WaitFor

/-! ## (A) generic theorems -/

namespace C20WaitFor

theorem exists_getElem?_of_any {α} (l : List α) (p : α → Bool) (h : l.any p = true) :
    ∃ (i : Nat) (x : α), l[i]? = some x ∧ p x = true := by
  obtain ⟨x, hx, hp⟩ := List.any_eq_true.mp h
  obtain ⟨i, hi⟩ := List.getElem?_of_mem hx
  exact ⟨i, x, hi, hp⟩

/-- with every subscriber at its `select`, a delivery always completes -/
theorem deliver_isSome (subs : List Sub) (h : subs.any (·.submitting) = false) (i : Nat) (b : Bool) :
    (deliver subs i b).isSome = true := by
  unfold deliver
  cases hi : subs[i]? with
  | none => rfl
  | some sb =>
    have hm : sb ∈ subs := List.mem_of_getElem? hi
    have hs : sb.submitting = false := by
      have := List.any_eq_false.mp h sb hm
      simpa using this
    simp only [hs, Bool.false_eq_true, if_false]
    split <;> rfl

/-- a non-blocking enqueue always completes -/
theorem enqueue_nonblocking (cap q : Nat) : (enqueue false cap q).isSome = true := by
  unfold enqueue
  split <;> simp

/-- an enqueue into a queue with a free place always completes -/
theorem enqueue_free (b : Bool) (cap q : Nat) (h : q < cap) : (enqueue b cap q).isSome = true := by
  unfold enqueue
  simp [h]

end C20WaitFor

open C20WaitFor in
/-- **Progress.** If the enqueues made by event subscribers are non-blocking — and those of pure producers
are non-blocking or the queue has a positive capacity — then EVERY state of the system (any number of
subscribers and producers, any capacity, any queue content, any budgets) is terminal or has an enabled step. -/
theorem C20_waitfor_progress (c : Cfg) (hsub : c.subBlocking = false)
    (hprod : c.prodBlocking = false ∨ 0 < c.cap) (s : State) :
    terminal s = true ∨ CanStep c s := by
  -- 1. a subscriber inside its enqueue can always finish it
  cases hsm : s.subs.any (·.submitting) with
  | true =>
    obtain ⟨j, sb, hj, hsb⟩ := exists_getElem?_of_any _ _ hsm
    refine Or.inr ⟨.subEnqueue j, ?_⟩
    simp only [step, hj, hsb, if_true, hsub, Option.isSome_map]
    exact enqueue_nonblocking _ _
  | false =>
  -- 2. every subscriber is at its `select`: deliveries complete
  have hdel := deliver_isSome s.subs hsm
  -- a producer inside `Publish` delivers to its next subscriber, or releases the lock
  have hpub : s.prods.any (fun p => p.phase.isPublishing) = true → terminal s = true ∨ CanStep c s := by
    intro hpp
    obtain ⟨p, pr, hp, hpr⟩ := exists_getElem?_of_any _ _ hpp
    cases hph : pr.phase with
    | ready => simp [hph, Phase.isPublishing] at hpr
    | enqueueing => simp [hph, Phase.isPublishing] at hpr
    | publishing ts =>
      cases ts with
      | nil => exact Or.inr ⟨.prodRelease p, by simp [step, hp, hph]⟩
      | cons i rest =>
        refine Or.inr ⟨.prodDeliver p false, ?_⟩
        simp only [step, hp, hph, Option.isSome_map]
        exact hdel i false
  cases hc : s.cons with
  | publishing targets evs =>
    cases targets with
    | nil => exact Or.inr ⟨.consRelease, by simp [step, hc]⟩
    | cons i rest =>
      refine Or.inr ⟨.consDeliver false, ?_⟩
      simp only [step, hc, Option.isSome_map]
      exact hdel i false
  | working evs =>
    cases hpp : s.prods.any (fun p => p.phase.isPublishing) with
    | true => exact hpub hpp
    | false =>
      have hlock : lockHeld s = false := by simp [lockHeld, hc, Cons.isPublishing, hpp]
      cases evs with
      | zero => exact Or.inr ⟨.consDone, by simp [step, hc]⟩
      | succ e => exact Or.inr ⟨.consAcquire [], by simp [step, hc, hlock]⟩
  | idle =>
    cases hpp : s.prods.any (fun p => p.phase.isPublishing) with
    | true => exact hpub hpp
    | false =>
      have hlock : lockHeld s = false := by simp [lockHeld, hc, Cons.isPublishing, hpp]
      by_cases hq : s.queue = 0
      · -- the queue is empty and the consumer waits for it
        cases hpe : s.prods.any (fun p => p.phase == .enqueueing) with
        | true =>
          obtain ⟨p, pr, hp, hpr⟩ := exists_getElem?_of_any _ _ hpe
          have hph : pr.phase = .enqueueing := by simpa using hpr
          refine Or.inr ⟨.prodEnqueue p, ?_⟩
          simp only [step, hp, hph, Option.isSome_map, hq]
          rcases hprod with hb | hcap
          · rw [hb]; exact enqueue_nonblocking _ _
          · exact enqueue_free _ _ _ hcap
        | false =>
          cases hpj : s.prods.any (fun p => p.phase == .ready && p.jobs != 0) with
          | true =>
            obtain ⟨p, pr, hp, hpr⟩ := exists_getElem?_of_any _ _ hpj
            simp only [Bool.and_eq_true, beq_iff_eq, bne_iff_ne, ne_eq] at hpr
            refine Or.inr ⟨.prodStart p [], ?_⟩
            simp [step, hp, hpr.1, hpr.2, hlock]
          | false =>
            cases hsb : s.subs.any (fun sb => sb.budget != 0) with
            | true =>
              obtain ⟨j, sb, hj, hb⟩ := exists_getElem?_of_any _ _ hsb
              have hm : sb ∈ s.subs := List.mem_of_getElem? hj
              have hns : sb.submitting = false := by
                have := List.any_eq_false.mp hsm sb hm
                simpa using this
              have hb' : sb.budget ≠ 0 := by simpa using hb
              exact Or.inr ⟨.subTick j, by simp [step, hj, hns, hb']⟩
            | false =>
              -- nothing is left to do
              refine Or.inl ?_
              simp only [terminal, Bool.and_eq_true, beq_iff_eq, List.all_eq_true]
              refine ⟨⟨⟨hq, hc⟩, ?_⟩, ?_⟩
              · intro pr hm
                have h1 := List.any_eq_false.mp hpp pr hm
                have h2 := List.any_eq_false.mp hpe pr hm
                have h3 := List.any_eq_false.mp hpj pr hm
                cases hph : pr.phase with
                | publishing ts => simp [hph, Phase.isPublishing] at h1
                | enqueueing => simp [hph] at h2
                | ready =>
                  simp only [hph, beq_self_eq_true, Bool.true_and, bne_iff_ne, ne_eq, Decidable.not_not] at h3
                  simp [h3]
              · intro sb hm
                have h1 := List.any_eq_false.mp hsm sb hm
                have h2 := List.any_eq_false.mp hsb sb hm
                simp only [Bool.not_eq_true] at h1
                simp only [bne_iff_ne, ne_eq, Decidable.not_not] at h2
                simp [h1, h2]
      · exact Or.inr ⟨.take 0, by simp [step, hc, hq]⟩

/-- **No reachable deadlock**, for every initial state and every schedule. -/
theorem C20_waitfor_no_reachable_deadlock (c : Cfg) (hsub : c.subBlocking = false)
    (hprod : c.prodBlocking = false ∨ 0 < c.cap) (s0 s : State) (_hr : Reachable c s0 s) :
    ¬ Deadlocked c s := by
  intro hd
  rcases C20_waitfor_progress c hsub hprod s with ht | hstep
  · have h2 := hd.2
    rw [ht] at h2
    cases h2
  · exact hd.1 hstep

namespace C20WaitFor

/-- the state of the counterexample: the queue is full, the consumer is inside `Publish` delivering to
subscriber 0, subscriber 0 is inside its (blocking) enqueue -/
def stuck (cap : Nat) : State := ⟨cap, .publishing [0] 0, [⟨true, 0⟩], [⟨.ready, 0⟩]⟩

/-- the ticker schedule: the consumer takes a block (one event), a block from the network refills the queue,
the subscriber's ticker fires (it starts to submit), the consumer publishes -/
def tickSchedule : List Label :=
  [.take 1, .prodStart 0 [], .prodRelease 0, .prodEnqueue 0, .subTick 0, .consAcquire [0]]

theorem stuck_deadlocked (c : Cfg) (hsub : c.subBlocking = true) : Deadlocked c (stuck c.cap) := by
  refine ⟨?_, by simp [terminal, stuck]⟩
  rintro ⟨l, hl⟩
  cases l with
  | take evs => simp [step, stuck] at hl
  | consAcquire ts => simp [step, stuck] at hl
  | consDeliver b => simp [step, stuck, deliver] at hl
  | consRelease => simp [step, stuck] at hl
  | consDone => simp [step, stuck] at hl
  | subTick j => cases j <;> simp [step, stuck] at hl
  | subEnqueue j => cases j <;> simp [step, stuck, enqueue, hsub] at hl
  | prodStart p ts => cases p <;> simp [step, stuck] at hl
  | prodDeliver p b => cases p <;> simp [step, stuck] at hl
  | prodRelease p => cases p <;> simp [step, stuck] at hl
  | prodEnqueue p => cases p <;> simp [step, stuck] at hl

end C20WaitFor

open C20WaitFor in
/-- **Counterexample, for every capacity ≥ 1.** A subscriber whose enqueue BLOCKS (whatever the pure
producers do): start with a full queue (`cap` blocks received from the network), one subscriber that will
submit one block, one producer with one more block. After the six steps of `tickSchedule` nothing can move any
more: the consumer waits for the subscriber to receive, the subscriber waits for a place in the queue which
only the consumer can free, the emitter lock stays held. -/
theorem C20_waitfor_blocking_enqueue_deadlocks (c : Cfg) (hsub : c.subBlocking = true) (hcap : 0 < c.cap) :
    ∃ s, Reachable c (init c.cap 1 1 [1]) s ∧ Deadlocked c s := by
  refine ⟨stuck c.cap, ⟨tickSchedule, ?_⟩, stuck_deadlocked c hsub⟩
  obtain ⟨n, hn⟩ : ∃ n, c.cap = n + 1 := ⟨c.cap - 1, by omega⟩
  simp [run, step, tickSchedule, init, stuck, lockHeld, Cons.isPublishing, Phase.isPublishing, enqueue, hn]

open C20WaitFor in
/-- **The same when the submission is the reaction to an event** (the subscriber hands in a block when it is
told that one was finalized): the block being processed raises two events, the first makes the subscriber
submit, the second finds it waiting for the full queue. -/
theorem C20_waitfor_blocking_enqueue_deadlocks_on_event (c : Cfg) (hsub : c.subBlocking = true)
    (hcap : 0 < c.cap) :
    ∃ s, Reachable c (init c.cap 1 1 [1]) s ∧ Deadlocked c s := by
  refine ⟨stuck c.cap, ⟨[.take 2, .prodStart 0 [], .prodRelease 0, .prodEnqueue 0, .consAcquire [0],
    .consDeliver true, .consRelease, .consAcquire [0]], ?_⟩, stuck_deadlocked c hsub⟩
  obtain ⟨n, hn⟩ : ∃ n, c.cap = n + 1 := ⟨c.cap - 1, by omega⟩
  simp [run, step, init, stuck, lockHeld, Cons.isPublishing, Phase.isPublishing, enqueue, deliver, hn]

/-- with the non-blocking enqueue the same schedule does not get stuck: the subscriber's block is dropped
("Process queue is full") and the delivery completes -/
theorem C20_waitfor_nonblocking_enqueue_drops (c : Cfg) (hsub : c.subBlocking = false) (hcap : 0 < c.cap) :
    ∃ s, run c (init c.cap 1 1 [1]) (C20WaitFor.tickSchedule ++ [.subEnqueue 0, .consDeliver false, .consRelease, .consDone])
      = some s ∧ s.queue = c.cap ∧ s.cons = .idle ∧ s.subs = [⟨false, 0⟩] := by
  obtain ⟨n, hn⟩ : ∃ n, c.cap = n + 1 := ⟨c.cap - 1, by omega⟩
  refine ⟨⟨c.cap, .idle, [⟨false, 0⟩], [⟨.ready, 0⟩]⟩, ?_, rfl, rfl, rfl⟩
  simp [run, step, C20WaitFor.tickSchedule, init, lockHeld, Cons.isPublishing, Phase.isPublishing, enqueue,
    deliver, hn, hsub]

/-! ## (B) obligations over the regenerated skeletons -/

namespace C20WaitFor

open LiskVerif.Locks

/-- channel operations of a body (not through calls): `(kind, channel)`, kind ∈ send / trySend / recv / tryRecv -/
def chanOps : Nat → List Act → List (String × String)
  | 0, _ => [("?fuel", "")]
  | _ + 1, [] => []
  | n + 1, a :: k =>
    (match a with
     | .send ch => [("send", ch)]
     | .trySend ch => [("trySend", ch)]
     | .recv ch => [("recv", ch)]
     | .tryRecv ch => [("tryRecv", ch)]
     | .go b => chanOps n b
     | .loop b => chanOps n b
     | .choice alts => alts.flatMap (chanOps n)
     | _ => []) ++ chanOps n k

/-- channel creations of a body: `(channel, capacity)` -/
def makeChans : Nat → List Act → List (String × Nat)
  | 0, _ => [("?fuel", 0)]
  | _ + 1, [] => []
  | n + 1, a :: k =>
    (match a with
     | .makeChan ch cap => [(ch, cap)]
     | .go b => makeChans n b
     | .loop b => makeChans n b
     | .choice alts => alts.flatMap (makeChans n)
     | _ => []) ++ makeChans n k

/-- calls / interface calls made by a body (not through calls) -/
def callees : Nat → List Act → List String
  | 0, _ => ["?fuel"]
  | _ + 1, [] => []
  | n + 1, a :: k =>
    (match a with
     | .call f => [f]
     | .blockingCall f => [f]
     | .go b => callees n b
     | .loop b => callees n b
     | .choice alts => alts.flatMap (callees n)
     | _ => []) ++ callees n k

open Gen.SkeletonsShared in
/-- the functions whose own body performs the operation `kind` on the channel `ch` -/
def opsOn (kind ch : String) : List String :=
  (table.filter (fun e => (chanOps 100 e.2).contains (kind, ch))).map (·.1)

open Gen.SkeletonsShared in
/-- every operation of the given kind in the extracted functions: `(function, channel)` -/
def allOps (kind : String) : List (String × String) :=
  table.flatMap fun e => ((chanOps 100 e.2).filter (fun o => o.1 == kind)).eraseDups.map fun o => (e.1, o.2)

open Gen.SkeletonsShared in
def callers (f : String) : List String :=
  (table.filter (fun e => (callees 100 e.2).contains f)).map (·.1)

open Gen.SkeletonsShared in
/-- the capacities with which the channel is created anywhere in the extracted functions -/
def capacities (ch : String) : List Nat :=
  table.flatMap fun e => ((makeChans 100 e.2).filter (fun m => m.1 == ch)).map (·.2)

def queue : String := "Executer.processCh"

/-- the consumer: the only function that receives from the process queue -/
def consumer : String := "Executer.Start"

/-- **the wait-for configuration of the current source, computed from the regenerated table**: the capacity
with which the process queue is made; an enqueue is blocking as soon as ANY function other than the consumer
contains a blocking send to the queue (subscribers and pure producers use the same two functions) -/
def sourceCfg : WaitFor.Cfg :=
  let blocking := !((opsOn "send" queue).filter (· != consumer)).isEmpty
  ⟨(capacities queue).foldl max 0, blocking, blocking⟩

end C20WaitFor

open C20WaitFor

/-- **The process queue**: created once, by `NewExecuter`, with capacity 200 (`closeCh` is unbuffered);
received from by the loop of `Executer.Start` only. -/
theorem C20_waitfor_queue_bounded_single_consumer :
    makeChans 100 Gen.SkeletonsShared.NewExecuter = [("Executer.processCh", 200), ("Executer.closeCh", 0)] ∧
    capacities queue = [200] ∧
    opsOn "recv" queue = ["Executer.Start"] ∧ opsOn "tryRecv" queue = [] := by
  decide +kernel

/-- **Every send to the process queue is non-blocking.** The queue is sent to by `onBlockReceived` (the p2p
`postBlock` handler) and `AddInternal` (generator, `chain_postBlock` endpoint) only, each time as the
communication of a `select` with a `default` branch; NO function contains a blocking send to it. -/
theorem C20_waitfor_queue_sends_nonblocking :
    opsOn "send" queue = [] ∧
    opsOn "trySend" queue = ["Executer.onBlockReceived", "Executer.AddInternal"] ∧
    chanOps 100 Gen.SkeletonsShared.Executer_AddInternal = [("trySend", "Executer.processCh")] ∧
    chanOps 100 Gen.SkeletonsShared.Executer_onBlockReceived = [("trySend", "Executer.processCh")] := by
  decide +kernel

/-- **FACT: the blocking sends of the current source** in the 145 extracted functions are exactly the emitter's
deliveries — `Publish` / `Emit` send on the subscriber's channel, which `Subscribe` makes UNBUFFERED, while
holding the emitter lock (known finding c20-emitter-send-under-lock, `C20_emitter_publish_sends_under_lock`).
That is the synchronous delivery of `Model/WaitFor.lean`. A new blocking send anywhere (to the queue, to a
channel of the generator …) changes this list. -/
theorem C20_waitfor_blocking_sends_today :
    allOps "send" = [("EventEmitter.Publish", "out"), ("EventEmitter.Emit", "out")] ∧
    makeChans 100 Gen.SkeletonsShared.EventEmitter_Subscribe = [("out", 0)] ∧
    chanOps 100 Gen.SkeletonsShared.EventEmitter_Publish = [("send", "out")] := by
  decide +kernel

/-- **The consumer and who publishes.** The loop of `Start` receives from the queue and calls `process`;
events are raised (`EventEmitter.Publish`) by `processValidated` and `deleteBlock` — both reached from
`process` only inside the extracted functions — and by `onBlockReceived` on the p2p goroutine BEFORE it
enqueues (the pure producer of the model). -/
theorem C20_waitfor_consumer_and_publishers :
    chanOps 100 Gen.SkeletonsShared.Executer_Start =
      [("recv", "Executer.closeCh"), ("recv", "c.ctx.Done()"), ("recv", "c.certificateTime.C"),
       ("recv", "Executer.processCh")] ∧
    callees 100 Gen.SkeletonsShared.Executer_Start = ["Executer.broadcastCertificate", "Executer.process"] ∧
    callers "EventEmitter.Publish" =
      ["Executer.onBlockReceived", "Executer.processValidated", "Executer.deleteBlock"] ∧
    callers "EventEmitter.Emit" = [] ∧
    callers "Executer.processValidated" = ["Executer.process"] ∧
    callers "Executer.deleteBlock" = ["Executer.process"] ∧
    callers "Executer.process" = ["Executer.Start"] ∧
    callees 100 Gen.SkeletonsShared.Executer_onBlockReceived = ["EventEmitter.Publish"] := by
  decide +kernel

/-- **The subscriber that submits: the generator's event loop.** `Generator.Start` subscribes three times
through the `Consensus` interface and then only RECEIVES (its three subscriptions, its ticker, its context) —
it contains no send; the ticker case calls `forge`, the only caller of `Consensus.AddInternal`; no function
of the generator contains a send of any kind. The other caller of `AddInternal` is the `chain_postBlock`
endpoint. (That the `Consensus` handed to the generator is the `Executer`: `Props/C15_Wire.lean`.) -/
theorem C20_waitfor_generator_event_loop :
    chanOps 100 Gen.SkeletonsShared.Generator_Start =
      [("recv", "onNewBlock"), ("recv", "onDeleteBlock"), ("recv", "onFinalizeBlock"), ("recv", "g.checkLoop.C"),
       ("recv", "g.ctx.Done()")] ∧
    callees 100 Gen.SkeletonsShared.Generator_Start =
      ["Consensus.Subscribe", "Consensus.Subscribe", "Consensus.Subscribe", "Generator.onNewBlock",
       "Generator.onDeleteBlock", "Generator.onFinalizeBlock", "Generator.forge"] ∧
    callers "Consensus.AddInternal" = ["Generator.forge"] ∧
    callers "Executer.AddInternal" = ["chainEndpoint.HandlePostBlock"] ∧
    ((allOps "send" ++ allOps "trySend").filter (fun o => o.1.startsWith "Generator.")) = [] := by
  decide +kernel

/-- the configuration computed from the current source: capacity 200, no blocking enqueue -/
theorem C20_waitfor_source_cfg : sourceCfg = ⟨200, false, false⟩ := by
  rw [sourceCfg, C20_waitfor_queue_bounded_single_consumer.2.1, C20_waitfor_queue_sends_nonblocking.1]
  rfl

/-- **Deadlock freedom of consumer loop + emitter + subscribers + producers for the current source**: the
instance of `C20_waitfor_progress` for the configuration computed from the regenerated skeletons — any number
of subscribers and p2p / RPC goroutines, any queue content, every schedule. -/
theorem C20_waitfor_source_deadlock_free (s0 s : State) (hr : Reachable sourceCfg s0 s) :
    (terminal s = true ∨ CanStep sourceCfg s) ∧ ¬ Deadlocked sourceCfg s := by
  have hc := C20_waitfor_source_cfg
  have h1 : sourceCfg.subBlocking = false := by rw [hc]
  have h2 : sourceCfg.prodBlocking = false ∨ 0 < sourceCfg.cap := Or.inl (by rw [hc])
  exact ⟨C20_waitfor_progress _ h1 h2 s, C20_waitfor_no_reachable_deadlock _ h1 h2 s0 s hr⟩

/-! ## non-vacuity -/

/-- the hypotheses of the progress theorem are satisfiable and its conclusion is not trivially "terminal":
a full queue of 200 with the source configuration has an enabled step, and the run of the ticker schedule
exists for the source configuration -/
example : terminal (init 200 1 1 [1]) = false ∧
    (run sourceCfg (init 200 1 1 [1]) tickSchedule).isSome = true := by
  refine ⟨by decide, ?_⟩
  rw [C20_waitfor_source_cfg]
  decide

/-- the counterexample theorem is not vacuous: for the seeded configuration (capacity 200, blocking enqueue)
the deadlocked state is reached by the ticker schedule -/
example : run ⟨200, true, true⟩ (init 200 1 1 [1]) tickSchedule = some (stuck 200) := by decide
