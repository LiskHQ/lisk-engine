/-
C06 — certificates: what ties the height field of a commit to its block, which height `GetAggregateCommit` selects,
liveness of certification, and what the cleanup of `broadcastCertificate` may drop.

Over `LiskVerif.Model.Cert` for ALL states, validator sets, weights, thresholds, pools and operation histories
(`C06Op` / `C06Step` / `C06run` of Props/C06_EndToEnd.lean). The height field of a single commit and of an aggregate
commit is checked against the node's block at that height, so a relabelled commit gets nowhere; after ANY history the
pool holds one entry per (block id, signer), which is one per (height, signer) only while no block was replaced, and
without which the assembled aggregate is rejected. `GetAggregateCommit` returns the LARGEST certifiable height of
`(mhc, min(nextParamsHeight-1, mhpc)]`, the very window `verifyAggregateCommit` accepts. Enough signed weight in the
pool, or delivered by gossip, yields a non-empty accepted aggregate. The cleanup keeps every commit that can still be
used and does not change what is assembled.
-/
import LiskVerif.Lemmas.CertMore
import LiskVerif.Lemmas.BLSAgg
import LiskVerif.Props.C06_EndToEnd

open LiskVerif LiskVerif.Cert

/-! ## the height field; distinct entries -/

/-- the chain has different block ids at different heights -/
def C06IdsInjective (st : State) : Prop :=
  ∀ h h' a b, st.blockAt h = some a → st.blockAt h' = some b → a.id = b.id → h = h'

/-- **A relabelled single commit is not added** (step 4 of `singleCommitValidator` looks the block up
by the commit's HEIGHT and compares the ids): a message whose block id is the id of the node's block
at height `h'`, presented under another height, leaves the pool unchanged - whatever its signature. -/
theorem C06_relabelled_commit_not_added (st : State) (pool : Pool) (m : Incoming) (hinj : C06IdsInjective st)
    (h' : Nat) (hd' : Header) (hb : st.blockAt h' = some hd') (hm : m.block = hd'.id) (hne : m.height ≠ h') :
    (scvOne st pool m).1 = pool := by
  rcases (scvOne_spec st pool m).1 with h1 | ⟨_, hv, _⟩
  · exact h1
  · obtain ⟨hd, hb2, hid⟩ := hv.onChain
    exact absurd (hinj _ _ _ _ hb2 hb (by rw [hid]; exact hm)) hne

/-- **Every entry that enters through the gossip validator carries the height of its block**: for any
pool and any list of messages, a new entry's block id is the id of the node's block at the entry's
height field, and (ids being unique on the chain) at no other height. -/
theorem C06_relabelled_commit_rejected (st : State) (pool : Pool) (msgs : List Incoming) :
    ∀ c ∈ (singleCommitValidator st pool msgs).1.all, c ∈ pool.all ∨
      ((∃ hd, st.blockAt c.height = some hd ∧ hd.id = c.block) ∧
       (C06IdsInjective st → ∀ h' hd', st.blockAt h' = some hd' → hd'.id = c.block → h' = c.height)) := by
  intro c hc
  rcases C06_pool_only_verified_enter st pool msgs c hc with h | ⟨hv, _⟩
  · exact Or.inl h
  · obtain ⟨hd, hb, hid⟩ := hv.onChain
    refine Or.inr ⟨⟨hd, hb, hid⟩, ?_⟩
    intro hinj h' hd' hb' hid'
    exact hinj _ _ _ _ hb' hb (by rw [hid, hid'])

/-- the genuine commit enters, the same commit relayed under height 4 does not -/
example : (scvOne C06cxState Pool.empty ⟨true, 105, 5, 1, sign 20 ⟨1, 105⟩⟩).1.all.length = 1 ∧
    (scvOne C06cxState Pool.empty ⟨true, 105, 4, 1, sign 20 ⟨1, 105⟩⟩).1.all.length = 0 := by decide

theorem C06cx_ids_injective : C06IdsInjective C06cxState := by
  intro h h' a b ha hb hab
  simp only [C06cxState] at ha hb
  split at ha <;> split at hb
  · cases ha; cases hb
    simp only at hab
    omega
  · cases hb
  · cases ha
  · cases ha

/-- **A relabelled aggregate commit is rejected**: an aggregate signature over the certificate of the
node's block at height `h'` is not accepted under any other height, whatever the bitmap. -/
theorem C06_relabelled_aggregate_rejected (st : State) (ac : AggCommit) (hinj : C06IdsInjective st)
    (h' : Nat) (hd' : Header) (signers : List Nat) (chain : Nat)
    (hb : st.blockAt h' = some hd') (hsig : ac.sig = some (.agg signers ⟨chain, hd'.id⟩))
    (hne : ac.height ≠ h') : verifyAggregateCommit st ac ≠ .accept := by
  intro hacc
  have hnem : ac.isEmpty = false := by simp [AggCommit.isEmpty, hsig]
  obtain ⟨_, _, _, hd, p, s', vs, hb2, _, hs, _⟩ := C06_verify_sound st ac hacc hnem
  rw [hsig] at hs
  simp only [Option.some.injEq, Sig.agg.injEq, certMsg, Msg.mk.injEq] at hs
  exact hne (hinj _ _ _ _ hb2 hb hs.2.2.symm)

example : verifyAggregateCommit C06cxState ⟨4, Bits.ofBytes [0x0e], some (.agg [20, 30, 40] ⟨1, 105⟩)⟩ ≠ .accept :=
  C06_relabelled_aggregate_rejected _ _ C06cx_ids_injective 5 ⟨105, 0⟩ _ 1 rfl rfl (by decide)

/-- one pool operation keeps "one entry per (block id, signer)" - in ANY chain state, for ANY
arguments (no consistency, key or well-formedness hypothesis) -/
theorem C06_pool_distinct_step (st : State) (pool : Pool) (op : C06Op) (h : Distinct pool.all) :
    Distinct (C06apply st pool op).all :=
  (C06apply_entries st pool op).2 h

theorem C06_pool_distinct_run (steps : List C06Step) :
    ∀ pool, Distinct pool.all → Distinct (C06run pool steps).all :=
  C06run_invariant (I := fun pool => Distinct pool.all) steps
    fun s _ pool h => C06_pool_distinct_step s.st pool s.op h

/-- **The pool never holds a duplicate - over ALL histories.**  After any sequence of gossip messages
(arbitrary content), `Certify` calls (any key, any range), `Cleanup` (any predicate), `Select` (any
arguments) and `Upgrade` (any selection), in any order and in arbitrary chain states (reorganisations
included), the pool holds at most one entry per (block id, signer); hence its entries are pairwise
different and no entry is in both the gossiped and the non-gossiped list. -/
theorem C06_pool_distinct_all_histories (steps : List C06Step) :
    Distinct (C06run Pool.empty steps).all ∧
    (C06run Pool.empty steps).all.Nodup ∧
    (∀ c ∈ (C06run Pool.empty steps).gossiped, c ∉ (C06run Pool.empty steps).nonGossiped) := by
  have hd : Distinct (C06run Pool.empty steps).all :=
    C06_pool_distinct_run steps Pool.empty (by simp [Distinct, Pool.all, Pool.empty])
  refine ⟨hd, hd.nodup, ?_⟩
  intro c hg hn
  have := (List.nodup_append.mp hd.nodup).2.2 c hg c hn
  exact this rfl

/-- `Select` may return an already gossiped commit and the same commit twice (`GetUntil` followed by
`GetLargestWithLimit`); `Upgrade` with that selection still leaves every entry exactly once -/
example :
    let pool : Pool := ⟨[⟨1, 1, 7, .garbage, true⟩], [⟨2, 2, 8, .garbage, false⟩]⟩
    (pool.select 105 3).2 = [⟨1, 1, 7, .garbage, true⟩, ⟨2, 2, 8, .garbage, false⟩, ⟨1, 1, 7, .garbage, true⟩] ∧
    ((pool.select 105 3).1.upgrade (pool.select 105 3).2).all =
      [⟨2, 2, 8, .garbage, false⟩, ⟨1, 1, 7, .garbage, true⟩] := by decide

private theorem apply_onChain (st : State) (s : C06Step)
    (hext : ∀ h hd, s.st.blockAt h = some hd → st.blockAt h = some hd)
    (pool : Pool) (hon : ∀ c ∈ pool.all, OnChain st c) : ∀ c ∈ (C06apply s.st pool s.op).all, OnChain st c := by
  have lift : ∀ c, OnChain s.st c → OnChain st c := fun c ⟨hd, hb, hid⟩ => ⟨hd, hext _ _ hb, hid⟩
  intro c hc
  refine ((C06apply_entries s.st pool s.op).1 c hc).elim (hon c) fun he => lift c ?_
  obtain ⟨st', op⟩ := s
  cases op with
  | gossip msgs => exact VerifiedOnChain.onChain he
  | certify frm to addr sk => obtain ⟨-, -, hd, -, -, hb, hid, -⟩ := he; exact ⟨hd, hb, hid⟩
  | _ => exact he.elim

/-- **Invariant on a chain without replaced blocks, over all histories.**  If every block a step of the
history saw is still on the chain of `st` (the chain only grew, was finalized, certified - no
reorganisation; maxHeightCertified / maxHeightPrecommited / parameters may change freely), then in the
pool reached from the empty pool by ANY operations
* every entry's block id is the id of `st`'s block at the entry's HEIGHT FIELD,
* there is at most one entry per (height, validator),
* `Pool.Get h` holds only commits for the chain's block at `h` (the `ForBlock` filter of
  `GetAggregateCommit` removes nothing) and their signers are pairwise different. -/
theorem C06_pool_chain_invariant (st : State) (steps : List C06Step)
    (hext : ∀ s ∈ steps, ∀ h hd, s.st.blockAt h = some hd → st.blockAt h = some hd) :
    (∀ c ∈ (C06run Pool.empty steps).all, ∃ hd, st.blockAt c.height = some hd ∧ hd.id = c.block) ∧
    (C06run Pool.empty steps).all.Pairwise (fun a b => ¬ (a.height = b.height ∧ a.signer = b.signer)) ∧
    (∀ h hd, st.blockAt h = some hd →
      forBlock ((C06run Pool.empty steps).get h) hd.id = (C06run Pool.empty steps).get h ∧
      ((C06run Pool.empty steps).get h).Pairwise (fun a b => a.signer ≠ b.signer)) := by
  have hon : ∀ c ∈ (C06run Pool.empty steps).all, OnChain st c :=
    C06run_invariant (I := fun pool => ∀ c ∈ pool.all, OnChain st c) steps
      (fun s hs pool h => apply_onChain st s (hext s hs) pool h) Pool.empty (by simp [Pool.all, Pool.empty])
  have hd := (C06_pool_distinct_all_histories steps).1
  have hhs := distinct_height_signer hon hd
  refine ⟨hon, hhs, ?_⟩
  intro h hdr hb
  constructor
  · refine List.filter_eq_self.mpr fun c hc => ?_
    obtain ⟨hca, hch⟩ := mem_get.mp hc
    obtain ⟨hd', hb', hid⟩ := hon c hca
    cases (hch ▸ hb').symm.trans hb
    exact beq_iff_eq.mpr hid.symm
  · exact (hhs.sublist (get_sublist _ h)).imp_of_mem fun ha hb' hab he =>
      hab ⟨(mem_get.mp ha).2.trans (mem_get.mp hb').2.symm, he⟩

/-- non-vacuity: a history with a duplicate message, a relabelled commit, `Certify` twice, select,
upgrade and a cleanup yields the two genuine entries once each -/
example : (C06run Pool.empty
      [⟨C06cxState, .gossip [⟨true, 105, 5, 1, sign 20 ⟨1, 105⟩⟩, ⟨true, 105, 5, 1, sign 20 ⟨1, 105⟩⟩]⟩,
       ⟨C06cxState, .gossip [⟨true, 105, 4, 2, sign 30 ⟨1, 105⟩⟩]⟩,
       ⟨C06cxState, .certify 4 5 3 40⟩, ⟨C06cxState, .certify 4 5 3 40⟩,
       ⟨C06cxState, .select 5 4⟩,
       ⟨C06cxState, .upgrade [⟨105, 5, 1, sign 20 ⟨1, 105⟩, false⟩, ⟨105, 5, 1, sign 20 ⟨1, 105⟩, false⟩]⟩,
       ⟨C06cxState, .gossip [⟨true, 105, 5, 1, sign 20 ⟨1, 105⟩⟩]⟩,
       ⟨C06cxState, .cleanup (fun h => decide (h > 2))⟩]).all =
    [⟨105, 5, 1, sign 20 ⟨1, 105⟩, false⟩, ⟨105, 5, 3, sign 40 ⟨1, 105⟩, true⟩] := by decide

/-- `C06_pool_chain_invariant` instantiated: a history in one chain state -/
example : ∀ c ∈ (C06run Pool.empty [⟨C06cxState, .gossip [⟨true, 105, 5, 1, sign 20 ⟨1, 105⟩⟩]⟩,
      ⟨C06cxState, .select 5 4⟩]).all, ∃ hd, C06cxState.blockAt c.height = some hd ∧ hd.id = c.block :=
  (C06_pool_chain_invariant C06cxState _ (by
    intro s hs
    simp only [List.mem_cons, List.not_mem_nil, or_false] at hs
    rcases hs with rfl | rfl <;> exact fun _ _ h => h)).1

/-- the no-reorganisation hypothesis of `C06_pool_chain_invariant` is needed: validator 0 signed block
999 at height 5, the block was replaced by 105 and it signed again - the pool holds two entries for
(height 5, validator 0), one of them not for the chain's block (`GetAggregateCommit` leaves it out, see
Props/C06.lean) -/
example : ((C06run Pool.empty
      [⟨{ C06cxState with blockAt := fun h => if h = 5 then some ⟨999, 0⟩ else C06cxState.blockAt h },
          .gossip [⟨true, 999, 5, 0, sign 10 ⟨1, 999⟩⟩]⟩,
       ⟨C06cxState, .gossip [⟨true, 105, 5, 0, sign 10 ⟨1, 105⟩⟩]⟩]).all.map (fun c => (c.block, c.height, c.signer))) =
    [(999, 5, 0), (105, 5, 0)] := by decide

/-- the commit of validator 1 for height 5 twice, the commit of validator 2 once -/
def C06dupPool : Pool :=
  ⟨[⟨105, 5, 1, sign 20 ⟨1, 105⟩, false⟩, ⟨105, 5, 2, sign 30 ⟨1, 105⟩, false⟩], [⟨105, 5, 1, sign 20 ⟨1, 105⟩, false⟩]⟩

/-- **Distinctness is necessary.**  Every entry of `C06dupPool` is `EntryOk` (first conjunct; the pool of (b) is
`C06cxPool`, whose entries are, plus a copy of one of them) - only "one entry per (block, signer)" fails.
(a) Validators 1 and 2 signed (weight 2 < threshold 3); with the commit of validator 1 stored twice the
weight loop of `GetAggregateCommit` counts 3, an aggregate is assembled and the node's own verification
rejects it.  (b) Validators 1, 2, 3 signed (weight 3 reaches the threshold); with the commit of
validator 1 stored twice the aggregate contains its signature twice while the bit is set once, and the
node's own verification rejects it; without the duplicate the aggregate is accepted. -/
theorem C06_duplicates_break_aggregate :
    (∀ c ∈ C06dupPool.all, EntryOk C06cxCtx C06cxState.chainId c) ∧
    (∃ ac, getAggregateCommit C06cxState C06dupPool = .ok ac ∧ ac.height = 5 ∧
      Bits.toBytes ac.bits = [0x06] ∧
      verifyAggregateCommit C06cxState ac = .reject .invalidCertificate) ∧
    (∃ ac, getAggregateCommit C06cxState { C06cxPool with nonGossiped := C06cxPool.nonGossiped ++ [⟨105, 5, 1, sign 20 ⟨1, 105⟩, true⟩] } = .ok ac ∧
      Bits.toBytes ac.bits = [0x0e] ∧ ac.sig = some (.agg [20, 30, 40, 20] ⟨1, 105⟩) ∧
      verifyAggregateCommit C06cxState ac = .reject .invalidCertificate) ∧
    (∃ ac, getAggregateCommit C06cxState C06cxPool = .ok ac ∧ verifyAggregateCommit C06cxState ac = .accept) := by
  exact ⟨List.forall_mem_cons.mpr ⟨⟨C06cxParams, ⟨1, 20, 1⟩, rfl, rfl, rfl⟩,
      List.forall_mem_cons.mpr ⟨⟨C06cxParams, ⟨1, 20, 1⟩, rfl, rfl, rfl⟩,
      List.forall_mem_cons.mpr ⟨⟨C06cxParams, ⟨2, 30, 1⟩, rfl, rfl, rfl⟩, nofun⟩⟩⟩,
    ⟨_, rfl, by decide, by decide, by decide⟩, ⟨_, rfl, by decide, by decide, by decide⟩, ⟨_, rfl, by decide⟩⟩

/-! ## the height selected by `GetAggregateCommit` -/

/-- **The assembly bound is exactly the verification bound.**  The first candidate height
`min(nextParamsHeight - 1, maxHeightPrecommited)` of `GetAggregateCommit` is the largest height that
is `≤ maxHeightPrecommited` and strictly below every parameter change after `maxHeightCertified + 1`
(the two upper bounds of `C06_verify_sound`). -/
theorem C06_assembly_bound_exact (st : State) (h : Nat) :
    h ≤ gacStart st ↔ (h ≤ st.mhpc ∧ ∀ e ∈ st.params, st.mhc + 1 < e.1 → h < e.1) :=
  gacStart_iff st h

/-- **Exact characterisation of the height `GetAggregateCommit` selects** (any pool, any state): a
successful call returns either the empty commit at `maxHeightCertified`, and then NO height of the
window `(mhc, min(nextParamsHeight-1, mhpc)]` is certifiable from the pool, or a non-empty commit whose
height lies in the window, is certifiable, and is the LARGEST certifiable height of the window. -/
theorem C06_assembled_height_exact (st : State) (pool : Pool) (ac : AggCommit)
    (hg : getAggregateCommit st pool = .ok ac) :
    (ac = emptyCommit st ∧ ∀ h, st.mhc < h → h ≤ gacStart st → ¬ Certifiable st pool h) ∨
    (ac.isEmpty = false ∧ st.mhc < ac.height ∧ ac.height ≤ gacStart st ∧ Certifiable st pool ac.height ∧
      ∀ h, ac.height < h → h ≤ gacStart st → ¬ Certifiable st pool h) := by
  unfold getAggregateCommit getAggregateCommitOrd at hg
  rcases gacLoop_char keyLe st pool ac _ hg with ⟨h1, h2⟩ | ⟨x, hd, p, x1, x2, x3, x4, x5, x6, x7⟩
  · exact Or.inl ⟨h1, fun h h3 h4 => h2 h h3 ((le_add_sub_iff h3).mpr h4)⟩
  · obtain ⟨c0, rest, S, hc, -, rfl⟩ := aggregateOrd_ok x7
    cases (mem_forBlock_get.mp (hc ▸ List.mem_cons_self : c0 ∈ _)).2.1
    exact Or.inr ⟨by rw [AggCommit.isEmpty, Bool.and_comm]; rfl, x1, (le_add_sub_iff x1).mp x2, x3,
      fun h h3 h4 => x4 h h3 ((le_add_sub_iff (Nat.lt_trans x1 h3)).mpr h4)⟩

/-- **The window of `verifyAggregateCommit` is the window of `GetAggregateCommit`.**  For an aggregate
commit with non-empty fields: inside `(mhc, min(nextParamsHeight-1, mhpc)]` the verdict is that of the
certificate check; at or below `mhc` and above the bound it is a guard rejection. -/
theorem C06_verify_window (st : State) (ac : AggCommit) (sig : Sig) (hs : ac.sig = some sig) (hbits : ac.bits ≠ []) :
    (st.mhc < ac.height → ac.height ≤ gacStart st → verifyAggregateCommit st ac = verifyCertificate st ac sig) ∧
    (ac.height ≤ st.mhc → verifyAggregateCommit st ac = .reject .notIncreasing) ∧
    (st.mhc < ac.height → gacStart st < ac.height →
      verifyAggregateCommit st ac = .reject .abovePrecommitted ∨
      verifyAggregateCommit st ac = .reject .beyondNextParams) := by
  have hmhpc := gacStart_le_mhpc st
  rw [verifyAggregateCommit_of_fields hs hbits]
  refine ⟨fun h1 h2 => ?_, fun h1 => if_pos h1, fun h1 h2 => ?_⟩
  · rw [if_neg (by omega), if_neg (by omega), if_neg (by omega)]
  · rw [if_neg (by omega)]
    by_cases h3 : st.mhpc < ac.height
    · exact .inl (if_pos h3)
    · exact .inr (by rw [if_neg h3, if_pos h2])

/-- **An accepted non-empty aggregate commit lies in the assembly window** (so nothing above
`min(nextParamsHeight - 1, mhpc)` is ever accepted). -/
theorem C06_accepted_within_bound (st : State) (ac : AggCommit)
    (hacc : verifyAggregateCommit st ac = .accept) (hne : ac.isEmpty = false) :
    st.mhc < ac.height ∧ ac.height ≤ gacStart st := by
  obtain ⟨h1, h2, h3, _⟩ := C06_verify_sound st ac hacc hne
  exact ⟨h1, (gacStart_iff st ac.height).mpr ⟨h2, h3⟩⟩

/-- non-vacuity of `C06_verify_window` / `C06_accepted_within_bound`: in the example state the window
is `(0, 5]`; the genuine aggregate for height 5 passes the guards and is accepted, heights 0 and 6 are
guard rejections -/
example : gacStart C06cxState = 5 ∧
    verifyAggregateCommit C06cxState ⟨5, Bits.ofBytes [0x0e], some (.agg [20, 30, 40] ⟨1, 105⟩)⟩ = .accept ∧
    verifyAggregateCommit C06cxState ⟨0, Bits.ofBytes [0x0e], some (.agg [20, 30, 40] ⟨1, 100⟩)⟩ = .reject .notIncreasing ∧
    verifyAggregateCommit C06cxState ⟨6, Bits.ofBytes [0x0e], some (.agg [20, 30, 40] ⟨1, 106⟩)⟩ = .reject .abovePrecommitted := by
  decide

/-- **The boundary `nextParamsHeight ≤ maxHeightPrecommited`** (in particular `nextParamsHeight = mhpc`,
the off-by-one case): the first candidate height is `nextParamsHeight - 1`; `GetAggregateCommit` never
returns a height `≥ nextParamsHeight`, whatever the pool holds for those heights, and every aggregate
commit with non-empty fields for a height in `[nextParamsHeight, mhpc]` is rejected with
`beyondNextParams` - the block `nextParamsHeight - 1` authenticating the change is certified first. -/
theorem C06_next_params_boundary (st : State) (nh : Nat)
    (hn : nextHeightParams st.params (st.mhc + 1) = some nh) (hle : nh ≤ st.mhpc) :
    gacStart st = nh - 1 ∧ st.mhc < nh - 1 ∧
    (∀ pool ac, getAggregateCommit st pool = .ok ac → ac.height < nh) ∧
    (∀ ac sig, ac.sig = some sig → ac.bits ≠ [] → nh ≤ ac.height → ac.height ≤ st.mhpc →
      verifyAggregateCommit st ac = .reject .beyondNextParams) := by
  have h1 := (nextHeightParams_some hn).1
  have hm : st.mhc < nh := Nat.lt_trans (Nat.lt_succ_self _) h1
  have hlt : nh - 1 < nh := Nat.sub_lt (Nat.zero_lt_of_lt hm) Nat.one_pos
  have hgs : gacStart st = nh - 1 := by
    rw [gacStart, hn]
    exact Nat.min_eq_left (Nat.le_trans (Nat.sub_le _ _) hle)
  refine ⟨hgs, Nat.lt_sub_of_add_lt h1, fun pool ac hg => ?_, fun ac sig hs hb h2 h3 => ?_⟩
  · rcases C06_assembled_height_exact st pool ac hg with ⟨rfl, _⟩ | ⟨_, _, h3, _⟩
    · exact hm
    · exact Nat.lt_of_le_of_lt (hgs ▸ h3) hlt
  · rw [verifyAggregateCommit_of_fields hs hb, if_neg (Nat.not_le.mpr (Nat.lt_of_lt_of_le hm h2)),
      if_neg (Nat.not_lt.mpr h3), if_pos (hgs ▸ Nat.lt_of_lt_of_le hlt h2)]

/-- the state of the off-by-one case: a parameter change stored for height 5 = maxHeightPrecommited -/
def C06bdState : State := { C06cxState with params := [(1, C06cxParams), (5, C06cxParams)] }

/-- heights 5 and 4 both have three of four commits -/
def C06bdPool : Pool :=
  ⟨C06cxPool.nonGossiped ++
    [⟨104, 4, 0, sign 10 ⟨1, 104⟩, false⟩, ⟨104, 4, 1, sign 20 ⟨1, 104⟩, false⟩, ⟨104, 4, 2, sign 30 ⟨1, 104⟩, false⟩], []⟩

/-- non-vacuity of `C06_next_params_boundary` / `C06_assembled_height_exact`: `nextParamsHeight = mhpc = 5`;
height 5 is certifiable from the pool but height 4 (= 5 - 1) is selected and accepted, the aggregate
for height 5 is rejected; without the parameter change height 5 is selected -/
example : nextHeightParams C06bdState.params (C06bdState.mhc + 1) = some C06bdState.mhpc ∧ gacStart C06bdState = 4 ∧
    (∃ ac, getAggregateCommit C06bdState C06bdPool = .ok ac ∧ ac.height = 4 ∧
      verifyAggregateCommit C06bdState ac = .accept) ∧
    (∃ ac, getAggregateCommit C06cxState C06bdPool = .ok ac ∧ ac.height = 5 ∧
      verifyAggregateCommit C06cxState ac = .accept ∧
      verifyAggregateCommit C06bdState ac = .reject .beyondNextParams) := by
  refine ⟨by decide, by decide, ⟨_, rfl, by decide, by decide⟩, ⟨_, rfl, by decide, by decide, by decide⟩⟩

/-! ## liveness of certification -/

/-- **No double counting** (where distinct entries are needed): in a pool satisfying the invariant the
weight `GetAggregateCommit` sums for a height is the weight of the SET of validators of that height
that have a commit for the chain's block in the pool; so "certifiable as the code computes it" is
"commits present and the signing validators reach the threshold". -/
theorem C06_weight_no_double_counting (st : State) (ctx : BlockCtx) (pool : Pool)
    (hwf : StoreWf st.params) (hcons : Consistent st ctx) (hinv : PoolInv ctx st.chainId pool)
    (h : Nat) (hd : Header) (p : Params) (hb : st.blockAt h = some hd) (hp : getParams st.params h = some p) :
    commitsWeight p.validators (forBlock (pool.get h) hd.id) =
      some (signedWeight p (forBlock (pool.get h) hd.id)) ∧
    (Certifiable st pool h ↔
      (forBlock (pool.get h) hd.id ≠ [] ∧ p.threshold ≤ signedWeight p (forBlock (pool.get h) hd.id))) := by
  obtain ⟨hok, hdist⟩ := cand_facts hcons hinv hb hp
  have hw := commitsWeight_eq_signedWeight p (getParams_wf hwf hp) _ (fun c hc => (hok c hc).imp fun _ h => h.1) hdist
  refine ⟨hw, ?_, ?_⟩
  · rintro ⟨hd', p', w, h1, h2, h3, h4, h5⟩
    rw [hb] at h1
    cases h1
    rw [hp] at h3
    cases h3
    rw [hw] at h4
    cases h4
    exact ⟨h2, h5⟩
  · rintro ⟨h1, h2⟩
    exact ⟨hd, p, _, hb, h1, hp, hw, h2⟩

/-- with a duplicate the loop counts more than the signing validators weigh -/
example : commitsWeight C06cxParams.validators (forBlock (C06dupPool.get 5) 105) = some 3 ∧
    signedWeight C06cxParams (forBlock (C06dupPool.get 5) 105) = 2 := by decide

/-- **Liveness of certification.**  In a pool satisfying the invariant, if for some height `h` of the
window `(mhc, min(nextParamsHeight-1, mhpc)]` the validators of `h` that have a commit for the chain's
block in the pool reach the certificate threshold of `h`, then `GetAggregateCommit` returns a NON-EMPTY
aggregate commit for a height `≥ h` (still inside the window), and the node's own verification accepts
it.  (Blocks must exist for the heights of the window, as for `C06_assembled_total`.) -/
theorem C06_certification_live (st : State) (ctx : BlockCtx) (pool : Pool)
    (hwf : StoreWf st.params) (hcons : Consistent st ctx) (hinv : PoolInv ctx st.chainId pool)
    (hblocks : ∀ x, st.mhc < x → x ≤ gacStart st → st.blockAt x ≠ none)
    (h : Nat) (hd : Header) (p : Params) (hlo : st.mhc < h) (hhi : h ≤ gacStart st)
    (hb : st.blockAt h = some hd) (hp : getParams st.params h = some p)
    (hne : forBlock (pool.get h) hd.id ≠ [])
    (hw : p.threshold ≤ signedWeight p (forBlock (pool.get h) hd.id)) :
    ∃ ac, getAggregateCommit st pool = .ok ac ∧ ac.isEmpty = false ∧ h ≤ ac.height ∧
      ac.height ≤ gacStart st ∧ verifyAggregateCommit st ac = .accept := by
  have hcert : Certifiable st pool h :=
    ((C06_weight_no_double_counting st ctx pool hwf hcons hinv h hd p hb hp).2).mpr ⟨hne, hw⟩
  obtain ⟨ac, hg⟩ := getAggregateCommit_total hwf hcons hinv hblocks
  refine ⟨ac, hg, ?_⟩
  rcases C06_assembled_height_exact st pool ac hg with ⟨_, h2⟩ | ⟨h1, _, h3, _, h5⟩
  · exact absurd hcert (h2 h hlo hhi)
  · refine ⟨h1, ?_, h3, C06_assembled_accepted st ctx pool ac hwf hcons hinv hg⟩
    rcases Nat.lt_or_ge ac.height h with hlt | hge
    · exact absurd hcert (h5 h hlt hhi)
    · exact hge

/-- non-vacuity: three of four validators (weight 3 = threshold) committed to height 5 -/
example : ∃ ac, getAggregateCommit C06cxState C06cxPool = .ok ac ∧ ac.isEmpty = false ∧ 5 ≤ ac.height ∧
    ac.height ≤ gacStart C06cxState ∧ verifyAggregateCommit C06cxState ac = .accept :=
  C06_certification_live C06cxState C06cxCtx C06cxPool C06cx_wf C06cx_consistent C06cx_inv
    (by intro x _ hx
        have : gacStart C06cxState = 5 := by decide
        simp only [C06cxState] at *
        rw [if_pos (by omega)]
        simp)
    5 ⟨105, 0⟩ C06cxParams (by decide) (by decide) rfl rfl (by decide) (by decide)

/-- the threshold is needed: with two of four validators nothing is assembled -/
example : getAggregateCommit C06cxState
    ⟨[⟨105, 5, 1, sign 20 ⟨1, 105⟩, false⟩, ⟨105, 5, 2, sign 30 ⟨1, 105⟩, false⟩], []⟩ = .ok (emptyCommit C06cxState) := by
  decide

/-- the commits the cleanup of `broadcastCertificate` keeps: above the removal height, and inside
`[mhpc - 100, mhpc]` or authenticating a change of BFT parameters -/
def C06Kept (st : State) (removal : Nat) (h : Nat) : Prop :=
  removal < h ∧ ((minStoredHeight st.mhpc ≤ h ∧ h ≤ st.mhpc) ∨ existParams st.params (h + 1) = true)

theorem C06_cleanupKeep_iff (st : State) (removal h : Nat) : cleanupKeep st removal h = true ↔ C06Kept st removal h := by
  rw [cleanupKeep_iff, stored_iff]; rfl

/-- **Completeness of the gossip validator**: a well-formed single commit whose height the node stores
(above the removal height; inside `[mhpc-100, mhpc]` or authenticating a parameter change) and which
verifies against the current chain (the chain's block at its height, signer active there, valid
signature) is never refused: the loop continues, and afterwards the pool holds the commit (it is
added unless `Pool.Has` already finds it). -/
theorem C06_valid_commit_enters (st : State) (pool : Pool) (m : Incoming) (fin : Header)
    (hwf : m.wf = true) (hfin : st.blockAt st.mhpc = some fin) (hk : C06Kept st fin.acHeight m.height)
    (hv : VerifiedOnChain st m.commit) :
    (scvOne st pool m).2 = none ∧ (scvOne st pool m).1.has m.commit = true ∧
    (pool.has m.commit = false → (scvOne st pool m).1 = pool.add m.commit) := by
  obtain ⟨hd, p, v, hb, hid, hp, hf, hs⟩ := hv
  have hp : getParams st.params m.height = some p := hp
  have hf : findValidator p.validators m.signer = some v := hf
  have hsig : verifySingle v.key (certMsg st hd) m.sig = true := beq_of_eq hs
  cases hh : pool.has m.commit with
  | true =>
    have : scvOne st pool m = (pool, none) := by rw [scvOne, hwf, hh]; rfl
    rw [this]
    exact ⟨rfl, hh, nofun⟩
  | false =>
    have : scvOne st pool m = (pool.add m.commit, none) := by
      rw [scvOne_checks ⟨hwf, hh, hfin, hk.1, (stored_iff st _).mpr hk.2, hb, hid⟩, scvCheck, hp]
      dsimp only
      rw [hf]
      dsimp only
      rw [hsig]
      rfl
    rw [this]
    refine ⟨rfl, ?_, fun _ => rfl⟩
    rw [pool_has_iff, pool_add_all hh]
    exact ⟨m.commit, List.mem_append_right _ List.mem_cons_self, rfl, rfl⟩

/-- a message the node stores and that verifies against the current chain -/
def C06ValidMsg (st : State) (fin : Header) (m : Incoming) : Prop :=
  m.wf = true ∧ C06Kept st fin.acHeight m.height ∧ VerifiedOnChain st m.commit

/-- **A list of valid single commits is processed to the end**: the validator returns `ignore` (its
only non-rejecting result), afterwards `Pool.Has` finds every one of them, and nothing `Pool.Has` found
before is lost. -/
theorem C06_valid_commits_all_enter (st : State) (fin : Header) (hfin : st.blockAt st.mhpc = some fin)
    (msgs : List Incoming) (hvalid : ∀ m ∈ msgs, C06ValidMsg st fin m) (pool : Pool) :
    (singleCommitValidator st pool msgs).2 = .ignore ∧
    (∀ m ∈ msgs, (singleCommitValidator st pool msgs).1.has m.commit = true) ∧
    (∀ c, pool.has c = true → (singleCommitValidator st pool msgs).1.has c = true) := by
  induction msgs generalizing pool with
  | nil => exact ⟨rfl, fun m hm => absurd hm List.not_mem_nil, fun c h => h⟩
  | cons m r ih =>
    obtain ⟨h1, h2, h3⟩ := hvalid m List.mem_cons_self
    obtain ⟨e1, e2, _⟩ := C06_valid_commit_enters st pool m fin h1 hfin h2 h3
    obtain ⟨i1, i2, i3⟩ := ih (fun x hx => hvalid x (List.mem_cons_of_mem _ hx)) (scvOne st pool m).1
    rw [scv_step]
    simp only [e1]
    refine ⟨i1, ?_, ?_⟩
    · intro x hx
      rcases List.mem_cons.mp hx with rfl | hx
      · exact i3 _ e2
      · exact i2 x hx
    · intro c hc
      exact i3 c ((scvOne_adds (P := fun _ => True) (fun _ _ => trivial) pool).has hc)

private theorem sum_filter_mono (l : List Validator) (P Q : Validator → Bool)
    (h : ∀ v ∈ l, P v = true → Q v = true) :
    ((l.filter P).map (·.weight)).sum ≤ ((l.filter Q).map (·.weight)).sum := by
  have e : l.filter P = (l.filter Q).filter P := by
    rw [List.filter_filter]
    exact List.filter_congr fun v hv => by have := h v hv; revert this; cases P v <;> simp
  rw [e]
  exact BLSAgg.sum_le_of_sublist (List.filter_sublist.map _)

/-- **Delivery implies certification.**  If a gossip message delivers valid single commits for the
chain's block at a height `h` of the window `(mhc, min(nextParamsHeight-1, mhpc)]` that the node stores,
and the validators of `h` that signed them reach the certificate threshold of `h`, then - whatever the
pool held before (any pool satisfying the invariant, e.g. any reachable one) - `GetAggregateCommit`
afterwards returns a non-empty aggregate commit for a height `≥ h`, accepted by the node's own
verification. -/
theorem C06_delivery_certifies (st : State) (ctx : BlockCtx) (pool : Pool)
    (hwf : StoreWf st.params) (hcons : Consistent st ctx) (hinv : PoolInv ctx st.chainId pool)
    (hblocks : ∀ x, st.mhc < x → x ≤ gacStart st → st.blockAt x ≠ none)
    (fin : Header) (hfin : st.blockAt st.mhpc = some fin)
    (h : Nat) (hd : Header) (p : Params) (hlo : st.mhc < h) (hhi : h ≤ gacStart st)
    (hb : st.blockAt h = some hd) (hp : getParams st.params h = some p)
    (hkept : C06Kept st fin.acHeight h)
    (msgs : List Incoming) (hne : msgs ≠ [])
    (hvalid : ∀ m ∈ msgs, m.wf = true ∧ m.height = h ∧ m.block = hd.id ∧
      ∃ v, findValidator p.validators m.signer = some v ∧ m.sig = sign v.key (certMsg st hd))
    (hw : p.threshold ≤
      ((p.validators.filter (fun v => msgs.any (fun m => m.signer == v.addr))).map (·.weight)).sum) :
    ∃ ac, getAggregateCommit st (singleCommitValidator st pool msgs).1 = .ok ac ∧ ac.isEmpty = false ∧
      h ≤ ac.height ∧ ac.height ≤ gacStart st ∧ verifyAggregateCommit st ac = .accept := by
  have hinv' := C06_pool_invariant_validator st ctx pool msgs hcons hinv
  have hvm : ∀ m ∈ msgs, C06ValidMsg st fin m := by
    intro m hm
    obtain ⟨h1, h2, h3, v, h4, h5⟩ := hvalid m hm
    refine ⟨h1, h2 ▸ hkept, hd, p, v, ?_, h3.symm, ?_, h4, h5⟩
    · simp only [Incoming.commit]; rw [h2]; exact hb
    · simp only [Incoming.commit]; rw [h2]; exact hp
  obtain ⟨_, hall, _⟩ := C06_valid_commits_all_enter st fin hfin msgs hvm pool
  have hctx : ctx hd.id = some (h, p) := hcons.ctx_of_params hb hp
  -- every delivered commit has an entry among the candidates of height `h`
  have hin : ∀ m ∈ msgs, ∃ d ∈ forBlock ((singleCommitValidator st pool msgs).1.get h) hd.id, d.signer = m.signer := by
    intro m hm
    obtain ⟨d, hdm, hdb, hds⟩ := pool_has_iff.mp (hall m hm)
    simp only [Incoming.commit] at hdb hds
    have hdb' : d.block = hd.id := by rw [hdb]; exact (hvalid m hm).2.2.1
    obtain ⟨p', _, hc', _⟩ := hinv'.entryOk d hdm
    rw [hdb', hctx] at hc'
    simp only [Option.some.injEq, Prod.mk.injEq] at hc'
    exact ⟨d, mem_forBlock_get.mpr ⟨hdm, hc'.1.symm, hdb'⟩, hds⟩
  apply C06_certification_live st ctx _ hwf hcons hinv' hblocks h hd p hlo hhi hb hp
  · obtain ⟨m, hm⟩ := List.exists_mem_of_ne_nil _ hne
    obtain ⟨d, hd', _⟩ := hin m hm
    exact List.ne_nil_of_mem hd'
  · refine Nat.le_trans hw (sum_filter_mono _ _ _ ?_)
    intro v _ hv
    obtain ⟨m, hm, hmv⟩ := List.any_eq_true.mp hv
    obtain ⟨d, hd', hds⟩ := hin m hm
    exact List.any_eq_true.mpr ⟨d, hd', by rw [hds]; exact hmv⟩

/-- non-vacuity: one message with the commits of validators 1, 2, 3 for height 5 into the empty pool -/
example : ∃ ac, getAggregateCommit C06cxState (singleCommitValidator C06cxState Pool.empty
      [⟨true, 105, 5, 1, sign 20 ⟨1, 105⟩⟩, ⟨true, 105, 5, 2, sign 30 ⟨1, 105⟩⟩, ⟨true, 105, 5, 3, sign 40 ⟨1, 105⟩⟩]).1 = .ok ac ∧
    ac.isEmpty = false ∧ ac.height = 5 := ⟨_, rfl, by decide, by decide⟩

/-- **Liveness for reachable pools**: the statement of `C06_certification_live` for the pool reached
from the empty pool by any history of operations (each in its own chain state, all consistent with one
block context). -/
theorem C06_reachable_certification_live (ctx : BlockCtx) (st : State) (hwf : StoreWf st.params)
    (hcons : Consistent st ctx) (hblocks : ∀ x, st.mhc < x → x ≤ gacStart st → st.blockAt x ≠ none)
    (steps : List C06Step) (hok : ∀ s ∈ steps, C06StepOk ctx st.chainId s)
    (h : Nat) (hd : Header) (p : Params) (hlo : st.mhc < h) (hhi : h ≤ gacStart st)
    (hb : st.blockAt h = some hd) (hp : getParams st.params h = some p)
    (hne : forBlock ((C06run Pool.empty steps).get h) hd.id ≠ [])
    (hw : p.threshold ≤ signedWeight p (forBlock ((C06run Pool.empty steps).get h) hd.id)) :
    ∃ ac, getAggregateCommit st (C06run Pool.empty steps) = .ok ac ∧ ac.isEmpty = false ∧ h ≤ ac.height ∧
      ac.height ≤ gacStart st ∧ verifyAggregateCommit st ac = .accept :=
  C06_certification_live st ctx _ hwf hcons
    (C06_reachable_pool_invariant ctx st.chainId steps hok Pool.empty (C06_empty_pool_inv ctx st.chainId))
    hblocks h hd p hlo hhi hb hp hne hw

/-! ## cleanup -/

/-- **Exact effect of the cleanup step of `broadcastCertificate`**: an entry remains (in the same list)
iff it was there, its height is above the removal height (the aggregate-commit height of the block at
`maxHeightPrecommited`) and it is inside the stored range or authenticates a parameter change. -/
theorem C06_cleanup_exact (st : State) (pool pool' : Pool) (fin : Header)
    (hfin : st.blockAt st.mhpc = some fin) (hb : broadcastCleanup st pool = some pool') (c : Commit) :
    (c ∈ pool'.gossiped ↔ c ∈ pool.gossiped ∧ C06Kept st fin.acHeight c.height) ∧
    (c ∈ pool'.nonGossiped ↔ c ∈ pool.nonGossiped ∧ C06Kept st fin.acHeight c.height) := by
  rw [broadcastCleanup_eq hfin hb, ← C06_cleanupKeep_iff]
  exact cleanup_mem pool _ c

/-- **Cleanup never removes a commit that is still needed.**  When the removal height is at most
`maxHeightCertified` (aggregate-commit heights do not decrease along the chain), every entry for a
height above `maxHeightCertified` inside the stored range `[mhpc - 100, mhpc]`, or authenticating a
parameter change, survives in its list; for such heights `Pool.Get` is unchanged and the height is
certifiable after the cleanup iff it was before.  For NO height does the cleanup create certifiability. -/
theorem C06_cleanup_keeps_needed (st : State) (pool pool' : Pool) (fin : Header)
    (hfin : st.blockAt st.mhpc = some fin) (hb : broadcastCleanup st pool = some pool')
    (hrem : fin.acHeight ≤ st.mhc) :
    (∀ c, st.mhc < c.height →
      ((minStoredHeight st.mhpc ≤ c.height ∧ c.height ≤ st.mhpc) ∨ existParams st.params (c.height + 1) = true) →
      (c ∈ pool.gossiped → c ∈ pool'.gossiped) ∧ (c ∈ pool.nonGossiped → c ∈ pool'.nonGossiped)) ∧
    (∀ h, st.mhc < h →
      ((minStoredHeight st.mhpc ≤ h ∧ h ≤ st.mhpc) ∨ existParams st.params (h + 1) = true) →
      pool'.get h = pool.get h ∧ (Certifiable st pool' h ↔ Certifiable st pool h)) ∧
    (∀ h, Certifiable st pool' h → Certifiable st pool h) := by
  have hget : ∀ h, pool'.get h = if cleanupKeep st fin.acHeight h then pool.get h else [] :=
    fun h => broadcastCleanup_eq hfin hb ▸ cleanup_get pool _ h
  refine ⟨?_, ?_, ?_⟩
  · intro c h1 h2
    have hk : C06Kept st fin.acHeight c.height := ⟨by omega, h2⟩
    obtain ⟨hg, hn⟩ := C06_cleanup_exact st pool pool' fin hfin hb c
    exact ⟨fun h => hg.mpr ⟨h, hk⟩, fun h => hn.mpr ⟨h, hk⟩⟩
  · intro h h1 h2
    have hk : cleanupKeep st fin.acHeight h = true := (C06_cleanupKeep_iff st _ h).mpr ⟨by omega, h2⟩
    have : pool'.get h = pool.get h := by rw [hget, if_pos hk]
    refine ⟨this, ?_⟩
    unfold Certifiable
    rw [this]
  · rintro h ⟨hd, p, w, h1, h2, h3, h4, h5⟩
    rw [hget] at h2 h4
    by_cases hk : cleanupKeep st fin.acHeight h = true
    · rw [if_pos hk] at h2 h4
      exact ⟨hd, p, w, h1, h2, h3, h4, h5⟩
    · rw [if_neg hk] at h2
      exact absurd rfl h2

/-- **Cleanup does not change what `GetAggregateCommit` returns** while the uncertified backlog fits
the stored range (`mhpc ≤ mhc + 1 + 100`) and the removal height is at most `maxHeightCertified`. -/
theorem C06_cleanup_preserves_aggregate (st : State) (pool pool' : Pool) (fin : Header)
    (hfin : st.blockAt st.mhpc = some fin) (hb : broadcastCleanup st pool = some pool')
    (hrem : fin.acHeight ≤ st.mhc) (hback : st.mhpc ≤ st.mhc + 1 + commitRangeStored) :
    getAggregateCommit st pool' = getAggregateCommit st pool := by
  refine getAggregateCommit_congr st fun x h1 h2 => ?_
  have h3 : x ≤ st.mhpc := Nat.le_trans h2 (gacStart_le_mhpc st)
  exact ((C06_cleanup_keeps_needed st pool pool' fin hfin hb hrem).2.1 x h1
    (Or.inl ⟨by unfold minStoredHeight; omega, h3⟩)).1

/-- **Cleanup removes every commit that can never be used, and only droppable ones.**  After the
cleanup every entry is above the removal height `r` (certified by a FINAL block) and inside the stored
range or authenticating a parameter change.  The entries at or below `r` are unusable for ever: in
every chain state whose `maxHeightCertified` is at least `r`, `GetAggregateCommit` returns the same
with or without them (it never reads a height `≤ maxHeightCertified`). -/
theorem C06_cleanup_removes_unusable (st : State) (pool pool' : Pool) (fin : Header)
    (hfin : st.blockAt st.mhpc = some fin) (hb : broadcastCleanup st pool = some pool') :
    (∀ c ∈ pool'.all, fin.acHeight < c.height ∧
      ((minStoredHeight st.mhpc ≤ c.height ∧ c.height ≤ st.mhpc) ∨ existParams st.params (c.height + 1) = true)) ∧
    (∀ (st' : State) (q : Pool), fin.acHeight ≤ st'.mhc →
      getAggregateCommit st' (q.cleanup (fun h => decide (fin.acHeight < h))) = getAggregateCommit st' q) := by
  constructor
  · intro c hc
    obtain ⟨hg, hn⟩ := C06_cleanup_exact st pool pool' fin hfin hb c
    rcases List.mem_append.mp hc with h | h
    · exact (hg.mp h).2
    · exact (hn.mp h).2
  · intro st' q hle
    exact getAggregateCommit_congr st' fun x h1 _ => by rw [cleanup_get, if_pos (by simp; omega)]

/-- non-vacuity of the cleanup theorems: with the block at `mhpc = 5` carrying an aggregate commit for
height 3 and `mhc = 3`, the entries of heights 2 and 3 go, those of 4 and 5 stay, and the assembled
aggregate commit is the same -/
example :
    let st : State := { C06cxState with blockAt := fun h => if h ≤ 10 then some ⟨100 + h, 3⟩ else none, mhc := 3 }
    let pool : Pool := ⟨C06cxPool.nonGossiped ++ [⟨102, 2, 1, sign 20 ⟨1, 102⟩, false⟩],
      [⟨103, 3, 1, sign 20 ⟨1, 103⟩, false⟩, ⟨104, 4, 1, sign 20 ⟨1, 104⟩, false⟩]⟩
    (broadcastCleanup st pool).map Pool.all = some ([⟨104, 4, 1, sign 20 ⟨1, 104⟩, false⟩] ++ C06cxPool.nonGossiped) ∧
    (broadcastCleanup st pool).map (getAggregateCommit st) = some (getAggregateCommit st pool) ∧
    (∃ ac, getAggregateCommit st pool = .ok ac ∧ ac.height = 5) := by
  refine ⟨by decide, by decide, ⟨_, rfl, by decide⟩⟩
